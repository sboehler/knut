/-!
# Association lists as finite maps with a default value

Go maps used as finite functions are modelled by association lists. `get` returns the value of
the first entry with the key (or the default), `set` replaces it (or appends), `erase` removes every entry with the key.
The theorems here say that these behave like updates of the total function `get`, and how `keys`, `find?`, `set`
and `erase` determine each other (the listing order shows only in `keys`).
-/
namespace Knut

abbrev AMap (κ : Type) (ν : Type) := List (κ × ν)

namespace AMap
variable {κ ν : Type} [DecidableEq κ]

def find? (m : AMap κ ν) (k : κ) : Option ν :=
  match m with
  | [] => none
  | (k', v) :: rest => if k' = k then some v else find? rest k

def get (m : AMap κ ν) (k : κ) (dflt : ν) : ν := (m.find? k).getD dflt

def set (m : AMap κ ν) (k : κ) (v : ν) : AMap κ ν :=
  match m with
  | [] => [(k, v)]
  | (k', v') :: rest => if k' = k then (k, v) :: rest else (k', v') :: set rest k v

def erase (m : AMap κ ν) (k : κ) : AMap κ ν :=
  match m with
  | [] => []
  | (k', v') :: rest => if k' = k then erase rest k else (k', v') :: erase rest k

def keys (m : AMap κ ν) : List κ := m.map (·.1)

def NodupKeys (m : AMap κ ν) : Prop := (m.map (·.1)).Nodup

/-! ### the empty map, the first entry -/

@[simp] theorem find?_nil (k : κ) : find? ([] : AMap κ ν) k = none := rfl

theorem find?_cons (a : κ) (b : ν) (rest : AMap κ ν) (k : κ) :
    find? ((a, b) :: rest) k = if a = k then some b else find? rest k := rfl

theorem get_nil (k : κ) (d : ν) : get ([] : AMap κ ν) k d = d := rfl

theorem get_cons (a : κ) (b : ν) (rest : AMap κ ν) (k : κ) (d : ν) :
    get ((a, b) :: rest) k d = if a = k then b else get rest k d := by
  unfold get; rw [find?_cons]; split <;> rfl

omit [DecidableEq κ] in
theorem keys_nil : keys ([] : AMap κ ν) = [] := rfl

omit [DecidableEq κ] in
theorem keys_cons (a : κ) (b : ν) (rest : AMap κ ν) : keys ((a, b) :: rest) = a :: keys rest := rfl

omit [DecidableEq κ] in
theorem nodupKeys_nil : NodupKeys ([] : AMap κ ν) := List.nodup_nil

omit [DecidableEq κ] in
theorem nodupKeys_cons {a : κ} {b : ν} {rest : AMap κ ν} :
    NodupKeys ((a, b) :: rest) ↔ a ∉ keys rest ∧ NodupKeys rest := List.nodup_cons

omit [DecidableEq κ] in
theorem nodupKeys_iff {m : AMap κ ν} : NodupKeys m ↔ (keys m).Nodup := Iff.rfl

/-! ### keys and lookups -/

theorem mem_of_find? {m : AMap κ ν} {k : κ} {v : ν} (h : find? m k = some v) : (k, v) ∈ m := by
  induction m with
  | nil => cases h
  | cons p rest ih =>
    obtain ⟨a, b⟩ := p
    rw [find?_cons] at h
    split at h
    · cases h; subst a; exact List.mem_cons_self
    · exact List.mem_cons_of_mem _ (ih h)

theorem mem_keys_iff_find? {m : AMap κ ν} {k : κ} : k ∈ keys m ↔ ∃ v, find? m k = some v := by
  induction m with
  | nil => simp [keys]
  | cons e rest ih =>
    obtain ⟨a, b⟩ := e
    rw [find?_cons]
    by_cases h : a = k
    · simp [keys, h]
    · simpa [keys, h, Ne.symm h] using ih

theorem mem_keys_iff (m : AMap κ ν) (k : κ) : k ∈ keys m ↔ (find? m k).isSome := by
  rw [mem_keys_iff_find?, Option.isSome_iff_exists]

theorem find?_eq_none_iff {m : AMap κ ν} {k : κ} : find? m k = none ↔ k ∉ keys m := by
  rw [mem_keys_iff_find?]; cases find? m k <;> simp

theorem find?_eq_none {m : AMap κ ν} {k : κ} (h : k ∉ keys m) : find? m k = none := find?_eq_none_iff.mpr h

theorem find?_isSome (m : AMap κ ν) (k : κ) : (find? m k).isSome = decide (k ∈ keys m) := by
  rw [Bool.eq_iff_iff, decide_eq_true_iff, mem_keys_iff]

theorem find?_of_mem {m : AMap κ ν} (hn : NodupKeys m) {k : κ} {v : ν} (h : (k, v) ∈ m) : find? m k = some v := by
  induction m with
  | nil => cases h
  | cons p rest ih =>
    obtain ⟨a, b⟩ := p
    rw [nodupKeys_cons] at hn
    rw [find?_cons]
    rcases List.mem_cons.mp h with heq | hm
    · cases heq; exact if_pos rfl
    · rw [if_neg (fun (e : a = k) => hn.1 (e ▸ List.mem_map.mpr ⟨(k, v), hm, rfl⟩))]
      exact ih hn.2 hm

theorem get_of_find? {m : AMap κ ν} {k : κ} {v : ν} (h : find? m k = some v) (d : ν) : get m k d = v := by
  rw [get, h]; rfl

theorem get_of_mem {m : AMap κ ν} (hn : NodupKeys m) {k : κ} {v : ν} (h : (k, v) ∈ m) (d : ν) : get m k d = v := by
  unfold get; rw [find?_of_mem hn h]; rfl

theorem get_of_not_key {m : AMap κ ν} {k : κ} (h : k ∉ keys m) (d : ν) : get m k d = d := by
  unfold get; rw [find?_eq_none h]; rfl

theorem get_congr {κ' : Type} [DecidableEq κ'] {m : AMap κ ν} {m' : AMap κ' ν} {k : κ} {k' : κ'} (h : find? m k = find? m' k')
    (d : ν) : get m k d = get m' k' d := by rw [get, get, h]

theorem get_ne {m : AMap κ ν} {k : κ} {d : ν} (h : get m k d ≠ d) : ∃ v, find? m k = some v ∧ v ≠ d := by
  unfold get at h
  cases hf : find? m k with
  | none => rw [hf] at h; exact absurd rfl h
  | some v => rw [hf] at h; exact ⟨v, rfl, h⟩

/-- over a map without repeated keys, what is read through `find?` at the keys is read off the entries -/
theorem map_find?_keys {β : Type} (φ : Option ν → β) : ∀ {m : AMap κ ν}, NodupKeys m →
    (keys m).map (fun k => φ (find? m k)) = m.map fun e => φ (some e.2)
  | [], _ => rfl
  | (a, b) :: rest, hn => by
    rw [nodupKeys_cons] at hn
    rw [keys_cons, List.map_cons, List.map_cons, find?_cons, if_pos rfl, ← map_find?_keys φ hn.2]
    refine congrArg _ (List.map_congr_left fun k hk => ?_)
    rw [find?_cons, if_neg fun (e : a = k) => hn.1 (e ▸ hk)]

theorem map_get_keys {m : AMap κ ν} (hn : NodupKeys m) (d : ν) : (keys m).map (fun k => get m k d) = m.map (·.2) :=
  map_find?_keys (·.getD d) hn

/-! ### `set`: `m[k] = v` -/

theorem find?_set (m : AMap κ ν) (k k' : κ) (v : ν) :
    find? (set m k v) k' = if k = k' then some v else find? m k' := by
  induction m with
  | nil => simp [set, find?]
  | cons p rest ih =>
    obtain ⟨a, b⟩ := p
    simp only [set]
    by_cases h : a = k
    · subst h
      simp only [if_true, find?]
      by_cases h2 : a = k' <;> simp [h2]
    · simp only [h, if_false, find?]
      by_cases h2 : a = k'
      · simp only [h2, if_true]
        have : ¬ k = k' := fun e => h (h2.trans e.symm)
        simp [this]
      · simp only [h2, if_false]; exact ih

theorem get_set (m : AMap κ ν) (k k' : κ) (v d : ν) :
    get (set m k v) k' d = if k = k' then v else get m k' d := by
  unfold get; rw [find?_set]; split <;> simp

theorem find?_set_self (m : AMap κ ν) (k : κ) (v : ν) : find? (set m k v) k = some v := by
  rw [find?_set, if_pos rfl]

theorem mem_set (m : AMap κ ν) (k : κ) (v : ν) (e : κ × ν) (h : e ∈ set m k v) : e = (k, v) ∨ e ∈ m := by
  induction m with
  | nil => exact Or.inl (List.mem_singleton.mp h)
  | cons p rest ih =>
    obtain ⟨a, b⟩ := p
    simp only [set] at h
    split at h
    · exact (List.mem_cons.mp h).imp_right (List.mem_cons_of_mem _)
    · rcases List.mem_cons.mp h with h1 | h1
      · exact Or.inr (h1 ▸ List.mem_cons_self)
      · exact (ih h1).imp_right (List.mem_cons_of_mem _)

theorem mem_keys_set (m : AMap κ ν) (k : κ) (v : ν) (x : κ) : x ∈ keys (set m k v) ↔ x = k ∨ x ∈ keys m := by
  unfold keys
  induction m with
  | nil => simp [set]
  | cons p rest ih =>
    obtain ⟨a, b⟩ := p
    simp only [set]
    split
    · subst a; simp
    · simp only [List.map_cons, List.mem_cons, ih, or_left_comm]

/-- the exact key list after `m[k] = v`: in place, or appended -/
theorem keys_set_eq (m : AMap κ ν) (k : κ) (v : ν) :
    keys (set m k v) = if k ∈ keys m then keys m else keys m ++ [k] := by
  induction m with
  | nil => simp [set, keys]
  | cons e rest ih =>
    obtain ⟨a, b⟩ := e
    by_cases h : a = k
    · simp [set, keys, h]
    · have h' : ¬ k = a := fun e => h e.symm
      simp only [set, h, if_false, keys, List.map_cons, List.mem_cons, h', false_or] at ih ⊢
      rw [ih]; exact apply_ite (List.cons a) _ _ _

theorem nodupKeys_set {m : AMap κ ν} (hn : NodupKeys m) (k : κ) (v : ν) : NodupKeys (set m k v) := by
  induction m with
  | nil => exact List.nodup_cons.mpr ⟨List.not_mem_nil, List.nodup_nil⟩
  | cons p rest ih =>
    obtain ⟨a, b⟩ := p
    rw [nodupKeys_cons] at hn
    simp only [set]
    split
    · subst a; exact nodupKeys_cons.mpr hn
    · rename_i h
      refine nodupKeys_cons.mpr ⟨fun hmem => ?_, ih hn.2⟩
      exact ((mem_keys_set rest k v a).mp hmem).elim h hn.1

theorem set_set (m : AMap κ ν) (k : κ) (v w : ν) : set (set m k v) k w = set m k w := by
  induction m with
  | nil => simp [set]
  | cons e rest ih =>
    obtain ⟨a, b⟩ := e
    by_cases h : a = k <;> simp [set, h, ih]

theorem set_self {m : AMap κ ν} {k : κ} {v : ν} (h : find? m k = some v) : set m k v = m := by
  induction m with
  | nil => cases h
  | cons e rest ih =>
    obtain ⟨a, b⟩ := e
    rw [find?_cons] at h
    by_cases hk : a = k
    · rw [if_pos hk] at h; cases h; simp [set, hk]
    · rw [if_neg hk] at h; simp [set, hk, ih h]

/-! ### `erase`: `delete(m, k)` -/

theorem find?_erase (m : AMap κ ν) (k k' : κ) :
    find? (erase m k) k' = if k = k' then none else find? m k' := by
  induction m with
  | nil => simp [erase, find?]
  | cons p rest ih =>
    obtain ⟨a, b⟩ := p
    simp only [erase]
    by_cases h : a = k
    · subst h
      simp only [if_true, find?]
      by_cases h2 : a = k'
      · simp [h2] at ih ⊢; simpa [h2] using ih
      · simp only [h2, if_false] at ih ⊢; exact ih
    · simp only [h, if_false, find?]
      by_cases h2 : a = k'
      · have : ¬ k = k' := fun e => h (h2.trans e.symm)
        simp [h2, this]
      · simp only [h2, if_false]; exact ih

theorem get_erase (m : AMap κ ν) (k k' : κ) (d : ν) :
    get (erase m k) k' d = if k = k' then d else get m k' d := by
  unfold get; rw [find?_erase]; split <;> simp

theorem keys_erase (m : AMap κ ν) (k : κ) : keys (erase m k) = (keys m).filter (· ≠ k) := by
  induction m with
  | nil => rfl
  | cons e rest ih =>
    obtain ⟨a, b⟩ := e
    by_cases h : a = k
    · simpa [erase, keys, h] using ih
    · simpa [erase, keys, h] using ih

theorem nodupKeys_erase {m : AMap κ ν} (hn : NodupKeys m) (k : κ) : NodupKeys (erase m k) := by
  rw [nodupKeys_iff, keys_erase]; exact hn.filter _

theorem erase_of_not_key {m : AMap κ ν} {k : κ} (h : k ∉ keys m) : erase m k = m := by
  induction m with
  | nil => rfl
  | cons e rest ih =>
    obtain ⟨a, b⟩ := e
    simp only [keys, List.map_cons, List.mem_cons, not_or] at h
    have hne : a ≠ k := fun e => h.1 e.symm
    simp only [erase, hne, if_false, ih h.2]

/-! ### a filter on the keys, another listing order, a map over the values or the keys -/

omit [DecidableEq κ] in
theorem nodupKeys_filter {m : AMap κ ν} (hn : NodupKeys m) (f : κ × ν → Bool) : NodupKeys (m.filter f) :=
  List.Nodup.sublist (List.Sublist.map _ List.filter_sublist) hn

theorem find?_filter_key (m : AMap κ ν) (f : κ → Bool) (k : κ) :
    find? (m.filter (fun e => f e.1)) k = if f k then find? m k else none := by
  induction m with
  | nil => simp [find?]
  | cons p rest ih =>
    obtain ⟨a, b⟩ := p
    simp only [List.filter_cons]
    by_cases hk : a = k
    · subst hk
      cases hf : f a
      · simpa [hf] using ih
      · simp [find?_cons]
    · cases hf : f a <;> simp [find?_cons, hk, ih]

theorem get_filter_key (m : AMap κ ν) (f : κ → Bool) (k : κ) (d : ν) :
    get (m.filter fun e => f e.1) k d = if f k then get m k d else d := by
  unfold get; rw [find?_filter_key]; split <;> rfl

theorem find?_perm {m m' : AMap κ ν} (hp : m.Perm m') (hn : NodupKeys m) (k : κ) : find? m k = find? m' k := by
  have hn' : NodupKeys m' := (hp.map _).nodup_iff.mp hn
  cases h : find? m k with
  | some v => exact (find?_of_mem hn' (hp.mem_iff.mp (mem_of_find? h))).symm
  | none =>
    refine (find?_eq_none_iff.mpr fun hk => ?_).symm
    exact find?_eq_none_iff.mp h ((hp.map _).mem_iff.mpr hk)

theorem find?_mapVal {ν' : Type} (f : ν → ν') (m : AMap κ ν) (k : κ) :
    find? (m.map fun p => (p.1, f p.2)) k = (find? m k).map f := by
  induction m with
  | nil => rfl
  | cons e rest ih =>
    obtain ⟨a, b⟩ := e
    simp only [List.map_cons, find?_cons, ih]
    split <;> rfl

theorem set_mapVal {ν' : Type} (f : ν → ν') (m : AMap κ ν) (k : κ) (v : ν) :
    set (m.map fun p => (p.1, f p.2)) k (f v) = (set m k v).map fun p => (p.1, f p.2) := by
  induction m with
  | nil => rfl
  | cons e rest ih =>
    obtain ⟨a, b⟩ := e
    by_cases h : a = k <;> simp [set, h, ih]

omit [DecidableEq κ] in
theorem keys_mapVal {ν' : Type} (f : ν → ν') (m : AMap κ ν) : keys (m.map fun p => (p.1, f p.2)) = keys m := by
  simp [keys, List.map_map, Function.comp_def]

theorem find?_map_key {κ' : Type} [DecidableEq κ'] (f : κ → κ') {k : κ} {k' : κ'} :
    ∀ {l : AMap κ ν}, (∀ e ∈ l, f e.1 = k' ↔ e.1 = k) → find? (l.map fun e => (f e.1, e.2)) k' = find? l k
  | [], _ => rfl
  | (a, b) :: l, h => by
    have ih := find?_map_key f (k := k) (k' := k') (l := l) fun e he => h e (List.mem_cons_of_mem _ he)
    rw [List.map_cons, find?_cons, find?_cons, ih]
    by_cases e : a = k
    · rw [if_pos e, if_pos ((h (a, b) List.mem_cons_self).2 e)]
    · rw [if_neg e, if_neg (mt (h (a, b) List.mem_cons_self).1 e)]

/-! a loop that sets one entry per element of `l` (Go: `for _, a := range l { m[key a] = val m a }`) -/

theorem nodupKeys_foldl_set {α : Type} (key : α → κ) (val : AMap κ ν → α → ν) (l : List α) {m : AMap κ ν} (h : NodupKeys m) :
    NodupKeys (l.foldl (fun m a => set m (key a) (val m a)) m) := by
  induction l generalizing m with
  | nil => exact h
  | cons a rest ih => exact ih (nodupKeys_set h _ _)

theorem mem_keys_foldl_set {α : Type} (key : α → κ) (val : AMap κ ν → α → ν) (l : List α) (m : AMap κ ν) (x : κ) :
    x ∈ keys (l.foldl (fun m a => set m (key a) (val m a)) m) ↔ x ∈ keys m ∨ x ∈ l.map key := by
  induction l generalizing m with
  | nil => exact ⟨Or.inl, fun h => h.elim id fun h => nomatch h⟩
  | cons a rest ih => rw [List.foldl_cons, ih, mem_keys_set, List.map_cons, List.mem_cons, or_assoc, or_left_comm]

end AMap
end Knut
