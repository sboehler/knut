/-!
# Civil calendar on day numbers

A date is an `Int` day number, day 0 = 0001-01-01 (proleptic Gregorian), which is a
Monday.  Everything knut does with `time.Time` (UTC midnight values only) is
expressed on day numbers; the civil fields are *derived* from the day number so that
`ofCivil (year z) (month z) (day z) = z` (`ofCivil_toCivil`) holds by construction.  Agreement with Go's `time` package
is established by the exhaustive correspondence check of property C11.
-/
namespace Knut.Date

/-- days before Jan 1 of year `y`, relative to 0001-01-01 = 0 (floor division). -/
def yearStart (y : Int) : Int := 365 * (y - 1) + (y - 1) / 4 - (y - 1) / 100 + (y - 1) / 400

def isLeap (y : Int) : Bool := (y % 4 == 0 && y % 100 != 0) || y % 400 == 0

def yearLen (y : Int) : Int := if isLeap y then 366 else 365

/-- the quotient by `k` steps by one exactly at the multiples of `k` -/
theorem ediv_step (x : Int) {k : Int} (hk : 0 < k) : x / k = (x - 1) / k + if x % k = 0 then 1 else 0 := by
  have hx := Int.emod_add_mul_ediv (x - 1) k
  have h0 := Int.emod_nonneg (x - 1) (Int.ne_of_gt hk)
  have h1 := Int.emod_lt_of_pos (x - 1) hk
  by_cases h : (x - 1) % k + 1 = k
  · obtain ⟨e1, e2⟩ := (Int.ediv_emod_unique hk (a := x) (r := 0) (q := (x - 1) / k + 1)).mpr
      ⟨by rw [Int.mul_add, Int.mul_one]; omega, Int.le_refl _, hk⟩
    rw [e1, e2, if_pos rfl]
  · obtain ⟨e1, e2⟩ := (Int.ediv_emod_unique hk (a := x) (r := (x - 1) % k + 1) (q := (x - 1) / k)).mpr ⟨by omega, by omega, by omega⟩
    rw [e1, e2, if_neg (by omega), Int.add_zero]

/-- the leap-year rule as arithmetic: a day more every 4th year, not every 100th, but every 400th -/
theorem yearLen_eq (y : Int) : yearLen y =
    365 + (if y % 4 = 0 then 1 else 0) - (if y % 100 = 0 then 1 else 0) + (if y % 400 = 0 then 1 else 0) := by
  have d100 : y % 400 = 0 → y % 100 = 0 := fun h => by omega
  have d4 : y % 100 = 0 → y % 4 = 0 := fun h => by omega
  unfold yearLen isLeap
  by_cases m100 : y % 100 = 0
  · by_cases m400 : y % 400 = 0 <;> simp [d4 m100, m100, m400]
  · have m400 : ¬ y % 400 = 0 := fun h => m100 (d100 h)
    by_cases m4 : y % 4 = 0 <;> simp [m4, m100, m400]

theorem yearStart_succ (y : Int) : yearStart (y + 1) = yearStart y + yearLen y := by
  unfold yearStart
  rw [Int.add_sub_cancel, ediv_step y (by decide : (0 : Int) < 4), ediv_step y (by decide : (0 : Int) < 100),
    ediv_step y (by decide : (0 : Int) < 400), yearLen_eq]
  -- linear in the three quotients of `y - 1` and the three leap terms
  generalize (y - 1) / 4 = a, (y - 1) / 100 = b, (y - 1) / 400 = c
  generalize (if y % 4 = 0 then (1 : Int) else 0) = i, (if y % 100 = 0 then (1 : Int) else 0) = j, (if y % 400 = 0 then (1 : Int) else 0) = k
  omega

theorem yearLen_pos (y : Int) : 365 ≤ yearLen y ∧ yearLen y ≤ 366 := by
  unfold yearLen; split <;> omega

theorem yearStart_lt_succ (y : Int) : yearStart y < yearStart (y + 1) := by
  have := yearStart_succ y; have := yearLen_pos y; omega

/-- a year start is within two days of the mean year of 146097/400 days -/
theorem yearStart_mean (y : Int) : 146097 * (y - 1) - 699 ≤ 400 * yearStart y ∧ 400 * yearStart y ≤ 146097 * (y - 1) + 396 := by
  unfold yearStart; omega

theorem yearStart_mono {a b : Int} (h : a ≤ b) : yearStart a ≤ yearStart b := by
  rcases Int.lt_or_eq_of_le h with h | rfl
  · have := yearStart_mean a; have := yearStart_mean b; omega
  · exact Int.le_refl _

theorem yearStart_strictMono {a b : Int} (h : a < b) : yearStart a < yearStart b := by
  have h1 : yearStart (a + 1) ≤ yearStart b := yearStart_mono (by omega)
  have := yearStart_lt_succ a
  omega

/-- first estimate of the year containing day `z`; off by at most one. -/
def yearEst (z : Int) : Int := (z * 400) / 146097 + 1

/-- the year containing day number `z`. -/
def year (z : Int) : Int :=
  let e := yearEst z
  if z < yearStart e then e - 1
  else if z < yearStart (e + 1) then e
  else e + 1

theorem year_spec (z : Int) : yearStart (year z) ≤ z ∧ z < yearStart (year z + 1) := by
  -- the estimate is off by at most one year
  have b1 := yearStart_mean (yearEst z - 1)
  have b2 := yearStart_mean (yearEst z + 1 + 1)
  have h1 : yearStart (yearEst z - 1) ≤ z := by unfold yearEst at b1 ⊢; omega
  have h2 : z < yearStart (yearEst z + 1 + 1) := by unfold yearEst at b2 ⊢; omega
  have e : yearEst z - 1 + 1 = yearEst z := by omega
  unfold year; simp only
  split
  · rw [e]; exact ⟨h1, ‹_›⟩
  · split
    · exact ⟨by omega, ‹_›⟩
    · exact ⟨by omega, h2⟩

theorem year_unique {z y : Int} (h1 : yearStart y ≤ z) (h2 : z < yearStart (y + 1)) : year z = y := by
  have ⟨a, b⟩ := year_spec z
  rcases Int.lt_trichotomy (year z) y with h | h | h
  · have : yearStart (year z + 1) ≤ yearStart y := yearStart_mono (by omega)
    omega
  · exact h
  · have : yearStart (y + 1) ≤ yearStart (year z) := yearStart_mono (by omega)
    omega

/-- 0-based day of the year. -/
def dayOfYear (z : Int) : Int := z - yearStart (year z)

theorem dayOfYear_bounds (z : Int) : 0 ≤ dayOfYear z ∧ dayOfYear z < yearLen (year z) := by
  have ⟨a, b⟩ := year_spec z
  have := yearStart_succ (year z)
  unfold dayOfYear; omega

/-- days before the first of month `m` (1..13) in a (non-)leap year. -/
def cumDays (leap : Bool) (m : Int) : Int :=
  let l : Int := if leap then 1 else 0
  if m ≤ 1 then 0 else if m = 2 then 31 else if m = 3 then 59 + l else if m = 4 then 90 + l
  else if m = 5 then 120 + l else if m = 6 then 151 + l else if m = 7 then 181 + l
  else if m = 8 then 212 + l else if m = 9 then 243 + l else if m = 10 then 273 + l
  else if m = 11 then 304 + l else if m = 12 then 334 + l else 365 + l

/-- month (1..12) of the 0-based day-of-year `n`. -/
def monthOfDoy (leap : Bool) (n : Int) : Int :=
  if n < cumDays leap 2 then 1 else if n < cumDays leap 3 then 2 else if n < cumDays leap 4 then 3
  else if n < cumDays leap 5 then 4 else if n < cumDays leap 6 then 5 else if n < cumDays leap 7 then 6
  else if n < cumDays leap 8 then 7 else if n < cumDays leap 9 then 8 else if n < cumDays leap 10 then 9
  else if n < cumDays leap 11 then 10 else if n < cumDays leap 12 then 11 else 12

def month (z : Int) : Int := monthOfDoy (isLeap (year z)) (dayOfYear z)

/-- 1-based day of the month. -/
def day (z : Int) : Int := dayOfYear z - cumDays (isLeap (year z)) (month z) + 1

/-- day number of the civil date (y, m, d); `m` may be any integer (normalised like Go's
`time.Date`), `d` any integer offset. -/
def ofCivil (y m d : Int) : Int :=
  let y' := y + (m - 1) / 12
  let m' := (m - 1) % 12 + 1
  yearStart y' + cumDays (isLeap y') m' + d - 1

theorem cumDays_one (leap : Bool) : cumDays leap 1 = 0 := rfl

theorem cumDays_yearLen (y : Int) : cumDays (isLeap y) 13 = yearLen y := by
  unfold yearLen; cases isLeap y <;> rfl

/-- every month has at least one day: the 24 rows of the month table, by evaluation (the lengths themselves: `daysIn_table`) -/
theorem cumDays_lt_succ (leap : Bool) (m : Int) (h1 : 1 ≤ m) (h12 : m ≤ 12) :
    cumDays leap m < cumDays leap (m + 1) := by
  have : m = 1 ∨ m = 2 ∨ m = 3 ∨ m = 4 ∨ m = 5 ∨ m = 6 ∨ m = 7 ∨ m = 8 ∨ m = 9 ∨ m = 10 ∨ m = 11 ∨ m = 12 := by
    omega
  rcases this with rfl | rfl | rfl | rfl | rfl | rfl | rfl | rfl | rfl | rfl | rfl | rfl <;> cases leap <;> decide

theorem cumDays_mono (leap : Bool) {a b : Int} (h1 : 1 ≤ a) (hab : a ≤ b) (h13 : b ≤ 13) :
    cumDays leap a ≤ cumDays leap b := by
  obtain ⟨k, rfl⟩ := Int.le.dest hab
  induction k with
  | zero => simp
  | succ k ih =>
    have := cumDays_lt_succ leap (a + k) (by omega) (by omega)
    have := ih (by omega) (by omega)
    rw [Int.natCast_succ, ← Int.add_assoc]; omega

theorem cumDays_within (leap : Bool) {m : Int} (h1 : 1 ≤ m) (h12 : m ≤ 12) :
    0 ≤ cumDays leap m ∧ cumDays leap (m + 1) ≤ cumDays leap 13 :=
  ⟨cumDays_one leap ▸ cumDays_mono leap (Int.le_refl 1) h1 (by omega),
    cumDays_mono leap (by omega) (by omega) (Int.le_refl 13)⟩

/-- the linear search that `monthOfDoy` writes out: the first `m ≥ k` with `n < c (m + 1)`, at most `k + fuel` -/
def firstAbove (c : Int → Int) (n : Int) : Nat → Int → Int
  | 0, k => k
  | fuel + 1, k => if n < c (k + 1) then k else firstAbove c n fuel (k + 1)

theorem firstAbove_spec (c : Int → Int) (n : Int) : ∀ (fuel : Nat) (k : Int), c k ≤ n → n < c (k + fuel + 1) →
    k ≤ firstAbove c n fuel k ∧ firstAbove c n fuel k ≤ k + fuel ∧
    c (firstAbove c n fuel k) ≤ n ∧ n < c (firstAbove c n fuel k + 1)
  | 0, k, h0, h1 => by simpa [firstAbove] using And.intro h0 h1
  | fuel + 1, k, h0, h1 => by
    unfold firstAbove
    split
    · exact ⟨Int.le_refl _, by omega, h0, ‹_›⟩
    · have e : k + 1 + (fuel : Int) + 1 = k + ((fuel + 1 : Nat) : Int) + 1 := by omega
      have := firstAbove_spec c n fuel (k + 1) (by omega) (e ▸ h1)
      omega

theorem monthOfDoy_spec (leap : Bool) (n : Int) (h0 : 0 ≤ n) (h1 : n < cumDays leap 13) :
    1 ≤ monthOfDoy leap n ∧ monthOfDoy leap n ≤ 12 ∧
    cumDays leap (monthOfDoy leap n) ≤ n ∧ n < cumDays leap (monthOfDoy leap n + 1) :=
  -- `monthOfDoy leap n` reduces to `firstAbove (cumDays leap) n 11 1` by unfolding both
  firstAbove_spec (cumDays leap) n 11 1 h0 h1

theorem lt_of_cumDays_lt (leap : Bool) {a b : Int} (hb : 1 ≤ b) (ha : a ≤ 13)
    (h : cumDays leap a < cumDays leap b) : a < b := by
  by_cases hab : a < b
  · exact hab
  · have := cumDays_mono leap hb (by omega : b ≤ a) ha; omega

theorem monthOfDoy_unique (leap : Bool) (n m : Int) (h1 : 1 ≤ m) (h12 : m ≤ 12)
    (ha : cumDays leap m ≤ n) (hb : n < cumDays leap (m + 1)) : monthOfDoy leap n = m := by
  have := cumDays_within leap h1 h12
  have ⟨k1, k12, ka, kb⟩ := monthOfDoy_spec leap n (by omega) (by omega)
  have := lt_of_cumDays_lt leap (by omega : 1 ≤ m + 1) (by omega : monthOfDoy leap n ≤ 13) (by omega)
  have := lt_of_cumDays_lt leap (by omega : 1 ≤ monthOfDoy leap n + 1) (by omega : m ≤ 13) (by omega)
  omega

theorem day_range (z : Int) :
    1 ≤ month z ∧ month z ≤ 12 ∧
    yearStart (year z) + cumDays (isLeap (year z)) (month z) ≤ z ∧
    z < yearStart (year z) + cumDays (isLeap (year z)) (month z + 1) := by
  have ⟨a, b⟩ := dayOfYear_bounds z
  have := cumDays_yearLen (year z)
  have := monthOfDoy_spec (isLeap (year z)) (dayOfYear z) a (by omega)
  have hd : dayOfYear z = z - yearStart (year z) := rfl
  unfold month
  omega

theorem month_bounds (z : Int) : 1 ≤ month z ∧ month z ≤ 12 :=
  have ⟨h1, h12, _⟩ := day_range z; ⟨h1, h12⟩

theorem day_pos (z : Int) : 1 ≤ day z := by
  have := day_range z
  unfold day dayOfYear; omega

theorem ofCivil_norm (y m d : Int) (h1 : 1 ≤ m) (h12 : m ≤ 12) :
    ofCivil y m d = yearStart y + cumDays (isLeap y) m + d - 1 := by
  unfold ofCivil
  have e3 : (m - 1) / 12 = 0 := by omega
  have e4 : (m - 1) % 12 + 1 = m := by omega
  simp only [e3, e4, Int.add_zero]

theorem ofCivil_toCivil (z : Int) : ofCivil (year z) (month z) (day z) = z := by
  have ⟨h1, h12⟩ := month_bounds z
  rw [ofCivil_norm _ _ _ h1 h12]
  unfold day dayOfYear; omega

theorem year_month_of_range (y m w : Int) (h1 : 1 ≤ m) (h12 : m ≤ 12)
    (ha : yearStart y + cumDays (isLeap y) m ≤ w) (hb : w < yearStart y + cumDays (isLeap y) (m + 1)) :
    year w = y ∧ month w = m := by
  have := cumDays_yearLen y
  have := cumDays_within (isLeap y) h1 h12
  have := yearStart_succ y
  have hy : year w = y := year_unique (by omega) (by omega)
  refine ⟨hy, ?_⟩
  unfold month dayOfYear
  rw [hy]
  exact monthOfDoy_unique _ _ _ h1 h12 (by omega) (by omega)

theorem civil_first (y m : Int) (h1 : 1 ≤ m) (h12 : m ≤ 12) :
    year (ofCivil y m 1) = y ∧ month (ofCivil y m 1) = m ∧ day (ofCivil y m 1) = 1 := by
  have hn := ofCivil_norm y m 1 h1 h12
  have := cumDays_lt_succ (isLeap y) m h1 h12
  have ⟨hy, hm⟩ := year_month_of_range y m (ofCivil y m 1) h1 h12 (by omega) (by omega)
  refine ⟨hy, hm, ?_⟩
  unfold day dayOfYear
  rw [hy, hm]; omega

theorem civil_between (z w q : Int) (hq : 1 ≤ q) (hqz : q ≤ month z) (h1 : ofCivil (year z) q 1 ≤ w) (h2 : w ≤ z) :
    year w = year z ∧ q ≤ month w ∧ month w ≤ month z := by
  have ⟨_, m12, _, r2⟩ := day_range z
  rw [ofCivil_norm _ _ _ hq (by omega)] at h1
  have := (cumDays_within (isLeap (year z)) hq (by omega)).1
  have hy : year w = year z := year_unique (by omega) (by have := (year_spec z).2; omega)
  have ⟨w1, w12, s1, s2⟩ := day_range w
  rw [hy] at s1 s2
  have := lt_of_cumDays_lt (isLeap (year z)) (by omega : 1 ≤ month w + 1) (by omega : q ≤ 13) (by omega)
  have := lt_of_cumDays_lt (isLeap (year z)) (by omega : 1 ≤ month z + 1) (by omega : month w ≤ 13) (by omega)
  exact ⟨hy, by omega, by omega⟩

/-- Go's `Weekday()` numbering: Sunday = 0 … Saturday = 6. Day 0 is a Monday. -/
def weekday (z : Int) : Int := (z + 1) % 7

theorem weekday_bounds (z : Int) : 0 ≤ weekday z ∧ weekday z < 7 := by unfold weekday; omega

end Knut.Date
