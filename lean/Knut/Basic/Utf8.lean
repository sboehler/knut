/-!
# Go's `utf8.DecodeRuneInString`, rune by rune

The scanner of knut walks a Go `string` (arbitrary bytes) with `utf8.DecodeRuneInString`:
a valid encoding gives `(rune, 1..4)`, anything else `(RuneError = U+FFFD, 1)`, the empty string
`(RuneError, 0)`. `decodeRune` is that function (same case split as the Go table `first`/`acceptRanges`),
`decodeAll` cuts a whole byte string into tokens. A token keeps the bytes it was decoded from, so that
byte offsets, slices of the text and token lists can be related without an encoder.
-/
namespace Knut.Utf8

/-- `utf8.RuneError` -/
def runeError : Nat := 0xFFFD

/-- one decoding step: the rune and the bytes it occupies (`w = bytes.length` is Go's width). -/
structure Tok where
  r : Nat
  bytes : List UInt8
  deriving DecidableEq, Repr, Inhabited

/-- Go's width of the decoded rune -/
@[reducible] def Tok.w (t : Tok) : Nat := t.bytes.length

/-- `(RuneError, 1)`: what `Scanner.Advance` reports as "invalid unicode character". A correctly
encoded U+FFFD has width 3 and is an ordinary character. -/
def Tok.invalid (t : Tok) : Bool := t.r == runeError && t.bytes.length == 1

def isCont (b : UInt8) : Bool := 0x80 ≤ b.toNat && b.toNat ≤ 0xBF

/-- second byte of a three-byte form: `acceptRanges` of Go (`E0` needs `A0..BF`, `ED` needs `80..9F`) -/
def accept3 (x : Nat) (b1 : UInt8) : Bool :=
  decide ((if x = 0xE0 then 0xA0 else 0x80) ≤ b1.toNat) && decide (b1.toNat ≤ (if x = 0xED then 0x9F else 0xBF))

/-- second byte of a four-byte form (`F0` needs `90..BF`, `F4` needs `80..8F`) -/
def accept4 (x : Nat) (b1 : UInt8) : Bool :=
  decide ((if x = 0xF0 then 0x90 else 0x80) ≤ b1.toNat) && decide (b1.toNat ≤ (if x = 0xF4 then 0x8F else 0xBF))

/-- `utf8.DecodeRuneInString` on a non-empty string `b0 :: rest` resp. the empty string. -/
def decodeRune : List UInt8 → Tok
  | [] => ⟨runeError, []⟩
  | b0 :: rest =>
    let x := b0.toNat
    let inv : Tok := ⟨runeError, [b0]⟩
    if x < 0x80 then ⟨x, [b0]⟩
    else if x < 0xC2 then inv
    else if x < 0xE0 then
      match rest with
      | b1 :: _ => if isCont b1 then ⟨(x % 32) * 64 + b1.toNat % 64, [b0, b1]⟩ else inv
      | [] => inv
    else if x < 0xF0 then
      match rest with
      | b1 :: b2 :: _ =>
        if accept3 x b1 then
          if isCont b2 then ⟨(x % 16) * 4096 + (b1.toNat % 64) * 64 + b2.toNat % 64, [b0, b1, b2]⟩ else inv
        else inv
      | _ => inv
    else if x < 0xF5 then
      match rest with
      | b1 :: b2 :: b3 :: _ =>
        if accept4 x b1 then
          if isCont b2 then
            if isCont b3 then
              ⟨(x % 8) * 262144 + (b1.toNat % 64) * 4096 + (b2.toNat % 64) * 64 + b3.toNat % 64, [b0, b1, b2, b3]⟩
            else inv
          else inv
        else inv
      | _ => inv
    else inv

theorem isCont_iff {b : UInt8} : isCont b = true ↔ 0x80 ≤ b.toNat ∧ b.toNat ≤ 0xBF := by
  simp [isCont]

/-- the second byte of the longer forms: the continuation range `80..BF`, cut at the lower end for one lead byte (`p`) and at
the upper end for another (`q`) -/
theorem accept_iff {p q : Prop} [Decidable p] [Decidable q] {lo hi b : Nat} (hlo : 0x80 ≤ lo) (hhi : hi ≤ 0xBF) :
    ((if p then lo else 0x80) ≤ b ∧ b ≤ (if q then hi else 0xBF)) ↔
      (0x80 ≤ b ∧ b ≤ 0xBF) ∧ (p → lo ≤ b) ∧ (q → b ≤ hi) := by
  by_cases hp : p <;> by_cases hq : q <;>
    simp only [hp, hq, if_true, if_false, true_imp_iff, false_imp_iff, and_true, true_and] <;> omega

theorem accept3_iff {x : Nat} {b1 : UInt8} : accept3 x b1 = true ↔
    (0x80 ≤ b1.toNat ∧ b1.toNat ≤ 0xBF) ∧ (x = 0xE0 → 0xA0 ≤ b1.toNat) ∧ (x = 0xED → b1.toNat ≤ 0x9F) := by
  simp only [accept3, Bool.and_eq_true, decide_eq_true_eq]
  exact accept_iff (by decide) (by decide)

theorem accept4_iff {x : Nat} {b1 : UInt8} : accept4 x b1 = true ↔
    (0x80 ≤ b1.toNat ∧ b1.toNat ≤ 0xBF) ∧ (x = 0xF0 → 0x90 ≤ b1.toNat) ∧ (x = 0xF4 → b1.toNat ≤ 0x8F) := by
  simp only [accept4, Bool.and_eq_true, decide_eq_true_eq]
  exact accept_iff (by decide) (by decide)

/-! The bytes of a multi-byte form, read as digits: a continuation byte is `80+d` with six bits `d`, a lead byte `C0+c`,
`E0+b` or `F0+a` with five, four or three bits; the masks of `decodeRune` leave the digit. -/

/-- a mask `m` on `k + d`, where `k` has none of the masked bits and `d` only those -/
theorem add_mod_digit {k m d : Nat} (hk : k % m = 0) (hd : d < m) : (k + d) % m = d := by
  rw [Nat.add_mod, hk, Nat.zero_add, Nat.mod_mod, Nat.mod_eq_of_lt hd]

theorem lead_digit {b0 : UInt8} {k m : Nat} (h : k ≤ b0.toNat) (h' : b0.toNat < k + m) (hk : k % m = 0) :
    ∃ a, b0.toNat = k + a ∧ a < m ∧ b0.toNat % m = a := by
  obtain ⟨a, e⟩ : ∃ a, b0.toNat = k + a := ⟨b0.toNat - k, by omega⟩
  exact ⟨a, e, by omega, by rw [e, add_mod_digit hk (by omega)]⟩

theorem isCont_digit {b : UInt8} {d : Nat} (e : b.toNat = 0x80 + d) : isCont b = true ↔ d < 64 := by
  rw [isCont_iff, e]; omega

theorem cont_digit {b : UInt8} (h : isCont b = true) : ∃ d, b.toNat = 0x80 + d ∧ d < 64 ∧ b.toNat % 64 = d := by
  rw [isCont_iff] at h
  exact lead_digit h.1 (by omega) rfl

/-- second byte `80+c` after the lead byte `E0+b`, in terms of the rune: no overlong form (the rune needs three bytes), no
surrogate; the last digit `d` plays no part -/
theorem accept3_digit {b c d : Nat} {b1 : UInt8} (e : b1.toNat = 0x80 + c) (hb : b < 16) (hd : d < 64) :
    accept3 (0xE0 + b) b1 = true ↔ c < 64 ∧ 0x800 ≤ b * 4096 + c * 64 + d ∧
      (b * 4096 + c * 64 + d < 0xD800 ∨ 0xE000 ≤ b * 4096 + c * 64 + d) := by
  rw [accept3_iff, e]; omega

/-- second byte `80+b` after the lead byte `F0+a`: no overlong form (the rune needs four bytes), nothing above `0x10FFFF` -/
theorem accept4_digit {a b c d : Nat} {b1 : UInt8} (e : b1.toNat = 0x80 + b) (ha : a < 5) (hc : c < 64) (hd : d < 64) :
    accept4 (0xF0 + a) b1 = true ↔ b < 64 ∧ 0x10000 ≤ a * 262144 + b * 4096 + c * 64 + d ∧
      a * 262144 + b * 4096 + c * 64 + d < 0x110000 := by
  rw [accept4_iff, e]; omega

theorem accept3_cont {x : Nat} {b1 : UInt8} (h : accept3 x b1 = true) : isCont b1 = true :=
  isCont_iff.mpr (accept3_iff.mp h).1

theorem accept4_cont {x : Nat} {b1 : UInt8} (h : accept4 x b1 = true) : isCont b1 = true :=
  isCont_iff.mpr (accept4_iff.mp h).1

/-- The answers of `decodeRune`, by the class of the lead byte: the six shapes `decodeRune bs` can have, each with conditions that
hold when it is taken (`decodeRune_decoded`; for `invalid` only that the lead byte is not ASCII).  A multi-byte form has a lead byte
`C0+c`, `E0+b` or `F0+a` and continuation bytes `80+digit`; the rune is the number with these base-64 digits, it is not below the least
rune of its width (no overlong form) and it is a scalar value (no surrogate, nothing above `0x10FFFF`).  What holds of every decoding
step is read off this list and not off the body of `decodeRune`. -/
inductive Decoded : List UInt8 → Tok → Prop
  | empty : Decoded [] ⟨runeError, []⟩
  | ascii {b0 : UInt8} {rest : List UInt8} : b0.toNat < 0x80 → Decoded (b0 :: rest) ⟨b0.toNat, [b0]⟩
  | invalid {b0 : UInt8} {rest : List UInt8} : 0x80 ≤ b0.toNat → Decoded (b0 :: rest) ⟨runeError, [b0]⟩
  | two {b0 b1 : UInt8} {rest : List UInt8} {c d : Nat} : b0.toNat = 0xC0 + c → b1.toNat = 0x80 + d → d < 64 →
      0x80 ≤ c * 64 + d → c * 64 + d < 0x800 → Decoded (b0 :: b1 :: rest) ⟨c * 64 + d, [b0, b1]⟩
  | three {b0 b1 b2 : UInt8} {rest : List UInt8} {b c d : Nat} : b0.toNat = 0xE0 + b → b1.toNat = 0x80 + c → c < 64 →
      b2.toNat = 0x80 + d → d < 64 → 0x800 ≤ b * 4096 + c * 64 + d → b * 4096 + c * 64 + d < 0x10000 →
      (b * 4096 + c * 64 + d < 0xD800 ∨ 0xE000 ≤ b * 4096 + c * 64 + d) →
      Decoded (b0 :: b1 :: b2 :: rest) ⟨b * 4096 + c * 64 + d, [b0, b1, b2]⟩
  | four {b0 b1 b2 b3 : UInt8} {rest : List UInt8} {a b c d : Nat} : b0.toNat = 0xF0 + a → b1.toNat = 0x80 + b → b < 64 →
      b2.toNat = 0x80 + c → c < 64 → b3.toNat = 0x80 + d → d < 64 → 0x10000 ≤ a * 262144 + b * 4096 + c * 64 + d →
      a * 262144 + b * 4096 + c * 64 + d < 0x110000 →
      Decoded (b0 :: b1 :: b2 :: b3 :: rest) ⟨a * 262144 + b * 4096 + c * 64 + d, [b0, b1, b2, b3]⟩

-- every `if` is decided by `rw [if_pos _]`/`rw [if_neg _]` and every `match` by a case of `rest`: `split` simplifies the
-- whole remaining body at each step and is slow to check here
theorem decodeRune_decoded : ∀ bs : List UInt8, Decoded bs (decodeRune bs)
  | [] => .empty
  | b0 :: rest => by
    unfold decodeRune
    dsimp only
    by_cases h1 : b0.toNat < 0x80
    · rw [if_pos h1]; exact .ascii h1
    rw [if_neg h1]
    by_cases h2 : b0.toNat < 0xC2
    · rw [if_pos h2]; exact .invalid (by omega)
    rw [if_neg h2]
    by_cases h3 : b0.toNat < 0xE0
    · rw [if_pos h3]
      match rest with
      | [] => exact .invalid (by omega)
      | b1 :: _ =>
        dsimp only
        by_cases c1 : isCont b1 = true
        · obtain ⟨c, e0, hc, m0⟩ := lead_digit (k := 0xC0) (m := 32) (by omega) h3 rfl
          obtain ⟨d, e1, hd, m1⟩ := cont_digit c1
          rw [if_pos c1, m0, m1]
          exact .two e0 e1 hd (by omega) (by omega)
        · rw [if_neg c1]; exact .invalid (by omega)
    rw [if_neg h3]
    by_cases h4 : b0.toNat < 0xF0
    · rw [if_pos h4]
      match rest with
      | [] | [_] => exact .invalid (by omega)
      | b1 :: b2 :: _ =>
        dsimp only
        by_cases a1 : accept3 b0.toNat b1 = true
        · rw [if_pos a1]
          by_cases c2 : isCont b2 = true
          · obtain ⟨b, e0, hb, m0⟩ := lead_digit (k := 0xE0) (m := 16) (by omega) h4 rfl
            obtain ⟨c, e1, _, m1⟩ := cont_digit (accept3_cont a1)
            obtain ⟨d, e2, hd, m2⟩ := cont_digit c2
            rw [if_pos c2, m0, m1, m2]
            rw [e0] at a1
            obtain ⟨hc, l1, l3⟩ := (accept3_digit e1 hb hd).mp a1
            exact .three e0 e1 hc e2 hd l1 (by omega) l3
          · rw [if_neg c2]; exact .invalid (by omega)
        · rw [if_neg a1]; exact .invalid (by omega)
    rw [if_neg h4]
    by_cases h5 : b0.toNat < 0xF5
    · rw [if_pos h5]
      match rest with
      | [] | [_] | [_, _] => exact .invalid (by omega)
      | b1 :: b2 :: b3 :: _ =>
        dsimp only
        by_cases a1 : accept4 b0.toNat b1 = true
        · rw [if_pos a1]
          by_cases c2 : isCont b2 = true
          · rw [if_pos c2]
            by_cases c3 : isCont b3 = true
            · obtain ⟨a, e0, ha, m0⟩ := lead_digit (b0 := b0) (k := 0xF0) (m := 8) (by omega) (by omega) rfl
              obtain ⟨b, e1, _, m1⟩ := cont_digit (accept4_cont a1)
              obtain ⟨c, e2, hc, m2⟩ := cont_digit c2
              obtain ⟨d, e3, hd, m3⟩ := cont_digit c3
              rw [if_pos c3, m0, m1, m2, m3]
              rw [e0] at a1 h5
              obtain ⟨hb, l1, l2⟩ := (accept4_digit e1 (by omega) hc hd).mp a1
              exact .four e0 e1 hb e2 hc e3 hd l1 l2
            · rw [if_neg c3]; exact .invalid (by omega)
          · rw [if_neg c2]; exact .invalid (by omega)
        · rw [if_neg a1]; exact .invalid (by omega)
    · rw [if_neg h5]; exact .invalid (by omega)

theorem decodeRune_ascii {b0 : UInt8} (h : b0.toNat < 0x80) (rest : List UInt8) :
    decodeRune (b0 :: rest) = ⟨b0.toNat, [b0]⟩ := by
  unfold decodeRune
  exact if_pos h

theorem decodeRune_two {b0 b1 : UInt8} {c d : Nat} (e0 : b0.toNat = 0xC0 + c) (e1 : b1.toNat = 0x80 + d) (hd : d < 64)
    (l1 : 0x80 ≤ c * 64 + d) (l2 : c * 64 + d < 0x800) (rest : List UInt8) :
    decodeRune (b0 :: b1 :: rest) = ⟨c * 64 + d, [b0, b1]⟩ := by
  have h32 : c < 32 := by omega
  unfold decodeRune
  dsimp only
  rw [if_pos ((isCont_digit e1).mpr hd), e0, e1, if_neg (by omega), if_neg (by omega), if_pos (by omega),
    add_mod_digit rfl h32, add_mod_digit rfl hd]

theorem decodeRune_three {b0 b1 b2 : UInt8} {b c d : Nat} (e0 : b0.toNat = 0xE0 + b) (e1 : b1.toNat = 0x80 + c) (hc : c < 64)
    (e2 : b2.toNat = 0x80 + d) (hd : d < 64) (l1 : 0x800 ≤ b * 4096 + c * 64 + d) (l2 : b * 4096 + c * 64 + d < 0x10000)
    (l3 : b * 4096 + c * 64 + d < 0xD800 ∨ 0xE000 ≤ b * 4096 + c * 64 + d) (rest : List UInt8) :
    decodeRune (b0 :: b1 :: b2 :: rest) = ⟨b * 4096 + c * 64 + d, [b0, b1, b2]⟩ := by
  have hb : b < 16 := by omega
  unfold decodeRune
  dsimp only
  rw [e0, if_neg (by omega), if_neg (by omega), if_neg (by omega), if_pos (by omega),
    if_pos ((accept3_digit e1 hb hd).mpr ⟨hc, l1, l3⟩), if_pos ((isCont_digit e2).mpr hd), e1, e2,
    add_mod_digit rfl hb, add_mod_digit rfl hc, add_mod_digit rfl hd]

theorem decodeRune_four {b0 b1 b2 b3 : UInt8} {a b c d : Nat} (e0 : b0.toNat = 0xF0 + a) (e1 : b1.toNat = 0x80 + b)
    (hb : b < 64) (e2 : b2.toNat = 0x80 + c) (hc : c < 64) (e3 : b3.toNat = 0x80 + d) (hd : d < 64)
    (l1 : 0x10000 ≤ a * 262144 + b * 4096 + c * 64 + d) (l2 : a * 262144 + b * 4096 + c * 64 + d < 0x110000)
    (rest : List UInt8) :
    decodeRune (b0 :: b1 :: b2 :: b3 :: rest) = ⟨a * 262144 + b * 4096 + c * 64 + d, [b0, b1, b2, b3]⟩ := by
  have ha : a < 5 := by omega
  unfold decodeRune
  dsimp only
  rw [e0, if_neg (by omega), if_neg (by omega), if_neg (by omega), if_neg (by omega), if_pos (by omega),
    if_pos ((accept4_digit e1 ha hc hd).mpr ⟨hb, l1, l2⟩), if_pos ((isCont_digit e2).mpr hc), if_pos ((isCont_digit e3).mpr hd),
    e1, e2, e3, add_mod_digit rfl (by omega : a < 8), add_mod_digit rfl hb, add_mod_digit rfl hc, add_mod_digit rfl hd]

theorem Decoded.bytes_prefix {bs : List UInt8} {t : Tok} (h : Decoded bs t) : t.bytes = bs.take t.bytes.length := by
  cases h <;> rfl

theorem Decoded.width_pos {b : UInt8} {rest : List UInt8} {t : Tok} (h : Decoded (b :: rest) t) : 1 ≤ t.bytes.length := by
  cases h <;> simp

/-- no rune above `unicode.MaxRune` -/
theorem Decoded.r_lt {bs : List UInt8} {t : Tok} (h : Decoded bs t) : t.r < 0x110000 := by
  cases h with
  | empty | invalid => exact (by decide : runeError < 0x110000)
  | ascii h => exact Nat.lt_trans h (by decide)
  | two _ _ _ _ l2 => exact Nat.lt_trans l2 (by decide)
  | three _ _ _ _ _ _ l2 _ => exact Nat.lt_trans l2 (by decide)
  | four _ _ _ _ _ _ _ _ l2 => exact l2

theorem Decoded.self {b : UInt8} {bs : List UInt8} {t : Tok} (h : Decoded (b :: bs) t) (hv : t.invalid = false)
    (rest : List UInt8) : decodeRune (t.bytes ++ rest) = t := by
  cases h with
  | ascii h => exact decodeRune_ascii h rest
  | invalid => simp [Tok.invalid] at hv
  | two e0 e1 hd l1 l2 => exact decodeRune_two e0 e1 hd l1 l2 rest
  | three e0 e1 hc e2 hd l1 l2 l3 => exact decodeRune_three e0 e1 hc e2 hd l1 l2 l3 rest
  | four e0 e1 hb e2 hc e3 hd l1 l2 => exact decodeRune_four e0 e1 hb e2 hc e3 hd l1 l2 rest

theorem decodeRune_bytes_prefix (bs : List UInt8) : (decodeRune bs).bytes = bs.take (decodeRune bs).bytes.length :=
  (decodeRune_decoded bs).bytes_prefix

theorem decodeRune_width_pos (b : UInt8) (rest : List UInt8) : 1 ≤ (decodeRune (b :: rest)).bytes.length :=
  (decodeRune_decoded (b :: rest)).width_pos

theorem decodeRune_r_lt (bs : List UInt8) : (decodeRune bs).r < 0x110000 :=
  (decodeRune_decoded bs).r_lt

theorem decodeRune_width_le (bs : List UInt8) : (decodeRune bs).bytes.length ≤ bs.length := by
  have h := congrArg List.length (decodeRune_bytes_prefix bs)
  rw [List.length_take] at h
  omega

/-- tokens of a byte string, accumulator form (the driver decodes megabyte inputs) -/
def decodeAllAcc (bs : List UInt8) (acc : Array Tok) : Array Tok :=
  match bs with
  | [] => acc
  | b :: rest =>
    let t := decodeRune (b :: rest)
    decodeAllAcc ((b :: rest).drop t.bytes.length) (acc.push t)
termination_by bs.length
decreasing_by
  have := decodeRune_width_pos b rest
  simp only [List.length_drop, List.length_cons]
  omega

/-- the text as the scanner sees it: the successive results of `DecodeRuneInString`. -/
def decodeAll (bs : List UInt8) : List Tok := (decodeAllAcc bs #[]).toList

theorem decode_induction {motive : List UInt8 → Prop} (nil : motive [])
    (cons : ∀ b rest, motive ((b :: rest).drop (decodeRune (b :: rest)).bytes.length) → motive (b :: rest)) :
    ∀ bs, motive bs
  | [] => nil
  | b :: rest => cons b rest (decode_induction nil cons _)
termination_by bs => bs.length
decreasing_by
  have := decodeRune_width_pos b rest
  simp only [List.length_drop, List.length_cons]
  omega

theorem decodeAllAcc_eq (bs : List UInt8) :
    ∀ acc : Array Tok, (decodeAllAcc bs acc).toList = acc.toList ++ decodeAll bs := by
  unfold decodeAll
  induction bs using decode_induction with
  | nil => intro acc; simp [decodeAllAcc]
  | cons b rest ih =>
    intro acc
    rw [decodeAllAcc, decodeAllAcc.eq_def (b :: rest) #[]]
    simp only
    rw [ih (acc.push _), ih (#[].push _)]
    simp

@[simp] theorem decodeAll_nil : decodeAll [] = [] := by simp [decodeAll, decodeAllAcc]

theorem decodeAll_cons (b : UInt8) (rest : List UInt8) :
    decodeAll (b :: rest) =
      decodeRune (b :: rest) :: decodeAll ((b :: rest).drop (decodeRune (b :: rest)).bytes.length) := by
  rw [decodeAll, decodeAllAcc, decodeAllAcc_eq]
  simp

theorem decodeAll_eq_nil {bs : List UInt8} : decodeAll bs = [] ↔ bs = [] := by
  cases bs with
  | nil => simp
  | cons b rest => simp [decodeAll_cons]

theorem mem_decodeAll {bs : List UInt8} {t : Tok} : t ∈ decodeAll bs → ∃ b rest, t = decodeRune (b :: rest) := by
  induction bs using decode_induction with
  | nil => simp
  | cons b rest ih =>
    rw [decodeAll_cons]
    intro ht
    rcases List.mem_cons.mp ht with h | h
    · exact ⟨b, rest, h⟩
    · exact ih h

/-- total width of a token list -/
def wsum : List Tok → Nat
  | [] => 0
  | t :: ts => t.bytes.length + wsum ts

@[simp] theorem wsum_nil : wsum [] = 0 := rfl
@[simp] theorem wsum_cons (t : Tok) (ts : List Tok) : wsum (t :: ts) = t.bytes.length + wsum ts := rfl
@[simp] theorem wsum_append (a b : List Tok) : wsum (a ++ b) = wsum a + wsum b := by
  induction a with
  | nil => simp
  | cons t ts ih => simp [ih]; omega

/-- the bytes of a token list -/
def flat : List Tok → List UInt8
  | [] => []
  | t :: ts => t.bytes ++ flat ts

@[simp] theorem flat_nil : flat [] = [] := rfl
@[simp] theorem flat_cons (t : Tok) (ts : List Tok) : flat (t :: ts) = t.bytes ++ flat ts := rfl
@[simp] theorem flat_append (a b : List Tok) : flat (a ++ b) = flat a ++ flat b := by
  induction a with
  | nil => simp
  | cons t ts ih => simp [ih]

@[simp] theorem flat_length (ts : List Tok) : (flat ts).length = wsum ts := by
  induction ts with
  | nil => simp
  | cons t ts ih => simp [ih]

theorem flat_decodeAll (bs : List UInt8) : flat (decodeAll bs) = bs := by
  induction bs using decode_induction with
  | nil => simp
  | cons b rest ih =>
    rw [decodeAll_cons, flat_cons, ih]
    conv => lhs; lhs; rw [decodeRune_bytes_prefix]
    exact List.take_append_drop _ _

theorem wsum_decodeAll (bs : List UInt8) : wsum (decodeAll bs) = bs.length := by
  rw [← flat_length, flat_decodeAll]

theorem decodeAll_width_pos (bs : List UInt8) : ∀ t ∈ decodeAll bs, 1 ≤ t.bytes.length := by
  intro t ht
  obtain ⟨b, rest, rfl⟩ := mem_decodeAll ht
  exact decodeRune_width_pos b rest

/-- a validly decoded rune is decoded again from its own bytes, whatever follows (UTF-8 is self-delimiting) -/
theorem decodeRune_self (b : UInt8) (bs rest : List UInt8) (h : (decodeRune (b :: bs)).invalid = false) :
    decodeRune ((decodeRune (b :: bs)).bytes ++ rest) = decodeRune (b :: bs) :=
  (decodeRune_decoded (b :: bs)).self h rest

/-- ASCII runes are single bytes, all other tokens consist of bytes `≥ 0x80` (so an ASCII byte of the text is
always a token of its own, whatever surrounds it). -/
def Tok.wf (t : Tok) : Prop :=
  (t.r < 128 → t.bytes = [UInt8.ofNat t.r]) ∧ (128 ≤ t.r → ∀ b ∈ t.bytes, 128 ≤ b.toNat)

theorem Tok.wf_ascii (b : UInt8) : Tok.wf ⟨b.toNat, [b]⟩ := by
  refine ⟨fun _ => ?_, fun h c hc => ?_⟩
  · simp
  · simp only [List.mem_cons, List.not_mem_nil, or_false] at hc
    subst hc; exact h

theorem Tok.wf_high (r : Nat) (bytes : List UInt8) (h1 : 128 ≤ r) (h2 : ∀ b ∈ bytes, 128 ≤ b.toNat) : Tok.wf ⟨r, bytes⟩ :=
  ⟨fun h => by simp only at h; omega, fun _ => h2⟩

theorem byte_ge {k x : Nat} {b : UInt8} (e : b.toNat = k + x) (hk : 128 ≤ k) : 128 ≤ b.toNat :=
  e ▸ Nat.le_trans hk (Nat.le_add_right _ _)

theorem Decoded.wf {b : UInt8} {rest : List UInt8} {t : Tok} (h : Decoded (b :: rest) t) : t.wf := by
  cases h with
  | ascii => exact Tok.wf_ascii _
  | invalid h0 => exact Tok.wf_high _ _ (by decide) (List.forall_mem_singleton.mpr h0)
  | two e0 e1 _ l1 _ =>
    exact Tok.wf_high _ _ l1
      (List.forall_mem_cons.mpr ⟨byte_ge e0 (by decide), List.forall_mem_singleton.mpr (byte_ge e1 (by decide))⟩)
  | three e0 e1 _ e2 _ l1 _ _ =>
    exact Tok.wf_high _ _ (Nat.le_trans (by decide) l1) (List.forall_mem_cons.mpr ⟨byte_ge e0 (by decide),
      List.forall_mem_cons.mpr ⟨byte_ge e1 (by decide), List.forall_mem_singleton.mpr (byte_ge e2 (by decide))⟩⟩)
  | four e0 e1 _ e2 _ e3 _ l1 _ =>
    exact Tok.wf_high _ _ (Nat.le_trans (by decide) l1) (List.forall_mem_cons.mpr ⟨byte_ge e0 (by decide),
      List.forall_mem_cons.mpr ⟨byte_ge e1 (by decide), List.forall_mem_cons.mpr ⟨byte_ge e2 (by decide),
        List.forall_mem_singleton.mpr (byte_ge e3 (by decide))⟩⟩⟩)

theorem decodeRune_wf (b : UInt8) (rest : List UInt8) : (decodeRune (b :: rest)).wf :=
  (decodeRune_decoded (b :: rest)).wf

theorem decodeAll_wf (bs : List UInt8) : ∀ t ∈ decodeAll bs, t.wf := by
  intro t ht
  obtain ⟨b, rest, rfl⟩ := mem_decodeAll ht
  exact decodeRune_wf b rest

/-- the token is what `decodeRune` returns on its own bytes, whatever follows them, and it is not empty -/
def Tok.canon (t : Tok) : Prop := (∀ rest, decodeRune (t.bytes ++ rest) = t) ∧ 1 ≤ t.bytes.length

theorem decodeAll_canon (bs : List UInt8) : ∀ t ∈ decodeAll bs, t.invalid = false → t.canon := by
  intro t ht hv
  obtain ⟨b, rest, rfl⟩ := mem_decodeAll ht
  exact ⟨fun r => decodeRune_self b rest r hv, decodeRune_width_pos b rest⟩

theorem decodeAll_flat_append (c : List Tok) (hc : ∀ t ∈ c, t.canon) (rest : List UInt8) :
    decodeAll (flat c ++ rest) = c ++ decodeAll rest := by
  induction c with
  | nil => simp
  | cons t ts ih =>
    have ht := hc t List.mem_cons_self
    obtain ⟨b, bs, hb⟩ : ∃ b bs, t.bytes = b :: bs := by
      cases h : t.bytes with
      | nil => have := ht.2; rw [h] at this; simp at this
      | cons b bs => exact ⟨b, bs, rfl⟩
    have e : flat (t :: ts) ++ rest = b :: (bs ++ (flat ts ++ rest)) := by simp [hb]
    rw [e, decodeAll_cons]
    have e2 : b :: (bs ++ (flat ts ++ rest)) = t.bytes ++ (flat ts ++ rest) := by simp [hb]
    rw [e2, ht.1]
    simp only [List.drop_left, List.cons_append]
    rw [ih (fun x hx => hc x (List.mem_cons_of_mem _ hx))]

theorem decodeAll_flat (c : List Tok) (hc : ∀ t ∈ c, t.canon) : decodeAll (flat c) = c := by
  have := decodeAll_flat_append c hc []
  simpa using this

/-- the token of an ASCII byte -/
def tk (r : Nat) : Tok := ⟨r, [UInt8.ofNat r]⟩

theorem tk_canon {r : Nat} (h : r < 128) : (tk r).canon := by
  refine ⟨fun rest => ?_, by simp [tk]⟩
  have e : (UInt8.ofNat r).toNat = r := by simp [UInt8.toNat_ofNat']; omega
  simp [tk, decodeRune, e, h]

theorem tk_valid {r : Nat} (h : r < 128) : (tk r).invalid = false := by
  simp [tk, Tok.invalid, runeError]; omega

end Knut.Utf8
