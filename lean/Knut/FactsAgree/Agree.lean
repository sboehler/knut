import Knut.GoSem.Basic
/-!
# What a translated computation returns, and how it stands to the model

`Returns P x`: the translated function returns (no panic, the fuel suffices) a value of which `P` holds (used by
`TransPerformanceFlows` and `TransProcess.foldlE_foldl`; elsewhere the same is written `∃ r, x = .ok r ∧ P r`).  `Agree Q E r m` is for Go functions that report failure
in the last component of the returned tuple — the callbacks of `Processor.Process`: it reads such a tuple `(state, value, err)` against a
step `m : Except ε ρ` of the model.  The checker (`TransCheck`), the processors (`TransProcess`) and the day links of `TransProcessAll*`
prove agreement in this form and read the other forms off it: a `match` on the two results, `TransProcessAll.SimStep`, `Knut.Sim` in
`Properties/C04Go`, the clauses of `Properties/C03Go`, `C12Go2` that start from what one side returned (`Agree.of_ok`,
`of_model_ok`, `of_model_error`).  The agreement modules of the other packages (parser, printer, journal builder, prices, reports,
importers, …) state agreement in forms of their own.
-/
namespace Knut.GoSem

theorem Outcome.bind_assoc {α β γ : Type} (x : Outcome α) (f : α → Outcome β) (g : β → Outcome γ) :
    (x.bind f).bind g = x.bind fun a => (f a).bind g := by
  cases x <;> rfl

theorem Outcome.bind_eq_ok {α β : Type} {x : Outcome α} {f : α → Outcome β} {b : β} (h : x.bind f = .ok b) :
    ∃ a, x = .ok a ∧ f a = .ok b := by
  cases x with
  | ok a => exact ⟨a, rfl, h⟩
  | panic m => cases h
  | outOfFuel => cases h

inductive Returns {α : Type} (P : α → Prop) : Outcome α → Prop
  | ok {a : α} (h : P a) : Returns P (.ok a)

namespace Returns
variable {α β σ : Type} {P Q : α → Prop} {x : Outcome α}

theorem inv (h : Returns P x) : ∃ a, x = .ok a ∧ P a := by
  cases h with
  | ok h => exact ⟨_, rfl, h⟩

theorem iff : Returns P x ↔ ∃ a, x = .ok a ∧ P a := ⟨inv, fun ⟨_, hx, h⟩ => hx ▸ .ok h⟩

/-- the usual way to state what a translated function returns: the result as a function `A` of some `c` with `B c` -/
theorem exists_eq {γ : Type} {A : γ → α} {B : γ → Prop} (h : Returns (fun a => ∃ c, a = A c ∧ B c) x) : ∃ c, x = .ok (A c) ∧ B c := by
  obtain ⟨_, hx, c, rfl, hc⟩ := h.inv
  exact ⟨c, hx, hc⟩

theorem bind {R : β → Prop} {f : α → Outcome β} (hx : Returns P x) (hf : ∀ a, P a → Returns R (f a)) :
    Returns R (x.bind f) := by
  cases hx with
  | ok h => exact hf _ h

/-- a `for … range` loop keeps an invariant that may speak of the elements still to come -/
theorem foldlE {f : σ → α → Outcome σ} (I : σ → List α → Prop)
    (hstep : ∀ s a rest, I s (a :: rest) → Returns (fun s' => I s' rest) (f s a)) :
    ∀ (l : List α) (s : σ), I s l → Returns (fun s' => I s' []) (GoSem.foldlE f s l)
  | [], _, h => .ok h
  | a :: rest, s, h => (hstep s a rest h).bind fun s' h' => foldlE I hstep rest s' h'

end Returns

end Knut.GoSem

namespace Knut.FactsAgree.TransProcess
open Knut.GoSem

/-- both succeed and `Q` holds of what they return, or the call reports an error value and the model's step fails, `E` holding of what
the call returned (state, value, error value) and of the model's error -/
inductive Agree {σ α ρ ε : Type} (Q : σ → α → ρ → Prop) (E : σ → α → Error → ε → Prop) :
    Outcome (σ × α × Option Error) → Except ε ρ → Prop
  | ok {g : σ} {x : α} {r : ρ} : Q g x r → Agree Q E (.ok (g, x, none)) (.ok r)
  | error {g : σ} {x : α} {e : Error} {e' : ε} : E g x e e' → Agree Q E (.ok (g, x, some e)) (.error e')

namespace Agree
variable {σ σ' α α' ρ ρ' ε : Type} {Q Q₁ : σ → α → ρ → Prop} {Q' : σ' → α' → ρ' → Prop} {E E₁ : σ → α → Error → ε → Prop}
  {E' : σ' → α' → Error → ε → Prop} {r : Outcome (σ × α × Option Error)} {m : Except ε ρ}

theorem imp (h : Agree Q E r m) (hq : ∀ g x a, Q g x a → Q₁ g x a) (he : ∀ g x e e', E g x e e' → E₁ g x e e') :
    Agree Q₁ E₁ r m := by
  cases h with
  | ok h => exact .ok (hq _ _ _ h)
  | error h => exact .error (he _ _ _ _ h)

theorem bind {k : σ × α × Option Error → Outcome (σ' × α' × Option Error)} {m' : ρ → Except ε ρ'} (h : Agree Q E r m)
    (herr : ∀ g x e e', E g x e e' → ∃ g' x', k (g, x, some e) = .ok (g', x', some e) ∧ E' g' x' e e')
    (hok : ∀ g x a, Q g x a → Agree Q' E' (k (g, x, none)) (m' a)) : Agree Q' E' (r.bind k) (m >>= m') := by
  cases h with
  | ok hq => exact hok _ _ _ hq
  | error he =>
    obtain ⟨g', x', hk, he'⟩ := herr _ _ _ _ he
    show Agree Q' E' (k _) (.error _)
    rw [hk]
    exact .error he'

theorem map {Q'' : σ → α → ρ' → Prop} (φ : ρ → ρ') (h : Agree Q E r m) (hq : ∀ g x a, Q g x a → Q'' g x (φ a)) :
    Agree Q'' E r (m >>= fun a => pure (φ a)) := by
  cases h with
  | ok h => exact .ok (hq _ _ _ h)
  | error he => exact .error he

theorem mapL {E'' : σ → α' → Error → ε → Prop} (φ : α → α') (h : Agree Q E r m) (he : ∀ g x e e', E g x e e' → E'' g (φ x) e e') :
    Agree (fun g x' a => ∃ x, x' = φ x ∧ Q g x a) E'' (r.bind fun r => Outcome.ok (r.1, φ r.2.1, r.2.2)) m := by
  cases h with
  | ok h => exact .ok ⟨_, rfl, h⟩
  | error h => exact .error (he _ _ _ _ h)

theorem and_eq (h : Agree Q E r m) : Agree (fun g x a => Q g x a ∧ r = .ok (g, x, none) ∧ m = .ok a) E r m := by
  cases h with
  | ok h => exact .ok ⟨h, rfl, rfl⟩
  | error he => exact .error he

theorem of_ok {g : σ} {x : α} (h : Agree Q E (.ok (g, x, none)) m) : ∃ a, m = .ok a ∧ Q g x a := by
  cases h with
  | ok h => exact ⟨_, rfl, h⟩

theorem of_model_ok {a : ρ} (h : Agree Q E r (.ok a : Except ε ρ)) : ∃ g x, r = .ok (g, x, none) ∧ Q g x a := by
  cases h with
  | ok h => exact ⟨_, _, rfl, h⟩

theorem of_model_error {e' : ε} (h : Agree Q E r (.error e' : Except ε ρ)) : ∃ g x e, r = .ok (g, x, some e) ∧ E g x e e' := by
  cases h with
  | error h => exact ⟨_, _, _, rfl, h⟩

theorem either {t : σ × α × Option Error} {P : Prop} (h : Agree Q E (.ok t) m) (hq : ∀ a, Q t.1 t.2.1 a → P)
    (he : ∀ e e', E t.1 t.2.1 e e' → P) : P := by
  obtain ⟨g, x, e⟩ := t
  cases h with
  | ok h => exact hq _ h
  | error h => exact he _ _ h

end Agree

end Knut.FactsAgree.TransProcess
