import Knut.Generated.Census
/-! # C06 — the census of order-sensitive sites equals its reviewed expectation

`harness extract` (harness/facts_c06.go) walks, on every run of `bin/check`, every non-test Go file of /repo that
`go build -tags verif` compiles (main.go, cmd/**, lib/**), type-checked from source, and writes to
`Knut/Generated/Census.lean` every place where the result of a run can depend on something else than the input:

* `maprange` — a `range` over a map-typed expression, or over the result of a function that returns a slice in map order
  (dict.Keys, dict.Values, Set.Slice: found by a fixpoint, not by name); `mapcall` — a call of such a function elsewhere;
* `mapcallback` — a call of a function that runs a function it is given inside a map range (multimap Node.PostOrder, Amounts.SumOver /
  SumIntoBy / SumBy and what hands on to them), with that function, classified like the body of a map range;
* `sortcall` — a call of a function that hands one of its parameters on as the comparator of a sort (dict.SortedKeys,
  dict.SortedValues, Set.Sorted, Amounts.Index, multimap Node.Sort), with the comparator in the fingerprint; `sort` — every call of
  sort.Slice / sort.Sort / slices.Sort* / compare.Sort;
* `floatacc` — a float `+=`, `-=`, `*=`, `/=`, `x = x + …` (class `d` inside a map range or a channel range, `s` otherwise);
* `nondet` — time.Now & co., math/rand, crypto/rand, os.Getenv / Getpid / Hostname …, runtime.NumCPU / GOMAXPROCS / Gosched.

(Goroutines, channel operations and locks are in `FactsAgree/C06Conc.lean`.)  A `maprange` / `mapcallback` site is classified mechanically from its body:
**b** the loop only appends to one slice whose first later use is the first argument of an unconditional sort; **c** the body only performs
commutative-associative accumulation (exact decimals, integers, set inserts, writes under the loop's own key, min/max) guarded by pure
conditions that read nothing the loop writes; **d** anything else — the fingerprint then carries the effect tokens that disqualified it and a
hash of the normalised body (locals numbered, string literals and comments dropped, no positions).  **Class a** is an attribute next to these:
`Census.translated` lists the functions that the Go→Lean translator covers with every iteration order as an explicit parameter of the generated
definitions; the comment of such a site names the agreement theorem that quantifies over the orders, a class-d site of such a function has the
verdict `translated`, and `translated_still_covers` / `alsoTranslated_still_covered` check that the translator still covers them.  Kept apart
from b/c/d on purpose: when the translator grows, the list grows and no site changes.

This module is the REVIEWED expectation: one table per file (a changed, new or vanished site of a file fails the theorem named after
the file), the list of files with their counts (a site in a file that had none), and the allowlist of the class-d sites, each with a
verdict — `irrelevant` (the order cannot change the result), `unreachable` (no path to standard output), `translated` (class a) or `finding`
(the order CAN reach standard output: a genuine defect, recorded in known_findings.jsonl and design/09-defects.md, never allowlisted as harmless) —,
the reason, and the theorem of `Properties/C06*.lean` that covers the shape.  `harness extract` also prints every difference as
`census-new-site C06 <file>:<function>: <kind> class <c> [<fingerprint>]` (or `census-changed-site`, `census-gone-site`), which
`bin/check` adds to the broken obligations.  After a change of /repo: re-run `harness extract`, REVIEW the printed sites, then edit the
tables here — `bin/census-sync --write` rewrites them in the generated order, keeps the comments of unchanged sites and marks the others
`TODO REVIEW` (a site that can reach standard output in an order-dependent way is a finding, not an allowlist entry).

What this does not show: that the mechanical classes are right for code the classifier has never seen (it is conservative: anything it
does not recognise is class d), order leaks that are no `range`/sort/float/clock site (pointer values printed or compared, `select`
with several ready cases: see C06Conc), and the totality of the comparators named in the fingerprints (argued in the comments; the
named comparators `commodity.Compare`, `compare.Time`, `transaction.Compare`, `account.Compare` are tied by the translator's
agreement theorems). -/
namespace Knut.FactsAgree.C06
open Knut.Generated

abbrev Site := Census.Site

/-- `cmd/commands/fetch.go` -/
def cmd_commands_fetch_go : List Site := [
  -- `knut fetch` asks the quote server for the year that ends now: clock and network are inputs of this command, which is outside C06's claim
  ("cmd/commands/fetch.go", "fetchRunner.fetch", "nondet", "-", "time.Now"),
  -- `knut fetch` asks the quote server for the year that ends now: clock and network are inputs of this command, which is outside C06's claim
  ("cmd/commands/fetch.go", "fetchRunner.fetch", "nondet", "-", "time.Now"),
  -- ALLOWLISTED (irrelevant): the map is keyed by date, every price is added to the day of its own date, the file is printed from the sorted days
  ("cmd/commands/fetch.go", "fetchRunner.writeFile", "maprange", "d", "over map[time.Time]*price.Price; call:journal.Builder.Add h=858a3c3a")
]
theorem census_cmd_commands_fetch_go : Census.cmd_commands_fetch_go = cmd_commands_fetch_go := rfl

/-- `cmd/importer/revolut2/revolut2.go` -/
def cmd_importer_revolut2_revolut2_go : List Site := [
  -- comparator (date, then commodity name): a total order on the keys of p.balance, which are DateCommodityKey(date, commodity) only (C06_sort_oracle_irrelevant); tied to stdout by c06.go's `import revolut2` runs
  ("cmd/importer/revolut2/revolut2.go", "parser.addBalances", "sortcall", "b", "amounts.Amounts.Index by #5aa7368d")
]
theorem census_cmd_importer_revolut2_revolut2_go : Census.cmd_importer_revolut2_revolut2_go = cmd_importer_revolut2_revolut2_go := rfl

/-- `lib/amounts/amounts.go` -/
def lib_amounts_amounts_go : List Site := [
  -- class a: TransAmountsSum.Clone_agrees (every permutation of the keys)
  ("lib/amounts/amounts.go", "Amounts.Clone", "maprange", "c", "over amounts.Amounts; put[k]"),
  -- class a: TransAmountsSum.Commodities_agrees (every permutation of the keys)
  ("lib/amounts/amounts.go", "Amounts.Commodities", "maprange", "c", "over amounts.Amounts; acc:set.Set.Add"),
  -- TransAmountsSum.CommoditiesSorted_agrees: sorted by name for every order; commodity.Compare is total on interned commodities (commodity_Compare_smaller)
  ("lib/amounts/amounts.go", "Amounts.CommoditiesSorted", "sortcall", "b", "dict.SortedKeys by commodity.Compare"),
  -- class a: TransAmountsSum.Dates_agrees
  ("lib/amounts/amounts.go", "Amounts.Dates", "maprange", "c", "over amounts.Amounts; acc:set.Set.Add"),
  -- TransAmountsSum.DatesSorted_agrees; compare.Time is a total order on UTC-midnight dates (compare_Time_eq)
  ("lib/amounts/amounts.go", "Amounts.DatesSorted", "sortcall", "b", "dict.SortedKeys by compare.Time"),
  -- sorted only when the comparator is not nil: every CALLER is a `sortcall` site of its own with its comparator in the fingerprint (a nil comparator is class d there)
  ("lib/amounts/amounts.go", "Amounts.Index", "maprange", "b", "over amounts.Amounts; append then compare.Sort(if non-nil) by <param>"),
  -- see the callers
  ("lib/amounts/amounts.go", "Amounts.Index", "sort", "-", "compare.Sort by <param>"),
  -- class a: TransAmountsSum.Minus_agrees
  ("lib/amounts/amounts.go", "Amounts.Minus", "maprange", "c", "over amounts.Amounts; dec.Sub"),
  -- class a: TransAmountsSum.Plus_agrees
  ("lib/amounts/amounts.go", "Amounts.Plus", "maprange", "c", "over amounts.Amounts; dec.Add"),
  -- class a: TransAmountsSum.SumIntoBy_agrees (every permutation of the keys; every order of the deletion loop that reaches all keys)
  ("lib/amounts/amounts.go", "Amounts.SumIntoBy", "maprange", "c", "over amounts.Amounts; delete[k]"),
  -- class a: TransAmountsSum.SumIntoBy_agrees (every permutation of the keys; every order of the deletion loop that reaches all keys)
  ("lib/amounts/amounts.go", "Amounts.SumIntoBy", "maprange", "d", "over amounts.Amounts; dec.Add,call:value h=0e5d1e16"),
  -- class a: TransAmountsSum.SumOver_agrees (= the filtered sum, C06_sum_oracle_irrelevant)
  ("lib/amounts/amounts.go", "Amounts.SumOver", "maprange", "d", "over amounts.Amounts; dec.Add,call:value h=3839e290")
]
theorem census_lib_amounts_amounts_go : Census.lib_amounts_amounts_go = lib_amounts_amounts_go := rfl

/-- `lib/common/compare/compare.go` -/
def lib_common_compare_compare_go : List Site := [
  -- the one place where sort.Slice is called: less = (cmp(ts[i], ts[j]) == Smaller); unstable, so the result is a function of the multiset only for a total antisymmetric cmp (C06_sort_oracle_irrelevant) - every caller's comparator is in the census
  ("lib/common/compare/compare.go", "Sort", "sort", "-", "sort.Slice by #836547ef")
]
theorem census_lib_common_compare_compare_go : Census.lib_common_compare_compare_go = lib_common_compare_compare_go := rfl

/-- `lib/common/cpr/hook_verif.go` -/
def lib_common_cpr_hook_verif_go : List Site := [
  -- verif build only: the schedule perturbation of the checks (seeded by KNUT_VERIF_SEED); hook_off.go is empty
  ("lib/common/cpr/hook_verif.go", "hookYield", "nondet", "-", "runtime.Gosched"),
  -- verif build only: the schedule perturbation of the checks (seeded by KNUT_VERIF_SEED); hook_off.go is empty
  ("lib/common/cpr/hook_verif.go", "hookYield", "nondet", "-", "time.Sleep"),
  -- verif build only: KNUT_VERIF_SEED / KNUT_VERIF_TRACE select the perturbation; the plain build does not read the environment
  ("lib/common/cpr/hook_verif.go", "init", "nondet", "-", "os.Getenv"),
  -- verif build only: KNUT_VERIF_SEED / KNUT_VERIF_TRACE select the perturbation; the plain build does not read the environment
  ("lib/common/cpr/hook_verif.go", "init", "nondet", "-", "os.Getenv")
]
theorem census_lib_common_cpr_hook_verif_go : Census.lib_common_cpr_hook_verif_go = lib_common_cpr_hook_verif_go := rfl

/-- `lib/common/date/date.go` -/
def lib_common_date_date_go : List Site := [
  -- default end of the period flags (cmd/flags/templates.go): the current date is an input of balance / register / portfolio; the checks pass --to explicitly
  ("lib/common/date/date.go", "Today", "nondet", "-", "time.Now")
]
theorem census_lib_common_date_date_go : Census.lib_common_date_date_go = lib_common_date_date_go := rfl

/-- `lib/common/dict/dict.go` -/
def lib_common_dict_dict_go : List Site := [
  -- ALLOWLISTED (irrelevant by its callers): hands out map order - every call of it is a `mapcall` / `maprange over call` site of its own
  ("lib/common/dict/dict.go", "Keys", "maprange", "d", "over map[K]V; append unsorted h=a6ce1bcd"),
  -- Keys sorted at once with the caller's comparator: every caller is a `sortcall` site
  ("lib/common/dict/dict.go", "SortedKeys", "mapcall", "b", "call dict.Keys then compare.Sort by <param>"),
  -- translator: pinned text = prelude `sortedKeys` (TransPrice.sortedKeys_agrees)
  ("lib/common/dict/dict.go", "SortedKeys", "sort", "-", "compare.Sort by <param>"),
  -- Values sorted at once with the caller's comparator: every caller is a `sortcall` site
  ("lib/common/dict/dict.go", "SortedValues", "mapcall", "b", "call dict.Values then compare.Sort by <param>"),
  -- see the callers
  ("lib/common/dict/dict.go", "SortedValues", "sort", "-", "compare.Sort by <param>"),
  -- ALLOWLISTED (irrelevant by its callers): as Keys
  ("lib/common/dict/dict.go", "Values", "maprange", "d", "over map[K]V; append unsorted h=a6ce1bcd")
]
theorem census_lib_common_dict_dict_go : Census.lib_common_dict_dict_go = lib_common_dict_dict_go := rfl

/-- `lib/common/multimap/multimap.go` -/
def lib_common_multimap_multimap_go : List Site := [
  -- ALLOWLISTED (irrelevant by its callers): visits the children in map order - pinned by source text in the translator (GoSem/Multimap.lean `MNode.postOrder` takes the order of every node's children as a parameter); the closures passed to it are sites of their callers
  ("lib/common/multimap/multimap.go", "Node.PostOrder", "maprange", "d", "over map[string]*multimap.Node[V]; call:multimap.Node.PostOrder h=29297716"),
  -- ALLOWLISTED (irrelevant): sorts every child's subtree; the recursive calls write disjoint nodes (`MNode.sort`)
  ("lib/common/multimap/multimap.go", "Node.Sort", "maprange", "d", "over map[string]*multimap.Node[V]; call:multimap.Node.Sort h=0c5d30ff"),
  -- children sorted by the caller's comparator: the callers are `sortcall` sites
  ("lib/common/multimap/multimap.go", "Node.Sort", "sortcall", "b", "dict.SortedValues by <param>"),
  -- the recursive call hands the comparator on
  ("lib/common/multimap/multimap.go", "Node.Sort", "sortcall", "b", "multimap.Node.Sort by <param>")
]
theorem census_lib_common_multimap_multimap_go : Census.lib_common_multimap_multimap_go = lib_common_multimap_multimap_go := rfl

/-- `lib/common/set/set.go` -/
def lib_common_set_set_go : List Site := [
  -- ALLOWLISTED (irrelevant by its callers): hands out map order - only caller is Set.Sorted
  ("lib/common/set/set.go", "Set.Slice", "maprange", "d", "over set.Set[T]; append unsorted h=a6ce1bcd"),
  -- sorted at once with the caller's comparator: every caller is a `sortcall` site
  ("lib/common/set/set.go", "Set.Sorted", "mapcall", "b", "call set.Set.Slice then compare.Sort by <param>"),
  -- see the callers
  ("lib/common/set/set.go", "Set.Sorted", "sort", "-", "compare.Sort by <param>")
]
theorem census_lib_common_set_set_go : Census.lib_common_set_set_go = lib_common_set_set_go := rfl

/-- `lib/journal/beancount/beancount.go` -/
def lib_journal_beancount_beancount_go : List Site := [
  -- a day's transactions before printing: transaction.Compare = cmpTx (TransTransaction.Compare_agrees); ties are equal in every printed field
  ("lib/journal/beancount/beancount.go", "Transcode", "sort", "-", "compare.Sort by transaction.Compare")
]
theorem census_lib_journal_beancount_beancount_go : Census.lib_journal_beancount_beancount_go = lib_journal_beancount_beancount_go := rfl

/-- `lib/journal/check/check.go` -/
def lib_journal_check_check_go : List Site := [
  -- class a: TransCheck.close_agrees (every order that reaches all keys; which non-zero position an error names is in the error text on stderr)
  ("lib/journal/check/check.go", "Checker.close", "maprange", "d", "over amounts.Amounts; delete[k],return h=38c580c5"),
  -- `check --write`: balances collected, then sorted by assertion.CompareBalance (account, commodity: total on the keys AccountCommodityKey) - C06_sort_oracle_irrelevant; tied by c06.go's `check --write` runs
  ("lib/journal/check/check.go", "Checker.dayEnd", "maprange", "b", "over amounts.Amounts; append then slices.SortFunc by assertion.CompareBalance"),
  -- see the map range
  ("lib/journal/check/check.go", "Checker.dayEnd", "sort", "-", "slices.SortFunc by assertion.CompareBalance")
]
theorem census_lib_journal_check_check_go : Census.lib_journal_check_check_go = lib_journal_check_check_go := rfl

/-- `lib/journal/journal.go` -/
def lib_journal_journal_go : List Site := [
  -- days sorted by date, one day per date (CompareDays is total on the values of j.days): C06_journal_deterministic
  ("lib/journal/journal.go", "Builder.Build", "sortcall", "b", "dict.SortedValues by CompareDays"),
  -- ALLOWLISTED (unreachable): a debugging helper without callers; no fmt verb ever receives a Performance
  ("lib/journal/journal.go", "Performance.String", "maprange", "d", "over map[*commodity.Commodity]float64; call:fmt.Fprintf h=4f787498"),
  -- ALLOWLISTED (unreachable): a debugging helper without callers; no fmt verb ever receives a Performance
  ("lib/journal/journal.go", "Performance.String", "maprange", "d", "over map[*commodity.Commodity]float64; call:fmt.Fprintf h=4f787498"),
  -- ALLOWLISTED (unreachable): a debugging helper without callers; no fmt verb ever receives a Performance
  ("lib/journal/journal.go", "Performance.String", "maprange", "d", "over map[*commodity.Commodity]float64; call:fmt.Fprintf h=4f787498"),
  -- ALLOWLISTED (unreachable): a debugging helper without callers; no fmt verb ever receives a Performance
  ("lib/journal/journal.go", "Performance.String", "maprange", "d", "over map[*commodity.Commodity]float64; call:fmt.Fprintf h=4f787498"),
  -- ALLOWLISTED (unreachable): a debugging helper without callers; no fmt verb ever receives a Performance
  ("lib/journal/journal.go", "Performance.String", "maprange", "d", "over map[*commodity.Commodity]float64; call:fmt.Fprintf h=4f787498"),
  -- ALLOWLISTED (unreachable): a debugging helper without callers; no fmt verb ever receives a Performance
  ("lib/journal/journal.go", "Performance.String", "maprange", "d", "over map[*commodity.Commodity]float64; call:fmt.Fprintf h=4f787498")
]
theorem census_lib_journal_journal_go : Census.lib_journal_journal_go = lib_journal_journal_go := rfl

/-- `lib/journal/performance/performance.go` -/
def lib_journal_performance_performance_go : List Site := [
  -- over the postings of ONE transaction in their fixed order; across the transactions of a day the cells of Inflow/Outflow receive their addends in the day's transaction order = file arrival order (known finding returns-ill-conditioned-period-float-sum-in-arrival-order)
  ("lib/journal/performance/performance.go", "Calculator.ComputeFlows", "floatacc", "s", "+= element in range"),
  -- over the postings of ONE transaction in their fixed order; across the transactions of a day the cells of Inflow/Outflow receive their addends in the day's transaction order = file arrival order (known finding returns-ill-conditioned-period-float-sum-in-arrival-order)
  ("lib/journal/performance/performance.go", "Calculator.ComputeFlows", "floatacc", "s", "+= element in range"),
  -- over the postings of ONE transaction in their fixed order; across the transactions of a day the cells of Inflow/Outflow receive their addends in the day's transaction order = file arrival order (known finding returns-ill-conditioned-period-float-sum-in-arrival-order)
  ("lib/journal/performance/performance.go", "Calculator.ComputeFlows", "floatacc", "s", "-= element in range"),
  -- portfolioFlows over the day's transactions in arrival order (same known finding)
  ("lib/journal/performance/performance.go", "Calculator.ComputeFlows", "floatacc", "s", "-= var in range"),
  -- ALLOWLISTED (irrelevant): see the map range
  ("lib/journal/performance/performance.go", "Calculator.ComputeValues", "floatacc", "d", "+= element in maprange"),
  -- class a: TransPerformance.ComputeValues_range_agrees / ComputeValues_DayEnd_agrees (every iteration order); the keys of `values` are CommodityKey(c) only, so every float cell of the fresh map gets exactly one addend
  ("lib/journal/performance/performance.go", "Calculator.ComputeValues", "maprange", "d", "over amounts.Amounts; float+=,write-through-expression h=a5f485a1"),
  -- running product over the days in date order (the days are sorted; cpr.Seq keeps the order: C19)
  ("lib/journal/performance/performance.go", "Perf", "floatacc", "s", "*= var in closure"),
  -- one addend each (v0 += sum(...))
  ("lib/journal/performance/performance.go", "Performance", "floatacc", "s", "+= var in straight"),
  -- one addend each (v0 += sum(...))
  ("lib/journal/performance/performance.go", "Performance", "floatacc", "s", "+= var in straight"),
  -- one addend each (v0 += sum(...))
  ("lib/journal/performance/performance.go", "Performance", "floatacc", "s", "+= var in straight"),
  -- one addend each (v0 += sum(...))
  ("lib/journal/performance/performance.go", "Performance", "floatacc", "s", "+= var in straight"),
  -- ALLOWLISTED (irrelevant): see the map range
  ("lib/journal/performance/performance.go", "split", "floatacc", "d", "+= element in maprange"),
  -- ALLOWLISTED (irrelevant): see the map range
  ("lib/journal/performance/performance.go", "split", "floatacc", "d", "+= element in maprange"),
  -- class a: TransPerformanceFlows.split_agrees (every iteration order that lists each key once: the positive flows go to `in`, the negative ones to `out`); the cells are indexed by the loop's own key: one addend per cell and call
  ("lib/journal/performance/performance.go", "split", "maprange", "d", "over map[*commodity.Commodity]float64; float+=,write-through-expression h=d1f0968f"),
  -- over the keys sorted by name (fix 6606650): fixed order
  ("lib/journal/performance/performance.go", "sum", "floatacc", "s", "+= var in range"),
  -- commodity.Compare is total on interned commodities
  ("lib/journal/performance/performance.go", "sum", "sortcall", "b", "dict.SortedKeys by commodity.Compare")
]
theorem census_lib_journal_performance_performance_go : Census.lib_journal_performance_performance_go = lib_journal_performance_performance_go := rfl

/-- `lib/journal/performance/universe.go` -/
def lib_journal_performance_universe_go : List Site := [
  -- ALLOWLISTED (irrelevant): a commodity listed twice is an ERROR whichever class is seen first (C06-e turns that into first-arrival-wins); otherwise every commodity is written once
  ("lib/journal/performance/universe.go", "fromYAML", "maprange", "d", "over performance.yamlUniverseFile; append,call:commodity.Registry.Get,reads-what-the-loop-writes,return h=043f90dd")
]
theorem census_lib_journal_performance_universe_go : Census.lib_journal_performance_universe_go = lib_journal_performance_universe_go := rfl

/-- `lib/journal/process.go` -/
def lib_journal_process_go : List Site := [
  -- class a: TransProcess.Close_range_agrees / CloseAccounts_day_agrees (closing transactions in the order of the keys; sorted by the Sort stage, summed by the reports)
  ("lib/journal/process.go", "CloseAccounts", "maprange", "d", "over amounts.Amounts; append h=aae72965"),
  -- the Sort stage: a day's transactions by transaction.Compare = cmpTx. GAP found by the review (reported, see design/06-C06.md): Compare does not look at Targets (`@performance`), so same-day transactions of different files that differ only there tie and `print` shows them in arrival order
  ("lib/journal/process.go", "Sort", "sort", "-", "compare.Sort by transaction.Compare"),
  -- class a: TransProcess.DayStart_range_agrees / Valuate_DayStart_agrees (adjustment transactions in the order of the keys, for every order; sorted by the Sort stage, summed by the reports)
  ("lib/journal/process.go", "Valuate", "maprange", "d", "over amounts.Amounts; append,call:account.Registry.ValuationAccountFor,return h=59989ba6")
]
theorem census_lib_journal_process_go : Census.lib_journal_process_go = lib_journal_process_go := rfl

/-- `lib/model/account/registry.go` -/
def lib_model_account_registry_go : List Site := [
  -- ALLOWLISTED (irrelevant): creates the five type accounts, each under its own name
  ("lib/model/account/registry.go", "NewRegistry", "maprange", "d", "over map[string]account.Type; call:account.Registry.Get h=733eecfd")
]
theorem census_lib_model_account_registry_go : Census.lib_model_account_registry_go = lib_model_account_registry_go := rfl

/-- `lib/model/price/prices.go` -/
def lib_model_price_prices_go : List Site := [
  -- neighbours in name order (C06-a reverts this): TransPrice.normalize_loop_agrees; C12 normalize invariance
  ("lib/model/price/prices.go", "Prices.normalize", "sortcall", "b", "dict.SortedKeys by commodity.Compare")
]
theorem census_lib_model_price_prices_go : Census.lib_model_price_prices_go = lib_model_price_prices_go := rfl

/-- `lib/reports/balance/renderer.go` -/
def lib_reports_balance_renderer_go : List Site := [
  -- ALLOWLISTED (irrelevant): the mapper handed to Totals (→ PostOrder → SumIntoBy, run in map order) is KeyMapper{Date: Identity, Commodity: IdentityIf(b)}.Build(): a pure function of the key (TransAmountsSum.KeyMapper_Build_agrees, TransReportTotals.mfR_Build)
  ("lib/reports/balance/renderer.go", "Renderer.Render", "mapcallback", "d", "balance.Report.Totals with #b6a538bd"),
  -- ALLOWLISTED (irrelevant): the same mapper handed to SumBy; TransAmountsSum.SumBy_agrees holds for every order
  ("lib/reports/balance/renderer.go", "Renderer.renderNode", "mapcallback", "d", "amounts.Amounts.SumBy with #7340a964")
]
theorem census_lib_reports_balance_renderer_go : Census.lib_reports_balance_renderer_go = lib_reports_balance_renderer_go := rfl

/-- `lib/reports/balance/report.go` -/
def lib_reports_balance_report_go : List Site := [
  -- children by segment: total on siblings (distinct segments); C06Report.rows_order_perm
  ("lib/reports/balance/report.go", "Report.SortAlpha", "sortcall", "b", "multimap.Node.Sort by local{#7e61bf03}"),
  -- children by segment: total on siblings (distinct segments); C06Report.rows_order_perm
  ("lib/reports/balance/report.go", "Report.SortAlpha", "sortcall", "b", "multimap.Node.Sort by local{#7e61bf03}"),
  -- class a: the filter `k.Valuation != nil` handed to SumOver is pure (TransAmountsSum.SumOver_agrees: every order)
  ("lib/reports/balance/report.go", "Report.SortWeighted", "mapcallback", "d", "amounts.Amounts.SumOver with a function literal; return h=e3490b2d"),
  -- class a: computeWeights run in post-order over AL (children of every node in map order: MNode.postOrder takes the order per path); it writes the visited node's Weight from exact decimals
  ("lib/reports/balance/report.go", "Report.SortWeighted", "mapcallback", "d", "multimap.Node.PostOrder with a function literal; assign,call:amounts.Amounts.SumOver,write-through-local-reference h=99d77b96"),
  -- class a: the same over EIE
  ("lib/reports/balance/report.go", "Report.SortWeighted", "mapcallback", "d", "multimap.Node.PostOrder with a function literal; assign,call:amounts.Amounts.SumOver,write-through-local-reference h=99d77b96"),
  -- class a: TransReportSort.SortWeighted_agrees (every order of every node's amounts and children: the model's weights, then sorted by the code's comparator); the weights are exact decimals added up: C06_comm_fold_oracle_irrelevant
  ("lib/reports/balance/report.go", "Report.SortWeighted", "maprange", "c", "over map[string]*multimap.Node[balance.Value]; dec.Add"),
  -- (type at level 1, weight, segment): total on siblings; C06Report.rows_order_perm, table_perm (needs accounts that start with a type name: table_perm_needs_wf)
  ("lib/reports/balance/report.go", "Report.SortWeighted", "sortcall", "b", "multimap.Node.Sort by local{#7080b596}"),
  -- (type at level 1, weight, segment): total on siblings; C06Report.rows_order_perm, table_perm (needs accounts that start with a type name: table_perm_needs_wf)
  ("lib/reports/balance/report.go", "Report.SortWeighted", "sortcall", "b", "multimap.Node.Sort by local{#7080b596}"),
  -- class a: TransReportTotals.Totals_agrees (every iteration order of every node's amounts and children): the closure sums the node's amounts into the AL total
  ("lib/reports/balance/report.go", "Report.Totals", "mapcallback", "d", "multimap.Node.PostOrder with a function literal; call:amounts.Amounts.SumIntoBy h=b6dc443e"),
  -- class a: the same for EIE
  ("lib/reports/balance/report.go", "Report.Totals", "mapcallback", "d", "multimap.Node.PostOrder with a function literal; call:amounts.Amounts.SumIntoBy h=b6dc443e"),
  -- ALLOWLISTED (irrelevant): first child in map order whose account is below level 1 decides, but every child's account has the node's path as its parent, so all candidates are the same registry account
  ("lib/reports/balance/report.go", "setAccounts", "maprange", "d", "over map[string]*multimap.Node[balance.Value]; assign,call:balance.setAccounts,reads-what-the-loop-writes h=195dfa7d")
]
theorem census_lib_reports_balance_report_go : Census.lib_reports_balance_report_go = lib_reports_balance_report_go := rfl

/-- `lib/reports/register/register.go` -/
def lib_reports_register_register_go : List Site := [
  -- dates: total
  ("lib/reports/register/register.go", "Renderer.Render", "sortcall", "b", "dict.SortedKeys by compare.Time"),
  -- fix e77962c: the comparator is extended by every displayed column, so tied keys print the same row
  ("lib/reports/register/register.go", "Renderer.renderNode", "sortcall", "b", "amounts.Amounts.Index by local{compareAccountAndCommodities | compareAccount | compare.Combine(·, compareSource) | compare.Combine(·, compareDescription)}")
]
theorem census_lib_reports_register_register_go : Census.lib_reports_register_register_go = lib_reports_register_register_go := rfl

/-- `lib/reports/weights/weights.go` -/
def lib_reports_weights_weights_go : List Site := [
  -- the day's total over the commodities in name order (fix 19865c1): fixed order
  ("lib/reports/weights/weights.go", "Query.Execute", "floatacc", "s", "+= var in range"),
  -- fix 19865c1 (known finding weights-float-sum-in-map-order, fixed): commodity.Compare is total on interned commodities
  ("lib/reports/weights/weights.go", "Query.Execute", "sortcall", "b", "dict.SortedKeys by commodity.Compare"),
  -- fix 54048cb (second part of the same finding): r.Add adds the weights of commodities that a mapping collapses into one node in name order
  ("lib/reports/weights/weights.go", "Query.Execute", "sortcall", "b", "dict.SortedKeys by commodity.Compare"),
  -- -a: children by segment, total on siblings
  ("lib/reports/weights/weights.go", "Renderer.Render", "sortcall", "b", "multimap.Node.Sort by multimap.SortAlpha"),
  -- dates: total
  ("lib/reports/weights/weights.go", "Renderer.Render", "sortcall", "b", "set.Set.Sorted by compare.Time"),
  -- called from the map range of Query.Execute (see there)
  ("lib/reports/weights/weights.go", "Report.Add", "floatacc", "s", "+= element in straight"),
  -- ALLOWLISTED (irrelevant): see the map range
  ("lib/reports/weights/weights.go", "Report.PropagateWeights", "floatacc", "d", "+= element in maprange"),
  -- ALLOWLISTED (irrelevant): the closure writes only the visited node's Weights, from its children (complete in post-order, taken in name order); siblings are independent
  ("lib/reports/weights/weights.go", "Report.PropagateWeights", "mapcallback", "d", "multimap.Node.PostOrder with a function literal; assign,call:dict.SortedKeys,float+=,write-through-local-reference h=07a58be6"),
  -- ALLOWLISTED (irrelevant): the parent's cell of the loop's own key (the date) gets one addend per child, and the children come in name order (fix 19865c1)
  ("lib/reports/weights/weights.go", "Report.PropagateWeights", "maprange", "d", "over map[time.Time]float64; float+= h=1e0e5819"),
  -- fix 19865c1: children in name order; strings: total
  ("lib/reports/weights/weights.go", "Report.PropagateWeights", "sortcall", "b", "dict.SortedKeys by compare.Ordered[string]"),
  -- over the dates in ascending order (fix 19865c1): fixed order
  ("lib/reports/weights/weights.go", "Report.SortWeighted", "floatacc", "s", "+= var in range"),
  -- ALLOWLISTED (irrelevant): the closure writes only the visited node's Weight, from its own Weights in date order
  ("lib/reports/weights/weights.go", "Report.SortWeighted", "mapcallback", "d", "multimap.Node.PostOrder with a function literal; assign,call:dict.SortedKeys,write-through-local-reference h=a3074081"),
  -- fix 19865c1; compare.Time is total
  ("lib/reports/weights/weights.go", "Report.SortWeighted", "sortcall", "b", "dict.SortedKeys by compare.Time"),
  -- (weight, segment) with weights compared exactly: total on siblings
  ("lib/reports/weights/weights.go", "Report.SortWeighted", "sortcall", "b", "multimap.Node.Sort by #524849c8")
]
theorem census_lib_reports_weights_weights_go : Census.lib_reports_weights_weights_go = lib_reports_weights_weights_go := rfl

/-- `lib/syntax/bayes/bayes.go` -/
def lib_syntax_bayes_bayes_go : List Site := [
  -- candidates in name order, first maximum wins: total
  ("lib/syntax/bayes/bayes.go", "Model.inferAccount", "sortcall", "b", "dict.SortedKeys by compare.Ordered[string]"),
  -- over the tokens in sorted order: fixed
  ("lib/syntax/bayes/bayes.go", "Model.scoreCandidate", "floatacc", "s", "+= var in range"),
  -- over the tokens in sorted order: fixed
  ("lib/syntax/bayes/bayes.go", "Model.scoreCandidate", "floatacc", "s", "+= var in range"),
  -- tokens are strings: total
  ("lib/syntax/bayes/bayes.go", "Model.scoreCandidate", "sortcall", "b", "dict.SortedKeys by compare.Ordered[token]"),
  -- ALLOWLISTED (irrelevant): one integer counter per (token, account) is incremented; the tokens of a set are pairwise different (C06_comm_fold_oracle_irrelevant; the same argument makes the model independent of the arrival order of the training files)
  ("lib/syntax/bayes/bayes.go", "Model.update", "maprange", "d", "over set.Set[bayes.token]; int+=,write-through-expression h=df28d4e3")
]
theorem census_lib_syntax_bayes_bayes_go : Census.lib_syntax_bayes_bayes_go = lib_syntax_bayes_bayes_go := rfl

/-- the files that have such sites, with the number of sites of each: a site in any other file, or one more or less in
one of these, fails here (`harness extract` prints the site as `census-new-site C06 <file>:<function>: …`) -/
theorem census_files_and_counts : Census.files = [
  ("cmd/commands/fetch.go", 3),
  ("cmd/importer/revolut2/revolut2.go", 1),
  ("lib/amounts/amounts.go", 12),
  ("lib/common/compare/compare.go", 1),
  ("lib/common/cpr/hook_verif.go", 4),
  ("lib/common/date/date.go", 1),
  ("lib/common/dict/dict.go", 6),
  ("lib/common/multimap/multimap.go", 4),
  ("lib/common/set/set.go", 3),
  ("lib/journal/beancount/beancount.go", 1),
  ("lib/journal/check/check.go", 3),
  ("lib/journal/journal.go", 7),
  ("lib/journal/performance/performance.go", 16),
  ("lib/journal/performance/universe.go", 1),
  ("lib/journal/process.go", 3),
  ("lib/model/account/registry.go", 1),
  ("lib/model/price/prices.go", 1),
  ("lib/reports/balance/renderer.go", 2),
  ("lib/reports/balance/report.go", 11),
  ("lib/reports/register/register.go", 2),
  ("lib/reports/weights/weights.go", 14),
  ("lib/syntax/bayes/bayes.go", 5)
] := rfl

-- ALLOWLIST-SECTION (the tables above are what `harness extract` compares with; below, the class-d sites again, with verdict, reason, covering theorem)

structure Allowed where
  site : Site
  /-- `irrelevant`: the order cannot change the result; `unreachable`: no path to standard output; `finding`: a genuine defect (recorded);
      `translated`: the site lies in a function of `Census.translated` (class a) and the named agreement theorem quantifies over the order -/
  verdict : String
  reason : String
  /-- the theorem of Properties/C06*.lean whose shape this is -/
  cover : String

def allowlist : List Allowed := [
  ⟨("cmd/commands/fetch.go", "fetchRunner.writeFile", "maprange", "d", "over map[time.Time]*price.Price; call:journal.Builder.Add h=858a3c3a"),
   "irrelevant", "the map is keyed by date and Builder.Add puts every price into the day of its own date; the file is printed from the days sorted by date",
   "C06_journal_deterministic"⟩,
  ⟨("lib/amounts/amounts.go", "Amounts.SumIntoBy", "maprange", "d", "over amounts.Amounts; dec.Add,call:value h=0e5d1e16"),
   "translated", "TransAmountsSum.SumIntoBy_agrees: for every permutation of the keys every lookup is dest[x] + the sum of am[k] over the keys that pred accepts and mapr sends to x; pred and mapr are the callers' functions (their `mapcallback` sites)",
   "C06_sum_oracle_irrelevant"⟩,
  ⟨("lib/amounts/amounts.go", "Amounts.SumOver", "maprange", "d", "over amounts.Amounts; dec.Add,call:value h=3839e290"),
   "translated", "TransAmountsSum.SumOver_agrees: the filtered sum, for every permutation of the keys; pred is the caller's function (`mapcallback` site)",
   "C06_sum_oracle_irrelevant"⟩,
  ⟨("lib/common/dict/dict.go", "Keys", "maprange", "d", "over map[K]V; append unsorted h=a6ce1bcd"),
   "irrelevant", "hands out map order; every call is a site of its own: SortedKeys sorts at once with the caller's comparator",
   "C06_sort_oracle_irrelevant"⟩,
  ⟨("lib/common/dict/dict.go", "Values", "maprange", "d", "over map[K]V; append unsorted h=a6ce1bcd"),
   "irrelevant", "hands out map order; every call is a site of its own: SortedValues sorts at once with the caller's comparator",
   "C06_sort_oracle_irrelevant"⟩,
  ⟨("lib/common/multimap/multimap.go", "Node.PostOrder", "maprange", "d", "over map[string]*multimap.Node[V]; call:multimap.Node.PostOrder h=29297716"),
   "irrelevant", "visits the children in map order and calls the caller's closure: pinned by source text in the translator, MNode.postOrder takes every node's order of children as a parameter; the closures are sites of the callers (balance Totals: TransReportTotals.Totals_agrees for every order)",
   "C06_comm_fold_oracle_irrelevant"⟩,
  ⟨("lib/common/multimap/multimap.go", "Node.Sort", "maprange", "d", "over map[string]*multimap.Node[V]; call:multimap.Node.Sort h=0c5d30ff"),
   "irrelevant", "sorts the subtree of every child; the recursive calls write disjoint nodes",
   "C06_comm_fold_oracle_irrelevant"⟩,
  ⟨("lib/common/set/set.go", "Set.Slice", "maprange", "d", "over set.Set[T]; append unsorted h=a6ce1bcd"),
   "irrelevant", "hands out map order; its only caller Set.Sorted sorts at once with the caller's comparator",
   "C06_sort_oracle_irrelevant"⟩,
  ⟨("lib/journal/check/check.go", "Checker.close", "maprange", "d", "over amounts.Amounts; delete[k],return h=38c580c5"),
   "translated", "TransCheck.close_agrees: for every order that reaches all keys the account is rejected iff one of its positions is not zero (close_loop_error / close_loop_ok); which position the message names goes to stderr",
   "C06_comm_fold_oracle_irrelevant"⟩,
  ⟨("lib/journal/journal.go", "Performance.String", "maprange", "d", "over map[*commodity.Commodity]float64; call:fmt.Fprintf h=4f787498"),
   "unreachable", "debugging helper without callers; no fmt verb receives a Performance",
   "-"⟩,
  ⟨("lib/journal/journal.go", "Performance.String", "maprange", "d", "over map[*commodity.Commodity]float64; call:fmt.Fprintf h=4f787498"),
   "unreachable", "debugging helper without callers; no fmt verb receives a Performance",
   "-"⟩,
  ⟨("lib/journal/journal.go", "Performance.String", "maprange", "d", "over map[*commodity.Commodity]float64; call:fmt.Fprintf h=4f787498"),
   "unreachable", "debugging helper without callers; no fmt verb receives a Performance",
   "-"⟩,
  ⟨("lib/journal/journal.go", "Performance.String", "maprange", "d", "over map[*commodity.Commodity]float64; call:fmt.Fprintf h=4f787498"),
   "unreachable", "debugging helper without callers; no fmt verb receives a Performance",
   "-"⟩,
  ⟨("lib/journal/journal.go", "Performance.String", "maprange", "d", "over map[*commodity.Commodity]float64; call:fmt.Fprintf h=4f787498"),
   "unreachable", "debugging helper without callers; no fmt verb receives a Performance",
   "-"⟩,
  ⟨("lib/journal/journal.go", "Performance.String", "maprange", "d", "over map[*commodity.Commodity]float64; call:fmt.Fprintf h=4f787498"),
   "unreachable", "debugging helper without callers; no fmt verb receives a Performance",
   "-"⟩,
  ⟨("lib/journal/performance/performance.go", "Calculator.ComputeValues", "floatacc", "d", "+= element in maprange"),
   "irrelevant", "the keys of values are CommodityKey(c) only, so k -> k.Commodity is injective: every float cell of the fresh map gets exactly one addend",
   "C06_comm_fold_oracle_irrelevant"⟩,
  ⟨("lib/journal/performance/performance.go", "Calculator.ComputeValues", "maprange", "d", "over amounts.Amounts; float+=,write-through-expression h=a5f485a1"),
   "translated", "TransPerformance.ComputeValues_range_agrees / ComputeValues_DayEnd_agrees for every iteration order; the keys of values are CommodityKey(c) only, so every float cell of the fresh map gets exactly one addend",
   "C06_comm_fold_oracle_irrelevant"⟩,
  ⟨("lib/journal/performance/performance.go", "split", "floatacc", "d", "+= element in maprange"),
   "irrelevant", "the cells are indexed by the loop's own key: one addend per cell and call",
   "C06_comm_fold_oracle_irrelevant"⟩,
  ⟨("lib/journal/performance/performance.go", "split", "floatacc", "d", "+= element in maprange"),
   "irrelevant", "the cells are indexed by the loop's own key: one addend per cell and call",
   "C06_comm_fold_oracle_irrelevant"⟩,
  ⟨("lib/journal/performance/performance.go", "split", "maprange", "d", "over map[*commodity.Commodity]float64; float+=,write-through-expression h=d1f0968f"),
   "translated", "Generated.TransPerformance.split takes the order (agreement theorem pending, TransPerformance part 1); the cells are indexed by the loop's own key: one addend per cell and call",
   "C06_comm_fold_oracle_irrelevant"⟩,
  ⟨("lib/journal/performance/universe.go", "fromYAML", "maprange", "d", "over performance.yamlUniverseFile; append,call:commodity.Registry.Get,reads-what-the-loop-writes,return h=043f90dd"),
   "irrelevant", "a commodity listed twice is an error whichever class is met first (exit status and stdout do not depend on the order; the message on stderr names the commodity); otherwise every commodity is written once under its own key; Registry.Get is get-or-create",
   "C06_comm_fold_oracle_irrelevant"⟩,
  ⟨("lib/journal/process.go", "CloseAccounts", "maprange", "d", "over amounts.Amounts; append h=aae72965"),
   "translated", "TransProcess.Close_range_agrees / CloseAccounts_day_agrees: the closing transactions are appended in the order of the keys, for every order; the day's transactions are sorted by the Sort stage (print, register, transcode) or summed (balance)",
   "C06_sorted_fold_oracle_irrelevant"⟩,
  ⟨("lib/journal/process.go", "Valuate", "maprange", "d", "over amounts.Amounts; append,call:account.Registry.ValuationAccountFor,return h=59989ba6"),
   "translated", "TransProcess.DayStart_range_agrees / Valuate_DayStart_agrees: the adjustment transactions are appended in the order of the keys, for every order; sorted by the Sort stage or summed; a missing price is an error whichever position meets it first",
   "C06_sorted_fold_oracle_irrelevant"⟩,
  ⟨("lib/model/account/registry.go", "NewRegistry", "maprange", "d", "over map[string]account.Type; call:account.Registry.Get h=733eecfd"),
   "irrelevant", "creates the five type accounts, each under its own name",
   "C06_comm_fold_oracle_irrelevant"⟩,
  ⟨("lib/reports/balance/renderer.go", "Renderer.Render", "mapcallback", "d", "balance.Report.Totals with #b6a538bd"),
   "irrelevant", "the mapper handed to Totals (run in map order by PostOrder and SumIntoBy) is KeyMapper{Date: Identity, Commodity: IdentityIf(b)}.Build(), a pure function of the key (TransAmountsSum.KeyMapper_Build_agrees, TransReportTotals.mfR_Build, Totals_agrees for every order)",
   "C06_report_cells_deterministic"⟩,
  ⟨("lib/reports/balance/renderer.go", "Renderer.renderNode", "mapcallback", "d", "amounts.Amounts.SumBy with #7340a964"),
   "irrelevant", "the same pure mapper handed to SumBy (TransAmountsSum.SumBy_agrees for every order)",
   "C06_report_cells_deterministic"⟩,
  ⟨("lib/reports/balance/report.go", "Report.SortWeighted", "mapcallback", "d", "amounts.Amounts.SumOver with a function literal; return h=e3490b2d"),
   "translated", "the filter k.Valuation != nil handed to SumOver is pure (TransAmountsSum.SumOver_agrees for every order)",
   "C06_sum_oracle_irrelevant"⟩,
  ⟨("lib/reports/balance/report.go", "Report.SortWeighted", "mapcallback", "d", "multimap.Node.PostOrder with a function literal; assign,call:amounts.Amounts.SumOver,write-through-local-reference h=99d77b96"),
   "translated", "the filter k.Valuation != nil handed to SumOver is pure (TransAmountsSum.SumOver_agrees for every order)",
   "C06_sum_oracle_irrelevant"⟩,
  ⟨("lib/reports/balance/report.go", "Report.SortWeighted", "mapcallback", "d", "multimap.Node.PostOrder with a function literal; assign,call:amounts.Amounts.SumOver,write-through-local-reference h=99d77b96"),
   "translated", "the filter k.Valuation != nil handed to SumOver is pure (TransAmountsSum.SumOver_agrees for every order)",
   "C06_sum_oracle_irrelevant"⟩,
  ⟨("lib/reports/balance/report.go", "Report.Totals", "mapcallback", "d", "multimap.Node.PostOrder with a function literal; call:amounts.Amounts.SumIntoBy h=b6dc443e"),
   "translated", "TransReportTotals.Totals_agrees: for every iteration order of every node's amounts and children each total holds per key the sum of the inserted amounts of its section",
   "C06_report_cells_deterministic"⟩,
  ⟨("lib/reports/balance/report.go", "Report.Totals", "mapcallback", "d", "multimap.Node.PostOrder with a function literal; call:amounts.Amounts.SumIntoBy h=b6dc443e"),
   "translated", "TransReportTotals.Totals_agrees: for every iteration order of every node's amounts and children each total holds per key the sum of the inserted amounts of its section",
   "C06_report_cells_deterministic"⟩,
  ⟨("lib/reports/balance/report.go", "setAccounts", "maprange", "d", "over map[string]*multimap.Node[balance.Value]; assign,call:balance.setAccounts,reads-what-the-loop-writes h=195dfa7d"),
   "irrelevant", "the first child in map order whose account is below level 1 decides, but every child's account has this node's path as its parent, so every candidate is the same registry account",
   "C06Report.table_perm"⟩,
  ⟨("lib/reports/weights/weights.go", "Report.PropagateWeights", "floatacc", "d", "+= element in maprange"),
   "irrelevant", "the parent's cell of the loop's own key (the date) gets one addend per child; the children come in name order since fix 19865c1",
   "C06_sorted_fold_oracle_irrelevant"⟩,
  ⟨("lib/reports/weights/weights.go", "Report.PropagateWeights", "mapcallback", "d", "multimap.Node.PostOrder with a function literal; assign,call:dict.SortedKeys,float+=,write-through-local-reference h=07a58be6"),
   "irrelevant", "the closure PostOrder runs (siblings in map order) writes only the visited node's Weights, from its children, which post-order has completed and which are taken in name order",
   "C06_comm_fold_oracle_irrelevant"⟩,
  ⟨("lib/reports/weights/weights.go", "Report.PropagateWeights", "maprange", "d", "over map[time.Time]float64; float+= h=1e0e5819"),
   "irrelevant", "the parent's cell of the loop's own key (the date) gets one addend per child; the children come in name order since fix 19865c1",
   "C06_sorted_fold_oracle_irrelevant"⟩,
  ⟨("lib/reports/weights/weights.go", "Report.SortWeighted", "mapcallback", "d", "multimap.Node.PostOrder with a function literal; assign,call:dict.SortedKeys,write-through-local-reference h=a3074081"),
   "irrelevant", "the closure writes only the visited node's Weight, the sum of its own Weights in date order",
   "C06_comm_fold_oracle_irrelevant"⟩,
  ⟨("lib/syntax/bayes/bayes.go", "Model.update", "maprange", "d", "over set.Set[bayes.token]; int+=,write-through-expression h=df28d4e3"),
   "irrelevant", "one integer counter per (token, account) is incremented; the tokens of a set are pairwise different",
   "C06_comm_fold_oracle_irrelevant"⟩
]

/-- every site that is not mechanically classified as harmless is in the reviewed allowlist, and nothing else is -/
theorem classD_is_the_allowlist : Census.classD = allowlist.map (·.site) := rfl

theorem allowlist_verdicts : allowlist.all (fun a => ["irrelevant", "unreachable", "finding", "translated"].contains a.verdict) = true := by decide

/-- class a: every site whose verdict relies on the translator lies in a function that the translator still covers with the iteration
order as an explicit parameter (`Census.translated` is regenerated from Generated/Trans.lean on every run; it may GROW without a change here) -/
theorem translated_still_covers :
    (allowlist.filter (·.verdict == "translated")).all (fun a => Census.translated.contains (a.site.1, a.site.2.1)) = true := by decide

/-- the class-c sites (commutative accumulation, recognised mechanically) that the review also ties to an agreement theorem of the translator -/
def alsoTranslated : List (String × String) := [
  ("lib/amounts/amounts.go", "Amounts.Clone"), ("lib/amounts/amounts.go", "Amounts.Commodities"), ("lib/amounts/amounts.go", "Amounts.Dates"),
  ("lib/amounts/amounts.go", "Amounts.Minus"), ("lib/amounts/amounts.go", "Amounts.Plus"), ("lib/amounts/amounts.go", "Amounts.SumIntoBy"),
  ("lib/reports/balance/report.go", "Report.SortWeighted")]
theorem alsoTranslated_still_covered : alsoTranslated.all (fun x => Census.translated.contains x) = true := by decide

/-- the OPEN findings among the class-d sites (function, kind): order-dependent and reaching standard output, not claimed harmless.
None at /repo 54048cb: the review found `weights-float-sum-in-map-order` (portfolio weights: float sums in map order in Query.Execute,
PropagateWeights and SortWeighted made rows of equal weight swap from run to run), repaired by 19865c1 and 54048cb; those sites are now
`sortcall` sites over dict.SortedKeys. -/
theorem open_findings : (allowlist.filter (·.verdict == "finding")).map (fun a => (a.site.2.1, a.site.2.2.1)) =
    [] := by decide

/-- **known findings that hang on sites which are not class d** (a sort whose comparator is not total on what is printed, a float sum
over a slice that is in arrival order): (site, key of known_findings.jsonl).  The verdict of these sites is `finding`, not a claim of
harmlessness; the site has to be in the census still — when it changes (for instance because /repo repaired it), this list has to
be looked at again. -/
def siteFindings : List (Site × String) := [
  -- transaction.Compare does not look at Targets: same-day transactions of different files that differ only there tie, `print` shows them in arrival order
  (("lib/journal/process.go", "Sort", "sort", "-", "compare.Sort by transaction.Compare"),
   "print-same-day-transactions-differing-only-in-targets-in-arrival-order"),
  -- portfolio returns has no Sort stage: the day's flows are added in float64 in the arrival order of the day's transactions
  (("lib/journal/performance/performance.go", "Calculator.ComputeFlows", "floatacc", "s", "-= var in range"),
   "returns-ill-conditioned-period-float-sum-in-arrival-order"),
  (("lib/journal/performance/performance.go", "Calculator.ComputeFlows", "floatacc", "s", "+= element in range"),
   "returns-ill-conditioned-period-float-sum-in-arrival-order")]

theorem siteFindings_in_census : siteFindings.all (fun x => Census.all.contains x.1) = true := by decide +kernel

/-- no map range is left unclassified for want of a type -/
theorem no_untyped_range : (Census.classD.filter (fun s => s.2.2.1 == "range?")) = [] := by decide

end Knut.FactsAgree.C06
