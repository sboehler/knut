import Knut.Generated.Facts
/-! The COMMAND SURFACE of the two commands that write formatted journals, `knut format` (`cmd/commands/format.go`) and
`knut infer` (`cmd/commands/infer.go`), extracted from the sources on every run (`harness/facts_c08.go` says how the flags are
read off the syntax trees), is the reviewed one: the surface against which the C08 streams `cli`, `flags` and `flags-infer`
were written and for which `Model/…formatFile` (parse; on an error nothing is written; otherwise the whole formatted buffer
replaces the file) describes everything the command can do.

* `format` has NO flags and takes any number of files: `formatFile` is the whole command, once per argument.
* `infer` has `--account`, `-a` (string, default `Expenses:TBD`), `--inplace`, `-i` (bool), `--training-file`, `-t` (string, required) and
  exactly one argument.
* no command under `cmd/` defines persistent flags, so none is inherited.

A flag added to either command (or a helper that is handed the `*cobra.Command`, entry type `delegated`) breaks this module and
is reported by name (`census-new-site C08 …`).  The stream `flags` explores such a flag at once - all subsets of up to three of
the boolean flags `--help` offers, judged by the property's predicates on what is on disk afterwards - but what the flag is
meant to do, and hence whether the model still describes the command, has to be reviewed: then this expectation (and its
mirror `c08ReviewedFlags` in `harness/facts_c08.go`) is updated. -/
namespace Knut.FactsAgree.C08

/-- (name, shorthand, type, default as written in the source, "required" or "") -/
abbrev Flag := String × String × String × String × String

def reviewedFormatFlags : List Flag := []

def reviewedInferFlags : List Flag :=
  [("account", "a", "string", "\"Expenses:TBD\"", ""),
   ("inplace", "i", "bool", "false", ""),
   ("training-file", "t", "string", "\"\"", "required")]

theorem format_flags : Generated.c08FormatFlags = reviewedFormatFlags := rfl
theorem format_args : Generated.c08FormatArgs = "" := rfl
theorem infer_flags : Generated.c08InferFlags = reviewedInferFlags := rfl
theorem infer_args : Generated.c08InferArgs = "cobra.MatchAll(cobra.ExactArgs(1), cobra.OnlyValidArgs)" := rfl
theorem no_persistent_flags : Generated.c08PersistentFlagSites = 0 := rfl

/-- the surface of the seeded change C08-i (gofmt-style `--list`, `--diff`, `--write`) is not the reviewed one -/
example : ([("diff", "d", "bool", "false", ""), ("list", "l", "bool", "false", ""), ("write", "w", "bool", "false", "")] : List Flag)
    ≠ reviewedFormatFlags := by decide

end Knut.FactsAgree.C08
