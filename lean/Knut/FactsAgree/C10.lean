import Knut.Generated.Facts
import Knut.Model.Accrual
/-! The constants extracted from `lib/model/transaction/transaction.go` and the parser on every run
agree with what the accrual model assumes. -/
namespace Knut.FactsAgree.C10
open Knut

/-- `amount, rem := p.Quantity.QuoRem(n, 1)` -/
theorem quoRem_precision : Generated.accrualQuoRemPrecision = Accrual.quoRemPlaces := rfl
/-- the intervals the parser admits after `@accrue` -/
theorem interval_domain : Generated.intervalKeywords = ["daily", "weekly", "monthly", "quarterly"] := rfl
theorem addon_keywords : Generated.addonKeywords = ["@performance", "@accrue"] := rfl

end Knut.FactsAgree.C10
