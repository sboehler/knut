import Knut.Generated.Facts
/-! Structural facts extracted from `cmd/commands/*.go` and `lib/syntax/syntax.go` on every run agree with what the
C14 model assumes (`harness/facts_c14.go` says how they are read off the syntax trees).

* `stdout_writer_last`: in `execute` of balance, check (and its `writeFile`), infer, print, transcode and portfolio
  weights, the first use of standard output is `bufio.NewWriter(…)` and nothing but the function's final `return`
  follows in that block — no early `return err` after the writer exists. In the model this is why `.error` carries no
  output (`C14_error_stdout_empty`).
* `parseRec_guards`: `parseRec` begins with the chain check (one error return inside a `range ancestors` that compares
  `path.Clean` of both sides), reads the file only afterwards, and resolves an include with
  `path.Join(filepath.Dir(file), …)` — the three ingredients of `Loader.loadRec`.

A source change that invalidates one of them breaks this module, hence `Properties/C14.lean`. -/
namespace Knut.FactsAgree.C14

theorem stdout_writer_last : Generated.c14StdoutWriterLast =
    [("balance.execute", true), ("check.execute", true), ("check.writeFile", true), ("infer.execute", true),
     ("print.execute", true), ("transcode.execute", true), ("weights.execute", true)] := rfl

theorem parseRec_guards : Generated.c14ParseRecGuards =
    [("chain-check-first", true), ("clean-both-sides", true), ("read-after-check", true), ("join-dir-of-includer", true)] := rfl

end Knut.FactsAgree.C14
