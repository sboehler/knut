import Knut.Generated.Facts
/-! The statement shapes of the registries' get-or-create functions, extracted from
`lib/model/commodity/registry.go` and `lib/model/account/registry.go` on every run, show the structure the model
`Knut.Registry` (with `recheck = true`) assumes: nothing is written outside the write lock, and under the write
lock the name is looked up again (returning the registered object) before anything is written. -/
namespace Knut.FactsAgree.C19

/-- section 2 starts with `Lock(); defer Unlock()`, looks the name up and returns it before the first write;
nothing before the lock writes -/
def rechecksUnderLock (shape : List String) : Bool :=
  match shape.dropWhile (· != "Lock") with
  | "Lock" :: "deferUnlock" :: rest =>
    (rest.takeWhile (· != "write")).contains "lookup-return" && !(shape.takeWhile (· != "Lock")).contains "write"
  | _ => false

/-- section 1 is `RLock(); lookup; RUnlock(); if ok { return }` and writes nothing -/
def fastPath (shape : List String) : Bool :=
  shape.take 4 == ["RLock", "lookup", "RUnlock", "return-if-found"]

theorem commodity_get_rechecks : rechecksUnderLock Generated.commodityGetShape = true := by decide +kernel
theorem commodity_get_fast_path : fastPath Generated.commodityGetShape = true := by decide +kernel
theorem account_get_fast_path : fastPath Generated.accountGetShape = true := by decide +kernel
theorem account_get_slow_path : Generated.accountGetShape.drop 4 = ["return as.getOrCreatePath"] := by decide +kernel
theorem account_getOrCreate_rechecks : rechecksUnderLock Generated.accountGetOrCreateShape = true := by decide +kernel

/-- the variant of the seeded change C19-b (allocate first, lock late, no second lookup) is rejected -/
example : rechecksUnderLock ["RLock", "lookup", "RUnlock", "return-if-found", "check", "other", "Lock", "deferUnlock", "write", "return"] = false := by decide +kernel

end Knut.FactsAgree.C19
