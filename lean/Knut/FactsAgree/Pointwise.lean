import Knut.Proofs.ListRel
/-!
# Two lists related element by element

A Go slice stands for a model list when the elements stand for each other one by one: `TransProcess.AllRel` on the journal side,
`TransBayes.Forall2` (the same inductive) on the side of the syntax tree. Both are `List.Forall₂` (`allRel_iff`, `Forall2.iff_forall₂`),
and what is known of them is what `Proofs/ListRel` knows of that.
-/
namespace Knut.FactsAgree.TransProcess
open Knut

inductive AllRel {α β : Type} (R : α → β → Prop) : List α → List β → Prop
  | nil : AllRel R [] []
  | cons {a : α} {b : β} {as : List α} {bs : List β} : R a b → AllRel R as bs → AllRel R (a :: as) (b :: bs)

/-- through this the facts of `List.Forall₂` (`Proofs/ListRel`) are facts of `AllRel` -/
theorem allRel_iff {α β : Type} {R : α → β → Prop} {as : List α} {bs : List β} : AllRel R as bs ↔ List.Forall₂ R as bs :=
  ⟨fun h => by induction h with | nil => exact .nil | cons r _ ih => exact .cons r ih,
    fun h => by induction h with | nil => exact .nil | cons r _ ih => exact .cons r ih⟩

theorem AllRel_append {α β : Type} {R : α → β → Prop} {a1 a2 : List α} {b1 b2 : List β} (h1 : AllRel R a1 b1) (h2 : AllRel R a2 b2) :
    AllRel R (a1 ++ a2) (b1 ++ b2) :=
  allRel_iff.mpr (forall₂_append (allRel_iff.mp h1) (allRel_iff.mp h2))

theorem AllRel_length {α β : Type} {R : α → β → Prop} {as : List α} {bs : List β} (h : AllRel R as bs) : as.length = bs.length :=
  forall₂_length (allRel_iff.mp h)

theorem AllRel_map {α β : Type} {R : α → β → Prop} (f : β → α) (h : ∀ b, R (f b) b) (bs : List β) : AllRel R (bs.map f) bs :=
  allRel_iff.mpr (forall₂_map_left.mpr (forall₂_same fun b _ => h b))

theorem AllRel_foldl {α β σ μ : Type} {R : α → β → Prop} {f : σ → α → σ} {g : μ → β → μ} (P : σ → μ → Prop)
    (hstep : ∀ s m a b, P s m → R a b → P (f s a) (g m b)) {as : List α} {bs : List β} (h : AllRel R as bs) :
    ∀ (s : σ) (m : μ), P s m → P (as.foldl f s) (bs.foldl g m) := by
  induction h with
  | nil => exact fun _ _ h => h
  | cons hab _ ih => exact fun s m h => ih _ _ (hstep s m _ _ h hab)

theorem AllRel_cons_inv {α β : Type} {R : α → β → Prop} {as : List α} {b : β} {bs : List β} (h : AllRel R as (b :: bs)) :
    ∃ a as', as = a :: as' ∧ R a b ∧ AllRel R as' bs := by
  cases h with
  | cons h1 h2 => exact ⟨_, _, rfl, h1, h2⟩

theorem AllRel_nil_inv {α β : Type} {R : α → β → Prop} {as : List α} (h : AllRel R as ([] : List β)) : as = [] := by
  cases h; rfl

theorem AllRel_mem_right {α β : Type} {R : α → β → Prop} {y : β} :
    ∀ {gs : List α} {xs : List β}, AllRel R gs xs → y ∈ xs → ∃ b ∈ gs, R b y :=
  fun h hm => forall₂_mem_right (allRel_iff.mp h) _ hm

theorem AllRel_get {α β : Type} {R : α → β → Prop} {as : List α} {bs : List β} (h : AllRel R as bs) :
    ∀ (i : Nat) (h1 : i < as.length) (h2 : i < bs.length), R as[i] bs[i] :=
  fun i h1 h2 => by
    obtain ⟨b, hb, hr⟩ := forall₂_get (allRel_iff.mp h) i _ (List.getElem?_eq_getElem h1)
    rw [List.getElem?_eq_getElem h2] at hb
    exact Option.some.inj hb ▸ hr

end Knut.FactsAgree.TransProcess

namespace Knut.FactsAgree.TransJPrinter2
open Knut
open Knut.FactsAgree.TransProcess (AllRel allRel_iff)

theorem AllRel_perm {α β : Type} {R : α → β → Prop} {gs' gs : List α} (hp : gs'.Perm gs) :
    ∀ {xs : List β}, AllRel R gs xs → ∃ xs', AllRel R gs' xs' ∧ xs'.Perm xs :=
  fun h => (forall₂_perm hp (allRel_iff.mp h)).imp fun _ h => ⟨allRel_iff.mpr h.1, h.2⟩

theorem AllRel_pairwise {α β : Type} {R : α → β → Prop} {P : α → α → Prop} {Q : β → β → Prop}
    (hPQ : ∀ a b x y, R a x → R b y → P a b → Q x y) :
    ∀ {gs : List α} {xs : List β}, AllRel R gs xs → gs.Pairwise P → xs.Pairwise Q :=
  fun h => forall₂_pairwise hPQ (allRel_iff.mp h)

theorem AllRel_imp {α β : Type} {R S : α → β → Prop} (h : ∀ a b, R a b → S a b) :
    ∀ {as : List α} {bs : List β}, AllRel R as bs → AllRel S as bs :=
  fun hr => allRel_iff.mpr (forall₂_imp (allRel_iff.mp hr) h)

end Knut.FactsAgree.TransJPrinter2

namespace Knut.FactsAgree.TransBayes
open Knut.FactsAgree.TransProcess (AllRel)

inductive Forall2 {α β : Type} (R : α → β → Prop) : List α → List β → Prop
  | nil : Forall2 R [] []
  | cons {a b l₁ l₂} : R a b → Forall2 R l₁ l₂ → Forall2 R (a :: l₁) (b :: l₂)

theorem Forall2.iff_allRel {α β : Type} {R : α → β → Prop} {l₁ : List α} {l₂ : List β} : Forall2 R l₁ l₂ ↔ AllRel R l₁ l₂ :=
  ⟨fun h => by induction h with | nil => exact .nil | cons r _ ih => exact .cons r ih,
    fun h => by induction h with | nil => exact .nil | cons r _ ih => exact .cons r ih⟩

theorem Forall2.iff_forall₂ {α β : Type} {R : α → β → Prop} {l₁ : List α} {l₂ : List β} : Forall2 R l₁ l₂ ↔ List.Forall₂ R l₁ l₂ :=
  Forall2.iff_allRel.trans TransProcess.allRel_iff

end Knut.FactsAgree.TransBayes
