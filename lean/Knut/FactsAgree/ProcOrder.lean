import Knut.FactsAgree.ProcOrderBalance
import Knut.FactsAgree.ProcOrderTranscode
import Knut.FactsAgree.ProcOrderCheck
import Knut.FactsAgree.ProcOrderPrint
import Knut.FactsAgree.ProcOrderPortfolio
/-!
# The PROCESSOR ORDER of every pipeline command is the one the composition modules assume

Each pipeline command builds, in its `execute` method, the list of `*journal.Processor`s it hands to `Journal.Process` (`cpr.Seq` over the
days).  `harness/facts_procorder.go` reads that list off the syntax tree of the tree under test on every run of `bin/check` and writes
`Generated/ProcOrder.lean`: per command `<c>Order` (the callee of every processor expression, in source order; `pkg.F` = function of an
imported package, `pkg.T.M` = method called on a literal `pkg.T{…}`, `(pkg.T).M` / `(*pkg.T).M` = method of a local variable that
`execute` defines by `v := pkg.T{…}` / `v := &pkg.T{…}`; a processor appended under a condition carries ` if <condition>`) and
`<c>Calls` (the same with the source text of the arguments of the call).  A list that is built in another shape than the extractor
accepts (see the file's header) is NOT emitted: this module then no longer builds and the check reports
`census: gone site <file>: the processor list of … cannot be read off execute`.

The theorems below pin the extracted lists to the stage order in which the modules `FactsAgree/TransProcessAll*.lean` compose the
translated processors (`Pipeline.Sys` instances `balanceSys`, `transcodeSys`, `returnsSys`, `weightsSys`, and the one-stage runs of
`check` / `print`).  Those modules write the order down by hand; a reordering, a new, a dropped or a
conditional processor, or a changed argument (e.g. a second valuation variable) in a command file breaks a theorem here (each is `rfl` between two literal lists).
All processors of all commands are unconditional.

The theorems are spread over one module per command family so that a change in one command file breaks only the properties that are
about that command: `ProcOrderBalance` (C01, C02, C03), `ProcOrderTranscode` (C16), `ProcOrderCheck` (C04), `ProcOrderPrint` (C09),
`ProcOrderPortfolio` (C20: returns, weights).  This module imports them all, adds `knut register`, and is registered under C19 (the
pipeline property is about every command that runs `cpr.Seq`).  All theorems live in the namespace `Knut.FactsAgree.ProcOrder`.
-/
namespace Knut.FactsAgree.ProcOrder
open Knut.Generated.ProcOrder

/-- `knut register` (`cmd/commands/register.go`): Sort, ComputePrices, check, Valuate, Filter, Query.Into.  There is no composition
module for it (the stages are those of `transcode` followed by `Filter` and a query); the order is fixed here for the C19 streams over
the pipeline commands. -/
theorem registerOrder_eq : registerOrder =
    ["journal.Sort", "journal.ComputePrices", "check.Check", "journal.Valuate", "journal.Filter", "journal.Query.Into"] := rfl

theorem registerCalls_eq : registerCalls =
    [("journal.Sort", []), ("journal.ComputePrices", ["valuation"]), ("check.Check", []), ("journal.Valuate", ["reg", "valuation"]),
     ("journal.Filter", ["partition"]), ("journal.Query.Into", ["rep"])] := rfl

end Knut.FactsAgree.ProcOrder
