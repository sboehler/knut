import Knut.Generated.ProcOrder
/-! # Processor order of `knut balance`: the extracted list is the one the composition modules assume

Part of the tie described in `FactsAgree/ProcOrder.lean` (extractor `harness/facts_procorder.go`, regenerated on every run of `bin/check`);
a module of its own so that a change of another command's processor list does not break the properties of this one (C01, C02, C03). -/
namespace Knut.FactsAgree.ProcOrder
open Knut.Generated.ProcOrder

/-- `knut balance` (`cmd/commands/balance.go`): the six stages of `TransProcessAll.balanceSys` (FactsAgree/TransProcessAllBalance, TransProcessAllBalance2),
in this order: check, ComputePrices, Valuate, Filter, CloseAccounts, Query.Into.  (The same list is pinned, from the slice literal only,
by `TransBalanceCmd.processorOrder_pinned`; here also the way the slice reaches `Process` — `procs...`, no `append` — is checked.) -/
theorem balanceOrder_eq : balanceOrder =
    ["check.Check", "journal.ComputePrices", "journal.Valuate", "journal.Filter", "journal.CloseAccounts", "journal.Query.Into"] := rfl

/-- one `valuation`, one `partition`, `r.close`, the report of `balance.NewReport` -/
theorem balanceCalls_eq : balanceCalls =
    [("check.Check", []), ("journal.ComputePrices", ["valuation"]), ("journal.Valuate", ["reg", "valuation"]),
     ("journal.Filter", ["partition"]), ("journal.CloseAccounts", ["j", "reg", "r.close", "partition"]),
     ("journal.Query.Into", ["report"])] := rfl

end Knut.FactsAgree.ProcOrder
