import Knut.Generated.ProcOrder
/-! # Processor order of `knut check`: the extracted list is the one the composition modules assume

Part of the tie described in `FactsAgree/ProcOrder.lean` (extractor `harness/facts_procorder.go`, regenerated on every run of `bin/check`);
a module of its own so that a change of another command's processor list does not break the properties of this one (C04). -/
namespace Knut.FactsAgree.ProcOrder
open Knut.Generated.ProcOrder

/-- `knut check` (`cmd/commands/check.go`): ONE processor, `checker.Check()` of the local `checker := check.Checker{Write, NoCheck}` —
the stage of `TransProcessAllCheck` (`checkProc` folded over a day, `Check_day_agrees`). -/
theorem checkOrder_eq : checkOrder = ["(check.Checker).Check"] := rfl

theorem checkCalls_eq : checkCalls = [("(check.Checker).Check", [])] := rfl

end Knut.FactsAgree.ProcOrder
