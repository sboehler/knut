import Knut.Generated.ProcOrder
/-! # Processor order of `knut portfolio returns` and `knut portfolio weights`: the extracted list is the one the composition modules assume

Part of the tie described in `FactsAgree/ProcOrder.lean` (extractor `harness/facts_procorder.go`, regenerated on every run of `bin/check`);
a module of its own so that a change of another command's processor list does not break the properties of this one (C20). -/
namespace Knut.FactsAgree.ProcOrder
open Knut.Generated.ProcOrder

/-- `knut portfolio returns` (`cmd/commands/portfolio/returns.go`): the six stages of `TransProcessAllReturns.returnsSys`:
ComputePrices, check, Valuate, ComputeValues, ComputeFlows (both of the ONE local `calculator := &performance.Calculator{…}`), Perf. -/
theorem returnsOrder_eq : returnsOrder =
    ["journal.ComputePrices", "check.Check", "journal.Valuate", "(*performance.Calculator).ComputeValues",
     "(*performance.Calculator).ComputeFlows", "performance.Perf"] := rfl

theorem returnsCalls_eq : returnsCalls =
    [("journal.ComputePrices", ["valuation"]), ("check.Check", []), ("journal.Valuate", ["reg", "valuation"]),
     ("(*performance.Calculator).ComputeValues", []), ("(*performance.Calculator).ComputeFlows", []),
     ("performance.Perf", ["j", "partition"])] := rfl

/-- `knut portfolio weights` (`cmd/commands/portfolio/weights.go`): the four translated stages of `TransProcessAllWeights.weightsSys`
— ComputePrices, check, Valuate, ComputeValues — followed by the (untranslated) `weights.Query{…}.Execute(j, rep)` as LAST stage. -/
theorem weightsOrder_eq : weightsOrder =
    ["journal.ComputePrices", "check.Check", "journal.Valuate", "(*performance.Calculator).ComputeValues",
     "weights.Query.Execute"] := rfl

theorem weightsCalls_eq : weightsCalls =
    [("journal.ComputePrices", ["valuation"]), ("check.Check", []), ("journal.Valuate", ["reg", "valuation"]),
     ("(*performance.Calculator).ComputeValues", []), ("weights.Query.Execute", ["j", "rep"])] := rfl

end Knut.FactsAgree.ProcOrder
