import Knut.Generated.ProcOrder
/-! # Processor order of `knut print`: the extracted list is the one the composition modules assume

Part of the tie described in `FactsAgree/ProcOrder.lean` (extractor `harness/facts_procorder.go`, regenerated on every run of `bin/check`);
a module of its own so that a change of another command's processor list does not break the properties of this one (C09). -/
namespace Knut.FactsAgree.ProcOrder
open Knut.Generated.ProcOrder

/-- `knut print` (`cmd/commands/print.go`): ONE processor, the package-level `check.Check()` (a fresh checker without `Write`) —
again the stage of `TransProcessAllCheck`; the journal is printed afterwards, outside the pipeline. -/
theorem printOrder_eq : printOrder = ["check.Check"] := rfl

theorem printCalls_eq : printCalls = [("check.Check", [])] := rfl

end Knut.FactsAgree.ProcOrder
