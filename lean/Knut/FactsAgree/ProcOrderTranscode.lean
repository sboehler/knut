import Knut.Generated.ProcOrder
/-! # Processor order of `knut transcode`: the extracted list is the one the composition modules assume

Part of the tie described in `FactsAgree/ProcOrder.lean` (extractor `harness/facts_procorder.go`, regenerated on every run of `bin/check`);
a module of its own so that a change of another command's processor list does not break the properties of this one (C16). -/
namespace Knut.FactsAgree.ProcOrder
open Knut.Generated.ProcOrder

/-- `knut transcode` (`cmd/commands/transcode.go`): the four stages of `TransProcessAll.transcodeSys` (FactsAgree/TransProcessAllTranscode):
Sort, ComputePrices, check, Valuate. -/
theorem transcodeOrder_eq : transcodeOrder =
    ["journal.Sort", "journal.ComputePrices", "check.Check", "journal.Valuate"] := rfl

theorem transcodeCalls_eq : transcodeCalls =
    [("journal.Sort", []), ("journal.ComputePrices", ["valuation"]), ("check.Check", []),
     ("journal.Valuate", ["reg", "valuation"])] := rfl

/-- the order of the seeded-style change "check before the prices are computed" in `transcode.go` is not the pinned one -/
example : (["journal.Sort", "check.Check", "journal.ComputePrices", "journal.Valuate"] : List String)
    ≠ ["journal.Sort", "journal.ComputePrices", "check.Check", "journal.Valuate"] := by decide

end Knut.FactsAgree.ProcOrder
