import Knut.Generated.TransPrice
import Knut.FactsAgree.TransPosting
import Knut.FactsAgree.Pointwise
/-!
# A Go value stands for a model value

The Go values carry what the model does not describe — `Src` pointers into the syntax tree, the description before or after
`transaction.Builder.Build` replaced its quotes — so "stands for" is a relation, not an equation.  The relations sit below every
module that speaks of a translated function on transactions, so that a fact about such a function is stated once, for every Go
value that stands for the model's.  Commodities are interned pointers: `cGo` is `commodityGo` under the name the price modules use.
-/
namespace Knut.FactsAgree.TransPrice
open Knut Knut.GoSem
open Knut.Generated.Go

/-- a commodity pointer of Go: interned by name; `cur` is the `IsCurrency` flag each name carries -/
def cGo (cur : String → Bool) (c : Knut.Commodity) : commodity.Commodity := { name := c, IsCurrency := cur c }

theorem cGo_inj (cur : String → Bool) {a b : Knut.Commodity} (h : cGo cur a = cGo cur b) : a = b := by
  simpa [cGo] using congrArg commodity.Commodity.name h

end Knut.FactsAgree.TransPrice

namespace Knut.FactsAgree.TransProcess
open Knut Knut.GoSem
open Knut.Generated.Go
open Knut.FactsAgree.TransPosting (postingGo commodityGo)
open Knut.FactsAgree.TransPrice (cGo)

theorem cGo_eq (cur : String → Bool) (c : Knut.Commodity) : cGo cur c = commodityGo cur c := rfl

/-- a Go posting stands for the model posting: equal but for the `Src` pointer (the same pattern: `PriceRel`, `OpenRel`, `CloseRel`,
`BalRel`) -/
def PRel (cur : String → Bool) (g : posting.Posting) (p : Knut.Posting) : Prop := g = postingGo cur g.Src p

/-- a Go transaction stands for the model transaction: all `Src` pointers are arbitrary; `Targets` is nil (`none`) exactly when the model
transaction has no `@performance` annotation;
the description is the model's or (for a transaction that went through `transaction.Builder.Build`, which the model's processors do
not describe) the model's with `"` replaced by `'` -/
def TRel (cur : String → Bool) (g : transaction.Transaction) (t : Knut.Transaction) : Prop :=
  g.Date = t.date ∧ (g.Description = t.description ∨ g.Description = JournalPrinter.descText t.description) ∧
    AllRel (PRel cur) g.Postings t.postings ∧ g.Targets = t.targets.map (fun tg => tg.map (commodityGo cur))

theorem PRel_postingGo (cur : String → Bool) (src : Ref) (p : Knut.Posting) : PRel cur (postingGo cur src p) p := rfl

def priceGo (cur : String → Bool) (src : Ref) (p : Knut.Price) : price.Price :=
  ⟨src, p.date, cGo cur p.commodity, p.price, cGo cur p.target⟩

def PriceRel (cur : String → Bool) (g : price.Price) (p : Knut.Price) : Prop := g = priceGo cur g.Src p

end Knut.FactsAgree.TransProcess

namespace Knut.FactsAgree.TransBeancount
open Knut Knut.GoSem
open Knut.Generated.Go
open Knut.FactsAgree.TransProcess (AllRel PRel)

/-- a Go transaction stands for the model transaction as far as `Transcode` reads it: date, description, postings (every `Src`
pointer and `Targets` arbitrary) -/
def TRelB (cur : String → Bool) (g : transaction.Transaction) (t : Knut.Transaction) : Prop :=
  g.Date = t.date ∧ g.Description = t.description ∧ AllRel (PRel cur) g.Postings t.postings

end Knut.FactsAgree.TransBeancount

namespace Knut.FactsAgree.TransJPrinter2
open Knut Knut.GoSem
open Knut.Generated.Go
open Knut.FactsAgree.TransProcess (TRel)
open Knut.FactsAgree.TransBeancount (TRelB)

/-- a Go transaction stands for the model transaction, with the description exactly as the model has it (`TRel` also admits the
description after `Builder.Build` replaced its quotes; `journal.Sort` compares descriptions, so here it must be the model's) -/
def TRelE (cur : String → Bool) (g : transaction.Transaction) (t : Knut.Transaction) : Prop :=
  TRel cur g t ∧ g.Description = t.description

theorem TRelE.toB {cur : String → Bool} {g : transaction.Transaction} {t : Knut.Transaction} (h : TRelE cur g t) : TRelB cur g t :=
  ⟨h.1.1, h.2, h.1.2.2.1⟩

end Knut.FactsAgree.TransJPrinter2
