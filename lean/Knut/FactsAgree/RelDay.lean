import Knut.Generated.TransJournal
import Knut.FactsAgree.TransCheck
import Knut.FactsAgree.Rel
/-!
# A Go day stands for a model day

The agreement modules of the journal builder and printers use the relations under `TransJournal`, the compositions of processors
(`TransProcessAll*`) their own under `TransProcessAll`; the two say the same (`DayRel.iff`).
-/
namespace Knut.FactsAgree.TransJournal
open Knut Knut.GoSem
open Knut.Generated.Go
open Knut.FactsAgree.TransProcess (AllRel TRel PRel PriceRel)
open Knut.FactsAgree.TransCheck (openGo closeGo balanceGo)

def OpenRel (g : open_.Open) (o : Knut.Open) : Prop := g = openGo g.Src o
def CloseRel (g : close.Close) (c : Knut.Close) : Prop := g = closeGo g.Src c
def BalRel (cur : String → Bool) (g : assertion.Balance) (b : Knut.Balance) : Prop := g = balanceGo cur g.Src b
def AssertRel (cur : String → Bool) (g : assertion.Assertion) (a : Knut.Assertion) : Prop :=
  g.Date = a.date ∧ AllRel (BalRel cur) g.Balances a.balances

/-- a Go day stands for the model day (`Src` pointers arbitrary; `Normalized` and `Performance` belong to the processors) -/
structure DayRel (cur : String → Bool) (g : journal.Day) (d : Knut.Day) : Prop where
  date : g.Date = d.date
  prices : AllRel (PriceRel cur) g.Prices d.prices
  assertions : AllRel (AssertRel cur) g.Assertions d.assertions
  openings : AllRel OpenRel g.Openings d.openings
  transactions : AllRel (TRel cur) g.Transactions d.transactions
  closings : AllRel CloseRel g.Closings d.closings

/-- a Go directive (the dynamic type of the `model.Directive`) stands for the model directive -/
def DirRel (cur : String → Bool) : model.Directive → Knut.Directive → Prop
  | .Price g, .price p => PriceRel cur g p
  | .Open g, .opening o => OpenRel g o
  | .Transaction g, .tx t => TRel cur g t
  | .Assertion g, .assertion a => AssertRel cur g a
  | .Close g, .closing c => CloseRel g c
  | _, _ => False

end Knut.FactsAgree.TransJournal

namespace Knut.FactsAgree.TransProcessAll
open Knut Knut.GoSem
open Knut.Generated.Go
open Knut.FactsAgree.TransProcess (AllRel TRel PRel PriceRel)
open Knut.FactsAgree.TransCheck (openGo closeGo balanceGo)

def OpenRel (g : open_.Open) (o : Knut.Open) : Prop := g = openGo g.Src o
def CloseRel (g : close.Close) (c : Knut.Close) : Prop := g = closeGo g.Src c
def BalRel (cur : String → Bool) (g : assertion.Balance) (b : Knut.Balance) : Prop := g = balanceGo cur g.Src b
def AssertRel (cur : String → Bool) (g : assertion.Assertion) (a : Knut.Assertion) : Prop :=
  g.Date = a.date ∧ AllRel (BalRel cur) g.Balances a.balances

structure DayRel (cur : String → Bool) (g : journal.Day) (d : Knut.Day) : Prop where
  date : g.Date = d.date
  prices : AllRel (PriceRel cur) g.Prices d.prices
  openings : AllRel OpenRel g.Openings d.openings
  transactions : AllRel (TRel cur) g.Transactions d.transactions
  assertions : AllRel (AssertRel cur) g.Assertions d.assertions
  closings : AllRel CloseRel g.Closings d.closings

theorem DayRel.normalized {cur : String → Bool} {g : journal.Day} {d : Knut.Day} (h : DayRel cur g d) (n : price.NormalizedPrices) :
    DayRel cur { g with Normalized := n } d :=
  ⟨h.date, h.prices, h.openings, h.transactions, h.assertions, h.closings⟩

theorem DayRel.iff {cur : String → Bool} {g : journal.Day} {d : Knut.Day} : DayRel cur g d ↔ TransJournal.DayRel cur g d :=
  ⟨fun h => ⟨h.date, h.prices, h.assertions, h.openings, h.transactions, h.closings⟩,
    fun h => ⟨h.date, h.prices, h.openings, h.transactions, h.assertions, h.closings⟩⟩

end Knut.FactsAgree.TransProcessAll
