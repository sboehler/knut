import Knut.Generated.TransAccount
import Knut.Model.Core
import Knut.Model.JournalPrinter
import Knut.Proofs.GoSem
/-!
# The translated `lib/model/account` agrees with the model

Regenerated from /repo on every run: `Knut/Generated/TransAccount.lean`, `TransPosting.lean`, `TransTransaction.lean`.
The Go structs carry more than the model's (`Src` pointers into the syntax tree, the cached `name`/`accountType` of an
account, the `IsCurrency` flag): the conversions below build the Go value of a model value; `Src` is arbitrary.
-/
namespace Knut.FactsAgree.TransAccount
open Knut Knut.GoSem Knut.JournalPrinter
open Knut.Generated.Go

def typeGo : AccountType → Int
  | .assets => 0 | .liabilities => 1 | .equity => 2 | .income => 3 | .expenses => 4

/-- the Go account of a model account: the registry stores the type parsed from the first segment, the full name and
the segments (`9` stands for "no valid type": such accounts are never created by the registry) -/
def accountGo (a : Knut.Account) : account.Account :=
  { accountType := match a.type? with | some t => typeGo t | none => 9, name := a.name, segments := a.segments }

theorem IsAL_agrees (a : Knut.Account) : account.Account.IsAL (accountGo a) = a.isAL := by
  unfold account.Account.IsAL accountGo Knut.Account.isAL
  cases h : a.type? with
  | none => simp [account.ASSETS, account.LIABILITIES]
  | some t => cases t <;> simp [typeGo, account.ASSETS, account.LIABILITIES]

theorem IsIE_agrees (a : Knut.Account) : account.Account.IsIE (accountGo a) = a.isIE := by
  unfold account.Account.IsIE accountGo Knut.Account.isIE
  cases h : a.type? with
  | none => simp [account.EXPENSES, account.INCOME]
  | some t => cases t <;> simp [typeGo, account.EXPENSES, account.INCOME]

/-- no account is the zero struct (a nil pointer): an account without segments has the type `9` -/
theorem accountGo_ne_zero (a : Knut.Account) : accountGo a ≠ GoZero.zero := by
  intro h
  have hs : a.segments = [] := congrArg account.Account.segments h
  have ht := congrArg account.Account.accountType h
  cases a with
  | mk segs =>
    simp only at hs
    subst hs
    revert ht
    decide

theorem Level_agrees (a : Knut.Account) : account.Account.Level (accountGo a) = (a.level : Int) := by
  simp [account.Account.Level, accountGo, Knut.Account.level]

theorem Name_agrees (a : Knut.Account) : account.Account.Name (accountGo a) = a.name := rfl
theorem Segments_agrees (a : Knut.Account) : account.Account.Segments (accountGo a) = a.segments := rfl
theorem Type_agrees (a : Knut.Account) (t : AccountType) (h : a.type? = some t) :
    account.Account.Type_ (accountGo a) = typeGo t := by
  simp [account.Account.Type_, accountGo, h]

theorem typeGo_ord (t : AccountType) : typeGo t = (t.ord : Int) := by cases t <;> rfl

theorem account_Compare_agrees (a b : Knut.Account) :
    account.Compare (accountGo a) (accountGo b) = ordGo (cmpAccount a b) := by
  unfold account.Compare cmpAccount
  simp only [cmpOrdered_string, cmpStr]
  have key : ∀ x : Knut.Account, (accountGo x).accountType = (((x.type?.map (·.ord)).getD 9 : Nat) : Int) := by
    intro x; unfold accountGo
    cases x.type? with
    | none => rfl
    | some t => simp [typeGo_ord]
  rw [key a, key b]
  simp only [accountGo]
  generalize (a.type?.map (·.ord)).getD 9 = ta
  generalize (b.type?.map (·.ord)).getD 9 = tb
  unfold cmpOrdered
  by_cases h1 : ta < tb
  · have : (ta : Int) < tb := by omega
    simp [h1, this, ordGo]
  · by_cases h2 : tb < ta
    · have n1 : ¬ (ta : Int) < tb := by omega
      have n2 : (tb : Int) < ta := by omega
      simp [h1, h2, n1, n2, ordGo]
    · have n1 : ¬ (ta : Int) < tb := by omega
      have n2 : ¬ (tb : Int) < ta := by omega
      simp [h1, h2, n1, n2]

example : account.Account.IsAL (accountGo ⟨["Assets", "Bank"]⟩) = true ∧ account.Account.IsIE (accountGo ⟨["Assets", "Bank"]⟩) = false ∧
    account.Compare (accountGo ⟨["Income", "A"]⟩) (accountGo ⟨["Assets", "Z"]⟩) = 1 := by decide

end Knut.FactsAgree.TransAccount
