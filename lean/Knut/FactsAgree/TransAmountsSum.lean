import Knut.Generated.TransAmounts
import Knut.Proofs.ReportPerm
import Knut.Proofs.MapSum
import Knut.FactsAgree.TransCompare
import Knut.FactsAgree.Agree
/-!
# The translated `lib/amounts` agrees with what the report model computes

`amounts.Amounts` is a Go map `Key → decimal`; the translation is an association list (`AMap Key Rat`), and every `range`
over such a map takes the ITERATION ORDER as an explicit list argument.  The theorems hold for every order that is a
permutation of the map's keys (for the deletion loop of `SumIntoBy`: every order that reaches the keys that loop touches).
Results that are maps are characterised by every lookup (`AMap.find?`), which is all the report code observes of them,
together with `WF`.  Map arguments are VALUES: `SumIntoBy`'s `dest`, `Plus`'s and `Minus`'s `other` are not the receiver
map itself (Go leaves insertion during iteration unspecified).
-/
namespace Knut.FactsAgree.TransAmountsSum
open Knut Knut.GoSem
open Knut.Generated.Go
open Knut.MapSum (sum_perm)

section amap
variable {κ ν : Type} [DecidableEq κ]

/-- no key occurs twice (every map the translated code builds from `[]` by `set`/`erase`) -/
def WF (m : AMap κ ν) : Prop := (AMap.keys m).Nodup

omit [DecidableEq κ] in
theorem wf_nil : WF ([] : AMap κ ν) := List.nodup_nil

theorem find?_isSome (m : AMap κ ν) (k : κ) : (AMap.find? m k).isSome = decide (k ∈ AMap.keys m) := AMap.find?_isSome m k

theorem find?_eq_none (m : AMap κ ν) (k : κ) : AMap.find? m k = none ↔ k ∉ AMap.keys m := AMap.find?_eq_none_iff

theorem mem_keys_of_find? {m : AMap κ ν} {k : κ} {v : ν} (h : AMap.find? m k = some v) : k ∈ AMap.keys m :=
  AMap.mem_keys_iff_find?.2 ⟨v, h⟩

theorem keys_set (m : AMap κ ν) (k : κ) (v : ν) :
    AMap.keys (AMap.set m k v) = if k ∈ AMap.keys m then AMap.keys m else AMap.keys m ++ [k] := AMap.keys_set_eq m k v

theorem mem_keys_set (m : AMap κ ν) (k : κ) (v : ν) (x : κ) :
    x ∈ AMap.keys (AMap.set m k v) ↔ x = k ∨ x ∈ AMap.keys m := AMap.mem_keys_set m k v x

theorem wf_set {m : AMap κ ν} (h : WF m) (k : κ) (v : ν) : WF (AMap.set m k v) := AMap.nodupKeys_set h k v

theorem get_eq_of_find? {m : AMap κ ν} {k : κ} {v : ν} (h : AMap.find? m k = some v) (d : ν) : AMap.get m k d = v :=
  AMap.get_of_find? h d

theorem get_of_not_mem {m : AMap κ ν} {k : κ} (h : k ∉ AMap.keys m) (d : ν) : AMap.get m k d = d := AMap.get_of_not_key h d

/-- Go's `for k, v := range m` with the iteration order `items`: keys that are not in the map are skipped -/
def rangeFold {σ : Type} (m : AMap κ ν) (d : ν) (step : κ → ν → σ → σ) : List κ → σ → σ
  | [], s => s
  | k :: rest, s => if (AMap.find? m k).isSome then rangeFold m d step rest (step k (AMap.get m k d) s) else rangeFold m d step rest s

theorem rangeFold_eq {σ : Type} (m : AMap κ ν) (d : ν) (step : κ → ν → σ → σ) (items : List κ) (s : σ) :
    rangeFold m d step items s =
      (items.filter (fun k => decide (k ∈ AMap.keys m))).foldl (fun s k => step k (AMap.get m k d) s) s := by
  induction items generalizing s with
  | nil => rfl
  | cons k rest ih =>
    simp only [rangeFold, find?_isSome, List.filter_cons]
    by_cases h : k ∈ AMap.keys m <;> simp [h, ih]

theorem filter_mem_of_perm {order ks : List κ} (h : order.Perm ks) : order.filter (fun k => decide (k ∈ ks)) = order := by
  apply List.filter_eq_self.2
  intro a ha; simpa using h.mem_iff.1 ha

theorem foldl_set_keys {α : Type} (key : α → κ) (val : AMap κ ν → α → ν) (l : List α) (m : AMap κ ν) (x : κ) :
    x ∈ AMap.keys (l.foldl (fun m a => AMap.set m (key a) (val m a)) m) ↔ x ∈ AMap.keys m ∨ ∃ a ∈ l, key a = x :=
  (AMap.mem_keys_foldl_set key val l m x).trans (or_congr_right List.mem_map)

/-- the shape every translated `for k, v := range m` has: a function that satisfies the two equations of `rangeFold` -/
theorem eq_rangeFold {σ : Type} (m : AMap κ ν) (d : ν) (step : κ → ν → σ → σ) (F : List κ → σ → σ) (h0 : ∀ s, F [] s = s)
    (hc : ∀ k rest s, F (k :: rest) s = if (AMap.find? m k).isSome then F rest (step k (AMap.get m k d) s) else F rest s)
    (items : List κ) (s : σ) : F items s = rangeFold m d step items s := by
  induction items generalizing s with
  | nil => exact h0 s
  | cons k rest ih => rw [hc, rangeFold]; simp only [ih]

end amap

/-- what `SumOver` returns for the predicate `p` (`SumOver_agrees`), as a sum over the entries in the order of the list -/
def total (am : amounts.Amounts) (p : amounts.Key → Bool) : Rat := ((am.filter (fun e => p e.1)).map Prod.snd).sum

theorem total_nil (p : amounts.Key → Bool) : total [] p = 0 := rfl

theorem total_cons (k : amounts.Key) (v : Rat) (am : amounts.Amounts) (p : amounts.Key → Bool) :
    total ((k, v) :: am) p = (if p k then v else 0) + total am p := by
  unfold total
  by_cases h : p k <;> simp [h, Rat.zero_add]

theorem total_eq_keys {am : amounts.Amounts} (hwf : WF am) (p : amounts.Key → Bool) :
    total am p = (((AMap.keys am).filter p).map (fun k => AMap.get am k 0)).sum := by
  unfold total
  rw [← AMap.map_get_keys (AMap.nodupKeys_filter hwf _) 0, AMap.keys, AMap.keys, List.filter_map]
  refine congrArg List.sum (List.map_congr_left fun k hk => ?_)
  obtain ⟨e, he, rfl⟩ := List.mem_map.mp hk
  rw [AMap.get_filter_key am p, if_pos (List.mem_filter.mp he).2]

theorem total_order {am : amounts.Amounts} (hwf : WF am) (p : amounts.Key → Bool) {order : List amounts.Key}
    (hp : order.Perm (AMap.keys am)) :
    total am p = ((order.filter p).map (fun k => AMap.get am k 0)).sum := by
  rw [total_eq_keys hwf]
  exact sum_perm (((hp.filter p).map _).symm)

theorem foldl_add_sum (l : List Rat) (w : Rat) : l.foldl (fun acc v => acc + v) w = w + l.sum :=
  (MapSum.foldl_add_eq_sum id l w).trans (by rw [List.map_id])

theorem Amount_agrees (am : amounts.Amounts) (k : amounts.Key) : amounts.Amounts.Amount am k = AMap.get am k 0 := rfl

/-- the five key constructors set the named fields and leave the rest zero (nil pointers, zero time, empty string) -/
theorem keys_agree (d : Int) (a : account.Account) (c : commodity.Commodity) :
    amounts.DateKey d = { (GoZero.zero : amounts.Key) with Date := d } ∧
    amounts.DateCommodityKey d c = { (GoZero.zero : amounts.Key) with Date := d, Commodity := c } ∧
    amounts.CommodityKey c = { (GoZero.zero : amounts.Key) with Commodity := c } ∧
    amounts.AccountKey a = { (GoZero.zero : amounts.Key) with Account := a } ∧
    amounts.AccountCommodityKey a c = { (GoZero.zero : amounts.Key) with Account := a, Commodity := c } :=
  ⟨rfl, rfl, rfl, rfl, rfl⟩

theorem Add_find? (am : amounts.Amounts) (k : amounts.Key) (v : Rat) (k' : amounts.Key) :
    AMap.find? (amounts.Amounts.Add am k v) k' = if k = k' then some (AMap.get am k 0 + v) else AMap.find? am k' := by
  simp [amounts.Amounts.Add, AMap.find?_set]

theorem Add_get (am : amounts.Amounts) (k : amounts.Key) (v : Rat) (k' : amounts.Key) :
    AMap.get (amounts.Amounts.Add am k v) k' 0 = AMap.get am k' 0 + if k = k' then v else 0 := by
  unfold AMap.get; rw [Add_find?]
  by_cases h : k = k'
  · subst h; simp [AMap.get]
  · simp [h, Rat.add_zero]

theorem Add_wf {am : amounts.Amounts} (h : WF am) (k : amounts.Key) (v : Rat) : WF (amounts.Amounts.Add am k v) :=
  wf_set h _ _

theorem Add_keys (am : amounts.Amounts) (k : amounts.Key) (v : Rat) (x : amounts.Key) :
    x ∈ AMap.keys (amounts.Amounts.Add am k v) ↔ x = k ∨ x ∈ AMap.keys am := mem_keys_set _ _ _ _

/-! ## folds that update one entry per visited key (`Clone`, `Plus`, `Minus`, the first loop of `SumIntoBy`) -/

section updfold
variable (src : amounts.Amounts) (p : amounts.Key → Bool) (m : amounts.Key → amounts.Key) (g : Rat → Rat → Rat)

/-- `dest[m k] = g(dest[m k], src[k])` for the keys `k` of `ks` that satisfy `p`, in order -/
def updFold (ks : List amounts.Key) (dest : amounts.Amounts) : amounts.Amounts :=
  ks.foldl (fun d k => if p k then AMap.set d (m k) (g (AMap.get d (m k) 0) (AMap.get src k 0)) else d) dest

theorem updFold_eq (ks : List amounts.Key) (dest : amounts.Amounts) :
    updFold src p m g ks dest = (ks.filter p).foldl (fun d k => AMap.set d (m k) (g (AMap.get d (m k) 0) (AMap.get src k 0))) dest := by
  rw [updFold, List.foldl_filter]

theorem updFold_wf (ks : List amounts.Key) {dest : amounts.Amounts} (h : WF dest) : WF (updFold src p m g ks dest) := by
  rw [updFold_eq]; exact AMap.nodupKeys_foldl_set m _ _ h

theorem updFold_keys (ks : List amounts.Key) (dest : amounts.Amounts) (x : amounts.Key) :
    x ∈ AMap.keys (updFold src p m g ks dest) ↔ x ∈ AMap.keys dest ∨ ∃ k ∈ ks, p k = true ∧ m k = x := by
  rw [updFold_eq, foldl_set_keys m]
  simp only [List.mem_filter, and_assoc]

theorem updFold_add_get (ks : List amounts.Key) (dest : amounts.Amounts) (x : amounts.Key) :
    AMap.get (updFold src p m (fun a b => a + b) ks dest) x 0 =
      AMap.get dest x 0 + ((ks.filter (fun k => p k && decide (m k = x))).map (fun k => AMap.get src k 0)).sum := by
  induction ks generalizing dest with
  | nil => simp [updFold, Rat.add_zero]
  | cons k rest ih =>
    simp only [updFold, List.foldl_cons]
    by_cases hp : p k
    · simp only [hp, if_true]
      have := ih (AMap.set dest (m k) (AMap.get dest (m k) 0 + AMap.get src k 0))
      simp only [updFold] at this
      rw [this, AMap.get_set]
      by_cases hm : m k = x
      · subst hm; simp [hp, Rat.add_assoc]
      · simp [hp, hm]
    · simp only [hp, Bool.false_eq_true, if_false]
      have := ih dest
      simp only [updFold] at this
      rw [this]; simp [hp]

theorem updFold_id_find? (ks : List amounts.Key) (hn : ks.Nodup)
    (dest : amounts.Amounts) (x : amounts.Key) :
    AMap.find? (updFold src (fun _ => true) id g ks dest) x =
      if x ∈ ks then some (g (AMap.get dest x 0) (AMap.get src x 0)) else AMap.find? dest x := by
  induction ks generalizing dest with
  | nil => simp [updFold]
  | cons k rest ih =>
    simp only [updFold, List.foldl_cons, if_true, id]
    have hn' := List.nodup_cons.1 hn
    have := ih hn'.2 (AMap.set dest k (g (AMap.get dest k 0) (AMap.get src k 0)))
    simp only [updFold, if_true, id] at this
    rw [this]
    by_cases hx : x ∈ rest
    · have : k ≠ x := fun e => hn'.1 (e ▸ hx)
      simp [hx, AMap.get_set, this]
    · by_cases hk : k = x
      · subst hk; simp [hx, AMap.find?_set]
      · have hk' : ¬ x = k := fun e => hk e.symm
        simp [hx, hk, hk', AMap.find?_set]

end updfold

theorem nodup_of_perm_keys {am : amounts.Amounts} (hwf : WF am) {order : List amounts.Key} (hp : order.Perm (AMap.keys am)) :
    order.Nodup := hp.nodup_iff.2 hwf

theorem Clone_range1_eq (am : amounts.Amounts) (items : List amounts.Key) (clone : amounts.Amounts) :
    amounts.Amounts.Clone.range1 am items clone = rangeFold am 0 (fun k v c => AMap.set c k v) items clone :=
  eq_rangeFold am 0 _ _ (fun _ => rfl)
    (fun k rest s => by simp only [amounts.Amounts.Clone.range1]; cases (AMap.find? am k).isSome <;> rfl) items clone

/-- **`Amounts.Clone`**: for every iteration order, the clone has exactly the entries of the map -/
theorem Clone_agrees {am : amounts.Amounts} (hwf : WF am) {order : List amounts.Key} (hp : order.Perm (AMap.keys am)) :
    WF (amounts.Amounts.Clone am order) ∧ ∀ k, AMap.find? (amounts.Amounts.Clone am order) k = AMap.find? am k := by
  have e : amounts.Amounts.Clone am order = updFold am (fun _ => true) id (fun _ v => v) order [] := by
    simp only [amounts.Amounts.Clone, Clone_range1_eq, rangeFold_eq, filter_mem_of_perm hp, updFold, if_true, id]
  rw [e]
  refine ⟨updFold_wf _ _ _ _ _ wf_nil, fun k => ?_⟩
  rw [updFold_id_find? _ _ _ (nodup_of_perm_keys hwf hp)]
  by_cases hk : k ∈ order
  · obtain ⟨v, h⟩ := AMap.mem_keys_iff_find?.1 (hp.mem_iff.1 hk)
    simp [hk, AMap.get, h]
  · have hk' : k ∉ AMap.keys am := fun h => hk (hp.mem_iff.2 h)
    simp [hk, (find?_eq_none am k).2 hk']

theorem Plus_range1_eq (other : amounts.Amounts) (items : List amounts.Key) (am : amounts.Amounts) :
    amounts.Amounts.Plus.range1 other items am =
      rangeFold other 0 (fun k v a => AMap.set a k (AMap.get a k 0 + v)) items am :=
  eq_rangeFold other 0 _ _ (fun _ => rfl)
    (fun k rest s => by simp only [amounts.Amounts.Plus.range1]; cases (AMap.find? other k).isSome <;> rfl) items am

theorem Minus_range1_eq (other : amounts.Amounts) (items : List amounts.Key) (am : amounts.Amounts) :
    amounts.Amounts.Minus.range1 other items am =
      rangeFold other 0 (fun k v a => AMap.set a k (AMap.get a k 0 - v)) items am :=
  eq_rangeFold other 0 _ _ (fun _ => rfl)
    (fun k rest s => by simp only [amounts.Amounts.Minus.range1]; cases (AMap.find? other k).isSome <;> rfl) items am

theorem updFold_id_agrees (g : Rat → Rat → Rat) (hg : ∀ a, g a 0 = a) {am other : amounts.Amounts} (hwa : WF am) (hwo : WF other)
    {order : List amounts.Key} (hp : order.Perm (AMap.keys other)) :
    WF (updFold other (fun _ => true) id g order am) ∧
    (∀ k, AMap.get (updFold other (fun _ => true) id g order am) k 0 = g (AMap.get am k 0) (AMap.get other k 0)) ∧
    (∀ k, k ∈ AMap.keys (updFold other (fun _ => true) id g order am) ↔ k ∈ AMap.keys am ∨ k ∈ AMap.keys other) := by
  refine ⟨updFold_wf _ _ _ _ _ hwa, fun k => ?_, fun k => ?_⟩
  · unfold AMap.get
    rw [updFold_id_find? _ _ _ (nodup_of_perm_keys hwo hp)]
    by_cases hk : k ∈ order
    · simp [hk, AMap.get]
    · have hk' : k ∉ AMap.keys other := fun h => hk (hp.mem_iff.2 h)
      simp [hk, (find?_eq_none other k).2 hk', hg]
  · rw [updFold_keys]
    simp only [true_and, id, exists_eq_right]
    exact or_congr Iff.rfl hp.mem_iff

/-- **`Amounts.Plus`** (mutates the receiver: the new receiver is the result): for every iteration order of `other`, every
amount is the sum of the two amounts, and the keys are the keys of both maps (zero sums are KEPT: the `Delta` row of the
balance report shows a commodity whose totals cancel) -/
theorem Plus_agrees {am other : amounts.Amounts} (hwa : WF am) (hwo : WF other) {order : List amounts.Key}
    (hp : order.Perm (AMap.keys other)) :
    WF (amounts.Amounts.Plus am other order) ∧
    (∀ k, AMap.get (amounts.Amounts.Plus am other order) k 0 = AMap.get am k 0 + AMap.get other k 0) ∧
    (∀ k, k ∈ AMap.keys (amounts.Amounts.Plus am other order) ↔ k ∈ AMap.keys am ∨ k ∈ AMap.keys other) := by
  have e : amounts.Amounts.Plus am other order = updFold other (fun _ => true) id (fun a b => a + b) order am := by
    simp only [amounts.Amounts.Plus, Plus_range1_eq, rangeFold_eq, filter_mem_of_perm hp, updFold, if_true, id]
  rw [e]
  exact updFold_id_agrees _ Rat.add_zero hwa hwo hp

/-- **`Amounts.Minus`**: every amount is the difference; the keys are the keys of both maps -/
theorem Minus_agrees {am other : amounts.Amounts} (hwa : WF am) (hwo : WF other) {order : List amounts.Key}
    (hp : order.Perm (AMap.keys other)) :
    WF (amounts.Amounts.Minus am other order) ∧
    (∀ k, AMap.get (amounts.Amounts.Minus am other order) k 0 = AMap.get am k 0 - AMap.get other k 0) ∧
    (∀ k, k ∈ AMap.keys (amounts.Amounts.Minus am other order) ↔ k ∈ AMap.keys am ∨ k ∈ AMap.keys other) := by
  have e : amounts.Amounts.Minus am other order = updFold other (fun _ => true) id (fun a b => a - b) order am := by
    simp only [amounts.Amounts.Minus, Minus_range1_eq, rangeFold_eq, filter_mem_of_perm hp, updFold, if_true, id]
  rw [e]
  exact updFold_id_agrees _ (fun a => by rw [Rat.sub_eq_add_neg, Rat.neg_zero, Rat.add_zero]) hwa hwo hp


/-- a Go function value that is a total, pure function -/
def pureFn {α β : Type} (f : α → β) : Option (α → GoSem.Outcome β) := some (fun a => GoSem.Outcome.ok (f a))

theorem SumOver_range1_eq (am : amounts.Amounts) (p : amounts.Key → Bool) (items : List amounts.Key) (res : Rat) :
    amounts.Amounts.SumOver.range1 am (pureFn p) items res =
      GoSem.Outcome.ok (rangeFold am 0 (fun k v r => if p k then r + v else r) items res) := by
  induction items generalizing res with
  | nil => rfl
  | cons k rest ih =>
    simp only [amounts.Amounts.SumOver.range1, rangeFold, pureFn, callFn1, GoSem.Outcome.bind]
    cases h : (AMap.find? am k).isSome
    · simpa [pureFn] using ih res
    · by_cases hp : p k
      · simpa [hp, pureFn] using ih _
      · simpa [hp, pureFn] using ih res

theorem foldl_cond_add (am : amounts.Amounts) (p : amounts.Key → Bool) (ks : List amounts.Key) (w : Rat) :
    ks.foldl (fun r k => if p k then r + AMap.get am k 0 else r) w = w + ((ks.filter p).map (fun k => AMap.get am k 0)).sum := by
  induction ks generalizing w with
  | nil => simp [Rat.add_zero]
  | cons k rest ih =>
    simp only [List.foldl_cons, ih, List.filter_cons]
    by_cases hp : p k <;> simp [hp, Rat.add_assoc]

/-- **`Amounts.SumOver`**: for every iteration order (each key once) the result is the sum of the amounts whose key
satisfies the predicate (a total pure function; a nil predicate panics at the first key, as in Go) -/
theorem SumOver_agrees {am : amounts.Amounts} (hwf : WF am) (p : amounts.Key → Bool) {order : List amounts.Key}
    (hp : order.Perm (AMap.keys am)) :
    amounts.Amounts.SumOver am (pureFn p) order = GoSem.Outcome.ok (total am p) := by
  simp only [amounts.Amounts.SumOver, SumOver_range1_eq, GoSem.Outcome.bind, rangeFold_eq, filter_mem_of_perm hp, foldl_cond_add,
    zero_rat, Rat.zero_add, total_order hwf p hp]

theorem SumOver_nil_pred (am : amounts.Amounts) (k : amounts.Key) (v : Rat) (rest : List amounts.Key)
    (h : AMap.find? am k = some v) :
    amounts.Amounts.SumOver am none (k :: rest) = GoSem.Outcome.panic "invalid memory address or nil pointer dereference" := by
  simp [amounts.Amounts.SumOver, amounts.Amounts.SumOver.range1, h, callFn1, GoSem.Outcome.bind]

theorem SumIntoBy_range1_eq (am : amounts.Amounts) (p : amounts.Key → Bool) (m : amounts.Key → amounts.Key)
    (items : List amounts.Key) (dest : amounts.Amounts) :
    amounts.Amounts.SumIntoBy.range1 am (pureFn p) (pureFn m) items dest =
      GoSem.Outcome.ok (rangeFold am 0 (fun k v d => if p k then AMap.set d (m k) (AMap.get d (m k) 0 + v) else d) items dest) := by
  induction items generalizing dest with
  | nil => rfl
  | cons k rest ih =>
    simp only [amounts.Amounts.SumIntoBy.range1, rangeFold, pureFn, callFn1, GoSem.Outcome.bind]
    cases h : (AMap.find? am k).isSome
    · simpa [pureFn] using ih dest
    · by_cases hp : p k
      · simpa [hp, pureFn] using ih _
      · simpa [hp, pureFn] using ih dest

/-- the deletion loop: an entry that is visited while it holds zero is deleted; nothing else changes -/
theorem SumIntoBy_range2_eq (items : List amounts.Key) {dest : amounts.Amounts} (hwf : WF dest) :
    ∃ r, amounts.Amounts.SumIntoBy.range2 items dest = GoSem.Outcome.ok r ∧ WF r ∧
      ∀ k, AMap.find? r k = if k ∈ items ∧ AMap.find? dest k = some 0 then none else AMap.find? dest k := by
  induction items generalizing dest with
  | nil => exact ⟨dest, rfl, hwf, fun k => by simp⟩
  | cons x rest ih =>
    simp only [amounts.Amounts.SumIntoBy.range2]
    cases h : AMap.find? dest x with
    | none =>
      obtain ⟨r, hr, hw, hf⟩ := ih hwf
      refine ⟨r, by simpa using hr, hw, fun k => ?_⟩
      rw [hf k]
      by_cases hk : k = x
      · subst hk; simp [h]
      · simp [hk]
    | some v =>
      by_cases hv : v = 0
      · subst hv
        obtain ⟨r, hr, hw, hf⟩ := ih (AMap.nodupKeys_erase hwf x)
        refine ⟨r, by simpa [AMap.get, h] using hr, hw, fun k => ?_⟩
        rw [hf k, AMap.find?_erase]
        by_cases hk : x = k
        · subst hk; simp [h]
        · have hk' : ¬ k = x := fun e => hk e.symm
          simp [hk, hk']
      · obtain ⟨r, hr, hw, hf⟩ := ih hwf
        refine ⟨r, by simpa [AMap.get, h, hv] using hr, hw, fun k => ?_⟩
        rw [hf k]
        by_cases hk : k = x
        · subst hk; simp [h, hv]
        · simp [hk]

/-- what `SumIntoBy` adds to the key `x`: the amounts of `am` whose key passes the filter and is mapped to `x` -/
def mappedSum (am : amounts.Amounts) (p : amounts.Key → Bool) (m : amounts.Key → amounts.Key) (x : amounts.Key) : Rat :=
  total am (fun k => p k && decide (m k = x))

/-- the keys `SumIntoBy` touches: those of `dest` and the images of the filtered keys of `am` -/
def touched (am dest : amounts.Amounts) (p : amounts.Key → Bool) (m : amounts.Key → amounts.Key) (x : amounts.Key) : Prop :=
  x ∈ AMap.keys dest ∨ ∃ k ∈ AMap.keys am, p k = true ∧ m k = x

/-- the shape in which `SumIntoBy_agrees` states its result: at `x` the map holds `v` if `live`, and has NO entry otherwise (the
deletion loop) -/
def EntryIs (r : amounts.Amounts) (x : amounts.Key) (live : Prop) (v : Rat) : Prop :=
  (live → AMap.find? r x = some v) ∧ (¬ live → AMap.find? r x = none)

/-- **`Amounts.SumIntoBy`** (mutates `dest`: the new `dest` is the result) for a filter and a mapper that are total pure
functions, nil standing for `predicate.True` / `mapper.Identity` as in the Go code: for every iteration order `order1` of
`am` (each key once) and every iteration order `order2` of the intermediate `dest` that reaches all its keys, the result
holds for every key `dest[x] + Σ {am[k] | pred k, mapr k = x}` — unless that is zero, in which case the key is deleted
(pre-existing zero entries of `dest` included) -/
theorem SumIntoBy_agrees {am dest : amounts.Amounts} (hwa : WF am) (hwd : WF dest)
    (pred : Option (amounts.Key → Bool)) (mapr : Option (amounts.Key → amounts.Key)) {order1 order2 : List amounts.Key}
    (h1 : order1.Perm (AMap.keys am))
    (h2 : ∀ x, touched am dest (pred.getD fun _ => true) (mapr.getD id) x → x ∈ order2) :
    ∃ r, amounts.Amounts.SumIntoBy am dest (pred.bind fun p => pureFn p) (mapr.bind fun m => pureFn m) order1 order2 = GoSem.Outcome.ok r ∧
      WF r ∧ ∀ x, EntryIs r x
        (touched am dest (pred.getD fun _ => true) (mapr.getD id) x ∧
            AMap.get dest x 0 + mappedSum am (pred.getD fun _ => true) (mapr.getD id) x ≠ 0)
        (AMap.get dest x 0 + mappedSum am (pred.getD fun _ => true) (mapr.getD id) x) := by
  generalize hp : (pred.getD fun _ => true) = p at h2 ⊢
  generalize hm : mapr.getD id = m at h2 ⊢
  have e1 : (if (Option.isNone (pred.bind fun p => pureFn p)) then
      (some (fun a2 => GoSem.Outcome.ok (predicate.True_ a2)) : Option (amounts.Key → GoSem.Outcome Bool)) else (pred.bind fun p => pureFn p)) = pureFn p := by
    cases pred with
    | none => subst hp; rfl
    | some q => subst hp; rfl
  have e2 : (if (Option.isNone (mapr.bind fun m => pureFn m)) then
      (some (fun a4 => GoSem.Outcome.ok (mapper.Identity a4)) : Option (amounts.Key → GoSem.Outcome amounts.Key)) else (mapr.bind fun m => pureFn m)) = pureFn m := by
    cases mapr with
    | none => subst hm; rfl
    | some q => subst hm; rfl
  simp only [amounts.Amounts.SumIntoBy, e1, e2, SumIntoBy_range1_eq, GoSem.Outcome.bind, rangeFold_eq, filter_mem_of_perm h1]
  have emid : (order1.foldl (fun d k => if p k then AMap.set d (m k) (AMap.get d (m k) 0 + AMap.get am k 0) else d) dest) =
      updFold am p m (fun a b => a + b) order1 dest := rfl
  rw [emid]
  have hwm := updFold_wf am p m (fun a b => a + b) order1 hwd
  obtain ⟨r, hr, hw, hf⟩ := SumIntoBy_range2_eq order2 hwm
  refine ⟨r, by rw [hr], hw, fun x => ?_⟩
  have hkeys : x ∈ AMap.keys (updFold am p m (fun a b => a + b) order1 dest) ↔ touched am dest p m x := by
    rw [updFold_keys]; unfold touched
    exact or_congr Iff.rfl ⟨fun ⟨k, hk, h⟩ => ⟨k, h1.mem_iff.1 hk, h⟩, fun ⟨k, hk, h⟩ => ⟨k, h1.mem_iff.2 hk, h⟩⟩
  have hval : AMap.get (updFold am p m (fun a b => a + b) order1 dest) x 0 = AMap.get dest x 0 + mappedSum am p m x := by
    rw [updFold_add_get, mappedSum, total_order hwa _ h1]
  unfold EntryIs
  rw [hf x]
  by_cases ht : touched am dest p m x
  · have hx2 : x ∈ order2 := h2 x ht
    obtain ⟨v, hfx⟩ := AMap.mem_keys_iff_find?.1 (hkeys.2 ht)
    have hv : v = AMap.get dest x 0 + mappedSum am p m x := by rw [← hval]; simp [AMap.get, hfx]
    subst hv
    by_cases hz : AMap.get dest x 0 + mappedSum am p m x = 0
    · simp [hfx, hx2, ht, hz]
    · simp [hfx, hx2, ht, hz]
  · have hnone : AMap.find? (updFold am p m (fun a b => a + b) order1 dest) x = none := by
      rw [find?_eq_none]; exact fun h => ht (hkeys.1 h)
    simp [ht, hnone]

/-- what the deletion loop of `SumIntoBy` establishes -/
def Clean (am : amounts.Amounts) : Prop := ∀ x, x ∈ AMap.keys am ↔ AMap.get am x 0 ≠ 0

theorem clean_nil : Clean [] := by intro x; simp [AMap.keys, AMap.get, AMap.find?]

theorem mappedSum_untouched {am : amounts.Amounts} {p : amounts.Key → Bool} {m : amounts.Key → amounts.Key} {x : amounts.Key}
    (h : ¬ ∃ k ∈ AMap.keys am, p k = true ∧ m k = x) : mappedSum am p m x = 0 := by
  unfold mappedSum total
  have : am.filter (fun e => p e.1 && decide (m e.1 = x)) = [] := by
    apply List.filter_eq_nil_iff.2
    intro e he hpe
    simp only [Bool.and_eq_true, decide_eq_true_eq] at hpe
    exact h ⟨e.1, List.mem_map.2 ⟨e, he, rfl⟩, hpe.1, hpe.2⟩
  rw [this]; rfl

/-- **`SumIntoBy` as an addition of amounts**: every amount of the result (zero where there is no entry) is the old amount plus
the mapped sum, and the result is `Clean` — whatever `dest` was -/
theorem SumIntoBy_val {am dest : amounts.Amounts} (hwa : WF am) (hwd : WF dest)
    (pred : Option (amounts.Key → Bool)) (mapr : Option (amounts.Key → amounts.Key)) {order1 order2 : List amounts.Key}
    (h1 : order1.Perm (AMap.keys am))
    (h2 : ∀ x, touched am dest (pred.getD fun _ => true) (mapr.getD id) x → x ∈ order2) :
    ∃ r, amounts.Amounts.SumIntoBy am dest (pred.bind fun p => pureFn p) (mapr.bind fun m => pureFn m) order1 order2 = GoSem.Outcome.ok r ∧
      WF r ∧ Clean r ∧
      ∀ x, AMap.get r x 0 = AMap.get dest x 0 + mappedSum am (pred.getD fun _ => true) (mapr.getD id) x := by
  obtain ⟨r, hr, hw, hf⟩ := SumIntoBy_agrees hwa hwd pred mapr h1 h2
  generalize (pred.getD fun _ => true) = p at hf ⊢
  generalize mapr.getD id = m at hf ⊢
  have hzero : ∀ x, ¬ touched am dest p m x → AMap.get dest x 0 + mappedSum am p m x = 0 := fun x ht => by
    rw [get_of_not_mem (fun h => ht (Or.inl h)), mappedSum_untouched (fun h => ht (Or.inr h)), Rat.add_zero]
  have hval : ∀ x, AMap.get r x 0 = AMap.get dest x 0 + mappedSum am p m x := by
    intro x
    by_cases hl : touched am dest p m x ∧ AMap.get dest x 0 + mappedSum am p m x ≠ 0
    · exact get_eq_of_find? ((hf x).1 hl) 0
    · rw [get_of_not_mem ((find?_eq_none r x).1 ((hf x).2 hl))]
      by_cases ht : touched am dest p m x
      · exact (Decidable.not_not.1 (fun h => hl ⟨ht, h⟩)).symm
      · exact (hzero x ht).symm
  refine ⟨r, hr, hw, fun x => ⟨fun hx => ?_, fun hx => ?_⟩, hval⟩
  · rw [hval x]
    by_cases hl : touched am dest p m x ∧ AMap.get dest x 0 + mappedSum am p m x ≠ 0
    · exact hl.2
    · exact absurd hx ((find?_eq_none r x).1 ((hf x).2 hl))
  · rw [hval x] at hx
    exact mem_keys_of_find? ((hf x).1 ⟨Classical.byContradiction (fun ht => hx (hzero x ht)), hx⟩)

/-- **`Amounts.SumBy`**: `SumIntoBy` into the empty map: the result holds, for every key that is the image of a filtered key
and whose mapped sum is not zero, that sum -/
theorem SumBy_agrees {am : amounts.Amounts} (hwa : WF am)
    (pred : Option (amounts.Key → Bool)) (mapr : Option (amounts.Key → amounts.Key)) {order1 order2 : List amounts.Key}
    (h1 : order1.Perm (AMap.keys am))
    (h2 : ∀ x, (∃ k ∈ AMap.keys am, (pred.getD fun _ => true) k = true ∧ (mapr.getD id) k = x) → x ∈ order2) :
    ∃ r, amounts.Amounts.SumBy am (pred.bind fun p => pureFn p) (mapr.bind fun m => pureFn m) order1 order2 = GoSem.Outcome.ok r ∧
      WF r ∧ ∀ x, EntryIs r x
        ((∃ k ∈ AMap.keys am, (pred.getD fun _ => true) k = true ∧ (mapr.getD id) k = x) ∧
            mappedSum am (pred.getD fun _ => true) (mapr.getD id) x ≠ 0)
        (mappedSum am (pred.getD fun _ => true) (mapr.getD id) x) := by
  have ht : ∀ x, touched am [] (pred.getD fun _ => true) (mapr.getD id) x ↔
      ∃ k ∈ AMap.keys am, (pred.getD fun _ => true) k = true ∧ (mapr.getD id) k = x := by
    intro x; simp [touched, AMap.keys]
  obtain ⟨r, hr, hw, hf⟩ := SumIntoBy_agrees hwa wf_nil pred mapr h1 (fun x hx => h2 x ((ht x).1 hx))
  refine ⟨r, by simp [amounts.Amounts.SumBy, hr, GoSem.Outcome.bind], hw, fun x => ?_⟩
  have hz : AMap.get ([] : amounts.Amounts) x 0 = 0 := rfl
  have := hf x
  simp only [hz, Rat.zero_add, ht x] at this
  exact this


/-- **`SumBy` as amounts**: every amount of the result (zero where there is no entry) is the mapped sum; no entry holds zero -/
theorem SumBy_val {am : amounts.Amounts} (hwa : WF am)
    (pred : Option (amounts.Key → Bool)) (mapr : Option (amounts.Key → amounts.Key)) {order1 order2 : List amounts.Key}
    (h1 : order1.Perm (AMap.keys am))
    (h2 : ∀ x, (∃ k ∈ AMap.keys am, (pred.getD fun _ => true) k = true ∧ (mapr.getD id) k = x) → x ∈ order2) :
    ∃ r, amounts.Amounts.SumBy am (pred.bind fun p => pureFn p) (mapr.bind fun m => pureFn m) order1 order2 = GoSem.Outcome.ok r ∧
      WF r ∧ Clean r ∧ ∀ x, AMap.get r x 0 = mappedSum am (pred.getD fun _ => true) (mapr.getD id) x := by
  obtain ⟨r, hr, hw, hc, hv⟩ := SumIntoBy_val hwa wf_nil pred mapr h1
    (fun x hx => h2 x (hx.resolve_left (fun h => by simp [AMap.keys] at h)))
  refine ⟨r, by simp [amounts.Amounts.SumBy, hr, GoSem.Outcome.bind], hw, hc, fun x => ?_⟩
  rw [hv x]; exact Rat.zero_add _


theorem set_New_agrees {T : Type} [DecidableEq T] [GoZero T] : (set.New : set.Set T) = [] := rfl

theorem foldl_setAdd_keys {T : Type} [DecidableEq T] [GoZero T] (f : amounts.Key → T) (ks : List amounts.Key) (s : set.Set T) :
    WF s → WF (ks.foldl (fun s k => set.Set.Add s (f k)) s) ∧
      ∀ x, x ∈ AMap.keys (ks.foldl (fun s k => set.Set.Add s (f k)) s) ↔ x ∈ AMap.keys s ∨ ∃ k ∈ ks, f k = x :=
  fun h => ⟨AMap.nodupKeys_foldl_set f (fun _ _ => ()) ks h, foldl_set_keys f (fun _ _ => ()) ks s⟩

theorem Commodities_range1_eq (am : amounts.Amounts) (items : List amounts.Key) (s : set.Set commodity.Commodity) :
    amounts.Amounts.Commodities.range1 am items s = rangeFold am 0 (fun k _ s => set.Set.Add s k.Commodity) items s :=
  eq_rangeFold am 0 _ _ (fun _ => rfl)
    (fun k rest s => by simp only [amounts.Amounts.Commodities.range1]; cases (AMap.find? am k).isSome <;> rfl) items s

theorem Dates_range1_eq (am : amounts.Amounts) (items : List amounts.Key) (s : set.Set Int) :
    amounts.Amounts.Dates.range1 am items s = rangeFold am 0 (fun k _ s => set.Set.Add s k.Date) items s :=
  eq_rangeFold am 0 _ _ (fun _ => rfl)
    (fun k rest s => by simp only [amounts.Amounts.Dates.range1]; cases (AMap.find? am k).isSome <;> rfl) items s

theorem rangeFold_setAdd {T : Type} [DecidableEq T] [GoZero T] (f : amounts.Key → T) (am : amounts.Amounts) {order : List amounts.Key}
    (hp : order.Perm (AMap.keys am)) :
    WF (rangeFold am 0 (fun k _ s => set.Set.Add s (f k)) order ([] : set.Set T)) ∧
      ∀ c, c ∈ AMap.keys (rangeFold am 0 (fun k _ s => set.Set.Add s (f k)) order ([] : set.Set T)) ↔ ∃ k ∈ AMap.keys am, f k = c := by
  rw [rangeFold_eq, filter_mem_of_perm hp]
  obtain ⟨hw, hm⟩ := foldl_setAdd_keys f order ([] : set.Set T) wf_nil
  refine ⟨hw, fun c => ?_⟩
  rw [hm c]
  simp only [AMap.keys, List.map_nil, List.not_mem_nil, false_or]
  exact ⟨fun ⟨k, hk, h⟩ => ⟨k, hp.mem_iff.1 hk, h⟩, fun ⟨k, hk, h⟩ => ⟨k, hp.mem_iff.2 hk, h⟩⟩

/-- **`Amounts.Commodities`**: the set of the commodities of the keys, for every iteration order (a permutation of the keys) -/
theorem Commodities_agrees (am : amounts.Amounts) {order : List amounts.Key} (hp : order.Perm (AMap.keys am)) :
    WF (amounts.Amounts.Commodities am order) ∧
      ∀ c, c ∈ AMap.keys (amounts.Amounts.Commodities am order) ↔ ∃ k ∈ AMap.keys am, k.Commodity = c := by
  simp only [amounts.Amounts.Commodities, Commodities_range1_eq, set_New_agrees]
  exact rangeFold_setAdd (·.Commodity) am hp

theorem Dates_agrees (am : amounts.Amounts) {order : List amounts.Key} (hp : order.Perm (AMap.keys am)) :
    WF (amounts.Amounts.Dates am order) ∧
      ∀ d, d ∈ AMap.keys (amounts.Amounts.Dates am order) ↔ ∃ k ∈ AMap.keys am, k.Date = d := by
  simp only [amounts.Amounts.Dates, Dates_range1_eq, set_New_agrees]
  exact rangeFold_setAdd (·.Date) am hp

/-- **`Amounts.CommoditiesSorted`**: for every iteration order the commodities of the keys without duplicates, sorted by name —
provided the commodities that occur are determined by their names (the registry interns them: one pointer per name) -/
theorem CommoditiesSorted_agrees (am : amounts.Amounts) {order : List amounts.Key} (hp : order.Perm (AMap.keys am))
    (hinj : ∀ k ∈ AMap.keys am, ∀ k' ∈ AMap.keys am, k.Commodity.name = k'.Commodity.name → k.Commodity = k'.Commodity) :
    amounts.Amounts.CommoditiesSorted am order =
      (((AMap.keys am).map (·.Commodity)).eraseDups).mergeSort (fun a b => decide (a.name ≤ b.name)) := by
  obtain ⟨hw, hm⟩ := Commodities_agrees am hp
  unfold amounts.Amounts.CommoditiesSorted sortedKeys
  rw [show (fun a b : commodity.Commodity => decide (commodity.Compare a b ≠ 1)) = (fun a b => decide (a.name ≤ b.name)) from
    funext fun a => funext fun b => TransPrice.Compare_le a b]
  -- the comparison facts with their types written out: as bare lambdas the unifier has to find `le` through them
  have htr : ∀ a b c : commodity.Commodity, decide (a.name ≤ b.name) = true → decide (b.name ≤ c.name) = true →
      decide (a.name ≤ c.name) = true := fun a b c => ReportPerm.strLE_trans a.name b.name c.name
  have hto : ∀ a b : commodity.Commodity, (decide (a.name ≤ b.name) || decide (b.name ≤ a.name)) = true :=
    fun a b => ReportPerm.strLE_total a.name b.name
  change (AMap.keys (amounts.Amounts.Commodities am order)).mergeSort _ = _
  exact MapSum.mergeSort_image (fun a b : commodity.Commodity => decide (a.name ≤ b.name)) htr hto hw
    (fun k : amounts.Key => k.Commodity) (AMap.keys am) hm
    (fun k hk k' hk' h1 h2 => hinj k hk k' hk' (ReportPerm.strLE_antisymm _ _ h1 h2))

/-- **`Amounts.DatesSorted`**: the dates of the keys without duplicates, ascending, for every iteration order -/
theorem DatesSorted_agrees (am : amounts.Amounts) {order : List amounts.Key} (hp : order.Perm (AMap.keys am)) :
    amounts.Amounts.DatesSorted am order = (((AMap.keys am).map (·.Date)).eraseDups).mergeSort (fun a b => decide (a ≤ b)) := by
  obtain ⟨hw, hm⟩ := Dates_agrees am hp
  unfold amounts.Amounts.DatesSorted sortedKeys
  rw [show (fun a b : Int => decide (compare.Time a b ≠ 1)) = (fun a b => decide (a ≤ b)) from funext fun a => funext fun b => TransCompare.time_le a b]
  exact MapSum.mergeSort_image _ (fun a b c h1 h2 => by simp only [decide_eq_true_eq] at *; omega)
    (fun a b => by simp only [Bool.or_eq_true, decide_eq_true_eq]; omega) hw _ _ hm
    (fun k _ k' _ h1 h2 => by simp only [decide_eq_true_eq] at *; omega)

theorem bind_ok' {α β : Type} (a : α) (f : α → GoSem.Outcome β) : (GoSem.Outcome.ok a).bind f = f a := rfl

/-- a field mapper of `KeyMapper`: nil leaves the ZERO value in the result (not the field of the argument) -/
def apField {α : Type} [GoZero α] (f : Option (α → GoSem.Outcome α)) (a : α) : GoSem.Outcome α :=
  match f with
  | none => GoSem.Outcome.ok GoZero.zero
  | some g => g a

/-- one `if km.F != nil { res.F = km.F(k.F) }` of `KeyMapper.Build`, followed by the rest of the body: `res` holds zero at
the field that `upd` sets, so the skipped assignment is the assignment of zero -/
theorem field_step {α ρ β : Type} [GoZero α] (f : Option (α → GoSem.Outcome α)) (a : α) (upd : α → ρ)
    (rest : ρ → GoSem.Outcome β) (rhs : α → GoSem.Outcome β) (h : ∀ t, rest (upd t) = rhs t) :
    (if Option.isSome f then (callFn1 f a).bind (fun t => GoSem.Outcome.ok (upd t)) else GoSem.Outcome.ok (upd GoZero.zero)).bind rest =
      (apField f a).bind rhs := by
  obtain rfl : (fun t => rest (upd t)) = rhs := funext h
  cases f with
  | none => rfl
  | some g => exact Outcome.bind_assoc _ _ _

/-- **`KeyMapper.Build`** (the curried function): every field mapper that is set is applied to its field, in the order date,
account, other, commodity, valuation, description; a field without a mapper is ZERO in the result; a panic of a mapper propagates -/
theorem KeyMapper_Build_agrees (km : amounts.KeyMapper) (k : amounts.Key) :
    amounts.KeyMapper.Build km k =
      (apField km.Date k.Date).bind fun d => (apField km.Account k.Account).bind fun a => (apField km.Other k.Other).bind fun o =>
      (apField km.Commodity k.Commodity).bind fun c => (apField km.Valuation k.Valuation).bind fun v =>
      (apField km.Description k.Description).bind fun s =>
        GoSem.Outcome.ok { Date := d, Account := a, Other := o, Commodity := c, Valuation := v, Description := s } := by
  unfold amounts.KeyMapper.Build
  refine field_step km.Date k.Date _ _ _ fun d => ?_
  refine field_step km.Account k.Account _ _ _ fun a => ?_
  refine field_step km.Other k.Other _ _ _ fun o => ?_
  refine field_step km.Commodity k.Commodity _ _ _ fun c => ?_
  refine field_step km.Valuation k.Valuation _ _ _ fun v => ?_
  exact field_step km.Description k.Description _ _ _ fun s => rfl

theorem FilterDates_agrees (pred : predicate.Predicate Int) (k : amounts.Key) :
    amounts.FilterDates pred k = callFn1 pred k.Date := by
  unfold amounts.FilterDates
  cases callFn1 pred k.Date <;> rfl


/-- the amounts after the calls `Add(k, v)` of the log, from the empty map: what a node of the balance report holds -/
def amountsOf (log : List (amounts.Key × Rat)) : amounts.Amounts :=
  log.foldl (fun am e => amounts.Amounts.Add am e.1 e.2) []

/-- the model side of `total`: the same sum over a LOG of `Add` calls (a key may occur several times) -/
def logSum (log : List (amounts.Key × Rat)) (p : amounts.Key → Bool) : Rat := ((log.filter (fun e => p e.1)).map Prod.snd).sum

theorem Add_cons (a : amounts.Key) (b : Rat) (rest : amounts.Amounts) (k : amounts.Key) (v : Rat) :
    amounts.Amounts.Add ((a, b) :: rest) k v = if a = k then (k, b + v) :: rest else (a, b) :: amounts.Amounts.Add rest k v := by
  by_cases h : a = k <;> simp [amounts.Amounts.Add, AMap.set, AMap.get, AMap.find?, h]

/-- `Add` reads and replaces the first entry of the key: no key need be unique -/
theorem total_Add (am : amounts.Amounts) (k : amounts.Key) (v : Rat) (p : amounts.Key → Bool) :
    total (amounts.Amounts.Add am k v) p = total am p + if p k then v else 0 := by
  induction am with
  | nil => simp [amounts.Amounts.Add, AMap.set, AMap.get, total_cons, total_nil, Rat.add_zero, Rat.zero_add]
  | cons e rest ih =>
    obtain ⟨a, b⟩ := e
    rw [Add_cons]
    by_cases h : a = k
    · subst h
      rw [if_pos rfl, total_cons, total_cons]
      by_cases hp : p a <;> simp [hp, Rat.add_zero, Rat.add_assoc, Rat.add_comm v]
    · rw [if_neg h, total_cons, total_cons, ih, Rat.add_assoc]

theorem foldl_Add_wf (log : List (amounts.Key × Rat)) {am : amounts.Amounts} (h : WF am) :
    WF (log.foldl (fun am e => amounts.Amounts.Add am e.1 e.2) am) :=
  AMap.nodupKeys_foldl_set (fun e : amounts.Key × Rat => e.1) (fun am e => AMap.get am e.1 0 + e.2) log h

theorem amountsOf_wf (log : List (amounts.Key × Rat)) : WF (amountsOf log) := foldl_Add_wf log wf_nil

theorem foldl_Add_total (log : List (amounts.Key × Rat)) (am : amounts.Amounts) (p : amounts.Key → Bool) :
    total (log.foldl (fun am e => amounts.Amounts.Add am e.1 e.2) am) p = total am p + logSum log p := by
  induction log generalizing am with
  | nil => simp [logSum, Rat.add_zero]
  | cons e rest ih =>
    simp only [List.foldl_cons]
    rw [ih, total_Add, logSum, logSum, List.filter_cons]
    by_cases hp : p e.1 <;> simp [hp, Rat.add_assoc, Rat.add_zero]

theorem total_amountsOf (log : List (amounts.Key × Rat)) (p : amounts.Key → Bool) : total (amountsOf log) p = logSum log p := by
  unfold amountsOf; rw [foldl_Add_total log [] p, total_nil, Rat.zero_add]

theorem foldl_Add_keys (log : List (amounts.Key × Rat)) (am : amounts.Amounts) (x : amounts.Key) :
    x ∈ AMap.keys (log.foldl (fun am e => amounts.Amounts.Add am e.1 e.2) am) ↔ x ∈ AMap.keys am ∨ ∃ e ∈ log, e.1 = x :=
  foldl_set_keys (fun e : amounts.Key × Rat => e.1) (fun am e => AMap.get am e.1 0 + e.2) log am x

theorem amountsOf_keys (log : List (amounts.Key × Rat)) (x : amounts.Key) :
    x ∈ AMap.keys (amountsOf log) ↔ ∃ e ∈ log, e.1 = x := by
  unfold amountsOf; rw [foldl_Add_keys]; simp [AMap.keys]

theorem foldl_Add_get (log : List (amounts.Key × Rat)) (am : amounts.Amounts) (x : amounts.Key) :
    AMap.get (log.foldl (fun am e => amounts.Amounts.Add am e.1 e.2) am) x 0 =
      AMap.get am x 0 + logSum log (fun k => decide (k = x)) := by
  induction log generalizing am with
  | nil => exact (Rat.add_zero _).symm
  | cons e rest ih =>
    rw [List.foldl_cons, ih, Add_get, Rat.add_assoc, logSum, logSum, List.filter_cons]
    by_cases h : e.1 = x <;> simp [h, Rat.zero_add]

theorem amountsOf_get (log : List (amounts.Key × Rat)) (x : amounts.Key) :
    AMap.get (amountsOf log) x 0 = logSum log (fun k => decide (k = x)) :=
  (foldl_Add_get log [] x).trans (Rat.zero_add _)

theorem SumOver_amountsOf (log : List (amounts.Key × Rat)) (p : amounts.Key → Bool) {order : List amounts.Key}
    (hp : order.Perm (AMap.keys (amountsOf log))) :
    amounts.Amounts.SumOver (amountsOf log) (pureFn p) order = GoSem.Outcome.ok (logSum log p) := by
  rw [SumOver_agrees (amountsOf_wf log) p hp, total_amountsOf]

/-- `f` builds the entry of a logged call, as `TransQuery.entryOf` does for the calls `Report.Insert` keeps -/
theorem sumAmounts_of_log (log : List (amounts.Key × Rat)) (f : amounts.Key × Rat → Knut.Entry) (hf : ∀ e, (f e).amount = e.2) :
    BalanceReport.sumAmounts (log.map f) = (log.map Prod.snd).sum := by
  rw [BalanceReport.sumAmounts_map]
  exact congrArg List.sum (List.map_congr_left (fun e _ => hf e))

/-- **against the model**: `SumOver` over the amounts of a log = `BalanceReport.sumAmounts` of the entries of the logged calls
that satisfy the predicate -/
theorem SumOver_model (log : List (amounts.Key × Rat)) (p : amounts.Key → Bool) (f : amounts.Key × Rat → Knut.Entry)
    (hf : ∀ e, (f e).amount = e.2) {order : List amounts.Key} (hp : order.Perm (AMap.keys (amountsOf log))) :
    amounts.Amounts.SumOver (amountsOf log) (pureFn p) order =
      GoSem.Outcome.ok (BalanceReport.sumAmounts ((log.filter (fun e => p e.1)).map f)) := by
  rw [SumOver_amountsOf log p hp, sumAmounts_of_log _ f hf]; rfl

private def exK1 : amounts.Key := amounts.DateCommodityKey 5 ⟨"CHF", true⟩
private def exK2 : amounts.Key := amounts.DateCommodityKey 6 ⟨"CHF", true⟩
private def exAm : amounts.Amounts := amountsOf [(exK1, 3), (exK2, 4), (exK1, -1)]

example : amounts.Amounts.SumOver exAm (pureFn fun k => decide (k.Date = 5)) [exK2, exK1] = GoSem.Outcome.ok 2 := by decide +kernel
/-- summed by commodity (the date mapped away), the deletion loop visiting the one key -/
example : (match amounts.Amounts.SumBy exAm none (pureFn fun k => { k with Date := 0 }) [exK1, exK2] [amounts.CommodityKey ⟨"CHF", true⟩] with
      | .ok r => r.map (fun e => (e.1.Commodity.name, e.2))
      | _ => []) = [("CHF", 6)] := by decide +kernel
/-- a sum that cancels is deleted -/
example : amounts.Amounts.SumBy (amountsOf [(exK1, 3), (exK1, -3)]) none none [exK1] [exK1] = GoSem.Outcome.ok [] := by decide +kernel
example : amounts.Amounts.Commodities exAm [exK2, exK1] = [(⟨"CHF", true⟩, ())] ∧ amounts.Amounts.Dates exAm [exK2, exK1] = [(6, ()), (5, ())] := by
  decide +kernel
example : amounts.KeyMapper.Build { (GoZero.zero : amounts.KeyMapper) with Date := pureFn id } exK1 = GoSem.Outcome.ok (amounts.DateKey 5) := by
  decide +kernel

end Knut.FactsAgree.TransAmountsSum
