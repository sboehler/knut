import Knut.Generated.TransAtomic
import Knut.Proofs.AtomicWrite
/-!
# `natefinch/atomic.WriteFile`: the definition translated from the library's SOURCE equals C18's protocol model

`harness/trans_units_atomic.go` translates `atomic.WriteFile` and `atomic.ReplaceFile` — from the source that /repo's go.mod selects —
into `Knut.Generated.Go.atomic.WriteFile/ReplaceFile` on every run of `bin/check`: every `os`/`io`/`ioutil` call is an operation on an
explicit world (`GoSem/OsWorld.lean`: the model's file system, the model's fault `Scenario` as the failure oracle, the fresh temp name, the
log of all file-system states), the named result `err` is a variable, and at every `return` the function-level defer list runs in reverse
(`f.Close()` with the receiver bound where the `defer` stands, then the closure `if err != nil { os.Remove(f.Name()) }` reading the
named result as the `return` has just set it).

The agreement is for `tmp ≠ target` (the model's assumption: `O_EXCL`). The state log of the translated run is a SUBLIST of the
model's states containing every one of them, not the same list: the model lists the state before `Chmod` twice when the modes are
equal and no `Chmod` is made.

A change of the order of the operations, of an error check, of the defer list or of the condition of the clean-up in atomic.go changes the
generated definition, and these proofs are re-checked against it.
-/

namespace Knut.FactsAgree.TransAtomic
open Knut Knut.GoSem Knut.AtomicWrite Knut.Generated.Go.atomic

/-- what the model calls the outcome of a Go `error` value: nil is `ok`, an error reports the failed operation it carries -/
def outcomeOf (e : Option Os.Err) : Option Outcome :=
  match e with
  | none => some .ok
  | some e => e.op.map Outcome.error

theorem temp_world (sc : Scenario) (tmp : Path) (fs : FS) (hc : sc.fault ≠ some .createTemp) (d p : String) :
    Os.TempFile (Os.World.init sc tmp fs) d p = ((Os.World.init sc tmp fs).step (FS.set fs tmp ⟨[], 0o600⟩), ⟨tmp⟩, none) := by
  simp [Os.TempFile, Os.World.init, hc]

-- `hc` is not used: `copy_world` takes the arguments of `temp_world`, whose world it continues
set_option linter.unusedVariables false in
theorem copy_world (sc : Scenario) (tmp : Path) (new : Bytes) (fs : FS) (hc : sc.fault ≠ some .createTemp) :
    Os.Copy ((Os.World.init sc tmp fs).step (FS.set fs tmp ⟨[], 0o600⟩)) ⟨tmp⟩ new =
      ({ fs := FS.set fs tmp ⟨new.take (written sc new), 0o600⟩, sc := sc, tmp := tmp, states := copyStates sc tmp new fs },
        (written sc new : Int),
        if written sc new < new.length ∨ sc.fault = some .write then Os.Err.sys .write else none) := by
  simp [Os.Copy, Os.World.init, Os.World.step, Os.modeOf, get_set_same, set_set, copyStates]
  by_cases h : written sc new < List.length new ∨ sc.fault = some Op.write <;> simp [h]


/-- the translated `atomic.WriteFile(target, new)` run from the world `(fs, scenario)` in which `TempFile` picks `tmp`:
the world it ends in (file system, state log) and the `error` it returns -/
def goRun (sc : Scenario) (tmp target : Path) (new : Bytes) (fs : FS) : Os.World × Option Os.Err :=
  WriteFile (Os.World.init sc tmp fs) target new

/-- a translated run against a run of the model: same final file system, same outcome, the same states (a sublist, and
every state of the model among them) -/
def Agrees (g : Os.World × Option Os.Err) (r : Run) : Prop :=
  g.1.fs = r.final ∧ outcomeOf g.2 = some r.outcome ∧ g.1.states.Sublist (r.states ()) ∧
    ∀ st, st ∈ r.states () → st ∈ g.1.states

/-- an error exit: the deferred closure removes the temp file as the model's `cleanup` does -/
theorem agrees_cleanup {sc : Scenario} {tmp : Path} {fs : FS} {sts sts' : List FS} {e : Os.Err} {op : Op}
    (he : e.op = some op) (hsub : sts.Sublist sts') (hmem : ∀ st, st ∈ sts' → st ∈ sts) :
    Agrees ((Os.Remove ⟨fs, sc, tmp, sts⟩ tmp).1, some e) (cleanup sc tmp (fun _ => sts') fs op) := by
  unfold Os.Remove cleanup
  cases sc.unlinkFails
  · refine ⟨rfl, by simp [outcomeOf, he], List.Sublist.append hsub (List.Sublist.refl _), fun st h => ?_⟩
    exact List.mem_append.mpr ((List.mem_append.mp h).imp_left (hmem st))
  · exact ⟨rfl, by simp [outcomeOf, he], hsub, hmem⟩

theorem agrees_ok {sc : Scenario} {tmp : Path} {fs' : FS} {sts sts' : List FS}
    (hsub : sts.Sublist sts') (hmem : ∀ st, st ∈ sts' → st ∈ sts) :
    Agrees (⟨fs', sc, tmp, sts ++ [fs']⟩, none) ⟨fun _ => sts' ++ [fs'], fs', .ok⟩ :=
  ⟨rfl, rfl, List.Sublist.append hsub (List.Sublist.refl _),
    fun st h => List.mem_append.mpr ((List.mem_append.mp h).imp_left (hmem st))⟩

theorem stat_fst (w : Os.World) (p : String) : (Os.Stat w p).1 = w := by
  unfold Os.Stat
  generalize (if p = w.tmp then Op.statTemp else Op.statTarget) = op
  simp only []
  split
  · rfl
  · split <;> rfl

/-- one fallible step: the translated code and `writeOutcome` make the same test -/
theorem agrees_step {c : Prop} [Decidable c] {op : Op} {fail rest : Os.World × Option Os.Err} {o : Outcome} {R : Outcome → Run}
    (h1 : c → Agrees fail (R (.error op))) (h2 : ¬ c → Agrees rest (R o)) :
    Agrees (if (if c then Os.Err.sys op else none).isSome = true then fail else rest) (R (if c then .error op else o)) := by
  by_cases h : c
  · rw [if_pos h, if_pos h]; exact h1 h
  · rw [if_neg h, if_neg h]; exact h2 h

theorem WriteFile_agrees_aux (sc : Scenario) {tmp target : Path} (new : Bytes) (fs : FS) (hne : tmp ≠ target) :
    (goRun sc tmp target new fs).1.fs = (writeFile sc tmp target new fs).final ∧
    outcomeOf (goRun sc tmp target new fs).2 = some (writeFile sc tmp target new fs).outcome ∧
    (goRun sc tmp target new fs).1.states.Sublist ((writeFile sc tmp target new fs).states ()) ∧
    (∀ st, st ∈ (writeFile sc tmp target new fs).states () → st ∈ (goRun sc tmp target new fs).1.states) := by
  -- Symbolic execution in program order against `writeRun … (writeOutcome …)`: one `agrees_step` per operation that can
  -- fail, each exit closed by `agrees_cleanup` or `agrees_ok`. The generated definitions are unfolded here and nowhere
  -- else, so a change of atomic.go that breaks the agreement shows up in this theorem.
  change Agrees (goRun sc tmp target new fs) (writeFile sc tmp target new fs)
  have hnt : target ≠ tmp := Ne.symm hne
  have hsub := List.Sublist.refl (copyStates sc tmp new fs)
  rw [writeFile_eq sc new fs hne]
  unfold goRun WriteFile writeOutcome
  by_cases hc : sc.fault = some .createTemp
  · simp [Os.TempFile, Os.World.init, hc, writeRun, Agrees, outcomeOf, Os.Errorf, Os.Err.sys]
  simp only [temp_world sc tmp fs hc, copy_world sc tmp new fs hc, hc, if_false, Os.File.Sync, Os.File.Close, Os.File.Name,
    stat_fst, Option.isSome_none, Bool.false_eq_true, WriteFile.defer1, Os.Errorf, Option.isSome_some, if_true]
  refine agrees_step (fun h => by simp only [h, if_true]; exact agrees_cleanup rfl hsub fun _ h => h) fun h2 => ?_
  refine agrees_step (fun h => by simp only [h, if_true]; exact agrees_cleanup rfl hsub fun _ h => h) fun h3 => ?_
  refine agrees_step (fun h => by simp only [h, if_true]; exact agrees_cleanup rfl hsub fun _ h => h) fun h4 => ?_
  have hgt : FS.get (FS.set fs tmp ⟨new.take (written sc new), 0o600⟩) target = FS.get fs target := get_set_other fs _ hnt
  have htake : new.take (written sc new) = new := List.take_of_length_le (Nat.le_of_not_lt fun h => h2 (Or.inl h))
  by_cases h5 : sc.fault = some .statTarget
  · simp only [Os.Stat, hnt, h5, if_false, if_true, Os.Err.sys, Os.IsNotExist, Option.isSome_some, writeRun,
      Bool.false_eq_true]
    exact agrees_cleanup rfl hsub (fun _ h => h)
  simp only [Os.Stat, hnt, h5, hgt, get_set_same, if_false, if_true]
  rcases hg : FS.get fs target with _ | old
  · simp only [Os.IsNotExist, ReplaceFile, Os.Rename, if_true, get_set_same, apply_ite Prod.fst, apply_ite Prod.snd]
    refine agrees_step (fun h => ?_) fun h6 => ?_
    · simp only [h, if_true, writeRun, reduceCtorEq, if_false, stagedStates, staged, copied, List.append_nil]
      exact agrees_cleanup rfl hsub fun _ h => h
    · simp only [h6, if_false, writeRun, htake, del_set, stagedStates, installed, List.append_nil, Os.World.step]
      exact agrees_ok hsub (fun _ h => h)
  · simp only [Os.IsNotExist, Option.isSome_none, Bool.false_eq_true, if_false, apply_ite Prod.fst, apply_ite Prod.snd]
    refine agrees_step (fun h => ?_) fun h7 => ?_
    · simp only [h, if_true, Os.Err.sys, Option.isSome_some]
      exact agrees_cleanup rfl hsub (fun _ h => h)
    simp only [h7, if_false, Os.FileInfo.Mode]
    by_cases hm : old.mode = 0o600
    · -- the modes are equal: no `Chmod`, and the model's `staged` is the state the copy ended in
      have hst : staged sc tmp new fs (some old) = copied sc tmp new fs := by rw [staged, hm, copied, htake]
      have hmem : ∀ st, st ∈ stagedStates sc tmp new fs (some old) → st ∈ copyStates sc tmp new fs := by
        intro st h
        rcases List.mem_append.mp h with h | h
        · exact h
        · rw [List.mem_singleton.mp h, hst]; exact copyStates_mem sc tmp new fs (Nat.le_refl _)
      simp only [hm, ne_eq, not_true, decide_false, Bool.false_eq_true, if_false, and_false, ReplaceFile, Os.Rename, get_set_same,
        apply_ite Prod.fst, apply_ite Prod.snd]
      refine agrees_step (fun h => ?_) fun h6 => ?_
      · simp only [h, if_true, writeRun, reduceCtorEq, if_false, hst, copied]
        exact agrees_cleanup rfl (List.sublist_append_left _ _) hmem
      · simp only [h6, if_false, writeRun, htake, del_set, installed, hm, Os.World.step]
        exact agrees_ok (List.sublist_append_left _ _) hmem
    · have hm' : ¬ 0o600 = old.mode := fun h => hm h.symm
      simp only [ne_eq, hm', not_false_eq_true, decide_true, if_true, Os.Chmod, get_set_same, hm, and_true,
        apply_ite Prod.fst, apply_ite Prod.snd]
      refine agrees_step (fun h => by simp only [h, if_true]; exact agrees_cleanup rfl hsub fun _ h => h) fun h8 => ?_
      simp only [h8, if_false, ReplaceFile, Os.Rename, Os.World.step, get_set_same, set_set, htake,
        apply_ite Prod.fst, apply_ite Prod.snd]
      refine agrees_step (fun h => ?_) fun h6 => ?_
      · simp only [h, if_true, writeRun, reduceCtorEq, if_false, stagedStates, staged]
        exact agrees_cleanup rfl (List.Sublist.refl _) fun _ h => h
      · simp only [h6, if_false, writeRun, del_set, installed, stagedStates, staged]
        exact agrees_ok (List.Sublist.refl _) (fun _ h => h)

/-- **agreement**: final file system, outcome and intermediate states of the translated `atomic.WriteFile` are the model's
(`Agrees (goRun …) (writeFile …)` written out) -/
theorem WriteFile_agrees (sc : Scenario) {tmp target : Path} (new : Bytes) (fs : FS) (hne : tmp ≠ target) :
    (goRun sc tmp target new fs).1.fs = (writeFile sc tmp target new fs).final ∧
    outcomeOf (goRun sc tmp target new fs).2 = some (writeFile sc tmp target new fs).outcome ∧
    (goRun sc tmp target new fs).1.states.Sublist ((writeFile sc tmp target new fs).states ()) ∧
    (∀ st, st ∈ (writeFile sc tmp target new fs).states () → st ∈ (goRun sc tmp target new fs).1.states) :=
  WriteFile_agrees_aux sc new fs hne

/-- the translated code passes through exactly the states of the model; membership is what `C18_invariant` quantifies over -/
theorem states_mem (sc : Scenario) {tmp target : Path} (new : Bytes) (fs : FS) (hne : tmp ≠ target) (st : FS) :
    st ∈ (goRun sc tmp target new fs).1.states ↔ st ∈ (writeFile sc tmp target new fs).states () :=
  ⟨fun h => (WriteFile_agrees sc new fs hne).2.2.1.subset h, (WriteFile_agrees sc new fs hne).2.2.2 st⟩

theorem WriteFile_ok_iff (sc : Scenario) {tmp target : Path} (new : Bytes) (fs : FS) (hne : tmp ≠ target) :
    (goRun sc tmp target new fs).2 = none ↔ (writeFile sc tmp target new fs).outcome = .ok := by
  have h := (WriteFile_agrees sc new fs hne).2.1
  constructor
  · intro hn
    rw [hn] at h
    simpa [outcomeOf] using h.symm
  · intro ho
    rw [ho] at h
    cases he : (goRun sc tmp target new fs).2 with
    | none => rfl
    | some e =>
      rw [he] at h
      cases hop : e.op <;> simp [outcomeOf, hop] at h

/-- an error of the translated code reports the operation the model names -/
theorem WriteFile_error (sc : Scenario) {tmp target : Path} (new : Bytes) (fs : FS) (hne : tmp ≠ target) {e : Os.Err}
    (he : (goRun sc tmp target new fs).2 = some e) : ∃ op, e.op = some op ∧ (writeFile sc tmp target new fs).outcome = .error op := by
  have h := (WriteFile_agrees sc new fs hne).2.1
  rw [he] at h
  cases hop : e.op with
  | none => simp [outcomeOf, hop] at h
  | some op => exact ⟨op, rfl, by simpa [outcomeOf, hop] using h.symm⟩

theorem ReplaceFile_agrees (w : Os.World) (src dst : String) : ReplaceFile w src dst = Os.Rename w src dst := rfl

/-- non-vacuity: a run through the translated code — target present with mode 0644, no fault: nil, the new bytes under the old mode, no temp file -/
example :
    let r := goRun {} "j.knut123" "j.knut" [1, 2, 3] [("j.knut", ⟨[9], 0o644⟩)]
    r.2 = none ∧ r.1.fs = [("j.knut", ⟨[1, 2, 3], 0o644⟩)] ∧ r.1.states.length = 8 := by decide +kernel

/-- non-vacuity: the file-size limit cuts the write after one byte: an error that reports `write`, the directory as before -/
example :
    let r := goRun { limit := some 1 } "j.knut123" "j.knut" [1, 2, 3] [("j.knut", ⟨[9], 0o644⟩)]
    (r.2.map (·.msg)) = some "cannot write data to tempfile %q: %v" ∧ (r.2.bind (·.op)) = some .write ∧
      r.1.fs = [("j.knut", ⟨[9], 0o644⟩)] := by decide +kernel

end Knut.FactsAgree.TransAtomic
