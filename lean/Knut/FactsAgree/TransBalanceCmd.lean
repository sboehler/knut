import Knut.Generated.TransCommands
import Knut.Generated.TransFlags
import Knut.FactsAgree.TransMapping
import Knut.FactsAgree.TransQuery
import Knut.FactsAgree.TransAmountsSum
import Knut.FactsAgree.TransDate
import Knut.Generated.Facts
import Knut.Model.BalanceCmd
/-!
# The `journal.Query` that `knut balance` builds (a translated FRAGMENT of `cmd/commands/balance.go` `execute`) is the one the
model's `Balance.queryPosting` assumes
-/
namespace Knut.FactsAgree.TransBalanceCmd
open Knut Knut.GoSem
open Knut.Generated.Go
open Knut.FactsAgree.TransAccount (accountGo)
open Knut.FactsAgree.TransPosting (postingGo commodityGo)
open Knut.FactsAgree.TransMapping
open Knut.FactsAgree.TransQuery (keyOf entryOf Query_Posting_agrees)

/-- **`mapper.Sequence`** of two mappers: the first, then the second; a nil mapper panics when it is reached -/
theorem Sequence_two {T : Type} [GoZero T] (f g : mapper.Mapper T) (t : T) :
    mapper.Sequence [f, g] t = (callFn1 f t).bind (fun t' => callFn1 g t') := by
  unfold mapper.Sequence
  simp only [foldlE]
  cases callFn1 f t with
  | ok a => simp only [GoSem.Outcome.bind]; cases callFn1 g a <;> rfl
  | panic m => rfl
  | outOfFuel => rfl

/-- `mapper.Sequence` in general: the mappers in order -/
theorem Sequence_agrees {T : Type} [GoZero T] (ms : List (mapper.Mapper T)) (t : T) :
    mapper.Sequence ms t = foldlE (fun t m => callFn1 m t) t ms := by
  unfold mapper.Sequence
  have : (fun (st1 : T) (el2 : mapper.Mapper T) => GoSem.Outcome.bind (callFn1 el2 st1) (fun t4 => GoSem.Outcome.ok t4)) =
      (fun t m => callFn1 m t) := by
    funext a m; cases callFn1 m a <;> rfl
  rw [this]
  cases foldlE (fun t m => callFn1 m t) t ms <;> rfl

/-- **`predicate.And`** of two predicates: the second is asked only when the first accepts -/
theorem And_two {T : Type} [GoZero T] (f g : predicate.Predicate T) (t : T) :
    predicate.And [f, g] t = (callFn1 f t).bind fun a => if a then callFn1 g t else GoSem.Outcome.ok false := by
  unfold predicate.And
  simp only [predicate.And.range1]
  cases callFn1 f t with
  | ok a =>
    cases a
    · rfl
    · simp only [GoSem.Outcome.bind, Bool.not_true, Bool.false_eq_true, if_false, if_true]
      cases callFn1 g t with
      | ok b => cases b <;> rfl
      | panic m => rfl
      | outOfFuel => rfl
  | panic m => rfl
  | outOfFuel => rfl

/-- `commodity.IdentityIf`: the identity, or the mapper to nil (the zero commodity) -/
theorem IdentityIf_agrees (b : Bool) :
    commodity.IdentityIf b = some (fun c => GoSem.Outcome.ok (if b then c else GoZero.zero)) := by
  cases b <;> rfl

/-- what a list of compiled expressions accepts: everything when there is none (`predicate.ByName` returns `True`) -/
def anyOrEmpty (fs : List (String → Bool)) (s : String) : Bool := fs.isEmpty || fs.any (fun f => f s)

/-- **`predicate.ByName`** (with the method `Name` as the dictionary `name`) -/
theorem ByName_agrees {T : Type} [GoZero T] (name : T → String) (fs : List (String → Bool)) :
    ∃ g, predicate.ByName name (regsGo fs) = GoSem.Outcome.ok (some g) ∧ ∀ t, g t = GoSem.Outcome.ok (anyOrEmpty fs (name t)) := by
  unfold predicate.ByName
  cases fs with
  | nil => exact ⟨fun a => GoSem.Outcome.ok (predicate.True_ a), by simp [regsGo], fun t => by simp [predicate.True_, anyOrEmpty]⟩
  | cons f rest =>
    have : ¬ (len (regsGo (f :: rest)) = (0 : Int)) := by simp [regsGo, len]; omega
    simp only [this, decide_false, Bool.false_eq_true, if_false]
    refine ⟨_, rfl, fun t => ?_⟩
    rw [Regexes_MatchString_agrees]
    simp [GoSem.Outcome.bind, anyOrEmpty]

/-- **`amounts.CommodityMatches`**: the name of the key's commodity -/
theorem CommodityMatches_agrees (fs : List (String → Bool)) :
    ∃ g, amounts.CommodityMatches (regsGo fs) = GoSem.Outcome.ok (some g) ∧
      ∀ k : amounts.Key, g k = GoSem.Outcome.ok (anyOrEmpty fs k.Commodity.name) := by
  unfold amounts.CommodityMatches
  cases fs with
  | nil => exact ⟨fun a => GoSem.Outcome.ok (predicate.True_ a), by simp [regsGo], fun k => by simp [predicate.True_, anyOrEmpty]⟩
  | cons f rest =>
    have : ¬ (len (regsGo (f :: rest)) = (0 : Int)) := by simp [regsGo, len]; omega
    simp only [this, decide_false, Bool.false_eq_true, if_false]
    obtain ⟨g, hg, hgk⟩ := ByName_agrees commodity.Commodity.Name (f :: rest)
    rw [hg]
    refine ⟨_, rfl, fun k => ?_⟩
    simp only [callFn1, hgk, GoSem.Outcome.bind, commodity.Commodity.Name]

/-- the `--account` flag: absent (`Regex()` returns the nil slice) or its expressions -/
def accFilter (o : Option (List (String → Bool))) (s : String) : Bool :=
  match o with
  | none => true
  | some fs => anyOrEmpty fs s

/-- **`amounts.AccountMatches`**: a nil slice accepts everything, else the name of the key's account -/
theorem AccountMatches_agrees (o : Option (List (String → Bool))) :
    ∃ g, amounts.AccountMatches (o.map regsGo) = GoSem.Outcome.ok (some g) ∧
      ∀ k : amounts.Key, g k = GoSem.Outcome.ok (accFilter o k.Account.name) := by
  unfold amounts.AccountMatches
  cases o with
  | none => exact ⟨fun a => GoSem.Outcome.ok (predicate.True_ a), by simp, fun k => by simp [predicate.True_, accFilter]⟩
  | some fs =>
    simp only [Option.map_some, Option.isNone_some, Bool.false_eq_true, if_false, Option.getD_some]
    obtain ⟨g, hg, hgk⟩ := ByName_agrees account.Account.Name fs
    rw [hg]
    refine ⟨_, rfl, fun k => ?_⟩
    simp only [callFn1, hgk, GoSem.Outcome.bind, account.Account.Name, accFilter]

/-- the `ext` parameters are the flag accessors, in this order (the two `extra` parameters are `reg.SwapType` of `account.Remap`
and `reg.MustGetPath` of `account.Shorten`) -/
theorem query_externals_pinned : commands.balanceRunner.execute.query.externals =
    ["ext1 = r.remap.Regex()", "ext3 = r.mapping.Value()", "ext5 = r.accounts.Regex() [none = nil]", "ext6 = r.commodities.Regex()"] := rfl

/-- **the `journal.Query` of `knut balance`**, as `execute` builds it
(`Select: amounts.KeyMapper{Date: partition.Align(), Account: mapper.Sequence(account.Remap(…), account.Shorten(…)), Commodity:
mapper.Identity, Valuation: commodity.IdentityIf(valuation != nil)}.Build()`, `Where: predicate.And(amounts.AccountMatches(…),
amounts.CommodityMatches(…))`, `Valuation: valuation`): the construction succeeds, and
* `Where` accepts a key iff the `--account` expressions accept the name of its account (all, when the flag is absent) and the
  `--commodity` expressions the name of its commodity (all, when there is none);
* `Select` aligns the date, sends the account through `Remap` and then through the mapper of `Shorten` (`sh`), keeps the commodity,
  keeps the valuation iff the report is valued, and DROPS the other account and the description. -/
theorem query_agrees (valuation : commodity.Commodity) (partition : date.Partition)
    (remapFs : List (String → Bool)) (swap : account.Account → account.Account)
    (m : account.Mapping) (getPath : List String → account.Account)
    (accs : Option (List (String → Bool))) (comFs : List (String → Bool)) (hm : ∀ r ∈ m, RuleOK r) :
    ∃ q sh, commands.balanceRunner.execute.query valuation partition (regsGo remapFs) swap m getPath (accs.map regsGo) (regsGo comFs)
        = GoSem.Outcome.ok q ∧
      account.Shorten m getPath = GoSem.Outcome.ok (some sh) ∧
      q.Valuation = valuation ∧ journal.Query.Into.init q = { query := q, c := [] } ∧
      (∀ k : amounts.Key, callFn1 q.Where k =
        GoSem.Outcome.ok (accFilter accs k.Account.name && anyOrEmpty comFs k.Commodity.name)) ∧
      (∀ k : amounts.Key, callFn1 q.Select k =
        (date.Partition.Align partition k.Date).bind fun d =>
        ((account.Remap (regsGo remapFs) k.Account swap).bind sh).bind fun a =>
          GoSem.Outcome.ok { Date := d, Account := a, Other := GoZero.zero, Commodity := k.Commodity,
                             Valuation := if valuation = GoZero.zero then GoZero.zero else k.Valuation,
                             Description := GoZero.zero }) := by
  obtain ⟨sh, hsh, _⟩ := Shorten_agrees m getPath hm
  obtain ⟨ga, hga, hgak⟩ := AccountMatches_agrees accs
  obtain ⟨gc, hgc, hgck⟩ := CommodityMatches_agrees comFs
  unfold commands.balanceRunner.execute.query
  rw [hsh, hga, hgc]
  simp only [GoSem.Outcome.bind]
  refine ⟨_, sh, rfl, rfl, rfl, rfl, ?_, ?_⟩
  · intro k
    simp only [callFn1, And_two, hgak, hgck, GoSem.Outcome.bind]
    cases accFilter accs k.Account.name <;> simp
  · intro k
    have hv : (if (!decide (valuation = GoZero.zero)) = true then k.Valuation else GoZero.zero) =
        (if valuation = GoZero.zero then GoZero.zero else k.Valuation) := by
      by_cases h : valuation = GoZero.zero <;> simp [h]
    simp only [callFn1, TransAmountsSum.KeyMapper_Build_agrees, TransAmountsSum.apField, IdentityIf_agrees, Sequence_two,
      mapper.Identity, TransAmountsSum.bind_ok', hv]
    rfl

/-- no period ends at the zero date, so the column date that `Align` computes (zero for "after the last period") is read back
by `entryOf` as the model's `alignIn` -/
theorem alignIn_readback (periods : List Knut.Period) (hstop : ∀ p ∈ periods, p.stop ≠ 0) (date : Int) :
    (if (alignIn periods date).getD 0 = 0 then none else some ((alignIn periods date).getD 0)) = alignIn periods date := by
  cases ha : alignIn periods date with
  | none => simp
  | some d =>
    have : d ≠ 0 := by
      unfold alignIn at ha
      cases hfnd : periods.find? (fun p => !(p.stop < date)) with
      | none => simp [hfnd] at ha
      | some pr =>
        simp [hfnd] at ha
        rw [← ha]
        exact hstop pr (List.mem_of_find?_eq_some hfnd)
    simp [this]

/-- what `Report.Insert` keeps of a key as `Select` builds it: the mapped account (nil when the mapping hides it) under the
aligned date -/
theorem entryOf_selected (cur : String → Bool) (periods : List Knut.Period) (hstop : ∀ p ∈ periods, p.stop ≠ 0) (date : Int)
    (o : Option Knut.Account) (oth : account.Account) (com : Knut.Commodity)
    (val : commodity.Commodity) (desc : String) (amt : Rat) :
    entryOf ({ Date := (alignIn periods date).getD 0, Account := optGo o, Other := oth, Commodity := commodityGo cur com,
               Valuation := val, Description := desc }, amt) =
      o.map fun a => { date := alignIn periods date, account := a, commodity := com, amount := amt } := by
  cases o with
  | none => simp [optGo, entryOf]
  | some b =>
    simp only [optGo, entryOf, if_neg (TransAccount.accountGo_ne_zero b), alignIn_readback periods hstop date, Option.map_some]
    simp [accountGo, commodityGo]

/-- what the flags of the command are in the model's configuration -/
structure FlagsOK (cfg : BalCfg) (valuation : commodity.Commodity) (remapFs : List (String → Bool)) (m : account.Mapping)
    (accs : Option (List (String → Bool))) (comFs : List (String → Bool)) : Prop where
  remap : ∀ s, cfg.remap s = remapFs.any (fun f => f s)
  rules : ∀ r ∈ m, RuleOK r
  mapping : m.map ruleOf = cfg.mapping
  accounts : ∀ s, cfg.accountFilter s = accFilter accs s
  commodities : ∀ s, cfg.commodityFilter s = anyOrEmpty comFs s
  valuation : (valuation = GoZero.zero) ↔ cfg.valuation = none

/-- **the report entries of `knut balance`**: with the query that `execute` builds — flags as in `cfg` (`FlagsOK`), the partition
of `cfg.periods` (ends ascending, none the zero date), a registry that returns the account of a path / the swapped account — the
`Posting` callback of `Query.Into` on a posting of a well-formed account succeeds, leaves the query alone, and the entries that
`Report.Insert` keeps of its log grow by exactly the model's `Balance.queryPosting`.  This discharges the hypotheses that
`TransQuery.Query_Posting_model` leaves open ("that is how cmd/commands/balance.go sets them up"). -/
theorem query_posting_model (cfg : BalCfg) (cur : String → Bool) (valuation : commodity.Commodity)
    (span : Knut.Period) (iv : Knut.Interval)
    (remapFs : List (String → Bool)) (swap : account.Account → account.Account)
    (m : account.Mapping) (getPath : List String → account.Account)
    (accs : Option (List (String → Bool))) (comFs : List (String → Bool))
    (hfl : FlagsOK cfg valuation remapFs m accs comFs)
    (hsorted : List.Pairwise (fun p q : Knut.Period => p.stop ≤ q.stop) cfg.periods) (hstop : ∀ p ∈ cfg.periods, p.stop ≠ 0)
    (hreg : RegistryPath getPath) (hswap : RegistrySwap swap) :
    ∃ q, commands.balanceRunner.execute.query valuation (TransDate.partitionGo ⟨span, iv, cfg.periods⟩) (regsGo remapFs) swap m getPath
          (accs.map regsGo) (regsGo comFs) = GoSem.Outcome.ok q ∧
      journal.Query.Into.init q = { query := q, c := [] } ∧
      ∀ (st : journal.Query.Into.State), st.query = q →
      ∀ (tg : transaction.Transaction) (t : Knut.Transaction) (src : Ref) (p : Knut.Posting),
        tg.Date = t.date → p.account.wf = true →
        ∃ st', journal.Query.Into.Posting st tg (postingGo cur src p) = GoSem.Outcome.ok (st', none) ∧ st'.query = st.query ∧
          st'.c.filterMap entryOf = st.c.filterMap entryOf ++ (Balance.queryPosting cfg t p).toList := by
  obtain ⟨q, sh0, hq, hsh0, hqv, hinit, hW, hS⟩ :=
    query_agrees valuation (TransDate.partitionGo ⟨span, iv, cfg.periods⟩) remapFs swap m getPath accs comFs hfl.rules
  refine ⟨q, hq, hinit, ?_⟩
  intro st hst tg t src p hdate hwf
  obtain ⟨sh, hsh, hshA⟩ := Shorten_agrees_registry m getPath hfl.rules hreg
  have hshe : sh0 = sh := by
    have := hsh0.symm.trans hsh
    injection this with this; injection this
  subst hshe
  rw [Query_Posting_agrees, hst, hqv]
  have hkey : keyOf valuation tg (postingGo cur src p) =
      { Date := t.date, Account := accountGo p.account, Other := accountGo p.other, Commodity := commodityGo cur p.commodity,
        Valuation := valuation, Description := tg.Description } := by
    simp [keyOf, postingGo, hdate]
  simp only [hW, hS, hkey, GoSem.Outcome.bind]
  have hname : (accountGo p.account).name = p.account.name := rfl
  have hcom : (commodityGo cur p.commodity).name = p.commodity := rfl
  rw [hname, hcom, ← hfl.accounts, ← hfl.commodities]
  rw [queryPosting_eq_entryOf]
  by_cases hf : (cfg.accountFilter p.account.name && cfg.commodityFilter p.commodity) = true
  · rw [Knut.entryOf_pos hf]
    simp only [hf, if_true]
    rw [TransDate.Align_agrees_of_sorted span iv cfg.periods t.date hsorted]
    simp only []
    have hR := Remap_model remapFs swap hswap p.account hwf
    rw [hR]
    simp only []
    have hwf' : (if remapFs.any (fun f => f p.account.name) then swapType p.account else p.account).wf = true := by
      cases remapFs.any (fun f => f p.account.name)
      · exact hwf
      · exact swapType_wf hwf
    rw [hshA _ hwf', hfl.mapping]
    have hmapA : shorten cfg.mapping (if remapFs.any (fun f => f p.account.name) then swapType p.account else p.account) =
        mapAccount cfg p.account := by
      rw [mapAccount_eq, hfl.remap]
    rw [hmapA]
    simp only []
    refine ⟨_, rfl, rfl, ?_⟩
    simp only [List.filterMap_append, List.filterMap_cons, List.filterMap_nil]
    have hamt : (if valuation = GoZero.zero then (postingGo cur src p).Quantity else (postingGo cur src p).Value) =
        p.amountIn cfg := by
      unfold Posting.amountIn
      cases hc : cfg.valuation with
      | none => simp [hfl.valuation.mpr hc, postingGo]
      | some v => simp [(not_congr hfl.valuation).2 (by simp [hc]), postingGo]
    rw [hamt, entryOf_selected cur cfg.periods hstop t.date]
    cases mapAccount cfg p.account <;> rfl
  · have hf' : (cfg.accountFilter p.account.name && cfg.commodityFilter p.commodity) = false := by simpa using hf
    rw [Knut.entryOf_neg hf]
    simp only [hf', Bool.false_eq_true, if_false]
    exact ⟨st, rfl, hst, by simp⟩

open Knut.FactsAgree.TransProcess (Proc processDay AllRel PRel TRel)

/-- the processor that `Query{…}.Into(report)` returns: its one closure, `Posting` (which leaves the posting alone), in the shape
`processDay` expects -/
def queryCb (st : journal.Query.Into.State) (t : transaction.Transaction) (p : posting.Posting) :
    GoSem.Outcome (journal.Query.Into.State × posting.Posting × Option Error) :=
  (journal.Query.Into.Posting st t p).bind fun r => GoSem.Outcome.ok (r.1, p, r.2)

def queryProc : Proc journal.Query.Into.State := { Posting := some queryCb }

theorem queryCb_ok {st st1 : journal.Query.Into.State} {t : transaction.Transaction} {p : posting.Posting} {e : Option Error}
    (h : journal.Query.Into.Posting st t p = GoSem.Outcome.ok (st1, e)) : queryCb st t p = GoSem.Outcome.ok (st1, p, e) := by
  unfold queryCb; rw [h]; rfl

/-- the conclusion of `query_posting_model` about a query `q` -/
def PostingOK (cfg : BalCfg) (cur : String → Bool) (q : journal.Query) : Prop :=
  ∀ (st : journal.Query.Into.State), st.query = q →
    ∀ (tg : transaction.Transaction) (t : Knut.Transaction) (src : Ref) (p : Knut.Posting),
      tg.Date = t.date → p.account.wf = true →
      ∃ st', journal.Query.Into.Posting st tg (postingGo cur src p) = GoSem.Outcome.ok (st', none) ∧ st'.query = st.query ∧
        st'.c.filterMap entryOf = st.c.filterMap entryOf ++ (Balance.queryPosting cfg t p).toList

theorem postingsOf_ok {σ : Type} (fp : σ → transaction.Transaction → posting.Posting → GoSem.Outcome (σ × posting.Posting × Option Error))
    (st st1 : σ) (g : transaction.Transaction)
    (h : TransProcess.forEachIn fp (fun ps => { g with Postings := ps }) st g.Postings [] = GoSem.Outcome.ok (st1, g.Postings, none)) :
    TransProcess.postingsOf fp st g = GoSem.Outcome.ok (st1, g, none) := by
  unfold TransProcess.postingsOf
  rw [h]; rfl

theorem postings_loop {cfg : BalCfg} {cur : String → Bool} {q : journal.Query} (hq : PostingOK cfg cur q)
    (t : Knut.Transaction) (ctx : List posting.Posting → transaction.Transaction) (hctx : ∀ l, (ctx l).Date = t.date) :
    ∀ (mps : List Knut.Posting) (ps done : List posting.Posting) (st : journal.Query.Into.State),
      AllRel (PRel cur) ps mps → (∀ p ∈ mps, p.account.wf = true) → st.query = q →
      ∃ st', TransProcess.forEachIn queryCb ctx st ps done = GoSem.Outcome.ok (st', done ++ ps, none) ∧ st'.query = q ∧
        st'.c.filterMap entryOf = st.c.filterMap entryOf ++ mps.filterMap (Balance.queryPosting cfg t) := by
  intro mps ps done st hrel hwf hst
  obtain ⟨st', e, h1, h2⟩ := TransProcess.forEachIn_ok (fun (st' : journal.Query.Into.State) (pre : List Knut.Posting) => st'.query = q ∧
      st'.c.filterMap entryOf = st.c.filterMap entryOf ++ pre.filterMap (Balance.queryPosting cfg t)) (PRel cur) queryCb ctx
    (fun pre p => pre ++ [p]) hrel
    (fun g pre z gp p hp hR hgp => by
      obtain ⟨g', e, hq', hc⟩ := hq g hR.1 (ctx z) t gp.Src p (hctx _) (hwf p hp)
      rw [← show gp = postingGo cur gp.Src p from hgp] at e
      refine ⟨g', queryCb_ok e, hq'.trans hR.1, ?_⟩
      rw [hc, hR.2, List.filterMap_append, List.append_assoc, List.filterMap_cons]
      cases Balance.queryPosting cfg t p <;> rfl) done st [] ⟨hst, (List.append_nil _).symm⟩
  rw [show mps.foldl (fun pre p => pre ++ [p]) [] = mps from
    (GoSem.foldl_append_singleton id mps []).trans (by rw [List.map_id, List.nil_append])] at h2
  exact ⟨st', e, h1, h2⟩

theorem txs_loop {cfg : BalCfg} {cur : String → Bool} {q : journal.Query} (hq : PostingOK cfg cur q) :
    ∀ (txs : List Knut.Transaction) (gs done : List transaction.Transaction) (st : journal.Query.Into.State),
      AllRel (TRel cur) gs txs → (∀ t ∈ txs, ∀ p ∈ t.postings, p.account.wf = true) → st.query = q →
      ∃ st', TransProcess.forEachE (TransProcess.postingsOf queryCb) st gs done =
          GoSem.Outcome.ok (st', done ++ gs, none) ∧ st'.query = q ∧
        st'.c.filterMap entryOf = st.c.filterMap entryOf ++ txs.flatMap (Balance.queryTx cfg) := by
  intro txs gs done st hrel hwf hst
  obtain ⟨st', e, h1, h2⟩ := TransProcess.forEachE_ok (fun (st' : journal.Query.Into.State) (pre : List Knut.Transaction) => st'.query = q ∧
      st'.c.filterMap entryOf = st.c.filterMap entryOf ++ pre.flatMap (Balance.queryTx cfg)) (TRel cur)
    (TransProcess.postingsOf queryCb) (fun pre t => pre ++ [t]) hrel
    (fun g pre gt t ht hR hgt => by
      obtain ⟨g', e, hq', hc⟩ := postings_loop hq t (fun ps => { gt with Postings := ps }) (fun _ => hgt.1) t.postings gt.Postings []
        g hgt.2.2.1 (hwf t ht) hR.1
      refine ⟨g', postingsOf_ok _ _ _ _ (by simpa using e), hq', ?_⟩
      rw [hc, hR.2, List.flatMap_append, List.append_assoc]
      simp [queryTx_def]) done st [] ⟨hst, (List.append_nil _).symm⟩
  rw [show txs.foldl (fun pre p => pre ++ [p]) [] = txs from
    (GoSem.foldl_append_singleton id txs []).trans (by rw [List.map_id, List.nil_append])] at h2
  exact ⟨st', e, h1, h2⟩

/-- **the query stage of `knut balance` on one day** = the last line of `Balance.day`: `Processor.Process` with the processor of
`Query{…}.Into(report)` (for the query that `execute` builds) leaves the day as it is, and the entries that `Report.Insert` keeps of
the log grow by `txs.flatMap (Balance.queryTx cfg)` for the model transactions `txs` the day's transactions stand for -/
theorem query_day_model {cfg : BalCfg} {cur : String → Bool} {q : journal.Query} (hq : PostingOK cfg cur q)
    (st : journal.Query.Into.State) (hst : st.query = q) (dg : journal.Day) (txs : List Knut.Transaction)
    (hrel : AllRel (TRel cur) dg.Transactions txs) (hwf : ∀ t ∈ txs, ∀ p ∈ t.postings, p.account.wf = true) :
    ∃ st', processDay queryProc st dg = GoSem.Outcome.ok (st', dg, none) ∧ st'.query = q ∧
      st'.c.filterMap entryOf = st.c.filterMap entryOf ++ txs.flatMap (Balance.queryTx cfg) := by
  obtain ⟨st', h, hq', hc⟩ := txs_loop hq txs dg.Transactions [] st hrel hwf hst
  refine ⟨st', ?_, hq', hc⟩
  rw [queryProc, TransProcess.processDay_posting]
  simp only [TransProcess.onTransactions, GoSem.Outcome.bind, h, List.nil_append]

/-- **`knut balance`, the query stage**: the query that `execute` builds, started by `Query.Into` (empty log), run by
`Processor.Process` over a day, inserts into the report exactly the entries of `Balance.day`'s last line -/
theorem balance_query_day (cfg : BalCfg) (cur : String → Bool) (valuation : commodity.Commodity)
    (span : Knut.Period) (iv : Knut.Interval)
    (remapFs : List (String → Bool)) (swap : account.Account → account.Account)
    (m : account.Mapping) (getPath : List String → account.Account)
    (accs : Option (List (String → Bool))) (comFs : List (String → Bool))
    (hfl : FlagsOK cfg valuation remapFs m accs comFs)
    (hsorted : List.Pairwise (fun p q : Knut.Period => p.stop ≤ q.stop) cfg.periods) (hstop : ∀ p ∈ cfg.periods, p.stop ≠ 0)
    (hreg : RegistryPath getPath) (hswap : RegistrySwap swap) :
    ∃ q, commands.balanceRunner.execute.query valuation (TransDate.partitionGo ⟨span, iv, cfg.periods⟩) (regsGo remapFs) swap m getPath
          (accs.map regsGo) (regsGo comFs) = GoSem.Outcome.ok q ∧
      journal.Query.Into.init q = { query := q, c := [] } ∧
      ∀ (st : journal.Query.Into.State), st.query = q →
      ∀ (dg : journal.Day) (txs : List Knut.Transaction), AllRel (TRel cur) dg.Transactions txs →
        (∀ t ∈ txs, ∀ p ∈ t.postings, p.account.wf = true) →
        ∃ st', processDay queryProc st dg = GoSem.Outcome.ok (st', dg, none) ∧ st'.query = q ∧
          st'.c.filterMap entryOf = st.c.filterMap entryOf ++ txs.flatMap (Balance.queryTx cfg) := by
  obtain ⟨q, hq, hinit, hpost⟩ := query_posting_model cfg cur valuation span iv remapFs swap m getPath accs comFs hfl hsorted hstop hreg hswap
  exact ⟨q, hq, hinit, fun st hst dg txs hrel hwf => query_day_model hpost st hst dg txs hrel hwf⟩

/-! ### the partition: `r.Multiperiod.Partition(j.Period())` -/

/-- the `Multiperiod` flags of the model's `BalanceFlags`: `--from` (absent = the zero time), `--to`, `--last`; the interval flags
are read through `IntervalFlags.Value()`, which is not translated (a loop over an array of flags): its result is the parameter -/
def multiperiodGo (f : BalanceFlags) : flags.Multiperiod :=
  { period := { start := f.from?.getD 0, end_ := f.to }, last := f.last, interval := { def_ := 0 } }

/-- **`Multiperiod.Partition`** = the partition of `BalanceCmd.entries`: `NewPartition` of the flag period clipped to the journal's
period (`BalanceCmd.window`), the interval and `--last`; the zero-time panic of `NewPartition` included -/
theorem Partition_agrees (f : BalanceFlags) (b : Knut.Builder) :
    flags.Multiperiod.Partition (multiperiodGo f) (TransDate.periodGo ⟨b.min, b.max⟩) (TransDate.ivGo f.interval) =
      TransDate.outcomeGo TransDate.partitionGo (newPartition (BalanceCmd.window f b) f.interval f.last) := by
  unfold flags.Multiperiod.Partition BalanceCmd.window
  have hp : flags.PeriodFlag.Value (multiperiodGo f).period = TransDate.periodGo ⟨f.from?.getD 0, f.to⟩ := rfl
  rw [hp, TransDate.Clip_agrees, TransDate.NewPartition_agrees]
  have hl : (multiperiodGo f).last = f.last := rfl
  rw [hl]
  cases newPartition _ f.interval f.last <;> rfl

/-! ### the rest of `execute`, pinned by source text

`execute` as a whole is outside the translated subset (cobra, the registry, the journal builder, the processors as values, bufio).
`harness/facts_balancecmd.go` extracts from its syntax tree which constructor gets which variables, how those variables are defined,
how the renderers are filled and which flag sets which field; the expectations below are what `Model/BalanceCmd.lean` assumes.  A
change of any of these texts in /repo breaks one of the `…_pinned` theorems below. -/

/-- the processors, in the order of `Balance.dayTxs`/`Balance.day` (check, ComputePrices, Valuate, Filter, CloseAccounts, Query),
with the variables the model gives them: ONE `valuation` for ComputePrices, Valuate and the query (`cfg.valuation`), ONE
`partition` for Filter, CloseAccounts and the query's `Align` (`cfg.span`, `cfg.periods`), `r.close` (`cfg.close`), the journal
builder `j` for the closing days, and the report the query inserts into -/
theorem processors_pinned : Knut.Generated.balanceProcessorCalls =
    [("check.Check", []), ("journal.ComputePrices", ["valuation"]), ("journal.Valuate", ["reg", "valuation"]),
     ("journal.Filter", ["partition"]), ("journal.CloseAccounts", ["j", "reg", "r.close", "partition"]),
     ("journal.Query.Into", ["report"])] := rfl

theorem processorOrder_pinned : Knut.Generated.balanceProcessorOrder = Knut.Generated.balanceProcessorCalls.map Prod.fst := rfl

/-- how these variables are defined: the valuation from the flag, the journal from the path argument, the partition =
`Multiperiod.Partition` of the journal's period (`BalanceCmd.window` clipped by `newPartition`), the report over the SAME
partition, the processors run by `j.Build().Process(procs...)` (`Balance.run cfg b.build`), then the renderer -/
theorem setup_pinned : Knut.Generated.balanceSetup =
    [("reg", "registry.New()"), ("valuation, err", "r.valuation.Value(reg)"),
     ("j, err", "journal.FromPath(cmd.Context(), reg, args[0])"), ("partition", "r.Multiperiod.Partition(j.Period())"),
     ("report", "balance.NewReport(reg, partition)"), ("procs", "<the processors>"), ("err", "j.Build().Process(procs...)"),
     ("reportRenderer", "balance.Renderer{…}"), ("out", "bufio.NewWriter(cmd.OutOrStdout())")] := rfl

/-- `BalanceCmd.renderCfg`: valuation, `--show-commodities`, `--sort`, `--diff` -/
theorem rendererFields_pinned : Knut.Generated.balanceRendererFields =
    [("Valuation", "valuation"), ("CommodityDetails", "r.showCommodities.Regex()"),
     ("SortAlphabetically", "r.sortAlphabetically"), ("Diff", "r.diff")] := rfl

/-- `BalanceCmd.run`: `--csv` chooses the CSV renderer (no options), else the text renderer with `--thousands` and `--digits` -/
theorem rendererChoice_pinned : Knut.Generated.balanceRendererChoice = ["tableRenderer", "r.csv", "table.CSVRenderer", "table.TextRenderer"] ∧
    Knut.Generated.balanceCSVRendererFields = [] ∧
    Knut.Generated.balanceTextRendererFields = [("Color", "r.color"), ("Thousands", "r.thousands"), ("Round", "r.digits")] ∧
    Knut.Generated.balanceLastStatement = "return tableRenderer.Render(reportRenderer.Render(report), out)" := ⟨rfl, rfl, rfl, rfl⟩

/-- the flags: name, the field of `balanceRunner` it sets, its default -/
theorem flags_pinned : Knut.Generated.balanceFlags =
    [("r.Multiperiod.Setup(c)", "", ""), ("cpuprofile", "r.cpuprofile", "\"\""), ("diff", "r.diff", "false"), ("csv", "r.csv", "false"),
     ("close", "r.close", "true"), ("sort", "r.sortAlphabetically", "false"), ("show-commodities", "r.showCommodities", "-"),
     ("val", "r.valuation", "-"), ("map", "r.mapping", "-"), ("remap", "r.remap", "-"), ("account", "r.accounts", "-"),
     ("commodity", "r.commodities", "-"), ("digits", "r.digits", "0"), ("thousands", "r.thousands", "false"),
     ("color", "r.color", "true")] := rfl

/-- the same defaults in the model's `BalanceFlags` -/
theorem flagDefaults_model : (({ to := 0 } : BalanceFlags).diff, ({ to := 0 } : BalanceFlags).csv, ({ to := 0 } : BalanceFlags).close,
    ({ to := 0 } : BalanceFlags).sortAlpha, ({ to := 0 } : BalanceFlags).digits, ({ to := 0 } : BalanceFlags).thousands) =
    (false, false, true, false, 0, false) := rfl

end Knut.FactsAgree.TransBalanceCmd
