import Knut.FactsAgree.TransBalanceCmd
import Knut.Properties.C01Go
/-!
# `C01Go.QueryFor` holds of the query that `knut balance` builds

`Properties/C01Go.lean` and `C02Go.lean` state the Delta and ledger clauses about the log of `Report.Insert` calls that the translated
`Query.Into` produces, under the hypothesis `QueryFor cur cfg q w s`: "how `cmd/commands/balance.go` sets up `Where` and `Select`".
With the `journal.Query{…}` literal of `execute` translated (fragment `balanceRunner.execute.query`, `TransBalanceCmd`), the
hypothesis is a theorem: `balance_QueryFor`.

`QueryFor` speaks about the postings of ALL model accounts, also of accounts that do not start with a type word (which the registry
never creates); the registry parameters are therefore required to answer for every model account here (`getPath b.segments =
accountGo b`, `swap (accountGo b) = accountGo (swapType b)` for all `b`), not only for well-formed ones as in
`TransBalanceCmd.query_posting_model`.
-/
namespace Knut.FactsAgree.TransBalanceCmdGo
open Knut Knut.GoSem
open Knut.Generated.Go
open Knut.FactsAgree.TransAccount (accountGo)
open Knut.FactsAgree.TransPosting (postingGo commodityGo)
open Knut.FactsAgree.TransMapping
open Knut.FactsAgree.TransBalanceCmd
open Knut.FactsAgree.TransQuery (keyOf entryOf)

theorem fn_eq_of_callFn1 {α β : Type} {f : Option (α → GoSem.Outcome β)} {w : α → β}
    (h : ∀ k, callFn1 f k = GoSem.Outcome.ok (w k)) (k0 : α) : f = some (fun k => GoSem.Outcome.ok (w k)) := by
  cases f with
  | none => have := h k0; simp [callFn1] at this
  | some g =>
    congr 1
    funext k
    exact h k

/-- what `Select` computes, as a pure function of the key -/
def selectF (cfg : BalCfg) (valuation : commodity.Commodity) (remapFs : List (String → Bool))
    (swap : account.Account → account.Account) (m : account.Mapping) (getPath : List String → account.Account)
    (k : amounts.Key) : amounts.Key :=
  { Date := (alignIn cfg.periods k.Date).getD 0,
    Account := shortenF (m.map ruleOf) getPath (if remapFs.any (fun f => f k.Account.name) then swap k.Account else k.Account),
    Other := GoZero.zero, Commodity := k.Commodity,
    Valuation := if valuation = GoZero.zero then GoZero.zero else k.Valuation, Description := GoZero.zero }

/-- what `Where` computes -/
def whereF (accs : Option (List (String → Bool))) (comFs : List (String → Bool)) (k : amounts.Key) : Bool :=
  accFilter accs k.Account.name && anyOrEmpty comFs k.Commodity.name

/-- **`QueryFor` of the query that `execute` builds** -/
theorem balance_QueryFor (cfg : BalCfg) (cur : String → Bool) (valuation : commodity.Commodity)
    (span : Knut.Period) (iv : Knut.Interval)
    (remapFs : List (String → Bool)) (swap : account.Account → account.Account)
    (m : account.Mapping) (getPath : List String → account.Account)
    (accs : Option (List (String → Bool))) (comFs : List (String → Bool))
    (hfl : FlagsOK cfg valuation remapFs m accs comFs)
    (hsorted : List.Pairwise (fun p q : Knut.Period => p.stop ≤ q.stop) cfg.periods) (hstop : ∀ p ∈ cfg.periods, p.stop ≠ 0)
    (hreg : ∀ b : Knut.Account, getPath b.segments = accountGo b)
    (hswap : ∀ b : Knut.Account, swap (accountGo b) = accountGo (swapType b)) :
    ∃ q, commands.balanceRunner.execute.query valuation (TransDate.partitionGo ⟨span, iv, cfg.periods⟩) (regsGo remapFs) swap m getPath
          (accs.map regsGo) (regsGo comFs) = GoSem.Outcome.ok q ∧
      Knut.C01Go.QueryFor cur cfg (journal.Query.Into.init q).query (whereF accs comFs)
        (selectF cfg valuation remapFs swap m getPath) := by
  obtain ⟨q, sh, hq, hsh, hqv, hinit, hW, hS⟩ :=
    query_agrees valuation (TransDate.partitionGo ⟨span, iv, cfg.periods⟩) remapFs swap m getPath accs comFs hfl.rules
  obtain ⟨f, hf, hft⟩ := Shorten_total m getPath hfl.rules
  have hshe : sh = f := by
    have := hsh.symm.trans hf
    injection this with this; injection this
  subst hshe
  refine ⟨q, hq, ?_⟩
  have hqq : (journal.Query.Into.init q).query = q := by rw [hinit]
  rw [hqq]
  have hSel : ∀ k, callFn1 q.Select k = GoSem.Outcome.ok (selectF cfg valuation remapFs swap m getPath k) := by
    intro k
    rw [hS, TransDate.Align_agrees_of_sorted span iv cfg.periods k.Date hsorted, Remap_agrees]
    simp only [GoSem.Outcome.bind, hft]
    rfl
  refine ⟨fn_eq_of_callFn1 (w := whereF accs comFs) hW GoZero.zero, fn_eq_of_callFn1 hSel GoZero.zero, ?_, ?_, ?_⟩
  · rw [hqv]; exact hfl.valuation
  · intro tg src p
    simp only [whereF, keyOf, postingGo]
    have h1 : (accountGo p.account).name = p.account.name := rfl
    have h2 : (commodityGo cur p.commodity).name = p.commodity := rfl
    rw [h1, h2, hfl.accounts, hfl.commodities]
  · intro tg t src p amt hdate
    have hacc : (selectF cfg valuation remapFs swap m getPath (keyOf q.Valuation tg (postingGo cur src p))).Account =
        optGo (mapAccount cfg p.account) := by
      show shortenF (m.map ruleOf) getPath
          (if remapFs.any (fun f => f p.account.name) then swap (accountGo p.account) else accountGo p.account) = _
      rw [hfl.mapping]
      have : (if remapFs.any (fun f => f p.account.name) then swap (accountGo p.account) else accountGo p.account) =
          accountGo (if remapFs.any (fun f => f p.account.name) then swapType p.account else p.account) := by
        cases remapFs.any (fun f => f p.account.name) <;> simp [hswap]
      rw [this, shortenF_accountGo _ _ _ (fun b _ => hreg b), mapAccount_eq, hfl.remap]
    have hkey : selectF cfg valuation remapFs swap m getPath (keyOf q.Valuation tg (postingGo cur src p)) =
        { Date := (alignIn cfg.periods t.date).getD 0, Account := optGo (mapAccount cfg p.account), Other := GoZero.zero,
          Commodity := commodityGo cur p.commodity, Valuation := if valuation = GoZero.zero then GoZero.zero else q.Valuation,
          Description := GoZero.zero } := by
      rw [← hacc, ← hdate]; rfl
    rw [hkey]
    exact entryOf_selected cur cfg.periods hstop t.date _ _ _ _ _ _

open Knut.FactsAgree.TransProcess (AllRel TRel) in
/-- **the log of `knut balance`**: `Query.Into` of the query that `execute` builds, from its empty log, over the Go transactions
that reach the query stage (standing for the model transactions `ts`): no error, no panic, and the entries that `Report.Insert` keeps
are exactly the model's `queryTx` of every transaction, in order (`C01Go.queryAll_model` with `balance_QueryFor`) -/
theorem balance_queryAll (cfg : BalCfg) (cur : String → Bool) (valuation : commodity.Commodity)
    (span : Knut.Period) (iv : Knut.Interval)
    (remapFs : List (String → Bool)) (swap : account.Account → account.Account)
    (m : account.Mapping) (getPath : List String → account.Account)
    (accs : Option (List (String → Bool))) (comFs : List (String → Bool))
    (hfl : FlagsOK cfg valuation remapFs m accs comFs)
    (hsorted : List.Pairwise (fun p q : Knut.Period => p.stop ≤ q.stop) cfg.periods) (hstop : ∀ p ∈ cfg.periods, p.stop ≠ 0)
    (hreg : ∀ b : Knut.Account, getPath b.segments = accountGo b)
    (hswap : ∀ b : Knut.Account, swap (accountGo b) = accountGo (swapType b)) :
    ∃ q, commands.balanceRunner.execute.query valuation (TransDate.partitionGo ⟨span, iv, cfg.periods⟩) (regsGo remapFs) swap m getPath
          (accs.map regsGo) (regsGo comFs) = GoSem.Outcome.ok q ∧
      ∀ (tgs : List transaction.Transaction) (ts : List Knut.Transaction), AllRel (TRel cur) tgs ts →
        ∃ st', Knut.C01Go.queryAllGo (journal.Query.Into.init q) tgs = GoSem.Outcome.ok (st', none) ∧
          Knut.FactsAgree.TransReport.esOf st'.c = ts.flatMap (Balance.queryTx cfg) := by
  obtain ⟨q, hq, hfor⟩ := balance_QueryFor cfg cur valuation span iv remapFs swap m getPath accs comFs hfl hsorted hstop hreg hswap
  refine ⟨q, hq, fun tgs ts hrel => ?_⟩
  obtain ⟨st', h1, _, h3⟩ := Knut.C01Go.queryAll_model tgs ts hrel (journal.Query.Into.init q) hfor
  refine ⟨st', h1, ?_⟩
  rw [h3, Knut.FactsAgree.TransQuery.Query_init_agrees]
  simp [Knut.FactsAgree.TransReport.esOf]

end Knut.FactsAgree.TransBalanceCmdGo
