import Knut.FactsAgree.TransPrinter
import Knut.Generated.TransBayes
import Knut.Proofs.InferCounts
import Knut.FactsAgree.Pointwise
import Knut.Proofs.GoSem
import Knut.Proofs.SyntaxViews
/-!
# The translated `lib/syntax/bayes` agrees with the model of `knut infer`, part 1: the tables (`NewModel`, `tokenize`, `update`, `Update`)

`/repo/lib/syntax/bayes/bayes.go` (`harness/trans_syntax_bayes.go`) against `Model/Infer.lean`, the model the C15 theorems are about.  The Go functions read a
syntax tree through `Range.Extract()` only; the theorems are stated for **arbitrary** Go trees (not only the trees the parser returns: after `Infer` a tree
carries synthetic accounts whose `Text` is not the file), related to the model's extracted fields by `ViewB` / `ViewT`: "every `Extract()` the function
performs succeeds with these bytes".  Go ranges over the token SET in map order: the theorems hold for EVERY iteration order (`walkOf order …`), and an order
that lists every token once leaves tables `Equiv` to the model's (same `count`, same lookups: all that inference reads).  Not covered: a `bayes.Model` whose
maps are nil (the zero `Model`; Go would panic on the first store) — `goModel` only produces the values `NewModel` and `Update` produce.
-/
namespace Knut.FactsAgree.TransBayes
open Knut Knut.GoSem Knut.Syntax
open Knut.Generated.Go
open Knut.FactsAgree.TransScanner Knut.FactsAgree.TransParser Knut.FactsAgree.TransPrinter

abbrev Bytes := List UInt8

/-! ### Go's string order on bytes, `dict.SortedKeys` -/

/-- `<` on byte lists (what `cmpOrdered` compares with) is the model's `bytesLt` -/
theorem lt_iff_bytesLt : ∀ (a b : Bytes), a < b ↔ Infer.bytesLt a b = true
  | [], [] => by simp [Infer.bytesLt]
  | [], _ :: _ => by simp [Infer.bytesLt]
  | _ :: _, [] => by simp [Infer.bytesLt]
  | a :: as, b :: bs => by
    rw [List.cons_lt_cons_iff, Infer.bytesLt_cons, lt_iff_bytesLt as bs, UInt8.lt_iff_toNat_lt]

/-- `compare.Ordered` on strings in the model's terms -/
theorem cmpOrdered_bytes (a b : Bytes) :
    cmpOrdered a b = if Infer.bytesLt a b then -1 else if Infer.bytesLt b a then 1 else 0 := by
  simp only [cmpOrdered, lt_iff_bytesLt]

theorem le_iff (a b : Bytes) : decide (cmpOrdered a b ≠ 1) = true ↔ Infer.bytesLt b a = false := by
  rw [cmpOrdered_bytes]
  cases h1 : Infer.bytesLt a b <;> cases h2 : Infer.bytesLt b a <;> simp
  exact absurd h2 (by rw [Infer.bytesLt_asymm h1]; simp)

theorem asc_of_pairwise (l : List Bytes) (hp : l.Pairwise (fun a b => Infer.bytesLt b a = false)) (hn : l.Nodup) : Infer.Asc l :=
  (hp.and hn).imp fun {x y} h => by
    rcases Infer.bytesLt_total x y with e | e | e
    · exact absurd e h.2
    · exact e
    · rw [h.1] at e; cases e

/-- **`dict.SortedKeys(m, compare.Ordered[string])`** of a map whose keys are distinct is the model's `sortU` of the keys -/
theorem sortedKeys_eq_sortU {ν : Type} (m : AMap Bytes ν) (hn : m.keys.Nodup) :
    sortedKeys m cmpOrdered = Infer.sortU m.keys := by
  unfold sortedKeys
  have hperm := List.mergeSort_perm (m.map Prod.fst) (fun a b => decide (cmpOrdered a b ≠ 1))
  have hpw := List.pairwise_mergeSort (le := fun (a b : Bytes) => decide (cmpOrdered a b ≠ 1))
    (fun a b c h1 h2 => by
      rw [le_iff] at h1 h2 ⊢
      cases h : Infer.bytesLt c a
      · rfl
      · rcases Infer.bytesLt_total a b with e | e | e
        · subst e; rw [h] at h2; cases h2
        · rw [Infer.bytesLt_trans h e] at h2; cases h2
        · rw [e] at h1; cases h1)
    (fun a b => by
      cases h1 : decide (cmpOrdered a b ≠ 1)
      · have : Infer.bytesLt b a = true := by
          cases h : Infer.bytesLt b a
          · exact absurd ((le_iff a b).mpr h) (by simp [h1])
          · rfl
        simp [(le_iff b a).mpr (Infer.bytesLt_asymm this)]
      · simp)
    (m.map Prod.fst)
  apply Infer.asc_ext
  · apply asc_of_pairwise
    · exact hpw.imp (fun h => (le_iff _ _).mp h)
    · exact hperm.nodup_iff.mpr hn
  · exact Infer.asc_sortU _
  · intro a
    rw [hperm.mem_iff, Infer.mem_sortU]; rfl

/-! ### maps: the model's `Nat` tables as Go's `int` tables -/

/-- `map[string]int` of a table of counts -/
def goCounts (m : AMap Bytes Nat) : bayes.countByAccount := m.map fun p => (p.1, (p.2 : Int))

/-- `map[token]countByAccount` -/
def goTA (tm : AMap Bytes (AMap Bytes Nat)) : AMap bayes.token bayes.countByAccount := tm.map fun p => (p.1, goCounts p.2)

/-- a model value as the Go struct -/
def goModel (m : Infer.Model) : bayes.Model := ⟨(m.count : Int), goCounts m.countByAccount, goTA m.countByTokenAndAccount, m.account⟩

theorem find?_mapVal {κ α β : Type} [DecidableEq κ] (f : α → β) (m : AMap κ α) (k : κ) :
    AMap.find? (m.map fun p => (p.1, f p.2)) k = (AMap.find? m k).map f := AMap.find?_mapVal f m k

theorem keys_mapVal {κ α β : Type} (f : α → β) (m : AMap κ α) : AMap.keys (m.map fun p => (p.1, f p.2)) = AMap.keys m :=
  AMap.keys_mapVal f m

theorem get_goCounts (m : AMap Bytes Nat) (k : Bytes) : AMap.get (goCounts m) k (GoZero.zero : Int) = ((m.get k 0 : Nat) : Int) := by
  unfold AMap.get goCounts
  rw [find?_mapVal]
  cases AMap.find? m k <;> rfl

/-- `m[k]++` on a table of counts -/
theorem incr_goCounts (m : AMap Bytes Nat) (k : Bytes) :
    AMap.set (goCounts m) k (AMap.get (goCounts m) k GoZero.zero + (1 : Int)) = goCounts (Infer.incr m k) := by
  rw [get_goCounts]
  unfold Infer.incr goCounts
  rw [← AMap.set_mapVal (fun n : Nat => (n : Int))]
  rfl

theorem getDefault_goTA (tm : AMap Bytes (AMap Bytes Nat)) (tok : Bytes) :
    getDefault (goTA tm) tok bayes.newCountByAccount = goCounts (tm.get tok []) := by
  unfold getDefault goTA AMap.get
  rw [find?_mapVal]
  cases AMap.find? tm tok <;> rfl

/-- `dict.GetDefault(m, token, newCountByAccount)[account]++` -/
theorem incrTA_goTA (tm : AMap Bytes (AMap Bytes Nat)) (account tok : Bytes) :
    AMap.set (goTA tm) tok (AMap.set (getDefault (goTA tm) tok bayes.newCountByAccount) account
      (AMap.get (getDefault (goTA tm) tok bayes.newCountByAccount) account GoZero.zero + (1 : Int))) = goTA (Infer.incrTA tm account tok) := by
  rw [getDefault_goTA, incr_goCounts]
  unfold Infer.incrTA goTA
  rw [← AMap.set_mapVal goCounts]

/-! ### `NewModel` -/

theorem NewModel_agrees (account : Bytes) : bayes.NewModel account = goModel (Infer.newModel account) := rfl

/-! ### `tokenize` -/

/-- the Go set with the elements of `l` inserted in order -/
def goSet (l : List Bytes) : set.Set bayes.token := l.foldl (fun s t => AMap.set s t ()) []

theorem foldl_set_keys (l : List Bytes) (s : AMap Bytes Unit) (hn : (AMap.keys s).Nodup) :
    (AMap.keys (l.foldl (fun s t => AMap.set s t ()) s)).Nodup ∧
      ∀ t, t ∈ AMap.keys (l.foldl (fun s t => AMap.set s t ()) s) ↔ t ∈ AMap.keys s ∨ t ∈ l :=
  ⟨AMap.nodupKeys_foldl_set id (fun _ _ => ()) l hn,
    fun t => (AMap.mem_keys_foldl_set id (fun _ _ => ()) l s t).trans (by rw [List.map_id])⟩

/-- the keys of a Go set are distinct … -/
theorem goSet_nodup (l : List Bytes) : (AMap.keys (goSet l)).Nodup := (foldl_set_keys l [] List.nodup_nil).1

/-- … and are the elements inserted -/
theorem mem_goSet (l : List Bytes) (t : Bytes) : t ∈ AMap.keys (goSet l) ↔ t ∈ l := by
  rw [goSet, (foldl_set_keys l [] List.nodup_nil).2 t]; simp [AMap.keys]

/-- **`dict.SortedKeys(set, compare.Ordered[token])`** of a Go set is the model's sorted, duplicate-free list -/
theorem sortedKeys_goSet (l : List Bytes) : sortedKeys (goSet l) cmpOrdered = Infer.sortU l := by
  rw [sortedKeys_eq_sortU _ (goSet_nodup l)]
  exact Infer.sortU_congr (mem_goSet l)

/-- the words `tokenize` puts into the set, in the order it inserts them -/
def tokenList (desc commodity quantity other : Bytes) : List Bytes :=
  (Infer.fields desc ++ [commodity, quantity, other]).map Infer.toLower

theorem tokenize_eq (desc commodity quantity other : Bytes) :
    Infer.tokenize desc commodity quantity other = Infer.sortU (tokenList desc commodity quantity other) := rfl

theorem tokenize_range1 : ∀ (items : List Bytes) (s : set.Set bayes.token),
    bayes.tokenize.range1 items s = .ok ((items.map Infer.toLower).foldl (fun s t => AMap.set s t ()) s)
  | [], s => rfl
  | x :: xs, s => by
    rw [bayes.tokenize.range1]
    simp only [set.Set.Add, Syn.Strings.ToLower, List.map_cons, List.foldl_cons]
    exact tokenize_range1 xs _

/-- **`bayes.tokenize`**: when the three `Extract()` calls succeed, the set of the lower-cased tokens, inserted in Go's order -/
theorem tokenize_agrees (gt : directives.Transaction) (gb : directives.Booking) (other desc commodity quantity : Bytes)
    (hd : directives.Range.Extract gt.Description.Content = .ok desc)
    (hc : directives.Range.Extract gb.Commodity.Range = .ok commodity)
    (hq : directives.Range.Extract gb.Quantity.Range = .ok quantity) :
    bayes.tokenize gt gb other = .ok (goSet (tokenList desc commodity quantity other)) := by
  unfold bayes.tokenize
  simp only [hd, hc, hq, obind_ok', tokenize_range1, Syn.Strings.Fields, set.New]
  rfl

/-- the order in which `dict.SortedKeys` hands the Go token set on is the model's `tokenize` -/
theorem sortedKeys_tokens (desc commodity quantity other : Bytes) :
    sortedKeys (goSet (tokenList desc commodity quantity other)) cmpOrdered = Infer.tokenize desc commodity quantity other :=
  sortedKeys_goSet _

theorem mem_tokens (desc commodity quantity other t : Bytes) :
    t ∈ AMap.keys (goSet (tokenList desc commodity quantity other)) ↔ t ∈ Infer.tokenize desc commodity quantity other := by
  rw [mem_goSet, tokenize_eq, Infer.mem_sortU]

/-! ### `Model.update` -/

/-- the keys of the iteration order `order` that are tokens: what the `range` over the token set visits, in that order -/
def walkOf (order : List Bytes) (desc commodity quantity other : Bytes) : List Bytes :=
  order.filter fun k => decide (k ∈ Infer.tokenize desc commodity quantity other)

theorem rangeKeys_tokens (order : List Bytes) (desc commodity quantity other : Bytes) :
    Syn.rangeKeys order (goSet (tokenList desc commodity quantity other)) = walkOf order desc commodity quantity other := by
  unfold Syn.rangeKeys walkOf
  exact List.filter_congr fun k _ => Bool.eq_iff_iff.mpr (by rw [← AMap.mem_keys_iff, mem_tokens, decide_eq_true_iff])

/-- an iteration order of the token set: every token once (other keys, which the map does not have, are skipped) -/
def OrderOK (order : List Bytes) (tokens : List Bytes) : Prop := order.Nodup ∧ ∀ t ∈ tokens, t ∈ order

theorem walkOf_ok {order : List Bytes} {desc commodity quantity other : Bytes}
    (h : OrderOK order (Infer.tokenize desc commodity quantity other)) :
    (walkOf order desc commodity quantity other).Nodup ∧
      ∀ t, t ∈ walkOf order desc commodity quantity other ↔ t ∈ Infer.tokenize desc commodity quantity other := by
  refine ⟨h.1.filter _, fun t => ?_⟩
  simp only [walkOf, List.mem_filter, decide_eq_true_eq]
  exact ⟨fun x => x.2, fun x => ⟨h.2 t x, x⟩⟩

theorem update_range1 (account : Bytes) (order : List Bytes) : ∀ (items : List Bytes) (m : Infer.Model),
    bayes.Model.update.range1 account order items (goModel m) =
      .ok (goModel { m with countByTokenAndAccount := items.foldl (fun tm tok => Infer.incrTA tm account tok) m.countByTokenAndAccount })
  | [], m => rfl
  | x :: xs, m => by
    rw [bayes.Model.update.range1]
    have := update_range1 account order xs { m with countByTokenAndAccount := Infer.incrTA m.countByTokenAndAccount account x }
    simp only [goModel, incrTA_goTA, List.foldl_cons] at this ⊢
    exact this

/-- **`Model.update`** for every iteration order of the token set: the model's `updateWith` along the tokens the order visits -/
theorem update_agrees (m : Infer.Model) (gt : directives.Transaction) (gb : directives.Booking) (account other : Bytes)
    (order : List Bytes) (desc commodity quantity : Bytes)
    (hd : directives.Range.Extract gt.Description.Content = .ok desc)
    (hc : directives.Range.Extract gb.Commodity.Range = .ok commodity)
    (hq : directives.Range.Extract gb.Quantity.Range = .ok quantity) :
    bayes.Model.update (goModel m) gt gb account other order =
      .ok (goModel (m.updateWith account (walkOf order desc commodity quantity other))) := by
  unfold bayes.Model.update
  rw [tokenize_agrees gt gb other desc commodity quantity hd hc hq]
  simp only [obind_ok', rangeKeys_tokens]
  have h := update_range1 account order (walkOf order desc commodity quantity other)
    { m with count := m.count + 1, countByAccount := Infer.incr m.countByAccount account }
  simp only [goModel, incr_goCounts, Int.natCast_add, Int.natCast_one] at h ⊢
  rw [h]
  rfl

/-! ### what inference can tell apart -/

theorem lookupTA_updateWith (m : Infer.Model) (account : Bytes) (walk : List Bytes) (hw : walk.Nodup) (t a : Bytes) :
    (m.updateWith account walk).lookupTA t a =
      if account = a ∧ t ∈ walk then some ((m.lookupTA t a).getD 0 + 1) else m.lookupTA t a :=
  Infer.lookup_foldl account walk m.countByTokenAndAccount t a hw

theorem updateWith_congr {m₁ m₂ : Infer.Model} (h : m₁.Equiv m₂) (account : Bytes) {w₁ w₂ : List Bytes} (h₁ : w₁.Nodup) (h₂ : w₂.Nodup)
    (hm : ∀ t, t ∈ w₁ ↔ t ∈ w₂) : (m₁.updateWith account w₁).Equiv (m₂.updateWith account w₂) := by
  refine ⟨?_, ?_, ?_, h.account⟩
  · simp [Infer.Model.updateWith, h.count]
  · intro a
    simp only [Infer.Model.updateWith, Infer.incr, AMap.find?_set, AMap.get, h.byAccount]
  · intro t a
    rw [lookupTA_updateWith _ _ _ h₁, lookupTA_updateWith _ _ _ h₂, h.byTA]
    simp only [hm]

theorem equiv_refl (m : Infer.Model) : m.Equiv m := ⟨rfl, fun _ => rfl, fun _ _ => rfl, rfl⟩

/-- walking the token set in any order that lists every token once gives tables inference cannot tell from the model's `update` -/
theorem updateWith_equiv {m₁ m₂ : Infer.Model} (h : m₁.Equiv m₂) (account other : Bytes) (order : List Bytes) (desc : Bytes) (v : BookingV)
    (ho : OrderOK order (Infer.tokenize desc v.commodity v.quantity other)) :
    (m₁.updateWith account (walkOf order desc v.commodity v.quantity other)).Equiv (m₂.update desc v account other) := by
  rw [Infer.update_eq]
  obtain ⟨w1, w2⟩ := walkOf_ok ho
  exact updateWith_congr h account w1 (Infer.nodup_tokenize ..) w2

/-! ### `Model.Update` -/

theorem Forall2.of_mapM {α β γ : Type} {f : α → Option β} {g : α → γ} {R : γ → β → Prop} (h : ∀ a b, f a = some b → R (g a) b)
    (l : List α) (r : List β) (hm : l.mapM f = some r) : Forall2 R (l.map g) r :=
  Forall2.iff_forall₂.mpr (forall₂_map_left.mpr (forall₂_imp (mapM_eq_some_iff.mp hm) h))

/-- what `Update` reads of a Go booking: the four `Extract()` results -/
structure ViewB (gb : directives.Booking) (v : BookingV) : Prop where
  credit : directives.Range.Extract gb.Credit.Range = .ok v.credit
  debit : directives.Range.Extract gb.Debit.Range = .ok v.debit
  quantity : directives.Range.Extract gb.Quantity.Range = .ok v.quantity
  commodity : directives.Range.Extract gb.Commodity.Range = .ok v.commodity

/-- a Go booking as training reads it: the fields and the two `Macro` flags -/
def ViewTB (gb : directives.Booking) (tb : Infer.TBooking) : Prop :=
  ViewB gb tb.v ∧ tb.creditMacro = gb.Credit.Macro ∧ tb.debitMacro = gb.Debit.Macro

/-- a Go transaction as training reads it -/
structure ViewT (gt : directives.Transaction) (tt : Infer.TTx) : Prop where
  desc : directives.Range.Extract gt.Description.Content = .ok tt.desc
  bookings : Forall2 ViewTB gt.Bookings tt.bookings

/-- the body of the loop of `Update` with the two walks of its two `update` calls -/
def updateBookingW (desc : Bytes) (o1 o2 : List Bytes) (m : Infer.Model) (b : Infer.TBooking) : Infer.Model :=
  if Infer.eligible m.account b then
    (m.updateWith b.v.credit (walkOf o1 desc b.v.commodity b.v.quantity b.v.debit)).updateWith b.v.debit
      (walkOf o2 desc b.v.commodity b.v.quantity b.v.credit)
  else m

/-- the loop of `Update` from round `i` on; `o1 i` / `o2 i` are the iteration orders of the two token sets in round `i` -/
def updateFromW (desc : Bytes) (o1 o2 : Int → List Bytes) : List Infer.TBooking → Int → Infer.Model → Infer.Model
  | [], _, m => m
  | b :: bs, i, m => updateFromW desc o1 o2 bs (i + 1) (updateBookingW desc (o1 i) (o2 i) m b)

/-- `Model.Update` with given iteration orders -/
def updateTxW (o1 o2 : Int → List Bytes) (m : Infer.Model) (t : Infer.TTx) : Infer.Model := updateFromW t.desc o1 o2 t.bookings 0 m

theorem updateWith_account (m : Infer.Model) (a : Bytes) (w : List Bytes) : (m.updateWith a w).account = m.account := rfl

theorem index_append {α : Type} (pre : List α) (x : α) (post : List α) : index (pre ++ x :: post) (pre.length : Int) = .ok x :=
  GoSem.index_append pre x post

/-- three guards with the same exit are one guard -/
theorem ite_skip3 {α : Type} (a b c : Bool) (skip go : α) :
    (if a = true then skip else if b = true then skip else if c = true then skip else go) =
      if (!a && !b && !c) = true then go else skip := by
  cases a <;> cases b <;> cases c <;> rfl

theorem eligible_go {gb : directives.Booking} {tb : Infer.TBooking} (h : ViewTB gb tb) (account : Bytes) :
    Infer.eligible account tb = (!(gb.Credit.Macro || gb.Debit.Macro) &&
      !(decide (tb.v.credit = []) || decide (tb.v.debit = [])) && !(decide (tb.v.credit = account) || decide (tb.v.debit = account))) := by
  have beq_dec : ∀ a b : Bytes, (a == b) = decide (a = b) := fun a b => by by_cases h : a = b <;> simp [h]
  simp only [Infer.eligible, h.2.1, h.2.2, beq_dec]

theorem Update_range1 (gt : directives.Transaction) (o1 o2 : Int → List Bytes) (desc : Bytes)
    (hd : directives.Range.Extract gt.Description.Content = .ok desc) :
    ∀ (items : List directives.Booking) (tbs : List Infer.TBooking) (pre : List directives.Booking) (m : Infer.Model),
      gt.Bookings = pre ++ items → Forall2 ViewTB items tbs →
      bayes.Model.Update.range1 gt o1 o2 items (pre.length : Int) (goModel m) = .ok (goModel (updateFromW desc o1 o2 tbs (pre.length : Int) m))
  | [], tbs, pre, m, _, hv => by cases hv; rfl
  | gb :: items, tbs, pre, m, hpre, hv => by
    cases hv with
    | cons hb hrest =>
      rename_i tb tbs'
      have vb := hb.1
      have hnext : gt.Bookings = (pre ++ [gb]) ++ items := by simp [hpre]
      have ih := fun m' => Update_range1 gt o1 o2 desc hd items tbs' (pre ++ [gb]) m' hnext hrest
      simp only [List.length_append, List.length_cons, List.length_nil, Nat.zero_add, Int.natCast_add, Int.natCast_one] at ih
      rw [bayes.Model.Update.range1, updateFromW, updateBookingW]
      simp only [vb.credit, vb.debit, obind_ok']
      rw [show (Syn.lit "" : Bytes) = [] from rfl, show (goModel m).account = m.account from rfl, ite_skip3, ← eligible_go hb]
      cases Infer.eligible m.account tb with
      | false => exact ih m
      | true =>
        simp only [if_true, hpre, index_append, obind_ok']
        rw [update_agrees m gt gb tb.v.credit tb.v.debit (o1 pre.length) desc tb.v.commodity tb.v.quantity hd vb.commodity vb.quantity]
        simp only [obind_ok']
        rw [update_agrees _ gt gb tb.v.debit tb.v.credit (o2 pre.length) desc tb.v.commodity tb.v.quantity hd vb.commodity vb.quantity]
        simp only [obind_ok']
        exact ih _

/-- **`Model.Update`**, for every family of iteration orders (`o1 i`, `o2 i`: the orders of the two token sets that the two `update`
calls of round `i` range over): the model's loop with these walks.  Nothing panics when the `Extract()` calls succeed. -/
theorem Update_agrees (m : Infer.Model) (gt : directives.Transaction) (tt : Infer.TTx) (o1 o2 : Int → List Bytes) (hv : ViewT gt tt) :
    bayes.Model.Update (goModel m) gt o1 o2 = .ok (goModel (updateTxW o1 o2 m tt)) := by
  unfold bayes.Model.Update
  have := Update_range1 gt o1 o2 tt.desc hv.desc gt.Bookings tt.bookings [] m rfl hv.bookings
  simp only [List.length_nil, Int.natCast_zero] at this
  rw [this]; rfl

/-- every round's two orders list each token of their set once -/
def OrdersOK (desc : Bytes) (o1 o2 : Int → List Bytes) : List Infer.TBooking → Int → Prop
  | [], _ => True
  | b :: bs, i =>
    OrderOK (o1 i) (Infer.tokenize desc b.v.commodity b.v.quantity b.v.debit) ∧
    OrderOK (o2 i) (Infer.tokenize desc b.v.commodity b.v.quantity b.v.credit) ∧ OrdersOK desc o1 o2 bs (i + 1)

theorem updateFromW_equiv (desc : Bytes) (o1 o2 : Int → List Bytes) : ∀ (bs : List Infer.TBooking) (i : Int) (m₁ m₂ : Infer.Model),
    m₁.Equiv m₂ → OrdersOK desc o1 o2 bs i → (updateFromW desc o1 o2 bs i m₁).Equiv (bs.foldl (Infer.Model.updateBooking desc) m₂)
  | [], _, _, _, h, _ => h
  | b :: bs, i, m₁, m₂, h, ho => by
    obtain ⟨h1, h2, h3⟩ := ho
    rw [updateFromW, List.foldl_cons]
    apply updateFromW_equiv desc o1 o2 bs (i + 1) _ _ _ h3
    unfold updateBookingW Infer.Model.updateBooking
    rw [h.account]
    split
    · exact updateWith_equiv (updateWith_equiv h _ _ _ desc b.v h1) _ _ _ desc b.v h2
    · exact h

/-- **the iteration order of the token sets cannot be observed**: for orders that list every token once, `Update` leaves tables that
inference cannot tell from the model's `updateTx` (`Equiv`: same `count`, same lookups in `countByAccount` and
`countByTokenAndAccount`, same placeholder) -/
theorem updateTxW_equiv (o1 o2 : Int → List Bytes) {m₁ m₂ : Infer.Model} (h : m₁.Equiv m₂) (t : Infer.TTx)
    (ho : OrdersOK t.desc o1 o2 t.bookings 0) : (updateTxW o1 o2 m₁ t).Equiv (m₂.updateTx t) :=
  updateFromW_equiv t.desc o1 o2 t.bookings 0 m₁ m₂ h ho

/-- with every order the ascending token list the translation's loop is the model's fold.  As stated the hypothesis asks `o1 j`, `o2 j` to be the
token lists of EVERY booking `b` of the type, not of the booking of round `j`: no orders meet it (the tokens contain the commodity), so nothing follows
from this statement; what holds for every order is `updateFromW_equiv` -/
theorem updateFromW_sorted (desc : Bytes) (o1 o2 : Int → List Bytes) : ∀ (bs : List Infer.TBooking) (i : Int) (m : Infer.Model),
    (∀ (j : Int) (b : Infer.TBooking), o1 j = Infer.tokenize desc b.v.commodity b.v.quantity b.v.debit ∧
      o2 j = Infer.tokenize desc b.v.commodity b.v.quantity b.v.credit) → updateFromW desc o1 o2 bs i m = bs.foldl (Infer.Model.updateBooking desc) m
  | [], _, _, _ => rfl
  | b :: bs, i, m, h => by
    rw [updateFromW, List.foldl_cons, updateFromW_sorted desc o1 o2 bs (i + 1) _ h]
    congr 1
    unfold updateBookingW Infer.Model.updateBooking
    have hw : ∀ d c q o, walkOf (Infer.tokenize d c q o) d c q o = Infer.tokenize d c q o := by
      intro d c q o
      unfold walkOf
      exact List.filter_eq_self.mpr (fun a ha => by simp [ha])
    rw [(h i b).1, (h i b).2, hw, hw]
    rfl

/-! ### training: `Update` over the transactions of the training files -/

/-- the loop of `inferRunner.train` over Go transactions, transaction `k` with the orders `os k` -/
def trainGo : List directives.Transaction → Nat → (Nat → (Int → List Bytes) × (Int → List Bytes)) → bayes.Model → Outcome bayes.Model
  | [], _, _, gm => .ok gm
  | gt :: rest, k, os, gm => (bayes.Model.Update gm gt (os k).1 (os k).2).bind fun gm' => trainGo rest (k + 1) os gm'

/-- the model's side of that loop: transaction `k` with the walks the orders `os k` give -/
def trainW (os : Nat → (Int → List Bytes) × (Int → List Bytes)) : List Infer.TTx → Nat → Infer.Model → Infer.Model
  | [], _, m => m
  | t :: ts, k, m => trainW os ts (k + 1) (updateTxW (os k).1 (os k).2 m t)

/-- **training through the translated `Update`**, for EVERY family of iteration orders: the Go model after the transactions `gts` is
`goModel` of the model's loop with the corresponding walks; nothing panics when the `Extract()` calls succeed -/
theorem trainGo_agrees (os : Nat → (Int → List Bytes) × (Int → List Bytes)) :
    ∀ (gts : List directives.Transaction) (txs : List Infer.TTx) (k : Nat) (m : Infer.Model), Forall2 ViewT gts txs →
      trainGo gts k os (goModel m) = .ok (goModel (trainW os txs k m))
  | [], _, _, m, hv => by cases hv; rfl
  | gt :: gts, _, k, m, hv => by
    cases hv with
    | cons hv1 hrest =>
      rename_i t txs
      rw [trainGo, Update_agrees m gt t _ _ hv1, trainW]
      exact trainGo_agrees os gts txs (k + 1) _ hrest

/-- every order of the family lists each token of its set once -/
def TrainOrdersOK (os : Nat → (Int → List Bytes) × (Int → List Bytes)) : List Infer.TTx → Nat → Prop
  | [], _ => True
  | t :: ts, k => OrdersOK t.desc (os k).1 (os k).2 t.bookings 0 ∧ TrainOrdersOK os ts (k + 1)

/-- **the iteration orders cannot be observed**: with orders that list every token once, the tables after training are `Equiv` to the
model's fold of `updateTx` -/
theorem trainW_equiv (os : Nat → (Int → List Bytes) × (Int → List Bytes)) : ∀ (txs : List Infer.TTx) (k : Nat) (m₁ m₂ : Infer.Model),
    m₁.Equiv m₂ → TrainOrdersOK os txs k → (trainW os txs k m₁).Equiv (txs.foldl Infer.Model.updateTx m₂)
  | [], _, _, _, h, _ => h
  | t :: ts, k, m₁, m₂, h, ho => by
    rw [trainW, List.foldl_cons]
    exact trainW_equiv os ts (k + 1) _ _ (updateTxW_equiv _ _ h t ho.1) ho.2

/-- from `NewModel`: the trained Go model is `goModel (trainW …)`, whose tables are `Equiv` to the model's `train` -/
theorem train_agrees (account : Bytes) (os : Nat → (Int → List Bytes) × (Int → List Bytes)) (gts : List directives.Transaction)
    (txs : List Infer.TTx) (hv : Forall2 ViewT gts txs) (ho : TrainOrdersOK os txs 0) :
    trainGo gts 0 os (bayes.NewModel account) = .ok (goModel (trainW os txs 0 (Infer.newModel account))) ∧
      (trainW os txs 0 (Infer.newModel account)).Equiv (Infer.train account txs) := by
  rw [NewModel_agrees]
  exact ⟨trainGo_agrees os gts txs 0 _ hv, trainW_equiv os txs 0 _ _ (equiv_refl _) ho⟩

/-! ### parsed trees -/

section
variable {text : Bytes} {path : String}

/-- a booking of a tree over `text` in Go's representation is viewed as the model views it -/
theorem viewB_goBooking {b : Syntax.Booking} {v : BookingV} (h : viewBooking text b = some v) : ViewB (goBooking text path b) v := by
  obtain ⟨h1, h2, h3, h4⟩ := viewBooking_eq_some_iff.mp h
  exact ⟨by simp [goBooking, goAccount, Extract_goRange, h1], by simp [goBooking, goAccount, Extract_goRange, h2],
    by simp [goBooking, goDecimal, Extract_goRange, h3], by simp [goBooking, goCommodity, Extract_goRange, h4]⟩

/-- a transaction of a tree over `text` in Go's representation is read by training as the model's `viewT` says -/
theorem viewT_goTransaction {t : Syntax.Transaction} {tt : Infer.TTx} (h : Infer.viewT text t = some tt) :
    ViewT (goTransaction text path t) tt := by
  simp only [Infer.viewT, Option.bind_eq_bind, Option.bind_eq_some_iff, Option.pure_def, Option.some.injEq] at h
  obtain ⟨desc, hd, bs, hbs, rfl⟩ := h
  refine ⟨by simp [goTransaction, goQuoted, Extract_goRange, hd], ?_⟩
  refine Forall2.of_mapM (fun b tb hb => ?_) t.bookings bs hbs
  obtain ⟨v, hv, rfl⟩ := Option.map_eq_some_iff.mp hb
  exact ⟨viewB_goBooking hv, rfl, rfl⟩

end

end Knut.FactsAgree.TransBayes
