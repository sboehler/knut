import Knut.FactsAgree.TransBayes
import Knut.Proofs.InferReparse
/-!
# The translated `lib/syntax/bayes` agrees with the model of `knut infer`, part 2: inference (`scoreCandidate`, `inferAccount`, `Infer`)

`float64` is uninterpreted in the translation (`Syn.F64 F`: `math.Inf`, `math.Log`, `float64(n)`, `+`, `/`, `>` and constants are the fields of a record,
nothing is assumed about them), and the call `m.scoreCandidate(candidate, tokens)` inside the loop of `inferAccount` is an application of a **function
parameter** `ext` of the translated `inferAccount` / `Infer` — the model's `Scorer`.  The theorems are stated for every `fl`, `ext` and `Scorer` that stand
to each other as `ScoreOK` says; every `Scorer` has such an embedding (`flOf`, `extOf`), and the translated `scoreCandidate` itself is one under
`FiniteScores` (what the model assumes of IEEE arithmetic: logarithms of positive finite numbers).

Stated invariant: `m.countByAccount.keys.Nodup` (a Go map has every key once; `newModel_nodup`, `updateWith_nodup`, … show that training maintains it).
That the write `t.Bookings[i].Credit = a` also shows through every other slice sharing the array (`commands.parseAndInfer` hands `Infer` a copy of the
transaction struct and reads the bookings through `f.Directives`) is outside package bayes and not part of the translated result.
-/
namespace Knut.FactsAgree.TransBayes
open Knut Knut.GoSem Knut.Syntax
open Knut.Generated.Go
open Knut.FactsAgree.TransScanner Knut.FactsAgree.TransParser Knut.FactsAgree.TransPrinter

/-! ### `scoreCandidate` -/

section
variable {F : Type}

/-- one summand of the score: `math.Log(float64(countForToken) / count)` resp. `math.Log(1.0 / float64(m.count))` -/
def termOf (fl : Syn.F64 F) (total count : Nat) : Option Nat → F
  | some ct => fl.log (fl.div (fl.ofInt (ct : Int)) (fl.ofInt (count : Int)))
  | none => fl.log (fl.div (fl.lit 1 1) (fl.ofInt (total : Int)))

/-- the float expression of `scoreCandidate` as a function of the numbers it reads, in the order it reads them -/
def scoreOf (fl : Syn.F64 F) (total count : Nat) (lookups : List (Option Nat)) : F :=
  lookups.foldl (fun s l => fl.add s (termOf fl total count l)) (fl.log (fl.div (fl.ofInt (count : Int)) (fl.ofInt (total : Int))))

/-- the model's `Scorer` that the code implements, over the uninterpreted float operations -/
def scorerOf (fl : Syn.F64 F) : Infer.Scorer F := ⟨scoreOf fl, fl.gt⟩

theorem lookup_go (m : Infer.Model) (tok cand : Bytes) :
    AMap.find? (AMap.get (goModel m).countByTokenAndAccount tok GoZero.zero) cand = (m.lookupTA tok cand).map (fun n : Nat => (n : Int)) := by
  have h := getDefault_goTA m.countByTokenAndAccount tok
  unfold getDefault at h
  have e : AMap.get (goModel m).countByTokenAndAccount tok GoZero.zero = goCounts (m.countByTokenAndAccount.get tok []) := h
  rw [e]
  unfold goCounts
  rw [find?_mapVal]
  unfold Infer.Model.lookupTA AMap.get
  cases AMap.find? m.countByTokenAndAccount tok <;> rfl

theorem scoreCandidate_range1 (fl : Syn.F64 F) (m : Infer.Model) (cand : Bytes) (c : Nat) : ∀ (items : List Bytes) (score : F),
    bayes.Model.scoreCandidate.range1 (goModel m) cand (fl.ofInt (c : Int)) fl items score =
      .ok ((items.map fun t => m.lookupTA t cand).foldl (fun s l => fl.add s (termOf fl m.count c l)) score)
  | [], _ => rfl
  | x :: xs, score => by
    rw [bayes.Model.scoreCandidate.range1]
    simp only [lookup_go, List.map_cons, List.foldl_cons]
    cases m.lookupTA x cand <;> exact scoreCandidate_range1 fl m cand c xs _

/-- **`Model.scoreCandidate`** over uninterpreted floats: never a panic, and a function of exactly the numbers the model passes to its
`Scorer` (the total, the candidate's count, the lookups of the tokens in ascending order with their `ok` flags) -/
theorem scoreCandidate_agrees (fl : Syn.F64 F) (m : Infer.Model) (cand : Bytes) (l : List Bytes) :
    bayes.Model.scoreCandidate (goModel m) cand (goSet l) fl = .ok (m.scoreCandidate (scorerOf fl) cand (Infer.sortU l)) := by
  unfold bayes.Model.scoreCandidate
  have hc : AMap.get (goModel m).countByAccount cand GoZero.zero = ((m.countByAccount.get cand 0 : Nat) : Int) := get_goCounts _ _
  simp only [hc, sortedKeys_goSet, scoreCandidate_range1, obind_ok']
  rfl

theorem scoreCandidate_tokens (fl : Syn.F64 F) (m : Infer.Model) (cand desc c q other : Bytes) :
    bayes.Model.scoreCandidate (goModel m) cand (goSet (tokenList desc c q other)) fl =
      .ok (m.scoreCandidate (scorerOf fl) cand (Infer.tokenize desc c q other)) :=
  scoreCandidate_agrees fl m cand _

/-! ### `inferAccount` -/

variable {S : Type}

/-- the external score function `ext` computes (the embedding of) the model's score, `>` on embedded scores is the scorer's `gt`, and
every score of a candidate of the table is `> -Inf` -/
structure ScoreOK (fl : Syn.F64 F) (ext : bayes.Model → Bytes → set.Set bayes.token → F) (sc : Infer.Scorer S) (embed : S → F)
    (m : Infer.Model) : Prop where
  ext_eq : ∀ cand desc c q other, ext (goModel m) cand (goSet (tokenList desc c q other)) =
    embed (m.scoreCandidate sc cand (Infer.tokenize desc c q other))
  gt_eq : ∀ x y, fl.gt (embed x) (embed y) = sc.gt x y
  gt_inf : ∀ cand desc c q other, cand ∈ m.countByAccount.keys →
    fl.gt (embed (m.scoreCandidate sc cand (Infer.tokenize desc c q other))) fl.negInf = true

/-- the Go variable `max` for the model's `Option S` (`none` = `math.Inf(-1)`) -/
def goMax (fl : Syn.F64 F) (embed : S → F) : Option S → F
  | none => fl.negInf
  | some s => embed s

/-- Go's `score > max` on embedded scores is the model's test, for a candidate of the table -/
theorem gt_goMax {fl : Syn.F64 F} {ext : bayes.Model → Bytes → set.Set bayes.token → F} {sc : Infer.Scorer S} {embed : S → F}
    {m : Infer.Model} (h : ScoreOK fl ext sc embed m) (desc c q other : Bytes) {x : Bytes} (hx : x ∈ m.countByAccount.keys)
    (mx : Option S) :
    fl.gt (embed (m.scoreCandidate sc x (Infer.tokenize desc c q other))) (goMax fl embed mx) =
      Infer.beats sc (m.scoreCandidate sc x (Infer.tokenize desc c q other)) mx := by
  cases mx with
  | none => exact h.gt_inf x desc c q other hx
  | some s => exact h.gt_eq _ s

theorem inferAccount_range1 (fl : Syn.F64 F) (ext : bayes.Model → Bytes → set.Set bayes.token → F) (sc : Infer.Scorer S) (embed : S → F)
    (m : Infer.Model) (h : ScoreOK fl ext sc embed m) (desc c q other : Bytes) :
    ∀ (items : List Bytes) (best : Bytes) (mx : Option S), (∀ x ∈ items, x ∈ m.countByAccount.keys) →
      bayes.Model.inferAccount.range1 (goModel m) other (goSet (tokenList desc c q other)) fl ext items (goMax fl embed mx) best =
        .ok (goMax fl embed (items.foldl (Infer.inferStep sc m (Infer.tokenize desc c q other) other) (best, mx)).2,
          (items.foldl (Infer.inferStep sc m (Infer.tokenize desc c q other) other) (best, mx)).1)
  | [], _, _, _ => rfl
  | x :: xs, best, mx, hk => by
    have ih := fun best mx => inferAccount_range1 fl ext sc embed m h desc c q other xs best mx
      fun y hy => hk y (List.mem_cons_of_mem _ hy)
    rw [bayes.Model.inferAccount.range1, List.foldl_cons]
    by_cases e : x = other
    · simp only [e, decide_true, if_true, Infer.inferStep_other]
      exact ih best mx
    · rw [Infer.inferStep_eq sc m _ other _ x e]
      simp only [e, decide_false, Bool.false_eq_true, if_false, h.ext_eq, gt_goMax h desc c q other (hk x List.mem_cons_self)]
      cases Infer.beats sc (m.scoreCandidate sc x (Infer.tokenize desc c q other)) mx
      · exact ih best mx
      · exact ih x (some _)

/-- the account `inferAccount` synthesises: `Account{Range: Range{Start: 0, End: len(best), Text: best}}` -/
def synth (a : Bytes) : directives.Account :=
  { Range := { Start := 0, End := (a.length : Int), Path := GoZero.zero, Text := a }, Macro := GoZero.zero }

/-- the two results of `inferAccount` for the model's answer -/
def accountOf : Option Bytes → directives.Account × Bool
  | none => (GoZero.zero, false)
  | some a => (synth a, true)

/-- **`Model.inferAccount`**: the model's argmax loop, for every float record, every external score function and every `Scorer` it
stands for.  (`hk`: the map has every key once.) -/
theorem inferAccount_agrees (fl : Syn.F64 F) (ext : bayes.Model → Bytes → set.Set bayes.token → F) (sc : Infer.Scorer S) (embed : S → F)
    (m : Infer.Model) (h : ScoreOK fl ext sc embed m) (hk : m.countByAccount.keys.Nodup)
    (gt : directives.Transaction) (gb : directives.Booking) (other desc : Bytes) (v : BookingV)
    (hd : directives.Range.Extract gt.Description.Content = .ok desc)
    (hc : directives.Range.Extract gb.Commodity.Range = .ok v.commodity)
    (hq : directives.Range.Extract gb.Quantity.Range = .ok v.quantity) :
    bayes.Model.inferAccount (goModel m) gt gb other fl ext = .ok (accountOf (m.inferAccount sc desc v other)) := by
  unfold bayes.Model.inferAccount
  rw [tokenize_agrees gt gb other desc v.commodity v.quantity hd hc hq]
  have hkeys : AMap.keys (goModel m).countByAccount = m.countByAccount.keys := keys_mapVal _ _
  have hs : sortedKeys (goModel m).countByAccount cmpOrdered = Infer.sortU m.countByAccount.keys := by
    rw [sortedKeys_eq_sortU _ (by rw [hkeys]; exact hk), hkeys]
  have hr := inferAccount_range1 fl ext sc embed m h desc v.commodity v.quantity other (Infer.sortU m.countByAccount.keys) [] none
    (fun x hx => Infer.mem_sortU.mp hx)
  simp only [goMax] at hr
  have hz : (GoZero.zero : Syn.GoString) = ([] : Bytes) := rfl
  simp only [obind_ok', hs, hz, hr]
  unfold Infer.Model.inferAccount
  have hlit : (Syn.lit "" : Bytes) = [] := rfl
  simp only [hlit]
  split <;> rename_i hb
  · have hb' := of_decide_eq_true hb
    simp only [hb', if_true, accountOf]; rfl
  · have hb' : ¬ _ = [] := of_decide_eq_false (by simpa using hb)
    simp only [hb', if_false, accountOf, synth, len]
    rfl

/-! #### every `Scorer` -/

/-- floats that carry a `Scorer`'s scores: `F := Option S`, `math.Inf(-1) := none`, `>` the scorer's `gt` (everything is above `-Inf`);
the arithmetic, which `inferAccount` does not use, is arbitrary -/
def flOf (sc : Infer.Scorer S) : Syn.F64 (Option S) :=
  { negInf := none, posInf := none, ofInt := fun _ => none, lit := fun _ _ => none, add := fun a _ => a, div := fun a _ => a, log := id,
    gt := fun a b => match a, b with
      | some x, some y => sc.gt x y
      | some _, none => true
      | none, _ => false }

/-- the external function for a `Scorer`: `sc.score` of the numbers `scoreCandidate` reads from the Go model -/
def extOf (sc : Infer.Scorer S) : bayes.Model → Bytes → set.Set bayes.token → Option S := fun gm cand toks =>
  some (sc.score gm.count.toNat (AMap.get gm.countByAccount cand 0).toNat
    ((sortedKeys toks cmpOrdered).map fun t => (AMap.find? (AMap.get gm.countByTokenAndAccount t GoZero.zero) cand).map Int.toNat))

theorem scoreOK_scorer (sc : Infer.Scorer S) (m : Infer.Model) : ScoreOK (flOf sc) (extOf sc) sc some m := by
  refine ⟨fun cand desc c q other => ?_, fun _ _ => rfl, fun _ _ _ _ _ _ => rfl⟩
  unfold extOf Infer.Model.scoreCandidate
  have hc : AMap.get (goModel m).countByAccount cand (0 : Int) = ((m.countByAccount.get cand 0 : Nat) : Int) := get_goCounts _ _
  have hcount : (goModel m).count = (m.count : Int) := rfl
  simp only [hc, hcount, Int.toNat_natCast, sortedKeys_tokens, lookup_go, Option.map_map]
  congr 2
  apply List.map_congr_left
  intro t _
  cases m.lookupTA t cand <;> simp

/-- **`inferAccount` is the model's argmax loop for every `Scorer`** -/
theorem inferAccount_scorer (sc : Infer.Scorer S) (m : Infer.Model) (hk : m.countByAccount.keys.Nodup)
    (gt : directives.Transaction) (gb : directives.Booking) (other desc : Bytes) (v : BookingV)
    (hd : directives.Range.Extract gt.Description.Content = .ok desc)
    (hc : directives.Range.Extract gb.Commodity.Range = .ok v.commodity)
    (hq : directives.Range.Extract gb.Quantity.Range = .ok v.quantity) :
    bayes.Model.inferAccount (goModel m) gt gb other (flOf sc) (extOf sc) = .ok (accountOf (m.inferAccount sc desc v other)) :=
  inferAccount_agrees (flOf sc) (extOf sc) sc some m (scoreOK_scorer sc m) hk gt gb other desc v hd hc hq

/-! #### the code's own score -/

/-- the value of a translated call that cannot panic -/
def outVal {α : Type} (d : α) : Outcome α → α
  | .ok a => a
  | _ => d

/-- the translated `scoreCandidate` as the external function of `inferAccount` -/
def extReal (fl : Syn.F64 F) : bayes.Model → Bytes → set.Set bayes.token → F := fun gm cand toks =>
  outVal fl.negInf (bayes.Model.scoreCandidate gm cand toks fl)

/-- every score the code computes for a candidate of the table is above `math.Inf(-1)` (for IEEE floats: the logarithms of positive finite
numbers are finite) -/
def FiniteScores (fl : Syn.F64 F) (m : Infer.Model) : Prop :=
  ∀ cand desc c q other, cand ∈ m.countByAccount.keys →
    fl.gt (m.scoreCandidate (scorerOf fl) cand (Infer.tokenize desc c q other)) fl.negInf = true

theorem scoreOK_real (fl : Syn.F64 F) (m : Infer.Model) (hf : FiniteScores fl m) : ScoreOK fl (extReal fl) (scorerOf fl) id m :=
  ⟨fun cand desc c q other => by simp only [extReal, scoreCandidate_tokens, outVal, id], fun _ _ => rfl, hf⟩

/-- **the composition the code runs**: `inferAccount` with the translated `scoreCandidate` as its score function is the model's
`inferAccount` with the scorer `scorerOf fl` — for every interpretation `fl` of the float operations with `FiniteScores` -/
theorem inferAccount_real (fl : Syn.F64 F) (m : Infer.Model) (hf : FiniteScores fl m) (hk : m.countByAccount.keys.Nodup)
    (gt : directives.Transaction) (gb : directives.Booking) (other desc : Bytes) (v : BookingV)
    (hd : directives.Range.Extract gt.Description.Content = .ok desc)
    (hc : directives.Range.Extract gb.Commodity.Range = .ok v.commodity)
    (hq : directives.Range.Extract gb.Quantity.Range = .ok v.quantity) :
    bayes.Model.inferAccount (goModel m) gt gb other fl (extReal fl) = .ok (accountOf (m.inferAccount (scorerOf fl) desc v other)) :=
  inferAccount_agrees fl (extReal fl) (scorerOf fl) id m (scoreOK_real fl m hf) hk gt gb other desc v hd hc hq

/-! ### `Infer` -/

/-- `Extract()` of a synthesised account is its text -/
theorem Extract_synth (a : Bytes) : directives.Range.Extract (synth a).Range = .ok a := by
  unfold directives.Range.Extract synth slice
  have h : ¬ ((0 : Int) < 0 ∨ (a.length : Int) < 0 ∨ (a.length : Int) < (a.length : Int)) := by omega
  simp only [h, if_false, obind_ok', Int.toNat_natCast, List.take_length, Int.toNat_zero, List.drop_zero]

/-- the first half of the edit of one booking: the credit account against the debit account; the booking and the (possibly new) text of
its credit account — on the Go booking `gb` whose fields are `v` -/
def editCredit (sc : Infer.Scorer S) (m : Infer.Model) (desc : Bytes) (gb : directives.Booking) (v : BookingV) : directives.Booking × Bytes :=
  if v.credit = m.account then
    match m.inferAccount sc desc v v.debit with
    | some a => ({ gb with Credit := synth a }, a)
    | none => (gb, v.credit)
  else (gb, v.credit)

/-- the second half: the debit account against the credit account `credit` -/
def editDebit (sc : Infer.Scorer S) (m : Infer.Model) (desc : Bytes) (gb : directives.Booking) (v : BookingV) (credit : Bytes) :
    directives.Booking :=
  if v.debit = m.account then
    match m.inferAccount sc desc v credit with
    | some a => { gb with Debit := synth a }
    | none => gb
  else gb

/-- the edit of one booking: the credit account against the debit account, then the debit account against the (possibly new) credit
account -/
def editB (sc : Infer.Scorer S) (m : Infer.Model) (desc : Bytes) (gb : directives.Booking) (v : BookingV) : directives.Booking :=
  editDebit sc m desc (editCredit sc m desc gb v).1 v (editCredit sc m desc gb v).2

/-- `editB` booking by booking; bookings beyond the views stay as they are -/
def editBs (sc : Infer.Scorer S) (m : Infer.Model) (desc : Bytes) : List directives.Booking → List BookingV → List directives.Booking
  | gb :: gbs, v :: vs => editB sc m desc gb v :: editBs sc m desc gbs vs
  | gbs, _ => gbs

theorem editCredit_frame (sc : Infer.Scorer S) (m : Infer.Model) (desc : Bytes) (gb : directives.Booking) (v : BookingV) :
    (editCredit sc m desc gb v).1.Range = gb.Range ∧ (editCredit sc m desc gb v).1.Quantity = gb.Quantity ∧
    (editCredit sc m desc gb v).1.Commodity = gb.Commodity ∧ (editCredit sc m desc gb v).1.Debit = gb.Debit ∧
    ((editCredit sc m desc gb v).1.Credit = gb.Credit ∨ ∃ a, (editCredit sc m desc gb v).1.Credit = synth a) := by
  unfold editCredit
  split
  · split
    · exact ⟨rfl, rfl, rfl, rfl, Or.inr ⟨_, rfl⟩⟩
    · exact ⟨rfl, rfl, rfl, rfl, Or.inl rfl⟩
  · exact ⟨rfl, rfl, rfl, rfl, Or.inl rfl⟩

theorem editDebit_frame (sc : Infer.Scorer S) (m : Infer.Model) (desc : Bytes) (gb : directives.Booking) (v : BookingV) (credit : Bytes) :
    (editDebit sc m desc gb v credit).Range = gb.Range ∧ (editDebit sc m desc gb v credit).Quantity = gb.Quantity ∧
    (editDebit sc m desc gb v credit).Commodity = gb.Commodity ∧ (editDebit sc m desc gb v credit).Credit = gb.Credit ∧
    ((editDebit sc m desc gb v credit).Debit = gb.Debit ∨ ∃ a, (editDebit sc m desc gb v credit).Debit = synth a) := by
  unfold editDebit
  split
  · split
    · exact ⟨rfl, rfl, rfl, rfl, Or.inr ⟨_, rfl⟩⟩
    · exact ⟨rfl, rfl, rfl, rfl, Or.inl rfl⟩
  · exact ⟨rfl, rfl, rfl, rfl, Or.inl rfl⟩

/-- **only the account fields of bookings are written**: the rest of an edited booking is the old booking, and an account field is
the old node or a synthesised account -/
theorem editB_frame (sc : Infer.Scorer S) (m : Infer.Model) (desc : Bytes) (gb : directives.Booking) (v : BookingV) :
    (editB sc m desc gb v).Range = gb.Range ∧ (editB sc m desc gb v).Quantity = gb.Quantity ∧
    (editB sc m desc gb v).Commodity = gb.Commodity ∧
    ((editB sc m desc gb v).Credit = gb.Credit ∨ ∃ a, (editB sc m desc gb v).Credit = synth a) ∧
    ((editB sc m desc gb v).Debit = gb.Debit ∨ ∃ a, (editB sc m desc gb v).Debit = synth a) := by
  obtain ⟨c1, c2, c3, c4, c5⟩ := editCredit_frame sc m desc gb v
  obtain ⟨d1, d2, d3, d4, d5⟩ := editDebit_frame sc m desc (editCredit sc m desc gb v).1 v (editCredit sc m desc gb v).2
  unfold editB
  refine ⟨d1.trans c1, d2.trans c2, d3.trans c3, ?_, ?_⟩
  · rw [d4]; exact c5
  · rw [← c4]; exact d5

/-- the view after the first half: the credit field is the text `editCredit` hands on -/
theorem editCredit_view (sc : Infer.Scorer S) (m : Infer.Model) (desc : Bytes) (gb : directives.Booking) (v : BookingV) (hv : ViewB gb v) :
    ViewB (editCredit sc m desc gb v).1 { v with credit := (editCredit sc m desc gb v).2 } := by
  unfold editCredit
  split
  · split
    · exact ⟨Extract_synth _, hv.debit, hv.quantity, hv.commodity⟩
    · exact hv
  · exact hv

theorem editDebit_view (sc : Infer.Scorer S) (m : Infer.Model) (desc : Bytes) (gb : directives.Booking) (v v1 : BookingV) (credit : Bytes)
    (hv : ViewB gb v1) :
    ViewB (editDebit sc m desc gb v credit)
      (if v.debit = m.account then match m.inferAccount sc desc v credit with | some a => { v1 with debit := a } | none => v1 else v1) := by
  unfold editDebit
  split
  · split
    · exact ⟨hv.credit, Extract_synth _, hv.quantity, hv.commodity⟩
    · exact hv
  · exact hv

/-- **the edited booking is viewed as the model's `inferBooking` of the old view** -/
theorem editB_view (sc : Infer.Scorer S) (m : Infer.Model) (desc : Bytes) (gb : directives.Booking) (v : BookingV) (hv : ViewB gb v) :
    ViewB (editB sc m desc gb v) (m.inferBooking sc desc v) := by
  have h1 := editCredit_view sc m desc gb v hv
  have h2 := editDebit_view sc m desc (editCredit sc m desc gb v).1 v _ (editCredit sc m desc gb v).2 h1
  have e : m.inferBooking sc desc v =
      (if v.debit = m.account then
        match m.inferAccount sc desc v (editCredit sc m desc gb v).2 with
        | some a => { ({ v with credit := (editCredit sc m desc gb v).2 } : BookingV) with debit := a }
        | none => { v with credit := (editCredit sc m desc gb v).2 }
      else { v with credit := (editCredit sc m desc gb v).2 }) := by
    unfold Infer.Model.inferBooking editCredit
    by_cases c1 : v.credit = m.account
    · rw [if_pos c1, if_pos c1]
      cases m.inferAccount sc desc v v.debit with
      | none => rfl
      | some a => rfl
    · rw [if_neg c1, if_neg c1]
      cases v; rfl
  rw [e]
  exact h2

theorem setIndex_append {α : Type} (pre : List α) (x y : α) (post : List α) :
    setIndex (pre ++ x :: post) (pre.length : Int) y = .ok (pre ++ y :: post) :=
  GoSem.setIndex_append pre x y post

theorem obind_of_ok {α β : Type} {x : Outcome α} {a : α} (h : x = .ok a) (f : α → Outcome β) : x.bind f = f a := by
  rw [h]; rfl

theorem Infer_range1 (fl : Syn.F64 F) (ext : bayes.Model → Bytes → set.Set bayes.token → F) (sc : Infer.Scorer S) (embed : S → F)
    (m : Infer.Model) (h : ScoreOK fl ext sc embed m) (hk : m.countByAccount.keys.Nodup) (desc : Bytes) :
    ∀ (items : List directives.Booking) (vs : List BookingV) (done : List directives.Booking) (t : directives.Transaction),
      t.Bookings = done ++ items → directives.Range.Extract t.Description.Content = .ok desc → Forall2 ViewB items vs →
      bayes.Model.Infer.range1 (goModel m) fl ext items (done.length : Int) t =
        .ok { t with Bookings := done ++ editBs sc m desc items vs }
  | [], vs, done, t, hb, _, hv => by
    cases hv
    rw [bayes.Model.Infer.range1]
    simp only [editBs, ← hb]
  | gb :: items, _, done, t, hb, hd, hv => by
    cases hv with
    | cons hv1 hrest =>
      rename_i v vs
      have hacc : (goModel m).account = m.account := rfl
      have ht : ({ t with Bookings := done ++ gb :: items } : directives.Transaction) = t := by rw [← hb]
      have hI := fun (gb' : directives.Booking) (v' : BookingV) (hv' : ViewB gb' v') (hc : v'.commodity = v.commodity)
          (hq : v'.quantity = v.quantity) (other : Bytes) =>
        inferAccount_agrees fl ext sc embed m h hk { t with Bookings := done ++ gb' :: items } gb' other desc v hd
          (hc ▸ hv'.commodity) (hq ▸ hv'.quantity)
      rw [bayes.Model.Infer.range1, editBs]
      simp only [hb, index_append, obind_ok', hv1.credit, hv1.debit, hacc]
      -- the credit side: the tree with `editCredit` at place `i`, and the text of the credit account
      refine (obind_of_ok (a := (({ t with Bookings := done ++ (editCredit sc m desc gb v).1 :: items } : directives.Transaction),
        (editCredit sc m desc gb v).2)) ?_ _).trans ?_
      · unfold editCredit
        by_cases c1 : v.credit = m.account
        · have := hI gb v hv1 rfl rfl v.debit
          rw [ht] at this
          simp only [c1, decide_true, if_true, this, obind_ok']
          cases m.inferAccount sc desc v v.debit with
          | none => simp only [accountOf, Bool.false_eq_true, if_false, obind_ok', ht]
          | some a => simp only [accountOf, if_true, setIndex_append, obind_ok', Extract_synth]
        · simp only [c1, decide_false, Bool.false_eq_true, if_false, ht]
      -- the debit side, on that tree
      have hv2 := editCredit_view sc m desc gb v hv1
      refine (obind_of_ok (a := ({ t with Bookings := done ++ editB sc m desc gb v :: items } : directives.Transaction)) ?_ _).trans ?_
      · unfold editB editDebit
        by_cases c2 : v.debit = m.account
        · simp only [c2, decide_true, if_true, index_append, hI _ _ hv2 rfl rfl, obind_ok']
          cases m.inferAccount sc desc v (editCredit sc m desc gb v).2 with
          | none => simp only [accountOf, Bool.false_eq_true, if_false, obind_ok']
          | some a => simp only [accountOf, if_true, setIndex_append, obind_ok']
        · simp only [c2, decide_false, Bool.false_eq_true, if_false]
      have ih := Infer_range1 fl ext sc embed m h hk desc items vs (done ++ [editB sc m desc gb v])
        { t with Bookings := done ++ editB sc m desc gb v :: items } (by simp) hd hrest
      simp only [List.length_append, List.length_cons, List.length_nil, Nat.zero_add, Int.natCast_add, Int.natCast_one,
        List.append_assoc, List.cons_append, List.nil_append] at ih
      exact ih

/-- **`Model.Infer`**: the tree with, booking by booking, the model's `inferBooking` edit (`editB`); nothing but `Bookings` changes, and
nothing panics when the `Extract()` calls succeed — for every float record, external score function and `Scorer` it stands for -/
theorem Infer_agrees (fl : Syn.F64 F) (ext : bayes.Model → Bytes → set.Set bayes.token → F) (sc : Infer.Scorer S) (embed : S → F)
    (m : Infer.Model) (h : ScoreOK fl ext sc embed m) (hk : m.countByAccount.keys.Nodup)
    (gt : directives.Transaction) (desc : Bytes) (vs : List BookingV)
    (hd : directives.Range.Extract gt.Description.Content = .ok desc) (hv : Forall2 ViewB gt.Bookings vs) :
    bayes.Model.Infer (goModel m) gt fl ext = .ok { gt with Bookings := editBs sc m desc gt.Bookings vs } := by
  unfold bayes.Model.Infer
  have := Infer_range1 fl ext sc embed m h hk desc gt.Bookings vs [] gt rfl hd hv
  simp only [List.length_nil, Int.natCast_zero, List.nil_append] at this
  rw [this]; rfl

/-- `Infer_agrees` with the embedding that every `Scorer` has (`flOf`, `extOf`) -/
theorem Infer_scorer (sc : Infer.Scorer S) (m : Infer.Model) (hk : m.countByAccount.keys.Nodup)
    (gt : directives.Transaction) (desc : Bytes) (vs : List BookingV)
    (hd : directives.Range.Extract gt.Description.Content = .ok desc) (hv : Forall2 ViewB gt.Bookings vs) :
    bayes.Model.Infer (goModel m) gt (flOf sc) (extOf sc) = .ok { gt with Bookings := editBs sc m desc gt.Bookings vs } :=
  Infer_agrees (flOf sc) (extOf sc) sc some m (scoreOK_scorer sc m) hk gt desc vs hd hv

/-- with the code's own score function -/
theorem Infer_real (fl : Syn.F64 F) (m : Infer.Model) (hf : FiniteScores fl m) (hk : m.countByAccount.keys.Nodup)
    (gt : directives.Transaction) (desc : Bytes) (vs : List BookingV)
    (hd : directives.Range.Extract gt.Description.Content = .ok desc) (hv : Forall2 ViewB gt.Bookings vs) :
    bayes.Model.Infer (goModel m) gt fl (extReal fl) = .ok { gt with Bookings := editBs (scorerOf fl) m desc gt.Bookings vs } :=
  Infer_agrees fl (extReal fl) (scorerOf fl) id m (scoreOK_real fl m hf) hk gt desc vs hd hv

/-- the bookings after `Infer` are viewed as the model's `inferBooking` of the old views (the bookings of `inferDir`) -/
theorem editBs_view (sc : Infer.Scorer S) (m : Infer.Model) (desc : Bytes) : ∀ (gbs : List directives.Booking) (vs : List BookingV),
    Forall2 ViewB gbs vs → Forall2 ViewB (editBs sc m desc gbs vs) (vs.map (m.inferBooking sc desc))
  | [], _, h => by cases h; exact Forall2.nil
  | gb :: gbs, _, h => by
    cases h with
    | cons h1 hrest => exact Forall2.cons (editB_view sc m desc gb _ h1) (editBs_view sc m desc gbs _ hrest)

theorem editBs_length (sc : Infer.Scorer S) (m : Infer.Model) (desc : Bytes) : ∀ (gbs : List directives.Booking) (vs : List BookingV),
    (editBs sc m desc gbs vs).length = gbs.length
  | [], _ => rfl
  | _ :: _, [] => rfl
  | _ :: gbs, _ :: vs => congrArg (· + 1) (editBs_length sc m desc gbs vs)

theorem editBs_get (sc : Infer.Scorer S) (m : Infer.Model) (desc : Bytes) : ∀ {gbs : List directives.Booking} {vs : List BookingV},
    Forall2 ViewB gbs vs → ∀ (i : Nat) (gb : directives.Booking), gbs[i]? = some gb →
    ∃ v, vs[i]? = some v ∧ ViewB gb v ∧ (editBs sc m desc gbs vs)[i]? = some (editB sc m desc gb v)
  | _, _, .nil, _, _, h => by simp at h
  | _, _, .cons r rest, 0, gb, h => by
    simp only [List.getElem?_cons_zero, Option.some.injEq] at h
    subst h
    exact ⟨_, rfl, r, rfl⟩
  | _, _, .cons r rest, i + 1, gb, h => editBs_get sc m desc rest i gb h

end

/-! ### the tables stay Go maps: every key once -/

theorem newModel_nodup (account : Bytes) : (Infer.newModel account).countByAccount.keys.Nodup := List.nodup_nil

theorem updateWith_nodup (m : Infer.Model) (a : Bytes) (w : List Bytes) (h : m.countByAccount.keys.Nodup) :
    (m.updateWith a w).countByAccount.keys.Nodup := AMap.nodupKeys_set h _ _

theorem updateFromW_nodup (desc : Bytes) (o1 o2 : Int → List Bytes) : ∀ (bs : List Infer.TBooking) (i : Int) (m : Infer.Model),
    m.countByAccount.keys.Nodup → (updateFromW desc o1 o2 bs i m).countByAccount.keys.Nodup
  | [], _, _, h => h
  | b :: bs, i, m, h => by
    rw [updateFromW]
    apply updateFromW_nodup desc o1 o2 bs (i + 1)
    unfold updateBookingW
    split
    · exact updateWith_nodup _ _ _ (updateWith_nodup _ _ _ h)
    · exact h

/-- `Update` keeps every key of `countByAccount` once -/
theorem updateTxW_nodup (o1 o2 : Int → List Bytes) (m : Infer.Model) (t : Infer.TTx) (h : m.countByAccount.keys.Nodup) :
    (updateTxW o1 o2 m t).countByAccount.keys.Nodup := updateFromW_nodup t.desc o1 o2 t.bookings 0 m h

/-- training keeps every key of `countByAccount` once -/
theorem trainW_nodup (os : Nat → (Int → List Bytes) × (Int → List Bytes)) : ∀ (txs : List Infer.TTx) (k : Nat) (m : Infer.Model),
    m.countByAccount.keys.Nodup → (trainW os txs k m).countByAccount.keys.Nodup
  | [], _, _, h => h
  | t :: ts, k, m, h => by
    rw [trainW]
    exact trainW_nodup os ts (k + 1) _ (updateTxW_nodup _ _ m t h)

/-! ### parsed trees -/

section
variable {text : Bytes} {path : String} {S : Type}

theorem viewBs_goBookings (bs : List Syntax.Booking) (vs : List BookingV) (h : bs.mapM (viewBooking text) = some vs) :
    Forall2 ViewB (bs.map (goBooking text path)) vs :=
  Forall2.of_mapM (fun _ _ => viewB_goBooking) bs vs h

/-- **`Model.Infer` on a parsed transaction, against `inferDir`**: when the model's extraction of the transaction's fields succeeds
(`viewTransaction`), `Infer` on Go's representation returns the same transaction node with new bookings only; their extracted fields
are the bookings of `m.inferDir sc` of the old fields, and each differs from the old booking in its account nodes at most -/
theorem Infer_parsed (sc : Infer.Scorer S) (m : Infer.Model) (hk : m.countByAccount.keys.Nodup) (t : Syntax.Transaction)
    (accr : Option AccrualV) (perf : Option (List Bytes)) (date desc : Bytes) (bookings : List BookingV)
    (hv : viewTransaction text t = some (.transaction accr perf date desc bookings)) :
    ∃ gbs : List directives.Booking,
      bayes.Model.Infer (goModel m) (goTransaction text path t) (flOf sc) (extOf sc) =
        .ok { goTransaction text path t with Bookings := gbs } ∧
      gbs = editBs sc m desc (t.bookings.map (goBooking text path)) bookings ∧
      ∃ bookings', m.inferDir sc (.transaction accr perf date desc bookings) = .transaction accr perf date desc bookings' ∧
        Forall2 ViewB gbs bookings' := by
  obtain ⟨accr', perf', date', desc', bookings', he, hd, hb⟩ := Infer.viewTransaction_some hv
  injection he with e1 e2 e3 e4 e5
  subst e4 e5
  have hd' : directives.Range.Extract (goTransaction text path t).Description.Content = .ok desc := by
    simp [goTransaction, goQuoted, Extract_goRange, hd]
  have hvs : Forall2 ViewB (goTransaction text path t).Bookings bookings := viewBs_goBookings t.bookings bookings hb
  refine ⟨_, Infer_scorer sc m hk _ desc bookings hd' hvs, rfl, _, rfl, ?_⟩
  exact editBs_view sc m desc _ _ hvs

end

end Knut.FactsAgree.TransBayes
