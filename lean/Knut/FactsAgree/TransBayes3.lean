import Knut.FactsAgree.TransBayes2
/-!
# The translated `lib/syntax/bayes` agrees with the model of `knut infer`, part 3: training and inference together

`train_Infer_agrees`: the translated `NewModel`, `Update` over the training transactions and `Infer` on a target transaction, for
**every** admissible family of map iteration orders and **every** `Scorer`: the target comes back with exactly the edit that the
model's `train` + `inferBooking` make — the iteration order of the token sets cannot be observed in the output tree
(`train_Infer_order_independent`).  `editB_keeps`: a booking without the placeholder comes back as the same Go node.
-/
namespace Knut.FactsAgree.TransBayes
open Knut Knut.GoSem Knut.Syntax
open Knut.Generated.Go
open Knut.FactsAgree.TransPrinter

section
variable {S : Type}

/-- models that inference cannot tell apart make the same edit -/
theorem editB_congr (sc : Infer.Scorer S) {m₁ m₂ : Infer.Model} (h : m₁.Equiv m₂) (desc : Bytes) (gb : directives.Booking) (v : BookingV) :
    editB sc m₁ desc gb v = editB sc m₂ desc gb v := by
  have hc : editCredit sc m₁ desc gb v = editCredit sc m₂ desc gb v := by
    unfold editCredit; rw [h.account, h.inferAccount]
  unfold editB
  rw [hc]
  unfold editDebit
  rw [h.account, h.inferAccount]

theorem editBs_congr (sc : Infer.Scorer S) {m₁ m₂ : Infer.Model} (h : m₁.Equiv m₂) (desc : Bytes) :
    ∀ (gbs : List directives.Booking) (vs : List BookingV), editBs sc m₁ desc gbs vs = editBs sc m₂ desc gbs vs
  | [], _ => by simp [editBs]
  | _ :: _, [] => by simp [editBs]
  | gb :: gbs, v :: vs => by rw [editBs, editBs, editB_congr sc h, editBs_congr sc h desc gbs vs]

/-- **a booking without the placeholder comes back as the same Go node** -/
theorem editB_keeps (sc : Infer.Scorer S) (m : Infer.Model) (desc : Bytes) (gb : directives.Booking) (v : BookingV)
    (h1 : v.credit ≠ m.account) (h2 : v.debit ≠ m.account) : editB sc m desc gb v = gb := by
  unfold editB editDebit editCredit
  rw [if_neg h1, if_neg h2]

/-- **training and inference through the translation**: `NewModel`, `Update` over the training transactions (for every family of
iteration orders that list each token of their set once) and `Infer` on a target transaction — the target with exactly the edit
`editBs` of the MODEL's `train`, for every `Scorer`.  Nothing panics when the `Extract()` calls succeed. -/
theorem train_Infer_agrees (sc : Infer.Scorer S) (account : Bytes) (os : Nat → (Int → List Bytes) × (Int → List Bytes))
    (gts : List directives.Transaction) (txs : List Infer.TTx) (hv : Forall2 ViewT gts txs) (ho : TrainOrdersOK os txs 0)
    (gt : directives.Transaction) (desc : Bytes) (vs : List BookingV)
    (hd : directives.Range.Extract gt.Description.Content = .ok desc) (hvb : Forall2 ViewB gt.Bookings vs) :
    (trainGo gts 0 os (bayes.NewModel account)).bind (fun gm => bayes.Model.Infer gm gt (flOf sc) (extOf sc)) =
      .ok { gt with Bookings := editBs sc (Infer.train account txs) desc gt.Bookings vs } := by
  obtain ⟨e1, e2⟩ := train_agrees account os gts txs hv ho
  rw [e1]
  have hk := trainW_nodup os txs 0 _ (newModel_nodup account)
  show bayes.Model.Infer (goModel _) gt (flOf sc) (extOf sc) = _
  rw [Infer_scorer sc _ hk gt desc vs hd hvb, editBs_congr sc e2]

/-- **the map iteration orders cannot be observed in the output tree** -/
theorem train_Infer_order_independent (sc : Infer.Scorer S) (account : Bytes) (os os' : Nat → (Int → List Bytes) × (Int → List Bytes))
    (gts : List directives.Transaction) (txs : List Infer.TTx) (hv : Forall2 ViewT gts txs)
    (ho : TrainOrdersOK os txs 0) (ho' : TrainOrdersOK os' txs 0)
    (gt : directives.Transaction) (desc : Bytes) (vs : List BookingV)
    (hd : directives.Range.Extract gt.Description.Content = .ok desc) (hvb : Forall2 ViewB gt.Bookings vs) :
    (trainGo gts 0 os (bayes.NewModel account)).bind (fun gm => bayes.Model.Infer gm gt (flOf sc) (extOf sc)) =
      (trainGo gts 0 os' (bayes.NewModel account)).bind (fun gm => bayes.Model.Infer gm gt (flOf sc) (extOf sc)) := by
  rw [train_Infer_agrees sc account os gts txs hv ho gt desc vs hd hvb, train_Infer_agrees sc account os' gts txs hv ho' gt desc vs hd hvb]

/-- the same with the code's own score function over any interpretation of the float operations that keeps the scores of the trained
candidates above `-Inf` -/
theorem train_Infer_real {F : Type} (fl : Syn.F64 F) (account : Bytes) (os : Nat → (Int → List Bytes) × (Int → List Bytes))
    (gts : List directives.Transaction) (txs : List Infer.TTx) (hv : Forall2 ViewT gts txs) (ho : TrainOrdersOK os txs 0)
    (hf : FiniteScores fl (trainW os txs 0 (Infer.newModel account)))
    (gt : directives.Transaction) (desc : Bytes) (vs : List BookingV)
    (hd : directives.Range.Extract gt.Description.Content = .ok desc) (hvb : Forall2 ViewB gt.Bookings vs) :
    (trainGo gts 0 os (bayes.NewModel account)).bind (fun gm => bayes.Model.Infer gm gt fl (extReal fl)) =
      .ok { gt with Bookings := editBs (scorerOf fl) (Infer.train account txs) desc gt.Bookings vs } := by
  obtain ⟨e1, e2⟩ := train_agrees account os gts txs hv ho
  rw [e1]
  have hk := trainW_nodup os txs 0 _ (newModel_nodup account)
  show bayes.Model.Infer (goModel _) gt fl (extReal fl) = _
  rw [Infer_real fl _ hf hk gt desc vs hd hvb, editBs_congr (scorerOf fl) e2]

end

/-! ### non-vacuity: the hypotheses can be met -/

/-- a Go booking over the text `"BFTC1"`: credit `B`, debit `T` (the placeholder), quantity `1`, commodity `C` -/
def exText : Bytes := [66, 70, 84, 67, 49]
def exRange (a b : Int) : directives.Range := { Start := a, End := b, Path := [], Text := exText }
def exBooking (credit debit : directives.Range) : directives.Booking :=
  { Range := exRange 0 5, Credit := ⟨credit, false⟩, Debit := ⟨debit, false⟩, Quantity := ⟨exRange 4 5⟩, Commodity := ⟨exRange 3 4⟩ }
def exTx (b : directives.Booking) : directives.Transaction :=
  { Range := exRange 0 5, Date := ⟨exRange 0 0⟩, Description := ⟨exRange 0 0, exRange 1 2⟩, Bookings := [b], Addons := GoZero.zero }

theorem orderOK_self (d c q o : Bytes) : OrderOK (Infer.tokenize d c q o) (Infer.tokenize d c q o) :=
  ⟨Infer.nodup_tokenize d c q o, fun _ h => h⟩

theorem exExtract (a b : Nat) (h : a ≤ b ∧ b ≤ 5) :
    directives.Range.Extract (exRange a b) = .ok ((exText.take b).drop a) := by
  unfold directives.Range.Extract exRange slice
  have h' : ¬ ((a : Int) < 0 ∨ (b : Int) < (a : Int) ∨ ((exText.length : Nat) : Int) < (b : Int)) := by
    have : exText.length = 5 := rfl
    omega
  simp only [h', if_false, obind_ok', Int.toNat_natCast]

/-- the worked instance — training on `B F 1 C` (description `F`), target `B T 1 C`, ascending iteration orders — meets every
hypothesis of `train_Infer_agrees` -/
theorem ex_hyps :
    Forall2 ViewT [exTx (exBooking (exRange 0 1) (exRange 1 2))] [⟨[70], [⟨false, false, ⟨[66], [70], [49], [67]⟩⟩]⟩] ∧
    TrainOrdersOK (fun _ => (fun _ => Infer.tokenize [70] [67] [49] [70], fun _ => Infer.tokenize [70] [67] [49] [66]))
      [⟨[70], [⟨false, false, ⟨[66], [70], [49], [67]⟩⟩]⟩] 0 ∧
    directives.Range.Extract (exTx (exBooking (exRange 0 1) (exRange 2 3))).Description.Content = .ok [70] ∧
    Forall2 ViewB (exTx (exBooking (exRange 0 1) (exRange 2 3))).Bookings [⟨[66], [84], [49], [67]⟩] := by
  have x01 := exExtract 0 1 (by omega)
  have x12 := exExtract 1 2 (by omega)
  have x23 := exExtract 2 3 (by omega)
  have x34 := exExtract 3 4 (by omega)
  have x45 := exExtract 4 5 (by omega)
  exact ⟨Forall2.cons ⟨x12, Forall2.cons ⟨⟨x01, x12, x45, x34⟩, rfl, rfl⟩ Forall2.nil⟩ Forall2.nil,
    ⟨⟨orderOK_self _ _ _ _, orderOK_self _ _ _ _, trivial⟩, trivial⟩, x12, Forall2.cons ⟨x01, x23, x45, x34⟩ Forall2.nil⟩

/-- … so the TRANSLATED functions answer the model's edit -/
example (sc : Infer.Scorer Rat) :
    (trainGo [exTx (exBooking (exRange 0 1) (exRange 1 2))] 0
        (fun _ => (fun _ => Infer.tokenize [70] [67] [49] [70], fun _ => Infer.tokenize [70] [67] [49] [66])) (bayes.NewModel [84])).bind
      (fun gm => bayes.Model.Infer gm (exTx (exBooking (exRange 0 1) (exRange 2 3))) (flOf sc) (extOf sc)) =
      .ok { exTx (exBooking (exRange 0 1) (exRange 2 3)) with
        Bookings := editBs sc (Infer.train [84] [⟨[70], [⟨false, false, ⟨[66], [70], [49], [67]⟩⟩]⟩]) [70]
          [exBooking (exRange 0 1) (exRange 2 3)] [⟨[66], [84], [49], [67]⟩] } :=
  train_Infer_agrees sc [84] _ _ _ ex_hyps.1 ex_hyps.2.1 _ _ _ ex_hyps.2.2.1 ex_hyps.2.2.2

end Knut.FactsAgree.TransBayes
