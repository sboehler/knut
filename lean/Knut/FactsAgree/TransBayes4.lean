import Knut.FactsAgree.TransBayes
/-!
# The translated `lib/syntax/bayes`, part 4: what can go wrong

For **every** Go model value (also one that `goModel` does not produce), every Go transaction, every family of iteration orders, every
interpretation of the float operations and every external score function, the translated `Update`, `inferAccount`, `scoreCandidate`
and `Infer` end in `ok` or in Go's slice-bounds panic of a `Range.Extract()` (`Post`) — never in another panic (the index expressions
`t.Bookings[i]` are in range, in particular after the tree was written), never out of fuel (there is no `for` loop).  For `Infer` the
postcondition also says what survives: everything but `Bookings`, and the number of bookings (`Infer_total`).
-/
namespace Knut.FactsAgree.TransBayes
open Knut Knut.GoSem Knut.Syntax
open Knut.Generated.Go
open Knut.FactsAgree.TransPrinter

/-- the outcome is `ok a` with `P a`, or Go's slice-bounds panic -/
def Post {α : Type} (P : α → Prop) : Outcome α → Prop
  | .ok a => P a
  | .panic msg => msg = slicePanic
  | .outOfFuel => False

theorem post_ok {α : Type} {P : α → Prop} {a : α} (h : P a) : Post P (.ok a) := h

theorem post_bind {α β : Type} {Q : α → Prop} {P : β → Prop} {x : Outcome α} {f : α → Outcome β}
    (hx : Post Q x) (hf : ∀ a, Q a → Post P (f a)) : Post P (x.bind f) := by
  cases x with
  | ok a => exact hf a hx
  | panic msg => exact hx
  | outOfFuel => exact hx

theorem post_mono {α : Type} {Q P : α → Prop} {x : Outcome α} (hx : Post Q x) (h : ∀ a, Q a → P a) : Post P x := by
  cases x with
  | ok a => exact h a hx
  | panic msg => exact hx
  | outOfFuel => exact hx

/-- `Range.Extract()`: the bytes or the slice-bounds panic -/
theorem post_Extract (r : directives.Range) : Post (fun _ => True) (directives.Range.Extract r) := by
  unfold directives.Range.Extract slice
  split
  · rfl
  · trivial

theorem tokenize_range1_ok : ∀ (items : List Bytes) (s : set.Set bayes.token), ∃ s', bayes.tokenize.range1 items s = .ok s'
  | [], s => ⟨s, rfl⟩
  | x :: xs, s => by rw [bayes.tokenize.range1]; exact tokenize_range1_ok xs _

theorem post_tokenize (gt : directives.Transaction) (gb : directives.Booking) (other : Bytes) :
    Post (fun _ => True) (bayes.tokenize gt gb other) := by
  unfold bayes.tokenize
  refine post_bind (post_Extract _) fun d _ => post_bind (post_Extract _) fun c _ => post_bind (post_Extract _) fun q _ => ?_
  obtain ⟨s', h⟩ := tokenize_range1_ok (Syn.Strings.Fields d ++ [c, q, other]) (set.New : set.Set bayes.token)
  simp only [h, obind_ok']
  trivial

theorem update_range1_ok (account : Bytes) (order : List Bytes) : ∀ (items : List Bytes) (gm : bayes.Model),
    ∃ gm', bayes.Model.update.range1 account order items gm = .ok gm'
  | [], gm => ⟨gm, rfl⟩
  | x :: xs, gm => by rw [bayes.Model.update.range1]; exact update_range1_ok account order xs _

theorem post_update (gm : bayes.Model) (gt : directives.Transaction) (gb : directives.Booking) (account other : Bytes) (order : List Bytes) :
    Post (fun _ => True) (bayes.Model.update gm gt gb account other order) := by
  unfold bayes.Model.update
  refine post_bind (post_tokenize gt gb other) fun s _ => ?_
  obtain ⟨gm', h⟩ := update_range1_ok account order (Syn.rangeKeys order s)
    { ({ gm with count := gm.count + 1 } : bayes.Model) with
      countByAccount := AMap.set gm.countByAccount account (AMap.get gm.countByAccount account GoZero.zero + 1) }
  simp only [h, obind_ok']
  trivial

theorem post_Update_range1 (gt : directives.Transaction) (o1 o2 : Int → List Bytes) :
    ∀ (items pre : List directives.Booking) (gm : bayes.Model), gt.Bookings = pre ++ items →
      Post (fun _ => True) (bayes.Model.Update.range1 gt o1 o2 items (pre.length : Int) gm)
  | [], _, _, _ => trivial
  | gb :: items, pre, gm, hpre => by
    have ih := fun gm' => post_Update_range1 gt o1 o2 items (pre ++ [gb]) gm' (by simp [hpre])
    simp only [List.length_append, List.length_cons, List.length_nil, Nat.zero_add, Int.natCast_add, Int.natCast_one] at ih
    rw [bayes.Model.Update.range1]
    simp only [hpre, index_append, obind_ok']
    split
    · exact ih gm
    · refine post_bind (post_Extract _) fun credit _ => post_bind (post_Extract _) fun debit _ => ?_
      split
      · exact ih gm
      · split
        · exact ih gm
        · refine post_bind (post_update ..) fun gm1 _ => post_bind (post_update ..) fun gm2 _ => ?_
          exact ih gm2

/-- **`Model.Update` on every Go model and every Go transaction**: `ok` or the slice-bounds panic of an `Extract()` -/
theorem Update_total (gm : bayes.Model) (gt : directives.Transaction) (o1 o2 : Int → List Bytes) :
    Post (fun _ => True) (bayes.Model.Update gm gt o1 o2) := by
  unfold bayes.Model.Update
  have := post_Update_range1 gt o1 o2 gt.Bookings [] gm rfl
  simp only [List.length_nil, Int.natCast_zero] at this
  exact post_bind this fun _ _ => trivial

section
variable {F : Type}

theorem scoreCandidate_range1_ok (fl : Syn.F64 F) (gm : bayes.Model) (cand : Bytes) (count : F) : ∀ (items : List Bytes) (score : F),
    ∃ s, bayes.Model.scoreCandidate.range1 gm cand count fl items score = .ok s
  | [], score => ⟨score, rfl⟩
  | x :: xs, score => by rw [bayes.Model.scoreCandidate.range1]; exact scoreCandidate_range1_ok fl gm cand count xs _

/-- **`Model.scoreCandidate` never panics**, whatever the tables hold -/
theorem scoreCandidate_total (fl : Syn.F64 F) (gm : bayes.Model) (cand : Bytes) (toks : set.Set bayes.token) :
    ∃ s, bayes.Model.scoreCandidate gm cand toks fl = .ok s := by
  unfold bayes.Model.scoreCandidate
  obtain ⟨s, h⟩ := scoreCandidate_range1_ok fl gm cand (fl.ofInt (AMap.get gm.countByAccount cand GoZero.zero)) (sortedKeys toks cmpOrdered)
    (fl.log (fl.div (fl.ofInt (AMap.get gm.countByAccount cand GoZero.zero)) (fl.ofInt gm.count)))
  exact ⟨s, by simp only [h, obind_ok']⟩

theorem inferAccount_range1_ok (fl : Syn.F64 F) (ext : bayes.Model → Bytes → set.Set bayes.token → F) (gm : bayes.Model) (other : Bytes)
    (toks : set.Set bayes.token) : ∀ (items : List Bytes) (mx : F) (best : Bytes),
    ∃ r, bayes.Model.inferAccount.range1 gm other toks fl ext items mx best = .ok r
  | [], mx, best => ⟨(mx, best), rfl⟩
  | x :: xs, mx, best => by
    rw [bayes.Model.inferAccount.range1]
    split <;> exact inferAccount_range1_ok fl ext gm other toks xs _ _

theorem post_inferAccount (fl : Syn.F64 F) (ext : bayes.Model → Bytes → set.Set bayes.token → F) (gm : bayes.Model)
    (gt : directives.Transaction) (gb : directives.Booking) (other : Bytes) :
    Post (fun _ => True) (bayes.Model.inferAccount gm gt gb other fl ext) := by
  unfold bayes.Model.inferAccount
  refine post_bind (post_tokenize gt gb other) fun toks _ => ?_
  obtain ⟨r, h⟩ := inferAccount_range1_ok fl ext gm other toks (sortedKeys gm.countByAccount cmpOrdered) fl.negInf GoZero.zero
  simp only [h, obind_ok']
  split <;> trivial

/-- what `Infer` leaves of a transaction: everything but the bookings, and their number -/
def SameFrame (t t' : directives.Transaction) : Prop :=
  t'.Range = t.Range ∧ t'.Date = t.Date ∧ t'.Description = t.Description ∧ t'.Addons = t.Addons ∧
    t'.Bookings.length = t.Bookings.length

theorem sameFrame_refl (t : directives.Transaction) : SameFrame t t := ⟨rfl, rfl, rfl, rfl, rfl⟩

theorem sameFrame_set (t : directives.Transaction) (done items : List directives.Booking) (gb gb' : directives.Booking)
    (h : t.Bookings = done ++ gb :: items) : SameFrame t { t with Bookings := done ++ gb' :: items } :=
  ⟨rfl, rfl, rfl, rfl, by simp [h]⟩

theorem sameFrame_trans {a b c : directives.Transaction} (h1 : SameFrame a b) (h2 : SameFrame b c) : SameFrame a c :=
  ⟨h2.1.trans h1.1, h2.2.1.trans h1.2.1, h2.2.2.1.trans h1.2.2.1, h2.2.2.2.1.trans h1.2.2.2.1, h2.2.2.2.2.trans h1.2.2.2.2⟩

theorem post_Infer_range1 (fl : Syn.F64 F) (ext : bayes.Model → Bytes → set.Set bayes.token → F) (gm : bayes.Model) :
    ∀ (items done : List directives.Booking) (t : directives.Transaction), t.Bookings = done ++ items →
      Post (SameFrame t) (bayes.Model.Infer.range1 gm fl ext items (done.length : Int) t)
  | [], _, t, _ => sameFrame_refl t
  | gb :: items, done, t, hb => by
    rw [bayes.Model.Infer.range1]
    simp only [hb, index_append, obind_ok', setIndex_append]
    refine post_bind (post_Extract _) fun credit _ => post_bind (post_Extract _) fun debit _ => ?_
    refine post_bind (Q := fun st => SameFrame t st.1 ∧ ∃ gb', st.1.Bookings = done ++ gb' :: items) ?_ ?_
    · split
      · refine post_bind (post_inferAccount ..) fun r _ => ?_
        refine post_bind (Q := fun st => SameFrame t st.1 ∧ ∃ gb', st.1.Bookings = done ++ gb' :: items) ?_ (fun st h => by exact h)
        split
        · exact post_bind (post_Extract _) fun c _ => ⟨sameFrame_set t done items gb _ hb, _, rfl⟩
        · exact ⟨sameFrame_refl t, gb, hb⟩
      · exact ⟨sameFrame_refl t, gb, hb⟩
    · rintro ⟨t1, credit1⟩ ⟨hf1, gb1, h1⟩
      simp only at h1 hf1
      refine post_bind (Q := fun t' => SameFrame t t' ∧ ∃ gb', t'.Bookings = done ++ gb' :: items) ?_ ?_
      · split
        · simp only [h1, index_append, obind_ok', setIndex_append]
          refine post_bind (post_inferAccount ..) fun r _ => ?_
          refine post_bind (Q := fun t' => SameFrame t t' ∧ ∃ gb', t'.Bookings = done ++ gb' :: items) ?_ (fun st h => h)
          split
          · exact ⟨sameFrame_trans hf1 (sameFrame_set t1 done items gb1 _ h1), _, rfl⟩
          · exact ⟨hf1, gb1, h1⟩
        · exact ⟨hf1, gb1, h1⟩
      · rintro t2 ⟨hf2, gb2, h2⟩
        have ih := post_Infer_range1 fl ext gm items (done ++ [gb2]) t2 (by simp [h2])
        simp only [List.length_append, List.length_cons, List.length_nil, Nat.zero_add, Int.natCast_add, Int.natCast_one] at ih
        exact post_mono ih fun t3 h3 => sameFrame_trans hf2 h3

/-- **`Model.Infer` on every Go model and every Go transaction**, for every interpretation of the floats and every external score
function: `ok` — with everything but `Bookings` as before and as many bookings — or the slice-bounds panic of an `Extract()`; never an
index out of range, never out of fuel -/
theorem Infer_total (fl : Syn.F64 F) (ext : bayes.Model → Bytes → set.Set bayes.token → F) (gm : bayes.Model) (gt : directives.Transaction) :
    Post (SameFrame gt) (bayes.Model.Infer gm gt fl ext) := by
  unfold bayes.Model.Infer
  have := post_Infer_range1 fl ext gm gt.Bookings [] gt rfl
  simp only [List.length_nil, Int.natCast_zero] at this
  exact post_bind this fun _ h => h

end

end Knut.FactsAgree.TransBayes
