import Knut.Generated.TransCheck
import Knut.FactsAgree.TransTransaction
import Knut.Model.Check
import Knut.FactsAgree.Agree
import Knut.Proofs.GoSemMap
/-!
# The translated `lib/journal/check` (open, posting, balance, close) agrees with the model

`Knut/Generated/TransCheck.lean` (with `TransSet`, `TransAmounts`) is regenerated from /repo on every run.  The checker's state
is a pair of Go maps; the model keeps a list of open accounts and an association list of positions.  Agreement is stated
through `StEquiv`: every lookup agrees.  `Checker.close` ranges over a map and deletes: the translated function takes the
iteration order as an explicit list, and the theorem holds for EVERY order that reaches all keys of the map.

Each method is stated first as `TransProcess.Agree` of the call in the shape a callback of `Processor.Process` has — (new state, the
element `x` handed back, error value) — against the model's step (`open_agree`, …): on failure the message is that of the model's
error kind and the model's error names the directive (for `open` and `posting` also: the Go state is as it was).  The statements
`…_agrees`, the `SimStep`s of `TransProcessAllCheck` and the `Sim`s of `Properties/C04Go` are read off these.
-/
namespace Knut.FactsAgree.TransCheck
open Knut Knut.GoSem
open Knut.Generated.Go
open Knut.FactsAgree.TransAccount Knut.FactsAgree.TransPosting
open Knut.FactsAgree.TransProcess (Agree)

theorem accountGo_inj {a b : Knut.Account} (h : accountGo a = accountGo b) : a = b := by
  have := congrArg account.Account.segments h
  cases a; cases b; simpa [accountGo] using this

theorem commodityGo_inj (cur : String → Bool) {a b : Knut.Commodity} (h : commodityGo cur a = commodityGo cur b) : a = b :=
  TransPrice.cGo_inj cur h

/-- `amounts.AccountCommodityKey(account, commodity)` -/
def keyGo (cur : String → Bool) (p : Position) : amounts.Key :=
  amounts.AccountCommodityKey (accountGo p.1) (commodityGo cur p.2)

theorem keyGo_inj (cur : String → Bool) {p q : Position} (h : keyGo cur p = keyGo cur q) : p = q := by
  unfold keyGo amounts.AccountCommodityKey at h
  have h1 := accountGo_inj (congrArg amounts.Key.Account h)
  have h2 := commodityGo_inj cur (congrArg amounts.Key.Commodity h)
  exact Prod.ext h1 h2

theorem keyGo_Account (cur : String → Bool) (p : Position) : (keyGo cur p).Account = accountGo p.1 := rfl

section amap
variable {κ ν : Type} [DecidableEq κ]

theorem mem_of_find? {m : Knut.AMap κ ν} {k : κ} {v : ν} (h : Knut.AMap.find? m k = some v) : (k, v) ∈ m :=
  Knut.AMap.mem_of_find? h

theorem find?_of_mem_nodup {m : Knut.AMap κ ν} {k : κ} {v : ν} (hn : (m.map Prod.fst).Nodup) (h : (k, v) ∈ m) :
    Knut.AMap.find? m k = some v :=
  Knut.AMap.find?_of_mem hn h

theorem keys_set_nodup (m : Knut.AMap κ ν) (k : κ) (v : ν) (hn : (m.map Prod.fst).Nodup) :
    ((Knut.AMap.set m k v).map Prod.fst).Nodup :=
  Knut.AMap.nodupKeys_set hn k v

end amap

/-- the Go checker state and the model state answer every lookup alike -/
structure StEquiv (cur : String → Bool) (g : check.Checker) (st : CheckState) : Prop where
  nocheck : g.NoCheck = false
  accounts : ∀ a : Knut.Account, set.Set.Has g.accounts (accountGo a) = st.accounts.contains a
  quantities : ∀ p : Position, Knut.AMap.find? g.quantities (keyGo cur p) = Knut.AMap.find? st.quantities p
  keys : ∀ k : amounts.Key, (Knut.AMap.find? g.quantities k).isSome → ∃ p, k = keyGo cur p
  nodup : (st.quantities.map Prod.fst).Nodup

def openGo (src : Ref) (o : Knut.Open) : open_.Open := ⟨src, o.date, accountGo o.account⟩
def closeGo (src : Ref) (c : Knut.Close) : close.Close := ⟨src, c.date, accountGo c.account⟩
def balanceGo (cur : String → Bool) (src : Ref) (b : Knut.Balance) : assertion.Balance :=
  ⟨src, accountGo b.account, b.quantity, commodityGo cur b.commodity⟩

/-- the message of a `check.Error` for each kind of the model -/
def msgOf : CheckErrKind → String
  | .alreadyOpen => "account is already open"
  | .notOpen => "account is not open"
  | .failedAssertion => "failed assertion: %s has position: %s %s"
  | .nonzeroPosition => "account has nonzero position: %s %s"

theorem Has_set {T : Type} [DecidableEq T] [GoZero T] (s : set.Set T) (a b : T) :
    set.Set.Has (set.Set.Add s a) b = (decide (a = b) || set.Set.Has s b) := by
  unfold set.Set.Has set.Set.Add
  simp only [Knut.AMap.find?_set]
  by_cases h : a = b <;> simp [h]

theorem Has_remove {T : Type} [DecidableEq T] [GoZero T] (s : set.Set T) (a b : T) :
    set.Set.Has (set.Set.Remove s a) b = (!decide (a = b) && set.Set.Has s b) := by
  unfold set.Set.Has set.Set.Remove
  simp only [Knut.AMap.find?_erase]
  by_cases h : a = b <;> simp [h]

/-- **`Checker.open`** = `Check.openAcc` -/
theorem open_agree {α : Type} (cur : String → Bool) {g : check.Checker} {st : CheckState} (h : StEquiv cur g st) (src : Ref)
    (o : Knut.Open) (x : α) :
    Agree (fun g' x' st' => StEquiv cur g' st' ∧ x' = x)
      (fun g' _ e err => g' = g ∧ e.msg = msgOf err.kind ∧ err.directive = .opening o)
      (.ok ((check.Checker.open_ g (openGo src o)).1, x, (check.Checker.open_ g (openGo src o)).2)) (Check.openAcc st o) := by
  unfold check.Checker.open_ Check.openAcc
  simp only [openGo, h.accounts]
  by_cases hc : st.accounts.contains o.account = true
  · simp only [hc, if_true]
    exact .error ⟨rfl, rfl, rfl⟩
  · simp only [hc, Bool.false_eq_true, if_false]
    refine .ok ⟨⟨h.nocheck, ?_, h.quantities, h.keys, h.nodup⟩, rfl⟩
    intro a
    simp only [Has_set, h.accounts, List.contains_cons]
    by_cases e : o.account = a
    · subst e; simp
    · have : accountGo o.account ≠ accountGo a := fun x => e (accountGo_inj x)
      have e' : (a == o.account) = false := by simpa using fun x => e x.symm
      simp [this, e']

theorem open_agrees (cur : String → Bool) {g : check.Checker} {st : CheckState} (h : StEquiv cur g st) (src : Ref) (o : Knut.Open) :
    match check.Checker.open_ g (openGo src o), Check.openAcc st o with
    | (g', none), .ok st' => StEquiv cur g' st'
    | (g', some e), .error err => g' = g ∧ e.msg = msgOf err.kind
    | _, _ => False := by
  have key := open_agree cur h src o ()
  generalize check.Checker.open_ g (openGo src o) = R at key ⊢
  generalize Check.openAcc st o = M at key ⊢
  obtain ⟨g', e⟩ := R
  cases key with
  | ok hq => exact hq.1
  | error he => exact ⟨he.1, he.2.1⟩

theorem Add_lookup (cur : String → Bool) {g : amounts.Amounts} {q : Knut.AMap Position Rat}
    (hl : ∀ p : Position, Knut.AMap.find? g (keyGo cur p) = Knut.AMap.find? q p) (p : Position) (x : Rat) (r : Position) :
    Knut.AMap.find? (amounts.Amounts.Add g (keyGo cur p) x) (keyGo cur r) =
      Knut.AMap.find? (q.set p (q.get p 0 + x)) r := by
  have hg : Knut.AMap.get g (keyGo cur p) 0 = q.get p 0 := congrArg (·.getD 0) (hl p)
  rw [Knut.AMap.find?_set, ← hg]
  exact Knut.AMap.find?_set_conv (fun _ _ => keyGo_inj cur) hl p _ r

theorem Add_keys (cur : String → Bool) {g : amounts.Amounts}
    (hk : ∀ k : amounts.Key, (Knut.AMap.find? g k).isSome → ∃ p, k = keyGo cur p) (p : Position) (x : Rat) (k : amounts.Key)
    (h : (Knut.AMap.find? (amounts.Amounts.Add g (keyGo cur p) x) k).isSome) : ∃ p, k = keyGo cur p :=
  Knut.AMap.keys_set_conv hk p _ k h

/-- **`Checker.posting`** = `Check.posting`; the method does not look at the transaction `tg` it is handed (it only goes into the error
value, of which the translation keeps the message) -/
theorem posting_agree {α : Type} (cur : String → Bool) {g : check.Checker} {st : CheckState} (h : StEquiv cur g st)
    (tg : transaction.Transaction) (src : Ref) (t : Knut.Transaction) (p : Knut.Posting) (x : α) :
    Agree (fun g' x' st' => StEquiv cur g' st' ∧ x' = x)
      (fun g' _ e err => g' = g ∧ e.msg = "account %s is not open" ∧ err = ⟨.tx t, .notOpen⟩)
      (.ok ((check.Checker.posting g tg (postingGo cur src p)).1, x, (check.Checker.posting g tg (postingGo cur src p)).2))
      (Check.posting st t p) := by
  unfold check.Checker.posting Check.posting
  simp only [postingGo, h.accounts, IsAL_agrees]
  by_cases hc : st.accounts.contains p.account = true
  · simp only [hc, Bool.not_true, Bool.false_eq_true, if_false]
    by_cases hal : p.account.isAL = true
    · simp only [hal, if_true]
      exact .ok ⟨⟨h.nocheck, h.accounts, Add_lookup cur h.quantities (p.account, p.commodity) p.quantity,
        Add_keys cur h.keys (p.account, p.commodity) p.quantity, keys_set_nodup _ _ _ h.nodup⟩, rfl⟩
    · simp only [hal, Bool.false_eq_true, if_false]
      exact .ok ⟨h, rfl⟩
  · simp only [hc, Bool.not_false, if_true]
    exact .error ⟨rfl, rfl, rfl⟩

theorem posting_agrees (cur : String → Bool) {g : check.Checker} {st : CheckState} (h : StEquiv cur g st)
    (s1 s2 s3 : Ref) (t : Knut.Transaction) (p : Knut.Posting) :
    match check.Checker.posting g (TransTransaction.txGo cur s1 s2 t) (postingGo cur s3 p), Check.posting st t p with
    | (g', none), .ok st' => StEquiv cur g' st'
    | (g', some e), .error err => g' = g ∧ e.msg = "account %s is not open" ∧ err.kind = .notOpen
    | _, _ => False := by
  have key := posting_agree cur h (TransTransaction.txGo cur s1 s2 t) s3 t p ()
  generalize check.Checker.posting g (TransTransaction.txGo cur s1 s2 t) (postingGo cur s3 p) = R at key ⊢
  generalize Check.posting st t p = M at key ⊢
  obtain ⟨g', e⟩ := R
  cases key with
  | ok hq => exact hq.1
  | error he => exact ⟨he.1, he.2.1, he.2.2 ▸ rfl⟩

/-- **`Checker.balance`** = `Check.balance` (neither changes its state); the method does not look at the assertion `ga` (it only goes
into the error value) -/
theorem balance_agree {α : Type} (cur : String → Bool) {g : check.Checker} {st : CheckState} (h : StEquiv cur g st)
    (ga : assertion.Assertion) (src : Ref) (a : Knut.Assertion) (b : Knut.Balance) (x : α) :
    Agree (fun g' x' st' => (g' = g ∧ st' = st) ∧ x' = x)
      (fun _ _ e err => e.msg = msgOf err.kind ∧ err.directive = .assertion a)
      (.ok (g, x, check.Checker.balance g ga (balanceGo cur src b))) (Check.balance st a b) := by
  unfold check.Checker.balance Check.balance
  simp only [balanceGo, h.accounts, h.nocheck]
  by_cases hc : st.accounts.contains b.account = true
  · simp only [hc, Bool.not_true, Bool.false_eq_true, if_false]
    have hk : amounts.AccountCommodityKey (accountGo b.account) (commodityGo cur b.commodity) = keyGo cur (b.account, b.commodity) := rfl
    simp only [hk, Knut.AMap.get, h.quantities, Decimal.Equal, zero_rat]
    by_cases hq : (Knut.AMap.find? st.quantities (b.account, b.commodity)).getD 0 = b.quantity
    · simp only [hq, decide_true, Bool.not_true, Bool.false_eq_true, if_false, ne_eq, not_true_eq_false]
      exact .ok ⟨⟨rfl, rfl⟩, rfl⟩
    · simp only [hq, decide_false, Bool.not_false, if_true, ne_eq, not_false_eq_true]
      exact .error ⟨rfl, rfl⟩
  · simp only [hc, Bool.not_false, if_true]
    exact .error ⟨rfl, rfl⟩

theorem balance_agrees (cur : String → Bool) {g : check.Checker} {st : CheckState} (h : StEquiv cur g st)
    (s1 s2 : Ref) (a : Knut.Assertion) (b : Knut.Balance) :
    match check.Checker.balance g ⟨s1, a.date, a.balances.map (balanceGo cur s2)⟩ (balanceGo cur s2 b), Check.balance st a b with
    | none, .ok st' => st' = st
    | some e, .error err => e.msg = msgOf err.kind
    | _, _ => False := by
  have key := balance_agree cur h ⟨s1, a.date, a.balances.map (balanceGo cur s2)⟩ s2 a b ()
  generalize check.Checker.balance g ⟨s1, a.date, a.balances.map (balanceGo cur s2)⟩ (balanceGo cur s2 b) = R at key ⊢
  generalize Check.balance st a b = M at key ⊢
  cases key with
  | ok hq => exact hq.1.2
  | error he => exact he.1

/-- the loop of `Checker.close` stops with the error as soon as SOME position of the account is not zero — whatever the
iteration order, provided the order reaches that position -/
theorem close_loop_error (c : close.Close) (k : amounts.Key) (v : Rat) (hacc : k.Account = c.Account) (hv : v ≠ 0) :
    ∀ (order : List amounts.Key) (g : check.Checker), k ∈ order → Knut.AMap.find? g.quantities k = some v →
      ∃ g', check.Checker.close.range1 c order g = Flow.ret (g', some ⟨"account has nonzero position: %s %s"⟩) := by
  intro order
  induction order with
  | nil => intro g hk; simp at hk
  | cons el rest ih =>
    intro g hk hf
    unfold check.Checker.close.range1
    by_cases hel : el = k
    · subst hel
      simp [hf, Knut.AMap.get, hacc, hv]
    · have hk' : k ∈ rest := by
        rcases List.mem_cons.mp hk with h | h
        · exact absurd h.symm hel
        · exact h
      by_cases hp : (Knut.AMap.find? g.quantities el).isSome = true
      · simp only [hp, Bool.not_true, Bool.false_eq_true, if_false]
        by_cases ha : el.Account = c.Account
        · simp only [ha, decide_true, Bool.not_true, Bool.false_eq_true, if_false]
          by_cases hz : (Knut.AMap.get g.quantities el (GoZero.zero : Rat)) = 0
          · simp only [Decimal.IsZero, hz, decide_true, Bool.not_true, Bool.false_eq_true, if_false]
            apply ih _ hk'
            simp only [Knut.AMap.find?_erase, hel, if_false, hf]
          · simp only [Decimal.IsZero, hz, decide_false, Bool.not_false, if_true]
            exact ⟨_, rfl⟩
        · simp only [ha, decide_false, Bool.not_false, if_true]
          exact ih g hk' hf
      · simp only [hp, Bool.not_false, if_true]
        exact ih g hk' hf

/-- when every position of the account is zero the loop deletes exactly the positions of the account that the order reaches -/
theorem close_loop_ok (c : close.Close) :
    ∀ (order : List amounts.Key) (g : check.Checker),
      (∀ k v, Knut.AMap.find? g.quantities k = some v → k.Account = c.Account → v = 0) →
      ∃ q', check.Checker.close.range1 c order g = Flow.next { g with quantities := q' } ∧
        ∀ k, Knut.AMap.find? q' k = if k ∈ order ∧ k.Account = c.Account then none else Knut.AMap.find? g.quantities k := by
  intro order
  induction order with
  | nil =>
    intro g _
    exact ⟨g.quantities, by simp [check.Checker.close.range1], by simp⟩
  | cons el rest ih =>
    intro g hz
    unfold check.Checker.close.range1
    by_cases hp : (Knut.AMap.find? g.quantities el).isSome = true
    · simp only [hp, Bool.not_true, Bool.false_eq_true, if_false]
      by_cases ha : el.Account = c.Account
      · obtain ⟨v, hv⟩ := Option.isSome_iff_exists.mp hp
        have hv0 := hz el v hv ha
        simp only [ha, decide_true, Bool.not_true, Bool.false_eq_true, if_false, Knut.AMap.get, hv, Option.getD_some,
          Decimal.IsZero, hv0]
        obtain ⟨q', h1, h2⟩ := ih { g with quantities := Knut.AMap.erase g.quantities el } (by
          intro k v hk hka
          simp only [Knut.AMap.find?_erase] at hk
          by_cases e : el = k
          · simp [e] at hk
          · simp only [e, if_false] at hk; exact hz k v hk hka)
        refine ⟨q', h1, ?_⟩
        intro k
        rw [h2 k]
        simp only [Knut.AMap.find?_erase, List.mem_cons]
        by_cases e : el = k
        · subst e; simp [ha]
        · have e' : ¬ k = el := fun x => e x.symm
          simp [e, e']
      · simp only [ha, decide_false, Bool.not_false, if_true]
        obtain ⟨q', h1, h2⟩ := ih g hz
        refine ⟨q', h1, ?_⟩
        intro k
        rw [h2 k]
        simp only [List.mem_cons]
        by_cases e : k = el
        · subst e; simp [ha]
        · simp [e]
    · simp only [hp, Bool.not_false, if_true]
      obtain ⟨q', h1, h2⟩ := ih g hz
      refine ⟨q', h1, ?_⟩
      intro k
      rw [h2 k]
      simp only [List.mem_cons]
      by_cases e : k = el
      · subst e
        have : Knut.AMap.find? g.quantities k = none := by simpa using hp
        simp [this]
      · simp [e]

/-- `Checker.close` for EVERY iteration order of the map `ch.quantities` (any list that contains all keys of the map; it
may repeat keys and contain others): the verdict is the model's, and on success the states agree again.  When the close fails
on a non-zero position, WHICH of several such positions the message names, and which zero positions are already deleted,
depends on the order; neither is observable in the model (the run stops with the error). -/
theorem close_agree {α : Type} (cur : String → Bool) {g : check.Checker} {st : CheckState} (h : StEquiv cur g st) (src : Ref)
    (c : Knut.Close) (order : List amounts.Key)
    (hcov : ∀ k, (Knut.AMap.find? g.quantities k).isSome → k ∈ order) (x : α) :
    Agree (fun g' x' st' => StEquiv cur g' st' ∧ x' = x)
      (fun _ _ e err => e.msg = msgOf err.kind ∧ err.directive = .closing c)
      (.ok ((check.Checker.close g (closeGo src c) order).1, x, (check.Checker.close g (closeGo src c) order).2))
      (Check.close st c) := by
  unfold check.Checker.close Check.close
  by_cases hany : st.quantities.any (fun e => e.1.1 = c.account && e.2 ≠ 0) = true
  · -- some position of the account is not zero
    obtain ⟨e, hem, hep⟩ := List.any_eq_true.mp hany
    simp only [Bool.and_eq_true, decide_eq_true_eq, ne_eq, decide_not, Bool.not_eq_eq_eq_not, Bool.not_true,
      decide_eq_false_iff_not] at hep
    have hf : Knut.AMap.find? st.quantities e.1 = some e.2 := find?_of_mem_nodup h.nodup (by simpa using hem)
    have hg : Knut.AMap.find? g.quantities (keyGo cur e.1) = some e.2 := by rw [h.quantities]; exact hf
    obtain ⟨g', hr⟩ := close_loop_error (closeGo src c) (keyGo cur e.1) e.2 (by simp [keyGo_Account, closeGo, hep.1]) hep.2
      order g (hcov _ (by simp [hg])) hg
    simp only [hr, hany, if_true]
    exact .error ⟨rfl, rfl⟩
  · have hany' : st.quantities.any (fun e => e.1.1 = c.account && e.2 ≠ 0) = false := (Bool.not_eq_true _).mp hany
    have hz : ∀ k v, Knut.AMap.find? g.quantities k = some v → k.Account = (closeGo src c).Account → v = 0 := by
      intro k v hk hka
      obtain ⟨p, rfl⟩ := h.keys k (by simp [hk])
      rw [h.quantities] at hk
      have hm := mem_of_find? hk
      have := List.any_eq_false.mp hany' (p, v) hm
      have hpa : p.1 = c.account := accountGo_inj (by simpa [keyGo_Account, closeGo] using hka)
      simpa [hpa] using this
    obtain ⟨q', hr, hq⟩ := close_loop_ok (closeGo src c) order g hz
    simp only [hr, hany', Bool.false_eq_true, if_false]
    have hacc : set.Set.Has g.accounts (closeGo src c).Account = st.accounts.contains c.account := h.accounts c.account
    by_cases hc : st.accounts.contains c.account = true
    · simp only [hacc, hc, Bool.not_true, Bool.false_eq_true, if_false]
      refine .ok ⟨⟨h.nocheck, ?_, ?_, ?_, Knut.AMap.nodupKeys_filter h.nodup _⟩, rfl⟩
      · intro a
        simp only [closeGo, Has_remove, h.accounts]
        by_cases e : c.account = a
        · subst e; simp
        · have : accountGo c.account ≠ accountGo a := fun x => e (accountGo_inj x)
          have e' : ¬ a = c.account := fun x => e x.symm
          simp [this, e', List.contains_eq_mem, List.mem_filter]
      · intro p
        rw [hq]
        have hfm := Knut.AMap.find?_filter_key st.quantities (fun k : Position => !decide (k.1 = c.account)) p
        have hfilt : st.quantities.filter (fun e => e.1.1 ≠ c.account) =
            st.quantities.filter (fun e => (fun k : Position => !decide (k.1 = c.account)) e.1) := by
          congr 1; funext e; simp
        rw [hfilt, hfm]
        by_cases hp : p.1 = c.account
        · have hka : (keyGo cur p).Account = (closeGo src c).Account := by simp [keyGo_Account, closeGo, hp]
          simp only [hka, and_true, hp, decide_true, Bool.not_true, Bool.false_eq_true, if_false]
          by_cases ho : keyGo cur p ∈ order
          · simp [ho]
          · simp only [ho, if_false]
            cases hfg : Knut.AMap.find? g.quantities (keyGo cur p) with
            | none => rfl
            | some v => exact absurd (hcov _ (by simp [hfg])) ho
        · have hka : ¬ (keyGo cur p).Account = (closeGo src c).Account := by
            intro x; exact hp (accountGo_inj (by simpa [keyGo_Account, closeGo] using x))
          simp only [hka, and_false, if_false, hp, decide_false, Bool.not_false, if_true]
          exact h.quantities p
      · intro k hk
        rw [hq] at hk
        split at hk
        · simp at hk
        · exact h.keys k hk
    · simp only [hacc, hc, Bool.not_false, if_true]
      exact .error ⟨rfl, rfl⟩

theorem close_agrees (cur : String → Bool) {g : check.Checker} {st : CheckState} (h : StEquiv cur g st) (src : Ref)
    (c : Knut.Close) (order : List amounts.Key)
    (hcov : ∀ k, (Knut.AMap.find? g.quantities k).isSome → k ∈ order) :
    match check.Checker.close g (closeGo src c) order, Check.close st c with
    | (g', none), .ok st' => StEquiv cur g' st'
    | (_, some e), .error err => e.msg = msgOf err.kind
    | _, _ => False := by
  have key := close_agree cur h src c order hcov ()
  generalize check.Checker.close g (closeGo src c) order = R at key ⊢
  generalize Check.close st c = M at key ⊢
  obtain ⟨g', e⟩ := R
  cases key with
  | ok hq => exact hq.1
  | error he => exact he.1

/-- non-vacuity: closing an account whose only position is zero deletes the position and the account -/
example : (check.Checker.close
    ⟨false, false, [(amounts.AccountCommodityKey (accountGo ⟨["Assets", "A"]⟩) ⟨"CHF", false⟩, 0)], [(accountGo ⟨["Assets", "A"]⟩, ())], []⟩
    ⟨⟨0⟩, 7, accountGo ⟨["Assets", "A"]⟩⟩
    [amounts.AccountCommodityKey (accountGo ⟨["Assets", "A"]⟩) ⟨"CHF", false⟩]) = (⟨false, false, [], [], []⟩, none) := by
  decide +kernel

end Knut.FactsAgree.TransCheck

namespace Knut.FactsAgree.TransProcessAll
open Knut.Generated.Go Knut.FactsAgree.TransCheck

/-- the state `Checker.Check()` starts from (default options) -/
def checkInit : check.Checker :=
  { Write := false, NoCheck := false, quantities := [], accounts := set.New, assertions := [] }

theorem checkInit_equiv (cur : String → Bool) : StEquiv cur checkInit {} := by
  refine ⟨rfl, ?_, ?_, ?_, ?_⟩
  · intro a; simp [checkInit, set.New, set.Set.Has]
  · intro p; simp [checkInit]
  · intro k hk; simp [checkInit] at hk
  · simp

end Knut.FactsAgree.TransProcessAll
