import Knut.Generated.TransCompare
import Knut.Generated.TransCommodity
import Knut.Proofs.GoSem
/-!
# The translated comparators of `lib/common/compare` and `commodity.Compare` as orders

`dict.SortedKeys` and `compare.Sort` sort with "less" = (`cmp` is not `Greater`); for the comparators on dates and on (interned)
commodities that is the model's `≤` on the date resp. on the name.  The three-valued results themselves are in the modules of the
callers (`compare_Time_agrees`, `compare_Decimal_agrees`).
-/
namespace Knut.FactsAgree.TransCompare
open Knut Knut.GoSem
open Knut.Generated.Go

theorem time_le (a b : Int) : decide (compare.Time a b ≠ 1) = decide (a ≤ b) := by
  unfold compare.Time
  by_cases h1 : a = b
  · subst h1; simp
  · by_cases h2 : a < b
    · have : a ≤ b := by omega
      simp [h1, h2, this]
    · have : ¬ a ≤ b := by omega
      simp [h1, h2, this]

end Knut.FactsAgree.TransCompare

namespace Knut.FactsAgree.TransPrice
open Knut Knut.GoSem
open Knut.Generated.Go

theorem Compare_le (a b : commodity.Commodity) : decide (commodity.Compare a b ≠ 1) = decide (a.name ≤ b.name) :=
  cmpOrdered_le_string a.name b.name

end Knut.FactsAgree.TransPrice
