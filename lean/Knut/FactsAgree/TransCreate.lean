import Knut.Generated.TransCreateModel
import Knut.FactsAgree.TransParser3
import Knut.FactsAgree.TransCheck
import Knut.Model.FromSyntax
import Knut.Model.Import.Common
import Knut.Proofs.GoSemModel
import Knut.Proofs.Digits
/-!
# The translated conversion of syntax trees into model directives agrees with `Model/FromSyntax.lean`, part 1

`directives.Date.Parse`, `directives.Decimal.Parse` and the `Create` functions of `open`, `close`, `price`, `assertion`, `posting`, regenerated from
/repo on every run (`harness/trans_units_create.go`: the registry calls as function parameters `ext…`, `Range.Extract` through `GoSem/Bridge.lean`,
`time.Parse` / `decimal.NewFromString` in `GoSem/Parse.lean`).  The theorems are about the Go tree `go… text path x` of ANY model tree `x` (not only
parsed ones: `ParseFile_agrees` says that the parser returns such a tree), under explicit hypotheses about the texts of the fields, which are what the
grammar guarantees: `TextOK`, `AccountOK`, `CommodityOK`, `DecimalOK`.  The registry functions are fixed to `regAccount` / `regCommodity cur`, the model
of `account.Registry.Get` / `commodity.Registry.Get` (one pointer per name is one value per name; `cur` = the names tagged as currencies).
-/
namespace Knut.FactsAgree.TransCreate
open Knut Knut.GoSem
open Knut.Generated.Go
open Knut.FactsAgree.TransScanner Knut.FactsAgree.TransParser
open Knut.FactsAgree.TransAccount Knut.FactsAgree.TransPosting

/-! ### the prelude copies are the model's definitions -/

/-- the prelude's `time.Parse("2006-01-02", ·)` on bytes is the loader model's `parseDate` -/
theorem parseDate_model (bs : List UInt8) : Parse.parseDate bs = FromSyntax.parseDate bs := GoSem.parseDate_model bs

/-- the prelude's `decimal.NewFromString` is the importer models' `newFromString` -/
theorem newFromString_model (s : String) : Parse.newFromString s = Import.newFromString s := GoSem.newFromString_model s

/-! ### `Range.Extract`, read as a text -/

/-- `Range.Extract` of a range of the tree that lies inside the text -/
theorem Extract_ok {text : Bytes} {path : String} {r : Syntax.Range} {bs : Bytes} (h : r.extract text = some bs) :
    directives.Range.Extract (goRange text path r) = .ok bs := by
  unfold Syntax.Range.extract at h
  split at h
  · rename_i hb
    simp only [Option.some.injEq] at h
    unfold directives.Range.Extract goRange slice
    have h' : ¬ ((r.start : Int) < 0 ∨ (r.stop : Int) < (r.start : Int) ∨ (text.length : Int) < (r.stop : Int)) := by omega
    simp only [h', if_false, Outcome.bind, Int.toNat_natCast, List.drop_take, h]
  · simp at h

/-- a field whose bytes are a text: `Range.Extract` read in the model layer's reading -/
theorem extract_ok {text : Bytes} {path : String} {r : Syntax.Range} {s : String} (h : FromSyntax.fieldStr text r = some s) :
    Bridge.extract (goRange text path r) = .ok s := by
  unfold FromSyntax.fieldStr FromSyntax.field at h
  cases hb : r.extract text with
  | none => simp [hb] at h
  | some bs =>
    simp only [hb, Option.bind_some, FromSyntax.utf8] at h
    unfold Bridge.extract
    rw [Extract_ok hb]
    simp only [Outcome.bind, Bridge.text, h]

theorem bytes_of_utf8 {bs : Bytes} {s : String} (h : FromSyntax.utf8 bs = some s) : s.toByteArray.data.toList = bs := by
  unfold FromSyntax.utf8 String.fromUTF8? at h
  split at h
  · simp only [Option.some.injEq] at h
    rw [← h]
    rfl
  · simp at h


/-! ### `decimal.NewFromString` on the decimals of the journal grammar -/

section decimals
open Knut.Import

/-- a character that `decimal.NewFromString` gives no role: not an exponent mark, a point or a sign -/
def Plain (c : Char) : Prop := c ≠ 'E' ∧ c ≠ 'e' ∧ c ≠ '.' ∧ c ≠ '-' ∧ c ≠ '+'

theorem dig_props {c : Char} (h : isDig c = true) : c ≠ 'E' ∧ c ≠ 'e' ∧ c ≠ '.' ∧ c ≠ '-' ∧ c ≠ '+' := by
  refine ⟨?_, ?_, ?_, ?_, ?_⟩ <;> (intro e; subst e; revert h; decide)

def signOf (neg : Bool) : List Char := if neg then ['-'] else []
def fracOf (frac : Bool) (fp : List Char) : List Char := if frac then '.' :: fp else []

theorem fracOf_length {frac : Bool} {fp : List Char} (h0 : frac = false → fp = []) : fp.length ≤ (fracOf frac fp).length := by
  cases frac
  · simp [h0 rfl]
  · simp [fracOf]

/-- the value of `-?ip(.fp)?` in ASCII digits -/
def shapeVal (neg frac : Bool) (ip fp : List Char) : Rat :=
  if frac then mkRat (if neg then -(digitsVal (ip ++ fp) : Int) else (digitsVal (ip ++ fp) : Int)) (10 ^ fp.length)
  else (((if neg then -(digitsVal ip : Int) else (digitsVal ip : Int)) : Int) : Rat)

theorem parseUnsigned_shape {neg : Bool} {cs : List Char} {q : Rat} (h : Dec.parseUnsigned neg cs = some q) :
    ∃ (frac : Bool) (ip fp : List Char), cs = ip ++ fracOf frac fp ∧ ip ≠ [] ∧
      (∀ c ∈ ip, isDig c = true) ∧ (∀ c ∈ fp, isDig c = true) ∧ (frac = true → fp ≠ []) ∧ (frac = false → fp = []) ∧
      q = shapeVal neg frac ip fp := by
  obtain ⟨ip, fp, hne, hi, hf, h | h⟩ := Dec.parseUnsigned_inv h
  · exact ⟨false, ip, [], by rw [h.1]; simp [fracOf], hne, hi, by simp, by simp, by simp, h.2⟩
  · exact ⟨true, ip, fp, h.1, hne, hi, hf, fun _ => h.2.1, by simp, h.2.2⟩

theorem plain_filter_ne {l : List Char} (h : ∀ c ∈ l, Plain c) : l.filter (· != '.') = l :=
  List.filter_eq_self.mpr (fun c hc => by have := (h c hc).2.2.1; simpa using this)

theorem plain_filter_eq {l : List Char} (h : ∀ c ∈ l, Plain c) : l.filter (· == '.') = [] :=
  List.filter_eq_nil_iff.mpr (fun c hc => by have := (h c hc).2.2.1; simpa using this)

theorem plain_noE {l : List Char} (h : ∀ c ∈ l, Plain c) : ∀ c ∈ l, (c != 'E' && c != 'e') = true := fun c hc => by
  have := h c hc; simp [this.1, this.2.1]

theorem plain_noDot {l : List Char} (h : ∀ c ∈ l, Plain c) : ∀ c ∈ l, (c != '.') = true := fun c hc => by
  have := h c hc; simp [this.2.2.1]

/-- `[+-]?[0-9]+` on an optional `-` and plain characters: the value when they are all ASCII digits -/
theorem parseSignedInt_plain (neg : Bool) {l : List Char} (hne : l ≠ []) (h : ∀ c ∈ l, Plain c) :
    parseSignedInt (signOf neg ++ l) =
      if l.all isDig then some (if neg then -(digitsVal l : Int) else (digitsVal l : Int)) else none := by
  obtain ⟨c, rest, rfl⟩ := List.exists_cons_of_ne_nil hne
  have hc := h c (by simp)
  unfold parseSignedInt
  cases neg
  · have h1 : ((c :: rest).head? == some '-') = false := by simp [hc.2.2.2.1]
    simp only [signOf, Bool.false_eq_true, if_false, List.nil_append, h1]
    split
    · rename_i r e; exact absurd (List.cons.inj e).1 hc.2.2.2.1
    · rename_i r e; exact absurd (List.cons.inj e).1 hc.2.2.2.2
    · cases hall : (c :: rest).all isDig <;> simp
  · cases hall : (c :: rest).all isDig <;> simp [signOf, hall]

theorem takeWhile_self {α : Type} {p : α → Bool} : ∀ {l : List α}, (∀ c ∈ l, p c = true) → l.takeWhile p = l ∧ l.dropWhile p = []
  | [], _ => ⟨rfl, rfl⟩
  | a :: l, h => by
    have ha : p a = true := h a (by simp)
    have ih := takeWhile_self (l := l) (fun c hc => h c (by simp [hc]))
    simp [ha, ih.1, ih.2]

theorem scale10_neg (v : Int) (n : Nat) : scale10 v (-(n : Int)) = mkRat v (10 ^ n) := by
  unfold scale10
  by_cases hz : n = 0
  · subst hz; simp [Rat.mkRat_one]
  · rw [if_neg (by omega), show (- -(n : Int)).toNat = n by omega]

/-- `decimal.NewFromString` on `-?X+(.X+)?` for plain characters `X`: the value when they are all ASCII digits, an error otherwise.
No exponent part; at most one point; without it the mantissa is the sign and `ip ++ fp`; `fp.length` digits after it. -/
theorem newFromString_plain {s : String} {neg frac : Bool} {ip fp : List Char}
    (hs : s.toList = signOf neg ++ ip ++ fracOf frac fp) (hip : ip ≠ []) (hi : ∀ c ∈ ip, Plain c)
    (hf : ∀ c ∈ fp, Plain c) (h0 : frac = false → fp = []) (hlen : fp.length ≤ 2147483648) :
    newFromString s = if (ip ++ fp).all isDig then some (shapeVal neg frac ip fp) else none := by
  have hif : ∀ c ∈ ip ++ fp, Plain c := fun c hc => (List.mem_append.mp hc).elim (hi c) (hf c)
  have hsign : ∀ c ∈ signOf neg, (c != 'E' && c != 'e') = true ∧ (c != '.') = true := by
    intro c hc; cases neg <;> simp [signOf] at hc; subst hc; decide
  have hfrE : ∀ c ∈ fracOf frac fp, (c != 'E' && c != 'e') = true := by
    intro c hc
    cases frac
    · cases hc
    · rcases List.mem_cons.mp hc with rfl | h
      · decide
      · exact plain_noE hf c h
  have hallE : ∀ c ∈ signOf neg ++ ip ++ fracOf frac fp, (c != 'E' && c != 'e') = true := fun c hc =>
    (List.mem_append.mp hc).elim (fun h => (List.mem_append.mp h).elim (fun h => (hsign c h).1) (plain_noE hi c)) (hfrE c)
  have hpre : ∀ c ∈ signOf neg ++ ip, (c != '.') = true := fun c hc =>
    (List.mem_append.mp hc).elim (fun h => (hsign c h).2) (plain_noDot hi c)
  have hsf : (signOf neg).filter (· == '.') = [] := by cases neg <;> rfl
  have hsf' : (signOf neg).filter (· != '.') = signOf neg := by cases neg <;> rfl
  have hdrop : (signOf neg ++ ip ++ fracOf frac fp).dropWhile (· != '.') = fracOf frac fp := by
    rw [List.dropWhile_append_of_pos hpre]
    cases frac
    · rfl
    · simp [fracOf]
  have hcnt : ¬ ((signOf neg ++ ip ++ fracOf frac fp).filter (· == '.')).length > 1 := by
    cases frac <;> simp [fracOf, List.filter_append, hsf, plain_filter_eq hi, plain_filter_eq hf]
  have hint : (signOf neg ++ ip ++ fracOf frac fp).filter (· != '.') = signOf neg ++ (ip ++ fp) := by
    cases frac
    · simp [fracOf, h0 rfl, List.filter_append, hsf', plain_filter_ne hi]
    · simp [fracOf, List.filter_append, hsf', plain_filter_ne hi, plain_filter_ne hf]
  unfold newFromString
  rw [hs]
  simp only [(takeWhile_self hallE).1, (takeWhile_self hallE).2, hcnt, if_false, hint, hdrop,
    parseSignedInt_plain neg (by simp [hip] : ip ++ fp ≠ []) hif]
  cases (ip ++ fp).all isDig
  · rfl
  · cases frac
    · simp [fracOf, shapeVal, h0 rfl, int32Min, int32Max, scale10]
    · simp [fracOf, shapeVal, scale10_neg]
      simp only [int32Min, int32Max]; omega

/-- on the decimals of the journal grammar (`-?digits(.digits)?`, what the model's `parseDec` accepts) `decimal.NewFromString` returns the
value `parseDec` computes (the `int32` bound of the exponent allows 2^31 fractional digits) -/
theorem newFromString_of_parseDec {s : String} {q : Rat} (h : Dec.parseDec s = some q) (hlen : s.toList.length ≤ 2147483648) :
    newFromString s = some q := by
  have key : ∀ neg rest, s.toList = signOf neg ++ rest → Dec.parseUnsigned neg rest = some q → newFromString s = some q := by
    intro neg rest hs hc
    obtain ⟨frac, ip, fp, hr, hip, hi, hf, _, h0, hq⟩ := parseUnsigned_shape hc
    have hs' : s.toList = signOf neg ++ ip ++ fracOf frac fp := by rw [hs, hr, List.append_assoc]
    have hfl := fracOf_length h0
    have hl : fp.length ≤ 2147483648 := by
      rw [hs'] at hlen
      simp only [List.length_append] at hlen
      omega
    have hall : (ip ++ fp).all isDig = true :=
      List.all_eq_true.mpr (fun c hc => (List.mem_append.mp hc).elim (hi c) (hf c))
    rw [newFromString_plain hs' hip (fun c hc => dig_props (hi c hc)) (fun c hc => dig_props (hf c hc)) h0 hl, hall, hq]
    rfl
  cases hl : s.toList with
  | nil =>
    rw [Dec.parseDec_nonneg s (by simp [hl]), hl] at h
    exact key false [] hl h
  | cons c rest =>
    by_cases hc : c = '-'
    · rw [Dec.parseDec_neg s rest (hc ▸ hl)] at h
      exact key true rest (by rw [hl, hc]; rfl) h
    · rw [Dec.parseDec_nonneg s (by rw [hl]; simpa using hc), hl] at h
      exact key false (c :: rest) hl h

end decimals

/-! ### the registries, dates, decimals -/

/-- `account.Registry.Get(name)`: the account of the name (one pointer per name: a value), or the error for a name whose first segment
is no account type or that has an empty or non-alphanumeric segment (`Import.validAccount`, the model of the registry's check) -/
def regAccountName (s : String) : account.Account × Option Error :=
  if Import.validAccount (Account.ofName s) then (accountGo (Account.ofName s), none)
  else (GoZero.zero, some ⟨"account %s has an invalid account type %s"⟩)

/-- `account.Registry.Create(a)` = `Get(a.Extract())` -/
def regAccount (a : directives.Account) : account.Account × Option Error :=
  match Bridge.extract a.Range with
  | .ok s => regAccountName s
  | _ => (GoZero.zero, some ⟨Bridge.outside⟩)

/-- `commodity.Registry.Get(name)`; `cur` = the names tagged as currencies -/
def regCommodityName (cur : String → Bool) (s : String) : commodity.Commodity × Option Error :=
  if Import.validCommodity s then (commodityGo cur s, none) else (GoZero.zero, some ⟨"invalid commodity name %q"⟩)

/-- `commodity.Registry.Create(c)` = `Get(c.Extract())` -/
def regCommodity (cur : String → Bool) (c : directives.Commodity) : commodity.Commodity × Option Error :=
  match Bridge.extract c.Range with
  | .ok s => regCommodityName cur s
  | _ => (GoZero.zero, some ⟨Bridge.outside⟩)

/-- the bytes of the range are a text: inside the file and valid UTF-8 (otherwise Go's `Extract` panics, resp. the string has no meaning in the
model layer's reading, `Bridge.extract`) -/
def TextOK (text : Bytes) (r : Syntax.Range) : Prop := (FromSyntax.fieldStr text r).isSome = true

/-- an account name whose segments after the first are alphanumeric and not empty (what `parseAccount` accepts): the model checks the
account type only -/
def AccountOK (text : Bytes) (a : Syntax.Account) : Prop :=
  ∃ s, FromSyntax.fieldStr text a.range = some s ∧
    ((Account.ofName s).wf = true → Import.validAccount (Account.ofName s) = true)

/-- a commodity name that is alphanumeric and not empty (what `parseCommodity` accepts): the model does not check it -/
def CommodityOK (text : Bytes) (c : Syntax.Commodity) : Prop :=
  ∃ s, FromSyntax.fieldStr text c.range = some s ∧ Import.validCommodity s = true

/-- a decimal text on which the model's reading (`FromSyntax.decimal`: ASCII digits, `parseDec`) and `decimal.NewFromString` agree:
the same value or both fail.  True of `-?digits(.digits)?` in ASCII digits (`decimalOK_of_model`: what the model reads) and of what
the grammar admits beyond (`parseDecimal` accepts every Unicode digit: both fail); not of `1.`, `.5`, `1e3`, which only
`NewFromString` reads -/
def DecimalOK (text : Bytes) (d : Syntax.Decimal) : Prop :=
  ∃ s, FromSyntax.fieldStr text d.range = some s ∧ Parse.newFromString s = FromSyntax.decimal text d.range

theorem validAccount_wf (a : Knut.Account) (h : Import.validAccount a = true) : a.wf = true := by
  unfold Import.validAccount at h
  unfold Account.wf Account.type?
  cases hs : a.segments with
  | nil => simp [hs] at h
  | cons t rest => simp only [hs, Bool.and_eq_true] at h ⊢; exact h.1

theorem regAccount_agrees {text : Bytes} {path : String} {a : Syntax.Account} (h : AccountOK text a) :
    regAccount (goAccount text path a) = match FromSyntax.account text a with
      | some acc => (accountGo acc, none)
      | none => (GoZero.zero, some ⟨"account %s has an invalid account type %s"⟩) := by
  obtain ⟨s, hs, hv⟩ := h
  unfold regAccount goAccount FromSyntax.account
  simp only [extract_ok hs, hs, Option.bind_eq_bind, Option.bind_some, regAccountName]
  by_cases hw : (Account.ofName s).wf = true
  · simp [hw, hv hw]
  · have : ¬ Import.validAccount (Account.ofName s) = true := fun h' => hw (validAccount_wf _ h')
    simp [hw, this]

theorem regCommodity_agrees {text : Bytes} {path : String} {c : Syntax.Commodity} {cur : String → Bool} {s : String}
    (hs : FromSyntax.fieldStr text c.range = some s) (hv : Import.validCommodity s = true) :
    regCommodity cur (goCommodity text path c) = (commodityGo cur s, none) := by
  unfold regCommodity goCommodity
  simp [extract_ok hs, regCommodityName, hv]

theorem ParseISO_eq {bs : Bytes} {s : String} (hs : FromSyntax.utf8 bs = some s) :
    Time.ParseISO s = match FromSyntax.parseDate bs with
      | some d => (d, none)
      | none => (0, some ⟨"time.Parse"⟩) := by
  unfold Time.ParseISO
  rw [bytes_of_utf8 hs, parseDate_model]
  rfl

/-- `directives.Date.Parse`: `time.Parse` on the extracted text is the model's `date` -/
theorem Date_Parse_agrees {text : Bytes} {path : String} {d : Syntax.Date} (h : TextOK text d.range) :
    directives.Date.Parse (goDate text path d) = .ok (match FromSyntax.date text d with
      | some n => (n, none)
      | none => (0, some ⟨"parsing date"⟩)) := by
  unfold TextOK at h
  obtain ⟨s, hs⟩ := Option.isSome_iff_exists.mp h
  unfold directives.Date.Parse goDate
  simp only [extract_ok hs, Outcome.bind]
  unfold FromSyntax.fieldStr at hs
  unfold FromSyntax.date
  cases hb : FromSyntax.field text d.range with
  | none => simp [hb] at hs
  | some bs =>
    simp only [hb, Option.bind_some] at hs ⊢
    rw [ParseISO_eq hs]
    cases FromSyntax.parseDate bs <;> simp

theorem flatMap_len (cs : List Char) : cs.length ≤ (cs.flatMap String.utf8EncodeChar).length := by
  induction cs with
  | nil => simp
  | cons c rest ih =>
    simp only [List.flatMap_cons, List.length_append, List.length_cons, String.length_utf8EncodeChar]
    have := Char.utf8Size_pos c
    omega

theorem chars_le_bytes (s : String) : s.toList.length ≤ s.toByteArray.data.toList.length := by
  have h : s.toByteArray = (String.ofList s.toList).toByteArray := by rw [String.ofList_toList]
  rw [h, String.toByteArray_ofList]
  have : (List.utf8Encode s.toList).data.toList = s.toList.flatMap String.utf8EncodeChar := by
    simp [List.utf8Encode]
  rw [this]
  exact flatMap_len _

theorem extract_length {text : Bytes} {r : Syntax.Range} {bs : Bytes} (h : r.extract text = some bs) : bs.length ≤ text.length := by
  unfold Syntax.Range.extract at h
  split at h
  · simp only [Option.some.injEq] at h
    rw [← h]
    simp only [List.length_take, List.length_drop]
    omega
  · simp at h

theorem fieldStr_length {text : Bytes} {r : Syntax.Range} {s : String} (h : FromSyntax.fieldStr text r = some s) :
    s.toList.length ≤ text.length := by
  obtain ⟨bs, hb, hu⟩ := Option.bind_eq_some_iff.mp h
  have h1 := chars_le_bytes s
  rw [bytes_of_utf8 hu] at h1
  exact Nat.le_trans h1 (extract_length hb)

theorem decimal_parseDec {text : Bytes} {r : Syntax.Range} {q : Rat} (h : FromSyntax.decimal text r = some q) :
    ∃ s, FromSyntax.fieldStr text r = some s ∧ Dec.parseDec s = some q := by
  simp only [FromSyntax.decimal, Option.bind_eq_bind, Option.bind_eq_some_iff] at h
  obtain ⟨bs, hb, h⟩ := h
  split at h
  · obtain ⟨s, hu, hp⟩ := Option.bind_eq_some_iff.mp h
    exact ⟨s, Option.bind_eq_some_iff.mpr ⟨bs, hb, hu⟩, hp⟩
  · cases h

/-- the text of a decimal the model reads: `decimal.NewFromString` returns the same value (files of at most 2 GiB: the `int32` bound on
the number of fractional digits) -/
theorem decimalOK_of_model {text : Bytes} {d : Syntax.Decimal} (h : (FromSyntax.decimal text d.range).isSome = true)
    (hlen : text.length ≤ 2147483648) : DecimalOK text d := by
  obtain ⟨q, h⟩ := Option.isSome_iff_exists.mp h
  obtain ⟨s, hs, hp⟩ := decimal_parseDec h
  exact ⟨s, hs, by rw [h, newFromString_model, newFromString_of_parseDec hp (Nat.le_trans (fieldStr_length hs) hlen)]⟩

/-- `decimal.NewFromString` on the extracted text of a decimal -/
theorem NewFromString_agrees {text : Bytes} {d : Syntax.Decimal} (h : DecimalOK text d) :
    ∃ s, FromSyntax.fieldStr text d.range = some s ∧ Decimal.NewFromString s = match FromSyntax.decimal text d.range with
      | some q => (q, none)
      | none => (0, some ⟨"can't convert %s to decimal"⟩) := by
  obtain ⟨s, hs, hq⟩ := h
  refine ⟨s, hs, ?_⟩
  unfold Decimal.NewFromString
  rw [hq]
  cases FromSyntax.decimal text d.range <;> rfl

/-- `directives.Decimal.Parse`; the error text "parsing date" is Go's own (`lib/syntax/directives/directives.go`, `Decimal.Parse`) -/
theorem Decimal_Parse_agrees {text : Bytes} {path : String} {d : Syntax.Decimal} (h : DecimalOK text d) :
    directives.Decimal.Parse (goDecimal text path d) = .ok (match FromSyntax.decimal text d.range with
      | some q => (q, none)
      | none => (0, some ⟨"parsing date"⟩)) := by
  obtain ⟨s, hs, hq⟩ := NewFromString_agrees h
  unfold directives.Decimal.Parse goDecimal
  simp only [extract_ok hs, Outcome.bind, hq]
  cases FromSyntax.decimal text d.range <;> simp

/-! ### `open.Create`, `close.Create`, `price.Create` -/

open Knut.FactsAgree.TransCheck (openGo closeGo balanceGo)
open Knut.FactsAgree.TransProcess (priceGo)

/-- the call returned an error (next to a value that the callers do not use) -/
def IsErr {α : Type} (o : GoSem.Outcome (α × Option Error)) : Prop := ∃ v e, o = .ok (v, some e)

/-- `open.Create`: the account through the registry, then the date -/
theorem open_Create_agrees {text : Bytes} {path : String} (o : Syntax.Open) (ha : AccountOK text o.account)
    (hd : TextOK text o.date.range) :
    match FromSyntax.account text o.account, FromSyntax.date text o.date with
    | some a, some dt => open_.Create (goOpen text path o) regAccount = .ok (openGo Ref.node ⟨dt, a⟩, none)
    | _, _ => IsErr (open_.Create (goOpen text path o) regAccount) := by
  unfold open_.Create goOpen
  simp only [regAccount_agrees ha, Date_Parse_agrees hd]
  cases FromSyntax.account text o.account with
  | none => exact ⟨_, _, by simp; exact ⟨rfl, rfl⟩⟩
  | some a =>
    cases FromSyntax.date text o.date with
    | none => exact ⟨_, _, by simp [Outcome.bind]; exact ⟨rfl, rfl⟩⟩
    | some dt => simp [Outcome.bind, openGo]

theorem close_Create_agrees {text : Bytes} {path : String} (c : Syntax.Close) (ha : AccountOK text c.account)
    (hd : TextOK text c.date.range) :
    match FromSyntax.account text c.account, FromSyntax.date text c.date with
    | some a, some dt => close.Create (goClose text path c) regAccount = .ok (closeGo Ref.node ⟨dt, a⟩, none)
    | _, _ => IsErr (close.Create (goClose text path c) regAccount) := by
  unfold close.Create goClose
  simp only [regAccount_agrees ha, Date_Parse_agrees hd]
  cases FromSyntax.account text c.account with
  | none => exact ⟨_, _, by simp; exact ⟨rfl, rfl⟩⟩
  | some a =>
    cases FromSyntax.date text c.date with
    | none => exact ⟨_, _, by simp [Outcome.bind]; exact ⟨rfl, rfl⟩⟩
    | some dt => simp [Outcome.bind, closeGo]


theorem isErr_ok {α : Type} (v : α) (e : Error) : IsErr (GoSem.Outcome.ok (v, some e)) := ⟨v, e, rfl⟩

theorem isErr_bind {α β : Type} {o : GoSem.Outcome (α × Option Error)} {k : α × Option Error → GoSem.Outcome (β × Option Error)}
    (h : IsErr o) (hk : ∀ v e, IsErr (k (v, some e))) : IsErr (GoSem.Outcome.bind o k) := by
  obtain ⟨v, e, rfl⟩ := h
  exact hk v e

/-- `price.Create`: date, commodity, price, target -/
theorem price_Create_agrees {text : Bytes} {path : String} (cur : String → Bool) (p : Syntax.Price)
    (hd : TextOK text p.date.range) (hc : CommodityOK text p.commodity) (ht : CommodityOK text p.target)
    (hp : DecimalOK text p.price) :
    match FromSyntax.item text ⟨p.range, .price p⟩ with
    | some (.price m) => price.Create (goPrice text path p) (regCommodity cur) (regCommodity cur) = .ok (priceGo cur Ref.node m, none)
    | _ => IsErr (price.Create (goPrice text path p) (regCommodity cur) (regCommodity cur)) := by
  obtain ⟨c, hc1, hc2⟩ := hc
  obtain ⟨t, ht1, ht2⟩ := ht
  unfold price.Create goPrice FromSyntax.item
  simp only [Date_Parse_agrees hd, regCommodity_agrees hc1 hc2, regCommodity_agrees ht1 ht2, Decimal_Parse_agrees hp, hc1, ht1]
  cases FromSyntax.date text p.date with
  | none => simp [Outcome.bind]; exact isErr_ok _ _
  | some dt =>
    cases FromSyntax.decimal text p.price.range with
    | none => simp [Outcome.bind]; exact isErr_ok _ _
    | some q => simp [Outcome.bind, priceGo, TransPrice.cGo, commodityGo]

/-! ### `assertion.Create` -/

/-- one balance of an assertion in the model (`FromSyntax.item`) -/
def balanceM (text : Bytes) (b : Syntax.Balance) : Option Knut.Balance := do
  let acc ← FromSyntax.account text b.account
  let q ← FromSyntax.decimal text b.quantity.range
  let c ← FromSyntax.fieldStr text b.commodity.range
  pure (⟨acc, q, c⟩ : Knut.Balance)

def BalanceOK (text : Bytes) (b : Syntax.Balance) : Prop :=
  AccountOK text b.account ∧ DecimalOK text b.quantity ∧ CommodityOK text b.commodity

/-- the loop of `assertion.Create` -/
theorem assertion_range1_agrees {text : Bytes} {path : String} (cur : String → Bool) (a : directives.Assertion) :
    ∀ (items : List Syntax.Balance) (acc : List assertion.Balance), (∀ b ∈ items, BalanceOK text b) →
      match items.mapM (balanceM text) with
      | some bals => assertion.Create.range1 regAccount (regCommodity cur) a (items.map (goBalance text path)) acc
          = .ok (Flow.next (acc ++ bals.map (balanceGo cur Ref.node)))
      | none => ∃ e, assertion.Create.range1 regAccount (regCommodity cur) a (items.map (goBalance text path)) acc
          = .ok (Flow.ret (GoZero.zero, some e)) := by
  intro items
  induction items with
  | nil => intro acc _; simp [assertion.Create.range1]
  | cons b rest ih =>
    intro acc hok
    obtain ⟨ha, hq, hc⟩ := hok b (by simp)
    obtain ⟨c, hc1, hc2⟩ := hc
    have ih' := fun acc' => ih acc' (fun b' hb' => hok b' (by simp [hb']))
    simp only [List.map_cons, assertion.Create.range1, List.mapM_cons, balanceM, goBalance, regAccount_agrees ha,
      Decimal_Parse_agrees hq, regCommodity_agrees hc1 hc2, hc1]
    cases FromSyntax.account text b.account with
    | none => simp
    | some acc0 =>
      cases FromSyntax.decimal text b.quantity.range with
      | none => simp [Outcome.bind]
      | some q =>
      simp only [Option.isSome_none, Bool.false_eq_true, if_false, Outcome.bind]
      have := ih' (acc ++ [balanceGo cur Ref.node ⟨acc0, q, c⟩])
      cases hm : List.mapM (balanceM text) rest with
      | none =>
        simp only [hm] at this ⊢
        simpa [balanceGo] using this
      | some bals =>
        simp only [hm] at this ⊢
        simpa [balanceGo] using this


/-- `assertion.Create`: the date, then every balance (account through the registry, quantity, commodity) in order -/
theorem assertion_Create_agrees {text : Bytes} {path : String} (cur : String → Bool) (a : Syntax.Assertion)
    (hd : TextOK text a.date.range) (hb : ∀ b ∈ a.balances, BalanceOK text b) :
    match FromSyntax.date text a.date, a.balances.mapM (balanceM text) with
    | some dt, some bals => assertion.Create (goAssertion text path a) regAccount (regCommodity cur)
        = .ok (⟨Ref.node, dt, bals.map (balanceGo cur Ref.node)⟩, none)
    | _, _ => IsErr (assertion.Create (goAssertion text path a) regAccount (regCommodity cur)) := by
  unfold assertion.Create
  simp only [goAssertion, Date_Parse_agrees hd]
  cases FromSyntax.date text a.date with
  | none => simp [Outcome.bind]; exact isErr_ok _ _
  | some dt =>
    have hl := assertion_range1_agrees (path := path) cur
      ⟨goRange text path a.range, goDate text path a.date, a.balances.map (goBalance text path)⟩ a.balances [] hb
    cases hm : a.balances.mapM (balanceM text) with
    | none =>
      simp only [hm] at hl
      obtain ⟨e, he⟩ := hl
      simp only [Outcome.bind, Option.isSome_none, Bool.false_eq_true, if_false, he]
      exact isErr_ok _ _
    | some bals =>
      simp only [hm] at hl
      simp [Outcome.bind, hl]

/-! ### `posting.Create` -/

def BookingOK (text : Bytes) (b : Syntax.Booking) : Prop :=
  AccountOK text b.credit ∧ AccountOK text b.debit ∧ DecimalOK text b.quantity ∧ CommodityOK text b.commodity

/-- the loop of `posting.Create` -/
theorem posting_range1_agrees {text : Bytes} {path : String} (cur : String → Bool) (bs0 : List directives.Booking) :
    ∀ (items : List Syntax.Booking) (idx : Int) (acc : posting.Builders), (∀ b ∈ items, BookingOK text b) →
      match items.mapM (FromSyntax.booking text) with
      | some bks => posting.Create.range1 regAccount regAccount (regCommodity cur) bs0 (items.map (goBooking text path)) idx acc
          = .ok (Flow.next (acc ++ bks.map (builderGo cur Ref.node)))
      | none => ∃ e, posting.Create.range1 regAccount regAccount (regCommodity cur) bs0 (items.map (goBooking text path)) idx acc
          = .ok (Flow.ret ([], some e)) := by
  intro items
  induction items with
  | nil => intro idx acc _; simp [posting.Create.range1]
  | cons b rest ih =>
    intro idx acc hok
    obtain ⟨hcr, hdr, hq, hc⟩ := hok b (by simp)
    obtain ⟨c, hc1, hc2⟩ := hc
    obtain ⟨qs, hqs, hnq⟩ := NewFromString_agrees hq
    have ih' := fun idx' acc' => ih idx' acc' (fun b' hb' => hok b' (by simp [hb']))
    simp only [List.map_cons, posting.Create.range1, List.mapM_cons, FromSyntax.booking, goBooking, goDecimal, regAccount_agrees hcr,
      regAccount_agrees hdr, extract_ok hqs, regCommodity_agrees hc1 hc2, hc1]
    cases FromSyntax.account text b.credit with
    | none => simp
    | some cr =>
      cases FromSyntax.account text b.debit with
      | none => simp
      | some dr =>
        cases hqq : FromSyntax.decimal text b.quantity.range with
        | none => simp [hqq] at hnq; simp [Outcome.bind, hnq]
        | some q =>
        simp only [hqq] at hnq
        simp only [Option.isSome_none, Bool.false_eq_true, if_false, Outcome.bind, hnq]
        have := ih' (idx + 1) (acc ++ [builderGo cur Ref.node ⟨cr, dr, q, c⟩])
        cases hm : List.mapM (FromSyntax.booking text) rest with
        | none =>
          simp only [hm] at this ⊢
          simpa [builderGo] using this
        | some bks =>
          simp only [hm] at this ⊢
          simpa [builderGo] using this

/-- `posting.Create`: every booking through the registries and `decimal.NewFromString`, then `Builders.Build`: the posting pairs of
all bookings in order (`Accrual.postingsOf`); an invalid account is the error -/
theorem posting_Create_agrees {text : Bytes} {path : String} (cur : String → Bool) (bs : List Syntax.Booking)
    (hb : ∀ b ∈ bs, BookingOK text b) :
    match bs.mapM (FromSyntax.booking text) with
    | some bks => posting.Create (bs.map (goBooking text path)) regAccount regAccount (regCommodity cur)
        = .ok ((Accrual.postingsOf bks).map (postingGo cur Ref.node), none)
    | none => ∃ e, posting.Create (bs.map (goBooking text path)) regAccount regAccount (regCommodity cur) = .ok ([], some e) := by
  unfold posting.Create
  have hl := posting_range1_agrees (path := path) cur (bs.map (goBooking text path)) bs 0 [] hb
  cases hm : bs.mapM (FromSyntax.booking text) with
  | none =>
    simp only [hm] at hl
    obtain ⟨e, he⟩ := hl
    exact ⟨e, by simp [zero_list, he, Outcome.bind]⟩
  | some bks =>
    simp only [hm] at hl
    simp [zero_list, hl, Outcome.bind, Builders_Build_agrees]


/-! ### the calls behind the `ext` parameters (source text), pinned: their arguments are not part of the translated terms -/

example : open_.Create.externals = ["ext1 = reg.Accounts().Create(o.Account) [as a function of its 1 arguments]"] := rfl
example : close.Create.externals = ["ext1 = reg.Accounts().Create(c.Account) [as a function of its 1 arguments]"] := rfl
example : price.Create.externals = ["ext1 = reg.Commodities().Create(p.Commodity) [as a function of its 1 arguments]",
  "ext2 = reg.Commodities().Create(p.Target) [as a function of its 1 arguments]"] := rfl
example : assertion.Create.externals = ["ext1 = reg.Accounts().Create(bal.Account) [as a function of its 1 arguments]",
  "ext2 = reg.Commodities().Create(bal.Commodity) [as a function of its 1 arguments]"] := rfl
example : posting.Create.externals = ["ext1 = reg.Accounts().Create(b.Credit) [as a function of its 1 arguments]",
  "ext2 = reg.Accounts().Create(b.Debit) [as a function of its 1 arguments]",
  "ext3 = reg.Commodities().Create(b.Commodity) [as a function of its 1 arguments]"] := rfl

/-- the model's `parseDec` reads the grammar's decimals only; `decimal.NewFromString` accepts more -/
example : Decimal.NewFromString "1." = (1, none) ∧ Dec.parseDec "1." = none := by decide +kernel

end Knut.FactsAgree.TransCreate
