import Knut.FactsAgree.TransCreate
import Knut.Proofs.DescText
import Knut.FactsAgree.RelDay
import Knut.Proofs.ListMapM
import Knut.FactsAgree.TransParser4
/-!
# The translated conversion of syntax trees into model directives agrees with `Model/FromSyntax.lean`, part 2: `transaction.Create`, `model.ParseDirective`

`transaction.Create` calls `expand(reg, res, &t.Addons.Accrual)`, whose translation (`TransTransaction`) takes the results of its four calls on the
accrual node as parameters; they are handed through as `extra…` parameters.  WHICH calls they stand for is tied to the source text
(`transaction.Create.externals`, checked below); the theorems take them as `ExpandExt`.  `transaction.Builder.Build` replaces the double quotes of
the description BEFORE the expansion, the model when it prints: the Go transactions stand for the model's up to `descText` (`SameBut`, `TransProcess.TRel`).
-/
namespace Knut.FactsAgree.TransCreate
open Knut Knut.GoSem Knut.JournalPrinter
open Knut.Generated.Go
open Knut.FactsAgree.TransScanner Knut.FactsAgree.TransParser
open Knut.FactsAgree.TransAccount Knut.FactsAgree.TransPosting Knut.FactsAgree.TransTransaction
open Knut.FactsAgree.TransProcess (AllRel TRel PRel PriceRel priceGo)
open Knut.FactsAgree.TransJournal (DirRel OpenRel CloseRel BalRel AssertRel)
open Knut.FactsAgree.TransCheck (openGo closeGo balanceGo)

/-! ### the description after `Builder.Build` -/

/-- two transactions that differ at most in their descriptions, and there only up to the quote replacement of `Builder.Build` (`descText`) -/
def SameBut (x y : Knut.Transaction) : Prop :=
  x.date = y.date ∧ x.postings = y.postings ∧ x.targets = y.targets ∧ descText x.description = descText y.description

theorem partDesc_descText (d : String) (i n : Nat) :
    descText (Accrual.partDesc (descText d) i n) = descText (Accrual.partDesc d i n) := by
  simp only [TransTransaction.partDesc_eq, descText_append, descText_idem]


/-- the transaction as `transaction.Builder.Build` leaves it -/
def quoted (t : Knut.Transaction) : Knut.Transaction := { t with description := descText t.description }

/- the fields of `quoted t`, for rewriting: left to the unifier, `(quoted t).f = t.f` is first tried as `quoted t = t`, field by field,
`descText` included -/
theorem quoted_date (t : Knut.Transaction) : (quoted t).date = t.date := by unfold quoted; rfl
theorem quoted_description (t : Knut.Transaction) : (quoted t).description = descText t.description := by unfold quoted; rfl
theorem quoted_postings (t : Knut.Transaction) : (quoted t).postings = t.postings := by unfold quoted; rfl

/-- `rebook` takes only the targets from the transaction -/
theorem rebook_same (t : Knut.Transaction) (dt : Int) {d1 d2 : String} (acc : Knut.Account) (p : Knut.Posting) (q : Rat)
    (h : descText d1 = descText d2) : SameBut (Accrual.rebook (quoted t) dt d1 acc p q) (Accrual.rebook t dt d2 acc p q) := by
  unfold Accrual.rebook quoted
  exact ⟨rfl, rfl, rfl, h⟩

theorem ieLoop_same (t : Knut.Transaction) (acc : Knut.Account) (p : Knut.Posting) (n : Nat) (amount rem : Rat) :
    ∀ (ends : List Int) (i : Nat),
      AllRel SameBut (Accrual.ieLoop (quoted t) acc p n amount rem i ends) (Accrual.ieLoop t acc p n amount rem i ends)
  | [], _ => .nil
  | _ :: rest, i => .cons (rebook_same t _ acc p _ (partDesc_descText t.description i n)) (ieLoop_same t acc p n amount rem rest (i + 1))

/-- steps of the model's expansion that agree up to `SameBut`: the same panic message, an error for an error -/
def StepSame : Accrual.Step → Accrual.Step → Prop
  | .ok xs, .ok ys => AllRel SameBut xs ys
  | .panic s, .panic s' => s = s'
  | _, _ => False

theorem expandPosting_same (t : Knut.Transaction) (a : Accrual.Addon) (p : Knut.Posting) :
    StepSame (Accrual.expandPosting (quoted t) a p) (Accrual.expandPosting t a p) := by
  unfold Accrual.expandPosting
  by_cases hie : p.account.isIE = true
  · simp only [hie, Bool.not_true, Bool.false_eq_true, if_false]
    cases newPartition ⟨a.start, a.stop⟩ a.interval 0 with
    | panic s => exact rfl
    | ok part =>
      simp only []
      cases Dec.quoRem p.quantity ((part.size : Int) : Rat) Accrual.quoRemPlaces with
      | none => exact rfl
      | some r => exact ieLoop_same t a.account p part.size r.1 r.2 part.endDates 0
  · simp only [hie, Bool.not_false, if_true, quoted_date, quoted_description]
    exact .cons (rebook_same t _ a.account p _ (descText_idem t.description)) .nil

theorem expandLoop_same (t : Knut.Transaction) (a : Accrual.Addon) :
    ∀ ps : List Knut.Posting, StepSame (Accrual.expandLoop (quoted t) a ps) (Accrual.expandLoop t a ps) := by
  intro ps
  induction ps with
  | nil => exact .nil
  | cons p rest ih =>
    simp only [Accrual.expandLoop]
    have hp := expandPosting_same t a p
    cases h1 : Accrual.expandPosting (quoted t) a p <;> cases h2 : Accrual.expandPosting t a p <;> simp only [h1, h2, StepSame] at hp ⊢
    · cases h3 : Accrual.expandLoop (quoted t) a rest <;> cases h4 : Accrual.expandLoop t a rest <;> simp only [h3, h4, StepSame] at ih ⊢
      · exact TransProcess.AllRel_append hp ih
      · exact ih
    · exact hp

/-- the same for the results of `expand` / `create` -/
def ResultSame : Accrual.Result → Accrual.Result → Prop
  | .ok xs, .ok ys => AllRel SameBut xs ys
  | .error, .error => True
  | .panic s, .panic s' => s = s'
  | _, _ => False

/-- the model's expansion of the transaction with the double quotes replaced (what Go expands: `Builder.Build` came first) and of the
transaction itself give the same transactions up to that replacement in the descriptions -/
theorem expand_same (t : Knut.Transaction) (a : Accrual.Addon) :
    ResultSame (Accrual.expand (quoted t) a) (Accrual.expand t a) := by
  unfold Accrual.expand
  by_cases hw : a.account.wf = true
  · by_cases hlt : a.stop < a.start
    · simp [hw, hlt, ResultSame]
    · simp only [hw, hlt, Bool.not_true, Bool.false_eq_true, if_false]
      have hl := expandLoop_same t a t.postings
      rw [quoted_postings]
      cases h1 : Accrual.expandLoop (quoted t) a t.postings <;> cases h2 : Accrual.expandLoop t a t.postings <;>
        simp only [h1, h2, StepSame] at hl ⊢
      · exact hl
      · exact hl
  · simp [hw, ResultSame]


theorem accr_of_nonempty (text : Bytes) (path : String) (a : Syntax.Addons) (h : a.accrual.range.empty = false) :
    (goAddonsZ text path a).Accrual = goAccrual text path a.accrual :=
  addonsZ_accrual a h

/-- the loop over the `@performance` targets: every commodity through the registry -/
theorem targets_range1_agrees {text : Bytes} {path : String} (cur : String → Bool) (tx : directives.Transaction) :
    ∀ (items : List Syntax.Commodity) (acc : List commodity.Commodity), (∀ c ∈ items, CommodityOK text c) →
      ∃ names, items.mapM (fun c => FromSyntax.fieldStr text c.range) = some names ∧
        transaction.Create.range1 (regCommodity cur) tx (items.map (goCommodity text path)) (some acc)
          = .ok (Flow.next (some (acc ++ names.map (commodityGo cur)))) := by
  intro items
  induction items with
  | nil => intro acc _; exact ⟨[], by simp, by simp [transaction.Create.range1]⟩
  | cons c rest ih =>
    intro acc hok
    obtain ⟨s, hs, hv⟩ := hok c (by simp)
    obtain ⟨names, hn, hr⟩ := ih (acc ++ [commodityGo cur s]) (fun c' hc' => hok c' (by simp [hc']))
    refine ⟨s :: names, by simp [hs, hn], ?_⟩
    simp only [List.map_cons, transaction.Create.range1, regCommodity_agrees hs hv, Option.isSome_none, Bool.false_eq_true,
      if_false, Option.getD_some, hr]
    simp


/-! ### `transaction.Create` -/

theorem account_wf {text : Bytes} {a : Syntax.Account} {acc : Knut.Account} (h : FromSyntax.account text a = some acc) : acc.wf = true := by
  unfold FromSyntax.account at h
  cases hs : FromSyntax.fieldStr text a.range with
  | none => simp [hs] at h
  | some s =>
    simp only [hs, Option.bind_eq_bind, Option.bind_some] at h
    split at h
    · rename_i hw; simp only [Option.some.injEq] at h; rw [← h]; exact hw
    · simp at h

theorem interval_ivName {s : String} {iv : Knut.Interval} (h : FromSyntax.interval s = some iv) : s = ivName iv := by
  unfold FromSyntax.interval at h
  split at h
  · rename_i e; cases h; exact e
  · split at h
    · rename_i e; cases h; exact e
    · split at h
      · rename_i e; cases h; exact e
      · split at h
        · rename_i e; cases h; exact e
        · simp at h

/-- the `@accrue` annotation in the model (`FromSyntax.item`) -/
def accrualM (text : Bytes) (a : Syntax.Accrual) : Option Accrual.Addon := do
  let ivs ← FromSyntax.fieldStr text a.interval.range
  let iv ← FromSyntax.interval ivs
  let s ← FromSyntax.date text a.start
  let e ← FromSyntax.date text a.stop
  let acc ← FromSyntax.account text a.account
  pure (⟨iv, s, e, acc⟩ : Accrual.Addon)

/-- the fields of an `@accrue` annotation are what the grammar guarantees: the interval keyword is one of its four (`date.ParseInterval` also
knows `once` and `yearly`), start and stop are texts, the account is `AccountOK` -/
def AccrualOK (text : Bytes) (a : Syntax.Accrual) : Prop :=
  (∃ s, FromSyntax.fieldStr text a.interval.range = some s ∧ (FromSyntax.interval s).isSome = true) ∧
    TextOK text a.start.range ∧ TextOK text a.stop.range ∧ AccountOK text a.account

/-- what the `ext` parameters of `expand` stand for (`transaction.Create.externals`): the results of
`reg.Accounts().Create(accrual.Account)`, `accrual.Start.Parse()`, `accrual.End.Parse()`, `accrual.Interval.Extract()` on the accrual
node `&t.Addons.Accrual` -/
structure ExpandExt (text : Bytes) (path : String) (a : Syntax.Accrual) (x5 : account.Account × Option Error)
    (x6 x7 : Int × Option Error) (x8 : String) : Prop where
  account : x5 = regAccount (goAccount text path a.account)
  start : directives.Date.Parse (goDate text path a.start) = .ok x6
  stop : directives.Date.Parse (goDate text path a.stop) = .ok x7
  interval : Bridge.extract (goRange text path a.interval.range) = .ok x8

/-- `expand` on the accrual node, with the `ext` parameters what the calls return -/
theorem expand_node_agrees {text : Bytes} {path : String} (cur : String → Bool) (a : Syntax.Accrual) (hok : AccrualOK text a)
    {x5 : account.Account × Option Error} {x6 x7 : Int × Option Error} {x8 : String} (hx : ExpandExt text path a x5 x6 x7 x8)
    (t : Knut.Transaction) (accr : Ref) :
    match accrualM text a with
    | none => IsErr (transaction.expand (txGo cur Ref.node Ref.node t) accr x5 x6 x7 x8)
    | some ad => transaction.expand (txGo cur Ref.node Ref.node t) accr x5 x6 x7 x8 = match Accrual.expand t ad with
        | .ok txs => GoSem.Outcome.ok (txs.map (txGoD cur Ref.node ⟨0⟩), none)
        | .error => GoSem.Outcome.ok ([], some ⟨"accrual period ends before it starts"⟩)
        | .panic s => GoSem.Outcome.panic s := by
  obtain ⟨⟨ivs, hiv, hivk⟩, hs, he, ha⟩ := hok
  obtain ⟨iv, hivk⟩ := Option.isSome_iff_exists.mp hivk
  have h5 := hx.account
  rw [regAccount_agrees ha] at h5
  have h6 := hx.start
  rw [Date_Parse_agrees hs] at h6
  have h7 := hx.stop
  rw [Date_Parse_agrees he] at h7
  have h8 := hx.interval
  rw [extract_ok hiv] at h8
  simp only [GoSem.Outcome.ok.injEq] at h6 h7 h8
  subst h5 h6 h7 h8
  unfold accrualM
  simp only [hiv, hivk, Option.bind_eq_bind, Option.bind_some]
  cases hacc : FromSyntax.account text a.account with
  | none =>
    cases FromSyntax.date text a.start <;> cases FromSyntax.date text a.stop <;>
      (simp only [Option.bind_none, Option.bind_some]; rw [expand_account_error]; exact isErr_ok _ _)
  | some acc =>
    cases hst : FromSyntax.date text a.start with
    | none =>
      simp only [Option.bind_none]
      rw [expand_start_error]; exact isErr_ok _ _
    | some st =>
      cases hen : FromSyntax.date text a.stop with
      | none =>
        simp only [Option.bind_none, Option.bind_some]
        rw [expand_end_error]; exact isErr_ok _ _
      | some en =>
        simp only [Option.bind_some]
        rw [interval_ivName hivk]
        exact expand_agrees cur Ref.node Ref.node accr t ⟨iv, st, en, acc⟩ (account_wf hacc)


theorem TRel_same (cur : String → Bool) (s1 s2 : Ref) {x y : Knut.Transaction} (h : SameBut x y) : TRel cur (txGoD cur s1 s2 x) y := by
  obtain ⟨hd, hp, ht, hdesc⟩ := h
  refine ⟨hd, Or.inr hdesc, ?_, by simp [txGoD, txGo, ht]⟩
  simp only [txGoD, txGo, hp]
  exact TransProcess.AllRel_map (postingGo cur s2) (fun _ => rfl) y.postings

theorem TRel_quoted (cur : String → Bool) (s1 s2 : Ref) (t : Knut.Transaction) : TRel cur (txGo cur s1 s2 (quoted t)) t := by
  unfold quoted
  exact ⟨rfl, Or.inr rfl, TransProcess.AllRel_map (postingGo cur s2) (fun _ => rfl) t.postings, rfl⟩

theorem AllRel_TRel_map (cur : String → Bool) (s1 s2 : Ref) {xs ys : List Knut.Transaction} (h : AllRel SameBut xs ys) :
    AllRel (TRel cur) (xs.map (txGoD cur s1 s2)) ys := by
  induction h with
  | nil => exact .nil
  | cons h _ ih => exact .cons (TRel_same cur s1 s2 h) ih

/-- the result of `transaction.Create` against the model's: the transactions stand for the model's (`TRel`: every `Src` arbitrary,
descriptions with the double quotes replaced), an error for an error, the same panic -/
def TxsRel (cur : String → Bool) (o : GoSem.Outcome (List transaction.Transaction × Option Error)) : Accrual.Result → Prop
  | .ok txs => ∃ gs, o = .ok (gs, none) ∧ AllRel (TRel cur) gs txs
  | .error => IsErr o
  | .panic s => o = .panic s

/-- the end of `transaction.Create`: `Builder.Build`, then the accrual expansion if there is an `@accrue` annotation -/
theorem finish_agrees {text : Bytes} {path : String} (cur : String → Bool) (ad : Syntax.Addons)
    (hacc : ad.accrual.range.empty = false → AccrualOK text ad.accrual)
    {x5 : account.Account × Option Error} {x6 x7 : Int × Option Error} {x8 : String}
    (hx : ad.accrual.range.empty = false → ExpandExt text path ad.accrual x5 x6 x7 x8)
    (dt : Int) (desc : String) (bks : List Accrual.Booking) (hwf : bks.all (fun b => b.credit.wf && b.debit.wf) = true)
    (tg : Option (List Knut.Commodity)) :
    let res := transaction.Builder.Build
      ⟨Ref.node, dt, desc, (Accrual.postingsOf bks).map (postingGo cur Ref.node), tg.map (fun l => l.map (commodityGo cur))⟩
    let G : GoSem.Outcome (List transaction.Transaction × Option Error) :=
      if (!(directives.Range.Empty (goAddonsZ text path ad).Accrual.Range)) then
        GoSem.Outcome.bind (transaction.expand res Ref.node x5 x6 x7 x8) (fun r => GoSem.Outcome.ok r)
      else GoSem.Outcome.ok ([res], none)
    match (if ad.accrual.range.empty then some none else (accrualM text ad.accrual).map some).bind (fun ao =>
      some ({ date := dt, description := desc, bookings := bks, targets := tg, accrual := ao } : Accrual.TxInput)) with
    | some tin => TxsRel cur G (Accrual.create tin)
    | none => IsErr G := by
  intro res G
  have hcreate : ∀ ao, Accrual.create { date := dt, description := desc, bookings := bks, targets := tg, accrual := ao } =
      (match ao with | none => .ok [⟨dt, desc, Accrual.postingsOf bks, tg⟩] | some a => Accrual.expand ⟨dt, desc, Accrual.postingsOf bks, tg⟩ a) := by
    intro ao
    unfold Accrual.create
    simp only [hwf, Bool.not_true, Bool.false_eq_true, if_false]
    cases ao <;> rfl
  have hres : res = txGo cur Ref.node Ref.node (quoted ⟨dt, desc, Accrual.postingsOf bks, tg⟩) := by
    simp only [res, TransTransaction.Builder_Build_agrees, txGo, quoted]
  cases he : ad.accrual.range.empty with
  | true =>
    simp only [G, addonsZ_accrual_empty, he, Bool.not_true, Bool.false_eq_true, if_false, if_true, Option.bind_some, hcreate, TxsRel]
    exact ⟨_, rfl, .cons (hres ▸ TRel_quoted cur Ref.node Ref.node _) .nil⟩
  | false =>
    simp only [G, addonsZ_accrual_empty, he, Bool.not_false, if_true, Bool.false_eq_true, if_false]
    have hn := expand_node_agrees (path := path) cur ad.accrual (hacc he) (hx he) (quoted ⟨dt, desc, Accrual.postingsOf bks, tg⟩) Ref.node
    rw [← hres] at hn
    cases ha : accrualM text ad.accrual with
    | none =>
      simp only [ha, Option.map_none, Option.bind_none] at hn ⊢
      obtain ⟨v, e, hv⟩ := hn
      rw [hv]; exact isErr_ok _ _
    | some a =>
      simp only [ha, Option.map_some, Option.bind_some, hcreate] at hn ⊢
      rw [hn]
      have hs := expand_same ⟨dt, desc, Accrual.postingsOf bks, tg⟩ a
      cases h1 : Accrual.expand (quoted ⟨dt, desc, Accrual.postingsOf bks, tg⟩) a <;> cases h2 : Accrual.expand ⟨dt, desc, Accrual.postingsOf bks, tg⟩ a <;>
        simp only [h1, h2, ResultSame] at hs ⊢
      · exact ⟨_, rfl, AllRel_TRel_map cur Ref.node ⟨0⟩ hs⟩
      · exact isErr_ok _ _
      · simp [TxsRel, GoSem.Outcome.bind, hs]


/-- the field texts of a transaction are what the grammar guarantees; those of an annotation only when it is there (an empty range is the zero
annotation, which the `Create` functions do not read) -/
def TxOK (text : Bytes) (t : Syntax.Transaction) : Prop :=
  TextOK text t.date.range ∧ TextOK text t.description.content ∧ (∀ b ∈ t.bookings, BookingOK text b) ∧
  (t.addons.performance.range.empty = false → ∀ c ∈ t.addons.performance.targets, CommodityOK text c) ∧
  (t.addons.accrual.range.empty = false → AccrualOK text t.addons.accrual)

/-- the model's conversion of a transaction, step by step -/
def txM (text : Bytes) (t : Syntax.Transaction) : Option Accrual.TxInput := do
  let dt ← FromSyntax.date text t.date
  let desc ← FromSyntax.fieldStr text t.description.content
  let bks ← t.bookings.mapM (FromSyntax.booking text)
  let targets ← (if t.addons.performance.range.empty then some none
    else (t.addons.performance.targets.mapM (fun c => FromSyntax.fieldStr text c.range)).map some)
  let accrual ← (if t.addons.accrual.range.empty then some none else (accrualM text t.addons.accrual).map some)
  pure { date := dt, description := desc, bookings := bks, targets := targets, accrual := accrual }

/-- `item` on a transaction is `txM` (with `accrualM` for the annotation): the final `map` moves inwards through every `bind` -/
theorem item_tx (text : Bytes) (r : Syntax.Range) (t : Syntax.Transaction) :
    FromSyntax.item text ⟨r, .transaction t⟩ = (txM text t).map FromSyntax.Item.tx := by
  simp only [FromSyntax.item, txM, accrualM, Option.bind_eq_bind, Option.pure_def, Option.map_bind, Option.map_some, Function.comp_def]

theorem bookings_wf {text : Bytes} {bs : List Syntax.Booking} {bks : List Accrual.Booking}
    (h : bs.mapM (FromSyntax.booking text) = some bks) : bks.all (fun b => b.credit.wf && b.debit.wf) = true := by
  rw [List.all_eq_true]
  intro bk hbk
  obtain ⟨b, _, hb⟩ := mapM_some_mem h bk hbk
  simp only [FromSyntax.booking, Option.bind_eq_bind, Option.bind_eq_some_iff, Option.pure_def, Option.some.injEq] at hb
  obtain ⟨cr, hc, dr, hd, _, _, _, _, rfl⟩ := hb
  rw [account_wf hc, account_wf hd]
  rfl

/-- **`transaction.Create`**: date, description, postings (`posting.Create`), the `@performance` targets through the registry (nil
without the annotation), `Builder.Build`, then the accrual expansion.  With the registries fixed to their model and the `ext`
parameters of `expand` to what the calls on the accrual node return, the translated function returns what the model computes
(`FromSyntax.item`, then `Accrual.create`): transactions that stand for the model's, an error where the model fails, the same panic. -/
theorem transaction_Create_agrees {text : Bytes} {path : String} (cur : String → Bool) (t : Syntax.Transaction) (hok : TxOK text t)
    {x5 : account.Account × Option Error} {x6 x7 : Int × Option Error} {x8 : String}
    (hx : t.addons.accrual.range.empty = false → ExpandExt text path t.addons.accrual x5 x6 x7 x8) :
    match txM text t with
    | some tin => TxsRel cur (transaction.Create (goTransaction text path t) regAccount regAccount (regCommodity cur) (regCommodity cur)
        x5 x6 x7 x8 x5 x6 x7 x8) (Accrual.create tin)
    | none => IsErr (transaction.Create (goTransaction text path t) regAccount regAccount (regCommodity cur) (regCommodity cur)
        x5 x6 x7 x8 x5 x6 x7 x8) := by
  obtain ⟨hd, hdesc, hb, hp, ha⟩ := hok
  obtain ⟨desc, hdesc⟩ := Option.isSome_iff_exists.mp hdesc
  unfold transaction.Create txM
  simp only [goTransaction, goQuoted, Date_Parse_agrees hd, extract_ok hdesc, hdesc, Option.bind_eq_bind, Option.bind_some]
  cases FromSyntax.date text t.date with
  | none => simp [GoSem.Outcome.bind]; exact isErr_ok _ _
  | some dt =>
    simp only [GoSem.Outcome.bind, Option.isSome_none, Bool.false_eq_true, if_false, Option.bind_some]
    have hpc := posting_Create_agrees (path := path) cur t.bookings hb
    cases hm : t.bookings.mapM (FromSyntax.booking text) with
    | none =>
      simp only [hm] at hpc
      obtain ⟨e, he⟩ := hpc
      simp only [he, Option.bind_none, Option.isSome_some, if_true]
      exact isErr_ok _ _
    | some bks =>
      simp only [hm] at hpc
      simp only [hpc, Option.bind_some, Option.isSome_none, Bool.false_eq_true, if_false, addonsZ_performance_empty, zero_option]
      have hfin := finish_agrees (path := path) cur t.addons ha hx dt desc bks (bookings_wf hm)
      cases hpe : t.addons.performance.range.empty with
      | true =>
        simp only [Bool.not_true, Bool.false_eq_true, if_false, if_true, Option.bind_some]
        exact hfin none
      | false =>
        simp only [Bool.not_false, if_true, Bool.false_eq_true, if_false, addonsZ_performance t.addons hpe, goPerformance]
        obtain ⟨names, hn, hr⟩ := targets_range1_agrees (path := path) cur
          ⟨goRange text path t.range, goDate text path t.date, ⟨goRange text path t.description.range, goRange text path t.description.content⟩,
            t.bookings.map (goBooking text path), goAddonsZ text path t.addons⟩ t.addons.performance.targets [] (hp hpe)
        simp only [hr, hn, Option.map_some, Option.bind_some, List.nil_append]
        exact hfin (some names)


/-! ### `model.ParseDirective` -/

/-- the texts of the fields of a directive are what the grammar guarantees (see `TransCreate.lean`) -/
def DirectiveOK (text : Bytes) (d : Syntax.Directive) : Prop :=
  match d.body with
  | .transaction t => TxOK text t
  | .open o => AccountOK text o.account ∧ TextOK text o.date.range
  | .close c => AccountOK text c.account ∧ TextOK text c.date.range
  | .assertion a => TextOK text a.date.range ∧ ∀ b ∈ a.balances, BalanceOK text b
  | .price p => TextOK text p.date.range ∧ CommodityOK text p.commodity ∧ CommodityOK text p.target ∧ DecimalOK text p.price
  | .include i => TextOK text i.includePath.content

/-- the result of `model.ParseDirective` against the model's (`FromSyntax.loadItems` of the one item): directives that stand for the
model's (`DirRel`: every `Src` arbitrary), an error for an error, the same panic -/
def DirsRel (cur : String → Bool) (o : GoSem.Outcome (List model.Directive × Option Error)) : FromSyntax.Loaded → Prop
  | .ok ds => ∃ gs, o = .ok (gs, none) ∧ AllRel (DirRel cur) gs ds
  | .error => IsErr o
  | .panic s => o = .panic s

/-- `model.ParseDirective` with the registries fixed to their model and the `ext` parameters of `expand` given -/
def goParseDirective (cur : String → Bool) (w : directives.Directive) (x5 : account.Account × Option Error) (x6 x7 : Int × Option Error)
    (x8 : String) : GoSem.Outcome (List model.Directive × Option Error) :=
  model.ParseDirective w regAccount regAccount (regCommodity cur) (regCommodity cur) x5 x6 x7 x8 x5 x6 x7 x8
    regAccount regAccount regAccount (regCommodity cur) (regCommodity cur) (regCommodity cur)

theorem AllRel_tx (cur : String → Bool) {gs : List transaction.Transaction} {txs : List Knut.Transaction} (h : AllRel (TRel cur) gs txs) :
    AllRel (DirRel cur) (gs.map model.Directive.Transaction) (txs.map Knut.Directive.tx) := by
  induction h with
  | nil => exact .nil
  | cons h _ ih => exact .cons h ih

theorem loadItems_tx (t : Accrual.TxInput) : FromSyntax.loadItems [.tx t] = match Accrual.create t with
    | .ok txs => .ok (txs.map Knut.Directive.tx)
    | .error => .error
    | .panic s => .panic s := by
  simp only [FromSyntax.loadItems, FromSyntax.loadItems.go]
  cases Accrual.create t <;> simp

/-- the wrapper of `ParseDirective` around a `Create` that returns one value: the value becomes the one directive -/
theorem one_ok {α : Type} {o : GoSem.Outcome (α × Option Error)} (mk : α → model.Directive) {g : α} (h : o = .ok (g, none)) :
    GoSem.Outcome.bind o (fun r =>
      if r.2.isSome then .ok (([] : List model.Directive), r.2) else .ok ([mk r.1], (none : Option Error))) = .ok ([mk g], none) := by
  subst h; rfl

/-- the wrapper of `ParseDirective` around `transaction.Create`: the transactions become the directives, in order: what `loadItems`
makes of the model's -/
theorem txs_dirs (cur : String → Bool) {o : GoSem.Outcome (List transaction.Transaction × Option Error)} {tin : Accrual.TxInput}
    (h : TxsRel cur o (Accrual.create tin)) :
    DirsRel cur (GoSem.Outcome.bind o (fun t1 =>
      if t1.2.isSome then .ok (([] : List model.Directive), t1.2)
      else .ok (List.foldl (fun (st : List model.Directive) (el : transaction.Transaction) => st ++ [model.Directive.Transaction el])
        GoZero.zero t1.1, (none : Option Error)))) (FromSyntax.loadItems [.tx tin]) := by
  rw [loadItems_tx]
  revert h
  cases Accrual.create tin with
  | ok txs =>
    intro ⟨gs, hg, hrel⟩
    subst hg
    exact ⟨_, by simp only [GoSem.Outcome.bind, Option.isSome_none, Bool.false_eq_true, if_false, zero_list, foldl_append_singleton model.Directive.Transaction, List.nil_append],
      AllRel_tx cur hrel⟩
  | error => exact fun h => isErr_bind h (fun _ _ => isErr_ok _ _)
  | panic s => intro h; subst h; rfl

/-- **`model.ParseDirective`**: the type switch on the syntax directive and the `Create` function of its kind.  For the Go tree of ANY
model directive whose field texts are what the grammar guarantees (`DirectiveOK`), with the registries fixed to their model and the
`ext` parameters of `expand` to what its calls on the accrual node return (`ExpandExt`), the translated function returns what the model
computes (`FromSyntax.item`, then `FromSyntax.loadItems`): directives that stand for the model's, in the same order, an error where
the model fails, the same panic (of `expand`). -/
theorem ParseDirective_agrees {text : Bytes} {path : String} (cur : String → Bool) (d : Syntax.Directive) (hok : DirectiveOK text d)
    {x5 : account.Account × Option Error} {x6 x7 : Int × Option Error} {x8 : String}
    (hx : ∀ t, d.body = .transaction t → t.addons.accrual.range.empty = false → ExpandExt text path t.addons.accrual x5 x6 x7 x8) :
    match FromSyntax.item text d with
    | none => IsErr (goParseDirective cur (goDirective text path d) x5 x6 x7 x8)
    | some it => DirsRel cur (goParseDirective cur (goDirective text path d) x5 x6 x7 x8) (FromSyntax.loadItems [it]) := by
  obtain ⟨r, body⟩ := d
  unfold goParseDirective model.ParseDirective goDirective
  cases body with
  | transaction t =>
    have h := transaction_Create_agrees (path := path) cur t hok (hx t rfl)
    rw [item_tx]
    simp only [goBody]
    revert h
    cases txM text t with
    | none => exact fun h => isErr_bind h (fun _ _ => isErr_ok _ _)
    | some tin => exact txs_dirs cur
  | «open» o =>
    have h := open_Create_agrees (path := path) o hok.1 hok.2
    simp only [goBody, FromSyntax.item, Option.bind_eq_bind, Option.pure_def]
    revert h
    cases FromSyntax.account text o.account with
    | none => exact fun h => isErr_bind h (fun _ _ => isErr_ok _ _)
    | some a =>
      cases FromSyntax.date text o.date with
      | none => exact fun h => isErr_bind h (fun _ _ => isErr_ok _ _)
      | some dt => exact fun h => ⟨_, one_ok _ h, .cons (by simp [DirRel, OpenRel, openGo]) .nil⟩
  | close c =>
    have h := close_Create_agrees (path := path) c hok.1 hok.2
    simp only [goBody, FromSyntax.item, Option.bind_eq_bind, Option.pure_def]
    revert h
    cases FromSyntax.account text c.account with
    | none => exact fun h => isErr_bind h (fun _ _ => isErr_ok _ _)
    | some a =>
      cases FromSyntax.date text c.date with
      | none => exact fun h => isErr_bind h (fun _ _ => isErr_ok _ _)
      | some dt => exact fun h => ⟨_, one_ok _ h, .cons (by simp [DirRel, CloseRel, closeGo]) .nil⟩
  | assertion a =>
    have h := assertion_Create_agrees (path := path) cur a hok.1 hok.2
    have hitem : FromSyntax.item text ⟨r, .assertion a⟩ = (do
        let dt ← FromSyntax.date text a.date
        let bals ← a.balances.mapM (balanceM text)
        pure (FromSyntax.Item.assertion ⟨dt, bals⟩)) := rfl
    rw [hitem]
    simp only [goBody, Option.bind_eq_bind, Option.pure_def]
    revert h
    cases FromSyntax.date text a.date with
    | none => exact fun h => isErr_bind h (fun _ _ => isErr_ok _ _)
    | some dt =>
      cases a.balances.mapM (balanceM text) with
      | none => exact fun h => isErr_bind h (fun _ _ => isErr_ok _ _)
      | some bals => exact fun h => ⟨_, one_ok _ h, .cons ⟨rfl, TransProcess.AllRel_map (balanceGo cur Ref.node) (fun _ => rfl) bals⟩ .nil⟩
  | price p =>
    have h := price_Create_agrees (path := path) cur p hok.1 hok.2.1 hok.2.2.1 hok.2.2.2
    have hitem : FromSyntax.item text ⟨r, .price p⟩ = FromSyntax.item text ⟨p.range, .price p⟩ := rfl
    rw [hitem]
    simp only [goBody]
    revert h
    cases hi : FromSyntax.item text ⟨p.range, .price p⟩ with
    | none => exact fun h => isErr_bind h (fun _ _ => isErr_ok _ _)
    | some it =>
      obtain ⟨m, rfl⟩ : ∃ m, it = .price m := by
        simp only [FromSyntax.item, Option.bind_eq_bind, Option.pure_def, Option.bind_eq_some_iff, Option.some.injEq] at hi
        obtain ⟨_, _, _, _, _, _, _, _, rfl⟩ := hi
        exact ⟨_, rfl⟩
      exact fun h => ⟨_, one_ok _ h, .cons (by simp [DirRel, PriceRel, priceGo]) .nil⟩
  | «include» i =>
    simp only [goBody]
    obtain ⟨p, hp⟩ := Option.isSome_iff_exists.mp (show (FromSyntax.fieldStr text i.includePath.content).isSome = true from hok)
    simp only [FromSyntax.item, hp, Option.bind_eq_bind, Option.bind_some, Option.pure_def, FromSyntax.loadItems, FromSyntax.loadItems.go,
      List.reverse_nil, DirsRel]
    exact ⟨_, rfl, .nil⟩



/-- the `ext` parameters exist: on an accrual node whose fields are texts the four calls return -/
theorem expandExt_exists {text : Bytes} {path : String} (a : Syntax.Accrual) (hok : AccrualOK text a) :
    ∃ x5 x6 x7 x8, ExpandExt text path a x5 x6 x7 x8 := by
  obtain ⟨⟨ivs, hiv, _⟩, hs, he, _⟩ := hok
  exact ⟨_, _, _, _, ⟨rfl, Date_Parse_agrees hs, Date_Parse_agrees he, extract_ok hiv⟩⟩

/-! ### the calls behind the `ext`/`extra` parameters (source text), pinned -/

example : transaction.Create.externals = ["ext4 = reg.Commodities().Create(c) [as a function of its 1 arguments]",
  "extra5…extra8 = the results of reg.Accounts().Create(accrual.Account), accrual.Start.Parse(), accrual.End.Parse(), accrual.Interval.Extract() in expand(reg, res, &t.Addons.Accrual)",
  "extra9…extra12 = the results of reg.Accounts().Create(accrual.Account), accrual.Start.Parse(), accrual.End.Parse(), accrual.Interval.Extract() in expand(reg, res, &t.Addons.Accrual)"] := rfl

/-- non-vacuity: a directive whose dynamic type is none of the six (nil): the error `unknown directive` -/
example : goParseDirective (fun _ => false) ⟨GoZero.zero, .nil⟩ GoZero.zero GoZero.zero GoZero.zero ""
    = .ok ([], some ⟨"unknown directive: %T"⟩) := rfl
/-- non-vacuity: an include directive converts to nothing -/
example : goParseDirective (fun _ => false) ⟨GoZero.zero, .Include GoZero.zero⟩ GoZero.zero GoZero.zero GoZero.zero ""
    = .ok ([], none) := rfl

end Knut.FactsAgree.TransCreate
