import Knut.Generated.TransDate
import Knut.Model.Partition
import Knut.Proofs.Partition
import Knut.Proofs.GoSem
/-!
# The translated `lib/common/date` agrees with the hand-written model

`Knut/Generated/TransDate.lean` is regenerated from /repo's `date.go` by the translator
(`harness/trans*.go`) on every run; this module proves the generated definitions (all but `date.ParseInterval`:
`TransTransaction.ParseInterval_agrees`) equal, for all arguments, to the model function that the theorems of C11/C10 (and everything built on the
partition model) are about.  If `date.go` changes, these proofs are re-checked against the new text.
-/
namespace Knut.FactsAgree.TransDate
open Knut Knut.Date Knut.GoSem
open Knut.Generated.Go

/-- `date.Interval` is an `int` in Go; the model's inductive type is its range `Once … Yearly`. -/
def ivGo : Knut.Interval → Int
  | .once => 0 | .daily => 1 | .weekly => 2 | .monthly => 3 | .quarterly => 4 | .yearly => 5

def periodGo (p : Knut.Period) : date.Period := { Start := p.start, End := p.stop }
def periodOfGo (p : date.Period) : Knut.Period := { start := p.Start, stop := p.End }

@[simp] theorem periodGo_Start (p : Knut.Period) : (periodGo p).Start = p.start := rfl
@[simp] theorem periodGo_End (p : Knut.Period) : (periodGo p).End = p.stop := rfl
@[simp] theorem periodOfGo_periodGo (p : Knut.Period) : periodOfGo (periodGo p) = p := rfl
@[simp] theorem periodGo_periodOfGo (p : date.Period) : periodGo (periodOfGo p) = p := rfl

def partitionGo (p : Knut.Partition) : date.Partition :=
  { span := periodGo p.span, interval := ivGo p.interval, periods := p.periods.map periodGo }

/-- a model outcome as a Go outcome: the model has no `outOfFuel`, so an equation with `outcomeGo …` also says that the fuel suffices -/
def outcomeGo {α β : Type} (f : α → β) : Knut.Outcome α → GoSem.Outcome β
  | .ok a => .ok (f a)
  | .panic m => .panic m

theorem Date_agrees (y m d : Int) : date.Date y m d = ofCivil y m d := rfl

theorem interval_consts : date.Once = 0 ∧ date.Daily = 1 ∧ date.Weekly = 2 ∧ date.Monthly = 3 ∧ date.Quarterly = 4 ∧
    date.Yearly = 5 := ⟨rfl, rfl, rfl, rfl, rfl, rfl⟩

theorem StartOf_agrees (d : Int) (iv : Knut.Interval) : date.StartOf d (ivGo iv) = startOf d iv := by
  have ⟨m1, m12⟩ := month_bounds d
  have ⟨w0, w7⟩ := weekday_bounds d
  cases iv <;> simp [date.StartOf, ivGo, startOf, interval_consts, date.Date, Time.AddDate_days, tdiv_eq, tmod_eq]
  · split <;> omega
  · split <;> first | rfl | omega

/-- outside `Once … Yearly` (no such value is ever built by knut) `StartOf` is the identity -/
theorem StartOf_other (d p : Int) (h : p < 0 ∨ 5 < p) : date.StartOf d p = d := by
  have : p ≠ 0 ∧ p ≠ 1 ∧ p ≠ 2 ∧ p ≠ 3 ∧ p ≠ 4 ∧ p ≠ 5 := by omega
  simp [date.StartOf, interval_consts, this]

theorem EndOf_agrees (d : Int) (iv : Knut.Interval) : date.EndOf d (ivGo iv) = endOf d iv := by
  have ⟨m1, m12⟩ := month_bounds d
  have ⟨w0, w7⟩ := weekday_bounds d
  have hm := StartOf_agrees d .monthly
  have hq := StartOf_agrees d .quarterly
  simp only [ivGo] at hm hq
  cases iv <;> simp [date.EndOf, ivGo, endOf, interval_consts, date.Date, Time.AddDate_days, tmod_eq, hm, hq, startOf]
  · omega
  · obtain ⟨a, b, c⟩ := civil_first (year d) (month d) m1 m12
    simp [Time.AddDate, a, b, c]
  · have q1 : 1 ≤ (month d - 1) / 3 * 3 + 1 := by omega
    have q12 : (month d - 1) / 3 * 3 + 1 ≤ 12 := by omega
    obtain ⟨a, b, c⟩ := civil_first (year d) _ q1 q12
    simp [Time.AddDate, a, b, c]
    omega

theorem Clip_agrees (p p2 : Knut.Period) : date.Period.Clip (periodGo p) (periodGo p2) = periodGo (p.clip p2) := by
  by_cases h1 : p2.start > p.start <;> by_cases h2 : p2.stop < p.stop <;>
    simp [date.Period.Clip, Knut.Period.clip, periodGo, h1, h2]

theorem Period_Contains_agrees (p : Knut.Period) (t : Int) : date.Period.Contains (periodGo p) t = p.contains t := by
  by_cases h1 : t < p.start <;> by_cases h2 : t > p.stop <;>
    simp [date.Period.Contains, Knut.Period.contains, periodGo, h1, h2]

theorem Partition_Contains_agrees (p : Knut.Partition) (t : Int) :
    date.Partition.Contains (partitionGo p) t = p.contains t := by
  simp [date.Partition.Contains, Knut.Partition.contains, partitionGo, Period_Contains_agrees]

/-- the condition of the `for` loop of `NewPartition` is the negation of the exit test of `partLoop` -/
theorem loop1_cond (a last e c : Int) :
    ((!(Time.Before e a)) && (!((decide (c ≥ last)) && (decide (last > (0 : Int)))))) = true
      ↔ ¬ (e < a ∨ (c ≥ last ∧ last > 0)) := by
  by_cases h1 : e < a <;> by_cases h2 : c ≥ last <;> by_cases h3 : last > 0 <;> simp [h1, h2, h3]

/-- the first loop of `NewPartition` appends exactly `partLoop` (newest period first) when the fuel
`fuelGe end period.Start` is given — in particular it never runs out of fuel -/
theorem loop1_agrees (span : Knut.Period) (iv : Knut.Interval) (last e c : Int) :
    ∀ (fuel : Nat) (periods : List date.Period) (start : Int), (e - span.start + 1).toNat ≤ fuel →
      ∃ s' c' e', date.NewPartition.loop1 (periodGo span) (ivGo iv) last fuel periods start c e
        = .ok (periods ++ (partLoop span.start iv last e c).map periodGo, s', c', e') := by
  fun_induction partLoop span.start iv last e c with
  | case1 e c h =>
    intro fuel periods start hf
    have hc : ¬ _ := (not_congr (loop1_cond span.start last e c)).mpr (fun hn => hn h)
    unfold date.NewPartition.loop1
    simp only [periodGo_Start, hc, if_false]
    exact ⟨start, c, e, by simp⟩
  | case2 e c h s ih =>
    intro fuel periods start hf
    have hc := (loop1_cond span.start last e c).mpr h
    cases fuel with
    | zero => exfalso; omega
    | succ n =>
      unfold date.NewPartition.loop1
      simp only [periodGo_Start, hc, if_true]
      simp only [StartOf_agrees, Time.AddDate_days, Time.Before, decide_eq_true_eq]
      have hs : (if startOf e iv < span.start then span.start else startOf e iv) = s := rfl
      rw [hs]
      have hle : s ≤ e := clampStart_startOf_le iv (by omega)
      obtain ⟨s', c', e', hih⟩ := ih n (periods ++ [{ Start := s, End := e }]) s (by omega)
      refine ⟨s', c', e', ?_⟩
      have : s + -1 = s - 1 := by omega
      rw [this, hih]
      simp [periodGo]

/-- the second loop of `NewPartition` is the in-place reversal idiom -/
theorem loop2_eq_swapLoop (fuel : Nat) (periods : List date.Period) (i j : Int) :
    date.NewPartition.loop2 fuel periods i j = swapLoop fuel periods i j := by
  induction fuel generalizing periods i j with
  | zero => unfold date.NewPartition.loop2 swapLoop; try rfl
  | succ n ih => unfold date.NewPartition.loop2 swapLoop; simp only [ih]; try rfl

theorem NewPartition_agrees (span : Knut.Period) (iv : Knut.Interval) (last : Int) :
    date.NewPartition (periodGo span) (ivGo iv) last = outcomeGo partitionGo (newPartition span iv last) := by
  unfold date.NewPartition newPartition
  by_cases hz : span.start = 0
  · simp [hz, outcomeGo]
  · simp only [periodGo_Start, Time.IsZero, hz, decide_false, Bool.false_eq_true, if_false, outcomeGo]
    by_cases ho : iv = .once
    · subst ho
      obtain ⟨i', j', h⟩ := swapLoop_reverse [periodGo span]
      simp at h
      simp [ivGo, date.Once, periodsOf, GoSem.Outcome.bind, loop2_eq_swapLoop, h, partitionGo]
    · have hne : ivGo iv ≠ date.Once := by cases iv <;> simp_all [ivGo, date.Once]
      obtain ⟨s', c', e', h⟩ := loop1_agrees span iv last span.stop 0 (fuelGe span.stop span.start) [] 0 (by simp [fuelGe])
      obtain ⟨i', j', h2⟩ := swapLoop_reverse ((partLoop span.start iv last span.stop 0).map periodGo)
      simp at h2
      simp [hne, h, periodsOf, ho, GoSem.Outcome.bind, loop2_eq_swapLoop, h2, partitionGo]

theorem Size_agrees (p : Knut.Partition) : date.Partition.Size (partitionGo p) = (p.size : Int) := by
  simp [date.Partition.Size, Knut.Partition.size, partitionGo]

theorem StartDates_agrees (p : Knut.Partition) : date.Partition.StartDates (partitionGo p) = p.startDates := by
  simp [date.Partition.StartDates, Knut.Partition.startDates, partitionGo, foldl_append_singleton (fun el : date.Period => el.Start),
    Function.comp_def]

theorem EndDates_agrees (p : Knut.Partition) : date.Partition.EndDates (partitionGo p) = p.endDates := by
  simp [date.Partition.EndDates, Knut.Partition.endDates, partitionGo, foldl_append_singleton (fun el : date.Period => el.End),
    Function.comp_def]

/-- `Partition.Align` (Go: binary search `sort.Search` over the period ends) is the model's linear search whenever
the period ends are sorted; `none` of the model is Go's zero `time.Time` (day 0) -/
theorem Align_agrees_of_sorted (span : Knut.Period) (iv : Knut.Interval) (ps : List Knut.Period) (d : Int)
    (hs : List.Pairwise (fun p q : Knut.Period => p.stop ≤ q.stop) ps) :
    date.Partition.Align (partitionGo ⟨span, iv, ps⟩) d = GoSem.Outcome.ok ((alignIn ps d).getD 0) := by
  have hget := List.pairwise_iff_getElem.mp hs
  -- the predicate of the search at index `k`
  let q : Nat → Bool := fun k => ps[k]?.all (fun x => !decide (x.stop < d))
  have hq : ∀ k (hk : k < ps.length), q k = !decide (ps[k].stop < d) := fun k hk => by
    simp [q, List.getElem?_eq_getElem hk]
  have hf : ∀ k : Nat, k < ps.length →
      GoSem.Outcome.bind (index (ps.map periodGo) (k : Int)) (fun t1 => GoSem.Outcome.ok (!(Time.Before t1.End d)))
        = GoSem.Outcome.ok (q k) := by
    intro k hk
    rw [index_ok _ _ (by omega) (by simpa using hk), hq k hk]
    simp [GoSem.Outcome.bind, Time.Before]
  have hmono : ∀ a b : Nat, a ≤ b → b < ps.length → q a = true → q b = true := by
    intro a b hab hb ha
    rw [hq a (by omega)] at ha
    rw [hq b hb]
    rcases Nat.eq_or_lt_of_le hab with rfl | hlt
    · exact ha
    · have := hget a b (by omega) hb hlt
      simp at ha ⊢; omega
  obtain ⟨r, hr, hrn, hlo, hhi⟩ := sortSearch_spec
    (fun i : Int => GoSem.Outcome.bind (index (ps.map periodGo) i) (fun t1 => GoSem.Outcome.ok (!(Time.Before t1.End d))))
    q ps.length hf hmono
  have hfind : ps.find? (fun p => !(decide (p.stop < d))) = ps[r]? :=
    find?_eq_getElem? _ ps r hrn (fun k h hk => by rw [← hq k h]; exact hlo k hk)
      (fun h => by rw [← hq r h]; exact hhi h)
  unfold date.Partition.Align
  simp only [partitionGo, len, List.length_map]
  rw [hr]
  simp only [GoSem.Outcome.bind, alignIn]
  rw [hfind]
  by_cases hlt : r < ps.length
  · have h1 : (r : Int) < (ps.length : Int) := by omega
    simp only [h1, decide_true, if_true]
    rw [index_ok _ _ (by omega) (by simpa using hlt)]
    simp [List.getElem?_eq_getElem hlt]
  · have h1 : ¬ (r : Int) < (ps.length : Int) := by omega
    have h2 : ps[r]? = none := List.getElem?_eq_none (by omega)
    simp [h1, h2]

/-- newest first, the period ends decrease from `e` -/
theorem partLoop_sorted (a : Int) (iv : Knut.Interval) (last e c : Int) :
    List.Pairwise (fun p q : Knut.Period => q.stop ≤ p.stop) (partLoop a iv last e c) ∧
      ∀ p ∈ partLoop a iv last e c, p.stop ≤ e := by
  fun_induction partLoop a iv last e c with
  | case1 e c h => exact ⟨List.Pairwise.nil, fun p hp => by simp at hp⟩
  | case2 e c h s ih =>
    have hle : s ≤ e := clampStart_startOf_le iv (by omega)
    refine ⟨List.Pairwise.cons (fun q hq => ?_) ih.1, fun p hp => ?_⟩
    · have := ih.2 q hq
      show q.stop ≤ e
      omega
    · rcases List.mem_cons.mp hp with rfl | hp
      · exact Int.le_refl _
      · have := ih.2 p hp; omega

/-- `Partition.Align` on every partition that `NewPartition` builds -/
theorem Align_agrees {span : Knut.Period} {iv : Knut.Interval} {last : Int} {P : Knut.Partition}
    (h : newPartition span iv last = .ok P) (d : Int) :
    date.Partition.Align (partitionGo P) d = GoSem.Outcome.ok ((P.align d).getD 0) := by
  obtain ⟨_, rfl⟩ := newPartition_eq_ok.mp h
  apply Align_agrees_of_sorted
  unfold periodsOf
  split
  · exact List.pairwise_singleton _ _
  · exact List.pairwise_reverse.mpr (partLoop_sorted _ _ _ _ _).1

/-- non-vacuity: the translated code computes; 2024-02-29 is day 738944 (a Thursday) -/
example : date.StartOf 738944 date.Monthly = 738916 ∧ date.EndOf 738944 date.Quarterly = 738975 := by decide
example : date.NewPartition ⟨738916, 738944⟩ date.Weekly 2 =
    GoSem.Outcome.ok ⟨⟨738916, 738944⟩, 2, [⟨738934, 738940⟩, ⟨738941, 738944⟩]⟩ := by decide +kernel
example : date.NewPartition ⟨0, 5⟩ date.Daily 0 = GoSem.Outcome.panic "can't create partition with zero time" := rfl

end Knut.FactsAgree.TransDate
