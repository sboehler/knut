import Knut.Generated.TransImportSupercard
import Knut.FactsAgree.TransImportSwisscard2
/-!
# The translated per-record functions of `ch.supercard` agree with `Model/Import/Cards.lean`

`cmd/importer/supercard/supercard.go`: `(*parser).readLine`, `parseBooking`, `parseAmount`, `parseWords`, `parseDate`, `parseCurrency`,
regenerated into `Knut/Generated/TransImportSupercard.lean` on every run (`harness/trans_units_import.go`).  What stays outside the
translation: the `csv.Reader` (the result of `p.reader.Read()` is the parameter `ext1 : List String × Option Error`), the loop of
`parse` with `checkFirstLine` / `skipHeader`, flags and cobra wiring; the registry calls `p.registry.Commodities().Get(currency)` and
`p.registry.Accounts().TBDAccount()` are parameters (their RESULTS: commodity and error; the account).

| Go | theorem | model |
|---|---|---|
| prelude `Regexp.replaceAllWs · " "` (the package-level `regexp.MustCompile("\\s+")`, `GoSem/ImportStr.lean`) | `replaceAllWs_model` (`Proofs/GoSemModel`) | `Import.collapseWs` (the copy is the original; stream `lib-str` of C13) |
| `len(s) > 0` on a string (`Strings.byteLen`) | `byteLen_pos_size` | `s.utf8ByteSize > 0` |
| `parser.parseWords`, `parseCurrency`, `parseDate` | `parseWords_agrees`, `parseCurrency_agrees`, `parseDate_agrees` | `collapseWs (joinWith " " [r4, r5])`, `fldD r 9`, `parseDate layoutDMYdot (fldD r 3)` |
| `parser.parseAmount` (a tagless `switch` whose case expressions index the record) | `parseAmount_eq` (its value on thirteen fields), `parseAmount_agrees` | `Import.Supercard.amount` |
| `parser.parseBooking` | `built_tx`, `parseBooking_agrees` | `booking` = the tail of `Import.Supercard.row` (`row_booking`) |
| `parser.readLine` | `readLine_eq` and `row_eq` (both decision by decision), **`readLine_agrees`**, `readLine_reader_error` | `Import.Supercard.row` |

`readLine_agrees`: for EVERY record (the reader runs with `FieldsPerRecord = -1` after the header), with `ext3` the TBD account and
`ext2` what `Get` returns for field 9 (the interned commodity for a valid name, an error otherwise): where the model's `row` answers
`ok ds` (`Saldovortrag`, eleven fields, an empty account number: nothing; a booking: one transaction) the translated function returns
a nil error, the parser's account untouched and a builder that stands for the model's builder with `ds` added (`BEquiv`); where it
answers `error` (another length than thirteen, date, amount, commodity) the translated function returns an error and the parser
unchanged; where it answers `panic` (fewer than five fields: `r[fieldBuchungstext]`) the translated function panics with Go's index
panic.  Full agreement: no case is left out.
-/
namespace Knut.FactsAgree.TransImportSupercard
open Knut Knut.GoSem
open Knut.Generated.Go
open Knut.FactsAgree.TransAccount Knut.FactsAgree.TransPosting Knut.FactsAgree.TransTransaction
open Knut.FactsAgree.TransProcess (AllRel TRel TRel_txGo)
open Knut.FactsAgree.TransJournal
open Knut.Proofs.GoImport (index_fld)

/-- the prelude's `\s+` replacement by one blank is the importer models' `collapseWs` -/
theorem replaceAllWs_model (s : String) : Regexp.replaceAllWs s " " = Import.collapseWs s := GoSem.replaceAllWs_model s

theorem join2 (a b : String) : Strings.Join [a, b] " " = Import.joinWith " " [a, b] := rfl

theorem byteLen_pos_size (s : String) : decide (Strings.byteLen s > 0) = decide (s.utf8ByteSize > 0) := by
  rw [GoSem.byteLen_pos]
  by_cases h : s.utf8ByteSize > 0
  · have : s.toList ≠ [] := by
      intro he
      have : s = "" := by rw [← String.toList_inj]; simpa using he
      subst this; simp at h
    simp [h, this]
  · have h0 : s.utf8ByteSize = 0 := by omega
    have : s = "" := String.utf8ByteSize_eq_zero_iff.mp h0
    subst this; simp

theorem len13 {r : List String} (h : r.length = 13) :
    ∃ f0 f1 f2 f3 f4 f5 f6 f7 f8 f9 f10 f11 f12, r = [f0, f1, f2, f3, f4, f5, f6, f7, f8, f9, f10, f11, f12] := by
  rcases r with _ | ⟨f0, _ | ⟨f1, _ | ⟨f2, _ | ⟨f3, _ | ⟨f4, _ | ⟨f5, _ | ⟨f6, _ | ⟨f7, _ | ⟨f8, _ | ⟨f9, _ | ⟨f10, _ | ⟨f11, _ | ⟨f12, _ | ⟨f13, r⟩⟩⟩⟩⟩⟩⟩⟩⟩⟩⟩⟩⟩⟩ <;>
    simp at h
  exact ⟨_, _, _, _, _, _, _, _, _, _, _, _, _, rfl⟩

theorem fldD_get (r : List String) (i : Nat) : Import.fldD r i = (r[i]?).getD "" := rfl

theorem parseWords_agrees (p : supercard.parser) (r : List String) (hr : r.length = 13) :
    supercard.parser.parseWords p r = .ok (Import.collapseWs (Import.joinWith " " [Import.fldD r 4, Import.fldD r 5])) := by
  have i4 : index r supercard.fieldBuchungstext = .ok (Import.fldD r 4) := index_fld (i := 4) (by omega)
  have i5 : index r supercard.fieldBranche = .ok (Import.fldD r 5) := index_fld (i := 5) (by omega)
  simp only [supercard.parser.parseWords, i4, i5, GoSem.Outcome.bind, replaceAllWs_model, join2]

theorem parseCurrency_agrees (p : supercard.parser) (r : List String) (hr : r.length = 13) :
    supercard.parser.parseCurrency p r = .ok (Import.fldD r 9) := by
  have i9 : index r supercard.fieldWährung = .ok (Import.fldD r 9) := index_fld (i := 9) (by omega)
  simp only [supercard.parser.parseCurrency, i9, GoSem.Outcome.bind]

theorem parseDate_agrees (p : supercard.parser) (r : List String) (hr : r.length = 13) :
    supercard.parser.parseDate p r = .ok (match Import.parseDate Import.layoutDMYdot (Import.fldD r 3) with
      | some d => (d, none) | none => (0, some ⟨"time.Parse"⟩)) := by
  have i3 : index r supercard.fieldEinkaufsdatum = .ok (Import.fldD r 3) := index_fld (i := 3) (by omega)
  simp only [supercard.parser.parseDate, i3, GoSem.Outcome.bind, Time.ParseDMYdot, parseDMYdot_model]
  rfl

theorem parseAmount_eq (p : supercard.parser) {r : List String} (hr : r.length = 13) :
    supercard.parser.parseAmount p r = .ok (
      if 0 < (Import.fldD r 11).utf8ByteSize then
        match Import.newFromString (Import.fldD r 11) with
        | some q => (q, none)
        | none => (0, some ⟨"can't convert %s to decimal"⟩)
      else if 0 < (Import.fldD r 10).utf8ByteSize then
        match Import.newFromString (Import.fldD r 10) with
        | some q => (-q, none)
        | none => (0, some ⟨"can't convert %s to decimal"⟩)
      else (0, some ⟨"empty quantity fields: %s %s"⟩)) := by
  have i10 : index r supercard.fieldBelastung = .ok (Import.fldD r 10) := index_fld (i := 10) (by omega)
  have i11 : index r supercard.fieldGutschrift = .ok (Import.fldD r 11) := index_fld (i := 11) (by omega)
  unfold supercard.parser.parseAmount
  simp only [i10, i11, GoSem.Outcome.bind, byteLen_pos_size, Decimal.NewFromString, newFromString_model]
  simp only [gt_iff_lt, decide_eq_true_eq]
  split
  · cases Import.newFromString (Import.fldD r 11) with
    | none => rfl
    | some q => simp [Decimal.Mul, Decimal.NewFromInt]
  · split
    · cases Import.newFromString (Import.fldD r 10) with
      | none => rfl
      | some q => simp [Decimal.Mul, Decimal.Neg, Decimal.NewFromInt, Rat.mul_neg]
    · rfl

theorem parseAmount_agrees (p : supercard.parser) (r : List String) (hr : r.length = 13) :
    match Import.Supercard.amount r with
    | .ok q => supercard.parser.parseAmount p r = .ok (q, none)
    | .error => ∃ e, supercard.parser.parseAmount p r = .ok (0, some e)
    | .panic => False := by
  rw [parseAmount_eq p hr]
  unfold Import.Supercard.amount
  simp only [gt_iff_lt]
  by_cases h11 : 0 < (Import.fldD r 11).utf8ByteSize
  · simp only [h11, if_true]
    cases Import.newFromString (Import.fldD r 11) with
    | none => exact ⟨_, rfl⟩
    | some q => rfl
  · simp only [h11, if_false]
    by_cases h10 : 0 < (Import.fldD r 10).utf8ByteSize
    · simp only [h10, if_true]
      cases Import.newFromString (Import.fldD r 10) with
      | none => exact ⟨_, rfl⟩
      | some q => rfl
    · simp only [h10, if_false]
      exact ⟨_, rfl⟩

/-- the model's transaction of a row as the Go value `transaction.Builder{…}.Build()` builds it (any credit / debit accounts) -/
theorem built_tx (cur : String → Bool) (cr db : Knut.Account) (d : Int) (desc : String) (c : Knut.Commodity) (q : Rat) :
    ∃ t, Import.mkTx d desc [⟨cr, db, c, q⟩] = .tx t ∧
      transaction.Builder.Build ⟨GoZero.zero, d, desc,
        posting.Builder.Build ⟨GoZero.zero, q, GoZero.zero, accountGo cr, accountGo db, commodityGo cur c⟩,
        GoZero.zero⟩ = txGo cur GoZero.zero GoZero.zero t :=
  TransImportSwisscard2.built_pair cur cr db d desc c q

/-- the part of `Import.Supercard.row` that models `parseBooking` (a record of thirteen fields that is a booking) -/
def booking (acct : Knut.Account) (r : Import.Rec) : Import.Res (List Knut.Directive) := do
  let d ← Import.Res.ofOption (Import.parseDate Import.layoutDMYdot (Import.fldD r 3))
  let q ← Import.Supercard.amount r
  let c ← Import.getCommodity (Import.fldD r 9)
  pure [Import.mkTx d (Import.collapseWs (Import.joinWith " " [Import.fldD r 4, Import.fldD r 5])) [⟨Import.tbd, acct, c, q⟩]]

/-- **`parser.parseBooking`** of `ch.supercard` on a record of thirteen fields; `ext1` = the result of `Commodities().Get(r[fieldWährung])`
(the interned commodity for a valid name, an error otherwise), `ext2` = `Accounts().TBDAccount()` -/
theorem parseBooking_agrees (cur : String → Bool) (p : supercard.parser) (b : Knut.Builder) (acct : Knut.Account) (r : Import.Rec)
    (hb : BEquiv cur p.builder b) (hacct : p.account = accountGo acct) (hr : r.length = 13)
    (ext1 : commodity.Commodity × Option Error) (ext2 : account.Account)
    (h1v : Import.validCommodity (Import.fldD r 9) = true → ext1 = (commodityGo cur (Import.fldD r 9), none))
    (h1e : Import.validCommodity (Import.fldD r 9) = false → ext1.2.isSome = true)
    (h2 : ext2 = accountGo Import.tbd) :
    match booking acct r with
    | .ok ds => ∃ p', supercard.parser.parseBooking p r ext1 ext2 = .ok (p', none) ∧ p'.account = p.account ∧
        BEquiv cur p'.builder (ds.foldl Knut.Builder.add b)
    | .error => ∃ e, supercard.parser.parseBooking p r ext1 ext2 = .ok (p, some e)
    | .panic => False := by
  unfold booking supercard.parser.parseBooking
  rw [parseWords_agrees p r hr, parseCurrency_agrees p r hr, parseDate_agrees p r hr]
  simp only [GoSem.Outcome.bind]
  cases hd : Import.parseDate Import.layoutDMYdot (Import.fldD r 3) with
  | none => exact ⟨_, rfl⟩
  | some d =>
    have ha := parseAmount_agrees p r hr
    cases hq : Import.Supercard.amount r with
    | panic => rw [hq] at ha; exact ha
    | error =>
      rw [hq] at ha
      obtain ⟨e, he⟩ := ha
      exact ⟨e, by simp [he]⟩
    | ok q =>
      rw [hq] at ha
      simp only [Import.Res.ofOption, Import.Res.bind_ok, ha, Option.isSome_none, Bool.false_eq_true, if_false]
      by_cases hc : Import.validCommodity (Import.fldD r 9) = true
      · simp only [Import.getCommodity, hc, if_true, Import.Res.bind_ok, Import.Res.pure_eq]
        obtain ⟨t, ht, hbuild⟩ := built_tx cur Import.tbd acct d (Import.collapseWs (Import.joinWith " " [Import.fldD r 4, Import.fldD r 5]))
          (Import.fldD r 9) q
        obtain ⟨g', hg, hbe⟩ := Add_agrees cur hb (.Transaction (txGo cur GoZero.zero GoZero.zero t)) (.tx t) (TRel_txGo cur _ _ t)
        rw [h1v hc, h2, hacct, ht]
        refine ⟨{ account := accountGo acct, builder := g' }, ?_, rfl, ?_⟩
        · rw [hbuild, hg]; simp
        · simpa using hbe
      · have hc' : Import.validCommodity (Import.fldD r 9) = false := by simpa using hc
        simp only [Import.getCommodity, hc', Bool.false_eq_true, if_false, Import.Res.bind_error]
        have := h1e hc'
        cases hx : ext1.2 with
        | none => rw [hx] at this; cases this
        | some e => exact ⟨e, by simp⟩

/-- `Import.Supercard.row`, decision by decision -/
theorem row_eq (acct : Knut.Account) (r : Import.Rec) :
    Import.Supercard.row acct r =
      match r[4]? with
      | none => .panic
      | some text =>
        if text = "Saldovortrag" then .ok []
        else if r.length = 11 || Import.fldD r 0 = "" then .ok []
        else if r.length ≠ 13 then .error
        else booking acct r := by
  unfold Import.Supercard.row Import.fld
  cases h4 : r[4]? with
  | none => rfl
  | some text =>
    have htext : Import.fldD r 4 = text := by rw [Import.fldD, h4]; rfl
    subst htext
    rfl

theorem row_booking (acct : Knut.Account) (r : Import.Rec) (hr : r.length = 13) (h4 : Import.fldD r 4 ≠ "Saldovortrag")
    (h0 : Import.fldD r 0 ≠ "") : Import.Supercard.row acct r = booking acct r := by
  have e4 : r[4]? = some (Import.fldD r 4) := by rw [Import.fldD, List.getElem?_eq_getElem (by omega)]; rfl
  rw [row_eq, e4]
  simp [h4, h0, hr]

/-- `parser.readLine` on a record the reader returned, decision by decision as `row_eq` -/
theorem readLine_eq (p : supercard.parser) (r : List String) (ext2 : commodity.Commodity × Option Error) (ext3 : account.Account) :
    supercard.parser.readLine p (r, none) ext2 ext3 =
      match r[4]? with
      | none => .panic "runtime error: index out of range"
      | some text =>
        if text = "Saldovortrag" then .ok (p, none)
        else if r.length = 11 || Import.fldD r 0 = "" then .ok (p, none)
        else if r.length ≠ 13 then .ok (p, some ⟨"record %v with invalid length %d"⟩)
        else supercard.parser.parseBooking p r ext2 ext3 := by
  unfold supercard.parser.readLine
  cases h4 : r[4]? with
  | none => simp [index, supercard.fieldBuchungstext, GoSem.Outcome.bind, h4]
  | some text =>
    obtain ⟨hlen, _⟩ := List.getElem?_eq_some_iff.mp h4
    have hi4 : index r supercard.fieldBuchungstext = .ok text := by
      rw [show supercard.fieldBuchungstext = ((4 : Nat) : Int) from rfl, index_fld hlen, Import.fldD, h4]; rfl
    have hi0 : index r supercard.fieldKontonummer = .ok (Import.fldD r 0) := index_fld (i := 0) (by omega)
    have e11 : ((r.length : Int) = 11) ↔ r.length = 11 := by omega
    have e13 : ((r.length : Int) = 13) ↔ r.length = 13 := by omega
    simp only [hi4, hi0, Option.isSome_none, Bool.false_eq_true, if_false, GoSem.Outcome.bind, len, e11, e13]
    by_cases ht : text = "Saldovortrag"
    · simp [ht]
    · by_cases h11 : r.length = 11
      · simp [ht, h11]
      · by_cases h0 : Import.fldD r 0 = ""
        · simp [ht, h11, h0]
        · by_cases h13 : r.length = 13
          · simp only [ht, h0, h13]
            cases supercard.parser.parseBooking p r ext2 ext3 with
            | ok a => obtain ⟨q, e⟩ := a; cases e <;> rfl
            | panic m => rfl
            | outOfFuel => rfl
          · simp [ht, h11, h0, h13]

/-- **`parser.readLine`** of `ch.supercard` on a record the reader returned (`FieldsPerRecord = -1` after the header: ANY number of
fields): the index panic on a record of fewer than five fields included -/
theorem readLine_agrees (cur : String → Bool) (p : supercard.parser) (b : Knut.Builder) (acct : Knut.Account) (r : Import.Rec)
    (hb : BEquiv cur p.builder b) (hacct : p.account = accountGo acct)
    (ext2 : commodity.Commodity × Option Error) (ext3 : account.Account)
    (h2v : Import.validCommodity (Import.fldD r 9) = true → ext2 = (commodityGo cur (Import.fldD r 9), none))
    (h2e : Import.validCommodity (Import.fldD r 9) = false → ext2.2.isSome = true)
    (h3 : ext3 = accountGo Import.tbd) :
    match Import.Supercard.row acct r with
    | .ok ds => ∃ p', supercard.parser.readLine p (r, none) ext2 ext3 = .ok (p', none) ∧ p'.account = p.account ∧
        BEquiv cur p'.builder (ds.foldl Knut.Builder.add b)
    | .error => ∃ e, supercard.parser.readLine p (r, none) ext2 ext3 = .ok (p, some e)
    | .panic => ∃ m, supercard.parser.readLine p (r, none) ext2 ext3 = .panic m := by
  rw [readLine_eq, row_eq]
  cases r[4]? with
  | none => exact ⟨_, rfl⟩
  | some text =>
    simp only []
    by_cases ht : text = "Saldovortrag"
    · rw [if_pos ht, if_pos ht]
      exact ⟨p, rfl, rfl, hb⟩
    · rw [if_neg ht, if_neg ht]
      by_cases hs : (r.length = 11 || Import.fldD r 0 = "") = true
      · rw [if_pos hs, if_pos hs]
        exact ⟨p, rfl, rfl, hb⟩
      · rw [if_neg hs, if_neg hs]
        by_cases hr : r.length = 13
        · rw [if_neg (not_not_intro hr), if_neg (not_not_intro hr)]
          have hpb := parseBooking_agrees cur p b acct r hb hacct hr ext2 ext3 h2v h2e h3
          revert hpb
          cases booking acct r with
          | ok ds => exact id
          | error => exact id
          | panic => exact False.elim
        · rw [if_pos hr, if_pos hr]
          exact ⟨_, rfl⟩

/-- an error of the reader (`io.EOF`, a parse error) is returned unchanged -/
theorem readLine_reader_error (p : supercard.parser) (r : List String) (e : Error) (ext2 : commodity.Commodity × Option Error)
    (ext3 : account.Account) : supercard.parser.readLine p (r, some e) ext2 ext3 = .ok (p, some e) := rfl

/-- non-vacuity: a booking record from the fresh builder -/
example : ∃ ds, Import.Supercard.row ⟨["Liabilities", "Card"]⟩
      ["1", "2", "N", "01.02.2023", "Coop  City", "Food", "12.50", "CHF", "", "CHF", "12.50", "", "02.02.2023"] = .ok ds ∧ ds.length = 1 ∧
    ∃ p', supercard.parser.readLine ⟨accountGo ⟨["Liabilities", "Card"]⟩, journal.New⟩
        (["1", "2", "N", "01.02.2023", "Coop  City", "Food", "12.50", "CHF", "", "CHF", "12.50", "", "02.02.2023"], none)
        (commodityGo (fun _ => true) "CHF", none) (accountGo Import.tbd)
      = .ok (p', none) ∧ BEquiv (fun _ => true) p'.builder (ds.foldl Knut.Builder.add {}) := by
  -- the record as a variable: with the closed list in place of `r` the elaborator would evaluate the model once more
  generalize hr : ["1", "2", "N", "01.02.2023", "Coop  City", "Food", "12.50", "CHF", "", "CHF", "12.50", "", "02.02.2023"] = r
  have hok : (match Import.Supercard.row ⟨["Liabilities", "Card"]⟩ r with | .ok ds => ds.length == 1 | _ => false) = true := by
    subst hr; decide +kernel
  have hf : Import.fldD r 9 = "CHF" := by subst hr; rfl
  have h := readLine_agrees (fun _ => true) ⟨accountGo ⟨["Liabilities", "Card"]⟩, journal.New⟩ {} ⟨["Liabilities", "Card"]⟩
    r (New_agrees _) rfl (commodityGo (fun _ => true) "CHF", none) (accountGo Import.tbd) (fun _ => by rw [hf])
    (fun h => by rw [hf] at h; revert h; decide +kernel) rfl
  revert h hok
  cases Import.Supercard.row ⟨["Liabilities", "Card"]⟩ r with
  | ok ds => exact fun hok h => ⟨ds, rfl, by simpa using hok, h.imp fun p' h => ⟨h.1, h.2.2⟩⟩
  | error => simp
  | panic => simp

end Knut.FactsAgree.TransImportSupercard
