import Knut.FactsAgree.TransImportSupercard
/-!
# `ch.supercard`, run level: the translated `readLine` folded as `parser.parse` folds it = `Import.Supercard.run`

`cmd/importer/supercard/supercard.go`:

```go
func (p *parser) parse() error {
	p.reader.TrimLeadingSpace = true
	p.reader.Comma = ';'
	p.reader.FieldsPerRecord = 13
	if err := p.checkFirstLine(); err != nil { return err }   // FieldsPerRecord = 2 for this one Read (restored by the defer);
	                                                          // rec[0] != "sep=" || rec[1] != "" -> error
	if err := p.skipHeader(); err != nil { return err }       // `_, err := p.reader.Read(); return err` with FieldsPerRecord = 13
	p.reader.FieldsPerRecord = -1
	for {
		if err := p.readLine(); err != nil {
			if err == io.EOF { return nil }
			return err
		}
	}
}
```

`parse`, `checkFirstLine` and the loop are NOT translated (a `defer`, an endless `for` around a reader): `checkFirstLine`, `loop`,
`parse` below are their hand-written transcriptions, folding the TRANSLATED `supercard.parser.readLine`
(`Generated/TransImportSupercard.lean`, regenerated on every run) over what the `encoding/csv.Reader` delivers.  The reader stays an
`ext`; what is read by hand: its successive results are the list `deliveries recs` — the first record is read with
`FieldsPerRecord = 2`, the second with `FieldsPerRecord = 13` (another length comes together with `csv.ErrFieldCount`: `deliverN`), all
later ones with `FieldsPerRecord = -1` (any length, no error) — and when the list is used up the reader delivers `io.EOF` (`eof`).
`Commodities().Get(r[fieldWährung])` runs at most once per record: the callee as a function of its argument,
`ext2 : String → Commodity × Option Error` (`h2v`: the interned commodity for a valid name; `h2e`: an error other than `io.EOF` for an
invalid one — `Get` makes its error with `fmt.Errorf`); `TBDAccount()` always returns the one interned account `ext3`.

**`run_agrees`**: for every list of records, from a parser whose builder stands for a model builder `b`:
`Supercard.run = ok ds` ↦ `parse` returns nil and the builder stands for `b` with `ds` added in order;
`error` ↦ `parse` returns an error; `panic` ↦ `parse` panics (Go's index panic in `r[fieldBuchungstext]` on a record of fewer than
five fields after the header).  Full agreement, no `outOfFuel`.

`loop_agrees` is the same statement for the loop alone (`mapRows (row acct)`; an instance of `GoImport.loop_mapRows`, which the
other card importers use too); `readLine_error_ne_eof`: the errors `readLine` makes
itself (or passes on from `Get`) do not end the loop as `io.EOF` does.
-/
namespace Knut.FactsAgree.TransImportSupercardRun
open Knut Knut.GoSem
open Knut.Generated.Go
open Knut.FactsAgree.TransAccount Knut.FactsAgree.TransPosting Knut.FactsAgree.TransJournal Knut.FactsAgree.TransImportSupercard
open Knut.Proofs.GoImport (loop_mapRows tri_imp)

/-- `io.EOF` -/
def eof : Error := ⟨"EOF"⟩
/-- `csv.ErrFieldCount` (as `encoding/csv` wraps it in a `*csv.ParseError`) -/
def errFieldCount : Error := ⟨"wrong number of fields"⟩

/-- what `p.reader.Read()` returns for the record `r` when `FieldsPerRecord = n > 0` -/
def deliverN (n : Nat) (r : List String) : List String × Option Error := (r, if r.length = n then none else some errFieldCount)

/-- the successive results of `p.reader.Read()` on a file whose records are `recs`, as `parse` sets `FieldsPerRecord`: 2 for the first
record, 13 for the second, -1 (no check) from the third on; then `io.EOF` -/
def deliveries : List (List String) → List (List String × Option Error)
  | [] => []
  | [first] => [deliverN 2 first]
  | first :: header :: rows => deliverN 2 first :: deliverN 13 header :: rows.map (fun r => (r, none))

/-- `checkFirstLine` on the reader's result `rd` -/
def checkFirstLine (p : supercard.parser) (rd : List String × Option Error) : GoSem.Outcome (supercard.parser × Option Error) :=
  if rd.2.isSome then .ok (p, rd.2)
  else
    GoSem.Outcome.bind (index rd.1 0) (fun r0 =>
      GoSem.Outcome.bind (if r0 ≠ "sep=" then .ok true else GoSem.Outcome.bind (index rd.1 1) (fun r1 => .ok (decide (r1 ≠ "")))) (fun c =>
        if c then .ok (p, some ⟨"unexpected first line %q"⟩) else .ok (p, none)))

/-- the `for` loop of `parse`: `reads` = the results of the reader still to come, `io.EOF` after them -/
def loop (ext2 : String → commodity.Commodity × Option Error) (ext3 : account.Account) :
    supercard.parser → List (List String × Option Error) → GoSem.Outcome (supercard.parser × Option Error)
  | p, [] =>
    GoSem.Outcome.bind (supercard.parser.readLine p ([], some eof) (ext2 "") ext3) (fun (p', err) =>
      if err = some eof then .ok (p', none) else .ok (p', err))
  | p, rd :: reads =>
    GoSem.Outcome.bind (supercard.parser.readLine p rd (ext2 (rd.1.getD 9 "")) ext3) (fun (p', err) =>
      if err = some eof then .ok (p', none)
      else if err.isSome then .ok (p', err)
      else loop ext2 ext3 p' reads)

/-- `parser.parse`: `checkFirstLine` (first result of the reader), `skipHeader` (second result; its error, `io.EOF` included, is
returned), then the loop -/
def parse (ext2 : String → commodity.Commodity × Option Error) (ext3 : account.Account) (p : supercard.parser) :
    List (List String × Option Error) → GoSem.Outcome (supercard.parser × Option Error)
  | [] => checkFirstLine p ([], some eof)
  | first :: rest =>
    GoSem.Outcome.bind (checkFirstLine p first) (fun (p1, err) =>
      if err.isSome then .ok (p1, err)
      else match rest with
        | [] => .ok (p1, some eof)
        | hd :: reads => if hd.2.isSome then .ok (p1, hd.2) else loop ext2 ext3 p1 reads)

theorem newFromString_error_ne_eof (s : String) : (Decimal.NewFromString s).2 ≠ some eof := by
  unfold Decimal.NewFromString
  cases Parse.newFromString s with
  | some v => simp
  | none => decide

theorem parseAmount_error_ne_eof (p : supercard.parser) (r : List String) (hr : r.length = 13) (q : Rat) (e : Error)
    (h : supercard.parser.parseAmount p r = .ok (q, some e)) : e ≠ eof := by
  rw [parseAmount_eq p hr] at h
  injection h with h
  split at h
  · split at h
    · cases h
    · cases h; decide
  · split at h
    · split at h
      · cases h
      · cases h; decide
    · cases h; decide

theorem parseBooking_error_ne_eof (p : supercard.parser) (r : List String) (hr : r.length = 13)
    (ext1 : commodity.Commodity × Option Error) (ext2 : account.Account) (hx : ext1.2 ≠ some eof) (q : supercard.parser) (e : Error)
    (h : supercard.parser.parseBooking p r ext1 ext2 = .ok (q, some e)) : e ≠ eof := by
  revert h
  unfold supercard.parser.parseBooking
  rw [parseWords_agrees p r hr, parseCurrency_agrees p r hr, parseDate_agrees p r hr]
  simp only [GoSem.Outcome.bind]
  cases Import.parseDate Import.layoutDMYdot (Import.fldD r 3) with
  | none => intro h; simp at h; rw [← h.2]; decide
  | some d =>
    simp only [Option.isSome_none, Bool.false_eq_true, if_false]
    cases ha : supercard.parser.parseAmount p r with
    | panic m => intro h; simp at h
    | outOfFuel => intro h; simp at h
    | ok qa =>
      obtain ⟨qv, qe⟩ := qa
      cases qe with
      | some e' =>
        have := parseAmount_error_ne_eof p r hr qv e' ha
        intro h; simp at h; rw [← h.2]; exact this
      | none =>
        simp only [Option.isSome_none, Bool.false_eq_true, if_false]
        cases hx2 : ext1.2 with
        | none => intro h; simp at h
        | some e' =>
          intro h; simp at h
          rw [← h.2]; intro he; exact hx (by rw [hx2, he])

theorem readLine_error_ne_eof (p : supercard.parser) (r : List String)
    (ext2 : commodity.Commodity × Option Error) (ext3 : account.Account) (hx : ext2.2 ≠ some eof) (q : supercard.parser) (e : Error)
    (h : supercard.parser.readLine p (r, none) ext2 ext3 = .ok (q, some e)) : e ≠ eof := by
  rw [readLine_eq] at h
  split at h
  · cases h
  · split at h
    · cases h
    · split at h
      · cases h
      · split at h
        · cases h; decide
        · rename_i h13
          exact parseBooking_error_ne_eof p r (Decidable.not_not.mp h13) ext2 ext3 hx q e h

theorem foldl_add_append (b : Knut.Builder) (xs ys : List Knut.Directive) :
    (xs ++ ys).foldl Knut.Builder.add b = ys.foldl Knut.Builder.add (xs.foldl Knut.Builder.add b) := List.foldl_append

theorem ext2_ne_eof (cur : String → Bool) (ext2 : String → commodity.Commodity × Option Error)
    (h2v : ∀ s, Import.validCommodity s = true → ext2 s = (commodityGo cur s, none))
    (h2e : ∀ s, Import.validCommodity s = false → ∃ e, (ext2 s).2 = some e ∧ e ≠ eof) (s : String) : (ext2 s).2 ≠ some eof := by
  cases hv : Import.validCommodity s with
  | true => rw [h2v s hv]; simp
  | false =>
    obtain ⟨e, he, hne⟩ := h2e s hv
    rw [he]
    intro h
    exact hne (Option.some.inj h)

/-- the records after the header as the reader delivers them (`FieldsPerRecord = -1`) -/
def free (rows : List (List String)) : List (List String × Option Error) := rows.map (fun r => (r, none))

/-- the loop of `parse` on the deliveries of `rows` is `mapRows (row acct) rows` -/
theorem loop_agrees (cur : String → Bool) (acct : Knut.Account) (ext2 : String → commodity.Commodity × Option Error)
    (ext3 : account.Account)
    (h2v : ∀ s, Import.validCommodity s = true → ext2 s = (commodityGo cur s, none))
    (h2e : ∀ s, Import.validCommodity s = false → ∃ e, (ext2 s).2 = some e ∧ e ≠ eof)
    (h3 : ext3 = accountGo Import.tbd) :
    ∀ (rows : List Import.Rec) (p : supercard.parser) (b : Knut.Builder), BEquiv cur p.builder b → p.account = accountGo acct →
    match Import.mapRows (Import.Supercard.row acct) rows with
    | .ok ds => ∃ p', loop ext2 ext3 p (free rows) = .ok (p', none) ∧ p'.account = p.account ∧
        BEquiv cur p'.builder (ds.foldl Knut.Builder.add b)
    | .error => ∃ p' e, loop ext2 ext3 p (free rows) = .ok (p', some e)
    | .panic => ∃ m, loop ext2 ext3 p (free rows) = .panic m := by
  intro rows p b hb hacct
  have key := loop_mapRows (eof := eof) (L := loop ext2 ext3)
    (step := fun p rd => supercard.parser.readLine p rd (ext2 (rd.1.getD 9 "")) ext3)
    (row := Import.Supercard.row acct) (deliver := fun r => (r, none))
    (I := fun p b => BEquiv cur p.builder b ∧ p.account = accountGo acct) (Pn := fun _ o => ∃ m, o = .panic m)
    (fun _ => rfl) (fun _ _ _ => by rw [loop]) (fun _ => rfl) (fun _ _ _ ⟨m, hm⟩ => ⟨m, by rw [hm]; rfl⟩)
    (by
      intro p b r ⟨hb, hacct⟩
      have hg : r.getD 9 "" = Import.fldD r 9 := by simp [Import.fldD]
      have hrow := readLine_agrees cur p b acct r hb hacct (ext2 (Import.fldD r 9)) ext3 (h2v _)
        (fun hv => by obtain ⟨e, he, _⟩ := h2e _ hv; simp [he]) h3
      simp only [hg]
      exact tri_imp hrow (fun ds ⟨p1, hp1, hacc1, hb1⟩ => ⟨p1, hp1, hb1, hacc1.trans hacct⟩)
        (fun ⟨e, he⟩ => ⟨p, e, readLine_error_ne_eof p r _ ext3 (ext2_ne_eof cur ext2 h2v h2e _) p e he, he⟩) id)
    rows p b ⟨hb, hacct⟩
  exact tri_imp key (fun ds ⟨p', hp', hb', hacc'⟩ => ⟨p', hp', hacc'.trans hacct.symm, hb'⟩) id fun ⟨_, _, h⟩ => h

/-- `checkFirstLine` on the first record as the reader delivers it with `FieldsPerRecord = 2`: no index panic -/
theorem checkFirstLine_agrees (p : supercard.parser) (first : List String) :
    checkFirstLine p (deliverN 2 first) = .ok (p,
      if first.length ≠ 2 then some errFieldCount
      else if Import.fldD first 0 ≠ "sep=" || Import.fldD first 1 ≠ "" then some ⟨"unexpected first line %q"⟩ else none) := by
  by_cases h2 : first.length = 2
  · obtain ⟨a, b, rfl⟩ : ∃ a b, first = [a, b] := by
      rcases first with _ | ⟨a, _ | ⟨b, _ | ⟨c, r⟩⟩⟩ <;> simp at h2
      exact ⟨_, _, rfl⟩
    by_cases ha : a = "sep="
    · by_cases hb : b = ""
      · simp [checkFirstLine, deliverN, index, GoSem.Outcome.bind, fldD_get, ha, hb]
      · simp [checkFirstLine, deliverN, index, GoSem.Outcome.bind, fldD_get, ha, hb]
    · simp [checkFirstLine, deliverN, index, GoSem.Outcome.bind, fldD_get, ha]
  · simp [checkFirstLine, deliverN, h2]

/-- **`parser.parse`** of `ch.supercard` over the records of a file = `Import.Supercard.run` -/
theorem run_agrees (cur : String → Bool) (acct : Knut.Account) (ext2 : String → commodity.Commodity × Option Error)
    (ext3 : account.Account)
    (h2v : ∀ s, Import.validCommodity s = true → ext2 s = (commodityGo cur s, none))
    (h2e : ∀ s, Import.validCommodity s = false → ∃ e, (ext2 s).2 = some e ∧ e ≠ eof)
    (h3 : ext3 = accountGo Import.tbd)
    (recs : List Import.Rec) (p : supercard.parser) (b : Knut.Builder) (hb : BEquiv cur p.builder b) (hacct : p.account = accountGo acct) :
    match Import.Supercard.run acct recs with
    | .ok ds => ∃ p', parse ext2 ext3 p (deliveries recs) = .ok (p', none) ∧ p'.account = p.account ∧
        BEquiv cur p'.builder (ds.foldl Knut.Builder.add b)
    | .error => ∃ p' e, parse ext2 ext3 p (deliveries recs) = .ok (p', some e)
    | .panic => ∃ m, parse ext2 ext3 p (deliveries recs) = .panic m := by
  match recs with
  | [] => exact ⟨p, eof, rfl⟩
  | [first] =>
    have hrun : Import.Supercard.run acct [first] = .error := by simp [Import.Supercard.run]
    rw [hrun]
    show ∃ p' e, _ = _
    simp only [deliveries, parse, checkFirstLine_agrees, GoSem.Outcome.bind]
    by_cases h2 : first.length = 2
    · by_cases hs : ¬Import.fldD first 0 = "sep=" ∨ ¬Import.fldD first 1 = ""
      · exact ⟨p, ⟨"unexpected first line %q"⟩, by simp [h2, hs]⟩
      · exact ⟨p, eof, by simp [h2, hs]⟩
    · exact ⟨p, errFieldCount, by simp [h2]⟩
  | first :: header :: rows =>
    unfold Import.Supercard.run
    by_cases h2 : first.length = 2
    · by_cases hs : ¬Import.fldD first 0 = "sep=" ∨ ¬Import.fldD first 1 = ""
      · have hsb : (Import.fldD first 0 ≠ "sep=" || Import.fldD first 1 ≠ "") = true := by simpa using hs
        simp only [h2, ne_eq, not_true_eq_false, if_false, hsb, if_true]
        exact ⟨p, ⟨"unexpected first line %q"⟩, by simp [deliveries, parse, checkFirstLine_agrees, GoSem.Outcome.bind, h2, hs]⟩
      · have hsb : ¬ (Import.fldD first 0 ≠ "sep=" || Import.fldD first 1 ≠ "") = true := by simpa using hs
        by_cases h13 : header.length = 13
        · have hp : parse ext2 ext3 p (deliveries (first :: header :: rows)) = loop ext2 ext3 p (free rows) := by
            simp only [deliveries, parse, checkFirstLine_agrees, GoSem.Outcome.bind]
            simp [h2, hs, deliverN, h13, free]
          simp only [h2, ne_eq, not_true_eq_false, if_false, hsb, h13, hp]
          exact loop_agrees cur acct ext2 ext3 h2v h2e h3 rows p b hb hacct
        · simp only [h2, ne_eq, not_true_eq_false, if_false, hsb, h13, not_false_eq_true, if_true]
          exact ⟨p, errFieldCount, by
            simp only [deliveries, parse, checkFirstLine_agrees, GoSem.Outcome.bind]
            simp [h2, hs, deliverN, h13]⟩
    · simp only [h2, ne_eq, not_false_eq_true, if_true]
      exact ⟨p, errFieldCount, by simp [deliveries, parse, checkFirstLine_agrees, GoSem.Outcome.bind, h2]⟩

/-- `Commodities().Get` as a function of the name: the interned commodity, or the error `fmt.Errorf` makes -/
def getGo (cur : String → Bool) (s : String) : commodity.Commodity × Option Error :=
  if Import.validCommodity s then (commodityGo cur s, none) else (GoZero.zero, some ⟨"invalid commodity name %q"⟩)

theorem getGo_valid (cur : String → Bool) (s : String) (h : Import.validCommodity s = true) : getGo cur s = (commodityGo cur s, none) := by
  simp [getGo, h]

theorem getGo_invalid (cur : String → Bool) (s : String) (h : Import.validCommodity s = false) :
    ∃ e, (getGo cur s).2 = some e ∧ e ≠ eof := ⟨⟨"invalid commodity name %q"⟩, by simp [getGo, h], by decide⟩

/-- a statement: `sep=`, the header, a `Saldovortrag` record, a booking, an eleven-field total line -/
def sample : List Import.Rec :=
  [["sep=", ""], ["h0", "h1", "h2", "h3", "h4", "h5", "h6", "h7", "h8", "h9", "h10", "h11", "h12"],
   ["1", "2", "N", "", "Saldovortrag"],
   ["1", "2", "N", "01.02.2023", "Coop  City", "Food", "12.50", "CHF", "", "CHF", "12.50", "", "02.02.2023"],
   ["", "", "", "", "Total", "", "", "", "", "", ""]]

/-- non-vacuity: the sample statement from the fresh builder: one transaction -/
example : ∃ ds, Import.Supercard.run ⟨["Liabilities", "Card"]⟩ sample = .ok ds ∧ ds.length = 1 ∧
    ∃ p', parse (getGo (fun _ => true)) (accountGo Import.tbd) ⟨accountGo ⟨["Liabilities", "Card"]⟩, journal.New⟩
        (deliveries sample) = .ok (p', none) ∧
      BEquiv (fun _ => true) p'.builder (Knut.Builder.ofList ds) := by
  have hok : (match Import.Supercard.run ⟨["Liabilities", "Card"]⟩ sample with | .ok ds => ds.length == 1 | _ => false) = true := by
    decide +kernel
  -- the records as a variable: with the closed list in place of `recs` the elaborator would evaluate the model once more
  generalize sample = recs at hok ⊢
  have h := run_agrees (fun _ => true) ⟨["Liabilities", "Card"]⟩ (getGo (fun _ => true)) (accountGo Import.tbd)
    (getGo_valid _) (getGo_invalid _) rfl recs ⟨accountGo ⟨["Liabilities", "Card"]⟩, journal.New⟩ {} (New_agrees _) rfl
  revert h hok
  cases Import.Supercard.run ⟨["Liabilities", "Card"]⟩ recs with
  | ok ds => exact fun hok h => ⟨ds, rfl, by simpa using hok, h.imp fun p' h => ⟨h.1, h.2.2⟩⟩
  | error => simp
  | panic => simp

/-- non-vacuity of the panic clause: a record of four fields after the header -/
example : ∃ m, parse (getGo (fun _ => true)) (accountGo Import.tbd) ⟨accountGo ⟨["Liabilities", "Card"]⟩, journal.New⟩
    (deliveries [["sep=", ""], ["h0", "h1", "h2", "h3", "h4", "h5", "h6", "h7", "h8", "h9", "h10", "h11", "h12"], ["a", "b", "c", "d"]])
    = .panic m := by
  generalize hrecs : [["sep=", ""], ["h0", "h1", "h2", "h3", "h4", "h5", "h6", "h7", "h8", "h9", "h10", "h11", "h12"], ["a", "b", "c", "d"]] = recs
  have hp : Import.Supercard.run ⟨["Liabilities", "Card"]⟩ recs = .panic := by subst hrecs; decide +kernel
  have h := run_agrees (fun _ => true) ⟨["Liabilities", "Card"]⟩ (getGo (fun _ => true)) (accountGo Import.tbd)
    (getGo_valid _) (getGo_invalid _) rfl recs ⟨accountGo ⟨["Liabilities", "Card"]⟩, journal.New⟩ {} (New_agrees _) rfl
  rw [hp] at h
  exact h

end Knut.FactsAgree.TransImportSupercardRun
