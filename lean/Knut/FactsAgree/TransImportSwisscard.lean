import Knut.Generated.TransImportSwisscard
import Knut.FactsAgree.TransImportSupercard
/-!
# The translated per-record functions of `ch.swisscard` agree with `Model/Import/Cards.lean`

`cmd/importer/swisscard/swisscard.go`: `(*parser).readLine`, `parseBooking`, regenerated into `Knut/Generated/TransImportSwisscard.lean`
on every run (`harness/trans_units_import.go`).  What stays outside the translation: the `csv.Reader` (the result of `p.reader.Read()`
is the parameter `ext1 : List String × Option Error`), the loop of `parse`, flags and cobra wiring; the registry calls
`p.registry.Commodities().Get("CHF")` and `p.registry.Accounts().TBDAccount()` are parameters (their RESULTS).

| Go | theorem | model |
|---|---|---|
| prelude `Regexp.matchDate` (the package-level `regexp.MustCompile("\\d\\d.\\d\\d.\\d\\d\\d\\d")`, `.MatchString`; `GoSem/ImportStr.lean`) | `matchDate_model` (`Proofs/GoSemModel`) | `Import.dateRe` (the copy is the original; stream `lib-str` of C13) |
| prelude `Strings.TrimSpace` | `TrimSpace_model` | `Import.trimSpace` |
| prelude `Strings.replaceChfApos` (the package-level `strings.NewReplacer("CHF", "", "'", "")`, `.Replace`) | `replaceChfApos_model` (`Proofs/GoSemModel`) | `Import.Swisscard.stripChf` |
| the loop `for _, i := range []int{2, 4, 5, 6, 7, 8} { s := strings.TrimSpace(r[i]); if len(s) > 0 { words = append(words, s) } }` | `wordsBody_ok`, `words_loop` | `(… .map (trimSpace (fldD r ·))).filter (·.utf8ByteSize > 0)` |
| `parser.parseBooking` on eleven fields, both dates matching | `parseBooking_booking` (any such record), `parseBooking_11` | `booking` = the tail of `Import.Swisscard.row` (`row_eq_booking`, `row_booking`) |
| `parser.readLine` | **`readLine_agrees`**, `readLine_reader_error` | `Import.Swisscard.row` |

`readLine_agrees`: for EVERY record the reader returns without error.  The reader runs with `FieldsPerRecord = 0`: a record whose field
count differs from the first record's is a reader error (`readLine_reader_error`: returned unchanged; the model's `r.length ≠ n`), so
the model's `n` is the length of the record.  With `ext2` the result of `Get("CHF")` (the interned commodity, no error: the name is
valid) and `ext3` the TBD account: where the model's `row` answers `ok ds` (a record whose first or second field does not match the
date pattern: nothing; a booking: one transaction) the translated function returns a nil error, the parser's account untouched and a
builder that stands for the model's builder with `ds` added (`BEquiv`); where it answers `error` (both dates match but the record has
another length than eleven; date or amount does not parse) the translated function returns an error (which is not `io.EOF`: the
loop of `parse` does not take it for the end of the file) and the parser unchanged; where
it answers `panic` (no field: `r[0]`; one field that matches the pattern: `r[1]`) the translated function panics with Go's index panic.
Full agreement: no case is left out.
-/
namespace Knut.FactsAgree.TransImportSwisscard
open Knut Knut.GoSem
open Knut.Generated.Go
open Knut.FactsAgree.TransAccount Knut.FactsAgree.TransPosting Knut.FactsAgree.TransTransaction
open Knut.FactsAgree.TransProcess (AllRel TRel TRel_txGo)
open Knut.FactsAgree.TransJournal
open Knut.FactsAgree.TransImportSupercard (byteLen_pos_size fldD_get)
open Knut.Proofs.GoImport (index_fld fld_fldD)

theorem matchDate_model (s : String) : Regexp.matchDate s = Import.dateRe s := GoSem.matchDate_model s

theorem TrimSpace_model (s : String) : Strings.TrimSpace s = Import.trimSpace s := GoSem.TrimSpace_model s

theorem replaceChfApos_model (s : String) : Strings.replaceChfApos s = String.ofList (Import.Swisscard.stripChf s.toList) := GoSem.replaceChfApos_model s

theorem join_model (ws : List String) : Strings.Join ws " " = Import.joinWith " " ws := GoSem.join_model ws

/-- one round of the loop `if len(s) > 0 { words = append(words, s) }` -/
theorem words_step (ws : List String) (s : String) :
    (if decide (Strings.byteLen s > 0) = true then ws ++ [s] else ws) = ws ++ [s].filter (fun s => decide (s.utf8ByteSize > 0)) := by
  rw [byteLen_pos_size]
  by_cases h : s.utf8ByteSize > 0 <;> simp [h]

theorem words_step' (ws : List String) (s : String) :
    (if 0 < Strings.byteLen s then ws ++ [s] else ws) = ws ++ [s].filter (fun s => decide (s.utf8ByteSize > 0)) := by
  rw [← words_step]; simp

/-- the body of the loop `for _, i := range []int{…} { s := strings.TrimSpace(r[i]); if len(s) > 0 { words = append(words, s) } }`
(as generated) -/
abbrev wordsBody (r : List String) : List String → Int → GoSem.Outcome (List String) :=
  fun (st4 : (List String)) (el5 : Int) =>
    let words : (List String) := st4
    let i : Int := el5
    GoSem.Outcome.bind (index r i) (fun t7 =>
      let s : String := (Strings.TrimSpace t7)
      let words : (List String) :=
        if (decide ((Strings.byteLen s) > (0 : Int))) then
          let words : (List String) := (words ++ [s])
          words
        else
          words
      GoSem.Outcome.ok words)

theorem wordsBody_ok (r ws : List String) (i : Int) (v : String) (h : index r i = .ok v) :
    wordsBody r ws i = .ok (ws ++ [Import.trimSpace v].filter (fun s => decide (s.utf8ByteSize > 0))) := by
  simp only [wordsBody, h, GoSem.Outcome.bind]
  exact congrArg GoSem.Outcome.ok (words_step ws (Import.trimSpace v))

/-- the loop over indices inside the record -/
theorem words_loop (r : List String) (is : List Int) (ws : List String) (h : ∀ i ∈ is, 0 ≤ i ∧ i.toNat < r.length) :
    foldlE (wordsBody r) ws is
    = .ok (ws ++ (is.map (fun i => Import.trimSpace (Import.fldD r i.toNat))).filter (fun s => decide (s.utf8ByteSize > 0))) := by
  induction is generalizing ws with
  | nil => simp [foldlE]
  | cons i is ih =>
    have hi := h i (by simp)
    have hidx : index r i = .ok (Import.fldD r i.toNat) := by
      unfold index
      have : ¬ i < 0 := by omega
      simp only [this, if_false, fldD_get]
      cases hg : r[i.toNat]? with
      | none => simp at hg; omega
      | some v => rfl
    rw [foldlE, wordsBody_ok r ws i _ hidx, GoSem.Outcome.bind, ih _ (fun j hj => h j (by simp [hj]))]
    rw [List.map_cons, List.append_assoc, ← List.filter_append, List.singleton_append]

/-- the part of `Import.Swisscard.row` that follows the length check (a record of eleven fields whose first two match the date pattern) -/
def booking (acct : Knut.Account) (r : Import.Rec) : Import.Res (List Knut.Directive) := do
  let words := ([2, 4, 5, 6, 7, 8].map (fun i => Import.trimSpace (Import.fldD r i))).filter (fun s => s.utf8ByteSize > 0)
  let d ← Import.Res.ofOption (Import.parseDate Import.layoutDMYdot (Import.fldD r 0))
  let q ← Import.Res.ofOption (Import.newFromString (String.ofList (Import.Swisscard.stripChf (Import.fldD r 3).toList)))
  pure [Import.mkTx d (Import.joinWith " " words) [⟨acct, Import.tbd, "CHF", q⟩]]

/-- `parser.parseBooking` on a record of eleven fields whose first two match the date pattern -/
theorem parseBooking_booking (cur : String → Bool) (p : swisscard.parser) (b : Knut.Builder) (acct : Knut.Account) (r : Import.Rec)
    (hb : BEquiv cur p.builder b) (hacct : p.account = accountGo acct) (hr : r.length = 11)
    (hd0 : Import.dateRe (Import.fldD r 0) = true) (hd1 : Import.dateRe (Import.fldD r 1) = true)
    (ext1 : commodity.Commodity × Option Error) (ext2 : account.Account)
    (h1 : ext1 = (commodityGo cur "CHF", none)) (h2 : ext2 = accountGo Import.tbd) :
    match booking acct r with
    | .ok ds => ∃ p', swisscard.parser.parseBooking p r ext1 ext2 = .ok (p', true, none) ∧
        p'.account = p.account ∧ BEquiv cur p'.builder (ds.foldl Knut.Builder.add b)
    | .error => ∃ e, e ≠ ⟨"EOF"⟩ ∧ swisscard.parser.parseBooking p r ext1 ext2 = .ok (p, false, some e)
    | .panic => False := by
  have i0 : index r (0 : Int) = .ok (Import.fldD r 0) := index_fld (i := 0) (by omega)
  have i1 : index r (1 : Int) = .ok (Import.fldD r 1) := index_fld (i := 1) (by omega)
  have i3 : index r (3 : Int) = .ok (Import.fldD r 3) := index_fld (i := 3) (by omega)
  have e11 : decide (len r = (11 : Int)) = true := by simp [len, hr]
  unfold booking swisscard.parser.parseBooking
  simp only [matchDate_model]
  rw [words_loop _ _ _ (by simp [hr])]
  simp only [i0, i1, i3, e11, hd0, hd1, GoSem.Outcome.bind, replaceChfApos_model, Time.ParseDMYdot, Decimal.NewFromString,
    parseDMYdot_model, newFromString_model, Bool.not_true, Bool.false_eq_true, if_false, join_model]
  simp only [zero_list, List.nil_append, List.map_cons, List.map_nil, Int.reduceToNat]
  subst h1 h2
  cases Import.parseDate Import.layoutDMYdot (Import.fldD r 0) with
  | none => exact ⟨⟨"time.Parse"⟩, by decide, rfl⟩
  | some d =>
    cases Import.newFromString (String.ofList (Import.Swisscard.stripChf (Import.fldD r 3).toList)) with
    | none => exact ⟨⟨"can't convert %s to decimal"⟩, by decide, rfl⟩
    | some q =>
      obtain ⟨t, ht, hbuild⟩ := TransImportSupercard.built_tx cur acct Import.tbd d
        (Import.joinWith " " (List.filter (fun s => decide (s.utf8ByteSize > 0))
          [Import.trimSpace (Import.fldD r 2), Import.trimSpace (Import.fldD r 4), Import.trimSpace (Import.fldD r 5),
            Import.trimSpace (Import.fldD r 6), Import.trimSpace (Import.fldD r 7), Import.trimSpace (Import.fldD r 8)])) "CHF" q
      obtain ⟨g', hg, hbe⟩ := Add_agrees cur hb (.Transaction (txGo cur GoZero.zero GoZero.zero t)) (.tx t) (TRel_txGo cur _ _ t)
      simp only [Import.Res.ofOption, Import.Res.bind_ok, Import.Res.pure_eq, Option.isSome_none, Bool.false_eq_true, if_false]
      rw [hacct, ht, hbuild, hg]
      exact ⟨_, rfl, rfl, by simpa using hbe⟩

theorem parseBooking_11 (cur : String → Bool) (p : swisscard.parser) (b : Knut.Builder) (acct : Knut.Account)
    (f0 f1 f2 f3 f4 f5 f6 f7 f8 f9 f10 : String)
    (hb : BEquiv cur p.builder b) (hacct : p.account = accountGo acct)
    (hd0 : Import.dateRe f0 = true) (hd1 : Import.dateRe f1 = true)
    (ext1 : commodity.Commodity × Option Error) (ext2 : account.Account)
    (h1 : ext1 = (commodityGo cur "CHF", none)) (h2 : ext2 = accountGo Import.tbd) :
    match booking acct [f0, f1, f2, f3, f4, f5, f6, f7, f8, f9, f10] with
    | .ok ds => ∃ p', swisscard.parser.parseBooking p [f0, f1, f2, f3, f4, f5, f6, f7, f8, f9, f10] ext1 ext2 = .ok (p', true, none) ∧
        p'.account = p.account ∧ BEquiv cur p'.builder (ds.foldl Knut.Builder.add b)
    | .error => ∃ e, e ≠ ⟨"EOF"⟩ ∧ swisscard.parser.parseBooking p [f0, f1, f2, f3, f4, f5, f6, f7, f8, f9, f10] ext1 ext2 = .ok (p, false, some e)
    | .panic => False :=
  parseBooking_booking cur p b acct [f0, f1, f2, f3, f4, f5, f6, f7, f8, f9, f10] hb hacct rfl hd0 hd1 ext1 ext2 h1 h2

theorem row_eq_booking (acct : Knut.Account) (r : Import.Rec) (hr : r.length = 11)
    (hd0 : Import.dateRe (Import.fldD r 0) = true) (hd1 : Import.dateRe (Import.fldD r 1) = true) :
    Import.Swisscard.row acct 11 r = booking acct r := by
  unfold Import.Swisscard.row booking
  simp [fld_fldD (r := r) (i := 0) (by omega), fld_fldD (r := r) (i := 1) (by omega), hr, hd0, hd1]

theorem row_booking (acct : Knut.Account) (f0 f1 f2 f3 f4 f5 f6 f7 f8 f9 f10 : String)
    (hd0 : Import.dateRe f0 = true) (hd1 : Import.dateRe f1 = true) :
    Import.Swisscard.row acct 11 [f0, f1, f2, f3, f4, f5, f6, f7, f8, f9, f10] = booking acct [f0, f1, f2, f3, f4, f5, f6, f7, f8, f9, f10] :=
  row_eq_booking acct _ rfl hd0 hd1

theorem readLine_eq (p : swisscard.parser) (r : List String) (ext2 : commodity.Commodity × Option Error) (ext3 : account.Account) :
    swisscard.parser.readLine p (r, none) ext2 ext3 =
      GoSem.Outcome.bind (swisscard.parser.parseBooking p r ext2 ext3) (fun t => if (t.2.1 || t.2.2.isSome) then .ok (t.1, t.2.2) else .ok (t.1, none)) := rfl

/-- **`parser.readLine`** of `ch.swisscard` on a record the reader returned without error (`FieldsPerRecord = 0`: every record has the
field count of the first one; the model's `n` is therefore the length of the record itself) -/
theorem readLine_agrees (cur : String → Bool) (p : swisscard.parser) (b : Knut.Builder) (acct : Knut.Account) (r : Import.Rec)
    (hb : BEquiv cur p.builder b) (hacct : p.account = accountGo acct)
    (ext2 : commodity.Commodity × Option Error) (ext3 : account.Account)
    (h2 : ext2 = (commodityGo cur "CHF", none)) (h3 : ext3 = accountGo Import.tbd) :
    match Import.Swisscard.row acct r.length r with
    | .ok ds => ∃ p', swisscard.parser.readLine p (r, none) ext2 ext3 = .ok (p', none) ∧ p'.account = p.account ∧
        BEquiv cur p'.builder (ds.foldl Knut.Builder.add b)
    | .error => ∃ e, e ≠ ⟨"EOF"⟩ ∧ swisscard.parser.readLine p (r, none) ext2 ext3 = .ok (p, some e)
    | .panic => ∃ m, swisscard.parser.readLine p (r, none) ext2 ext3 = .panic m := by
  rw [readLine_eq]
  rcases r with _ | ⟨f0, _ | ⟨f1, rest⟩⟩
  · -- no field: `r[0]` panics
    exact ⟨"runtime error: index out of range", rfl⟩
  · by_cases hd0 : Import.dateRe f0 = true
    · -- one field that matches: `r[1]` panics
      have hrow : Import.Swisscard.row acct [f0].length [f0] = .panic := by simp [Import.Swisscard.row, Import.fld, hd0]
      rw [hrow]
      exact ⟨"runtime error: index out of range", by simp [swisscard.parser.parseBooking, index, GoSem.Outcome.bind, matchDate_model, hd0]⟩
    · have hrow : Import.Swisscard.row acct [f0].length [f0] = .ok [] := by simp [Import.Swisscard.row, Import.fld, hd0]
      rw [hrow]
      exact ⟨p, by simp [swisscard.parser.parseBooking, index, GoSem.Outcome.bind, matchDate_model, hd0], rfl, hb⟩
  · by_cases hd : Import.dateRe f0 = true ∧ Import.dateRe f1 = true
    · obtain ⟨hd0, hd1⟩ := hd
      by_cases hlen : rest.length = 9
      · have hr : (f0 :: f1 :: rest).length = 11 := by simp [hlen]
        have hpb := parseBooking_booking cur p b acct _ hb hacct hr hd0 hd1 ext2 ext3 h2 h3
        rw [hr, row_eq_booking acct _ hr hd0 hd1]
        revert hpb
        cases booking acct (f0 :: f1 :: rest) with
        | ok ds => exact fun ⟨p', hp', hrest⟩ => ⟨p', by rw [hp']; rfl, hrest⟩
        | error => exact fun ⟨e, hne, he⟩ => ⟨e, hne, by rw [he]; rfl⟩
        | panic => exact False.elim
      · have hrow : Import.Swisscard.row acct (f0 :: f1 :: rest).length (f0 :: f1 :: rest) = .error := by
          simp [Import.Swisscard.row, Import.fld, hd0, hd1, hlen]
        rw [hrow]
        have h11 : ¬ ((rest.length : Int) + 1 + 1 = 11) := by omega
        exact ⟨⟨"expected 11 items, got %v"⟩, by decide, by simp [swisscard.parser.parseBooking, index, GoSem.Outcome.bind, matchDate_model, hd0, hd1, h11]⟩
    · have hd' : Import.dateRe f0 = true → Import.dateRe f1 = false := fun h0 => by simpa [h0] using hd
      have hrow : Import.Swisscard.row acct (f0 :: f1 :: rest).length (f0 :: f1 :: rest) = .ok [] := by
        cases hd0 : Import.dateRe f0 <;> simp [Import.Swisscard.row, Import.fld, hd0, hd']
      rw [hrow]
      refine ⟨p, ?_, rfl, hb⟩
      cases hd0 : Import.dateRe f0 <;> simp [swisscard.parser.parseBooking, index, GoSem.Outcome.bind, matchDate_model, hd0, hd']

/-- an error of the reader (`io.EOF`, a parse error, a record whose field count differs from the first record's: the model's
`r.length ≠ n`) is returned unchanged -/
theorem readLine_reader_error (p : swisscard.parser) (r : List String) (e : Error) (ext2 : commodity.Commodity × Option Error)
    (ext3 : account.Account) : swisscard.parser.readLine p (r, some e) ext2 ext3 = .ok (p, some e) := rfl

/-- non-vacuity: a booking record from the fresh builder -/
example : ∃ ds, Import.Swisscard.row ⟨["Liabilities", "Card"]⟩ 11
      ["01.02.2023", "02.02.2023", " Coop ", "CHF1'234.50", "", "Food", "", "", "", "x", "y"] = .ok ds ∧ ds.length = 1 ∧
    ∃ p', swisscard.parser.readLine ⟨accountGo ⟨["Liabilities", "Card"]⟩, journal.New⟩
        (["01.02.2023", "02.02.2023", " Coop ", "CHF1'234.50", "", "Food", "", "", "", "x", "y"], none)
        (commodityGo (fun _ => true) "CHF", none) (accountGo Import.tbd)
      = .ok (p', none) ∧ BEquiv (fun _ => true) p'.builder (ds.foldl Knut.Builder.add {}) := by
  -- the record as a variable: with the closed list in place of `r` the elaborator would evaluate the model once more
  generalize hr : ["01.02.2023", "02.02.2023", " Coop ", "CHF1'234.50", "", "Food", "", "", "", "x", "y"] = r
  have hok : (match Import.Swisscard.row ⟨["Liabilities", "Card"]⟩ 11 r with | .ok ds => ds.length == 1 | _ => false) = true := by
    subst hr; decide +kernel
  have hl : r.length = 11 := by subst hr; rfl
  have h := readLine_agrees (fun _ => true) ⟨accountGo ⟨["Liabilities", "Card"]⟩, journal.New⟩ {} ⟨["Liabilities", "Card"]⟩
    r (New_agrees _) rfl (commodityGo (fun _ => true) "CHF", none) (accountGo Import.tbd) rfl rfl
  rw [hl] at h
  revert h hok
  cases Import.Swisscard.row ⟨["Liabilities", "Card"]⟩ 11 r with
  | ok ds => exact fun hok h => ⟨ds, rfl, by simpa using hok, h.imp fun p' h => ⟨h.1, h.2.2⟩⟩
  | error => simp
  | panic => simp

end Knut.FactsAgree.TransImportSwisscard
