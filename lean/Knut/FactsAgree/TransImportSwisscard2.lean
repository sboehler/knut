import Knut.Generated.TransImportSwisscard2
import Knut.FactsAgree.TransJournal
import Knut.Model.Import.Cards
import Knut.Proofs.GoImportRecords
import Knut.Proofs.GoSemModel
/-!
# The translated per-record function of `ch.swisscard2` agrees with `Model/Import/Cards.lean`

`cmd/importer/swisscard2/swisscard2.go`: `(*parser).readBooking`, regenerated into `Knut/Generated/TransImportSwisscard2.lean` on every
run (`harness/trans_units_import.go`).  What stays outside the translation: the `csv.Reader` (the result of `p.reader.Read()` is the
parameter `ext1 : List String × Option Error` — the record as `encoding/csv` decoded it, or its error), the loop of `parse`, flags and
cobra wiring; the registry calls `p.registry.Commodities().MustGet(r[währung])` and `p.registry.Accounts().TBDAccount()` are the
parameters `ext2`, `ext3` (their RESULTS; a panic inside `MustGet` happens inside the untranslated call).  `cur : String → Bool`, here and in
the other importer modules, is the `IsCurrency` flag each interned commodity name carries in the Go values (`commodityGo`,
`FactsAgree/TransPosting.lean`); the importers do not read it, every `cur` is allowed.

| Go | theorem | model |
|---|---|---|
| prelude `Time.ParseDMYdot` (`time.Parse("02.01.2006", ·)`, `GoSem/ParseLayout.lean`) | `getnum_model`, `skipDot_model`, `parseDMYdot_model` | `Import.parseDate Import.layoutDMYdot` (the copy is the original; stream `lib-date` of C13) |
| prelude `Decimal.NewFromString` | `newFromString_model` | `Import.newFromString` |
| `transaction.Builder{…, Postings: posting.Builder{…}.Build()}.Build()` | `built_tx` | `Import.mkTx` (= `txGo` of the model transaction) |
| `parser.readBooking` | `readBooking_eq` (its value on twelve fields), **`readBooking_agrees`**, `readBooking_reader_error` | `Import.Swisscard2.row` |

`readBooking_agrees`: on a record of twelve fields (what the reader with `FieldsPerRecord = 12` returns without error), with `ext3` the
TBD account and `ext2` the commodity of field 4 whenever that name is valid: where the model's `row` answers `ok ds` the translated
function returns a nil error, the parser's account untouched and a builder that stands for the model's builder with `ds` added
(`BEquiv`, through `TransJournal.Add_agrees`: the transaction added is `txGo` of the model's, `TRel`); where it answers `error`
(date or amount does not parse) the translated function returns an error and the parser unchanged; the model's `panic` occurs only
where `MustGet` is given an invalid commodity name (inside the untranslated call: nothing is claimed about the translated code then).
No index panic: all indices are below twelve.  `readBooking_reader_error`: an error of the reader (which includes a record of another
length: the model's `r.length ≠ 12`) is returned as it is.
-/
namespace Knut.FactsAgree.TransImportSwisscard2
open Knut Knut.GoSem
open Knut.Generated.Go
open Knut.FactsAgree.TransAccount Knut.FactsAgree.TransPosting Knut.FactsAgree.TransTransaction
open Knut.FactsAgree.TransProcess (AllRel TRel TRel_txGo)
open Knut.FactsAgree.TransJournal
open Knut.Proofs.GoImport (index_fld)

theorem getnum_model : ParseLayout.getnum = Import.getnum := GoSem.getnum_model
theorem daysIn_model : ParseLayout.daysIn = Import.daysIn := GoSem.daysIn_model

theorem skipDot_model (v : List Char) : Import.skipLit v ['.'] = ParseLayout.skipDot v := GoSem.skipDot_model v

theorem year4_model (els : List Import.LEl) (acc : Import.YMD) (v : List Char) :
    Import.parseEls (.year4 :: els) acc v = (ParseLayout.year4 v).bind (fun (y, v') => Import.parseEls els { acc with y := (y : Nat) } v') := GoSem.year4_model els acc v

/-- the prelude's `time.Parse("02.01.2006", ·)` is the importer models' layout interpreter on `layoutDMYdot` -/
theorem parseDMYdot_model (s : String) : ParseLayout.parseDMYdot s = Import.parseDate Import.layoutDMYdot s := GoSem.parseDMYdot_model s

/-- the prelude's `decimal.NewFromString` is the importer models' `newFromString` (as in `TransCreate.newFromString_model`) -/
theorem newFromString_model (s : String) : Parse.newFromString s = Import.newFromString s := GoSem.newFromString_model s

theorem len12 {r : List String} (h : r.length = 12) :
    ∃ f0 f1 f2 f3 f4 f5 f6 f7 f8 f9 f10 f11, r = [f0, f1, f2, f3, f4, f5, f6, f7, f8, f9, f10, f11] := by
  rcases r with _ | ⟨f0, _ | ⟨f1, _ | ⟨f2, _ | ⟨f3, _ | ⟨f4, _ | ⟨f5, _ | ⟨f6, _ | ⟨f7, _ | ⟨f8, _ | ⟨f9, _ | ⟨f10, _ | ⟨f11, _ | ⟨f12, r⟩⟩⟩⟩⟩⟩⟩⟩⟩⟩⟩⟩⟩ <;>
    simp at h
  exact ⟨_, _, _, _, _, _, _, _, _, _, _, _, rfl⟩

theorem joinWith6 (a b c d e f : String) :
    Import.joinWith " / " [a, b, c, d, e, f] = a ++ " / " ++ b ++ " / " ++ c ++ " / " ++ d ++ " / " ++ e ++ " / " ++ f := by
  unfold Import.joinWith
  rw [← String.toList_inj]
  simp

theorem built_pair (cur : String → Bool) (cr db : Knut.Account) (d : Int) (desc : String) (c : Knut.Commodity) (q : Rat) :
    ∃ t, Import.mkTx d desc [⟨cr, db, c, q⟩] = .tx t ∧
      transaction.Builder.Build ⟨GoZero.zero, d, desc,
        posting.Builder.Build ⟨GoZero.zero, q, GoZero.zero, accountGo cr, accountGo db, commodityGo cur c⟩,
        GoZero.zero⟩ = txGo cur GoZero.zero GoZero.zero t := by
  refine ⟨_, rfl, ?_⟩
  have hp := TransPosting.Builder_Build_agrees cur GoZero.zero cr db c q 0
  have hz : (GoZero.zero : Rat) = 0 := rfl
  rw [hz, hp, TransTransaction.Builder_Build_agrees]
  simp [txGo, Import.buildPostings, Import.replaceQuotes, JournalPrinter.descText]

/-- the model's transaction of a row as the Go value `transaction.Builder{…}.Build()` builds it -/
theorem built_tx (cur : String → Bool) (acct : Knut.Account) (d : Int) (desc : String) (c : Knut.Commodity) (q : Rat) :
    ∃ t, Import.mkTx d desc [⟨acct, Import.tbd, c, q⟩] = .tx t ∧
      transaction.Builder.Build ⟨GoZero.zero, d, desc,
        posting.Builder.Build ⟨GoZero.zero, q, GoZero.zero, accountGo acct, accountGo Import.tbd, commodityGo cur c⟩,
        GoZero.zero⟩ = txGo cur GoZero.zero GoZero.zero t :=
  built_pair cur acct Import.tbd d desc c q

/-- `parser.readBooking` on a record of twelve fields, as a function of its date and amount fields -/
theorem readBooking_eq (p : swisscard2.parser) {r : List String} (hr : r.length = 12) (ext2 : commodity.Commodity)
    (ext3 : account.Account) :
    swisscard2.parser.readBooking p (r, none) ext2 ext3 =
      match Import.parseDate Import.layoutDMYdot (Import.fldD r 0), Import.newFromString (Import.fldD r 5) with
      | none, _ => .ok (p, some ⟨"invalid date in record %v: %w"⟩)
      | some _, none => .ok (p, some ⟨"invalid amount in record %v: %w"⟩)
      | some d, some q => .ok ({ p with builder := (journal.Builder.Add p.builder (.Transaction (transaction.Builder.Build
          ⟨GoZero.zero, d, Import.joinWith " / "
              [Import.fldD r 1, Import.fldD r 2, Import.fldD r 10, Import.fldD r 3, Import.fldD r 11, Import.fldD r 8],
            posting.Builder.Build ⟨GoZero.zero, q, GoZero.zero, p.account, ext3, ext2⟩, GoZero.zero⟩))).1 }, none) := by
  have i0 : index r swisscard2.transaktionsdatum = .ok (Import.fldD r 0) := index_fld (i := 0) (by omega)
  have i1 : index r swisscard2.beschreibung = .ok (Import.fldD r 1) := index_fld (i := 1) (by omega)
  have i2 : index r swisscard2.Händler = .ok (Import.fldD r 2) := index_fld (i := 2) (by omega)
  have i3 : index r swisscard2.kartennummer = .ok (Import.fldD r 3) := index_fld (i := 3) (by omega)
  have i5 : index r swisscard2.betrag = .ok (Import.fldD r 5) := index_fld (i := 5) (by omega)
  have i8 : index r swisscard2.debitKredit = .ok (Import.fldD r 8) := index_fld (i := 8) (by omega)
  have i10 : index r swisscard2.händlerKategorie = .ok (Import.fldD r 10) := index_fld (i := 10) (by omega)
  have i11 : index r swisscard2.registrierteKategorie = .ok (Import.fldD r 11) := index_fld (i := 11) (by omega)
  unfold swisscard2.parser.readBooking
  simp only [i0, i1, i2, i3, i5, i8, i10, i11, Option.isSome_none, Bool.false_eq_true, if_false,
    Outcome.bind, Time.ParseDMYdot, Decimal.NewFromString, parseDMYdot_model, newFromString_model, joinWith6]
  cases Import.parseDate Import.layoutDMYdot (Import.fldD r 0) with
  | none => rfl
  | some d => cases Import.newFromString (Import.fldD r 5) <;> rfl

/-- **`parser.readBooking`** of `ch.swisscard2` on a record the reader returned (twelve fields: `FieldsPerRecord = 12`) -/
theorem readBooking_agrees (cur : String → Bool) (p : swisscard2.parser) (b : Knut.Builder) (acct : Knut.Account) (r : Import.Rec)
    (hb : BEquiv cur p.builder b) (hacct : p.account = accountGo acct) (hr : r.length = 12)
    (ext2 : commodity.Commodity) (ext3 : account.Account)
    (h2 : Import.validCommodity (Import.fldD r 4) = true → ext2 = commodityGo cur (Import.fldD r 4))
    (h3 : ext3 = accountGo Import.tbd) :
    match Import.Swisscard2.row acct r with
    | .ok ds => ∃ p', swisscard2.parser.readBooking p (r, none) ext2 ext3 = .ok (p', none) ∧ p'.account = p.account ∧
        BEquiv cur p'.builder (ds.foldl Knut.Builder.add b)
    | .error => ∃ e, swisscard2.parser.readBooking p (r, none) ext2 ext3 = .ok (p, some e)
    | .panic => Import.validCommodity (Import.fldD r 4) = false := by
  rw [readBooking_eq p hr]
  unfold Import.Swisscard2.row
  simp only [hr, ne_eq, not_true_eq_false, if_false, Import.mustCommodity]
  cases Import.parseDate Import.layoutDMYdot (Import.fldD r 0) with
  | none => exact ⟨_, rfl⟩
  | some d =>
    by_cases hc : Import.validCommodity (Import.fldD r 4) = true
    · simp only [hc, if_true, Import.Res.ofOption, Import.Res.bind_ok]
      cases Import.newFromString (Import.fldD r 5) with
      | none => exact ⟨_, rfl⟩
      | some q =>
        obtain ⟨t, ht, hbuild⟩ := built_tx cur acct d (Import.joinWith " / "
          [Import.fldD r 1, Import.fldD r 2, Import.fldD r 10, Import.fldD r 3, Import.fldD r 11, Import.fldD r 8]) (Import.fldD r 4) q
        obtain ⟨g', hg, hbe⟩ := Add_agrees cur hb (.Transaction (txGo cur GoZero.zero GoZero.zero t)) (.tx t) (TRel_txGo cur _ _ t)
        simp only [Import.Res.bind_ok, Import.Res.pure_eq]
        rw [h2 hc, h3, hacct, ht, hbuild, hg]
        exact ⟨_, rfl, rfl, by simpa using hbe⟩
    · have hc' : Import.validCommodity (Import.fldD r 4) = false := by simpa using hc
      simp only [hc', Bool.false_eq_true, if_false, Import.Res.ofOption, Import.Res.bind_ok, Import.Res.bind_panic]

/-- an error of the reader (`io.EOF`, a parse error, a record with another number of fields) is returned unchanged -/
theorem readBooking_reader_error (p : swisscard2.parser) (r : List String) (e : Error) (ext2 : commodity.Commodity) (ext3 : account.Account) :
    swisscard2.parser.readBooking p (r, some e) ext2 ext3 = .ok (p, some e) := rfl

/-- non-vacuity: the hypotheses of `readBooking_agrees` hold for the fresh builder and a concrete record -/
example : ∃ ds, Import.Swisscard2.row ⟨["Assets", "Card"]⟩ ["01.02.2023", "a", "b", "c", "CHF", "12.50", "", "", "Debit", "", "k", "l"] = .ok ds ∧
    ∃ p', swisscard2.parser.readBooking ⟨accountGo ⟨["Assets", "Card"]⟩, journal.New⟩
        (["01.02.2023", "a", "b", "c", "CHF", "12.50", "", "", "Debit", "", "k", "l"], none) (commodityGo (fun _ => true) "CHF") (accountGo Import.tbd)
      = .ok (p', none) ∧ BEquiv (fun _ => true) p'.builder (ds.foldl Knut.Builder.add {}) := by
  -- the record as a variable: with the closed list in place of `r` the elaborator would evaluate the model once more
  generalize hr : ["01.02.2023", "a", "b", "c", "CHF", "12.50", "", "", "Debit", "", "k", "l"] = r
  have hok : (match Import.Swisscard2.row ⟨["Assets", "Card"]⟩ r with | .ok _ => true | _ => false) = true := by
    subst hr; decide +kernel
  have hl : r.length = 12 := by subst hr; rfl
  have hf : Import.fldD r 4 = "CHF" := by subst hr; rfl
  have h := readBooking_agrees (fun _ => true) ⟨accountGo ⟨["Assets", "Card"]⟩, journal.New⟩ {} ⟨["Assets", "Card"]⟩
    r (New_agrees _) rfl hl (commodityGo (fun _ => true) "CHF") (accountGo Import.tbd) (fun _ => by rw [hf]) rfl
  revert h hok
  cases Import.Swisscard2.row ⟨["Assets", "Card"]⟩ r with
  | ok ds => exact fun _ h => ⟨ds, rfl, h.imp fun p' h => ⟨h.1, h.2.2⟩⟩
  | error => simp
  | panic => simp

end Knut.FactsAgree.TransImportSwisscard2
