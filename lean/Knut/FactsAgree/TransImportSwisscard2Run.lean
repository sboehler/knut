import Knut.FactsAgree.TransImportSwisscard2
/-!
# `ch.swisscard2`, run level: the translated `readBooking` folded as `parser.parse` folds it = `Import.Swisscard2.run`

`cmd/importer/swisscard2/swisscard2.go`:

```go
func (p *parser) parse() error {
	p.reader.TrimLeadingSpace = true
	p.reader.FieldsPerRecord = 12
	if err := p.readHeader(); err != nil { return err }       // readHeader: `_, err := p.reader.Read(); return err`
	for {
		err := p.readBooking()
		if err == io.EOF { return nil }
		if err != nil { return err }
	}
}
```

The loop is NOT translated (an endless `for` around a reader): `parse` below is its hand-written transcription, a fold of the
TRANSLATED `swisscard2.parser.readBooking` (`Generated/TransImportSwisscard2.lean`, regenerated on every run) over what the
`encoding/csv.Reader` delivers.  The reader stays an `ext`: its successive results are the list `reads` (`deliveries recs`), and when the
list is used up it delivers `io.EOF` (`eof`).  `deliver r`: with `FieldsPerRecord = 12` the reader returns a record of another length
together with `csv.ErrFieldCount`.  `MustGet(r[währung])` runs once per record: the callee as a function of its argument,
`ext2 : String → Commodity`; `TBDAccount()` always returns the one interned account `ext3`.

**`run_agrees`**: for every list of records, from a parser whose builder stands for a model builder `b`:
`Swisscard2.run = ok ds` ↦ `parse` returns nil, and the builder stands for `b` with `ds` added in order;
`error` ↦ `parse` returns an error; `panic` ↦ some twelve-field record has an invalid commodity name (`MustGet` panics inside the
untranslated call).  No `outOfFuel`, no index panic.

`loop_agrees` is the same statement for the loop alone from any parser state whose builder stands for a model builder `b`
(`mapRows (row acct)`); `readBooking_error_ne_eof`: the errors `readBooking` makes itself do not end the loop as `io.EOF` does.
-/
namespace Knut.FactsAgree.TransImportSwisscard2Run
open Knut Knut.GoSem
open Knut.Generated.Go
open Knut.FactsAgree.TransAccount Knut.FactsAgree.TransPosting Knut.FactsAgree.TransJournal Knut.FactsAgree.TransImportSwisscard2
open Knut.Proofs.GoImport (loop_mapRows tri_imp)

/-- `io.EOF` -/
def eof : Error := ⟨"EOF"⟩
/-- `csv.ErrFieldCount` (as `encoding/csv` wraps it in a `*csv.ParseError`) -/
def errFieldCount : Error := ⟨"wrong number of fields"⟩

/-- what `p.reader.Read()` returns for the record `r` when `FieldsPerRecord = 12` -/
def deliver (r : List String) : List String × Option Error := (r, if r.length = 12 then none else some errFieldCount)

/-- the successive results of `p.reader.Read()` on a file whose records are `recs` (then `io.EOF`) -/
def deliveries (recs : List (List String)) : List (List String × Option Error) := recs.map deliver

/-- the `for` loop of `parse`: `reads` = the results of the reader still to come, `io.EOF` after them -/
def loop (ext2 : String → commodity.Commodity) (ext3 : account.Account) :
    swisscard2.parser → List (List String × Option Error) → GoSem.Outcome (swisscard2.parser × Option Error)
  | p, [] =>
    GoSem.Outcome.bind (swisscard2.parser.readBooking p ([], some eof) (ext2 "") ext3) (fun (p', err) =>
      if err = some eof then .ok (p', none) else .ok (p', err))   -- unreachable: the reader's EOF comes back as it is
  | p, rd :: reads =>
    GoSem.Outcome.bind (swisscard2.parser.readBooking p rd (ext2 (rd.1.getD 4 "")) ext3) (fun (p', err) =>
      if err = some eof then .ok (p', none)
      else if err.isSome then .ok (p', err)
      else loop ext2 ext3 p' reads)

/-- `parser.parse`: `readHeader` (first result of the reader; its error, `io.EOF` included, is returned), then the loop -/
def parse (ext2 : String → commodity.Commodity) (ext3 : account.Account) (p : swisscard2.parser) :
    List (List String × Option Error) → GoSem.Outcome (swisscard2.parser × Option Error)
  | [] => .ok (p, some eof)
  | hd :: reads => if hd.2.isSome then .ok (p, hd.2) else loop ext2 ext3 p reads

theorem foldl_add_append (b : Knut.Builder) (xs ys : List Knut.Directive) :
    (xs ++ ys).foldl Knut.Builder.add b = ys.foldl Knut.Builder.add (xs.foldl Knut.Builder.add b) := List.foldl_append

/-- an error that `readBooking` makes itself (date, amount) is never `io.EOF` -/
theorem readBooking_error_ne_eof (p : swisscard2.parser) (r : List String) (hr : r.length = 12) (ext2 : commodity.Commodity)
    (ext3 : account.Account) (q : swisscard2.parser) (e : Error)
    (h : swisscard2.parser.readBooking p (r, none) ext2 ext3 = .ok (q, some e)) : e ≠ eof := by
  rw [readBooking_eq p hr] at h
  split at h
  · cases h; decide
  · cases h; decide
  · cases h

/-- the loop of `parse` on the deliveries of `rows` is `mapRows (row acct) rows` -/
theorem loop_agrees (cur : String → Bool) (acct : Knut.Account) (ext2 : String → commodity.Commodity) (ext3 : account.Account)
    (h2 : ∀ s, Import.validCommodity s = true → ext2 s = commodityGo cur s) (h3 : ext3 = accountGo Import.tbd) :
    ∀ (rows : List Import.Rec) (p : swisscard2.parser) (b : Knut.Builder), BEquiv cur p.builder b → p.account = accountGo acct →
    match Import.mapRows (Import.Swisscard2.row acct) rows with
    | .ok ds => ∃ p', loop ext2 ext3 p (deliveries rows) = .ok (p', none) ∧ p'.account = p.account ∧
        BEquiv cur p'.builder (ds.foldl Knut.Builder.add b)
    | .error => ∃ p' e, loop ext2 ext3 p (deliveries rows) = .ok (p', some e)
    | .panic => ∃ r ∈ rows, r.length = 12 ∧ Import.validCommodity (Import.fldD r 4) = false := by
  intro rows p b hb hacct
  have key := loop_mapRows (eof := eof) (L := loop ext2 ext3)
    (step := fun p rd => swisscard2.parser.readBooking p rd (ext2 (rd.1.getD 4 "")) ext3)
    (row := Import.Swisscard2.row acct) (deliver := deliver)
    (I := fun p b => BEquiv cur p.builder b ∧ p.account = accountGo acct)
    (Pn := fun r _ => r.length = 12 ∧ Import.validCommodity (Import.fldD r 4) = false)
    (fun _ => rfl) (fun _ _ _ => by rw [loop]) (fun _ => rfl) (fun _ _ _ h => h)
    (by
      intro p b r ⟨hb, hacct⟩
      by_cases hr : r.length = 12
      · have hg : r.getD 4 "" = Import.fldD r 4 := by simp [Import.fldD]
        have hrow := readBooking_agrees cur p b acct r hb hacct hr (ext2 (Import.fldD r 4)) ext3 (h2 _) h3
        rw [show deliver r = (r, none) by simp [deliver, hr]]
        simp only [hg]
        exact tri_imp hrow (fun ds ⟨p1, hp1, hacc1, hb1⟩ => ⟨p1, hp1, hb1, hacc1.trans hacct⟩)
          (fun ⟨e, he⟩ => ⟨p, e, readBooking_error_ne_eof p r hr _ _ p e he, he⟩) fun h => ⟨hr, h⟩
      · rw [show Import.Swisscard2.row acct r = .error by simp [Import.Swisscard2.row, hr],
          show deliver r = (r, some errFieldCount) by simp [deliver, hr]]
        exact ⟨p, errFieldCount, by decide, rfl⟩)
    rows p b ⟨hb, hacct⟩
  exact tri_imp key (fun ds ⟨p', hp', hb', hacc'⟩ => ⟨p', hp', hacc'.trans hacct.symm, hb'⟩) id id

/-- **`parser.parse`** of `ch.swisscard2` over the records of a file = `Import.Swisscard2.run` -/
theorem run_agrees (cur : String → Bool) (acct : Knut.Account) (ext2 : String → commodity.Commodity) (ext3 : account.Account)
    (h2 : ∀ s, Import.validCommodity s = true → ext2 s = commodityGo cur s) (h3 : ext3 = accountGo Import.tbd)
    (recs : List Import.Rec) (p : swisscard2.parser) (b : Knut.Builder) (hb : BEquiv cur p.builder b) (hacct : p.account = accountGo acct) :
    match Import.Swisscard2.run acct recs with
    | .ok ds => ∃ p', parse ext2 ext3 p (deliveries recs) = .ok (p', none) ∧ p'.account = p.account ∧
        BEquiv cur p'.builder (ds.foldl Knut.Builder.add b)
    | .error => ∃ p' e, parse ext2 ext3 p (deliveries recs) = .ok (p', some e)
    | .panic => ∃ r ∈ recs.tail, r.length = 12 ∧ Import.validCommodity (Import.fldD r 4) = false := by
  cases recs with
  | nil => exact ⟨p, eof, rfl⟩
  | cons hd rows =>
    unfold Import.Swisscard2.run
    by_cases hh : hd.length = 12
    · have hd' : deliver hd = (hd, none) := by simp [deliver, hh]
      have hp : parse ext2 ext3 p (deliveries (hd :: rows)) = loop ext2 ext3 p (deliveries rows) := by
        simp [deliveries, parse, hd']
      simp only [hh, ne_eq, not_true_eq_false, if_false, hp, List.tail_cons]
      exact loop_agrees cur acct ext2 ext3 h2 h3 rows p b hb hacct
    · simp only [hh, ne_eq, not_false_eq_true, if_true]
      exact ⟨p, errFieldCount, by simp [deliveries, parse, deliver, hh]⟩

/-- non-vacuity: a header and one booking record, from the fresh builder -/
example : ∃ ds, Import.Swisscard2.run ⟨["Assets", "Card"]⟩ [["h0", "h1", "h2", "h3", "h4", "h5", "h6", "h7", "h8", "h9", "h10", "h11"],
      ["01.02.2023", "a", "b", "c", "CHF", "12.50", "", "", "Debit", "", "k", "l"]] = .ok ds ∧
    ∃ p', parse (commodityGo (fun _ => true)) (accountGo Import.tbd) ⟨accountGo ⟨["Assets", "Card"]⟩, journal.New⟩
        (deliveries [["h0", "h1", "h2", "h3", "h4", "h5", "h6", "h7", "h8", "h9", "h10", "h11"],
          ["01.02.2023", "a", "b", "c", "CHF", "12.50", "", "", "Debit", "", "k", "l"]]) = .ok (p', none) ∧
      BEquiv (fun _ => true) p'.builder (Knut.Builder.ofList ds) := by
  -- the records as a variable: with the closed list in place of `recs` the elaborator would evaluate the model once more
  generalize hrecs : [["h0", "h1", "h2", "h3", "h4", "h5", "h6", "h7", "h8", "h9", "h10", "h11"],
      ["01.02.2023", "a", "b", "c", "CHF", "12.50", "", "", "Debit", "", "k", "l"]] = recs
  have hok : (match Import.Swisscard2.run ⟨["Assets", "Card"]⟩ recs with | .ok _ => true | _ => false) = true := by
    subst hrecs; decide +kernel
  have h := run_agrees (fun _ => true) ⟨["Assets", "Card"]⟩ (commodityGo (fun _ => true)) (accountGo Import.tbd) (fun _ _ => rfl) rfl
    recs ⟨accountGo ⟨["Assets", "Card"]⟩, journal.New⟩ {} (New_agrees _) rfl
  revert h hok
  cases Import.Swisscard2.run ⟨["Assets", "Card"]⟩ recs with
  | ok ds => exact fun _ h => ⟨ds, rfl, h.imp fun p' h => ⟨h.1, h.2.2⟩⟩
  | error => simp
  | panic => simp

end Knut.FactsAgree.TransImportSwisscard2Run
