import Knut.FactsAgree.TransImportSwisscard
import Knut.FactsAgree.TransImportSupercardRun
/-!
# `ch.swisscard`, run level: the translated `readLine` folded as `parser.parse` folds it = `Import.Swisscard.run`

`cmd/importer/swisscard/swisscard.go`:

```go
func (p *parser) parse() error {
	p.reader.TrimLeadingSpace = true
	for {
		err := p.readLine()
		if err == io.EOF { return nil }
		if err != nil { return err }
	}
}
```

`parse` is NOT translated (an endless `for` around a reader): `loop` below is its hand-written transcription, folding the TRANSLATED
`swisscard.parser.readLine` (`Generated/TransImportSwisscard.lean`, regenerated on every run) over what the `encoding/csv.Reader`
delivers.  The reader stays an `ext`; what is read by hand: it runs with `FieldsPerRecord = 0`, so the first record fixes the field
count `n` and every later record of another length comes together with `csv.ErrFieldCount` (`deliveries`); when the list is used up the
reader delivers `io.EOF`.  `Commodities().Get("CHF")` always returns the interned commodity (`ext2`), `TBDAccount()` the one interned
account `ext3`.

**`run_agrees`**: for every list of records, from a parser whose builder stands for a model builder `b`:
`Swisscard.run = ok ds` ↦ `parse` returns nil and the builder stands for `b` with `ds` added in order; `error` ↦ `parse` returns an
error; `panic` ↦ `parse` panics (Go's index panic in `r[0]` on a record without fields — which `encoding/csv` never delivers — or in
`r[1]` on a one-field record that matches the date pattern).  Full agreement, no `outOfFuel`.
-/
namespace Knut.FactsAgree.TransImportSwisscardRun
open Knut Knut.GoSem
open Knut.Generated.Go
open Knut.FactsAgree.TransAccount Knut.FactsAgree.TransPosting Knut.FactsAgree.TransJournal Knut.FactsAgree.TransImportSwisscard
open Knut.FactsAgree.TransImportSupercardRun (eof errFieldCount deliverN)
open Knut.Proofs.GoImport (loop_mapRows tri_imp)

/-- the successive results of `p.reader.Read()` on a file whose records are `recs` with `FieldsPerRecord = 0`: the length of the
first record is required of all -/
def deliveries (recs : List (List String)) : List (List String × Option Error) :=
  recs.map (deliverN ((recs.head?.map List.length).getD 0))

/-- the `for` loop of `parse`: `reads` = the results of the reader still to come, `io.EOF` after them -/
def loop (ext2 : commodity.Commodity × Option Error) (ext3 : account.Account) :
    swisscard.parser → List (List String × Option Error) → GoSem.Outcome (swisscard.parser × Option Error)
  | p, [] =>
    GoSem.Outcome.bind (swisscard.parser.readLine p ([], some eof) ext2 ext3) (fun (p', err) =>
      if err = some eof then .ok (p', none) else .ok (p', err))
  | p, rd :: reads =>
    GoSem.Outcome.bind (swisscard.parser.readLine p rd ext2 ext3) (fun (p', err) =>
      if err = some eof then .ok (p', none)
      else if err.isSome then .ok (p', err)
      else loop ext2 ext3 p' reads)

/-- the loop of `parse` on the deliveries of `rows` (required length `n`) is `mapRows (row acct n) rows` -/
theorem loop_agrees (cur : String → Bool) (acct : Knut.Account) (n : Nat) (ext2 : commodity.Commodity × Option Error)
    (ext3 : account.Account) (h2 : ext2 = (commodityGo cur "CHF", none)) (h3 : ext3 = accountGo Import.tbd) :
    ∀ (rows : List Import.Rec) (p : swisscard.parser) (b : Knut.Builder), BEquiv cur p.builder b → p.account = accountGo acct →
    match Import.mapRows (Import.Swisscard.row acct n) rows with
    | .ok ds => ∃ p', loop ext2 ext3 p (rows.map (deliverN n)) = .ok (p', none) ∧ p'.account = p.account ∧
        BEquiv cur p'.builder (ds.foldl Knut.Builder.add b)
    | .error => ∃ p' e, loop ext2 ext3 p (rows.map (deliverN n)) = .ok (p', some e)
    | .panic => ∃ m, loop ext2 ext3 p (rows.map (deliverN n)) = .panic m := by
  intro rows p b hb hacct
  have key := loop_mapRows (eof := eof) (L := loop ext2 ext3) (step := fun p rd => swisscard.parser.readLine p rd ext2 ext3)
    (row := Import.Swisscard.row acct n) (deliver := deliverN n)
    (I := fun p b => BEquiv cur p.builder b ∧ p.account = accountGo acct) (Pn := fun _ o => ∃ m, o = .panic m)
    (fun _ => rfl) (fun _ _ _ => by rw [loop]) (fun _ => rfl) (fun _ _ _ ⟨m, hm⟩ => ⟨m, by rw [hm]; rfl⟩)
    (by
      intro p b r ⟨hb, hacct⟩
      by_cases hn : r.length = n
      · have hrow := readLine_agrees cur p b acct r hb hacct ext2 ext3 h2 h3
        rw [hn] at hrow
        rw [show deliverN n r = (r, none) by simp [deliverN, hn]]
        exact tri_imp hrow (fun ds ⟨p1, hp1, hacc1, hb1⟩ => ⟨p1, hp1, hb1, hacc1.trans hacct⟩) (fun ⟨e, hne, he⟩ => ⟨p, e, hne, he⟩) id
      · -- another field count than the first record's: the reader's `csv.ErrFieldCount`
        rw [show Import.Swisscard.row acct n r = .error by simp [Import.Swisscard.row, hn],
          show deliverN n r = (r, some errFieldCount) by simp [deliverN, hn]]
        exact ⟨p, errFieldCount, by decide, rfl⟩)
    rows p b ⟨hb, hacct⟩
  exact tri_imp key (fun ds ⟨p', hp', hb', hacc'⟩ => ⟨p', hp', hacc'.trans hacct.symm, hb'⟩) id fun ⟨_, _, h⟩ => h

/-- **`parser.parse`** of `ch.swisscard` over the records of a file = `Import.Swisscard.run` -/
theorem run_agrees (cur : String → Bool) (acct : Knut.Account) (ext2 : commodity.Commodity × Option Error) (ext3 : account.Account)
    (h2 : ext2 = (commodityGo cur "CHF", none)) (h3 : ext3 = accountGo Import.tbd)
    (recs : List Import.Rec) (p : swisscard.parser) (b : Knut.Builder) (hb : BEquiv cur p.builder b) (hacct : p.account = accountGo acct) :
    match Import.Swisscard.run acct recs with
    | .ok ds => ∃ p', loop ext2 ext3 p (deliveries recs) = .ok (p', none) ∧ p'.account = p.account ∧
        BEquiv cur p'.builder (ds.foldl Knut.Builder.add b)
    | .error => ∃ p' e, loop ext2 ext3 p (deliveries recs) = .ok (p', some e)
    | .panic => ∃ m, loop ext2 ext3 p (deliveries recs) = .panic m :=
  loop_agrees cur acct _ ext2 ext3 h2 h3 recs p b hb hacct

/-- a statement: a title line, a booking, a line whose second field is no date — all of eleven fields -/
def sample : List Import.Rec :=
  [["Transaction date", "Booking date", "Text", "Amount", "a", "b", "c", "d", "e", "f", "g"],
   ["01.02.2023", "02.02.2023", " Coop ", "CHF1'234.50", "", "Food", "", "", "", "x", "y"],
   ["01.02.2023", "", "Total", "", "", "", "", "", "", "", ""]]

/-- non-vacuity: the sample statement from the fresh builder: one transaction -/
example : ∃ ds, Import.Swisscard.run ⟨["Liabilities", "Card"]⟩ sample = .ok ds ∧ ds.length = 1 ∧
    ∃ p', loop (commodityGo (fun _ => true) "CHF", none) (accountGo Import.tbd) ⟨accountGo ⟨["Liabilities", "Card"]⟩, journal.New⟩
        (deliveries sample) = .ok (p', none) ∧
      BEquiv (fun _ => true) p'.builder (Knut.Builder.ofList ds) := by
  have hok : (match Import.Swisscard.run ⟨["Liabilities", "Card"]⟩ sample with | .ok ds => ds.length == 1 | _ => false) = true := by
    decide +kernel
  -- the records as a variable: with the closed list in place of `recs` the elaborator would evaluate the model once more
  generalize sample = recs at hok ⊢
  have h := run_agrees (fun _ => true) ⟨["Liabilities", "Card"]⟩ (commodityGo (fun _ => true) "CHF", none) (accountGo Import.tbd)
    rfl rfl recs ⟨accountGo ⟨["Liabilities", "Card"]⟩, journal.New⟩ {} (New_agrees _) rfl
  revert h hok
  cases Import.Swisscard.run ⟨["Liabilities", "Card"]⟩ recs with
  | ok ds => exact fun hok h => ⟨ds, rfl, by simpa using hok, h.imp fun p' h => ⟨h.1, h.2.2⟩⟩
  | error => simp
  | panic => simp

/-- non-vacuity of the panic clause: a one-field record that matches the date pattern -/
example : ∃ m, loop (commodityGo (fun _ => true) "CHF", none) (accountGo Import.tbd) ⟨accountGo ⟨["Liabilities", "Card"]⟩, journal.New⟩
    (deliveries [["01.02.2023"]]) = .panic m := by
  have hp : Import.Swisscard.run ⟨["Liabilities", "Card"]⟩ [["01.02.2023"]] = .panic := by decide +kernel
  generalize [["01.02.2023"]] = recs at hp ⊢
  have h := run_agrees (fun _ => true) ⟨["Liabilities", "Card"]⟩ (commodityGo (fun _ => true) "CHF", none) (accountGo Import.tbd)
    rfl rfl recs ⟨accountGo ⟨["Liabilities", "Card"]⟩, journal.New⟩ {} (New_agrees _) rfl
  rw [hp] at h
  exact h

end Knut.FactsAgree.TransImportSwisscardRun
