import Knut.Generated.TransJPrinter
import Knut.FactsAgree.RelDay
import Knut.Proofs.DescText
import Knut.Proofs.StrBytes
/-!
# The translated printer of model directives (`lib/journal/printer`) agrees with `Model/JournalPrinter.lean`

`lib/journal/printer/printer.go` is regenerated into `Knut/Generated/TransJPrinter.lean` on every run
(`harness/trans_units_jprinter.go`): the `io.Writer` of the `Printer` is the text written so far, `fmt.Fprintf(p, …)` and
`io.WriteString(p, s)` are `p.Write(text)` for the formatted text (prelude `Knut/GoSem/Fmt.lean`: `Fmt.pad`,
`Time.FormatISO`, `Strings.Join`, `Writer.Write`), `t.Targets != nil` reads the `Option` that `Targets` is.

Every theorem says: the translated method, on a printer `p` and a Go value that stands for a model value (relations `TRel`,
`OpenRel`, … of `FactsAgree/Rel.lean`, `RelDay.lean`: all `Src` pointers arbitrary), returns the printer that **wrote** the model's text
(`wrote p text`: the text appended to the writer, its byte length added to `count`), the byte length as `n`, and no error.

Invariant stated in the theorems (and nowhere hidden):
* `DateOK d`: `0 ≤ year d` — `Time.Format` prints a sign for negative years, the model's `fmtDate` does not (the journal syntax has
  four-digit years only).
-/
namespace Knut.FactsAgree.TransJPrinter
open Knut Knut.GoSem
open Knut.Generated.Go
open Knut.FactsAgree.TransAccount Knut.FactsAgree.TransPosting Knut.FactsAgree.TransTransaction
open Knut.FactsAgree.TransProcess (AllRel TRel PRel PriceRel priceGo)
open Knut.FactsAgree.TransCheck (openGo closeGo balanceGo)
open Knut.FactsAgree.TransJournal (OpenRel CloseRel BalRel AssertRel DayRel DirRel)

theorem byteLen_append (a b : String) : Strings.byteLen (a ++ b) = Strings.byteLen a + Strings.byteLen b := by
  simp [Strings.byteLen, String.toList_append, List.map_append, List.sum_append]

theorem byteLen_empty : Strings.byteLen "" = 0 := rfl

/-- the printer after it wrote `text` -/
def wrote (p : printer.Printer) (text : String) : printer.Printer :=
  { p with writer := p.writer ++ text, count := p.count + Strings.byteLen text }

theorem wrote_wrote (p : printer.Printer) (a b : String) : wrote (wrote p a) b = wrote p (a ++ b) := by
  simp [wrote, byteLen_append, String.append_assoc, Int.add_assoc]

theorem wrote_empty (p : printer.Printer) : wrote p "" = p := by
  simp [wrote, byteLen_empty]

@[simp] theorem wrote_padding (p : printer.Printer) (a : String) : (wrote p a).padding = p.padding := rfl
@[simp] theorem wrote_count (p : printer.Printer) (a : String) : (wrote p a).count = p.count + Strings.byteLen a := rfl
theorem wrote_count_sub (p : printer.Printer) (a : String) : (wrote p a).count - p.count = Strings.byteLen a := by
  simp only [wrote]; omega
theorem index_singleton {α : Type} (x : α) : index [x] (0 : Int) = .ok x := rfl
@[simp] theorem wrote_writer (p : printer.Printer) (a : String) : (wrote p a).writer = p.writer ++ a := rfl

/-- **`Printer.Write`**: the text is appended, the count grows by its byte length, no error -/
theorem Write_agrees (p : printer.Printer) (bs : String) :
    printer.Printer.Write p bs = (wrote p bs, Strings.byteLen bs, none) := by
  simp [printer.Printer.Write, Writer.Write, wrote]

theorem New_agrees (w : String) : printer.New w = ⟨w, 0, 0⟩ := rfl

/-! ## the primitives of the prelude against the model's helpers -/

/-- dates that `fmtDate` prints as `Time.Format` does -/
def DateOK (d : Int) : Prop := 0 ≤ Date.year d

theorem spaces_sub (w : Int) (s : String) (h0 : 0 ≤ w) :
    Fmt.spaces (w - (s.length : Int)) = String.ofList (List.replicate (w.toNat - s.length) ' ') := by
  have : (w - (s.length : Int)).toNat = w.toNat - s.length := by omega
  rw [Fmt.spaces, this]

theorem pad_right (w : Int) (s : String) (h0 : 0 ≤ w) :
    Fmt.pad true w s = JournalPrinter.padRight s w.toNat := by
  rw [Fmt.pad, if_pos rfl, spaces_sub w s h0, JournalPrinter.padRight, JournalPrinter.runeLen]

theorem pad_left (w : Int) (s : String) (h0 : 0 ≤ w) :
    Fmt.pad false w s = JournalPrinter.padLeft s w.toNat := by
  rw [Fmt.pad, if_neg Bool.false_ne_true, spaces_sub w s h0, JournalPrinter.padLeft, JournalPrinter.runeLen]

theorem padStar_right (w : Int) (s : String) (h0 : 0 ≤ w) (h1 : w ≤ 1000000) :
    Fmt.padStar true w s = JournalPrinter.padRight s w.toNat := by
  unfold Fmt.padStar
  have a : ¬ (w > 1000000 ∨ w < -1000000) := by omega
  have b : ¬ w < 0 := by omega
  simp only [a, b, if_false]
  exact pad_right w s h0

theorem appendInt_pad (x : Int) (w : Nat) (h : 0 ≤ x) : Time.appendInt x w = BalanceReport.pad x.toNat w := by
  unfold Time.appendInt BalanceReport.pad
  have a : ¬ x < 0 := by omega
  have b : x.natAbs = x.toNat := by omega
  simp [a, b]

/-- `t.Format("2006-01-02")` is the model's `fmtDate` from year 0 on -/
theorem FormatISO_agrees (d : Int) (h : DateOK d) : Time.FormatISO d = JournalPrinter.fmtDate d := by
  unfold Time.FormatISO JournalPrinter.fmtDate BalanceReport.fmtDate
  have hm := (Date.month_bounds d).1
  have hd := Date.day_pos d
  rw [appendInt_pad _ _ h, appendInt_pad _ _ (by omega), appendInt_pad _ _ (by omega)]
  simp [toString, String.append_assoc]

theorem Join_agrees (xs : List String) (sep : String) : Strings.Join xs sep = String.intercalate sep xs := rfl

theorem Account_String (a : Knut.Account) : account.Account.String (accountGo a) = a.name := rfl
theorem Commodity_Name (cur : String → Bool) (c : Knut.Commodity) : commodity.Commodity.Name (commodityGo cur c) = c := rfl

theorem join_map_singleton (cs : List Char) (f : Char → Char) :
    String.join (cs.map (fun c => String.singleton (f c))) = String.ofList (cs.map f) := by
  induction cs with
  | nil => rfl
  | cons c rest ih =>
    rw [List.map_cons, String.join_cons, ih]
    apply String.toList_injective
    simp

theorem join_replicate_space (k : Nat) : String.join (List.replicate k " ") = String.ofList (List.replicate k ' ') := by
  have := join_map_singleton (List.replicate k ' ') id
  rwa [List.map_replicate, List.map_replicate] at this

/-- **`padRight`** (the helper of `printPosting`): blanks up to `n` runes, for every `n` -/
theorem padRight_agrees (s : String) (n : Int) : printer.padRight s n = JournalPrinter.padRight s n.toNat := by
  unfold printer.padRight JournalPrinter.padRight JournalPrinter.runeLen
  simp only [Strings.RuneCount, Strings.Repeat]
  by_cases h : (s.length : Int) < n
  · have e : (n - (s.length : Int)).toNat = n.toNat - s.length := by omega
    simp only [h, decide_true, if_true, e, join_replicate_space]
  · have e : n.toNat - s.length = 0 := by omega
    simp [h, e]

/-- **`printPosting`** (`%s %s %10s %s` of the padded Other, the padded Account, Quantity, Commodity) -/
theorem printPosting_agrees (cur : String → Bool) (p : printer.Printer) (g : posting.Posting) (q : Knut.Posting)
    (hr : PRel cur g q) :
    printer.Printer.printPosting p g =
      (wrote p (JournalPrinter.printPosting p.padding.toNat q), Strings.byteLen (JournalPrinter.printPosting p.padding.toNat q), none) := by
  unfold PRel at hr
  rw [hr]
  simp only [printer.Printer.printPosting, Write_agrees, postingGo, Account_String, Commodity_Name, Decimal.String,
    padRight_agrees, pad_left 10 _ (by omega), JournalPrinter.printPosting]
  rfl

theorem printOpen_agrees (p : printer.Printer) (g : open_.Open) (o : Knut.Open) (hr : OpenRel g o) (hd : DateOK o.date) :
    printer.Printer.printOpen p g =
      (wrote p (JournalPrinter.printOpen o), Strings.byteLen (JournalPrinter.printOpen o), none) := by
  unfold OpenRel at hr
  rw [hr]
  simp only [printer.Printer.printOpen, Write_agrees, openGo, Account_String, FormatISO_agrees _ hd, JournalPrinter.printOpen]

theorem printClose_agrees (p : printer.Printer) (g : close.Close) (c : Knut.Close) (hr : CloseRel g c) (hd : DateOK c.date) :
    printer.Printer.printClose p g =
      (wrote p (JournalPrinter.printClose c), Strings.byteLen (JournalPrinter.printClose c), none) := by
  unfold CloseRel at hr
  rw [hr]
  simp only [printer.Printer.printClose, Write_agrees, closeGo, Account_String, FormatISO_agrees _ hd, JournalPrinter.printClose]

theorem printPrice_agrees (cur : String → Bool) (p : printer.Printer) (g : price.Price) (pr : Knut.Price) (hr : PriceRel cur g pr)
    (hd : DateOK pr.date) :
    printer.Printer.printPrice p g =
      (wrote p (JournalPrinter.printPrice pr), Strings.byteLen (JournalPrinter.printPrice pr), none) := by
  unfold PriceRel at hr
  rw [hr]
  simp only [printer.Printer.printPrice, Write_agrees, priceGo, TransProcess.cGo_eq, Commodity_Name, FormatISO_agrees _ hd,
    JournalPrinter.printPrice, Decimal.String]

/-! ## `printAssertion` -/

/-- one balance of a multi-line assertion -/
def balLine (b : Knut.Balance) : String := "\n" ++ b.account.name ++ " " ++ Dec.showDec b.quantity ++ " " ++ b.commodity

theorem printAssertion_multi (a : Knut.Assertion) (h : a.balances.length ≠ 1) :
    JournalPrinter.printAssertion a = JournalPrinter.fmtDate a.date ++ " balance" ++ String.join (a.balances.map balLine) := by
  unfold JournalPrinter.printAssertion
  match hb : a.balances with
  | [] => rfl
  | [b] => simp [hb] at h
  | b :: c :: rest => rfl

theorem printAssertion_single (a : Knut.Assertion) (b : Knut.Balance) (h : a.balances = [b]) :
    JournalPrinter.printAssertion a = JournalPrinter.fmtDate a.date ++ " balance" ++
      (" " ++ b.account.name ++ " " ++ Dec.showDec b.quantity ++ " " ++ b.commodity) := by
  unfold JournalPrinter.printAssertion
  rw [h]

/-- the loop of `printAssertion` over the balances of a multi-line assertion -/
theorem printAssertion_range1_agrees (cur : String → Bool) (ga : assertion.Assertion) (start : Int) :
    ∀ (gbs : List assertion.Balance) (bs : List Knut.Balance) (p : printer.Printer), AllRel (BalRel cur) gbs bs →
      printer.Printer.printAssertion.range1 ga start gbs p = .ok (.next (wrote p (String.join (bs.map balLine)))) := by
  intro gbs bs p h
  induction h generalizing p with
  | nil => simp [printer.Printer.printAssertion.range1, wrote_empty]
  | @cons g b gs bs hg _ ih =>
    unfold BalRel at hg
    unfold printer.Printer.printAssertion.range1
    rw [hg]
    simp only [Write_agrees, balanceGo, Account_String, Commodity_Name, Decimal.String, Option.isSome_none, Bool.false_eq_true,
      if_false, ih, wrote_wrote, List.map_cons, String.join_cons, balLine]

/-- **`printAssertion`**: the single-balance form on one line, otherwise one line per balance -/
theorem printAssertion_agrees (cur : String → Bool) (p : printer.Printer) (g : assertion.Assertion) (a : Knut.Assertion)
    (hr : AssertRel cur g a) (hd : DateOK a.date) :
    printer.Printer.printAssertion p g =
      .ok (wrote p (JournalPrinter.printAssertion a), Strings.byteLen (JournalPrinter.printAssertion a), none) := by
  obtain ⟨hdate, hbs⟩ := hr
  have hlen := TransProcess.AllRel_length hbs
  unfold printer.Printer.printAssertion
  simp only [Write_agrees, Option.isSome_none, Bool.false_eq_true, if_false, hdate, FormatISO_agrees _ hd, len]
  by_cases h1 : g.Balances.length = 1
  · have h1' : ((g.Balances.length : Int) = 1) := by omega
    simp only [h1', decide_true, if_true]
    match hgb : g.Balances, ha : a.balances, hbs with
    | [gb], [b], .cons hg .nil =>
      unfold BalRel at hg
      rw [printAssertion_single a b ha, hg]
      simp only [index_singleton, Outcome.bind, balanceGo, Account_String, Commodity_Name, Decimal.String, wrote_wrote,
        wrote_count_sub]
    | [], _, _ => simp [hgb] at h1
    | _ :: _ :: _, _, _ => simp [hgb] at h1
  · have h1' : ¬ ((g.Balances.length : Int) = 1) := by omega
    simp only [h1', decide_false, Bool.false_eq_true, if_false]
    rw [printAssertion_range1_agrees cur g _ g.Balances a.balances _ hbs, printAssertion_multi a (by omega)]
    simp only [Outcome.bind, wrote_wrote, wrote_count_sub]

/-! ## `printTransaction` -/

/-- every other element: `alt true` drops the first, keeps the second, … (the loop `if i%2 == 0 { continue }`) -/
def alt {α : Type} : Bool → List α → List α
  | _, [] => []
  | true, _ :: xs => alt false xs
  | false, x :: xs => x :: alt true xs

theorem everyOther_eq_alt (ps : List Knut.Posting) : JournalPrinter.everyOther ps = alt true ps := by
  fun_induction JournalPrinter.everyOther ps with
  | case1 a b rest ih => simp [alt, ih]
  | case2 ps h =>
    match ps, h with
    | [], _ => rfl
    | [a], _ => rfl
    | a :: b :: rest, h => exact absurd rfl (h a b rest)

/-- the text of the postings `printTransaction` prints -/
def postingLines (pad : Nat) (ps : List Knut.Posting) : String :=
  String.join (ps.map (fun q => JournalPrinter.printPosting pad q ++ "\n"))

theorem imod2_nat (k : Nat) : (imod (k : Int) 2 = 0) ↔ k % 2 = 0 := by
  simp only [imod, Int.tmod_eq_emod_of_nonneg (Int.natCast_nonneg k)]
  omega

/-- the loop of `printTransaction` (first translation: inside the branch `t.Targets != nil`) -/
theorem printTransaction_range1_agrees (cur : String → Bool) (gt : transaction.Transaction) (start : Int) :
    ∀ (gps : List posting.Posting) (ps : List Knut.Posting) (k : Nat) (p : printer.Printer), AllRel (PRel cur) gps ps →
      printer.Printer.printTransaction.range1 gt start gps (k : Int) p =
        .next (wrote p (postingLines p.padding.toNat (alt (k % 2 == 0) ps))) := by
  intro gps ps k p h
  induction h generalizing k p with
  | nil => simp [printer.Printer.printTransaction.range1, alt, postingLines, wrote_empty]
  | @cons g q gs qs hg _ ih =>
    unfold printer.Printer.printTransaction.range1
    have hk : ((k : Int) + 1) = ((k + 1 : Nat) : Int) := by omega
    by_cases h2 : k % 2 = 0
    · have h3 : ((k + 1) % 2 == 0) = false := by simp; omega
      simp only [(imod2_nat k).mpr h2, decide_true, if_true, hk, ih, h2, beq_self_eq_true, alt, h3]
    · have h3 : ((k + 1) % 2 == 0) = true := by simp; omega
      have h4 : (k % 2 == 0) = false := by simp; omega
      have h5 : ¬ (imod (k : Int) 2 = 0) := fun e => h2 ((imod2_nat k).mp e)
      simp only [h5, decide_false, Bool.false_eq_true, if_false, printPosting_agrees cur _ g q hg, Write_agrees,
        Option.isSome_none, hk, ih, h3, h4, alt, wrote_wrote, wrote_padding, postingLines, List.map_cons, String.join_cons,
        String.append_assoc]

/-- the loop of `printTransaction` is translated once for each of the two places it is reached from: the two are one function -/
theorem printTransaction_range2_eq (gt : transaction.Transaction) (start : Int) :
    ∀ (gps : List posting.Posting) (k : Int) (p : printer.Printer),
      printer.Printer.printTransaction.range2 gt start gps k p = printer.Printer.printTransaction.range1 gt start gps k p := by
  intro gps
  induction gps with
  | nil => intro k p; rfl
  | cons g gs ih =>
    intro k p
    simp only [printer.Printer.printTransaction.range1, printer.Printer.printTransaction.range2, ih]

/-- the loop of `printTransaction` (second translation: after the branch `t.Targets != nil` was not taken) -/
theorem printTransaction_range2_agrees (cur : String → Bool) (gt : transaction.Transaction) (start : Int) :
    ∀ (gps : List posting.Posting) (ps : List Knut.Posting) (k : Nat) (p : printer.Printer), AllRel (PRel cur) gps ps →
      printer.Printer.printTransaction.range2 gt start gps (k : Int) p =
        .next (wrote p (postingLines p.padding.toNat (alt (k % 2 == 0) ps))) := by
  intro gps ps k p h
  rw [printTransaction_range2_eq]
  exact printTransaction_range1_agrees cur gt start gps ps k p h

/-- what `printTransaction` prints for the description of a Go transaction that stands for `t` (`TRel`: the description as parsed
or already with its quotes replaced) -/
theorem desc_agrees {gd td : String} (h : gd = td ∨ gd = JournalPrinter.descText td) :
    Strings.ReplaceAll gd "\"" "'" = JournalPrinter.descText td := by
  rw [ReplaceAll_quote]
  cases h with
  | inl e => rw [e]
  | inr e => rw [e, JournalPrinter.descText_idem]

theorem foldl_names (cur : String → Bool) (tg : List Knut.Commodity) (acc : List String) :
    List.foldl (fun (st : List String) (el : commodity.Commodity) => st ++ [commodity.Commodity.Name el]) acc
      (tg.map (commodityGo cur)) = acc ++ tg := by
  rw [foldl_append_singleton, List.map_map]
  exact congrArg (acc ++ ·) (List.map_id'' (fun c => Commodity_Name cur c) tg)

/-- **`printTransaction`**: the `@performance(…)` line for non-nil targets (an empty, non-nil slice prints `@performance()`), the
date and the description with `"` replaced, every other posting -/
theorem printTransaction_agrees (cur : String → Bool) (p : printer.Printer) (g : transaction.Transaction) (t : Knut.Transaction)
    (hr : TRel cur g t) (hd : DateOK t.date) :
    printer.Printer.printTransaction p g =
      (wrote p (JournalPrinter.printTx p.padding.toNat t), Strings.byteLen (JournalPrinter.printTx p.padding.toNat t), none) := by
  obtain ⟨hdate, hdesc, hps, htg⟩ := hr
  unfold printer.Printer.printTransaction JournalPrinter.printTx
  simp only [htg, hdate, FormatISO_agrees _ hd, desc_agrees hdesc, Write_agrees, Option.isSome_none, Bool.false_eq_true, if_false,
    wrote_wrote]
  have h0 : ((0 : Int)) = ((0 : Nat) : Int) := rfl
  cases htt : t.targets with
  | none =>
    simp only [Option.map_none, Option.isSome_none, Bool.false_eq_true, if_false]
    rw [h0, printTransaction_range2_agrees cur g _ _ _ 0 _ hps]
    simp only [wrote_wrote, wrote_padding, wrote_count_sub, everyOther_eq_alt, postingLines, String.append_assoc,
      String.empty_append]
    rfl
  | some tg =>
    simp only [Option.map_some, Option.isSome_some, if_true, Option.getD_some, zero_list, foldl_names, List.nil_append,
      Join_agrees]
    rw [h0, printTransaction_range1_agrees cur g _ _ _ 0 _ hps]
    simp only [wrote_wrote, wrote_padding, wrote_count_sub, everyOther_eq_alt, postingLines, String.append_assoc]
    rfl

/-! ## `PrintDirective`, `PrintDirectiveLn` -/

/-- the text of one directive (the model has one function per kind) -/
def printDirective (pad : Nat) : Knut.Directive → String
  | .price p => JournalPrinter.printPrice p
  | .opening o => JournalPrinter.printOpen o
  | .tx t => JournalPrinter.printTx pad t
  | .assertion a => JournalPrinter.printAssertion a
  | .closing c => JournalPrinter.printClose c

/-- **`PrintDirective`**: the type switch over the dynamic type of the directive -/
theorem PrintDirective_agrees (cur : String → Bool) (p : printer.Printer) (g : model.Directive) (d : Knut.Directive)
    (hr : DirRel cur g d) (hd : DateOK d.date) :
    printer.Printer.PrintDirective p g =
      .ok (wrote p (printDirective p.padding.toNat d), Strings.byteLen (printDirective p.padding.toNat d), none) := by
  unfold printer.Printer.PrintDirective
  cases g <;> cases d <;> simp only [DirRel] at hr
  · rename_i g a; simp only [printAssertion_agrees cur p g a hr hd, Outcome.bind, printDirective]
  · rename_i g c; simp only [printClose_agrees p g c hr hd, printDirective]
  · rename_i g o; simp only [printOpen_agrees p g o hr hd, printDirective]
  · rename_i g pr; simp only [printPrice_agrees cur p g pr hr hd, printDirective]
  · rename_i g t; simp only [printTransaction_agrees cur p g t hr hd, printDirective]

/-- a directive of any other dynamic type (nil included): nothing is written, the error is returned -/
theorem PrintDirective_other (p : printer.Printer) :
    printer.Printer.PrintDirective p .other = .ok (p, 0, some ⟨"unknown directive: %v"⟩) := rfl

/-- **`PrintDirectiveLn`**: the directive and a newline -/
theorem PrintDirectiveLn_agrees (cur : String → Bool) (p : printer.Printer) (g : model.Directive) (d : Knut.Directive)
    (hr : DirRel cur g d) (hd : DateOK d.date) :
    printer.Printer.PrintDirectiveLn p g =
      .ok (wrote p (printDirective p.padding.toNat d ++ "\n"), Strings.byteLen (printDirective p.padding.toNat d ++ "\n"), none) := by
  unfold printer.Printer.PrintDirectiveLn
  simp only [PrintDirective_agrees cur p g d hr hd, Outcome.bind, Option.isSome_none, Bool.false_eq_true, if_false, Write_agrees,
    wrote_wrote, wrote_count_sub]

theorem PrintDirectiveLn_other (p : printer.Printer) :
    printer.Printer.PrintDirectiveLn p .other = .ok (p, 0, some ⟨"unknown directive: %v"⟩) := by
  simp [printer.Printer.PrintDirectiveLn, PrintDirective_other, Outcome.bind]

/-! ## `UpdatePadding`, `Initialize` -/

/-- `UpdatePadding` in the model: the inner fold of `JournalPrinter.padding` -/
def padTx (m : Nat) (t : Knut.Transaction) : Nat :=
  t.postings.foldl (fun m p => max m (max (JournalPrinter.runeLen p.account.name) (JournalPrinter.runeLen p.other.name))) m

/-- `Initialize` in the model -/
def padDirs (m : Nat) (ds : List Knut.Directive) : Nat :=
  ds.foldl (fun m d => match d with | .tx t => padTx m t | _ => m) m

theorem padding_eq (days : List Knut.Day) :
    JournalPrinter.padding days = days.foldl (fun m d => d.transactions.foldl padTx m) 0 := rfl

def withPad (p : printer.Printer) (m : Nat) : printer.Printer := { p with padding := (m : Int) }

@[simp] theorem withPad_padding (p : printer.Printer) (m : Nat) : (withPad p m).padding.toNat = m := by simp [withPad]
theorem withPad_withPad (p : printer.Printer) (m k : Nat) : withPad (withPad p m) k = withPad p k := rfl
theorem withPad_self (p : printer.Printer) (h : 0 ≤ p.padding) : withPad p p.padding.toNat = p := by
  obtain ⟨w, pad, c⟩ := p
  simp only [withPad, printer.Printer.mk.injEq, true_and, and_true]
  simp only at h
  omega

/-- the padding folds: when each turn raises the padding as the model's `f` says, the fold raises it as the model's fold says -/
theorem foldl_withPad {α β : Type} {R : α → β → Prop} {F : printer.Printer → α → printer.Printer} {f : Nat → β → Nat}
    (hstep : ∀ p g x, R g x → 0 ≤ p.padding → F p g = withPad p (f p.padding.toNat x)) :
    ∀ {gs : List α} {xs : List β}, AllRel R gs xs → ∀ (p : printer.Printer), 0 ≤ p.padding →
      gs.foldl F p = withPad p (xs.foldl f p.padding.toNat) := by
  intro gs xs h
  induction h with
  | nil => intro p h0; simp [withPad_self p h0]
  | cons hg _ ih =>
    intro p h0
    rw [List.foldl_cons, List.foldl_cons, hstep p _ _ hg h0, ih _ (by simp [withPad])]
    simp [withPad_withPad]

theorem raise_eq (w : String) (c pad x : Int) :
    (if decide (pad < x) then (⟨w, x, c⟩ : printer.Printer) else ⟨w, pad, c⟩) = ⟨w, max pad x, c⟩ := by
  by_cases h : pad < x
  · rw [if_pos (decide_eq_true h), Int.max_eq_right (by omega)]
  · rw [if_neg (by simpa using h), Int.max_eq_left (by omega)]

theorem update_step (p : printer.Printer) (a b : Nat) (h0 : 0 ≤ p.padding) :
    (let p1 : printer.Printer := if decide (p.padding < (a : Int)) then { p with padding := (a : Int) } else p
     if decide (p1.padding < (b : Int)) then { p1 with padding := (b : Int) } else p1) =
      withPad p (max p.padding.toNat (max a b)) := by
  obtain ⟨w, pad, c⟩ := p
  simp only [raise_eq, withPad, printer.Printer.mk.injEq, true_and, and_true] at h0 ⊢
  omega

/-- the body of the loop of `UpdatePadding` -/
def updStep (p : printer.Printer) (pt : posting.Posting) : printer.Printer :=
  let cr : Int := Strings.RuneCount (account.Account.String pt.Account)
  let dr : Int := Strings.RuneCount (account.Account.String pt.Other)
  let p : printer.Printer := if decide (p.padding < cr) then { p with padding := cr } else p
  if decide (p.padding < dr) then { p with padding := dr } else p

theorem UpdatePadding_eq (p : printer.Printer) (g : transaction.Transaction) :
    printer.Printer.UpdatePadding p g = List.foldl updStep p g.Postings := rfl

theorem updStep_agrees (cur : String → Bool) (p : printer.Printer) (src : Ref) (q : Knut.Posting) (h0 : 0 ≤ p.padding) :
    updStep p (postingGo cur src q) =
      withPad p (max p.padding.toNat (max (JournalPrinter.runeLen q.account.name) (JournalPrinter.runeLen q.other.name))) :=
  update_step p q.account.name.length q.other.name.length h0

/-- **`UpdatePadding`**: the padding becomes the maximum of itself and the rune counts of the account names of the postings -/
theorem UpdatePadding_agrees (cur : String → Bool) (p : printer.Printer) (g : transaction.Transaction) (t : Knut.Transaction)
    (hr : TRel cur g t) (h0 : 0 ≤ p.padding) :
    printer.Printer.UpdatePadding p g = withPad p (padTx p.padding.toNat t) := by
  rw [UpdatePadding_eq]
  exact foldl_withPad (fun p g q hg h0 => by unfold PRel at hg; rw [hg]; exact updStep_agrees cur p _ q h0) hr.2.2.1 p h0

/-- the body of the loop of `Initialize` -/
def initStep (p : printer.Printer) (d : model.Directive) : printer.Printer :=
  match d with
  | .Transaction t => printer.Printer.UpdatePadding p t
  | _ => p

theorem Initialize_eq (p : printer.Printer) (gds : List model.Directive) :
    printer.Printer.Initialize p gds = List.foldl initStep p gds := by
  have e : ∀ (st : printer.Printer) (el : model.Directive),
      (match el with
        | model.Directive.Transaction t => printer.Printer.UpdatePadding st t
        | model.Directive.Assertion _ => st
        | model.Directive.Close _ => st
        | model.Directive.Open _ => st
        | model.Directive.Price _ => st
        | model.Directive.other => st) = initStep st el := by
    intro st el; cases el <;> rfl
  show List.foldl (fun st el => _) p gds = _
  induction gds generalizing p with
  | nil => rfl
  | cons g gs ih =>
    rw [List.foldl_cons, List.foldl_cons, ih]
    congr 1
    exact e p g

/-- **`Initialize`**: `UpdatePadding` for every transaction among the directives -/
theorem Initialize_agrees (cur : String → Bool) (gds : List model.Directive) (ds : List Knut.Directive)
    (h : AllRel (DirRel cur) gds ds) :
    ∀ (p : printer.Printer), 0 ≤ p.padding → printer.Printer.Initialize p gds = withPad p (padDirs p.padding.toNat ds) := by
  intro p h0
  rw [Initialize_eq]
  refine foldl_withPad (fun p g d hg h0 => ?_) h p h0
  cases g <;> cases d <;> simp only [DirRel] at hg
  · exact (withPad_self p h0).symm
  · exact (withPad_self p h0).symm
  · exact (withPad_self p h0).symm
  · exact (withPad_self p h0).symm
  · exact UpdatePadding_agrees cur p _ _ hg h0

/-! ## non-vacuity: the translated definitions evaluated on concrete directives -/

example : printer.Printer.PrintDirectiveLn ⟨"", 12, 0⟩ (.Open ⟨⟨0⟩, 738885, accountGo ⟨["Assets", "Bank"]⟩⟩)
    = .ok (⟨"2024-01-01 open Assets:Bank\n", 12, 28⟩, 28, none) := by decide +kernel

/-- an empty, non-nil `Targets` slice prints `@performance()`; the `"` of the description are replaced; of the two postings of the
booking only the second is printed, padded to 12 runes (`é` counts once) -/
example : (printer.Printer.printTransaction ⟨"", 12, 0⟩
    ⟨⟨1⟩, 738885, "say \"hi\"", [⟨⟨2⟩, -5, 0, accountGo ⟨["Assets", "Bank"]⟩, accountGo ⟨["Expenses", "Café"]⟩, ⟨"CHF", true⟩⟩,
                                 ⟨⟨2⟩, 5, 0, accountGo ⟨["Expenses", "Café"]⟩, accountGo ⟨["Assets", "Bank"]⟩, ⟨"CHF", true⟩⟩], some []⟩).1.writer
    = "@performance()\n2024-01-01 \"say 'hi'\"\nAssets:Bank  Expenses:Café          5 CHF\n" := by
  apply str_eq_ofList
  decide +kernel

end Knut.FactsAgree.TransJPrinter
