import Knut.FactsAgree.TransJPrinter
import Knut.Proofs.PrintSort
import Knut.Proofs.StrBytesGo
import Knut.FactsAgree.TransProcess
/-!
# The translated `journal.Print` agrees with `JournalPrinter.print`

`Print` (`lib/journal/journal.go`) and `Sort` (`lib/journal/process.go`), `harness/trans_units_jprinter.go`.  The `io.Writer` is moved into the printer
(`p := printer.New(w)`), so the translated `Print` returns the final text of the sink first, and `j` because `j.Process` sorts its days in place.
`j.Process(Sort(), paddingUpdater)` is an EFFECT CALL: `Journal.Process` (`cpr.Seq`: goroutines) is not translated; the new values of what it can write
through (`j`, the captured printer `p`) and its result are the parameter `ext1`.  `compare.Sort(d.Transactions, transaction.Compare)` is `sort.Slice`,
which is not stable: WHICH sorted permutation comes back is a parameter of `Sort_.DayEnd`.  Trusted rather than translated: `Journal.Process` =
`processDays` (C19 is about `cpr.Seq`), `Processor.Process` = `processDay` (as in `TransProcess`).
-/
namespace Knut.FactsAgree.TransJPrinter2
open Knut Knut.GoSem
open Knut.Generated.Go
open Knut.FactsAgree.TransAccount Knut.FactsAgree.TransPosting Knut.FactsAgree.TransTransaction
open Knut.FactsAgree.TransProcess (AllRel TRel PRel PriceRel priceGo)
open Knut.FactsAgree.TransCheck (openGo closeGo balanceGo)
open Knut.FactsAgree.TransJournal (OpenRel CloseRel BalRel AssertRel DayRel DirRel)
open Knut.FactsAgree.TransJPrinter

/-! ## the loops of `Print` over the directives of one day -/

/-- `for _, x := range xs { if _, err := p.PrintDirectiveLn(x); err != nil { return … } }` over the directives `inj x` of one kind: any
loop `L` with this unfolding equation writes the lines of the model directives the elements stand for -/
theorem printLn_loop (cur : String → Bool) (j : journal.Journal) {α β : Type} (inj : α → model.Directive) (dir : β → Knut.Directive)
    (Rel : α → β → Prop) (hdir : ∀ g x, Rel g x → DirRel cur (inj g) (dir x))
    (L : List α → printer.Printer → GoSem.Outcome (Flow printer.Printer (String × journal.Journal × Option Error)))
    (hnil : ∀ p, L [] p = .ok (.next p))
    (hcons : ∀ g gs p, L (g :: gs) p = (printer.Printer.PrintDirectiveLn p (inj g)).bind fun t =>
      (if t.2.2.isSome then GoSem.Outcome.ok (Flow.ret (t.1.writer, j, t.2.2)) else GoSem.Outcome.ok (Flow.next ())).bind fun r =>
        Flow.andThen r fun _ => L gs t.1) :
    ∀ (gs : List α) (xs : List β) (p : printer.Printer), AllRel Rel gs xs → (∀ x ∈ xs, DateOK (dir x).date) →
      L gs p = .ok (.next (wrote p (String.join (xs.map fun x => printDirective p.padding.toNat (dir x) ++ "\n")))) := by
  intro gs xs p h
  induction h generalizing p with
  | nil => intro _; rw [hnil]; simp [wrote_empty]
  | @cons g x gs xs hg _ ih =>
    intro hd
    rw [hcons, PrintDirectiveLn_agrees cur p _ _ (hdir g x hg) (hd x List.mem_cons_self)]
    simp only [Outcome.bind, Option.isSome_none, Bool.false_eq_true, if_false, Flow.andThen,
      ih _ (fun y hy => hd y (List.mem_cons_of_mem _ hy)), wrote_wrote, wrote_padding, List.map_cons, String.join_cons]

theorem Print_range2_agrees (cur : String → Bool) (j : journal.Journal) (day : journal.Day) :
    ∀ (gps : List price.Price) (ps : List Knut.Price) (p : printer.Printer), AllRel (PriceRel cur) gps ps →
      (∀ x ∈ ps, DateOK x.date) →
      journal.Print.range2 j day gps p =
        .ok (.next (wrote p (String.join (ps.map (fun x => JournalPrinter.printPrice x ++ "\n"))))) :=
  printLn_loop cur j .Price .price (PriceRel cur) (fun _ _ h => h) (journal.Print.range2 j day) (fun _ => rfl) (fun _ _ _ => rfl)

theorem Print_range3_agrees (j : journal.Journal) (day : journal.Day) :
    ∀ (gos : List open_.Open) (os : List Knut.Open) (p : printer.Printer), AllRel OpenRel gos os →
      (∀ x ∈ os, DateOK x.date) →
      journal.Print.range3 j day gos p =
        .ok (.next (wrote p (String.join (os.map (fun x => JournalPrinter.printOpen x ++ "\n"))))) :=
  printLn_loop (fun _ => false) j .Open .opening OpenRel (fun _ _ h => h) (journal.Print.range3 j day) (fun _ => rfl)
    (fun _ _ _ => rfl)

-- the two `match`es on `Flow` of this loop's body do not unify by `rfl` (those of the other three do): the equation is shown under the binders
theorem Print_range4_agrees (cur : String → Bool) (j : journal.Journal) (day : journal.Day) :
    ∀ (gts : List transaction.Transaction) (ts : List Knut.Transaction) (p : printer.Printer), AllRel (TRel cur) gts ts →
      (∀ x ∈ ts, DateOK x.date) →
      journal.Print.range4 j day gts p =
        .ok (.next (wrote p (String.join (ts.map (fun x => JournalPrinter.printTx p.padding.toNat x ++ "\n"))))) :=
  printLn_loop cur j .Transaction .tx (TRel cur) (fun _ _ h => h) (journal.Print.range4 j day) (fun _ => rfl) (fun g gs p => by
    rw [journal.Print.range4.eq_def]
    refine congrArg (GoSem.Outcome.bind _) (funext fun t => congrArg (GoSem.Outcome.bind _) (funext fun r => ?_))
    cases r <;> rfl)

theorem Print_range6_agrees (j : journal.Journal) (day : journal.Day) :
    ∀ (gcs : List close.Close) (cs : List Knut.Close) (p : printer.Printer), AllRel CloseRel gcs cs →
      (∀ x ∈ cs, DateOK x.date) →
      journal.Print.range6 j day gcs p =
        .ok (.next (wrote p (String.join (cs.map (fun x => JournalPrinter.printClose x ++ "\n"))))) :=
  printLn_loop (fun _ => false) j .Close .closing CloseRel (fun _ _ h => h) (journal.Print.range6 j day) (fun _ => rfl)
    (fun _ _ _ => rfl)

/-- the loop over the assertions of a day: `k` assertions are already printed; a multi-line assertion that is not the last of
the day is followed by a blank line -/
theorem Print_range5_agrees (cur : String → Bool) (j : journal.Journal) (day : journal.Day) :
    ∀ (gas : List assertion.Assertion) (as : List Knut.Assertion) (k : Nat) (p : printer.Printer), AllRel (AssertRel cur) gas as →
      (∀ x ∈ as, DateOK x.date) → day.Assertions.length = k + gas.length →
      journal.Print.range5 j day gas (k : Int) p = .ok (.next (wrote p (JournalPrinter.printAssertions as))) := by
  intro gas as k p h
  induction h generalizing k p with
  | nil => intro _ _; simp [journal.Print.range5, wrote_empty, JournalPrinter.printAssertions]
  | @cons g x gs xs hg hrest ih =>
    intro hd hlen
    unfold journal.Print.range5
    have hdir : DirRel cur (.Assertion g) (.assertion x) := hg
    have hbl : g.Balances.length = x.balances.length := TransProcess.AllRel_length hg.2
    have hk : ((k : Int) + 1) = ((k + 1 : Nat) : Int) := by omega
    have hl := TransProcess.AllRel_length hrest
    simp only [PrintDirectiveLn_agrees cur p _ _ hdir (hd x (by simp)), Outcome.bind, Option.isSome_none, Bool.false_eq_true,
      if_false, len, hk, printDirective, Write_agrees]
    cases hrest with
    | nil =>
      have hc : ¬ ((k : Int) < (day.Assertions.length : Int) - 1) := by simp at hlen; omega
      simp only [hc, decide_false, Bool.and_false, Bool.false_eq_true, if_false]
      rw [ih (k + 1) _ (fun y hy => hd y (by simp [hy])) (by simp at hlen ⊢; omega)]
      simp only [wrote_wrote, JournalPrinter.printAssertions, String.append_empty]
    | @cons g2 x2 gs2 xs2 hg2 hrest2 =>
      have hc : ((k : Int) < (day.Assertions.length : Int) - 1) := by simp at hlen; omega
      by_cases h1 : x.balances.length = 1
      · have h1' : ((g.Balances.length : Int) = 1) := by omega
        simp only [h1', decide_true, Bool.not_true, Bool.false_and, Bool.false_eq_true, if_false]
        rw [ih (k + 1) _ (fun y hy => hd y (by simp [hy])) (by simp at hlen ⊢; omega)]
        simp only [wrote_wrote, JournalPrinter.printAssertions, h1, bne_self_eq_false, Bool.false_eq_true, if_false,
          String.append_empty, String.append_assoc]
      · have h1' : ¬ ((g.Balances.length : Int) = 1) := by omega
        have h1b : (x.balances.length != 1) = true := by simp [h1]
        simp only [h1', decide_false, Bool.not_false, hc, decide_true, Bool.and_self, if_true]
        rw [ih (k + 1) _ (fun y hy => hd y (by simp [hy])) (by simp at hlen ⊢; omega)]
        simp only [wrote_wrote, JournalPrinter.printAssertions, h1b, if_true, String.append_assoc]

/-! ## the loop of `Print` over the days -/

/-- the text of one day with its transactions in the order given (the model's `printDay` sorts them first) -/
def printDayRaw (pad : Nat) (d : Knut.Day) : String :=
  String.join (d.prices.map (fun p => JournalPrinter.printPrice p ++ "\n")) ++ (if d.prices.isEmpty then "" else "\n") ++
  String.join (d.openings.map (fun o => JournalPrinter.printOpen o ++ "\n")) ++ (if d.openings.isEmpty then "" else "\n") ++
  String.join (d.transactions.map (fun t => JournalPrinter.printTx pad t ++ "\n")) ++
  JournalPrinter.printAssertions d.assertions ++ (if d.assertions.isEmpty then "" else "\n") ++
  String.join (d.closings.map (fun c => JournalPrinter.printClose c ++ "\n")) ++ (if d.closings.isEmpty then "" else "\n")

theorem printDay_eq (pad : Nat) (d : Knut.Day) :
    JournalPrinter.printDay pad d = printDayRaw pad { d with transactions := JournalPrinter.sortTxs d.transactions } := rfl

/-- every date of the day is printed as `fmtDate` prints it -/
structure DayDatesOK (d : Knut.Day) : Prop where
  prices : ∀ x ∈ d.prices, DateOK x.date
  openings : ∀ x ∈ d.openings, DateOK x.date
  transactions : ∀ x ∈ d.transactions, DateOK x.date
  assertions : ∀ x ∈ d.assertions, DateOK x.date
  closings : ∀ x ∈ d.closings, DateOK x.date

theorem ite_ok_next {σ ρ : Type} (c : Prop) [Decidable c] (a b : σ) :
    (if c then (GoSem.Outcome.ok (Flow.next a) : GoSem.Outcome (Flow σ ρ)) else GoSem.Outcome.ok (Flow.next b)) =
      GoSem.Outcome.ok (Flow.next (if c then a else b)) := by
  split <;> rfl

theorem ite_wrote (c : Prop) [Decidable c] (p : printer.Printer) :
    (if c then wrote p "\n" else p) = wrote p (if c then "\n" else "") := by
  split <;> simp [wrote_empty]

theorem ite_wrote2 (c : Prop) [Decidable c] (p : printer.Printer) (a : String) :
    (if c then wrote p (a ++ "\n") else wrote p a) = wrote p (a ++ if c then "\n" else "") := by
  split <;> simp

theorem blank_eq {α β : Type} (gs : List α) (xs : List β) (h : gs.length = xs.length) :
    (if decide (len gs > (0 : Int)) = true then "\n" else "") = (if xs.isEmpty then "" else "\n") := by
  cases xs with
  | nil => simp at h; simp [h]
  | cons x xs =>
    have : gs ≠ [] := by intro e; simp [e] at h
    simp [len, this]

theorem Print_range1_agrees (cur : String → Bool) (j : journal.Journal) :
    ∀ (gds : List journal.Day) (ds : List Knut.Day) (p : printer.Printer), AllRel (DayRel cur) gds ds →
      (∀ d ∈ ds, DayDatesOK d) →
      journal.Print.range1 j gds p = .ok (.next (wrote p (String.join (ds.map (printDayRaw p.padding.toNat))))) := by
  intro gds ds p h
  induction h generalizing p with
  | nil => intro _; simp [journal.Print.range1, wrote_empty]
  | @cons g d gs ds hg _ ih =>
    intro hd
    have hok := hd d (by simp)
    have h5 : ∀ q, journal.Print.range5 j g g.Assertions 0 q =
        .ok (.next (wrote q (JournalPrinter.printAssertions d.assertions))) := fun q => by
      have := Print_range5_agrees cur j g _ _ 0 q hg.assertions hok.assertions (by simp)
      simpa using this
    unfold journal.Print.range1
    simp only [Print_range2_agrees cur j g _ _ p hg.prices hok.prices, h5, Outcome.bind, Write_agrees, Option.isSome_none,
      Bool.false_eq_true, if_false, ite_ok_next, ite_wrote2, wrote_wrote, wrote_padding,
      Print_range3_agrees j g _ _ _ hg.openings hok.openings,
      Print_range4_agrees cur j g _ _ _ hg.transactions hok.transactions,
      Print_range6_agrees j g _ _ _ hg.closings hok.closings,
      blank_eq _ _ (TransProcess.AllRel_length hg.prices), blank_eq _ _ (TransProcess.AllRel_length hg.openings),
      blank_eq _ _ (TransProcess.AllRel_length hg.assertions), blank_eq _ _ (TransProcess.AllRel_length hg.closings)]
    rw [ih _ (fun y hy => hd y (by simp [hy]))]
    simp only [wrote_wrote, wrote_padding, List.map_cons, String.join_cons, printDayRaw, String.append_assoc]

/-! ## `Print` after the call of `j.Process(Sort(), paddingUpdater)` -/

/-- **`Print`, second half**: once `j.Process` has returned the journal `j'` and left the printer `p'` (the parameter `ext1`), the days
of `j'` are printed in their order with the padding of `p'`; the translated function returns the text of the sink, the journal
(which `Process` has modified in place) and no error -/
theorem Print_of_processed (cur : String → Bool) (w : String) (j j' : journal.Journal) (p' : printer.Printer) (ds' : List Knut.Day)
    (hr : AllRel (DayRel cur) j'.Days ds') (hd : ∀ d ∈ ds', DayDatesOK d) :
    journal.Print w j (j', p', none) =
      .ok (p'.writer ++ String.join (ds'.map (printDayRaw p'.padding.toNat)), j', none) := by
  unfold journal.Print
  simp only [Option.isSome_none, Bool.false_eq_true, if_false, Outcome.bind, Print_range1_agrees cur j' _ _ p' hr hd, wrote_writer]

/-- an error of `j.Process` is returned; nothing is printed -/
theorem Print_process_error (w : String) (j j' : journal.Journal) (p' : printer.Printer) (e : Error) :
    journal.Print w j (j', p', some e) = .ok (p'.writer, j', some e) := by
  simp [journal.Print, Outcome.bind]

/-! ## `transaction.Compare` on Go transactions with arbitrary `Src` pointers -/

def eraseP (g : posting.Posting) : posting.Posting := { g with Src := ⟨0⟩ }
def eraseT (g : transaction.Transaction) : transaction.Transaction :=
  { g with Src := ⟨0⟩, Postings := g.Postings.map eraseP }

theorem eraseT_Postings (t : transaction.Transaction) : (eraseT t).Postings = t.Postings.map eraseP := rfl

theorem Compare_loop_erase (t u : transaction.Transaction) :
    ∀ (fuel : Nat) (i : Int), transaction.Compare.loop1 (eraseT t) (eraseT u) fuel i = transaction.Compare.loop1 t u fuel i := by
  intro fuel
  induction fuel with
  | zero =>
    intro i
    unfold transaction.Compare.loop1
    simp only [eraseT_Postings, len_map]
  | succ n ih =>
    intro i
    unfold transaction.Compare.loop1
    simp only [eraseT_Postings, len_map, index_map, ih]
    by_cases hc : (decide (i < len t.Postings) && decide (i < len u.Postings)) = true
    · simp only [hc, if_true]
      cases index t.Postings i with
      | ok a =>
        cases index u.Postings i with
        | ok b => rfl
        | panic m => rfl
        | outOfFuel => rfl
      | panic m => rfl
      | outOfFuel => rfl
    · simp only [hc, Bool.false_eq_true, if_false]

/-- `transaction.Compare` does not read the `Src` pointers -/
theorem Compare_erase (t u : transaction.Transaction) :
    transaction.Compare (eraseT t) (eraseT u) = transaction.Compare t u := by
  unfold transaction.Compare
  simp only [Compare_loop_erase, eraseT_Postings, len_map]
  rfl

/-- **`transaction.Compare`** on Go transactions that stand for `t` and `u` (every `Src` arbitrary) is the model's `cmpTx` -/
theorem Compare_rel (cur : String → Bool) {g h : transaction.Transaction} {t u : Knut.Transaction}
    (hg : TRelE cur g t) (hh : TRelE cur h u) :
    transaction.Compare g h = .ok (ordGo (JournalPrinter.cmpTx t u)) :=
  TransBeancount.Compare_TRelB cur g h t u hg.toB hh.toB

/-! ## `j.Process(Sort(), paddingUpdater)`

`Journal.Process` runs the processors over the days through `cpr.Seq` (goroutines: C19) and `Processor.Process` dispatches on
function-typed fields holding closures: neither is in the translated subset.  As in `TransProcess`, `Processor.Process` is the
hand-written `processDay`; `Journal.Process` with two processors is `processDays`: every day goes through the first and then the
second processor, the days in order (the stages of `cpr.Seq` share no state, so their interleaving cannot show).  The closures
themselves are translated: `journal.Sort_.DayEnd` and `journal.Print.paddingUpdater.Transaction`. -/

/-- what `sort.Slice` may return for `compare.Sort(xs, transaction.Compare)`: a permutation of `xs` in which no later element is
`Smaller` than an earlier one (`less(i, j) = Compare(ts[i], ts[j]) == Smaller`) -/
structure SortOK (srt : List transaction.Transaction → List transaction.Transaction) (xs : List transaction.Transaction) : Prop where
  perm : (srt xs).Perm xs
  sorted : (srt xs).Pairwise (fun a b => transaction.Compare b a ≠ .ok (-1))

/-- the processor `Sort()` returns -/
def sortProc (srt : List transaction.Transaction → List transaction.Transaction) : TransProcess.Proc journal.Sort_.State :=
  { DayEnd := some (fun st d => .ok (journal.Sort_.DayEnd st d srt)) }

/-- the closure record `paddingUpdater` of `Print`: its state is the captured printer -/
def padProc : TransProcess.Proc printer.Printer :=
  { Transaction := some (fun p t => .ok ((journal.Print.paddingUpdater.Transaction p t).1, t, (journal.Print.paddingUpdater.Transaction p t).2)) }

example : journal.Sort_.callbacks = ["DayEnd"] := rfl
example : journal.Sort_.externals = ["DayEnd.ext1 = compare.Sort(d.Transactions, transaction.Compare) [sort.Slice as a function of the slice: SOME permutation sorted by github.com/sboehler/knut/lib/model/transaction.Compare]"] := rfl

/-- `Journal.Process(Sort(), paddingUpdater)` over the days that are left; `done`: the days already processed -/
def processDays (srt : List transaction.Transaction → List transaction.Transaction) :
    journal.Sort_.State → printer.Printer → List journal.Day → List journal.Day →
      GoSem.Outcome (printer.Printer × List journal.Day × Option Error)
  | _, p, [], done => .ok (p, done, none)
  | s, p, d :: rest, done =>
    (TransProcess.processDay (sortProc srt) s d).bind fun r1 =>
      if r1.2.2.isSome then .ok (p, done ++ r1.2.1 :: rest, r1.2.2)
      else (TransProcess.processDay padProc p r1.2.1).bind fun r2 =>
        if r2.2.2.isSome then .ok (r2.1, done ++ r2.2.1 :: rest, r2.2.2)
        else processDays srt r1.1 r2.1 rest (done ++ [r2.2.1])

/-- the parameter `ext1` of the translated `Print`: the journal and the printer after `j.Process(Sort(), paddingUpdater)`, and its
result -/
def processExt (srt : List transaction.Transaction → List transaction.Transaction) (j : journal.Journal) (p : printer.Printer) :
    GoSem.Outcome (journal.Journal × printer.Printer × Option Error) :=
  (processDays srt journal.Sort_.init p j.Days []).bind fun r => .ok ({ j with Days := r.2.1 }, r.1, r.2.2)

theorem sortDay (srt : List transaction.Transaction → List transaction.Transaction) (s : journal.Sort_.State) (d : journal.Day) :
    TransProcess.processDay (sortProc srt) s d = .ok (⟨⟩, { d with Transactions := srt d.Transactions }, none) := by
  rw [sortProc, TransProcess.processDay_dayEnd]
  rfl

theorem padUpdater_eq (p : printer.Printer) (t : transaction.Transaction) :
    journal.Print.paddingUpdater.Transaction p t = (printer.Printer.UpdatePadding p t, none) := rfl

theorem forEachE_pad : ∀ (ts : List transaction.Transaction) (p : printer.Printer) (done : List transaction.Transaction),
    TransProcess.forEachE (fun p t => (GoSem.Outcome.ok (printer.Printer.UpdatePadding p t, t, none) :
        GoSem.Outcome (printer.Printer × transaction.Transaction × Option Error)))
      p ts done = .ok (ts.foldl printer.Printer.UpdatePadding p, done ++ ts, none)
  | [], p, done => by simp [TransProcess.forEachE]
  | t :: rest, p, done => by
    simp only [TransProcess.forEachE, Outcome.bind, Option.isSome_none, Bool.false_eq_true, if_false,
      forEachE_pad rest, List.foldl_cons, List.append_assoc, List.singleton_append]

theorem padDay (p : printer.Printer) (d : journal.Day) :
    TransProcess.processDay padProc p d = .ok (d.Transactions.foldl printer.Printer.UpdatePadding p, d, none) := by
  rw [padProc, TransProcess.processDay_transaction]
  simp only [TransProcess.onTransactions, padUpdater_eq, forEachE_pad, Outcome.bind, List.nil_append]

/-- `Process(Sort(), paddingUpdater)`: every day's transactions are replaced by what `sort.Slice` returns for them, and the printer
has seen every transaction (in that order); no error -/
theorem processDays_agrees (srt : List transaction.Transaction → List transaction.Transaction) :
    ∀ (gds : List journal.Day) (s : journal.Sort_.State) (p : printer.Printer) (done : List journal.Day),
      processDays srt s p gds done =
        .ok (gds.foldl (fun p d => (srt d.Transactions).foldl printer.Printer.UpdatePadding p) p,
          done ++ gds.map (fun d => { d with Transactions := srt d.Transactions }), none)
  | [], s, p, done => by simp [processDays]
  | d :: rest, s, p, done => by
    simp only [processDays, sortDay, padDay, Outcome.bind, Option.isSome_none, Bool.false_eq_true, if_false,
      processDays_agrees srt rest, List.foldl_cons, List.map_cons, List.append_assoc, List.singleton_append]

/-! ## from the sorted Go transactions to the model's `sortTxs` -/

/-- Go's "not Smaller the other way round" is the model's `leTx` -/
theorem le_of_not_smaller (cur : String → Bool) {ga gb : transaction.Transaction} {x y : Knut.Transaction}
    (hx : TRelE cur ga x) (hy : TRelE cur gb y) (h : transaction.Compare gb ga ≠ .ok (-1)) : JournalPrinter.leTx x y = true := by
  rw [Compare_rel cur hy hx] at h
  unfold JournalPrinter.leTx
  have hsw := Std.OrientedCmp.eq_swap (cmp := JournalPrinter.cmpTx) (a := x) (b := y)
  cases hc : JournalPrinter.cmpTx y x with
  | lt => rw [hc] at h; exact absurd rfl h
  | eq => rw [hsw, hc]; rfl
  | gt => rw [hsw, hc]; rfl

/-- the `@performance` line of a transaction -/
def targetsLine (tg : Option (List Knut.Commodity)) : String :=
  match tg with
  | some tg => "@performance(" ++ String.intercalate "," tg ++ ")\n"
  | none => ""

theorem printTx_targets (pad : Nat) (t : Knut.Transaction) :
    JournalPrinter.printTx pad t = targetsLine t.targets ++ JournalPrinter.printTx pad { t with targets := none } := by
  cases h : t.targets <;> simp [JournalPrinter.printTx, targetsLine, h, String.append_assoc]

/-- transactions that `transaction.Compare` does not tell apart and that carry the same targets are printed alike -/
theorem printTx_of_eq {x y : Knut.Transaction} (h : JournalPrinter.cmpTx x y = .eq) (ht : x.targets = y.targets) (pad : Nat) :
    JournalPrinter.printTx pad x = JournalPrinter.printTx pad y := by
  rw [printTx_targets pad x, printTx_targets pad y, ht, Knut.Layout.cmpTx_eq_print h pad]

/-- within a day, transactions that compare equal carry the same `@performance` targets (otherwise the unstable `sort.Slice` shows:
the model's own note on `sortTxs`) -/
def TargetsOK (d : Knut.Day) : Prop :=
  ∀ x ∈ d.transactions, ∀ y ∈ d.transactions, JournalPrinter.cmpTx x y = .eq → x.targets = y.targets

theorem lines_of_pointwise (pad : Nat) : ∀ {l1 l2 : List Knut.Transaction},
    List.Forall₂ (fun x y => JournalPrinter.cmpTx x y = .eq ∧ x.targets = y.targets) l1 l2 →
    String.join (l1.map (fun t => JournalPrinter.printTx pad t ++ "\n")) =
      String.join (l2.map (fun t => JournalPrinter.printTx pad t ++ "\n")) := fun h =>
  congrArg String.join (forall₂_map_eq h fun _ _ _ hab => by rw [printTx_of_eq hab.1 hab.2 pad])

theorem pointwise_targets (d : Knut.Day) (ht : TargetsOK d) : ∀ {l1 l2 : List Knut.Transaction},
    List.Forall₂ (fun x y => JournalPrinter.leTx x y = true ∧ JournalPrinter.leTx y x = true) l1 l2 →
    (∀ x ∈ l1, x ∈ d.transactions) → (∀ y ∈ l2, y ∈ d.transactions) →
    List.Forall₂ (fun x y => JournalPrinter.cmpTx x y = .eq ∧ x.targets = y.targets) l1 l2 := by
  intro l1 l2 h h1 h2
  refine forall₂_imp_mem h fun x hx y hy hxy => ?_
  have he := Knut.Layout.cmpTx_eq_of_le hxy.1 hxy.2
  exact ⟨he, ht x (h1 x hx) y (h2 y hy) he⟩

/-- a sorted permutation of the day's transactions is printed as the model's `sortTxs` of them -/
theorem sorted_perm_lines (pad : Nat) (d : Knut.Day) (ht : TargetsOK d) (ts' : List Knut.Transaction)
    (hp : ts'.Perm d.transactions) (hs : ts'.Pairwise (fun a b => JournalPrinter.leTx a b = true)) :
    String.join (ts'.map (fun t => JournalPrinter.printTx pad t ++ "\n")) =
      String.join ((JournalPrinter.sortTxs d.transactions).map (fun t => JournalPrinter.printTx pad t ++ "\n")) := by
  have hperm : ts'.Perm (JournalPrinter.sortTxs d.transactions) := hp.trans (List.mergeSort_perm _ _).symm
  have hpw := Knut.Layout.sorted_perm_pointwise JournalPrinter.leTx JournalPrinter.leTx_trans Knut.Layout.leTx_refl _ _ hs
    (JournalPrinter.sortTxs_sorted d.transactions) hperm
  exact lines_of_pointwise pad (pointwise_targets d ht hpw (fun x hx => hp.mem_iff.mp hx)
    (fun y hy => (List.mergeSort_perm _ _).mem_iff.mp hy))

/-! ## `Print`: the whole text -/

/-- a Go day stands for the model day, the descriptions of its transactions exactly the model's -/
structure DayRelE (cur : String → Bool) (g : journal.Day) (d : Knut.Day) : Prop where
  rel : DayRel cur g d
  exact : AllRel (TRelE cur) g.Transactions d.transactions

/-- the day after `Sort`: its transactions stand for a sorted permutation `ts'` of the model's -/
def SortedOf (d' d : Knut.Day) : Prop :=
  ∃ ts', d' = { d with transactions := ts' } ∧ ts'.Perm d.transactions ∧
    ts'.Pairwise (fun a b => JournalPrinter.leTx a b = true)

theorem sortedDay (cur : String → Bool) (srt : List transaction.Transaction → List transaction.Transaction)
    {g : journal.Day} {d : Knut.Day} (hs : SortOK srt g.Transactions) (h : DayRelE cur g d) :
    ∃ d', DayRel cur { g with Transactions := srt g.Transactions } d' ∧ SortedOf d' d := by
  obtain ⟨ts', hE, hperm⟩ := AllRel_perm hs.perm h.exact
  refine ⟨{ d with transactions := ts' }, ?_, ts', rfl, hperm, ?_⟩
  · exact ⟨h.rel.date, h.rel.prices, h.rel.assertions, h.rel.openings, AllRel_imp (fun _ _ r => r.1) hE, h.rel.closings⟩
  · exact AllRel_pairwise (P := fun a b => transaction.Compare b a ≠ .ok (-1)) (Q := fun x y => JournalPrinter.leTx x y = true)
      (fun a b x y hax hby hab => le_of_not_smaller cur hax hby hab) hE hs.sorted

theorem sortedDays (cur : String → Bool) (srt : List transaction.Transaction → List transaction.Transaction) :
    ∀ {gds : List journal.Day} {ds : List Knut.Day}, (∀ g ∈ gds, SortOK srt g.Transactions) → AllRel (DayRelE cur) gds ds →
      ∃ ds', AllRel (DayRel cur) (gds.map (fun d => { d with Transactions := srt d.Transactions })) ds' ∧
        List.Forall₂ SortedOf ds' ds := by
  intro gds ds hs hr
  induction hr with
  | nil => exact ⟨[], .nil, .nil⟩
  | cons hgd _ ih =>
    obtain ⟨d', hd', hs'⟩ := sortedDay cur srt (hs _ List.mem_cons_self) hgd
    obtain ⟨ds', hds', hss'⟩ := ih (fun g hg => hs g (List.mem_cons_of_mem _ hg))
    exact ⟨d' :: ds', .cons hd' hds', .cons hs' hss'⟩

theorem padDays (cur : String → Bool) : ∀ {gds : List journal.Day} {ds : List Knut.Day},
    AllRel (DayRel cur) gds ds → ∀ (p : printer.Printer), 0 ≤ p.padding →
      gds.foldl (fun p d => d.Transactions.foldl printer.Printer.UpdatePadding p) p =
        withPad p (ds.foldl (fun m d => d.transactions.foldl padTx m) p.padding.toNat) :=
  foldl_withPad (R := DayRel cur) (f := fun m d => d.transactions.foldl padTx m) fun p _ _ hgd h0 =>
    foldl_withPad (R := TRel cur) (fun p g t => UpdatePadding_agrees cur p g t) hgd.transactions p h0

theorem SortedOf.perm {d' d : Knut.Day} (h : SortedOf d' d) : d'.transactions.Perm d.transactions := by
  obtain ⟨ts', rfl, hp, _⟩ := h; exact hp

theorem SortedOf.datesOK {d' d : Knut.Day} (h : SortedOf d' d) (hok : DayDatesOK d) : DayDatesOK d' := by
  obtain ⟨ts', rfl, hp, _⟩ := h
  exact ⟨hok.prices, hok.openings, fun x hx => hok.transactions x (hp.mem_iff.mp hx), hok.assertions, hok.closings⟩

theorem printDay_of_sorted (pad : Nat) {d' d : Knut.Day} (h : SortedOf d' d) (ht : TargetsOK d) :
    printDayRaw pad d' = JournalPrinter.printDay pad d := by
  obtain ⟨ts', rfl, hp, hs⟩ := h
  unfold printDayRaw JournalPrinter.printDay
  simp only [sorted_perm_lines pad d ht ts' hp hs]

/-! What `Forall₂ SortedOf ds' ds` gives for the whole journal is read off day by day. -/

theorem printDays_of_sorted (pad : Nat) {ds' ds : List Knut.Day} (h : List.Forall₂ SortedOf ds' ds) (ht : ∀ d ∈ ds, TargetsOK d) :
    ds'.map (printDayRaw pad) = ds.map (JournalPrinter.printDay pad) :=
  forall₂_map_eq h fun _ d hd hab => printDay_of_sorted pad hab (ht d hd)

theorem datesOK_of_sorted {ds' ds : List Knut.Day} (h : List.Forall₂ SortedOf ds' ds) (hok : ∀ d ∈ ds, DayDatesOK d) :
    ∀ d ∈ ds', DayDatesOK d := fun d hd =>
  let ⟨b, hb, hr⟩ := forall₂_mem_left h d hd
  hr.datesOK (hok b hb)

theorem padding_of_sorted {ds' ds : List Knut.Day} (h : List.Forall₂ SortedOf ds' ds) :
    ds'.foldl (fun m d => d.transactions.foldl padTx m) 0 = JournalPrinter.padding ds :=
  Knut.Layout.padding_perm (forall₂_imp h fun _ _ hab => hab.perm) 0

/-- **`journal.Print`** (what `knut print` and every importer write): for a Go journal whose days stand for the model's `days`
(every `Src` pointer arbitrary), for EVERY function `srt` that `sort.Slice` may be on the days' transactions (`SortOK`: a permutation sorted by `transaction.Compare`),
with `ext1` the journal, the printer and the result that `j.Process(Sort(), paddingUpdater)` leaves (`processExt`: the translated
closures run by the hand-written `processDay`), the translated `Print` appends exactly `JournalPrinter.print days` to the sink `w`
and returns no error — provided the dates have non-negative years and transactions of one day that compare equal carry the same
`@performance` targets. -/
theorem PrintJournal_agrees (cur : String → Bool) (srt : List transaction.Transaction → List transaction.Transaction)
    (w : String) (gds : List journal.Day) (days : List Knut.Day) (hs : ∀ g ∈ gds, SortOK srt g.Transactions)
    (hr : AllRel (DayRelE cur) gds days) (hd : ∀ d ∈ days, DayDatesOK d) (ht : ∀ d ∈ days, TargetsOK d) :
    ∃ e, processExt srt ⟨gds⟩ (printer.New w) = .ok e ∧ e.2.2 = none ∧
      journal.Print w ⟨gds⟩ e = .ok (w ++ JournalPrinter.print days, e.1, none) := by
  obtain ⟨ds', hds', hsorted⟩ := sortedDays cur srt hs hr
  have hfold : gds.foldl (fun p d => (srt d.Transactions).foldl printer.Printer.UpdatePadding p) (printer.New w) =
      withPad (printer.New w) (JournalPrinter.padding days) := by
    have := padDays cur hds' (printer.New w) (by simp [printer.New])
    rw [List.foldl_map] at this
    rw [this]
    simp only [New_agrees, Int.toNat_zero, padding_of_sorted hsorted]
  refine ⟨(⟨gds.map (fun d => { d with Transactions := srt d.Transactions })⟩,
    withPad (printer.New w) (JournalPrinter.padding days), none), ?_, rfl, ?_⟩
  · simp only [processExt, processDays_agrees, Outcome.bind, hfold, List.nil_append]
  · rw [Print_of_processed cur w _ _ _ ds' hds' (datesOK_of_sorted hsorted hd)]
    simp only [withPad_padding, printDays_of_sorted _ hsorted ht, JournalPrinter.print]
    rfl

/-! ## non-vacuity: a day with a price, an opening, two transactions (out of order) and a two-balance assertion -/

def exTx (d : Int) (desc : String) (q : Rat) : transaction.Transaction :=
  ⟨⟨1⟩, d, desc, [⟨⟨2⟩, -q, 0, accountGo ⟨["Assets", "Bank"]⟩, accountGo ⟨["Expenses", "Food"]⟩, ⟨"CHF", true⟩⟩,
                   ⟨⟨2⟩, q, 0, accountGo ⟨["Expenses", "Food"]⟩, accountGo ⟨["Assets", "Bank"]⟩, ⟨"CHF", true⟩⟩], none⟩

def exDay : journal.Day :=
  { Date := 738885, Prices := [⟨⟨0⟩, 738885, ⟨"USD", true⟩, 9/10, ⟨"CHF", true⟩⟩],
    Assertions := [⟨⟨0⟩, 738885, [⟨⟨0⟩, accountGo ⟨["Assets", "Bank"]⟩, 10, ⟨"CHF", true⟩⟩, ⟨⟨0⟩, accountGo ⟨["Assets", "Bank"]⟩, 1, ⟨"USD", true⟩⟩]⟩],
    Openings := [⟨⟨0⟩, 738885, accountGo ⟨["Assets", "Bank"]⟩⟩], Transactions := [exTx 738885 "b" 5, exTx 738885 "a" 7],
    Closings := [], Normalized := GoZero.zero, Performance := GoZero.zero }

/-- `sort.Slice` on this day: the two transactions swapped (the only sorted permutation) -/
def exSort (xs : List transaction.Transaction) : List transaction.Transaction := xs.reverse

example : SortOK exSort exDay.Transactions := by
  refine ⟨List.reverse_perm _, ?_⟩
  decide +kernel

/-- the translated closures run by `processDays`, then the translated `Print`: the text of the day -/
example : ((processExt exSort ⟨[exDay]⟩ (printer.New "")).bind (fun e => journal.Print "" ⟨[exDay]⟩ e)).bind (fun r => .ok r.1)
    = .ok "2024-01-01 price USD 0.9 CHF\n\n2024-01-01 open Assets:Bank\n\n2024-01-01 \"a\"\nAssets:Bank   Expenses:Food          7 CHF\n\n2024-01-01 \"b\"\nAssets:Bank   Expenses:Food          5 CHF\n\n2024-01-01 balance\nAssets:Bank 10 CHF\nAssets:Bank 1 USD\n\n" := by
  apply ok_of_bytes
  decide +kernel

end Knut.FactsAgree.TransJPrinter2
