import Knut.Generated.TransJournal
import Knut.FactsAgree.TransProcess
import Knut.FactsAgree.RelDay
import Knut.Model.Journal
import Knut.Proofs.Builder
/-!
# The translated journal builder agrees with `Model/Journal.lean`

`lib/journal/journal.go`: `New`, `Builder.Day`, `Builder.Add`, `Builder.Period`, `Builder.Build`, `CompareDays`, regenerated into
`Knut/Generated/TransJournal.lean` on every run (harness/trans_alias.go: `dict.GetDefault` with a constructor literal; `d := j.Day(x)`
is a POINTER INTO the map `j.days`, so every assignment through `d` is followed by the write-back `j.days[x] = d`; `model.Directive`
is the inductive type of its declared implementers plus `other`; the type switch of `Add` is a `match`).

The Go builder keeps a map from dates to days, the model a list of days sorted by date: `BEquiv` is agreement of every lookup by
date (plus sortedness of the model's list and absence of stale keys in the Go map).
-/
namespace Knut.FactsAgree.TransJournal
open Knut Knut.GoSem
open Knut.Generated.Go
open Knut.FactsAgree.TransAccount Knut.FactsAgree.TransPosting Knut.FactsAgree.TransTransaction
open Knut.FactsAgree.TransProcess (AllRel TRel PRel PriceRel priceGo AllRel_append AllRel_length)
open Knut.FactsAgree.TransCheck (openGo closeGo balanceGo)

def dayAt (ds : List Knut.Day) (k : Int) : Option Knut.Day := ds.find? (fun d => d.date = k)

def Sorted (ds : List Knut.Day) : Prop := ds.Pairwise (fun a b => a.date < b.date)

theorem dayAt_date {ds : List Knut.Day} {k : Int} {d : Knut.Day} (h : dayAt ds k = some d) : d.date = k := by
  have := List.find?_some h
  simpa using this

/-- `dayAt` and `Sorted` are `findDay` and `Sorted` of `Proofs/Builder`, whose lemmas about `addToDays` apply -/
theorem dayAt_addToDays (ds : List Knut.Day) (x : Knut.Directive) (h : Sorted ds) (k : Int) :
    dayAt (addToDays ds x) k =
      if k = x.date then some (((dayAt ds k).getD { date := k }).add x) else dayAt ds k := by
  refine (Knut.findDay_addToDays ds h x k).trans ?_
  by_cases hk : k = x.date
  · subst hk; rfl
  · simp only [hk, if_false]; rfl

/-- the Go builder (a map from dates to days, `min`, `max`) against the model builder (days sorted by date): every lookup by date
agrees; the model's days are strictly sorted; the Go map has no stale entries -/
structure BEquiv (cur : String → Bool) (g : journal.Builder) (b : Knut.Builder) : Prop where
  min : g.min_ = b.min
  max : g.max_ = b.max
  lookup : ∀ k : Int, match Knut.AMap.find? g.days k, dayAt b.days k with
    | some gd, some d => DayRel cur gd d
    | none, none => True
    | _, _ => False
  sorted : Sorted b.days
  nodup : (g.days.map Prod.fst).Nodup

/-- `journal.New()` -/
theorem New_agrees (cur : String → Bool) : BEquiv cur journal.New {} := by
  refine ⟨?_, rfl, ?_, ?_, ?_⟩
  · show date.Date 9999 12 31 = maxDate
    decide +kernel
  · intro k; simp [journal.New, dayAt]
  · simp [Sorted]
  · simp [journal.New]

/-- `Builder.Period()` -/
theorem Period_agrees (cur : String → Bool) {g : journal.Builder} {b : Knut.Builder} (h : BEquiv cur g b) :
    journal.Builder.Period g = ⟨b.min, b.max⟩ := by
  simp [journal.Builder.Period, h.min, h.max]

def emptyDay (k : Int) : journal.Day :=
  { Date := k, Prices := [], Assertions := [], Openings := [], Transactions := [], Closings := [], Normalized := GoZero.zero,
    Performance := GoZero.zero }

theorem DayRel_empty (cur : String → Bool) (k : Int) : DayRel cur (emptyDay k) { date := k } :=
  ⟨rfl, .nil, .nil, .nil, .nil, .nil⟩

/-- `Builder.Day(k)`: the day of the date, created empty when missing — on both sides -/
theorem Day_agrees (cur : String → Bool) {g : journal.Builder} {b : Knut.Builder} (h : BEquiv cur g b) (k : Int) :
    ∃ gd, journal.Builder.Day g k = ({ g with days := Knut.AMap.set g.days k gd }, gd) ∧
      DayRel cur gd ((dayAt b.days k).getD { date := k }) ∧
      (Knut.AMap.find? g.days k = some gd ∨ (Knut.AMap.find? g.days k = none ∧ gd = emptyDay k)) := by
  unfold journal.Builder.Day getDefault
  have hl := h.lookup k
  cases hg : Knut.AMap.find? g.days k with
  | none =>
    cases hd : dayAt b.days k with
    | none => exact ⟨emptyDay k, rfl, by simpa using DayRel_empty cur k, Or.inr ⟨rfl, rfl⟩⟩
    | some d => simp [hg, hd] at hl
  | some gd =>
    cases hd : dayAt b.days k with
    | none => simp [hg, hd] at hl
    | some d =>
      simp only [hg, hd] at hl
      exact ⟨gd, rfl, by simpa using hl, Or.inl rfl⟩

/-- after `d := j.Day(k)` and the write-back of an updated day `gd'`, the builders agree again when the new day stands for the
model's updated day -/
theorem BEquiv_update (cur : String → Bool) {g : journal.Builder} {b : Knut.Builder} (h : BEquiv cur g b) (x : Knut.Directive)
    (gd gd' : journal.Day) (mn mx : Int)
    (hrel : DayRel cur gd' (((dayAt b.days x.date).getD { date := x.date }).add x)) :
    BEquiv cur { days := Knut.AMap.set (Knut.AMap.set g.days x.date gd) x.date gd', min_ := mn, max_ := mx }
      { days := addToDays b.days x, min := mn, max := mx } := by
  refine ⟨rfl, rfl, ?_, Knut.addToDays_sorted _ _ h.sorted, ?_⟩
  · intro k
    simp only [Knut.AMap.find?_set, dayAt_addToDays _ _ h.sorted]
    by_cases hk : x.date = k
    · subst hk; simpa using hrel
    · have hk' : ¬ k = x.date := fun e => hk e.symm
      simp only [hk, hk', if_false]
      exact h.lookup k
  · exact TransCheck.keys_set_nodup _ _ _ (TransCheck.keys_set_nodup _ _ _ h.nodup)

theorem DayRel_add_date {cur : String → Bool} {gd : journal.Day} {d : Knut.Day} (h : DayRel cur gd d) : gd.Date = d.date := h.date

theorem ite_max (c : Prop) [Decidable c] (j : journal.Builder) (x : Int) :
    (if c then { j with max_ := x } else j) = { j with max_ := if c then x else j.max_ } := by
  split <;> rfl

theorem ite_min (c : Prop) [Decidable c] (j : journal.Builder) (x : Int) :
    (if c then { j with min_ := x } else j) = { j with min_ := if c then x else j.min_ } := by
  split <;> rfl

theorem Day_date_of_rel {cur : String → Bool} {b : Knut.Builder} {gd : journal.Day} {k : Int}
    (hrel : DayRel cur gd ((dayAt b.days k).getD { date := k })) : gd.Date = k := by
  rw [hrel.date]
  cases hd : dayAt b.days k with
  | none => rfl
  | some d => simpa [hd] using dayAt_date hd

/-- **`Builder.Add`**: the directive is appended to the day of its date (created when missing), `max` follows prices and
transactions, `min` follows transactions -/
theorem Add_agrees (cur : String → Bool) {g : journal.Builder} {b : Knut.Builder} (h : BEquiv cur g b)
    (gx : model.Directive) (x : Knut.Directive) (hx : DirRel cur gx x) :
    ∃ g', journal.Builder.Add g gx = (g', none) ∧ BEquiv cur g' (b.add x) := by
  cases gx <;> cases x <;> simp only [DirRel] at hx
  case Price.price gp p =>
    have hdate : gp.Date = p.date := by rw [hx]; rfl
    obtain ⟨gd, e, hrel, _⟩ := Day_agrees cur h gp.Date
    have hgd := Day_date_of_rel hrel
    obtain ⟨gd', hgd'⟩ : ∃ gd', gd' = { gd with Prices := gd.Prices ++ [gp] } := ⟨_, rfl⟩
    have hrel' : DayRel cur gd' (((dayAt b.days gp.Date).getD { date := gp.Date }).add (.price p)) := by
      rw [hgd']
      exact ⟨hrel.date, AllRel_append hrel.prices (.cons hx .nil), hrel.assertions, hrel.openings, hrel.transactions, hrel.closings⟩
    have hAdd : journal.Builder.Add g (.Price gp) =
        ({ days := Knut.AMap.set (Knut.AMap.set g.days gp.Date gd) gp.Date gd', min_ := g.min_,
           max_ := if g.max_ < gd.Date then gd.Date else g.max_ }, none) := by
      simp only [journal.Builder.Add, e, Time.Before, decide_eq_true_eq, ← hgd']
      by_cases hc : g.max_ < gd.Date <;> simp [hc]
    rw [hAdd, hgd, h.min, h.max, hdate] at *
    exact ⟨_, rfl, BEquiv_update cur h (.price p) gd gd' b.min _ hrel'⟩
  case Open.opening go o =>
    have hdate : go.Date = o.date := by rw [hx]; rfl
    obtain ⟨gd, e, hrel, _⟩ := Day_agrees cur h go.Date
    obtain ⟨gd', hgd'⟩ : ∃ gd', gd' = { gd with Openings := gd.Openings ++ [go] } := ⟨_, rfl⟩
    have hrel' : DayRel cur gd' (((dayAt b.days go.Date).getD { date := go.Date }).add (.opening o)) := by
      rw [hgd']
      exact ⟨hrel.date, hrel.prices, hrel.assertions, AllRel_append hrel.openings (.cons hx .nil), hrel.transactions, hrel.closings⟩
    have hAdd : journal.Builder.Add g (.Open go) =
        ({ days := Knut.AMap.set (Knut.AMap.set g.days go.Date gd) go.Date gd', min_ := g.min_, max_ := g.max_ }, none) := by
      simp only [journal.Builder.Add, e, ← hgd']
    rw [hAdd, h.min, h.max, hdate] at *
    exact ⟨_, rfl, BEquiv_update cur h (.opening o) gd gd' b.min b.max hrel'⟩
  case Transaction.tx gt t =>
    have hdate : gt.Date = t.date := hx.1
    obtain ⟨gd, e, hrel, _⟩ := Day_agrees cur h gt.Date
    have hgd := Day_date_of_rel hrel
    obtain ⟨gd', hgd'⟩ : ∃ gd', gd' = { gd with Transactions := gd.Transactions ++ [gt] } := ⟨_, rfl⟩
    have hrel' : DayRel cur gd' (((dayAt b.days gt.Date).getD { date := gt.Date }).add (.tx t)) := by
      rw [hgd']
      exact ⟨hrel.date, hrel.prices, hrel.assertions, hrel.openings, AllRel_append hrel.transactions (.cons hx .nil), hrel.closings⟩
    have hAdd : journal.Builder.Add g (.Transaction gt) =
        ({ days := Knut.AMap.set (Knut.AMap.set g.days gt.Date gd) gt.Date gd',
           min_ := if g.min_ > gt.Date then gd.Date else g.min_,
           max_ := if g.max_ < gd.Date then gd.Date else g.max_ }, none) := by
      simp only [journal.Builder.Add, e, Time.Before, Time.After, decide_eq_true_eq, ← hgd']
      by_cases hc : g.max_ < gd.Date <;> by_cases hm : g.min_ > gt.Date <;> simp [hc, hm]
    rw [hAdd, hgd, h.min, h.max, hdate] at *
    exact ⟨_, rfl, BEquiv_update cur h (.tx t) gd gd' _ _ hrel'⟩
  case Assertion.assertion ga a =>
    have hdate : ga.Date = a.date := hx.1
    obtain ⟨gd, e, hrel, _⟩ := Day_agrees cur h ga.Date
    obtain ⟨gd', hgd'⟩ : ∃ gd', gd' = { gd with Assertions := gd.Assertions ++ [ga] } := ⟨_, rfl⟩
    have hrel' : DayRel cur gd' (((dayAt b.days ga.Date).getD { date := ga.Date }).add (.assertion a)) := by
      rw [hgd']
      exact ⟨hrel.date, hrel.prices, AllRel_append hrel.assertions (.cons hx .nil), hrel.openings, hrel.transactions, hrel.closings⟩
    have hAdd : journal.Builder.Add g (.Assertion ga) =
        ({ days := Knut.AMap.set (Knut.AMap.set g.days ga.Date gd) ga.Date gd', min_ := g.min_, max_ := g.max_ }, none) := by
      simp only [journal.Builder.Add, e, ← hgd']
    rw [hAdd, h.min, h.max, hdate] at *
    exact ⟨_, rfl, BEquiv_update cur h (.assertion a) gd gd' b.min b.max hrel'⟩
  case Close.closing gc c =>
    have hdate : gc.Date = c.date := by rw [hx]; rfl
    obtain ⟨gd, e, hrel, _⟩ := Day_agrees cur h gc.Date
    obtain ⟨gd', hgd'⟩ : ∃ gd', gd' = { gd with Closings := gd.Closings ++ [gc] } := ⟨_, rfl⟩
    have hrel' : DayRel cur gd' (((dayAt b.days gc.Date).getD { date := gc.Date }).add (.closing c)) := by
      rw [hgd']
      exact ⟨hrel.date, hrel.prices, hrel.assertions, hrel.openings, hrel.transactions, AllRel_append hrel.closings (.cons hx .nil)⟩
    have hAdd : journal.Builder.Add g (.Close gc) =
        ({ days := Knut.AMap.set (Knut.AMap.set g.days gc.Date gd) gc.Date gd', min_ := g.min_, max_ := g.max_ }, none) := by
      simp only [journal.Builder.Add, e, ← hgd']
    rw [hAdd, h.min, h.max, hdate] at *
    exact ⟨_, rfl, BEquiv_update cur h (.closing c) gd gd' b.min b.max hrel'⟩

/-- a value of a dynamic type that is none of the five directive types is rejected -/
theorem Add_other (g : journal.Builder) : journal.Builder.Add g .other = (g, some ⟨"unknown: %v (%T)"⟩) := rfl

/-! ## `Builder.Build`: the days sorted by date -/

theorem dayAt_of_mem_sorted {ds : List Knut.Day} (h : Sorted ds) {d : Knut.Day} (hd : d ∈ ds) : dayAt ds d.date = some d :=
  Knut.findDay_self ds h d hd

theorem CompareDays_le (a b : journal.Day) : decide (journal.CompareDays a b ≠ 1) = decide (a.Date ≤ b.Date) :=
  TransCompare.time_le a.Date b.Date

/-- **`Builder.Build`**: the days of the Go map sorted by `CompareDays` stand, one by one, for the model's (sorted) days — whatever
the iteration order of the map and whatever `sort.Slice` does, because the dates are distinct -/
theorem Build_agrees (cur : String → Bool) {g : journal.Builder} {b : Knut.Builder} (h : BEquiv cur g b) :
    AllRel (DayRel cur) (journal.Builder.Build g).Days b.days := by
  have hfind : ∀ k gd, (k, gd) ∈ g.days → Knut.AMap.find? g.days k = some gd := fun k gd hm =>
    TransCheck.find?_of_mem_nodup h.nodup hm
  have hkey : ∀ k gd, Knut.AMap.find? g.days k = some gd → ∃ d, dayAt b.days k = some d ∧ DayRel cur gd d := by
    intro k gd hf
    have := h.lookup k
    rw [hf] at this
    cases hd : dayAt b.days k with
    | none => simp [hd] at this
    | some d => simp only [hd] at this; exact ⟨d, rfl, this⟩
  have hdate : ∀ k gd, Knut.AMap.find? g.days k = some gd → gd.Date = k := by
    intro k gd hf
    obtain ⟨d, hd, hr⟩ := hkey k gd hf
    rw [hr.date]; exact dayAt_date hd
  let pick : Knut.Day → journal.Day := fun d => (Knut.AMap.find? g.days d.date).getD (emptyDay d.date)
  have hpick : ∀ d ∈ b.days, Knut.AMap.find? g.days d.date = some (pick d) ∧ DayRel cur (pick d) d := by
    intro d hd
    have hat := dayAt_of_mem_sorted h.sorted hd
    have := h.lookup d.date
    rw [hat] at this
    cases hf : Knut.AMap.find? g.days d.date with
    | none => simp [hf] at this
    | some gd => simp only [hf] at this; exact ⟨by simp [pick, hf], by simpa [pick, hf] using this⟩
  have hrel : AllRel (DayRel cur) (b.days.map pick) b.days :=
    TransProcess.allRel_iff.mpr (forall₂_map_left.mpr (forall₂_same fun d hd => (hpick d hd).2))
  suffices hL : (journal.Builder.Build g).Days = b.days.map pick by rw [hL]; exact hrel
  unfold journal.Builder.Build sortedValues
  simp only
  rw [show (fun a b : journal.Day => decide (journal.CompareDays a b ≠ 1)) = (fun a b => decide (a.Date ≤ b.Date)) from
    funext fun a => funext fun b => CompareDays_le a b]
  have hvals_mem : ∀ gd, gd ∈ g.days.map Prod.snd ↔ gd ∈ b.days.map pick := by
    intro gd
    constructor
    · intro hm
      obtain ⟨⟨k, gd'⟩, hm', rfl⟩ := List.mem_map.mp hm
      have hf := hfind k gd' hm'
      obtain ⟨d, hd, _⟩ := hkey k gd' hf
      have hdm : d ∈ b.days := List.mem_of_find?_eq_some hd
      have hdk := dayAt_date hd
      refine List.mem_map.mpr ⟨d, hdm, ?_⟩
      simp [pick, hdk, hf]
    · intro hm
      obtain ⟨d, hd, rfl⟩ := List.mem_map.mp hm
      have := (hpick d hd).1
      exact List.mem_map.mpr ⟨(d.date, pick d), TransCheck.mem_of_find? this, rfl⟩
  have hvals_nodup : (g.days.map Prod.snd).Nodup := by
    have hnd := h.nodup
    rw [List.Nodup, List.pairwise_map] at hnd ⊢
    refine hnd.imp_of_mem ?_
    intro e1 e2 h1 h2 hne heq
    apply hne
    have d1 := hdate e1.1 e1.2 (hfind e1.1 e1.2 h1)
    have d2 := hdate e2.1 e2.2 (hfind e2.1 e2.2 h2)
    rw [← d1, ← d2, heq]
  have hpick_nodup : (b.days.map pick).Nodup := by
    rw [List.Nodup, List.pairwise_map]
    refine h.sorted.imp_of_mem ?_
    intro d1 d2 h1 h2 hlt heq
    have e1 := hdate _ _ (hpick d1 h1).1
    have e2 := hdate _ _ (hpick d2 h2).1
    rw [heq] at e1
    omega
  have hdp : ∀ d ∈ b.days, (pick d).Date = d.date := fun d hd => hdate _ _ (hpick d hd).1
  refine mergeSort_key_eq (fun d : journal.Day => d.Date) (fun _ _ _ => Int.le_trans) Int.le_total
    ((List.perm_ext_iff_of_nodup hvals_nodup hpick_nodup).mpr hvals_mem) ?_ ?_
  · rw [List.pairwise_map]
    exact h.sorted.imp_of_mem fun {d1 d2} h1 h2 hlt => by rw [hdp d1 h1, hdp d2 h2]; exact Int.le_of_lt hlt
  · intro x hx y hy h1 h2
    obtain ⟨d1, hd1, rfl⟩ := List.mem_map.mp hx
    obtain ⟨d2, hd2, rfl⟩ := List.mem_map.mp hy
    rw [hdp d1 hd1, hdp d2 hd2] at h1 h2
    have a1 := dayAt_of_mem_sorted h.sorted hd1
    rw [Int.le_antisymm h1 h2] at a1
    rw [Option.some.inj (a1.symm.trans (dayAt_of_mem_sorted h.sorted hd2))]

/-- the directives of a journal added one by one (`FromModelStream`: `j := New(); for … j.Add(d)`) -/
theorem addAll_agrees (cur : String → Bool) :
    ∀ (xs : List Knut.Directive) (gxs : List model.Directive) {g : journal.Builder} {b : Knut.Builder}, BEquiv cur g b →
      AllRel (DirRel cur) gxs xs →
      ∃ g', gxs.foldl (fun j d => (journal.Builder.Add j d).1) g = g' ∧ BEquiv cur g' (xs.foldl Knut.Builder.add b) := by
  intro xs gxs g b h hr
  refine ⟨_, rfl, TransProcess.AllRel_foldl (BEquiv cur) (fun g b gx x hgb hx => ?_) hr g b h⟩
  obtain ⟨g1, e1, h1⟩ := Add_agrees cur hgb gx x hx
  rw [e1]
  exact h1

/-- **the whole builder**: a journal built from related directives has days that stand for `Builder.ofList`'s days, the same
period, and `Build` delivers them sorted by date -/
theorem journal_agrees (cur : String → Bool) (xs : List Knut.Directive) (gxs : List model.Directive)
    (hr : AllRel (DirRel cur) gxs xs) :
    let g := gxs.foldl (fun j d => (journal.Builder.Add j d).1) journal.New
    AllRel (DayRel cur) (journal.Builder.Build g).Days (Knut.Builder.ofList xs).build ∧
      journal.Builder.Period g = ⟨(Knut.Builder.ofList xs).min, (Knut.Builder.ofList xs).max⟩ := by
  obtain ⟨g', e, h⟩ := addAll_agrees cur xs gxs (New_agrees cur) hr
  simp only [e]
  exact ⟨Build_agrees cur h, Period_agrees cur h⟩

/-- non-vacuity: two transactions and a price on three days, added out of order: the period and the dates held -/
example :
    let t (d : Int) : transaction.Transaction := ⟨⟨0⟩, d, "x", [], none⟩
    let g := ([model.Directive.Transaction (t 20), model.Directive.Price ⟨⟨0⟩, 30, ⟨"USD", false⟩, 2, ⟨"CHF", false⟩⟩,
      model.Directive.Transaction (t 10)]).foldl (fun j d => (journal.Builder.Add j d).1) journal.New
    journal.Builder.Period g = ⟨10, 30⟩ ∧
      g.days.map (fun e => (e.1, e.2.Date, e.2.Transactions.length, e.2.Prices.length)) = [(20, 20, 1, 0), (30, 30, 0, 1), (10, 10, 1, 0)] := by
  decide +kernel

/-- non-vacuity: the hypothesis of `journal_agrees` is satisfiable (every model directive has a Go counterpart) -/
example (cur : String → Bool) (t : Knut.Transaction) (p : Knut.Price) :
    AllRel (DirRel cur) [model.Directive.Transaction (txGo cur ⟨1⟩ ⟨2⟩ t), model.Directive.Price (priceGo cur ⟨3⟩ p)] [.tx t, .price p] :=
  .cons (TransProcess.TRel_txGo cur _ _ t) (.cons rfl .nil)

end Knut.FactsAgree.TransJournal
