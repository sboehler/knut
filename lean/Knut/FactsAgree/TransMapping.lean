import Knut.Generated.TransAccount
import Knut.Generated.TransRegex
import Knut.FactsAgree.TransAccount
import Knut.Model.Balance
import Knut.Proofs.GoSem
import Knut.Proofs.InsertsPerm
/-!
# The translated account mapping (`account.Rule.Match`, `Mapping.Level`, `Shorten`, `Remap`, `regex.Regexes.MatchString`)
agrees with the model's `mappingLevel`, `shorten`, `mapAccount`

Regenerated from /repo on every run: `Knut/Generated/TransAccount.lean`, `TransRegex.lean` (`harness/trans_units_mapping.go`).

* A `*regexp.Regexp` is the value `Regexp.Ptr`: nil or the predicate `MatchString` (`GoSem/RegexpMatch.lean`) — the model's
  convention (`MapRule.test`, `BalCfg.remap`).  A rule without expression (`-m 2`) matches every name: `ruleOf`.
* The registry is not translated.  `reg.MustGetPath(mapped)` in `Shorten` and `reg.SwapType(a)` in `Remap` are parameters of
  the translated functions (functions of their arguments); the theorems hold for every `MustGetPath` that returns THE account of
  the path it is asked for (`RegistryPath`; pointwise in `Shorten_agrees`: only at the one path the closure asks for) and every
  `SwapType` that returns the account with the type word swapped (`RegistrySwap`).
* `nil` (hidden account, level 0) is the zero struct, as for every interned pointer: `optGo`.
* Levels and suffixes are not negative (`RuleOK`: what `flags.MappingFlag.Set` checks).
-/
namespace Knut.FactsAgree.TransMapping
open Knut Knut.GoSem
open Knut.Generated.Go
open Knut.FactsAgree.TransAccount (accountGo)

/-- the model rule of a Go rule: a nil `Regex` matches every name (`Rule.Match`) -/
def ruleOf (r : account.Rule) : MapRule :=
  { level := r.Level.toNat, suffix := r.Suffix.toNat, test := fun s => match r.Regex with | none => true | some f => f s }

/-- the Go rule of a model rule: its expression is never nil (a flag without expression is a model rule whose test accepts every name) -/
def ruleGo (r : MapRule) : account.Rule := { Level := r.level, Suffix := r.suffix, Regex := some r.test }

/-- what `flags.MappingFlag.Set` guarantees: no negative level or suffix -/
def RuleOK (r : account.Rule) : Prop := 0 ≤ r.Level ∧ 0 ≤ r.Suffix

theorem ruleOf_ruleGo (r : MapRule) : ruleOf (ruleGo r) = r := by
  cases r; simp [ruleOf, ruleGo]

theorem ruleGo_ok (r : MapRule) : RuleOK (ruleGo r) := by
  simp [RuleOK, ruleGo]

theorem Rule_Match_agrees (r : account.Rule) (s : String) :
    account.Rule.Match r s = .ok (if (ruleOf r).test s then (r.Level, r.Suffix, true) else (0, 0, false)) := by
  unfold account.Rule.Match ruleOf
  cases h : r.Regex with
  | none => simp
  | some f => cases hf : f s <;> simp [Outcome.bind, hf]

/-- `Mapping.Level` in the model's terms -/
def levelGo (o : Option (Nat × Nat)) : Int × Int × Bool :=
  match o with
  | some (l, s) => ((l : Int), (s : Int), true)
  | none => (0, 0, false)

theorem Level_range1_agrees (m : account.Mapping) (s : String) (items : List account.Rule) (h : ∀ r ∈ items, RuleOK r) :
    account.Mapping.Level.range1 m s items =
      .ok (match mappingLevel (items.map ruleOf) s with
           | some (l, sf) => Flow.ret ((l : Int), (sf : Int), true)
           | none => Flow.next ()) := by
  induction items with
  | nil => simp [account.Mapping.Level.range1, mappingLevel_nil]
  | cons r rest ih =>
    have hr := h r (by simp)
    have ih := ih (fun x hx => h x (by simp [hx]))
    unfold account.Mapping.Level.range1
    simp only []
    rw [Rule_Match_agrees, List.map_cons, mappingLevel_cons]
    cases ht : (ruleOf r).test s with
    | true =>
      obtain ⟨h1, h2⟩ := hr
      simp [Outcome.bind, ruleOf, Int.toNat_of_nonneg h1, Int.toNat_of_nonneg h2]
    | false =>
      simp only [Outcome.bind, Bool.false_eq_true, if_false]
      rw [ih]

theorem Mapping_Level_agrees (m : account.Mapping) (s : String) (h : ∀ r ∈ m, RuleOK r) :
    account.Mapping.Level m s = .ok (levelGo (mappingLevel (m.map ruleOf) s)) := by
  unfold account.Mapping.Level
  rw [Level_range1_agrees m s m h]
  cases mappingLevel (m.map ruleOf) s with
  | none => simp [Outcome.bind, levelGo]
  | some p => cases p; simp [Outcome.bind, levelGo]

/-- a mapper's result in Go: hidden (`none`) is the nil pointer, i.e. the zero struct -/
def optGo (o : Option Knut.Account) : account.Account :=
  match o with
  | some b => accountGo b
  | none => GoZero.zero

/-- the mapper that `Shorten` returns as a PURE function on ANY Go account (its name and its segments need not belong together):
the closure never panics — the guards keep every slice inside its bounds -/
def shortenF (m : List MapRule) (getPath : List String → account.Account) (a : account.Account) : account.Account :=
  match mappingLevel m a.name with
  | none => a
  | some (level, suffix) =>
    if level = 0 then GoZero.zero
    else if suffix ≥ a.segments.length then a
    else if level > a.segments.length - suffix then a
    else getPath (a.segments.take level ++ a.segments.drop (a.segments.length - suffix))

/-- **`account.Shorten` is total**: on every Go account the mapper it returns answers `shortenF`, never a panic -/
theorem Shorten_total (m : account.Mapping) (ext1 : List String → account.Account) (hm : ∀ r ∈ m, RuleOK r) :
    ∃ f, account.Shorten m ext1 = .ok (some f) ∧ ∀ a : account.Account, f a = .ok (shortenF (m.map ruleOf) ext1 a) := by
  unfold account.Shorten
  by_cases h0 : len m = 0
  · have : m = [] := by cases m with | nil => rfl | cons _ _ => simp [len] at h0; omega
    subst this
    refine ⟨_, by simp; rfl, ?_⟩
    intro a
    simp [mapper.Identity, shortenF, mappingLevel_nil]
  · simp only [h0, decide_false, Bool.false_eq_true, if_false]
    refine ⟨_, rfl, ?_⟩
    intro a
    rw [Mapping_Level_agrees m a.name hm]
    unfold shortenF
    cases hl : mappingLevel (m.map ruleOf) a.name with
    | none => simp [Outcome.bind, levelGo]
    | some p =>
      obtain ⟨l, sf⟩ := p
      simp only [Outcome.bind, levelGo, account.Account.Level, account.Account.Segments, len]
      by_cases hl0 : l = 0
      · subst hl0; simp
      · have hl0' : ¬ ((l : Int) = 0) := by omega
        by_cases hsf : sf ≥ a.segments.length
        · have : (sf : Int) ≥ (a.segments.length : Int) := by omega
          simp [hl0, hsf, this]
        · have hsf' : ¬ ((sf : Int) ≥ (a.segments.length : Int)) := by omega
          by_cases hgt : l > a.segments.length - sf
          · have : (l : Int) > (a.segments.length : Int) - (sf : Int) := by omega
            simp [hl0, hsf, hsf', hgt, this]
          · have hsplit : (a.segments.length : Int) - (sf : Int) = ((a.segments.length - sf : Nat) : Int) := by omega
            have h1 : a.segments.length - sf ≤ a.segments.length := by omega
            have h2 : l ≤ (a.segments.take (a.segments.length - sf)).length := by simp [List.length_take]; omega
            have hd := slice_drop a.segments (a.segments.length - sf) h1
            simp only [len] at hd
            simp only [hl0, hl0', hsf, hsf', hgt, decide_false, Bool.false_eq_true, if_false, Bool.not_true,
              hsplit, slice_take _ _ h1, hd, slice_take _ _ h2, List.nil_append]
            rw [List.take_take, Nat.min_eq_left (by omega)]
            split
            · rename_i hc; simp at hc; omega
            · rfl

/-- on the Go account of a model account, `shortenF` is the model's `shorten`, provided `getPath` answers the shortened
path with its account -/
theorem shortenF_accountGo (m : List MapRule) (getPath : List String → account.Account) (a : Knut.Account)
    (hreg : ∀ b, shorten m a = some b → getPath b.segments = accountGo b) :
    shortenF m getPath (accountGo a) = optGo (shorten m a) := by
  unfold shortenF
  -- `accountGo a` has the name and the segments of `a`
  show (match mappingLevel m a.name with
    | none => accountGo a
    | some (level, suffix) =>
      if level = 0 then GoZero.zero
      else if suffix ≥ a.level then accountGo a
      else if level > a.level - suffix then accountGo a
      else getPath (a.segments.take level ++ a.segments.drop (a.level - suffix))) = _
  rcases shorten_cases m a with ⟨hm, hs⟩ | ⟨l, sf, hm, ⟨h0, hs⟩ | ⟨h0, hk, hs⟩ | ⟨h0, h1, h2, hs⟩⟩
  · rw [hm, hs]; rfl
  · rw [hm, hs]; simp only [h0, if_true, optGo]
  · rw [hm, hs]
    rcases hk with hk | hk
    · simp only [h0, hk, if_true, if_false, optGo]
    · by_cases h1 : sf ≥ a.level
      · simp only [h0, h1, if_true, if_false, optGo]
      · simp only [h0, h1, hk, if_true, if_false, optGo]
  · rw [hm, hs]
    simp only [h0, Nat.not_le.mpr h1, Nat.not_lt.mpr h2, if_false, optGo]
    exact hreg _ hs

/-- **`account.Shorten`** = the model's `shorten`: the mapper it returns sends the Go account of `a` to the Go account of
`shorten a` (nil when the model hides the account), provided the registry's `MustGetPath` (`ext1`) returns the account of the
path it is asked for. -/
theorem Shorten_agrees (m : account.Mapping) (ext1 : List String → account.Account) (hm : ∀ r ∈ m, RuleOK r) :
    ∃ f, account.Shorten m ext1 = .ok (some f) ∧
      ∀ a : Knut.Account, (∀ b, shorten (m.map ruleOf) a = some b → ext1 b.segments = accountGo b) →
        f (accountGo a) = .ok (optGo (shorten (m.map ruleOf) a)) := by
  obtain ⟨f, hf, h⟩ := Shorten_total m ext1 hm
  exact ⟨f, hf, fun a hreg => by rw [h, shortenF_accountGo _ _ _ hreg]⟩

theorem wf_segments {a : Knut.Account} (h : a.wf = true) :
    ∃ s rest, a.segments = s :: rest ∧ (AccountType.ofName s).isSome = true :=
  InsertsPerm.wf_segments h

/-- a shortened account keeps the type word (`level ≥ 1` keeps the first segment) -/
theorem shorten_wf (m : List MapRule) {a b : Knut.Account} (h : a.wf = true) (hb : shorten m a = some b) : b.wf = true :=
  InsertsPerm.shorten_wf m h hb

theorem swapType_wf {a : Knut.Account} (h : a.wf = true) : (swapType a).wf = true :=
  InsertsPerm.swapType_wf h

/-- the registry as far as `Shorten` uses it: `MustGetPath` (`ext1`) returns THE account of a path that starts with a type word
(interned pointers as values: `accountGo`).  (That the other segments are valid is the registry's business: the paths asked for
consist of segments of accounts that exist.) -/
def RegistryPath (ext1 : List String → account.Account) : Prop :=
  ∀ b : Knut.Account, b.wf = true → ext1 b.segments = accountGo b

theorem Shorten_agrees_registry (m : account.Mapping) (ext1 : List String → account.Account) (hm : ∀ r ∈ m, RuleOK r)
    (hreg : RegistryPath ext1) :
    ∃ f, account.Shorten m ext1 = .ok (some f) ∧
      ∀ a : Knut.Account, a.wf = true → f (accountGo a) = .ok (optGo (shorten (m.map ruleOf) a)) := by
  obtain ⟨f, hf, h⟩ := Shorten_agrees m ext1 hm
  exact ⟨f, hf, fun a ha => h a (fun b hb => hreg b (shorten_wf _ ha hb))⟩

/-- from the model's side: the mapping of the model as Go rules -/
theorem Shorten_agrees_model (m : List MapRule) (ext1 : List String → account.Account) (hreg : RegistryPath ext1) :
    ∃ f, account.Shorten (m.map ruleGo) ext1 = .ok (some f) ∧
      ∀ a : Knut.Account, a.wf = true → f (accountGo a) = .ok (optGo (shorten m a)) := by
  obtain ⟨f, hf, h⟩ := Shorten_agrees_registry (m.map ruleGo) ext1
    (by intro r hr; obtain ⟨x, _, rfl⟩ := List.mem_map.mp hr; exact ruleGo_ok x) hreg
  refine ⟨f, hf, fun a ha => ?_⟩
  have : (m.map ruleGo).map ruleOf = m := by
    rw [List.map_map]; conv => rhs; rw [← List.map_id m]
    exact List.map_congr_left (fun x _ => ruleOf_ruleGo x)
  rw [h a ha, this]

/-! ### `regex.Regexes.MatchString`, `account.Remap` -/

/-- the compiled expressions of a `--remap` / `--account` / `--commodity` flag: never nil (`RegexFlag.Set` adds the result of a
successful `regexp.Compile`) -/
def regsGo (fs : List (String → Bool)) : regex.Regexes := fs.map some

theorem MatchString_range1_agrees (rf : regex.Regexes) (s : String) (fs : List (String → Bool)) :
    regex.Regexes.MatchString.range1 rf s (regsGo fs) =
      .ok (if fs.any (fun f => f s) then Flow.ret true else Flow.next ()) := by
  induction fs with
  | nil => simp [regsGo, regex.Regexes.MatchString.range1]
  | cons f rest ih =>
    unfold regsGo at ih ⊢
    simp only [List.map_cons]
    unfold regex.Regexes.MatchString.range1
    cases hf : f s <;> simp [Outcome.bind, hf, ih]

/-- **`Regexes.MatchString`**: some expression of the list matches -/
theorem Regexes_MatchString_agrees (fs : List (String → Bool)) (s : String) :
    regex.Regexes.MatchString (regsGo fs) s = .ok (fs.any (fun f => f s)) := by
  unfold regex.Regexes.MatchString
  rw [MatchString_range1_agrees]
  cases fs.any (fun f => f s) <;> simp [Outcome.bind]

/-- a nil expression in the list is Go's nil-pointer panic, if no expression before it matches -/
theorem Regexes_MatchString_nil (fs : List (String → Bool)) (rest : regex.Regexes) (s : String)
    (h : fs.any (fun f => f s) = false) :
    regex.Regexes.MatchString (regsGo fs ++ none :: rest) s = .panic "invalid memory address or nil pointer dereference" := by
  unfold regex.Regexes.MatchString
  suffices hh : ∀ rf, regex.Regexes.MatchString.range1 rf s (regsGo fs ++ none :: rest) =
      .panic "invalid memory address or nil pointer dereference" by rw [hh]; rfl
  intro rf
  induction fs with
  | nil => simp [regsGo, regex.Regexes.MatchString.range1, Outcome.bind]
  | cons f tl ih =>
    simp only [List.any_cons, Bool.or_eq_false_iff] at h
    unfold regsGo at ih ⊢
    simp only [List.map_cons, List.cons_append]
    unfold regex.Regexes.MatchString.range1
    simp [Outcome.bind, h.1, ih h.2]

/-- **`account.Remap`** (the function it returns, applied to `a`; `swap` is `reg.SwapType` as a function of its argument): the
swapped account if some expression matches the account's name -/
theorem Remap_agrees (fs : List (String → Bool)) (a : account.Account) (swap : account.Account → account.Account) :
    account.Remap (regsGo fs) a swap = .ok (if fs.any (fun f => f a.name) then swap a else a) := by
  unfold account.Remap
  rw [Regexes_MatchString_agrees]
  cases fs.any (fun f => f a.name) <;> simp [Outcome.bind]

/-- the registry as far as `Remap` uses it: `SwapType` returns THE account with the type word swapped (`TransSwapType`:
`SwapType_name_agrees` for the translated statements of `SwapType`, `RegistrySwap_of_get` for this property) -/
def RegistrySwap (swap : account.Account → account.Account) : Prop :=
  ∀ b : Knut.Account, b.wf = true → swap (accountGo b) = accountGo (swapType b)

/-- `Remap_agrees` for the model's `--remap` tests as compiled expressions (`regsGo`) and a registry with `RegistrySwap` -/
theorem Remap_model (fs : List (String → Bool)) (swap : account.Account → account.Account) (hswap : RegistrySwap swap)
    (a : Knut.Account) (ha : a.wf = true) :
    account.Remap (regsGo fs) (accountGo a) swap =
      .ok (accountGo (if fs.any (fun f => f a.name) then swapType a else a)) := by
  rw [Remap_agrees]
  have : (accountGo a).name = a.name := rfl
  rw [this]
  cases fs.any (fun f => f a.name) <;> simp [hswap a ha]

/-- **the model's `mapAccount`** = first `account.Remap(…)`, then the mapper `account.Shorten(…)` returns — the two mappers that
`cmd/commands/balance.go` hands to `mapper.Sequence` -/
theorem mapAccount_agrees (cfg : BalCfg) (fs : List (String → Bool)) (hfs : ∀ s, cfg.remap s = fs.any (fun f => f s))
    (ext1 : List String → account.Account) (hreg : RegistryPath ext1)
    (swap : account.Account → account.Account) (hswap : RegistrySwap swap) :
    ∃ f, account.Shorten (cfg.mapping.map ruleGo) ext1 = .ok (some f) ∧
      ∀ a : Knut.Account, a.wf = true →
        (account.Remap (regsGo fs) (accountGo a) swap).bind f = .ok (optGo (mapAccount cfg a)) := by
  obtain ⟨f, hf, h⟩ := Shorten_agrees_model cfg.mapping ext1 hreg
  refine ⟨f, hf, fun a ha => ?_⟩
  rw [Remap_model fs swap hswap a ha, Outcome.bind, mapAccount_eq, hfs]
  apply h
  cases fs.any (fun f => f a.name)
  · exact ha
  · exact swapType_wf ha

/-- non-vacuity: `-m 1,Bank` on `Assets:Bank:Checking` gives `Assets`; level 0 hides; a suffix keeps the last segment -/
example :
    let reg : List String → account.Account := fun ss => accountGo ⟨ss⟩
    let isBank : String → Bool := fun s => s == "Assets:Bank:Checking"
    (match account.Shorten [⟨1, 0, some isBank⟩] reg with
      | .ok (some f) => (match f (accountGo ⟨["Assets", "Bank", "Checking"]⟩) with | .ok b => b.name | _ => "?")
      | _ => "?") = "Assets" ∧
    (match account.Shorten [⟨0, 0, none⟩] reg with
      | .ok (some f) => (match f (accountGo ⟨["Assets", "Bank", "Checking"]⟩) with | .ok b => b.name | _ => "?")
      | _ => "?") = "" ∧
    (match account.Shorten [⟨1, 1, none⟩] reg with
      | .ok (some f) => (match f (accountGo ⟨["Assets", "Bank", "Checking"]⟩) with | .ok b => b.name | _ => "?")
      | _ => "?") = "Assets:Checking" ∧
    (match account.Remap (regsGo [isBank]) (accountGo ⟨["Assets", "Bank", "Checking"]⟩) (fun b => accountGo (swapType ⟨b.segments⟩)) with
      | .ok b => b.name | _ => "?") = "Liabilities:Bank:Checking" := by decide +kernel

end Knut.FactsAgree.TransMapping
