import Knut.Generated.TransParser
import Knut.Syntax.Parser
import Knut.FactsAgree.TransScanner
/-!
# The translated `lib/syntax/parser` agrees with the model parser (`Knut/Syntax/Parser.lean`)

`Knut/Generated/TransParser.lean` is regenerated from /repo's `parser.go` on every run (`harness/trans_syntax*.go`).  The Go parser is
the scanner (embedded) plus the `Callback` field; `goParser text path cb s` is the Go parser that belongs to the model state `s` of a
scan of `text` (simulation relation of `TransScanner.lean`).  Every method is stated as
`Inv text fuel s → Agree text path cb conv (Go.method fuel (goParser text path cb s) …) (model.method … s)`: from a simulated state with
`fuel` above the number of unread tokens, Go and the model end in the same state, with the converted tree value (`conv`) or the same
error chain.  A function body is walked through call by call (`rel_pcall`, `rel_scall`); loops and conditionals whose branches join
in `Flow` are related by `FlowAgree`.
-/
namespace Knut.FactsAgree.TransParser
open Knut Knut.GoSem Knut.Syntax Knut.Utf8
open Knut.Generated.Go
open Knut.FactsAgree.TransScanner

/-- the Go parser in the model state `s` of a scan of `text`; `cb` is the `Callback` field (nil or not) -/
def goParser (text : Bytes) (path : String) (cb : Syn.Proc) (s : St) : parser.Parser :=
  { Scanner := goScanner text path s, Callback := cb }

@[simp] theorem goParser_Scanner (text : Bytes) (path : String) (cb : Syn.Proc) (s : St) :
    (goParser text path cb s).Scanner = goScanner text path s := rfl

@[simp] theorem goParser_with (text : Bytes) (path : String) (cb : Syn.Proc) (s s' : St) :
    { goParser text path cb s with Scanner := goScanner text path s' } = goParser text path cb s' := rfl

theorem decodeAll_split : ∀ (c : List Tok) (bs : List UInt8) (r : List Tok), decodeAll bs = c ++ r →
    r = decodeAll (bs.drop (wsum c)) := by
  intro c
  induction c with
  | nil => intro bs r h; simpa using h.symm
  | cons t ts ih =>
    intro bs r h
    obtain ⟨_, _, hrest, _, _⟩ := decodeAll_eq_cons (t := t) (rest := ts ++ r) (by simpa using h)
    have := ih _ _ hrest.symm
    rw [this, List.drop_drop]
    simp

theorem SimOK.ext {text : Bytes} {s s' : St} (h : SimOK text s) (he : Ext s s') : SimOK text s' := by
  obtain ⟨c, hc, ho⟩ := he
  obtain ⟨hle, hk⟩ := h
  rcases hk with hk | ⟨hk, hoff⟩
  · rw [hc] at hk
    have hr := decodeAll_split c _ _ hk.symm
    rw [List.drop_drop] at hr
    have hlen : wsum c + wsum s'.toks = text.length - s.off := by
      have := congrArg wsum hk
      rw [wsum_append, wsum_decodeAll, List.length_drop] at this
      exact this
    refine ⟨by omega, Or.inl ?_⟩
    rw [hr, ho]
  · rw [hc] at hk
    cases c with
    | nil =>
      simp only [List.nil_append] at hk
      simp only [wsum_nil, Nat.add_zero] at ho
      exact ⟨by omega, Or.inr ⟨hk, by omega⟩⟩
    | cons t ts =>
      have hts : ts = [] ∧ s'.toks = [] ∧ t = eofTok := by
        simp only [List.cons_append, List.cons.injEq, List.append_eq_nil_iff] at hk
        exact ⟨hk.2.1, hk.2.2, hk.1⟩
      obtain ⟨h1, h2, h3⟩ := hts
      subst h1 h3
      simp only [wsum_cons, wsum_nil, eofTok, List.length_nil, Nat.add_zero] at ho
      refine ⟨by omega, Or.inl ?_⟩
      rw [h2, ho, hoff]
      simp

/-- what every agreement theorem assumes of the state: it is in the simulation and the fuel exceeds the number of unread tokens -/
def Inv (text : Bytes) (fuel : Nat) (s : St) : Prop := SimOK text s ∧ s.toks.length < fuel

theorem Inv.ext {text : Bytes} {fuel : Nat} {s s' : St} (h : Inv text fuel s) (he : Ext s s') : Inv text fuel s' :=
  ⟨SimOK.ext h.1 he, by have := he.length_le; have := h.2; omega⟩

/-- **agreement** of the outcome of a translated parser method with the model's result: the same state, the same value resp. the same
error chain; next to an error Go also returns a partially filled value `pv`, which the model does not describe.  (The relation of the
same name in `TransProcess` is about the processors' closures and an `Except` model; the two never meet in one module.) -/
def Agree {α β} (text : Bytes) (path : String) (cb : Syn.Proc) (conv : α → β)
    (out : Outcome (parser.Parser × β × directives.GoError)) (res : Res α) : Prop :=
  match res with
  | .ok a s' => out = .ok (goParser text path cb s', conv a, .nil)
  | .err e s' => e ≠ [] ∧ ∃ pv, out = .ok (goParser text path cb s', pv, goErr text path e)

theorem agree_err {α β} {text : Bytes} {path : String} {cb : Syn.Proc} {conv : α → β} {p : parser.Parser} {pv : β}
    {g : directives.GoError} {e : Err} {s' : St} (hne : e ≠ []) (hp : p = goParser text path cb s') (hg : g = goErr text path e) :
    Agree text path cb conv (.ok (p, pv, g)) (.err e s') := by
  subst hp hg; exact ⟨hne, pv, rfl⟩

theorem agree_ok {α β} {text : Bytes} {path : String} {cb : Syn.Proc} {conv : α → β} {p : parser.Parser} {v : β}
    {g : directives.GoError} {a : α} {s' : St} (hp : p = goParser text path cb s') (hv : v = conv a) (hg : g = .nil) :
    Agree text path cb conv (.ok (p, v, g)) (.ok a s') := by
  subst hp hv hg; rfl

theorem scan_step {text : Bytes} {path : String} {fuel : Nat} {s : St} {start : Nat}
    {call : Outcome (scanner.Scanner × directives.Range × directives.GoError)} {r1 : Res Syntax.Range}
    (h : call = .ok (goResR text path start r1) ∧ Post text r1) (hinv : Inv text fuel s) (hext : Ext s r1.st) :
    (∃ x s', r1 = .ok x s' ∧ call = .ok (goScanner text path s', goRange text path x, .nil) ∧ Inv text fuel s') ∨
    (∃ e s', r1 = .err e s' ∧ e ≠ [] ∧
      call = .ok (goScanner text path s', goRange text path ⟨start, s'.off⟩, goErr text path e)) := by
  cases hr : r1 with
  | ok x s' =>
    rw [hr] at h hext
    exact Or.inl ⟨x, s', rfl, h.1, hinv.ext hext⟩
  | err e s' =>
    rw [hr] at h
    exact Or.inr ⟨e, s', rfl, h.2.2 e s' rfl, h.1⟩

theorem parse_step {α β} {text : Bytes} {path : String} {cb : Syn.Proc} {fuel : Nat} {s : St} {conv : α → β}
    {call : Outcome (parser.Parser × β × directives.GoError)} {r1 : Res α}
    (h : Agree text path cb conv call r1) (hinv : Inv text fuel s) (hext : Ext s r1.st) :
    (∃ a s', r1 = .ok a s' ∧ call = .ok (goParser text path cb s', conv a, .nil) ∧ Inv text fuel s') ∨
    (∃ e s' pv, r1 = .err e s' ∧ e ≠ [] ∧ call = .ok (goParser text path cb s', pv, goErr text path e)) := by
  cases hr : r1 with
  | ok a s' =>
    rw [hr] at h hext
    exact Or.inl ⟨a, s', rfl, h, hinv.ext hext⟩
  | err e s' =>
    rw [hr] at h
    obtain ⟨hne, pv, hc⟩ := h
    exact Or.inr ⟨e, s', pv, rfl, hne, hc⟩

theorem nat_beq (a b : Nat) : (a == b) = decide (a = b) := by
  by_cases h : a = b <;> simp [h]

theorem dom_cases {r : Nat} (h : r < 0x200000 ∨ r = EOF) : (goRune r = (r : Int) ∧ r < 0x200000) ∨ (goRune r = -1 ∧ r = EOF) := by
  rcases h with h | h
  · exact Or.inl ⟨goRune_of_lt (by omega), h⟩
  · exact Or.inr ⟨by rw [h]; exact goRune_EOF, h⟩

theorem pred_IsDigit : PredAgrees Syn.IsDigit isDigit := by
  intro r h
  rcases dom_cases h with ⟨h1, _⟩ | ⟨h1, h2⟩
  · rw [h1]; simp [Syn.IsDigit]
  · rw [h1, h2, eof_not_digit]; rfl

theorem pred_IsLetter : PredAgrees Syn.IsLetter isLetter := by
  intro r h
  rcases dom_cases h with ⟨h1, _⟩ | ⟨h1, h2⟩
  · rw [h1]; simp [Syn.IsLetter]
  · rw [h1, h2, eof_not_letter]; rfl

theorem pred_isAlphanumeric : PredAgrees parser.isAlphanumeric isAlphanumeric := by
  intro r h
  simp only [parser.isAlphanumeric, isAlphanumeric, pred_IsLetter r h, pred_IsDigit r h]

theorem goRune_eq_iff {r : Nat} (h : r < 0x200000 ∨ r = EOF) (c : Nat) (hc : c < 0x200000) : goRune r = (c : Int) ↔ r = c := by
  rcases dom_cases h with ⟨h1, h2⟩ | ⟨h1, h2⟩
  · rw [h1]; omega
  · rw [h1, h2]; simp only [EOF]; omega

theorem goRune_beq {r : Nat} (h : r < 0x200000 ∨ r = EOF) (c : Nat) (hc : c < 0x200000) :
    decide (goRune r = (c : Int)) = (r == c) := by
  rw [nat_beq]
  exact decide_eq_decide.mpr (goRune_eq_iff h c hc)

theorem goRune_beq_eof {r : Nat} (h : r < 0x200000 ∨ r = EOF) : decide (goRune r = (-1 : Int)) = (r == EOF) := by
  rw [nat_beq]
  refine decide_eq_decide.mpr ?_
  rcases dom_cases h with ⟨h1, h2⟩ | ⟨h1, h2⟩
  · rw [h1]; simp only [EOF]; omega
  · rw [h1, h2]; simp

theorem go_isWhitespace {r : Nat} (h : r < 0x200000 ∨ r = EOF) : parser.isWhitespace (goRune r) = isWhitespace r := by
  unfold parser.isWhitespace isWhitespace
  rw [← goRune_beq h 32 (by decide), ← goRune_beq h 9 (by decide), ← goRune_beq h 13 (by decide)]
  rfl

theorem pred_isWhitespace : PredAgrees parser.isWhitespace isWhitespace := fun _ h => go_isWhitespace h

theorem go_isNewline {r : Nat} (h : r < 0x200000 ∨ r = EOF) : parser.isNewline (goRune r) = isNewline r :=
  goRune_beq h 10 (by decide)

theorem go_isWhitespaceOrNewline {r : Nat} (h : r < 0x200000 ∨ r = EOF) :
    parser.isWhitespaceOrNewline (goRune r) = isWhitespaceOrNewline r := by
  simp only [parser.isWhitespaceOrNewline, isWhitespaceOrNewline, go_isNewline h, go_isWhitespace h]

theorem pred_notNewlineOrEOF : PredAgrees (fun r => !parser.isNewlineOrEOF r) (fun r => !isNewlineOrEOF r) := by
  intro r h
  show (!(decide (goRune r = 10) || decide (goRune r = -1))) = !(r == 10 || r == EOF)
  rw [← goRune_beq h 10 (by decide), ← goRune_beq_eof h]
  rfl

theorem pred_ne (c : Nat) (hc : c < 0x200000) : PredAgrees (fun r => !decide (r = (c : Int))) (fun r => r != c) :=
  fun _ h => congrArg not (goRune_beq h c hc)

theorem cur_eq_lit {text : Bytes} {s : St} (h : SimOK text s) (ci : Int) (c : Nat) (hci : ci = (c : Int)) (hc : c < 0x200000) :
    (goRune (cur s) = ci) ↔ cur s = c := by
  subst hci
  exact goRune_eq_iff h.cur_dom c hc

/-! ### agreement inside loops and joined conditionals -/

section
variable {text : Bytes} {path : String} {cb : Syn.Proc} {fuel : Nat} {s : St}

/-- agreement of a Go loop / joined conditional (fall through with the state `emb c s1` | return) with a model computation `A` -/
def FlowAgree {β γ σ : Type} (text : Bytes) (path : String) (cb : Syn.Proc) (fuel : Nat) (emb : γ → St → σ)
    (X : Outcome (Flow σ (parser.Parser × β × directives.GoError))) (A : Res γ) : Prop :=
  match A with
  | .ok c s1 => X = .ok (Flow.next (emb c s1)) ∧ Inv text fuel s1
  | .err e s1 => e ≠ [] ∧ ∃ pv, X = .ok (Flow.ret (goParser text path cb s1, pv, goErr text path e))

theorem flow_ok {β γ σ : Type} {emb : γ → St → σ} {st : σ} {c : γ} {s1 : St} (hst : st = emb c s1) (hi : Inv text fuel s1) :
    FlowAgree (β := β) text path cb fuel emb (.ok (Flow.next st)) (.ok c s1) := by
  subst hst; exact ⟨rfl, hi⟩

theorem flow_err {β γ σ : Type} {emb : γ → St → σ} {p : parser.Parser} {pv : β} {g : directives.GoError} {e : Err} {s1 : St}
    (hne : e ≠ []) (hp : p = goParser text path cb s1) (hg : g = goErr text path e) :
    FlowAgree text path cb fuel emb (.ok (Flow.ret (p, pv, g))) (.err e s1 : Res γ) := by
  subst hp hg; exact ⟨hne, pv, rfl⟩

/-- function level: a `Flow` outcome followed by the rest of the function; the model's prefix `A` passes its error through -/
theorem agree_flow {α β γ σ : Type} {conv : α → β} {emb : γ → St → σ}
    {J : Flow σ (parser.Parser × β × directives.GoError) → Outcome (parser.Parser × β × directives.GoError)}
    {X : Outcome (Flow σ (parser.Parser × β × directives.GoError))} {A : Res γ} {f : γ → St → Res α}
    (hX : FlowAgree text path cb fuel emb X A)
    (hK : ∀ c s1, Inv text fuel s1 → A = .ok c s1 → Agree text path cb conv (J (Flow.next (emb c s1))) (f c s1))
    (hJ : ∀ v, J (Flow.ret v) = .ok v) :
    Agree text path cb conv (X.bind J) (A.bind (fun e _ => e) f) := by
  cases A with
  | ok c s1 =>
    obtain ⟨hx, hi⟩ := hX
    rw [hx]
    exact hK c s1 hi rfl
  | err e s1 =>
    obtain ⟨hne, pv, hx⟩ := hX
    rw [hx]
    simp only [Outcome.bind, hJ, Res.bind]
    exact agree_err hne rfl rfl

/-- inside a loop or a join: a `Flow` outcome followed by the rest of the body -/
theorem flow_flow {β γ γ' σ σ' : Type} {emb : γ → St → σ} {emb' : γ' → St → σ'}
    {J : Flow σ (parser.Parser × β × directives.GoError) → Outcome (Flow σ' (parser.Parser × β × directives.GoError))}
    {X : Outcome (Flow σ (parser.Parser × β × directives.GoError))} {A : Res γ} {f : γ → St → Res γ'}
    (hX : FlowAgree text path cb fuel emb X A)
    (hK : ∀ c s1, Inv text fuel s1 → A = .ok c s1 → FlowAgree text path cb fuel emb' (J (Flow.next (emb c s1))) (f c s1))
    (hJ : ∀ v, J (Flow.ret v) = .ok (Flow.ret v)) :
    FlowAgree text path cb fuel emb' (X.bind J) (A.bind (fun e _ => e) f) := by
  cases A with
  | ok c s1 =>
    obtain ⟨hx, hi⟩ := hX
    rw [hx]
    exact hK c s1 hi rfl
  | err e s1 =>
    obtain ⟨hne, pv, hx⟩ := hX
    rw [hx]
    simp only [Outcome.bind, hJ, Res.bind]
    exact flow_err hne rfl rfl

/-! laws of `Res.bind`; the decoration `fun e _ => e` passes an error on as it is -/

theorem Res.bind_assoc_id {α β γ} (r : Res α) (on : Err → St → Err) (f : α → St → Res β) (g : β → St → Res γ) :
    (r.bind on f).bind (fun e _ => e) g = r.bind on (fun a s => (f a s).bind (fun e _ => e) g) := by
  cases r <;> rfl

theorem Res.bind_ann_split {α β} (r : Res α) (on : Err → St → Err) (f : α → St → Res β) :
    r.bind on f = (r.bind on (fun a s => .ok a s)).bind (fun e _ => e) f := by
  cases r <;> rfl

theorem Res.bind_id_bind {α β γ} (r : Res α) (on : Err → St → Err) (f : α → St → Res β) (g : β → St → Res γ) :
    (r.bind (fun e _ => e) f).bind on g = r.bind on fun a s => (f a s).bind on g := by
  cases r <;> rfl

theorem Res.bind_ok_id {α} (r : Res α) : r.bind (fun e _ => e) (fun a s => .ok a s) = r := by
  cases r <;> rfl

theorem Res.ite_bind {α β} (b : Bool) (x y : Res α) (on : Err → St → Err) (f : α → St → Res β) :
    (if b = true then x else y).bind on f = if b = true then x.bind on f else y.bind on f := by
  cases b <;> rfl

theorem Res.map_id {α} (r : Res α) : Res.map id r = r := by
  cases r <;> rfl

theorem annotate_ne (desc : String) (start : Nat) (e : Err) (s : St) : annotate desc start e s ≠ [] := by
  simp [annotate]

theorem cur_eof' (h : Inv text fuel s) : goRune (cur s) = -1 ↔ atEOF s = true := h.1.cur_eof

@[simp] theorem obind_ok {α β : Type} (a : α) (f : α → Outcome β) : Outcome.bind (.ok a) f = f a := rfl
@[simp] theorem rbind_ok {α β} (a : α) (s : St) (on : Err → St → Err) (f : α → St → Res β) : (Res.ok a s).bind on f = f a s := rfl
@[simp] theorem rbind_err {α β} (e : Err) (s : St) (on : Err → St → Err) (f : α → St → Res β) :
    (Res.err e s : Res α).bind on f = .err (on e s) s := rfl

/-! ### tactics for one call

`call_err`, `go_ok`, `pcall`, `scall`: the call step of the next section as tactics; the proofs are written with the rules `rel_pcall`,
`rel_scall`, `rel_scall'`. -/

/-- closes the error case of a call (function level or inside a loop/join): Go returns `s.Annotate(err)`, the model
`annotate desc start e s'` -/
macro "call_err " hne:term : tactic =>
  `(tactic| (simp only [obind_ok, rbind_ok, rbind_err, goParser_with, goParser_Scanner, decide_eq_true_eq, (goErr_ne_nil _ _ $hne), not_false_eq_true,
      decide_true, decide_false, Bool.not_false, Bool.not_true, if_true, if_false, go_Range, go_Annotate, go_Scope]; first | exact agree_err (annotate_ne _ _ _ _) rfl rfl | exact agree_err $hne rfl rfl | exact flow_err (annotate_ne _ _ _ _) rfl rfl | exact flow_err $hne rfl rfl))

/-- reduces the success case of a call -/
macro "go_ok" : tactic =>
  `(tactic| simp only [obind_ok, rbind_ok, rbind_err, goParser_with, goParser_Scanner, decide_true, Bool.not_true, Bool.false_eq_true, if_false,
      go_Range, go_Scope, go_Current])

/-- a call of a translated parser method: the error case is closed, the success case continues with the new state -/
macro "pcall " t:term " , " hinv:term " , " ext:term " => " a:ident s:ident hm:ident h:ident : tactic =>
  `(tactic| (rcases parse_step $t $hinv $ext with ⟨$a:ident, $s:ident, $hm:ident, hc, $h:ident⟩ | ⟨e, $s:ident, pv, $hm:ident, hne, hc⟩; rotate_left; (· (rw [hc, $hm:ident]; call_err hne)); rw [hc, $hm:ident]; go_ok))

/-- a call of a scanner method -/
macro "scall " t:term " , " hinv:term " , " ext:term " => " a:ident s:ident hm:ident h:ident : tactic =>
  `(tactic| (rcases scan_step $t $hinv $ext with ⟨$a:ident, $s:ident, $hm:ident, hc, $h:ident⟩ | ⟨e, $s:ident, $hm:ident, hne, hc⟩; rotate_left; (· (rw [hc, $hm:ident]; call_err hne)); rw [hc, $hm:ident]; go_ok))

/-! ### one call, one conditional

A translated call is `call.bind fun t => if t.2.2 != nil then return (…, s.Annotate(t.2.2)) else K t`, the model's
`r.bind (annotate desc start) f`.  The lemmas below are stated about exactly this shape, so that a function body is walked through
call by call with `refine`, the rest of the body `K` being handed on untouched. -/

/-- Go's test `err != nil` on a converted error chain -/
theorem goErr_isErr {e : Err} (hne : e ≠ []) : (!(decide (goErr text path e = .nil))) = true := by
  simp [goErr_ne_nil text path hne]

/-- `R` accepts the model's failure when the Go piece returns its error chain through `rt`: what the call rules need of `Agree`
(`rt = id`, `agreeE`) and of `FlowAgree` (`rt = Flow.ret`, `flowE`) -/
def ErrIntro {β γ τ : Type} (text : Bytes) (path : String) (cb : Syn.Proc) (R : Outcome τ → Res γ → Prop)
    (rt : parser.Parser × β × directives.GoError → τ) : Prop :=
  ∀ (e : Err) (s' : St) (pv : β) (g : directives.GoError), e ≠ [] → g = goErr text path e →
    R (.ok (rt (goParser text path cb s', pv, g))) (.err e s')

theorem agreeE {α β : Type} {conv : α → β} : ErrIntro text path cb (Agree text path cb conv) id :=
  fun _ _ _ _ hne hg => agree_err hne rfl hg

theorem flowE {β γ σ : Type} {emb : γ → St → σ} : ErrIntro (β := β) text path cb (FlowAgree text path cb fuel emb) Flow.ret :=
  fun _ _ _ _ hne hg => flow_err hne rfl hg

section
variable {α α₁ β β₁ : Type} {conv : α → β} {conv₁ : α₁ → β₁} {desc : String} {start : Nat}
  {call : Outcome (parser.Parser × β₁ × directives.GoError)} {r1 : Res α₁}
  (hcall : Agree text path cb conv₁ call r1) (hinv : Inv text fuel s) (hext : Ext s r1.st)
include hcall hinv hext

/-- function level, a call of a translated parser method followed by any continuation `K`: what `K` does with an error is shown at
the call site -/
theorem agree_pcall_any {on : Err → St → Err} {K : parser.Parser × β₁ × directives.GoError → Outcome (parser.Parser × β × directives.GoError)}
    {f : α₁ → St → Res α}
    (herr : ∀ e s' pv, e ≠ [] →
      Agree text path cb conv (K (goParser text path cb s', pv, goErr text path e)) (.err (on e s') s'))
    (hok : ∀ a s', Inv text fuel s' → r1 = .ok a s' →
      Agree text path cb conv (K (goParser text path cb s', conv₁ a, .nil)) (f a s')) :
    Agree text path cb conv (call.bind K) (r1.bind on f) := by
  rcases parse_step hcall hinv hext with ⟨a, s', hm, hc, hi⟩ | ⟨e, s', pv, hm, hne, hc⟩
  · rw [hc, hm]
    exact hok a s' hi hm
  · rw [hc, hm]
    exact herr e s' pv hne

/-- … as the last call of a function that ends `if err != nil { err = s.Annotate(err) }; return …, err` -/
theorem agree_pcall_last {V : parser.Parser × β₁ × directives.GoError → β} {g : α₁ → St → α}
    (hok : ∀ a s', V (goParser text path cb s', conv₁ a, .nil) = conv (g a s')) :
    Agree text path cb conv
      (call.bind fun t => .ok (t.1, V t,
        if (!(decide (t.2.2 = .nil))) = true then scanner.Scope.Annotate ⟨goStr desc, (start : Int)⟩ t.2.2 t.1.Scanner else t.2.2))
      (r1.bind (annotate desc start) fun a s' => .ok (g a s') s') := by
  refine agree_pcall_any hcall hinv hext (fun e s' pv hne => ?_) (fun a s' _ _ => agree_ok rfl (hok a s') rfl)
  simp only [goErr_isErr hne, if_true]
  exact agree_err (annotate_ne _ _ _ _) rfl (go_Annotate ..)

end

section
variable {α₁ β β₁ γ τ : Type} {conv₁ : α₁ → β₁} {desc : String} {start : Nat}
  {R : Outcome τ → Res γ → Prop} {rt : parser.Parser × β × directives.GoError → τ}
  {call : Outcome (parser.Parser × β₁ × directives.GoError)} {r1 : Res α₁} {PV : parser.Parser × β₁ × directives.GoError → β}

/-- a call of a translated parser method whose error is returned decorated with the scope (through `rt`); `K` is the rest of the
body; `R` is `Agree …` at function level (`agreeE`) or `FlowAgree …` inside a loop or a join (`flowE`) -/
theorem rel_pcall (hR : ErrIntro text path cb R rt) (hcall : Agree text path cb conv₁ call r1) (hinv : Inv text fuel s)
    (hext : Ext s r1.st) {K : parser.Parser × β₁ × directives.GoError → Outcome τ} {f : α₁ → St → Res γ}
    (hok : ∀ a s', Inv text fuel s' → r1 = .ok a s' → R (K (goParser text path cb s', conv₁ a, .nil)) (f a s')) :
    R (call.bind fun t => if (!(decide (t.2.2 = .nil))) = true then
          .ok (rt (t.1, PV t, scanner.Scope.Annotate ⟨goStr desc, (start : Int)⟩ t.2.2 t.1.Scanner)) else K t)
      (r1.bind (annotate desc start) f) := by
  rcases parse_step hcall hinv hext with ⟨a, s', hm, hc, hi⟩ | ⟨e, s', pv, hm, hne, hc⟩
  · rw [hc, hm]
    exact hok a s' hi hm
  · rw [hc, hm]
    simp only [obind_ok, rbind_err, goErr_isErr hne, if_true]
    exact hR _ _ _ _ (annotate_ne _ _ _ _) (go_Annotate ..)

end

section
variable {β γ γ' τ : Type} {π : γ → Syntax.Range} {desc : String} {start st0 : Nat}
  {R : Outcome τ → Res γ' → Prop} {rt : parser.Parser × β × directives.GoError → τ}
  {call : Outcome (scanner.Scanner × directives.Range × directives.GoError)} {r1 : Res γ}
  {PV : scanner.Scanner × directives.Range × directives.GoError → β}

/-- a call of a scanner method; `π` picks the range out of what the model's scanner function returns (`ReadAlternative` returns the
range only, the model's `readAlternative` also the alternative that matched) -/
theorem rel_scall' (hR : ErrIntro text path cb R rt)
    (hcall : call = .ok (goResR text path st0 (Res.map π r1)) ∧ Post text r1) (hinv : Inv text fuel s) (hext : Ext s r1.st)
    {K : scanner.Scanner × directives.Range × directives.GoError → Outcome τ} {f : γ → St → Res γ'}
    (hok : ∀ x s', Inv text fuel s' → r1 = .ok x s' → R (K (goScanner text path s', goRange text path (π x), .nil)) (f x s')) :
    R (call.bind fun t => if (!(decide (t.2.2 = .nil))) = true then
          .ok (rt (⟨t.1, cb⟩, PV t, scanner.Scope.Annotate ⟨goStr desc, (start : Int)⟩ t.2.2 t.1)) else K t)
      (r1.bind (annotate desc start) f) := by
  rw [hcall.1]
  cases r1 with
  | ok x s' => exact hok x s' (hinv.ext hext) rfl
  | err e s' =>
    simp only [Res.map, goResR, obind_ok, rbind_err, goErr_isErr (hcall.2.2 e s' rfl), if_true]
    exact hR _ _ _ _ (annotate_ne _ _ _ _) (go_Annotate ..)

end

section
variable {β γ' τ : Type} {desc : String} {start st0 : Nat}
  {R : Outcome τ → Res γ' → Prop} {rt : parser.Parser × β × directives.GoError → τ}
  {call : Outcome (scanner.Scanner × directives.Range × directives.GoError)} {r1 : Res Syntax.Range}
  {PV : scanner.Scanner × directives.Range × directives.GoError → β}

/-- the scanner methods whose model returns just the range -/
theorem rel_scall (hR : ErrIntro text path cb R rt)
    (hcall : call = .ok (goResR text path st0 r1) ∧ Post text r1) (hinv : Inv text fuel s) (hext : Ext s r1.st)
    {K : scanner.Scanner × directives.Range × directives.GoError → Outcome τ} {f : Syntax.Range → St → Res γ'}
    (hok : ∀ x s', Inv text fuel s' → r1 = .ok x s' → R (K (goScanner text path s', goRange text path x, .nil)) (f x s')) :
    R (call.bind fun t => if (!(decide (t.2.2 = .nil))) = true then
          .ok (rt (⟨t.1, cb⟩, PV t, scanner.Scope.Annotate ⟨goStr desc, (start : Int)⟩ t.2.2 t.1)) else K t)
      (r1.bind (annotate desc start) f) :=
  rel_scall' (π := id) hR (by rw [Res.map_id]; exact hcall) hinv hext hok

end

/-- a Go call whose value is known (`r.Extract()` of a keyword just read); `R` is `Agree …` or `FlowAgree …` -/
theorem rel_bind_ok {X Y τ : Type} (R : Outcome X → Y → Prop) {C : Outcome τ} {t : τ} {K : τ → Outcome X} {r : Y}
    (hC : C = .ok t) (h : R (K t) r) : R (C.bind K) r := by
  subst hC; exact h

/-- `p.Current() == c` for an ordinary rune `c`, as a condition of the translation against the model's -/
theorem Current_beq (h : SimOK text s) (c : Nat) (hc : c < 0x200000) :
    decide (scanner.Scanner.Current (goScanner text path s) = (c : Int)) = (cur s == c) :=
  goRune_beq h.cur_dom c hc

theorem Current_bne (h : SimOK text s) (c : Nat) (hc : c < 0x200000) :
    (!decide (scanner.Scanner.Current (goScanner text path s) = (c : Int))) = (cur s != c) :=
  congrArg not (Current_beq h c hc)

/-- the test that ends the loops over bookings and balances -/
theorem Current_ws_or_eof (h : SimOK text s) :
    (parser.isWhitespaceOrNewline (scanner.Scanner.Current (goScanner text path s)) ||
      decide (scanner.Scanner.Current (goScanner text path s) = (-1 : Int))) = (isWhitespaceOrNewline (cur s) || atEOF s) := by
  rw [Current_eof h, go_Current, go_isWhitespaceOrNewline h.cur_dom]

/-- string constants are told apart by their bytes: the translation's `switch` on `r.Extract()` against the model's test of the
keyword -/
theorem goStr_inj {a b : String} (h : goStr a = goStr b) : a = b := by
  have h2 := congrArg decodeAll h
  rw [goStr, goStr, Utf8.lit_eq_strBytes, Utf8.lit_eq_strBytes, Utf8.decodeAll_strBytes, Utf8.decodeAll_strBytes] at h2
  exact String.toList_inj.mp ((List.map_inj_right fun c d hcd => Char.toNat_inj.mp (congrArg Tok.r hcd)).mp h2)

theorem goStr_beq (a b : String) : decide (goStr a = Syn.lit b) = (a == b) :=
  decide_eq_decide.mpr ⟨goStr_inj, congrArg _⟩

theorem ReadCharacter_lit (h : SimOK text s) (ci : Int) (c : Nat) (hci : ci = (c : Int)) (hc : c < 2 ^ 31) :
    scanner.Scanner.ReadCharacter (goScanner text path s) ci = .ok (goResR text path s.off (readCharacter c s)) ∧
      Post text (readCharacter c s) := by
  have := ReadCharacter_agrees (path := path) h (r := c) (by omega)
  rw [goRune_of_lt hc] at this
  subst hci
  exact this

theorem readWhitespace1_agrees (h : Inv text fuel s) :
    Agree text path cb (goRange text path) (parser.Parser.readWhitespace1 fuel (goParser text path cb s)) (readWhitespace1 s) := by
  unfold parser.Parser.readWhitespace1 readWhitespace1
  simp only [goParser_Scanner, go_Scope, go_Current, go_Range, go_isWhitespaceOrNewline h.1.cur_dom, cur_eof' h]
  by_cases hc : (!isWhitespaceOrNewline (cur s) && !atEOF s) = true
  · have hc' : (!isWhitespaceOrNewline (cur s) && !decide (atEOF s = true)) = true := by simpa using hc
    rw [if_pos hc', if_pos hc]
    exact agree_err (by simp) rfl (by simp [goErr_single, goFrame, rng, Fmt_c_goRune h.1.cur_lt])
  · have hc' : ¬ ((!isWhitespaceOrNewline (cur s) && !decide (atEOF s = true)) = true) := by simpa using hc
    rw [if_neg hc', if_neg hc]
    rcases scan_step (ReadWhile_agrees (path := path) h.1 h.2 pred_isWhitespace) h (readWhile_ext _ _) with
      ⟨x, s1, hm, hcall, h1⟩ | ⟨e, s1, hm, hne, hcall⟩
    · rw [hcall, hm]; exact agree_ok rfl rfl rfl
    · rw [hcall, hm]; exact agree_err hne rfl rfl

theorem readRestOfWhitespaceLine_agrees (h : Inv text fuel s) :
    Agree text path cb (goRange text path) (parser.Parser.readRestOfWhitespaceLine fuel (goParser text path cb s))
      (readRestOfWhitespaceLine s) := by
  unfold parser.Parser.readRestOfWhitespaceLine readRestOfWhitespaceLine
  refine rel_scall agreeE (ReadWhile_agrees h.1 h.2 pred_isWhitespace) h (readWhile_ext _ _) fun x1 s1 h1 _ => ?_
  refine rel_ite (Agree text path cb _) (Current_eof h1.1) (fun _ => agree_ok rfl rfl rfl) fun _ => ?_
  refine rel_scall agreeE (ReadCharacter_lit h1.1 10 10 rfl (by decide)) h1 (readCharacter_ext _ _) fun x2 s2 h2 _ => ?_
  exact agree_ok rfl rfl rfl

theorem readComment_agrees (h : Inv text fuel s) :
    Agree text path cb (goRange text path) (parser.Parser.readComment fuel (goParser text path cb s)) (readComment s) := by
  unfold parser.Parser.readComment readComment
  refine rel_scall' agreeE (ReadAlternative_agrees h.1 ["*", "//", "#"] (by decide)) h (readAlternative_ext _ _) fun x1 s1 h1 _ => ?_
  refine rel_scall agreeE (ReadWhile_agrees h1.1 h1.2 pred_notNewlineOrEOF) h1 (readWhile_ext _ _) fun x2 s2 h2 _ => ?_
  exact agree_ok rfl rfl rfl

def goCommodity (text : Bytes) (path : String) (c : Syntax.Commodity) : directives.Commodity := ⟨goRange text path c.range⟩
def goDate (text : Bytes) (path : String) (d : Syntax.Date) : directives.Date := ⟨goRange text path d.range⟩
def goDecimal (text : Bytes) (path : String) (d : Syntax.Decimal) : directives.Decimal := ⟨goRange text path d.range⟩
def goInterval (text : Bytes) (path : String) (d : Syntax.Interval) : directives.Interval := ⟨goRange text path d.range⟩
def goAccount (text : Bytes) (path : String) (a : Syntax.Account) : directives.Account := ⟨goRange text path a.range, a.isMacro⟩
def goQuoted (text : Bytes) (path : String) (q : Syntax.QuotedString) : directives.QuotedString :=
  ⟨goRange text path q.range, goRange text path q.content⟩

theorem parseCommodity_agrees (h : Inv text fuel s) :
    Agree text path cb (goCommodity text path) (parser.Parser.parseCommodity fuel (goParser text path cb s)) (parseCommodity s) := by
  unfold parser.Parser.parseCommodity parseCommodity
  -- the translation of `if err != nil { err = s.Annotate(err) }` has the test inside the returned error
  simp only [goParser_Scanner, go_Scope]
  rcases scan_step (ReadWhile1_agrees (path := path) h.1 h.2 "a letter or a digit" pred_isAlphanumeric) h (readWhile1_ext _ _ _) with
    ⟨x, s1, hm, hc, h1⟩ | ⟨e, s1, hm, hne, hc⟩
  · rw [hc, hm]; exact agree_ok rfl rfl rfl
  · rw [hc, hm]
    simp only [obind_ok, rbind_err, goErr_isErr hne, if_true]
    exact agree_err (annotate_ne _ _ _ _) rfl (go_Annotate ..)

theorem parseQuotedString_agrees (h : Inv text fuel s) :
    Agree text path cb (goQuoted text path) (parser.Parser.parseQuotedString fuel (goParser text path cb s)) (parseQuotedString s) := by
  unfold parser.Parser.parseQuotedString parseQuotedString
  refine rel_scall agreeE (ReadCharacter_lit h.1 34 34 rfl (by decide)) h (readCharacter_ext _ _) fun x1 s1 h1 _ => ?_
  refine rel_scall agreeE (ReadWhile_agrees h1.1 h1.2 (pred_ne 34 (by decide))) h1 (readWhile_ext _ _) fun x2 s2 h2 _ => ?_
  refine rel_scall agreeE (ReadCharacter_lit h2.1 34 34 rfl (by decide)) h2 (readCharacter_ext _ _) fun x3 s3 h3 _ => ?_
  exact agree_ok rfl rfl rfl

theorem parseInterval_agrees (h : Inv text fuel s) :
    Agree text path cb (goInterval text path) (parser.Parser.parseInterval (goParser text path cb s)) (parseInterval s) := by
  unfold parser.Parser.parseInterval parseInterval
  refine rel_scall' agreeE (fuel := fuel) (ReadAlternative_agrees h.1 ["daily", "weekly", "monthly", "quarterly"] (by decide)) h
    (readAlternative_ext _ _) fun x1 s1 h1 _ => ?_
  exact agree_ok rfl rfl rfl

theorem parseDecimal_agrees (h : Inv text fuel s) :
    Agree text path cb (goDecimal text path) (parser.Parser.parseDecimal fuel (goParser text path cb s)) (parseDecimal s) := by
  unfold parser.Parser.parseDecimal parseDecimal
  refine agree_flow (fuel := fuel) (emb := fun (_ : Unit) s1 => goParser text path cb s1) ?_ ?_ (fun _ => rfl)
  · -- the optional sign
    refine rel_ite (FlowAgree text path cb fuel _) (Current_beq h.1 45 (by decide)) (fun _ => ?_) (fun _ => flow_ok rfl h)
    exact rel_scall flowE (ReadCharacter_lit h.1 45 45 rfl (by decide)) h (readCharacter_ext _ _) fun x1 s1 h1 _ => flow_ok rfl h1
  · -- the digits
    intro _ s1 h1 _
    refine rel_scall agreeE (ReadWhile1_agrees h1.1 h1.2 "a digit" pred_IsDigit) h1 (readWhile1_ext _ _ _) fun x2 s2 h2 _ => ?_
    refine rel_ite (Agree text path cb _) (Current_bne h2.1 46 (by decide)) (fun _ => agree_ok rfl rfl rfl) fun _ => ?_
    refine rel_scall agreeE (ReadCharacter_lit h2.1 46 46 rfl (by decide)) h2 (readCharacter_ext _ _) fun x3 s3 h3 _ => ?_
    refine rel_scall agreeE (ReadWhile1_agrees h3.1 h3.2 "a digit" pred_IsDigit) h3 (readWhile1_ext _ _ _) fun x4 s4 h4 _ => ?_
    exact agree_ok rfl rfl rfl

theorem parseAccount_loop_agrees (start : Nat) :
    ∀ (n : Nat) (s1 : St), Inv text fuel s1 → s1.toks.length < n →
      Agree text path cb (goAccount text path)
        (parser.Parser.parseAccount.loop1 fuel ⟨Syn.lit "parsing account", (start : Int)⟩ n (goParser text path cb s1))
        (accountLoop start s1) := by
  intro n s1 h1 hn
  induction n, s1, hn using fuel_induction with
  | step n s1 hn ih =>
    unfold parser.Parser.parseAccount.loop1
    rw [accountLoop_eq]
    refine rel_ite (Agree text path cb _) (Current_bne h1.1 58 (by decide)) (fun _ => agree_ok rfl rfl rfl) fun _ => ?_
    refine rel_scall agreeE (ReadCharacter_lit h1.1 58 58 rfl (by decide)) h1 (readCharacter_ext _ _) fun x2 s2 h2 hm2 => ?_
    refine rel_scall agreeE (ReadWhile1_agrees h2.1 h2.2 "a letter or a digit" pred_isAlphanumeric) h2 (readWhile1_ext _ _ _)
      fun x3 s3 h3 hm3 => ?_
    exact ih s3 ((readCharacter_extS _ _ _ _ hm2).trans_ext (ext_of_ok (readWhile1_ext _ _ _) hm3)).length_lt h3

theorem parseAccount_agrees (h : Inv text fuel s) :
    Agree text path cb (goAccount text path) (parser.Parser.parseAccount fuel (goParser text path cb s)) (parseAccount s) := by
  unfold parser.Parser.parseAccount parseAccount
  refine rel_ite (Agree text path cb _) (Current_beq h.1 36 (by decide)) (fun _ => ?_) (fun _ => ?_)
  · refine rel_scall agreeE (ReadCharacter_lit h.1 36 36 rfl (by decide)) h (readCharacter_ext _ _) fun x2 s2 h2 _ => ?_
    refine rel_scall agreeE (ReadWhile1_agrees h2.1 h2.2 "a letter" pred_IsLetter) h2 (readWhile1_ext _ _ _) fun x3 s3 h3 _ => ?_
    exact agree_ok rfl rfl rfl
  · refine rel_scall agreeE (ReadWhile1_agrees h.1 h.2 "a letter or a digit" pred_isAlphanumeric) h (readWhile1_ext _ _ _)
      fun x3 s3 h3 _ => ?_
    exact parseAccount_loop_agrees s.off fuel s3 h3 h3.2

/-- `k` digits, each error decorated -/
def digitsA (desc : String) (start : Nat) : Nat → St → Res Unit
  | 0, s => .ok () s
  | k + 1, s => (readCharacterWith "a digit" isDigit s).bind (annotate desc start) fun _ s => digitsA desc start k s

theorem digitsA_ext (desc : String) (start : Nat) : ∀ (k : Nat) (s : St), Ext s (digitsA desc start k s).st := by
  intro k
  induction k with
  | zero => intro s; exact Ext.refl _
  | succ k ih =>
    intro s
    simp only [digitsA]
    exact Res.bind_ext (readCharacterWith_ext _ _ _) fun _ s1 _ => ih s1

/-- a translated loop `for ; i < bound; i++ { ReadCharacterWith("a digit", IsDigit) }` (`L`, given by its defining equation `hL`)
reads the `k` digits that are left -/
theorem digits_loop_agrees {bound start : Nat} {desc : String}
    {L : Nat → parser.Parser → Int → Outcome (Flow (parser.Parser × Int) (parser.Parser × directives.Date × directives.GoError))}
    (hL : ∀ n p i, L n p i =
      if decide (i < (bound : Int)) = true then
        match n with
        | 0 => .outOfFuel
        | n + 1 => (scanner.Scanner.ReadCharacterWith p.Scanner (Syn.lit "a digit") Syn.IsDigit).bind fun t =>
          if (!(decide (t.2.2 = .nil))) = true then
            .ok (Flow.ret (⟨t.1, p.Callback⟩, ⟨scanner.Scope.Range ⟨goStr desc, (start : Int)⟩ t.1⟩,
              scanner.Scope.Annotate ⟨goStr desc, (start : Int)⟩ t.2.2 t.1))
          else L n ⟨t.1, p.Callback⟩ (i + 1)
      else .ok (Flow.next (p, i))) :
    ∀ (k : Nat) (n : Nat) (s1 : St), k ≤ bound → Inv text fuel s1 → s1.toks.length < n →
      FlowAgree (β := directives.Date) text path cb fuel (fun (_ : Unit) s' => (goParser text path cb s', (bound : Int)))
        (L n (goParser text path cb s1) ((bound - k : Nat) : Int)) (digitsA desc start k s1) := by
  intro k
  induction k with
  | zero =>
    intro n s1 _ h1 _
    rw [hL, if_neg (by simp), digitsA]
    exact flow_ok rfl h1
  | succ k ih =>
    intro n s1 hk h1 hn
    have hlt : ((bound - (k + 1) : Nat) : Int) < bound := by omega
    obtain ⟨n', rfl⟩ : ∃ n', n = n' + 1 := ⟨n - 1, by omega⟩
    rw [hL, if_pos (decide_eq_true hlt), digitsA]
    refine rel_scall flowE (ReadCharacterWith_agrees h1.1 "a digit" pred_IsDigit) h1 (readCharacterWith_ext _ _ _) fun x2 s2 h2 hm2 => ?_
    have l2 := (readCharacterWith_extS _ _ _ _ _ hm2).length_lt
    have hi : ((bound - (k + 1) : Nat) : Int) + 1 = ((bound - k : Nat) : Int) := by omega
    rw [hi]
    exact ih n' s2 (by omega) h2 (by omega)

/-- `k` groups `-dd` -/
def dashDigitsA (desc : String) (start : Nat) : Nat → St → Res Unit
  | 0, s => .ok () s
  | k + 1, s =>
    (readCharacter 45 s).bind (annotate desc start) fun _ s =>
    (digitsA desc start 2 s).bind (fun e _ => e) fun _ s => dashDigitsA desc start k s

theorem parseDate_loop2_agrees (start : Nat) :
    ∀ (k : Nat) (n : Nat) (s1 : St), k ≤ 2 → Inv text fuel s1 → s1.toks.length < n →
      FlowAgree (β := directives.Date) text path cb fuel (fun (_ : Unit) s' => (goParser text path cb s', (2 : Int)))
        (parser.Parser.parseDate.loop2 fuel ⟨Syn.lit "parsing the date", (start : Int)⟩ n (goParser text path cb s1) ((2 - k : Nat) : Int))
        (dashDigitsA "parsing the date" start k s1) := by
  intro k
  induction k with
  | zero =>
    intro n s1 _ h1 _
    unfold parser.Parser.parseDate.loop2
    simp only [dashDigitsA, Nat.sub_zero]
    exact flow_ok rfl h1
  | succ k ih =>
    intro n s1 hk h1 hn
    unfold parser.Parser.parseDate.loop2
    have hlt : ((2 - (k + 1) : Nat) : Int) < 2 := by omega
    rw [if_pos (decide_eq_true hlt), dashDigitsA]
    obtain ⟨n', rfl⟩ : ∃ n', n = n' + 1 := ⟨n - 1, by omega⟩
    refine rel_scall flowE (ReadCharacter_lit h1.1 45 45 rfl (by decide)) h1 (readCharacter_ext _ _) fun x2 s2 h2 hm2 => ?_
    have l2 := (readCharacter_extS _ _ _ _ hm2).length_lt
    refine flow_flow (digits_loop_agrees (bound := 2) (parser.Parser.parseDate.loop3.eq_def fuel _) 2 fuel s2 (by omega) h2 h2.2)
      ?_ (fun _ => rfl)
    intro _ s3 h3 hm3
    have l3 := (ext_of_ok (digitsA_ext _ _ _ _) hm3).length_le
    have hi : ((2 - (k + 1) : Nat) : Int) + 1 = ((2 - k : Nat) : Int) := by omega
    rw [hi]
    exact ih n' s3 (by omega) h3 (by omega)

theorem parseDate_eq (s : St) : parseDate s =
    (digitsA "parsing the date" s.off 4 s).bind (fun e _ => e) fun _ s1 =>
    (dashDigitsA "parsing the date" s.off 2 s1).bind (fun e _ => e) fun _ s2 => .ok ⟨rng s.off s2⟩ s2 := by
  simp only [parseDate, digitsA, dashDigitsA, Res.bind_assoc_id, rbind_ok]

theorem parseDate_agrees (h : Inv text fuel s) :
    Agree text path cb (goDate text path) (parser.Parser.parseDate fuel (goParser text path cb s)) (parseDate s) := by
  rw [parseDate_eq]
  unfold parser.Parser.parseDate
  simp only [goParser_Scanner, go_Scope]
  refine agree_flow (digits_loop_agrees (bound := 4) (parser.Parser.parseDate.loop1.eq_def fuel _) 4 fuel s (by omega) h h.2)
    ?_ (fun _ => rfl)
  intro _ s1 h1 _
  simp only
  refine agree_flow (parseDate_loop2_agrees s.off 2 fuel s1 (by omega) h1 h1.2) ?_ (fun _ => rfl)
  intro _ s2 h2 _
  simp only [goParser_Scanner, go_Range]
  exact agree_ok rfl rfl rfl

end

end Knut.FactsAgree.TransParser
