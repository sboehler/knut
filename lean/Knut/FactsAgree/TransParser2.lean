import Knut.FactsAgree.TransParser
/-!
# The translated parser agrees with the model parser, part 2: bookings, balances, performance and accrual annotations

Continues `TransParser.lean` (same invariant `Inv`, same relation `Agree`).  The conversions of the tree values (`goBooking`,
`goBalance`, `goPerformance`, `goAccrual`) go field by field, every range through `goRange`.
-/
namespace Knut.FactsAgree.TransParser
open Knut Knut.GoSem Knut.Syntax Knut.Utf8
open Knut.Generated.Go
open Knut.FactsAgree.TransScanner

def goBooking (text : Bytes) (path : String) (b : Syntax.Booking) : directives.Booking :=
  ⟨goRange text path b.range, goAccount text path b.credit, goAccount text path b.debit, goDecimal text path b.quantity,
    goCommodity text path b.commodity⟩

def goBalance (text : Bytes) (path : String) (b : Syntax.Balance) : directives.Balance :=
  ⟨goRange text path b.range, goAccount text path b.account, goDecimal text path b.quantity, goCommodity text path b.commodity⟩

def goPerformance (text : Bytes) (path : String) (p : Syntax.Performance) : directives.Performance :=
  ⟨goRange text path p.range, p.targets.map (goCommodity text path)⟩

def goAccrual (text : Bytes) (path : String) (a : Syntax.Accrual) : directives.Accrual :=
  ⟨goRange text path a.range, goInterval text path a.interval, goDate text path a.start, goDate text path a.stop,
    goAccount text path a.account⟩

section
variable {text : Bytes} {path : String} {cb : Syn.Proc} {fuel : Nat} {s : St}

theorem parseBooking_agrees (h : Inv text fuel s) :
    Agree text path cb (goBooking text path) (parser.Parser.parseBooking fuel (goParser text path cb s)) (parseBooking s) := by
  unfold parser.Parser.parseBooking parseBooking
  refine rel_pcall agreeE (parseAccount_agrees h) h (parseAccount_prog _).ext fun a1 s1 h1 _ => ?_
  refine rel_scall agreeE (ReadWhile1_agrees h1.1 h1.2 "whitespace" pred_isWhitespace) h1 (readWhile1_ext _ _ _) fun x2 s2 h2 _ => ?_
  refine rel_pcall agreeE (parseAccount_agrees h2) h2 (parseAccount_prog _).ext fun a3 s3 h3 _ => ?_
  refine rel_scall agreeE (ReadWhile1_agrees h3.1 h3.2 "whitespace" pred_isWhitespace) h3 (readWhile1_ext _ _ _) fun x4 s4 h4 _ => ?_
  refine rel_pcall agreeE (parseDecimal_agrees h4) h4 (parseDecimal_prog _).ext fun a5 s5 h5 _ => ?_
  refine rel_scall agreeE (ReadWhile1_agrees h5.1 h5.2 "whitespace" pred_isWhitespace) h5 (readWhile1_ext _ _ _) fun x6 s6 h6 _ => ?_
  refine rel_pcall agreeE (parseCommodity_agrees h6) h6 (parseCommodity_prog _).ext fun a7 s7 h7 _ => ?_
  exact agree_ok rfl rfl rfl

theorem parseBalance_agrees (h : Inv text fuel s) :
    Agree text path cb (goBalance text path) (parser.Parser.parseBalance fuel (goParser text path cb s)) (parseBalance s) := by
  unfold parser.Parser.parseBalance parseBalance
  refine rel_pcall agreeE (parseAccount_agrees h) h (parseAccount_prog _).ext fun a1 s1 h1 _ => ?_
  refine rel_pcall agreeE (readWhitespace1_agrees h1) h1 (readWhitespace1_ext _) fun x2 s2 h2 _ => ?_
  refine rel_pcall agreeE (parseDecimal_agrees h2) h2 (parseDecimal_prog _).ext fun a3 s3 h3 _ => ?_
  refine rel_pcall agreeE (readWhitespace1_agrees h3) h3 (readWhitespace1_ext _) fun x4 s4 h4 _ => ?_
  exact agree_pcall_last (parseCommodity_agrees h4) h4 (parseCommodity_prog _).ext fun a5 s5 => rfl

/-- the Go loop appends, the model's `perfLoop` conses and reverses at the end -/
theorem parsePerformance_loop_agrees (start : Nat) :
    ∀ (n : Nat) (acc : List Syntax.Commodity) (s1 : St), Inv text fuel s1 → s1.toks.length < n →
      FlowAgree (β := directives.Performance) text path cb fuel
        (fun (c : List Syntax.Commodity) s' =>
          (goParser text path cb s', (⟨GoZero.zero, c.map (goCommodity text path)⟩ : directives.Performance)))
        (parser.Parser.parsePerformance.loop1 fuel ⟨Syn.lit "parsing performance", (start : Int)⟩ n (goParser text path cb s1)
          ⟨GoZero.zero, acc.reverse.map (goCommodity text path)⟩)
        (perfLoop start acc s1) := by
  intro n acc s1 h1 hn
  induction n, s1, hn using fuel_induction generalizing acc with
  | step n s1 hn ih =>
    unfold parser.Parser.parsePerformance.loop1
    rw [perfLoop_eq]
    refine rel_ite_not (FlowAgree text path cb fuel _) (Current_beq h1.1 44 (by decide)) (fun _ => ?_) (fun _ => flow_ok rfl h1)
    refine rel_scall flowE (ReadCharacter_lit h1.1 44 44 rfl (by decide)) h1 (readCharacter_ext _ _) fun x2 s2 h2 hm2 => ?_
    refine rel_scall flowE (ReadWhile_agrees h2.1 h2.2 pred_isWhitespace) h2 (readWhile_ext _ _) fun x3 s3 h3 hm3 => ?_
    refine rel_pcall flowE (parseCommodity_agrees h3) h3 (parseCommodity_prog _).ext fun c4 s4 h4 hm4 => ?_
    refine rel_scall flowE (ReadWhile_agrees h4.1 h4.2 pred_isWhitespace) h4 (readWhile_ext _ _) fun x5 s5 h5 hm5 => ?_
    have := ih s5 ((readCharacter_extS _ _ _ _ hm2).trans_ext ((ext_of_ok (readWhile_ext _ _) hm3).trans
      ((ext_of_ok (parseCommodity_prog _).ext hm4).trans (ext_of_ok (readWhile_ext _ _) hm5)))).length_lt (c4 :: acc) h5
    rw [List.reverse_cons, List.map_append] at this
    exact this

theorem parsePerformance_agrees (h : Inv text fuel s) :
    Agree text path cb (goPerformance text path) (parser.Parser.parsePerformance fuel (goParser text path cb s))
      (parsePerformance s) := by
  unfold parser.Parser.parsePerformance parsePerformance
  refine rel_scall agreeE (ReadCharacter_lit h.1 40 40 rfl (by decide)) h (readCharacter_ext _ _) fun x1 s1 h1 _ => ?_
  refine rel_scall agreeE (ReadWhile_agrees h1.1 h1.2 pred_isWhitespace) h1 (readWhile_ext _ _) fun x2 s2 h2 _ => ?_
  refine agree_flow (fuel := fuel)
    (emb := fun (c : List Syntax.Commodity) s' =>
      (goParser text path cb s', (⟨GoZero.zero, c.reverse.map (goCommodity text path)⟩ : directives.Performance))) ?_ ?_ (fun _ => rfl)
  · -- the optional first target
    refine rel_ite (FlowAgree text path cb fuel _) (Current_bne h2.1 41 (by decide)) (fun _ => ?_) (fun _ => flow_ok rfl h2)
    refine rel_pcall flowE (parseCommodity_agrees h2) h2 (parseCommodity_prog _).ext fun c3 s3 h3 _ => ?_
    exact rel_scall flowE (ReadWhile_agrees h3.1 h3.2 pred_isWhitespace) h3 (readWhile_ext _ _) fun x4 s4 h4 _ => flow_ok rfl h4
  · intro first s3 h3 _
    refine agree_flow (parsePerformance_loop_agrees s.off fuel first s3 h3 h3.2) ?_ (fun _ => rfl)
    intro targets s4 h4 _
    refine rel_scall agreeE (ReadCharacter_lit h4.1 41 41 rfl (by decide)) h4 (readCharacter_ext _ _) fun x5 s5 h5 _ => ?_
    exact agree_ok rfl rfl rfl

theorem parseAccrual_agrees (h : Inv text fuel s) :
    Agree text path cb (goAccrual text path) (parser.Parser.parseAccrual fuel (goParser text path cb s)) (parseAccrual s) := by
  unfold parser.Parser.parseAccrual parseAccrual
  refine rel_pcall agreeE (readWhitespace1_agrees h) h (readWhitespace1_ext _) fun x1 s1 h1 _ => ?_
  refine rel_pcall agreeE (parseInterval_agrees h1) h1 (parseInterval_prog _).ext fun a2 s2 h2 _ => ?_
  refine rel_pcall agreeE (readWhitespace1_agrees h2) h2 (readWhitespace1_ext _) fun x3 s3 h3 _ => ?_
  refine rel_pcall agreeE (parseDate_agrees h3) h3 (parseDate_prog _).ext fun a4 s4 h4 _ => ?_
  refine rel_pcall agreeE (readWhitespace1_agrees h4) h4 (readWhitespace1_ext _) fun x5 s5 h5 _ => ?_
  refine rel_pcall agreeE (parseDate_agrees h5) h5 (parseDate_prog _).ext fun a6 s6 h6 _ => ?_
  refine rel_pcall agreeE (readWhitespace1_agrees h6) h6 (readWhitespace1_ext _) fun x7 s7 h7 _ => ?_
  refine rel_pcall agreeE (parseAccount_agrees h7) h7 (parseAccount_prog _).ext fun a8 s8 h8 _ => ?_
  exact agree_ok rfl rfl rfl

end

end Knut.FactsAgree.TransParser
