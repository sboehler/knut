import Knut.FactsAgree.TransParser2
import Knut.Proofs.SyntaxFile
/-!
# The translated parser agrees with the model parser, part 3: keywords, addons, transactions, the dated directives, `include`

Go switches on `r.Extract()` of the range a keyword was read into, the model on the alternative that `readAlternative` reports.  That
the two are the same string (`readString_extract`, `readAlternative_extract`, ASCII keywords) is the model's "the bytes of consumed
tokens are the slice between the two offsets" (`Proofs/SyntaxFile.lean`), whose invariant `Good` follows from `SimOK`.  An annotation
that is absent is Go's zero struct (empty `Path`/`Text` in its ranges), in the model `Performance.zero` / `Accrual.zero`: the
conversions `goPerfZ`, `goAccrZ`, `goAddonsZ` say so.
-/
namespace Knut.FactsAgree.TransParser
open Knut Knut.GoSem Knut.Syntax Knut.Utf8
open Knut.Generated.Go
open Knut.FactsAgree.TransScanner

/-! ### keywords: what `Range.Extract` returns -/

theorem lit_ascii : ∀ (cs : List Char), (∀ c ∈ cs, c.toNat < 128) →
    cs.flatMap (fun c => Syn.encodeRune c.toNat) = cs.map (fun c => UInt8.ofNat c.toNat)
  | [], _ => rfl
  | c :: cs, h => by
    have hc : c.toNat < 0x80 := h c List.mem_cons_self
    have e : Syn.encodeRune c.toNat = [UInt8.ofNat c.toNat] := by simp [Syn.encodeRune, hc]
    simp only [List.flatMap_cons, List.map_cons, e, lit_ascii cs (fun c hc => h c (List.mem_cons_of_mem _ hc))]
    rfl

/-- the simulation invariant implies the invariant `Good` of the model's own theorems (C07, C08), except in the state after an
`Advance` at the end of the text (the pseudo token `eofTok` has no width) -/
theorem SimOK.good {text : Bytes} {s : St} (h : SimOK text s) (hE : s.toks ≠ [eofTok]) : Good text s := by
  rcases h.2 with hk | ⟨hk, _⟩
  · exact ⟨by rw [hk, flat_decodeAll], h.1, by rw [hk]; exact decodeAll_wf _, by rw [hk]; exact decodeAll_width_pos _,
      by rw [hk]; exact decodeAll_canon _⟩
  · exact absurd hk hE

theorem flat_ascii : ∀ (c : List Tok), (∀ t ∈ c, t.wf) → (∀ t ∈ c, t.r < 128) → flat c = c.map fun t => UInt8.ofNat t.r
  | [], _, _ => rfl
  | t :: c, hw, hr => by
    rw [flat_cons, (hw t List.mem_cons_self).1 (hr t List.mem_cons_self),
      flat_ascii c (fun u hu => hw u (List.mem_cons_of_mem _ hu)) (fun u hu => hr u (List.mem_cons_of_mem _ hu))]
    rfl

/-- the keyword read by `ReadString` is what `Extract` returns for its range -/
theorem readString_extract {text : Bytes} {path : String} {s : St} (h : SimOK text s) (kw : String)
    (hasc : ∀ c ∈ kw.toList, c.toNat < 128) {r : Syntax.Range} {s' : St} (hm : readString kw s = .ok r s') :
    directives.Range.Extract (goRange text path r) = .ok (goStr kw) ∧ r = ⟨s.off, s'.off⟩ ∧ s'.off = s.off + kw.toList.length := by
  obtain ⟨c, hc, hrun, rfl⟩ := readString_ok hm
  have hr : ∀ t ∈ c, t.r < 128 := by
    intro t ht
    have : t.r ∈ runesOf kw := by rw [← hrun]; exact List.mem_map_of_mem ht
    obtain ⟨ch, hch, e⟩ := List.mem_map.mp this
    exact e ▸ hasc ch hch
  -- the consumed tokens are the slice of the text between the two offsets
  obtain ⟨hsl, hle, hwf⟩ : Spec.Syntax.slice text s.off s'.off = flat c ∧ s'.off ≤ text.length ∧ ∀ t ∈ c, t.wf := by
    cases c with
    | nil =>
      have ho : s'.off = s.off := by have := hc.2; simpa using this
      exact ⟨by rw [ho]; simp [Spec.Syntax.slice], by rw [ho]; exact h.1, fun _ ht => absurd ht List.not_mem_nil⟩
    | cons t c' =>
      have hmem : ∀ u ∈ t :: c', u ∈ s.toks := fun u hu => by rw [hc.1]; exact List.mem_append_left _ hu
      have hE : s.toks ≠ [eofTok] := by
        intro he
        have ht : t = eofTok := by have := hmem t List.mem_cons_self; rw [he] at this; simpa using this
        exact absurd (ht ▸ hr t List.mem_cons_self) (by decide)
      have hG := SimOK.good h hE
      exact ⟨(hG.consumed hc).2, (hG.consumed hc).1.le, fun u hu => hG.wf u (hmem u hu)⟩
  -- and ASCII tokens are the characters of the keyword
  have hkw : flat c = goStr kw := by
    have e : c.map (fun t => UInt8.ofNat t.r) = (c.map (·.r)).map UInt8.ofNat := by rw [List.map_map]; rfl
    rw [flat_ascii c hwf hr, e, hrun, runesOf, List.map_map, goStr, Syn.lit, lit_ascii kw.toList hasc]
    rfl
  have hlen : s'.off = s.off + kw.toList.length := by
    have := congrArg List.length hkw
    rw [flat_length, goStr, Syn.lit, lit_ascii kw.toList hasc, List.length_map] at this
    rw [hc.2, this]
  refine ⟨?_, rfl, hlen⟩
  unfold directives.Range.Extract goRange GoSem.slice
  have hb : ¬ ((s.off : Int) < 0 ∨ (s'.off : Int) < (s.off : Int) ∨ (text.length : Int) < (s'.off : Int)) := by omega
  rw [if_neg hb, ← hkw, ← hsl]
  simp only [Outcome.bind, Int.toNat_natCast, Spec.Syntax.slice]
  congr 1
  rw [List.drop_take]

theorem readAlternative_extract {text : Bytes} {path : String} {s : St} (h : SimOK text s) (ss : List String)
    (hasc : ∀ t ∈ ss, ∀ c ∈ t.toList, c.toNat < 128) {r : Syntax.Range} {kw : String} {s' : St}
    (hm : readAlternative ss s = .ok (r, kw) s') :
    kw ∈ ss ∧ directives.Range.Extract (goRange text path r) = .ok (goStr kw) ∧ r = ⟨s.off, s'.off⟩ ∧
      s'.off = s.off + kw.toList.length := by
  obtain ⟨hmem, hrs⟩ := readAlternative_ok ss s r kw s' hm
  exact ⟨hmem, readString_extract h kw (hasc kw hmem) hrs⟩

/-! ### ranges: `Empty`, `Extend`; the zero structs of absent annotations -/

/-- an absent `@performance` is Go's zero struct -/
def goPerfZ (text : Bytes) (path : String) (p : Syntax.Performance) : directives.Performance :=
  if p = Performance.zero then GoZero.zero else goPerformance text path p

/-- an absent `@accrue` is Go's zero struct -/
def goAccrZ (text : Bytes) (path : String) (a : Syntax.Accrual) : directives.Accrual :=
  if a = Accrual.zero then GoZero.zero else goAccrual text path a

def goAddons (text : Bytes) (path : String) (a : Syntax.Addons) : directives.Addons :=
  ⟨goRange text path a.range, goPerfZ text path a.performance, goAccrZ text path a.accrual⟩

/-- a directive without annotations carries Go's zero `Addons` -/
def goAddonsZ (text : Bytes) (path : String) (a : Syntax.Addons) : directives.Addons :=
  if a = Addons.zero then GoZero.zero else goAddons text path a

theorem Empty_goRange (text : Bytes) (path : String) (r : Syntax.Range) :
    directives.Range.Empty (goRange text path r) = r.empty := by
  unfold directives.Range.Empty goRange Syntax.Range.empty
  have e : ((r.start : Int) = (r.stop : Int)) ↔ r.start = r.stop := by omega
  simp only [e, nat_beq]

theorem Empty_goPerfZ (text : Bytes) (path : String) (p : Syntax.Performance) :
    directives.Range.Empty (goPerfZ text path p).Range = p.range.empty := by
  unfold goPerfZ
  split
  · rename_i h; subst h; rfl
  · exact Empty_goRange text path p.range

theorem Empty_goAccrZ (text : Bytes) (path : String) (a : Syntax.Accrual) :
    directives.Range.Empty (goAccrZ text path a).Range = a.range.empty := by
  unfold goAccrZ
  split
  · rename_i h; subst h; rfl
  · exact Empty_goRange text path a.range

theorem Extend_goRange (text : Bytes) (path : String) (a b : Syntax.Range) :
    directives.Range.Extend (goRange text path a) (goRange text path b) = goRange text path (a.extend b) := by
  unfold directives.Range.Extend goRange Syntax.Range.extend
  have e1 : ((a.start : Int) > (b.start : Int)) ↔ a.start > b.start := by omega
  have e2 : ((a.stop : Int) < (b.stop : Int)) ↔ a.stop < b.stop := by omega
  by_cases h1 : a.start > b.start <;> by_cases h2 : a.stop < b.stop <;> simp [e1, e2, h1, h2]

theorem extend_stop_ne (a b : Syntax.Range) (hb : b.stop ≠ 0) : (a.extend b).stop ≠ 0 := by
  unfold Syntax.Range.extend
  simp only
  split <;> omega

theorem goPerfZ_extend (text : Bytes) (path : String) (p : Syntax.Performance) (r : Syntax.Range) (hr : r.stop ≠ 0) :
    goPerfZ text path { p with range := p.range.extend r } =
      { goPerformance text path p with Range := directives.Range.Extend (goRange text path p.range) (goRange text path r) } := by
  unfold goPerfZ
  rw [if_neg]
  · simp only [goPerformance, Extend_goRange]
  · intro heq
    have := congrArg (fun q => q.range.stop) heq
    exact extend_stop_ne p.range r hr this

theorem goAccrZ_extend (text : Bytes) (path : String) (a : Syntax.Accrual) (r : Syntax.Range) (hr : r.stop ≠ 0) :
    goAccrZ text path { a with range := a.range.extend r } =
      { goAccrual text path a with Range := directives.Range.Extend (goRange text path a.range) (goRange text path r) } := by
  unfold goAccrZ
  rw [if_neg]
  · simp only [goAccrual, Extend_goRange]
  · intro heq
    have := congrArg (fun q => q.range.stop) heq
    exact extend_stop_ne a.range r hr this

theorem goAddonsZ_of_stop (text : Bytes) (path : String) (a : Syntax.Addons) (h : a.range.stop ≠ 0) :
    goAddonsZ text path a = goAddons text path a := by
  unfold goAddonsZ
  rw [if_neg]
  intro heq
  exact h (congrArg (fun q => q.range.stop) heq)

/-! The fields of `goAddonsZ`: whether an annotation is there is read off its range (Go's `Empty()`), and one that is there is the
converted annotation. -/

section
variable {text : Bytes} {path : String}

theorem addonsZ_accrual_empty (a : Syntax.Addons) :
    directives.Range.Empty (goAddonsZ text path a).Accrual.Range = a.accrual.range.empty := by
  unfold goAddonsZ
  split
  · rename_i h; subst h; rfl
  · exact Empty_goAccrZ text path a.accrual

theorem addonsZ_accrual (a : Syntax.Addons) (h : a.accrual.range.empty = false) :
    (goAddonsZ text path a).Accrual = goAccrual text path a.accrual := by
  unfold goAddonsZ
  split
  · rename_i h0; subst h0; exact absurd h (by decide)
  · simp only [goAddons, goAccrZ]
    split
    · rename_i h0; rw [h0] at h; exact absurd h (by decide)
    · rfl

theorem addonsZ_performance_empty (a : Syntax.Addons) :
    directives.Range.Empty (goAddonsZ text path a).Performance.Range = a.performance.range.empty := by
  unfold goAddonsZ
  split
  · rename_i h; subst h; rfl
  · exact Empty_goPerfZ text path a.performance

theorem addonsZ_performance (a : Syntax.Addons) (h : a.performance.range.empty = false) :
    (goAddonsZ text path a).Performance = goPerformance text path a.performance := by
  unfold goAddonsZ
  split
  · rename_i h0; subst h0; exact absurd h (by decide)
  · simp only [goAddons, goPerfZ]
    split
    · rename_i h0; rw [h0] at h; exact absurd h (by decide)
    · rfl

end

theorem goErr_at (text : Bytes) (path : String) (msg : String) (r : Syntax.Range) :
    directives.GoError.Error (goRange text path r) (Syn.lit msg) .nil = goErr text path [Frame.at msg r] := by
  simp [goErr_single, goFrame]

theorem goErr_zero (text : Bytes) (path : String) :
    directives.GoError.Error (GoZero.zero : directives.Range) (GoZero.zero : Syn.GoString) .nil = goErr text path [Frame.zero] := by
  simp [goErr_single, goFrame]

/-- `s.Annotate(directives.Error{…})` of a fresh one-frame error -/
theorem go_Annotate_at (text : Bytes) (path : String) (s : St) (desc : String) (start : Nat) (msg : String) (r : Syntax.Range) :
    scanner.Scope.Annotate ⟨goStr desc, (start : Int)⟩ (directives.GoError.Error (goRange text path r) (Syn.lit msg) .nil)
      (goScanner text path s) = goErr text path (annotate desc start [Frame.at msg r] s) := by
  rw [goErr_at, go_Annotate]

theorem go_Annotate_zero (text : Bytes) (path : String) (s : St) (desc : String) (start : Nat) :
    scanner.Scope.Annotate ⟨goStr desc, (start : Int)⟩
      (directives.GoError.Error (GoZero.zero : directives.Range) (GoZero.zero : Syn.GoString) .nil) (goScanner text path s) =
      goErr text path (annotate desc start [Frame.zero] s) := by
  rw [goErr_zero text path, go_Annotate]

@[simp] theorem go_UpdateDesc (d d' : Syn.GoString) (start : Int) : scanner.Scope.UpdateDesc ⟨d, start⟩ d' = ⟨d', start⟩ := rfl

section
variable {text : Bytes} {path : String} {cb : Syn.Proc} {fuel : Nat} {s : St}

theorem parseAddons_loop_agrees (start : Nat) :
    ∀ (n : Nat) (perf : Syntax.Performance) (accr : Syntax.Accrual) (s1 : St), Inv text fuel s1 → s1.toks.length < n →
      Agree text path cb (goAddonsZ text path)
        (parser.Parser.parseAddons.loop1 fuel ⟨Syn.lit "parsing addons", (start : Int)⟩ n (goParser text path cb s1)
          ⟨GoZero.zero, goPerfZ text path perf, goAccrZ text path accr⟩)
        (addonsLoop start perf accr s1) := by
  intro n perf accr s1 h1 hn
  induction n, s1, hn using fuel_induction generalizing perf accr with
  | step n s1 hn ih =>
    unfold parser.Parser.parseAddons.loop1
    rw [addonsLoop_eq]
    refine rel_scall' agreeE (ReadAlternative_agrees h1.1 ["@performance", "@accrue"] (by decide)) h1 (readAlternative_ext _ _)
      fun rk s2 h2 hm => ?_
    obtain ⟨r, kw⟩ := rk
    have hne : ∀ t ∈ ["@performance", "@accrue"], t.toList ≠ [] := by decide
    have e2 := (readAlternative_prog _ hne s1).of_ok hm
    obtain ⟨hmem, hex, hr, hoff⟩ := readAlternative_extract (path := path) h1.1 _ (by decide) hm
    have hstop : r.stop ≠ 0 := by
      have := List.length_pos_iff.mpr (hne kw hmem)
      rw [hr]; show s2.off ≠ 0; omega
    refine rel_bind_ok (Agree text path cb _) hex ?_
    refine agree_flow (fuel := fuel) (emb := fun (pa : Syntax.Performance × Syntax.Accrual) s' =>
        (goParser text path cb s', (⟨GoZero.zero, goPerfZ text path pa.1, goAccrZ text path pa.2⟩ : directives.Addons),
          directives.GoError.nil)) ?_ ?_ (fun _ => rfl)
    · -- the switch on the keyword
      unfold addonStep
      refine rel_ite (FlowAgree text path cb fuel _) (goStr_beq kw _) (fun _ => ?_) (fun _ => ?_)
      · refine rel_ite (FlowAgree text path cb fuel _) (congrArg not (Empty_goPerfZ text path perf)) (fun _ => ?_) (fun _ => ?_)
        · exact flow_err (annotate_ne _ _ _ _) rfl (go_Annotate_at ..)
        · refine rel_pcall flowE (parsePerformance_agrees h2) h2 (parsePerformance_prog _).ext fun p4 s4 h4 _ => ?_
          refine flow_ok ?_ h4
          rw [goPerfZ_extend text path p4 r hstop]
          rfl
      · refine rel_ite (FlowAgree text path cb fuel _) (goStr_beq kw _) (fun _ => ?_) (fun _ => flow_ok rfl h2)
        refine rel_ite (FlowAgree text path cb fuel _) (congrArg not (Empty_goAccrZ text path accr)) (fun _ => ?_) (fun _ => ?_)
        · exact flow_err (annotate_ne _ _ _ _) rfl (go_Annotate_at ..)
        · refine rel_pcall flowE (parseAccrual_agrees h2) h2 (parseAccrual_ext _) fun p4 s4 h4 _ => ?_
          refine flow_ok ?_ h4
          rw [goAccrZ_extend text path p4 r hstop]
          rfl
    · intro pa s3 h3 hm3
      obtain ⟨perf', accr'⟩ := pa
      have e3 := ext_of_ok (addonStep_ext _ _ _ _ _ _) hm3
      -- an error of `readRestOfWhitespaceLine` is dropped for an empty `directives.Error{}`, which is then decorated
      refine agree_pcall_any (readRestOfWhitespaceLine_agrees h3) h3 (readRestOfWhitespaceLine_ext _)
        (fun e s4 pv hne => ?_) (fun x4 s4 h4 hm4 => ?_)
      · simp only [goErr_isErr hne, if_true]
        exact agree_err (annotate_ne _ _ _ _) rfl (go_Annotate_zero ..)
      · have e4 := e3.trans (ext_of_ok (readRestOfWhitespaceLine_ext _) hm4)
        refine rel_ite (Agree text path cb _) (Current_bne h4.1 64 (by decide)) (fun _ => ?_)
          (fun _ => ih s4 (e2.trans_ext e4).length_lt perf' accr' h4)
        have hpos : (⟨rng start s4, perf', accr'⟩ : Syntax.Addons).range.stop ≠ 0 := by
          have : s2.off ≠ 0 := by rw [hr] at hstop; exact hstop
          have := e4.off_le
          simp only [rng]; omega
        refine agree_ok rfl ?_ rfl
        rw [goAddonsZ_of_stop _ _ _ hpos]
        rfl

theorem parseAddons_agrees (h : Inv text fuel s) :
    Agree text path cb (goAddonsZ text path) (parser.Parser.parseAddons fuel (goParser text path cb s)) (parseAddons s) := by
  unfold parser.Parser.parseAddons parseAddons
  simp only [goParser_Scanner, go_Scope]
  have := parseAddons_loop_agrees (text := text) (path := path) (cb := cb) (fuel := fuel) s.off fuel Performance.zero Accrual.zero s h h.2
  simp only [goPerfZ, goAccrZ, if_true] at this
  exact this

theorem obind_reflow {σ ρ : Type} (X : Outcome (Flow σ ρ)) (J : Flow σ ρ → Outcome (Flow σ ρ)) (hJ : ∀ r, J r = .ok r) :
    X.bind J = X := by
  cases X with
  | ok r => exact hJ r
  | panic m => rfl
  | outOfFuel => rfl

/-- `trx` is the transaction under construction -/
theorem parseTransaction_loop_agrees (start : Nat) (trx : directives.Transaction) :
    ∀ (n : Nat) (acc : List Syntax.Booking) (s1 : St), Inv text fuel s1 → s1.toks.length < n →
      FlowAgree (β := directives.Transaction) text path cb fuel
        (fun (bs : List Syntax.Booking) s' => (goParser text path cb s', { trx with Bookings := bs.map (goBooking text path) }))
        (parser.Parser.parseTransaction.loop1 fuel ⟨Syn.lit "parsing transaction", (start : Int)⟩ n (goParser text path cb s1)
          { trx with Bookings := acc.reverse.map (goBooking text path) })
        (bookingsLoop start acc s1) := by
  intro n acc s1 h1 hn
  induction n, s1, hn using fuel_induction generalizing acc with
  | step n s1 hn ih =>
    unfold parser.Parser.parseTransaction.loop1
    rw [bookingsLoop_eq]
    refine rel_pcall flowE (parseBooking_agrees h1) h1 (parseBooking_prog _).ext fun b2 s2 h2 hm2 => ?_
    refine rel_pcall flowE (readRestOfWhitespaceLine_agrees h2) h2 (readRestOfWhitespaceLine_ext _) fun x3 s3 h3 hm3 => ?_
    refine rel_ite (FlowAgree text path cb fuel _) (Current_ws_or_eof h3.1) (fun _ => ?_) (fun _ => ?_)
    · refine flow_ok ?_ h3
      rw [List.reverse_cons, List.map_append]
      rfl
    · have := ih s3 (((parseBooking_prog s1).of_ok hm2).trans_ext (ext_of_ok (readRestOfWhitespaceLine_ext _) hm3)).length_lt
        (b2 :: acc) h3
      rw [List.reverse_cons, List.map_append] at this
      exact this

def goTransaction (text : Bytes) (path : String) (t : Syntax.Transaction) : directives.Transaction :=
  ⟨goRange text path t.range, goDate text path t.date, goQuoted text path t.description, t.bookings.map (goBooking text path),
    goAddonsZ text path t.addons⟩

/-- `d0`/`start` is the scope of `parseDirective` -/
theorem parseTransaction_agrees (h : Inv text fuel s) (d0 : Syn.GoString) (start : Nat) (date : Syntax.Date) (addons : Syntax.Addons) :
    Agree text path cb (goTransaction text path)
      (parser.Parser.parseTransaction fuel (goParser text path cb s) ⟨d0, (start : Int)⟩ (goDate text path date) (goAddonsZ text path addons))
      (parseTransaction start date addons s) := by
  unfold parser.Parser.parseTransaction parseTransaction
  refine rel_pcall agreeE (parseQuotedString_agrees h) h (parseQuotedString_prog _).ext fun q1 s1 h1 _ => ?_
  refine rel_pcall agreeE (readRestOfWhitespaceLine_agrees h1) h1 (readRestOfWhitespaceLine_ext _) fun x2 s2 h2 _ => ?_
  refine agree_flow (parseTransaction_loop_agrees start
    ⟨GoZero.zero, goDate text path date, goQuoted text path q1, GoZero.zero, goAddonsZ text path addons⟩ fuel [] s2 h2 h2.2) ?_ (fun _ => rfl)
  intro bs s3 h3 _
  exact agree_ok rfl rfl rfl

def goOpen (text : Bytes) (path : String) (o : Syntax.Open) : directives.Open :=
  ⟨goRange text path o.range, goDate text path o.date, goAccount text path o.account⟩

def goClose (text : Bytes) (path : String) (c : Syntax.Close) : directives.Close :=
  ⟨goRange text path c.range, goDate text path c.date, goAccount text path c.account⟩

theorem parseOpen_agrees (h : Inv text fuel s) (d0 : Syn.GoString) (start : Nat) (date : Syntax.Date) :
    Agree text path cb (goOpen text path)
      (parser.Parser.parseOpen fuel (goParser text path cb s) ⟨d0, (start : Int)⟩ (goDate text path date)) (parseOpen start date s) := by
  unfold parser.Parser.parseOpen parseOpen
  exact agree_pcall_last (parseAccount_agrees h) h (parseAccount_prog _).ext fun a1 s1 => rfl

theorem parseClose_agrees (h : Inv text fuel s) (d0 : Syn.GoString) (start : Nat) (date : Syntax.Date) :
    Agree text path cb (goClose text path)
      (parser.Parser.parseClose fuel (goParser text path cb s) ⟨d0, (start : Int)⟩ (goDate text path date)) (parseClose start date s) := by
  unfold parser.Parser.parseClose parseClose
  exact agree_pcall_last (parseAccount_agrees h) h (parseAccount_prog _).ext fun a1 s1 => rfl

theorem parseAssertion_loop_agrees (start : Nat) (asr : directives.Assertion) :
    ∀ (n : Nat) (acc : List Syntax.Balance) (s1 : St), Inv text fuel s1 → s1.toks.length < n →
      FlowAgree (β := directives.Assertion) text path cb fuel
        (fun (bs : List Syntax.Balance) s' => (goParser text path cb s', { asr with Balances := bs.map (goBalance text path) }))
        (parser.Parser.parseAssertion.loop1 fuel ⟨Syn.lit "parsing `balance` directive", (start : Int)⟩ n (goParser text path cb s1)
          { asr with Balances := acc.reverse.map (goBalance text path) })
        (balancesLoop start acc s1) := by
  intro n acc s1 h1 hn
  induction n, s1, hn using fuel_induction generalizing acc with
  | step n s1 hn ih =>
    unfold parser.Parser.parseAssertion.loop1
    rw [balancesLoop_eq]
    refine rel_pcall flowE (parseBalance_agrees h1) h1 (parseBalance_prog _).ext fun b2 s2 h2 hm2 => ?_
    refine rel_pcall flowE (readRestOfWhitespaceLine_agrees h2) h2 (readRestOfWhitespaceLine_ext _) fun x3 s3 h3 hm3 => ?_
    refine rel_ite (FlowAgree text path cb fuel _) (Current_ws_or_eof h3.1) (fun _ => ?_) (fun _ => ?_)
    · refine flow_ok ?_ h3
      rw [List.reverse_cons, List.map_append]
      rfl
    · have := ih s3 (((parseBalance_prog s1).of_ok hm2).trans_ext (ext_of_ok (readRestOfWhitespaceLine_ext _) hm3)).length_lt
        (b2 :: acc) h3
      rw [List.reverse_cons, List.map_append] at this
      exact this

/-- `parseAssertion` with its two branches joined as in the Go code -/
theorem parseAssertion_eq (start : Nat) (date : Syntax.Date) (s : St) : parseAssertion start date s =
    (if isNewline (cur s) then
        (readRestOfWhitespaceLine s).bind (annotate "parsing `balance` directive" start) fun _ s => balancesLoop start [] s
      else (parseBalance s).bind (annotate "parsing `balance` directive" start) fun b s => .ok [b] s).bind (fun e _ => e)
      fun balances s => .ok ⟨rng start s, date, balances⟩ s := by
  unfold parseAssertion
  by_cases hc : isNewline (cur s) = true
  · simp only [hc, if_true, Res.bind_assoc_id]
  · simp only [hc, if_false, Bool.false_eq_true, Res.bind_assoc_id, rbind_ok]

def goAssertion (text : Bytes) (path : String) (a : Syntax.Assertion) : directives.Assertion :=
  ⟨goRange text path a.range, goDate text path a.date, a.balances.map (goBalance text path)⟩

theorem parseAssertion_agrees (h : Inv text fuel s) (d0 : Syn.GoString) (start : Nat) (date : Syntax.Date) :
    Agree text path cb (goAssertion text path)
      (parser.Parser.parseAssertion fuel (goParser text path cb s) ⟨d0, (start : Int)⟩ (goDate text path date))
      (parseAssertion start date s) := by
  rw [parseAssertion_eq]
  unfold parser.Parser.parseAssertion
  refine agree_flow (fuel := fuel) (emb := fun (bs : List Syntax.Balance) s' =>
      (goParser text path cb s',
        ({ Range := GoZero.zero, Date := goDate text path date, Balances := bs.map (goBalance text path) } : directives.Assertion)))
    ?_ ?_ (fun _ => rfl)
  · refine rel_ite (FlowAgree text path cb fuel _) (go_isNewline h.1.cur_dom) (fun _ => ?_) (fun _ => ?_)
    · refine rel_pcall flowE (readRestOfWhitespaceLine_agrees h) h (readRestOfWhitespaceLine_ext _) fun x1 s1 h1 _ => ?_
      rw [obind_reflow _ _ (by intro r; cases r <;> rfl)]
      exact parseAssertion_loop_agrees start ⟨GoZero.zero, goDate text path date, GoZero.zero⟩ fuel [] s1 h1 h1.2
    · exact rel_pcall flowE (parseBalance_agrees h) h (parseBalance_prog _).ext fun b1 s1 h1 _ => flow_ok rfl h1
  · intro bs s1 h1 _
    exact agree_ok rfl rfl rfl

def goPrice (text : Bytes) (path : String) (p : Syntax.Price) : directives.Price :=
  ⟨goRange text path p.range, goDate text path p.date, goCommodity text path p.commodity, goCommodity text path p.target,
    goDecimal text path p.price⟩

/-- the error of the target commodity is returned undecorated, as in Go -/
theorem parsePrice_agrees (h : Inv text fuel s) (d0 : Syn.GoString) (start : Nat) (date : Syntax.Date) :
    Agree text path cb (goPrice text path)
      (parser.Parser.parsePrice fuel (goParser text path cb s) ⟨d0, (start : Int)⟩ (goDate text path date)) (parsePrice start date s) := by
  unfold parser.Parser.parsePrice parsePrice
  refine rel_pcall agreeE (parseCommodity_agrees h) h (parseCommodity_prog _).ext fun a1 s1 h1 _ => ?_
  refine rel_pcall agreeE (readWhitespace1_agrees h1) h1 (readWhitespace1_ext _) fun x2 s2 h2 _ => ?_
  refine rel_pcall agreeE (parseDecimal_agrees h2) h2 (parseDecimal_prog _).ext fun a3 s3 h3 _ => ?_
  refine rel_pcall agreeE (readWhitespace1_agrees h3) h3 (readWhitespace1_ext _) fun x4 s4 h4 _ => ?_
  refine agree_pcall_any (parseCommodity_agrees h4) h4 (parseCommodity_prog _).ext (fun e s5 pv hne => ?_)
    (fun a5 s5 h5 _ => agree_ok rfl rfl rfl)
  simp only [goErr_isErr hne, if_true]
  exact agree_err hne rfl rfl

def goInclude (text : Bytes) (path : String) (i : Syntax.Include) : directives.Include :=
  ⟨goRange text path i.range, goQuoted text path i.includePath⟩

theorem parseInclude_agrees (h : Inv text fuel s) :
    Agree text path cb (goInclude text path) (parser.Parser.parseInclude fuel (goParser text path cb s)) (parseInclude s) := by
  unfold parser.Parser.parseInclude parseInclude
  refine rel_scall agreeE (ReadString_agrees h.1 "include" (by decide)) h (readString_ext _ _) fun x1 s1 h1 _ => ?_
  refine rel_pcall agreeE (readWhitespace1_agrees h1) h1 (readWhitespace1_ext _) fun x2 s2 h2 _ => ?_
  refine rel_pcall agreeE (parseQuotedString_agrees h2) h2 (parseQuotedString_prog _).ext fun q3 s3 h3 _ => ?_
  exact agree_ok rfl rfl rfl

end

end Knut.FactsAgree.TransParser
