import Knut.FactsAgree.TransParser3
import Knut.Proofs.SyntaxExamples
/-!
# The translated parser agrees with the model parser, part 4: `parseDirective`, `ParseFile`, and the whole of `syntax.ParseFile`

Top level (`ParseFile_agrees`, `goSyntaxParse_agrees`): for every byte string, path, `Callback` (nil or not) and every fuel above the
number of tokens of the text, `parser.New(text, path)` + `Advance()` + `ParseFile()` in the translation return what the model's
`parseText` returns — the same tree through `goFile`, or the same error chain through `goErr`; never `outOfFuel`, never a panic.  The
`Callback` is invoked for each directive (the include mechanism of `parseRec`); it has no result and no access to the parser, so it is
no step of the translated `ParseFile` (see `GoSem/Syntax.lean`) and the model has no counterpart.
-/
namespace Knut.FactsAgree.TransParser
open Knut Knut.GoSem Knut.Syntax Knut.Utf8
open Knut.Generated.Go
open Knut.FactsAgree.TransScanner

/-- the dynamic type of `Directive.Directive` -/
def goBody (text : Bytes) (path : String) : Syntax.Body → directives.GoAny
  | .transaction t => .Transaction (goTransaction text path t)
  | .open o => .Open (goOpen text path o)
  | .close c => .Close (goClose text path c)
  | .assertion a => .Assertion (goAssertion text path a)
  | .price p => .Price (goPrice text path p)
  | .include i => .Include (goInclude text path i)

def goDirective (text : Bytes) (path : String) (d : Syntax.Directive) : directives.Directive :=
  ⟨goRange text path d.range, goBody text path d.body⟩

def goFile (text : Bytes) (path : String) (f : Syntax.File) : directives.File :=
  ⟨goRange text path f.range, f.directives.map (goDirective text path)⟩

section
variable {text : Bytes} {path : String} {cb : Syn.Proc} {fuel : Nat} {s : St}

/-- a `Flow` outcome whose fall-through state is only repackaged by the continuation -/
theorem flow_map {β γ σ σ' : Type} {emb : γ → St → σ} {emb' : γ → St → σ'}
    {J : Flow σ (parser.Parser × β × directives.GoError) → Outcome (Flow σ' (parser.Parser × β × directives.GoError))}
    {X : Outcome (Flow σ (parser.Parser × β × directives.GoError))} {A : Res γ}
    (hX : FlowAgree text path cb fuel emb X A)
    (hK : ∀ c s1, J (Flow.next (emb c s1)) = .ok (Flow.next (emb' c s1)))
    (hJ : ∀ v, J (Flow.ret v) = .ok (Flow.ret v)) :
    FlowAgree text path cb fuel emb' (X.bind J) A := by
  cases A with
  | ok c s1 =>
    obtain ⟨hx, hi⟩ := hX
    rw [hx]
    exact ⟨hK c s1, hi⟩
  | err e s1 =>
    obtain ⟨hne, pv, hx⟩ := hX
    rw [hx]
    exact ⟨hne, pv, hJ _⟩

theorem parseDirective_agrees (h : Inv text fuel s) :
    Agree text path cb (goDirective text path) (parser.Parser.parseDirective fuel (goParser text path cb s)) (parseDirective s) := by
  unfold parser.Parser.parseDirective parseDirective
  refine agree_flow (fuel := fuel) (emb := fun (a : Syntax.Addons) s' =>
      (goParser text path cb s', (GoZero.zero : directives.Directive), goAddonsZ text path a, directives.GoError.nil)) ?_ ?_ (fun _ => rfl)
  · -- the optional addons
    refine rel_ite (FlowAgree text path cb fuel _) (Current_beq h.1 64 (by decide)) (fun _ => ?_) (fun _ => ?_)
    · exact rel_pcall flowE (parseAddons_agrees h) h (parseAddons_prog _).ext fun a1 s1 h1 _ => flow_ok rfl h1
    · refine flow_ok ?_ h
      simp only [goAddonsZ, if_true]
      rfl
  · intro addons s1 h1 _
    refine agree_flow (fuel := fuel) (emb := fun (b : Syntax.Body) s' =>
        (goParser text path cb s', (⟨GoZero.zero, goBody text path b⟩ : directives.Directive), directives.GoError.nil)) ?_ ?_ (fun _ => rfl)
    · -- the directive proper
      unfold parseDirectiveBody
      refine rel_ite (FlowAgree text path cb fuel _) (Current_beq h1.1 105 (by decide)) (fun _ => ?_) (fun _ => ?_)
      · exact rel_pcall flowE (parseInclude_agrees h1) h1 (parseInclude_prog _).ext fun i2 s2 h2 _ => flow_ok rfl h2
      · refine rel_pcall flowE (parseDate_agrees h1) h1 (parseDate_prog _).ext fun d2 s2 h2 _ => ?_
        refine rel_pcall flowE (readWhitespace1_agrees h2) h2 (readWhitespace1_ext _) fun x3 s3 h3 _ => ?_
        refine flow_map (emb := fun (b : Syntax.Body) s' =>
          (goParser text path cb s', (⟨GoZero.zero, goBody text path b⟩ : directives.Directive), directives.GoError.nil))
          ?_ (fun _ _ => rfl) (fun _ => rfl)
        refine rel_ite (FlowAgree text path cb fuel _) (Current_beq h3.1 34 (by decide)) (fun _ => ?_) (fun _ => ?_)
        · exact rel_pcall flowE (parseTransaction_agrees h3 (Syn.lit "parsing directive") s.off d2 addons) h3
            (parseTransaction_prog _ _ _ _).ext fun t4 s4 h4 _ => flow_ok rfl h4
        · refine rel_scall' flowE (ReadAlternative_agrees h3.1 ["open", "close", "balance", "price"] (by decide)) h3
            (readAlternative_ext _ _) fun rk s4 h4 hm => ?_
          obtain ⟨r, kw⟩ := rk
          obtain ⟨hmem, hex, _, _⟩ := readAlternative_extract (path := path) h3.1 _ (by decide) hm
          refine rel_pcall flowE (readWhitespace1_agrees h4) h4 (readWhitespace1_ext _) fun x5 s5 h5 _ => ?_
          refine rel_bind_ok (FlowAgree text path cb fuel _) hex ?_
          refine flow_map (emb := fun (b : Syntax.Body) s' =>
            (goParser text path cb s', (⟨GoZero.zero, goBody text path b⟩ : directives.Directive), directives.GoError.nil))
            ?_ (fun _ _ => rfl) (fun _ => rfl)
          -- the `switch` on the keyword; the model takes the last alternative without a test
          unfold parseKeyword
          refine rel_ite (FlowAgree text path cb fuel _) (goStr_beq kw _) (fun _ => ?_) (fun k1 => ?_)
          · exact rel_pcall flowE (parseOpen_agrees h5 (Syn.lit "parsing directive") s.off d2) h5 (parseOpen_prog _ _ _).ext
              fun o6 s6 h6 _ => flow_ok rfl h6
          refine rel_ite (FlowAgree text path cb fuel _) (goStr_beq kw _) (fun _ => ?_) (fun k2 => ?_)
          · exact rel_pcall flowE (parseClose_agrees h5 (Syn.lit "parsing directive") s.off d2) h5 (parseClose_prog _ _ _).ext
              fun o6 s6 h6 _ => flow_ok rfl h6
          refine rel_ite (FlowAgree text path cb fuel _) (goStr_beq kw _) (fun _ => ?_) (fun k3 => ?_)
          · exact rel_pcall flowE (parseAssertion_agrees h5 (Syn.lit "parsing directive") s.off d2) h5 (parseAssertion_prog _ _ _).ext
              fun o6 s6 h6 _ => flow_ok rfl h6
          have k4 : decide (goStr kw = Syn.lit "price") = true := by
            have hkw : kw = "open" ∨ kw = "close" ∨ kw = "balance" ∨ kw = "price" := by simpa using hmem
            rw [goStr_beq]
            rcases hkw with rfl | rfl | rfl | rfl
            · exact absurd k1 (by simp)
            · exact absurd k2 (by simp)
            · exact absurd k3 (by simp)
            · exact beq_self_eq_true _
          rw [if_pos k4]
          exact rel_pcall flowE (parsePrice_agrees h5 (Syn.lit "parsing directive") s.off d2) h5 (parsePrice_prog _ _ _).ext
            fun o6 s6 h6 _ => flow_ok rfl h6
    · intro body s2 h2 _
      exact agree_ok rfl rfl rfl

theorem ParseFile_loop_agrees (start : Nat) :
    ∀ (n : Nat) (acc : List Syntax.Directive) (s1 : St), Inv text fuel s1 → s1.toks.length < n →
      FlowAgree (β := directives.File) text path cb fuel
        (fun (f : Syntax.File) s' =>
          (goParser text path cb s', (⟨GoZero.zero, f.directives.map (goDirective text path)⟩ : directives.File)))
        (parser.Parser.ParseFile.loop1 fuel ⟨goStr (fileDesc path), (start : Int)⟩ n (goParser text path cb s1)
          ⟨GoZero.zero, acc.reverse.map (goDirective text path)⟩)
        (fileLoop path start acc s1) := by
  intro n acc s1 h1 hn
  induction n, s1, hn using fuel_induction generalizing acc with
  | step n s1 hn ih =>
    unfold parser.Parser.ParseFile.loop1
    rw [fileLoop_eq]
    refine rel_not_ite (FlowAgree text path cb fuel _) (Current_eof h1.1) (fun _ => flow_ok rfl h1) (fun _ => ?_)
    -- the model decorates an error of the item once, outside `fileItem`; Go decorates in each branch of the `switch`
    rw [Res.bind_ann_split]
    refine flow_flow (fuel := fuel) (emb := fun (d : Option Syntax.Directive) s' =>
        (goParser text path cb s',
          (⟨GoZero.zero, (pushOpt d acc).reverse.map (goDirective text path)⟩ : directives.File))) ?_ ?_ (fun _ => rfl)
    · -- comment, directive, or neither
      have hb1 : (decide (scanner.Scanner.Current (goScanner text path s1) = ((42 : Nat) : Int)) ||
          decide (scanner.Scanner.Current (goScanner text path s1) = ((35 : Nat) : Int)) ||
          decide (scanner.Scanner.Current (goScanner text path s1) = ((47 : Nat) : Int))) =
          (cur s1 == 42 || cur s1 == 35 || cur s1 == 47) := by
        rw [Current_beq h1.1 42 (by decide), Current_beq h1.1 35 (by decide), Current_beq h1.1 47 (by decide)]
      have hb2 : (parser.isAlphanumeric (scanner.Scanner.Current (goScanner text path s1)) ||
          decide (scanner.Scanner.Current (goScanner text path s1) = ((64 : Nat) : Int))) =
          (isAlphanumeric (cur s1) || cur s1 == 64) := by
        rw [Current_beq h1.1 64 (by decide), go_Current, pred_isAlphanumeric _ h1.1.cur_dom]
      unfold fileItem
      rw [Res.ite_bind, Res.ite_bind]
      refine rel_ite (FlowAgree text path cb fuel _) hb1 (fun _ => ?_) (fun _ => ?_)
      · rw [Res.bind_id_bind]
        exact rel_pcall flowE (readComment_agrees h1) h1 (readComment_prog _).ext fun x2 s2 h2 _ => flow_ok rfl h2
      · refine rel_ite (FlowAgree text path cb fuel _) hb2 (fun _ => ?_) (fun _ => flow_ok rfl h1)
        rw [Res.bind_id_bind]
        refine rel_pcall flowE (parseDirective_agrees h1) h1 (parseDirective_prog _).ext fun d2 s2 h2 _ => ?_
        refine flow_ok ?_ h2
        simp only [pushOpt, List.reverse_cons, List.map_append, List.map_cons, List.map_nil]
    · intro d s2 h2 hm2
      have e2 : Ext s1 s2 :=
        ext_of_ok (Res.bind_ext (r := fileItem s1) (onErr := annotate (fileDesc path) start) (f := fun a s' => .ok a s')
          (fileItem_ext s1) (fun a s' _ => Ext.refl s')) hm2
      refine rel_ite (FlowAgree text path cb fuel _) (Current_eof h2.1) (fun _ => flow_ok rfl h2) (fun hE2 => ?_)
      refine rel_pcall flowE (readRestOfWhitespaceLine_agrees h2) h2 (readRestOfWhitespaceLine_ext _) fun x3 s3 h3 hm3 => ?_
      exact ih s3 (e2.trans_extS (readRestOfWhitespaceLine_extS s2 s3 _ hE2 hm3)).length_lt (pushOpt d acc) h3

theorem ParseFile_method_agrees (h : Inv text fuel s) :
    Agree text path cb (goFile text path) (parser.Parser.ParseFile fuel (goParser text path cb s)) (parseFile path s) := by
  unfold parser.Parser.ParseFile parseFile
  have hd : Syn.lit "parsing file `" ++ Syn.Fmt.s (goScanner text path s).Path ++ Syn.lit "`" = goStr (fileDesc path) := by
    simp [fileDesc, goScanner, goStr]
  simp only [goParser_Scanner, go_Scope, hd]
  have hL := ParseFile_loop_agrees (text := text) (path := path) (cb := cb) (fuel := fuel) s.off fuel [] s h h.2
  change FlowAgree _ _ _ _ _ (parser.Parser.ParseFile.loop1 fuel _ fuel _ GoZero.zero) _ at hL
  have e : fileLoop path s.off [] s = (fileLoop path s.off [] s).bind (fun e _ => e) (fun f s' => .ok f s') :=
    (Res.bind_ok_id _).symm
  rw [e]
  refine agree_flow hL ?_ (fun _ => rfl)
  intro f s' h' hm
  simp only [goParser_Scanner, go_Range]
  refine agree_ok rfl ?_ rfl
  have := (fileLoop_end path s.off [] s f s' hm).1
  simp only [goFile, this, rng]

end

/-! ### the whole of `syntax.ParseFile` -/

/-- **top level**: `p := parser.New(text, path); p.Advance(); p.Callback = cb; p.ParseFile()` in the translation against the model's
`parseText`, for every text, path, callback and every fuel above the number of tokens of the text; an error of `Advance` is returned
without parsing -/
theorem ParseFile_agrees (text : Bytes) (path : String) (cb : Syn.Proc) (fuel : Nat) (hf : (decodeAll text).length < fuel) :
    ∃ sc err, scanner.Scanner.Advance (parser.New text (goStr path)).Scanner = .ok (sc, err) ∧
      match parseText path text with
      | .ok f => err = .nil ∧
          ∃ p', parser.Parser.ParseFile fuel { Scanner := sc, Callback := cb } = .ok (p', goFile text path f, .nil)
      | .error e => e ≠ [] ∧ (err = goErr text path e ∨
          (err = .nil ∧ ∃ p' pv, parser.Parser.ParseFile fuel { Scanner := sc, Callback := cb } = .ok (p', pv, goErr text path e))) := by
  obtain ⟨hA, hP, hst⟩ := New_Advance_agrees text path
  refine ⟨_, _, hA, ?_⟩
  unfold parseText
  cases hs : start (decodeAll text) with
  | err e s0 =>
    have hne := hP.2 e s0 hs
    simp only [Res.errs]
    exact ⟨hne, Or.inl trivial⟩
  | ok u s0 =>
    rw [hs] at hst
    simp only [Res.st_ok] at hst
    subst hst
    have h0 : Inv text fuel ⟨0, decodeAll text⟩ := ⟨SimOK_start text, hf⟩
    have hF := ParseFile_method_agrees (path := path) (cb := cb) h0
    simp only [Res.errs, Res.st_ok, goErr_nil]
    cases hp : parseFile path ⟨0, decodeAll text⟩ with
    | ok f s' =>
      rw [hp] at hF
      exact ⟨trivial, _, hF⟩
    | err e s' =>
      rw [hp] at hF
      obtain ⟨hne, pv, hF⟩ := hF
      exact ⟨hne, Or.inr ⟨trivial, _, pv, hF⟩⟩

/-- `syntax.ParseFile` / `parseRec` after `os.ReadFile`, spelled out with the translated functions (hand-written composition of the
three calls; the `Callback` is installed after `Advance`, as `parseRec` does) -/
def goSyntaxParse (fuel : Nat) (text : Bytes) (path : String) (cb : Syn.Proc) : Outcome (directives.File × directives.GoError) :=
  let p := parser.New text (goStr path)
  (scanner.Scanner.Advance p.Scanner).bind fun t =>
    if t.2 ≠ .nil then .ok (GoZero.zero, t.2)
    else (parser.Parser.ParseFile fuel { Scanner := t.1, Callback := cb }).bind fun r => .ok (r.2.1, r.2.2)

/-- the composition never runs out of fuel and never panics; it returns the model's tree with a nil error, or the model's error chain
(next to it Go returns `File{}` or a partially filled tree, which the model does not describe) -/
theorem goSyntaxParse_agrees (text : Bytes) (path : String) (cb : Syn.Proc) (fuel : Nat) (hf : (decodeAll text).length < fuel) :
    match parseText path text with
    | .ok f => goSyntaxParse fuel text path cb = .ok (goFile text path f, .nil)
    | .error e => e ≠ [] ∧ ∃ pv, goSyntaxParse fuel text path cb = .ok (pv, goErr text path e) := by
  obtain ⟨sc, err, hA, hM⟩ := ParseFile_agrees text path cb fuel hf
  unfold goSyntaxParse
  simp only [hA, obind_ok]
  cases hp : parseText path text with
  | ok f =>
    rw [hp] at hM
    obtain ⟨he, p', hF⟩ := hM
    subst he
    simp only [ne_eq, not_true_eq_false, if_false, hF, obind_ok]
  | error e =>
    rw [hp] at hM
    obtain ⟨hne, hM⟩ := hM
    refine ⟨hne, ?_⟩
    rcases hM with he | ⟨he, p', pv, hF⟩
    · subst he
      simp only [ne_eq, goErr_ne_nil text path hne, not_false_eq_true, if_true]
      exact ⟨_, rfl⟩
    · subst he
      simp only [ne_eq, not_true_eq_false, if_false, hF, obind_ok]
      exact ⟨_, rfl⟩

/-- non-vacuity: an empty text parses to an empty file, in the model and in the translation -/
example : goSyntaxParse 1 [] "j" ⟨false⟩ = .ok (goFile [] "j" ⟨⟨0, 0⟩, []⟩, .nil) := by
  have := goSyntaxParse_agrees [] "j" ⟨false⟩ 1 (by simp)
  rw [parseText_nil] at this
  exact this

/-- non-vacuity: the worked example of C07 (a comment line and an `open` directive, 23 tokens), with a callback installed: the
translation returns the converted tree -/
example : goSyntaxParse 24 (bytesOf exText) "j.knut" ⟨true⟩ =
    .ok (goFile (bytesOf exText) "j.knut" ⟨⟨0, 23⟩, [⟨⟨3, 22⟩, .open ⟨⟨3, 22⟩, ⟨⟨3, 13⟩⟩, ⟨⟨19, 22⟩, false⟩⟩⟩]⟩, .nil) := by
  have := goSyntaxParse_agrees (bytesOf exText) "j.knut" ⟨true⟩ 24 (by rw [ex_decode]; decide)
  rw [ex_parse] at this
  exact this

/-- non-vacuity of the error side: an invalid byte after the first digit; the translation returns the model's chain of five links -/
example : ∃ pv, goSyntaxParse 3 [0x32, 0xff] "j.knut" ⟨false⟩ =
    .ok (pv, goErr [0x32, 0xff] "j.knut" [Frame.at "invalid unicode character" ⟨1, 1⟩, Frame.at "reading next character" ⟨0, 1⟩,
      Frame.at "while parsing the date" ⟨0, 1⟩, Frame.at "while parsing directive" ⟨0, 1⟩,
      Frame.at "while parsing file `j.knut`" ⟨0, 1⟩]) := by
  have hd : decodeAll [0x32, 0xff] = [⟨0x32, [0x32]⟩, ⟨runeError, [0xff]⟩] := by
    simp [decodeAll_cons, decodeRune]
  have := goSyntaxParse_agrees [0x32, 0xff] "j.knut" ⟨false⟩ 3 (by rw [hd]; decide)
  rw [ex_invalid] at this
  exact this.2

end Knut.FactsAgree.TransParser
