import Knut.Generated.TransPerformance
import Knut.Proofs.SumMap
import Knut.FactsAgree.TransCheck
import Knut.Model.Performance
/-!
# The translated `lib/journal/performance` agrees with the model (`Model/Performance.lean`): `sum`, `Performance`, `Universe.Locate`, `pickTargets`, `ComputeValues`

The package computes with `float64`; the translation reads a `float64` as an exact rational under the modelling assumption
"exact arithmetic" of `GoSem/Float.lean` — the assumption the hand-written model makes — and a division by zero (Go:
`±Inf`/`NaN`, no panic) is the distinct outcome `Outcome.panic F64.undefined`, the model's `none`.  A Go
`map[*Commodity]float64` against the model's association list is `PEq`: agreement of every lookup, no key twice
(`MapSum.MEquiv`); under it the sums agree in every order.  `ComputeValues.DayEnd` ranges over the map of values: its theorem
holds for EVERY iteration order without repetition that reaches all keys.
-/
namespace Knut.FactsAgree.TransPerformance
open Knut Knut.GoSem Knut.MapSum
open Knut.Generated.Go
open Knut.FactsAgree.TransAccount Knut.FactsAgree.TransPosting
open Knut.FactsAgree.TransCheck (commodityGo_inj)

/-- the Go calculator of a model configuration: the filters are total functions of the names; a missing valuation is the zero commodity -/
def calcGo (cur : String → Bool) (cfg : Performance.Cfg) : performance.Calculator :=
  { Valuation := match cfg.valuation with | some v => commodityGo cur v | none => GoZero.zero,
    AccountFilter := some fun a => .ok (cfg.accountFilter (account.Account.Name a)),
    CommodityFilter := some fun c => .ok (cfg.commodityFilter (commodity.Commodity.Name c)) }

abbrev PEq (cur : String → Bool) (g : AMap commodity.Commodity Rat) (m : AMap Knut.Commodity Rat) : Prop :=
  MEquiv (commodityGo cur) g m

theorem cinj (cur : String → Bool) : ∀ a b : Knut.Commodity, commodityGo cur a = commodityGo cur b → a = b :=
  fun _ _ h => commodityGo_inj cur h

theorem map_get_keys {κ : Type} [DecidableEq κ] (m : AMap κ Rat) (hn : NodupKeys m) :
    (m.map Prod.fst).map (fun c => AMap.get m c 0) = m.map (·.2) :=
  AMap.map_get_keys hn 0

/-- **`sum`**: the values added in the order of the commodity names are the sum of the values -/
theorem sum_agrees (g : AMap commodity.Commodity Rat) (hn : NodupKeys g) : performance.sum g = total g := by
  unfold performance.sum sortedKeys
  simp only [zero_rat]
  rw [foldl_add_eq_sum (fun c => AMap.get g c 0)]
  rw [sum_perm ((List.mergeSort_perm _ _).map _), map_get_keys g hn]
  exact Rat.zero_add _

/-- against the model: `sumVals` of the model's map -/
theorem sum_model (cur : String → Bool) {g : AMap commodity.Commodity Rat} {m : AMap Knut.Commodity Rat} (h : PEq cur g m) :
    performance.sum g = Performance.sumVals m := by
  rw [sum_agrees g h.gnodup, total_congr (fun _ _ => commodityGo_inj cur) h]; rfl

/-- a Go `journal.Performance` stands for the model's `DayPerf`: `V0`, `V1` by lookups; the model keeps of `Inflow`/`Outflow` their sums
and of `PortfolioInflow/Outflow` the signed flow they are the positive and the negative part of -/
structure PerfRel (cur : String → Bool) (p : journal.Performance) (dp : Performance.DayPerf) : Prop where
  v0 : PEq cur p.V0 dp.v0
  v1 : PEq cur p.V1 dp.v1
  inNodup : NodupKeys p.Inflow
  outNodup : NodupKeys p.Outflow
  inflow : total p.Inflow = dp.inflow
  outflow : total p.Outflow = dp.outflow
  pin : p.PortfolioInflow = F64.max 0 dp.portfolioFlows
  pout : p.PortfolioOutflow = F64.min 0 dp.portfolioFlows

/-- **`Performance`** = `factor`: the same growth factor; the model's `none` (division by zero) is the distinct outcome `F64.undefined` -/
theorem Performance_agrees (cur : String → Bool) {p : journal.Performance} {dp : Performance.DayPerf} (h : PerfRel cur p dp) :
    performance.Performance (some p) =
      match Performance.factor dp with
      | some x => .ok x
      | none => .panic F64.undefined := by
  unfold performance.Performance Performance.factor
  simp only [derefE_some, Outcome.bind, zero_rat, Rat.zero_add, sum_model cur h.v0, sum_model cur h.v1,
    sum_agrees _ h.inNodup, sum_agrees _ h.outNodup, h.inflow, h.outflow, h.pin, h.pout, F64.max, F64.min,
    Bool.and_eq_true, decide_eq_true_eq, and_assoc]
  by_cases hc : Performance.sumVals dp.v0 = Performance.sumVals dp.v1 ∧
      (if 0 < dp.portfolioFlows then dp.portfolioFlows else 0) + dp.inflow = 0 ∧
        (if dp.portfolioFlows < 0 then dp.portfolioFlows else 0) + dp.outflow = 0
  · simp only [hc, and_self, if_true]
  · simp only [hc, if_false]
    by_cases hz : Performance.sumVals dp.v0 + ((if 0 < dp.portfolioFlows then dp.portfolioFlows else 0) + dp.inflow) = 0
    · simp only [hz, F64.divE_zero, if_true]
    · simp only [hz, F64.divE_ne hz, if_false]

/-- a nil `*journal.Performance` (a day that `ComputeValues` has not seen): Go's nil-pointer panic -/
theorem Performance_nil : performance.Performance none = .panic nilDeref := rfl

/-- the Go universe (`map[*Commodity][]string`: the class path of a commodity) stands for the model's: at the Go commodity of `c` it
reads what the model reads at `c` -/
def UEq (cur : String → Bool) (g : performance.Universe) (u : AMap Knut.Commodity (List String)) : Prop :=
  ∀ c, AMap.find? g (commodityGo cur c) = AMap.find? u c

/-- **`Universe.Locate`**: the stored class path, or `["Other", name]` -/
theorem Locate_agrees (cur : String → Bool) {g : performance.Universe} {u : AMap Knut.Commodity (List String)} (h : UEq cur g u)
    (c : Knut.Commodity) :
    performance.Universe.Locate g (commodityGo cur c) = (match AMap.find? u c with | some p => p | none => ["Other", c]) := by
  unfold performance.Universe.Locate
  simp only [AMap.get, h c]
  cases AMap.find? u c <;> simp [commodity.Commodity.Name, commodityGo]

/-- what `pickTargets` computes for arbitrary currency tags: nil and the empty list as they are; otherwise the non-currencies if there
are any, else the commodities other than the valuation if there are any, else all -/
def pickSpec (valuation : commodity.Commodity) (tg : Option (List commodity.Commodity)) : Option (List commodity.Commodity) :=
  match tg with
  | none => none
  | some l =>
    if l = [] then some []
    else if (l.filter (fun c => !c.IsCurrency)) ≠ [] then some (l.filter (fun c => !c.IsCurrency))
    else if (l.filter (fun c => !decide (c = valuation))) ≠ [] then some (l.filter (fun c => !decide (c = valuation)))
    else some l

theorem foldl_filter_append {α : Type} (p : α → Bool) (l acc : List α) :
    l.foldl (fun (res : List α) c => if p c then res ++ [c] else res) acc = acc ++ l.filter p := by
  induction l generalizing acc with
  | nil => simp
  | cons x l ih =>
    simp only [List.foldl_cons, ih, List.filter_cons]
    by_cases h : p x = true <;> simp [h]

theorem nilIfEmpty_of_ne {α : Type} {l : List α} (h : l ≠ []) : nilIfEmpty l = some l := by
  cases l with
  | nil => exact absurd rfl h
  | cons x l => rfl

theorem len_pos_iff {α : Type} (l : List α) : ((len l) > (0 : Int)) ↔ l ≠ [] := by
  cases l with
  | nil => simp [len]
  | cons x l => simp only [len, List.length_cons, ne_eq, reduceCtorEq, not_false_eq_true, iff_true]; omega

/-- **`pickTargets`** for arbitrary currency tags -/
theorem pickTargets_spec (valuation : commodity.Commodity) (tg : Option (List commodity.Commodity)) :
    performance.pickTargets valuation tg = pickSpec valuation tg := by
  unfold performance.pickTargets pickSpec
  rcases tg with _ | l
  · simp
  · by_cases hL : l = []
    · subst hL; simp
    · simp only [Option.getD_some, zero_list, hL, if_false]
      have h0 : ¬ (len l = (0 : Int)) := by
        have := (len_pos_iff l).2 hL; omega
      simp only [h0, decide_false, Bool.false_eq_true, if_false]
      have e1 := foldl_filter_append (fun c : commodity.Commodity => !c.IsCurrency) l []
      have e2 := fun acc => foldl_filter_append (fun c : commodity.Commodity => !decide (c = valuation)) l acc
      simp only [List.nil_append] at e1
      simp only [e1, e2]
      generalize List.filter (fun c : commodity.Commodity => !c.IsCurrency) l = A
      generalize List.filter (fun c : commodity.Commodity => !decide (c = valuation)) l = B
      by_cases ha : A = []
      · subst ha
        simp only [len, List.length_nil, Int.natCast_zero, gt_iff_lt, Int.lt_irrefl, decide_false, Bool.false_eq_true, if_false,
          ne_eq, not_true_eq_false, List.nil_append]
        by_cases hb : B = []
        · subst hb; simp
        · have hl2 : (0 : Int) < (B.length : Int) := by have := (len_pos_iff B).2 hb; simpa [len] using this
          simp [hb, nilIfEmpty_of_ne hb]
      · have hl : (len A) > (0 : Int) := (len_pos_iff A).2 ha
        simp only [hl, decide_true, if_true, ne_eq, ha, not_false_eq_true, nilIfEmpty_of_ne ha]

/-- **`pickTargets`** = the model's (the identity): no commodity of the list is tagged as a currency (`TagCurrency` has no caller) -/
theorem pickTargets_agrees (cur : String → Bool) (valuation : commodity.Commodity) (tg : Option (List Knut.Commodity))
    (hcur : ∀ l, tg = some l → ∀ c ∈ l, cur c = false) :
    performance.pickTargets valuation (tg.map (fun l => l.map (commodityGo cur))) =
      (Performance.pickTargets tg).map (fun l => l.map (commodityGo cur)) := by
  rw [pickTargets_spec]
  unfold pickSpec Performance.pickTargets
  rcases tg with _ | l
  · rfl
  · by_cases hL : l = []
    · subst hL; rfl
    · have hall : List.filter (fun c : commodity.Commodity => !c.IsCurrency) (l.map (commodityGo cur)) = l.map (commodityGo cur) := by
        apply List.filter_eq_self.2
        intro c hc
        obtain ⟨c0, hc0, rfl⟩ := List.mem_map.1 hc
        simp [commodityGo, hcur _ rfl c0 hc0]
      have hne : l.map (commodityGo cur) ≠ [] := by simpa using hL
      simp only [Option.map_some, hne, if_false, hall, ne_eq, not_false_eq_true, if_true]

/-- **`isPortfolioAccount`** = `isPortfolio`: never a panic (the filters are set) -/
theorem isPortfolioAccount_agrees (cur : String → Bool) (cfg : Performance.Cfg) (a : Knut.Account) :
    performance.Calculator.isPortfolioAccount (calcGo cur cfg) (accountGo a) = .ok (Performance.isPortfolio cfg a) := by
  unfold performance.Calculator.isPortfolioAccount Performance.isPortfolio
  simp only [IsAL_agrees, calcGo, callFn1, Name_agrees, Outcome.bind]
  cases a.isAL <;> simp

/-- the key under which `ComputeValues` keeps the running value of a model commodity in its captured `values` -/
def ckeyGo (cur : String → Bool) (c : Knut.Commodity) : amounts.Key := amounts.CommodityKey (commodityGo cur c)

theorem ckeyGo_inj (cur : String → Bool) : ∀ a b : Knut.Commodity, ckeyGo cur a = ckeyGo cur b → a = b := by
  intro a b h
  exact commodityGo_inj cur (congrArg amounts.Key.Commodity h)

/-- the captured map `values` (keyed by `CommodityKey`) against the model's running values -/
abbrev VEq (cur : String → Bool) (g : amounts.Amounts) (m : AMap Knut.Commodity Rat) : Prop := MEquiv (ckeyGo cur) g m

/-- the state of the closures of `ComputeValues` against the model's `PState.values` and `PState.prev` -/
structure CVRel (cur : String → Bool) (g : performance.Calculator.ComputeValues.State) (vals prev : AMap Knut.Commodity Rat) : Prop where
  values : VEq cur g.values vals
  prev : PEq cur g.prev prev

/-- the initial state: nothing valued yet, `prev` is the nil map -/
theorem ComputeValues_init_agrees (cur : String → Bool) (cg : performance.Calculator) :
    CVRel cur (performance.Calculator.ComputeValues.init cg) [] [] :=
  ⟨MEquiv.nil _, MEquiv.nil _⟩

/-- the closures that `ComputeValues` sets are exactly these three; it calls nothing untranslated -/
example : performance.Calculator.ComputeValues.callbacks = ["DayStart", "Posting", "DayEnd"] := rfl
example : performance.Calculator.ComputeValues.externals = [] := rfl
example : performance.Calculator.ComputeValues.nonNil = [] := rfl

/-- **`ComputeValues.DayStart`**: the day gets a `Performance` if it has none, and `V0` = the values at the end of the previous day;
never a panic -/
theorem ComputeValues_DayStart_agrees (st : performance.Calculator.ComputeValues.State) (d : journal.Day) :
    performance.Calculator.ComputeValues.DayStart st d =
      .ok (st, { d with Performance := some { (d.Performance.getD GoZero.zero) with V0 := st.prev } }, none) := by
  unfold performance.Calculator.ComputeValues.DayStart
  cases hp : d.Performance <;> simp [Outcome.bind, hp]

theorem MEquiv_set {κ κ' : Type} [DecidableEq κ] [DecidableEq κ'] {conv : κ' → κ} (hinj : ∀ a b, conv a = conv b → a = b)
    {g : AMap κ Rat} {m : AMap κ' Rat} (h : MEquiv conv g m) (c : κ') (v : Rat) :
    MEquiv conv (AMap.set g (conv c) v) (AMap.set m c v) :=
  ⟨fun c' => (AMap.find?_set_conv hinj h.lookup c v c').trans (AMap.find?_set m c c' v).symm, AMap.keys_set_conv h.keys c v,
    AMap.nodupKeys_set h.gnodup _ _, AMap.nodupKeys_set h.mnodup _ _⟩

theorem MEquiv_erase {κ κ' : Type} [DecidableEq κ] [DecidableEq κ'] {conv : κ' → κ} (hinj : ∀ a b, conv a = conv b → a = b)
    {g : AMap κ Rat} {m : AMap κ' Rat} (h : MEquiv conv g m) (c : κ') :
    MEquiv conv (AMap.erase g (conv c)) (AMap.erase m c) :=
  ⟨fun c' => (AMap.find?_erase_conv hinj h.lookup c c').trans (AMap.find?_erase m c c').symm, AMap.keys_erase_conv h.keys c,
    AMap.nodupKeys_erase h.gnodup _, AMap.nodupKeys_erase h.mnodup _⟩

/-- **`ComputeValues.Posting`** = `valuesStep`: the value of a posting on a portfolio account in a selected commodity is added to the
commodity's running value, an entry that becomes zero is deleted; never an error, never a panic -/
theorem ComputeValues_Posting_agrees (cur : String → Bool) (cfg : Performance.Cfg) {g : performance.Calculator.ComputeValues.State}
    {vals prev : AMap Knut.Commodity Rat} (h : CVRel cur g vals prev) (tg : transaction.Transaction) (src : Ref) (p : Knut.Posting) :
    ∃ g', performance.Calculator.ComputeValues.Posting (calcGo cur cfg) g tg (postingGo cur src p) = .ok (g', none) ∧
      CVRel cur g' (Performance.valuesStep cfg vals p) prev := by
  unfold performance.Calculator.ComputeValues.Posting Performance.valuesStep
  simp only [postingGo, isPortfolioAccount_agrees]
  simp only [calcGo, callFn1, Outcome.bind, commodity.Commodity.Name, commodityGo]
  by_cases hc : cfg.commodityFilter p.commodity = true
  · simp only [hc, Bool.not_true, Bool.false_eq_true, if_false]
    by_cases hp : Performance.isPortfolio cfg p.account = true
    · simp only [hp, Bool.not_true, Bool.false_eq_true, if_false]
      have hk : amounts.CommodityKey { name := p.commodity, IsCurrency := cur p.commodity } = ckeyGo cur p.commodity := rfl
      have hget : AMap.get g.values (ckeyGo cur p.commodity) 0 = AMap.get vals p.commodity 0 := AMap.get_congr (h.values.lookup _) _
      simp only [hk, amounts.Amounts.Add, Decimal.Add, Decimal.IsZero, AMap.get_set, if_true, zero_rat, hget]
      by_cases hz : AMap.get vals p.commodity 0 + p.value = 0
      · simp only [hz, decide_true, if_true]
        refine ⟨_, rfl, ?_, h.prev⟩
        have h1 := MEquiv_erase (ckeyGo_inj cur) (MEquiv_set (ckeyGo_inj cur) h.values p.commodity 0) p.commodity
        refine ⟨?_, h1.keys, h1.gnodup, AMap.nodupKeys_erase h.values.mnodup _⟩
        intro c
        rw [h1.lookup c, AMap.find?_erase, AMap.find?_erase, AMap.find?_set]
        by_cases e : p.commodity = c <;> simp [e]
      · simp only [hz, decide_false, Bool.false_eq_true, if_false]
        exact ⟨_, rfl, MEquiv_set (ckeyGo_inj cur) h.values _ _, h.prev⟩
    · simp only [hp, Bool.not_false, if_true]
      exact ⟨_, rfl, h⟩
  · simp only [hc, Bool.not_false, if_true]
    exact ⟨_, rfl, h⟩

/-- the loop of `ComputeValues.DayEnd` in ANY order `o` of (some of) the keys of `values` without repetition: every key adds its value
to the entry of its commodity in `prev` -/
theorem ComputeValues_range_agrees (cur : String → Bool) (g : amounts.Amounts) (vals : AMap Knut.Commodity Rat) (hv : VEq cur g vals) :
    ∀ (o : List amounts.Key) (acc : AMap commodity.Commodity Rat), o.Nodup → (∀ k ∈ o, (AMap.find? g k).isSome) → NodupKeys acc →
      (∀ k ∈ o, AMap.find? acc k.Commodity = none) →
      (∀ k, (AMap.find? acc k).isSome → ∃ c, k = commodityGo cur c) →
      ∃ r, performance.Calculator.ComputeValues.DayEnd.range1 g o acc = .ok r ∧ NodupKeys r ∧
        (∀ k, (AMap.find? r k).isSome → ∃ c, k = commodityGo cur c) ∧
        ∀ c, AMap.find? r (commodityGo cur c) =
          if ckeyGo cur c ∈ o then AMap.find? vals c else AMap.find? acc (commodityGo cur c) := by
  intro o acc ho hsub hn hfresh hk
  -- the loop adds what it visits under the commodity of the key
  have hrun : performance.Calculator.ComputeValues.DayEnd.range1 g o acc =
      .ok (((AMap.visited g o).map fun e => (e.1.Commodity, e.2)).foldl AMap.bump acc) := by
    rw [List.foldl_map]
    exact AMap.range_eq_foldl (m := g) 0 (fun acc e => AMap.bump acc (e.1.Commodity, e.2)) GoSem.Outcome.ok
      (F := performance.Calculator.ComputeValues.DayEnd.range1 g) (fun _ => rfl)
      (fun k rest s => by simp only [performance.Calculator.ComputeValues.DayEnd.range1]; cases (AMap.find? g k).isSome <;> rfl) o acc
  -- a visited key is the key of a commodity, and of one only
  have hvis : ∀ e ∈ AMap.visited g o, ∃ c, e.1 = ckeyGo cur c := fun e he =>
    hv.keys e.1 (by rw [(AMap.mem_visited.1 he).2]; rfl)
  have hone : ∀ c, ∀ e ∈ AMap.visited g o, e.1.Commodity = commodityGo cur c ↔ e.1 = ckeyGo cur c := by
    intro c e he
    obtain ⟨c', hc'⟩ := hvis e he
    rw [hc']
    exact ⟨fun h => by rw [commodityGo_inj cur (h : commodityGo cur c' = _)], fun h => by rw [ckeyGo_inj cur _ _ h]; rfl⟩
  have hmem : ∀ k, k ∈ AMap.keys ((AMap.visited g o).map fun e => (e.1.Commodity, e.2)) ↔ ∃ e ∈ AMap.visited g o, e.1.Commodity = k := by
    intro k; simp only [AMap.keys, List.map_map, List.mem_map, Function.comp]
  refine ⟨_, hrun, AMap.nodupKeys_bumps _ hn, fun k hks => ?_, fun c => ?_⟩
  · rcases (AMap.keys_bumps _ acc k).1 ((AMap.mem_keys_iff _ k).2 hks) with h | h
    · exact hk k ((AMap.mem_keys_iff acc k).1 h)
    · obtain ⟨e, he, rfl⟩ := (hmem k).1 h
      obtain ⟨c, hc⟩ := hvis e he
      exact ⟨c, by rw [hc]; rfl⟩
  · rw [AMap.find?_bumps]
    by_cases hm : ckeyGo cur c ∈ o
    · obtain ⟨v, hf⟩ := Option.isSome_iff_exists.1 (hsub _ hm)
      have hin : (ckeyGo cur c, v) ∈ AMap.visited g o := AMap.mem_visited.2 ⟨hm, hf⟩
      have hin' : commodityGo cur c ∈ AMap.keys ((AMap.visited g o).map fun e => (e.1.Commodity, e.2)) := (hmem _).2 ⟨_, hin, rfl⟩
      rw [if_pos hin', if_pos hm, AMap.added_map (fun k : amounts.Key => k.Commodity) (hone c),
        AMap.added_of_nodup (AMap.nodupKeys_visited g ho), AMap.find?_visited g _ o, if_pos hm, hf, ← hv.lookup c, hf]
      have h0 : AMap.get acc (commodityGo cur c) 0 = 0 := by unfold AMap.get; rw [show commodityGo cur c = (ckeyGo cur c).Commodity from rfl, hfresh _ hm]; rfl
      rw [h0, Rat.zero_add]; rfl
    · rw [if_neg hm, if_neg]
      rintro h
      obtain ⟨e, he, hec⟩ := (hmem _).1 h
      exact hm (((hone c e he).1 hec) ▸ (AMap.mem_visited.1 he).1)

/-- **`ComputeValues.DayEnd`** for EVERY iteration order `o` of the keys of `values` (each key once): `prev` and the day's `V1` become the
running values, commodity by commodity (`PEq` with the model's values); a day without `Performance` (no `DayStart` before) is Go's
nil-pointer panic -/
theorem ComputeValues_DayEnd_agrees (cur : String → Bool) {g : performance.Calculator.ComputeValues.State}
    {vals prev : AMap Knut.Commodity Rat} (h : CVRel cur g vals prev) (d : journal.Day) (o : List amounts.Key) (ho : o.Nodup)
    (hall : ∀ k, k ∈ o ↔ (AMap.find? g.values k).isSome) :
    match d.Performance with
    | none => performance.Calculator.ComputeValues.DayEnd g d o = .panic nilDeref
    | some p => ∃ v1, PEq cur v1 vals ∧
        performance.Calculator.ComputeValues.DayEnd g d o =
          .ok ({ g with prev := v1 }, { d with Performance := some { p with V1 := v1 } }, none) := by
  obtain ⟨r, hr, hrn, hrk, hrl⟩ := ComputeValues_range_agrees cur g.values vals h.values o [] ho (fun k hk => (hall k).1 hk)
    nodupKeys_nil (fun _ _ => rfl) (fun k hk => by simp at hk)
  have hpe : PEq cur r vals := by
    refine ⟨?_, hrk, hrn, h.values.mnodup⟩
    intro c
    rw [hrl c]
    by_cases hm : ckeyGo cur c ∈ o
    · simp [hm]
    · have : AMap.find? vals c = none := by
        have h2 : ¬ (AMap.find? g.values (ckeyGo cur c)).isSome := fun hs => hm ((hall _).2 hs)
        rw [h.values.lookup c] at h2
        simpa using h2
      simp [hm, this]
  unfold performance.Calculator.ComputeValues.DayEnd
  cases hp : d.Performance with
  | none => simp [hr, Outcome.bind]
  | some p => exact ⟨r, hpe, by simp [hr, Outcome.bind]⟩

end Knut.FactsAgree.TransPerformance
