import Knut.FactsAgree.TransPerformanceFlows
/-!
# The translated processors `ComputeValues` and `ComputeFlows` on a whole day agree with the model's `perfDay`

The closures of the two constructors are folded over a day in the order of `Processor.Process` (`TransProcess.processDay`: DayStart,
then for every transaction `Transaction` and `Posting` for each of its postings, then DayEnd), and then day after day.  `valuedDay`,
which the model's `perfDay` runs first, is the business of `ComputePrices`/`check`/`Valuate` (`TransProcess.lean`) and is taken off
here (`perfDaysV`).  MAP ITERATION ORDER: `ComputeValues.DayEnd` ranges over the map of values, `split` (twice per transaction) over
the flows; the orders are parameters (for the transactions: one pair of orders per transaction, consumed in turn), and the theorems
hold for EVERY order that reaches each key once.
-/
namespace Knut.FactsAgree.TransPerformance
open Knut Knut.GoSem Knut.MapSum
open Knut.Generated.Go
open Knut.FactsAgree.TransAccount Knut.FactsAgree.TransPosting Knut.FactsAgree.TransTransaction
open Knut.FactsAgree.TransProcess (Proc processDay AllRel TRel PRel forEachE forEachIn forEachE_ok forEachIn_ok)

/-- the processor `ComputeValues` returns: its three closures in the shape `processDay` expects; `o` is the iteration order of the map
of values in `DayEnd` -/
def cvProc (cg : performance.Calculator) (o : List amounts.Key) : Proc performance.Calculator.ComputeValues.State :=
  { DayStart := some fun st d => performance.Calculator.ComputeValues.DayStart st d,
    Posting := some fun st t p => (performance.Calculator.ComputeValues.Posting cg st t p).bind fun r => .ok (r.1, p, r.2),
    DayEnd := some fun st d => performance.Calculator.ComputeValues.DayEnd st d o }

/-- **`ComputeValues` on a day** = `valuesDay`: for EVERY iteration order `o` (of `DayEnd`) that reaches each key of the map of values
once, the day's `Performance` (created if the day had none) gets `V0` = the captured `prev` and `V1` = the running values after the day's
postings, and these become the next `prev`; never an error, never a panic -/
theorem ComputeValues_day_agrees (cur : String → Bool) (cfg : Performance.Cfg) {g : performance.Calculator.ComputeValues.State}
    {vals prev : AMap Knut.Commodity Rat} (h : CVRel cur g vals prev) (dg : journal.Day) (txs : List Knut.Transaction)
    (htx : AllRel (TRel cur) dg.Transactions txs) (o : List amounts.Key) (ho : o.Nodup)
    (hsub : ∀ k ∈ o, ∃ c, k = ckeyGo cur c ∧ (AMap.find? (Performance.valuesDay cfg vals txs) c).isSome)
    (hcov : ∀ c, (AMap.find? (Performance.valuesDay cfg vals txs) c).isSome → ckeyGo cur c ∈ o) :
    ∃ g' v1, processDay (cvProc (calcGo cur cfg) o) g dg =
        .ok (g', { dg with Performance := some { (dg.Performance.getD GoZero.zero) with V0 := g.prev, V1 := v1 } }, none) ∧
      CVRel cur g' (Performance.valuesDay cfg vals txs) (Performance.valuesDay cfg vals txs) ∧
      PEq cur v1 (Performance.valuesDay cfg vals txs) ∧ g'.prev = v1 := by
  rw [cvProc, TransProcess.processDay_start_posting_end]
  simp only [TransProcess.DayStep.andThen, TransProcess.onTransactions, ComputeValues_DayStart_agrees, bind_ok', Option.isSome_none,
    Bool.false_eq_true, if_false]
  generalize hfp : (fun (st : performance.Calculator.ComputeValues.State) (t : transaction.Transaction) (p : posting.Posting) =>
    (performance.Calculator.ComputeValues.Posting (calcGo cur cfg) st t p).bind fun r => GoSem.Outcome.ok (r.1, p, r.2)) = fp
  obtain ⟨g1, hrun, hR1⟩ := forEachE_ok (fun st m => CVRel cur st m prev) (TRel cur) (TransProcess.postingsOf fp)
    (fun m t => t.postings.foldl (Performance.valuesStep cfg) m) htx
    (fun st m tg t _ hR htr => by
      obtain ⟨st', hin, hR'⟩ := forEachIn_ok (fun st m => CVRel cur st m prev) (PRel cur) fp (fun ps => { tg with Postings := ps })
        (Performance.valuesStep cfg) htr.2.2.1
        (fun st m z x c _ hR hx => by
          obtain ⟨g', hg', hR'⟩ := ComputeValues_Posting_agrees cur cfg hR { tg with Postings := z } x.Src c
          rw [← (hx : x = postingGo cur x.Src c)] at hg'
          exact ⟨g', by rw [← hfp]; show GoSem.Outcome.bind _ _ = _; rw [hg']; rfl, hR'⟩) [] st m hR
      exact ⟨st', by rw [TransProcess.postingsOf, hin]; rfl, hR'⟩)
    [] g vals h
  rw [hrun]
  have hval : txs.foldl (fun m t => t.postings.foldl (Performance.valuesStep cfg) m) vals = Performance.valuesDay cfg vals txs := rfl
  rw [hval] at hR1
  have hall : ∀ k, k ∈ o ↔ (AMap.find? g1.values k).isSome := by
    intro k
    constructor
    · intro hk
      obtain ⟨c, rfl, hc⟩ := hsub k hk
      rw [hR1.values.lookup c]; exact hc
    · intro hk
      obtain ⟨c, rfl⟩ := hR1.values.keys k hk
      rw [hR1.values.lookup c] at hk
      exact hcov c hk
  have hde := ComputeValues_DayEnd_agrees cur hR1
    { dg with Performance := some { (dg.Performance.getD GoZero.zero) with V0 := g.prev } } o ho hall
  simp only at hde
  obtain ⟨v1, hv1, hde⟩ := hde
  refine ⟨{ g1 with prev := v1 }, v1, ?_, ⟨hR1.values, hv1⟩, hv1, rfl⟩
  simp only [bind_ok', Option.isSome_none, Bool.false_eq_true, if_false, List.nil_append, hde]

/-- the iteration orders of the two `split` loops of one transaction -/
abbrev SplitOrders := List commodity.Commodity × List commodity.Commodity

/-- the processor `ComputeFlows` returns, in the shape `processDay` expects; the state carries, next to the captured variables, the
iteration orders of the `split` loops still to come: one pair per transaction, consumed in turn -/
def cfProc (cg : performance.Calculator) : Proc (performance.Calculator.ComputeFlows.State × List SplitOrders) :=
  { DayStart := some fun st d =>
      .ok (((performance.Calculator.ComputeFlows.DayStart st.1 d).1, st.2), d, (performance.Calculator.ComputeFlows.DayStart st.1 d).2),
    Transaction := some fun st t =>
      (performance.Calculator.ComputeFlows.Transaction cg st.1 t (st.2.headD ([], [])).1 (st.2.headD ([], [])).2).bind fun r =>
        .ok ((r.1, st.2.tail), t, r.2),
    DayEnd := some fun st d => (performance.Calculator.ComputeFlows.DayEnd st.1 d).bind fun r => .ok ((r.1, st.2), r.2.1, r.2.2) }

/-- the orders of one transaction are admissible: the first reaches every commodity with a flow once (the second is arbitrary: it
ranges over the internal flows, which nothing reads); no target of the transaction is tagged as a currency -/
def OrdersOK (cur : String → Bool) (cfg : Performance.Cfg) (o : SplitOrders) (t : Knut.Transaction) : Prop :=
  o.1.Nodup ∧ (∀ c, (AMap.find? (Performance.txFlows cfg t).1 c).isSome → commodityGo cur c ∈ o.1) ∧
    (∀ l, t.targets = some l → ∀ c ∈ l, cur c = false)

/-- the state of `ComputeFlows` during a day against the model's accumulator of `dayFlows` (inflow, outflow, portfolio flows): `p0` is
the `Performance` the day started with -/
def FlowsRel (p0 : journal.Performance) (st : performance.Calculator.ComputeFlows.State) (A : Rat × Rat × Rat) : Prop :=
  ∃ perf, st = ⟨A.2.2, some perf⟩ ∧ perf.V0 = p0.V0 ∧ perf.V1 = p0.V1 ∧ perf.PortfolioInflow = p0.PortfolioInflow ∧
    perf.PortfolioOutflow = p0.PortfolioOutflow ∧
    NodupKeys perf.Inflow ∧ NodupKeys perf.Outflow ∧ NodupKeys perf.InternalInflow ∧ NodupKeys perf.InternalOutflow ∧
    total perf.Inflow = total p0.Inflow + A.1 ∧ total perf.Outflow = total p0.Outflow + A.2.1

/-- the step of `dayFlows` -/
def flowsStep (cfg : Performance.Cfg) (acc : Rat × Rat × Rat) (t : Knut.Transaction) : Rat × Rat × Rat :=
  (acc.1 + Performance.posPart (Performance.txFlows cfg t).1, acc.2.1 + Performance.negPart (Performance.txFlows cfg t).1,
    acc.2.2 + (Performance.txFlows cfg t).2)

theorem dayFlows_eq (cfg : Performance.Cfg) (txs : List Knut.Transaction) :
    Performance.dayFlows cfg txs = txs.foldl (flowsStep cfg) (0, 0, 0) := rfl

theorem ComputeFlows_tx_loop (cur : String → Bool) (cfg : Performance.Cfg) (p0 : journal.Performance) :
    ∀ (tgs : List transaction.Transaction) (txs : List Knut.Transaction), AllRel (TRel cur) tgs txs →
      ∀ (os : List SplitOrders), AllRel (OrdersOK cur cfg) os txs →
      ∀ (done : List transaction.Transaction) (st : performance.Calculator.ComputeFlows.State) (A : Rat × Rat × Rat), FlowsRel p0 st A →
      ∃ st', forEachE (fun (st : performance.Calculator.ComputeFlows.State × List SplitOrders) t =>
            (performance.Calculator.ComputeFlows.Transaction (calcGo cur cfg) st.1 t (st.2.headD ([], [])).1 (st.2.headD ([], [])).2).bind
              fun r => GoSem.Outcome.ok ((r.1, st.2.tail), t, r.2)) (st, os) tgs done =
          .ok ((st', []), done ++ tgs, none) ∧ FlowsRel p0 st' (txs.foldl (flowsStep cfg) A) := by
  intro tgs txs htx
  induction htx with
  | nil =>
    intro os hos done st A hR
    cases hos
    exact ⟨st, by simp [forEachE], hR⟩
  | @cons tg t tgs txs htr _ ih =>
    intro os hos done st A hR
    cases hos with
    | @cons o _ os' _ ho hos' =>
      obtain ⟨perf, rfl, h1, h2, h3, h4, h5, h6, h7, h8, h9, h10⟩ := hR
      obtain ⟨perf', hp', k1, k2, k3, k4, k5, k6, k7, k8, k9, k10⟩ :=
        ComputeFlows_Transaction_agrees cur cfg A.2.2 perf h5 h6 h7 h8 t ho.2.2 tg htr o.1 o.2 ho.1 ho.2.1
      obtain ⟨st'', hs'', hR''⟩ := ih os' hos' (done ++ [tg]) ⟨A.2.2 + (Performance.txFlows cfg t).2, some perf'⟩ (flowsStep cfg A t)
        ⟨perf', rfl, k1.trans h1, k2.trans h2, k3.trans h3, k4.trans h4, k5, k6, k7, k8,
          by rw [k9, h9]; exact Rat.add_assoc _ _ _, by rw [k10, h10]; exact Rat.add_assoc _ _ _⟩
      refine ⟨st'', ?_, hR''⟩
      simp only [forEachE, List.headD_cons, List.tail_cons, hp', bind_ok', Option.isSome_none, Bool.false_eq_true, if_false, hs'',
        List.append_assoc, List.cons_append, List.nil_append]

/-- **`ComputeFlows` on a day** = `dayFlows`: for EVERY admissible family of iteration orders (one pair per transaction), the day's
`Performance` gets the day's flows — the sums of `Inflow` and `Outflow` grow by the model's inflow and outflow, `PortfolioInflow/Outflow`
are the positive and the negative part of the model's portfolio flows; `V0`, `V1` stay; never an error, never a panic -/
theorem ComputeFlows_day_agrees (cur : String → Bool) (cfg : Performance.Cfg) (st0 : performance.Calculator.ComputeFlows.State)
    (dg : journal.Day) (p0 : journal.Performance) (hp0 : dg.Performance = some p0)
    (hin : NodupKeys p0.Inflow) (hout : NodupKeys p0.Outflow) (hii : NodupKeys p0.InternalInflow) (hio : NodupKeys p0.InternalOutflow)
    (txs : List Knut.Transaction) (htx : AllRel (TRel cur) dg.Transactions txs)
    (os : List SplitOrders) (hos : AllRel (OrdersOK cur cfg) os txs) :
    ∃ p', processDay (cfProc (calcGo cur cfg)) (st0, os) dg =
        .ok ((⟨(Performance.dayFlows cfg txs).2.2, some p'⟩, []), { dg with Performance := some p' }, none) ∧
      p'.V0 = p0.V0 ∧ p'.V1 = p0.V1 ∧ NodupKeys p'.Inflow ∧ NodupKeys p'.Outflow ∧
      total p'.Inflow = total p0.Inflow + (Performance.dayFlows cfg txs).1 ∧
      total p'.Outflow = total p0.Outflow + (Performance.dayFlows cfg txs).2.1 ∧
      p'.PortfolioInflow = F64.max 0 (Performance.dayFlows cfg txs).2.2 ∧
      p'.PortfolioOutflow = F64.min 0 (Performance.dayFlows cfg txs).2.2 := by
  obtain ⟨st', hs', hR'⟩ := ComputeFlows_tx_loop cur cfg p0 dg.Transactions txs htx os hos [] ⟨0, some p0⟩ (0, 0, 0)
    ⟨p0, rfl, rfl, rfl, rfl, rfl, hin, hout, hii, hio, (Rat.add_zero _).symm, (Rat.add_zero _).symm⟩
  rw [← dayFlows_eq] at hR'
  obtain ⟨perf, rfl, h1, h2, h3, h4, h5, h6, h7, h8, h9, h10⟩ := hR'
  refine ⟨{ perf with
      PortfolioInflow := (F64.max 0 (Performance.dayFlows cfg txs).2.2)
      PortfolioOutflow := (F64.min 0 (Performance.dayFlows cfg txs).2.2) }, ?_, h1, h2, h5, h6, h9, h10, rfl, rfl⟩
  rw [cfProc, TransProcess.processDay_start_transaction_end]
  simp only [TransProcess.DayStep.andThen, TransProcess.onTransactions, ComputeFlows_DayStart_agrees, hp0, Option.getD_some, bind_ok',
    Option.isSome_none, Bool.false_eq_true, if_false, hs', List.nil_append, ComputeFlows_DayEnd_agrees]

/-- the orders of the `split` loops are chosen on the day as `ComputeValues` leaves it (its transactions are the day's) -/
theorem perfDay_agrees_orders (cur : String → Bool) (cfg : Performance.Cfg) {g : performance.Calculator.ComputeValues.State}
    {vals prev : AMap Knut.Commodity Rat} (h : CVRel cur g vals prev) (st0 : performance.Calculator.ComputeFlows.State)
    (dg : journal.Day) (date : Int) (hdate : dg.Date = date) (hnil : dg.Performance = none)
    (txs : List Knut.Transaction) (htx : AllRel (TRel cur) dg.Transactions txs)
    (o : List amounts.Key) (ho : o.Nodup)
    (hsub : ∀ k ∈ o, ∃ c, k = ckeyGo cur c ∧ (AMap.find? (Performance.valuesDay cfg vals txs) c).isSome)
    (hcov : ∀ c, (AMap.find? (Performance.valuesDay cfg vals txs) c).isSome → ckeyGo cur c ∈ o)
    (os : journal.Day → List SplitOrders)
    (hos : ∀ d1 : journal.Day, d1.Transactions = dg.Transactions → AllRel (OrdersOK cur cfg) (os d1) txs) :
    ∃ g' dg1 st1 dg2, processDay (cvProc (calcGo cur cfg) o) g dg = .ok (g', dg1, none) ∧
      processDay (cfProc (calcGo cur cfg)) (st0, os dg1) dg1 = .ok (st1, dg2, none) ∧
      CVRel cur g' (Performance.valuesDay cfg vals txs) (Performance.valuesDay cfg vals txs) ∧
      DayRel cur dg2 (Performance.DayPerf.mk date prev (Performance.valuesDay cfg vals txs) (Performance.dayFlows cfg txs).1
        (Performance.dayFlows cfg txs).2.1 (Performance.dayFlows cfg txs).2.2) := by
  obtain ⟨g', v1, hcv, hrel, hv1, _⟩ := ComputeValues_day_agrees cur cfg h dg txs htx o ho hsub hcov
  simp only [hnil, Option.getD_none] at hcv
  have hos1 := hos { dg with Performance := some { (GoZero.zero : journal.Performance) with V0 := g.prev, V1 := v1 } } rfl
  obtain ⟨p', hcf, k1, k2, k3, k4, k5, k6, k7, k8⟩ := ComputeFlows_day_agrees cur cfg st0
    { dg with Performance := some { (GoZero.zero : journal.Performance) with V0 := g.prev, V1 := v1 } }
    { (GoZero.zero : journal.Performance) with V0 := g.prev, V1 := v1 } rfl nodupKeys_nil nodupKeys_nil nodupKeys_nil nodupKeys_nil
    txs htx _ hos1
  refine ⟨g', _, _, _, hcv, hcf, hrel, hdate, p', rfl, ?_⟩
  refine ⟨?_, ?_, k3, k4, ?_, ?_, k7, k8⟩
  · rw [k1]; exact h.prev
  · rw [k2]; exact hv1
  · rw [k5]; exact Rat.zero_add _
  · rw [k6]; exact Rat.zero_add _

/-- **`ComputeValues` then `ComputeFlows` on a day without a `Performance` yet** = the model's `perfDay` (after `valuedDay`): the day
then stands for the model's `DayPerf` (`DayRel`), and the captured state of `ComputeValues` for the model's next `PState` -/
theorem perfDay_agrees (cur : String → Bool) (cfg : Performance.Cfg) {g : performance.Calculator.ComputeValues.State}
    {vals prev : AMap Knut.Commodity Rat} (h : CVRel cur g vals prev) (st0 : performance.Calculator.ComputeFlows.State)
    (dg : journal.Day) (date : Int) (hdate : dg.Date = date) (hnil : dg.Performance = none)
    (txs : List Knut.Transaction) (htx : AllRel (TRel cur) dg.Transactions txs)
    (o : List amounts.Key) (ho : o.Nodup)
    (hsub : ∀ k ∈ o, ∃ c, k = ckeyGo cur c ∧ (AMap.find? (Performance.valuesDay cfg vals txs) c).isSome)
    (hcov : ∀ c, (AMap.find? (Performance.valuesDay cfg vals txs) c).isSome → ckeyGo cur c ∈ o)
    (os : List SplitOrders) (hos : AllRel (OrdersOK cur cfg) os txs) :
    ∃ g' dg1 st1 dg2, processDay (cvProc (calcGo cur cfg) o) g dg = .ok (g', dg1, none) ∧
      processDay (cfProc (calcGo cur cfg)) (st0, os) dg1 = .ok (st1, dg2, none) ∧
      CVRel cur g' (Performance.valuesDay cfg vals txs) (Performance.valuesDay cfg vals txs) ∧
      DayRel cur dg2 (Performance.DayPerf.mk date prev (Performance.valuesDay cfg vals txs) (Performance.dayFlows cfg txs).1
        (Performance.dayFlows cfg txs).2.1 (Performance.dayFlows cfg txs).2.2) :=
  perfDay_agrees_orders cur cfg h st0 dg date hdate hnil txs htx o ho hsub hcov (fun _ => os) (fun _ _ => hos)

/-- the model's `perfFrom` after `valuedDay`: the days come with their valued transactions -/
def perfDaysV (cfg : Performance.Cfg) : AMap Knut.Commodity Rat × AMap Knut.Commodity Rat → List (Int × List Knut.Transaction) →
    List Performance.DayPerf
  | _, [] => []
  | (vals, prev), (date, txs) :: rest =>
    Performance.DayPerf.mk date prev (Performance.valuesDay cfg vals txs) (Performance.dayFlows cfg txs).1
        (Performance.dayFlows cfg txs).2.1 (Performance.dayFlows cfg txs).2.2 ::
      perfDaysV cfg (Performance.valuesDay cfg vals txs, Performance.valuesDay cfg vals txs) rest

theorem perfFrom_eq (cfg : Performance.Cfg) : ∀ (days : List Knut.Day) (ps : Performance.PState),
    Performance.perfFrom cfg ps days =
      (match days with
       | [] => .ok []
       | d :: rest =>
         match Performance.valuedDay cfg ps.bal d with
         | .error e => .error e
         | .ok (bal, txs) =>
           match Performance.perfFrom cfg (Performance.PState.mk bal (Performance.valuesDay cfg ps.values txs)
               (Performance.valuesDay cfg ps.values txs)) rest with
           | .error e => .error e
           | .ok r => .ok (Performance.DayPerf.mk d.date ps.prev (Performance.valuesDay cfg ps.values txs) (Performance.dayFlows cfg txs).1
               (Performance.dayFlows cfg txs).2.1 (Performance.dayFlows cfg txs).2.2 :: r)) := by
  intro days ps
  cases days with
  | nil => rfl
  | cons d rest =>
    simp only [Performance.perfFrom, Performance.perfDay, bind, Except.bind]
    cases Performance.valuedDay cfg ps.bal d with
    | error e => rfl
    | ok r =>
      obtain ⟨bal, txs⟩ := r
      simp only
      cases Performance.perfFrom cfg (Performance.PState.mk bal (Performance.valuesDay cfg ps.values txs)
          (Performance.valuesDay cfg ps.values txs)) rest <;> rfl

/-- the iteration orders of one day: of `ComputeValues.DayEnd`, and one pair per transaction for `ComputeFlows` -/
abbrev DayOrders := List amounts.Key × List SplitOrders

/-- the two processors over the days of the journal (each day through `ComputeValues`, then through `ComputeFlows`; the captured states
go from day to day) -/
def goDays (cg : performance.Calculator) :
    performance.Calculator.ComputeValues.State × performance.Calculator.ComputeFlows.State → List (journal.Day × DayOrders) →
      GoSem.Outcome (List journal.Day)
  | _, [] => .ok []
  | (g, st), (dg, o) :: rest =>
    (processDay (cvProc cg o.1) g dg).bind fun r1 =>
      (processDay (cfProc cg) (st, o.2) r1.2.1).bind fun r2 =>
        (goDays cg (r1.1, r2.1.1) rest).bind fun ds => .ok (r2.2.1 :: ds)

/-- a day of the Go journal before the two processors, with its iteration orders, against the model's day (date, valued transactions) -/
def DayIn (cur : String → Bool) (cfg : Performance.Cfg) (vals : AMap Knut.Commodity Rat) (x : journal.Day × DayOrders)
    (m : Int × List Knut.Transaction) : Prop :=
  x.1.Date = m.1 ∧ x.1.Performance = none ∧ AllRel (TRel cur) x.1.Transactions m.2 ∧ x.2.1.Nodup ∧
    (∀ k ∈ x.2.1, ∃ c, k = ckeyGo cur c ∧ (AMap.find? (Performance.valuesDay cfg vals m.2) c).isSome) ∧
    (∀ c, (AMap.find? (Performance.valuesDay cfg vals m.2) c).isSome → ckeyGo cur c ∈ x.2.1) ∧
    AllRel (OrdersOK cur cfg) x.2.2 m.2

/-- **`ComputeValues` and `ComputeFlows` over all days** = `perfDaysV` (the model's `perfFrom` after `valuedDay`): for EVERY admissible
family of iteration orders the days afterwards stand one by one for the model's `DayPerf`s (`DayRel`) — the hypothesis of
`Perf_days_agrees`; never an error, never a panic -/
theorem perfDays_agrees (cur : String → Bool) (cfg : Performance.Cfg) :
    ∀ (xs : List (journal.Day × DayOrders)) (ms : List (Int × List Knut.Transaction))
      (g : performance.Calculator.ComputeValues.State) (st : performance.Calculator.ComputeFlows.State)
      (vals prev : AMap Knut.Commodity Rat), CVRel cur g vals prev →
      (∀ (i : Nat) (h1 : i < xs.length) (h2 : i < ms.length),
        DayIn cur cfg ((ms.take i).foldl (fun v m => Performance.valuesDay cfg v m.2) vals) xs[i] ms[i]) →
      xs.length = ms.length →
      ∃ ds, goDays (calcGo cur cfg) (g, st) xs = .ok ds ∧ AllRel (DayRel cur) ds (perfDaysV cfg (vals, prev) ms) := by
  intro xs
  induction xs with
  | nil =>
    intro ms g st vals prev _ _ hlen
    cases ms with
    | nil => exact ⟨[], rfl, .nil⟩
    | cons _ _ => simp at hlen
  | cons x xs ih =>
    intro ms g st vals prev hcv hin hlen
    cases ms with
    | nil => simp at hlen
    | cons m ms =>
      obtain ⟨dg, o⟩ := x
      obtain ⟨date, txs⟩ := m
      have h0 := hin 0 (by simp) (by simp)
      simp only [List.take_zero, List.foldl_nil, List.getElem_cons_zero] at h0
      obtain ⟨hd, hnil, htx, ho, hsub, hcov, hos⟩ := h0
      obtain ⟨g', dg1, st1, dg2, e1, e2, hcv', hrel⟩ := perfDay_agrees cur cfg hcv st dg date hd hnil txs htx o.1 ho hsub hcov o.2 hos
      obtain ⟨ds, hds, hall⟩ := ih ms g' st1.1 (Performance.valuesDay cfg vals txs) (Performance.valuesDay cfg vals txs) hcv'
        (by
          intro i h1 h2
          have := hin (i + 1) (by simpa using h1) (by simpa using h2)
          simpa [List.take_succ_cons, List.foldl_cons] using this)
        (by simpa using hlen)
      refine ⟨dg2 :: ds, ?_, .cons hrel hall⟩
      simp only [goDays, e1, e2, bind_ok', hds]

/-- `valuedDay` day after day: the days with their valued transactions (`none`: an error of `ComputePrices`/`check`/`Valuate`) -/
def valuedDays (cfg : Performance.Cfg) : BalState → List Knut.Day → Option (List (Int × List Knut.Transaction))
  | _, [] => some []
  | bal, d :: rest =>
    match Performance.valuedDay cfg bal d with
    | .error _ => none
    | .ok (bal', txs) => (valuedDays cfg bal' rest).map ((d.date, txs) :: ·)

theorem perfFrom_perfDaysV (cfg : Performance.Cfg) : ∀ (days : List Knut.Day) (ps : Performance.PState) (ms : List (Int × List Knut.Transaction)),
    valuedDays cfg ps.bal days = some ms → Performance.perfFrom cfg ps days = .ok (perfDaysV cfg (ps.values, ps.prev) ms) := by
  intro days
  induction days with
  | nil => intro ps ms h; simp only [valuedDays, Option.some.injEq] at h; subst h; rfl
  | cons d rest ih =>
    intro ps ms h
    rw [perfFrom_eq]
    simp only [valuedDays] at h
    cases hv : Performance.valuedDay cfg ps.bal d with
    | error e => simp [hv] at h
    | ok r =>
      obtain ⟨bal, txs⟩ := r
      simp only [hv, Option.map_eq_some_iff] at h
      obtain ⟨ms', hms', rfl⟩ := h
      simp only [hv]
      rw [ih (Performance.PState.mk bal (Performance.valuesDay cfg ps.values txs) (Performance.valuesDay cfg ps.values txs)) ms' hms']
      rfl

/-- **`knut portfolio returns` from the valued days on** (`ComputeValues`, `ComputeFlows`, `Perf` from their initial states): for EVERY
admissible family of iteration orders, when every day inside the reported span has a defined factor, what `Perf` prints is — line by
line, with the exact values — the model's `perfLines` over the model's `perfFrom` -/
theorem returns_pipeline_agrees (cur : String → Bool) (cfg : Performance.Cfg) (part : Knut.Partition) (ds0 : set.Set Int)
    (hds : ∀ x, set.Set.Has ds0 x = part.endDates.contains x) (j : journal.Builder)
    (xs : List (journal.Day × DayOrders)) (ms : List (Int × List Knut.Transaction))
    (hin : ∀ (i : Nat) (h1 : i < xs.length) (h2 : i < ms.length),
      DayIn cur cfg ((ms.take i).foldl (fun v m => Performance.valuesDay cfg v m.2) []) xs[i] ms[i])
    (hlen : xs.length = ms.length)
    (hdef : ∀ dp ∈ perfDaysV cfg ([], []) ms, (Performance.perfSpan part).contains dp.date = true → (Performance.factor dp).isSome) :
    ∃ ds r', goDays (calcGo cur cfg) (performance.Calculator.ComputeValues.init (calcGo cur cfg),
        performance.Calculator.ComputeFlows.init (calcGo cur cfg)) xs = .ok ds ∧
      perfRun (TransDate.partitionGo part) (performance.Perf.init j (TransDate.partitionGo part) ds0) ds =
        .ok ⟨ds0, part.startDates, r',
          (Performance.perfLines (Performance.perfSpan part) part.endDates (some 1) (perfDaysV cfg ([], []) ms)).map lineGo⟩ := by
  obtain ⟨ds, h1, h2⟩ := perfDays_agrees cur cfg xs ms _ (performance.Calculator.ComputeFlows.init (calcGo cur cfg)) [] []
    (ComputeValues_init_agrees cur (calcGo cur cfg)) hin hlen
  obtain ⟨r', h3⟩ := Perf_days_agrees cur part ds0 hds ds _ h2 hdef 1 []
  exact ⟨ds, r', h1, by rw [Perf_init_agrees]; simpa using h3⟩

end Knut.FactsAgree.TransPerformance
