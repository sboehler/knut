import Knut.FactsAgree.TransPerformance
import Knut.FactsAgree.TransTransaction
import Knut.FactsAgree.TransDate
import Knut.FactsAgree.TransProcess
/-!
# The translated `lib/journal/performance` agrees with the model: `split`, `ComputeFlows`, `Perf`

The model keeps of the maps `Inflow`/`Outflow` only their sums (`DayPerf.inflow/outflow`) and ignores `InternalInflow`/`InternalOutflow`,
which the code computes but never reads: the theorems say nothing about those two maps (except that computing them does not panic:
the divisor `float64(len(tgts))` is not zero where it is used).  `split` ranges over the map of flows: its theorems hold for EVERY
iteration order that reaches each key once (in exact arithmetic no result depends on an iteration order).
-/
namespace Knut.FactsAgree.TransPerformance
open Knut Knut.GoSem Knut.MapSum
open Knut.Generated.Go
open Knut.FactsAgree.TransAccount Knut.FactsAgree.TransPosting Knut.FactsAgree.TransTransaction
open Knut.FactsAgree.TransCheck (commodityGo_inj)
open Knut.FactsAgree.TransDate (partitionGo)

def posOf (x : Rat) : Rat := if 0 < x then x else 0
def negOf (x : Rat) : Rat := if x < 0 then x else 0

theorem filter_sum_eq_msum (p : Rat → Bool) (m : AMap Knut.Commodity Rat) :
    ((m.map (·.2)).filter p).sum = msum (fun x => if p x then x else 0) m := by
  unfold msum
  rw [sum_filter, List.map_map]
  rfl

theorem posPart_eq_msum (m : AMap Knut.Commodity Rat) : Performance.posPart m = msum posOf m :=
  (filter_sum_eq_msum _ m).trans (congrArg (msum · m) (funext fun x => by simp [posOf]))

theorem negPart_eq_msum (m : AMap Knut.Commodity Rat) : Performance.negPart m = msum negOf m :=
  (filter_sum_eq_msum _ m).trans (congrArg (msum · m) (funext fun x => by simp [negOf]))

/-- what `split` does with one entry of the flows: a positive flow goes to `in`, a negative one to `out` -/
def splitStep (s : AMap commodity.Commodity Rat × AMap commodity.Commodity Rat) (e : commodity.Commodity × Rat) :
    AMap commodity.Commodity Rat × AMap commodity.Commodity Rat :=
  if decide (e.2 > 0) then (AMap.set s.1 e.1 (AMap.get s.1 e.1 0 + e.2), s.2)
  else (s.1, if decide (e.2 < 0) then AMap.set s.2 e.1 (AMap.get s.2 e.1 0 + e.2) else s.2)

theorem split_range_eq (flows : AMap commodity.Commodity Rat) (o : List commodity.Commodity) (i u : AMap commodity.Commodity Rat) :
    performance.split.range1 flows o i u = (AMap.visited flows o).foldl splitStep (i, u) :=
  AMap.range_eq_foldl 0 splitStep id (fun o s => performance.split.range1 flows o s.1 s.2) (fun _ => rfl)
    (fun k rest s => by simp only [performance.split.range1]; cases (AMap.find? flows k).isSome <;> rfl) o (i, u)

theorem split_range_agrees : ∀ (es : List (commodity.Commodity × Rat)) (s : AMap commodity.Commodity Rat × AMap commodity.Commodity Rat),
    NodupKeys s.1 → NodupKeys s.2 →
      NodupKeys (es.foldl splitStep s).1 ∧ NodupKeys (es.foldl splitStep s).2 ∧
      total (es.foldl splitStep s).1 = total s.1 + (es.map fun e => posOf e.2).sum ∧
      total (es.foldl splitStep s).2 = total s.2 + (es.map fun e => negOf e.2).sum
  | [], s, hi, hu => ⟨hi, hu, (Rat.add_zero _).symm, (Rat.add_zero _).symm⟩
  | e :: es, s, hi, hu => by
    have key : NodupKeys (splitStep s e).1 ∧ NodupKeys (splitStep s e).2 ∧ total (splitStep s e).1 = total s.1 + posOf e.2 ∧
        total (splitStep s e).2 = total s.2 + negOf e.2 := by
      unfold splitStep posOf negOf
      by_cases hp : (0 : Rat) < e.2
      · have hn : ¬ e.2 < 0 := Rat.not_lt.mpr (Rat.le_of_lt hp)
        simp only [gt_iff_lt, hp, decide_true, if_true, hn, if_false]
        exact ⟨AMap.nodupKeys_set hi _ _, hu, total_set_add _ _ _, (Rat.add_zero _).symm⟩
      · by_cases hn : e.2 < 0
        · simp only [gt_iff_lt, hp, hn, decide_true, decide_false, Bool.false_eq_true, if_true, if_false]
          exact ⟨hi, AMap.nodupKeys_set hu _ _, (Rat.add_zero _).symm, total_set_add _ _ _⟩
        · simp only [gt_iff_lt, hp, hn, decide_false, Bool.false_eq_true, if_false]
          exact ⟨hi, hu, (Rat.add_zero _).symm, (Rat.add_zero _).symm⟩
    obtain ⟨a1, a2, a3, a4⟩ := split_range_agrees es (splitStep s e) key.1 key.2.1
    rw [List.foldl_cons, List.map_cons, List.map_cons, List.sum_cons, List.sum_cons, ← Rat.add_assoc, ← Rat.add_assoc, ← key.2.2.1, ← key.2.2.2]
    exact ⟨a1, a2, a3, a4⟩

/-- **`split`** for EVERY iteration order `o` of the keys of `flows` (each key once): the sum of `in` grows by the positive flows, the
sum of `out` by the negative ones -/
theorem split_agrees (flows : AMap commodity.Commodity Rat) (hf : NodupKeys flows) (o : List commodity.Commodity) (ho : o.Nodup)
    (hall : ∀ k, (AMap.find? flows k).isSome → k ∈ o) (i u : AMap commodity.Commodity Rat) (hi : NodupKeys i) (hu : NodupKeys u) :
    NodupKeys (performance.split flows i u o).1 ∧ NodupKeys (performance.split flows i u o).2 ∧
      total (performance.split flows i u o).1 = total i + msum posOf flows ∧
      total (performance.split flows i u o).2 = total u + msum negOf flows := by
  have h := split_range_agrees (AMap.visited flows o) (i, u) hi hu
  have hp := AMap.visited_perm hf ho hall
  rw [sum_perm (hp.map _), sum_perm (hp.map _), ← split_range_eq] at h
  exact h

/-- `split` in an arbitrary order: the maps stay without repeated keys (used for the internal flows, which the model ignores) -/
theorem split_nodup (flows : AMap commodity.Commodity Rat) (o : List commodity.Commodity) (i u : AMap commodity.Commodity Rat)
    (hi : NodupKeys i) (hu : NodupKeys u) :
    NodupKeys (performance.split flows i u o).1 ∧ NodupKeys (performance.split flows i u o).2 := by
  have h := split_range_agrees (AMap.visited flows o) (i, u) hi hu
  rw [← split_range_eq] at h
  exact ⟨h.1, h.2.1⟩

example : performance.Calculator.ComputeFlows.callbacks = ["DayStart", "Transaction", "DayEnd"] := rfl
example : performance.Calculator.ComputeFlows.nonNil = [] := rfl
/-- the two pointer copies that the translation reads as copies of the value: `DayStart` takes the day's `*Performance` into the captured
variable, `DayEnd` stores it back into the day; in between only the closures of this processor run on the day (`Processor.Process`
finishes a day before the next stage sees it), so the object is not read through the day's pointer while the copy is being updated -/
example : performance.Calculator.ComputeFlows.externals =
    ["DayStart.copy performance = d.Performance [a pointer copied as a value: exact while the object is not read through the other pointer before the copy is stored back]",
     "DayEnd.copy d.Performance = performance [a pointer copied as a value: exact while the object is not read through the other pointer before the copy is stored back]"] := rfl

/-- **`ComputeFlows.DayStart`**: the flows of the portfolio start at 0; the captured `performance` is the day's, or a new one -/
theorem ComputeFlows_DayStart_agrees (st : performance.Calculator.ComputeFlows.State) (d : journal.Day) :
    performance.Calculator.ComputeFlows.DayStart st d =
      ({ portfolioFlows := 0, performance := some (d.Performance.getD GoZero.zero) }, none) := by
  unfold performance.Calculator.ComputeFlows.DayStart
  cases hp : d.Performance <;> simp

@[simp] theorem bind_ok' {α β : Type} (a : α) (f : α → GoSem.Outcome β) : GoSem.Outcome.bind (.ok a) f = f a := rfl
@[simp] theorem bind_panic' {α β : Type} (m : String) (f : α → GoSem.Outcome β) :
    GoSem.Outcome.bind (GoSem.Outcome.panic m : GoSem.Outcome α) f = .panic m := rfl

theorem foldlE_ok {σ α : Type} {F : σ → α → GoSem.Outcome σ} (hstep : ∀ s a, ∃ s', F s a = .ok s') :
    ∀ (l : List α) (s : σ) (r : GoSem.Outcome σ), foldlE F s l = r → ∃ s', r = .ok s' := fun l s r hr =>
  hr ▸ (Returns.foldlE (fun _ _ => True) (fun s a _ _ => Returns.iff.mpr ((hstep s a).imp fun _ h => ⟨h, trivial⟩)) l s
    trivial).inv.imp fun _ h => h.1

/-- the loop state of `ComputeFlows.Transaction` (portfolio flows, flows, internal flows) against the model's accumulator: the flows per
commodity by lookups, the portfolio flows as the change since the start of the transaction; nothing about the internal flows -/
def FlowRel (cur : String → Bool) (pf0 : Rat) (s : Rat × AMap commodity.Commodity Rat × AMap commodity.Commodity Rat)
    (m : AMap Knut.Commodity Rat × Rat) : Prop :=
  s.1 = pf0 + m.2 ∧ PEq cur s.2.1 m.1

theorem getD_map_len (cur : String → Bool) (l : List Knut.Commodity) : ((l.map (commodityGo cur)).length : Int) = (l.length : Int) := by
  simp

/-- **`ComputeFlows.Transaction`**: the flows of the transaction per commodity (`txFlows`) are split into the day's `Inflow` and `Outflow`
(their sums grow by `posPart` and `negPart`), the portfolio flows change as in the model; for EVERY iteration order `o1` of the flows
(each key once) and every order `o2` of the internal flows; never an error, never a panic, no division by zero -/
theorem ComputeFlows_Transaction_agrees (cur : String → Bool) (cfg : Performance.Cfg) (pf : Rat) (perf : journal.Performance)
    (hin : NodupKeys perf.Inflow) (hout : NodupKeys perf.Outflow) (hii : NodupKeys perf.InternalInflow) (hio : NodupKeys perf.InternalOutflow)
    (t : Knut.Transaction) (hcur : ∀ l, t.targets = some l → ∀ c ∈ l, cur c = false) (tg : transaction.Transaction)
    (htr : TransProcess.TRel cur tg t)
    (o1 o2 : List commodity.Commodity) (ho1 : o1.Nodup)
    (hc1 : ∀ c, (AMap.find? (Performance.txFlows cfg t).1 c).isSome → commodityGo cur c ∈ o1) :
    ∃ perf', performance.Calculator.ComputeFlows.Transaction (calcGo cur cfg) ⟨pf, some perf⟩ tg o1 o2 =
        .ok (⟨pf + (Performance.txFlows cfg t).2, some perf'⟩, none) ∧
      perf'.V0 = perf.V0 ∧ perf'.V1 = perf.V1 ∧ perf'.PortfolioInflow = perf.PortfolioInflow ∧
      perf'.PortfolioOutflow = perf.PortfolioOutflow ∧
      NodupKeys perf'.Inflow ∧ NodupKeys perf'.Outflow ∧ NodupKeys perf'.InternalInflow ∧ NodupKeys perf'.InternalOutflow ∧
      total perf'.Inflow = total perf.Inflow + Performance.posPart (Performance.txFlows cfg t).1 ∧
      total perf'.Outflow = total perf.Outflow + Performance.negPart (Performance.txFlows cfg t).1 := by
  obtain ⟨_, _, hps, htgts⟩ := htr
  unfold performance.Calculator.ComputeFlows.Transaction
  have htg := pickTargets_agrees cur (calcGo cur cfg).Valuation t.targets hcur
  simp only [htgts, htg, zero_rat]
  refine Returns.exists_eq ((TransProcess.foldlE_foldl (step := Performance.txFlowStep cfg (Performance.pickTargets t.targets))
    (FlowRel cur pf) (TransProcess.PRel cur) ?_ hps _ (([] : AMap Knut.Commodity Rat), (0 : Rat))
    ⟨(Rat.add_zero pf).symm, MEquiv.nil _⟩).bind ?_)
  ·
    intro s m pg p hR hpg
    refine Returns.iff.mpr ?_
    obtain ⟨pf1, fl, intf⟩ := s
    obtain ⟨hpf, hfl⟩ := hR
    simp only at hpf hfl
    rw [show pg = postingGo cur pg.Src p from hpg]
    simp only [postingGo, isPortfolioAccount_agrees, bind_ok', Performance.txFlowStep, Performance.pickTargets]
    by_cases h1 : Performance.isPortfolio cfg p.account = true
    · simp only [h1, Bool.not_true, Bool.false_eq_true, if_false]
      by_cases h2 : Performance.isPortfolio cfg p.other = true
      · simp only [h2, if_true]; exact ⟨_, rfl, hpf, hfl⟩
      · simp only [h2, Bool.false_eq_true, if_false, F64.ofDecimal2_fst]
        rcases htgt : t.targets with _ | l
        · -- no annotation: a regular flow
          simp only [Option.map_none, Option.getD_none, len, List.length_nil, Int.natCast_zero, Int.reduceEq, decide_false,
            Bool.false_eq_true, if_false, Option.isNone_none, if_true, reduceCtorEq]
          refine ⟨_, rfl, hpf, ?_⟩
          have hg : AMap.get fl (commodityGo cur p.commodity) 0 = AMap.get m.1 p.commodity 0 := AMap.get_congr (hfl.lookup _) _
          simp only [hg]
          exact MEquiv_set (fun _ _ => commodityGo_inj cur) hfl _ _
        · simp only [Option.map_some, Option.getD_some, len, List.length_map, Option.isNone_some, Bool.false_eq_true, if_false]
          rcases l with _ | ⟨x, l⟩
          · -- @performance(): the portfolio as a whole
            simp only [List.length_nil, Int.natCast_zero, Int.reduceEq, decide_false, Bool.false_eq_true, if_false, decide_true, if_true,
              Option.some.injEq, List.nil_eq, reduceCtorEq]
            refine ⟨_, rfl, ?_, hfl⟩
            rw [hpf, Rat.sub_eq_add_neg, Rat.sub_eq_add_neg, Rat.add_assoc]
          · rcases l with _ | ⟨y, l⟩
            · -- one target
              simp only [List.length_cons, List.length_nil, Nat.zero_add, Int.natCast_one, decide_true, if_true, List.map_cons, List.map_nil,
                index, Int.lt_irrefl, if_false, Int.toNat_zero, List.getElem?_cons_zero, Option.some.injEq, List.cons.injEq, and_true]
              by_cases hx : x = p.commodity
              · subst hx
                simp only [bind_ok', decide_true, if_true]
                exact ⟨_, rfl, hpf, hfl⟩
              · have hx' : ¬ commodityGo cur x = commodityGo cur p.commodity := fun e => hx (commodityGo_inj cur e)
                have hl : ((1 : Int) : Rat) ≠ 0 := by decide
                simp only [bind_ok', hx', hx, decide_false, Bool.false_eq_true, if_false, Int.reduceEq, foldlE, F64.divE_ne hl]
                exact ⟨_, rfl, hpf, hfl⟩
            · -- several targets: re-allocated among them (internal flows only)
              have hlen : ¬ (((l.length + 1 + 1 : Nat) : Int) = 1) := by omega
              have hlen0 : ¬ (((l.length + 1 + 1 : Nat) : Int) = 0) := by omega
              simp only [List.length_cons, hlen, hlen0, decide_false, Bool.false_eq_true, if_false, Option.some.injEq, List.cons.injEq,
                reduceCtorEq, and_false]
              have hl : (((l.length + 1 + 1 : Nat) : Int) : Rat) ≠ 0 := fun h => hlen0 (Rat.intCast_inj.1 h)
              generalize hin : foldlE _ _ (List.map (commodityGo cur) (x :: y :: l)) = r
              obtain ⟨r, rfl⟩ := foldlE_ok (fun s a => by simp only [F64.divE_ne hl, bind_ok']; exact ⟨_, rfl⟩) _ _ _ hin
              simp only [bind_ok']
              exact ⟨_, rfl, hpf, hfl⟩
    · simp only [h1, Bool.not_false, if_true]; exact ⟨_, rfl, hpf, hfl⟩
  ·
    intro s' hR
    obtain ⟨pf1, fl, intf⟩ := s'
    obtain ⟨hpf, hfl⟩ := hR
    simp only at hpf hfl
    simp only [derefE_some, bind_ok']
    have hall : ∀ k, (AMap.find? fl k).isSome → k ∈ o1 := by
      intro k hk
      obtain ⟨c, rfl⟩ := hfl.keys k hk
      rw [hfl.lookup c] at hk
      exact hc1 c hk
    obtain ⟨a1, a2, a3, a4⟩ := split_agrees fl hfl.gnodup o1 ho1 hall perf.Inflow perf.Outflow hin hout
    obtain ⟨b1, b2⟩ := split_nodup intf o2 perf.InternalInflow perf.InternalOutflow hii hio
    refine .ok ⟨_, by rw [hpf]; rfl, ?_⟩
    refine ⟨rfl, rfl, rfl, rfl, a1, a2, b1, b2, ?_, ?_⟩
    · rw [a3, msum_congr (fun _ _ => commodityGo_inj cur) posOf _ _ hfl, posPart_eq_msum]; rfl
    · rw [a4, msum_congr (fun _ _ => commodityGo_inj cur) negOf _ _ hfl, negPart_eq_msum]; rfl

/-- **`ComputeFlows.DayEnd`**: the positive and the negative part of the day's portfolio flows, and the `Performance` back into the day -/
theorem ComputeFlows_DayEnd_agrees (pf : Rat) (perf : journal.Performance) (d : journal.Day) :
    performance.Calculator.ComputeFlows.DayEnd ⟨pf, some perf⟩ d =
      .ok (⟨pf, some { perf with PortfolioInflow := F64.max 0 pf, PortfolioOutflow := F64.min 0 pf }⟩,
        { d with Performance := some { perf with PortfolioInflow := F64.max 0 pf, PortfolioOutflow := F64.min 0 pf } }, none) := by
  unfold performance.Calculator.ComputeFlows.DayEnd
  simp [Outcome.bind]

theorem ComputeFlows_DayEnd_nil (pf : Rat) (d : journal.Day) :
    performance.Calculator.ComputeFlows.DayEnd ⟨pf, none⟩ d = .panic nilDeref := rfl

example : performance.Perf.callbacks = ["DayEnd"] := rfl
example : performance.Perf.nonNil = [] := rfl
/-- `ds` is the set of the period end days registered in the builder; a `*journal.Day` as an element of the set is its date
(the builder holds one `*Day` per date) -/
example : performance.Perf.externals = ["init.ext1 = set.FromSlice(j.Days(part.EndDates()))"] := rfl

/-- the initial state: the start dates of the partition, a running product of 1, nothing printed -/
theorem Perf_init_agrees (j : journal.Builder) (part : Knut.Partition) (ds : set.Set Int) :
    performance.Perf.init j (partitionGo part) ds = ⟨ds, part.startDates, 1, []⟩ := by
  simp [performance.Perf.init, TransDate.StartDates_agrees]

/-- what `Perf` prints on a period end day: `fmt.Printf("%v: %0.1f%%\n", d.Date, 100*(running-1))` with its exact operands (the rounding
to one decimal of the binary float is outside the exact-arithmetic reading and is not interpreted) -/
def perfLine (d : Int) (x : Rat) : Stdout.PrintfCall := { format := "%v: %0.1f%%\n", args := [.time d, .float (100 * x)] }

/-- the two tests of `Perf.DayEnd` (`part.Contains(d.Date)`, not before the first reported period) are `perfSpan` -/
theorem perfSpan_contains (part : Knut.Partition) (t : Int) :
    (Performance.perfSpan part).contains t =
      (part.span.contains t && !(match part.startDates with | [] => false | s :: _ => decide (t < s))) := by
  unfold Performance.perfSpan
  cases part.startDates with
  | nil => exact (Bool.and_true _).symm
  | cons s rest =>
    -- `t` is not before the later of the two starts iff it is before neither
    rw [Bool.eq_iff_iff]
    simp only [Knut.Period.contains, Bool.and_eq_true, Bool.not_eq_true', decide_eq_false_iff_not]
    by_cases h1 : part.span.start < s
    · rw [if_pos h1]; omega
    · rw [if_neg h1]; omega
/-- the two tests of `Perf.DayEnd` in the shape the code has them (`skip` on a day outside the span or before the first reported
period, `count` otherwise) are one test of `perfSpan` -/
theorem perfSpan_tests {α : Type} (part : Knut.Partition) (t : Int) (skip count : GoSem.Outcome α) :
    (if (!part.span.contains t) = true then skip
      else GoSem.Outcome.bind (if decide (len part.startDates > 0) then
          GoSem.Outcome.bind (index part.startDates 0) (fun t2 => GoSem.Outcome.ok (Time.Before t t2)) else GoSem.Outcome.ok false)
        (fun t3 => if t3 = true then skip else count)) =
      if (!(Performance.perfSpan part).contains t) = true then skip else count := by
  rw [perfSpan_contains]
  cases part.span.contains t
  · rfl
  · cases part.startDates with
    | nil => rfl
    | cons s rest =>
      have hl : len (s :: rest) > 0 := by simp only [len, List.length_cons]; omega
      have hi : index (s :: rest) 0 = .ok s := rfl
      rw [if_pos (decide_eq_true hl), hi]
      by_cases hb : t < s
      · simp only [bind_ok', Time.Before, hb, decide_true]; rfl
      · simp only [bind_ok', Time.Before, hb, decide_false]; rfl

/-- **`Perf.DayEnd`** = one step of `perfLines`: a day outside the reported span is skipped; otherwise the running product takes the
day's factor (`Performance`), and on a period end day the return of the period is printed and the product starts again at 1.  An
undefined factor (division by zero) ends the translated run with `F64.undefined` — Go prints `NaN`/`±Inf` for that period and goes
on, which the model's `perfLines` describes (`none`, then `some 1`) and the translation does not -/
theorem Perf_DayEnd_agrees (cur : String → Bool) (part : Knut.Partition) (ds : set.Set Int)
    (hds : ∀ x, set.Set.Has ds x = part.endDates.contains x) (r : Rat) (out : List Stdout.PrintfCall)
    (d : journal.Day) (p : journal.Performance) (dp : Performance.DayPerf) (hp : d.Performance = some p) (hrel : PerfRel cur p dp)
    (hdate : d.Date = dp.date) :
    performance.Perf.DayEnd (partitionGo part) ⟨ds, part.startDates, r, out⟩ d =
      if !(Performance.perfSpan part).contains dp.date then .ok (⟨ds, part.startDates, r, out⟩, none)
      else match Performance.factor dp with
        | none => .panic F64.undefined
        | some f =>
          if part.endDates.contains dp.date then .ok (⟨ds, part.startDates, 1, out ++ [perfLine dp.date (r * f - 1)]⟩, none)
          else .ok (⟨ds, part.startDates, r * f, out⟩, none) := by
  unfold performance.Perf.DayEnd
  simp only [TransDate.Partition_Contains_agrees, hdate, hp, Performance_agrees cur hrel, hds, Knut.Partition.contains]
  rw [perfSpan_tests]
  cases Performance.factor dp with
  | none => rfl
  | some f => cases part.endDates.contains dp.date <;> rfl
/-- a day of the Go journal after `ComputeValues` and `ComputeFlows` stands for the model's `DayPerf` -/
def DayRel (cur : String → Bool) (d : journal.Day) (dp : Performance.DayPerf) : Prop :=
  d.Date = dp.date ∧ ∃ p, d.Performance = some p ∧ PerfRel cur p dp

/-- `Perf.DayEnd` day after day (it never returns an error; `Processor.Process` stops at a panic) -/
def perfRun (partG : date.Partition) : performance.Perf.State → List journal.Day → GoSem.Outcome performance.Perf.State
  | st, [] => .ok st
  | st, d :: rest => (performance.Perf.DayEnd partG st d).bind fun r => perfRun partG r.1 rest

/-- a line of `perfLines` as the recorded `Printf` call -/
def lineGo (l : Int × Option Rat) : Stdout.PrintfCall := perfLine l.1 (l.2.getD 0)

/-- **`Perf` over the days** = `perfLines`, when every day inside the reported span has a defined factor: what is printed is the
model's lines, in order, with their exact values -/
theorem Perf_days_agrees (cur : String → Bool) (part : Knut.Partition) (ds : set.Set Int)
    (hds : ∀ x, set.Set.Has ds x = part.endDates.contains x) :
    ∀ (days : List journal.Day) (dps : List Performance.DayPerf), TransProcess.AllRel (DayRel cur) days dps →
      (∀ dp ∈ dps, (Performance.perfSpan part).contains dp.date = true → (Performance.factor dp).isSome) →
      ∀ (r : Rat) (out : List Stdout.PrintfCall), ∃ r',
        perfRun (partitionGo part) ⟨ds, part.startDates, r, out⟩ days =
          .ok ⟨ds, part.startDates, r', out ++ (Performance.perfLines (Performance.perfSpan part) part.endDates (some r) dps).map lineGo⟩ := by
  intro days dps hrel
  induction hrel with
  | nil => intro _ r out; exact ⟨r, by simp [perfRun, Performance.perfLines]⟩
  | @cons d dp days dps hd _ ih =>
    intro hdef r out
    obtain ⟨hdate, p, hp, hpr⟩ := hd
    have hdef' : ∀ dp' ∈ dps, (Performance.perfSpan part).contains dp'.date = true → (Performance.factor dp').isSome :=
      fun dp' h => hdef dp' (List.mem_cons_of_mem _ h)
    simp only [perfRun, Perf_DayEnd_agrees cur part ds hds r out d p dp hp hpr hdate, Performance.perfLines]
    cases hc : (Performance.perfSpan part).contains dp.date
    · exact ih hdef' r out
    · obtain ⟨f, hf⟩ := Option.isSome_iff_exists.1 (hdef dp (List.mem_cons_self ..) hc)
      rw [hf]
      cases part.endDates.contains dp.date
      · exact ih hdef' (r * f) out
      · obtain ⟨r', hr'⟩ := ih hdef' 1 (out ++ [perfLine dp.date (r * f - 1)])
        exact ⟨r', hr'.trans (by simp [lineGo, Performance.mulOpt, List.append_assoc])⟩

/-- a day inside the reported span whose factor is undefined (division by zero) ends the translated run with `F64.undefined`, whatever
follows (the model goes on: that period's line is `none`, printed `NaN`/`±Inf` by Go) -/
theorem Perf_days_undefined (cur : String → Bool) (part : Knut.Partition) (ds : set.Set Int)
    (hds : ∀ x, set.Set.Has ds x = part.endDates.contains x) :
    ∀ (days : List journal.Day) (dps : List Performance.DayPerf), TransProcess.AllRel (DayRel cur) days dps →
      (∃ dp ∈ dps, (Performance.perfSpan part).contains dp.date = true ∧ Performance.factor dp = none) →
      ∀ (r : Rat) (out : List Stdout.PrintfCall),
        perfRun (partitionGo part) ⟨ds, part.startDates, r, out⟩ days = .panic F64.undefined := by
  intro days dps hrel
  induction hrel with
  | nil => intro h; obtain ⟨_, hm, _⟩ := h; simp at hm
  | @cons d dp days dps hd _ ih =>
    intro hex r out
    obtain ⟨hdate, p, hp, hpr⟩ := hd
    simp only [perfRun, Perf_DayEnd_agrees cur part ds hds r out d p dp hp hpr hdate]
    obtain ⟨dp', hm, h1, h2⟩ := hex
    rcases List.mem_cons.1 hm with rfl | hm
    · simp only [h1, h2, Bool.not_true, Bool.false_eq_true, if_false]; rfl
    · -- the undefined day comes later: whatever this day does, the run goes on or has ended the same way
      have ih' := ih ⟨dp', hm, h1, h2⟩
      cases (Performance.perfSpan part).contains dp.date
      · exact ih' _ _
      · cases Performance.factor dp with
        | none => rfl
        | some f => cases part.endDates.contains dp.date <;> exact ih' _ _

end Knut.FactsAgree.TransPerformance
