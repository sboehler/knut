import Knut.Generated.TransPrice
import Knut.Generated.TransCompare
import Knut.Generated.TransCommodity
import Knut.Model.Prices
import Knut.Proofs.Prices
import Knut.Proofs.GoSem
import Knut.FactsAgree.Rel
import Knut.FactsAgree.TransCompare
/-!
# The translated `lib/model/price` agrees with the hand-written model

`Knut/Generated/TransPrice.lean` is regenerated from /repo's `prices.go` on every run.  Go maps keyed by
`*commodity.Commodity` are association lists keyed by the (interned) commodity value; the model keys its
association lists by the commodity NAME and updates them differently (`set` = cons after delete, the translated code
replaces in place), so agreement of maps is agreement of every lookup (`NPEquiv`, `PEquiv`).
-/
namespace Knut.FactsAgree.TransPrice
open Knut Knut.GoSem
open Knut.Generated.Go

theorem Multiply_agrees (a b : Rat) : price.Multiply a b = Prices.multiply a b := by
  simp [price.Multiply, Prices.multiply, Prices.multiplyPlaces]

def NPEquiv (cur : String → Bool) (g : price.NormalizedPrices) (m : Prices.NPrices) : Prop :=
  ∀ c : Knut.Commodity, Knut.AMap.find? g (cGo cur c) = Prices.find c m

def PEquiv (cur : String → Bool) (g : price.Prices) (m : Prices.Prices) : Prop :=
  ∀ a : Knut.Commodity,
    match Knut.AMap.find? g (cGo cur a), Prices.find a m with
    | some gi, some mi => NPEquiv cur gi mi
    | none, none => True
    | _, _ => False

theorem Price_agrees (cur : String → Bool) (g : price.NormalizedPrices) (m : Prices.NPrices) (h : NPEquiv cur g m)
    (c : Knut.Commodity) :
    price.NormalizedPrices.Price g (cGo cur c) =
      match Prices.npPrice m c with
      | some p => (p, none)
      | none => (0, some ⟨"no price found for %v in %v"⟩) := by
  have hc := h c
  unfold price.NormalizedPrices.Price Prices.npPrice
  simp only [Knut.AMap.get, hc]
  cases Prices.find c m <;> simp

theorem Price_some {cur : String → Bool} {N : price.NormalizedPrices} {M : Prices.NPrices} (h : NPEquiv cur N M) (c : Knut.Commodity)
    (x : Rat) : price.NormalizedPrices.Price N (cGo cur c) = (x, none) ↔ Prices.find c M = some x := by
  rw [Price_agrees cur N M h c]
  unfold Prices.npPrice
  cases Prices.find c M <;> simp

theorem Price_error {cur : String → Bool} {N : price.NormalizedPrices} {M : Prices.NPrices} (h : NPEquiv cur N M) (c : Knut.Commodity) :
    price.NormalizedPrices.Price N (cGo cur c) = (0, some ⟨"no price found for %v in %v"⟩) ↔ Prices.find c M = none := by
  rw [Price_agrees cur N M h c]
  unfold Prices.npPrice
  cases Prices.find c M <;> simp

theorem Valuate_agrees (cur : String → Bool) (g : price.NormalizedPrices) (m : Prices.NPrices) (h : NPEquiv cur g m)
    (c : Knut.Commodity) (a : Rat) :
    price.NormalizedPrices.Valuate g (cGo cur c) a =
      match Prices.npValuate m c a with
      | some v => (v, none)
      | none => (0, some ⟨"no price found for %v in %v"⟩) := by
  have hc := h c
  unfold price.NormalizedPrices.Valuate Prices.npValuate
  simp only [Knut.AMap.get, hc]
  cases Prices.find c m <;> simp [Multiply_agrees]

theorem NPEquiv_set (cur : String → Bool) {g : price.NormalizedPrices} {m : Prices.NPrices} (h : NPEquiv cur g m)
    (c : Knut.Commodity) (v : Rat) : NPEquiv cur (Knut.AMap.set g (cGo cur c) v) (Prices.set m c v) := by
  intro k
  rw [Knut.AMap.find?_set]
  by_cases hk : c = k
  · subst hk; simp [Prices.find_set_self]
  · have : cGo cur c ≠ cGo cur k := fun e => hk (cGo_inj cur e)
    rw [if_neg this, Prices.find_set_ne _ _ _ _ (fun e => hk e.symm)]
    exact h k

theorem NPEquiv_nil (cur : String → Bool) : NPEquiv cur [] [] := by intro c; rfl

/-- what `PEquiv` and `PEquivS` share: the maps of the same commodities, related by `N` (`NPEquiv`, `NPEquivS`) -/
def PricesRel (N : price.NormalizedPrices → Prices.NPrices → Prop) (cur : String → Bool) (g : price.Prices) (m : Prices.Prices) : Prop :=
  ∀ a : Knut.Commodity,
    match Knut.AMap.find? g (cGo cur a), Prices.find a m with
    | some gi, some mi => N gi mi
    | none, none => True
    | _, _ => False

theorem addPrice_rel (cur : String → Bool) {N : price.NormalizedPrices → Prices.NPrices → Prop} (hnil : N [] [])
    (hset : ∀ {g m}, N g m → ∀ (c : Knut.Commodity) (v : Rat), N (Knut.AMap.set g (cGo cur c) v) (Prices.set m c v))
    {g : price.Prices} {m : Prices.Prices} (h : PricesRel N cur g m) (t c : Knut.Commodity) (p : Rat) :
    PricesRel N cur (price.Prices.addPrice g (cGo cur t) (cGo cur c) p) (Prices.addPrice m t c p) := by
  intro a
  unfold price.Prices.addPrice Prices.addPrice
  simp only [Knut.AMap.find?_set]
  by_cases ha : t = a
  · subst ha
    simp only [if_true, Prices.find_set_self]
    apply hset
    have := h t
    unfold getDefault price.newNormalizedPrices
    cases hg : Knut.AMap.find? g (cGo cur t) <;> cases hm : Prices.find t m <;> simp [hg, hm] at this ⊢
    · exact hnil
    · exact this
  · have : cGo cur t ≠ cGo cur a := fun e => ha (cGo_inj cur e)
    rw [if_neg this, Prices.find_set_ne _ _ _ _ (fun e => ha e.symm)]
    exact h a

theorem addPrice_agrees (cur : String → Bool) {g : price.Prices} {m : Prices.Prices} (h : PEquiv cur g m)
    (t c : Knut.Commodity) (p : Rat) :
    PEquiv cur (price.Prices.addPrice g (cGo cur t) (cGo cur c) p) (Prices.addPrice m t c p) :=
  addPrice_rel cur (NPEquiv_nil cur) (NPEquiv_set cur) h t c p

/-- `E`: what is claimed of the error value (`Insert_agrees` names the message, `Insert_agreesS` does not) -/
theorem Insert_rel (cur : String → Bool) {N : price.NormalizedPrices → Prices.NPrices → Prop} (hnil : N [] [])
    (hset : ∀ {g m}, N g m → ∀ (c : Knut.Commodity) (v : Rat), N (Knut.AMap.set g (cGo cur c) v) (Prices.set m c v))
    {g : price.Prices} {m : Prices.Prices} (h : PricesRel N cur g m) (d : Prices.Decl) {E : price.Prices → Error → Prop}
    (hE : E g ⟨"invalid price %s for commodity %s in %s"⟩) :
    match price.Prices.Insert g (cGo cur d.commodity) d.price (cGo cur d.target), Prices.insert m d with
    | GoSem.Outcome.ok (g', none), some m' => PricesRel N cur g' m'
    | GoSem.Outcome.ok (g', some e), none => E g' e
    | _, _ => False := by
  unfold price.Prices.Insert Prices.insert
  by_cases hz : d.price = 0
  · simpa [hz] using hE
  · simp only [Decimal.IsZero, hz, decide_false, Bool.false_eq_true, if_false, Decimal.Div, price.one, Decimal.NewFromInt,
      GoSem.Outcome.bind]
    have h2 := addPrice_rel cur hnil hset (addPrice_rel cur hnil hset h d.target d.commodity d.price) d.commodity d.target
      (Prices.recip d.price)
    have e : Decimal.Truncate (Dec.div16 ((1 : Int) : Rat) d.price) 8 = Prices.recip d.price := by
      simp [Prices.recip, Prices.insertPlaces]
    rw [e]
    exact h2

/-- `Prices.Insert`: same verdict, and equivalent maps afterwards (the error leaves the map as it was) -/
theorem Insert_agrees (cur : String → Bool) {g : price.Prices} {m : Prices.Prices} (h : PEquiv cur g m)
    (d : Prices.Decl) :
    match price.Prices.Insert g (cGo cur d.commodity) d.price (cGo cur d.target), Prices.insert m d with
    | GoSem.Outcome.ok (g', none), some m' => PEquiv cur g' m'
    | GoSem.Outcome.ok (g', some e), none => g' = g ∧ e = ⟨"invalid price %s for commodity %s in %s"⟩
    | _, _ => False :=
  Insert_rel cur (NPEquiv_nil cur) (NPEquiv_set cur) h d ⟨rfl, rfl⟩

/-- `commodity.Compare` orders by name: `compare.Sort(keys, commodity.Compare)` (a `sort.Slice` with "less" = `Smaller`)
sorts ascending by name, which is the model's `sortNames` -/
theorem commodity_Compare_smaller (cur : String → Bool) (a b : Knut.Commodity) :
    commodity.Compare (cGo cur a) (cGo cur b) = -1 ↔ a < b := by
  unfold commodity.Compare commodity.Commodity.Name cmpOrdered cGo
  by_cases h1 : a < b
  · simp [h1]
  · by_cases h2 : b < a <;> simp [h1, h2]

theorem compare_Time_eq (a b : Int) : compare.Time a b = if a < b then -1 else if a = b then 0 else 1 := by
  unfold compare.Time
  by_cases h1 : a = b
  · simp [h1]
  · by_cases h2 : a < b <;> simp [h1, h2]

theorem compare_Decimal_eq (a b : Rat) : compare.Decimal a b = if a < b then -1 else if a = b then 0 else 1 := by
  unfold compare.Decimal
  by_cases h1 : a = b
  · simp [h1]
  · by_cases h2 : a < b <;> simp [h1, h2]

/-- non-vacuity: 1.5 * 1.123456789 truncated to 8 places; a price and its stored reciprocal -/
example : price.Multiply (3/2) (1123456789/1000000000) = 168518518/100000000 := by decide +kernel
example : price.Prices.Insert [] ⟨"CHF", false⟩ 4 ⟨"USD", false⟩ =
    GoSem.Outcome.ok ([(⟨"USD", false⟩, [(⟨"CHF", false⟩, 4)]), (⟨"CHF", false⟩, [(⟨"USD", false⟩, 1/4)])], none) := by
  decide +kernel
example : (price.Prices.Insert [] ⟨"CHF", false⟩ 0 ⟨"USD", false⟩) =
    GoSem.Outcome.ok ([], some ⟨"invalid price %s for commodity %s in %s"⟩) := by decide +kernel

/-! ## `Prices.normalize` / `Prices.Normalize` (breadth-first search over sorted neighbours)

The `for len(queue) > 0` loop has no comparison a bound could be derived from (the loop also appends to the queue): the translated
function takes its fuel as an explicit parameter, and the theorem says that `unvisited + |queue|` — the model's termination measure —
suffices.  Map equivalence is strengthened by the key sets (`NPEquivS`, `PEquivS`): `dict.SortedKeys` sorts the keys of the Go map, the
model sorts the keys of its association list. -/

structure NPEquivS (cur : String → Bool) (g : price.NormalizedPrices) (m : Prices.NPrices) : Prop where
  lookup : NPEquiv cur g m
  keys : (g.map Prod.fst).Perm ((Prices.keys m).map (cGo cur))
  nodup : (Prices.keys m).Nodup

def PEquivS (cur : String → Bool) (g : price.Prices) (m : Prices.Prices) : Prop :=
  ∀ a : Knut.Commodity,
    match Knut.AMap.find? g (cGo cur a), Prices.find a m with
    | some gi, some mi => NPEquivS cur gi mi
    | none, none => True
    | _, _ => False

theorem PEquivS.toPEquiv {cur : String → Bool} {g : price.Prices} {m : Prices.Prices} (h : PEquivS cur g m) : PEquiv cur g m := by
  intro a
  have := h a
  cases hg : Knut.AMap.find? g (cGo cur a) <;> cases hm : Prices.find a m <;> simp [hg, hm] at this ⊢
  exact this.lookup

theorem keys_amap_set {κ ν : Type} [DecidableEq κ] (m : Knut.AMap κ ν) (k : κ) (v : ν) :
    (Knut.AMap.set m k v).map Prod.fst = if (Knut.AMap.find? m k).isSome then m.map Prod.fst else m.map Prod.fst ++ [k] := by
  simp only [Knut.AMap.find?_isSome, decide_eq_true_eq]
  exact Knut.AMap.keys_set_eq m k v

theorem keys_del (m : Prices.AMap β) (k : Commodity) : Prices.keys (Prices.del k m) = (Prices.keys m).filter (fun x => x != k) := by
  rw [Prices.del_eq]; exact (Knut.AMap.keys_erase m k).trans (List.filter_congr fun x _ => by by_cases h : x = k <;> simp [h])

theorem keys_set_perm (m : Prices.AMap β) (k : Commodity) (v : β) (hn : (Prices.keys m).Nodup) :
    (Prices.keys (Prices.set m k v)).Perm (if (Prices.find k m).isSome then Prices.keys m else Prices.keys m ++ [k]) ∧
    (Prices.keys (Prices.set m k v)).Nodup := by
  have hk : Prices.keys (Prices.set m k v) = k :: (Prices.keys m).filter (fun x => x != k) := by
    show Prices.keys ((k, v) :: Prices.del k m) = _
    simp only [Prices.keys, List.map_cons]
    have := keys_del m k
    simp only [Prices.keys] at this
    rw [this]
  rw [hk]
  constructor
  · by_cases hs : (Prices.find k m).isSome = true
    · simp only [hs, if_true]
      have hmem : k ∈ Prices.keys m := (Prices.isSome_iff_mem_keys m k).mp hs
      rw [← List.Nodup.erase_eq_filter hn k]
      exact (List.perm_cons_erase hmem).symm
    · simp only [hs, Bool.false_eq_true, if_false]
      have hmem : k ∉ Prices.keys m := fun x => hs ((Prices.isSome_iff_mem_keys m k).mpr x)
      have : (Prices.keys m).filter (fun x => x != k) = Prices.keys m := by
        apply List.filter_eq_self.mpr
        intro a ha; simp; intro e; subst e; exact hmem ha
      rw [this]
      exact (List.perm_append_singleton k (Prices.keys m)).symm
  · refine List.nodup_cons.mpr ⟨by simp, hn.filter _⟩

theorem NPEquivS_nil (cur : String → Bool) : NPEquivS cur [] [] :=
  ⟨NPEquiv_nil cur, by simp [Prices.keys], by simp [Prices.keys]⟩

theorem NPEquivS_set (cur : String → Bool) {g : price.NormalizedPrices} {m : Prices.NPrices} (h : NPEquivS cur g m)
    (c : Knut.Commodity) (v : Rat) : NPEquivS cur (Knut.AMap.set g (cGo cur c) v) (Prices.set m c v) := by
  obtain ⟨hp, hnd⟩ := keys_set_perm m c v h.nodup
  refine ⟨NPEquiv_set cur h.lookup c v, ?_, hnd⟩
  rw [keys_amap_set, h.lookup c]
  by_cases hs : (Prices.find c m).isSome = true
  · simp only [hs, if_true] at hp ⊢
    exact h.keys.trans (hp.map _).symm
  · simp only [hs, Bool.false_eq_true, if_false] at hp ⊢
    refine List.Perm.trans ?_ (hp.map _).symm
    simp only [List.map_append, List.map_cons, List.map_nil]
    exact List.Perm.append_right _ h.keys

/-- `Prices.Insert` keeps the strengthened equivalence: every price map built by `Insert` calls from the empty map satisfies it -/
theorem Insert_agreesS (cur : String → Bool) {g : price.Prices} {m : Prices.Prices} (h : PEquivS cur g m) (d : Prices.Decl) :
    match price.Prices.Insert g (cGo cur d.commodity) d.price (cGo cur d.target), Prices.insert m d with
    | GoSem.Outcome.ok (g', none), some m' => PEquivS cur g' m'
    | GoSem.Outcome.ok (g', some _), none => g' = g
    | _, _ => False :=
  Insert_rel cur (NPEquivS_nil cur) (NPEquivS_set cur) h d rfl

theorem Insert_cases (cur : String → Bool) {g : price.Prices} {m : Prices.Prices} (h : PEquivS cur g m) (d : Prices.Decl) :
    (∃ g' m', price.Prices.Insert g (cGo cur d.commodity) d.price (cGo cur d.target) = .ok (g', none) ∧
        Prices.insert m d = some m' ∧ PEquivS cur g' m') ∨
    (price.Prices.Insert g (cGo cur d.commodity) d.price (cGo cur d.target) =
        .ok (g, some ⟨"invalid price %s for commodity %s in %s"⟩) ∧ Prices.insert m d = none) := by
  have h1 := Insert_agreesS cur h d
  have h2 := Insert_agrees cur h.toPEquiv d
  generalize price.Prices.Insert g (cGo cur d.commodity) d.price (cGo cur d.target) = R at h1 h2 ⊢
  generalize Prices.insert m d = M at h1 h2 ⊢
  rcases R with ⟨g1, _ | e⟩ | msg | _
  · cases M with
    | none => exact h1.elim
    | some m' => exact .inl ⟨g1, m', rfl, rfl, h1⟩
  · cases M with
    | none => exact .inr ⟨by rw [h2.1, h2.2], rfl⟩
    | some _ => exact h1.elim
  · cases M <;> exact h1.elim
  · cases M <;> exact h1.elim
theorem PEquivS_nil (cur : String → Bool) : PEquivS cur [] [] := by intro a; simp [Prices.find]

/-- `dict.SortedKeys(ps[c], commodity.Compare)` is the model's `sortNames (keys …)` -/
theorem sortedKeys_agrees (cur : String → Bool) {gi : price.NormalizedPrices} {mi : Prices.NPrices} (h : NPEquivS cur gi mi) :
    sortedKeys gi commodity.Compare = (Prices.sortNames (Prices.keys mi)).map (cGo cur) := by
  unfold sortedKeys
  have hle : (fun a b : commodity.Commodity => decide (commodity.Compare a b ≠ 1)) = (fun a b => decide (a.name ≤ b.name)) := by
    funext a b; exact Compare_le a b
  rw [hle]
  refine mergeSort_key_eq (fun c : commodity.Commodity => c.name) (fun _ _ _ => String.le_trans) String.le_total
    (h.keys.trans ((Prices.sortNames_perm _).map _).symm) ?_ ?_
  · rw [List.pairwise_map]
    refine (List.pairwise_mergeSort (le := fun a b : Commodity => decide (a ≤ b)) (fun a b c h1 h2 => ?_) (fun a b => ?_) _).imp
      of_decide_eq_true
    · exact decide_eq_true (String.le_trans (of_decide_eq_true h1) (of_decide_eq_true h2))
    · simpa only [Bool.or_eq_true, decide_eq_true_eq] using String.le_total a b
  · intro a ha b hb h1 h2
    obtain ⟨x, _, rfl⟩ := List.mem_map.mp ha
    obtain ⟨y, _, rfl⟩ := List.mem_map.mp hb
    rw [show x = y from String.le_antisymm h1 h2]

/-- body of the inner `range` loop of `normalize` as the translator writes it (state: `res`, `queue`) -/
def gvisit (ps : price.Prices) (c : commodity.Commodity) (st : price.NormalizedPrices × List commodity.Commodity)
    (el : commodity.Commodity) : price.NormalizedPrices × List commodity.Commodity :=
  let res : price.NormalizedPrices := st.1
  let queue : (List commodity.Commodity) := st.2
  let neighbor : commodity.Commodity := el
  let done : Bool := (Option.isSome (Knut.AMap.find? res neighbor))
  if done then
    (res, queue)
  else
    let res : price.NormalizedPrices := (Knut.AMap.set res neighbor (price.Multiply (Knut.AMap.get (Knut.AMap.get ps c (GoZero.zero : price.NormalizedPrices)) neighbor (GoZero.zero : Rat)) (Knut.AMap.get res c (GoZero.zero : Rat))))
    let queue : (List commodity.Commodity) := (queue ++ [neighbor])
    (res, queue)

theorem gvisit_agrees (cur : String → Bool) {g : price.Prices} {m : Prices.Prices} (h : PEquiv cur g m) (c n : Knut.Commodity)
    (gres : price.NormalizedPrices) (mres : Prices.NPrices) (q : List Knut.Commodity) (hr : NPEquiv cur gres mres) :
    (gvisit g (cGo cur c) (gres, q.map (cGo cur)) (cGo cur n)).2 = (Prices.visit m c (q, mres) n).1.map (cGo cur) ∧
    NPEquiv cur (gvisit g (cGo cur c) (gres, q.map (cGo cur)) (cGo cur n)).1 (Prices.visit m c (q, mres) n).2 := by
  unfold gvisit Prices.visit
  simp only [hr n]
  by_cases hd : (Prices.find n mres).isSome = true
  · simp [hd, hr]
  · simp only [hd, Bool.false_eq_true, if_false]
    refine ⟨by simp, ?_⟩
    have hp : Knut.AMap.get (Knut.AMap.get g (cGo cur c) (GoZero.zero : price.NormalizedPrices)) (cGo cur n) (GoZero.zero : Rat)
        = Prices.price m c n := by
      have := h c
      unfold Prices.price Prices.edge Knut.AMap.get
      cases hg : Knut.AMap.find? g (cGo cur c) <;> cases hm : Prices.find c m <;> simp [hg, hm] at this ⊢
      rw [this n]
    have hc : Knut.AMap.get gres (cGo cur c) (GoZero.zero : Rat) = (Prices.find c mres).getD 0 := by
      unfold Knut.AMap.get; rw [hr c]; rfl
    rw [hp, hc, Multiply_agrees]
    exact NPEquiv_set cur hr n _

theorem gvisitAll_agrees (cur : String → Bool) {g : price.Prices} {m : Prices.Prices} (h : PEquiv cur g m) (c : Knut.Commodity) :
    ∀ (ns : List Knut.Commodity) (gres : price.NormalizedPrices) (mres : Prices.NPrices) (q : List Knut.Commodity),
      NPEquiv cur gres mres →
      (List.foldl (gvisit g (cGo cur c)) (gres, q.map (cGo cur)) (ns.map (cGo cur))).2
        = (ns.foldl (Prices.visit m c) (q, mres)).1.map (cGo cur) ∧
      NPEquiv cur (List.foldl (gvisit g (cGo cur c)) (gres, q.map (cGo cur)) (ns.map (cGo cur))).1
        (ns.foldl (Prices.visit m c) (q, mres)).2 := by
  intro ns gres mres q hr
  -- the Go state is the pair the other way round, its queue the model's queue converted
  refine TransProcess.AllRel_foldl (R := fun gn n => gn = cGo cur n)
    (fun (s : price.NormalizedPrices × List commodity.Commodity) (t : List Knut.Commodity × Prices.NPrices) =>
      s.2 = t.1.map (cGo cur) ∧ NPEquiv cur s.1 t.2)
    (fun s t gn n hst hn => ?_) (TransProcess.AllRel_map (cGo cur) (fun _ => rfl) ns) (gres, q.map (cGo cur)) (q, mres) ⟨rfl, hr⟩
  obtain ⟨gres', gq⟩ := s
  obtain ⟨q', mres'⟩ := t
  obtain ⟨rfl, hr'⟩ := hst
  subst hn
  exact gvisit_agrees cur h c n gres' mres' q' hr'

/-- the `for len(queue) > 0` loop of `normalize`: with fuel ≥ `unvisited + |queue|` it ends (never `outOfFuel`, never an index
panic) in a map equivalent to the model's `normLoop` -/
theorem normalize_loop_agrees (cur : String → Bool) {g : price.Prices} {m : Prices.Prices} (h : PEquivS cur g m) :
    ∀ (fuel : Nat) (q : List Knut.Commodity) (c0 : commodity.Commodity) (gres : price.NormalizedPrices) (mres : Prices.NPrices),
      NPEquiv cur gres mres → Prices.unvisited m mres + q.length ≤ fuel →
      ∃ c' gres' q', price.Prices.normalize.loop1 g fuel c0 gres (q.map (cGo cur)) = GoSem.Outcome.ok (c', gres', q') ∧
        NPEquiv cur gres' (Prices.normLoop m q mres) := by
  intro fuel
  induction fuel with
  | zero =>
    intro q c0 gres mres hr hf
    have : q = [] := by cases q with | nil => rfl | cons a b => simp at hf
    subst this
    exact ⟨c0, gres, [], by simp [price.Prices.normalize.loop1], by simpa [Prices.normLoop_nil] using hr⟩
  | succ n ih =>
    intro q c0 gres mres hr hf
    cases q with
    | nil => exact ⟨c0, gres, [], by simp [price.Prices.normalize.loop1], by simpa [Prices.normLoop_nil] using hr⟩
    | cons c rest =>
      unfold price.Prices.normalize.loop1
      have hpos : ((((c :: rest).map (cGo cur)).length : Nat) : Int) > 0 := by simp <;> omega
      simp only [len, hpos, decide_true, if_true]
      have hi : index ((c :: rest).map (cGo cur)) 0 = GoSem.Outcome.ok (cGo cur c) := by
        simp [index]
      have hs : slice ((c :: rest).map (cGo cur)) 1 ((((c :: rest).map (cGo cur)).length : Nat) : Int) = GoSem.Outcome.ok (rest.map (cGo cur)) :=
        slice_drop ((c :: rest).map (cGo cur)) 1 (Nat.le_add_left 1 _)
      rw [hi, hs]
      simp only [GoSem.Outcome.bind]
      have hsk : sortedKeys (Knut.AMap.get g (cGo cur c) (GoZero.zero : price.NormalizedPrices)) commodity.Compare
          = (Prices.neighbors m c).map (cGo cur) := by
        have := h c
        unfold Prices.neighbors Knut.AMap.get
        cases hg : Knut.AMap.find? g (cGo cur c) <;> cases hm : Prices.find c m <;> simp [hg, hm] at this ⊢
        · simp [sortedKeys, Prices.sortNames, Prices.keys]
        · exact sortedKeys_agrees cur this
      rw [hsk]
      obtain ⟨h1, h2⟩ := gvisitAll_agrees cur h.toPEquiv c (Prices.neighbors m c) gres mres rest hr
      have hfold : ∀ (init : price.NormalizedPrices × List commodity.Commodity) (l : List commodity.Commodity),
          List.foldl (fun (st5 : price.NormalizedPrices × List commodity.Commodity) (el6 : commodity.Commodity) =>
            let res : price.NormalizedPrices := st5.1
            let queue : (List commodity.Commodity) := st5.2
            let neighbor : commodity.Commodity := el6
            let done : Bool := (Option.isSome (Knut.AMap.find? res neighbor))
            if done then
              (res, queue)
            else
              let res : price.NormalizedPrices := (Knut.AMap.set res neighbor (price.Multiply (Knut.AMap.get (Knut.AMap.get g (cGo cur c) (GoZero.zero : price.NormalizedPrices)) neighbor (GoZero.zero : Rat)) (Knut.AMap.get res (cGo cur c) (GoZero.zero : Rat))))
              let queue : (List commodity.Commodity) := (queue ++ [neighbor])
              (res, queue)) init l = List.foldl (gvisit g (cGo cur c)) init l := fun _ _ => rfl
      rw [hfold]
      have hm := Prices.visitAll_measure m c (Prices.neighbors m c) (rest, mres) (Prices.neighbors_sub_universe m c)
      simp only [List.length_cons] at hf hm
      obtain ⟨c', gres', q', e1, e2⟩ := ih ((Prices.neighbors m c).foldl (Prices.visit m c) (rest, mres)).1 (cGo cur c)
        (List.foldl (gvisit g (cGo cur c)) (gres, rest.map (cGo cur)) ((Prices.neighbors m c).map (cGo cur))).1
        ((Prices.neighbors m c).foldl (Prices.visit m c) (rest, mres)).2 h2 (by omega)
      refine ⟨c', gres', q', ?_, ?_⟩
      · rw [← e1, h1]
      · rw [Prices.normLoop_cons]; exact e2

/-- `Prices.Normalize(t)`: for every fuel ≥ `unvisited + 1` the translated function returns a map whose every lookup is the
model's `normalize` (the BFS over sorted neighbours) -/
theorem Normalize_agrees (cur : String → Bool) {g : price.Prices} {m : Prices.Prices} (h : PEquivS cur g m) (t : Knut.Commodity)
    (fuel : Nat) (hf : Prices.unvisited m [(t, 1)] + 1 ≤ fuel) :
    ∃ gres, price.Prices.Normalize g (cGo cur t) fuel = GoSem.Outcome.ok gres ∧ NPEquiv cur gres (Prices.normalize m t) := by
  unfold price.Prices.Normalize price.Prices.normalize Prices.normalize
  have hr : NPEquiv cur (Knut.AMap.set ([] : price.NormalizedPrices) (cGo cur t) price.one) [(t, 1)] := by
    have := NPEquiv_set cur (NPEquiv_nil cur) t 1
    simpa [Prices.set, Prices.del, price.one] using this
  obtain ⟨c', gres', q', e1, e2⟩ := normalize_loop_agrees cur h fuel [t] (cGo cur t) _ _ hr (by simpa using hf)
  refine ⟨gres', ?_, e2⟩
  simp only [List.map_cons, List.map_nil] at e1
  simp [e1, GoSem.Outcome.bind]

/-- non-vacuity: the hypotheses of `Normalize_agrees` are satisfiable (the empty price map, fuel 1), and `PEquivS` is what `Insert`
maintains from the empty map (`PEquivS_nil`, `Insert_agreesS`) -/
example (cur : String → Bool) : ∃ gres, price.Prices.Normalize [] (cGo cur "CHF") 1 = GoSem.Outcome.ok gres ∧
    NPEquiv cur gres (Prices.normalize [] "CHF") :=
  Normalize_agrees cur (PEquivS_nil cur) "CHF" 1 (by simp [Prices.unvisited, Prices.allNames])

end Knut.FactsAgree.TransPrice
