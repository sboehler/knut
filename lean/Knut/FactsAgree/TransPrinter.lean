import Knut.FactsAgree.TransParser4
import Knut.Generated.TransPrinter
import Knut.Syntax.Printer
import Knut.Proofs.ListMapM
/-!
# The translated format printer (`lib/syntax/printer`) agrees with the model printer, part 1

`Generated/TransPrinter.lean` is regenerated from `/repo/lib/syntax/printer/printer.go` on every run; `Syntax/Printer.lean` is the model
the C08 / C15 theorems are about.  For **every** tree `x` (not only the trees the parser returns), converted to Go's representation by
the `go…` functions of `TransParser…`, every print method `printX p (goX x)` does what the model says: extract the fields of `x`
(`viewX`), render them (`renderX`), append to `p`'s writer — the same bytes, the same `count`, a nil error, and a slice-bounds panic
exactly where the model answers `none`.  The `io.Writer` is the byte string written so far (an in-memory buffer that never fails, see
`GoSem/Syntax.lean`); what a failing writer would do is not modelled.
-/
namespace Knut.FactsAgree.TransPrinter
open Knut Knut.GoSem Knut.Syntax Knut.Utf8
open Knut.Generated.Go
open Knut.FactsAgree.TransScanner Knut.FactsAgree.TransParser

abbrev Bytes := List UInt8

/-- Go's run-time panic of `s[lo:hi]` -/
def slicePanic : String := "runtime error: slice bounds out of range"

/-- a model outcome (`none` = a slice bound was violated) as an outcome of the translation -/
def ofOpt {α : Type} : Option α → Outcome α
  | some a => .ok a
  | none => .panic slicePanic

@[simp] theorem ofOpt_some {α : Type} (a : α) : ofOpt (some a) = .ok a := rfl
@[simp] theorem ofOpt_none {α : Type} : (ofOpt (none : Option α)) = .panic slicePanic := rfl

@[simp] theorem obind_ok' {α β : Type} (a : α) (f : α → Outcome β) : (Outcome.ok a).bind f = f a := rfl
@[simp] theorem obind_panic {α β : Type} (m : String) (f : α → Outcome β) : (Outcome.panic m : Outcome α).bind f = .panic m := rfl

theorem ofOpt_bind {α β : Type} (o : Option α) (f : α → Option β) :
    ofOpt (o.bind f) = (ofOpt o).bind (fun a => ofOpt (f a)) := by
  cases o <;> rfl

/-- one step of a Go computation against one step of the model's: Go panics where the model answers `none`, else both go on with
the same value -/
theorem ofOpt_bind_eq {α β γ : Type} {o : Option α} {K : α → Outcome γ} {f : α → Option β} {k : β → Outcome γ}
    (h : ∀ a, K a = (ofOpt (f a)).bind k) : (ofOpt o).bind K = (ofOpt (o.bind f)).bind k := by
  cases o
  · rfl
  · exact h _

/-- the model's last step post-processes its value -/
theorem ofOpt_map_bind {α β γ : Type} (o : Option α) (g : α → β) (k : β → Outcome γ) :
    (ofOpt (o.map g)).bind k = (ofOpt o).bind fun a => k (g a) := by
  cases o <;> rfl

/-- a Go step `X` that an agreement theorem has shown to be the model's step `o`, followed by `K` -/
theorem ofOpt_step {α β γ δ : Type} {X : Outcome δ} {o : Option α} {j : α → δ} {K : δ → Outcome γ} {f : α → Option β} {k : β → Outcome γ}
    (hX : X = (ofOpt o).bind fun a => .ok (j a)) (h : ∀ a, K (j a) = (ofOpt (f a)).bind k) :
    X.bind K = (ofOpt (o.bind f)).bind k := by
  subst hX
  cases o
  · rfl
  · exact h _

theorem slice_nat (xs : Bytes) (a b : Nat) : slice xs (a : Int) (b : Int) = ofOpt (sliceChecked xs a b) := by
  unfold slice sliceChecked
  by_cases h : a ≤ b ∧ b ≤ xs.length
  · have h' : ¬ ((a : Int) < 0 ∨ (b : Int) < (a : Int) ∨ (xs.length : Int) < (b : Int)) := by omega
    simp only [h', if_false, h, and_self, if_true, ofOpt_some, Int.toNat_natCast, List.drop_take]
  · have h' : ((a : Int) < 0 ∨ (b : Int) < (a : Int) ∨ (xs.length : Int) < (b : Int)) := by omega
    simp only [h', if_true, h, if_false, ofOpt_none, slicePanic]

theorem extract_eq_sliceChecked (text : Bytes) (r : Syntax.Range) : r.extract text = sliceChecked text r.start r.stop := rfl

theorem Extract_goRange (text : Bytes) (path : String) (r : Syntax.Range) :
    directives.Range.Extract (goRange text path r) = ofOpt (r.extract text) := by
  unfold directives.Range.Extract goRange
  simp only [slice_nat, extract_eq_sliceChecked]
  cases sliceChecked text r.start r.stop <;> rfl

theorem runeCount_eq (s : Bytes) : Syn.RuneCountInString s = (runeCount s : Int) := rfl

theorem pad_eq (w : Nat) (s : Bytes) : Syn.Fmt.pad ((w : Int) - (runeCount s : Int)) = spaces (w - runeCount s) := by
  unfold Syn.Fmt.pad spaces
  congr 1
  omega

/-- `printer.padRight` (blanks appended by hand up to `n` runes, for every width) is the model's `padRight`; it never panics
(`strings.Repeat` gets a positive count) -/
theorem padRight_agrees (s : Bytes) (w : Nat) : printer.padRight s (w : Int) = .ok (Syntax.padRight w s) := by
  unfold printer.padRight Syntax.padRight Syn.Strings.Repeat spaces
  simp only [runeCount_eq]
  by_cases h : runeCount s < w
  · have h1 : ((runeCount s : Int) < (w : Int)) := by omega
    have h2 : ¬ ((w : Int) - (runeCount s : Int) < 0) := by omega
    have h3 : ((w : Int) - (runeCount s : Int)).toNat = w - runeCount s := by omega
    have e : Syn.lit " " = [32] := by decide
    simp only [h1, decide_true, if_true, h2, if_false, obind_ok', h3, e, List.flatten_replicate_singleton]
  · have h1 : ¬ ((runeCount s : Int) < (w : Int)) := by omega
    have h3 : w - runeCount s = 0 := by omega
    simp only [h1, decide_false, Bool.false_eq_true, if_false, h3, List.replicate_zero, List.append_nil]

/-- `%10s` -/
theorem sW_padLeft (s : Bytes) : Syn.Fmt.sW false (10 : Int) s = padLeft 10 s := by
  unfold Syn.Fmt.sW padLeft
  have := pad_eq 10 s
  simp only [Bool.false_eq_true, if_false, runeCount_eq]
  exact congrArg (· ++ s) this

theorem Join_comma (ps : List Bytes) : Syn.Strings.Join ps (Syn.lit ",") = joinComma ps := by
  induction ps with
  | nil => rfl
  | cons a rest ih =>
    cases rest with
    | nil => rfl
    | cons b rest' =>
      have e : Syn.lit "," = Syntax.lit "," := by decide
      rw [Syn.Strings.Join, joinComma, ih, e]
      intro h; cases h

/-- `p` after the bytes `bs` were written through `Printer.Write` -/
def wr (p : printer.Printer) (bs : Bytes) : printer.Printer :=
  { p with writer := p.writer ++ bs, count := p.count + (bs.length : Int) }

@[simp] theorem wr_padding (p : printer.Printer) (bs : Bytes) : (wr p bs).padding = p.padding := rfl
@[simp] theorem wr_writer (p : printer.Printer) (bs : Bytes) : (wr p bs).writer = p.writer ++ bs := rfl
@[simp] theorem wr_count (p : printer.Printer) (bs : Bytes) : (wr p bs).count = p.count + (bs.length : Int) := rfl

@[simp] theorem wr_nil (p : printer.Printer) : wr p [] = p := by
  simp [wr]

theorem wr_wr (p : printer.Printer) (a b : Bytes) : wr (wr p a) b = wr p (a ++ b) := by
  simp only [wr, List.append_assoc, List.length_append, Int.natCast_add, Int.add_assoc]

/-- `Printer.Write`: the bytes go to the writer (which takes them all and returns a nil error), their number is added to `count` -/
theorem Write_eq (p : printer.Printer) (bs : Bytes) : printer.Printer.Write p bs = (wr p bs, (bs.length : Int), .nil) := rfl

/-- the result of a print method: the rendered bytes appended, nil error; a panic where the model answers `none` -/
def printed (p : printer.Printer) (o : Option Bytes) : Outcome (printer.Printer × directives.GoError) :=
  (ofOpt o).bind fun out => .ok (wr p out, .nil)

@[simp] theorem printed_some (p : printer.Printer) (out : Bytes) : printed p (some out) = .ok (wr p out, .nil) := rfl
@[simp] theorem printed_none (p : printer.Printer) : printed p none = .panic slicePanic := rfl

/-- a print method followed by the translation of `if err != nil { return err }` inside a `Flow` -/
theorem printed_next (p : printer.Printer) (o : Option Bytes) :
    ((printed p o).bind fun t => if (!(decide (t.2 = .nil))) = true then .ok (Flow.ret (t.1, t.2)) else .ok (Flow.next t.1)) =
      (ofOpt o).bind fun out => .ok (Flow.next (wr p out)) := by
  cases o <;> rfl

/-- **an optional stage of a print method** (`if !x.Empty() { …write… }`, joined in a `Flow`): the stage `S` extracts `oa` and writes
`ra a`; the model's view extracts `oa` under the same test and renders it later.  Lean's `do` puts the rest of the view into both
branches of that test, which is the shape on the right.  What follows the stage (`J`) is compared once, for every outcome `a?` of it, on
the printer that has `a?.elim [] ra` written to it. -/
theorem opt_stage {α β γ δ : Type} {b : Bool} {p : printer.Printer} {oa : Option α} {ra : α → Bytes}
    {S : Outcome (Flow printer.Printer (printer.Printer × directives.GoError))}
    (hS : b = false → S = (ofOpt (oa.map ra)).bind fun out => .ok (Flow.next (wr p out)))
    {J : Flow printer.Printer (printer.Printer × directives.GoError) → Outcome δ}
    {f : Option α → Option β} {g : β → γ} {k : γ → Outcome δ}
    (hK : ∀ a?, J (Flow.next (wr p (a?.elim [] ra))) = (ofOpt (Option.map g (f a?))).bind k) :
    (if (!b) = true then S else .ok (Flow.next p)).bind J =
      (ofOpt (Option.map g (if (!b) = true then oa.map some >>= f else pure none >>= f))).bind k := by
  cases b
  · rw [hS rfl]
    cases oa
    · rfl
    · exact hK (some _)
  · have := hK none
    rw [Option.elim_none, wr_nil] at this
    exact this

/-- the model's `lit` takes a byte per character, which is the UTF-8 encoding for ASCII constants; a literal is `String.ofList` of
its characters, so the side condition is evaluated on a list of characters -/
theorem lit_ofList_eq (l : List Char) (h : ∀ c ∈ l, c.toNat < 128) : Syn.lit (String.ofList l) = Syntax.lit (String.ofList l) := by
  rw [Syn.lit, Syntax.lit, String.toList_ofList]
  exact lit_ascii l h

theorem lit_accrue : Syn.lit "@accrue " = Syntax.lit "@accrue " := lit_ofList_eq _ (by decide)
theorem lit_sp : Syn.lit " " = Syntax.lit " " := lit_ofList_eq _ (by decide)
theorem lit_nl : Syn.lit "\n" = Syntax.lit "\n" := lit_ofList_eq _ (by decide)
theorem lit_perf : Syn.lit "@performance(" = Syntax.lit "@performance(" := lit_ofList_eq _ (by decide)
theorem lit_perfEnd : Syn.lit ")\n" = Syntax.lit ")\n" := lit_ofList_eq _ (by decide)
theorem lit_spq : Syn.lit " \"" = Syntax.lit " \"" := lit_ofList_eq _ (by decide)
theorem lit_q : Syn.lit "\"" = Syntax.lit "\"" := lit_ofList_eq _ (by decide)
theorem lit_open : Syn.lit " open " = Syntax.lit " open " := lit_ofList_eq _ (by decide)
theorem lit_close : Syn.lit " close " = Syntax.lit " close " := lit_ofList_eq _ (by decide)
theorem lit_price : Syn.lit " price " = Syntax.lit " price " := lit_ofList_eq _ (by decide)
theorem lit_include : Syn.lit "include \"" = Syntax.lit "include \"" := lit_ofList_eq _ (by decide)
theorem lit_balance : Syn.lit " balance" = Syntax.lit " balance" := lit_ofList_eq _ (by decide)

section
variable {text : Bytes} {path : String}

/-- one `x.Extract()` argument of a print method against one extraction of the model's view -/
theorem extract_bind {α β γ : Type} (r : Syntax.Range) {K : Bytes → Outcome α} {f : Bytes → Option β} {g : β → γ} {k : γ → Outcome α}
    (h : ∀ x, K x = (ofOpt (Option.map g (f x))).bind k) :
    (directives.Range.Extract (goRange text path r)).bind K = (ofOpt (Option.map g (r.extract text >>= f))).bind k := by
  rw [Extract_goRange, Option.bind_eq_bind, Option.map_bind]
  exact ofOpt_bind_eq h

theorem printAccrual_agrees (p : printer.Printer) (a : Syntax.Accrual) :
    printer.Printer.printAccrual p (goAccrual text path a) = printed p ((viewAccrual text a).map renderAccrual) := by
  unfold printer.Printer.printAccrual viewAccrual printed
  refine extract_bind _ fun iv => ?_
  refine extract_bind _ fun d0 => ?_
  refine extract_bind _ fun d1 => ?_
  refine extract_bind _ fun acc => ?_
  simp only [Option.pure_def, Option.map_some, ofOpt_some, obind_ok', Write_eq, Syn.Fmt.s, renderAccrual, lit_accrue, lit_sp, lit_nl]

/-- the line `printPosting` writes: `renderBooking` without the `"\n"` that `printTransaction` writes after it -/
def postingLine (padding : Nat) (b : BookingV) : Bytes :=
  padRight padding b.credit ++ Syntax.lit " " ++ padRight padding b.debit ++ Syntax.lit " " ++ padLeft 10 b.quantity ++ Syntax.lit " " ++
    b.commodity

theorem renderBooking_eq (padding : Nat) (b : BookingV) : renderBooking padding b = postingLine padding b ++ Syntax.lit "\n" := rfl

theorem printPosting_agrees (p : printer.Printer) (pd : Nat) (hp : p.padding = (pd : Int)) (b : Syntax.Booking) :
    printer.Printer.printPosting p (goBooking text path b) = printed p ((viewBooking text b).map (postingLine pd)) := by
  unfold printer.Printer.printPosting viewBooking printed
  refine extract_bind _ fun cr => ?_
  rw [hp, padRight_agrees, obind_ok']
  refine extract_bind _ fun db => ?_
  rw [padRight_agrees, obind_ok']
  refine extract_bind _ fun q => ?_
  refine extract_bind _ fun c => ?_
  simp only [Option.pure_def, Option.map_some, ofOpt_some, obind_ok', Write_eq, Syn.Fmt.s, sW_padLeft, postingLine, lit_sp]

theorem printOpen_agrees (p : printer.Printer) (pd : Nat) (r : Syntax.Range) (o : Syntax.Open) :
    printer.Printer.printOpen p (goOpen text path o) = printed p (printDirective text pd ⟨r, .open o⟩) := by
  unfold printer.Printer.printOpen printDirective viewDirective printed
  refine extract_bind _ fun date => ?_
  refine extract_bind _ fun acc => ?_
  simp only [Option.pure_def, Option.map_some, ofOpt_some, obind_ok', Write_eq, Syn.Fmt.s, renderDir, lit_open]

theorem printClose_agrees (p : printer.Printer) (pd : Nat) (r : Syntax.Range) (c : Syntax.Close) :
    printer.Printer.printClose p (goClose text path c) = printed p (printDirective text pd ⟨r, .close c⟩) := by
  unfold printer.Printer.printClose printDirective viewDirective printed
  refine extract_bind _ fun date => ?_
  refine extract_bind _ fun acc => ?_
  simp only [Option.pure_def, Option.map_some, ofOpt_some, obind_ok', Write_eq, Syn.Fmt.s, renderDir, lit_close]

theorem printPrice_agrees (p : printer.Printer) (pd : Nat) (r : Syntax.Range) (pr : Syntax.Price) :
    printer.Printer.printPrice p (goPrice text path pr) = printed p (printDirective text pd ⟨r, .price pr⟩) := by
  unfold printer.Printer.printPrice printDirective viewDirective printed
  refine extract_bind _ fun date => ?_
  refine extract_bind _ fun c => ?_
  refine extract_bind _ fun q => ?_
  refine extract_bind _ fun t => ?_
  simp only [Option.pure_def, Option.map_some, ofOpt_some, obind_ok', Write_eq, Syn.Fmt.s, renderDir, lit_price, lit_sp]

theorem printInclude_agrees (p : printer.Printer) (pd : Nat) (r : Syntax.Range) (i : Syntax.Include) :
    printer.Printer.printInclude p (goInclude text path i) = printed p (printDirective text pd ⟨r, .include i⟩) := by
  unfold printer.Printer.printInclude printDirective viewDirective printed
  refine extract_bind _ fun ip => ?_
  simp only [Option.pure_def, Option.map_some, ofOpt_some, obind_ok', Write_eq, Syn.Fmt.s, renderDir, lit_include, lit_q]

/-- the three `Extract()` calls on a balance (account, quantity, commodity) are the model's `viewBalance`; a slice panic where it
answers `none` -/
theorem view_balance_go (b : Syntax.Balance) (k : Bytes → Bytes → Bytes → Outcome α) :
    (directives.Range.Extract (goBalance text path b).Account.Range).bind (fun t1 =>
      (directives.Range.Extract (goBalance text path b).Quantity.Range).bind (fun t2 =>
        (directives.Range.Extract (goBalance text path b).Commodity.Range).bind (fun t3 => k t1 t2 t3))) =
    match viewBalance text b with
    | some v => k v.account v.quantity v.commodity
    | none => .panic slicePanic := by
  unfold viewBalance
  simp only [goBalance, goDecimal, goCommodity, goAccount, Extract_goRange]
  cases b.account.range.extract text with
  | none => rfl
  | some acc =>
    cases b.quantity.range.extract text with
    | none => rfl
    | some q =>
      cases b.commodity.range.extract text <;> rfl

/-- the loop of `printAssertion` (multi-line form) -/
theorem printAssertion_loop (bs : List Syntax.Balance) : ∀ (p : printer.Printer),
    printer.Printer.printAssertion.range1 (bs.map (goBalance text path)) p =
      (ofOpt (bs.mapM (viewBalance text))).bind fun vs =>
        .ok (Flow.next (wr p ((vs.map fun b => renderBalance b ++ Syntax.lit "\n").flatten))) := by
  induction bs with
  | nil => intro p; simp [printer.Printer.printAssertion.range1]
  | cons b rest ih =>
    intro p
    rw [List.map_cons, printer.Printer.printAssertion.range1]
    simp only [goBalance, goDecimal, goCommodity, goAccount, Extract_goRange, List.mapM_cons, viewBalance, Option.bind_eq_bind,
      Option.pure_def, Option.bind_assoc, Option.bind_some]
    refine ofOpt_bind_eq fun acc => ofOpt_bind_eq fun q => ofOpt_bind_eq fun c => ?_
    simp only [Write_eq, decide_true, Bool.not_true, Bool.false_eq_true, if_false, ih, Syn.Fmt.s]
    refine ofOpt_bind_eq fun vs => ?_
    simp only [ofOpt_some, obind_ok', wr_wr, List.map_cons, List.flatten_cons, renderBalance, lit_sp, lit_nl, List.append_assoc]

theorem renderDir_assertion_multi (pd : Nat) (date : Bytes) (vs : List BalanceV) (h : vs.length ≠ 1) :
    renderDir pd (.assertion date vs) =
      date ++ Syntax.lit " balance" ++ Syntax.lit "\n" ++ (vs.map fun b => renderBalance b ++ Syntax.lit "\n").flatten := by
  match vs, h with
  | [], _ => rfl
  | [v], h => exact absurd rfl h
  | _ :: _ :: _, _ => rfl

/-- `Printer.printAssertion`: the one-line form for exactly one balance, else one line per balance -/
theorem printAssertion_agrees (p : printer.Printer) (pd : Nat) (r : Syntax.Range) (a : Syntax.Assertion) :
    printer.Printer.printAssertion p (goAssertion text path a) = printed p (printDirective text pd ⟨r, .assertion a⟩) := by
  unfold printer.Printer.printAssertion printDirective viewDirective
  simp only [goAssertion, goDate, Extract_goRange, Write_eq, Syn.Fmt.s, len, List.length_map]
  cases a.date.range.extract text <;> simp only [ofOpt_some, ofOpt_none, obind_ok', obind_panic, Option.bind_eq_bind, Option.bind_some,
    Option.bind_none, Option.map_none, printed_none]
  rename_i date
  simp only [decide_true, Bool.not_true, Bool.false_eq_true, if_false]
  by_cases h1 : a.balances.length = 1
  · -- `len(a.Balances) == 1`
    obtain ⟨b, hb⟩ : ∃ b, a.balances = [b] := by
      match hbs : a.balances, h1 with
      | [b], _ => exact ⟨b, rfl⟩
    have e1 : ((([b] : List Syntax.Balance).length : Int) = 1) := rfl
    simp only [hb, e1, decide_true, if_true, List.map_cons, List.map_nil]
    have ix : index [goBalance text path b] (0 : Int) = .ok (goBalance text path b) := by simp [index]
    simp only [ix, obind_ok']
    rw [view_balance_go]
    simp only [List.mapM_cons, List.mapM_nil, Option.bind_eq_bind, Option.pure_def]
    cases viewBalance text b with
    | none => rfl
    | some v =>
      simp only [Option.bind_some, Option.map_some, printed_some, renderDir, renderBalance, wr_wr, lit_sp, lit_balance,
        List.append_assoc]
  · have e1 : ¬ ((a.balances.length : Int) = 1) := by omega
    simp only [e1, decide_false, Bool.false_eq_true, if_false, printAssertion_loop]
    cases hm : a.balances.mapM (viewBalance text) with
    | none => rfl
    | some vs =>
      have hl : vs.length ≠ 1 := by rw [mapM_some_length hm]; exact h1
      simp only [ofOpt_some, obind_ok', Option.bind_some, Option.pure_def, Option.map_some, printed_some,
        renderDir_assertion_multi pd date vs hl, wr_wr, lit_balance, lit_nl, List.append_assoc]

/-- the loop that collects the extracted `@performance` targets -/
theorem printTransaction_loop1 (cs : List Syntax.Commodity) : ∀ (acc : List Bytes),
    printer.Printer.printTransaction.range1 (cs.map (goCommodity text path)) acc =
      (ofOpt (cs.mapM (fun (c : Syntax.Commodity) => c.range.extract text))).bind fun vs => .ok (acc ++ vs) := by
  induction cs with
  | nil => intro acc; simp [printer.Printer.printTransaction.range1]
  | cons c rest ih =>
    intro acc
    rw [List.map_cons, printer.Printer.printTransaction.range1]
    simp only [goCommodity, Extract_goRange, List.mapM_cons, Option.bind_eq_bind, Option.pure_def]
    refine ofOpt_bind_eq fun v => ?_
    rw [ih (acc ++ [v])]
    refine ofOpt_bind_eq fun vs => ?_
    simp only [ofOpt_some, obind_ok', List.append_assoc, List.singleton_append]

/-- the loop over the bookings: each posting line, then `"\n"` -/
theorem printTransaction_loop2 (pd : Nat) (bs : List Syntax.Booking) : ∀ (p : printer.Printer), p.padding = (pd : Int) →
    printer.Printer.printTransaction.range2 (bs.map (goBooking text path)) p =
      (ofOpt (bs.mapM (viewBooking text))).bind fun vs =>
        .ok (Flow.next (wr p ((vs.map (renderBooking pd)).flatten))) := by
  induction bs with
  | nil => intro p _; simp [printer.Printer.printTransaction.range2]
  | cons b rest ih =>
    intro p hp
    rw [List.map_cons, printer.Printer.printTransaction.range2]
    simp only [List.mapM_cons, Option.bind_eq_bind, Option.pure_def]
    refine ofOpt_step ((printPosting_agrees p pd hp b).trans (ofOpt_map_bind _ _ _)) fun v => ?_
    simp only [decide_true, Bool.not_true, Bool.false_eq_true, if_false, Write_eq]
    rw [ih _ (by simp only [wr_padding]; exact hp)]
    refine ofOpt_bind_eq fun vs => ?_
    simp only [ofOpt_some, obind_ok', wr_wr, List.map_cons, List.flatten_cons, renderBooking_eq, lit_nl, List.append_assoc]

/-- the header line and the bookings of `printTransaction`, written to the printer after the annotations `accr`, `perf` (whatever
they were) -/
theorem printTransaction_rest (p : printer.Printer) (pd : Nat) (hp : p.padding = (pd : Int)) (t : Syntax.Transaction)
    (accr : Option AccrualV) (perf : Option (List Bytes)) :
    ((ofOpt (t.date.range.extract text)).bind fun t11 =>
      (ofOpt (t.description.content.extract text)).bind fun t12 =>
        (printer.Printer.printTransaction.range2 (t.bookings.map (goBooking text path))
            (wr (wr (wr (wr p (accr.elim [] renderAccrual)) (perf.elim [] renderPerformance))
              (t11 ++ Syn.lit " \"" ++ t12 ++ Syn.lit "\"")) (Syn.lit "\n"))).bind fun r20 =>
          match r20 with
          | Flow.ret v => Outcome.ok v
          | Flow.next st19 => Outcome.ok (st19, directives.GoError.nil)) =
      printed p (Option.map (renderDir pd)
        ((t.date.range.extract text).bind fun date => (t.description.content.extract text).bind fun desc =>
          (t.bookings.mapM (viewBooking text)).bind fun bookings => some (DirV.transaction accr perf date desc bookings))) := by
  cases t.date.range.extract text with
  | none => rfl
  | some date =>
    cases t.description.content.extract text with
    | none => rfl
    | some desc =>
      simp only [ofOpt_some, obind_ok', Option.bind_some]
      rw [printTransaction_loop2 pd t.bookings _ (by simp only [wr_padding]; exact hp)]
      cases List.mapM (viewBooking text) t.bookings with
      | none => rfl
      | some vs =>
        simp only [Option.bind_some, Option.map_some, ofOpt_some, obind_ok', printed_some, renderDir, wr_wr, lit_spq, lit_q, lit_nl,
          List.append_assoc]
        cases accr <;> cases perf <;> rfl

/-- `Printer.printTransaction`: `@accrue` line, `@performance` line, header, one line per booking -/
theorem printTransaction_agrees (p : printer.Printer) (pd : Nat) (hp : p.padding = (pd : Int)) (r : Syntax.Range) (t : Syntax.Transaction) :
    printer.Printer.printTransaction p (goTransaction text path t) = printed p (printDirective text pd ⟨r, .transaction t⟩) := by
  unfold printer.Printer.printTransaction printDirective viewDirective viewTransaction printed
  simp only [goTransaction, addonsZ_accrual_empty, addonsZ_performance_empty, goDate, goQuoted, Extract_goRange, Write_eq, Syn.Fmt.s,
    decide_true, Bool.not_true, Bool.false_eq_true, if_false]
  refine opt_stage (ra := renderAccrual) (fun hA => ?_) fun accr => ?_
  · rw [addonsZ_accrual t.addons hA, printAccrual_agrees, printed_next]
  refine opt_stage (ra := renderPerformance) (fun hP => ?_) fun perf => ?_
  · rw [addonsZ_performance t.addons hP]
    simp only [goPerformance, printTransaction_loop1, GoZero.zero, List.nil_append]
    cases List.mapM (fun (c : Syntax.Commodity) => c.range.extract text) t.addons.performance.targets with
    | none => rfl
    | some ts => simp only [ofOpt_some, obind_ok', Option.map_some, renderPerformance, Join_comma, lit_perf, lit_perfEnd]
  exact printTransaction_rest p pd hp t accr perf

theorem printed_bind_id (p : printer.Printer) (o : Option Bytes) :
    ((printed p o).bind fun t => .ok (t.1, t.2)) = printed p o := by
  cases o <;> rfl

/-- `Printer.printDirective`: the type switch over the six directive structs -/
theorem printDirective_agrees (p : printer.Printer) (pd : Nat) (hp : p.padding = (pd : Int)) (d : Syntax.Directive) :
    printer.Printer.printDirective p (goDirective text path d) = printed p (printDirective text pd d) := by
  obtain ⟨r, body⟩ := d
  unfold printer.Printer.printDirective
  cases body with
  | transaction t => simp only [goDirective, goBody, printTransaction_agrees p pd hp r t, printed_bind_id]
  | «open» o => simp only [goDirective, goBody, printOpen_agrees p pd r o, printed_bind_id]
  | close c => simp only [goDirective, goBody, printClose_agrees p pd r c, printed_bind_id]
  | assertion a => simp only [goDirective, goBody, printAssertion_agrees p pd r a, printed_bind_id]
  | price pr => simp only [goDirective, goBody, printPrice_agrees p pd r pr, printed_bind_id]
  | «include» i => simp only [goDirective, goBody, printInclude_agrees p pd r i, printed_bind_id]

/-- `Printer.PrintDirective` returns the running `count` next to the error -/
theorem PrintDirective_agrees (p : printer.Printer) (pd : Nat) (hp : p.padding = (pd : Int)) (d : Syntax.Directive) :
    printer.Printer.PrintDirective p (goDirective text path d) =
      (ofOpt (printDirective text pd d)).bind fun out => .ok (wr p out, p.count + (out.length : Int), .nil) := by
  unfold printer.Printer.PrintDirective
  rw [printDirective_agrees p pd hp d]
  cases printDirective text pd d <;> rfl

end

end Knut.FactsAgree.TransPrinter
