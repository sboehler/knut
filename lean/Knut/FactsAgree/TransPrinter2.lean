import Knut.FactsAgree.TransPrinter
import Knut.Proofs.SyntaxViews
/-!
# The translated format printer agrees with the model printer, part 2: `Initialize`, `Format`, `syntax.FormatFile`

`Printer.Format` on the Go representation of **any** tree is the model's `format` (`Format_tree_agrees`), and with the translated parser
in front (`formatFile_agrees`) parse + format is the model's `formatFile`.  Go and the model go different ways in one
place: the loops of `Printer.Initialize` extract **only** the credit and debit accounts of the bookings (`initDirs`), the model's
`initPadding` extracts every field of every directive first.  The two agree whenever the model's extraction succeeds
(`initDirs_of_views`); when it does not, the model answers `none`, and the Go loop of `Format` panics a little later
(`formatLoop_none_of_views_none`).
-/
namespace Knut.FactsAgree.TransPrinter
open Knut Knut.GoSem Knut.Syntax Knut.Utf8
open Knut.Generated.Go
open Knut.FactsAgree.TransScanner Knut.FactsAgree.TransParser

/-- what `Printer.Initialize` computes over the bookings of one transaction: only the credit and the debit account are extracted -/
def initBookings (text : Bytes) : List Syntax.Booking → Nat → Option Nat
  | [], m => some m
  | b :: bs, m =>
    (b.credit.range.extract text).bind fun cr =>
      (b.debit.range.extract text).bind fun db =>
        initBookings text bs (max (max m (runeCount cr)) (runeCount db))

/-- what `Printer.Initialize` computes: the bookings of the transactions, every other directive is skipped -/
def initDirs (text : Bytes) : List Syntax.Directive → Nat → Option Nat
  | [], m => some m
  | d :: ds, m =>
    match d.body with
    | .transaction t => (initBookings text t.bookings m).bind (initDirs text ds)
    | _ => initDirs text ds m

def setPad (p : printer.Printer) (m : Nat) : printer.Printer := { p with padding := (m : Int) }

@[simp] theorem setPad_padding (p : printer.Printer) (m : Nat) : (setPad p m).padding = (m : Int) := rfl
@[simp] theorem setPad_writer (p : printer.Printer) (m : Nat) : (setPad p m).writer = p.writer := rfl
@[simp] theorem setPad_count (p : printer.Printer) (m : Nat) : (setPad p m).count = p.count := rfl

theorem setPad_self (p : printer.Printer) (m : Nat) (h : p.padding = (m : Int)) : setPad p m = p := by
  cases p; simp only [setPad] at *; subst h; rfl

theorem setPad_setPad (p : printer.Printer) (m n : Nat) : setPad (setPad p m) n = setPad p n := rfl

theorem wr_setPad (p : printer.Printer) (m : Nat) (bs : Bytes) : wr (setPad p m) bs = setPad (wr p bs) m := rfl

/-- `if l := utf8.RuneCountInString(s); l > p.padding { p.padding = l }` -/
theorem pad_step (p : printer.Printer) (m : Nat) (h : p.padding = (m : Int)) (s : Bytes) :
    (if decide (Syn.RuneCountInString s > p.padding) = true then { p with padding := Syn.RuneCountInString s } else p) =
      setPad p (max m (runeCount s)) := by
  rw [runeCount_eq, h]
  by_cases hc : m < runeCount s
  · have h1 : ((runeCount s : Int) > (m : Int)) := by omega
    have h2 : max m (runeCount s) = runeCount s := by omega
    simp only [h1, decide_true, if_true, h2, setPad]
  · have h1 : ¬ ((runeCount s : Int) > (m : Int)) := by omega
    have h2 : max m (runeCount s) = m := by omega
    simp only [h1, decide_false, Bool.false_eq_true, if_false, h2, setPad_self p m h]

section
variable {text : Bytes} {path : String}

/-- the inner loop of `Initialize` -/
theorem Initialize_loop2 (bs : List Syntax.Booking) : ∀ (p : printer.Printer) (m : Nat), p.padding = (m : Int) →
    printer.Printer.Initialize.range2 (bs.map (goBooking text path)) p =
      (ofOpt (initBookings text bs m)).bind fun m' => .ok (setPad p m') := by
  induction bs with
  | nil =>
    intro p m h
    simp only [List.map_nil, printer.Printer.Initialize.range2, initBookings, ofOpt_some, obind_ok', setPad_self p m h]
  | cons b rest ih =>
    intro p m h
    rw [List.map_cons, printer.Printer.Initialize.range2]
    simp only [goBooking, goAccount, Extract_goRange, initBookings]
    refine ofOpt_bind_eq fun cr => ?_
    rw [pad_step p m h cr]
    refine ofOpt_bind_eq fun db => ?_
    rw [pad_step (setPad p (max m (runeCount cr))) (max m (runeCount cr)) rfl db]
    exact ih _ (max (max m (runeCount cr)) (runeCount db)) rfl

/-- the outer loop of `Initialize` -/
theorem Initialize_loop1 (ds : List Syntax.Directive) : ∀ (p : printer.Printer) (m : Nat), p.padding = (m : Int) →
    printer.Printer.Initialize.range1 (ds.map (goDirective text path)) p =
      (ofOpt (initDirs text ds m)).bind fun m' => .ok (setPad p m') := by
  induction ds with
  | nil =>
    intro p m h
    simp only [List.map_nil, printer.Printer.Initialize.range1, initDirs, ofOpt_some, obind_ok', setPad_self p m h]
  | cons d rest ih =>
    intro p m h
    obtain ⟨r, body⟩ := d
    rw [List.map_cons, printer.Printer.Initialize.range1]
    cases body
    case transaction t =>
      simp only [goDirective, goBody, goTransaction, Bool.not_true, Bool.false_eq_true, if_false, initDirs]
      exact ofOpt_step (Initialize_loop2 t.bookings p m h) fun m1 => ih (setPad p m1) m1 rfl
    -- a directive of any other kind is skipped
    all_goals simp only [goDirective, goBody, Bool.not_false, if_true, initDirs, ih p m h]

theorem Initialize_agrees (p : printer.Printer) (m : Nat) (h : p.padding = (m : Int)) (ds : List Syntax.Directive) :
    printer.Printer.Initialize p (ds.map (goDirective text path)) = (ofOpt (initDirs text ds m)).bind fun m' => .ok (setPad p m') := by
  unfold printer.Printer.Initialize
  rw [Initialize_loop1 ds p m h]
  cases initDirs text ds m <;> rfl

end

/-! ### `Initialize` against the model's `initPadding` -/

theorem foldl_pad_init (bs : List BookingV) (m : Nat) :
    bs.foldl (fun m b => max (max m (runeCount b.credit)) (runeCount b.debit)) m =
      max m (bs.foldl (fun m b => max (max m (runeCount b.credit)) (runeCount b.debit)) 0) := by
  simp only [Nat.max_assoc]
  rw [← foldl_op_init max Nat.max_assoc, Nat.max_zero]

section
variable {text : Bytes}

theorem initBookings_of_views (bs : List Syntax.Booking) : ∀ (vs : List BookingV) (m : Nat), bs.mapM (viewBooking text) = some vs →
    initBookings text bs m = some (vs.foldl (fun m b => max (max m (runeCount b.credit)) (runeCount b.debit)) m) := by
  intro vs m h
  replace h := mapM_eq_some_iff.mp h
  induction h generalizing m with
  | nil => rfl
  | cons hv _ ih =>
    obtain ⟨hc, hd, _⟩ := viewBooking_eq_some_iff.mp hv
    simp only [initBookings, hc, hd, Option.bind_some, List.foldl_cons]
    exact ih _

theorem viewTransaction_bookings {t : Syntax.Transaction} {v : DirV} (h : viewTransaction text t = some v) :
    ∃ bks, t.bookings.mapM (viewBooking text) = some bks ∧
      paddingV v = bks.foldl (fun m b => max (max m (runeCount b.credit)) (runeCount b.debit)) 0 := by
  obtain ⟨_, _, _, _, bks, rfl, _, _, _, _, hb⟩ := viewTransaction_inv h
  exact ⟨bks, hb, rfl⟩

theorem paddingV_other {d : Syntax.Directive} {v : DirV} (h : viewDirective text d = some v)
    (hd : ∀ t, d.body ≠ .transaction t) : paddingV v = 0 := by
  have hv := viewDirective_eq_some_iff.mp h
  generalize d.body = body at hv hd
  cases hv with
  | transaction ht => exact absurd rfl (hd _)
  | _ => rfl

/-- when the model extracts every directive, `Initialize` computes the model's padding -/
theorem initDirs_of_views (ds : List Syntax.Directive) : ∀ (vs : List DirV) (m : Nat), ds.mapM (viewDirective text) = some vs →
    initDirs text ds m = some (vs.foldl (fun m v => max m (paddingV v)) m) := by
  intro vs m h
  replace h := mapM_eq_some_iff.mp h
  induction h generalizing m with
  | nil => rfl
  | @cons d v rest ws hv hr ih =>
    simp only [List.foldl_cons]
    cases hb : d.body
    case transaction t =>
      have hv' : viewTransaction text t = some v := by
        rw [← viewDirective_transaction hb]; exact hv
      obtain ⟨bks, hm, hp⟩ := viewTransaction_bookings hv'
      simp only [initDirs, hb, initBookings_of_views t.bookings bks m hm, Option.bind_some]
      rw [ih, hp, ← foldl_pad_init bks m]
    -- a directive of any other kind is skipped and contributes no padding
    all_goals
      have h0 := paddingV_other hv (by intro t; rw [hb]; exact fun e => nomatch e)
      simp only [initDirs, hb, h0, Nat.max_zero, ih m]

end

/-- the loop of `Printer.Format`: the bytes written (gap, directive, gap, …) and the position reached; the model's `formatLoop`
without the final gap -/
def formatDirs (text : Bytes) (padding : Nat) : Nat → List Syntax.Directive → Option (Bytes × Nat)
  | pos, [] => some ([], pos)
  | pos, d :: ds =>
    (sliceChecked text pos d.range.start).bind fun gap =>
      (printDirective text padding d).bind fun r =>
        (formatDirs text padding d.range.stop ds).map fun x => (gap ++ r ++ x.1, x.2)

theorem formatLoop_eq (text : Bytes) (padding : Nat) (ds : List Syntax.Directive) : ∀ (pos : Nat),
    formatLoop text padding pos ds =
      (formatDirs text padding pos ds).bind fun x => (sliceChecked text x.2 text.length).map fun tail => x.1 ++ tail := by
  induction ds with
  | nil => intro pos; simp [formatLoop, formatDirs]
  | cons d rest ih =>
    intro pos
    simp only [formatLoop, formatDirs, Option.bind_eq_bind, Option.pure_def, ih, Option.map_eq_bind, Option.bind_assoc,
      Function.comp_def, Option.bind_some, List.append_assoc]

section
variable {text : Bytes} {path : String}

theorem Format_loop_agrees (pd : Nat) (ds : List Syntax.Directive) : ∀ (p : printer.Printer) (pos : Nat), p.padding = (pd : Int) →
    printer.Printer.Format.range1 text (ds.map (goDirective text path)) p (pos : Int) =
      (ofOpt (formatDirs text pd pos ds)).bind fun x => .ok (Flow.next (wr p x.1, (x.2 : Int))) := by
  induction ds with
  | nil => intro p pos _; simp [printer.Printer.Format.range1, formatDirs]
  | cons d rest ih =>
    intro p pos hp
    rw [List.map_cons, printer.Printer.Format.range1]
    have hs : (goDirective text path d).Range.Start = (d.range.start : Int) := rfl
    have he : (goDirective text path d).Range.End = (d.range.stop : Int) := rfl
    simp only [hs, he, slice_nat, formatDirs, Write_eq]
    refine ofOpt_bind_eq fun gap => ?_
    simp only [decide_true, Bool.not_true, Bool.false_eq_true, if_false]
    refine ofOpt_step (PrintDirective_agrees (wr p gap) pd (by simp only [wr_padding]; exact hp) d) fun r => ?_
    simp only [decide_true, Bool.not_true, Bool.false_eq_true, if_false]
    rw [ih (wr (wr p gap) r) d.range.stop (by simp only [wr_padding]; exact hp), ofOpt_map_bind]
    simp only [wr_wr, List.append_assoc]

/-- if the model cannot extract some directive, its loop answers `none` for every padding (so does the Go loop: it panics at that
directive at the latest) -/
theorem formatLoop_none_of_views_none (pd : Nat) (ds : List Syntax.Directive) : ∀ (pos : Nat),
    ds.mapM (viewDirective text) = none → formatLoop text pd pos ds = none := by
  induction ds with
  | nil => intro pos h; simp at h
  | cons d rest ih =>
    intro pos h
    simp only [List.mapM_cons, Option.bind_eq_bind, Option.pure_def] at h
    simp only [formatLoop, Option.bind_eq_bind, Option.pure_def, printDirective]
    cases sliceChecked text pos d.range.start with
    | none => rfl
    | some gap =>
      cases hv : viewDirective text d with
      | none => rfl
      | some v =>
        have hr : rest.mapM (viewDirective text) = none := by
          cases hm : rest.mapM (viewDirective text) with
          | none => rfl
          | some ws => simp [hv, hm] at h
        simp only [Option.map_some, Option.bind_some, ih d.range.stop hr, Option.bind_none]

/-- **`Printer.Format` on the Go representation of any tree is the model's `format`**: the padding is computed
(`initPadding`), then gap, directive, gap, … are appended to the writer; the error is nil; a slice-bounds panic exactly where the
model answers `none` -/
theorem Format_tree_agrees (p : printer.Printer) (hp : p.padding = 0) (f : Syntax.File) :
    printer.Printer.Format p (goFile text path f) =
      (ofOpt (initPadding text f.directives)).bind fun pd =>
        (ofOpt (formatLoop text pd 0 f.directives)).bind fun out => .ok (setPad (wr p out) pd, .nil) := by
  unfold printer.Printer.Format
  have hd : (goFile text path f).Directives = f.directives.map (goDirective text path) := rfl
  have ht : (goFile text path f).Range.Text = text := rfl
  have hz : (GoZero.zero : Int) = ((0 : Nat) : Int) := rfl
  rw [hd, ht, hz, Initialize_agrees p 0 (by simpa using hp) f.directives]
  unfold initPadding
  cases hi : initDirs text f.directives 0 with
  | none =>
    -- `Initialize` panics: the model cannot extract either
    cases hm : f.directives.mapM (viewDirective text) with
    | none => rfl
    | some vs => rw [initDirs_of_views f.directives vs 0 hm] at hi; cases hi
  | some pd0 =>
    simp only [ofOpt_some, obind_ok']
    rw [Format_loop_agrees pd0 f.directives (setPad p pd0) 0 rfl]
    have key : ∀ pd, ((ofOpt (formatDirs text pd 0 f.directives)).bind fun x =>
        (Outcome.ok (Flow.next (wr (setPad p pd0) x.1, (x.2 : Int))) :
          Outcome (Flow (printer.Printer × Int) (printer.Printer × directives.GoError)))).bind (fun r8 =>
          match r8 with
          | Flow.ret v => Outcome.ok v
          | Flow.next st7 =>
            (slice text st7.2 (len text)).bind fun t9 =>
              Outcome.ok ((printer.Printer.Write st7.1 t9).1, (printer.Printer.Write st7.1 t9).2.2)) =
        (ofOpt (formatLoop text pd 0 f.directives)).bind fun out => .ok (setPad (wr p out) pd0, .nil) := by
      intro pd
      rw [formatLoop_eq]
      refine ofOpt_step rfl fun x => ?_
      simp only [len, slice_nat, Write_eq, ofOpt_map_bind, wr_wr, wr_setPad]
    cases hm : f.directives.mapM (viewDirective text) with
    | none =>
      -- `Initialize` passes (the failing field is not an account of a booking), the loop panics
      simp only [Option.map_none, ofOpt_none, obind_panic]
      have := key pd0
      rw [formatLoop_none_of_views_none pd0 f.directives 0 hm] at this
      exact this
    | some vs =>
      rw [initDirs_of_views f.directives vs 0 hm] at hi
      simp only [Option.some.injEq] at hi
      simp only [Option.map_some, ofOpt_some, obind_ok', hi]
      exact key pd0

end

/-! ### `syntax.FormatFile` and the whole of `formatRunner.formatFile` -/

/-- `syntax.FormatFile(w, f)`: the source text `p := printer.New(w); return p.Format(f)` is checked by the translator (a change of it
is reported as `trans-reject Printer FormatFile`).  The writer handed to `New` is the one `Format` writes through, so the state of `w`
afterwards is the `writer` field of the printer `Format` returns. -/
def goFormatFile (w : Syn.Writer) (f : directives.File) : Outcome (Syn.Writer × directives.GoError) :=
  (printer.Printer.Format (printer.New w) f).bind fun r => .ok (r.1.writer, r.2)

/-- `syntax.FormatFile` on the Go representation of any tree: the model's `format` appended to the writer, nil error; the
slice-bounds panic exactly where the model answers `none` -/
theorem FormatFile_tree_agrees (text : Bytes) (path : String) (w : Bytes) (f : Syntax.File) :
    goFormatFile w (goFile text path f) = (ofOpt (format text f)).bind fun out => .ok (w ++ out, .nil) := by
  unfold goFormatFile
  rw [Format_tree_agrees (printer.New w) rfl f]
  unfold format
  simp only [Option.bind_eq_bind]
  cases initPadding text f.directives with
  | none => rfl
  | some pd =>
    simp only [ofOpt_some, obind_ok', Option.bind_some]
    cases formatLoop text pd 0 f.directives <;> rfl

/-- `FormatFile_tree_agrees` at the tree `f` of a text that parses: `goFile text path f` is what the translated parser returns for
that text (`ParseFile_agrees`).  The equation holds of every tree, the hypothesis is not used; what parsing adds is that
`C08_format_total` excludes the panic (`FormatFile_parsed`). -/
theorem Format_agrees (text : Bytes) (path : String) (f : Syntax.File) (_hp : parseText path text = .ok f) (w : Bytes) :
    goFormatFile w (goFile text path f) = (ofOpt (format text f)).bind fun out => .ok (w ++ out, .nil) :=
  FormatFile_tree_agrees text path w f

/-- `formatRunner.formatFile` up to the replacement of the file: `syntax.ParseFile` (`goSyntaxParse`, no callback), then
`syntax.FormatFile` into an empty `bytes.Buffer` (hand-written composition of the two) -/
def goFormatRun (fuel : Nat) (text : Bytes) (path : String) : Outcome (Syn.Writer × directives.GoError) :=
  (goSyntaxParse fuel text path ⟨false⟩).bind fun r =>
    if r.2 ≠ .nil then .ok ([], r.2) else goFormatFile [] r.1

/-- parse + format in the translation against the model's `formatFile`: the formatted text in the buffer with a nil error, or the
parser's error chain and nothing written, or the slice-bounds panic; never `outOfFuel` (for a fuel above the token count) -/
theorem formatFile_agrees (text : Bytes) (path : String) (fuel : Nat) (hf : (decodeAll text).length < fuel) :
    match formatFile path text with
    | .written out => goFormatRun fuel text path = .ok (out, .nil)
    | .rejected e => e ≠ [] ∧ goFormatRun fuel text path = .ok ([], goErr text path e)
    | .panic => goFormatRun fuel text path = .panic slicePanic := by
  have hP := goSyntaxParse_agrees text path ⟨false⟩ fuel hf
  unfold formatFile goFormatRun
  cases hp : parseText path text with
  | error e =>
    rw [hp] at hP
    obtain ⟨hne, pv, hr⟩ := hP
    simp only [hr, obind_ok', ne_eq, goErr_ne_nil text path hne, not_false_eq_true, if_true]
    exact ⟨hne, trivial⟩
  | ok f =>
    rw [hp] at hP
    simp only [hP, obind_ok', ne_eq, not_true_eq_false, if_false, FormatFile_tree_agrees]
    cases format text f with
    | none => rfl
    | some out => simp only [ofOpt_some, obind_ok', List.nil_append]

/-- non-vacuity: the worked example of C07 (a comment line and an `open` directive) is formatted by the translation: the text itself -/
theorem ex_formatRun : goFormatRun 24 (bytesOf exText) "j.knut" = .ok (bytesOf exText, .nil) := by
  have := formatFile_agrees (bytesOf exText) "j.knut" 24 (by rw [ex_decode]; decide)
  have hm : format (bytesOf exText) ⟨⟨0, 23⟩, [⟨⟨3, 22⟩, .open ⟨⟨3, 22⟩, ⟨⟨3, 13⟩⟩, ⟨⟨19, 22⟩, false⟩⟩⟩]⟩ = some (bytesOf exText) := by
    rw [exText, bytesOf_ofList]; decide
  have hf : formatFile "j.knut" (bytesOf exText) = .written (bytesOf exText) := by
    simp only [formatFile, ex_parse, hm]
  rw [hf] at this
  exact this

example : goFormatRun 24 (bytesOf exText) "j.knut" = .ok (bytesOf exText, .nil) := ex_formatRun

/-- non-vacuity of the booking path (padding computed by `Initialize`, `padRight`, `%10s`): a transaction with one booking, on a
hand-written tree -/
example : goFormatFile [] (goFile (bytesOf "2020-01-01 \"x\"\nA:B C:D 1 CHF\n") "j"
      ⟨⟨0, 29⟩, [⟨⟨0, 29⟩, .transaction ⟨⟨0, 29⟩, ⟨⟨0, 10⟩⟩, ⟨⟨11, 14⟩, ⟨12, 13⟩⟩,
        [⟨⟨15, 28⟩, ⟨⟨15, 18⟩, false⟩, ⟨⟨19, 22⟩, false⟩, ⟨⟨23, 24⟩⟩, ⟨⟨25, 28⟩⟩⟩], Addons.zero⟩⟩]⟩) =
    .ok (bytesOf "2020-01-01 \"x\"\nA:B C:D          1 CHF\n", .nil) := by
  rw [FormatFile_tree_agrees, bytesOf_ofList, bytesOf_ofList]
  decide +kernel

/-- non-vacuity of the panic side: a range beyond the end of the text -/
example : goFormatFile [] (goFile (bytesOf "x") "j" ⟨⟨0, 1⟩, [⟨⟨0, 1⟩, .include ⟨⟨0, 1⟩, ⟨⟨0, 1⟩, ⟨0, 5⟩⟩⟩⟩]⟩) = .panic slicePanic := by
  rw [FormatFile_tree_agrees, bytesOf_ofList]
  decide +kernel

end Knut.FactsAgree.TransPrinter
