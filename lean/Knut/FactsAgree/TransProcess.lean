import Knut.Generated.TransJournal
import Knut.Generated.Facts
import Knut.FactsAgree.TransCheck
import Knut.FactsAgree.TransPrice
import Knut.FactsAgree.Agree
import Knut.Proofs.GoSemMap
import Knut.Model.Balance
/-!
# The translated processors of `lib/journal/process.go` agree with the model of the balance pipeline

`Knut/Generated/TransJournal.lean` is regenerated from /repo on every run (harness/trans_closure.go): every constructor
`F(…) *Processor` whose body is `state declarations; return &Processor{Field: func…}` becomes `F.State` (the captured variables),
`F.init` and one function per closure `F.<Field> : params → F.State → args → (F.State × args assigned through × results)`.

Here each closure is proved equal to the step function of the hand-written model (`Model/Balance.lean`), and — since the model is
formulated per day — the closures folded over a day in the order of `Processor.Process` (`processDay`, a hand-written
transcription of that function, tied by the shape fact `Generated.processorCallbackOrder`) are proved equal to the model's day function.
Agreement is proved as `Agree Q E` (`FactsAgree/Agree.lean`) with the loop rules `forEachIn_foldlM`, `forEachIn_mapM`; the theorems in
`match` form are read off it.

Maps: a Go map keyed by `amounts.Key` against the model's association list keyed by `Position` is agreement of every lookup
(`QEquiv`); Go's nil price map is the model's `none` (`NPEquivO`).  MAP ITERATION ORDER: `Valuate.DayStart` and
`CloseAccounts.DayStart` range over a map; the translated functions take the order as a list `o`, and the theorems hold for EVERY
`o` that reaches all keys: the Go result is the model's result on the same map listed in that order (`qtyIn`); `qtyIn_self` shows
that the model's own order is one of them.  `Src` pointers are arbitrary (`PRel`, `TRel`).  The
transactions the processors create go through `transaction.Builder.Build`, which replaces `"` by `'` in the description; the
model's `adjustStep`/`closings` do not (`builtGo`; visible only for account or commodity names containing `"`, never in a report).
-/
namespace Knut.FactsAgree.TransProcess
open Knut Knut.GoSem
open Knut.Generated.Go
open Knut.FactsAgree.TransAccount Knut.FactsAgree.TransPosting Knut.FactsAgree.TransTransaction
open Knut.FactsAgree.TransPrice (cGo NPEquiv)
open Knut.FactsAgree.TransCheck (keyGo keyGo_inj accountGo_inj)

/-- Go's nil map (`var prices price.NormalizedPrices`) is the model's `none`: no commodity has a price -/
def NPEquivO (cur : String → Bool) (g : price.NormalizedPrices) (m : Option Prices.NPrices) : Prop :=
  ∀ c : Knut.Commodity, Knut.AMap.find? g (cGo cur c) = m.bind (Prices.find c)

theorem NPEquivO_nil (cur : String → Bool) : NPEquivO cur (GoZero.zero : price.NormalizedPrices) none := by
  intro c; rfl

theorem NPEquivO_some {cur : String → Bool} {g : price.NormalizedPrices} {m : Prices.NPrices} (h : NPEquiv cur g m) :
    NPEquivO cur g (some m) := by
  intro c; simpa using h c

/-- the two error values the translated processors report (an `Error` keeps the constant format string only) -/
def noPriceError : Error := ⟨"no price found for %v in %v"⟩
def invalidPriceError : Error := ⟨"invalid price %s for commodity %s in %s"⟩

/-- `NormalizedPrices.Price` against `Balance.lookupPrice` -/
theorem Price_lookup (cur : String → Bool) {g : price.NormalizedPrices} {m : Option Prices.NPrices} (h : NPEquivO cur g m)
    (c : Knut.Commodity) :
    price.NormalizedPrices.Price g (cGo cur c) =
      match Balance.lookupPrice m c with
      | .ok p => (p, none)
      | .error _ => (0, some ⟨"no price found for %v in %v"⟩) := by
  have hc := h c
  unfold price.NormalizedPrices.Price Balance.lookupPrice
  simp only [Knut.AMap.get, hc]
  cases m with
  | none => simp
  | some m => cases hf : Prices.find c m <;> simp [hf]

theorem Valuate_lookup (cur : String → Bool) {g : price.NormalizedPrices} {m : Option Prices.NPrices} (h : NPEquivO cur g m)
    (c : Knut.Commodity) (a : Rat) :
    price.NormalizedPrices.Valuate g (cGo cur c) a =
      match Balance.lookupPrice m c with
      | .ok p => (Prices.multiply a p, none)
      | .error _ => (0, some ⟨"no price found for %v in %v"⟩) := by
  have hc := h c
  unfold price.NormalizedPrices.Valuate Balance.lookupPrice
  simp only [Knut.AMap.get, hc]
  cases m with
  | none => simp
  | some m => cases hf : Prices.find c m <;> simp [hf, TransPrice.Multiply_agrees]

structure QEquiv (cur : String → Bool) (g : amounts.Amounts) (q : Knut.AMap Position Rat) : Prop where
  lookup : ∀ p : Position, Knut.AMap.find? g (keyGo cur p) = Knut.AMap.find? q p
  keys : ∀ k : amounts.Key, (Knut.AMap.find? g k).isSome → ∃ p, k = keyGo cur p

theorem QEquiv_nil (cur : String → Bool) : QEquiv cur ([] : amounts.Amounts) [] :=
  ⟨fun _ => rfl, fun k h => by simp at h⟩

theorem QEquiv_add {cur : String → Bool} {g : amounts.Amounts} {q : Knut.AMap Position Rat} (h : QEquiv cur g q)
    (p : Position) (x : Rat) :
    QEquiv cur (amounts.Amounts.Add g (keyGo cur p) x) (q.set p (q.get p 0 + x)) :=
  ⟨TransCheck.Add_lookup cur h.lookup p x, TransCheck.Add_keys cur h.keys p x⟩

/-- the state of `Valuate`'s closures against the model's `vPrev`, the day's prices and `vQty` -/
structure VEquiv (cur : String → Bool) (g : journal.Valuate.State) (prev now : Option Prices.NPrices)
    (q : Knut.AMap Position Rat) : Prop where
  prev : NPEquivO cur g.prevPrices prev
  now : NPEquivO cur g.prices now
  qty : QEquiv cur g.quantities q

/-- `Valuate.Posting`, first half, in the model: the quantity of an asset/liability position -/
def addQty1 (q : Knut.AMap Position Rat) (p : Knut.Posting) : Knut.AMap Position Rat :=
  if p.quantity = 0 then q
  else if p.account.isAL then q.set (p.account, p.commodity) (q.get (p.account, p.commodity) 0 + p.quantity)
  else q

theorem addQty_eq (q : Knut.AMap Position Rat) (ts : List Knut.Transaction) :
    Balance.addQty q ts = ts.foldl (fun q t => t.postings.foldl addQty1 q) q := rfl

/-- **`Valuate.Posting`** = `Balance.valuePosting` (the posting with its value) and `addQty1` (the captured quantities); the error is the
missing price, then the posting is unchanged -/
theorem Valuate_Posting_agree (cur : String → Bool) (v : Knut.Commodity) {g : journal.Valuate.State}
    {prev now : Option Prices.NPrices} {q : Knut.AMap Position Rat} (h : VEquiv cur g prev now q)
    (tg : transaction.Transaction) (src : Ref) (p : Knut.Posting) :
    Agree (fun g' p' mp => VEquiv cur g' prev now (addQty1 q p) ∧ p' = postingGo cur src mp)
      (fun g' p' e _ => VEquiv cur g' prev now (addQty1 q p) ∧ p' = postingGo cur src p ∧ e = noPriceError)
      (.ok (journal.Valuate.Posting (cGo cur v) g tg (postingGo cur src p))) (Balance.valuePosting v now p) := by
  unfold journal.Valuate.Posting Balance.valuePosting addQty1
  simp only [postingGo, Decimal.IsZero, IsAL_agrees]
  by_cases hz : p.quantity = 0
  · simp only [hz, decide_true, if_true]
    exact .ok ⟨h, by rw [hz]⟩
  · simp only [hz, decide_false, Bool.false_eq_true, if_false]
    have hk : amounts.AccountCommodityKey (accountGo p.account) (commodityGo cur p.commodity) = keyGo cur (p.account, p.commodity) := rfl
    have hq : QEquiv cur (if p.account.isAL = true then amounts.Amounts.Add g.quantities (keyGo cur (p.account, p.commodity)) p.quantity
          else g.quantities)
        (if p.account.isAL = true then q.set (p.account, p.commodity) (q.get (p.account, p.commodity) 0 + p.quantity) else q) := by
      by_cases hal : p.account.isAL = true
      · simp only [hal, if_true]; exact QEquiv_add h.qty _ _
      · simp only [hal, Bool.false_eq_true, if_false]; exact h.qty
    by_cases hv : p.commodity = v
    · subst hv
      simp only [cGo_eq, decide_true, if_true, hk]
      exact .ok ⟨⟨h.prev, h.now, hq⟩, rfl⟩
    · have hv' : ¬ cGo cur v = commodityGo cur p.commodity := fun e => hv (TransPrice.cGo_inj cur e).symm
      simp only [hv', decide_false, Bool.false_eq_true, if_false, hv, hk]
      rw [← cGo_eq, Valuate_lookup cur h.now]
      cases hl : Balance.lookupPrice now p.commodity with
      | error e => exact .error ⟨⟨h.prev, h.now, hq⟩, rfl, rfl⟩
      | ok pr => exact .ok ⟨⟨h.prev, h.now, hq⟩, rfl⟩

theorem Valuate_Posting_agrees (cur : String → Bool) (v : Knut.Commodity) {g : journal.Valuate.State}
    {prev now : Option Prices.NPrices} {q : Knut.AMap Position Rat} (h : VEquiv cur g prev now q)
    (tg : transaction.Transaction) (src : Ref) (p : Knut.Posting) :
    match journal.Valuate.Posting (cGo cur v) g tg (postingGo cur src p), Balance.valuePosting v now p with
    | (g', p', none), .ok mp => VEquiv cur g' prev now (addQty1 q p) ∧ p' = postingGo cur src mp
    | (g', p', some e), .error _ => VEquiv cur g' prev now (addQty1 q p) ∧ p' = postingGo cur src p ∧
        e = ⟨"no price found for %v in %v"⟩
    | _, _ => False := by
  have key := Valuate_Posting_agree cur v h tg src p
  generalize journal.Valuate.Posting (cGo cur v) g tg (postingGo cur src p) = R at key ⊢
  generalize Balance.valuePosting v now p = M at key ⊢
  cases key with
  | ok hq => exact hq
  | error he => exact he

/-! ## `Valuate.DayStart`: the value adjustments, for every iteration order of the map `quantities` -/

def posOf (k : amounts.Key) : Position := (⟨k.Account.segments⟩, k.Commodity.name)

theorem posOf_keyGo (cur : String → Bool) (p : Position) : posOf (keyGo cur p) = p := rfl

/-- the Go map `g` listed in the iteration order `o` (keys of `o` that are not in the map are skipped, as Go skips them) -/
def qtyIn (g : amounts.Amounts) (o : List amounts.Key) : Knut.AMap Position Rat :=
  o.filterMap (fun k => (Knut.AMap.find? g k).map (fun x => (posOf k, x)))

/-- a transaction that a processor builds through `transaction.Builder.Build`: no source pointers, and the description's double
quotes become single quotes (`JournalPrinter.descText`; the model's `adjustStep`/`closings` keep the description as it is - the two
differ only for account or commodity names that contain `"`) -/
def builtGo (cur : String → Bool) (t : Knut.Transaction) : transaction.Transaction :=
  txGo cur ⟨0⟩ ⟨0⟩ { t with description := JournalPrinter.descText t.description }

theorem adjustStep_acc (v : Knut.Commodity) (date : Int) (prev now : Option Prices.NPrices) (acc : List Knut.Transaction)
    (e : Position × Rat) :
    Balance.adjustStep v date prev now acc e = (Balance.adjustStep v date prev now [] e).map (acc ++ ·) := by
  unfold Balance.adjustStep
  split
  · simp [Except.map]
  · cases Balance.lookupPrice prev e.1.2 with
    | error x => rfl
    | ok pp =>
      cases Balance.lookupPrice now e.1.2 with
      | error x => rfl
      | ok cp =>
        simp only [bind, Except.bind]
        split <;> simp [Except.map]

theorem adjust_foldlM_acc (v : Knut.Commodity) (date : Int) (prev now : Option Prices.NPrices) (l : List (Position × Rat)) :
    ∀ acc : List Knut.Transaction,
    l.foldlM (Balance.adjustStep v date prev now) acc = (l.foldlM (Balance.adjustStep v date prev now) []).map (acc ++ ·) := by
  induction l with
  | nil => intro acc; simp [Except.map, pure, Except.pure]
  | cons e rest ih =>
    intro acc
    simp only [List.foldlM_cons]
    rw [adjustStep_acc]
    cases h : Balance.adjustStep v date prev now [] e with
    | error x => rfl
    | ok a =>
      simp only [Except.map, bind, Except.bind]
      rw [ih (acc ++ a), ih a]
      cases List.foldlM (Balance.adjustStep v date prev now) [] rest with
      | error x => rfl
      | ok r => simp [Except.map]

theorem adjustments_cons (v : Knut.Commodity) (date : Int) (prev now : Option Prices.NPrices) (e : Position × Rat)
    (rest : Knut.AMap Position Rat) :
    Balance.adjustments v date prev now (e :: rest) =
      match Balance.adjustStep v date prev now [] e with
      | .error x => .error x
      | .ok a => (Balance.adjustments v date prev now rest).map (a ++ ·) := by
  unfold Balance.adjustments
  simp only [List.foldlM_cons]
  cases h : Balance.adjustStep v date prev now [] e with
  | error x => rfl
  | ok a =>
    simp only [bind, Except.bind]
    exact adjust_foldlM_acc v date prev now rest a

/-- the model's adjustment transaction (`Balance.adjustStep`) -/
def adjTx (date : Int) (p : Position) (gain : Rat) : Knut.Transaction :=
  { date := date, description := "Adjust value of " ++ p.2 ++ " in account " ++ p.1.name,
    postings := postingBuild (valuationAccountFor p.1) p.1 p.2 0 gain, targets := some [p.2] }

/-- the adjustment transaction of one position, as `Valuate.DayStart` builds it -/
theorem adjust_tx_agrees (cur : String → Bool) (date : Int) (p : Position) (gain : Rat) :
    transaction.Builder.Build
      ⟨(GoZero.zero : Ref), date, "Adjust value of " ++ (commodity.Commodity.Name (commodityGo cur p.2)) ++ " in account " ++
          (account.Account.Name (accountGo p.1)),
        posting.Builder.Build ⟨(GoZero.zero : Ref), (GoZero.zero : Rat), gain, accountGo (valuationAccountFor p.1), accountGo p.1,
          commodityGo cur p.2⟩, [commodityGo cur p.2]⟩ =
      builtGo cur (adjTx date p gain) := by
  rw [TransTransaction.Builder_Build_agrees]
  have := TransPosting.Builder_Build_agrees cur ⟨0⟩ (valuationAccountFor p.1) p.1 p.2 0 gain
  simp only [GoZero.zero] at this ⊢
  rw [this]
  rfl

theorem qtyIn_cons_none {gq : amounts.Amounts} {k : amounts.Key} (hf : Knut.AMap.find? gq k = none) (rest : List amounts.Key) :
    qtyIn gq (k :: rest) = qtyIn gq rest := by simp [qtyIn, hf]

theorem qtyIn_cons_some (cur : String → Bool) {gq : amounts.Amounts} {p : Position} {x : Rat}
    (hf : Knut.AMap.find? gq (keyGo cur p) = some x) (rest : List amounts.Key) :
    qtyIn gq (keyGo cur p :: rest) = (p, x) :: qtyIn gq rest := by simp [qtyIn, hf, posOf_keyGo]

/-- the listed map is what the range visits (`AMap.visited`), the keys read back as positions -/
theorem qtyIn_eq (g : amounts.Amounts) (o : List amounts.Key) : qtyIn g o = (Knut.AMap.visited g o).map fun e => (posOf e.1, e.2) := by
  unfold qtyIn Knut.AMap.visited
  rw [List.map_filterMap]
  refine congrArg (fun f => List.filterMap f o) (funext fun k => ?_)
  cases Knut.AMap.find? g k <;> rfl

theorem posOf_visited (cur : String → Bool) {gq : amounts.Amounts} (hkeys : ∀ k : amounts.Key, (Knut.AMap.find? gq k).isSome → ∃ p, k = keyGo cur p)
    (o : List amounts.Key) (p : Position) : ∀ e ∈ Knut.AMap.visited gq o, posOf e.1 = p ↔ e.1 = keyGo cur p := by
  intro e he
  obtain ⟨p', hp'⟩ := hkeys e.1 (by rw [(Knut.AMap.mem_visited.1 he).2]; rfl)
  rw [hp', posOf_keyGo]
  exact ⟨fun h => by rw [h], fun h => keyGo_inj cur h⟩

theorem mem_qtyIn (cur : String → Bool) {gq : amounts.Amounts} (hkeys : ∀ k : amounts.Key, (Knut.AMap.find? gq k).isSome → ∃ p, k = keyGo cur p)
    {o : List amounts.Key} {pos : Position} {x : Rat} (h : (pos, x) ∈ qtyIn gq o) :
    keyGo cur pos ∈ o ∧ Knut.AMap.find? gq (keyGo cur pos) = some x := by
  rw [qtyIn_eq] at h
  obtain ⟨e, he, hx⟩ := List.mem_map.mp h
  simp only [Prod.mk.injEq] at hx
  rw [← (posOf_visited cur hkeys o pos e he).1 hx.1, ← hx.2]
  exact Knut.AMap.mem_visited.1 he

section
variable (cur : String → Bool) (v : Knut.Commodity) (ext1 : account.Account → account.Account)
  (hext : ∀ a : Knut.Account, ext1 (accountGo a) = accountGo (valuationAccountFor a))
  {prevG nowG : price.NormalizedPrices} {prev now : Option Prices.NPrices} (hp : NPEquivO cur prevG prev) (hn : NPEquivO cur nowG now)
  (gq : amounts.Amounts)
include hext hp hn

theorem DayStart_round {p : Position} {x : Rat} (hf : Knut.AMap.find? gq (keyGo cur p) = some x) (rest : List amounts.Key)
    (dg : journal.Day) :
    (∃ e, Balance.adjustStep v dg.Date prev now [] (p, x) = .error e ∧
      journal.Valuate.DayStart.range1 ext1 (cGo cur v) prevG nowG gq (keyGo cur p :: rest) dg =
        Flow.ret (⟨prevG, nowG, gq⟩, dg, some noPriceError)) ∨
    (∃ a, Balance.adjustStep v dg.Date prev now [] (p, x) = .ok a ∧
      journal.Valuate.DayStart.range1 ext1 (cGo cur v) prevG nowG gq (keyGo cur p :: rest) dg =
        journal.Valuate.DayStart.range1 ext1 (cGo cur v) prevG nowG gq rest
          { dg with Transactions := dg.Transactions ++ a.map (builtGo cur) }) := by
  rw [journal.Valuate.DayStart.range1]
  have hkc : (keyGo cur p).Commodity = cGo cur p.2 := rfl
  have hka : (keyGo cur p).Account = accountGo p.1 := rfl
  simp only [hf, Option.isSome_some, Bool.not_true, Bool.false_eq_true, if_false, Knut.AMap.get, Option.getD_some, hkc, hka,
    IsAL_agrees, Decimal.IsZero]
  unfold Balance.adjustStep
  by_cases h1 : p.2 = v
  · subst h1
    simp only [decide_true, if_true, Bool.true_or]
    exact .inr ⟨[], rfl, by simp⟩
  · have h1' : ¬ cGo cur p.2 = cGo cur v := fun e => h1 (TransPrice.cGo_inj cur e)
    simp only [h1', decide_false, Bool.false_eq_true, if_false, h1, Bool.false_or]
    by_cases h2 : p.1.isAL = true
    · simp only [h2, Bool.not_true, Bool.false_eq_true, if_false, Bool.false_or]
      by_cases h3 : x = 0
      · simp only [h3, decide_true, if_true]
        exact .inr ⟨[], rfl, by simp⟩
      · simp only [h3, decide_false, Bool.false_eq_true, if_false]
        rw [Price_lookup cur hp, Price_lookup cur hn]
        cases hpp : Balance.lookupPrice prev p.2 with
        | error e => exact .inl ⟨e, rfl, rfl⟩
        | ok pp =>
          cases hcp : Balance.lookupPrice now p.2 with
          | error e => exact .inl ⟨e, rfl, rfl⟩
          | ok cp =>
            simp only [Option.isSome_none, Bool.false_eq_true, if_false, bind, Except.bind, Decimal.Sub]
            by_cases h4 : cp - pp = 0
            · simp only [h4, decide_true, if_true]
              exact .inr ⟨[], rfl, by simp⟩
            · simp only [h4, decide_false, Bool.false_eq_true, if_false, hext, TransPrice.Multiply_agrees]
              have htx := adjust_tx_agrees cur dg.Date p (Prices.multiply (cp - pp) x)
              simp only [cGo_eq] at htx ⊢
              rw [htx]
              exact .inr ⟨_, rfl, by simp [adjTx]⟩
    · simp only [h2, Bool.not_false, if_true, Bool.true_or]
      exact .inr ⟨[], rfl, by simp⟩

theorem DayStart_range_cases (hkeys : ∀ k : amounts.Key, (Knut.AMap.find? gq k).isSome → ∃ p, k = keyGo cur p) :
    ∀ (o : List amounts.Key) (dg : journal.Day),
      (∃ adj, Balance.adjustments v dg.Date prev now (qtyIn gq o) = .ok adj ∧
        journal.Valuate.DayStart.range1 ext1 (cGo cur v) prevG nowG gq o dg =
          Flow.next { dg with Transactions := dg.Transactions ++ adj.map (builtGo cur) }) ∨
      (∃ e d', Balance.adjustments v dg.Date prev now (qtyIn gq o) = .error e ∧
        journal.Valuate.DayStart.range1 ext1 (cGo cur v) prevG nowG gq o dg = Flow.ret (⟨prevG, nowG, gq⟩, d', some noPriceError))
  | [], dg => .inl ⟨[], rfl, by simp [journal.Valuate.DayStart.range1]⟩
  | k :: rest, dg => by
    cases hf : Knut.AMap.find? gq k with
    | none =>
      rw [qtyIn_cons_none hf, journal.Valuate.DayStart.range1, hf]
      exact DayStart_range_cases hkeys rest dg
    | some x =>
      obtain ⟨p, rfl⟩ := hkeys k (by simp [hf])
      rw [qtyIn_cons_some cur hf, adjustments_cons]
      rcases DayStart_round cur v ext1 hext hp hn gq hf rest dg with ⟨e, hm, hr⟩ | ⟨a, hm, hr⟩
      · rw [hm, hr]
        exact .inr ⟨e, dg, rfl, rfl⟩
      · rw [hm, hr]
        -- the adjustments of the rest come after those of this round
        rcases DayStart_range_cases hkeys rest { dg with Transactions := dg.Transactions ++ a.map (builtGo cur) } with
          ⟨adj, hm', hr'⟩ | ⟨e, d', hm', hr'⟩
        · exact .inl ⟨a ++ adj, by rw [show dg.Date = _ from rfl, hm']; rfl, by rw [hr', List.map_append, List.append_assoc]⟩
        · exact .inr ⟨e, d', by rw [show dg.Date = _ from rfl, hm']; rfl, hr'⟩

end

/-- **the loop of `Valuate.DayStart`** over an arbitrary list of keys = the model's `adjustments` on the map listed in that order -/
theorem DayStart_range_agrees (cur : String → Bool) (v : Knut.Commodity) (ext1 : account.Account → account.Account)
    (hext : ∀ a : Knut.Account, ext1 (accountGo a) = accountGo (valuationAccountFor a))
    {prevG nowG : price.NormalizedPrices} {prev now : Option Prices.NPrices} (hp : NPEquivO cur prevG prev) (hn : NPEquivO cur nowG now)
    (gq : amounts.Amounts) (hkeys : ∀ k : amounts.Key, (Knut.AMap.find? gq k).isSome → ∃ p, k = keyGo cur p) :
    ∀ (o : List amounts.Key) (dg : journal.Day),
      match journal.Valuate.DayStart.range1 ext1 (cGo cur v) prevG nowG gq o dg,
          Balance.adjustments v dg.Date prev now (qtyIn gq o) with
      | Flow.next dg', .ok adj => dg' = { dg with Transactions := dg.Transactions ++ adj.map (builtGo cur) }
      | Flow.ret (g', _, some e), .error _ => g' = ⟨prevG, nowG, gq⟩ ∧ e = ⟨"no price found for %v in %v"⟩
      | _, _ => False := by
  intro o dg
  rcases DayStart_range_cases cur v ext1 hext hp hn gq hkeys o dg with ⟨adj, hm, hr⟩ | ⟨e, d', hm, hr⟩
  · rw [hm, hr]
  · rw [hm, hr]; exact ⟨rfl, rfl⟩

/-- **`Valuate.DayStart`**, for every iteration order `o` of the map `quantities`: today's prices are read from the day, and the
transactions appended to the day are the model's `adjustments` on the map listed in that order (built by `transaction.Builder.Build`);
a missing price is the error, then the state only has today's prices -/
theorem Valuate_DayStart_agree (cur : String → Bool) (v : Knut.Commodity) (ext1 : account.Account → account.Account)
    (hext : ∀ a : Knut.Account, ext1 (accountGo a) = accountGo (valuationAccountFor a))
    {g : journal.Valuate.State} {prev old now : Option Prices.NPrices} {q : Knut.AMap Position Rat} (h : VEquiv cur g prev old q)
    (dg : journal.Day) (hn : NPEquivO cur dg.Normalized now) (o : List amounts.Key) :
    Agree (fun g' dg' adj => g' = { g with prices := dg.Normalized } ∧
        dg' = { dg with Transactions := dg.Transactions ++ adj.map (builtGo cur) })
      (fun g' _ e _ => g' = { g with prices := dg.Normalized } ∧ e = noPriceError)
      (.ok (journal.Valuate.DayStart (cGo cur v) g dg ext1 o)) (Balance.adjustments v dg.Date prev now (qtyIn g.quantities o)) := by
  unfold journal.Valuate.DayStart
  rcases DayStart_range_cases cur v ext1 hext h.prev hn g.quantities h.qty.keys o dg with ⟨adj, hm, hr⟩ | ⟨e, d', hm, hr⟩
  · simp only [hm, hr]
    exact .ok ⟨rfl, rfl⟩
  · simp only [hm, hr]
    exact .error ⟨rfl, rfl⟩

theorem Valuate_DayStart_agrees (cur : String → Bool) (v : Knut.Commodity) (ext1 : account.Account → account.Account)
    (hext : ∀ a : Knut.Account, ext1 (accountGo a) = accountGo (valuationAccountFor a))
    {g : journal.Valuate.State} {prev old now : Option Prices.NPrices} {q : Knut.AMap Position Rat} (h : VEquiv cur g prev old q)
    (dg : journal.Day) (hn : NPEquivO cur dg.Normalized now) (o : List amounts.Key) :
    match journal.Valuate.DayStart (cGo cur v) g dg ext1 o, Balance.adjustments v dg.Date prev now (qtyIn g.quantities o) with
    | (g', dg', none), .ok adj => g' = { g with prices := dg.Normalized } ∧
        dg' = { dg with Transactions := dg.Transactions ++ adj.map (builtGo cur) }
    | (g', _, some e), .error _ => g' = { g with prices := dg.Normalized } ∧ e = ⟨"no price found for %v in %v"⟩
    | _, _ => False := by
  have key := Valuate_DayStart_agree cur v ext1 hext h dg hn o
  generalize journal.Valuate.DayStart (cGo cur v) g dg ext1 o = R at key ⊢
  generalize Balance.adjustments v dg.Date prev now (qtyIn g.quantities o) = M at key ⊢
  cases key with
  | ok hq => exact hq
  | error he => exact he

/-- **`Valuate.DayEnd`**: today's prices become the previous prices -/
theorem Valuate_DayEnd_agrees (g : journal.Valuate.State) (dg : journal.Day) :
    journal.Valuate.DayEnd g dg = ({ g with prevPrices := dg.Normalized }, none) := rfl


/-! ## The per-day callback order of `Processor.Process` (a hand-written transcription) -/

/-- the callbacks of a `journal.Processor` whose closures share the state `σ`; `none` = the field is nil.  A callback gets the state
and its arguments and answers the new state, the updated value of its LAST pointer argument (what it may have assigned through the
pointer) and the error. -/
structure Proc (σ : Type) where
  DayStart : Option (σ → journal.Day → GoSem.Outcome (σ × journal.Day × Option Error)) := none
  Price : Option (σ → price.Price → GoSem.Outcome (σ × price.Price × Option Error)) := none
  Open : Option (σ → open_.Open → GoSem.Outcome (σ × open_.Open × Option Error)) := none
  Transaction : Option (σ → transaction.Transaction → GoSem.Outcome (σ × transaction.Transaction × Option Error)) := none
  Posting : Option (σ → transaction.Transaction → posting.Posting → GoSem.Outcome (σ × posting.Posting × Option Error)) := none
  Assertion : Option (σ → assertion.Assertion → GoSem.Outcome (σ × assertion.Assertion × Option Error)) := none
  Balance : Option (σ → assertion.Assertion → assertion.Balance → GoSem.Outcome (σ × assertion.Balance × Option Error)) := none
  Close : Option (σ → close.Close → GoSem.Outcome (σ × close.Close × Option Error)) := none
  DayEnd : Option (σ → journal.Day → GoSem.Outcome (σ × journal.Day × Option Error)) := none

variable {σ : Type}

/-- `for _, x := range xs { if err := f(x); err != nil { return err } }` over a slice of pointers: every element is replaced by its
updated value; the loop stops at the first error (the elements after it stay as they were) -/
def forEachE {α : Type} (f : σ → α → GoSem.Outcome (σ × α × Option Error)) : σ → List α → List α → GoSem.Outcome (σ × List α × Option Error)
  | st, [], done => GoSem.Outcome.ok (st, done, none)
  | st, x :: rest, done =>
    (f st x).bind fun r =>
      if r.2.2.isSome then GoSem.Outcome.ok (r.1, done ++ r.2.1 :: rest, r.2.2) else forEachE f r.1 rest (done ++ [r.2.1])

/-- the same for a callback that also gets the enclosing object (`proc.Posting(t, p)`, `proc.Balance(a, &a.Balances[i])`): `ctx`
rebuilds the enclosing object from the elements as they are now -/
def forEachIn {α β : Type} (f : σ → β → α → GoSem.Outcome (σ × α × Option Error)) (ctx : List α → β) :
    σ → List α → List α → GoSem.Outcome (σ × List α × Option Error)
  | st, [], done => GoSem.Outcome.ok (st, done, none)
  | st, x :: rest, done =>
    (f st (ctx (done ++ x :: rest)) x).bind fun r =>
      if r.2.2.isSome then GoSem.Outcome.ok (r.1, done ++ r.2.1 :: rest, r.2.2) else forEachIn f ctx r.1 rest (done ++ [r.2.1])

/-- a step of `Process` on the day; the next step runs only if this one reported no error -/
abbrev DayStep (σ : Type) := σ → journal.Day → GoSem.Outcome (σ × journal.Day × Option Error)

def DayStep.andThen (f k : DayStep σ) : DayStep σ := fun st d =>
  (f st d).bind fun r => if r.2.2.isSome then GoSem.Outcome.ok r else k r.1 r.2.1

def DayStep.skip : DayStep σ := fun st d => GoSem.Outcome.ok (st, d, none)

def optStep (f : Option (DayStep σ)) : DayStep σ := fun st d =>
  match f with
  | none => GoSem.Outcome.ok (st, d, none)
  | some f => f st d

def postingsOf (fp : σ → transaction.Transaction → posting.Posting → GoSem.Outcome (σ × posting.Posting × Option Error)) (st : σ)
    (t : transaction.Transaction) : GoSem.Outcome (σ × transaction.Transaction × Option Error) :=
  (forEachIn fp (fun ps => { t with Postings := ps }) st t.Postings []).bind fun r => GoSem.Outcome.ok (r.1, { t with Postings := r.2.1 }, r.2.2)

def balancesOf (fb : σ → assertion.Assertion → assertion.Balance → GoSem.Outcome (σ × assertion.Balance × Option Error)) (st : σ)
    (a : assertion.Assertion) : GoSem.Outcome (σ × assertion.Assertion × Option Error) :=
  (forEachIn fb (fun bs => { a with Balances := bs }) st a.Balances []).bind fun r => GoSem.Outcome.ok (r.1, { a with Balances := r.2.1 }, r.2.2)

/-- `f(t)` then, unless it failed, `g` on the updated `t` -/
def thenOn {α : Type} (f g : σ → α → GoSem.Outcome (σ × α × Option Error)) : σ → α → GoSem.Outcome (σ × α × Option Error) := fun st x =>
  (f st x).bind fun r => if r.2.2.isSome then GoSem.Outcome.ok r else g r.1 r.2.1

def pricesStep (proc : Proc σ) : DayStep σ := fun st d =>
  match proc.Price with
  | none => GoSem.Outcome.ok (st, d, none)
  | some f => (forEachE f st d.Prices []).bind fun r => GoSem.Outcome.ok (r.1, { d with Prices := r.2.1 }, r.2.2)

def opensStep (proc : Proc σ) : DayStep σ := fun st d =>
  match proc.Open with
  | none => GoSem.Outcome.ok (st, d, none)
  | some f => (forEachE f st d.Openings []).bind fun r => GoSem.Outcome.ok (r.1, { d with Openings := r.2.1 }, r.2.2)

def onTransactions (f : σ → transaction.Transaction → GoSem.Outcome (σ × transaction.Transaction × Option Error)) : DayStep σ := fun st d =>
  (forEachE f st d.Transactions []).bind fun r => GoSem.Outcome.ok (r.1, { d with Transactions := r.2.1 }, r.2.2)

def txStep (proc : Proc σ) : DayStep σ :=
  match proc.Transaction, proc.Posting with
  | some ft, some fp => onTransactions (thenOn ft (postingsOf fp))
  | some ft, none => onTransactions ft
  | none, some fp => onTransactions (postingsOf fp)
  | none, none => DayStep.skip

def onAssertions (f : σ → assertion.Assertion → GoSem.Outcome (σ × assertion.Assertion × Option Error)) : DayStep σ := fun st d =>
  (forEachE f st d.Assertions []).bind fun r => GoSem.Outcome.ok (r.1, { d with Assertions := r.2.1 }, r.2.2)

def assertStep (proc : Proc σ) : DayStep σ :=
  match proc.Assertion, proc.Balance with
  | some fa, some fb => onAssertions (thenOn fa (balancesOf fb))
  | some fa, none => onAssertions fa
  | none, some fb => onAssertions (balancesOf fb)
  | none, none => DayStep.skip

def closeStep (proc : Proc σ) : DayStep σ := fun st d =>
  match proc.Close with
  | none => GoSem.Outcome.ok (st, d, none)
  | some f => (forEachE f st d.Closings []).bind fun r => GoSem.Outcome.ok (r.1, { d with Closings := r.2.1 }, r.2.2)

/-- **`Processor.Process(d)`** (lib/journal/journal.go): DayStart; Price for every price; Open for every opening; for every
transaction Transaction and then Posting for each of its postings (Posting alone when Transaction is nil); the same for assertions
and their balances; Close for every closing; DayEnd.  The first error ends the day. -/
def processDay (proc : Proc σ) : DayStep σ :=
  (optStep proc.DayStart).andThen <| (pricesStep proc).andThen <| (opensStep proc).andThen <| (txStep proc).andThen <|
    (assertStep proc).andThen <| (closeStep proc).andThen <| optStep proc.DayEnd

/-- the order of the blocks of `Processor.Process` as the fact extractor reads it from the source (`Posting` and `Balance` nest
inside the `Transaction` and `Assertion` blocks) -/
example : Knut.Generated.processorCallbackOrder = ["DayStart", "Price", "Open", "Transaction", "Assertion", "Close", "DayEnd"] := rfl


theorem TRel_txGo (cur : String → Bool) (s1 s2 : Ref) (t : Knut.Transaction) : TRel cur (txGo cur s1 s2 t) t := by
  refine ⟨rfl, Or.inl rfl, ?_, rfl⟩
  simp only [txGo]
  induction t.postings with
  | nil => exact .nil
  | cons p ps ih => exact .cons rfl ih

theorem TRel_builtGo (cur : String → Bool) (t : Knut.Transaction) : TRel cur (builtGo cur t) t := by
  have := TRel_txGo cur ⟨0⟩ ⟨0⟩ { t with description := JournalPrinter.descText t.description }
  exact ⟨this.1, Or.inr rfl, this.2.2.1, this.2.2.2⟩

section agree
variable {ρ ρ' ε : Type}

theorem Agree.andThen {Q : σ → journal.Day → ρ → Prop} {Q'' : σ → journal.Day → ρ' → Prop}
    {E : σ → journal.Day → Error → ε → Prop} {f k : DayStep σ} {g : σ}
    {d : journal.Day} {m : Except ε ρ} {m' : ρ → Except ε ρ'} (h : Agree Q E (f g d) m)
    (hok : ∀ g' d' a, Q g' d' a → Agree Q'' E (k g' d') (m' a)) : Agree Q'' E ((f.andThen k) g d) (m >>= m') :=
  h.bind (fun _ _ _ _ he => ⟨_, _, rfl, he⟩) hok

theorem andThen_skip (f k : DayStep σ) (g : σ) (d : journal.Day) (h : f g d = .ok (g, d, none)) : (f.andThen k) g d = k g d := by
  simp [DayStep.andThen, h, GoSem.Outcome.bind]

end agree

/-! `Process` by the callbacks a processor sets: the steps of a nil callback drop out (`DayStep.skip` is a unit of `andThen`) -/

theorem andThen_skip_right (f : DayStep σ) : f.andThen DayStep.skip = f := by
  funext st d
  simp only [DayStep.andThen, DayStep.skip]
  cases f st d with
  | ok r => obtain ⟨a, b, e⟩ := r; cases e <;> rfl
  | panic m => rfl
  | outOfFuel => rfl

theorem processDay_dayEnd (f : DayStep σ) : processDay ({ DayEnd := some f } : Proc σ) = f := rfl

theorem processDay_posting (fp) : processDay ({ Posting := some fp } : Proc σ) = onTransactions (postingsOf fp) :=
  andThen_skip_right _

theorem processDay_transaction (ft) : processDay ({ Transaction := some ft } : Proc σ) = onTransactions ft :=
  andThen_skip_right _

theorem processDay_start_posting (fs : DayStep σ) (fp) :
    processDay ({ DayStart := some fs, Posting := some fp } : Proc σ) = fs.andThen (onTransactions (postingsOf fp)) :=
  congrArg fs.andThen (andThen_skip_right _)

theorem processDay_start_posting_end (fs fe : DayStep σ) (fp) :
    processDay ({ DayStart := some fs, Posting := some fp, DayEnd := some fe } : Proc σ) =
      fs.andThen ((onTransactions (postingsOf fp)).andThen fe) := rfl

theorem processDay_start_transaction_end (fs fe : DayStep σ) (ft) :
    processDay ({ DayStart := some fs, Transaction := some ft, DayEnd := some fe } : Proc σ) =
      fs.andThen ((onTransactions ft).andThen fe) := rfl

section loops
variable {μ α β β' γ ε : Type}

theorem forEachE_eq_forEachIn (f : σ → α → GoSem.Outcome (σ × α × Option Error)) (g : σ) (xs done : List α) :
    forEachE f g xs done = forEachIn (fun g (_ : Unit) x => f g x) (fun _ => ()) g xs done := by
  induction xs generalizing g done with
  | nil => rfl
  | cons x xs ih => simp only [forEachE, forEachIn, ih]

/-- the loop of `Processor.Process` over the elements of a day against a `mapM` of the model, when every single call agrees with
the model's step: `upd` is what a step does to the model's side of the captured state -/
theorem forEachIn_mapM (R : σ → μ → Prop) (Rel : α → β → Prop) (Rel' : α → β' → Prop) (E : Error → ε → Prop)
    (f : σ → γ → α → GoSem.Outcome (σ × α × Option Error)) (ctx : List α → γ) (step : β → Except ε β') (upd : μ → β → μ)
    (hstep : ∀ g st c x y, R g st → Rel x y →
      Agree (fun g' x' y' => R g' (upd st y) ∧ Rel' x' y') (fun _ _ => E) (f g c x) (step y))
    {xs : List α} {ys : List β} (hr : AllRel Rel xs ys) :
    ∀ (done : List α) (g : σ) (st : μ), R g st →
      Agree (fun g' l ys' => ∃ xs', l = done ++ xs' ∧ AllRel Rel' xs' ys' ∧ R g' (ys.foldl upd st)) (fun _ _ => E)
        (forEachIn f ctx g xs done) (ys.mapM step) := by
  induction hr with
  | nil => exact fun done g st h => .ok ⟨[], (List.append_nil done).symm, .nil, h⟩
  | @cons x y xs ys hxy _ ih =>
    intro done g st h
    rw [forEachIn, List.mapM_cons]
    refine (hstep g st _ x y h hxy).bind (fun _ _ _ _ he => ⟨_, _, rfl, he⟩) (fun g' x' y' hg => ?_)
    refine (ih (done ++ [x']) g' _ hg.1).map (y' :: ·) (fun g'' l ys' hl => ?_)
    obtain ⟨xs', rfl, hall, hR⟩ := hl
    exact ⟨x' :: xs', by rw [List.append_assoc]; rfl, .cons hg.2 hall, hR⟩

/-- the loop of `Processor.Process` over the elements `xs`, which stand for `ys`, against a `foldlM` of the model: the invariant `R`
relates the elements read so far, what was written back for them (after `done`), the captured state and the model's state.  The other
loop lemmas — element unchanged, state only, a particular stage — are instances -/
theorem forEachIn_foldlM (R : List α → List α → σ → μ → Prop) (Rel : α → β → Prop) (E : Error → ε → Prop)
    (f : σ → γ → α → GoSem.Outcome (σ × α × Option Error)) (ctx : List α → γ) (m : μ → β → Except ε μ)
    {xs : List α} {ys : List β} (hr : AllRel Rel xs ys)
    (hstep : ∀ pre l g st z x y, y ∈ ys → R pre l g st → Rel x y →
      Agree (fun g' x' st' => R (pre ++ [x]) (l ++ [x']) g' st') (fun _ _ => E) (f g (ctx z) x) (m st y)) :
    ∀ (pre l : List α) (g : σ) (st : μ), R pre l g st →
      Agree (fun g' l' st' => R (pre ++ xs) l' g' st') (fun _ _ => E) (forEachIn f ctx g xs l) (ys.foldlM m st) := by
  induction hr with
  | nil => exact fun pre l g st h => .ok (by rwa [List.append_nil])
  | @cons x y xs ys hxy _ ih =>
    intro pre l g st h
    rw [forEachIn, List.foldlM_cons, List.append_cons]
    exact (hstep pre l g st _ x y List.mem_cons_self h hxy).bind (fun _ _ _ _ he => ⟨_, _, rfl, he⟩) fun g' x' st' hg =>
      ih (fun pre l g st z x y hy => hstep pre l g st z x y (List.mem_cons_of_mem _ hy)) (pre ++ [x]) (l ++ [x']) g' st' hg

theorem forEachE_foldlM (R : List α → List α → σ → μ → Prop) (Rel : α → β → Prop) (E : Error → ε → Prop)
    (f : σ → α → GoSem.Outcome (σ × α × Option Error)) (m : μ → β → Except ε μ) {xs : List α} {ys : List β} (hr : AllRel Rel xs ys)
    (hstep : ∀ pre l g st x y, y ∈ ys → R pre l g st → Rel x y →
      Agree (fun g' x' st' => R (pre ++ [x]) (l ++ [x']) g' st') (fun _ _ => E) (f g x) (m st y))
    (pre l : List α) (g : σ) (st : μ) (h : R pre l g st) :
    Agree (fun g' l' st' => R (pre ++ xs) l' g' st') (fun _ _ => E) (forEachE f g xs l) (ys.foldlM m st) := by
  rw [forEachE_eq_forEachIn]
  exact forEachIn_foldlM R Rel E _ _ m hr (fun pre l g st _ x y => hstep pre l g st x y) pre l g st h

/-- callbacks that cannot fail and leave their element alone: `upd` is what a call does to the model's side of the captured state -/
theorem forEachIn_ok (R : σ → μ → Prop) (Rel : α → β → Prop)
    (f : σ → γ → α → GoSem.Outcome (σ × α × Option Error)) (ctx : List α → γ) (upd : μ → β → μ)
    {xs : List α} {ys : List β} (hr : AllRel Rel xs ys)
    (hstep : ∀ g st z x y, y ∈ ys → R g st → Rel x y → ∃ g', f g (ctx z) x = .ok (g', x, none) ∧ R g' (upd st y))
    (done : List α) (g : σ) (st : μ) (h : R g st) :
    ∃ g', forEachIn f ctx g xs done = .ok (g', done ++ xs, none) ∧ R g' (ys.foldl upd st) := by
  have key := forEachIn_foldlM (ε := Unit) (fun pre l g st => l = done ++ pre ∧ R g st) Rel (fun _ _ => False) f ctx
    (fun st y => .ok (upd st y)) hr (fun pre l g st z x y hy hR hxy => by
      obtain ⟨g', e, h'⟩ := hstep g st z x y hy hR.2 hxy
      rw [e]
      exact .ok ⟨by rw [hR.1, List.append_assoc], h'⟩) [] done g st ⟨(List.append_nil _).symm, h⟩
  rw [show ys.foldlM (fun st y => (.ok (upd st y) : Except Unit μ)) st = .ok (ys.foldl upd st) from List.foldlM_pure ..] at key
  obtain ⟨g', _, e, rfl, h'⟩ := key.of_model_ok
  exact ⟨g', e, h'⟩

theorem forEachE_ok (R : σ → μ → Prop) (Rel : α → β → Prop) (f : σ → α → GoSem.Outcome (σ × α × Option Error))
    (upd : μ → β → μ) {xs : List α} {ys : List β} (hr : AllRel Rel xs ys)
    (hstep : ∀ g st x y, y ∈ ys → R g st → Rel x y → ∃ g', f g x = .ok (g', x, none) ∧ R g' (upd st y))
    (done : List α) (g : σ) (st : μ) (h : R g st) :
    ∃ g', forEachE f g xs done = .ok (g', done ++ xs, none) ∧ R g' (ys.foldl upd st) := by
  rw [forEachE_eq_forEachIn]
  exact forEachIn_ok R Rel _ _ upd hr (fun g st _ x y => hstep g st x y) done g st h

theorem foldlE_foldl {f : σ → α → GoSem.Outcome σ} {step : μ → β → μ} (R : σ → μ → Prop) (Rel : α → β → Prop)
    (hstep : ∀ s m a b, R s m → Rel a b → Returns (fun s' => R s' (step m b)) (f s a)) {as : List α} {bs : List β}
    (hr : AllRel Rel as bs) : ∀ (s : σ) (m : μ), R s m → Returns (fun s' => R s' (bs.foldl step m)) (foldlE f s as) := by
  induction hr with
  | nil => exact fun s m h => .ok h
  | cons hab _ ih => exact fun s m h => (hstep s m _ _ h hab).bind fun s' h' => ih s' _ h'

end loops

/-! ## `Valuate` on a whole day -/

/-- the processor `Valuate(reg, valuation)` returns: its three closures (`Valuate.callbacks`) in the shape `processDay` expects -/
def valuateProc (vG : commodity.Commodity) (ext1 : account.Account → account.Account) (o : List amounts.Key) :
    Proc journal.Valuate.State :=
  { DayStart := some fun st d => GoSem.Outcome.ok (journal.Valuate.DayStart vG st d ext1 o),
    Posting := some fun st t p => GoSem.Outcome.ok (journal.Valuate.Posting vG st t p),
    DayEnd := some fun st d => GoSem.Outcome.ok ((journal.Valuate.DayEnd st d).1, d, (journal.Valuate.DayEnd st d).2) }

/-- the closures that `Valuate` sets are exactly these three -/
example : journal.Valuate.callbacks = ["DayStart", "Posting", "DayEnd"] := rfl
/-- `valuation` is presupposed non-nil (the nil case returns no processor: `Balance.valuationStage` with `cfg.valuation = none`) -/
example : journal.Valuate.nonNil = ["valuation"] := rfl
/-- `ext1` is the registry's `ValuationAccountFor` applied to the position's account -/
example : journal.Valuate.externals =
    ["DayStart.ext1 = reg.Accounts().ValuationAccountFor(pos.Account) [as a function of its 1 arguments]"] := rfl

section
variable (cur : String → Bool) (v : Knut.Commodity) {g : journal.Valuate.State} {prev now : Option Prices.NPrices}
  {q : Knut.AMap Position Rat} (h : VEquiv cur g prev now q)
include h

theorem Valuate_Posting_rel (tg : transaction.Transaction) {gp : posting.Posting} {p : Knut.Posting} (hp : PRel cur gp p) :
    Agree (fun g' p' mp => VEquiv cur g' prev now (addQty1 q p) ∧ PRel cur p' mp) (fun _ _ e _ => e = noPriceError)
      (.ok (journal.Valuate.Posting (cGo cur v) g tg gp)) (Balance.valuePosting v now p) := by
  rw [hp]
  exact (Valuate_Posting_agree cur v h tg gp.Src p).imp (fun _ _ _ hq => ⟨hq.1, hq.2 ▸ PRel_postingGo ..⟩) (fun _ _ _ _ he => he.2.2)

theorem Valuate_tx_agree {gt : transaction.Transaction} {mt : Knut.Transaction} (ht : TRel cur gt mt) :
    Agree (fun g' t' mt' => VEquiv cur g' prev now (mt.postings.foldl addQty1 q) ∧ TRel cur t' mt')
      (fun _ _ e _ => e = noPriceError)
      (postingsOf (fun st t p => GoSem.Outcome.ok (journal.Valuate.Posting (cGo cur v) st t p)) g gt) (Balance.valueTx v now mt) := by
  refine ((forEachIn_mapM (fun g q => VEquiv cur g prev now q) (PRel cur) (PRel cur) _ _ _ _ addQty1
    (fun g q c x y hg hxy => Valuate_Posting_rel cur v hg c hxy) ht.2.2.1 [] g q h).mapL (E'' := fun _ _ e _ => e = noPriceError)
      (fun ps => { gt with Postings := ps }) (fun _ _ _ _ he => he)).map
    (fun ps => { mt with postings := ps }) (fun g' l ps hl => ?_)
  obtain ⟨_, rfl, ps', rfl, hall, hv⟩ := hl
  exact ⟨hv, ht.1, ht.2.1, hall, ht.2.2.2⟩

end

theorem qtyIn_lookup (cur : String → Bool) (g : amounts.Amounts)
    (hkeys : ∀ k : amounts.Key, (Knut.AMap.find? g k).isSome → ∃ p, k = keyGo cur p) (p : Position) :
    ∀ o : List amounts.Key, Knut.AMap.find? (qtyIn g o) p = if keyGo cur p ∈ o then Knut.AMap.find? g (keyGo cur p) else none := fun o => by
  rw [qtyIn_eq, Knut.AMap.find?_map_key posOf (posOf_visited cur hkeys o p), Knut.AMap.find?_visited]

theorem QEquiv_qtyIn {cur : String → Bool} {g : amounts.Amounts} {q : Knut.AMap Position Rat} (h : QEquiv cur g q)
    (o : List amounts.Key) (hcov : ∀ k, (Knut.AMap.find? g k).isSome → k ∈ o) : QEquiv cur g (qtyIn g o) := by
  refine ⟨?_, h.keys⟩
  intro p
  rw [qtyIn_lookup cur g h.keys p o]
  by_cases hm : keyGo cur p ∈ o
  · simp [hm]
  · simp only [hm, if_false]
    cases hf : Knut.AMap.find? g (keyGo cur p) with
    | none => rfl
    | some x => exact absurd (hcov _ (by simp [hf])) hm

theorem mapM_append_except {α β ε : Type} (f : α → Except ε β) (xs ys : List α) :
    (xs ++ ys).mapM f = (xs.mapM f).bind fun a => (ys.mapM f).bind fun b => .ok (a ++ b) :=
  List.mapM_append

/-- **`Valuate` on one day**: `Processor.Process` with the three closures of `Valuate` = the model's `Balance.valuateDay`, for
EVERY iteration order `o` of the map `quantities` that reaches all its keys (the model's `vQty` is that map listed in that order):
the day's transactions afterwards stand for the model's (the day's own, then the value adjustments; all valued), the captured
state again stands for the model state, and a missing price fails the day on both sides. -/
theorem Valuate_day_agree (cur : String → Bool) (v : Knut.Commodity) (ext1 : account.Account → account.Account)
    (hext : ∀ a : Knut.Account, ext1 (accountGo a) = accountGo (valuationAccountFor a))
    {g : journal.Valuate.State} (st : BalState) {old : Option Prices.NPrices} {q : Knut.AMap Position Rat}
    (h : VEquiv cur g st.vPrev old q) (o : List amounts.Key) (hcov : ∀ k, (Knut.AMap.find? g.quantities k).isSome → k ∈ o)
    (dg : journal.Day) (d : Knut.Day) (hd : dg.Date = d.date) (hn : NPEquivO cur dg.Normalized st.norm)
    (htx : AllRel (TRel cur) dg.Transactions d.transactions) :
    Agree (fun g' dg' (r : BalState × List Knut.Transaction) => VEquiv cur g' r.1.vPrev st.norm r.1.vQty ∧
      ∃ l, dg' = { dg with Transactions := l } ∧ AllRel (TRel cur) l r.2) (fun _ _ e _ => e = noPriceError)
      (processDay (valuateProc (cGo cur v) ext1 o) g dg) (Balance.valuateDay v { st with vQty := qtyIn g.quantities o } d) := by
  rw [valuateProc, processDay_start_posting_end, Balance.valuateDay, ← hd]
  refine Agree.andThen
    ((Valuate_DayStart_agree cur v ext1 hext h dg hn o).imp (fun _ _ _ hq => hq) (fun _ _ _ _ he => he.2)) (fun g' d' adj hQ => ?_)
  obtain ⟨rfl, rfl⟩ := hQ
  have hv : VEquiv cur { g with prices := dg.Normalized } st.vPrev st.norm (qtyIn g.quantities o) :=
    ⟨h.prev, hn, QEquiv_qtyIn h.qty o hcov⟩
  have hloop := forEachIn_mapM (fun g q => VEquiv cur g st.vPrev st.norm q) (TRel cur) (TRel cur) _ _ (fun _ => ())
    (Balance.valueTx v st.norm) (fun q t => t.postings.foldl addQty1 q) (fun g q _ x y hg hxy => Valuate_tx_agree cur v hg hxy)
    (AllRel_append htx (AllRel_map _ (TRel_builtGo cur) adj)) [] _ _ hv
  rw [← forEachE_eq_forEachIn] at hloop
  refine Agree.andThen (hloop.mapL (E'' := fun _ _ e _ => e = noPriceError)
    (fun l => ({ dg with Transactions := l } : journal.Day)) (fun _ _ _ _ he => he)) (fun g' d' txs hQ => ?_)
  obtain ⟨l, rfl, _, rfl, hall, hv'⟩ := hQ
  exact .ok ⟨⟨hn, hv'.now, hv'.qty⟩, l, rfl, hall⟩

theorem Valuate_day_agrees (cur : String → Bool) (v : Knut.Commodity) (ext1 : account.Account → account.Account)
    (hext : ∀ a : Knut.Account, ext1 (accountGo a) = accountGo (valuationAccountFor a))
    {g : journal.Valuate.State} (st : BalState) {old : Option Prices.NPrices} {q : Knut.AMap Position Rat}
    (h : VEquiv cur g st.vPrev old q) (o : List amounts.Key) (hcov : ∀ k, (Knut.AMap.find? g.quantities k).isSome → k ∈ o)
    (dg : journal.Day) (d : Knut.Day) (hd : dg.Date = d.date) (hn : NPEquivO cur dg.Normalized st.norm)
    (htx : AllRel (TRel cur) dg.Transactions d.transactions) :
    match processDay (valuateProc (cGo cur v) ext1 o) g dg,
        Balance.valuateDay v { st with vQty := qtyIn g.quantities o } d with
    | .ok (g', dg', none), .ok (st', txs) => VEquiv cur g' st'.vPrev st.norm st'.vQty ∧
        ∃ l, dg' = { dg with Transactions := l } ∧ AllRel (TRel cur) l txs
    | .ok (_, _, some e), .error _ => e = ⟨"no price found for %v in %v"⟩
    | _, _ => False :=
  Agree.casesOn (Valuate_day_agree cur v ext1 hext st h o hcov dg d hd hn htx) (fun h => h) (fun h => h)

/-! ## `ComputePrices` -/

/-- the state of `ComputePrices`'s closures against the model's price graph and last normalisation -/
structure CPEquiv (cur : String → Bool) (g : journal.ComputePrices.State) (graph : Prices.Prices) (norm : Option Prices.NPrices) : Prop where
  prc : TransPrice.PEquivS cur g.prc graph
  previous : NPEquivO cur g.previous norm

/-- `ComputePrices.Price` in the shape `processDay` expects (the price directive itself is not changed) -/
def cpPrice (st : journal.ComputePrices.State) (p : price.Price) : GoSem.Outcome (journal.ComputePrices.State × price.Price × Option Error) :=
  (journal.ComputePrices.Price st p).bind fun r => GoSem.Outcome.ok (r.1, p, r.2)

/-- the processor `ComputePrices(v)` returns; `fuel` bounds the breadth-first search of `Prices.Normalize` (an explicit parameter of
the translated function) -/
def computePricesProc (vG : commodity.Commodity) (fuel : Nat) : Proc journal.ComputePrices.State :=
  { Price := some cpPrice, DayEnd := some fun st d => journal.ComputePrices.DayEnd vG st d fuel }

example : journal.ComputePrices.callbacks = ["Price", "DayEnd"] := rfl
example : journal.ComputePrices.nonNil = ["v"] := rfl
example : journal.ComputePrices.externals = [] := rfl

/-- the fold of `Balance.pricesDay` over the day's prices -/
def insertPrices (graph : Prices.Prices) (ps : List Knut.Price) : Except BalErr Prices.Prices :=
  ps.foldlM (fun g p => match Prices.insert g ⟨p.commodity, p.price, p.target⟩ with
    | some g' => .ok g'
    | none => .error BalErr.zeroPrice) graph

theorem insertPrices_cons (graph : Prices.Prices) (p : Knut.Price) (ps : List Knut.Price) :
    insertPrices graph (p :: ps) =
      match Prices.insert graph ⟨p.commodity, p.price, p.target⟩ with
      | some g' => insertPrices g' ps
      | none => .error BalErr.zeroPrice := by
  simp only [insertPrices, List.foldlM_cons]
  cases Prices.insert graph ⟨p.commodity, p.price, p.target⟩ <;> rfl

theorem pricesDay_eq (v : Knut.Commodity) (st : BalState) (d : Knut.Day) :
    Balance.pricesDay v st d =
      match insertPrices st.graph d.prices with
      | .ok g => .ok { st with graph := g, norm := if d.prices.isEmpty then st.norm else some (Prices.normalize g v) }
      | .error e => .error e := by
  change (insertPrices st.graph d.prices >>= fun g =>
    Except.ok { st with graph := g, norm := if d.prices.isEmpty then st.norm else some (Prices.normalize g v) }) = _
  cases insertPrices st.graph d.prices <;> rfl

/-- **`ComputePrices.Price`** = `Prices.insert` (`Prices.Insert` on the captured price map); the price directive is not changed -/
theorem ComputePrices_Price_agree (cur : String → Bool) {g : journal.ComputePrices.State} {graph : Prices.Prices}
    {norm : Option Prices.NPrices} (h : CPEquiv cur g graph norm) {gp : price.Price} {p : Knut.Price} (hp : PriceRel cur gp p) :
    Agree (fun g' p' graph' => CPEquiv cur g' graph' norm ∧ p' = gp) (fun _ _ e _ => e = invalidPriceError)
      (cpPrice g gp)
      (match Prices.insert graph ⟨p.commodity, p.price, p.target⟩ with
        | some g' => .ok g'
        | none => .error BalErr.zeroPrice) := by
  unfold cpPrice journal.ComputePrices.Price
  rw [hp]
  simp only [priceGo]
  rcases TransPrice.Insert_cases cur h.prc ⟨p.commodity, p.price, p.target⟩ with ⟨g', m', hI, hm, h'⟩ | ⟨hI, hm⟩
  · rw [hI, hm]
    exact .ok ⟨⟨h', h.previous⟩, rfl⟩
  · rw [hI, hm]
    exact .error rfl

theorem computePrices_loop (cur : String → Bool) {norm : Option Prices.NPrices} {ps : List price.Price} {mps : List Knut.Price}
    (hr : AllRel (PriceRel cur) ps mps) (done : List price.Price) (g : journal.ComputePrices.State) (graph : Prices.Prices)
    (h : CPEquiv cur g graph norm) :
    Agree (fun g' l graph' => l = done ++ ps ∧ CPEquiv cur g' graph' norm) (fun _ _ e _ => e = invalidPriceError)
      (forEachE cpPrice g ps done) (insertPrices graph mps) :=
  forEachE_foldlM (fun pre l g graph => l = done ++ pre ∧ CPEquiv cur g graph norm) (PriceRel cur) _ _ _ hr
    (fun pre l g graph gp mp _ hR hp => (ComputePrices_Price_agree cur hR.2 hp).imp
      (fun g' p' graph' hq => ⟨by rw [hR.1, hq.2, List.append_assoc], hq.1⟩) fun _ _ _ _ he => he) [] done g graph
    ⟨(List.append_nil _).symm, h⟩

/-- **`ComputePrices` on one day** = `Balance.pricesDay`: the prices of the day are inserted (a zero price fails the day), the
normalisation is recomputed when the day has prices — for every `fuel` that is at least the model's termination measure of the
search — and stored in `d.Normalized`, where `Valuate` reads it -/
theorem ComputePrices_day_agree (cur : String → Bool) (v : Knut.Commodity) (fuel : Nat) {g : journal.ComputePrices.State}
    (st : BalState) (h : CPEquiv cur g st.graph st.norm) (dg : journal.Day) (d : Knut.Day)
    (hps : AllRel (PriceRel cur) dg.Prices d.prices)
    (hfuel : ∀ graph', insertPrices st.graph d.prices = .ok graph' → Prices.unvisited graph' [(v, 1)] + 1 ≤ fuel) :
    Agree (fun g' dg' (st' : BalState) => CPEquiv cur g' st'.graph st'.norm ∧
      dg' = { dg with Normalized := g'.previous } ∧ st'.vPrev = st.vPrev ∧ st'.vQty = st.vQty)
      (fun _ _ e _ => e = invalidPriceError) (processDay (computePricesProc (cGo cur v) fuel) g dg)
      (Balance.pricesDay v st d) := by
  unfold processDay Balance.pricesDay
  -- no `DayStart`; `Price` on every price of the day; then nothing until `DayEnd`
  rw [andThen_skip _ _ _ _ rfl]
  refine Agree.andThen ((computePrices_loop cur hps [] g st.graph h).and_eq.mapL (E'' := fun _ _ e _ => e = invalidPriceError)
    (fun l => ({ dg with Prices := l } : journal.Day)) (fun _ _ _ _ he => he)) (fun g' d' graph' hQ => ?_)
  obtain ⟨_, rfl, ⟨rfl, hc⟩, _, hins⟩ := hQ
  rw [andThen_skip _ _ _ _ rfl, andThen_skip _ _ _ _ rfl, andThen_skip _ _ _ _ rfl, andThen_skip _ _ _ _ rfl]
  show Agree _ _ (journal.ComputePrices.DayEnd (cGo cur v) g' dg fuel) _
  unfold journal.ComputePrices.DayEnd
  have hlen : dg.Prices.length = d.prices.length := AllRel_length hps
  by_cases hempty : d.prices = []
  · have hg : dg.Prices = [] := List.eq_nil_of_length_eq_zero (by simp [hlen, hempty])
    simp only [hg, hempty, len, List.length_nil]
    exact .ok ⟨⟨hc.prc, hc.previous⟩, rfl, rfl, rfl⟩
  · have hpos : decide (len dg.Prices > 0) = true := by
      have := List.length_pos_iff.mpr hempty
      simp only [len, decide_eq_true_eq, hlen]; omega
    obtain ⟨gres, e1, e2⟩ := TransPrice.Normalize_agrees cur hc.prc v fuel (hfuel graph' hins)
    simp only [hpos, if_true, e1, GoSem.Outcome.bind, List.isEmpty_eq_false_iff.mpr hempty, Bool.false_eq_true, if_false]
    exact .ok ⟨⟨hc.prc, NPEquivO_some e2⟩, rfl, rfl, rfl⟩

theorem ComputePrices_day_agrees (cur : String → Bool) (v : Knut.Commodity) (fuel : Nat) {g : journal.ComputePrices.State}
    (st : BalState) (h : CPEquiv cur g st.graph st.norm) (dg : journal.Day) (d : Knut.Day)
    (hps : AllRel (PriceRel cur) dg.Prices d.prices)
    (hfuel : ∀ graph', insertPrices st.graph d.prices = .ok graph' → Prices.unvisited graph' [(v, 1)] + 1 ≤ fuel) :
    match processDay (computePricesProc (cGo cur v) fuel) g dg, Balance.pricesDay v st d with
    | .ok (g', dg', none), .ok st' => CPEquiv cur g' st'.graph st'.norm ∧ dg' = { dg with Normalized := g'.previous } ∧
        st'.vPrev = st.vPrev ∧ st'.vQty = st.vQty
    | .ok (_, _, some e), .error _ => e = ⟨"invalid price %s for commodity %s in %s"⟩
    | _, _ => False :=
  Agree.casesOn (ComputePrices_day_agree cur v fuel st h dg d hps hfuel) (fun h => h) (fun h => h)

/-! ## `Filter` -/

/-- the processor `Filter(part)` returns -/
def filterProc (part : date.Partition) : Proc journal.Filter.State :=
  { DayEnd := some fun st d => GoSem.Outcome.ok (journal.Filter.DayEnd part st d) }

example : journal.Filter.callbacks = ["DayEnd"] := rfl
example : journal.Filter.nonNil = [] ∧ journal.Filter.externals = [] := ⟨rfl, rfl⟩

/-- **`Filter` on one day** = `Balance.filterStage`: outside the partition's span the day loses its transactions -/
theorem Filter_day_agrees (cur : String → Bool) (cfg : BalCfg) (part : Knut.Partition) (hspan : part.span = cfg.span)
    (g : journal.Filter.State) (dg : journal.Day) (d : Knut.Day) (hd : dg.Date = d.date) (txs : List Knut.Transaction)
    (htx : AllRel (TRel cur) dg.Transactions txs) :
    ∃ l, processDay (filterProc (TransDate.partitionGo part)) g dg = .ok (g, { dg with Transactions := l }, none) ∧
      AllRel (TRel cur) l (Balance.filterStage cfg d txs) := by
  rw [filterProc, processDay_dayEnd]
  simp only [Balance.filterStage, journal.Filter.DayEnd, TransDate.Partition_Contains_agrees, Knut.Partition.contains, hspan, ← hd]
  by_cases hc : cfg.span.contains dg.Date = true
  · exact ⟨dg.Transactions, by simp [hc], by simpa [hc] using htx⟩
  · exact ⟨[], by simp [hc], by simpa [hc] using AllRel.nil⟩

/-! ## `CloseAccounts` -/

/-- the state of `CloseAccounts`'s closures against the model: the closing days are the given dates, the equity account is
`Equity:Equity`, the accumulated quantities and values answer every lookup alike -/
structure CEquiv (cur : String → Bool) (g : journal.CloseAccounts.State) (dates : List Int) (cQty cVal : Knut.AMap Position Rat) : Prop where
  days : ∀ t : Int, set.Set.Has g.closingDays t = dates.contains t
  equity : g.equityAccount = accountGo equityAccount
  qty : QEquiv cur g.quantities cQty
  val : QEquiv cur g.values cVal

/-- the processor `CloseAccounts(j, reg, true, partition)` returns -/
def closeProc (o : List amounts.Key) : Proc journal.CloseAccounts.State :=
  { DayStart := some fun st d => GoSem.Outcome.ok (journal.CloseAccounts.DayStart st d o),
    Posting := some fun st t p => GoSem.Outcome.ok ((journal.CloseAccounts.Posting st t p).1, p, (journal.CloseAccounts.Posting st t p).2) }

example : journal.CloseAccounts.callbacks = ["DayStart", "Posting"] := rfl
example : journal.CloseAccounts.nonNil = [] := rfl
/-- `ext1` = the set of the days at the partition's start dates (days are identified by their date), `ext2` = `Equity:Equity` -/
example : journal.CloseAccounts.externals =
    ["init.ext1 = set.FromSlice(j.Days(partition.StartDates()))", "init.ext2 = reg.Accounts().MustGet(\"Equity:Equity\")"] := rfl

/-- **`CloseAccounts`, the statements before the closures**: no processor without `--close`; otherwise empty accumulators, the
closing days and the equity account as the two untranslated calls deliver them -/
theorem CloseAccounts_init_agrees (cur : String → Bool) (j : journal.Builder) (enable : Bool) (part : date.Partition)
    (ext1 : set.Set Int) (dates : List Int) (hext1 : ∀ t : Int, set.Set.Has ext1 t = dates.contains t) :
    match journal.CloseAccounts.init j enable part ext1 (accountGo equityAccount) with
    | none => enable = false
    | some g => enable = true ∧ CEquiv cur g dates [] [] := by
  unfold journal.CloseAccounts.init
  cases enable with
  | false => simp
  | true => simp; exact ⟨hext1, rfl, QEquiv_nil cur, QEquiv_nil cur⟩

/-- the model's closing transaction of one position (`Balance.closings`) -/
def closeTx (date : Int) (p : Position) (q v : Rat) : Knut.Transaction :=
  { date := date, description := "Closing account " ++ p.1.name ++ " in " ++ p.2, postings := postingBuild p.1 equityAccount p.2 q v }

theorem close_tx_agrees (cur : String → Bool) (date : Int) (p : Position) (q v : Rat) :
    transaction.Builder.Build
      ⟨(GoZero.zero : Ref), date, "Closing account " ++ (account.Account.Name (accountGo p.1)) ++ " in " ++
          (commodity.Commodity.Name (commodityGo cur p.2)),
        posting.Builder.Build ⟨(GoZero.zero : Ref), q, v, accountGo p.1, accountGo equityAccount, commodityGo cur p.2⟩,
        (GoZero.zero : Option (List commodity.Commodity))⟩ =
      builtGo cur (closeTx date p q v) := by
  rw [TransTransaction.Builder_Build_agrees]
  have := TransPosting.Builder_Build_agrees cur ⟨0⟩ p.1 equityAccount p.2 q v
  simp only [GoZero.zero] at this ⊢
  rw [this]
  rfl

theorem closings_cons (date : Int) (e : Position × Rat) (rest cVal : Knut.AMap Position Rat) :
    Balance.closings date (e :: rest) cVal =
      (if e.2 = 0 ∧ cVal.get e.1 0 = 0 then [] else [closeTx date e.1 e.2 (cVal.get e.1 0)]) ++ Balance.closings date rest cVal := by
  obtain ⟨⟨a, c⟩, q⟩ := e
  unfold Balance.closings
  simp only [List.filterMap_cons]
  by_cases h : q = 0 ∧ Knut.AMap.get cVal (a, c) 0 = 0
  · simp [h]
  · have : (decide (q = 0) && decide (Knut.AMap.get cVal (a, c) 0 = 0)) = false := by
      rw [← Bool.decide_and]; exact decide_eq_false h
    simp [this, h, closeTx]

/-- **the loop of `CloseAccounts.DayStart`** over an arbitrary list of keys = the model's `closings` on the map listed in that order -/
theorem Close_range_agrees (cur : String → Bool) (gq gv : amounts.Amounts) (cVal : Knut.AMap Position Rat) (hv : QEquiv cur gv cVal)
    (hkeys : ∀ k : amounts.Key, (Knut.AMap.find? gq k).isSome → ∃ p, k = keyGo cur p) :
    ∀ (o : List amounts.Key) (dg : journal.Day),
      journal.CloseAccounts.DayStart.range1 (accountGo equityAccount) gq gv o dg =
        { dg with Transactions := dg.Transactions ++ (Balance.closings dg.Date (qtyIn gq o) cVal).map (builtGo cur) } := by
  intro o
  induction o with
  | nil => intro dg; simp [journal.CloseAccounts.DayStart.range1, qtyIn, Balance.closings]
  | cons k rest ih =>
    intro dg
    unfold journal.CloseAccounts.DayStart.range1
    cases hf : Knut.AMap.find? gq k with
    | none =>
      simp only [Option.isSome_none, Bool.not_false, if_true, qtyIn_cons_none hf]
      exact ih dg
    | some x =>
      obtain ⟨p, rfl⟩ := hkeys k (by simp [hf])
      have hq := qtyIn_cons_some cur hf rest
      have hval : Knut.AMap.get gv (keyGo cur p) (GoZero.zero : Rat) = cVal.get p 0 := Knut.AMap.get_congr (hv.lookup _) _
      simp only [Option.isSome_some, Bool.not_true, Bool.false_eq_true, if_false, hq, closings_cons, Knut.AMap.get, hf,
        Option.getD_some, Decimal.IsZero]
      simp only [Knut.AMap.get] at hval
      simp only [hval]
      by_cases hz : x = 0 ∧ (Knut.AMap.find? cVal p).getD 0 = 0
      · simp only [hz.1, hz.2, decide_true, Bool.and_self, if_true, and_self, List.nil_append]
        exact ih dg
      · have hz' : (decide (x = 0) && decide ((Knut.AMap.find? cVal p).getD 0 = 0)) = false := by
          rw [← Bool.decide_and]; exact decide_eq_false hz
        simp only [hz', Bool.false_eq_true, if_false, hz]
        have hkc : (keyGo cur p).Commodity = commodityGo cur p.2 := rfl
        have hka : (keyGo cur p).Account = accountGo p.1 := rfl
        rw [hkc, hka, close_tx_agrees cur dg.Date p x _, ih]
        simp

/-- `CloseAccounts.Posting` in the model: one posting of `Balance.accumulate` -/
def accPosting (st : BalState) (p : Knut.Posting) : BalState :=
  if p.account.isAL || p.account = equityAccount then st
  else
    let k : Position := (p.account, p.commodity)
    { st with cQty := st.cQty.set k (st.cQty.get k 0 + p.quantity), cVal := st.cVal.set k (st.cVal.get k 0 + p.value) }

theorem accumulate_eq (st : BalState) (ts : List Knut.Transaction) :
    Balance.accumulate st ts = ts.foldl (fun st t => t.postings.foldl accPosting st) st := rfl

/-- `CloseAccounts.Posting` in the shape `processDay` expects (the posting itself is not changed) -/
def clPosting (st : journal.CloseAccounts.State) (t : transaction.Transaction) (p : posting.Posting) :
    GoSem.Outcome (journal.CloseAccounts.State × posting.Posting × Option Error) :=
  GoSem.Outcome.ok ((journal.CloseAccounts.Posting st t p).1, p, (journal.CloseAccounts.Posting st t p).2)

/-- **`CloseAccounts.Posting`** = one step of `Balance.accumulate` -/
theorem Close_Posting_agrees (cur : String → Bool) {g : journal.CloseAccounts.State} {dates : List Int} {st : BalState}
    (h : CEquiv cur g dates st.cQty st.cVal) (tg : transaction.Transaction) (src : Ref) (p : Knut.Posting) :
    ∃ g', journal.CloseAccounts.Posting g tg (postingGo cur src p) = (g', none) ∧
      CEquiv cur g' dates (accPosting st p).cQty (accPosting st p).cVal := by
  unfold journal.CloseAccounts.Posting accPosting
  simp only [postingGo, IsAL_agrees, h.equity]
  by_cases hal : p.account.isAL = true
  · simp only [hal, if_true, Bool.true_or]
    exact ⟨_, rfl, h.days, rfl, h.qty, h.val⟩
  · simp only [hal, Bool.false_eq_true, if_false, Bool.false_or]
    by_cases heq : p.account = equityAccount
    · simp only [heq, decide_true, if_true]
      exact ⟨_, rfl, h.days, rfl, h.qty, h.val⟩
    · have heq' : ¬ accountGo p.account = accountGo equityAccount := fun e => heq (accountGo_inj e)
      simp only [heq, heq', decide_false, Bool.false_eq_true, if_false]
      have hk : amounts.AccountCommodityKey (accountGo p.account) (commodityGo cur p.commodity) = keyGo cur (p.account, p.commodity) := rfl
      exact ⟨_, rfl, h.days, rfl, by rw [hk]; exact QEquiv_add h.qty _ _, by rw [hk]; exact QEquiv_add h.val _ _⟩

theorem close_tx_loop (cur : String → Bool) (dates : List Int) {ts : List transaction.Transaction} {mts : List Knut.Transaction}
    (hr : AllRel (TRel cur) ts mts) {g : journal.CloseAccounts.State} (st : BalState) (h : CEquiv cur g dates st.cQty st.cVal) :
    ∃ g', forEachE (postingsOf clPosting) g ts [] = .ok (g', ts, none) ∧
      CEquiv cur g' dates (Balance.accumulate st mts).cQty (Balance.accumulate st mts).cVal := by
  refine forEachE_ok (fun g st => CEquiv cur g dates st.cQty st.cVal) (TRel cur) _ (fun st t => t.postings.foldl accPosting st) hr
    (fun g st gt mt _ hg ht => ?_) [] g st h
  obtain ⟨g', e, hg'⟩ := forEachIn_ok (fun g st => CEquiv cur g dates st.cQty st.cVal) (PRel cur) clPosting
    (fun ps => { gt with Postings := ps }) accPosting ht.2.2.1
    (fun g st z gp p _ hg hp => by
      obtain ⟨g', e, hg'⟩ := Close_Posting_agrees cur hg _ gp.Src p
      exact ⟨g', by rw [hp, clPosting, e], hg'⟩) [] g st hg
  exact ⟨g', by rw [postingsOf, e]; rfl, hg'⟩

/-- **`CloseAccounts` on one day** = `Balance.closeStage` with `--close`, for EVERY iteration order `o` of the map `quantities`
that reaches all its keys: on a closing day one closing transaction per accumulated position that is not zero is appended (built by
`transaction.Builder.Build`), then all the day's postings outside assets, liabilities and `Equity:Equity` are accumulated -/
theorem CloseAccounts_day_agrees (cur : String → Bool) (cfg : BalCfg) (hclose : cfg.close = true)
    {g : journal.CloseAccounts.State} (st : BalState) {q : Knut.AMap Position Rat}
    (h : CEquiv cur g (cfg.periods.map (·.start)) q st.cVal) (o : List amounts.Key)
    (hcov : ∀ k, (Knut.AMap.find? g.quantities k).isSome → k ∈ o)
    (dg : journal.Day) (d : Knut.Day) (hd : dg.Date = d.date) (txs : List Knut.Transaction)
    (htx : AllRel (TRel cur) dg.Transactions txs) :
    ∃ g' l, processDay (closeProc o) g dg = .ok (g', { dg with Transactions := l }, none) ∧
      AllRel (TRel cur) l (Balance.closeStage cfg { st with cQty := qtyIn g.quantities o } d txs).2 ∧
      CEquiv cur g' (cfg.periods.map (·.start)) (Balance.closeStage cfg { st with cQty := qtyIn g.quantities o } d txs).1.cQty
        (Balance.closeStage cfg { st with cQty := qtyIn g.quantities o } d txs).1.cVal := by
  obtain ⟨cd, ea, gq, gv⟩ := g
  have hea := h.equity
  simp only at hea
  subst hea
  have hq := QEquiv_qtyIn h.qty o hcov
  have hg : CEquiv cur ⟨cd, accountGo equityAccount, gq, gv⟩ (cfg.periods.map (·.start)) (qtyIn gq o) st.cVal := ⟨h.days, rfl, hq, h.val⟩
  have hP : (fun st t p => GoSem.Outcome.ok ((journal.CloseAccounts.Posting st t p).1, p, (journal.CloseAccounts.Posting st t p).2)) = clPosting := rfl
  have hdays := h.days
  simp only at hdays hq
  rw [closeProc, processDay_start_posting]
  simp only [Balance.closeStage, DayStep.andThen, GoSem.Outcome.bind, onTransactions, hclose, if_true, journal.CloseAccounts.DayStart,
    hdays, ← hd, hP]
  by_cases hday : (cfg.periods.map (·.start)).contains dg.Date = true
  · simp only [hday, Bool.not_true, Bool.false_eq_true, if_false, if_true]
    rw [Close_range_agrees cur gq gv st.cVal h.val h.qty.keys o dg]
    have hall := AllRel_append htx (AllRel_map _ (TRel_builtGo cur) (Balance.closings dg.Date (qtyIn gq o) st.cVal))
    obtain ⟨g', e, hv⟩ := close_tx_loop cur (cfg.periods.map (·.start)) hall { st with cQty := qtyIn gq o } hg
    refine ⟨g', _, ?_, hall, hv⟩
    simp only [e]
    simp
  · simp only [hday, Bool.not_false, if_true, Bool.false_eq_true, if_false, List.append_nil]
    obtain ⟨g', e, hv⟩ := close_tx_loop cur (cfg.periods.map (·.start)) htx { st with cQty := qtyIn gq o } hg
    refine ⟨g', _, ?_, htx, hv⟩
    simp only [e]
    simp

/-! ## The model's own order is one of the iteration orders; non-vacuity -/

/-- listing the Go map in the order of the model's association list gives back that list: the theorems above, instantiated with
this order, speak about the model state itself -/
theorem qtyIn_self (cur : String → Bool) {g : amounts.Amounts} {q : Knut.AMap Position Rat} (h : QEquiv cur g q)
    (hnd : (q.map Prod.fst).Nodup) : qtyIn g (q.map (fun e => keyGo cur e.1)) = q := by
  have := Knut.AMap.visited_map_conv h.lookup hnd
  rw [Knut.AMap.keys, List.map_map] at this
  rw [qtyIn_eq, show (fun e : Position × Rat => keyGo cur e.1) = keyGo cur ∘ (·.1) from rfl, this, List.map_map]
  exact List.map_id' _

/-- … and that order reaches every key of the Go map -/
theorem self_order_covers (cur : String → Bool) {g : amounts.Amounts} {q : Knut.AMap Position Rat} (h : QEquiv cur g q) :
    ∀ k, (Knut.AMap.find? g k).isSome → k ∈ q.map (fun e => keyGo cur e.1) := by
  intro k hk
  obtain ⟨p, rfl⟩ := h.keys k hk
  rw [h.lookup] at hk
  obtain ⟨x, hx⟩ := Option.isSome_iff_exists.mp hk
  exact List.mem_map.mpr ⟨(p, x), TransCheck.mem_of_find? hx, rfl⟩

/-- non-vacuity: 10 USD at the day's price 2 are valued at 20 CHF and the asset position is recorded -/
example : journal.Valuate.Posting ⟨"CHF", false⟩ ⟨[], [(⟨"USD", false⟩, 2)], []⟩ GoZero.zero
    (postingGo (fun _ => false) ⟨0⟩ ⟨⟨["Assets", "A"]⟩, ⟨["Income", "B"]⟩, "USD", 10, 0⟩) =
    (⟨[], [(⟨"USD", false⟩, 2)], [(keyGo (fun _ => false) (⟨["Assets", "A"]⟩, "USD"), 10)]⟩,
      postingGo (fun _ => false) ⟨0⟩ ⟨⟨["Assets", "A"]⟩, ⟨["Income", "B"]⟩, "USD", 10, 20⟩, none) := by decide +kernel

/-- non-vacuity: the price of USD rose from 2 to 3: the open position of 10 USD gets one value adjustment of 10 CHF -/
example : ((journal.Valuate.DayStart ⟨"CHF", false⟩
      ⟨[(⟨"USD", false⟩, 2)], [], [(keyGo (fun _ => false) (⟨["Assets", "A"]⟩, "USD"), 10)]⟩
      { (GoZero.zero : journal.Day) with Date := 7, Normalized := [(⟨"USD", false⟩, 3)] }
      (fun a => accountGo (valuationAccountFor ⟨a.segments⟩))
      [keyGo (fun _ => false) (⟨["Assets", "A"]⟩, "USD")]).2.1.Transactions.map
        (fun t => (t.Description, t.Postings.map (fun p => (p.Account.name, p.Value))))) =
    [("Adjust value of USD in account Assets:A", [("Income:A", -10), ("Assets:A", 10)])] := by decide +kernel

/-- non-vacuity: a missing price fails the day -/
example : (journal.Valuate.Posting ⟨"CHF", false⟩ ⟨[], [], []⟩ GoZero.zero
    (postingGo (fun _ => false) ⟨0⟩ ⟨⟨["Assets", "A"]⟩, ⟨["Income", "B"]⟩, "USD", 10, 0⟩)).2.2 =
    some ⟨"no price found for %v in %v"⟩ := by decide +kernel

/-- non-vacuity: without `--close` there is no processor; with it, a closing day closes an accumulated expense -/
example : journal.CloseAccounts.init GoZero.zero false GoZero.zero [] (accountGo equityAccount) = none := by decide +kernel
example : ((journal.CloseAccounts.DayStart
      ⟨[(7, ())], accountGo equityAccount, [(keyGo (fun _ => false) (⟨["Expenses", "Food"]⟩, "CHF"), 5)], []⟩
      { (GoZero.zero : journal.Day) with Date := 7 } [keyGo (fun _ => false) (⟨["Expenses", "Food"]⟩, "CHF")]).2.1.Transactions.map
        (fun t => (t.Description, t.Postings.map (fun p => (p.Account.name, p.Quantity))))) =
    [("Closing account Expenses:Food in CHF", [("Expenses:Food", -5), ("Equity:Equity", 5)])] := by decide +kernel

end Knut.FactsAgree.TransProcess
