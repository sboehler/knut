import Knut.Proofs.PipelineInv
import Knut.Proofs.PipelineProgress
import Knut.Proofs.PipelineErrors
import Knut.FactsAgree.TransProcess
/-!
# The sequential meaning of `Journal.Process(p1 … pn)` on the translated closures

`Journal.Process` (lib/journal/journal.go) hands the days to `cpr.Seq(ctx, j.Days, p1.Process, …, pn.Process)`: one goroutine per
processor, unbuffered channels.  `cpr.Seq` is **not translated** (goroutines, channels).  Its meaning is taken from the transition
system `Knut.Pipeline` (`Model/Pipeline.lean`): by `C19.C19_confluent` EVERY schedule of that system that ends successfully delivers
exactly `Pipeline.seqRun S` — stage 1 over all days in order, then stage 2 over the output of stage 1, … .  This module makes the
instantiation explicit (this stays a stated modelling step):

* a stage function is `stageOf (processDay proc)`: the translated closures of ONE processor folded over a day in the order of
  `Processor.Process` (`TransProcess.processDay`), an error value, a panic and `outOfFuel` all being failures of the stage (`PErr`);
* `Pipeline.Sys` wants ONE type of private stage states: the record of the states of all processors of the call, stage `k` reads and
  writes its own field only (`liftStage`);
* a processor that is nil (`ComputePrices(nil)`, `Valuate(reg, nil)`, `CloseAccounts(…, false, …)`) is left out by `Journal.Process`:
  here the identity stage `idStage`, which passes every day on unchanged (`seqStage_id`).
-/
namespace Knut.FactsAgree.TransProcessAll
open Knut Knut.GoSem Knut.Pipeline
open Knut.Generated.Go
open Knut.FactsAgree.TransProcess

/-- why a stage stopped: the error value a callback returned, a Go panic, or the translation's fuel ran out -/
inductive PErr where
  | err (e : Error)
  | panic (msg : String)
  | outOfFuel

/-- a translated per-day function as a stage function of `Pipeline.Sys` -/
def stageOf {σ : Type} (f : DayStep σ) : σ → journal.Day → Except PErr (σ × journal.Day) := fun st d =>
  match f st d with
  | .ok (st', d', none) => .ok (st', d')
  | .ok (_, _, some e) => .error (.err e)
  | .panic m => .error (.panic m)
  | .outOfFuel => .error .outOfFuel

theorem stageOf_ok {σ : Type} {f : DayStep σ} {st st' : σ} {d d' : journal.Day} (h : f st d = .ok (st', d', none)) :
    stageOf f st d = .ok (st', d') := by
  unfold stageOf; rw [h]

theorem Agree.stage {σ ρ ε : Type} {Q : σ → journal.Day → ρ → Prop} {E : σ → journal.Day → Error → ε → Prop} {f : DayStep σ} {g : σ}
    {dg : journal.Day} {m : Except ε ρ} (h : Agree Q E (f g dg) m) :
    ESim (fun r a => Q r.1 r.2 a ∧ f g dg = .ok (r.1, r.2, none)) (fun _ _ => True) (stageOf f g dg) m := by
  unfold stageOf
  generalize f g dg = r at h ⊢
  cases h with
  | ok hq => exact .ok ⟨hq, rfl⟩
  | error _ => exact .error trivial

variable {σ τ ρ α ε : Type}

/-- the stage of a nil processor -/
def idStage : σ → α → Except ε (σ × α) := fun s a => .ok (s, a)

theorem seqStage_nil (f : σ → α → Except ε (σ × α)) (s : σ) : seqStage f s ([] : List α) = some [] := rfl

theorem seqStage_cons (f : σ → α → Except ε (σ × α)) (s : σ) (a : α) (l : List α) :
    seqStage f s (a :: l) =
      match f s a with
      | .ok (s', a') => (seqStage f s' l).map (a' :: ·)
      | .error _ => none := by
  unfold seqStage
  simp only [List.length_cons]
  cases hf : f s a with
  | error e => rw [proc_cons_error l hf]; rfl
  | ok r =>
    obtain ⟨s', a'⟩ := r
    rw [proc_cons_ok l hf]
    simp only
    cases proc f s' l l.length <;> rfl

theorem seqStage_id (s : σ) : ∀ l : List α, seqStage (idStage (ε := ε)) s l = some l := by
  intro l
  induction l with
  | nil => rfl
  | cons a l ih => rw [seqStage_cons]; simp [idStage, ih]

/-- two stages on one item, with the pair of their private states -/
def fuse (f : σ → α → Except ε (σ × α)) (g : τ → α → Except ε (τ × α)) : σ × τ → α → Except ε ((σ × τ) × α) := fun st a =>
  match f st.1 a with
  | .error e => .error e
  | .ok (s', a') =>
    match g st.2 a' with
    | .error e => .error e
    | .ok (t', a'') => .ok ((s', t'), a'')

theorem except_ok_bind {β : Type} (a : α) (f : α → Except ε β) : (Except.ok a >>= f) = f a := rfl

/-- two fused stages are one after the other: a day through the stages of a command is a chain of `>>=`, as the model's day is -/
theorem fuse_eq_bind (f : σ → α → Except ε (σ × α)) (g : τ → α → Except ε (τ × α)) (s : σ) (t : τ) (a : α) :
    fuse f g (s, t) a = f s a >>= fun r => g t r.2 >>= fun r' => pure ((r.1, r'.1), r'.2) := by
  unfold fuse
  cases f s a with
  | error e => rfl
  | ok r =>
    obtain ⟨s', a'⟩ := r
    dsimp only
    show _ = (g t a' >>= fun r' => pure ((s', r'.1), r'.2))
    cases g t a' <;> rfl

/-- **stage-major = item-major**: stage `f` over all items, then stage `g` over its whole output, succeeds exactly when `f` then `g`
on every item in turn does, with the same output -/
theorem seqStage_fuse (f : σ → α → Except ε (σ × α)) (g : τ → α → Except ε (τ × α)) :
    ∀ (l : List α) (s : σ) (t : τ), (seqStage f s l).bind (seqStage g t) = seqStage (fuse f g) (s, t) l := by
  intro l
  induction l with
  | nil => intro s t; rfl
  | cons a l ih =>
    intro s t
    rw [seqStage_cons, seqStage_cons]
    unfold fuse
    cases hf : f s a with
    | error e => simp
    | ok r =>
      obtain ⟨s', a'⟩ := r
      simp only
      cases hg : g t a' with
      | error e =>
        simp only
        cases seqStage f s' l with
        | none => rfl
        | some o => simp [seqStage_cons, hg]
      | ok r2 =>
        obtain ⟨t', a''⟩ := r2
        simp only
        have := ih s' t'
        unfold fuse at this
        rw [← this]
        cases seqStage f s' l with
        | none => rfl
        | some o => simp [seqStage_cons, hg]

/-- a stage that reads and writes one field of a record of states -/
def liftStage (get : ρ → σ) (set : ρ → σ → ρ) (f : σ → α → Except ε (σ × α)) : ρ → α → Except ε (ρ × α) := fun S a =>
  match f (get S) a with
  | .ok (s', a') => .ok (set S s', a')
  | .error e => .error e

theorem seqStage_lift (get : ρ → σ) (set : ρ → σ → ρ) (hgs : ∀ S s, get (set S s) = s) (f : σ → α → Except ε (σ × α)) :
    ∀ (l : List α) (S : ρ), seqStage (liftStage get set f) S l = seqStage f (get S) l := by
  intro l
  induction l with
  | nil => intro S; rfl
  | cons a l ih =>
    intro S
    rw [seqStage_cons, seqStage_cons]
    cases hf : f (get S) a with
    | error e => simp [liftStage, hf]
    | ok r =>
      obtain ⟨s', a'⟩ := r
      have : liftStage get set f S a = .ok (set S s', a') := by simp [liftStage, hf]
      rw [this]
      simp only
      rw [ih, hgs]

/-- the item-major run spelled out: the state after all items and the items as they leave -/
def runDays (f : σ → α → Except ε (σ × α)) : σ → List α → Except ε (σ × List α)
  | s, [] => .ok (s, [])
  | s, a :: l =>
    match f s a with
    | .error e => .error e
    | .ok (s', a') =>
      match runDays f s' l with
      | .error e => .error e
      | .ok (s'', l') => .ok (s'', a' :: l')

/-- the stage-major reading of one stage IS the item-major run, the final state and the error forgotten -/
theorem seqStage_eq_runDays (f : σ → α → Except ε (σ × α)) :
    ∀ (l : List α) (s : σ), seqStage f s l = (runDays f s l).toOption.map (·.2)
  | [], _ => rfl
  | a :: l, s => by
    rw [seqStage_cons, runDays]
    cases f s a with
    | error e => rfl
    | ok r =>
      simp only [seqStage_eq_runDays f l r.1]
      cases runDays f r.1 l <;> rfl

theorem seqStage_of_runDays {f : σ → α → Except ε (σ × α)} :
    ∀ {l : List α} {s s' : σ} {out : List α}, runDays f s l = .ok (s', out) → seqStage f s l = some out := by
  intro l s s' out h
  rw [seqStage_eq_runDays, h]; rfl

theorem runDays_of_seqStage {f : σ → α → Except ε (σ × α)} :
    ∀ {l : List α} {s : σ} {out : List α}, seqStage f s l = some out → ∃ s', runDays f s l = .ok (s', out) := by
  intro l s out h
  rw [seqStage_eq_runDays] at h
  cases hr : runDays f s l with
  | error e => rw [hr] at h; cases h
  | ok r => rw [hr] at h; cases h; exact ⟨r.1, rfl⟩

theorem runDays_error_of_seqStage {f : σ → α → Except ε (σ × α)} {l : List α} {s : σ}
    (h : seqStage f s l = none) : ∃ e, runDays f s l = .error e := by
  rw [seqStage_eq_runDays] at h
  cases hr : runDays f s l with
  | error e => exact ⟨e, rfl⟩
  | ok r => rw [hr] at h; cases h

/-! ### what every successful schedule of `cpr.Seq` delivers is `seqRun` (`Pipeline.done_seqRun`, the statement of `C19.C19_confluent`) -/

theorem seq_meaning {S : Sys σ α ε} {s : St σ α ε} (h : Reach S s) (hd : s.done S) : seqRun S = some s.out :=
  done_seqRun (inv_reach h) hd

end Knut.FactsAgree.TransProcessAll
