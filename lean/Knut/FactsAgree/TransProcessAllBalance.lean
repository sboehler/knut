import Knut.FactsAgree.TransProcessAllCheck
import Knut.Proofs.Relist
import Knut.FactsAgree.TransBalanceCmd
import Knut.FactsAgree.TransProcessAll
/-!
# `knut balance`: `j.Build().Process(check, ComputePrices, Valuate, Filter, CloseAccounts, Query.Into)` over a WHOLE journal

The processor list is the one `cmd/commands/balance.go` builds (`TransBalanceCmd.processors_pinned`, `processorOrder_pinned`; the order
and the way the slice reaches `Process` are also pinned by `FactsAgree/ProcOrderBalance`, `ProcOrder.balanceOrder_eq`).
`processAllBalance` is its sequential meaning: `Pipeline.seqRun` of the system `balanceSys` — six stages, stage `k` = the translated
closures of the `k`-th processor folded over a day by `Processor.Process` (`TransProcess.processDay`), working on its own field of the
record `BalGo` of captured states; a nil processor (`ComputePrices(nil)`, `Valuate(reg, nil)`, `CloseAccounts(…, false, …)`) is the identity
stage.  That `cpr.Seq` (goroutines, channels: not translated) delivers `seqRun` on every successful schedule is `C19.C19_confluent`; taking
`seqRun` as the meaning of `Journal.Process` is the stated modelling step.  The links that the commands share (`prices_bind`,
`check_bind`, `valuate_bind`, with `FuelOK`, `stageOf_inv`, `dayOf`, `relist_of_QEquiv`) stand in this module as well: the transcode and
portfolio compositions and `Properties/C12Go2` import it for them.

MAP ITERATION ORDER.  `Valuate.DayStart` and `CloseAccounts.DayStart` range over a Go map; the model keeps these maps as association
lists and its result (the ORDER of the value adjustments / closing transactions of a day) depends on the order of the list.  The theorems
hold for EVERY family of iteration orders (`oV`, `oC`, `ord`: arbitrary functions of the stage's state and the day / directive that
reach every key): the model's run is then the run in which, before each day, the two association lists are re-listed in the order Go
iterates (`RunOrd`: lookup-equivalent lists — `Relist`).  `Balance.run` itself is the instance in which nothing is re-listed
(`RunOrd_of_run`); without valuation and closing no map is ranged over and `RunOrd` IS `Balance.run` (`run_of_RunOrd`).  The properties
C01 / C02 are proved for every `RunOrd` (`Properties/C01Go2.lean`, `C02Go2.lean`).
-/
namespace Knut.FactsAgree.TransProcessAll
open Knut Knut.GoSem Knut.Pipeline
open Knut.Generated.Go
open Knut.FactsAgree.TransProcess Knut.FactsAgree.TransCheck Knut.FactsAgree.TransBalanceCmd
open Knut.FactsAgree.TransAccount (accountGo)
open Knut.FactsAgree.TransPrice (cGo)
open Knut.FactsAgree.TransQuery (entryOf)

/-- the captured states of the six processors -/
structure BalGo where
  chk : check.Checker
  cp : journal.ComputePrices.State
  va : journal.Valuate.State
  fi : journal.Filter.State
  cl : journal.CloseAccounts.State
  qu : journal.Query.Into.State

/-- what the processors are built from, and the parameters the translation makes explicit -/
structure BalPar where
  val : Option commodity.Commodity                       -- `valuation` (nil: no `ComputePrices`, no `Valuate`)
  ext1 : account.Account → account.Account               -- `reg.Accounts().ValuationAccountFor`
  part : date.Partition
  closeOn : Bool                                         -- `r.close`
  ord : check.Checker → close.Close → List amounts.Key   -- iteration order of `Checker.close`
  fuel : journal.ComputePrices.State → journal.Day → Nat -- fuel of `Prices.Normalize`
  oV : journal.Valuate.State → journal.Day → List amounts.Key        -- iteration order of `Valuate.DayStart`
  oC : journal.CloseAccounts.State → journal.Day → List amounts.Key  -- iteration order of `CloseAccounts.DayStart`

abbrev Stage (σ : Type) := σ → journal.Day → Except PErr (σ × journal.Day)

def stCheck (P : BalPar) : Stage check.Checker := stageOf (processDay (checkProc P.ord))
def stPrices (P : BalPar) : Stage journal.ComputePrices.State :=
  match P.val with
  | none => idStage
  | some v => stageOf (fun st d => processDay (computePricesProc v (P.fuel st d)) st d)
def stValuate (P : BalPar) : Stage journal.Valuate.State :=
  match P.val with
  | none => idStage
  | some v => stageOf (fun st d => processDay (valuateProc v P.ext1 (P.oV st d)) st d)
def stFilter (P : BalPar) : Stage journal.Filter.State := stageOf (processDay (filterProc P.part))
def stClose (P : BalPar) : Stage journal.CloseAccounts.State :=
  if P.closeOn then stageOf (fun st d => processDay (closeProc (P.oC st d)) st d) else idStage
def stQuery : Stage journal.Query.Into.State := stageOf (processDay queryProc)

/-- **the instantiation of `Pipeline.Sys`** for `Process(check.Check(), ComputePrices(v), Valuate(reg, v), Filter(part),
CloseAccounts(j, reg, close, part), Query{…}.Into(report))` -/
def balanceSys (P : BalPar) (G0 : BalGo) (days : List journal.Day) : Sys BalGo journal.Day PErr :=
  { n := 6, init := fun _ => G0, items := days,
    f := fun k =>
      match k with
      | 1 => liftStage BalGo.chk (fun S s => { S with chk := s }) (stCheck P)
      | 2 => liftStage BalGo.cp (fun S s => { S with cp := s }) (stPrices P)
      | 3 => liftStage BalGo.va (fun S s => { S with va := s }) (stValuate P)
      | 4 => liftStage BalGo.fi (fun S s => { S with fi := s }) (stFilter P)
      | 5 => liftStage BalGo.cl (fun S s => { S with cl := s }) (stClose P)
      | 6 => liftStage BalGo.qu (fun S s => { S with qu := s }) stQuery
      | _ => idStage }

/-- **the sequential meaning of `Journal.Process` for `knut balance`**: the days as they leave the last stage, `none` if a stage failed -/
def processAllBalance (P : BalPar) (G0 : BalGo) (days : List journal.Day) : Option (List journal.Day) :=
  seqRun (balanceSys P G0 days)

/-- every successful schedule of the transition system of `cpr.Seq` delivers `processAllBalance` (`C19_confluent`) -/
theorem processAllBalance_meaning (P : BalPar) (G0 : BalGo) (days : List journal.Day)
    {s : St BalGo journal.Day PErr} (h : Reach (balanceSys P G0 days) s) (hd : s.done (balanceSys P G0 days)) :
    processAllBalance P G0 days = some s.out := seq_meaning h hd

abbrev FusedState := ((((check.Checker × journal.ComputePrices.State) × journal.Valuate.State) × journal.Filter.State) ×
  journal.CloseAccounts.State) × journal.Query.Into.State

def fusedBalance (P : BalPar) : FusedState → journal.Day → Except PErr (FusedState × journal.Day) :=
  fuse (fuse (fuse (fuse (fuse (stCheck P) (stPrices P)) (stValuate P)) (stFilter P)) (stClose P)) stQuery

def fusedInit (G0 : BalGo) : FusedState := (((((G0.chk, G0.cp), G0.va), G0.fi), G0.cl), G0.qu)

theorem seqStage_lift' {σ ρ α ε : Type} (get : ρ → σ) (set : ρ → σ → ρ) (hgs : ∀ S s, get (set S s) = s)
    (f : σ → α → Except ε (σ × α)) (S : ρ) : seqStage (liftStage get set f) S = seqStage f (get S) :=
  funext fun l => seqStage_lift get set hgs f l S

/-- **stage-major = day-major** -/
theorem processAllBalance_eq (P : BalPar) (G0 : BalGo) (days : List journal.Day) :
    processAllBalance P G0 days = seqStage (fusedBalance P) (fusedInit G0) days := by
  unfold processAllBalance seqRun balanceSys fusedBalance fusedInit
  simp only [seqUpTo, Option.bind_some]
  rw [seqStage_lift' BalGo.chk _ (fun _ _ => rfl), seqStage_lift' BalGo.cp _ (fun _ _ => rfl),
    seqStage_lift' BalGo.va _ (fun _ _ => rfl), seqStage_lift' BalGo.fi _ (fun _ _ => rfl),
    seqStage_lift' BalGo.cl _ (fun _ _ => rfl), seqStage_lift' BalGo.qu _ (fun _ _ => rfl)]
  rw [seqStage_fuse, seqStage_fuse, seqStage_fuse, seqStage_fuse, seqStage_fuse]

theorem stageOf_inv {σ : Type} {f : DayStep σ} {st st' : σ} {d d' : journal.Day} (h : stageOf f st d = .ok (st', d')) :
    f st d = .ok (st', d', none) := by
  unfold stageOf at h
  rcases hf : f st d with ⟨g', x', _ | e'⟩ | msg | _ <;> rw [hf] at h <;> simp at h
  rw [h.1, h.2]

/-- the model's run in which, before each day, `vQty` (the map `Valuate.DayStart` ranges over) and `cQty` (`CloseAccounts.DayStart`)
are re-listed; without valuation / closing the lists are left alone -/
inductive RunOrd (cfg : BalCfg) : BalState → List Knut.Day → BalState → Prop
  | nil (st : BalState) : RunOrd cfg st [] st
  | cons {st st1 st2 : BalState} {d : Knut.Day} {ds : List Knut.Day} (vq cq : Knut.AMap Position Rat) :
      Relist st.vQty vq → Relist st.cQty cq → (cfg.valuation = none → vq = st.vQty) → (cfg.close = false → cq = st.cQty) →
      Balance.day cfg { st with vQty := vq, cQty := cq } d = .ok st1 → RunOrd cfg st1 ds st2 → RunOrd cfg st (d :: ds) st2

/-- the re-listed run of the model fails (on its first day, or later): the counterpart of `RunOrd` -/
inductive RunFail (cfg : BalCfg) : BalState → List Knut.Day → Prop
  | here {st : BalState} {d : Knut.Day} {ds : List Knut.Day} {e : BalErr} (vq cq : Knut.AMap Position Rat) :
      Relist st.vQty vq → Relist st.cQty cq → (cfg.valuation = none → vq = st.vQty) → (cfg.close = false → cq = st.cQty) →
      Balance.day cfg { st with vQty := vq, cQty := cq } d = .error e → RunFail cfg st (d :: ds)
  | later {st st1 : BalState} {d : Knut.Day} {ds : List Knut.Day} (vq cq : Knut.AMap Position Rat) :
      Relist st.vQty vq → Relist st.cQty cq → (cfg.valuation = none → vq = st.vQty) → (cfg.close = false → cq = st.cQty) →
      Balance.day cfg { st with vQty := vq, cQty := cq } d = .ok st1 → RunFail cfg st1 ds → RunFail cfg st (d :: ds)

/-- `Balance.run` is the run that re-lists nothing -/
theorem RunOrd_of_run (cfg : BalCfg) : ∀ (days : List Knut.Day) (st st' : BalState),
    days.foldlM (Balance.day cfg) st = .ok st' → RunOrd cfg st days st' := by
  intro days
  induction days with
  | nil => intro st st' h; simp only [List.foldlM_nil, pure, Except.pure] at h; injection h with h; subst h; exact .nil _
  | cons d ds ih =>
    intro st st' h
    simp only [List.foldlM_cons, bind, Except.bind] at h
    cases hd : Balance.day cfg st d with
    | error e => rw [hd] at h; cases h
    | ok st1 =>
      rw [hd] at h
      exact .cons st.vQty st.cQty (fun _ => rfl) (fun _ => rfl) (fun _ => rfl) (fun _ => rfl) hd (ih st1 st' h)

/-- without valuation and closing no map is ranged over: the re-listed run is `Balance.run` -/
theorem run_of_RunOrd (cfg : BalCfg) (hv : cfg.valuation = none) (hc : cfg.close = false) :
    ∀ (days : List Knut.Day) (st st' : BalState), RunOrd cfg st days st' → days.foldlM (Balance.day cfg) st = .ok st' := by
  intro days st st' h
  induction h with
  | nil st => rfl
  | cons vq cq _ _ h1 h2 hd _ ih =>
    rw [h1 hv, h2 hc] at hd
    simp only [List.foldlM_cons, bind, Except.bind]
    rw [hd]
    exact ih

/-- the fuel handed to `Prices.Normalize` on a day is at least the model's termination measure -/
def FuelOK (cur : String → Bool) (v : Knut.Commodity) (fuel : journal.ComputePrices.State → journal.Day → Nat) : Prop :=
  ∀ (g : journal.ComputePrices.State) (dg : journal.Day) (graph : Prices.Prices) (norm : Option Prices.NPrices) (d : Knut.Day),
    CPEquiv cur g graph norm → AllRel (PriceRel cur) dg.Prices d.prices →
    ∀ graph', insertPrices graph d.prices = .ok graph' → Prices.unvisited graph' [(v, 1)] + 1 ≤ fuel g dg

/-- what relates the parameters of the Go processors to the model's configuration -/
structure ParOK (cur : String → Bool) (cfg : BalCfg) (P : BalPar) (q : journal.Query) : Prop where
  val : P.val = cfg.valuation.map (cGo cur)
  ext1 : ∀ a : Knut.Account, P.ext1 (accountGo a) = accountGo (valuationAccountFor a)
  part : ∃ part : Knut.Partition, P.part = TransDate.partitionGo part ∧ part.span = cfg.span
  close : P.closeOn = cfg.close
  ord : OrdOK P.ord
  fuel : ∀ v, cfg.valuation = some v → FuelOK cur v P.fuel
  oV : ∀ g dg k, (Knut.AMap.find? g.quantities k).isSome → k ∈ P.oV g dg
  oC : ∀ g dg k, (Knut.AMap.find? g.quantities k).isSome → k ∈ P.oC g dg
  query : PostingOK cfg cur q

/-- the captured states of the six processors stand for the model state -/
structure BalInv (cur : String → Bool) (cfg : BalCfg) (q : journal.Query) (G : FusedState) (st : BalState) : Prop where
  chk : StEquiv cur G.1.1.1.1.1 st.chk
  cp : cfg.valuation.isSome → CPEquiv cur G.1.1.1.1.2 st.graph st.norm
  va : cfg.valuation.isSome → ∃ old, VEquiv cur G.1.1.1.2 st.vPrev old st.vQty
  cl : cfg.close = true → CEquiv cur G.1.2 (cfg.periods.map (·.start)) st.cQty st.cVal
  qu : G.2.query = q
  log : G.2.c.filterMap entryOf = st.entries

/-- the transactions that reach the query stage are booked on accounts that start with a type word (the registry creates no others) -/
def QueryWf (cfg : BalCfg) (d : Knut.Day) : Prop :=
  ∀ (st0 st1 : BalState) (txs : List Knut.Transaction), Balance.dayTxs cfg st0 d = .ok (st1, txs) →
    ∀ t ∈ txs, ∀ p ∈ t.postings, p.account.wf = true

theorem day_of_parts (cfg : BalCfg) (st0 : BalState) (d : Knut.Day) (c : CheckState) (s2 : BalState) (txs : List Knut.Transaction)
    (h1 : Check.day st0.chk d = .ok c) (h2 : Balance.valuationStage cfg { st0 with chk := c } d = .ok (s2, txs)) :
    Balance.dayTxs cfg st0 d = .ok (Balance.closeStage cfg s2 d (Balance.filterStage cfg d txs)) ∧
    Balance.day cfg st0 d = .ok { (Balance.closeStage cfg s2 d (Balance.filterStage cfg d txs)).1 with
      entries := (Balance.closeStage cfg s2 d (Balance.filterStage cfg d txs)).1.entries ++
        (Balance.closeStage cfg s2 d (Balance.filterStage cfg d txs)).2.flatMap (Balance.queryTx cfg) } := by
  have hx : Balance.dayTxs cfg st0 d = .ok (Balance.closeStage cfg s2 d (Balance.filterStage cfg d txs)) := by
    unfold Balance.dayTxs Balance.checkStage
    simp only [h1, bind, Except.bind, h2]
  refine ⟨hx, ?_⟩
  unfold Balance.day
  simp only [hx, bind, Except.bind]


theorem valuateDay_fields {v : Knut.Commodity} {st s2 : BalState} {d : Knut.Day} {txs : List Knut.Transaction}
    (h : Balance.valuateDay v st d = .ok (s2, txs)) :
    s2.chk = st.chk ∧ s2.graph = st.graph ∧ s2.norm = st.norm ∧ s2.cQty = st.cQty ∧ s2.cVal = st.cVal ∧ s2.entries = st.entries := by
  obtain ⟨adj, _, _, (rfl : s2 = _)⟩ := Balance.valuateDay_ok.mp h
  exact ⟨rfl, rfl, rfl, rfl, rfl, rfl⟩

theorem pricesDay_fields {v : Knut.Commodity} {st sp : BalState} {d : Knut.Day} (h : Balance.pricesDay v st d = .ok sp) :
    sp.chk = st.chk ∧ sp.vPrev = st.vPrev ∧ sp.vQty = st.vQty ∧ sp.cQty = st.cQty ∧ sp.cVal = st.cVal ∧ sp.entries = st.entries := by
  obtain ⟨g, _, rfl⟩ := Balance.pricesDay_ok.mp h
  exact ⟨rfl, rfl, rfl, rfl, rfl, rfl⟩

theorem closeStage_fields (cfg : BalCfg) (s : BalState) (d : Knut.Day) (txs : List Knut.Transaction) :
    (Balance.closeStage cfg s d txs).1 =
      { s with cQty := (Balance.closeStage cfg s d txs).1.cQty, cVal := (Balance.closeStage cfg s d txs).1.cVal } := by
  rw [Balance.closeStage_eq]; rfl

theorem relist_of_QEquiv {cur : String → Bool} {g : amounts.Amounts} {q : Knut.AMap Position Rat} (h : QEquiv cur g q)
    (o : List amounts.Key) (hcov : ∀ k, (Knut.AMap.find? g k).isSome → k ∈ o) : Relist q (qtyIn g o) := by
  intro p
  rw [← (QEquiv_qtyIn h o hcov).lookup, h.lookup]

/-- the day a result of `Processor.Process` hands on, `dflt` when there is none -/
def dayOf {σ : Type} (r : GoSem.Outcome (σ × journal.Day × Option Error)) (dflt : journal.Day) : journal.Day :=
  match r with
  | .ok (_, d', _) => d'
  | _ => dflt

/-! ### The stages the commands share, each as a link of a chain

A command's day is `fuse … (fuse s₁ s₂) …` of its stages, by `fuse_eq_bind` a chain `s₁ >>= fun r₁ => s₂ … >>= …`, and so is the model's
day.  Each lemma takes ONE stage off both chains: whatever follows (`k`, `m'`) is simulated if it is from every pair of results of the
stage that stand for each other; when the stage fails, so does the model's step.  The commands differ in the order of the links only. -/

section links
variable {cur : String → Bool} {v : Knut.Commodity} {X Y : Type} {Q' : X → Y → Prop}

/-- `ComputePrices` against `Balance.pricesDay` -/
theorem prices_bind {fuel : journal.ComputePrices.State → journal.Day → Nat} (hfuel : FuelOK cur v fuel)
    {g : journal.ComputePrices.State} {st : BalState} (h : CPEquiv cur g st.graph st.norm) {dg : journal.Day} {d : Knut.Day}
    (hps : AllRel (PriceRel cur) dg.Prices d.prices)
    {k : journal.ComputePrices.State × journal.Day → Except PErr X} {m' : BalState → Except BalErr Y}
    (hk : ∀ g' sp, CPEquiv cur g' sp.graph sp.norm →
      processDay (computePricesProc (cGo cur v) (fuel g dg)) g dg = .ok (g', { dg with Normalized := g'.previous }, none) →
      Balance.pricesDay v st d = .ok sp → ESim Q' (fun _ _ => True) (k (g', { dg with Normalized := g'.previous })) (m' sp)) :
    ESim Q' (fun _ _ => True)
      (stageOf (fun st d => processDay (computePricesProc (cGo cur v) (fuel st d)) st d) g dg >>= k) (Balance.pricesDay v st d >>= m') := by
  refine (Agree.stage (f := fun st d => processDay (computePricesProc (cGo cur v) (fuel st d)) st d)
    (ComputePrices_day_agree cur v (fuel g dg) st h dg d hps (fun graph' hg => hfuel g dg _ _ d h hps graph' hg))).and_eq.bind
    fun r sp hQ => ?_
  obtain ⟨g', x⟩ := r
  dsimp only at hQ
  obtain ⟨⟨⟨hcp, rfl, _, _⟩, hr⟩, _, hpd⟩ := hQ
  exact hk g' sp hcp hr hpd

/-- the checker against `Balance.checkStage`: the day goes on as it is -/
theorem check_bind {ord : check.Checker → close.Close → List amounts.Key} (ho : OrdOK ord) {g : check.Checker} {st : BalState}
    (h : StEquiv cur g st.chk) {dg : journal.Day} {d : Knut.Day} (hd : DayRel cur dg d)
    {k : check.Checker × journal.Day → Except PErr X} {m' : BalState → Except BalErr Y}
    (hk : ∀ g' c, StEquiv cur g' c → Check.day st.chk d = .ok c → stageOf (processDay (checkProc ord)) g dg = .ok (g', dg) →
      ESim Q' (fun _ _ => True) (k (g', dg)) (m' { st with chk := c })) :
    ESim Q' (fun _ _ => True) (stageOf (processDay (checkProc ord)) g dg >>= k) (Balance.checkStage st d >>= m') := by
  have key := Agree.stage (f := processDay (checkProc ord)) (Check_day_agree cur ho h dg d hd)
  unfold Balance.checkStage
  generalize hM : Check.day st.chk d = M at key ⊢
  generalize hS : stageOf (processDay (checkProc ord)) g dg = S at key hk ⊢
  cases key with
  | @ok r _ hq =>
    obtain ⟨g', x⟩ := r
    obtain ⟨⟨hst, rfl⟩, _⟩ := hq
    exact hk _ _ hst hM rfl
  | error _ => exact .error trivial

/-- `Valuate` against `Balance.valuateDay`, from a model state whose `vQty` is listed in the order `DayStart` iterates on this day -/
theorem valuate_bind {ext1 : account.Account → account.Account}
    (hext : ∀ a : Knut.Account, ext1 (accountGo a) = accountGo (valuationAccountFor a))
    {oV : journal.Valuate.State → journal.Day → List amounts.Key}
    (hoV : ∀ g dg k, (Knut.AMap.find? g.quantities k).isSome → k ∈ oV g dg)
    {g : journal.Valuate.State} {st : BalState} {old : Option Prices.NPrices} {q : Knut.AMap Position Rat}
    (h : VEquiv cur g st.vPrev old q) {dg : journal.Day} {d : Knut.Day} (hq : st.vQty = qtyIn g.quantities (oV g dg))
    (hd : dg.Date = d.date) (hn : NPEquivO cur dg.Normalized st.norm) (htx : AllRel (TRel cur) dg.Transactions d.transactions)
    {k : journal.Valuate.State × journal.Day → Except PErr X} {m' : BalState × List Knut.Transaction → Except BalErr Y}
    (hk : ∀ g' l s txs, VEquiv cur g' s.vPrev st.norm s.vQty → AllRel (TRel cur) l txs → Balance.valuateDay v st d = .ok (s, txs) →
      stageOf (fun st d => processDay (valuateProc (cGo cur v) ext1 (oV st d)) st d) g dg = .ok (g', { dg with Transactions := l }) →
      ESim Q' (fun _ _ => True) (k (g', { dg with Transactions := l })) (m' (s, txs))) :
    ESim Q' (fun _ _ => True)
      (stageOf (fun st d => processDay (valuateProc (cGo cur v) ext1 (oV st d)) st d) g dg >>= k) (Balance.valuateDay v st d >>= m') := by
  have B := Valuate_day_agree cur v ext1 hext st h (oV g dg) (hoV g dg) dg d hd hn htx
  rw [← hq] at B
  refine (Agree.stage (f := fun st d => processDay (valuateProc (cGo cur v) ext1 (oV st d)) st d) B).and_eq.bind fun r m hQ => ?_
  obtain ⟨g', x⟩ := r
  obtain ⟨s, txs⟩ := m
  dsimp only at hQ
  obtain ⟨⟨⟨hv, l, rfl, hl⟩, hr⟩, _, hvd⟩ := hQ
  exact hk g' l s txs hv hl hvd (stageOf_ok hr)

end links

/-- the model's `vQty` re-listed in the order `Valuate.DayStart` iterates on the day as `ComputePrices` hands it on; left alone
without valuation -/
theorem relisted_vQty {cur : String → Bool} {cfg : BalCfg} {P : BalPar} {q : journal.Query} (hP : ParOK cur cfg P q)
    {gv : journal.Valuate.State} {s1 : BalState} (hva : cfg.valuation.isSome → ∃ old, VEquiv cur gv s1.vPrev old s1.vQty)
    (gp : journal.ComputePrices.State) (dg : journal.Day) :
    ∃ vq, Relist s1.vQty vq ∧ (cfg.valuation = none → vq = s1.vQty) ∧ ∀ v, cfg.valuation = some v →
      vq = qtyIn gv.quantities (P.oV gv (dayOf (processDay (computePricesProc (cGo cur v) (P.fuel gp dg)) gp dg) dg)) := by
  cases hv : cfg.valuation with
  | none => exact ⟨s1.vQty, fun _ => rfl, fun _ => rfl, fun _ h => by cases h⟩
  | some v =>
    obtain ⟨old, hve⟩ := hva (by rw [hv]; rfl)
    exact ⟨_, relist_of_QEquiv hve.qty _ (hP.oV gv _), (fun h => by cases h), fun _ h => by cases h; rfl⟩

/-- **stages 2 and 3** (`ComputePrices`, `Valuate`; both nil without valuation) as a link, against `Balance.valuationStage` from a
model state `s` whose `vQty` is listed in the order `Valuate.DayStart` iterates: `prices_bind` then `valuate_bind`, or nothing -/
theorem valuation_bind {cur : String → Bool} {cfg : BalCfg} {P : BalPar} {q : journal.Query} (hP : ParOK cur cfg P q)
    {gp : journal.ComputePrices.State} {gv : journal.Valuate.State} {s : BalState}
    (hcp : cfg.valuation.isSome → CPEquiv cur gp s.graph s.norm)
    (hva : cfg.valuation.isSome → ∃ old q0, VEquiv cur gv s.vPrev old q0) {dg : journal.Day} {d : Knut.Day} (hd : DayRel cur dg d)
    (hvq : ∀ v, cfg.valuation = some v →
      s.vQty = qtyIn gv.quantities (P.oV gv (dayOf (processDay (computePricesProc (cGo cur v) (P.fuel gp dg)) gp dg) dg)))
    {X Y : Type} {Q' : X → Y → Prop}
    {k : journal.ComputePrices.State × journal.Day → journal.Valuate.State × journal.Day → Except PErr X}
    {m' : BalState × List Knut.Transaction → Except BalErr Y}
    (hk : ∀ gp' gv' dg2 dg3 s2 txs, (cfg.valuation.isSome → CPEquiv cur gp' s2.graph s2.norm) →
      (cfg.valuation.isSome → ∃ old, VEquiv cur gv' s2.vPrev old s2.vQty) →
      s2.chk = s.chk ∧ s2.cQty = s.cQty ∧ s2.cVal = s.cVal ∧ s2.entries = s.entries → dg3.Date = dg.Date →
      AllRel (TRel cur) dg3.Transactions txs → Balance.valuationStage cfg s d = .ok (s2, txs) →
      stPrices P gp dg = .ok (gp', dg2) → stValuate P gv dg2 = .ok (gv', dg3) →
      ESim Q' (fun _ _ => True) (k (gp', dg2) (gv', dg3)) (m' (s2, txs))) :
    ESim Q' (fun _ _ => True) (stPrices P gp dg >>= fun r1 => stValuate P gv r1.2 >>= fun r2 => k r1 r2)
      (Balance.valuationStage cfg s d >>= m') := by
  have hval := hP.val
  cases hv : cfg.valuation with
  | none =>
    rw [hv] at hval
    have hm : Balance.valuationStage cfg s d = .ok (s, d.transactions) := by unfold Balance.valuationStage; simp only [hv]
    have h2 : stPrices P gp dg = .ok (gp, dg) := by unfold stPrices; rw [hval]; rfl
    have h3 : stValuate P gv dg = .ok (gv, dg) := by unfold stValuate; rw [hval]; rfl
    rw [h2, except_ok_bind, h3, hm]
    exact hk gp gv dg dg s d.transactions (fun h => by rw [hv] at h; cases h) (fun h => by rw [hv] at h; cases h) ⟨rfl, rfl, rfl, rfl⟩ rfl
      hd.transactions hm h2 h3
  | some v =>
    rw [hv] at hval
    have hsome : cfg.valuation.isSome = true := by rw [hv]; rfl
    obtain ⟨old, q0, hve⟩ := hva hsome
    have hm : ∀ s, Balance.valuationStage cfg s d = Balance.pricesDay v s d >>= fun sp => Balance.valuateDay v sp d := by
      intro s; unfold Balance.valuationStage; simp only [hv]
    have hst : stPrices P = stageOf (fun st d => processDay (computePricesProc (cGo cur v) (P.fuel st d)) st d) := by
      unfold stPrices; rw [hval]; rfl
    have hsv : stValuate P = stageOf (fun st d => processDay (valuateProc (cGo cur v) P.ext1 (P.oV st d)) st d) := by
      unfold stValuate; rw [hval]; rfl
    rw [hst, hsv] at hk ⊢
    simp only [hm, bind_assoc]
    refine prices_bind (hP.fuel v hv) (hcp hsome) hd.prices fun gp' sp hcp1 hr2 hpd => ?_
    dsimp only
    obtain ⟨p1, hvp, hvq', p4, p5, p6⟩ := pricesDay_fields hpd
    have hd2 := hd.normalized gp'.previous
    refine valuate_bind hP.ext1 hP.oV (hvp ▸ hve) (hvq'.trans ((hvq v hv).trans (by rw [hr2]; rfl))) hd2.date hcp1.previous
      hd2.transactions fun gv' l s2 txs hv2 hl hvd hr3 => ?_
    obtain ⟨f1, f2, f3, f4, f5, f6⟩ := valuateDay_fields hvd
    exact hk gp' gv' _ _ s2 txs (fun _ => f2 ▸ f3 ▸ hcp1) (fun _ => ⟨_, hv2⟩) ⟨f1.trans p1, f4.trans p4, f5.trans p5, f6.trans p6⟩ rfl hl
      (by rw [hm, hpd]; exact hvd) (stageOf_ok hr2) hr3

/-- **stages 2 and 3** (`ComputePrices`, `Valuate`; both nil without valuation) on one day = `Balance.valuationStage`, the model's
`vQty` re-listed in the order `Valuate.DayStart` iterates -/
theorem valuation_segment (cur : String → Bool) (cfg : BalCfg) (P : BalPar) (q : journal.Query) (hP : ParOK cur cfg P q)
    {gp gp' : journal.ComputePrices.State} {gv gv' : journal.Valuate.State} (s1 : BalState)
    (hcp : cfg.valuation.isSome → CPEquiv cur gp s1.graph s1.norm)
    (hva : cfg.valuation.isSome → ∃ old, VEquiv cur gv s1.vPrev old s1.vQty)
    (dg dg2 dg3 : journal.Day) (d : Knut.Day) (hd : DayRel cur dg d)
    (h2 : stPrices P gp dg = .ok (gp', dg2)) (h3 : stValuate P gv dg2 = .ok (gv', dg3)) :
    ∃ vq s2 txs, Relist s1.vQty vq ∧ (cfg.valuation = none → vq = s1.vQty) ∧
      Balance.valuationStage cfg { s1 with vQty := vq } d = .ok (s2, txs) ∧
      (cfg.valuation.isSome → CPEquiv cur gp' s2.graph s2.norm) ∧
      (cfg.valuation.isSome → ∃ old, VEquiv cur gv' s2.vPrev old s2.vQty) ∧
      s2.chk = s1.chk ∧ s2.cQty = s1.cQty ∧ s2.cVal = s1.cVal ∧ s2.entries = s1.entries ∧
      dg3.Date = dg.Date ∧ AllRel (TRel cur) dg3.Transactions txs := by
  obtain ⟨vq, hrel, hvn, hvq⟩ := relisted_vQty hP hva gp dg
  have key := valuation_bind (s := { s1 with vQty := vq }) (k := fun a b => pure (a.1, b.1, b.2)) (m' := pure) hP hcp
    (fun h => (hva h).imp fun _ h => ⟨_, h⟩) hd hvq
    (Q' := fun r m => (cfg.valuation.isSome → CPEquiv cur r.1 m.1.graph m.1.norm) ∧
      (cfg.valuation.isSome → ∃ old, VEquiv cur r.2.1 m.1.vPrev old m.1.vQty) ∧
      (m.1.chk = s1.chk ∧ m.1.cQty = s1.cQty ∧ m.1.cVal = s1.cVal ∧ m.1.entries = s1.entries) ∧
      r.2.2.Date = dg.Date ∧ AllRel (TRel cur) r.2.2.Transactions m.2)
    (fun _ _ _ _ _ _ a b c e f _ _ _ => .ok ⟨a, b, c, e, f⟩)
  simp only [h2, h3, except_ok_bind, bind_pure] at key
  obtain ⟨⟨s2, txs⟩, hm, a, b, c, e, f⟩ := key.of_ok
  exact ⟨vq, s2, txs, hrel, hvn, hm, a, b, c.1, c.2.1, c.2.2.1, c.2.2.2, e, f⟩

/-- **stage 5** (`CloseAccounts`; nil without `--close`) on one day = `Balance.closeStage`, for a model state whose `cQty` is listed in
the order `CloseAccounts.DayStart` iterates -/
theorem close_segment (cur : String → Bool) (cfg : BalCfg) (P : BalPar) (q : journal.Query) (hP : ParOK cur cfg P q)
    {gc gc' : journal.CloseAccounts.State} (s2 : BalState) {q0 : Knut.AMap Position Rat}
    (hcl : cfg.close = true → CEquiv cur gc (cfg.periods.map (·.start)) q0 s2.cVal)
    (dg4 dg5 : journal.Day) (d : Knut.Day) (hd : dg4.Date = d.date) (txs : List Knut.Transaction)
    (htx : AllRel (TRel cur) dg4.Transactions txs)
    (hs : cfg.close = true → s2.cQty = qtyIn gc.quantities (P.oC gc dg4))
    (h5 : stClose P gc dg4 = .ok (gc', dg5)) :
    (cfg.close = true → CEquiv cur gc' (cfg.periods.map (·.start)) (Balance.closeStage cfg s2 d txs).1.cQty
      (Balance.closeStage cfg s2 d txs).1.cVal) ∧
    dg5.Date = dg4.Date ∧ AllRel (TRel cur) dg5.Transactions (Balance.closeStage cfg s2 d txs).2 := by
  unfold stClose at h5
  rw [hP.close] at h5
  by_cases hc : cfg.close = true
  · simp only [hc, if_true] at h5
    have h5' := stageOf_inv h5
    obtain ⟨g', l, hgo, hl, hce⟩ := CloseAccounts_day_agrees cur cfg hc s2 (hcl hc) (P.oC gc dg4) (hP.oC gc dg4) dg4 d hd txs htx
    rw [← hs hc] at hl hce
    rw [h5'] at hgo
    injection hgo with hgo
    injection hgo with e1 e2
    injection e2 with e2 _
    subst e1 e2
    exact ⟨fun _ => hce, rfl, hl⟩
  · simp only [hc, Bool.false_eq_true, if_false, idStage, Except.ok.injEq, Prod.mk.injEq] at h5
    obtain ⟨rfl, rfl⟩ := h5
    have hc' : cfg.close = false := by simpa using hc
    refine ⟨fun h => absurd h hc, rfl, ?_⟩
    unfold Balance.closeStage
    simp only [hc', Bool.false_eq_true, if_false]
    exact htx

theorem fusedBalance_eq (P : BalPar) (g1 : check.Checker) (g2 : journal.ComputePrices.State) (g3 : journal.Valuate.State)
    (g4 : journal.Filter.State) (g5 : journal.CloseAccounts.State) (g6 : journal.Query.Into.State) (dg : journal.Day) :
    fusedBalance P (((((g1, g2), g3), g4), g5), g6) dg =
      match stCheck P g1 dg with
      | .error e => .error e
      | .ok (g1', a1) =>
        match stPrices P g2 a1 with
        | .error e => .error e
        | .ok (g2', a2) =>
          match stValuate P g3 a2 with
          | .error e => .error e
          | .ok (g3', a3) =>
            match stFilter P g4 a3 with
            | .error e => .error e
            | .ok (g4', a4) =>
              match stClose P g5 a4 with
              | .error e => .error e
              | .ok (g5', a5) =>
                match stQuery g6 a5 with
                | .error e => .error e
                | .ok (g6', a6) => .ok ((((((g1', g2'), g3'), g4'), g5'), g6'), a6) := by
  unfold fusedBalance
  cases h1 : stCheck P g1 dg with
  | error e => simp only [fuse, h1]
  | ok r1 =>
    obtain ⟨g1', a1⟩ := r1
    cases h2 : stPrices P g2 a1 with
    | error e => simp only [fuse, h1, h2]
    | ok r2 =>
      obtain ⟨g2', a2⟩ := r2
      cases h3 : stValuate P g3 a2 with
      | error e => simp only [fuse, h1, h2, h3]
      | ok r3 =>
        obtain ⟨g3', a3⟩ := r3
        cases h4 : stFilter P g4 a3 with
        | error e => simp only [fuse, h1, h2, h3, h4]
        | ok r4 =>
          obtain ⟨g4', a4⟩ := r4
          cases h5 : stClose P g5 a4 with
          | error e => simp only [fuse, h1, h2, h3, h4, h5]
          | ok r5 =>
            obtain ⟨g5', a5⟩ := r5
            cases h6 : stQuery g6 a5 with
            | error e => simp only [fuse, h1, h2, h3, h4, h5, h6]
            | ok r6 => simp only [fuse, h1, h2, h3, h4, h5, h6]

theorem stCheck_cases (cur : String → Bool) (P : BalPar) (ho : OrdOK P.ord) {g : check.Checker} {st : CheckState}
    (h : StEquiv cur g st) (dg : journal.Day) (d : Knut.Day) (hd : DayRel cur dg d) :
    (∃ g' c, stCheck P g dg = .ok (g', dg) ∧ Check.day st d = .ok c ∧ StEquiv cur g' c) ∨
    (∃ e e', stCheck P g dg = .error e ∧ Check.day st d = .error e') := by
  have key := (Agree.stage (f := processDay (checkProc P.ord)) (Check_day_agree cur ho h dg d hd)).and_eq
  unfold stCheck
  generalize stageOf (processDay (checkProc P.ord)) g dg = S at key ⊢
  generalize Check.day st d = M at key ⊢
  cases key with
  | @ok r c hq =>
    obtain ⟨g', x⟩ := r
    obtain ⟨⟨⟨hg, rfl⟩, _⟩, _⟩ := hq
    exact .inl ⟨g', c, rfl, rfl, hg⟩
  | error _ => exact .inr ⟨_, _, rfl, rfl⟩

/-- the day a stage hands on, `dflt` when it failed -/
def dayOr {σ : Type} (r : Except PErr (σ × journal.Day)) (dflt : journal.Day) : journal.Day :=
  match r with
  | .ok (_, d') => d'
  | .error _ => dflt

/-- **one day through the six translated stages against `Balance.day`** of the model, from the state whose `vQty` / `cQty` are
re-listed in the orders `Valuate.DayStart` / `CloseAccounts.DayStart` iterate: both succeed and the new states are related again, or
both fail.  Only `check`, `ComputePrices` and `Valuate` can fail; `Filter`, `CloseAccounts` and `Query.Into` cannot -/
theorem balance_day_sim (cur : String → Bool) (cfg : BalCfg) (P : BalPar) (q : journal.Query) (hP : ParOK cur cfg P q)
    {G : FusedState} {st : BalState} (hI : BalInv cur cfg q G st)
    (dg : journal.Day) (d : Knut.Day) (hd : DayRel cur dg d) (hwf : QueryWf cfg d) :
    ∃ vq cq, Relist st.vQty vq ∧ Relist st.cQty cq ∧ (cfg.valuation = none → vq = st.vQty) ∧ (cfg.close = false → cq = st.cQty) ∧
      match fusedBalance P G dg, Balance.day cfg { st with vQty := vq, cQty := cq } d with
      | .ok (G', _), .ok st1 => BalInv cur cfg q G' st1
      | .error _, .error _ => True
      | _, _ => False := by
  obtain ⟨⟨⟨⟨⟨g1, g2⟩, g3⟩, g4⟩, g5⟩, g6⟩ := G
  have hcp : cfg.valuation.isSome → CPEquiv cur g2 st.graph st.norm := hI.cp
  have hva : cfg.valuation.isSome → ∃ old, VEquiv cur g3 st.vPrev old st.vQty := hI.va
  have hclI : cfg.close = true → CEquiv cur g5 (cfg.periods.map (·.start)) st.cQty st.cVal := hI.cl
  -- `cQty` re-listed in the order `CloseAccounts.DayStart` iterates on the day that reaches it
  generalize hX :
    dayOr (fuse (fuse (fuse (stCheck P) (stPrices P)) (stValuate P)) (stFilter P) (((g1, g2), g3), g4) dg) dg = dg4
  obtain ⟨cq, hrc, hcn, hcy⟩ : ∃ cq, Relist st.cQty cq ∧ (cfg.close = false → cq = st.cQty) ∧
      (cfg.close = true → cq = qtyIn g5.quantities (P.oC g5 dg4)) := by
    by_cases hcl : cfg.close = true
    · exact ⟨_, relist_of_QEquiv (hclI hcl).qty _ (hP.oC g5 dg4), (fun h => by rw [hcl] at h; cases h), fun _ => rfl⟩
    · exact ⟨st.cQty, fun _ => rfl, fun _ => rfl, fun h => absurd h hcl⟩
  obtain ⟨vq, hrv, hvn, hvq⟩ := relisted_vQty hP hva g2 dg
  refine ⟨vq, cq, hrv, hrc, hvn, hcn, ?_⟩
  have key : ESim (fun r st1 => BalInv cur cfg q r.1 st1) (fun _ _ => True) (fusedBalance P (((((g1, g2), g3), g4), g5), g6) dg)
      (Balance.day cfg { st with vQty := vq, cQty := cq } d) := by
    simp only [fusedBalance, fuse_eq_bind, bind_assoc, pure_bind, Balance.day, Balance.dayTxs, stCheck]
    refine check_bind (st := { st with vQty := vq, cQty := cq }) hP.ord hI.chk hd fun g1' c hchk hc h1 => ?_
    dsimp only
    refine valuation_bind (s := { st with chk := c, vQty := vq, cQty := cq }) hP hcp (fun h => (hva h).imp fun _ h => ⟨_, h⟩) hd hvq
      fun g2' g3' dg2 dg3 s2 txs hcp' hva' hfr hdate3 htx3 hvs h2 h3 => ?_
    obtain ⟨e1, e2, e3, e4⟩ := hfr
    obtain ⟨part, hpart, hspan⟩ := hP.part
    obtain ⟨l4, hf, htx4⟩ := Filter_day_agrees cur cfg part hspan g4 dg3 d (by rw [hdate3]; exact hd.date) txs htx3
    have h4 : stFilter P g4 dg3 = .ok (g4, { dg3 with Transactions := l4 }) := by
      unfold stFilter; rw [hpart]; exact stageOf_ok hf
    have hX4 : dg4 = { dg3 with Transactions := l4 } := by
      rw [← hX]; simp only [fuse, stCheck, h1, h2, h3, h4, dayOr]
    subst hX4
    have hdate4 : ({ dg3 with Transactions := l4 } : journal.Day).Date = d.date := by
      show dg3.Date = d.date; rw [hdate3]; exact hd.date
    obtain ⟨g5', dg5, h5⟩ : ∃ g5' dg5, stClose P g5 { dg3 with Transactions := l4 } = .ok (g5', dg5) := by
      unfold stClose
      rw [hP.close]
      by_cases hcl : cfg.close = true
      · simp only [hcl, if_true]
        obtain ⟨g', l, hgo5, _, _⟩ := CloseAccounts_day_agrees cur cfg hcl s2 (q := st.cQty) (by rw [e3]; exact hclI hcl)
          (P.oC g5 { dg3 with Transactions := l4 }) (hP.oC g5 _) { dg3 with Transactions := l4 } d hdate4
          (Balance.filterStage cfg d txs) htx4
        exact ⟨g', _, stageOf_ok hgo5⟩
      · simp only [hcl, Bool.false_eq_true, if_false, idStage]
        exact ⟨_, _, rfl⟩
    obtain ⟨hce, _, htx5⟩ := close_segment cur cfg P q hP s2 (q0 := st.cQty) (fun h => by rw [e3]; exact hclI h)
      { dg3 with Transactions := l4 } dg5 d hdate4 (Balance.filterStage cfg d txs) htx4 (fun h => by rw [e2]; exact hcy h) h5
    have hx := day_of_parts cfg { st with vQty := vq, cQty := cq } d c s2 txs hc hvs
    obtain ⟨g6', hq6, hqq, hlog⟩ := query_day_model hP.query g6 hI.qu dg5 _ htx5 (hwf _ _ _ hx.1)
    simp only [h4, h5, stageOf_ok hq6, stQuery, except_ok_bind]
    have hfld := closeStage_fields cfg s2 d (Balance.filterStage cfg d txs)
    generalize Balance.closeStage cfg s2 d (Balance.filterStage cfg d txs) = r at hfld hce hlog ⊢
    rw [hfld]
    refine .ok ⟨?_, hcp', hva', hce, hqq, ?_⟩
    · show StEquiv cur g1' s2.chk
      rw [e1]; exact hchk
    · show g6'.c.filterMap entryOf = s2.entries ++ _
      rw [hlog, hI.log, e4]
  exact ESim.casesOn key (fun hq => hq) (fun _ => trivial)

/-- **one day through the six translated stages = `Balance.day`** of the model, from the state whose `vQty` / `cQty` are re-listed in the
orders `Valuate.DayStart` / `CloseAccounts.DayStart` iterate: when the Go stages succeed the model's day succeeds and the new states
are related again -/
theorem balance_day_agrees (cur : String → Bool) (cfg : BalCfg) (P : BalPar) (q : journal.Query) (hP : ParOK cur cfg P q)
    {G G' : FusedState} {st : BalState} (hI : BalInv cur cfg q G st)
    (dg dg' : journal.Day) (d : Knut.Day) (hd : DayRel cur dg d) (hwf : QueryWf cfg d)
    (hgo : fusedBalance P G dg = .ok (G', dg')) :
    ∃ vq cq st1, Relist st.vQty vq ∧ Relist st.cQty cq ∧ (cfg.valuation = none → vq = st.vQty) ∧ (cfg.close = false → cq = st.cQty) ∧
      Balance.day cfg { st with vQty := vq, cQty := cq } d = .ok st1 ∧ BalInv cur cfg q G' st1 := by
  obtain ⟨vq, cq, r1, r2, r3, r4, h⟩ := balance_day_sim cur cfg P q hP hI dg d hd hwf
  rw [hgo] at h
  cases hm : Balance.day cfg { st with vQty := vq, cQty := cq } d with
  | error e => rw [hm] at h; exact h.elim
  | ok st1 => rw [hm] at h; exact ⟨vq, cq, st1, r1, r2, r3, r4, hm, h⟩

abbrev DaysRel (cur : String → Bool) (gdays : List journal.Day) (days : List Knut.Day) : Prop := AllRel (DayRel cur) gdays days

theorem balance_runDays_sim (cur : String → Bool) (cfg : BalCfg) (P : BalPar) (q : journal.Query) (hP : ParOK cur cfg P q) :
    ∀ (days : List Knut.Day) (gdays : List journal.Day), DaysRel cur gdays days → (∀ d ∈ days, QueryWf cfg d) →
      ∀ (G : FusedState) (st : BalState), BalInv cur cfg q G st →
        match runDays (fusedBalance P) G gdays with
        | .ok (G', _) => ∃ st', RunOrd cfg st days st' ∧ BalInv cur cfg q G' st'
        | .error _ => RunFail cfg st days := by
  intro days gdays hrel
  induction hrel with
  | nil => intro _ G st hI; exact ⟨st, .nil _, hI⟩
  | @cons dg d gds ds hd _ ih =>
    intro hwf G st hI
    obtain ⟨vq, cq, r1, r2, r3, r4, h⟩ := balance_day_sim cur cfg P q hP hI dg d hd (hwf d List.mem_cons_self)
    simp only [runDays]
    cases hf : fusedBalance P G dg with
    | error e =>
      rw [hf] at h
      cases hm : Balance.day cfg { st with vQty := vq, cQty := cq } d with
      | ok st1 => rw [hm] at h; exact h.elim
      | error e' => exact RunFail.here vq cq r1 r2 r3 r4 hm
    | ok r =>
      obtain ⟨G1, dg'⟩ := r
      rw [hf] at h
      cases hm : Balance.day cfg { st with vQty := vq, cQty := cq } d with
      | error e' => rw [hm] at h; exact h.elim
      | ok st1 =>
        rw [hm] at h
        have := ih (fun d' hd' => hwf d' (List.mem_cons_of_mem _ hd')) G1 st1 h
        revert this
        dsimp only
        cases runDays (fusedBalance P) G1 gds with
        | error e => exact fun hfail => RunFail.later vq cq r1 r2 r3 r4 hm hfail
        | ok r2' => exact fun ⟨st', hrun, hI'⟩ => ⟨st', RunOrd.cons vq cq r1 r2 r3 r4 hm hrun, hI'⟩

theorem balance_runDays_agrees (cur : String → Bool) (cfg : BalCfg) (P : BalPar) (q : journal.Query) (hP : ParOK cur cfg P q) :
    ∀ (days : List Knut.Day) (gdays : List journal.Day), DaysRel cur gdays days → (∀ d ∈ days, QueryWf cfg d) →
      ∀ (G G' : FusedState) (st : BalState) (out : List journal.Day), BalInv cur cfg q G st →
        runDays (fusedBalance P) G gdays = .ok (G', out) → ∃ st', RunOrd cfg st days st' ∧ BalInv cur cfg q G' st' := by
  intro days gdays hrel hwf G G' st out hI h
  have := balance_runDays_sim cur cfg P q hP days gdays hrel hwf G st hI
  rw [h] at this
  exact this

/-- **`Journal.Process` of `knut balance` over a whole journal = the model's run** (`Balance.run`, its two association lists re-listed
before each day in the order Go iterates: `RunOrd`): whenever the sequential run of the six translated stages succeeds — for EVERY
admissible family of iteration orders and fuels (`ParOK`) — the model's run succeeds on the days the Go days stand for, and the final
captured states stand for the model's final state; in particular the entries `Report.Insert` keeps of the log of `Query.Into` are
`st.entries`.  PARTIAL: the success direction only; that a failing run of the stages is a failing run of the model is
`processAllBalance_fails` (`TransProcessAllBalance2`). -/
theorem processAllBalance_agrees_partial (cur : String → Bool) (cfg : BalCfg) (P : BalPar) (q : journal.Query) (hP : ParOK cur cfg P q)
    (G0 : BalGo) (hinit : BalInv cur cfg q (fusedInit G0) {}) (gdays : List journal.Day) (days : List Knut.Day)
    (hdays : DaysRel cur gdays days) (hwf : ∀ d ∈ days, QueryWf cfg d) (out : List journal.Day)
    (h : processAllBalance P G0 gdays = some out) :
    ∃ G' st, runDays (fusedBalance P) (fusedInit G0) gdays = .ok (G', out) ∧ RunOrd cfg {} days st ∧ BalInv cur cfg q G' st ∧
      G'.2.c.filterMap entryOf = st.entries := by
  rw [processAllBalance_eq] at h
  obtain ⟨G', hr⟩ := runDays_of_seqStage h
  obtain ⟨st, hrun, hI⟩ := balance_runDays_agrees cur cfg P q hP days gdays hdays hwf _ G' {} out hinit hr
  exact ⟨G', st, hr, hrun, hI, hI.log⟩

/-- the states the six constructors start from stand for the model's initial state -/
theorem BalInv_init (cur : String → Bool) (cfg : BalCfg) (q : journal.Query) (gf : journal.Filter.State)
    (gc : journal.CloseAccounts.State) (hgc : cfg.close = true → CEquiv cur gc (cfg.periods.map (·.start)) [] []) :
    BalInv cur cfg q (fusedInit ⟨checkInit, ⟨GoZero.zero, []⟩, ⟨GoZero.zero, GoZero.zero, []⟩, gf, gc, { query := q, c := [] }⟩) {} :=
  ⟨checkInit_equiv cur, fun _ => ⟨TransPrice.PEquivS_nil cur, NPEquivO_nil cur⟩,
    fun _ => ⟨none, NPEquivO_nil cur, NPEquivO_nil cur, QEquiv_nil cur⟩, hgc, rfl, rfl⟩

end Knut.FactsAgree.TransProcessAll
