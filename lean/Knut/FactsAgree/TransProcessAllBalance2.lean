import Knut.FactsAgree.TransProcessAllBalance
/-!
# `knut balance` over a whole journal: the FAILURE direction, and the two directions together

`processAllBalance_agrees_partial` (FactsAgree/TransProcessAllBalance) says: the sequential run of the six translated stages succeeds ⇒ the model's
(re-listed) run succeeds with the same entries.  This module adds the converse from the failure half of `balance_day_sim`
(`balance_day_fails`) and of `balance_runDays_sim`: a failing run of the stages is a failing re-listed run of the model
(`processAllBalance_fails`; `RunFail` is the counterpart of `RunOrd`), and states the two halves as one theorem,
**`processAllBalance_agrees`**.
-/
namespace Knut.FactsAgree.TransProcessAll
open Knut Knut.GoSem Knut.Pipeline
open Knut.Generated.Go
open Knut.FactsAgree.TransProcess Knut.FactsAgree.TransCheck Knut.FactsAgree.TransBalanceCmd
open Knut.FactsAgree.TransAccount (accountGo)
open Knut.FactsAgree.TransPrice (cGo)
open Knut.FactsAgree.TransQuery (entryOf)

/-- **a failing day**: when one of the six translated stages fails, the model's day fails (from the state re-listed as Go iterates) -/
theorem balance_day_fails (cur : String → Bool) (cfg : BalCfg) (P : BalPar) (q : journal.Query) (hP : ParOK cur cfg P q)
    {G : FusedState} {st : BalState} (hI : BalInv cur cfg q G st)
    (dg : journal.Day) (d : Knut.Day) (hd : DayRel cur dg d) (hwf : QueryWf cfg d) {e : PErr}
    (hgo : fusedBalance P G dg = .error e) :
    ∃ vq cq e', Relist st.vQty vq ∧ Relist st.cQty cq ∧ (cfg.valuation = none → vq = st.vQty) ∧ (cfg.close = false → cq = st.cQty) ∧
      Balance.day cfg { st with vQty := vq, cQty := cq } d = .error e' := by
  obtain ⟨vq, cq, r1, r2, r3, r4, h⟩ := balance_day_sim cur cfg P q hP hI dg d hd hwf
  rw [hgo] at h
  cases hm : Balance.day cfg { st with vQty := vq, cQty := cq } d with
  | error e' => exact ⟨vq, cq, e', r1, r2, r3, r4, hm⟩
  | ok st1 => rw [hm] at h; exact h.elim

/-- without valuation and closing no map is ranged over: a failing re-listed run is a failing `Balance.run` -/
theorem run_fails_of_RunFail (cfg : BalCfg) (hv : cfg.valuation = none) (hc : cfg.close = false) :
    ∀ (days : List Knut.Day) (st : BalState), RunFail cfg st days → ∃ e, days.foldlM (Balance.day cfg) st = .error e := by
  intro days st h
  induction h with
  | here vq cq _ _ h1 h2 hd =>
    rw [h1 hv, h2 hc] at hd
    exact ⟨_, by simp only [List.foldlM_cons, bind, Except.bind]; rw [hd]⟩
  | later vq cq _ _ h1 h2 hd _ ih =>
    rw [h1 hv, h2 hc] at hd
    obtain ⟨e, he⟩ := ih
    exact ⟨e, by simp only [List.foldlM_cons, bind, Except.bind]; rw [hd]; exact he⟩

/-- the Go sequential run fails ⇒ the model's (re-listed) run fails -/
theorem processAllBalance_fails (cur : String → Bool) (cfg : BalCfg) (P : BalPar) (q : journal.Query) (hP : ParOK cur cfg P q)
    (G0 : BalGo) (hinit : BalInv cur cfg q (fusedInit G0) {}) (gdays : List journal.Day) (days : List Knut.Day)
    (hdays : DaysRel cur gdays days) (hwf : ∀ d ∈ days, QueryWf cfg d)
    (h : processAllBalance P G0 gdays = none) : RunFail cfg {} days := by
  rw [processAllBalance_eq] at h
  obtain ⟨e, he⟩ := runDays_error_of_seqStage h
  have := balance_runDays_sim cur cfg P q hP days gdays hdays hwf _ {} hinit
  rw [he] at this
  exact this

/-- **`Journal.Process` of `knut balance` over a whole journal = the model's run, both directions** (`Balance.run`, its two
association lists re-listed before each day in the order Go iterates): for EVERY admissible family of iteration orders and fuels
(`ParOK`) the sequential run of the six translated stages succeeds ⇒ the model's run succeeds on the days the Go days stand for, the
final captured states stand for the model's final state and the entries `Report.Insert` keeps of the log of `Query.Into` are
`st.entries`; it fails ⇒ the model's run fails. -/
theorem processAllBalance_agrees (cur : String → Bool) (cfg : BalCfg) (P : BalPar) (q : journal.Query) (hP : ParOK cur cfg P q)
    (G0 : BalGo) (hinit : BalInv cur cfg q (fusedInit G0) {}) (gdays : List journal.Day) (days : List Knut.Day)
    (hdays : DaysRel cur gdays days) (hwf : ∀ d ∈ days, QueryWf cfg d) :
    match processAllBalance P G0 gdays with
    | some out => ∃ G' st, runDays (fusedBalance P) (fusedInit G0) gdays = .ok (G', out) ∧ RunOrd cfg {} days st ∧
        BalInv cur cfg q G' st ∧ G'.2.c.filterMap entryOf = st.entries
    | none => RunFail cfg {} days := by
  cases h : processAllBalance P G0 gdays with
  | some out => exact processAllBalance_agrees_partial cur cfg P q hP G0 hinit gdays days hdays hwf out h
  | none => exact processAllBalance_fails cur cfg P q hP G0 hinit gdays days hdays hwf h

end Knut.FactsAgree.TransProcessAll
