import Knut.FactsAgree.TransProcess
import Knut.FactsAgree.TransCheck
import Knut.FactsAgree.RelDay
/-!
# The checker as a processor: `check.Checker.Check()` folded over ONE day by `Processor.Process` = the model's `Check.day`

`(*Checker).Check()` (lib/journal/check/check.go) returns `&journal.Processor{Open: ch.open, Posting: ch.posting, Balance: ch.balance,
Close: ch.close}` (and `DayEnd` only with `Write`, which `balance`, `transcode` and `print` do not set, and `check` only under `--write`: that case
is not described here).  The four methods are
translated (`Generated/TransCheck.lean`) and proved equal to the model's steps in `FactsAgree/TransCheck.lean`; here they are put into the
shape `TransProcess.processDay` expects (`checkProc`: hand-written, as `Proc` itself) and folded over a Go day that stands for a model day
(`DayRel`: every `Src` pointer arbitrary): `Check_day_agree` (`Check_day_agrees` in the form of `SimStep`) — both succeed, in equivalent
states (`StEquiv`), the day is left as it is; or both fail.  `ord` is the iteration order of `range ch.quantities` in every call of `close`: ANY function of the state and the directive
that reaches every key of the map (`OrdOK`).

That `knut check` and `knut print` hand `Process` exactly this ONE processor (`checker.Check()` / `check.Check()`) is pinned by
`FactsAgree/ProcOrderCheck` and `ProcOrderPrint` (`ProcOrder.checkOrder_eq`, `printOrder_eq`).
-/
namespace Knut.FactsAgree.TransProcessAll
open Knut Knut.GoSem
open Knut.Generated.Go
open Knut.FactsAgree.TransProcess Knut.FactsAgree.TransCheck
open Knut.FactsAgree.TransAccount (accountGo)
open Knut.FactsAgree.TransPosting (postingGo commodityGo)

/-- a Go call that may update the captured state `σ` and its element against a step of the model: both succeed — related states,
the element as it was —, or both fail.  It is `TransProcess.Agree` specialised to callbacks that return their element unchanged
and to model steps whose result is the state, without a claim about the error value (`SimStep.of_agree`, `SimStep.agree`), written as
a `match` on the two results. -/
def SimStep {σ μ α ε' : Type} (R : σ → μ → Prop) (x : α) : GoSem.Outcome (σ × α × Option Error) → Except ε' μ → Prop
  | .ok (g', x', none), .ok st' => R g' st' ∧ x' = x
  | .ok (_, _, some _), .error _ => True
  | _, _ => False

variable {σ μ α β γ ε' : Type}

theorem SimStep.ok_of_ok {R : σ → μ → Prop} {x : α} {r : GoSem.Outcome (σ × α × Option Error)} {st' : μ}
    (h : SimStep (ε' := ε') R x r (.ok st')) : ∃ g', r = .ok (g', x, none) ∧ R g' st' := by
  rcases r with ⟨g', x', _ | e⟩ | m | _ <;> simp [SimStep] at h
  exact ⟨g', by rw [h.2], h.1⟩

theorem SimStep.of_agree {R : σ → μ → Prop} {E : σ → α → Error → ε' → Prop} {x : α} {r : GoSem.Outcome (σ × α × Option Error)}
    {m : Except ε' μ} (h : Agree (fun g' x' st' => R g' st' ∧ x' = x) E r m) : SimStep R x r m := by
  cases h with
  | ok hq => exact hq
  | error _ => trivial

theorem SimStep.agree {R : σ → μ → Prop} {x : α} {r : GoSem.Outcome (σ × α × Option Error)} {m : Except ε' μ}
    (h : SimStep R x r m) : Agree (fun g' x' st' => R g' st' ∧ x' = x) (fun _ _ _ _ => True) r m := by
  rcases r with ⟨g', x', _ | e⟩ | msg | _
  · cases m with
    | error _ => exact h.elim
    | ok _ => exact .ok h
  · cases m with
    | error _ => exact .error trivial
    | ok _ => exact h.elim
  · cases m <;> exact h.elim
  · cases m <;> exact h.elim

theorem forEachIn_back (R : σ → μ → Prop) (E : α → β → Prop) (f : σ → γ → α → GoSem.Outcome (σ × α × Option Error))
    (ctx : List α → γ) (m : μ → β → Except ε' μ) {E' : σ → α → β → σ → α → Error → ε' → Prop} {xs : List α} {ys : List β}
    (hr : AllRel E xs ys)
    (hstep : ∀ g st c x y, R g st → E x y → Agree (fun g' x' st' => R g' st' ∧ x' = x) (E' g x y) (f g c x) (m st y))
    (done : List α) (g : σ) (st : μ) (h : R g st) :
    Agree (fun g' l st' => R g' st' ∧ l = done ++ xs) (fun _ _ _ _ => True) (forEachIn f ctx g xs done) (ys.foldlM m st) :=
  forEachIn_foldlM (fun pre l g st => R g st ∧ l = done ++ pre) E (fun _ _ => True) f ctx m hr
    (fun pre l g st z x y _ hR hxy => (hstep g st (ctx z) x y hR.1 hxy).imp
      (fun g' x' st' hq => ⟨hq.1, by rw [hR.2, hq.2, List.append_assoc]⟩) fun _ _ _ _ _ => trivial) [] done g st
    ⟨h, (List.append_nil _).symm⟩

theorem forEachE_back (R : σ → μ → Prop) (E : α → β → Prop) (f : σ → α → GoSem.Outcome (σ × α × Option Error))
    (m : μ → β → Except ε' μ) {E' : σ → α → β → σ → α → Error → ε' → Prop} {xs : List α} {ys : List β} (hr : AllRel E xs ys)
    (hstep : ∀ g st x y, R g st → E x y → Agree (fun g' x' st' => R g' st' ∧ x' = x) (E' g x y) (f g x) (m st y))
    (done : List α) (g : σ) (st : μ) (h : R g st) :
    Agree (fun g' l st' => R g' st' ∧ l = done ++ xs) (fun _ _ _ _ => True) (forEachE f g xs done) (ys.foldlM m st) := by
  rw [TransProcess.forEachE_eq_forEachIn]
  exact forEachIn_back R E _ _ m hr (fun g st _ x y => hstep g st x y) done g st h

theorem forEachIn_sim (R : σ → μ → Prop) (E : α → β → Prop) (f : σ → γ → α → GoSem.Outcome (σ × α × Option Error))
    (ctx : List α → γ) (m : μ → β → Except ε' μ)
    (hstep : ∀ g st c x y, R g st → E x y → SimStep R x (f g c x) (m st y)) :
    ∀ (ys : List β) (xs done : List α) (g : σ) (st : μ), AllRel E xs ys → R g st →
      SimStep R (done ++ xs) (forEachIn f ctx g xs done) (ys.foldlM m st) := fun _ _ done g st hr h =>
  SimStep.of_agree (forEachIn_back R E f ctx m hr (fun g st c x y hR hxy => (hstep g st c x y hR hxy).agree) done g st h)

theorem andThen_sim {R : σ → μ → Prop} {f k : DayStep σ} {m1 : Except ε' μ} {m2 : μ → Except ε' μ} {g : σ} {d : journal.Day}
    (h1 : SimStep R d (f g d) m1) (h2 : ∀ g' st', R g' st' → SimStep R d (k g' d) (m2 st')) :
    SimStep R d ((f.andThen k) g d) (m1 >>= m2) :=
  SimStep.of_agree (Agree.andThen h1.agree fun g' d' a hq => by obtain ⟨hR, rfl⟩ := hq; exact (h2 g' a hR).agree)

theorem skip_sim {R : σ → μ → Prop} {g : σ} {st : μ} {d : journal.Day} (h : R g st) :
    SimStep (ε' := ε') R d (DayStep.skip g d) (.ok st) := by
  simp [DayStep.skip, SimStep, h]

/-- the processor `ch.Check()` returns (default options: no `DayEnd`) -/
def checkProc (ord : check.Checker → close.Close → List amounts.Key) : Proc check.Checker :=
  { Open := some fun st o => .ok ((check.Checker.open_ st o).1, o, (check.Checker.open_ st o).2),
    Posting := some fun st t p => .ok ((check.Checker.posting st t p).1, p, (check.Checker.posting st t p).2),
    Balance := some fun st a b => .ok (st, b, check.Checker.balance st a b),
    Close := some fun st c => .ok ((check.Checker.close st c (ord st c)).1, c, (check.Checker.close st c (ord st c)).2) }

/-- the iteration order of `range ch.quantities` in a call of `close` reaches every key of the map -/
def OrdOK (ord : check.Checker → close.Close → List amounts.Key) : Prop :=
  ∀ g c k, (Knut.AMap.find? g.quantities k).isSome → k ∈ ord g c

theorem Agree.field {δ : Type} {R : σ → μ → Prop} {l : List α} {r : GoSem.Outcome (σ × List α × Option Error)} {m : Except ε' μ}
    (d : δ) (upd : List α → δ) (hupd : upd l = d) (h : Agree (fun g' l' st' => R g' st' ∧ l' = l) (fun _ _ _ _ => True) r m) :
    Agree (fun g' d' st' => R g' st' ∧ d' = d) (fun _ _ _ _ => True) (r.bind fun r => GoSem.Outcome.ok (r.1, upd r.2.1, r.2.2)) m :=
  (h.mapL (E'' := fun _ _ _ _ => True) upd (fun _ _ _ _ _ => trivial)).imp
    (fun _ _ _ ⟨_, e, hR, e'⟩ => ⟨hR, by rw [e, e', hupd]⟩) (fun _ _ _ _ he => he)

theorem Agree.andThen_end {ρ : Type} {Q : σ → journal.Day → ρ → Prop} {E : σ → journal.Day → Error → ε' → Prop} {f : DayStep σ} {g : σ}
    {d : journal.Day} {m : Except ε' ρ} (h : Agree Q E (f g d) m) : Agree Q E ((f.andThen DayStep.skip) g d) m := by
  unfold DayStep.andThen DayStep.skip
  generalize f g d = r at h ⊢
  cases h with
  | ok h => exact .ok h
  | error h => exact .error h

/-- **the checker on one day**: `Processor.Process` with the four callbacks of `ch.Check()` = the model's `Check.day`, for every
admissible iteration order of `close`: both accept, the states equivalent and the day untouched, or both reject -/
theorem Check_day_agree (cur : String → Bool) {ord : check.Checker → close.Close → List amounts.Key} (ho : OrdOK ord)
    {g : check.Checker} {st : CheckState} (h : StEquiv cur g st) (dg : journal.Day) (d : Knut.Day) (hd : DayRel cur dg d) :
    Agree (fun g' dg' st' => StEquiv cur g' st' ∧ dg' = dg) (fun _ _ _ _ => True) (processDay (checkProc ord) g dg) (Check.day st d) := by
  unfold processDay Check.day
  -- no `DayStart`, no `Price`
  rw [andThen_skip _ _ _ _ rfl, andThen_skip _ _ _ _ rfl]
  -- `Open` on every opening
  refine Agree.andThen (Agree.field dg (fun l => { dg with Openings := l }) rfl
    (forEachE_back (StEquiv cur) OpenRel _ Check.openAcc hd.openings
      (fun g st x o hg hx => by have := open_agree cur hg x.Src o x; rwa [← hx] at this) [] g st h)) fun g1 d1 st1 hQ => ?_
  obtain ⟨h1, rfl⟩ := hQ
  -- `Posting` on every posting of every transaction
  refine Agree.andThen (Agree.field d1 (fun l => { d1 with Transactions := l }) rfl
    (forEachE_back (StEquiv cur) (TRel cur) _ (fun st t => t.postings.foldlM (fun st p => Check.posting st t p) st) hd.transactions
      (fun g st x t hg hx => Agree.field x (fun ps => { x with Postings := ps }) rfl
        (forEachIn_back (StEquiv cur) (PRel cur) _ _ (fun st p => Check.posting st t p) hx.2.2.1
          (fun g st c x p hg hx => by
            have := posting_agree cur hg c x.Src t p x
            rwa [← show x = postingGo cur x.Src p from hx] at this) [] g st hg))
      [] g1 st1 h1)) fun g2 d2 st2 hQ => ?_
  obtain ⟨h2, rfl⟩ := hQ
  -- `Balance` on every balance of every assertion
  refine Agree.andThen (Agree.field d2 (fun l => { d2 with Assertions := l }) rfl
    (forEachE_back (StEquiv cur) (AssertRel cur) _ (fun st a => a.balances.foldlM (fun st b => Check.balance st a b) st) hd.assertions
      (fun g st x a hg hx => Agree.field x (fun bs => { x with Balances := bs }) rfl
        (forEachIn_back (StEquiv cur) (BalRel cur) _ _ (fun st b => Check.balance st a b) hx.2
          (fun g st c x b hg hx => by
            have := (balance_agree cur hg c x.Src a b x).imp (Q₁ := fun g' x' st' => StEquiv cur g' st' ∧ x' = x)
              (fun _ _ _ hq => ⟨hq.1.1 ▸ hq.1.2 ▸ hg, hq.2⟩) fun _ _ _ _ he => he
            rwa [← show x = balanceGo cur x.Src b from hx] at this) [] g st hg))
      [] g2 st2 h2)) fun g3 d3 st3 hQ => ?_
  obtain ⟨h3, rfl⟩ := hQ
  -- `Close` on every closing; no `DayEnd`
  exact Agree.andThen_end (Agree.field d3 (fun l => { d3 with Closings := l }) rfl
    (forEachE_back (StEquiv cur) CloseRel _ Check.close hd.closings
      (fun g st x c hg hx => by have := close_agree cur hg x.Src c (ord g x) (ho g x) x; rwa [← hx] at this) [] g3 st3 h3))

theorem Check_day_agrees (cur : String → Bool) {ord : check.Checker → close.Close → List amounts.Key} (ho : OrdOK ord)
    {g : check.Checker} {st : CheckState} (h : StEquiv cur g st) (dg : journal.Day) (d : Knut.Day) (hd : DayRel cur dg d) :
    SimStep (StEquiv cur) dg (processDay (checkProc ord) g dg) (Check.day st d) :=
  SimStep.of_agree (Check_day_agree cur ho h dg d hd)

end Knut.FactsAgree.TransProcessAll
