import Knut.FactsAgree.TransProcessAllBalance
import Knut.FactsAgree.TransPerformanceDay
/-!
# `knut portfolio returns`: `j.Build().Process(ComputePrices, check, Valuate, ComputeValues, ComputeFlows, Perf)` over a WHOLE journal

The processor list is the one of `cmd/commands/portfolio/returns.go` (`execute`), in this order — written down by hand here and tied
by `FactsAgree/ProcOrderPortfolio` (`ProcOrder.returnsOrder_eq`) to the list extracted from the source on every run:

    journal.ComputePrices(valuation), check.Check(), journal.Valuate(reg, valuation),
    calculator.ComputeValues(), calculator.ComputeFlows(), performance.Perf(j, partition)

`processAllReturns` is its sequential meaning, `Pipeline.seqRun` of the system `returnsSys`: six stages, stage `k` = the translated
closures of the `k`-th processor folded over a day by `Processor.Process` (`TransProcess.processDay`), each on its own field of the record
`RetGo`; without `-v` the processors `ComputePrices(nil)` and `Valuate(reg, nil)` are nil and left out by `Journal.Process` (identity
stages).  That `cpr.Seq` (goroutines, channels: not translated) delivers `seqRun` on every successful schedule is `C19.C19_confluent`
(`processAllReturns_meaning`); taking `seqRun` as the meaning of `Journal.Process` is the stated modelling step of `TransProcessAll.lean`.

MAP ITERATION ORDER.  `Valuate.DayStart`, `ComputeValues.DayEnd` and `split` (in `ComputeFlows.Transaction`) range over Go maps.  The
orders are functions of the stage's state and the day that reaches the stage (`oV`, `oE`, `oS`), and the theorems hold for EVERY
admissible family (`RetParOK`).  As for `knut balance`, the model's result depends on the order in which `Valuate.DayStart` lists its
quantities: the model's run is the one in which `vQty` is re-listed before each day in the order Go iterates (`ValuedOrd`: a
lookup-equivalent list); WITHOUT `-v` nothing is ranged over by `Valuate` and `ValuedOrd` IS the model's `valuedDays`
(`valuedDays_of_ValuedOrd`), so that `Properties/C20Go3.lean` concludes about `Performance.returns` itself.
-/
namespace Knut.FactsAgree.TransProcessAllReturns
open Knut Knut.GoSem Knut.Pipeline
open Knut.Generated.Go
open Knut.FactsAgree.TransProcess Knut.FactsAgree.TransCheck
open Knut.FactsAgree.TransProcessAll
open Knut.FactsAgree.TransAccount (accountGo)
open Knut.FactsAgree.TransPrice (cGo)
open Knut.FactsAgree.TransPerformance (calcGo cvProc cfProc CVRel SplitOrders OrdersOK perfDaysV valuedDays lineGo ckeyGo bind_ok')

/-- the captured states of the six processors -/
structure RetGo where
  cp : journal.ComputePrices.State
  chk : check.Checker
  va : journal.Valuate.State
  cv : performance.Calculator.ComputeValues.State
  cf : performance.Calculator.ComputeFlows.State
  pf : performance.Perf.State

/-- what the processors are built from, and the parameters the translation makes explicit -/
structure RetPar where
  val : Option commodity.Commodity                       -- `valuation` (nil: no `ComputePrices`, no `Valuate`)
  ext1 : account.Account → account.Account               -- `reg.Accounts().ValuationAccountFor`
  cg : performance.Calculator                            -- `calculator`
  part : date.Partition                                  -- `partition`
  ord : check.Checker → close.Close → List amounts.Key   -- iteration order of `Checker.close`
  fuel : journal.ComputePrices.State → journal.Day → Nat -- fuel of `Prices.Normalize`
  oV : journal.Valuate.State → journal.Day → List amounts.Key                          -- iteration order of `Valuate.DayStart`
  oE : performance.Calculator.ComputeValues.State → journal.Day → List amounts.Key     -- iteration order of `ComputeValues.DayEnd`
  oS : performance.Calculator.ComputeFlows.State → journal.Day → List SplitOrders      -- the `split` loops, a pair per transaction

def sPrices (v : commodity.Commodity) (fuel : journal.ComputePrices.State → journal.Day → Nat) : Stage journal.ComputePrices.State :=
  stageOf (fun st d => processDay (computePricesProc v (fuel st d)) st d)
def sValuate (v : commodity.Commodity) (ext1 : account.Account → account.Account)
    (oV : journal.Valuate.State → journal.Day → List amounts.Key) : Stage journal.Valuate.State :=
  stageOf (fun st d => processDay (valuateProc v ext1 (oV st d)) st d)

def rPrices (P : RetPar) : Stage journal.ComputePrices.State :=
  match P.val with
  | none => idStage
  | some v => sPrices v P.fuel
def rCheck (P : RetPar) : Stage check.Checker := stageOf (processDay (checkProc P.ord))
def rValuate (P : RetPar) : Stage journal.Valuate.State :=
  match P.val with
  | none => idStage
  | some v => sValuate v P.ext1 P.oV
def rValues (P : RetPar) : Stage performance.Calculator.ComputeValues.State :=
  stageOf (fun st d => processDay (cvProc P.cg (P.oE st d)) st d)
/-- `ComputeFlows`: the pairs of `split` orders of the day are handed to `cfProc` and consumed, one per transaction -/
def rFlows (P : RetPar) : Stage performance.Calculator.ComputeFlows.State :=
  stageOf (fun st d => (processDay (cfProc P.cg) (st, P.oS st d) d).bind fun r => .ok (r.1.1, r.2))

/-- the processor `performance.Perf(j, partition)` returns: `DayEnd` only; it leaves the day as it is -/
def perfProc (partG : date.Partition) : Proc performance.Perf.State :=
  { DayEnd := some fun st d => (performance.Perf.DayEnd partG st d).bind fun r => .ok (r.1, d, r.2) }
def rPerf (P : RetPar) : Stage performance.Perf.State := stageOf (processDay (perfProc P.part))

/-- **the instantiation of `Pipeline.Sys`** for `Process(ComputePrices(v), check.Check(), Valuate(reg, v), calculator.ComputeValues(),
calculator.ComputeFlows(), performance.Perf(j, partition))` -/
def returnsSys (P : RetPar) (G0 : RetGo) (days : List journal.Day) : Sys RetGo journal.Day PErr :=
  { n := 6, init := fun _ => G0, items := days,
    f := fun k =>
      match k with
      | 1 => liftStage RetGo.cp (fun S s => { S with cp := s }) (rPrices P)
      | 2 => liftStage RetGo.chk (fun S s => { S with chk := s }) (rCheck P)
      | 3 => liftStage RetGo.va (fun S s => { S with va := s }) (rValuate P)
      | 4 => liftStage RetGo.cv (fun S s => { S with cv := s }) (rValues P)
      | 5 => liftStage RetGo.cf (fun S s => { S with cf := s }) (rFlows P)
      | 6 => liftStage RetGo.pf (fun S s => { S with pf := s }) (rPerf P)
      | _ => idStage }

/-- **the sequential meaning of `Journal.Process` for `knut portfolio returns`**: the days as they leave the last stage, `none` if a
stage failed -/
def processAllReturns (P : RetPar) (G0 : RetGo) (days : List journal.Day) : Option (List journal.Day) :=
  seqRun (returnsSys P G0 days)

/-- every successful schedule of the transition system of `cpr.Seq` delivers `processAllReturns` (`C19_confluent`) -/
theorem processAllReturns_meaning (P : RetPar) (G0 : RetGo) (days : List journal.Day)
    {s : St RetGo journal.Day PErr} (h : Reach (returnsSys P G0 days) s) (hd : s.done (returnsSys P G0 days)) :
    processAllReturns P G0 days = some s.out := seq_meaning h hd

abbrev RFused := (((journal.ComputePrices.State × check.Checker) × journal.Valuate.State) ×
  performance.Calculator.ComputeValues.State) × performance.Calculator.ComputeFlows.State

def fused3 (P : RetPar) := fuse (fuse (rPrices P) (rCheck P)) (rValuate P)
def fused5 (P : RetPar) : RFused → journal.Day → Except PErr (RFused × journal.Day) :=
  fuse (fuse (fused3 P) (rValues P)) (rFlows P)

def init5 (G0 : RetGo) : RFused := ((((G0.cp, G0.chk), G0.va), G0.cv), G0.cf)

/-- **stage-major = day-major**: the five stages before `Perf` on every day in turn, then `Perf` over the days that leave them -/
theorem processAllReturns_eq (P : RetPar) (G0 : RetGo) (days : List journal.Day) :
    processAllReturns P G0 days = (seqStage (fused5 P) (init5 G0) days).bind (seqStage (rPerf P) G0.pf) := by
  unfold processAllReturns seqRun returnsSys fused5 fused3 init5
  simp only [seqUpTo, Option.bind_some]
  rw [seqStage_lift' RetGo.cp _ (fun _ _ => rfl), seqStage_lift' RetGo.chk _ (fun _ _ => rfl),
    seqStage_lift' RetGo.va _ (fun _ _ => rfl), seqStage_lift' RetGo.cv _ (fun _ _ => rfl),
    seqStage_lift' RetGo.cf _ (fun _ _ => rfl), seqStage_lift' RetGo.pf _ (fun _ _ => rfl)]
  rw [seqStage_fuse, seqStage_fuse, seqStage_fuse, seqStage_fuse]

theorem valuedDay_none {cfg : Performance.Cfg} (h : cfg.valuation = none) (st : BalState) (d : Knut.Day) :
    Performance.valuedDay cfg st d =
      match Check.day st.chk d with
      | .error e => .error (BalErr.check e)
      | .ok c => .ok ({ st with chk := c }, d.transactions) := by
  unfold Performance.valuedDay Balance.checkStage
  simp only [h, bind, Except.bind]
  cases Check.day st.chk d <;> rfl

/-- the model's valued days when, before each day, `vQty` (the map `Valuate.DayStart` ranges over) is re-listed; without valuation the
list is left alone -/
inductive ValuedOrd (cfg : Performance.Cfg) : BalState → List Knut.Day → List (Int × List Knut.Transaction) → Prop
  | nil (st : BalState) : ValuedOrd cfg st [] []
  | cons {st st1 : BalState} {d : Knut.Day} {ds : List Knut.Day} {txs : List Knut.Transaction} {ms : List (Int × List Knut.Transaction)}
      (vq : Knut.AMap Position Rat) : Relist st.vQty vq → (cfg.valuation = none → vq = st.vQty) →
      Performance.valuedDay cfg { st with vQty := vq } d = .ok (st1, txs) → ValuedOrd cfg st1 ds ms →
      ValuedOrd cfg st (d :: ds) ((d.date, txs) :: ms)

/-- the re-listed run of the model fails (on its first day, or later) -/
inductive ValuedFail (cfg : Performance.Cfg) : BalState → List Knut.Day → Prop
  | here {st : BalState} {d : Knut.Day} {ds : List Knut.Day} {e : BalErr} (vq : Knut.AMap Position Rat) :
      Relist st.vQty vq → (cfg.valuation = none → vq = st.vQty) → Performance.valuedDay cfg { st with vQty := vq } d = .error e →
      ValuedFail cfg st (d :: ds)
  | later {st st1 : BalState} {d : Knut.Day} {ds : List Knut.Day} {txs : List Knut.Transaction} (vq : Knut.AMap Position Rat) :
      Relist st.vQty vq → (cfg.valuation = none → vq = st.vQty) → Performance.valuedDay cfg { st with vQty := vq } d = .ok (st1, txs) →
      ValuedFail cfg st1 ds → ValuedFail cfg st (d :: ds)

/-- the model's `valuedDays` is the run that re-lists nothing -/
theorem ValuedOrd_of_valuedDays (cfg : Performance.Cfg) : ∀ (days : List Knut.Day) (st : BalState) (ms : List (Int × List Knut.Transaction)),
    valuedDays cfg st days = some ms → ValuedOrd cfg st days ms := by
  intro days
  induction days with
  | nil => intro st ms h; simp only [valuedDays, Option.some.injEq] at h; subst h; exact .nil _
  | cons d rest ih =>
    intro st ms h
    simp only [valuedDays] at h
    cases hv : Performance.valuedDay cfg st d with
    | error e => simp [hv] at h
    | ok r =>
      obtain ⟨bal, txs⟩ := r
      simp only [hv, Option.map_eq_some_iff] at h
      obtain ⟨ms', hms', rfl⟩ := h
      exact .cons st.vQty (fun _ => rfl) (fun _ => rfl) hv (ih bal ms' hms')

/-- without valuation no map is ranged over by the first three stages: the re-listed run IS `valuedDays` -/
theorem valuedDays_of_ValuedOrd (cfg : Performance.Cfg) (hv : cfg.valuation = none) :
    ∀ (days : List Knut.Day) (st : BalState) (ms : List (Int × List Knut.Transaction)),
      ValuedOrd cfg st days ms → valuedDays cfg st days = some ms := by
  intro days st ms h
  induction h with
  | nil st => rfl
  | @cons st st1 d ds txs ms vq _ h1 hd _ ih =>
    rw [h1 hv] at hd
    have hd' : Performance.valuedDay cfg st d = .ok (st1, txs) := hd
    simp only [valuedDays, hd', ih, Option.map_some]

theorem valuedDays_none_of_ValuedFail (cfg : Performance.Cfg) (hv : cfg.valuation = none) :
    ∀ (days : List Knut.Day) (st : BalState), ValuedFail cfg st days → valuedDays cfg st days = none := by
  intro days st h
  induction h with
  | @here st d ds e vq _ h1 hd =>
    rw [h1 hv] at hd
    have hd' : Performance.valuedDay cfg st d = .error e := hd
    simp only [valuedDays, hd']
  | @later st st1 d ds txs vq _ h1 hd _ ih =>
    rw [h1 hv] at hd
    have hd' : Performance.valuedDay cfg st d = .ok (st1, txs) := hd
    simp only [valuedDays, hd', ih, Option.map_none]

/-- what relates the parameters of the Go processors to the model's configuration; `oE`/`oS`: the iteration orders are admissible on
every state and day that stand for a model state and the model's valued transactions (`oE`: exactly the keys of the map of values
after the day's postings, each once; `oS`: `TransPerformance.OrdersOK` for every transaction — satisfiable when no `@performance` target is
tagged as a currency, e.g. `cur = fun _ => false`: `TagCurrency` has no caller) -/
structure RetParOK (cur : String → Bool) (cfg : Performance.Cfg) (P : RetPar) : Prop where
  val : P.val = cfg.valuation.map (cGo cur)
  ext1 : ∀ a : Knut.Account, P.ext1 (accountGo a) = accountGo (valuationAccountFor a)
  cg : P.cg = calcGo cur cfg
  ord : OrdOK P.ord
  fuel : ∀ v, cfg.valuation = some v → FuelOK cur v P.fuel
  oV : ∀ g dg k, (Knut.AMap.find? g.quantities k).isSome → k ∈ P.oV g dg
  oE : ∀ g dg vals prev txs, CVRel cur g vals prev → AllRel (TRel cur) dg.Transactions txs →
    (P.oE g dg).Nodup ∧
    (∀ k ∈ P.oE g dg, ∃ c, k = ckeyGo cur c ∧ (AMap.find? (Performance.valuesDay cfg vals txs) c).isSome) ∧
    (∀ c, (AMap.find? (Performance.valuesDay cfg vals txs) c).isSome → ckeyGo cur c ∈ P.oE g dg)
  oS : ∀ st dg txs, AllRel (TRel cur) dg.Transactions txs → AllRel (OrdersOK cur cfg) (P.oS st dg) txs

/-- the captured states of the first five processors stand for the model's `PState` -/
structure RetInv (cur : String → Bool) (cfg : Performance.Cfg) (G : RFused) (ps : Performance.PState) : Prop where
  cp : cfg.valuation.isSome → CPEquiv cur G.1.1.1.1 ps.bal.graph ps.bal.norm
  chk : StEquiv cur G.1.1.1.2 ps.bal.chk
  va : cfg.valuation.isSome → ∃ old, VEquiv cur G.1.1.2 ps.bal.vPrev old ps.bal.vQty
  cv : CVRel cur G.1.2 ps.values ps.prev

/-- **one day through the translated `ComputePrices`, `check`, `Valuate`** (the first and the last nil without `-v`) against the
model's `valuedDay` (its `vQty` re-listed in the order `Valuate.DayStart` iterates): both succeed — the captured states related again,
the day's transactions standing for the model's valued transactions, date and `Performance` untouched — or both fail (a failing
stage yields a `PErr`; that it is an error value and no panic or lack of fuel is not part of the statement) -/
theorem valued_segment (cur : String → Bool) (cfg : Performance.Cfg) (P : RetPar) (hP : RetParOK cur cfg P)
    (g1 : journal.ComputePrices.State) (g2 : check.Checker) (g3 : journal.Valuate.State) (st : BalState)
    (hcp : cfg.valuation.isSome → CPEquiv cur g1 st.graph st.norm) (hchk : StEquiv cur g2 st.chk)
    (hva : cfg.valuation.isSome → ∃ old, VEquiv cur g3 st.vPrev old st.vQty)
    (dg : journal.Day) (d : Knut.Day) (hd : DayRel cur dg d) :
    ∃ vq, Relist st.vQty vq ∧ (cfg.valuation = none → vq = st.vQty) ∧
      match fused3 P ((g1, g2), g3) dg, Performance.valuedDay cfg { st with vQty := vq } d with
      | .ok (G', dg'), .ok (st', txs) =>
        (cfg.valuation.isSome → CPEquiv cur G'.1.1 st'.graph st'.norm) ∧ StEquiv cur G'.1.2 st'.chk ∧
        (cfg.valuation.isSome → ∃ old, VEquiv cur G'.2 st'.vPrev old st'.vQty) ∧
        dg'.Date = dg.Date ∧ dg'.Performance = dg.Performance ∧ AllRel (TRel cur) dg'.Transactions txs
      | .error _, .error _ => True
      | _, _ => False := by
  suffices key : ∃ vq, Relist st.vQty vq ∧ (cfg.valuation = none → vq = st.vQty) ∧
      ESim (fun r m => (cfg.valuation.isSome → CPEquiv cur r.1.1.1 m.1.graph m.1.norm) ∧ StEquiv cur r.1.1.2 m.1.chk ∧
          (cfg.valuation.isSome → ∃ old, VEquiv cur r.1.2 m.1.vPrev old m.1.vQty) ∧
          r.2.Date = dg.Date ∧ r.2.Performance = dg.Performance ∧ AllRel (TRel cur) r.2.Transactions m.2) (fun _ _ => True)
        (fused3 P ((g1, g2), g3) dg) (Performance.valuedDay cfg { st with vQty := vq } d) by
    obtain ⟨vq, h1, h2, h⟩ := key
    exact ⟨vq, h1, h2, ESim.casesOn h (fun hq => hq) (fun _ => trivial)⟩
  simp only [fused3, fuse_eq_bind, bind_assoc, pure_bind, rPrices, rCheck, rValuate, hP.val]
  cases hv : cfg.valuation with
  | none =>
    -- no `ComputePrices`, no `Valuate`: the checker alone
    refine ⟨st.vQty, fun _ => rfl, fun _ => rfl, ?_⟩
    simp only [Option.map_none, idStage, Performance.valuedDay, hv]
    refine check_bind hP.ord hchk hd fun g2' c hchk1 _ _ => ?_
    exact .ok ⟨fun h => Bool.noConfusion h, hchk1, fun h => Bool.noConfusion h, rfl, rfl, hd.transactions⟩
  | some v =>
    have hcp0 := hcp (by rw [hv]; rfl)
    obtain ⟨old, hva0⟩ := hva (by rw [hv]; rfl)
    -- the model's `vQty` is re-listed in the order `Valuate.DayStart` iterates on the day as `ComputePrices` leaves it
    generalize hvq0 : qtyIn g3.quantities (P.oV g3 (dayOf (processDay (computePricesProc (cGo cur v) (P.fuel g1 dg)) g1 dg) dg)) = vq
    refine ⟨vq, hvq0 ▸ relist_of_QEquiv hva0.qty _ (hP.oV g3 _), (fun h => by cases h), ?_⟩
    have hm : ∀ s, Performance.valuedDay cfg s d =
        Balance.pricesDay v s d >>= fun sp => Balance.checkStage sp d >>= fun sc => Balance.valuateDay v sc d >>= pure := by
      intro s; simp only [Performance.valuedDay, hv, bind_pure]
    simp only [Option.map_some, sPrices, sValuate, hm]
    refine prices_bind (st := { st with vQty := vq }) (hP.fuel v hv) hcp0 hd.prices fun g1' sp hcp1 hr2 hpd => ?_
    dsimp only
    obtain ⟨p1, hvp, hvq, _⟩ := pricesDay_fields hpd
    have hd2 := hd.normalized g1'.previous
    refine check_bind hP.ord (p1 ▸ hchk) hd2 fun g2' c hchk1 _ _ => ?_
    dsimp only
    refine valuate_bind hP.ext1 hP.oV (st := { sp with chk := c }) (hvp ▸ hva0) (hvq.trans (hvq0.symm.trans (by rw [hr2]; rfl))) hd2.date
      hcp1.previous hd2.transactions fun g3' l s4 txs hv2 hl hvd _ => ?_
    obtain ⟨f1, f2, f3, _⟩ := valuateDay_fields hvd
    exact .ok ⟨fun _ => f2 ▸ f3 ▸ hcp1, f1 ▸ hchk1, fun _ => ⟨_, hv2⟩, rfl, rfl, hl⟩

/-- **`ComputeValues` then `ComputeFlows` as stages** on a day without a `Performance` yet whose transactions stand for the model's valued
transactions: both succeed (for every admissible family of orders), the day afterwards stands for the model's `DayPerf` -/
theorem values_flows_segment (cur : String → Bool) (cfg : Performance.Cfg) (P : RetPar) (hP : RetParOK cur cfg P)
    {g : performance.Calculator.ComputeValues.State} {vals prev : AMap Knut.Commodity Rat} (h : CVRel cur g vals prev)
    (st0 : performance.Calculator.ComputeFlows.State) (dg : journal.Day) (date : Int) (hdate : dg.Date = date)
    (hnil : dg.Performance = none) (txs : List Knut.Transaction) (htx : AllRel (TRel cur) dg.Transactions txs) :
    ∃ g' dg1 st1 dg2, rValues P g dg = .ok (g', dg1) ∧ rFlows P st0 dg1 = .ok (st1, dg2) ∧
      CVRel cur g' (Performance.valuesDay cfg vals txs) (Performance.valuesDay cfg vals txs) ∧
      TransPerformance.DayRel cur dg2 (Performance.DayPerf.mk date prev (Performance.valuesDay cfg vals txs) (Performance.dayFlows cfg txs).1
        (Performance.dayFlows cfg txs).2.1 (Performance.dayFlows cfg txs).2.2) := by
  obtain ⟨ho, hsub, hcov⟩ := hP.oE g dg vals prev txs h htx
  obtain ⟨g', dg1, st1, dg2, hcv, hcf, hrel, hday⟩ := TransPerformance.perfDay_agrees_orders cur cfg h st0 dg date hdate hnil txs htx
    (P.oE g dg) ho hsub hcov (P.oS st0) (fun d1 e => hP.oS st0 d1 txs (e ▸ htx))
  refine ⟨g', dg1, st1.1, dg2, ?_, ?_, hrel, hday⟩
  · unfold rValues
    rw [hP.cg]
    exact stageOf_ok hcv
  · unfold rFlows
    rw [hP.cg]
    refine stageOf_ok ?_
    rw [hcf]
    rfl

/-- a Go day before the pipeline stands for the model day and has no `Performance` yet (the builder creates days without one) -/
def DayRelP (cur : String → Bool) (g : journal.Day) (d : Knut.Day) : Prop := DayRel cur g d ∧ g.Performance = none

/-- **one day through the five translated stages before `Perf` against the model's `perfDay`** (`valuedDay` with `vQty` re-listed as
`Valuate.DayStart` iterates, then `valuesDay`, `dayFlows`): both succeed — states related again, the day that leaves `ComputeFlows`
standing for the model's `DayPerf` — or both fail -/
theorem returns_day_agrees (cur : String → Bool) (cfg : Performance.Cfg) (P : RetPar) (hP : RetParOK cur cfg P)
    {G : RFused} {ps : Performance.PState} (hI : RetInv cur cfg G ps) (dg : journal.Day) (d : Knut.Day) (hd : DayRelP cur dg d) :
    ∃ vq, Relist ps.bal.vQty vq ∧ (cfg.valuation = none → vq = ps.bal.vQty) ∧
      match fused5 P G dg, Performance.valuedDay cfg { ps.bal with vQty := vq } d with
      | .ok (G', dg'), .ok (bal', txs) =>
        RetInv cur cfg G' ⟨bal', Performance.valuesDay cfg ps.values txs, Performance.valuesDay cfg ps.values txs⟩ ∧
        TransPerformance.DayRel cur dg' (Performance.DayPerf.mk d.date ps.prev (Performance.valuesDay cfg ps.values txs)
          (Performance.dayFlows cfg txs).1 (Performance.dayFlows cfg txs).2.1 (Performance.dayFlows cfg txs).2.2)
      | .error _, .error _ => True
      | _, _ => False := by
  obtain ⟨⟨⟨⟨g1, g2⟩, g3⟩, g4⟩, g5⟩ := G
  obtain ⟨hcp, hchk, hva, hcv⟩ := hI
  simp only at hcp hchk hva hcv
  obtain ⟨vq, hr, hn, hm⟩ := valued_segment cur cfg P hP g1 g2 g3 ps.bal hcp hchk hva dg d hd.1
  refine ⟨vq, hr, hn, ?_⟩
  unfold fused5 fuse
  split at hm
  next G3 dg3 bal' txs h3 hmo =>
    obtain ⟨m1, m2, m3, m4, m5, m6⟩ := hm
    obtain ⟨g4', dg4, g5', dg5, e4, e5, hcv', hrel⟩ := values_flows_segment cur cfg P hP hcv g5 dg3 d.date
      (by rw [m4]; exact hd.1.date) (by rw [m5]; exact hd.2) txs m6
    simp only [h3, hmo, e4, e5]
    exact ⟨⟨m1, m2, m3, hcv'⟩, hrel⟩
  next h3 hmo => simp only [h3, hmo]
  next => exact hm.elim

/-- **the five stages over the whole journal, by induction over the days**, both directions -/
theorem returns_seq_agrees (cur : String → Bool) (cfg : Performance.Cfg) (P : RetPar) (hP : RetParOK cur cfg P) :
    ∀ (gdays : List journal.Day) (days : List Knut.Day), AllRel (DayRelP cur) gdays days →
      ∀ (G : RFused) (ps : Performance.PState), RetInv cur cfg G ps →
        match seqStage (fused5 P) G gdays with
        | some out => ∃ ms, ValuedOrd cfg ps.bal days ms ∧
            AllRel (TransPerformance.DayRel cur) out (perfDaysV cfg (ps.values, ps.prev) ms)
        | none => ValuedFail cfg ps.bal days := by
  intro gdays days hrel
  induction hrel with
  | nil =>
    intro G ps _
    rw [seqStage_nil]
    exact ⟨[], .nil _, .nil⟩
  | @cons dg d gds ds hd _ ih =>
    intro G ps hI
    obtain ⟨vq, hr, hn, hm⟩ := returns_day_agrees cur cfg P hP hI dg d hd
    rw [seqStage_cons]
    split at hm
    next G' dg' bal' txs hgo hmo =>
      simp only [hgo]
      have := ih G' _ hm.1
      revert this
      cases seqStage (fused5 P) G' gds with
      | none => intro h; exact ValuedFail.later vq hr hn hmo h
      | some o =>
        intro h
        obtain ⟨ms, hpo, hpr⟩ := h
        exact ⟨(d.date, txs) :: ms, .cons vq hr hn hmo hpo, .cons hm.2 hpr⟩
    next hgo hmo => simp only [hgo]; exact ValuedFail.here vq hr hn hmo
    next => exact hm.elim

/-! ### `Perf` as the last stage -/

theorem rPerf_eq (P : RetPar) (st : performance.Perf.State) (d : journal.Day) :
    rPerf P st d =
      match performance.Perf.DayEnd P.part st d with
      | .ok (st', none) => .ok (st', d)
      | .ok (_, some e) => .error (.err e)
      | .panic m => .error (.panic m)
      | .outOfFuel => .error .outOfFuel := by
  rw [rPerf, perfProc, processDay_dayEnd, stageOf]
  rcases performance.Perf.DayEnd P.part st d with ⟨st', _ | e⟩ | m | _ <;> rfl

theorem Perf_DayEnd_no_error {part : date.Partition} {st : performance.Perf.State} {d : journal.Day}
    {r : performance.Perf.State × Option Error} (h : performance.Perf.DayEnd part st d = .ok r) : r.2 = none := by
  unfold performance.Perf.DayEnd at h
  by_cases hc : (!date.Partition.Contains part d.Date) = true
  · rw [if_pos hc] at h; cases h; rfl
  · rw [if_neg hc] at h
    obtain ⟨t3, _, h⟩ := Outcome.bind_eq_ok h
    cases t3
    · obtain ⟨t4, _, h⟩ := Outcome.bind_eq_ok h
      cases h; rfl
    · cases h; rfl

theorem runDays_rPerf (P : RetPar) : ∀ (days : List journal.Day) (st st' : performance.Perf.State),
    TransPerformance.perfRun P.part st days = .ok st' → runDays (rPerf P) st days = .ok (st', days)
  | [], st, st', h => by cases h; rfl
  | d :: rest, st, st', h => by
    obtain ⟨⟨s1, e⟩, h1, h2⟩ := Outcome.bind_eq_ok h
    obtain rfl : e = none := Perf_DayEnd_no_error h1
    rw [runDays, rPerf_eq, h1]
    simp only [runDays_rPerf P rest s1 st' h2]

/-- **`Perf` over the days that leave `ComputeFlows`** = `perfLines`, when every day inside the reported span has a defined factor: the
stage succeeds on every day, passes the days on unchanged, and its captured state ends with the model's lines printed -/
theorem Perf_stage_agrees (cur : String → Bool) (P : RetPar) (part : Knut.Partition) (hpart : P.part = TransDate.partitionGo part)
    (ds : set.Set Int) (hds : ∀ x, set.Set.Has ds x = part.endDates.contains x) :
    ∀ (days : List journal.Day) (dps : List Performance.DayPerf), AllRel (TransPerformance.DayRel cur) days dps →
      (∀ dp ∈ dps, (Performance.perfSpan part).contains dp.date = true → (Performance.factor dp).isSome) →
      ∀ (r : Rat) (out : List Stdout.PrintfCall), ∃ r',
        runDays (rPerf P) ⟨ds, part.startDates, r, out⟩ days =
          .ok (⟨ds, part.startDates, r',
            out ++ (Performance.perfLines (Performance.perfSpan part) part.endDates (some r) dps).map lineGo⟩, days) := by
  intro days dps hrel hdef r out
  obtain ⟨r', h⟩ := TransPerformance.Perf_days_agrees cur part ds hds days dps hrel hdef r out
  exact ⟨r', runDays_rPerf P days _ _ (hpart ▸ h)⟩

/-- the states the six constructors start from (`reg`, `calculator`, `j`, `partition`, and the captured set `ds0` of `Perf` — the result
of the untranslated `set.FromSlice(j.Days(part.EndDates()))`, an `ext` parameter of `Perf.init`) -/
def returnsInit (cur : String → Bool) (cfg : Performance.Cfg) (j : journal.Builder) (part : Knut.Partition) (ds0 : set.Set Int) : RetGo :=
  { cp := ⟨GoZero.zero, []⟩, chk := checkInit, va := ⟨GoZero.zero, GoZero.zero, []⟩,
    cv := performance.Calculator.ComputeValues.init (calcGo cur cfg),
    cf := performance.Calculator.ComputeFlows.init (calcGo cur cfg),
    pf := performance.Perf.init j (TransDate.partitionGo part) ds0 }

theorem RetInv_init (cur : String → Bool) (cfg : Performance.Cfg) (j : journal.Builder) (part : Knut.Partition) (ds0 : set.Set Int) :
    RetInv cur cfg (init5 (returnsInit cur cfg j part ds0)) {} :=
  ⟨fun _ => ⟨TransPrice.PEquivS_nil cur, NPEquivO_nil cur⟩, checkInit_equiv cur,
    fun _ => ⟨none, NPEquivO_nil cur, NPEquivO_nil cur, QEquiv_nil cur⟩,
    TransPerformance.ComputeValues_init_agrees cur (calcGo cur cfg)⟩

/-- the captured state of `Perf` after the sequential run (what it has printed is its field `stdout`); `none` if a stage failed -/
def perfFinal (P : RetPar) (G0 : RetGo) (days : List journal.Day) : Option performance.Perf.State :=
  (seqStage (fused5 P) (init5 G0) days).bind fun out5 =>
    match runDays (rPerf P) G0.pf out5 with
    | .ok (s, _) => some s
    | .error _ => none

/-- **`Journal.Process` of `knut portfolio returns` over a whole journal = the model's run**, for EVERY admissible family of iteration
orders and fuels (`RetParOK`), on Go days that stand for the model's days and carry no `Performance` yet:

* the five stages before `Perf` fail ⇒ the whole run fails and the model's (re-listed) valuation of the days fails (`ValuedFail`);
* they succeed ⇒ the model's valued days `ms` exist (`ValuedOrd`), the days that reach `Perf` stand for `perfDaysV … ms` (the model's
  `perfFrom`), and — when every factor inside the span is defined — the whole run succeeds, passes these days on, and `Perf` has printed
  exactly the model's `perfLines` over them. -/
theorem processAllReturns_agrees (cur : String → Bool) (cfg : Performance.Cfg) (P : RetPar) (hP : RetParOK cur cfg P)
    (part : Knut.Partition) (hpart : P.part = TransDate.partitionGo part)
    (ds0 : set.Set Int) (hds : ∀ x, set.Set.Has ds0 x = part.endDates.contains x) (j : journal.Builder)
    (gdays : List journal.Day) (days : List Knut.Day) (hdays : AllRel (DayRelP cur) gdays days) :
    match seqStage (fused5 P) (init5 (returnsInit cur cfg j part ds0)) gdays with
    | none => processAllReturns P (returnsInit cur cfg j part ds0) gdays = none ∧ ValuedFail cfg {} days
    | some out5 => ∃ ms, ValuedOrd cfg {} days ms ∧ AllRel (TransPerformance.DayRel cur) out5 (perfDaysV cfg ([], []) ms) ∧
        ((∀ dp ∈ perfDaysV cfg ([], []) ms, (Performance.perfSpan part).contains dp.date = true → (Performance.factor dp).isSome) →
          processAllReturns P (returnsInit cur cfg j part ds0) gdays = some out5 ∧
          ∃ r', perfFinal P (returnsInit cur cfg j part ds0) gdays = some ⟨ds0, part.startDates, r',
            (Performance.perfLines (Performance.perfSpan part) part.endDates (some 1) (perfDaysV cfg ([], []) ms)).map lineGo⟩) := by
  have h := returns_seq_agrees cur cfg P hP gdays days hdays _ {} (RetInv_init cur cfg j part ds0)
  rw [processAllReturns_eq]
  unfold perfFinal
  revert h
  cases seqStage (fused5 P) (init5 (returnsInit cur cfg j part ds0)) gdays with
  | none => intro h; exact ⟨rfl, h⟩
  | some out5 =>
    intro h
    obtain ⟨ms, hvo, hall⟩ := h
    refine ⟨ms, hvo, hall, ?_⟩
    intro hdef
    obtain ⟨r', hr'⟩ := Perf_stage_agrees cur P part hpart ds0 hds out5 _ hall hdef 1 []
    have hpf : (returnsInit cur cfg j part ds0).pf = ⟨ds0, part.startDates, 1, []⟩ := TransPerformance.Perf_init_agrees j part ds0
    rw [← hpf] at hr'
    simp only [Option.bind_some, hr', List.nil_append]
    exact ⟨seqStage_of_runDays hr', r', rfl⟩

/-! ### Non-vacuity: the empty journal — all stages succeed on no day, the initial states are related (`RetInv_init`) -/
example (P : RetPar) (G0 : RetGo) : processAllReturns P G0 [] = some [] := by
  rw [processAllReturns_eq]; rfl

/-- without `-v` nothing is re-listed -/
theorem ValuedOrd.eq {cfg : Performance.Cfg} (hv : cfg.valuation = none) {days : List Knut.Day} {st : BalState}
    {ms ms' : List (Int × List Knut.Transaction)} (h : ValuedOrd cfg st days ms') (hms : valuedDays cfg st days = some ms) :
    ms' = ms :=
  Option.some.inj ((valuedDays_of_ValuedOrd cfg hv days st ms' h).symm.trans hms)

theorem ValuedFail.elim {cfg : Performance.Cfg} (hv : cfg.valuation = none) {days : List Knut.Day} {st : BalState}
    {ms : List (Int × List Knut.Transaction)} (h : ValuedFail cfg st days) (hms : valuedDays cfg st days = some ms) : False := by
  rw [valuedDays_none_of_ValuedFail cfg hv days st h] at hms; cases hms

theorem processAllReturns_of_valued (cur : String → Bool) {cfg : Performance.Cfg} (hv : cfg.valuation = none) {P : RetPar}
    (hP : RetParOK cur cfg P) {part : Knut.Partition} (hpart : P.part = TransDate.partitionGo part)
    {ds0 : set.Set Int} (hds : ∀ x, set.Set.Has ds0 x = part.endDates.contains x) (j : journal.Builder)
    {gdays : List journal.Day} {days : List Knut.Day} (hdays : AllRel (DayRelP cur) gdays days)
    {ms : List (Int × List Knut.Transaction)} (hms : valuedDays cfg {} days = some ms)
    (hdef : ∀ dp ∈ perfDaysV cfg ([], []) ms, (Performance.perfSpan part).contains dp.date = true → (Performance.factor dp).isSome) :
    ∃ out r', processAllReturns P (returnsInit cur cfg j part ds0) gdays = some out ∧
      perfFinal P (returnsInit cur cfg j part ds0) gdays = some ⟨ds0, part.startDates, r',
        (Performance.perfLines (Performance.perfSpan part) part.endDates (some 1) (perfDaysV cfg ([], []) ms)).map lineGo⟩ := by
  have key := processAllReturns_agrees cur cfg P hP part hpart ds0 hds j gdays days hdays
  revert key
  cases seqStage (fused5 P) (init5 (returnsInit cur cfg j part ds0)) gdays with
  | none => exact fun key => (key.2.elim hv hms).elim
  | some out5 =>
    rintro ⟨ms', hvo, _, hrest⟩
    obtain rfl := hvo.eq hv hms
    obtain ⟨hrun, r', hfin⟩ := hrest hdef
    exact ⟨out5, r', hrun, hfin⟩

end Knut.FactsAgree.TransProcessAllReturns
