import Knut.FactsAgree.TransProcessAllBalance
import Knut.FactsAgree.TransBeancount
import Knut.Proofs.BeancountRun
import Knut.FactsAgree.TransJPrinter2
/-!
# `knut transcode`: `j.Process(Sort(), ComputePrices(v), check.Check(), Valuate(reg, v))` over a WHOLE journal

The processor list is the one of `cmd/commands/transcode.go` (`execute`; the order is written down by hand here and tied by
`FactsAgree/ProcOrderTranscode`, `ProcOrder.transcodeOrder_eq`, to the list extracted from the source on every run).  `processAllTranscode` is its sequential
meaning, `Pipeline.seqRun` of the system `transcodeSys` — four stages, stage `k` = the translated closures of the `k`-th processor folded
over a day by `Processor.Process` (`TransProcess.processDay`), each on its own field of the record `TrGo`.  That `cpr.Seq` delivers
`seqRun` on every successful schedule is `C19.C19_confluent` (`processAllTranscode_meaning`); `seqRun` as the meaning of
`Journal.Process` is the stated modelling step of `TransProcessAll.lean`.

THE UNSTABLE SORT.  `Sort` is `compare.Sort(d.Transactions, transaction.Compare)` = `sort.Slice`: WHICH sorted permutation comes back is
the parameter `srt` (as in `TransJPrinter2`), assumed to be a permutation in which no later element is `Smaller` than an earlier one on
the days' transactions (`SortOK`).  The model sorts with the stable `sortTxs`; the stages after `Sort` see the order (the checker's
state, the order of the valued transactions).  Stated assumptions under which every admissible `srt` yields the model's list:
`TargetsOK d` (transactions of a day that compare equal carry the same `@performance` targets — `transaction.Compare` does not look at
them) and `AccountsByName` (one account per name among the day's postings — what the registry guarantees); then transactions that
compare equal ARE equal and the sorted permutation is unique (`sorted_perm_eq`).  `DayRelS`: the Go days stand for the model's, the
descriptions exactly the model's (`Sort` compares them).

MAP ITERATION ORDER.  As for `knut balance`: `Valuate.DayStart` ranges over a Go map; the theorems hold for EVERY family of iteration
orders `oV` that reach every key once; the model's run is the one in which `vQty` is re-listed before each day in the order Go iterates
(`ProcOrd` / `ProcFail`: lookup-equivalent list without duplicate keys).  `Beancount.process` is the instance that re-lists nothing
(`Proofs/BeancountRun.lean`, where `ProcOrd` is defined: `ProcOrd_of_processFrom`); the clauses of C16 are proved for every `ProcOrd`
(`Properties/C16.lean`, `Properties/C16Go2.lean`).

DESCRIPTIONS.  `Valuate` builds its value adjustments through `transaction.Builder.Build`, which replaces `"` by `'` in the description;
the model keeps the description.  `DescOK`: the descriptions of the model's processed day contain nothing `descText` changes (they are
made of account and commodity names, which cannot contain `"`; a user's description is a quoted string).
-/
namespace Knut.FactsAgree.TransProcessAll
open Knut Knut.GoSem Knut.Pipeline
open Knut.Generated.Go
open Knut.FactsAgree.TransProcess Knut.FactsAgree.TransCheck
open Knut.FactsAgree.TransAccount (accountGo)
open Knut.FactsAgree.TransPrice (cGo)
open Knut.FactsAgree.TransJPrinter2 (SortOK sortProc sortDay TRelE TargetsOK AllRel_perm AllRel_pairwise le_of_not_smaller AllRel_imp
  pointwise_targets)
open Knut.FactsAgree.TransBeancount (PDayRel TRelB AccountsByName TEq cmpTx_eq_TEq)

theorem eq_of_pointwise {ts : List Knut.Transaction} (hinj : AccountsByName ts) : ∀ {l1 l2 : List Knut.Transaction},
    List.Forall₂ (fun x y => JournalPrinter.cmpTx x y = .eq ∧ x.targets = y.targets) l1 l2 →
    (∀ x ∈ l1, x ∈ ts) → (∀ y ∈ l2, y ∈ ts) → l1 = l2 := by
  intro l1 l2 h
  induction h with
  | nil => intro _ _; rfl
  | @cons x y l1 l2 hxy _ ih =>
    intro h1 h2
    obtain ⟨e1, e2, e3⟩ := cmpTx_eq_TEq hinj (h1 x List.mem_cons_self) (h2 y List.mem_cons_self) hxy.1
    have e4 := hxy.2
    have hxy' : x = y := by
      cases x; cases y
      simp only at e1 e2 e3 e4
      subst e1 e2 e3 e4
      rfl
    rw [hxy', ih (fun a ha => h1 a (List.mem_cons_of_mem _ ha)) (fun a ha => h2 a (List.mem_cons_of_mem _ ha))]

/-- under `TargetsOK` and `AccountsByName` a sorted permutation of the day's transactions is the model's `sortTxs` of them -/
theorem sorted_perm_eq (d : Knut.Day) (ht : TargetsOK d) (hinj : AccountsByName d.transactions) (ts' : List Knut.Transaction)
    (hp : ts'.Perm d.transactions) (hs : ts'.Pairwise (fun a b => JournalPrinter.leTx a b = true)) :
    ts' = JournalPrinter.sortTxs d.transactions := by
  have hperm : ts'.Perm (JournalPrinter.sortTxs d.transactions) := hp.trans (List.mergeSort_perm _ _).symm
  have hpw := Knut.Layout.sorted_perm_pointwise JournalPrinter.leTx JournalPrinter.leTx_trans Knut.Layout.leTx_refl _ _ hs
    (JournalPrinter.sortTxs_sorted d.transactions) hperm
  exact eq_of_pointwise hinj
    (pointwise_targets d ht hpw (fun x hx => hp.mem_iff.mp hx) (fun y hy => (List.mergeSort_perm _ _).mem_iff.mp hy))
    (fun x hx => hp.mem_iff.mp hx) (fun y hy => (List.mergeSort_perm _ _).mem_iff.mp hy)

/-- a Go day stands for the model day, the descriptions of its transactions exactly the model's -/
structure DayRelS (cur : String → Bool) (g : journal.Day) (d : Knut.Day) : Prop where
  rel : DayRel cur g d
  exact : AllRel (TRelE cur) g.Transactions d.transactions

/-- the model day as `Sort` leaves it -/
def sd (d : Knut.Day) : Knut.Day := { d with transactions := JournalPrinter.sortTxs d.transactions }

/-- **the day after `Sort`** stands for the model's sorted day, whatever sorted permutation `sort.Slice` chose -/
theorem sortedDay_eq (cur : String → Bool) (srt : List transaction.Transaction → List transaction.Transaction)
    {g : journal.Day} {d : Knut.Day} (hs : SortOK srt g.Transactions) (h : DayRelS cur g d) (ht : TargetsOK d)
    (hinj : AccountsByName d.transactions) :
    DayRel cur { g with Transactions := srt g.Transactions } (sd d) := by
  obtain ⟨ts', hE, hperm⟩ := AllRel_perm hs.perm h.exact
  have hsorted : ts'.Pairwise (fun a b => JournalPrinter.leTx a b = true) :=
    AllRel_pairwise (P := fun a b => transaction.Compare b a ≠ .ok (-1)) (Q := fun x y => JournalPrinter.leTx x y = true)
      (fun a b x y hax hby hab => le_of_not_smaller cur hax hby hab) hE hs.sorted
  have he := sorted_perm_eq d ht hinj ts' hperm hsorted
  subst he
  exact ⟨h.rel.date, h.rel.prices, h.rel.openings, AllRel_imp (fun _ _ r => r.1) hE, h.rel.assertions, h.rel.closings⟩

/-- the captured states of the four processors -/
structure TrGo where
  so : journal.Sort_.State
  cp : journal.ComputePrices.State
  chk : check.Checker
  va : journal.Valuate.State

/-- what the processors are built from, and the parameters the translation makes explicit -/
structure TrPar where
  val : commodity.Commodity                              -- `valuation` (non-nil: `execute` returns before otherwise)
  ext1 : account.Account → account.Account               -- `reg.Accounts().ValuationAccountFor`
  srt : List transaction.Transaction → List transaction.Transaction  -- what `sort.Slice` returns for `compare.Sort(·, Compare)`
  ord : check.Checker → close.Close → List amounts.Key   -- iteration order of `Checker.close`
  fuel : journal.ComputePrices.State → journal.Day → Nat -- fuel of `Prices.Normalize`
  oV : journal.Valuate.State → journal.Day → List amounts.Key        -- iteration order of `Valuate.DayStart`

def tSort (P : TrPar) : Stage journal.Sort_.State := stageOf (processDay (sortProc P.srt))
def tPrices (P : TrPar) : Stage journal.ComputePrices.State :=
  stageOf (fun st d => processDay (computePricesProc P.val (P.fuel st d)) st d)
def tCheck (P : TrPar) : Stage check.Checker := stageOf (processDay (checkProc P.ord))
def tValuate (P : TrPar) : Stage journal.Valuate.State :=
  stageOf (fun st d => processDay (valuateProc P.val P.ext1 (P.oV st d)) st d)

/-- **the instantiation of `Pipeline.Sys`** for `Process(Sort(), ComputePrices(v), check.Check(), Valuate(reg, v))` -/
def transcodeSys (P : TrPar) (G0 : TrGo) (days : List journal.Day) : Sys TrGo journal.Day PErr :=
  { n := 4, init := fun _ => G0, items := days,
    f := fun k =>
      match k with
      | 1 => liftStage TrGo.so (fun S s => { S with so := s }) (tSort P)
      | 2 => liftStage TrGo.cp (fun S s => { S with cp := s }) (tPrices P)
      | 3 => liftStage TrGo.chk (fun S s => { S with chk := s }) (tCheck P)
      | 4 => liftStage TrGo.va (fun S s => { S with va := s }) (tValuate P)
      | _ => idStage }

/-- **the sequential meaning of `Journal.Process` for `knut transcode`**: the days as they leave the last stage (what
`beancount.Transcode` is handed), `none` if a stage failed -/
def processAllTranscode (P : TrPar) (G0 : TrGo) (days : List journal.Day) : Option (List journal.Day) :=
  seqRun (transcodeSys P G0 days)

/-- every successful schedule of the transition system of `cpr.Seq` delivers `processAllTranscode` (`C19_confluent`) -/
theorem processAllTranscode_meaning (P : TrPar) (G0 : TrGo) (days : List journal.Day)
    {s : St TrGo journal.Day PErr} (h : Reach (transcodeSys P G0 days) s) (hd : s.done (transcodeSys P G0 days)) :
    processAllTranscode P G0 days = some s.out := seq_meaning h hd

abbrev TFused := ((journal.Sort_.State × journal.ComputePrices.State) × check.Checker) × journal.Valuate.State

def fusedTranscode (P : TrPar) : TFused → journal.Day → Except PErr (TFused × journal.Day) :=
  fuse (fuse (fuse (tSort P) (tPrices P)) (tCheck P)) (tValuate P)

def tFusedInit (G0 : TrGo) : TFused := (((G0.so, G0.cp), G0.chk), G0.va)

/-- **stage-major = day-major** -/
theorem processAllTranscode_eq (P : TrPar) (G0 : TrGo) (days : List journal.Day) :
    processAllTranscode P G0 days = seqStage (fusedTranscode P) (tFusedInit G0) days := by
  unfold processAllTranscode seqRun transcodeSys fusedTranscode tFusedInit
  simp only [seqUpTo, Option.bind_some]
  rw [seqStage_lift' TrGo.so _ (fun _ _ => rfl), seqStage_lift' TrGo.cp _ (fun _ _ => rfl),
    seqStage_lift' TrGo.chk _ (fun _ _ => rfl), seqStage_lift' TrGo.va _ (fun _ _ => rfl)]
  rw [seqStage_fuse, seqStage_fuse, seqStage_fuse]

/-- the four stages on one day, spelled out (`Sort` never fails) -/
theorem fusedTranscode_eq (P : TrPar) (g1 : journal.Sort_.State) (g2 : journal.ComputePrices.State) (g3 : check.Checker)
    (g4 : journal.Valuate.State) (dg : journal.Day) :
    fusedTranscode P (((g1, g2), g3), g4) dg =
      match tPrices P g2 { dg with Transactions := P.srt dg.Transactions } with
      | .error e => .error e
      | .ok (g2', a2) =>
        match tCheck P g3 a2 with
        | .error e => .error e
        | .ok (g3', a3) =>
          match tValuate P g4 a3 with
          | .error e => .error e
          | .ok (g4', a4) => .ok ((((⟨⟩, g2'), g3'), g4'), a4) := by
  have hsort : tSort P g1 dg = .ok (⟨⟩, { dg with Transactions := P.srt dg.Transactions }) := stageOf_ok (sortDay P.srt g1 dg)
  unfold fusedTranscode
  cases h2 : tPrices P g2 { dg with Transactions := P.srt dg.Transactions } with
  | error e => simp only [fuse, hsort, h2]
  | ok r2 =>
    obtain ⟨g2', a2⟩ := r2
    cases h3 : tCheck P g3 a2 with
    | error e => simp only [fuse, hsort, h2, h3]
    | ok r3 =>
      obtain ⟨g3', a3⟩ := r3
      cases h4 : tValuate P g4 a3 with
      | error e => simp only [fuse, hsort, h2, h3, h4]
      | ok r4 => simp only [fuse, hsort, h2, h3, h4]

theorem processDay_eq (v : Knut.Commodity) (st : BalState) (d : Knut.Day) :
    Beancount.processDay v st d =
      Balance.pricesDay v st (sd d) >>= fun sp => Balance.checkStage sp (sd d) >>= fun sc => Balance.valuateDay v sc (sd d) >>= fun r =>
        .ok (r.1, ⟨d.date, d.openings, r.2, d.closings⟩) := rfl

/-- the re-listed run of the model fails (on its first day, or later) -/
inductive ProcFail (v : Knut.Commodity) : BalState → List Knut.Day → Prop
  | here {st : BalState} {d : Knut.Day} {ds : List Knut.Day} {e : BalErr} (vq : Knut.AMap Position Rat) :
      Relist st.vQty vq → Knut.AMap.NodupKeys vq → Beancount.processDay v { st with vQty := vq } d = .error e →
      ProcFail v st (d :: ds)
  | later {st st1 : BalState} {d : Knut.Day} {ds : List Knut.Day} {pd : Beancount.ProcDay} (vq : Knut.AMap Position Rat) :
      Relist st.vQty vq → Knut.AMap.NodupKeys vq → Beancount.processDay v { st with vQty := vq } d = .ok (st1, pd) →
      ProcFail v st1 ds → ProcFail v st (d :: ds)

theorem qtyIn_nodup (cur : String → Bool) {g : amounts.Amounts}
    (hkeys : ∀ k : amounts.Key, (Knut.AMap.find? g k).isSome → ∃ p, k = keyGo cur p) :
    ∀ o : List amounts.Key, o.Nodup → Knut.AMap.NodupKeys (qtyIn g o) := fun o ho => by
  have hn := Knut.AMap.nodupKeys_visited g ho
  rw [qtyIn_eq]
  unfold Knut.AMap.NodupKeys at hn ⊢
  rw [List.map_map]
  rw [List.Nodup, List.pairwise_map] at hn ⊢
  refine hn.imp_of_mem fun {e e'} he he' hne heq => hne ?_
  exact ((posOf_visited cur hkeys o _ e he).1 heq).trans ((posOf_visited cur hkeys o (posOf e'.1) e' he').1 rfl).symm

/-- what relates the parameters of the Go processors to the model's valuation commodity -/
structure TrParOK (cur : String → Bool) (v : Knut.Commodity) (P : TrPar) : Prop where
  val : P.val = cGo cur v
  ext1 : ∀ a : Knut.Account, P.ext1 (accountGo a) = accountGo (valuationAccountFor a)
  ord : OrdOK P.ord
  fuel : FuelOK cur v P.fuel
  oV : ∀ g dg k, (Knut.AMap.find? g.quantities k).isSome → k ∈ P.oV g dg
  oVnodup : ∀ g dg, (P.oV g dg).Nodup

/-- the captured states of the four processors stand for the model state -/
structure TrInv (cur : String → Bool) (G : TFused) (st : BalState) : Prop where
  cp : CPEquiv cur G.1.1.2 st.graph st.norm
  chk : StEquiv cur G.1.2 st.chk
  va : ∃ old, VEquiv cur G.2 st.vPrev old st.vQty

/-- the states the four constructors start from stand for the model's initial state -/
theorem TrInv_init (cur : String → Bool) (so : journal.Sort_.State) :
    TrInv cur (tFusedInit ⟨so, ⟨GoZero.zero, []⟩, checkInit, ⟨GoZero.zero, GoZero.zero, []⟩⟩) {} :=
  ⟨⟨TransPrice.PEquivS_nil cur, NPEquivO_nil cur⟩, checkInit_equiv cur, ⟨none, NPEquivO_nil cur, NPEquivO_nil cur, QEquiv_nil cur⟩⟩

/-- the descriptions of the model's processed day are left alone by `transaction.Builder.Build` (no `"` in them) -/
def DescOK (v : Knut.Commodity) (d : Knut.Day) : Prop :=
  ∀ (st st' : BalState) (pd : Beancount.ProcDay), Beancount.processDay v st d = .ok (st', pd) →
    ∀ t ∈ pd.transactions, JournalPrinter.descText t.description = t.description

theorem TRelB_of_TRel (cur : String → Bool) {l : List transaction.Transaction} {txs : List Knut.Transaction}
    (hr : AllRel (TRel cur) l txs) (hd : ∀ t ∈ txs, JournalPrinter.descText t.description = t.description) : AllRel (TRelB cur) l txs :=
  allRel_iff.mpr <| forall₂_imp_mem (allRel_iff.mp hr) fun _ _ t ht h =>
    ⟨h.1, h.2.1.elim id fun e => e.trans (hd t ht), h.2.2.1⟩

/-- **one day through the four translated stages against `Beancount.processDay`** of the model (its `vQty` re-listed in the order
`Valuate.DayStart` iterates): both succeed — the new states related again, the day that leaves `Valuate` standing for the model's
processed day as `beancount.Transcode` reads it — or both fail (a failing stage yields a `PErr`; that it is an error value and no
panic or lack of fuel is not part of the statement) -/
theorem transcode_day_agrees (cur : String → Bool) (v : Knut.Commodity) (P : TrPar) (hP : TrParOK cur v P)
    {G : TFused} {st : BalState} (hI : TrInv cur G st) (dg : journal.Day) (d : Knut.Day) (hd : DayRelS cur dg d)
    (hs : SortOK P.srt dg.Transactions) (ht : TargetsOK d) (hinj : AccountsByName d.transactions) (hdesc : DescOK v d) :
    ∃ vq, Relist st.vQty vq ∧ Knut.AMap.NodupKeys vq ∧
      match fusedTranscode P G dg, Beancount.processDay v { st with vQty := vq } d with
      | .ok (G', dg'), .ok (st', pd) => TrInv cur G' st' ∧ PDayRel cur dg' pd
      | .error _, .error _ => True
      | _, _ => False := by
  obtain ⟨⟨⟨g1, g2⟩, g3⟩, g4⟩ := G
  obtain ⟨hcp, hchk, old, hva⟩ := hI
  simp only at hcp hchk hva
  have hd1 : DayRel cur { dg with Transactions := P.srt dg.Transactions } (sd d) := sortedDay_eq cur P.srt hs hd ht hinj
  generalize hdgs : ({ dg with Transactions := P.srt dg.Transactions } : journal.Day) = dgs at hd1
  have hsort : tSort P g1 dg = .ok (⟨⟩, dgs) := hdgs ▸ stageOf_ok (sortDay P.srt g1 dg)
  -- the re-listed `vQty`: in the order `Valuate.DayStart` iterates on the day that reaches it
  generalize hvq0 : qtyIn g4.quantities (P.oV g4 (dayOf (processDay (computePricesProc P.val (P.fuel g2 dgs)) g2 dgs) dgs)) = vq
  refine ⟨vq, hvq0 ▸ relist_of_QEquiv hva.qty _ (hP.oV g4 _), hvq0 ▸ qtyIn_nodup cur hva.qty.keys _ (hP.oVnodup g4 _), ?_⟩
  have key : ESim (fun r m => TrInv cur r.1 m.1 ∧ PDayRel cur r.2 m.2) (fun _ _ => True) (fusedTranscode P (((g1, g2), g3), g4) dg)
      (Beancount.processDay v { st with vQty := vq } d) := by
    -- `Sort` never fails; then ComputePrices, check, Valuate on both sides
    simp only [fusedTranscode, fuse_eq_bind, bind_assoc, pure_bind, hsort, tPrices, tCheck, tValuate, processDay_eq]
    rw [hP.val] at hvq0 ⊢
    refine prices_bind (st := { st with vQty := vq }) hP.fuel hcp hd1.prices fun g2' sp hcp1 hr2 hpd => ?_
    dsimp only
    obtain ⟨p1, hvp, hvq, _⟩ := pricesDay_fields hpd
    have hd2 := hd1.normalized g2'.previous
    refine check_bind hP.ord (p1 ▸ hchk) hd2 fun g3' c hchk1 hck _ => ?_
    dsimp only
    refine valuate_bind hP.ext1 hP.oV (st := { sp with chk := c }) (hvp ▸ hva) (hvq.trans (hvq0.symm.trans (by rw [hr2]; rfl))) hd2.date hcp1.previous
      hd2.transactions fun g4' l s4 txs hv2 hl hvd _ => ?_
    dsimp only
    obtain ⟨f1, f2, f3, _⟩ := valuateDay_fields hvd
    have hmo : Beancount.processDay v { st with vQty := vq } d = .ok (s4, ⟨d.date, d.openings, txs, d.closings⟩) := by
      simp only [processDay_eq, hpd, bind, Except.bind, Balance.checkStage, hck, hvd]
    exact .ok ⟨⟨f2 ▸ f3 ▸ hcp1, f1 ▸ hchk1, _, hv2⟩, hdgs ▸ hd.rel.openings, TRelB_of_TRel cur hl (hdesc _ _ _ hmo), hdgs ▸ hd.rel.closings⟩
  exact ESim.casesOn key (fun hq => hq) (fun _ => trivial)

/-- what the theorems presuppose of a model day (see the header): the unstable sort cannot show, descriptions without `"` -/
structure TrDayOK (v : Knut.Commodity) (d : Knut.Day) : Prop where
  targets : TargetsOK d
  accounts : AccountsByName d.transactions
  desc : DescOK v d

theorem transcode_seq_agrees (cur : String → Bool) (v : Knut.Commodity) (P : TrPar) (hP : TrParOK cur v P) :
    ∀ (gdays : List journal.Day) (days : List Knut.Day), AllRel (DayRelS cur) gdays days →
      (∀ g ∈ gdays, SortOK P.srt g.Transactions) → (∀ d ∈ days, TrDayOK v d) →
      ∀ (G : TFused) (st : BalState), TrInv cur G st →
        match seqStage (fusedTranscode P) G gdays with
        | some out => ∃ pds, ProcOrd v st days pds ∧ AllRel (PDayRel cur) out pds
        | none => ProcFail v st days := by
  intro gdays days hrel
  induction hrel with
  | nil =>
    intro _ _ G st _
    rw [seqStage_nil]
    exact ⟨[], .nil st, .nil⟩
  | @cons dg d gds ds hd _ ih =>
    intro hs hok G st hI
    have hdk := hok d List.mem_cons_self
    obtain ⟨vq, hr, hn, hm⟩ := transcode_day_agrees cur v P hP hI dg d hd (hs dg List.mem_cons_self) hdk.targets hdk.accounts
      hdk.desc
    rw [seqStage_cons]
    cases hgo : fusedTranscode P G dg with
    | error e =>
      rw [hgo] at hm
      cases hmo : Beancount.processDay v { st with vQty := vq } d with
      | ok r => rw [hmo] at hm; exact absurd hm (by simp)
      | error e' => exact ProcFail.here vq hr hn hmo
    | ok r =>
      obtain ⟨G', dg'⟩ := r
      rw [hgo] at hm
      cases hmo : Beancount.processDay v { st with vQty := vq } d with
      | error e' => rw [hmo] at hm; exact absurd hm (by simp)
      | ok r' =>
        obtain ⟨st', pd⟩ := r'
        rw [hmo] at hm
        simp only at hm ⊢
        have := ih (fun g hg => hs g (List.mem_cons_of_mem _ hg)) (fun d' hd' => hok d' (List.mem_cons_of_mem _ hd')) G' st' hm.1
        revert this
        cases seqStage (fusedTranscode P) G' gds with
        | none => intro h; exact ProcFail.later vq hr hn hmo h
        | some o =>
          intro h
          obtain ⟨pds, hpo, hpr⟩ := h
          exact ⟨pd :: pds, .cons vq hr hn hmo hpo, .cons hm.2 hpr⟩

/-- **`Journal.Process` of `knut transcode` over a whole journal = the model's run** (`Beancount.processFrom`, its `vQty` re-listed
before each day in the order Go iterates), in both directions, for EVERY admissible sorting function, family of iteration orders and
fuels: the sequential run of the four translated stages succeeds ⇒ the model's run succeeds on the days the Go days stand for and the
Go days that leave the last stage — the journal `beancount.Transcode` is handed — stand for the model's processed days; it fails ⇒
the model's run fails. -/
theorem processAllTranscode_agrees (cur : String → Bool) (v : Knut.Commodity) (P : TrPar) (hP : TrParOK cur v P) (G0 : TrGo)
    (hinit : TrInv cur (tFusedInit G0) {}) (gdays : List journal.Day) (days : List Knut.Day)
    (hdays : AllRel (DayRelS cur) gdays days) (hs : ∀ g ∈ gdays, SortOK P.srt g.Transactions) (hok : ∀ d ∈ days, TrDayOK v d) :
    match processAllTranscode P G0 gdays with
    | some out => ∃ pds, ProcOrd v {} days pds ∧ AllRel (PDayRel cur) out pds
    | none => ProcFail v {} days := by
  rw [processAllTranscode_eq]
  exact transcode_seq_agrees cur v P hP gdays days hdays hs hok _ _ hinit

theorem processAllTranscode_ok (cur : String → Bool) (v : Knut.Commodity) (P : TrPar) (hP : TrParOK cur v P) (G0 : TrGo)
    (hinit : TrInv cur (tFusedInit G0) {}) (gdays : List journal.Day) (days : List Knut.Day)
    (hdays : AllRel (DayRelS cur) gdays days) (hs : ∀ g ∈ gdays, SortOK P.srt g.Transactions) (hok : ∀ d ∈ days, TrDayOK v d)
    (out : List journal.Day) (h : processAllTranscode P G0 gdays = some out) :
    ∃ pds, ProcOrd v {} days pds ∧ AllRel (PDayRel cur) out pds := by
  have := processAllTranscode_agrees cur v P hP G0 hinit gdays days hdays hs hok
  rw [h] at this
  exact this

theorem processAllTranscode_fails (cur : String → Bool) (v : Knut.Commodity) (P : TrPar) (hP : TrParOK cur v P) (G0 : TrGo)
    (hinit : TrInv cur (tFusedInit G0) {}) (gdays : List journal.Day) (days : List Knut.Day)
    (hdays : AllRel (DayRelS cur) gdays days) (hs : ∀ g ∈ gdays, SortOK P.srt g.Transactions) (hok : ∀ d ∈ days, TrDayOK v d)
    (h : processAllTranscode P G0 gdays = none) : ProcFail v {} days := by
  have := processAllTranscode_agrees cur v P hP G0 hinit gdays days hdays hs hok
  rw [h] at this
  exact this

/-! ### Non-vacuity: the empty journal — the four stages succeed on no day, the initial states are related (`TrInv_init`) -/
example (P : TrPar) (G0 : TrGo) : processAllTranscode P G0 [] = some [] := by
  rw [processAllTranscode_eq]; rfl

end Knut.FactsAgree.TransProcessAll
