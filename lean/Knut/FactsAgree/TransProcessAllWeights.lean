import Knut.FactsAgree.TransProcessAllReturns
/-!
# `knut portfolio weights`: `j.Build().Process(ComputePrices, check, Valuate, ComputeValues, weights.Query{…}.Execute(j, rep))` — the stages BEFORE the query, over a WHOLE journal

The processor list is the one of `cmd/commands/portfolio/weights.go` (`execute`), in this order — written down by hand here and tied
by `FactsAgree/ProcOrderPortfolio` (`ProcOrder.weightsOrder_eq`) to the list extracted from the source on every run:

    journal.ComputePrices(valuation), check.Check(), journal.Valuate(reg, valuation),
    calculator.ComputeValues(), weights.Query{Universe, Partition, Mapping}.Execute(j, rep)

**`weights.Query.Execute` is not translated as a whole** (outside the translator's subset; two fragments of its `DayEnd` closure and
`Universe.Locate`, `Mapping.Level`, `Report.Add`, `PropagateWeights`, `SortWeighted` are: `FactsAgree/TransWeightsQuery.lean`,
`TransWeights*.lean`) and is not a stage of the system here.  The composition STOPS before it: `processAllWeights` is the sequential meaning (`Pipeline.seqRun`, as in `TransProcessAllReturns.lean`) of the
FOUR translated processors before the query, i.e. the days as they REACH `Query.Execute`'s `DayEnd`.  The stages are the ones of
`TransProcessAllReturns` (`rPrices`, `rCheck`, `rValuate`, `rValues`, over the same parameter record `RetPar`, whose `part`, `oS` are not
used here) and `valued_segment` is reused as it is; the `ComputeValues` half of `values_flows_segment` is `values_segment`.
-/
namespace Knut.FactsAgree.TransProcessAllWeights
open Knut Knut.GoSem Knut.Pipeline
open Knut.Generated.Go
open Knut.FactsAgree.TransProcess Knut.FactsAgree.TransCheck
open Knut.FactsAgree.TransProcessAll
open Knut.FactsAgree.TransPerformance (calcGo cvProc CVRel PEq perfDaysV valuedDays)
open Knut.FactsAgree.TransProcessAllReturns

/-- **the instantiation of `Pipeline.Sys`** for the four translated processors before `weights.Query.Execute`:
`Process(ComputePrices(v), check.Check(), Valuate(reg, v), calculator.ComputeValues(), …)` -/
def weightsSys (P : RetPar) (G0 : RetGo) (days : List journal.Day) : Sys RetGo journal.Day PErr :=
  { n := 4, init := fun _ => G0, items := days,
    f := fun k =>
      match k with
      | 1 => liftStage RetGo.cp (fun S s => { S with cp := s }) (rPrices P)
      | 2 => liftStage RetGo.chk (fun S s => { S with chk := s }) (rCheck P)
      | 3 => liftStage RetGo.va (fun S s => { S with va := s }) (rValuate P)
      | 4 => liftStage RetGo.cv (fun S s => { S with cv := s }) (rValues P)
      | _ => idStage }

/-- **the days that reach `weights.Query.Execute`** in the sequential meaning of `Journal.Process` for `knut portfolio weights`; `none`
if one of the four stages before it failed -/
def processAllWeights (P : RetPar) (G0 : RetGo) (days : List journal.Day) : Option (List journal.Day) :=
  seqRun (weightsSys P G0 days)

/-- every successful schedule of the transition system of `cpr.Seq` delivers `processAllWeights` (`C19_confluent`) -/
theorem processAllWeights_meaning (P : RetPar) (G0 : RetGo) (days : List journal.Day)
    {s : St RetGo journal.Day PErr} (h : Reach (weightsSys P G0 days) s) (hd : s.done (weightsSys P G0 days)) :
    processAllWeights P G0 days = some s.out := seq_meaning h hd

abbrev WFused := ((journal.ComputePrices.State × check.Checker) × journal.Valuate.State) × performance.Calculator.ComputeValues.State

def fused4 (P : RetPar) : WFused → journal.Day → Except PErr (WFused × journal.Day) := fuse (fused3 P) (rValues P)

def init4 (G0 : RetGo) : WFused := (((G0.cp, G0.chk), G0.va), G0.cv)

/-- **stage-major = day-major** -/
theorem processAllWeights_eq (P : RetPar) (G0 : RetGo) (days : List journal.Day) :
    processAllWeights P G0 days = seqStage (fused4 P) (init4 G0) days := by
  unfold processAllWeights seqRun weightsSys fused4 fused3 init4
  simp only [seqUpTo, Option.bind_some]
  rw [seqStage_lift' RetGo.cp _ (fun _ _ => rfl), seqStage_lift' RetGo.chk _ (fun _ _ => rfl),
    seqStage_lift' RetGo.va _ (fun _ _ => rfl), seqStage_lift' RetGo.cv _ (fun _ _ => rfl)]
  rw [seqStage_fuse, seqStage_fuse, seqStage_fuse]

/-- a day of the Go journal after `ComputeValues` (as it reaches the weights query) carries the model's per-commodity values: `V0` the
values at the end of the previous day, `V1` the values after the day's postings -/
def DayRelW (cur : String → Bool) (d : journal.Day) (dp : Performance.DayPerf) : Prop :=
  d.Date = dp.date ∧ ∃ p, d.Performance = some p ∧ PEq cur p.V0 dp.v0 ∧ PEq cur p.V1 dp.v1

/-- the captured states of the four processors stand for the model's `PState` -/
structure WInv (cur : String → Bool) (cfg : Performance.Cfg) (G : WFused) (ps : Performance.PState) : Prop where
  cp : cfg.valuation.isSome → CPEquiv cur G.1.1.1 ps.bal.graph ps.bal.norm
  chk : StEquiv cur G.1.1.2 ps.bal.chk
  va : cfg.valuation.isSome → ∃ old, VEquiv cur G.1.2 ps.bal.vPrev old ps.bal.vQty
  cv : CVRel cur G.2 ps.values ps.prev

/-- **`ComputeValues` as a stage** (the `ComputeValues` half of `values_flows_segment`) on a day without a `Performance` yet whose
transactions stand for the model's valued transactions: it succeeds for every admissible order, and the day afterwards carries
`V0` = `prev`, `V1` = `valuesDay` -/
theorem values_segment (cur : String → Bool) (cfg : Performance.Cfg) (P : RetPar) (hP : RetParOK cur cfg P)
    {g : performance.Calculator.ComputeValues.State} {vals prev : AMap Knut.Commodity Rat} (h : CVRel cur g vals prev)
    (dg : journal.Day) (date : Int) (hdate : dg.Date = date)
    (hnil : dg.Performance = none) (txs : List Knut.Transaction) (htx : AllRel (TRel cur) dg.Transactions txs)
    (i o pf : Rat) :
    ∃ g' dg1, rValues P g dg = .ok (g', dg1) ∧
      CVRel cur g' (Performance.valuesDay cfg vals txs) (Performance.valuesDay cfg vals txs) ∧
      DayRelW cur dg1 (Performance.DayPerf.mk date prev (Performance.valuesDay cfg vals txs) i o pf) := by
  obtain ⟨ho, hsub, hcov⟩ := hP.oE g dg vals prev txs h htx
  obtain ⟨g', v1, hcv, hrel, hv1, _⟩ := TransPerformance.ComputeValues_day_agrees cur cfg h dg txs htx (P.oE g dg) ho hsub hcov
  simp only [hnil, Option.getD_none] at hcv
  refine ⟨g', { dg with Performance := some { (GoZero.zero : journal.Performance) with V0 := g.prev, V1 := v1 } }, ?_, hrel,
    hdate, _, rfl, h.prev, hv1⟩
  unfold rValues
  rw [hP.cg]
  exact stageOf_ok hcv

/-- **one day through the four translated stages before the weights query against the model's `valuedDay` + `valuesDay`**: both
succeed — states related again, the day that reaches the query carrying the model's `v0`/`v1` — or both fail -/
theorem weights_day_agrees (cur : String → Bool) (cfg : Performance.Cfg) (P : RetPar) (hP : RetParOK cur cfg P)
    {G : WFused} {ps : Performance.PState} (hI : WInv cur cfg G ps) (dg : journal.Day) (d : Knut.Day) (hd : DayRelP cur dg d) :
    ∃ vq, Relist ps.bal.vQty vq ∧ (cfg.valuation = none → vq = ps.bal.vQty) ∧
      match fused4 P G dg, Performance.valuedDay cfg { ps.bal with vQty := vq } d with
      | .ok (G', dg'), .ok (bal', txs) =>
        WInv cur cfg G' ⟨bal', Performance.valuesDay cfg ps.values txs, Performance.valuesDay cfg ps.values txs⟩ ∧
        DayRelW cur dg' (Performance.DayPerf.mk d.date ps.prev (Performance.valuesDay cfg ps.values txs)
          (Performance.dayFlows cfg txs).1 (Performance.dayFlows cfg txs).2.1 (Performance.dayFlows cfg txs).2.2)
      | .error _, .error _ => True
      | _, _ => False := by
  obtain ⟨⟨⟨g1, g2⟩, g3⟩, g4⟩ := G
  obtain ⟨hcp, hchk, hva, hcv⟩ := hI
  simp only at hcp hchk hva hcv
  obtain ⟨vq, hr, hn, hm⟩ := valued_segment cur cfg P hP g1 g2 g3 ps.bal hcp hchk hva dg d hd.1
  refine ⟨vq, hr, hn, ?_⟩
  unfold fused4 fuse
  split at hm
  next G3 dg3 bal' txs h3 hmo =>
    obtain ⟨m1, m2, m3, m4, m5, m6⟩ := hm
    obtain ⟨g4', dg4, e4, hcv', hrel⟩ := values_segment cur cfg P hP hcv dg3 d.date
      (by rw [m4]; exact hd.1.date) (by rw [m5]; exact hd.2) txs m6
      (Performance.dayFlows cfg txs).1 (Performance.dayFlows cfg txs).2.1 (Performance.dayFlows cfg txs).2.2
    simp only [h3, hmo, e4]
    exact ⟨⟨m1, m2, m3, hcv'⟩, hrel⟩
  next h3 hmo => simp only [h3, hmo]
  next => exact hm.elim

/-- **the four stages over the whole journal, by induction over the days**, both directions -/
theorem weights_seq_agrees (cur : String → Bool) (cfg : Performance.Cfg) (P : RetPar) (hP : RetParOK cur cfg P) :
    ∀ (gdays : List journal.Day) (days : List Knut.Day), AllRel (DayRelP cur) gdays days →
      ∀ (G : WFused) (ps : Performance.PState), WInv cur cfg G ps →
        match seqStage (fused4 P) G gdays with
        | some out => ∃ ms, ValuedOrd cfg ps.bal days ms ∧
            AllRel (DayRelW cur) out (perfDaysV cfg (ps.values, ps.prev) ms)
        | none => ValuedFail cfg ps.bal days := by
  intro gdays days hrel
  induction hrel with
  | nil =>
    intro G ps _
    rw [seqStage_nil]
    exact ⟨[], .nil _, .nil⟩
  | @cons dg d gds ds hd _ ih =>
    intro G ps hI
    obtain ⟨vq, hr, hn, hm⟩ := weights_day_agrees cur cfg P hP hI dg d hd
    rw [seqStage_cons]
    split at hm
    next G' dg' bal' txs hgo hmo =>
      simp only [hgo]
      have := ih G' _ hm.1
      revert this
      cases seqStage (fused4 P) G' gds with
      | none => intro h; exact ValuedFail.later vq hr hn hmo h
      | some o =>
        intro h
        obtain ⟨ms, hpo, hpr⟩ := h
        exact ⟨(d.date, txs) :: ms, .cons vq hr hn hmo hpo, .cons hm.2 hpr⟩
    next hgo hmo => simp only [hgo]; exact ValuedFail.here vq hr hn hmo
    next => exact hm.elim

/-- the states the four constructors start from (`reg`, `calculator`); the fields of `RetGo` for `ComputeFlows` and `Perf` are not used
by `weightsSys` -/
def weightsInit (cur : String → Bool) (cfg : Performance.Cfg) (cf : performance.Calculator.ComputeFlows.State)
    (pf : performance.Perf.State) : RetGo :=
  { cp := ⟨GoZero.zero, []⟩, chk := checkInit, va := ⟨GoZero.zero, GoZero.zero, []⟩,
    cv := performance.Calculator.ComputeValues.init (calcGo cur cfg), cf := cf, pf := pf }

theorem WInv_init (cur : String → Bool) (cfg : Performance.Cfg) (cf : performance.Calculator.ComputeFlows.State)
    (pf : performance.Perf.State) : WInv cur cfg (init4 (weightsInit cur cfg cf pf)) {} :=
  ⟨fun _ => ⟨TransPrice.PEquivS_nil cur, NPEquivO_nil cur⟩, checkInit_equiv cur,
    fun _ => ⟨none, NPEquivO_nil cur, NPEquivO_nil cur, QEquiv_nil cur⟩,
    TransPerformance.ComputeValues_init_agrees cur (calcGo cur cfg)⟩

/-- **`Journal.Process` of `knut portfolio weights` up to the (untranslated) query = the model's run**, for EVERY admissible family of
iteration orders and fuels (`RetParOK`), on Go days that stand for the model's days and carry no `Performance` yet:

* the four stages fail ⇒ the model's (re-listed) valuation of the days fails (`ValuedFail`);
* they succeed ⇒ the model's valued days `ms` exist (`ValuedOrd`) and the days that REACH `weights.Query.Execute` carry, one by one, the
  per-commodity values `v0`/`v1` of `perfDaysV … ms` — the model's `perfFrom`, what the model's `Weights.queryFrom` is run on. -/
theorem processAllWeights_agrees (cur : String → Bool) (cfg : Performance.Cfg) (P : RetPar) (hP : RetParOK cur cfg P)
    (cf : performance.Calculator.ComputeFlows.State) (pf : performance.Perf.State)
    (gdays : List journal.Day) (days : List Knut.Day) (hdays : AllRel (DayRelP cur) gdays days) :
    match processAllWeights P (weightsInit cur cfg cf pf) gdays with
    | none => ValuedFail cfg {} days
    | some out => ∃ ms, ValuedOrd cfg {} days ms ∧ AllRel (DayRelW cur) out (perfDaysV cfg ([], []) ms) := by
  rw [processAllWeights_eq]
  have h := weights_seq_agrees cur cfg P hP gdays days hdays _ {} (WInv_init cur cfg cf pf)
  revert h
  cases seqStage (fused4 P) (init4 (weightsInit cur cfg cf pf)) gdays <;> exact id

/-! ### Non-vacuity: the empty journal — all stages succeed on no day, the initial states are related (`WInv_init`); a non-empty
journal with admissible parameters: `Properties/C20Go3Ex.lean` -/
example (P : RetPar) (G0 : RetGo) : processAllWeights P G0 [] = some [] := by
  rw [processAllWeights_eq]; rfl

theorem processAllWeights_of_valued (cur : String → Bool) {cfg : Performance.Cfg} (hv : cfg.valuation = none) {P : RetPar}
    (hP : RetParOK cur cfg P) (cf : performance.Calculator.ComputeFlows.State) (pf : performance.Perf.State)
    {gdays : List journal.Day} {days : List Knut.Day} (hdays : AllRel (DayRelP cur) gdays days)
    {ms : List (Int × List Knut.Transaction)} (hms : valuedDays cfg {} days = some ms) :
    ∃ out, processAllWeights P (weightsInit cur cfg cf pf) gdays = some out ∧ AllRel (DayRelW cur) out (perfDaysV cfg ([], []) ms) := by
  have key := processAllWeights_agrees cur cfg P hP cf pf gdays days hdays
  revert key
  cases processAllWeights P (weightsInit cur cfg cf pf) gdays with
  | none => exact fun key => (key.elim hv hms).elim
  | some out => exact fun ⟨ms', hvo, hall⟩ => ⟨out, rfl, hvo.eq hv hms ▸ hall⟩

end Knut.FactsAgree.TransProcessAllWeights
