import Knut.Proofs.BalanceQuery
import Knut.Generated.TransJournal
import Knut.FactsAgree.TransProcess
/-!
# The translated `Query.Into` (`lib/journal/process.go`) agrees with the model's `queryPosting`

`Query{Select, Where, Valuation}.Into(c)` sets one closure, `Posting`.  Its state is the query (after the two nil defaults of the
prologue) and — because the collection `c` is an interface on which the closure only calls `Insert(k, v)` — the LOG of these calls.
`Select` and `Where` are function values (`Option (Key → Outcome …)`; nil = `none`, calling it panics).
-/
namespace Knut.FactsAgree.TransQuery
open Knut Knut.GoSem
open Knut.Generated.Go
open Knut.FactsAgree.TransAccount Knut.FactsAgree.TransPosting Knut.FactsAgree.TransTransaction
open Knut.FactsAgree.TransProcess (Proc processDay)

example : journal.Query.Into.callbacks = ["Posting"] := rfl
example : journal.Query.Into.nonNil = [] ∧ journal.Query.Into.externals = [] := ⟨rfl, rfl⟩

/-- **the prologue of `Query.Into`**: a nil `Where` becomes `predicate.True`, a nil `Select` becomes `mapper.Identity`; nothing
has been inserted yet -/
theorem Query_init_agrees (q : journal.Query) :
    journal.Query.Into.init q =
      { query := { q with Where := some (q.Where.getD (fun _ => GoSem.Outcome.ok true)),
                          Select := some (q.Select.getD (fun k => GoSem.Outcome.ok k)) },
        c := [] } := by
  unfold journal.Query.Into.init
  obtain ⟨sel, whr, val⟩ := q
  cases whr <;> cases sel <;> simp [predicate.True_, mapper.Identity]

/-- the key `Posting` builds from the transaction and the posting -/
def keyOf (val : commodity.Commodity) (t : transaction.Transaction) (b : posting.Posting) : amounts.Key :=
  { Date := t.Date, Account := b.Account, Other := b.Other, Commodity := b.Commodity, Valuation := val, Description := t.Description }

/-- **`Query.Into`'s `Posting`**: the amount is the value when a valuation is set (a nil `Valuation` is the zero commodity) and the
quantity otherwise; the key carries date, description, both accounts, commodity and valuation; if `Where` accepts the key,
`c.Insert(Select(key), amount)` is called (appended to the log).  A nil `Where`/`Select` panics, as in Go. -/
theorem Query_Posting_agrees (st : journal.Query.Into.State) (t : transaction.Transaction) (b : posting.Posting) :
    journal.Query.Into.Posting st t b =
      let amount := if st.query.Valuation = GoZero.zero then b.Quantity else b.Value
      let key := keyOf st.query.Valuation t b
      (callFn1 st.query.Where key).bind fun ok =>
        if ok then (callFn1 st.query.Select key).bind fun k' =>
          GoSem.Outcome.ok ({ st with c := st.c ++ [(k', amount)] }, none)
        else GoSem.Outcome.ok (st, none) := by
  unfold journal.Query.Into.Posting keyOf
  by_cases hv : st.query.Valuation = GoZero.zero
  · simp only [hv, decide_true, Bool.not_true, Bool.false_eq_true, if_false, if_true]
    cases callFn1 st.query.Where _ with
    | ok r => cases r <;> simp [GoSem.Outcome.bind] <;> cases callFn1 st.query.Select _ <;> rfl
    | panic m => rfl
    | outOfFuel => rfl
  · simp only [hv, decide_false, Bool.not_false, if_true, if_false]
    cases callFn1 st.query.Where _ with
    | ok r => cases r <;> simp [GoSem.Outcome.bind] <;> cases callFn1 st.query.Select _ <;> rfl
    | panic m => rfl
    | outOfFuel => rfl

/-- what `Report.Insert` keeps of a logged call: a key whose account is nil (the zero account: hidden by a level-0 mapping) is
dropped; a zero date is "after the window" -/
def entryOf (e : amounts.Key × Rat) : Option Knut.Entry :=
  if e.1.Account = GoZero.zero then none
  else some { date := if e.1.Date = 0 then none else some e.1.Date, account := ⟨e.1.Account.segments⟩,
              commodity := e.1.Commodity.name, amount := e.2 }

/-- **against the model**: when `Where` computes the model's two filters and `Select` the model's account mapping and column
(`hw`, `hs`: that is how `cmd/commands/balance.go`, which is not translated, sets them up), the entries that `Report.Insert` keeps
of the log grow by exactly `Balance.queryPosting` -/
theorem Query_Posting_model (cur : String → Bool) (cfg : BalCfg) (st : journal.Query.Into.State)
    (w : amounts.Key → Bool) (s : amounts.Key → amounts.Key)
    (hW : st.query.Where = some (fun k => GoSem.Outcome.ok (w k))) (hS : st.query.Select = some (fun k => GoSem.Outcome.ok (s k)))
    (hval : (st.query.Valuation = GoZero.zero) ↔ cfg.valuation = none)
    (tg : transaction.Transaction) (t : Knut.Transaction) (src : Ref) (p : Knut.Posting)
    (hw : w (keyOf st.query.Valuation tg (postingGo cur src p)) = (cfg.accountFilter p.account.name && cfg.commodityFilter p.commodity))
    (hs : ∀ amt, entryOf (s (keyOf st.query.Valuation tg (postingGo cur src p)), amt) =
      (mapAccount cfg p.account).map fun a => { date := alignIn cfg.periods t.date, account := a, commodity := p.commodity, amount := amt }) :
    ∃ st', journal.Query.Into.Posting st tg (postingGo cur src p) = GoSem.Outcome.ok (st', none) ∧ st'.query = st.query ∧
      st'.c.filterMap entryOf = st.c.filterMap entryOf ++ (Balance.queryPosting cfg t p).toList := by
  rw [Query_Posting_agrees]
  simp only [hW, hS, callFn1, GoSem.Outcome.bind, hw]
  rw [queryPosting_eq_entryOf]
  by_cases hf : (cfg.accountFilter p.account.name && cfg.commodityFilter p.commodity) = true
  · rw [entryOf_pos hf]
    simp only [hf, if_true]
    refine ⟨_, rfl, rfl, ?_⟩
    simp only [List.filterMap_append, List.filterMap_cons, List.filterMap_nil, hs]
    have hamt : (if st.query.Valuation = GoZero.zero then (postingGo cur src p).Quantity else (postingGo cur src p).Value) =
        p.amountIn cfg := by
      unfold Posting.amountIn
      by_cases hz : st.query.Valuation = GoZero.zero
      · simp [hz, hval.mp hz, postingGo]
      · have : cfg.valuation ≠ none := fun e => hz (hval.mpr e)
        have : cfg.valuation.isSome = true := by
          cases hc : cfg.valuation with
          | none => exact absurd hc this
          | some v => rfl
        simp [hz, this, postingGo]
    rw [hamt]
    cases mapAccount cfg p.account <;> simp
  · have hf' : (cfg.accountFilter p.account.name && cfg.commodityFilter p.commodity) = false := by simpa using hf
    rw [entryOf_neg hf]
    simp only [hf', Bool.false_eq_true, if_false]
    exact ⟨st, rfl, rfl, by simp⟩

/-- non-vacuity: with the defaults of the prologue a posting is logged under its own key, with its value when valued -/
example :
    let q : journal.Query := { Select := none, Where := none, Valuation := ⟨"CHF", true⟩ }
    let b : posting.Posting := ⟨⟨0⟩, 10, 25, accountGo ⟨["Assets", "A"]⟩, accountGo ⟨["Income", "B"]⟩, ⟨"USD", false⟩⟩
    (match journal.Query.Into.Posting (journal.Query.Into.init q) ⟨⟨0⟩, 7, "x", [b], none⟩ b with
      | .ok (st, none) => st.c.map (fun e => (e.1.Date, e.1.Account.name, e.1.Commodity.name, e.2))
      | _ => []) = [(7, "Assets:A", "USD", 25)] := by decide +kernel

end Knut.FactsAgree.TransQuery
