import Knut.Generated.TransReport
import Knut.FactsAgree.TransAmountsSum
import Knut.Model.BalanceReport
import Knut.Proofs.ReportRender
/-!
# The translated `Renderer.render` (the rows of one account or total) agrees with `BalanceReport.renderVals`

`render(t, indent, name, neg, vals)` only WRITES to the table: the translated function returns the LOG of the builder calls
(`TableCall`; a row is identified by the number of the `AddRow` call that created it).  Nothing of package table is
translated or given a meaning by this unit: `interp` reads a log with the model's table (`Model/Table.lean`): `AddRow` opens a row, the
row methods append a cell to THEIR row, `FillEmpty` pads to the table's width.  `FactsAgree/TransTableLog.lean` (`exec_interp`) proves
this reading against the builder functions of package table as translated in `FactsAgree/TransTableBuild.lean`.
-/
namespace Knut.FactsAgree.TransRender
open Knut Knut.GoSem
open Knut.Generated.Go
open Knut.Table (Cell Align)
open Knut.FactsAgree.TransAmountsSum

abbrev TC := table.TableCall

/-- the number cells of one row: the amounts at the end dates, cumulative unless `Diff`, negated when `neg` -/
def numCalls (diff neg : Bool) (vals : amounts.Amounts) (r : Nat) (com : commodity.Commodity) : List Int → Rat → List TC
  | [], _ => []
  | d :: rest, total =>
    let v := AMap.get vals (amounts.DateCommodityKey d com) 0
    let total' := if diff then total else total + v
    let shown := if diff then v else total + v
    table.TableCall.Row_AddDecimal r (if neg then -shown else shown) :: numCalls diff neg vals r com rest total'

/-- the calls for the row of the `i`-th commodity -/
def rowCalls (rn : balance.Renderer) (indent : Int) (name : String) (neg : Bool) (vals : amounts.Amounts) (r i : Nat)
    (com : commodity.Commodity) : List TC :=
  [table.TableCall.AddRow, if i = 0 then table.TableCall.Row_AddIndented r name indent else table.TableCall.Row_AddEmpty r] ++
  (if rn.drawCommsColumn then
    [if com ≠ GoZero.zero then table.TableCall.Row_AddText r com.name table.Left
     else if rn.Valuation ≠ GoZero.zero then table.TableCall.Row_AddText r rn.Valuation.name table.Left
     else table.TableCall.Row_AddEmpty r]
   else []) ++
  numCalls rn.Diff neg vals r com (date.Partition.EndDates rn.partition) 0

/-- the blocks of the commodities `l`, the first of them being number `k` and written to row `r0` -/
def blocks (rn : balance.Renderer) (indent : Int) (name : String) (neg : Bool) (vals : amounts.Amounts) :
    List commodity.Commodity → Nat → Nat → List TC
  | [], _, _ => []
  | c :: rest, k, r0 => rowCalls rn indent name neg vals r0 k c ++ blocks rn indent name neg vals rest (k + 1) (r0 + 1)

variable (rn : balance.Renderer) (indent : Int) (name : String) (neg : Bool) (vals : amounts.Amounts)

/-- the first cell of the row of the `i`-th commodity: the name, or nothing -/
def nameCall (r i : Nat) (name : String) (indent : Int) : TC :=
  if i = 0 then table.TableCall.Row_AddIndented r name indent else table.TableCall.Row_AddEmpty r

/-- the commodity cell, when the column is drawn: the commodity, else the valuation, else nothing -/
def commCalls (rn : balance.Renderer) (r : Nat) (com : commodity.Commodity) : List TC :=
  if rn.drawCommsColumn then
    [if com ≠ GoZero.zero then table.TableCall.Row_AddText r com.name table.Left
     else if rn.Valuation ≠ GoZero.zero then table.TableCall.Row_AddText r rn.Valuation.name table.Left
     else table.TableCall.Row_AddEmpty r]
  else []

theorem rowCalls_eq (r i : Nat) (com : commodity.Commodity) :
    rowCalls rn indent name neg vals r i com = table.TableCall.AddRow :: nameCall r i name indent ::
      (commCalls rn r com ++ numCalls rn.Diff neg vals r com (date.Partition.EndDates rn.partition) 0) := rfl

/-- `table.Alignment` as the model's: `Left` = 0, `Right` = 1, every other number is read as `Center` (the Go code keeps the
number: `TransTableLog.AlignOK`) -/
def alignOf (a : Int) : Align := if a = 0 then .left else if a = 1 then .right else .center

/-- the cell a cell-adding call on row `r` appends -/
def cellOf (r : Nat) : TC → Option Cell
  | .Row_AddEmpty r' => if r' = r then some .empty else none
  | .Row_AddText r' c a => if r' = r then some (.text c.toList (alignOf a) 0) else none
  | .Row_AddIndented r' c i => if r' = r then some (.text c.toList .left i) else none
  | .Row_AddDecimal r' n => if r' = r then some (.num n) else none
  | _ => none

def nameCell (i : Nat) (name : String) (indent : Int) : Cell := if i = 0 then Cell.text name.toList .left indent else .empty

def commCells (rn : balance.Renderer) (com : commodity.Commodity) : List Cell :=
  if rn.drawCommsColumn then
    [if com ≠ GoZero.zero then Cell.text com.name.toList .left 0
     else if rn.Valuation ≠ GoZero.zero then Cell.text rn.Valuation.name.toList .left 0 else .empty]
  else []

def rowCells (i : Nat) (com : commodity.Commodity) : List Cell :=
  nameCell i name indent :: (commCells rn com ++
    numCells rn.Diff neg (fun d => AMap.get vals (amounts.DateCommodityKey d com) 0) (date.Partition.EndDates rn.partition) 0)

theorem numCalls_cells (diff neg : Bool) (vals : amounts.Amounts) (r : Nat) (com : commodity.Commodity) (ds : List Int) (total : Rat) :
    (numCalls diff neg vals r com ds total).map (cellOf r) =
      (numCells diff neg (fun d => AMap.get vals (amounts.DateCommodityKey d com) 0) ds total).map some := by
  induction ds generalizing total with
  | nil => rfl
  | cons d rest ih => simp [numCalls, numCells, cellOf, ih]

theorem nameCall_cell (r i : Nat) (name : String) (indent : Int) :
    cellOf r (nameCall r i name indent) = some (nameCell i name indent) := by
  unfold nameCall nameCell
  split <;> simp [cellOf]

theorem commCalls_cells (rn : balance.Renderer) (r : Nat) (com : commodity.Commodity) :
    (commCalls rn r com).map (cellOf r) = (commCells rn com).map some := by
  unfold commCalls commCells
  by_cases hd : rn.drawCommsColumn
  · by_cases hc : com = GoZero.zero
    · by_cases hv : rn.Valuation = GoZero.zero <;> simp [hd, hc, hv, cellOf, alignOf, table.Left]
    · simp [hd, hc, cellOf, alignOf, table.Left]
  · simp [hd]

theorem rowCalls_cells (r i : Nat) (com : commodity.Commodity) :
    ((rowCalls rn indent name neg vals r i com).drop 1).map (cellOf r) = (rowCells rn indent name neg vals i com).map some := by
  simp only [rowCalls_eq, List.drop_succ_cons, List.drop_zero, rowCells, List.map_cons, List.map_append, nameCall_cell,
    commCalls_cells, numCalls_cells]

theorem rows_append (a b : table.TableLog) : table.TableLog.rows (a ++ b) = table.TableLog.rows a + table.TableLog.rows b := by
  simp [table.TableLog.rows, List.filter_append]

theorem rows_of_cells {r : Nat} {calls : List TC} {cells : List Cell} (h : calls.map (cellOf r) = cells.map some) :
    table.TableLog.rows calls = 0 := by
  induction calls generalizing cells with
  | nil => rfl
  | cons c rest ih =>
    cases cells with
    | nil => simp at h
    | cons x xs =>
      simp only [List.map_cons, List.cons.injEq] at h
      have hc : c ≠ table.TableCall.AddRow := by intro e; rw [e] at h; simp [cellOf] at h
      simpa [table.TableLog.rows, List.filter_cons, hc] using ih h.2

theorem rows_rowCalls (r i : Nat) (com : commodity.Commodity) : table.TableLog.rows (rowCalls rn indent name neg vals r i com) = 1 := by
  have := rows_of_cells (rowCalls_cells rn indent name neg vals r i com)
  rw [rowCalls_eq] at this ⊢
  simpa [table.TableLog.rows, List.filter_cons] using this

/-! ## the loops of `render` -/

/-- the body of the inner loop over the end dates (as generated) -/
def innerStep (diff neg : Bool) (vals : amounts.Amounts) (row : Nat) (com : commodity.Commodity)
    (st : table.TableLog × Rat) (date : Int) : table.TableLog × Rat :=
  let v : Rat := AMap.get vals (amounts.DateCommodityKey date com) (GoZero.zero : Rat)
  let st13 : Rat × Rat := if (!diff) then (Decimal.Add st.2 v, Decimal.Add st.2 v) else (st.2, v)
  (st.1 ++ [table.TableCall.Row_AddDecimal row (if neg then Decimal.Neg st13.2 else st13.2)], st13.1)

theorem inner_eq (diff neg : Bool) (vals : amounts.Amounts) (row : Nat) (com : commodity.Commodity) (ds : List Int)
    (t : table.TableLog) (total : Rat) :
    (List.foldl (innerStep diff neg vals row com) (t, total) ds).1 = t ++ numCalls diff neg vals row com ds total := by
  induction ds generalizing t total with
  | nil => simp [numCalls]
  | cons d rest ih =>
    have hstep : innerStep diff neg vals row com (t, total) d =
        (t ++ [table.TableCall.Row_AddDecimal row (if neg then -(if diff then AMap.get vals (amounts.DateCommodityKey d com) 0
            else total + AMap.get vals (amounts.DateCommodityKey d com) 0)
          else (if diff then AMap.get vals (amounts.DateCommodityKey d com) 0 else total + AMap.get vals (amounts.DateCommodityKey d com) 0))],
         if diff then total else total + AMap.get vals (amounts.DateCommodityKey d com) 0) := by
      cases diff <;> simp [innerStep]
    rw [List.foldl_cons, hstep, ih]
    simp [numCalls, List.append_assoc]

/-- the body of the loop over the commodities (as generated) -/
def outerStep (st : table.TableLog) (el : commodity.Commodity × Nat) : table.TableLog :=
  let t : table.TableLog := st ++ [table.TableCall.AddRow]
  let row : Nat := table.TableLog.rows t - 1
  let t : table.TableLog :=
    if decide ((el.2 : Int) = 0) then t ++ [table.TableCall.Row_AddIndented row name indent] else t ++ [table.TableCall.Row_AddEmpty row]
  let t : table.TableLog :=
    if rn.drawCommsColumn then
      if (!decide (el.1 = (GoZero.zero : commodity.Commodity))) then t ++ [table.TableCall.Row_AddText row (commodity.Commodity.Name el.1) table.Left]
      else if (!decide (rn.Valuation = (GoZero.zero : commodity.Commodity))) then
        t ++ [table.TableCall.Row_AddText row (commodity.Commodity.Name rn.Valuation) table.Left]
      else t ++ [table.TableCall.Row_AddEmpty row]
    else t
  (List.foldl (innerStep rn.Diff neg vals row el.1) (t, (GoZero.zero : Rat)) (date.Partition.EndDates rn.partition)).1

/-- `render`, its loops named -/
theorem render_unfold (rn : balance.Renderer) (t : table.TableLog) (indent : Int) (name : String) (neg : Bool)
    (vals : amounts.Amounts) (order : List amounts.Key) :
    balance.Renderer.render rn t indent name neg vals order =
      if decide (len vals = (0 : Int)) then
        t ++ [table.TableCall.AddRow] ++ [table.TableCall.Row_AddIndented (table.TableLog.rows (t ++ [table.TableCall.AddRow]) - 1) name indent] ++
          [table.TableCall.Row_FillEmpty (table.TableLog.rows (t ++ [table.TableCall.AddRow]) - 1)]
      else List.foldl (outerStep rn indent name neg vals) t (List.zipIdx (amounts.Amounts.CommoditiesSorted vals order)) := rfl

theorem rows_snoc_AddRow (t : table.TableLog) : table.TableLog.rows (t ++ [table.TableCall.AddRow]) - 1 = table.TableLog.rows t := by
  rw [rows_append]; simp [table.TableLog.rows]

theorem name_step (t : table.TableLog) (r i : Nat) (name : String) (indent : Int) :
    (if decide ((i : Int) = 0) then t ++ [table.TableCall.Row_AddIndented r name indent] else t ++ [table.TableCall.Row_AddEmpty r]) =
      t ++ [nameCall r i name indent] := by
  unfold nameCall
  by_cases h : i = 0 <;> simp [h]

theorem comm_step (rn : balance.Renderer) (t : table.TableLog) (r : Nat) (c : commodity.Commodity) :
    (if rn.drawCommsColumn then
      if (!decide (c = (GoZero.zero : commodity.Commodity))) then t ++ [table.TableCall.Row_AddText r (commodity.Commodity.Name c) table.Left]
      else if (!decide (rn.Valuation = (GoZero.zero : commodity.Commodity))) then
        t ++ [table.TableCall.Row_AddText r (commodity.Commodity.Name rn.Valuation) table.Left]
      else t ++ [table.TableCall.Row_AddEmpty r]
    else t) = t ++ commCalls rn r c := by
  unfold commCalls commodity.Commodity.Name
  by_cases hd : rn.drawCommsColumn
  · by_cases hc : c = GoZero.zero
    · by_cases hv : rn.Valuation = GoZero.zero <;> simp [hd, hc, hv]
    · simp [hd, hc]
  · simp [hd]

theorem outerStep_eq (T : table.TableLog) (c : commodity.Commodity) (i : Nat) :
    outerStep rn indent name neg vals T (c, i) = T ++ rowCalls rn indent name neg vals (table.TableLog.rows T) i c := by
  unfold outerStep
  simp only [rows_snoc_AddRow, name_step, comm_step, inner_eq, zero_rat]
  simp only [rowCalls_eq, List.append_assoc, List.cons_append, List.nil_append]

theorem outer_eq (l : List commodity.Commodity) (k : Nat) (T : table.TableLog) :
    List.foldl (outerStep rn indent name neg vals) T (List.zipIdx l k) =
      T ++ blocks rn indent name neg vals l k (table.TableLog.rows T) := by
  induction l generalizing k T with
  | nil => simp [blocks]
  | cons c rest ih =>
    rw [List.zipIdx_cons, List.foldl_cons, outerStep_eq, ih, rows_append, rows_rowCalls]
    simp [blocks, List.append_assoc]

/-- **the log of `render`**: the given log, then `AddRow`, the name cell and `FillEmpty` when there are no amounts, and otherwise
one block of calls per commodity of `vals.CommoditiesSorted()`: `AddRow`, the name cell (first block) or an empty cell, the
commodity cell when the column is drawn, one number per end date -/
theorem render_log (rn : balance.Renderer) (t : table.TableLog) (indent : Int) (name : String) (neg : Bool)
    (vals : amounts.Amounts) (order : List amounts.Key) :
    balance.Renderer.render rn t indent name neg vals order =
      if vals = [] then
        t ++ [table.TableCall.AddRow, table.TableCall.Row_AddIndented (table.TableLog.rows t) name indent,
          table.TableCall.Row_FillEmpty (table.TableLog.rows t)]
      else t ++ blocks rn indent name neg vals (amounts.Amounts.CommoditiesSorted vals order) 0 (table.TableLog.rows t) := by
  rw [render_unfold, outer_eq, rows_snoc_AddRow]
  have : (len vals = (0 : Int)) ↔ vals = [] := by
    cases vals with
    | nil => simp [len]
    | cons a rest => simp only [len, List.length_cons]; constructor
                     · intro h; omega
                     · intro h; cases h
  by_cases h : vals = []
  · simp [h]
  · have h' : ¬ len vals = (0 : Int) := fun e => h (this.1 e)
    simp [h]

/-- the state of reading a log: the model's table, the positions (in its rows) of the rows created by `AddRow`, and whether
every call so far has a meaning in the model (`AddPercent`, a row that does not exist, `FillEmpty` of a row longer than the
table is wide do not) -/
structure TS where
  tbl : Knut.Table.Table
  own : List Nat
  ok : Bool

/-- a cell-adding call on row number `r`: the cell goes to the end of the row the `r`-th `AddRow` created; a row that does not
exist ends the reading (`ok := false`) -/
def addCell (s : TS) (r : Nat) (c : Cell) : TS :=
  match s.own[r]? with
  | some pos => { s with tbl := { s.tbl with rows := s.tbl.rows.modify pos (· ++ [c]) } }
  | none => { s with ok := false }

/-- the reading of one builder call with the model's table, written by hand; `TransTableLog.exec_step` proves it, call by call,
against the translated function of the same name -/
def step (s : TS) : TC → TS
  | .New gs => ⟨Knut.Table.Table.new (gs.map Int.toNat), [], s.ok⟩
  | .AddRow => ⟨{ s.tbl with rows := s.tbl.rows ++ [[]] }, s.own ++ [s.tbl.rows.length], s.ok⟩
  | .AddSeparatorRow => { s with tbl := s.tbl.addSeparatorRow }
  | .AddEmptyRow => { s with tbl := s.tbl.addEmptyRow }
  | .Row_AddEmpty r => addCell s r .empty
  | .Row_AddText r c a => addCell s r (.text c.toList (alignOf a) 0)
  | .Row_AddIndented r c i => addCell s r (.text c.toList .left i)
  | .Row_AddDecimal r n => addCell s r (.num n)
  | .Row_AddPercent _ _ => { s with ok := false }
  | .Row_FillEmpty r =>
    match s.own[r]? with
    | some pos =>
      match s.tbl.rows[pos]? with
      | some row =>
        if row.length ≤ s.tbl.width then
          { s with tbl := { s.tbl with rows := s.tbl.rows.modify pos (· ++ List.replicate (s.tbl.width - row.length) .empty) } }
        else { s with ok := false }
      | none => { s with ok := false }
    | none => { s with ok := false }

/-- the table a log builds -/
def interp (log : table.TableLog) : TS := log.foldl step ⟨⟨[], []⟩, [], true⟩

theorem interp_append (a b : table.TableLog) : interp (a ++ b) = b.foldl step (interp a) := by
  simp [interp, List.foldl_append]

theorem modify_last {α : Type} (R : List α) (cur : α) (f : α → α) : (R ++ [cur]).modify R.length f = R ++ [f cur] := by
  induction R with
  | nil => rfl
  | cons a rest ih => simp [List.modify_succ_cons, ih]

theorem fold_cells (cols : List Nat) (R : List (List Cell)) (own : List Nat) (ok : Bool) (r : Nat) (hr : own[r]? = some R.length)
    (calls : List TC) (cells : List Cell) (hc : calls.map (cellOf r) = cells.map some) (cur : List Cell) :
    calls.foldl step ⟨⟨cols, R ++ [cur]⟩, own, ok⟩ = ⟨⟨cols, R ++ [cur ++ cells]⟩, own, ok⟩ := by
  induction calls generalizing cells cur with
  | nil =>
    cases cells with
    | nil => simp
    | cons c rest => simp at hc
  | cons call rest ih =>
    cases cells with
    | nil => simp at hc
    | cons c crest =>
      simp only [List.map_cons, List.cons.injEq] at hc
      obtain ⟨h1, h2⟩ := hc
      have hstep : step ⟨⟨cols, R ++ [cur]⟩, own, ok⟩ call = ⟨⟨cols, R ++ [cur ++ [c]]⟩, own, ok⟩ := by
        have cellCase : ∀ (r' : Nat) (c' : Cell), (if r' = r then some c' else none) = some c →
            addCell ⟨⟨cols, R ++ [cur]⟩, own, ok⟩ r' c' = ⟨⟨cols, R ++ [cur ++ [c]]⟩, own, ok⟩ := by
          intro r' c' h
          by_cases hrr : r' = r
          · subst hrr
            simp only [if_true, Option.some.injEq] at h; subst h
            simp [addCell, hr, modify_last]
          · simp [hrr] at h
        cases call with
        | Row_AddEmpty r' => exact cellCase r' _ h1
        | Row_AddText r' c' a => exact cellCase r' _ h1
        | Row_AddIndented r' c' i => exact cellCase r' _ h1
        | Row_AddDecimal r' n => exact cellCase r' _ h1
        | New gs => simp [cellOf] at h1
        | Row_AddPercent r' n => simp [cellOf] at h1
        | Row_FillEmpty r' => simp [cellOf] at h1
        | AddEmptyRow => simp [cellOf] at h1
        | AddRow => simp [cellOf] at h1
        | AddSeparatorRow => simp [cellOf] at h1
      rw [List.foldl_cons, hstep, ih crest h2]
      simp [List.append_assoc]

theorem numCells_congr (diff neg : Bool) (c1 c2 : Int → Rat) (ds : List Int) (total : Rat) (h : ∀ d ∈ ds, c1 d = c2 d) :
    numCells diff neg c1 ds total = numCells diff neg c2 ds total := by
  induction ds generalizing total with
  | nil => rfl
  | cons d rest ih =>
    simp only [numCells, h d List.mem_cons_self]
    rw [ih _ (fun x hx => h x (List.mem_cons_of_mem _ hx))]

theorem block_fold (i : Nat) (com : commodity.Commodity) (s : TS) :
    (rowCalls rn indent name neg vals s.own.length i com).foldl step s =
      ⟨{ s.tbl with rows := s.tbl.rows ++ [rowCells rn indent name neg vals i com] }, s.own ++ [s.tbl.rows.length], s.ok⟩ := by
  obtain ⟨⟨cols, R⟩, own, ok⟩ := s
  have hcells := rowCalls_cells rn indent name neg vals own.length i com
  rw [rowCalls_eq] at hcells ⊢
  have hr : (own ++ [R.length])[own.length]? = some R.length := by simp
  exact fold_cells cols R (own ++ [R.length]) ok own.length hr _ _ hcells []

theorem blocks_fold (l : List commodity.Commodity) (k : Nat) (s : TS) :
    ∃ own', (blocks rn indent name neg vals l k s.own.length).foldl step s =
      ⟨{ s.tbl with rows := s.tbl.rows ++ (l.zipIdx k).map (fun e => rowCells rn indent name neg vals e.2 e.1) }, own', s.ok⟩ ∧
      own'.length = s.own.length + l.length := by
  induction l generalizing k s with
  | nil => exact ⟨s.own, by simp [blocks], by simp⟩
  | cons c rest ih =>
    simp only [blocks, List.foldl_append, block_fold]
    have := ih (k + 1) ⟨{ s.tbl with rows := s.tbl.rows ++ [rowCells rn indent name neg vals k c] }, s.own ++ [s.tbl.rows.length], s.ok⟩
    simp only [List.length_append, List.length_cons, List.length_nil, Nat.zero_add] at this
    obtain ⟨own', h1, h2⟩ := this
    refine ⟨own', ?_, by rw [h2]; simp; omega⟩
    rw [h1]
    simp [List.zipIdx_cons, List.append_assoc]

/-- the model's cell of a Go commodity: nil is "no commodity column entry" -/
def comOpt (g : commodity.Commodity) : Option Knut.Commodity := if g = GoZero.zero then none else some g.name

theorem CommoditiesSorted_nil (order : List amounts.Key) : amounts.Amounts.CommoditiesSorted [] order = [] := by
  have h : ∀ (s : set.Set commodity.Commodity), amounts.Amounts.Commodities.range1 [] order s = s := by
    induction order with
    | nil => intro s; rfl
    | cons k rest ih => intro s; simp [amounts.Amounts.Commodities.range1, AMap.find?, ih]
  simp [amounts.Amounts.CommoditiesSorted, amounts.Amounts.Commodities, h, sortedKeys, set.New]

theorem CommoditiesSorted_ne_nil {vals : amounts.Amounts} (hne : vals ≠ []) {order : List amounts.Key}
    (hp : order.Perm (AMap.keys vals)) : amounts.Amounts.CommoditiesSorted vals order ≠ [] := by
  obtain ⟨_, hm⟩ := Commodities_agrees vals hp
  cases vals with
  | nil => exact absurd rfl hne
  | cons e rest =>
    have hmem : e.1.Commodity ∈ AMap.keys (amounts.Amounts.Commodities (e :: rest) order) :=
      (hm _).2 ⟨e.1, by simp [AMap.keys], rfl⟩
    intro h
    unfold amounts.Amounts.CommoditiesSorted sortedKeys at h
    have hperm := List.mergeSort_perm (List.map Prod.fst (amounts.Amounts.Commodities (e :: rest) order))
      (fun a b => decide (commodity.Compare a b ≠ 1))
    simp only at h
    rw [h] at hperm
    have : e.1.Commodity ∈ ([] : List commodity.Commodity) := hperm.mem_iff.2 hmem
    simp at this

theorem commCells_model (rc : RenderCfg) (rn : balance.Renderer)
    (hval : rc.valuation = if rn.Valuation = GoZero.zero then none else some rn.Valuation.name) (g : commodity.Commodity) :
    commCells rn g =
      if rn.drawCommsColumn then
        [match comOpt g with
         | some x => Cell.text x.toList .left 0
         | none => match rc.valuation with
           | some v => Cell.text v.toList .left 0
           | none => Cell.empty]
      else [] := by
  unfold commCells comOpt
  by_cases hgz : g = GoZero.zero
  · by_cases hvz : rn.Valuation = GoZero.zero <;> simp [hgz, hval, hvz]
  · simp [hgz]

/-- a row of `BalanceReport.renderVals` (the body of its `map`, at the `i`-th commodity `comOpt g`) -/
theorem rowCells_model (rc : RenderCfg) (rn : balance.Renderer) (indent : Nat) (name : String) (neg : Bool)
    (vals : amounts.Amounts) (cell : Option Knut.Commodity → Int → Rat)
    (hdiff : rc.diff = rn.Diff) (hends : rc.endDates = date.Partition.EndDates rn.partition)
    (hval : rc.valuation = if rn.Valuation = GoZero.zero then none else some rn.Valuation.name)
    (g : commodity.Commodity) (i : Nat)
    (hcell : ∀ d ∈ date.Partition.EndDates rn.partition, cell (comOpt g) d = AMap.get vals (amounts.DateCommodityKey d g) 0) :
    rowCells rn indent name neg vals i g =
      (if i = 0 then Cell.text name.toList .left indent else Cell.empty) ::
        ((if rn.drawCommsColumn then
          [match comOpt g with
           | some x => Cell.text x.toList .left 0
           | none => match rc.valuation with
             | some v => Cell.text v.toList .left 0
             | none => Cell.empty]
        else []) ++
        (rc.endDates.foldl (fun (acc : List Cell × Rat) d =>
          let v := cell (comOpt g) d
          let (shown, total) := if rc.diff then (v, acc.2) else (acc.2 + v, acc.2 + v)
          (acc.1 ++ [Cell.num (if neg then -shown else shown)], total)) ([], 0)).1) := by
  rw [model_nums, hdiff, hends, numCells_congr _ _ _ _ _ _ hcell, ← commCells_model rc rn hval]
  rfl

/-- **`Renderer.render` against the model**: read with `interp`, the log `render` returns is the given table with the rows of
`BalanceReport.renderVals` appended — for the commodities `vals.CommoditiesSorted()` (any iteration order of `vals`), the cells
being the amounts `vals[DateCommodityKey(date, commodity)]`.  Columns and validity are unchanged (the table is one name column,
the commodity column when drawn, one column per end date; this is what `FillEmpty` fills up to) -/
theorem render_agrees (rc : RenderCfg) (rn : balance.Renderer) (t : table.TableLog) (indent : Nat) (name : String) (neg : Bool)
    (vals : amounts.Amounts) (order : List amounts.Key) (cell : Option Knut.Commodity → Int → Rat)
    (hdiff : rc.diff = rn.Diff) (hends : rc.endDates = date.Partition.EndDates rn.partition)
    (hval : rc.valuation = if rn.Valuation = GoZero.zero then none else some rn.Valuation.name)
    (horder : order.Perm (AMap.keys vals))
    (hcell : ∀ g ∈ amounts.Amounts.CommoditiesSorted vals order, ∀ d ∈ date.Partition.EndDates rn.partition,
      cell (comOpt g) d = AMap.get vals (amounts.DateCommodityKey d g) 0)
    (hown : (interp t).own.length = table.TableLog.rows t)
    (hwidth : (interp t).tbl.width = 1 + (if rn.drawCommsColumn then 1 else 0) + rc.endDates.length) :
    (interp (balance.Renderer.render rn t indent name neg vals order)).tbl.columns = (interp t).tbl.columns ∧
    (interp (balance.Renderer.render rn t indent name neg vals order)).ok = (interp t).ok ∧
    (interp (balance.Renderer.render rn t indent name neg vals order)).tbl.rows = (interp t).tbl.rows ++
      BalanceReport.renderVals rc rn.drawCommsColumn indent name neg ((amounts.Amounts.CommoditiesSorted vals order).map comOpt) cell := by
  rw [render_log]
  by_cases hv : vals = []
  · subst hv
    simp only [if_true, interp_append, CommoditiesSorted_nil, List.map_nil]
    generalize hs : interp t = s at hown hwidth
    obtain ⟨⟨cols, R⟩, own, ok⟩ := s
    simp only at hown
    rw [← hown]
    have h1 : step ⟨⟨cols, R⟩, own, ok⟩ table.TableCall.AddRow = ⟨⟨cols, R ++ [[]]⟩, own ++ [R.length], ok⟩ := rfl
    have hr : (own ++ [R.length])[own.length]? = some R.length := by simp
    have h2 : step ⟨⟨cols, R ++ [[]]⟩, own ++ [R.length], ok⟩ (table.TableCall.Row_AddIndented own.length name indent) =
        ⟨⟨cols, R ++ [[Cell.text name.toList .left indent]]⟩, own ++ [R.length], ok⟩ := by
      simp [step, addCell, modify_last]
    have hw : (1 : Nat) ≤ cols.length := by
      have : cols.length = 1 + (if rn.drawCommsColumn then 1 else 0) + rc.endDates.length := hwidth
      omega
    have h3 : step ⟨⟨cols, R ++ [[Cell.text name.toList .left indent]]⟩, own ++ [R.length], ok⟩ (table.TableCall.Row_FillEmpty own.length) =
        ⟨⟨cols, R ++ [[Cell.text name.toList .left indent] ++ List.replicate (cols.length - 1) .empty]⟩, own ++ [R.length], ok⟩ := by
      simp [step, Knut.Table.Table.width, hw, modify_last]
    simp only [List.foldl_cons, List.foldl_nil, h1, h2, h3, true_and]
    have hcols : cols.length = 1 + (if rn.drawCommsColumn then 1 else 0) + rc.endDates.length := hwidth
    rw [hcols]
    rfl
  · have hne := CommoditiesSorted_ne_nil hv horder
    simp only [hv, if_false, interp_append]
    rw [← hown]
    obtain ⟨own', h1, _⟩ := blocks_fold rn indent name neg vals (amounts.Amounts.CommoditiesSorted vals order) 0 (interp t)
    rw [h1]
    refine ⟨rfl, rfl, ?_⟩
    simp only
    congr 1
    unfold BalanceReport.renderVals
    have hemp : ((amounts.Amounts.CommoditiesSorted vals order).map comOpt).isEmpty = false := by
      cases h : amounts.Amounts.CommoditiesSorted vals order with
      | nil => exact absurd h hne
      | cons a rest => rfl
    simp only [hemp, Bool.false_eq_true, if_false]
    rw [List.zipIdx_map, List.map_map]
    apply List.map_congr_left
    intro e he
    obtain ⟨g, i⟩ := e
    have hg : g ∈ amounts.Amounts.CommoditiesSorted vals order := (List.mem_zipIdx he).2.2 ▸ List.getElem_mem _
    exact rowCells_model rc rn indent name neg vals cell hdiff hends hval g i (hcell g hg)

theorem addCell_own (s : TS) (r : Nat) (c : Cell) : (addCell s r c).own = s.own := by
  unfold addCell; split <;> rfl

theorem step_own (s : TS) (c : TC) (hc : ∀ gs, c ≠ table.TableCall.New gs) :
    (step s c).own.length = s.own.length + table.TableLog.rows [c] := by
  cases c with
  | New gs => exact absurd rfl (hc gs)
  | AddRow => simp [step, table.TableLog.rows]
  | AddSeparatorRow => rfl
  | AddEmptyRow => rfl
  | Row_AddPercent r n => rfl
  | Row_AddEmpty r => exact congrArg List.length (addCell_own s r _)
  | Row_AddText r c a => exact congrArg List.length (addCell_own s r _)
  | Row_AddIndented r c i => exact congrArg List.length (addCell_own s r _)
  | Row_AddDecimal r n => exact congrArg List.length (addCell_own s r _)
  | Row_FillEmpty r =>
    show (step s (table.TableCall.Row_FillEmpty r)).own.length = s.own.length
    simp only [step]
    split
    · split
      · split <;> rfl
      · rfl
    · rfl

/-- a table that was created by `table.New` and written to since: the rows `AddRow` created are numbered as the log counts them
(the hypothesis `hown` of `render_agrees`) -/
theorem own_rows (gs : List Int) (log : table.TableLog) (hlog : ∀ c ∈ log, ∀ gs, c ≠ table.TableCall.New gs) :
    (interp (table.TableCall.New gs :: log)).own.length = table.TableLog.rows (table.TableCall.New gs :: log) := by
  have key : ∀ (log : table.TableLog) (s : TS), (∀ c ∈ log, ∀ gs, c ≠ table.TableCall.New gs) →
      (log.foldl step s).own.length = s.own.length + table.TableLog.rows log := by
    intro log
    induction log with
    | nil => intro s _; simp [table.TableLog.rows]
    | cons c rest ih =>
      intro s h
      rw [List.foldl_cons, ih _ (fun x hx => h x (List.mem_cons_of_mem _ hx)), step_own s c (h c List.mem_cons_self)]
      have : table.TableLog.rows (c :: rest) = table.TableLog.rows [c] + table.TableLog.rows rest := by
        rw [← rows_append]; rfl
      omega
  have h0 : table.TableLog.rows (table.TableCall.New gs :: log) = table.TableLog.rows log := by
    simp [table.TableLog.rows]
  rw [h0]
  simp only [interp, List.foldl_cons]
  rw [key log _ hlog]
  simp [step]

private def exVals : amounts.Amounts :=
  amountsOf [(amounts.DateCommodityKey 5 ⟨"CHF", true⟩, 3), (amounts.DateCommodityKey 9 ⟨"CHF", true⟩, 4), (amounts.DateCommodityKey 9 ⟨"USD", true⟩, -1)]
private def exRn : balance.Renderer :=
  { Valuation := GoZero.zero, SortAlphabetically := false, Diff := false, drawCommsColumn := true,
    partition := { span := ⟨1, 9⟩, interval := 0, periods := [⟨1, 5⟩, ⟨6, 9⟩] } }

/-- the block of calls of one commodity row (cumulative, negated) and the row the model's table gets from it -/
example :
    blocks exRn 2 "Bank" true exVals [⟨"CHF", true⟩] 0 0 =
      [table.TableCall.AddRow, table.TableCall.Row_AddIndented 0 "Bank" 2, table.TableCall.Row_AddText 0 "CHF" table.Left,
       table.TableCall.Row_AddDecimal 0 (-3), table.TableCall.Row_AddDecimal 0 (-7)] ∧
    (interp (table.TableCall.New [1, 1, 2] :: blocks exRn 2 "Bank" true exVals [⟨"CHF", true⟩] 0 0)).tbl.rows =
      [[Cell.text "Bank".toList .left 2, Cell.text "CHF".toList .left 0, Cell.num (-3), Cell.num (-7)]] := by
  decide +kernel

end Knut.FactsAgree.TransRender
