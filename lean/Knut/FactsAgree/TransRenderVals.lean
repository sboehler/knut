import Knut.FactsAgree.TransRender
import Knut.FactsAgree.TransReportTotals
/-!
# The amounts `renderNode` hands to `render` are the model's cells

`renderNode` (not translated: a recursive method) computes `vals = n.Value.Amounts.SumBy(nil, KeyMapper{Date: Identity,
Commodity: IdentityIf(showCommodities)}.Build())` and calls `render`, which reads `vals[DateCommodityKey(date, commodity)]`.
`SumBy_cell_model`: for the amounts of a node (the `Add`s of its inserts, `TransReport.Rep`), every iteration order, that
lookup is `BalanceReport.cellAt` of the node's own entries — the `cell` argument of `BalanceReport.renderVals` in `nodeRows`
(and, for the totals, `TransReportTotals.logSum_cellAt`).
-/
namespace Knut.FactsAgree.TransRender
open Knut Knut.GoSem
open Knut.Generated.Go
open Knut.FactsAgree.TransAmountsSum Knut.FactsAgree.TransReport

/-- what `SumBy(nil, mapper)` returns for the amounts of the inserts `L`: per key the sum of the logged values the mapper sends
to it, the keys being those with a non-zero sum (each the image of a logged key) -/
structure LogSums (L : Log) (mf : amounts.Key → amounts.Key) (vals : amounts.Amounts) : Prop where
  wf : WF vals
  get : ∀ x, AMap.get vals x 0 = logSum L (fun k => decide (mf k = x))
  mem : ∀ x, x ∈ AMap.keys vals ↔ logSum L (fun k => decide (mf k = x)) ≠ 0
  image : ∀ x ∈ AMap.keys vals, ∃ e ∈ L, mf e.1 = x

theorem SumBy_log (L : Log) (mf : amounts.Key → amounts.Key) {order1 order2 : List amounts.Key}
    (h1 : order1.Perm (AMap.keys (amountsOf L))) (h2 : ∀ x, (∃ k ∈ AMap.keys (amountsOf L), mf k = x) → x ∈ order2) :
    ∃ vals, amounts.Amounts.SumBy (amountsOf L) none (pureFn mf) order1 order2 = GoSem.Outcome.ok vals ∧ LogSums L mf vals := by
  obtain ⟨vals, hv, hw, hcl, hval⟩ := SumBy_val (amountsOf_wf L) none (some mf) h1 (fun x ⟨k, hk, _, hkx⟩ => h2 x ⟨k, hk, hkx⟩)
  have hget : ∀ x, AMap.get vals x 0 = logSum L (fun k => decide (mf k = x)) := fun x => by
    rw [hval, mappedSum, total_amountsOf]; exact logSum_true_and _ _
  have hmem : ∀ x, x ∈ AMap.keys vals ↔ logSum L (fun k => decide (mf k = x)) ≠ 0 := fun x => by rw [hcl x, hget]
  refine ⟨vals, hv, hw, hget, hmem, fun x hx => Classical.byContradiction fun hn => (hmem x).1 hx ?_⟩
  -- no logged key is sent to `x`: the sum is empty
  have : L.filter (fun e => decide (mf e.1 = x)) = [] :=
    List.filter_eq_nil_iff.2 (fun e he h => hn ⟨e, he, of_decide_eq_true h⟩)
  rw [logSum, this]; rfl

/-- **the cells of a node**: `vals := SumBy(nil, mapper)` over the amounts of the inserts `L`, then
`vals[DateCommodityKey(d, commodity)]` = the model's `cellAt` of the entries of `L` -/
theorem SumBy_cell_model (cur : String → Bool) (L : Log) (hL : ∀ e ∈ L, e.1.Account ≠ GoZero.zero)
    (hcom : ∀ e ∈ L, e.1.Commodity = TransPosting.commodityGo cur e.1.Commodity.name ∧ e.1.Commodity.name ≠ "")
    (byCommodity : Bool) {order1 order2 : List amounts.Key} (h1 : order1.Perm (AMap.keys (amountsOf L)))
    (h2 : ∀ x, (∃ k ∈ AMap.keys (amountsOf L), mfR byCommodity k = x) → x ∈ order2) :
    ∃ vals, amounts.Amounts.SumBy (amountsOf L) none (pureFn (mfR byCommodity)) order1 order2 = GoSem.Outcome.ok vals ∧ WF vals ∧
      ∀ (c : Option Knut.Commodity), (∀ s, c = some s → s ≠ "") → ∀ d : Int, d ≠ 0 →
        AMap.get vals (amounts.DateCommodityKey d (comGo cur c)) 0 = BalanceReport.cellAt (esOf L) byCommodity c d := by
  obtain ⟨vals, hv, hs⟩ := SumBy_log L (mfR byCommodity) h1 h2
  exact ⟨vals, hv, hs.wf, fun c hc d hd => by rw [hs.get, logSum_cellAt cur L hL hcom byCommodity c hc d hd]⟩

theorem mkey_eq_iff (cur : String → Bool) (byCommodity : Bool) (k k' : amounts.Key)
    (hk : k.Commodity = TransPosting.commodityGo cur k.Commodity.name) (hk' : k'.Commodity = TransPosting.commodityGo cur k'.Commodity.name) :
    mkey byCommodity k = mkey byCommodity k' ↔ mfR byCommodity k = mfR byCommodity k' := by
  unfold mkey mfR
  have hd : ((if k.Date = 0 then none else some k.Date) = (if k'.Date = 0 then none else some k'.Date)) ↔ k.Date = k'.Date := by
    by_cases h1 : k.Date = 0 <;> by_cases h2 : k'.Date = 0 <;> simp [h1, h2]
    all_goals omega
  cases byCommodity with
  | true =>
    simp only [if_true, Prod.mk.injEq, hd, Option.some.injEq]
    constructor
    · rintro ⟨h1, h2⟩
      have : k.Commodity = k'.Commodity := by rw [hk, hk', h2]
      simp [h1, this]
    · intro h
      have h1 := congrArg amounts.Key.Date h
      have h2 := congrArg (fun x : amounts.Key => x.Commodity.name) h
      exact ⟨h1, h2⟩
  | false =>
    simp only [Bool.false_eq_true, if_false, Prod.mk.injEq, hd, and_true]
    constructor
    · intro h; simp [h]
    · intro h
      have h1 := congrArg amounts.Key.Date h
      exact h1

theorem live_sum (cur : String → Bool) (L : Log) (hL : ∀ e ∈ L, e.1.Account ≠ GoZero.zero)
    (hcom : ∀ e ∈ L, e.1.Commodity = TransPosting.commodityGo cur e.1.Commodity.name ∧ e.1.Commodity.name ≠ "")
    (byCommodity : Bool) (k : amounts.Key) (hk : k.Commodity = TransPosting.commodityGo cur k.Commodity.name) :
    BalanceReport.sumAmounts ((esOf L).filter (fun e => decide (e.date = (mkey byCommodity k).1) &&
        decide ((if byCommodity then some e.commodity else none) = (mkey byCommodity k).2))) =
      logSum L (fun k' => decide (mfR byCommodity k' = mfR byCommodity k)) :=
  (logSum_mkey L hL byCommodity _ _ (fun e he => (mkey_eq_iff cur byCommodity e.1 k (hcom e he).1 hk).symm)).symm

theorem empty_le (s : String) : "" ≤ s := by
  apply String.not_lt.1
  rw [String.lt_iff]
  exact List.not_lt_nil _

theorem not_le_empty (s : String) (h : s ≠ "") : ¬ s ≤ "" := by
  apply String.not_le.2
  rw [String.lt_iff]
  cases hs : s.toList with
  | nil => exact absurd (String.toList_eq_nil_iff.1 hs) h
  | cons a rest => exact List.nil_lt_cons _ _

/-- a commodity of a mapped key: nil, or interned with a non-empty name -/
def GoodCom (cur : String → Bool) (g : commodity.Commodity) : Prop :=
  g = GoZero.zero ∨ (g.name ≠ "" ∧ g = TransPosting.commodityGo cur g.name)

theorem comOpt_le (cur : String → Bool) {a b : commodity.Commodity} (ha : GoodCom cur a) (hb : GoodCom cur b) :
    decide (a.name ≤ b.name) = ReportPerm.optLE (comOpt a) (comOpt b) := by
  unfold comOpt ReportPerm.optLE
  rcases ha with ha | ⟨ha1, _⟩
  · subst ha
    have : (GoZero.zero : commodity.Commodity).name = "" := rfl
    by_cases hbz : b = GoZero.zero
    · simp [hbz, this]
    · simp [hbz, this, empty_le]
  · have haz : a ≠ GoZero.zero := fun e => ha1 (by rw [e]; rfl)
    rcases hb with hb | ⟨hb1, _⟩
    · subst hb
      have : (GoZero.zero : commodity.Commodity).name = "" := rfl
      simp [haz, this, not_le_empty a.name ha1]
    · have hbz : b ≠ GoZero.zero := fun e => hb1 (by rw [e]; rfl)
      simp [haz, hbz]

theorem comOpt_inj (cur : String → Bool) {a b : commodity.Commodity} (ha : GoodCom cur a) (hb : GoodCom cur b)
    (h : comOpt a = comOpt b) : a = b := by
  unfold comOpt at h
  rcases ha with ha | ⟨ha1, ha2⟩
  · subst ha
    rcases hb with hb | ⟨hb1, _⟩
    · exact hb.symm
    · have hbz : b ≠ GoZero.zero := fun e => hb1 (by rw [e]; rfl)
      simp [hbz] at h
  · have haz : a ≠ GoZero.zero := fun e => ha1 (by rw [e]; rfl)
    rcases hb with hb | ⟨hb1, hb2⟩
    · subst hb; simp [haz] at h
    · have hbz : b ≠ GoZero.zero := fun e => hb1 (by rw [e]; rfl)
      simp only [haz, hbz, if_false, Option.some.injEq] at h
      rw [ha2, hb2, h]

theorem nodup_map_on {α β : Type} (f : α → β) (l : List α) (hn : l.Nodup) (hinj : ∀ a ∈ l, ∀ b ∈ l, f a = f b → a = b) :
    (l.map f).Nodup :=
  List.pairwise_map.2 (List.Pairwise.imp_of_mem (fun ha hb hne e => hne (hinj _ ha _ hb e)) hn)

theorem goodCom_mfR (cur : String → Bool) {e : amounts.Key × Rat}
    (he : e.1.Commodity = TransPosting.commodityGo cur e.1.Commodity.name ∧ e.1.Commodity.name ≠ "") (byCommodity : Bool) :
    GoodCom cur (mfR byCommodity e.1).Commodity := by
  unfold mfR
  cases byCommodity with
  | true => exact Or.inr ⟨he.2, he.1⟩
  | false => exact Or.inl rfl

theorem LogSums.goodCom {cur : String → Bool} {L : Log} {byCommodity : Bool} {vals : amounts.Amounts}
    (hs : LogSums L (mfR byCommodity) vals)
    (hcom : ∀ e ∈ L, e.1.Commodity = TransPosting.commodityGo cur e.1.Commodity.name ∧ e.1.Commodity.name ≠ "") :
    ∀ x ∈ AMap.keys vals, GoodCom cur x.Commodity := by
  intro x hx
  obtain ⟨e, he, rfl⟩ := hs.image x hx
  exact goodCom_mfR cur (hcom e he) byCommodity

theorem comOpt_mfR {e : amounts.Key × Rat} (hne : e.1.Commodity.name ≠ "") (byCommodity : Bool) :
    comOpt (mfR byCommodity e.1).Commodity = (mkey byCommodity e.1).2 := by
  unfold mkey mfR comOpt
  cases byCommodity with
  | true =>
    have : e.1.Commodity ≠ GoZero.zero := fun h => hne (by rw [h]; rfl)
    simp [this]
  | false => simp

theorem LogSums.coms {cur : String → Bool} {L : Log} {byCommodity : Bool} {vals : amounts.Amounts}
    (hs : LogSums L (mfR byCommodity) vals) (hL : ∀ e ∈ L, e.1.Account ≠ GoZero.zero)
    (hcom : ∀ e ∈ L, e.1.Commodity = TransPosting.commodityGo cur e.1.Commodity.name ∧ e.1.Commodity.name ≠ "")
    {order3 : List amounts.Key} (h3 : order3.Perm (AMap.keys vals)) :
    (amounts.Amounts.CommoditiesSorted vals order3).map comOpt = BalanceReport.valsCommodities (esOf L) byCommodity := by
  have hgood := hs.goodCom hcom
  have hinj : ∀ k ∈ AMap.keys vals, ∀ k' ∈ AMap.keys vals, k.Commodity.name = k'.Commodity.name → k.Commodity = k'.Commodity := by
    intro k hk k' hk' hn
    apply comOpt_inj cur (hgood k hk) (hgood k' hk')
    rcases hgood k hk with h | ⟨h1, _⟩ <;> rcases hgood k' hk' with h' | ⟨h1', _⟩
    · rw [h, h']
    · rw [h] at hn; exact absurd hn.symm h1'
    · rw [h'] at hn; exact absurd hn h1
    · have z1 : k.Commodity ≠ GoZero.zero := fun e => h1 (by rw [e]; rfl)
      have z2 : k'.Commodity ≠ GoZero.zero := fun e => h1' (by rw [e]; rfl)
      simp [comOpt, z1, z2, hn]
  rw [CommoditiesSorted_agrees vals h3 hinj, ReportPerm.valsCommodities_eq]
  have hmem : ∀ g ∈ ((AMap.keys vals).map (·.Commodity)).eraseDups, GoodCom cur g := by
    intro g hg
    rw [List.mem_eraseDups, List.mem_map] at hg
    obtain ⟨x, hx, rfl⟩ := hg
    exact hgood x hx
  rw [List.map_mergeSort (r := fun a b : commodity.Commodity => decide (a.name ≤ b.name)) (s := ReportPerm.optLE) (f := comOpt)
    (fun a ha b hb => comOpt_le cur (hmem a ha) (hmem b hb))]
  refine MapSum.mergeSort_image ReportPerm.optLE ReportPerm.optLE_trans ReportPerm.optLE_total
    (nodup_map_on comOpt _ (MapSum.nodup_eraseDups _ _ (Nat.le_refl _)) (fun a ha b hb => comOpt_inj cur (hmem a ha) (hmem b hb)))
    (fun k : Option Int × Option Knut.Commodity => k.2) _ (fun c => ?_) (fun _ _ _ _ => ReportPerm.optLE_antisymm _ _)
  simp only [List.mem_map, List.mem_eraseDups, List.mem_filter, decide_eq_true_eq]
  constructor
  · rintro ⟨g, ⟨x, hx, rfl⟩, rfl⟩
    obtain ⟨e, he, hex⟩ := hs.image x hx
    have hne := (hs.mem x).1 hx
    have hz := hL e he
    have hent : TransQuery.entryOf e =
        some ⟨if e.1.Date = 0 then none else some e.1.Date, ⟨e.1.Account.segments⟩, e.1.Commodity.name, e.2⟩ := by
      simp [TransQuery.entryOf, hz]
    refine ⟨mkey byCommodity e.1, ⟨⟨_, List.mem_filterMap.2 ⟨e, he, hent⟩, rfl⟩, ?_⟩, ?_⟩
    · rw [live_sum cur L hL hcom byCommodity e.1 (hcom e he).1, hex]; exact hne
    · rw [← hex]; exact (comOpt_mfR (hcom e he).2 byCommodity).symm
  · rintro ⟨key, ⟨⟨x, hxm, hxk⟩, hlive⟩, hkc⟩
    obtain ⟨e, he, hxe⟩ := List.mem_filterMap.1 hxm
    have hz := hL e he
    simp only [TransQuery.entryOf, hz, if_false, Option.some.injEq] at hxe
    subst hxe
    have hkey : key = mkey byCommodity e.1 := by rw [← hxk]; rfl
    subst hkey
    rw [live_sum cur L hL hcom byCommodity e.1 (hcom e he).1] at hlive
    refine ⟨(mfR byCommodity e.1).Commodity, ⟨mfR byCommodity e.1, (hs.mem _).2 hlive, rfl⟩, ?_⟩
    rw [← hkc]; exact comOpt_mfR (hcom e he).2 byCommodity

/-- **the commodities of a node**: the commodities of `vals := SumBy(nil, mapper)` over the amounts of the inserts `L`, sorted by
`CommoditiesSorted` (any iteration order), are — nil standing for "no commodity" — the model's `valsCommodities` of the entries
of `L`: the `coms` argument of `BalanceReport.renderVals` in `nodeRows` -/
theorem SumBy_coms_model (cur : String → Bool) (L : Log) (hL : ∀ e ∈ L, e.1.Account ≠ GoZero.zero)
    (hcom : ∀ e ∈ L, e.1.Commodity = TransPosting.commodityGo cur e.1.Commodity.name ∧ e.1.Commodity.name ≠ "")
    (byCommodity : Bool) {order1 order2 : List amounts.Key} (h1 : order1.Perm (AMap.keys (amountsOf L)))
    (h2 : ∀ x, (∃ k ∈ AMap.keys (amountsOf L), mfR byCommodity k = x) → x ∈ order2) :
    ∃ vals, amounts.Amounts.SumBy (amountsOf L) none (pureFn (mfR byCommodity)) order1 order2 = GoSem.Outcome.ok vals ∧
      ∀ order3 : List amounts.Key, order3.Perm (AMap.keys vals) →
        (amounts.Amounts.CommoditiesSorted vals order3).map comOpt = BalanceReport.valsCommodities (esOf L) byCommodity := by
  obtain ⟨vals, hv, hs⟩ := SumBy_log L (mfR byCommodity) h1 h2
  exact ⟨vals, hv, fun _ h3 => hs.coms hL hcom h3⟩

/-- **the rows of a node against the model** (`BalanceReport.nodeRows`): `render` applied to `vals := SumBy(nil, mapper)` of the
amounts of the node's inserts `L` appends — read with `interp` — `renderVals … (valsCommodities mine byCom) (cellAt mine byCom)`
for `mine` = the entries of `L`: every iteration order of the three map ranges, end dates other than the zero date -/
theorem render_node_agrees (cur : String → Bool) (rc : RenderCfg) (rn : balance.Renderer) (t : table.TableLog) (indent : Nat) (name : String)
    (neg : Bool) (L : Log) (hL : ∀ e ∈ L, e.1.Account ≠ GoZero.zero)
    (hcom : ∀ e ∈ L, e.1.Commodity = TransPosting.commodityGo cur e.1.Commodity.name ∧ e.1.Commodity.name ≠ "")
    (byCommodity : Bool) {order1 order2 : List amounts.Key} (h1 : order1.Perm (AMap.keys (amountsOf L)))
    (h2 : ∀ x, (∃ k ∈ AMap.keys (amountsOf L), mfR byCommodity k = x) → x ∈ order2)
    (hdiff : rc.diff = rn.Diff) (hends : rc.endDates = date.Partition.EndDates rn.partition)
    (hnz : ∀ d ∈ date.Partition.EndDates rn.partition, d ≠ 0)
    (hval : rc.valuation = if rn.Valuation = GoZero.zero then none else some rn.Valuation.name)
    (hown : (interp t).own.length = table.TableLog.rows t)
    (hwidth : (interp t).tbl.width = 1 + (if rn.drawCommsColumn then 1 else 0) + rc.endDates.length) :
    ∃ vals, amounts.Amounts.SumBy (amountsOf L) none (pureFn (mfR byCommodity)) order1 order2 = GoSem.Outcome.ok vals ∧
      ∀ order3 : List amounts.Key, order3.Perm (AMap.keys vals) →
        (interp (balance.Renderer.render rn t indent name neg vals order3)).tbl.columns = (interp t).tbl.columns ∧
        (interp (balance.Renderer.render rn t indent name neg vals order3)).ok = (interp t).ok ∧
        (interp (balance.Renderer.render rn t indent name neg vals order3)).tbl.rows = (interp t).tbl.rows ++
          BalanceReport.renderVals rc rn.drawCommsColumn indent name neg (BalanceReport.valsCommodities (esOf L) byCommodity)
            (BalanceReport.cellAt (esOf L) byCommodity) := by
  obtain ⟨vals, hv, hs⟩ := SumBy_log L (mfR byCommodity) h1 h2
  refine ⟨vals, hv, fun order3 h3 => ?_⟩
  rw [← hs.coms hL hcom h3]
  apply render_agrees rc rn t indent name neg vals order3 (BalanceReport.cellAt (esOf L) byCommodity) hdiff hends hval h3 _ hown hwidth
  intro g hg d hd
  -- the commodity of a key of `vals` is nil or interned
  have hgood : GoodCom cur g := by
    have : g ∈ List.map Prod.fst (amounts.Amounts.Commodities vals order3) := by
      unfold amounts.Amounts.CommoditiesSorted sortedKeys at hg
      exact (List.mergeSort_perm _ _).mem_iff.1 hg
    obtain ⟨k, hk, rfl⟩ := ((Commodities_agrees vals h3).2 g).1 this
    exact hs.goodCom hcom k hk
  have hback : comGo cur (comOpt g) = g := by
    unfold comOpt comGo
    rcases hgood with h | ⟨h1', h2'⟩
    · simp [h]
    · have hz : g ≠ GoZero.zero := fun e => h1' (by rw [e]; rfl)
      simp only [hz, if_false]; exact h2'.symm
  have hc : ∀ s, comOpt g = some s → s ≠ "" := by
    intro s hs
    unfold comOpt at hs
    rcases hgood with h | ⟨h1', _⟩
    · simp [h] at hs
    · have hz : g ≠ GoZero.zero := fun e => h1' (by rw [e]; rfl)
      simp only [hz, if_false, Option.some.injEq] at hs
      rw [← hs]; exact h1'
  have hcell := logSum_cellAt cur L hL hcom byCommodity (comOpt g) hc d (hnz d hd)
  rw [hback] at hcell
  rw [hs.get, hcell]

end Knut.FactsAgree.TransRender
