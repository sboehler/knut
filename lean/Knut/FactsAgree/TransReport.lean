import Knut.Generated.TransReport
import Knut.FactsAgree.TransAmountsSum
import Knut.FactsAgree.TransQuery
import Knut.Proofs.GoSemLogTree
/-!
# The translated `lib/reports/balance` (Report) agrees with the model of the balance report

The Go report keeps two trees of `multimap.Node[Value]` (A+L and E+I+E), one node per account path, each with the
`amounts.Amounts` of the postings inserted under exactly that account; `Model/BalanceReport.lean` keeps the LOG of inserts and
computes `own es path` (the entries of a path) and `childSegs es path` (the next segments below it).  The tree package itself
is not translated but pinned (`GoSem/Multimap.lean`, stream `gosemtree`).  `Rep`, the relation between the two, is the generic
tree of a log of paths (`MNode.LogTree`, `Proofs/GoSemLogTree.lean`), the path of an insert being the segments of its account.
-/
namespace Knut.FactsAgree.TransReport
open Knut Knut.GoSem
open Knut.Generated.Go
open Knut.FactsAgree.TransAmountsSum
open Knut.FactsAgree.TransQuery (entryOf)

abbrev Node := MNode balance.Value
abbrev Log := List (amounts.Key × Rat)

theorem NewReport_agrees (part : date.Partition) :
    balance.NewReport part = { AL := MNode.new "", EIE := MNode.new "", partition := part } := rfl

/-- what `Report.Insert` does to the node at the end of the account's path: the first insert sets the node's account (and
its empty amounts), every insert adds to the node's amounts under the FULL key -/
def bump (k : amounts.Key) (v : Rat) (n : Node) : Node :=
  { n with Value := { Account := if n.Value.Account = GoZero.zero then k.Account else n.Value.Account,
                      Amounts := amounts.Amounts.Add (if n.Value.Account = GoZero.zero then [] else n.Value.Amounts) k v,
                      Weight := n.Value.Weight } }

theorem bump_children (k : amounts.Key) (v : Rat) (n : Node) : (bump k v n).Children = n.Children := rfl

/-- **`Report.Insert`**: a key without account is dropped; otherwise the path of the account's segments is created in
the tree of the account's section (A+L or E+I+E) and the node at its end is `bump`ed -/
theorem Insert_agrees (r : balance.Report) (k : amounts.Key) (v : Rat) :
    balance.Report.Insert r k v =
      if k.Account = GoZero.zero then r
      else if account.Account.IsAL k.Account = true then { r with AL := MNode.modifyAt (bump k v) k.Account.segments r.AL }
      else { r with EIE := MNode.modifyAt (bump k v) k.Account.segments r.EIE } := by
  unfold balance.Report.Insert
  by_cases hz : k.Account = GoZero.zero
  · simp [hz]
  · simp only [hz, decide_false, Bool.false_eq_true, if_false]
    by_cases hal : account.Account.IsAL k.Account = true
    · simp only [hal, if_true, account.Account.Segments]
      rw [← MNode.modifyAt_const_getAt (bump k v)]
      by_cases hn : (MNode.getAt (MNode.create k.Account.segments r.AL) k.Account.segments).Value.Account = GoZero.zero
      · simp only [hn, decide_true, if_true, MNode.setAt_create, MNode.setAt_modifyAt, bump]
      · simp only [hn, decide_false, Bool.false_eq_true, if_false, MNode.setAt_create, bump]
    · simp only [hal, Bool.false_eq_true, if_false, account.Account.Segments]
      rw [← MNode.modifyAt_const_getAt (bump k v)]
      by_cases hn : (MNode.getAt (MNode.create k.Account.segments r.EIE) k.Account.segments).Value.Account = GoZero.zero
      · simp only [hn, decide_true, if_true, MNode.setAt_create, MNode.setAt_modifyAt, bump]
      · simp only [hn, decide_false, Bool.false_eq_true, if_false, MNode.setAt_create, bump]


/-- the logged calls `Insert` keeps (an account is set) for one section -/
def sec (al : Bool) (log : Log) : Log :=
  log.filter (fun e => !decide (e.1.Account = GoZero.zero) && account.Account.IsAL e.1.Account == al)

/-- the inserts under exactly the account path `p`: what the node of `p` holds -/
def ownL (L : Log) (p : List String) : Log := L.filter (fun e => decide (e.1.Account.segments = p))

/-- **the node of the path `p`** in the tree of the inserts `L`: its segment is the last segment of the path, its amounts are
the `Add`s of the inserts under exactly this path (in order), its account is the account of the first of them (nil before),
no weight has been computed, and its children are the next segments of the inserted paths below `p` (each once) -/
structure Local (L : Log) (p : List String) (n : Node) : Prop where
  segment : n.Segment = p.getLast?.getD ""
  amounts : n.Value.Amounts = amountsOf (ownL L p)
  account : n.Value.Account = (((ownL L p).head?).map (·.1.Account)).getD GoZero.zero
  weight : n.Value.Weight = 0
  nodup : (AMap.keys n.Children).Nodup
  children : ∀ s, s ∈ AMap.keys n.Children ↔ ∃ e ∈ L, (p ++ [s]).isPrefixOf e.1.Account.segments = true

/-- the Go tree `T` (one of the two sections) stands for the log `L` of kept inserts: every node it has is the node of its path
(`Local`); `Rep_iff`: it is the generic `MNode.LogTree` -/
def Rep (L : Log) (T : Node) : Prop := ∀ p n, MNode.nodeAt? T p = some n → Local L p n

theorem amountsOf_append (L : Log) (e : amounts.Key × Rat) : amountsOf (L ++ [e]) = amounts.Amounts.Add (amountsOf L) e.1 e.2 := by
  simp [amountsOf, List.foldl_append]

theorem isPrefixOf_self (p : List String) : p.isPrefixOf p = true := MNode.isPrefixOf_self p

theorem isPrefixOf_snoc_of (p : List String) (s : String) (q : List String) (h : (p ++ [s]).isPrefixOf q = true) :
    p.isPrefixOf q = true := MNode.isPrefixOf_of_snoc h

/-- what the `Value` of a node says of the inserts `own` under exactly its path: its amounts are their `Add`s, its account is that of
the first (nil when there is none), no weight yet -/
def ValOf (own : Log) (v : balance.Value) : Prop :=
  v.Amounts = amountsOf own ∧ v.Account = ((own.head?).map (·.1.Account)).getD GoZero.zero ∧ v.Weight = 0

theorem Rep_iff {L : Log} {T : Node} : Rep L T ↔ MNode.LogTree (fun e : amounts.Key × Rat => e.1.Account.segments) ValOf L T :=
  ⟨fun h p n hn => let l := h p n hn; ⟨l.segment, l.nodup, l.children, l.amounts, l.account, l.weight⟩,
   fun h p n hn => let l := h p n hn; ⟨l.segment, l.value.1, l.value.2.1, l.value.2.2, l.nodup, l.children⟩⟩

theorem Rep_new : Rep [] (MNode.new "" : Node) := Rep_iff.2 (MNode.LogTree.new _ ⟨rfl, rfl, rfl⟩)

/-- **one more insert keeps the representation**: after `modifyAt (bump k v)` along the account's path the tree represents
the log extended by the insert -/
theorem Rep_insert {L : Log} {T : Node} (h : Rep L T) (k : amounts.Key) (v : Rat)
    (hL : ∀ e ∈ L, e.1.Account ≠ GoZero.zero) :
    Rep (L ++ [(k, v)]) (MNode.modifyAt (bump k v) k.Account.segments T) := by
  refine Rep_iff.2 (MNode.LogTree.insert _ (Rep_iff.1 h) (k, v) (bump k v) (bump_children k v) (fun _ => rfl) ⟨rfl, rfl, rfl⟩ ?_)
  rintro m ⟨ham, hac, hw⟩
  -- the node's account is nil exactly when nothing was inserted here before
  simp only [bump, ValOf, amountsOf_append, hac, ham, hw]
  cases ho : MNode.ownOf (fun e : amounts.Key × Rat => e.1.Account.segments) L k.Account.segments with
  | nil => simp [amountsOf]
  | cons e rest => simp [hL e (List.mem_filter.1 (ho ▸ List.mem_cons_self)).1]


theorem mem_sec {al : Bool} {log : Log} {e : amounts.Key × Rat} (h : e ∈ sec al log) : e ∈ log ∧ e.1.Account ≠ GoZero.zero := by
  obtain ⟨h1, h2⟩ := List.mem_filter.mp h
  simp only [Bool.and_eq_true, Bool.not_eq_true', decide_eq_false_iff_not] at h2
  exact ⟨h1, h2.1⟩

theorem sec_kept (al : Bool) (log : Log) : ∀ e ∈ sec al log, e.1.Account ≠ GoZero.zero :=
  fun _ he => (mem_sec he).2

theorem fold_rep (log : Log) (r0 : balance.Report) (La Le : Log)
    (ha : Rep La r0.AL) (he : Rep Le r0.EIE) (hLa : ∀ e ∈ La, e.1.Account ≠ GoZero.zero) (hLe : ∀ e ∈ Le, e.1.Account ≠ GoZero.zero) :
    Rep (La ++ sec true log) (log.foldl (fun r e => balance.Report.Insert r e.1 e.2) r0).AL ∧
    Rep (Le ++ sec false log) (log.foldl (fun r e => balance.Report.Insert r e.1 e.2) r0).EIE ∧
    (log.foldl (fun r e => balance.Report.Insert r e.1 e.2) r0).partition = r0.partition := by
  induction log generalizing r0 La Le with
  | nil => simpa [sec] using ⟨ha, he⟩
  | cons e rest ih =>
    simp only [List.foldl_cons]
    rw [Insert_agrees r0 e.1 e.2]
    by_cases hz : e.1.Account = GoZero.zero
    · simpa [sec, hz] using ih r0 La Le ha he hLa hLe
    · have hsnoc : ∀ M : Log, (∀ x ∈ M, x.1.Account ≠ GoZero.zero) → ∀ x ∈ M ++ [e], x.1.Account ≠ GoZero.zero := by
        intro M hM x hx
        rcases List.mem_append.1 hx with hx | hx
        · exact hM x hx
        · simp only [List.mem_singleton] at hx; subst hx; exact hz
      by_cases hal : account.Account.IsAL e.1.Account = true
      · simpa [sec, hz, hal, List.append_assoc] using ih { r0 with AL := MNode.modifyAt (bump e.1 e.2) e.1.Account.segments r0.AL }
          (La ++ [e]) Le (Rep_insert ha e.1 e.2 hLa) he (hsnoc La hLa) hLe
      · have hal' : account.Account.IsAL e.1.Account = false := by simpa using hal
        simpa [sec, hz, hal', List.append_assoc] using ih { r0 with EIE := MNode.modifyAt (bump e.1 e.2) e.1.Account.segments r0.EIE }
          La (Le ++ [e]) ha (Rep_insert he e.1 e.2 hLe) hLa (hsnoc Le hLe)

/-- **after any log of inserts** (the calls `Query.Into` makes on the report, `TransQuery`): the A+L tree represents the kept
inserts on asset/liability accounts, the E+I+E tree the others; the partition is the one the report was created with -/
theorem Insert_fold_agrees (part : date.Partition) (log : Log) :
    Rep (sec true log) (log.foldl (fun r e => balance.Report.Insert r e.1 e.2) (balance.NewReport part)).AL ∧
    Rep (sec false log) (log.foldl (fun r e => balance.Report.Insert r e.1 e.2) (balance.NewReport part)).EIE ∧
    (log.foldl (fun r e => balance.Report.Insert r e.1 e.2) (balance.NewReport part)).partition = part := by
  have := fold_rep log (balance.NewReport part) [] [] Rep_new Rep_new (by simp) (by simp)
  simpa [NewReport_agrees] using this

/-- the model entries of the kept inserts (`TransQuery.entryOf`: column date, account path, commodity name, amount) -/
def esOf (L : Log) : List Knut.Entry := L.filterMap entryOf

theorem entryOf_segments {e : amounts.Key × Rat} {x : Knut.Entry} (h : entryOf e = some x) :
    x.account.segments = e.1.Account.segments ∧ x.amount = e.2 := by
  unfold entryOf at h
  by_cases hz : e.1.Account = GoZero.zero
  · simp [hz] at h
  · simp only [hz, if_false, Option.some.injEq] at h
    subst h; exact ⟨rfl, rfl⟩

theorem esOf_filter (L : Log) (P : amounts.Key × Rat → Bool) (Q : Knut.Entry → Bool)
    (h : ∀ e ∈ L, ∀ x, entryOf e = some x → Q x = P e) : esOf (L.filter P) = (esOf L).filter Q := by
  induction L with
  | nil => rfl
  | cons e rest ih =>
    have ih' := ih (fun e he => h e (List.mem_cons_of_mem _ he))
    unfold esOf at ih' ⊢
    cases hx : entryOf e with
    | none => by_cases hp : P e <;> simp [hp, hx, ih']
    | some x =>
      have := h e List.mem_cons_self x hx
      by_cases hp : P e <;> simp [hp, hx, ih', this]

theorem own_esOf (L : Log) (p : List String) : BalanceReport.own (esOf L) p = esOf (ownL L p) :=
  (esOf_filter L _ _ (fun e _ x hx => by rw [(entryOf_segments hx).1])).symm

theorem mem_childSegs (L : Log) (hL : ∀ e ∈ L, e.1.Account ≠ GoZero.zero) (p : List String) (s : String) :
    s ∈ BalanceReport.childSegs (esOf L) p ↔ ∃ e ∈ L, (p ++ [s]).isPrefixOf e.1.Account.segments = true := by
  unfold BalanceReport.childSegs esOf
  rw [List.mem_eraseDups, List.mem_filterMap]
  -- the model's test of an entry is `MNode.nextSeg p` of its account's segments
  constructor
  · rintro ⟨x, hx, hs⟩
    obtain ⟨e, he, hxe⟩ := List.mem_filterMap.1 hx
    exact ⟨e, he, (entryOf_segments hxe).1 ▸ MNode.nextSeg_eq_some.1 hs⟩
  · rintro ⟨e, he, hp⟩
    obtain ⟨x, hxe⟩ : ∃ x, entryOf e = some x := by simp [entryOf, hL e he]
    exact ⟨x, List.mem_filterMap.2 ⟨e, he, hxe⟩, MNode.nextSeg_eq_some.2 ((entryOf_segments hxe).1 ▸ hp)⟩

theorem sumAmounts_esOf (M : Log) (hkept : ∀ e ∈ M, e.1.Account ≠ GoZero.zero) :
    (M.map Prod.snd).sum = BalanceReport.sumAmounts (esOf M) := by
  unfold esOf
  induction M with
  | nil => rfl
  | cons e rest ih =>
    have hz := hkept e List.mem_cons_self
    simp only [List.filterMap_cons, entryOf, hz, if_false, List.map_cons, List.sum_cons, BalanceReport.sumAmounts_cons]
    rw [ih (fun x hx => hkept x (List.mem_cons_of_mem _ hx))]

/-- **a node of the tree against the model**: the keys of its children are the model's `childSegs` of its path, its amounts are
the amounts of the log of the model's `own` entries of its path, and `SumOver` over them — for every iteration order — is the
model's `sumAmounts` of the own entries that pass the filter -/
theorem Rep_model {L : Log} {T : Node} (h : Rep L T) (hL : ∀ e ∈ L, e.1.Account ≠ GoZero.zero)
    {p : List String} {n : Node} (hn : MNode.nodeAt? T p = some n) :
    (∀ s, s ∈ AMap.keys n.Children ↔ s ∈ BalanceReport.childSegs (esOf L) p) ∧
    (AMap.keys n.Children).Nodup ∧
    n.Value.Amounts = amountsOf (ownL L p) ∧
    BalanceReport.own (esOf L) p = esOf (ownL L p) ∧
    (∀ (f : amounts.Key → Bool) (order : List amounts.Key), order.Perm (AMap.keys n.Value.Amounts) →
      amounts.Amounts.SumOver n.Value.Amounts (pureFn f) order =
        GoSem.Outcome.ok (BalanceReport.sumAmounts (esOf ((ownL L p).filter (fun e => f e.1))))) := by
  have hl := h p n hn
  refine ⟨fun s => ?_, hl.nodup, hl.amounts, own_esOf L p, fun f order ho => ?_⟩
  · rw [hl.children s, mem_childSegs L hL]
  · rw [hl.amounts] at ho ⊢
    rw [SumOver_amountsOf _ f ho]
    have hkept : ∀ e ∈ (ownL L p).filter (fun e => f e.1), e.1.Account ≠ GoZero.zero := by
      intro e he; exact hL e (List.mem_filter.1 (List.mem_filter.1 he).1).1
    rw [logSum, sumAmounts_esOf _ hkept]

private def exKey (a : Knut.Account) (c : String) (d : Int) : amounts.Key :=
  { Date := d, Account := TransAccount.accountGo a, Other := GoZero.zero, Commodity := ⟨c, false⟩, Valuation := GoZero.zero, Description := "" }

private def exReport : balance.Report :=
  [(exKey ⟨["Assets", "Bank", "Giro"]⟩ "CHF" 5, (3 : Rat)), (exKey ⟨["Income", "Job"]⟩ "CHF" 5, -3),
   (exKey ⟨["Assets", "Bank", "Giro"]⟩ "CHF" 5, 4)].foldl (fun r e => balance.Report.Insert r e.1 e.2) (balance.NewReport GoZero.zero)

example : AMap.keys exReport.AL.Children = ["Assets"] ∧ AMap.keys exReport.EIE.Children = ["Income"] := by decide +kernel
example : (MNode.nodeAt? exReport.AL ["Assets", "Bank", "Giro"]).map (fun n => n.Value.Amounts.map Prod.snd) = some [7] := by
  decide +kernel
example : (MNode.nodeAt? exReport.AL ["Assets", "Bank"]).map (fun n => (n.Segment, AMap.keys n.Children, n.Value.Amounts.length)) =
    some ("Bank", ["Giro"], 0) := by decide +kernel

end Knut.FactsAgree.TransReport
