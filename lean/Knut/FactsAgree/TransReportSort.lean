import Knut.FactsAgree.TransReportTotals
import Knut.FactsAgree.TransPrice
/-!
# `Report.SortWeighted`: the weights (translated `computeWeights` under `PostOrder`) are the model's `weight`

`computeWeights` runs in post-order: a node's weight is minus the absolute value of the sum of its own VALUED amounts
(`SumOver(k.Valuation != nil)`) plus the weights of its children (a `range` over the map of children).  Two iteration orders
per node and the order of the children of every node are parameters of the translated function.  For EVERY such orders the
traversal changes nothing but the weights, and the weight of the node of a path is `BalanceReport.weight valued es fuel path` for
every fuel that is at least the node's height; the comparator the siblings are then sorted with is the model's sibling order.
-/
namespace Knut.FactsAgree.TransReport
open Knut Knut.GoSem
open Knut.Generated.Go
open Knut.FactsAgree.TransAmountsSum
open Knut.FactsAgree.TransQuery (entryOf)

/-- the node of a path, whatever its account and weight (`Report.SetAccounts`, which is not translated, gives the nodes without
inserts of their own the account of their path before the weights are computed) -/
structure Local0 (L : Log) (p : List String) (n : Node) : Prop where
  segment : n.Segment = p.getLast?.getD ""
  amounts : n.Value.Amounts = amountsOf (ownL L p)
  nodup : (AMap.keys n.Children).Nodup
  children : ∀ s, s ∈ AMap.keys n.Children ↔ ∃ e ∈ L, (p ++ [s]).isPrefixOf e.1.Account.segments = true

def RepAt0 (L : Log) (p : List String) (n : Node) : Prop := ∀ q m, MNode.nodeAt? n q = some m → Local0 L (p ++ q) m

theorem RepAt.to0 {L : Log} {p : List String} {n : Node} (h : RepAt L p n) : RepAt0 L p n :=
  fun q m hm => let l := h q m hm; ⟨l.segment, l.amounts, l.nodup, l.children⟩

theorem Local0.keys_perm {L : Log} (hL : ∀ e ∈ L, e.1.Account ≠ GoZero.zero) {p : List String} {n : Node} (h : Local0 L p n) :
    (AMap.keys n.Children).Perm (BalanceReport.childSegs (esOf L) p) := by
  have hnd : (BalanceReport.childSegs (esOf L) p).Nodup := MapSum.nodup_eraseDups _ _ (Nat.le_refl _)
  rw [List.perm_ext_iff_of_nodup h.nodup hnd]
  intro s; rw [h.children s, mem_childSegs L hL]

def AccSame (n n' : Node) : Prop :=
  ∀ q m', MNode.nodeAt? n' q = some m' → ∃ m, MNode.nodeAt? n q = some m ∧ m'.Value.Account = m.Value.Account

theorem AccSame_refl (n : Node) : AccSame n n := fun _ m' h => ⟨m', h, rfl⟩

/-- the node of a path after the weights have been computed: the weight is the model's -/
structure LocalW (valued : Bool) (L : Log) (p : List String) (n : Node) : Prop where
  segment : n.Segment = p.getLast?.getD ""
  amounts : n.Value.Amounts = amountsOf (ownL L p)
  nodup : (AMap.keys n.Children).Nodup
  children : ∀ s, s ∈ AMap.keys n.Children ↔ ∃ e ∈ L, (p ++ [s]).isPrefixOf e.1.Account.segments = true
  weight : ∀ f, MNode.height n ≤ f → n.Value.Weight = BalanceReport.weight valued (esOf L) f p

def RepAtW (valued : Bool) (L : Log) (p : List String) (n : Node) : Prop :=
  ∀ q m, MNode.nodeAt? n q = some m → LocalW valued L (p ++ q) m

theorem RepAtW_child {valued : Bool} {L : Log} {p : List String} {n : Node} (h : RepAtW valued L p n) {s : String} {c : Node}
    (hc : AMap.find? n.Children s = some c) : RepAtW valued L (p ++ [s]) c :=
  MNode.Below.child h hc

theorem abs_eq (a : Rat) : GoSem.Decimal.Abs a = Rat.abs a := by
  unfold Rat.abs
  simp only [GoSem.Decimal.Abs]
  by_cases h : a < 0
  · have : ¬ 0 ≤ a := Rat.not_le.2 h
    simp [h, this]
  · have : 0 ≤ a := Rat.not_lt.1 h
    simp [h, this]

/-- the loop of `computeWeights` over the children: the weights of the children that exist, in the given order -/
theorem range2_eq (n : Node) (items : List String) (w : Rat) :
    balance.Report.SortWeighted.post1.range2 n items w =
      GoSem.Outcome.ok (w + ((items.filter (fun s => decide (s ∈ AMap.keys n.Children))).map
        (fun s => (AMap.get n.Children s (GoZero.zero : Node)).Value.Weight)).sum) := by
  induction items generalizing w with
  | nil => simp [balance.Report.SortWeighted.post1.range2, Rat.add_zero]
  | cons s rest ih =>
    simp only [balance.Report.SortWeighted.post1.range2, find?_isSome, List.filter_cons]
    by_cases hs : s ∈ AMap.keys n.Children
    · simp only [hs, decide_true, Bool.not_true, Bool.false_eq_true, if_false, if_true, ih, GoSem.Decimal.Add, List.map_cons, List.sum_cons]
      congr 1; exact Rat.add_assoc _ _ _
    · simp only [hs, decide_false, Bool.not_false, if_true, ih, Bool.false_eq_true, if_false]

/-- the iteration orders of the traversal that computes the weights: every node's amounts and (twice: `PostOrder` itself and
the loop of `computeWeights`) children exactly once -/
structure WOrders (p : List String) (n : Node) (o1 : List String → List amounts.Key) (o2 ord : List String → List String) : Prop where
  amounts : ∀ q m, MNode.nodeAt? n q = some m → (o1 (p ++ q)).Perm (AMap.keys m.Value.Amounts)
  children : ∀ q m, MNode.nodeAt? n q = some m → (ord (p ++ q)).Perm (AMap.keys m.Children)
  inner : ∀ q m, MNode.nodeAt? n q = some m → (o2 (p ++ q)).Perm (AMap.keys m.Children)

theorem WOrders_child {p : List String} {n : Node} {o1 : List String → List amounts.Key} {o2 ord : List String → List String}
    (h : WOrders p n o1 o2 ord) {s : String} {c : Node} (hc : AMap.find? n.Children s = some c) : WOrders (p ++ [s]) c o1 o2 ord :=
  ⟨MNode.Below.child (P := fun q (m : Node) => (o1 q).Perm (AMap.keys m.Value.Amounts)) h.amounts hc,
   MNode.Below.child (P := fun q (m : Node) => (ord q).Perm (AMap.keys m.Children)) h.children hc,
   MNode.Below.child (P := fun q (m : Node) => (o2 q).Perm (AMap.keys m.Children)) h.inner hc⟩

/-- the children while the traversal runs: those already done carry their weights, the others are untouched -/
structure ChildInv (valued : Bool) (L : Log) (p : List String) (cs : List (String × Node)) (done : List String)
    (cs' : List (String × Node)) : Prop where
  keys : AMap.keys cs' = AMap.keys cs
  height : MNode.heightL cs' = MNode.heightL cs
  child : ∀ s c, AMap.find? cs s = some c → ∃ c', AMap.find? cs' s = some c' ∧ MNode.height c' = MNode.height c ∧
    AccSame c c' ∧ (s ∈ done → RepAtW valued L (p ++ [s]) c') ∧ (s ∉ done → c' = c)

theorem valuedSum (valued : Bool) (L : Log) (hL : ∀ e ∈ L, e.1.Account ≠ GoZero.zero)
    (hval : ∀ e ∈ L, (!decide (e.1.Valuation = (GoZero.zero : commodity.Commodity))) = valued) (p : List String) :
    logSum (ownL L p) (fun k => !decide (k.Valuation = (GoZero.zero : commodity.Commodity))) =
      if valued then BalanceReport.sumAmounts (BalanceReport.own (esOf L) p) else 0 := by
  have hown : ∀ e ∈ ownL L p, e ∈ L := fun e he => (List.mem_filter.1 he).1
  unfold logSum
  cases valued with
  | true =>
    have : (ownL L p).filter (fun e => !decide (e.1.Valuation = (GoZero.zero : commodity.Commodity))) = ownL L p :=
      List.filter_eq_self.2 (fun e he => hval e (hown e he))
    rw [this, sumAmounts_esOf _ (fun e he => hL e (hown e he)), own_esOf]; rfl
  | false =>
    have : (ownL L p).filter (fun e => !decide (e.1.Valuation = (GoZero.zero : commodity.Commodity))) = [] :=
      List.filter_eq_nil_iff.2 (fun e he => by simp [hval e (hown e he)])
    rw [this]; rfl

/-- `computeWeights` on a node whose children (`cs'`, under the keys of the node's own) already carry the model's weights -/
theorem weights_node (valued : Bool) (L : Log) (hL : ∀ e ∈ L, e.1.Account ≠ GoZero.zero)
    (hval : ∀ e ∈ L, (!decide (e.1.Valuation = (GoZero.zero : commodity.Commodity))) = valued)
    (o1 : List String → List amounts.Key) (o2 ord : List String → List String) (p : List String) (n : Node) (cs' : List (String × Node))
    (hpre : RepAt0 L p n ∧ WOrders p n o1 o2 ord) (fkeys : AMap.keys cs' = AMap.keys n.Children)
    (hback : ∀ k c', AMap.find? cs' k = some c' → ∃ c, AMap.find? n.Children k = some c ∧
      AccSame c c' ∧ RepAtW valued L (p ++ [k]) c') :
    ∃ n', balance.Report.SortWeighted.post1 o1 o2 p () { n with Children := cs' } = GoSem.Outcome.ok ((), n') ∧
      AccSame n n' ∧ RepAtW valued L p n' := by
  obtain ⟨hrep, hord⟩ := hpre
  have hloc : Local0 L p n := MNode.Below.here hrep
  have ho1 : (o1 p).Perm (AMap.keys (amountsOf (ownL L p))) := by
    have := hord.amounts [] n rfl; rw [hloc.amounts] at this; simpa using this
  have ho2 : (o2 p).Perm (AMap.keys n.Children) := by simpa using hord.inner [] n rfl
  have hsum := SumOver_amountsOf (ownL L p) (fun k => !decide (k.Valuation = (GoZero.zero : commodity.Commodity))) ho1
  unfold balance.Report.SortWeighted.post1
  simp only [hloc.amounts]
  have hpf : (some fun (k : amounts.Key) => GoSem.Outcome.ok (!decide (k.Valuation = (GoZero.zero : commodity.Commodity)))) =
      pureFn (fun k : amounts.Key => !decide (k.Valuation = (GoZero.zero : commodity.Commodity))) := rfl
  rw [hpf, hsum]
  simp only [GoSem.Outcome.bind, range2_eq]
  refine ⟨_, rfl, ?_, MNode.Below.of_children ?_ (fun s c' hc' => (hback s c' hc').elim fun _ h => h.2.2)⟩
  · intro q m' hm'
    cases q with
    | nil => cases hm'; exact ⟨n, rfl, rfl⟩
    | cons s q' =>
      obtain ⟨c', hc', hm'⟩ := MNode.nodeAt?_cons_some hm'
      obtain ⟨c, hc, ga, _⟩ := hback s c' hc'
      obtain ⟨m, hm, hacc⟩ := ga q' m' hm'
      exact ⟨m, MNode.nodeAt?_of_child hc hm, hacc⟩
  · refine ⟨hloc.segment, rfl, by simpa [fkeys] using hloc.nodup,
      fun s => by simpa [fkeys] using hloc.children s, fun f hf => ?_⟩
    rw [MNode.height_mk] at hf
    obtain ⟨f', rfl⟩ : ∃ f', f = f' + 1 := ⟨f - 1, by omega⟩
    rw [ReportPerm.weight_eq, valuedSum valued L hL hval p]
    simp only [GoSem.Decimal.Neg, abs_eq]
    have hkeys : ((o2 p).filter (fun s => decide (s ∈ AMap.keys cs'))) = o2 p := by
      apply List.filter_eq_self.2; intro s hs; rw [fkeys]; simpa using ho2.mem_iff.1 hs
    have hw : ∀ s ∈ AMap.keys n.Children, (AMap.get cs' s (GoZero.zero : Node)).Value.Weight =
        BalanceReport.weight valued (esOf L) f' (p ++ [s]) := by
      intro s hs
      obtain ⟨c', g1⟩ := AMap.mem_keys_iff_find?.1 (fkeys.symm ▸ hs)
      obtain ⟨_, _, _, g3⟩ := hback s c' g1
      have hle : MNode.height c' ≤ f' := by
        have := MNode.height_le_heightL (AMap.mem_of_find? g1)
        omega
      simpa [AMap.get, g1] using (g3 [] c' rfl).weight f' hle
    rw [hkeys, MapSum.sum_perm (ho2.map _), ← MapSum.sum_perm ((hloc.keys_perm hL).map _), List.map_congr_left hw]
    cases valued <;> simp

/-- **the traversal of a subtree**: only the weights change; they are the model's -/
theorem weights_postOrderF (valued : Bool) (L : Log) (hL : ∀ e ∈ L, e.1.Account ≠ GoZero.zero)
    (hval : ∀ e ∈ L, (!decide (e.1.Valuation = (GoZero.zero : commodity.Commodity))) = valued)
    (o1 : List String → List amounts.Key) (o2 ord : List String → List String) (fuel : Nat) :
    ∀ (p : List String) (n : Node), MNode.height n ≤ fuel → RepAt0 L p n → WOrders p n o1 o2 ord →
      ∃ n', MNode.postOrderF (balance.Report.SortWeighted.post1 o1 o2) ord fuel p () n = GoSem.Outcome.ok ((), n') ∧
        AccSame n n' ∧ RepAtW valued L p n' := fun p n hh hrep hord =>
  MNode.postOrderF_rule_unit _ ord (fun p n => RepAt0 L p n ∧ WOrders p n o1 o2 ord)
    (fun p n n' => AccSame n n' ∧ RepAtW valued L p n')
    (fun p n h => ⟨by simpa using h.2.children [] n rfl, (MNode.Below.here h.1).nodup⟩)
    (fun p n k c h hc => ⟨MNode.Below.child h.1 hc, WOrders_child h.2 hc⟩)
    (weights_node valued L hL hval o1 o2 ord) fuel p n hh ⟨hrep, hord⟩

/-- **`Report.SortWeighted`** on a report whose trees represent the inserts `La`, `Le` (whatever the accounts of the nodes), for
EVERY iteration order: the result is the two trees with the model's weights (`RepAtW`), the accounts untouched, each sorted with
the comparator of the Go code (`cmp3`: level 1 by account type, below by weight then name) -/
theorem SortWeighted_agrees (valued : Bool) (r : balance.Report) (La Le : Log)
    (hLa : ∀ e ∈ La, e.1.Account ≠ GoZero.zero) (hLe : ∀ e ∈ Le, e.1.Account ≠ GoZero.zero)
    (hva : ∀ e ∈ La, (!decide (e.1.Valuation = (GoZero.zero : commodity.Commodity))) = valued)
    (hve : ∀ e ∈ Le, (!decide (e.1.Valuation = (GoZero.zero : commodity.Commodity))) = valued)
    (ha : RepAt0 La [] r.AL) (he : RepAt0 Le [] r.EIE)
    (o1 o4 : List String → List amounts.Key) (o2 o3 o5 o6 : List String → List String)
    (h1 : WOrders [] r.AL o1 o2 o3) (h2 : WOrders [] r.EIE o4 o5 o6) :
    ∃ Ta Te, balance.Report.SortWeighted r o1 o2 o3 o4 o5 o6 =
        GoSem.Outcome.ok { r with AL := MNode.sort balance.Report.SortWeighted.cmp3 Ta, EIE := MNode.sort balance.Report.SortWeighted.cmp3 Te } ∧
      AccSame r.AL Ta ∧ RepAtW valued La [] Ta ∧ AccSame r.EIE Te ∧ RepAtW valued Le [] Te := by
  obtain ⟨Ta, g1, g3, g4⟩ := weights_postOrderF valued La hLa hva o1 o2 o3 (MNode.height r.AL) [] r.AL (Nat.le_refl _) ha h1
  obtain ⟨Te, e1, e3, e4⟩ := weights_postOrderF valued Le hLe hve o4 o5 o6 (MNode.height r.EIE) [] r.EIE (Nat.le_refl _) he h2
  refine ⟨Ta, Te, ?_, g3, g4, e3, e4⟩
  unfold balance.Report.SortWeighted MNode.postOrder
  simp only [g1, e1, GoSem.Outcome.bind]

/-- what `Report.SetAccounts` (not translated: it recurses over the tree and asks the registry) establishes before the
sorting: every node below the root carries the account of its path -/
def HasAccounts (n : Node) : Prop :=
  ∀ q m, MNode.nodeAt? n q = some m → q ≠ [] → m.Value.Account = TransAccount.accountGo ⟨q⟩

theorem HasAccounts_of_AccSame {n n' : Node} (h : AccSame n n') (ha : HasAccounts n) : HasAccounts n' := by
  intro q m' hm' hq
  obtain ⟨m, hm, hacc⟩ := h q m' hm'
  rw [hacc]; exact ha q m hm hq

theorem cmp3_sort (a b : Node) :
    balance.Report.SortWeighted.cmp3 (MNode.sort balance.Report.SortWeighted.cmp3 a) (MNode.sort balance.Report.SortWeighted.cmp3 b) =
      balance.Report.SortWeighted.cmp3 a b := by
  unfold balance.Report.SortWeighted.cmp3 MNode.sortAlpha
  simp only [MNode.sort_Value, MNode.sort_Segment]

theorem cmp1_sort (a b : Node) :
    balance.Report.SortAlpha.cmp1 (MNode.sort balance.Report.SortAlpha.cmp1 a) (MNode.sort balance.Report.SortAlpha.cmp1 b) =
      balance.Report.SortAlpha.cmp1 a b := by
  unfold balance.Report.SortAlpha.cmp1 MNode.sortAlpha
  simp only [MNode.sort_Value, MNode.sort_Segment]

theorem Type_accountGo_top (a : String) : account.Account.Type_ (TransAccount.accountGo ⟨[a]⟩) = (BalanceReport.typeOrd a : Int) := by
  simp only [account.Account.Type_, TransAccount.accountGo, BalanceReport.typeOrd, Knut.Account.type?]
  cases h : AccountType.ofName a with
  | none => simp
  | some t => simp [TransAccount.typeGo_ord]

/-- the guard of both comparators (`Level() == 1` twice) on two children of the node of `P`: `P` is the root -/
theorem level1_guard (P : List String) (a b : String) :
    (decide (account.Account.Level (TransAccount.accountGo ⟨P ++ [a]⟩) = (1 : Int)) &&
      decide (account.Account.Level (TransAccount.accountGo ⟨P ++ [b]⟩) = (1 : Int))) = P.isEmpty := by
  cases P with
  | nil => simp [TransAccount.Level_agrees, Knut.Account.level]
  | cons x rest => simp [TransAccount.Level_agrees, Knut.Account.level]; omega

theorem top_sibLE (a b : String) :
    decide (cmpOrdered (account.Account.Type_ (TransAccount.accountGo ⟨[a]⟩)) (account.Account.Type_ (TransAccount.accountGo ⟨[b]⟩)) ≠ 1) =
      decide (BalanceReport.typeOrd a ≤ BalanceReport.typeOrd b) := by
  rw [Type_accountGo_top, Type_accountGo_top, cmpOrdered_le_int]
  exact decide_eq_decide.2 Int.ofNat_le

/-- the comparator of the Go code on two children of the node of a path = the model's sibling order -/
theorem cmp3_sibLE (rc : RenderCfg) (hrc : rc.sortAlpha = false) (L : Log) (f : Nat) (P : List String) (a b : String) (ca cb : Node)
    (hsa : ca.Segment = a) (hsb : cb.Segment = b)
    (haa : ca.Value.Account = TransAccount.accountGo ⟨P ++ [a]⟩) (hab : cb.Value.Account = TransAccount.accountGo ⟨P ++ [b]⟩)
    (hwa : ca.Value.Weight = BalanceReport.weight rc.valuation.isSome (esOf L) f (P ++ [a]))
    (hwb : cb.Value.Weight = BalanceReport.weight rc.valuation.isSome (esOf L) f (P ++ [b])) :
    decide (balance.Report.SortWeighted.cmp3 ca cb ≠ 1) = BalanceReport.sibLE rc (esOf L) f P a b := by
  unfold balance.Report.SortWeighted.cmp3 BalanceReport.sibLE
  rw [haa, hab, level1_guard]
  cases P with
  | nil => exact top_sibLE a b
  | cons x rest =>
    simp only [List.isEmpty_cons, Bool.false_eq_true, if_false, hrc, hwa, hwb, TransPrice.compare_Decimal_eq, MNode.sortAlpha, hsa, hsb,
      ← cmpOrdered_le_string a b]
    generalize BalanceReport.weight rc.valuation.isSome (esOf L) f (x :: rest ++ [a]) = wa
    generalize BalanceReport.weight rc.valuation.isSome (esOf L) f (x :: rest ++ [b]) = wb
    by_cases h1 : wa < wb
    · simp [h1]
    · by_cases h2 : wa = wb
      · subst h2; simp [Rat.lt_irrefl]
      · have h3 : wb < wa := Rat.lt_of_le_of_ne (Rat.not_lt.1 h1) (fun e => h2 e.symm)
        simp [h1, h2, h3]

theorem cmp1_sibLE (rc : RenderCfg) (hrc : rc.sortAlpha = true) (es : List Knut.Entry) (f : Nat) (P : List String) (a b : String) (ca cb : Node)
    (hsa : ca.Segment = a) (hsb : cb.Segment = b)
    (haa : ca.Value.Account = TransAccount.accountGo ⟨P ++ [a]⟩) (hab : cb.Value.Account = TransAccount.accountGo ⟨P ++ [b]⟩) :
    decide (balance.Report.SortAlpha.cmp1 ca cb ≠ 1) = BalanceReport.sibLE rc es f P a b := by
  unfold balance.Report.SortAlpha.cmp1 BalanceReport.sibLE
  rw [haa, hab, level1_guard]
  cases P with
  | nil => exact top_sibLE a b
  | cons x rest =>
    simp only [List.isEmpty_cons, Bool.false_eq_true, if_false, hrc, if_true, MNode.sortAlpha, hsa, hsb]
    exact cmpOrdered_le_string a b

theorem LocalW.to0 {valued : Bool} {L : Log} {p : List String} {n : Node} (h : LocalW valued L p n) : Local0 L p n :=
  ⟨h.segment, h.amounts, h.nodup, h.children⟩

theorem nodeAt?_child {T m : Node} {p : List String} (hm : MNode.nodeAt? T p = some m) {s : String} (hs : s ∈ AMap.keys m.Children) :
    ∃ c, AMap.find? m.Children s = some c ∧ MNode.nodeAt? T (p ++ [s]) = some c := by
  obtain ⟨c, hc⟩ := AMap.mem_keys_iff_find?.1 hs
  exact ⟨c, hc, by rw [MNode.nodeAt?_append, hm]; simp [MNode.nodeAt?_cons, hc]⟩

/-- the keys of the children of the node of a path, sorted by the model's sibling order, are the model's `sortedChildren`: the
order is total and antisymmetric on them (at the root: on account types), so the order the keys come in does not matter -/
theorem mergeSort_keys_sibLE (rc : RenderCfg) {L : Log} (hL : ∀ e ∈ L, e.1.Account ≠ GoZero.zero) (hwf : ReportPerm.WF (esOf L))
    {p : List String} {m : Node} (hloc : Local0 L p m) (f : Nat) :
    (AMap.keys m.Children).mergeSort (BalanceReport.sibLE rc (esOf L) f p) = BalanceReport.sortedChildren rc (esOf L) f p := by
  have hcs := hloc.keys_perm hL
  unfold BalanceReport.sortedChildren
  cases p with
  | nil =>
    have : BalanceReport.sibLE rc (esOf L) f [] = fun a b => decide (BalanceReport.typeOrd a ≤ BalanceReport.typeOrd b) := by
      funext a b; unfold BalanceReport.sibLE; simp
    rw [this]
    apply MapSum.mergeSort_perm_eq _ _ _ _ _ _ hcs
    · intro a b c; simp only [decide_eq_true_eq]; omega
    · intro a b; simp only [Bool.or_eq_true, decide_eq_true_eq]; omega
    · intro a b ha hb; simp only [decide_eq_true_eq]
      intro h1 h2
      exact ReportPerm.typeOrd_inj (ReportPerm.top_isType hwf (hcs.mem_iff.1 ha)) (ReportPerm.top_isType hwf (hcs.mem_iff.1 hb)) (by omega)
  | cons x rest =>
    rw [ReportPerm.sibLE_nonempty rc (esOf L) f (x :: rest) (by simp)]
    split
    · exact ReportPerm.sort_perm_eq _ ReportPerm.strLE_trans ReportPerm.strLE_total ReportPerm.strLE_antisymm _ _ hcs
    · exact ReportPerm.sort_perm_eq _ (ReportPerm.lexLE_trans _) (ReportPerm.lexLE_total _) (ReportPerm.lexLE_antisymm _) _ _ hcs

/-- **the siblings in sorted order**: in the report sorted by `SortWeighted` (weights as the model's, accounts as
`SetAccounts` leaves them, inserts on accounts with an account type), the keys of the children of the node of every path,
in the order of `Sorted`, are the model's `sortedChildren` of the path — for every fuel that covers the node's height -/
theorem sortedKeys_agrees (rc : RenderCfg) (hrc : rc.sortAlpha = false) (L : Log) (hL : ∀ e ∈ L, e.1.Account ≠ GoZero.zero)
    (hwf : ReportPerm.WF (esOf L)) (T : Node) (hw : RepAtW rc.valuation.isSome L [] T) (hacc : HasAccounts T)
    (p : List String) (m : Node) (hm : MNode.nodeAt? T p = some m) (f : Nat) (hf : MNode.height m ≤ f + 1) :
    MNode.nodeAt? (MNode.sort balance.Report.SortWeighted.cmp3 T) p = some (MNode.sort balance.Report.SortWeighted.cmp3 m) ∧
    (MNode.sort balance.Report.SortWeighted.cmp3 m).SortedKeys = BalanceReport.sortedChildren rc (esOf L) f p := by
  refine ⟨by rw [MNode.nodeAt?_sort, hm]; rfl, ?_⟩
  have hloc : LocalW rc.valuation.isSome L p m := by simpa using hw p m hm
  rw [MNode.sort_SortedKeys_eq _ cmp3_sort m hloc.nodup, ← mergeSort_keys_sibLE rc hL hwf hloc.to0]
  apply mergeSort_congr
  intro a ha b hb
  obtain ⟨ca, h1, hca⟩ := nodeAt?_child hm ha
  obtain ⟨cb, g1, hcb⟩ := nodeAt?_child hm hb
  have hla : LocalW rc.valuation.isSome L (p ++ [a]) ca := by simpa using hw _ ca hca
  have hlb : LocalW rc.valuation.isSome L (p ++ [b]) cb := by simpa using hw _ cb hcb
  have hha := MNode.height_child_lt h1
  have hhb := MNode.height_child_lt g1
  rw [h1, g1]
  exact cmp3_sibLE rc hrc L f p a b ca cb (by simpa using hla.segment) (by simpa using hlb.segment)
    (hacc _ ca hca (by simp)) (hacc _ cb hcb (by simp)) (hla.weight f (by omega)) (hlb.weight f (by omega))

theorem SortAlpha_agrees (r : balance.Report) :
    balance.Report.SortAlpha r =
      { r with AL := MNode.sort balance.Report.SortAlpha.cmp1 r.AL, EIE := MNode.sort balance.Report.SortAlpha.cmp1 r.EIE } := rfl

/-- **the siblings in alphabetical order** (`-a`): as `sortedKeys_agrees`, for every fuel -/
theorem sortedKeys_alpha_agrees (rc : RenderCfg) (hrc : rc.sortAlpha = true) (L : Log) (hL : ∀ e ∈ L, e.1.Account ≠ GoZero.zero)
    (hwf : ReportPerm.WF (esOf L)) (T : Node) (hw : RepAt0 L [] T) (hacc : HasAccounts T)
    (p : List String) (m : Node) (hm : MNode.nodeAt? T p = some m) (f : Nat) :
    MNode.nodeAt? (MNode.sort balance.Report.SortAlpha.cmp1 T) p = some (MNode.sort balance.Report.SortAlpha.cmp1 m) ∧
    (MNode.sort balance.Report.SortAlpha.cmp1 m).SortedKeys = BalanceReport.sortedChildren rc (esOf L) f p := by
  refine ⟨by rw [MNode.nodeAt?_sort, hm]; rfl, ?_⟩
  have hloc : Local0 L p m := by simpa using hw p m hm
  rw [MNode.sort_SortedKeys_eq _ cmp1_sort m hloc.nodup, ← mergeSort_keys_sibLE rc hL hwf hloc]
  apply mergeSort_congr
  intro a ha b hb
  obtain ⟨ca, h1, hca⟩ := nodeAt?_child hm ha
  obtain ⟨cb, g1, hcb⟩ := nodeAt?_child hm hb
  have hla : Local0 L (p ++ [a]) ca := by simpa using hw _ ca hca
  have hlb : Local0 L (p ++ [b]) cb := by simpa using hw _ cb hcb
  rw [h1, g1]
  exact cmp1_sibLE rc hrc (esOf L) f p a b ca cb (by simpa using hla.segment) (by simpa using hlb.segment)
    (hacc _ ca hca (by simp)) (hacc _ cb hcb (by simp))

private def exK' (a : Knut.Account) (d : Int) : amounts.Key :=
  { Date := d, Account := TransAccount.accountGo a, Other := GoZero.zero, Commodity := ⟨"CHF", false⟩,
    Valuation := ⟨"CHF", false⟩, Description := "" }

private def exR : balance.Report :=
  [(exK' ⟨["Assets", "Bank"]⟩ 5, (3 : Rat)), (exK' ⟨["Assets"]⟩ 5, -4)].foldl (fun r e => balance.Report.Insert r e.1 e.2) (balance.NewReport GoZero.zero)

private def exOrd : List String → List String := fun _ => ["Bank", "Assets"]
private def exKeys' : List String → List amounts.Key := fun _ => [exK' ⟨["Assets", "Bank"]⟩ 5, exK' ⟨["Assets"]⟩ 5]

/-- the weights of a valued report: minus the absolute own sum plus the children (`Bank`: −3, `Assets`: −4 − 3); an evaluation of
the translated traversal: the constant order families `exKeys'`, `exOrd` are its inputs, they do not meet `WOrders` -/
example :
    (match MNode.postOrder (balance.Report.SortWeighted.post1 exKeys' exOrd) exOrd () exR.AL with
      | .ok r => ((MNode.nodeAt? r.2 ["Assets"]).map (fun n => n.Value.Weight),
                  (MNode.nodeAt? r.2 ["Assets", "Bank"]).map (fun n => n.Value.Weight))
      | _ => (none, none)) = (some (-7), some (-3)) := by decide +kernel

end Knut.FactsAgree.TransReport
