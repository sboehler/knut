import Knut.FactsAgree.TransReport
import Knut.Proofs.GoSemPostOrder
/-!
# `Report.Totals` (translated) = per mapped key the sum over all inserts of the section

`Totals(m)` runs `PostOrder` over both trees with a closure that calls `n.Value.Amounts.SumIntoBy(total, nil, m)` for every
node: two nested iteration orders per node (the node's amounts, the intermediate total for the deletion loop) and the order
of the children of every node are parameters of the translated function.  For EVERY such orders (each
node's amounts and children once; the deletion loops reaching every key that can occur) the trees are unchanged, and each
total holds, for every key `x`, the sum of the inserted amounts whose key `m` maps to `x` — the key being absent exactly
when that sum is zero (`Clean`).  The model's `Total` rows (`BalanceReport.cellAt`, `valsCommodities` over all entries of a
section) are these sums.
-/
namespace Knut.FactsAgree.TransReport
open Knut Knut.GoSem
open Knut.Generated.Go
open Knut.FactsAgree.TransAmountsSum
open Knut.FactsAgree.TransQuery (entryOf)

/-- `Rep` for the subtree `n` that hangs at the path `p` -/
def RepAt (L : Log) (p : List String) (n : Node) : Prop := ∀ q m, MNode.nodeAt? n q = some m → Local L (p ++ q) m

theorem RepAt_root {L : Log} {T : Node} : Rep L T ↔ RepAt L [] T := by
  unfold Rep RepAt; simp

/-- the inserts at or below the path `p`: what `Totals` sums over the subtree of `p` -/
def under (L : Log) (p : List String) : Log := L.filter (fun e => p.isPrefixOf e.1.Account.segments)

theorem logSum_cons (e : amounts.Key × Rat) (L : Log) (P : amounts.Key → Bool) :
    logSum (e :: L) P = (if P e.1 then e.2 else 0) + logSum L P := by
  unfold logSum
  by_cases h : P e.1 <;> simp [h, Rat.zero_add]

theorem logSum_eq_sum (L : Log) (P : amounts.Key → Bool) : logSum L P = (L.map (fun e => if P e.1 then e.2 else 0)).sum := by
  induction L with
  | nil => rfl
  | cons e rest ih => rw [logSum_cons, ih]; rfl

/-- **the inserts below a path are its own and those below its children**, as sums: `ks` any duplicate-free list that
contains the next segment of every inserted path below `p` -/
theorem logSum_under_split (L : Log) (p : List String) (ks : List String) (hn : ks.Nodup)
    (hks : ∀ e ∈ L, ∀ s, (p ++ [s]).isPrefixOf e.1.Account.segments = true → s ∈ ks) (P : amounts.Key → Bool) :
    logSum (under L p) P = logSum (ownL L p) P + (ks.map (fun s => logSum (under L (p ++ [s])) P)).sum := by
  simp only [logSum_eq_sum]
  exact MNode.sum_belowOf_split (fun e : amounts.Key × Rat => e.1.Account.segments) _ L p ks hn hks

/-- the closure `Totals` passes to `PostOrder`: the node's amounts are summed into the total; the node is left alone -/
def totalsStep (o1 o2 : List String → List amounts.Key) (m : mapper.Mapper amounts.Key) :
    List String → amounts.Amounts → Node → GoSem.Outcome (amounts.Amounts × Node) :=
  fun path st n => (amounts.Amounts.SumIntoBy n.Value.Amounts st none m (o1 path) (o2 path)).bind fun t => GoSem.Outcome.ok (t, n)

theorem post1_eq (o1 o2 : List String → List amounts.Key) (m : mapper.Mapper amounts.Key) :
    balance.Report.Totals.post1 o1 o2 m = totalsStep o1 o2 m := rfl
theorem post2_eq (o1 o2 : List String → List amounts.Key) (m : mapper.Mapper amounts.Key) :
    balance.Report.Totals.post2 o1 o2 m = totalsStep o1 o2 m := rfl

/-- the keys a total can hold: those it started with and the images of the inserted keys -/
def possible (al0 : amounts.Amounts) (L : Log) (mf : amounts.Key → amounts.Key) (x : amounts.Key) : Prop :=
  x ∈ AMap.keys al0 ∨ ∃ e ∈ L, mf e.1 = x

/-- the iteration orders of one traversal: every node's amounts and children exactly once, the deletion loops reaching every
possible key -/
structure Orders (L : Log) (al0 : amounts.Amounts) (mf : amounts.Key → amounts.Key) (p : List String) (n : Node)
    (o1 o2 : List String → List amounts.Key) (ord : List String → List String) : Prop where
  amounts : ∀ q m, MNode.nodeAt? n q = some m → (o1 (p ++ q)).Perm (AMap.keys m.Value.Amounts)
  children : ∀ q m, MNode.nodeAt? n q = some m → (ord (p ++ q)).Perm (AMap.keys m.Children)
  deletion : ∀ q x, possible al0 L mf x → x ∈ o2 q

theorem Orders_child {L : Log} {al0 : amounts.Amounts} {mf : amounts.Key → amounts.Key} {p : List String} {n : Node}
    {o1 o2 : List String → List amounts.Key} {ord : List String → List String} (h : Orders L al0 mf p n o1 o2 ord)
    {s : String} {c : Node} (hc : AMap.find? n.Children s = some c) : Orders L al0 mf (p ++ [s]) c o1 o2 ord :=
  ⟨MNode.Below.child (P := fun q (m : Node) => (o1 q).Perm (AMap.keys m.Value.Amounts)) h.amounts hc,
   MNode.Below.child (P := fun q (m : Node) => (ord q).Perm (AMap.keys m.Children)) h.children hc, h.deletion⟩

theorem logSum_true_and (L : Log) (P : amounts.Key → Bool) : logSum L (fun k => true && P k) = logSum L P := by
  unfold logSum; simp

def belowSum (L : Log) (mf : amounts.Key → amounts.Key) (p : List String) (ks : List String) (x : amounts.Key) : Rat :=
  (ks.map (fun s => logSum (under L (p ++ [s])) (fun k => decide (mf k = x)))).sum

/-- `Totals`' closure on a node when the total `al1` already holds, beyond the total `al` the traversal of the subtree started with, what
lies below the children: it adds the node's own inserts -/
theorem totals_node (L : Log) (al0 : amounts.Amounts) (mf : amounts.Key → amounts.Key)
    (o1 o2 : List String → List amounts.Key) (ord : List String → List String) (p : List String) (n : Node) (al al1 : amounts.Amounts)
    (hrep : RepAt L p n) (hord : Orders L al0 mf p n o1 o2 ord) (h2 : WF al1) (h3 : ∀ x ∈ AMap.keys al1, possible al0 L mf x)
    (h4 : ∀ x, AMap.get al1 x 0 = AMap.get al x 0 + belowSum L mf p (ord p) x) :
    ∃ r, totalsStep o1 o2 (pureFn mf) p al1 n = GoSem.Outcome.ok (r, n) ∧ WF r ∧ Clean r ∧
      (∀ x ∈ AMap.keys r, possible al0 L mf x) ∧
      ∀ x, AMap.get r x 0 = AMap.get al x 0 + logSum (under L p) (fun k => decide (mf k = x)) := by
  have hloc : Local L p n := MNode.Below.here hrep
  have hperm : (ord p).Perm (AMap.keys n.Children) := by simpa using hord.children [] n rfl
  have ho1 : (o1 p).Perm (AMap.keys n.Value.Amounts) := by simpa using hord.amounts [] n rfl
  have himg : ∀ k ∈ AMap.keys n.Value.Amounts, possible al0 L mf (mf k) := by
    intro k hk
    rw [hloc.amounts, amountsOf_keys] at hk
    obtain ⟨e, he, hek⟩ := hk
    exact Or.inr ⟨e, (List.mem_filter.1 he).1, by rw [hek]⟩
  have hcov : ∀ x, touched n.Value.Amounts al1 ((none : Option (amounts.Key → Bool)).getD fun _ => true) ((some mf).getD id) x → x ∈ o2 p := by
    intro x hx
    apply hord.deletion p x
    rcases hx with hx | ⟨k, hk, _, hkx⟩
    · exact h3 x hx
    · exact hkx ▸ himg k hk
  have hwa : WF n.Value.Amounts := by rw [hloc.amounts]; exact amountsOf_wf _
  obtain ⟨r, hr, hw, hcl, hv⟩ := SumIntoBy_val hwa h2 none (some mf) ho1 hcov
  refine ⟨r, ?_, hw, hcl, ?_, fun x => ?_⟩
  · unfold totalsStep
    have : amounts.Amounts.SumIntoBy n.Value.Amounts al1 none (pureFn mf) (o1 p) (o2 p) = GoSem.Outcome.ok r := hr
    rw [this]; simp [GoSem.Outcome.bind]
  · intro x hx
    have := (hcl x).1 hx
    rw [hv x] at this
    by_cases hx1 : x ∈ AMap.keys al1
    · exact h3 x hx1
    · rw [get_of_not_mem hx1, Rat.zero_add] at this
      have : ∃ k ∈ AMap.keys n.Value.Amounts, ((none : Option (amounts.Key → Bool)).getD fun _ => true) k = true ∧ ((some mf).getD id) k = x := by
        apply Classical.byContradiction
        intro hne
        exact this (mappedSum_untouched hne)
      obtain ⟨k, hk, _, hkx⟩ := this
      exact hkx ▸ himg k hk
  · have hms : mappedSum n.Value.Amounts ((none : Option (amounts.Key → Bool)).getD fun _ => true) ((some mf).getD id) x =
        logSum (ownL L p) (fun k => decide (mf k = x)) := by
      unfold mappedSum
      rw [hloc.amounts, total_amountsOf]
      exact logSum_true_and _ _
    rw [hv x, h4 x, belowSum, MapSum.sum_perm (hperm.map _), hms,
      logSum_under_split L p (AMap.keys n.Children) hloc.nodup (fun e he s hs => (hloc.children s).2 ⟨e, he, hs⟩),
      Rat.add_assoc, Rat.add_comm (List.sum _)]

/-- **the traversal of a subtree**: the tree is unchanged and the total grows, key by key, by the inserts at or below the path.
While the children are visited the total holds what lies below those already done. -/
theorem totals_postOrderF (L : Log) (al0 : amounts.Amounts) (mf : amounts.Key → amounts.Key)
    (o1 o2 : List String → List amounts.Key) (ord : List String → List String) (fuel : Nat) :
    ∀ (p : List String) (n : Node) (al : amounts.Amounts), MNode.height n ≤ fuel → RepAt L p n → WF al →
      (∀ x ∈ AMap.keys al, possible al0 L mf x) → Orders L al0 mf p n o1 o2 ord →
      ∃ al', MNode.postOrderF (totalsStep o1 o2 (pureFn mf)) ord fuel p al n = GoSem.Outcome.ok (al', n) ∧ WF al' ∧ Clean al' ∧
        (∀ x ∈ AMap.keys al', possible al0 L mf x) ∧
        ∀ x, AMap.get al' x 0 = AMap.get al x 0 + logSum (under L p) (fun k => decide (mf k = x)) := by
  intro p n al hh hrep hwf hposs hord
  obtain ⟨al', n', h, rfl, h'⟩ := MNode.postOrderF_rule (totalsStep o1 o2 (pureFn mf)) ord
    (fun p al n => RepAt L p n ∧ WF al ∧ (∀ x ∈ AMap.keys al, possible al0 L mf x) ∧ Orders L al0 mf p n o1 o2 ord)
    (fun p al n al' n' => n' = n ∧ WF al' ∧ Clean al' ∧ (∀ x ∈ AMap.keys al', possible al0 L mf x) ∧
      ∀ x, AMap.get al' x 0 = AMap.get al x 0 + logSum (under L p) (fun k => decide (mf k = x)))
    (fun p al _ ks st => WF st ∧ (∀ x ∈ AMap.keys st, possible al0 L mf x) ∧
      ∀ x, AMap.get st x 0 + belowSum L mf p ks x = AMap.get al x 0 + belowSum L mf p (ord p) x)
    (fun p al n h => ⟨by simpa using h.2.2.2.children [] n rfl, (MNode.Below.here h.1).nodup⟩)
    (fun p al n h => ⟨h.2.1, h.2.2.1, fun _ => rfl⟩)
    (fun p al n k rest st c h hI hc => ⟨⟨MNode.Below.child h.1 hc, hI.1, hI.2.1, Orders_child h.2.2.2 hc⟩,
      fun st' c' hq => ⟨hq.2.1, hq.2.2.2.1, fun x => by rw [hq.2.2.2.2 x, Rat.add_assoc]; exact hI.2.2 x⟩⟩)
    (fun p al n al1 cs' ⟨hrep, _, _, hord⟩ ⟨h2, h3, h4⟩ hk hback => by
      -- every child came back as it was: the node is the old one
      obtain rfl : cs' = n.Children := MNode.children_ext hk (MNode.Below.here hrep).nodup fun s c c' hc hc' => by
        obtain ⟨c0, h0, _, _, e, _⟩ := hback s c' hc'
        rw [e, Option.some.inj (hc.symm.trans h0)]
      obtain ⟨r, hr, g⟩ := totals_node L al0 mf o1 o2 ord p n al al1 hrep hord h2 h3
        (fun x => by have := h4 x; rwa [belowSum, List.map_nil, List.sum_nil, Rat.add_zero] at this)
      exact ⟨r, n, by rw [MNode.eta]; exact hr, rfl, g⟩)
    fuel p al n hh ⟨hrep, hwf, hposs, hord⟩
  exact ⟨al', h, h'⟩

theorem under_nil (L : Log) : under L [] = L := by
  unfold under; simp [List.isPrefixOf]

/-- **`Report.Totals`** on a report whose trees represent the inserts `La` (A+L) and `Le` (E+I+E), for a mapper that is a total
pure function and EVERY iteration order: the report is unchanged; each total is well-formed and `Clean` (no zero entries) and
holds for every key `x` the sum of the inserted amounts of its section whose key the mapper sends to `x` -/
theorem Totals_agrees_of_rep (r : balance.Report) (La Le : Log) (ha : Rep La r.AL) (he : Rep Le r.EIE) (mf : amounts.Key → amounts.Key)
    (o1 o2 o4 o5 : List String → List amounts.Key) (ord3 ord6 : List String → List String)
    (h1 : Orders La [] mf [] r.AL o1 o2 ord3) (h2 : Orders Le [] mf [] r.EIE o4 o5 ord6) :
    ∃ al eie, balance.Report.Totals r (pureFn mf) o1 o2 ord3 o4 o5 ord6 = GoSem.Outcome.ok (r, al, eie) ∧
      WF al ∧ Clean al ∧ (∀ x, AMap.get al x 0 = logSum La (fun k => decide (mf k = x))) ∧
      WF eie ∧ Clean eie ∧ (∀ x, AMap.get eie x 0 = logSum Le (fun k => decide (mf k = x))) := by
  obtain ⟨al, ga, wa, ca, _, va⟩ := totals_postOrderF La [] mf o1 o2 ord3 (MNode.height r.AL) [] r.AL [] (Nat.le_refl _)
    (RepAt_root.1 ha) wf_nil (by simp [AMap.keys]) h1
  obtain ⟨eie, ge, we, ce, _, ve⟩ := totals_postOrderF Le [] mf o4 o5 ord6 (MNode.height r.EIE) [] r.EIE [] (Nat.le_refl _)
    (RepAt_root.1 he) wf_nil (by simp [AMap.keys]) h2
  refine ⟨al, eie, ?_, wa, ca, fun x => ?_, we, ce, fun x => ?_⟩
  · unfold balance.Report.Totals MNode.postOrder
    simp only [post1_eq, post2_eq, ga, ge, GoSem.Outcome.bind]
  · have := va x; rw [under_nil] at this; rw [this]
    simp [AMap.get, AMap.find?, Rat.zero_add]
  · have := ve x; rw [under_nil] at this; rw [this]
    simp [AMap.get, AMap.find?, Rat.zero_add]

/-- **`Report.Totals` after any log of inserts** (`Insert_fold_agrees`) -/
theorem Totals_agrees (part : date.Partition) (log : Log) (mf : amounts.Key → amounts.Key)
    (o1 o2 o4 o5 : List String → List amounts.Key) (ord3 ord6 : List String → List String)
    (h1 : Orders (sec true log) [] mf [] (log.foldl (fun r e => balance.Report.Insert r e.1 e.2) (balance.NewReport part)).AL o1 o2 ord3)
    (h2 : Orders (sec false log) [] mf [] (log.foldl (fun r e => balance.Report.Insert r e.1 e.2) (balance.NewReport part)).EIE o4 o5 ord6) :
    ∃ al eie, balance.Report.Totals (log.foldl (fun r e => balance.Report.Insert r e.1 e.2) (balance.NewReport part)) (pureFn mf) o1 o2 ord3 o4 o5 ord6 =
        GoSem.Outcome.ok (log.foldl (fun r e => balance.Report.Insert r e.1 e.2) (balance.NewReport part), al, eie) ∧
      WF al ∧ Clean al ∧ (∀ x, AMap.get al x 0 = logSum (sec true log) (fun k => decide (mf k = x))) ∧
      WF eie ∧ Clean eie ∧ (∀ x, AMap.get eie x 0 = logSum (sec false log) (fun k => decide (mf k = x))) :=
  Totals_agrees_of_rep _ _ _ (Insert_fold_agrees part log).1 (Insert_fold_agrees part log).2.1 mf o1 o2 o4 o5 ord3 ord6 h1 h2

/-- the mapper of the renderer, `KeyMapper{Date: Identity, Commodity: IdentityIf(byCommodity)}.Build()`: the column date and —
when commodities are shown — the commodity; everything else is zero -/
def mfR (byCommodity : Bool) (k : amounts.Key) : amounts.Key :=
  { Date := k.Date, Account := GoZero.zero, Other := GoZero.zero, Commodity := if byCommodity then k.Commodity else GoZero.zero,
    Valuation := GoZero.zero, Description := GoZero.zero }

theorem mfR_Build (byCommodity : Bool) (k : amounts.Key) :
    amounts.KeyMapper.Build ⟨pureFn id, none, none, pureFn (fun c => if byCommodity then c else GoZero.zero), none, none⟩ k =
      GoSem.Outcome.ok (mfR byCommodity k) := by
  rw [KeyMapper_Build_agrees]; rfl

/-- the Go commodity of a cell of the model (`none`: the report is valued and shows no commodities) -/
def comGo (cur : String → Bool) : Option Knut.Commodity → commodity.Commodity
  | none => GoZero.zero
  | some s => TransPosting.commodityGo cur s

/-- the model's key of a logged call: (column date, commodity when shown) -/
def mkey (byCommodity : Bool) (k : amounts.Key) : Option Int × Option Knut.Commodity :=
  (if k.Date = 0 then none else some k.Date, if byCommodity then some k.Commodity.name else none)

theorem logSum_mkey (L : Log) (hL : ∀ e ∈ L, e.1.Account ≠ GoZero.zero) (byCommodity : Bool) (K : amounts.Key)
    (key : Option Int × Option Knut.Commodity) (h : ∀ e ∈ L, mfR byCommodity e.1 = K ↔ mkey byCommodity e.1 = key) :
    logSum L (fun k => decide (mfR byCommodity k = K)) =
      BalanceReport.sumAmounts ((esOf L).filter (fun x => decide (x.date = key.1) &&
        decide ((if byCommodity then some x.commodity else none) = key.2))) := by
  unfold esOf
  induction L with
  | nil => rfl
  | cons e rest ih =>
    have hz := hL e List.mem_cons_self
    rw [logSum_cons, ih (fun x hx => hL x (List.mem_cons_of_mem _ hx)) (fun x hx => h x (List.mem_cons_of_mem _ hx))]
    simp only [List.filterMap_cons, entryOf, hz, if_false, BalanceReport.sumAmounts_filter_cons]
    have hb : (decide ((if e.1.Date = 0 then none else some e.1.Date) = key.1) &&
        decide ((if byCommodity then some e.1.Commodity.name else none) = key.2)) = decide (mfR byCommodity e.1 = K) := by
      rw [← Bool.decide_and]
      exact decide_eq_decide.2 ((h e List.mem_cons_self).trans Prod.ext_iff).symm
    rw [hb]

theorem mfR_eq_cell_iff (cur : String → Bool) (byCommodity : Bool) (k : amounts.Key)
    (hg : k.Commodity = TransPosting.commodityGo cur k.Commodity.name) (hne : k.Commodity.name ≠ "")
    (c : Option Knut.Commodity) (hc : ∀ s, c = some s → s ≠ "") (d : Int) (hd : d ≠ 0) :
    mfR byCommodity k = amounts.DateCommodityKey d (comGo cur c) ↔ mkey byCommodity k = (some d, c) := by
  have hkey : (mfR byCommodity k = amounts.DateCommodityKey d (comGo cur c)) ↔
      (k.Date = d ∧ (if byCommodity then k.Commodity else GoZero.zero) = comGo cur c) := by
    unfold mfR amounts.DateCommodityKey
    constructor
    · intro h; exact ⟨congrArg amounts.Key.Date h, congrArg amounts.Key.Commodity h⟩
    · rintro ⟨h1, h2⟩; simp only [h1, h2]
  rw [hkey]
  have hdate : k.Date = d ↔ (if k.Date = 0 then none else some k.Date) = some d := by
    by_cases h0 : k.Date = 0
    · simp only [h0, if_true]; constructor
      · intro h; exact absurd h.symm hd
      · intro h; cases h
    · simp [h0]
  have hcomm : (if byCommodity then k.Commodity else GoZero.zero) = comGo cur c ↔
      (if byCommodity then some k.Commodity.name else none) = c := by
    cases byCommodity with
    | true =>
      simp only [if_true]
      cases c with
      | none =>
        simp only [comGo]
        constructor
        · intro h; exact absurd (congrArg commodity.Commodity.name h) hne
        · intro h; cases h
      | some s =>
        simp only [comGo, Option.some.injEq]
        constructor
        · intro h; simpa [TransPosting.commodityGo] using congrArg commodity.Commodity.name h
        · intro h; rw [hg, h]
    | false =>
      simp only [Bool.false_eq_true, if_false]
      cases c with
      | none => simp [comGo]
      | some s =>
        simp only [comGo]
        constructor
        · intro h
          have := congrArg commodity.Commodity.name h
          exact absurd (show s = "" from this.symm) (hc s rfl)
        · intro h; cases h
  rw [hdate, hcomm, mkey, Prod.mk.injEq]

/-- **a cell of the model is the mapped sum**: `BalanceReport.cellAt` of the entries of the kept inserts, at a commodity and a
column date, is the sum of the inserted amounts whose key the renderer's mapper sends to `DateCommodityKey(date, commodity)` —
commodities being interned (`commodityGo cur name`) with non-empty names, the column not the zero date -/
theorem logSum_cellAt (cur : String → Bool) (L : Log) (hL : ∀ e ∈ L, e.1.Account ≠ GoZero.zero)
    (hcom : ∀ e ∈ L, e.1.Commodity = TransPosting.commodityGo cur e.1.Commodity.name ∧ e.1.Commodity.name ≠ "")
    (byCommodity : Bool) (c : Option Knut.Commodity) (hc : ∀ s, c = some s → s ≠ "") (d : Int) (hd : d ≠ 0) :
    logSum L (fun k => decide (mfR byCommodity k = amounts.DateCommodityKey d (comGo cur c))) =
      BalanceReport.cellAt (esOf L) byCommodity c d :=
  logSum_mkey L hL byCommodity _ (some d, c)
    (fun e he => mfR_eq_cell_iff cur byCommodity e.1 (hcom e he).1 (hcom e he).2 c hc d hd)

private def exK (a : Knut.Account) (c : String) (d : Int) : amounts.Key :=
  { Date := d, Account := TransAccount.accountGo a, Other := GoZero.zero, Commodity := ⟨c, false⟩, Valuation := GoZero.zero, Description := "x" }

private def exLog : Log :=
  [(exK ⟨["Assets", "Bank", "Giro"]⟩ "CHF" 5, 3), (exK ⟨["Income", "Job"]⟩ "CHF" 5, -3), (exK ⟨["Assets", "Bank"]⟩ "CHF" 5, 4),
   (exK ⟨["Assets", "Cash"]⟩ "USD" 6, 1), (exK ⟨["Assets", "Cash"]⟩ "USD" 6, -1)]

private def exKeys : List amounts.Key := exLog.map (fun e => e.1) ++ exLog.map (fun e => mfR true e.1)

/-- the totals of a report with nested accounts: per (date, commodity) the sum over the section; the USD amounts cancel and
their key is gone (an evaluation of the translated `Totals`: the constant order families are its inputs, they do not meet `Orders`) -/
example :
    (match balance.Report.Totals (exLog.foldl (fun r e => balance.Report.Insert r e.1 e.2) (balance.NewReport GoZero.zero))
        (pureFn (mfR true)) (fun _ => exKeys) (fun _ => exKeys) (fun _ => ["Cash", "Bank", "Giro", "Assets", "Income", "Job"])
        (fun _ => exKeys) (fun _ => exKeys) (fun _ => ["Job", "Income"]) with
      | .ok (_, al, eie) => (al.map (fun e => (e.1.Date, e.1.Commodity.name, e.2)), eie.map (fun e => (e.1.Date, e.1.Commodity.name, e.2)))
      | _ => ([], [])) = ([(5, "CHF", 7)], [(5, "CHF", -3)]) := by decide +kernel

end Knut.FactsAgree.TransReport
