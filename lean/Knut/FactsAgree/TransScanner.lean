import Knut.Generated.TransScanner
import Knut.Syntax.Scanner
import Knut.Proofs.GoSem
import Knut.Proofs.ScannerEquations
/-!
# The translated `lib/syntax/scanner` agrees with the model scanner (`Knut/Syntax/Scanner.lean`)

The Go scanner `(text, Path, current, currentLen, offset)` re-decodes `text[offset:]` on every `Advance`; the model scanner is
`St = (off, toks)` with the tokens not yet consumed.  The Go state that belongs to a model state `s` is a *function* of it
(`goScanner text path s`), under the invariant `SimOK text s`.  Every method maps simulated states to simulated states and returns the
model's result, for all byte strings and every fuel above the number of unread tokens (so `outOfFuel` and the slice panics of
`text[offset:]` are excluded).  `ReadString`/`ReadAlternative` are stated for strings that `%q` prints unchanged (`Plain`).
-/
namespace Knut.FactsAgree.TransScanner
open Knut Knut.GoSem Knut.Syntax Knut.Utf8
open Knut.Generated.Go

abbrev Bytes := List UInt8

abbrev goStr (s : String) : Syn.GoString := Syn.lit s

/-- a model rune (`Nat`, Go's `int32` read as `uint32`) as a Go rune -/
def goRune (r : Nat) : Int := if r < 2 ^ 31 then (r : Int) else (r : Int) - 2 ^ 32

def goRange (text : Bytes) (path : String) (r : Syntax.Range) : directives.Range :=
  { Start := r.start, End := r.stop, Path := goStr path, Text := text }

def goFrame (text : Bytes) (path : String) : Frame → directives.GoError → directives.GoError
  | .at msg r, w => .Error (goRange text path r) (goStr msg) w
  | .zero, _ => .Error GoZero.zero GoZero.zero .nil
  | .eof, _ => .io_EOF

/-- a chain, outermost link first -/
def goErrRev (text : Bytes) (path : String) : List Frame → directives.GoError
  | [] => .nil
  | f :: inner => goFrame text path f (goErrRev text path inner)

/-- the Go error value of a model error chain (innermost first); `[]` is `nil` -/
def goErr (text : Bytes) (path : String) (e : Err) : directives.GoError := goErrRev text path e.reverse

@[simp] theorem goErr_nil (text : Bytes) (path : String) : goErr text path [] = .nil := rfl

@[simp] theorem goErr_snoc (text : Bytes) (path : String) (e : Err) (f : Frame) :
    goErr text path (e ++ [f]) = goFrame text path f (goErr text path e) := by
  simp [goErr, goErrRev]

theorem goErr_single (text : Bytes) (path : String) (f : Frame) :
    goErr text path [f] = goFrame text path f .nil := by
  simp [goErr, goErrRev]

theorem goErr_ne_nil (text : Bytes) (path : String) {e : Err} (h : e ≠ []) : goErr text path e ≠ .nil := by
  obtain ⟨e', f, rfl⟩ : ∃ e' f, e = e' ++ [f] := by
    refine ⟨e.dropLast, e.getLast h, ?_⟩
    exact (List.dropLast_concat_getLast h).symm
  rw [goErr_snoc]
  cases f <;> simp [goFrame]

/-- width of the current token (`currentLen`) -/
def curW (s : St) : Nat :=
  match s.toks with
  | [] => 0
  | t :: _ => t.bytes.length

/-- the Go scanner in the model state `s` of a scan of `text` -/
def goScanner (text : Bytes) (path : String) (s : St) : scanner.Scanner :=
  { text := text, Path := goStr path, current := goRune (cur s), currentLen := curW s, offset := s.off }

/-- **the simulation invariant**: the offset lies in the text, and the unread tokens are the decoding of `text[off:]` — or the
scanner has been advanced at the end of the text and holds Go's `(RuneError, 0)` -/
def SimOK (text : Bytes) (s : St) : Prop :=
  s.off ≤ text.length ∧ (s.toks = decodeAll (text.drop s.off) ∨ (s.toks = [eofTok] ∧ s.off = text.length))

def Res.errs {α} : Res α → Err
  | .ok _ _ => []
  | .err e _ => e

/-- what the next step needs of a result: the state is in the simulation, an error chain is not empty -/
def Post {α} (text : Bytes) (r : Res α) : Prop :=
  SimOK text r.st ∧ (∀ e s', r = .err e s' → e ≠ [])

theorem decodeAll_r_lt (bs : List UInt8) : ∀ t ∈ decodeAll bs, t.r < 0x200000 := by
  intro t ht
  obtain ⟨b, rest, rfl⟩ := mem_decodeAll ht
  exact Nat.lt_trans (decodeRune_r_lt _) (by decide)

theorem decodeAll_eq_cons {bs : List UInt8} {t : Tok} {rest : List Tok} (h : decodeAll bs = t :: rest) :
    bs ≠ [] ∧ t = decodeRune bs ∧ rest = decodeAll (bs.drop t.bytes.length) ∧ 1 ≤ t.bytes.length ∧ t.bytes.length ≤ bs.length := by
  cases bs with
  | nil => simp at h
  | cons b bs' =>
    rw [decodeAll_cons] at h
    injection h with h1 h2
    subst h1
    exact ⟨by simp, rfl, h2.symm, decodeRune_width_pos b bs', decodeRune_width_le _⟩

theorem goRune_of_lt {r : Nat} (h : r < 2 ^ 31) : goRune r = (r : Int) := by simp [goRune, h]

theorem goRune_EOF : goRune EOF = -1 := by decide

theorem SimOK.r_lt {text : Bytes} {s : St} (h : SimOK text s) : ∀ t ∈ s.toks, t.r < 0x200000 := by
  rcases h.2 with h2 | ⟨h2, _⟩
  · rw [h2]; exact decodeAll_r_lt _
  · rw [h2]; simp [eofTok, runeError]

theorem cur_cons (off : Nat) (t : Tok) (rest : List Tok) : cur ⟨off, t :: rest⟩ = t.r := rfl
theorem cur_nil (off : Nat) : cur ⟨off, []⟩ = EOF := rfl

theorem slice_drop (text : Bytes) (off : Nat) (h : off ≤ text.length) :
    slice text (off : Int) (text.length : Int) = .ok (text.drop off) :=
  GoSem.slice_drop text off h

theorem advance_err_ne {s : St} {e : Err} {s' : St} (h : advance s = .err e s') : e ≠ [] := by
  unfold advance at h
  split at h
  · cases h; simp
  · unfold advanceTok at h
    split at h
    · cases h
    · split at h
      · cases h; simp
      · cases h

theorem SimOK.decode {text : Bytes} {s : St} (h : SimOK text s) (hE : atEOF s = false) :
    Syn.DecodeRuneInString (text.drop s.off) = (goRune (cur s), (curW s : Int)) := by
  obtain ⟨off, toks⟩ := s
  cases toks with
  | nil => cases hE
  | cons t rest =>
    rcases h.2 with hk | ⟨hk, hoff⟩
    · obtain ⟨_, ht, _, _, _⟩ := decodeAll_eq_cons (Eq.symm hk)
      have hr := decodeRune_r_lt (text.drop off)
      rw [← ht] at hr
      show ((_ : Int), (_ : Int)) = (goRune t.r, (t.bytes.length : Int))
      rw [goRune_of_lt (show t.r < 2 ^ 31 by omega), ← ht]
    · injection hk with hk1 hk2
      subst hk1
      simp only at hoff
      rw [hoff, List.drop_length]
      rfl

section
attribute [local simp] scanner.Scanner.Advance scanner.Scanner.Offset goScanner cur_cons cur_nil curW goRune_EOF advance advanceTok
  Res.errs Res.st eofTok runeError Outcome.bind goErr_single goFrame goRange

theorem Advance_decode (text : Bytes) (path : String) (c l o : Int) {off' : Nat} (ho : o + l = (off' : Int))
    (hlt : off' < text.length) {u : Tok} {rest : List Tok} (hu : decodeAll (text.drop off') = u :: rest) :
    scanner.Scanner.Advance { text := text, Path := goStr path, current := c, currentLen := l, offset := o } =
      .ok (goScanner text path ⟨off', u :: rest⟩,
        goErr text path (if u.invalid then [Frame.at "invalid unicode character" ⟨off', off'⟩] else [])) := by
  obtain ⟨_, hu', _, huw1, _⟩ := decodeAll_eq_cons hu
  have hur := decodeRune_r_lt (text.drop off')
  rw [← hu'] at hur
  have hucur : goRune u.r = (u.r : Int) := goRune_of_lt (by omega)
  have hdec : Syn.DecodeRuneInString (text.drop off') = ((u.r : Int), (u.bytes.length : Int)) := by
    simp [Syn.DecodeRuneInString, ← hu']
  have hsl := slice_drop text off' (Nat.le_of_lt hlt)
  have hEi : ¬ ((off' : Int) = (text.length : Int)) := by omega
  by_cases hinv : u.invalid = true
  · have h1 : u.r = 65533 ∧ u.bytes.length = 1 := by
      simpa [Tok.invalid, runeError] using hinv
    simp [ho, len, hEi, hsl, hdec, hinv, h1.1, h1.2, goStr]
    decide
  · have h1 : ¬ (u.r = 65533 ∧ u.bytes.length = 1) := by
      simpa [Tok.invalid, runeError] using hinv
    simp [hucur, ho, len, hEi, hsl, hdec, hinv]
    have hb : u.bytes ≠ [] := by intro h; rw [h] at huw1; simp at huw1
    by_cases hx : u.r = 65533
    · have hw : ¬ ((u.bytes.length : Int) = 1) := by
        intro h; exact h1 ⟨hx, by omega⟩
      simp [hx, hb, hw]
    · have hx' : ¬ ((u.r : Int) = 65533) := by omega
      simp [hx']

theorem Advance_agrees {text : Bytes} {path : String} {s : St} (h : SimOK text s) :
    scanner.Scanner.Advance (goScanner text path s) =
      .ok (goScanner text path (advance s).st, goErr text path (Res.errs (advance s))) ∧ Post text (advance s) := by
  refine (fun h' : _ ∧ SimOK text (advance s).st => ⟨h'.1, h'.2, fun e s' he => advance_err_ne he⟩) ?_
  obtain ⟨off, toks⟩ := s
  obtain ⟨hle, hk⟩ := h
  simp only at hle hk
  have hg : goRune 65533 = 65533 := by decide
  match toks, hk with
  | [], hk =>
    -- at EOF: Go decodes the empty rest
    have hoff : off = text.length := by
      rcases hk with hk | ⟨hk, _⟩
      · have := List.drop_eq_nil_iff.mp (decodeAll_eq_nil.mp hk.symm)
        omega
      · cases hk
    subst hoff
    refine ⟨?_, Nat.le_refl _, Or.inr ⟨rfl, rfl⟩⟩
    have hsl := slice_drop text text.length (Nat.le_refl _)
    simp [hsl, Syn.DecodeRuneInString, decodeRune, hg]
  | t :: rest, .inr ⟨hk, hoff⟩ =>
    -- after an `Advance` at EOF: back to EOF
    injection hk with hk1 hk2
    subst hk1 hk2 hoff
    refine ⟨?_, Nat.le_refl _, Or.inl (by simp)⟩
    simp [hg]
  | t :: rest, .inl hk =>
    -- a real token
    obtain ⟨hne, ht, hrest, hw1, hw2⟩ := decodeAll_eq_cons hk.symm
    simp only [List.length_drop] at hw2
    have hle' : off + t.bytes.length ≤ text.length := by omega
    have hrest' : rest = decodeAll (text.drop (off + t.bytes.length)) := by rw [hrest, List.drop_drop]
    have hst : (advance ⟨off, t :: rest⟩).st = ⟨off + t.bytes.length, rest⟩ := advanceTok_st _ _ _
    refine ⟨?_, by rw [hst]; exact ⟨hle', Or.inl hrest'⟩⟩
    by_cases hE : off + t.bytes.length = text.length
    · have hnil : rest = [] := by rw [hrest', hE]; simp
      subst hnil
      have hr : t.r < 0x110000 := by rw [ht]; exact decodeRune_r_lt _
      have hEi : (off : Int) + (t.bytes.length : Int) = (text.length : Int) := by omega
      simp [goRune_of_lt (show t.r < 2 ^ 31 by omega), hEi]
    · obtain ⟨u, rest', rfl⟩ : ∃ u rest', rest = u :: rest' := by
        cases rest with
        | nil => exact absurd (List.drop_eq_nil_iff.mp (decodeAll_eq_nil.mp hrest'.symm)) (by omega)
        | cons u rest' => exact ⟨u, rest', rfl⟩
      refine (Advance_decode text path _ _ _ (by simp) (by omega) hrest'.symm).trans ?_
      simp only [advance, advanceTok, Res.st, Res.errs]
      split <;> rfl

end

@[simp] theorem lit_append (a b : String) : Syn.lit (a ++ b) = Syn.lit a ++ Syn.lit b := by
  simp [Syn.lit, String.toList_append]

theorem isValidChar_iff (r : Nat) : r.isValidChar ↔ Syn.validRune r := by
  unfold Nat.isValidChar Syn.validRune
  omega

theorem lit_replacement : Syn.lit "�" = [0xEF, 0xBF, 0xBD] := by decide

/-- `%c`: the character of a scalar value, U+FFFD for everything else (negative runes included) -/
theorem Fmt_c_goRune {r : Nat} (h : r < 2 ^ 32) : Syn.Fmt.c (goRune r) = goStr (runeStr r) := by
  unfold runeStr Syn.Fmt.c
  by_cases hv : r.isValidChar
  · have hv' := (isValidChar_iff r).mp hv
    have hlt : r < 2 ^ 31 := by unfold Syn.validRune at hv'; omega
    have hc : (Char.ofNat r).toNat = r := by
      unfold Char.ofNat
      rw [dif_pos hv]
      simp [Char.ofNatAux, Char.toNat]
    rw [if_pos hv, goRune_of_lt hlt, if_neg (by omega), Int.toNat_natCast]
    simp [goStr, Syn.lit, hc]
  · rw [if_neg hv, goStr, lit_replacement]
    by_cases hlt : r < 2 ^ 31
    · rw [goRune_of_lt hlt, if_neg (by omega), Int.toNat_natCast,
        Syn.encodeRune_invalid (fun h => hv ((isValidChar_iff r).mpr h))]
    · have : goRune r < 0 := by unfold goRune; rw [if_neg hlt]; omega
      rw [if_pos this]; decide

theorem goRune_inj {a b : Nat} (ha : a < 2 ^ 32) (hb : b < 2 ^ 32) : goRune a = goRune b ↔ a = b := by
  unfold goRune
  constructor
  · intro h; split at h <;> split at h <;> omega
  · intro h; rw [h]

@[simp] theorem go_Current (text : Bytes) (path : String) (s : St) :
    scanner.Scanner.Current (goScanner text path s) = goRune (cur s) := rfl
@[simp] theorem go_current (text : Bytes) (path : String) (s : St) :
    (goScanner text path s).current = goRune (cur s) := rfl
@[simp] theorem go_Scope (text : Bytes) (path : String) (s : St) (d : Syn.GoString) :
    scanner.Scanner.Scope (goScanner text path s) d = ⟨d, s.off⟩ := rfl
@[simp] theorem go_Range (text : Bytes) (path : String) (s : St) (d : Syn.GoString) (start : Nat) :
    scanner.Scope.Range ⟨d, (start : Int)⟩ (goScanner text path s) = goRange text path ⟨start, s.off⟩ := rfl
@[simp] theorem go_Annotate (text : Bytes) (path : String) (s : St) (desc : String) (start : Nat) (e : Err) :
    scanner.Scope.Annotate ⟨goStr desc, (start : Int)⟩ (goErr text path e) (goScanner text path s) =
      goErr text path (annotate desc start e s) := by
  simp [scanner.Scope.Annotate, annotate, goFrame, rng]

theorem SimOK.cur_lt {text : Bytes} {s : St} (h : SimOK text s) : cur s < 2 ^ 32 := by
  unfold cur
  split
  · decide
  · rename_i t rest ht
    have := h.r_lt t (by rw [ht]; exact List.mem_cons_self)
    omega

theorem SimOK.cur_eof {text : Bytes} {s : St} (h : SimOK text s) : goRune (cur s) = -1 ↔ atEOF s = true := by
  unfold cur atEOF
  split
  · rename_i ht; simp [ht, goRune_EOF]
  · rename_i t rest ht
    have := h.r_lt t (by rw [ht]; exact List.mem_cons_self)
    rw [goRune_of_lt (by omega), ht]
    simp

/-- result of a scanner method that returns `(Range, error)`: on an error Go returns `sc.Range()`, the range from the
scope's start to the offset reached -/
def goResR (text : Bytes) (path : String) (start : Nat) : Res Syntax.Range → scanner.Scanner × directives.Range × directives.GoError
  | .ok x s' => (goScanner text path s', goRange text path x, .nil)
  | .err e s' => (goScanner text path s', goRange text path ⟨start, s'.off⟩, goErr text path e)

attribute [local simp] goResR goErr_single goFrame rng Outcome.bind

theorem Post_refl_err {α} {text : Bytes} {s : St} (h : SimOK text s) (e : Err) (he : e ≠ []) :
    Post text (Res.err e s : Res α) :=
  ⟨h, fun e' s' heq => by cases heq; exact he⟩

theorem Post_ok {α} {text : Bytes} {s : St} (h : SimOK text s) (a : α) : Post text (Res.ok a s) :=
  ⟨h, fun e' s' heq => by cases heq⟩

/-- `Post` for the methods that return `sc.Range()`: a result without error carries the range from `start` to the offset reached -/
def PostR (text : Bytes) (start : Nat) (r : Res Syntax.Range) : Prop :=
  Post text r ∧ ∀ x s', r = .ok x s' → x = ⟨start, s'.off⟩

theorem PostR.ok {text : Bytes} {start : Nat} {s : St} (h : SimOK text s) : PostR text start (.ok ⟨start, s.off⟩ s) :=
  ⟨Post_ok h _, fun _ _ hr => by cases hr; rfl⟩

theorem PostR.err {text : Bytes} {start : Nat} {s : St} (h : SimOK text s) {e : Err} (he : e ≠ []) :
    PostR text start (.err e s) :=
  ⟨Post_refl_err h e he, fun _ _ hr => by cases hr⟩

theorem Advance_cases {text : Bytes} {path : String} {s : St} (h : SimOK text s) :
    (∃ s', advance s = .ok () s' ∧ SimOK text s' ∧
      scanner.Scanner.Advance (goScanner text path s) = .ok (goScanner text path s', .nil)) ∨
    (∃ e s', advance s = .err e s' ∧ e ≠ [] ∧ SimOK text s' ∧ goErr text path e ≠ .nil ∧
      scanner.Scanner.Advance (goScanner text path s) = .ok (goScanner text path s', goErr text path e)) := by
  have hA := Advance_agrees (path := path) h
  cases ha : advance s with
  | ok u s' => rw [ha] at hA; exact Or.inl ⟨s', rfl, hA.2.1, hA.1⟩
  | err e s' =>
    rw [ha] at hA
    exact Or.inr ⟨e, s', rfl, hA.2.2 e s' rfl, hA.2.1, goErr_ne_nil text path (hA.2.2 e s' rfl), hA.1⟩

/-- a Go predicate on runes and the model predicate agree on every rune a scanner can hold (decoded runes and EOF) -/
def PredAgrees (pred : Int → Bool) (p : Nat → Bool) : Prop :=
  ∀ r, (r < 0x200000 ∨ r = EOF) → pred (goRune r) = p r

theorem SimOK.cur_dom {text : Bytes} {s : St} (h : SimOK text s) : cur s < 0x200000 ∨ cur s = EOF := by
  unfold cur
  split
  · exact Or.inr rfl
  · rename_i t rest ht
    exact Or.inl (h.r_lt t (by rw [ht]; exact List.mem_cons_self))

/-! ### the calculus of the scanner's methods

A method is walked through line by line against the model's; `Advance` with its error check (`SF.advance`) is the only call the scanner
makes of itself. -/

section
variable {text : Bytes} {path : String} {τ : Type}

abbrev Ret := scanner.Scanner × directives.Range × directives.GoError

/-- what a piece of a scanner method yields for the model's result `r`: it goes on with the state (`nx`), or returns
`(sc.Range(), err)` (through `rt`: `Flow.ret` inside a loop, `id` at function level) -/
def flowR (text : Bytes) (path : String) (start : Nat) (nx : St → τ) (rt : Ret → τ) : Res Syntax.Range → τ
  | .ok _ s' => nx s'
  | .err e s' => rt (goScanner text path s', goRange text path ⟨start, s'.off⟩, goErr text path e)

/-- **agreement of a piece `X` of a translated scanner method** (scope opened at `start`) with the model's `r`: the same state, the
same error chain; and the model's result is in `PostR` -/
def SF (text : Bytes) (path : String) (start : Nat) (nx : St → τ) (rt : Ret → τ) (X : Outcome τ) (r : Res Syntax.Range) : Prop :=
  X = .ok (flowR text path start nx rt r) ∧ PostR text start r

variable {start : Nat} {nx : St → τ} {rt : Ret → τ} {s : St}

theorem SF.next (h : SimOK text s) : SF text path start nx rt (.ok (nx s)) (.ok ⟨start, s.off⟩ s) := ⟨rfl, PostR.ok h⟩

/-- an error the method raises itself: `return sc.Range(), directives.Error{Message: msg, Range: sc.Range(), Wrapped: w}`, where `w`
is the chain `e0` (`nil`, or `io.EOF` in `ReadN`) -/
theorem SF.fail (h : SimOK text s) {d g : Syn.GoString} {w : directives.GoError} {msg : String} (e0 : Err)
    (hg : g = goStr msg) (hw : w = goErr text path e0) :
    SF text path start nx rt
      (.ok (rt (goScanner text path s, scanner.Scope.Range ⟨d, (start : Int)⟩ (goScanner text path s),
        .Error (scanner.Scope.Range ⟨d, (start : Int)⟩ (goScanner text path s)) g w)))
      (.err (e0 ++ [Frame.at msg (rng start s)]) s) := by
  subst hg hw
  exact ⟨by simp [flowR, goFrame, rng], PostR.err h (by simp)⟩

/-- **one `Advance`** with its error check; `K` is the rest of the Go body.  The model's `m` is a `match advance s with …` of the
definition at hand: `hm` says what it is when `advance` fails (`fun _ _ ha => by rw [ha]`), and `hok` goes on with it when `advance`
succeeds (`by rw [ha]` first) -/
theorem SF.advance (h : SimOK text s) {d g : Syn.GoString} {msg : String}
    {K : scanner.Scanner × directives.GoError → Outcome τ} {m : Res Syntax.Range} (hg : g = goStr msg)
    (hm : ∀ e s', advance s = .err e s' → m = .err (errAt msg start e s') s')
    (hok : ∀ s', advance s = .ok () s' → SimOK text s' → SF text path start nx rt (K (goScanner text path s', .nil)) m) :
    SF text path start nx rt
      ((scanner.Scanner.Advance (goScanner text path s)).bind fun t =>
        if (!(decide (t.2 = .nil))) = true then
          .ok (rt (t.1, scanner.Scope.Range ⟨d, (start : Int)⟩ t.1, .Error (scanner.Scope.Range ⟨d, (start : Int)⟩ t.1) g t.2))
        else K t) m := by
  subst hg
  rcases Advance_cases (path := path) h with ⟨s', ha, hs', hgo⟩ | ⟨e, s', ha, _, hs', hgne, hgo⟩
  · rw [hgo]
    exact hok s' ha hs'
  · rw [hgo, hm e s' ha]
    refine ⟨?_, PostR.err hs' (by simp)⟩
    simp [flowR, hgne, goFrame, rng]

/-- at function level the relation is the statement of the `…_agrees` theorems -/
theorem SF.result {X : Outcome Ret} {r : Res Syntax.Range}
    (h : SF text path start (fun s' => (goScanner text path s', goRange text path ⟨start, s'.off⟩, .nil)) id X r) :
    X = .ok (goResR text path start r) ∧ Post text r := by
  refine ⟨?_, h.2.1⟩
  rw [h.1]
  cases r with
  | ok x s' => obtain rfl := h.2.2 x s' rfl; rfl
  | err e s' => rfl

/-- a loop (or joined conditional) followed by the rest `J` of the method: a `return` from inside is passed on (`hJ`), after falling
through the method goes on (`hN`) -/
theorem SF.join {σ τ' : Type} {emb : St → σ} {X : Outcome (Flow σ Ret)} {r : Res Syntax.Range} {J : Flow σ Ret → Outcome τ'}
    {nx' : St → τ'} {rt' : Ret → τ'}
    (h : SF text path start (fun s' => Flow.next (emb s')) Flow.ret X r) (hJ : ∀ v, J (Flow.ret v) = .ok (rt' v))
    (hN : ∀ s', J (Flow.next (emb s')) = .ok (nx' s')) :
    SF text path start nx' rt' (X.bind J) r := by
  refine ⟨?_, h.2⟩
  rw [h.1]
  cases r with
  | ok x s' => exact hN s'
  | err e s' => exact hJ _

theorem Current_pred (h : SimOK text s) {pred : Int → Bool} {p : Nat → Bool} (hp : PredAgrees pred p) :
    pred (scanner.Scanner.Current (goScanner text path s)) = p (cur s) := hp _ h.cur_dom

theorem Current_eof (h : SimOK text s) :
    decide (scanner.Scanner.Current (goScanner text path s) = (-1 : Int)) = atEOF s := by
  rw [go_Current]
  cases hE : atEOF s
  · exact decide_eq_false fun hc => Bool.noConfusion ((h.cur_eof.mp hc).symm.trans hE)
  · exact decide_eq_true (h.cur_eof.mpr hE)

theorem Current_bne_rune (h : SimOK text s) {r : Nat} (hr : r < 2 ^ 32) :
    (!decide (scanner.Scanner.Current (goScanner text path s) = goRune r)) = (cur s != r) :=
  congrArg not (Bool.eq_iff_iff.mpr (by simp [goRune_inj h.cur_lt hr]))

end

theorem rel_ite {X Y : Type} (R : X → Y → Prop) {b b' : Bool} (hb : b = b') {A B : X} {A' B' : Y}
    (ht : b' = true → R A A') (hf : b' = false → R B B') :
    R (if b = true then A else B) (if b' = true then A' else B') := by
  subst hb
  cases b
  · exact hf rfl
  · exact ht rfl

theorem rel_ite_not {X Y : Type} (R : X → Y → Prop) {b b' : Bool} (hb : b = b') {A B : X} {A' B' : Y}
    (ht : b' = true → R A A') (hf : b' = false → R B B') :
    R (if b = true then A else B) (if (!b') = true then B' else A') := by
  subst hb
  cases b
  · exact hf rfl
  · exact ht rfl

theorem rel_not_ite {X Y : Type} (R : X → Y → Prop) {b b' : Bool} (hb : b = b') {A B : X} {A' B' : Y}
    (ht : b' = true → R B B') (hf : b' = false → R A A') :
    R (if (!b) = true then A else B) (if b' = true then B' else A') := by
  subst hb
  cases b
  · exact hf rfl
  · exact ht rfl

/-- **fuel above the number of unread tokens suffices** for every loop of the scanner and the parser: an iteration that goes round
again has consumed a token.  (The motive takes the bound as an argument so that `induction n, s, hn using fuel_induction` applies to a
statement with the bound among its hypotheses.) -/
theorem fuel_induction {motive : (n : Nat) → (s : St) → s.toks.length < n → Prop}
    (step : ∀ n s (h : s.toks.length < n + 1),
      (∀ s' (hl : s'.toks.length < s.toks.length), motive n s' (Nat.lt_of_lt_of_le hl (Nat.le_of_lt_succ h))) → motive (n + 1) s h) :
    ∀ n s h, motive n s h := by
  intro n
  induction n with
  | zero => intro s hn; omega
  | succ n ih => exact fun s hn => step n s hn fun s' hl => ih s' _

section
variable {text : Bytes} {path : String} {s : St}

theorem ReadCharacter_agrees {text : Bytes} {path : String} {s : St} (h : SimOK text s) {r : Nat} (hr : r < 2 ^ 32) :
    scanner.Scanner.ReadCharacter (goScanner text path s) (goRune r) =
      .ok (goResR text path s.off (readCharacter r s)) ∧ Post text (readCharacter r s) := by
  refine SF.result ?_
  unfold scanner.Scanner.ReadCharacter readCharacter
  refine rel_ite (SF text path s.off _ _) (Current_eof h)
    (fun _ => SF.fail (rt := id) h [] (by simp [goStr, Fmt_c_goRune hr]) rfl) fun _ => ?_
  refine rel_ite (SF text path s.off _ _) (Current_bne_rune h hr)
    (fun _ => SF.fail (rt := id) h [] (by simp [goStr, Fmt_c_goRune hr, Fmt_c_goRune h.cur_lt]) rfl) fun _ => ?_
  exact SF.advance (rt := id) h rfl (fun _ _ ha => by rw [ha]) fun s' ha hs' => by rw [ha]; exact SF.next hs'

theorem ReadCharacterWith_agrees {text : Bytes} {path : String} {s : St} (h : SimOK text s) (desc : String)
    {pred : Int → Bool} {p : Nat → Bool} (hp : PredAgrees pred p) :
    scanner.Scanner.ReadCharacterWith (goScanner text path s) (goStr desc) pred =
      .ok (goResR text path s.off (readCharacterWith desc p s)) ∧ Post text (readCharacterWith desc p s) := by
  refine SF.result ?_
  unfold scanner.Scanner.ReadCharacterWith readCharacterWith
  rw [Current_pred h hp]
  refine rel_ite (SF text path s.off _ _) (Current_eof h) (fun _ => SF.fail (rt := id) h [] (by simp [goStr]) rfl) fun _ => ?_
  refine rel_ite (SF text path s.off _ _) rfl
    (fun _ => SF.fail (rt := id) h [] (by simp [goStr, Fmt_c_goRune h.cur_lt]) rfl) fun _ => ?_
  exact SF.advance (rt := id) h rfl (fun _ _ ha => by rw [ha]) fun s' ha hs' => by rw [ha]; exact SF.next hs'

theorem ReadWhile_loop_agrees {pred : Int → Bool} {p : Nat → Bool} (hp : PredAgrees pred p)
    (fuel : Nat) (d : Syn.GoString) (start : Nat) :
    ∀ (n : Nat) (s : St), s.toks.length < n → SimOK text s →
      SF text path start (fun s' => Flow.next (goScanner text path s')) Flow.ret
        (scanner.Scanner.ReadWhile.loop1 fuel pred ⟨d, (start : Int)⟩ n (goScanner text path s))
        (readWhileL p start s.off s.toks) := by
  refine fuel_induction fun n s _ ih h => ?_
  unfold scanner.Scanner.ReadWhile.loop1
  rw [readWhileL_eq, Current_pred h hp, Current_eof h]
  refine rel_ite (SF text path start _ _) rfl (fun _ => ?_) (fun _ => SF.next h)
  dsimp only
  exact SF.advance h rfl (fun _ _ ha => by rw [ha]; rfl) fun s' ha hs' => by rw [ha]; exact ih s' (advance_ok_lt ha) hs'

theorem ReadWhile_agrees {text : Bytes} {path : String} {s : St} (h : SimOK text s) {fuel : Nat} (hf : s.toks.length < fuel)
    {pred : Int → Bool} {p : Nat → Bool} (hp : PredAgrees pred p) :
    scanner.Scanner.ReadWhile fuel (goScanner text path s) pred =
      .ok (goResR text path s.off (readWhile p s)) ∧ Post text (readWhile p s) :=
  SF.result (SF.join (ReadWhile_loop_agrees hp fuel _ s.off fuel s hf h) (fun _ => rfl) (fun _ => rfl))

theorem ReadWhile1_loop_eq (fuel : Nat) (pred : Int → Bool) (sc : scanner.Scope) :
    ∀ (n : Nat) (s : scanner.Scanner),
      scanner.Scanner.ReadWhile1.loop1 fuel pred sc n s = scanner.Scanner.ReadWhile.loop1 fuel pred sc n s := by
  intro n
  induction n with
  | zero => intro s; unfold scanner.Scanner.ReadWhile1.loop1 scanner.Scanner.ReadWhile.loop1; rfl
  | succ n ih =>
    intro s
    unfold scanner.Scanner.ReadWhile1.loop1 scanner.Scanner.ReadWhile.loop1
    simp only [ih]

theorem ReadWhile1_agrees {text : Bytes} {path : String} {s : St} (h : SimOK text s) {fuel : Nat} (hf : s.toks.length < fuel)
    (desc : String) {pred : Int → Bool} {p : Nat → Bool} (hp : PredAgrees pred p) :
    scanner.Scanner.ReadWhile1 fuel (goScanner text path s) (goStr desc) pred =
      .ok (goResR text path s.off (readWhile1 desc p s)) ∧ Post text (readWhile1 desc p s) := by
  refine SF.result ?_
  unfold scanner.Scanner.ReadWhile1 readWhile1
  dsimp only
  rw [Current_pred h hp, ReadWhile1_loop_eq]
  refine rel_ite (SF text path s.off _ _) (Current_eof h) (fun _ => SF.fail (rt := id) h [] (by simp [goStr]) rfl) fun _ => ?_
  refine rel_ite (SF text path s.off _ _) rfl
    (fun _ => SF.fail (rt := id) h [] (by simp [goStr, Fmt_c_goRune h.cur_lt]) rfl) fun _ => ?_
  exact SF.join (ReadWhile_loop_agrees hp fuel _ s.off fuel s hf h) (fun _ => rfl) (fun _ => rfl)

theorem ReadUntil_loop_agrees {pred : Int → Bool} {p : Nat → Bool} (hp : PredAgrees pred p)
    (fuel : Nat) (desc : String) (d : Syn.GoString) (start : Nat) :
    ∀ (n : Nat) (s : St), s.toks.length < n → SimOK text s →
      SF text path start (fun s' => Flow.next (goScanner text path s')) Flow.ret
        (scanner.Scanner.ReadUntil.loop1 fuel (goStr desc) pred ⟨d, (start : Int)⟩ n (goScanner text path s))
        (readUntilL desc p start s.off s.toks) := by
  refine fuel_induction fun n s _ ih h => ?_
  unfold scanner.Scanner.ReadUntil.loop1
  rw [readUntilL_eq, Current_pred h hp]
  refine rel_not_ite (SF text path start _ _) rfl (fun _ => SF.next h) (fun _ => ?_)
  dsimp only
  refine SF.advance h rfl (fun _ _ ha => by rw [ha]; rfl) fun s' ha hs' => ?_
  rw [ha]
  refine rel_ite (SF text path start _ _) (Current_eof hs') (fun _ => SF.fail hs' [] (by simp [goStr]) rfl) fun _ => ?_
  exact ih s' (advance_ok_lt ha) hs'

theorem ReadUntil_agrees {text : Bytes} {path : String} {s : St} (h : SimOK text s) {fuel : Nat} (hf : s.toks.length < fuel)
    (desc : String) {pred : Int → Bool} {p : Nat → Bool} (hp : PredAgrees pred p) :
    scanner.Scanner.ReadUntil fuel (goScanner text path s) (goStr desc) pred =
      .ok (goResR text path s.off (readUntil desc p s)) ∧ Post text (readUntil desc p s) :=
  SF.result (SF.join (ReadUntil_loop_agrees hp fuel desc _ s.off fuel s hf h) (fun _ => rfl) (fun _ => rfl))

end

/-- strings that `%q` prints between quotes unchanged -/
def Plain (str : String) : Prop := (goStr str).all Syn.Fmt.plainByte = true

instance (str : String) : Decidable (Plain str) := inferInstanceAs (Decidable ((goStr str).all Syn.Fmt.plainByte = true))

theorem Fmt_q_plain {str : String} (h : Plain str) : Syn.Fmt.q (goStr str) = .ok (goStr (quoteStr str)) := by
  unfold Syn.Fmt.q
  have h' : List.all (goStr str) Syn.Fmt.plainByte = true := h
  rw [if_pos h']
  have : Syn.lit "\"" = [0x22] := by decide
  simp [quoteStr, this]

theorem runesFrom_snd (toks : List Tok) : ∀ off, (Syn.runesFrom off toks).map Prod.snd = toks.map (fun t => (t.r : Int)) := by
  induction toks with
  | nil => intro off; rfl
  | cons t ts ih => intro off; simp [Syn.runesFrom, ih]

theorem runes_lit_snd (str : String) : (Syn.runes (goStr str)).map Prod.snd = (runesOf str).map goRune := by
  unfold Syn.runes runesOf
  rw [runesFrom_snd, goStr, lit_eq_strBytes, decodeAll_strBytes, strToks, charsToks]
  simp only [List.map_map]
  apply List.map_congr_left
  intro c _
  have := Syn.validRune_char c
  simp only [Syn.validRune] at this
  simp only [Function.comp, charTok]
  rw [goRune_of_lt (by omega)]

theorem ReadString_loop_agrees {text : Bytes} {path : String} (str : String) (hq : Plain str) (d : Syn.GoString) (start : Nat) :
    ∀ (rs : List Nat) (items : List (Int × Int)) (s : St), items.map Prod.snd = rs.map goRune → (∀ r ∈ rs, r < 2 ^ 32) →
      SimOK text s →
      SF text path start (fun s' => Flow.next (goScanner text path s')) Flow.ret
        (scanner.Scanner.ReadString.range1 (goStr str) ⟨d, (start : Int)⟩ items (goScanner text path s))
        (readStringL str start rs s) := by
  have hmsg : Syn.lit "while reading " ++ goStr (quoteStr str) = goStr ("while reading " ++ quoteStr str) := by simp [goStr]
  intro rs
  induction rs with
  | nil =>
    intro items s hi _ h
    obtain rfl : items = [] := by simpa using hi
    unfold scanner.Scanner.ReadString.range1
    exact SF.next h
  | cons ch chs ih =>
    intro items s hi hlt h
    obtain ⟨el, items', rfl⟩ : ∃ el items', items = el :: items' := by
      cases items with
      | nil => simp at hi
      | cons el items' => exact ⟨el, items', rfl⟩
    simp only [List.map_cons, List.cons.injEq] at hi
    unfold scanner.Scanner.ReadString.range1
    rw [readStringL]
    simp only [hi.1, Fmt_q_plain hq, Outcome.bind]
    have hb : (!decide (goRune ch = scanner.Scanner.Current (goScanner text path s))) = (ch != cur s) :=
      congrArg not (Bool.eq_iff_iff.mpr (by simp [goRune_inj (hlt ch List.mem_cons_self) h.cur_lt]))
    refine rel_ite (SF text path start _ _) hb (fun _ => SF.fail h [] hmsg rfl) fun _ => ?_
    exact SF.advance h hmsg (fun _ _ ha => by rw [ha]) fun s' ha hs' => by
      rw [ha]; exact ih items' s' hi.2 (fun r hr => hlt r (List.mem_cons_of_mem _ hr)) hs'

theorem ReadString_agrees {text : Bytes} {path : String} {s : St} (h : SimOK text s) (str : String) (hq : Plain str) :
    scanner.Scanner.ReadString (goScanner text path s) (goStr str) =
      .ok (goResR text path s.off (readString str s)) ∧ Post text (readString str s) := by
  have hlt : ∀ r ∈ runesOf str, r < 2 ^ 32 := by
    intro r hr
    obtain ⟨c, _, rfl⟩ := List.mem_map.mp hr
    have := Syn.validRune_char c
    simp only [Syn.validRune] at this
    omega
  exact SF.result (SF.join
    (ReadString_loop_agrees str hq _ s.off (runesOf str) (Syn.runes (goStr str)) s (runes_lit_snd str) hlt h) (fun _ => rfl) (fun _ => rfl))

def tick (s : String) : String := "`" ++ s ++ "`"

theorem format_range_pos : ∀ (l : List String) (idx : Int) (b : Syn.GoString), idx ≠ 0 → 0 ≤ idx →
    scanner.format.range1 (l.map goStr) idx b = b ++ l.flatMap (fun s => goStr ", " ++ goStr (tick s)) := by
  intro l
  induction l with
  | nil => intro idx b _ _; simp [scanner.format.range1]
  | cons x xs ih =>
    intro idx b h0 h1
    simp only [List.map_cons, scanner.format.range1, h0, decide_false, Bool.not_false, if_true, Syn.Builder.WriteString]
    rw [ih (idx + 1) _ (by omega) (by omega)]
    simp [tick]

theorem lit_intercalate (x : String) (xs : List String) :
    goStr (", ".intercalate ((x :: xs).map tick)) = goStr (tick x) ++ xs.flatMap (fun s => goStr ", " ++ goStr (tick s)) := by
  unfold goStr Syn.lit
  rw [String.toList_intercalate]
  induction xs generalizing x with
  | nil => simp
  | cons y ys ih =>
    simp only [List.map_cons] at ih ⊢
    rw [List.intercalate_cons_cons]
    simp only [List.flatMap_append, List.flatMap_cons, ih y]
    simp

theorem format_agrees (ss : List String) : scanner.format (ss.map goStr) = goStr (formatAlts ss) := by
  unfold scanner.format formatAlts
  have e : (fun s : String => "`" ++ s ++ "`") = tick := rfl
  rw [e]
  cases ss with
  | nil => simp [scanner.format.range1]; decide
  | cons x xs =>
    simp only [List.map_cons, scanner.format.range1, decide_true, Bool.not_true, Bool.false_eq_true, if_false,
      Syn.Builder.WriteString, Syn.Builder.String, GoSem.zero_list, List.nil_append]
    rw [format_range_pos xs _ _ (by omega) (by omega)]
    have := lit_intercalate x xs
    simp only [List.map_cons] at this
    simp only [lit_append, this]
    simp [tick]

theorem Backtrack_agrees {text : Bytes} {path : String} {s : St} (h : SimOK text s) (hE : atEOF s = false) (g : scanner.Scanner)
    (hg1 : g.text = text) (hg2 : g.Path = goStr path) :
    scanner.Scanner.Backtrack g (s.off : Int) = .ok (goScanner text path s) := by
  unfold scanner.Scanner.Backtrack
  simp only [hg1, len]
  rw [slice_drop text s.off h.1]
  simp only [Outcome.bind, h.decode hE, hg2]
  rfl

def Res.map {α β} (f : α → β) : Res α → Res β
  | .ok a s => .ok (f a) s
  | .err e s => .err e s

theorem Post_map {α β} {text : Bytes} (f : α → β) {r : Res α} (h : Post text r) : Post text (Res.map f r) := by
  cases r with
  | ok a s => exact Post_ok h.1 _
  | err e s => exact Post_refl_err h.1 e (h.2 e s rfl)

theorem readAltL_err (all : List String) (s : St) : ∀ (ss : List String) (e : Err) (s' : St),
    readAltL all s ss = .err e s' →
      e = [Frame.at ("unexpected input, want one of " ++ formatAlts all) (rng s.off s)] ∧ s' = s := by
  intro ss
  induction ss with
  | nil => intro e s' h; simp only [readAltL] at h; injection h with h1 h2; exact ⟨h1.symm, h2.symm⟩
  | cons t ts ih =>
    intro e s' h
    simp only [readAltL] at h
    split at h
    · cases h
    · exact ih e s' h

theorem ReadAlternative_loop_agrees {text : Bytes} {path : String} {s : St} (h : SimOK text s) (hE : atEOF s = false)
    (all : List String) (d : Syn.GoString) :
    ∀ (ss : List String) (e0 : Int), (∀ t ∈ ss, Plain t) →
      (∃ e1, scanner.Scanner.ReadAlternative.range1 ⟨d, (s.off : Int)⟩ (ss.map goStr) (goScanner text path s) e0 =
        .ok (match readAltL all s ss with
          | .ok (r, _) s' => Flow.ret (goScanner text path s', goRange text path r, .nil)
          | .err _ _ => Flow.next (goScanner text path s, e1))) ∧ Post text (readAltL all s ss) := by
  intro ss
  induction ss with
  | nil =>
    intro e0 _
    refine ⟨⟨e0, ?_⟩, Post_refl_err h _ (by simp)⟩
    simp [scanner.Scanner.ReadAlternative.range1, readAltL]
  | cons t ts ih =>
    intro e0 hq
    have hR := ReadString_agrees (path := path) h t (hq t List.mem_cons_self)
    simp only [List.map_cons, scanner.Scanner.ReadAlternative.range1, readAltL]
    rw [hR.1]
    cases hm : readString t s with
    | ok r s' =>
      rw [hm] at hR
      refine ⟨⟨e0, ?_⟩, Post_ok hR.2.1 _⟩
      simp
    | err e s' =>
      rw [hm] at hR
      have hne := hR.2.2 e s' rfl
      have hB := Backtrack_agrees (path := path) h hE (goScanner text path s') rfl rfl
      simp only [goResR, Outcome.bind, decide_eq_true_eq, goErr_ne_nil text path hne, if_false, hB]
      exact ih _ (fun t ht => hq t (List.mem_cons_of_mem _ ht))

/-- the model's `readAlternative` also returns the alternative that matched -/
theorem ReadAlternative_agrees {text : Bytes} {path : String} {s : St} (h : SimOK text s) (ss : List String)
    (hq : ∀ t ∈ ss, Plain t) :
    scanner.Scanner.ReadAlternative (goScanner text path s) (ss.map goStr) =
      .ok (goResR text path s.off (Res.map Prod.fst (readAlternative ss s))) ∧ Post text (readAlternative ss s) := by
  unfold scanner.Scanner.ReadAlternative readAlternative
  simp only [go_Scope, go_current, go_Range, decide_eq_true_eq, h.cur_eof, format_agrees]
  by_cases hE : atEOF s = true
  · simp only [hE, if_true]
    refine ⟨?_, Post_refl_err h _ (by simp)⟩
    simp [Res.map]
  · simp only [hE]
    have hE' : atEOF s = false := by simpa using hE
    obtain ⟨⟨e1, hL⟩, hP⟩ := ReadAlternative_loop_agrees (path := path) h hE' ss (Syn.lit "") ss GoZero.zero hq
    rw [hL]
    refine ⟨?_, hP⟩
    cases hm : readAltL ss s ss with
    | ok rt s' =>
      obtain ⟨r, t⟩ := rt
      simp [Res.map]
    | err e s' =>
      -- the only error of the loop is the final one, in the state the call started in
      have := readAltL_err ss s ss e s' hm
      obtain ⟨rfl, rfl⟩ := this
      simp [Res.map]

theorem Fmt_d_nat (j : Nat) : Syn.Fmt.d ((j : Nat) : Int) = goStr (toString j) := rfl

theorem Fmt_readN (nn k : Nat) :
    Syn.lit "while reading " ++ Syn.Fmt.d ((nn - (k + 1) : Nat) : Int) ++ Syn.lit " of " ++ Syn.Fmt.d (nn : Int) ++
      Syn.lit " characters" = goStr ("while reading " ++ toString (nn - (k + 1)) ++ " of " ++ toString nn ++ " characters") := by
  simp [goStr, Fmt_d_nat]

/-- the Go loop counts `i` up to `nn`, the model counts the `k` characters still to be read down -/
theorem ReadN_loop_agrees {text : Bytes} {path : String} (fuel : Nat) (nn : Nat) (d : Syn.GoString) (start : Nat) :
    ∀ (n : Nat) (s : St), s.toks.length < n → ∀ k, k ≤ nn → SimOK text s →
      SF text path start (fun s' => Flow.next (goScanner text path s', (nn : Int))) Flow.ret
        (scanner.Scanner.ReadN.loop1 fuel (nn : Int) ⟨d, (start : Int)⟩ n (goScanner text path s) ((nn - k : Nat) : Int))
        (readNL nn start k s) := by
  refine fuel_induction fun n s _ ih k hk h => ?_
  unfold scanner.Scanner.ReadN.loop1
  cases k with
  | zero => rw [if_neg (by simp), readNL]; exact SF.next h
  | succ k =>
    rw [if_pos (by simp; omega), readNL]
    dsimp only
    refine rel_ite (SF text path start _ _) (Current_eof h) (fun _ => SF.fail h [Frame.eof] (Fmt_readN nn k) rfl) fun _ => ?_
    refine SF.advance h (Fmt_readN nn k) (fun _ _ ha => by rw [ha]) fun s' ha hs' => ?_
    have hi : ((nn - (k + 1) : Nat) : Int) + 1 = ((nn - k : Nat) : Int) := by omega
    dsimp only
    rw [ha, hi]
    exact ih s' (advance_ok_lt ha) k (by omega) hs'

theorem ReadN_agrees {text : Bytes} {path : String} {s : St} (h : SimOK text s) {fuel : Nat} (hf : s.toks.length < fuel) (nn : Nat) :
    scanner.Scanner.ReadN fuel (goScanner text path s) (nn : Int) =
      .ok (goResR text path s.off (readN nn s)) ∧ Post text (readN nn s) := by
  have hL := ReadN_loop_agrees (text := text) (path := path) fuel nn (Syn.lit "") s.off fuel s hf nn (Nat.le_refl _) h
  rw [Nat.sub_self] at hL
  exact SF.result (SF.join hL (fun _ => rfl) (fun _ => rfl))

/-! ### New, and the first Advance (`start`) -/

theorem SimOK_start (text : Bytes) : SimOK text ⟨0, decodeAll text⟩ := ⟨Nat.zero_le _, Or.inl (by simp)⟩

theorem start_err_ne {toks : List Tok} {e : Err} {s' : St} (h : start toks = .err e s') : e ≠ [] := by
  unfold start at h
  split at h
  · cases h
  · split at h
    · cases h; simp
    · cases h

theorem New_Advance_agrees (text : Bytes) (path : String) :
    scanner.Scanner.Advance (scanner.New text (goStr path)) =
      .ok (goScanner text path (start (decodeAll text)).st, goErr text path (Res.errs (start (decodeAll text)))) ∧
    Post text (start (decodeAll text)) ∧ (start (decodeAll text)).st = ⟨0, decodeAll text⟩ := by
  have hst : (start (decodeAll text)).st = ⟨0, decodeAll text⟩ := by
    unfold start
    split
    · rename_i h; rw [h]; rfl
    · split <;> rfl
  refine ⟨?_, ⟨by rw [hst]; exact SimOK_start text, fun e s' he => start_err_ne he⟩, hst⟩
  cases hd : decodeAll text with
  | nil =>
    obtain rfl := decodeAll_eq_nil.mp hd
    simp [scanner.Scanner.Advance, scanner.New, start, goScanner, cur_nil, goRune_EOF, curW, Res.st, Res.errs]
  | cons u rest =>
    have hlt : 0 < text.length := List.length_pos_iff.mpr (decodeAll_eq_cons hd).1
    refine (Advance_decode text path _ _ _ (off' := 0) (by simp [GoSem.zero_int]) hlt hd).trans ?_
    simp only [start, Res.st, Res.errs]
    split <;> rfl

end Knut.FactsAgree.TransScanner
