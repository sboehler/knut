import Knut.Generated.TransAccount
import Knut.FactsAgree.TransAccount
import Knut.FactsAgree.TransMapping
/-!
# The type-word swap of `account.Registry.SwapType` (a translated FRAGMENT) agrees with the model's `swapType`

`SwapType` as a whole is outside the translated subset (mutexes, the swap cache, the registry's `Get`).  Its middle part — the
statements that compute the NAME of the swapped account from `a.name` and `a.Type()` — is translated as the fragment
`account.Registry.SwapType.name` (`harness/trans_units_mapping.go`, `Knut/Generated/TransAccount.lean`):

    n := a.name
    switch a.Type() { case ASSETS: n = LIABILITIES.String() + strings.TrimPrefix(n, ASSETS.String()) … }

What is around it is not translated: before it the lookup in the cache `as.swaps` (which holds results of earlier calls), after it
`as.Get(n)` (the account of that name; a panic if there is none) and the store into the cache.
-/
namespace Knut.FactsAgree.TransSwapType
open Knut Knut.GoSem
open Knut.Generated.Go
open Knut.FactsAgree.TransAccount (accountGo typeGo)

/-- what follows the first segment in an account's name -/
def tailChars (rest : List String) : List Char := rest.flatMap (fun s => ':' :: s.toList)

theorem name_toList (x : String) (rest : List String) :
    (Knut.Account.name ⟨x :: rest⟩).toList = x.toList ++ tailChars rest := by
  unfold Knut.Account.name tailChars
  rw [String.toList_intercalate]
  have : (":" : String).toList = [':'] := rfl
  rw [this]
  show [':'].intercalate ((x :: rest).map String.toList) = _
  induction rest generalizing x with
  | nil => simp
  | cons y ys ih =>
    simp only [List.map_cons] at ih ⊢
    rw [List.intercalate_cons_cons, ih y]
    simp

theorem TrimPrefix_name (x : String) (rest : List String) :
    Strings.TrimPrefix (Knut.Account.name ⟨x :: rest⟩) x = String.ofList (tailChars rest) := by
  unfold Strings.TrimPrefix
  rw [name_toList]
  simp

theorem swap_name (x y : String) (rest : List String) :
    y ++ Strings.TrimPrefix (Knut.Account.name ⟨x :: rest⟩) x = Knut.Account.name ⟨y :: rest⟩ := by
  rw [TrimPrefix_name]
  apply String.toList_inj.mp
  rw [name_toList]
  simp

/-- **`SwapType`'s name computation** = the name of the model's `swapType`: for an account that starts with a type word the
translated statements produce the name with `Assets ↔ Liabilities`, `Income ↔ Expenses` swapped and every other name unchanged;
never a panic -/
theorem SwapType_name_agrees (a : Knut.Account) (h : a.wf = true) :
    account.Registry.SwapType.name (accountGo a) = .ok (swapType a).name := by
  obtain ⟨segs⟩ := a
  cases segs with
  | nil => cases h
  | cons s rest =>
    have ht : (AccountType.ofName s).isSome = true := h
    cases hty : AccountType.ofName s with
    | none => rw [hty] at ht; cases ht
    | some t =>
      have hs := ReportPerm.ofName_eq_name hty
      have hacc : (accountGo ⟨s :: rest⟩).accountType = typeGo t := by
        simp [accountGo, Knut.Account.type?, hty]
      have hname : (accountGo ⟨s :: rest⟩).name = Knut.Account.name ⟨s :: rest⟩ := rfl
      unfold account.Registry.SwapType.name
      simp only [account.Account.Type_, hacc, hname]
      subst hs
      cases t <;>
        simp [typeGo, account.ASSETS, account.LIABILITIES, account.INCOME, account.EXPENSES, account.EQUITY, account.Type_.String,
          swapType, AccountType.name, swap_name]

/-- an account without a type word (never created by the registry) keeps its name -/
theorem SwapType_name_other (a : account.Account)
    (h : a.accountType ≠ account.ASSETS ∧ a.accountType ≠ account.LIABILITIES ∧ a.accountType ≠ account.INCOME ∧
      a.accountType ≠ account.EXPENSES) :
    account.Registry.SwapType.name a = .ok a.name := by
  unfold account.Registry.SwapType.name
  simp [account.Account.Type_, h.1, h.2.1, h.2.2.1, h.2.2.2]

theorem name_externals_pinned : account.Registry.SwapType.name.externals = [] := rfl

/-- `SwapType` as the untranslated statements around the fragment compose it: the account that `as.Get` returns for the computed
name (a hit in the cache `as.swaps` returns what an earlier call stored there: the same account) -/
def swapVia (get : String → account.Account) (a : account.Account) : account.Account :=
  match account.Registry.SwapType.name a with
  | .ok n => get n
  | _ => a

/-- with a registry whose `Get` returns THE account of a name, `SwapType` is what `TransMapping.Remap_model` and
`TransBalanceCmd.query_posting_model` assume of it (`RegistrySwap`) -/
theorem RegistrySwap_of_get (get : String → account.Account)
    (hget : ∀ b : Knut.Account, b.wf = true → get b.name = accountGo b) :
    TransMapping.RegistrySwap (swapVia get) := by
  intro b hb
  unfold swapVia
  rw [SwapType_name_agrees b hb]
  exact hget _ (TransMapping.swapType_wf hb)

example : account.Registry.SwapType.name (accountGo ⟨["Assets", "Bank", "CHF"]⟩) = .ok "Liabilities:Bank:CHF" ∧
    account.Registry.SwapType.name (accountGo ⟨["Expenses"]⟩) = .ok "Income" ∧
    account.Registry.SwapType.name (accountGo ⟨["Equity", "X"]⟩) = .ok "Equity:X" := by decide +kernel

end Knut.FactsAgree.TransSwapType
