import Knut.Generated.TransTable
import Knut.Model.Table
import Knut.Proofs.TableNum
/-!
# The translated `lib/common/table` number formatting (`addThousandsSep`, `TextRenderer.numToString`) agrees with the model

`Knut/Generated/TransTable.lean` is regenerated from /repo's `renderer.go` on every run.  The Go code works on the BYTES of the string
(`strings.Index`, the byte offset of `range`, `e[i:]`) and asks `unicode.IsDigit`; the model works on the list of characters with their
positions and ASCII digits.  They agree on ASCII strings (`addThousandsSep_agrees` has that hypothesis on its argument) — and `StringFixed` only produces ASCII
(`showFixed_ascii`), so `numToString_agrees` has no hypothesis.
-/
namespace Knut.FactsAgree.TransTable
open Knut Knut.GoSem
open Knut.Generated.Go

def Ascii (cs : List Char) : Prop := ∀ c ∈ cs, c.toNat < 128

theorem utf8Size_ascii {c : Char} (h : c.toNat < 128) : c.utf8Size = 1 := by
  unfold Char.utf8Size
  have : c.val.toNat < 128 := h
  simp only [UInt32.le_iff_toNat_le]
  split
  · rfl
  · rename_i h1; exfalso; apply h1; simp; omega

theorem byteLen_ascii (cs : List Char) (h : Ascii cs) : Strings.byteLen (String.ofList cs) = (cs.length : Int) := by
  unfold Strings.byteLen
  rw [String.toList_ofList]
  induction cs with
  | nil => rfl
  | cons c rest ih =>
    have hc := utf8Size_ascii (h c (by simp))
    have := ih (fun x hx => h x (by simp [hx]))
    simp only [List.map_cons, List.sum_cons, hc, List.length_cons]
    omega

theorem runesFrom_cons_ascii (off : Int) (c : Char) (rest : List Char) (h : c.toNat < 128) :
    Strings.runesFrom off (c :: rest) = (off, c) :: Strings.runesFrom (off + 1) rest := by
  simp [Strings.runesFrom, utf8Size_ascii h]

theorem runesFrom_any (cs : List Char) (h : Ascii cs) : ∀ (off o : Int),
    (Strings.runesFrom off cs).any (fun r => decide (r.1 = o)) = decide (off ≤ o ∧ o < off + cs.length) := by
  induction cs with
  | nil => intro off o; simp [Strings.runesFrom] <;> omega
  | cons c rest ih =>
    intro off o
    rw [runesFrom_cons_ascii off c rest (h c (by simp))]
    simp only [List.any_cons, ih (fun x hx => h x (by simp [hx])), List.length_cons]
    by_cases e : off = o
    · subst e; simp; omega
    · simp only [e, decide_false, Bool.false_or]
      congr 1
      apply propext
      constructor <;> intro hh <;> omega

theorem runesFrom_filter (cs : List Char) (h : Ascii cs) : ∀ (off lo : Int), lo ≤ off + cs.length →
    ((Strings.runesFrom off cs).filter (fun r => decide (lo ≤ r.1) && decide (r.1 < off + cs.length))).map (·.2)
      = cs.drop (lo - off).toNat := by
  induction cs with
  | nil => intro off lo _; simp [Strings.runesFrom]
  | cons c rest ih =>
    intro off lo hlo
    rw [runesFrom_cons_ascii off c rest (h c (by simp))]
    have ih' := ih (fun x hx => h x (by simp [hx])) (off + 1) lo (by simp only [List.length_cons] at hlo; omega)
    have e : off + 1 + (rest.length : Int) = off + ((c :: rest).length : Int) := by simp only [List.length_cons]; omega
    rw [e] at ih'
    simp only [List.filter_cons]
    by_cases hle : lo ≤ off
    · have h1 : (lo - off).toNat = 0 := by omega
      have h2 : (lo - (off + 1)).toNat = 0 := by omega
      have h3 : off < off + ((c :: rest).length : Int) := by simp only [List.length_cons]; omega
      simp only [hle, h3, decide_true, Bool.and_self, if_true, List.map_cons, ih', h1, h2, List.drop_zero]
    · have h1 : (lo - off).toNat = (lo - (off + 1)).toNat + 1 := by omega
      simp only [hle, decide_false, Bool.false_and, Bool.false_eq_true, if_false, ih', h1, List.drop_succ_cons]

/-- `e[i:]` on an ASCII string is the list of characters from position `i` on -/
theorem slice_ascii (pre suf : List Char) (h : Ascii (pre ++ suf)) :
    Strings.slice (String.ofList (pre ++ suf)) (pre.length : Int) (Strings.byteLen (String.ofList (pre ++ suf)))
      = GoSem.Outcome.ok (String.ofList suf) := by
  have hb := byteLen_ascii (pre ++ suf) h
  unfold Strings.slice
  simp only [hb, Strings.runes, String.toList_ofList]
  have hlen : ((pre ++ suf).length : Int) = pre.length + suf.length := by simp
  have c1 : ¬ ((pre.length : Int) < 0 ∨ ((pre ++ suf).length : Int) < pre.length ∨ ((pre ++ suf).length : Int) < (pre ++ suf).length) := by
    omega
  simp only [c1, if_false, runesFrom_any _ h]
  have c2 : (decide ((pre.length : Int) = ((pre ++ suf).length : Int)) ||
      decide ((0 : Int) ≤ (pre.length : Int) ∧ (pre.length : Int) < 0 + ((pre ++ suf).length : Int))) = true := by
    by_cases hs : suf.length = 0
    · have : (pre.length : Int) = ((pre ++ suf).length : Int) := by omega
      simp only [this, decide_true, Bool.true_or]
    · have h1 : (pre.length : Int) < 0 + ((pre ++ suf).length : Int) := by omega
      have h2 : (0 : Int) ≤ (pre.length : Int) := by omega
      simp only [h1, h2, and_self, decide_true, Bool.or_true]
  simp only [c2, decide_true, Bool.true_or, Bool.and_self, if_true]
  have := runesFrom_filter (pre ++ suf) h 0 pre.length (by omega)
  simp only [Int.zero_add, Int.sub_zero, Int.toNat_natCast] at this
  rw [this]
  simp

theorem isDigit_ascii : ∀ n : Fin 128, Knut.Syntax.isDigit n.val = (decide (48 ≤ n.val) && decide (n.val ≤ 57)) := by
  decide +kernel

theorem IsDigit_agrees (c : Char) (h : c.toNat < 128) : Unicode.IsDigit c = Knut.Dec.isDigit c := by
  unfold Unicode.IsDigit Knut.Dec.isDigit
  have := isDigit_ascii ⟨c.toNat, h⟩
  simp only at this
  rw [this]
  simp [Char.le_def, UInt32.le_iff_toNat_le]
  try rfl

/-- `strings.Index(e, ".")` on an ASCII string: the position of the first point (offset `off`), or `-1` -/
theorem indexFrom_point (cs : List Char) (h : Ascii cs) : ∀ off : Int,
    Strings.indexFrom ['.'] off cs = if '.' ∈ cs then off + (cs.idxOf '.' : Int) else -1 := by
  induction cs with
  | nil => intro off; simp [Strings.indexFrom]
  | cons c rest ih =>
    intro off
    have ih' := ih (fun x hx => h x (by simp [hx])) (off + 1)
    by_cases hc : c = '.'
    · subst hc; simp [Strings.indexFrom, List.isPrefixOf]
    · have hc' : ¬ '.' = c := fun e => hc e.symm
      have hb : (c == '.') = false := by simpa using hc
      have hpre : List.isPrefixOf ['.'] (c :: rest) = false := by simp [List.isPrefixOf, hc']
      simp only [Strings.indexFrom, hpre, Bool.false_eq_true, if_false, utf8Size_ascii (h c (by simp)), Int.natCast_one, ih']
      have hidx : (c :: rest).idxOf '.' = rest.idxOf '.' + 1 := by simp [List.idxOf_cons, hb]
      by_cases hm : '.' ∈ rest
      · have : '.' ∈ c :: rest := by simp [hm]
        simp only [hm, this, if_true, hidx, Int.natCast_add, Int.natCast_one]; omega
      · have : ¬ '.' ∈ c :: rest := by simp [hm, hc']
        simp only [hm, this, if_false]

/-- the loop of `addThousandsSep` from position `|pre|` on is the model's `sepLoop`: the builder receives exactly its characters -/
theorem range1_agrees (all : List Char) (hasc : Ascii all) (index : Int) :
    ∀ (suf pre : List Char), all = pre ++ suf → ∀ (b : String) (ok : Bool),
      ∃ ok', table.addThousandsSep.range1 (String.ofList all) index (Strings.runesFrom (pre.length : Int) suf) b ok
        = GoSem.Outcome.ok (b ++ String.ofList (Table.sepLoop index (pre.length : Int) ok suf), ok') := by
  intro suf
  induction suf with
  | nil =>
    intro pre _ b ok
    refine ⟨ok, ?_⟩
    simp only [Strings.runesFrom, table.addThousandsSep.range1, Table.sepLoop]
    congr 2
    apply String.ext; simp
  | cons ch rest ih =>
    intro pre hall b ok
    have hch : ch.toNat < 128 := hasc ch (by rw [hall]; simp)
    rw [runesFrom_cons_ascii _ ch rest hch]
    unfold table.addThousandsSep.range1 Table.sepLoop
    have hdash : (Char.ofNat 45) = '-' := rfl
    simp only [hdash]
    by_cases hbrk : (pre.length : Int) ≥ index ∧ ch ≠ '-'
    · have hb : (decide ((pre.length : Int) ≥ index) && !decide (ch = '-')) = true := by simp [hbrk.1, hbrk.2]
      rw [if_pos hb, if_pos hbrk]
      have hs := slice_ascii pre (ch :: rest) (by rw [← hall]; exact hasc)
      rw [← hall] at hs
      rw [hs]
      exact ⟨ok, by simp [GoSem.Outcome.bind]⟩
    · have hb : ¬ (decide ((pre.length : Int) ≥ index) && !decide (ch = '-')) = true := by simpa using hbrk
      rw [if_neg hb, if_neg hbrk]
      have hall' : all = (pre ++ [ch]) ++ rest := by rw [hall]; simp
      have hlen : (((pre ++ [ch]).length : Nat) : Int) = (pre.length : Int) + 1 := by simp
      obtain ⟨ok', hih⟩ := ih (pre ++ [ch]) hall'
        (Strings.Builder.WriteRune (if (decide (imod (index - (pre.length : Int)) 3 = 0) && ok) = true
          then Strings.Builder.WriteRune b (Char.ofNat 44) else b) ch)
        (if Unicode.IsDigit ch = true then true else ok)
      rw [hlen] at hih
      refine ⟨ok', ?_⟩
      rw [hih]
      have hd : (if Unicode.IsDigit ch = true then true else ok) = (ok || Knut.Dec.isDigit ch) := by
        rw [IsDigit_agrees ch hch]
        cases ok <;> cases Knut.Dec.isDigit ch <;> rfl
      rw [hd]
      congr 2
      apply String.ext
      cases ok <;> by_cases h1 : Int.tmod (index - (pre.length : Int)) 3 = 0 <;>
        simp [imod, h1, String.toList_append, String.toList_push]

/-- `addThousandsSep` on ASCII text (all that `StringFixed` produces): never a panic, the model's characters -/
theorem addThousandsSep_agrees (e : List Char) (h : Ascii e) :
    table.addThousandsSep (String.ofList e) = GoSem.Outcome.ok (String.ofList (Table.addThousandsSep e)) := by
  unfold table.addThousandsSep Table.addThousandsSep
  have hidx : Strings.Index (String.ofList e) "." = if '.' ∈ e then ((e.idxOf '.' : Nat) : Int) else -1 := by
    unfold Strings.Index
    rw [String.toList_ofList]
    have := indexFrom_point e h 0
    simpa using this
  have hindex : (if decide (Strings.Index (String.ofList e) "." < 0) = true then Strings.byteLen (String.ofList e)
      else Strings.Index (String.ofList e) ".") = ((e.idxOf '.' : Nat) : Int) := by
    rw [hidx, byteLen_ascii e h]
    by_cases hm : '.' ∈ e
    · have : ¬ (((e.idxOf '.' : Nat) : Int) < 0) := by omega
      simp [hm, this]
    · have : e.idxOf '.' = e.length := List.idxOf_eq_length hm
      simp [hm, this]
  simp only [hindex, zero_string, zero_bool, Strings.runes, String.toList_ofList]
  obtain ⟨ok', hr⟩ := range1_agrees e h ((e.idxOf '.' : Nat) : Int) e [] (by simp) "" false
  simp only [List.length_nil, Int.natCast_zero] at hr
  rw [hr]
  simp only [GoSem.Outcome.bind, Strings.Builder.String]
  congr 1
  try (apply String.ext; simp)

theorem ascii_of_isDigit {c : Char} (h : c.isDigit = true) : c.toNat < 128 := by
  simp [Char.isDigit, UInt32.le_iff_toNat_le] at h
  have : c.toNat = c.val.toNat := rfl
  omega

/-- `StringFixed` prints ASCII only: sign, digits, point -/
theorem showFixed_ascii (p : Int) (x : Rat) : Ascii (Dec.showFixed p x).toList := by
  rw [Table.showFixed_eq, Dec.showScaled_toList]
  intro c hc
  have hd : ∀ n, ∀ c ∈ Dec.digitsOf n, c.toNat < 128 := fun n c hc =>
    ascii_of_isDigit (Nat.isDigit_of_mem_toDigits (by decide) (by decide) hc)
  simp only [List.mem_append] at hc
  rcases hc with (hc | hc) | hc
  · unfold Dec.signPart at hc
    split at hc
    · simp at hc; subst hc; decide
    · simp at hc
  · exact hd _ c hc
  · unfold Dec.fracPart at hc
    split at hc
    · simp at hc
    · simp only [List.mem_cons, List.mem_append, List.mem_replicate] at hc
      rcases hc with hc | hc | hc
      · subst hc; decide
      · rw [hc.2]; decide
      · exact hd _ c hc

theorem Shift_thousand (d : Rat) : Decimal.Shift d (-3) = d / 1000 := by
  simp [Decimal.Shift]

/-- `TextRenderer.numToString`: `--thousands` shifts by three places exactly, `StringFixed(r.Round)`, thousands separators -/
theorem numToString_agrees (tr : table.TextRenderer) (d : Rat) :
    table.TextRenderer.numToString tr d
      = GoSem.Outcome.ok (String.ofList (Table.numToString ⟨tr.Thousands, tr.Round⟩ d)) := by
  unfold table.TextRenderer.numToString Table.numToString Table.scaled
  have key : ∀ x : Rat, table.addThousandsSep (Decimal.StringFixed x tr.Round)
      = GoSem.Outcome.ok (String.ofList (Table.addThousandsSep (Dec.showFixed tr.Round x).toList)) := by
    intro x
    have := addThousandsSep_agrees (Dec.showFixed tr.Round x).toList (showFixed_ascii _ _)
    rw [String.ofList_toList] at this
    exact this
  by_cases ht : tr.Thousands = true
  · simp only [ht, if_true, Shift_thousand, key, GoSem.Outcome.bind]
  · have ht' : tr.Thousands = false := by simpa using ht
    simp only [ht', Bool.false_eq_true, if_false, key, GoSem.Outcome.bind]

/-- non-vacuity: a negative number with seven integer digits and two decimals -/
example : table.addThousandsSep "-1234567.89" = GoSem.Outcome.ok "-1,234,567.89" := by
  have := addThousandsSep_agrees "-1234567.89".toList (by intro c hc; simp at hc; rcases hc with h | h | h | h | h | h | h | h | h | h | h <;> subst h <;> decide)
  rw [String.ofList_toList] at this
  rw [this]; decide

end Knut.FactsAgree.TransTable
