import Knut.FactsAgree.TransTableRender2
/-!
# The translated builder functions of `lib/common/table` agree with the model

`table.New` (the columns of the groups), `Table.Width`, `Row.addCell` and the exported `Row.Add…` methods as functions on ONE row
(a `*Row` receiver is the row value; the method returns the new row — twice, because Go returns the receiver for chaining); then the
methods on the table: `AddRow`, `AddSeparatorRow`, `AddEmptyRow`, and `Row.FillEmpty` up to the capacity.
`AddPercent` has no counterpart in the model (no percent cells).
-/
namespace Knut.FactsAgree.TransTableRender
open Knut Knut.GoSem
open Knut.Generated.Go

/-! ## `New` -/

theorem New_loop (g : Int) (size : Int) : ∀ (fuel : Nat) (cols : List Int) (i : Int), 0 ≤ i → (size - i).toNat ≤ fuel →
    table.New.loop1 g size fuel cols i
      = Outcome.ok (cols ++ List.replicate (size - i).toNat g, if i < size then size else i) := by
  intro fuel cols i _ hf
  -- after `k` rounds the columns have `k` more entries `g`
  refine countUp (table.New.loop1 g size) (fun k => cols ++ List.replicate k g) i size _ ?_ ?_ cols (List.append_nil _) fuel hf
  · intro fuel k hl
    rw [table.New.loop1]
    simp only [hl, decide_true, if_true, List.replicate_succ', List.append_assoc]
  · intro hl fuel
    unfold table.New.loop1
    simp only [hl, decide_false, Bool.false_eq_true, if_false]

/-- the body of the loop over the groups -/
def newStep (st1 : List Int) (el2 : Int × Nat) : Outcome (List Int) :=
  let columns : List Int := st1
  let groupSize : Int := el2.1
  let groupNo : Int := (el2.2 : Int)
  let i : Int := (0 : Int)
  Outcome.bind (table.New.loop1 groupNo groupSize (fuelLt i groupSize) columns i) (fun st4 =>
    let columns : List Int := st4.1
    let i : Int := st4.2
    Outcome.ok columns)

theorem newStep_eq (cols : List Int) (g : Int) (k : Nat) :
    newStep cols (g, k) = Outcome.ok (cols ++ List.replicate g.toNat (k : Int)) := by
  unfold newStep
  simp only [New_loop (k : Int) g (fuelLt 0 g) cols 0 (by omega) (by simp [fuelLt]), Outcome.bind]
  simp

/-- the outer loop of `New` from group number `k` on -/
theorem New_fold : ∀ (gs : List Int) (k : Nat) (cols : List Int),
    foldlE newStep cols (List.zipIdx gs k) = Outcome.ok (cols ++ natsGo (Table.groupColumns k (gs.map Int.toNat))) := by
  intro gs
  induction gs with
  | nil => intro k cols; simp [foldlE, Table.groupColumns, natsGo]
  | cons g gs ih =>
    intro k cols
    rw [List.zipIdx_cons, foldlE_ok _ _ _ _ _ (newStep_eq cols g k), ih]
    simp [Table.groupColumns, natsGo, List.map_replicate]

theorem New_unfold (gs : List Int) :
    table.New gs = Outcome.bind (foldlE newStep ([] : List Int) (List.zipIdx gs)) (fun columns =>
      Outcome.ok ({ columns := columns, rows := GoZero.zero } : table.Table)) := rfl

/-- `table.New(groups…)`: group `k` contributes `groups[k]` columns numbered `k` (a negative size: none) -/
theorem New_agrees (gs : List Int) :
    table.New gs = Outcome.ok (tableGo (Table.Table.new (gs.map Int.toNat))) := by
  rw [New_unfold, New_fold gs 0 []]
  rfl

/-! ## `Width`, the row methods -/

theorem Width_agrees (t : Table.Table) : table.Table.Width (tableGo t) = (t.width : Int) := by
  simp [table.Table.Width, tableGo, Table.Table.width]

/-- `Row.addCell`: the cell is appended; the capacity `width` stays while the row fits, then it is unknown -/
theorem addCell_agrees (width : Nat) (row : List Table.Cell) (c : Table.Cell) :
    table.Row.addCell (rowGoW width row) (cellGo c) = rowGoW width (row ++ [c]) := by
  unfold table.Row.addCell rowGoW
  by_cases h : row.length ≤ width
  · by_cases h2 : row.length + 1 ≤ width
    · have h3 : ((row.length : Nat) : Int) + 1 ≤ (width : Int) := by omega
      simp [h, h2, h3, Slices.appendCap]
    · have h3 : ¬ ((row.length : Nat) : Int) + 1 ≤ (width : Int) := by omega
      simp [h, h2, h3, Slices.appendCap]
  · have h2 : ¬ row.length + 1 ≤ width := by omega
    simp [h, h2, Slices.appendCap]

theorem AddEmpty_agrees (width : Nat) (row : List Table.Cell) :
    table.Row.AddEmpty (rowGoW width row) = (rowGoW width (row ++ [.empty]), rowGoW width (row ++ [.empty])) := by
  have := addCell_agrees width row .empty
  simp only [cellGo] at this
  simp [table.Row.AddEmpty, this]

/-- `table.Alignment` values other than `Left`/`Right`/`Center` are outside the model: the alignments `alignGo` yields -/
theorem AddText_agrees (width : Nat) (row : List Table.Cell) (s : List Char) (a : Table.Align) :
    table.Row.AddText (rowGoW width row) (String.ofList s) (alignGo a)
      = (rowGoW width (row ++ [.text s a 0]), rowGoW width (row ++ [.text s a 0])) := by
  have := addCell_agrees width row (.text s a 0)
  simp only [cellGo] at this
  simp [table.Row.AddText, this]

theorem AddDecimal_agrees (width : Nat) (row : List Table.Cell) (n : Rat) :
    table.Row.AddDecimal (rowGoW width row) n = (rowGoW width (row ++ [.num n]), rowGoW width (row ++ [.num n])) := by
  have := addCell_agrees width row (.num n)
  simp only [cellGo] at this
  simp [table.Row.AddDecimal, this]

theorem AddIndented_agrees (width : Nat) (row : List Table.Cell) (s : List Char) (indent : Int) :
    table.Row.AddIndented (rowGoW width row) (String.ofList s) indent
      = (rowGoW width (row ++ [.text s .left indent]), rowGoW width (row ++ [.text s .left indent])) := by
  have := addCell_agrees width row (.text s .left indent)
  simp only [cellGo, alignGo] at this
  simp [table.Row.AddIndented, table.Left, this]

/-! ## `AddRow`, `AddSeparatorRow`, `AddEmptyRow`

`AddRow` returns a pointer to the row it has appended to `t.rows`: the translation returns the table and the row, and in the callers
the row variable is an alias of `t.rows[len-1]` (`key`), written back after every `addCell`. -/

theorem tableGo_rows (cols : List Nat) (rows : List (List Table.Cell)) :
    tableGo ⟨cols, rows⟩ = { columns := natsGo cols, rows := rows.map (rowGoW cols.length) } := rfl

theorem AddRow_agrees (t : Table.Table) :
    table.Table.AddRow (tableGo t) = Outcome.ok (tableGo t.addRow, rowGoW t.width []) := by
  unfold table.Table.AddRow
  simp only [Width_agrees, Slices.makeCap, Outcome.bind]
  have : ¬ ((t.width : Nat) : Int) < 0 := by omega
  simp only [this, if_false]
  simp [tableGo, Table.Table.addRow, Table.Table.width, rowGoW]

theorem set_last {α : Type} (old : List α) (a b : α) : (old ++ [a]).set old.length b = old ++ [b] := by
  induction old with
  | nil => rfl
  | cons x xs ih => simp [ih]

/-- `AddSeparatorRow` and `AddEmptyRow` run the same loop with another cell: any `L` with that loop's equation, started on a
last row of `i` cells `c`, fills it up to the width of the table -/
theorem fillRow_loop (c : Table.Cell) (key : Nat)
    (L : Nat → table.Table → table.Row → Int → Outcome (table.Table × table.Row × Int))
    (hL : ∀ fuel t r i, L fuel t r i =
      if decide (i < table.Table.Width t) then
        match fuel with
        | 0 => Outcome.outOfFuel
        | fuel + 1 =>
          L fuel { t with rows := t.rows.set key (table.Row.addCell r (cellGo c)) } (table.Row.addCell r (cellGo c)) (i + 1)
      else Outcome.ok (t, r, i))
    (cols : List Nat) (old : List table.Row) (hkey : key = old.length) :
    ∀ (fuel : Nat) (i : Nat), i ≤ cols.length → cols.length - i ≤ fuel →
    L fuel { columns := natsGo cols, rows := old ++ [rowGoW cols.length (List.replicate i c)] }
        (rowGoW cols.length (List.replicate i c)) (i : Int)
      = Outcome.ok ({ columns := natsGo cols, rows := old ++ [rowGoW cols.length (List.replicate cols.length c)] },
          rowGoW cols.length (List.replicate cols.length c), (cols.length : Int)) := by
  subst hkey
  intro fuel i hi hf
  have hW : ∀ rows, table.Table.Width { columns := natsGo cols, rows := rows } = (cols.length : Int) := by
    intro rows; simp [table.Table.Width]
  -- after `k` rounds the last row (and the loop's copy of it) has `i + k` cells
  refine countUpNat (fun fuel (s : table.Table × table.Row) j => L fuel s.1 s.2 j)
    (fun k => ({ columns := natsGo cols, rows := old ++ [rowGoW cols.length (List.replicate (i + k) c)] },
      rowGoW cols.length (List.replicate (i + k) c))) i cols.length _ ?_ ?_ hi (_, _) rfl fuel hf
  · intro fuel k _ hl
    show L _ _ _ _ = L _ _ _ _
    rw [hL]
    simp only [hW, hl, decide_true, if_true, addCell_agrees, set_last, ← List.replicate_succ', Nat.add_assoc]
  · rw [Nat.add_sub_of_le hi]
    intro hl fuel
    show L _ _ _ _ = _
    rw [hL]
    simp only [hW, hl, decide_false, Bool.false_eq_true, if_false]

theorem fillRow_agrees (c : Table.Cell)
    (L : Nat → Nat → table.Table → table.Row → Int → Outcome (table.Table × table.Row × Int))
    (hL : ∀ (cols : List Nat) (old : List table.Row) (fuel i : Nat), i ≤ cols.length → cols.length - i ≤ fuel →
      L old.length fuel { columns := natsGo cols, rows := old ++ [rowGoW cols.length (List.replicate i c)] }
          (rowGoW cols.length (List.replicate i c)) (i : Int)
        = Outcome.ok ({ columns := natsGo cols, rows := old ++ [rowGoW cols.length (List.replicate cols.length c)] },
            rowGoW cols.length (List.replicate cols.length c), (cols.length : Int)))
    (t : Table.Table) :
    Outcome.bind (table.Table.AddRow (tableGo t)) (fun t1 =>
        Outcome.bind (L (t1.1.rows.length - 1) (fuelLt 0 (table.Table.Width t1.1)) t1.1 t1.2 0) (fun st5 => Outcome.ok st5.1))
      = Outcome.ok (tableGo { t with rows := t.rows ++ [List.replicate t.width c] }) := by
  obtain ⟨cols, rows⟩ := t
  simp only [AddRow_agrees, Outcome.bind]
  have h1 : tableGo (Table.Table.addRow ⟨cols, rows⟩)
      = { columns := natsGo cols, rows := rows.map (rowGoW cols.length) ++ [rowGoW cols.length (List.replicate 0 c)] } := by
    simp [tableGo, Table.Table.addRow, Table.Table.width, natsGo]
  have hw : (Table.Table.mk cols rows).width = cols.length := rfl
  simp only [h1, hw, List.length_append, List.length_map, List.length_cons, List.length_nil, Nat.add_sub_cancel]
  have hl := hL cols (rows.map (rowGoW cols.length)) (fuelLt 0 (cols.length : Int)) 0 (by omega) (by simp [fuelLt])
  simp only [List.length_map, List.replicate_zero, Int.natCast_zero] at hl
  have hW : table.Table.Width { columns := natsGo cols, rows := rows.map (rowGoW cols.length) ++ [rowGoW cols.length []] } = (cols.length : Int) := by
    simp [table.Table.Width]
  simp only [List.replicate_zero, hW, hl]
  simp [tableGo, Table.Table.width, natsGo]

/-- the loop of `AddSeparatorRow` from `i` separators on -/
theorem AddSeparatorRow_loop (cols : List Nat) (old : List table.Row) : ∀ (fuel : Nat) (i : Nat), i ≤ cols.length → cols.length - i ≤ fuel →
    table.Table.AddSeparatorRow.loop1 old.length fuel
        { columns := natsGo cols, rows := old ++ [rowGoW cols.length (List.replicate i .sep)] }
        (rowGoW cols.length (List.replicate i .sep)) (i : Int)
      = Outcome.ok ({ columns := natsGo cols, rows := old ++ [rowGoW cols.length (List.replicate cols.length .sep)] },
          rowGoW cols.length (List.replicate cols.length .sep), (cols.length : Int)) :=
  fillRow_loop .sep old.length (table.Table.AddSeparatorRow.loop1 old.length)
    (fun fuel t r i => by rw [table.Table.AddSeparatorRow.loop1.eq_def]; rfl) cols old rfl

theorem AddSeparatorRow_agrees (t : Table.Table) :
    table.Table.AddSeparatorRow (tableGo t) = Outcome.ok (tableGo t.addSeparatorRow) :=
  fillRow_agrees .sep _ AddSeparatorRow_loop t

/-- the loop of `AddEmptyRow` from `i` empty cells on -/
theorem AddEmptyRow_loop (cols : List Nat) (old : List table.Row) : ∀ (fuel : Nat) (i : Nat), i ≤ cols.length → cols.length - i ≤ fuel →
    table.Table.AddEmptyRow.loop1 old.length fuel
        { columns := natsGo cols, rows := old ++ [rowGoW cols.length (List.replicate i .empty)] }
        (rowGoW cols.length (List.replicate i .empty)) (i : Int)
      = Outcome.ok ({ columns := natsGo cols, rows := old ++ [rowGoW cols.length (List.replicate cols.length .empty)] },
          rowGoW cols.length (List.replicate cols.length .empty), (cols.length : Int)) :=
  fillRow_loop .empty old.length (table.Table.AddEmptyRow.loop1 old.length)
    (fun fuel t r i => by rw [table.Table.AddEmptyRow.loop1.eq_def]; rfl) cols old rfl

theorem AddEmptyRow_agrees (t : Table.Table) :
    table.Table.AddEmptyRow (tableGo t) = Outcome.ok (tableGo t.addEmptyRow) :=
  fillRow_agrees .empty _ AddEmptyRow_loop t

/-! ## `FillEmpty`: up to `cap(r.cells)` -/

theorem FillEmpty_loop (width : Nat) : ∀ (fuel : Nat) (row : List Table.Cell), row.length ≤ width → width - row.length ≤ fuel →
    table.Row.FillEmpty.loop1 fuel (rowGoW width row) (row.length : Int)
      = Outcome.ok (rowGoW width (row ++ List.replicate (width - row.length) .empty), (width : Int)) := by
  intro fuel row h hf
  have hcap : ∀ k, row.length + k ≤ width →
      Slices.capE (rowGoW width (row ++ List.replicate k .empty)).cells_cap = Outcome.ok (width : Int) := by
    intro k hk; simp [rowGoW, hk, Slices.capE]
  -- after `k` rounds the row has `k` more empty cells; it still fits, so its capacity is the width
  refine countUpNat table.Row.FillEmpty.loop1 (fun k => rowGoW width (row ++ List.replicate k .empty)) row.length width _
    ?_ ?_ h _ (by rw [List.replicate_zero, List.append_nil]) fuel hf
  · intro fuel k hk hl
    rw [table.Row.FillEmpty.loop1]
    simp only [hcap k (Nat.le_of_lt hk), Outcome.bind, hl, decide_true, if_true, AddEmpty_agrees, List.replicate_succ', List.append_assoc]
  · intro hl fuel
    unfold table.Row.FillEmpty.loop1
    simp only [hcap (width - row.length) (Nat.le_of_eq (Nat.add_sub_of_le h)), Outcome.bind, hl, decide_false, Bool.false_eq_true, if_false]

/-- `Row.FillEmpty` of a row that fits: empty cells up to the width of its table (its capacity) -/
theorem FillEmpty_agrees (width : Nat) (row : List Table.Cell) (h : row.length ≤ width) :
    table.Row.FillEmpty (rowGoW width row)
      = Outcome.ok (rowGoW width (row ++ List.replicate (width - row.length) .empty)) := by
  unfold table.Row.FillEmpty
  have hcap : Slices.capE (rowGoW width row).cells_cap = Outcome.ok (width : Int) := by simp [rowGoW, h, Slices.capE]
  have hlen : len (rowGoW width row).cells = (row.length : Int) := by simp [rowGoW]
  simp only [hcap, hlen, Outcome.bind]
  rw [FillEmpty_loop width (fuelLt (row.length : Int) (width : Int)) row h (by simp [fuelLt])]

/-- a row that has outgrown its table: `append` has reallocated it, its capacity is the runtime's: nothing is claimed (the model's
`fillEmpty` answers `none`) -/
theorem FillEmpty_unknown (width : Nat) (row : List Table.Cell) (h : width < row.length) :
    table.Row.FillEmpty (rowGoW width row) = Outcome.panic Slices.capUnknown := by
  unfold table.Row.FillEmpty
  have : ¬ row.length ≤ width := by omega
  simp [rowGoW, this, Slices.capE, Outcome.bind]

end Knut.FactsAgree.TransTableRender
