import Knut.FactsAgree.TransTableRender
import Knut.GoSem.Csv
import Knut.Proofs.GoSem
/-!
# The translated `CSVRenderer.Render` writes exactly the model's CSV text (`Table.renderCSV`)

`csv.go`: per row the cells are rendered (`CSVRenderer.renderCell`: separators and empty cells are `""`, text cells their content,
numbers `Decimal.String`), a row all of whose fields are empty is skipped, the others are handed to an `encoding/csv.Writer`
(prelude `GoSem/Csv.lean`: the line of a record is the model's `csvLine`; `Flush` at the end passes everything to the sink;
the `return writer.Error()` after it — the sticky error of the buffered writer — is `none` over the in-memory sink).
The `if err != nil { return err }` branches are translated and dead: a cell of the closed sum always renders, the csv writer over an
in-memory sink does not fail.  The model has no percent cells, so the float formatter `ff` is arbitrary.
-/
namespace Knut.FactsAgree.TransTableRender
open Knut Knut.GoSem
open Knut.Generated.Go

theorem csv_renderCell_agrees (cr : table.CSVRenderer) (c : Table.Cell) (ff : Fmt.FloatFmt) :
    table.CSVRenderer.renderCell cr (cellGo c) ff = (String.ofList (Table.csvCell c), none) := by
  cases c <;> simp [table.CSVRenderer.renderCell, cellGo, Table.csvCell]

/-- the fields `CSVRenderer.renderCell` makes of a row, as Go strings -/
def fieldsGo (row : List Table.Cell) : List String := row.map (fun c => String.ofList (Table.csvCell c))

theorem csv_range2_agrees (cr : table.CSVRenderer) (ff : Fmt.FloatFmt) (wr : Csv.Writer) (row : table.Row) :
    ∀ (cs : List Table.Cell) (acc : List String),
      table.CSVRenderer.Render.range2 ff cr wr row (cs.map cellGo) acc = Outcome.ok (Flow.next (acc ++ fieldsGo cs)) := by
  intro cs
  induction cs with
  | nil => intro acc; simp [table.CSVRenderer.Render.range2, fieldsGo]
  | cons c cs ih =>
    intro acc
    rw [List.map_cons, table.CSVRenderer.Render.range2]
    simp only [csv_renderCell_agrees, Option.isSome_none, Bool.false_eq_true, if_false, ih]
    simp [fieldsGo]

theorem byteLen_pos (s : String) : decide (Strings.byteLen s > 0) = !s.toList.isEmpty :=
  GoSem.byteLen_pos s

theorem csv_range3_agrees (r0 : List String) : ∀ (items : List String) (ht : Bool),
    table.CSVRenderer.Render.range3 r0 items ht = Outcome.ok (ht || items.any (fun s => !s.toList.isEmpty)) := by
  intro items
  induction items with
  | nil => intro ht; simp [table.CSVRenderer.Render.range3]
  | cons s items ih =>
    intro ht
    rw [table.CSVRenderer.Render.range3]
    simp only [byteLen_pos, ih, List.any_cons]
    cases s.toList.isEmpty <;> simp

/-- the records of `Table.csvRecords` for a list of rows (the same body, on `rows`): the rows with a non-empty field -/
def recordsOf (rows : List (List Table.Cell)) : List (List (List Char)) :=
  (rows.map (fun row => row.map Table.csvCell)).filter (fun r => r.any (fun f => !f.isEmpty))

theorem fieldsGo_toList (row : List Table.Cell) : (fieldsGo row).map String.toList = row.map Table.csvCell := by
  simp [fieldsGo, Function.comp_def]

theorem fieldsGo_any (row : List Table.Cell) :
    (fieldsGo row).any (fun s => !s.toList.isEmpty) = (row.map Table.csvCell).any (fun f => !f.isEmpty) := by
  simp [fieldsGo, List.any_map, Function.comp_def]

theorem csv_range1_agrees (cr : table.CSVRenderer) (ff : Fmt.FloatFmt) (t : table.Table) : ∀ (rows : List (List Table.Cell))
    (Rs : List table.Row) (wr : Csv.Writer), RowsRel Rs rows →
    table.CSVRenderer.Render.range1 ff cr t Rs wr
      = Outcome.ok (Flow.next { wr with pending := wr.pending ++ String.ofList ((recordsOf rows).flatMap Table.csvLine) }) := by
  intro rows Rs wr h
  replace h := rowsRel_iff.mp h
  induction h generalizing wr with
  | nil => simp [table.CSVRenderer.Render.range1, recordsOf]
  | @cons R row Rs rows hc _ ih =>
    rw [table.CSVRenderer.Render.range1]
    have hc : R.cells = row.map cellGo := hc
    have h2 := csv_range2_agrees cr ff wr R row []
    simp only [List.nil_append] at h2
    simp only [hc, zero_list, zero_bool, h2, Outcome.bind, csv_range3_agrees, Bool.false_or, fieldsGo_any]
    have hrec : recordsOf (row :: rows)
        = if (row.map Table.csvCell).any (fun f => !f.isEmpty) then row.map Table.csvCell :: recordsOf rows else recordsOf rows := by
      simp only [recordsOf, List.map_cons, List.filter_cons]
    rw [hrec]
    by_cases ht : (row.map Table.csvCell).any (fun f => !f.isEmpty) = true
    · simp only [ht, Bool.not_true, Bool.false_eq_true, if_false, if_true, Csv.Writer.Write, Option.isSome_none, ih]
      congr 2
      simp only [Csv.line, fieldsGo_toList, List.flatMap_cons]
      rw [String.append_assoc, ← ofList_append]
    · simp only [ht, Bool.not_false, if_true, if_false, ih, Bool.false_eq_true]

/-- **`CSVRenderer.Render` = `Table.renderCSV`**: on a writer that holds `w` the translation returns `w ++ renderCSV t`, no error,
never a panic — for every Go table that stands for the model table -/
theorem CSV_Render_agrees_rel (cr : table.CSVRenderer) (T : table.Table) (t : Table.Table) (hT : TableRel T t) (w : String)
    (ff : Fmt.FloatFmt) :
    table.CSVRenderer.Render cr T w ff = Outcome.ok (w ++ String.ofList (Table.renderCSV t), none) := by
  unfold table.CSVRenderer.Render
  simp only [csv_range1_agrees cr ff T t.rows T.rows _ hT.2, Outcome.bind, Csv.NewWriter, Csv.dropped_Flush,
    Csv.Writer.Error]
  rfl

theorem CSV_Render_agrees (cr : table.CSVRenderer) (t : Table.Table) (w : String) (ff : Fmt.FloatFmt) :
    table.CSVRenderer.Render cr (tableGo t) w ff = Outcome.ok (w ++ String.ofList (Table.renderCSV t), none) :=
  CSV_Render_agrees_rel cr (tableGo t) t (tableGo_rel t) w ff

/-- non-vacuity: a quoted field, a number, a skipped separator row -/
example : table.CSVRenderer.Render {} (tableGo ⟨[0, 1], [[.text "a,b".toList .left 0, .num (-5)], [.sep, .sep]]⟩) "" (fun _ _ _ => "")
    = Outcome.ok ("\"a,b\",-5\n", none) := by
  decide +kernel

end Knut.FactsAgree.TransTableRender
