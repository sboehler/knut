import Knut.FactsAgree.TransRender
import Knut.FactsAgree.TransTableBuild
import Knut.FactsAgree.TransTableRender3
import Knut.FactsAgree.TransTableCsv
import Knut.Proofs.StrBytesGo
/-!
# A log of builder calls, executed by the translated functions of package table, builds the table `TransRender.interp` reads

Code outside package table (the balance renderer) is translated with `*table.Table` as the LOG of the calls made on it
(`trans_builder.go`), and `TransRender.step` / `interp` is the hand-written reading of a log with the model's table.  This module
ties that reading to the translated builder functions: `exec` runs one call with the translated function of the same name — a call
on row number `r` runs the `Row` method on the element of `t.rows` that the `r`-th `AddRow` appended and writes it back, as the
translator does for the pointer `AddRow` returns.

Hypothesis `AlignOK`: `AddText` is called with `Left`, `Right` or `Center` (`step` reads every other alignment as `Center`; the Go
code keeps the number).  `WF`: the rows handed out exist (true of the empty log, and `exec_step` re-establishes it after every call).
-/
namespace Knut.FactsAgree.TransTableLog
open Knut Knut.GoSem
open Knut.Generated.Go
open Knut.Table (Cell Align)
open Knut.FactsAgree.TransRender (TS TC step interp alignOf)
open Knut.FactsAgree.TransTableRender

/-- the Go side: the table and, per `AddRow` call, the position of its row in `t.rows` -/
structure GS where
  T : table.Table
  own : List Nat

def noRow : String := "call on a row that was not handed out"

/-- a call on row number `r`: the method runs on the element of `t.rows` the row pointer points to; written back -/
def onRow (g : GS) (r : Nat) (f : table.Row → GoSem.Outcome table.Row) : GoSem.Outcome GS :=
  match g.own[r]? with
  | some pos =>
    match g.T.rows[pos]? with
    | some row => (f row).bind (fun row' => GoSem.Outcome.ok { g with T := { g.T with rows := g.T.rows.set pos row' } })
    | none => GoSem.Outcome.panic noRow
  | none => GoSem.Outcome.panic noRow

/-- one builder call, run by the translated function of the same name -/
def exec (g : GS) : TC → GoSem.Outcome GS
  | .New gs => (table.New gs).bind (fun T => GoSem.Outcome.ok ⟨T, []⟩)
  | .AddRow => (table.Table.AddRow g.T).bind (fun r => GoSem.Outcome.ok ⟨r.1, g.own ++ [g.T.rows.length]⟩)
  | .AddSeparatorRow => (table.Table.AddSeparatorRow g.T).bind (fun T => GoSem.Outcome.ok { g with T := T })
  | .AddEmptyRow => (table.Table.AddEmptyRow g.T).bind (fun T => GoSem.Outcome.ok { g with T := T })
  | .Row_AddEmpty r => onRow g r (fun row => GoSem.Outcome.ok (table.Row.AddEmpty row).1)
  | .Row_AddText r c a => onRow g r (fun row => GoSem.Outcome.ok (table.Row.AddText row c a).1)
  | .Row_AddIndented r c i => onRow g r (fun row => GoSem.Outcome.ok (table.Row.AddIndented row c i).1)
  | .Row_AddDecimal r n => onRow g r (fun row => GoSem.Outcome.ok (table.Row.AddDecimal row n).1)
  | .Row_AddPercent r n => onRow g r (fun row => GoSem.Outcome.ok (table.Row.AddPercent row n).1)
  | .Row_FillEmpty r => onRow g r table.Row.FillEmpty

/-- the Go side of a state of the reading: the Go table of its table, the same row positions -/
def gsOf (s : TS) : GS := ⟨tableGo s.tbl, s.own⟩

/-- the rows handed out exist -/
def WF (s : TS) : Prop := ∀ p ∈ s.own, p < s.tbl.rows.length

/-- `AddText` is called with `Left`, `Right` or `Center`: `step` reads every other alignment as `Center`, the Go code keeps the number -/
def AlignOK : TC → Prop
  | .Row_AddText _ _ a => a = 0 ∨ a = 1 ∨ a = 2
  | _ => True

theorem alignGo_alignOf (a : Int) (h : a = 0 ∨ a = 1 ∨ a = 2) : alignGo (alignOf a) = a := by
  rcases h with h | h | h <;> subst h <;> rfl

theorem modify_map_set {α β : Type} (g : α → β) (f : α → α) : ∀ (l : List α) (pos : Nat) (a : α), l[pos]? = some a →
    (l.map g).set pos (g (f a)) = (l.modify pos f).map g := by
  intro l
  induction l with
  | nil => intro pos a h; simp at h
  | cons x xs ih =>
    intro pos a h
    cases pos with
    | zero => simp at h; subst h; simp
    | succ pos => simp at h; simp [List.modify_succ_cons, ih pos a h]

theorem tableGo_with_rows (cols : List Nat) (rows rows' : List (List Cell)) :
    { tableGo ⟨cols, rows⟩ with rows := rows'.map (rowGoW cols.length) } = tableGo ⟨cols, rows'⟩ := rfl

theorem onRow_modify (s : TS) (r pos : Nat) (h : List Cell → List Cell) (f : table.Row → GoSem.Outcome table.Row)
    (ho : s.own[r]? = some pos) (hp : pos < s.tbl.rows.length)
    (hf : f (rowGoW s.tbl.width (s.tbl.rows[pos]'hp)) = GoSem.Outcome.ok (rowGoW s.tbl.width (h (s.tbl.rows[pos]'hp)))) :
    onRow (gsOf s) r f = GoSem.Outcome.ok ⟨tableGo { s.tbl with rows := s.tbl.rows.modify pos h }, s.own⟩ := by
  obtain ⟨⟨cols, rows⟩, own, ok⟩ := s
  have hw : (Table.Table.mk cols rows).width = cols.length := rfl
  simp only [hw] at hf
  have hrow : (tableGo ⟨cols, rows⟩).rows[pos]? = some (rowGoW cols.length rows[pos]) := by
    simp [tableGo, Table.Table.width, hp]
  have hmod := modify_map_set (rowGoW cols.length) h rows pos rows[pos] (by simp [hp])
  simp only [onRow, gsOf, ho, hrow, hf, GoSem.Outcome.bind]
  simp only [tableGo, Table.Table.width, hmod]

theorem addCell_ok_mono (s : TS) (r : Nat) (c : Cell) (h : (TransRender.addCell s r c).ok = true) : s.ok = true := by
  unfold TransRender.addCell at h
  split at h
  · exact h
  · cases h

theorem step_ok_mono (s : TS) (c : TC) (h : (step s c).ok = true) : s.ok = true := by
  cases c with
  | New _ | AddRow | AddSeparatorRow | AddEmptyRow => exact h
  | Row_AddEmpty _ | Row_AddText _ _ _ | Row_AddIndented _ _ _ | Row_AddDecimal _ _ => exact addCell_ok_mono s _ _ h
  | Row_AddPercent _ _ => cases h
  | Row_FillEmpty r =>
    simp only [step] at h
    split at h
    · split at h
      · split at h
        · exact h
        · cases h
      · cases h
    · cases h

theorem wf_modify (s : TS) (pos : Nat) (h : List Cell → List Cell) (hwf : WF s) :
    WF { s with tbl := { s.tbl with rows := s.tbl.rows.modify pos h } } := by
  intro p hp
  simp only [List.length_modify]
  exact hwf p hp

/-- a cell-adding call: the row exists (else `step` gives up), the translated method appends the cell to ITS row -/
theorem exec_addCell (s : TS) (r : Nat) (c : Cell) (f : table.Row → GoSem.Outcome table.Row) (hwf : WF s)
    (hok : (TransRender.addCell s r c).ok = true) (hs : s.ok = true)
    (hf : ∀ row : List Cell, f (rowGoW s.tbl.width row) = GoSem.Outcome.ok (rowGoW s.tbl.width (row ++ [c]))) :
    onRow (gsOf s) r f = GoSem.Outcome.ok (gsOf (TransRender.addCell s r c)) ∧ WF (TransRender.addCell s r c) := by
  unfold TransRender.addCell at hok ⊢
  cases ho : s.own[r]? with
  | none => simp [ho] at hok
  | some pos =>
    have hp : pos < s.tbl.rows.length := hwf pos (List.mem_of_getElem? ho)
    simp only [ho]
    exact ⟨onRow_modify s r pos (· ++ [c]) f ho hp (hf _), wf_modify s pos _ hwf⟩

/-- from the Go table of a model state, a call that has a meaning in the model takes the translated functions to the Go table of
`step`'s state -/
theorem exec_step (s : TS) (c : TC) (hwf : WF s) (ha : AlignOK c) (hok : (step s c).ok = true) :
    exec (gsOf s) c = GoSem.Outcome.ok (gsOf (step s c)) ∧ WF (step s c) := by
  have hs : s.ok = true := step_ok_mono s c hok
  cases c with
  | New gs =>
    refine ⟨?_, ?_⟩
    · simp [exec, gsOf, step, New_agrees, GoSem.Outcome.bind]
    · intro p hp; simp [step] at hp
  | AddRow =>
    refine ⟨?_, ?_⟩
    · simp only [exec, gsOf, step, AddRow_agrees, GoSem.Outcome.bind]
      simp [tableGo, Table.Table.addRow]
    · intro p hp
      simp only [step, List.mem_append, List.mem_singleton, List.length_append, List.length_cons, List.length_nil] at hp ⊢
      rcases hp with hp | hp
      · have := hwf p hp; omega
      · omega
  | AddSeparatorRow =>
    refine ⟨by simp [exec, gsOf, step, AddSeparatorRow_agrees, GoSem.Outcome.bind], ?_⟩
    intro p hp
    have := hwf p hp
    simp only [step, Table.Table.addSeparatorRow, List.length_append, List.length_cons, List.length_nil]
    omega
  | AddEmptyRow =>
    refine ⟨by simp [exec, gsOf, step, AddEmptyRow_agrees, GoSem.Outcome.bind], ?_⟩
    intro p hp
    have := hwf p hp
    simp only [step, Table.Table.addEmptyRow, List.length_append, List.length_cons, List.length_nil]
    omega
  | Row_AddEmpty r =>
    exact exec_addCell s r .empty _ hwf hok hs (fun row => by simp [AddEmpty_agrees])
  | Row_AddText r c a =>
    have hf : ∀ row : List Cell, GoSem.Outcome.ok (table.Row.AddText (rowGoW s.tbl.width row) c a).1
        = GoSem.Outcome.ok (rowGoW s.tbl.width (row ++ [.text c.toList (alignOf a) 0])) := by
      intro row
      have := AddText_agrees s.tbl.width row c.toList (alignOf a)
      rw [String.ofList_toList, alignGo_alignOf a ha] at this
      rw [this]
    exact exec_addCell s r (.text c.toList (alignOf a) 0) _ hwf hok hs hf
  | Row_AddIndented r c i =>
    have hf : ∀ row : List Cell, GoSem.Outcome.ok (table.Row.AddIndented (rowGoW s.tbl.width row) c i).1
        = GoSem.Outcome.ok (rowGoW s.tbl.width (row ++ [.text c.toList .left i])) := by
      intro row
      have := AddIndented_agrees s.tbl.width row c.toList i
      rw [String.ofList_toList] at this
      rw [this]
    exact exec_addCell s r (.text c.toList .left i) _ hwf hok hs hf
  | Row_AddDecimal r n =>
    exact exec_addCell s r (.num n) _ hwf hok hs (fun row => by simp [AddDecimal_agrees])
  | Row_AddPercent r n => simp [step] at hok
  | Row_FillEmpty r =>
    simp only [step] at hok ⊢
    cases ho : s.own[r]? with
    | none => simp [ho] at hok
    | some pos =>
      have hp : pos < s.tbl.rows.length := hwf pos (List.mem_of_getElem? ho)
      have hrow : s.tbl.rows[pos]? = some (s.tbl.rows[pos]'hp) := by simp [hp]
      simp only [ho, hrow] at hok ⊢
      by_cases hfit : (s.tbl.rows[pos]'hp).length ≤ s.tbl.width
      · simp only [hfit, if_true]
        exact ⟨onRow_modify s r pos _ _ ho hp (FillEmpty_agrees _ _ hfit), wf_modify s pos _ hwf⟩
      · simp [hfit] at hok

/-- a log executed call by call through the translated functions -/
def execLog (g : GS) (log : List TC) : GoSem.Outcome GS := foldlE exec g log

theorem exec_fold : ∀ (log : List TC) (s : TS), WF s → (∀ c ∈ log, AlignOK c) → (log.foldl step s).ok = true →
    execLog (gsOf s) log = GoSem.Outcome.ok (gsOf (log.foldl step s)) ∧ WF (log.foldl step s) := by
  intro log
  induction log with
  | nil => intro s hwf _ _; exact ⟨rfl, hwf⟩
  | cons c log ih =>
    intro s hwf ha hok
    rw [List.foldl_cons] at hok ⊢
    have hmono : ∀ (l : List TC) (s' : TS), (l.foldl step s').ok = true → s'.ok = true := by
      intro l
      induction l with
      | nil => intro s' h; exact h
      | cons x l ihl => intro s' h; exact step_ok_mono s' x (ihl _ h)
    have h1 := exec_step s c hwf (ha c List.mem_cons_self) (hmono log _ hok)
    have h2 := ih (step s c) h1.2 (fun x hx => ha x (List.mem_cons_of_mem _ hx)) hok
    refine ⟨?_, h2.2⟩
    unfold execLog at h2 ⊢
    simp only [foldlE, h1.1, GoSem.Outcome.bind]
    exact h2.1

/-- **a log that `interp` can read is executed by the translated builder functions — without panic, never out of fuel — to the Go
table of the table `interp` builds**, the rows numbered as `interp` numbers them -/
theorem exec_interp (log : List TC) (ha : ∀ c ∈ log, AlignOK c) (hok : (interp log).ok = true) :
    execLog ⟨GoZero.zero, []⟩ log = GoSem.Outcome.ok ⟨tableGo (interp log).tbl, (interp log).own⟩ := by
  have hwf : WF ⟨⟨[], []⟩, [], true⟩ := by intro p hp; simp at hp
  exact (exec_fold log ⟨⟨[], []⟩, [], true⟩ hwf ha hok).1

/-- **end to end**: the calls of a log made through the translated builder functions, then the translated `TextRenderer.Render`:
the text of the model's renderer on the table `interp` reads from the log (the same bytes, the same panic outcomes) -/
theorem log_Render_agrees (log : List TC) (ha : ∀ c ∈ log, AlignOK c) (hok : (interp log).ok = true)
    (tr : table.TextRenderer) (w : String) (cs : Color.State) (ff : Fmt.FloatFmt) (hc : tr.Color = false) :
    (execLog ⟨GoZero.zero, []⟩ log).bind (fun g => table.TextRenderer.Render tr g.T w cs ff)
      = match Table.renderText (rendOf tr) (interp log).tbl with
        | .ok s => GoSem.Outcome.ok ({ tr with table := GoZero.zero }, w ++ String.ofList s, none)
        | .panic _ => GoSem.Outcome.panic idxPanic := by
  rw [exec_interp log ha hok]
  exact Render_agrees tr (interp log).tbl w cs ff hc

theorem log_CSV_agrees (log : List TC) (ha : ∀ c ∈ log, AlignOK c) (hok : (interp log).ok = true)
    (cr : table.CSVRenderer) (w : String) (ff : Fmt.FloatFmt) :
    (execLog ⟨GoZero.zero, []⟩ log).bind (fun g => table.CSVRenderer.Render cr g.T w ff)
      = GoSem.Outcome.ok (w ++ String.ofList (Table.renderCSV (interp log).tbl), none) := by
  rw [exec_interp log ha hok]
  exact CSV_Render_agrees cr (interp log).tbl w ff

/-- non-vacuity: `New(1, 1)`, a row with a name and an amount filled up, a separator row — executed and rendered -/
example : (execLog ⟨GoZero.zero, []⟩ [.New [1, 1], .AddRow, .Row_AddIndented 0 "Assets" 2, .Row_FillEmpty 0, .AddSeparatorRow, .AddRow,
      .Row_AddText 1 "x" 1, .Row_AddDecimal 1 (-5)]).bind
      (fun g => table.TextRenderer.Render ⟨GoZero.zero, false, false, 0⟩ g.T "" ⟨false, false⟩ (fun _ _ _ => ""))
    = GoSem.Outcome.ok (⟨GoZero.zero, false, false, 0⟩, "|   Assets |    |\n+----------+----+\n|        x | -5 |\n\n", none) := by
  apply mid_of_bytes
  decide +kernel

end Knut.FactsAgree.TransTableLog
