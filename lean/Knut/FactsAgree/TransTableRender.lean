import Knut.Generated.TransTable
import Knut.FactsAgree.TransTable
import Knut.Model.Table
import Knut.Proofs.GoSemCountLoop
import Knut.FactsAgree.Pointwise
/-!
# The translated cell functions of `lib/common/table` agree with the model (`Model/Table.lean`)

`Knut/Generated/TransTable.lean` is regenerated from /repo's `table.go` and `renderer.go` on every run.  This module covers the
functions on ONE cell: `cell.isSep` (dynamic dispatch over the closed sum of the cell types), `createSep`, `minLengthCell`,
`padLeft`, `writeString/writeStrings/writeSpace`, `TextRenderer.renderCell`.  The model has no percent cells; Go values are reached from model
values through `cellGo` (which never yields one), so the float formatter `ff` is arbitrary.  The Go values of model values (`cellGo`,
`rowGoW`, `tableGo`) and the relations the renderers and `Properties/C17Go2.lean` are stated with (`RowRel`, `TableRel`) stand here too.

Colour: the theorems about `renderCell` are stated for `st.NoColor = true` (what `Render` sets for `Color: false`): then
`red.Fprintf`/`green.Fprintf` ARE `fmt.Fprintf` (`Color.Fprintf_off`).  Colour on is outside the model.

Number cells: padded on the left by `table.padLeft` (by hand: `utf8.RuneCountInString`, `strings.Repeat`; `fmt` refuses a `%*s` width
beyond 10^6 with `%!(BADWIDTH)`, finding `text-table-badwidth-column-above-1e6-runes`).  `padLeft_agrees`: the helper is the model's
`padLeft` for EVERY width, so `renderCell_agrees` has no bound on the width.
-/
namespace Knut.FactsAgree.TransTableRender
open Knut Knut.GoSem
open Knut.Generated.Go

def alignGo : Table.Align → Int
  | .left => 0
  | .right => 1
  | .center => 2

/-- the Go cell of a model cell: one constructor of the closed sum `cell` per kind, never a percent cell -/
def cellGo : Table.Cell → table.cell
  | .empty => table.cell.emptyCell {}
  | .sep => table.cell.SeparatorCell {}
  | .text s a ind => table.cell.textCell { Content := String.ofList s, Align := alignGo a, Indent := ind }
  | .num n => table.cell.numberCell { n := n }

/-- the Go row of a model row in a table that is `width` columns wide: created by `AddRow` with the capacity `width`, which
`append` keeps while the cells fit; once the row has outgrown it the capacity is unknown (`none`) -/
def rowGoW (width : Nat) (row : List Table.Cell) : table.Row :=
  { cells := row.map cellGo, cells_cap := if row.length ≤ width then some (width : Int) else none }

/-- the Go table the builder methods make of a model table (`TransTableBuild`): every row with the capacity `AddRow` gave it -/
def tableGo (t : Table.Table) : table.Table :=
  { columns := t.columns.map (fun (g : Nat) => (g : Int)), rows := t.rows.map (rowGoW t.width) }

/-- a Go row stands for a model row: the same cells (the renderers do not read the capacity) -/
def RowRel (R : table.Row) (row : List Table.Cell) : Prop := R.cells = row.map cellGo

def RowsRel : List table.Row → List (List Table.Cell) → Prop
  | [], [] => True
  | R :: Rs, row :: rows => RowRel R row ∧ RowsRel Rs rows
  | _, _ => False

/-- a Go table stands for a model table: the same column groups, the same cells (any capacities) -/
def TableRel (T : table.Table) (t : Table.Table) : Prop :=
  T.columns = t.columns.map (fun (g : Nat) => (g : Int)) ∧ RowsRel T.rows t.rows

theorem rowsRel_iff : ∀ {Rs : List table.Row} {rows : List (List Table.Cell)}, RowsRel Rs rows ↔ TransProcess.AllRel RowRel Rs rows
  | [], [] => ⟨fun _ => .nil, fun _ => trivial⟩
  | _ :: _, _ :: _ => ⟨fun h => .cons h.1 (rowsRel_iff.mp h.2), fun h => by cases h with | cons a b => exact ⟨a, rowsRel_iff.mpr b⟩⟩
  | [], _ :: _ => ⟨False.elim, nofun⟩
  | _ :: _, [] => ⟨False.elim, nofun⟩

theorem rowsRel_map (f : List Table.Cell → table.Row) (hf : ∀ row, RowRel (f row) row) (rows : List (List Table.Cell)) :
    RowsRel (rows.map f) rows :=
  rowsRel_iff.mpr (TransProcess.AllRel_map f hf rows)

theorem tableGo_rel (t : Table.Table) : TableRel (tableGo t) t :=
  ⟨rfl, rowsRel_map (rowGoW t.width) (fun _ => rfl) t.rows⟩

/-- the two fields of the Go renderer the model reads (`table` and `Color` are not among them) -/
def rendOf (tr : table.TextRenderer) : Table.Renderer := ⟨tr.Thousands, tr.Round⟩

/-! ## `isSep`, `createSep` -/

theorem isSep_agrees (c : Table.Cell) : table.cell.isSep (cellGo c) = c.isSep := by
  cases c <;> rfl

theorem createSep_agrees (c1 c2 : Table.Cell) :
    table.createSep (cellGo c1) (cellGo c2) = String.ofList (Table.createSep c1 c2) := by
  unfold table.createSep Table.createSep
  rw [isSep_agrees, isSep_agrees]
  cases c1.isSep <;> cases c2.isSep <;> rfl

/-! ## `minLengthCell` -/

theorem minLengthCell_agrees (tr : table.TextRenderer) (c : Table.Cell) (ff : Fmt.FloatFmt) :
    table.TextRenderer.minLengthCell tr (cellGo c) ff = GoSem.Outcome.ok (Table.minLengthCell (rendOf tr) c) := by
  cases c with
  | empty => rfl
  | sep => rfl
  | text s a ind =>
    cases a <;> simp [table.TextRenderer.minLengthCell, cellGo, alignGo, Table.minLengthCell, table.Left]
  | num n =>
    simp only [table.TextRenderer.minLengthCell, cellGo, TransTable.numToString_agrees, GoSem.Outcome.bind,
      Table.minLengthCell, Strings.RuneCount, String.length_ofList, rendOf]

/-! ## `writeString`, `writeStrings`, `writeSpace` -/

theorem writeString_eq (w s : String) : table.writeString w s = (w ++ s, none) := rfl

def rep (s : String) (n : Nat) : String := String.join (List.replicate n s)

theorem rep_succ (s : String) (n : Nat) : rep s (n + 1) = s ++ rep s n := by
  simp [rep, List.replicate_succ, String.join_cons]

theorem rep_zero (s : String) : rep s 0 = "" := rfl

theorem rep_succ' (s : String) (n : Nat) : rep s (n + 1) = rep s n ++ s := by
  induction n with
  | zero => simp [rep_succ, rep_zero]
  | succ n ih => rw [rep_succ s (n + 1), ih, ← String.append_assoc, ← rep_succ s n, ih]

theorem writeStrings_loop (s : String) (l : Int) : ∀ (fuel : Nat) (w : String) (i : Int), 0 ≤ i → (l - i).toNat ≤ fuel →
    table.writeStrings.loop1 s l fuel w i
      = GoSem.Outcome.ok (GoSem.Flow.next (w ++ rep s (l - i).toNat, if i < l then l else i)) := by
  intro fuel w i _ hf
  -- after `k` rounds the writer holds `k` more copies of `s`
  refine countUp (table.writeStrings.loop1 s l) (fun k => w ++ rep s k) i l _ ?_ ?_ w (by simp [rep_zero]) fuel hf
  · intro fuel k hl
    rw [table.writeStrings.loop1]
    simp only [hl, decide_true, if_true, writeString_eq, Option.isSome_none, Bool.false_eq_true, if_false, rep_succ',
      String.append_assoc]
  · intro hl fuel
    unfold table.writeStrings.loop1
    simp only [hl, decide_false, Bool.false_eq_true, if_false]

theorem writeStrings_eq (w s : String) (l : Int) :
    table.writeStrings w s l = GoSem.Outcome.ok (w ++ rep s l.toNat, none) := by
  unfold table.writeStrings
  show (table.writeStrings.loop1 s l (fuelLt 0 l) w 0).bind _ = _
  rw [writeStrings_loop s l (fuelLt 0 l) w 0 (by omega) (by simp [fuelLt])]
  simp [GoSem.Outcome.bind]

theorem rep_char (c : Char) (n : Nat) : rep (String.singleton c) n = String.ofList (List.replicate n c) := by
  induction n with
  | zero => rfl
  | succ n ih =>
    rw [rep_succ, ih, List.replicate_succ]
    apply String.ext
    simp

theorem writeSpace_eq (w : String) (l : Int) :
    table.writeSpace w l = GoSem.Outcome.ok (w ++ String.ofList (Table.spaces l), none) := by
  unfold table.writeSpace
  rw [writeStrings_eq]
  have : (" " : String) = String.singleton ' ' := rfl
  rw [this, rep_char]
  rfl

theorem writeDashes_eq (w : String) (l : Int) :
    table.writeStrings w "-" l = GoSem.Outcome.ok (w ++ String.ofList (Table.dashes l), none) := by
  rw [writeStrings_eq]
  have : ("-" : String) = String.singleton '-' := rfl
  rw [this, rep_char]
  rfl

/-! ## `renderCell` -/

theorem ofList_append (a b : List Char) : String.ofList (a ++ b) = String.ofList a ++ String.ofList b := by
  apply String.ext; simp

/-- `table.padLeft` (blanks put in front by hand up to `l` runes) is the model's `padLeft`, for EVERY width -/
theorem padLeft_agrees (l : Nat) (s : List Char) :
    table.padLeft (String.ofList s) (l : Int) = String.ofList (Table.padLeft l s) := by
  unfold table.padLeft Table.padLeft
  simp only [Strings.RuneCount, String.length_ofList]
  by_cases h : (s.length : Int) < (l : Int)
  · have e : ((l : Int) - (s.length : Int)).toNat = l - s.length := by omega
    have hs : (" " : String) = String.singleton ' ' := rfl
    simp only [h, decide_true, if_true, ofList_append]
    show rep " " _ ++ _ = _
    rw [e, hs, rep_char]
  · have e : l - s.length = 0 := by omega
    simp [h, e]

/-- with colour off the renderer writes exactly the model's characters of the cell, for every width -/
theorem renderCell_agrees (tr : table.TextRenderer) (c : Table.Cell) (l : Nat) (w : String)
    (st : Color.State) (ff : Fmt.FloatFmt) (hst : st.NoColor = true) :
    table.TextRenderer.renderCell tr (cellGo c) (l : Int) w st ff
      = GoSem.Outcome.ok (w ++ String.ofList (Table.renderCell (rendOf tr) c l), none) := by
  cases c with
  | empty =>
    simp only [table.TextRenderer.renderCell, cellGo, writeSpace_eq, GoSem.Outcome.bind, Table.renderCell]
  | sep =>
    simp only [table.TextRenderer.renderCell, cellGo, writeDashes_eq, GoSem.Outcome.bind, Table.renderCell]
  | num n =>
    simp only [table.TextRenderer.renderCell, cellGo, TransTable.numToString_agrees, GoSem.Outcome.bind,
      Color.Fprintf_off _ _ _ _ hst, Writer.Write, Decimal.LessThan, Decimal.Equal, Decimal.GreaterThan, Decimal.Zero,
      Table.renderCell, zero_option]
    have he : table.padLeft "" (l : Int) = String.ofList (Table.padLeft l []) := padLeft_agrees l []
    by_cases h0 : n = 0
    · subst h0
      simp [he]
    · by_cases hlt : n < 0
      · simp [hlt, h0, padLeft_agrees l, rendOf]
      · have hgt : n > 0 := Rat.lt_of_le_of_ne (Rat.not_lt.mp hlt) (fun e => h0 e.symm)
        simp [hlt, h0, hgt, padLeft_agrees l, rendOf]
  | text s a ind =>
    cases a <;>
      simp [table.TextRenderer.renderCell, cellGo, alignGo, table.Left, table.Right, table.Center, writeSpace_eq,
        writeString_eq, GoSem.Outcome.bind, Table.renderCell, String.append_assoc]

end Knut.FactsAgree.TransTableRender
