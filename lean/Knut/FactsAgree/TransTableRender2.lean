import Knut.FactsAgree.TransTableRender
import Knut.Proofs.GoSem
/-!
# The three width passes of the translated `TextRenderer.Render` agree with the model

`Render` computes the column widths in three loops (translated as `foldlE` over the rows / the indexed widths):

1. `widths[i] = max(widths[i], minLengthCell(c))` for every cell — `Table.widthsPass1`; a row with more cells than the table has
   columns indexes `widths` out of range: Go's run-time panic, the model's `none`;
2. `groups[columns[i]] = max(…, widths[i])` in a Go map — `Table.groupWidth` (per group the largest width; lookups of the map);
3. `if w < groups[i] { widths[i] = groups[i] }` — indexed by the COLUMN NUMBER `i`, not by the column's group, exactly as the
   code has it — `Table.widthsPass2`.

The bodies of the three loops are restated here (`cellStep`, `rowStep`, `groupStep`, `widenStep`); `TransTableRender3.Render_unfold`
shows by `rfl` that they are the loop bodies of the generated `TextRenderer.Render`.  Go widths are `int`s, the model's are naturals:
`natsGo`.
-/
namespace Knut.FactsAgree.TransTableRender
open Knut Knut.GoSem
open Knut.Generated.Go

def natsGo (ws : List Nat) : List Int := ws.map (fun (n : Nat) => (n : Int))

@[simp] theorem natsGo_length (ws : List Nat) : (natsGo ws).length = ws.length := by simp [natsGo]
theorem natsGo_append (a b : List Nat) : natsGo (a ++ b) = natsGo a ++ natsGo b := by simp [natsGo]
theorem natsGo_cons (a : Nat) (b : List Nat) : natsGo (a :: b) = (a : Int) :: natsGo b := rfl

theorem natsGo_split (pre : List Nat) (w : Nat) (ws : List Nat) : natsGo (pre ++ w :: ws) = natsGo pre ++ (w : Int) :: natsGo ws := by
  rw [natsGo_append, natsGo_cons]

def idxPanic : String := "runtime error: index out of range"

/-! ## first pass -/

/-- the body of the inner loop `for i, c := range row.cells` of the first pass -/
def cellStep (r : table.TextRenderer) (ff : Fmt.FloatFmt) (widths : List Int) (el : table.cell × Nat) : Outcome (List Int) :=
  let c : table.cell := el.1
  let i : Int := (el.2 : Int)
  Outcome.bind (index widths i) (fun t9 =>
    Outcome.bind (table.TextRenderer.minLengthCell r c ff) (fun t10 =>
      Outcome.bind (
        if (decide (t9 < t10)) then
          Outcome.bind (table.TextRenderer.minLengthCell r c ff) (fun t12 =>
            Outcome.bind (setIndex widths i t12) (fun t13 =>
              let widths : (List Int) := t13
              Outcome.ok widths))
        else
          Outcome.ok widths) (fun widths =>
        Outcome.ok widths)))

/-- the body of the outer loop `for _, row := range r.table.rows` of the first pass -/
def rowStep (r : table.TextRenderer) (ff : Fmt.FloatFmt) (widths : List Int) (row : table.Row) : Outcome (List Int) :=
  Outcome.bind (foldlE (cellStep r ff) widths (List.zipIdx row.cells)) (fun widths => Outcome.ok widths)

/-- the new width of a column after a cell (the model's `updWidths` at one position) -/
def upd (R : Table.Renderer) (w : Nat) (c : Table.Cell) : Nat :=
  if (w : Int) < Table.minLengthCell R c then (Table.minLengthCell R c).toNat else w

theorem cellStep_ok (tr : table.TextRenderer) (ff : Fmt.FloatFmt) (pre : List Nat) (w : Nat) (ws : List Nat) (c : Table.Cell) :
    cellStep tr ff (natsGo (pre ++ w :: ws)) (cellGo c, pre.length)
      = Outcome.ok (natsGo (pre ++ upd (rendOf tr) w c :: ws)) := by
  unfold cellStep
  simp only [natsGo_split, index_at _ _ _ _ (natsGo_length pre), setIndex_at _ _ _ _ _ (natsGo_length pre), minLengthCell_agrees,
    Outcome.bind]
  unfold upd
  by_cases h : (w : Int) < Table.minLengthCell (rendOf tr) c
  · have h2 : ((Table.minLengthCell (rendOf tr) c).toNat : Int) = Table.minLengthCell (rendOf tr) c := by omega
    simp only [h, decide_true, if_true, h2]
  · simp only [h, decide_false, Bool.false_eq_true, if_false]

theorem cellStep_panic (tr : table.TextRenderer) (ff : Fmt.FloatFmt) (pre : List Nat) (c : table.cell) :
    cellStep tr ff (natsGo pre) (c, pre.length) = Outcome.panic idxPanic := by
  unfold cellStep
  simp only [index_end _ _ (natsGo_length pre), Outcome.bind, idxPanic]

theorem foldlE_ok {σ α : Type} (f : σ → α → Outcome σ) (s s' : σ) (x : α) (rest : List α)
    (h : f s x = Outcome.ok s') : foldlE f s (x :: rest) = foldlE f s' rest :=
  foldlE_cons_ok f s s' x rest h

/-- the inner loop from position `|pre|` on is the model's `updWidths` on the remaining widths -/
theorem cells_fold (tr : table.TextRenderer) (ff : Fmt.FloatFmt) : ∀ (cs : List Table.Cell) (pre ws : List Nat),
    foldlE (cellStep tr ff) (natsGo (pre ++ ws)) (List.zipIdx (cs.map cellGo) pre.length)
      = match Table.updWidths (rendOf tr) ws cs with
        | some ws' => Outcome.ok (natsGo (pre ++ ws'))
        | none => Outcome.panic idxPanic := by
  intro cs
  induction cs with
  | nil => intro pre ws; simp [foldlE, Table.updWidths]
  | cons c cs ih =>
    intro pre ws
    rw [List.map_cons, List.zipIdx_cons]
    cases ws with
    | nil =>
      rw [List.append_nil, foldlE_cons_panic _ idxPanic _ _ _ (cellStep_panic tr ff pre (cellGo c))]
      simp [Table.updWidths]
    | cons w ws =>
      rw [foldlE_ok _ _ _ _ _ (cellStep_ok tr ff pre w ws c)]
      have e : pre ++ upd (rendOf tr) w c :: ws = (pre ++ [upd (rendOf tr) w c]) ++ ws := by simp
      have hl : pre.length + 1 = (pre ++ [upd (rendOf tr) w c]).length := by simp
      rw [e, hl, ih (pre ++ [upd (rendOf tr) w c]) ws]
      simp only [Table.updWidths]
      cases Table.updWidths (rendOf tr) ws cs with
      | none => rfl
      | some t => simp [upd]

theorem rowStep_agrees (tr : table.TextRenderer) (ff : Fmt.FloatFmt) (ws : List Nat) (R : table.Row) (row : List Table.Cell)
    (hR : RowRel R row) :
    rowStep tr ff (natsGo ws) R
      = match Table.updWidths (rendOf tr) ws row with
        | some ws' => Outcome.ok (natsGo ws')
        | none => Outcome.panic idxPanic := by
  unfold rowStep
  rw [hR]
  have := cells_fold tr ff row [] ws
  simp only [List.nil_append, List.length_nil] at this
  rw [this]
  cases Table.updWidths (rendOf tr) ws row <;> rfl

/-- the first pass over all rows is `widthsPass1` -/
theorem pass1_agrees (tr : table.TextRenderer) (ff : Fmt.FloatFmt) : ∀ (rows : List (List Table.Cell)) (Rs : List table.Row) (ws : List Nat),
    RowsRel Rs rows →
    foldlE (rowStep tr ff) (natsGo ws) Rs
      = match Table.widthsPass1 (rendOf tr) ws rows with
        | some ws' => Outcome.ok (natsGo ws')
        | none => Outcome.panic idxPanic := by
  intro rows Rs ws h
  replace h := rowsRel_iff.mp h
  induction h generalizing ws with
  | nil => simp [foldlE, Table.widthsPass1]
  | @cons R row Rs rows hR _ ih =>
    simp only [Table.widthsPass1]
    have hr := rowStep_agrees tr ff ws R row hR
    cases hu : Table.updWidths (rendOf tr) ws row with
    | none =>
      rw [hu] at hr
      exact foldlE_cons_panic _ _ _ _ _ hr
    | some ws' =>
      rw [hu] at hr
      rw [foldlE_ok _ _ _ _ _ hr]
      exact ih ws'

/-! ## second pass -/

/-- the body of the loop `for i, w := range widths` that fills the map `groups` -/
def groupStep (cols : List Int) (groups : AMap Int Int) (el : Int × Nat) : Outcome (AMap Int Int) :=
  let w_1 : Int := el.1
  let i_1 : Int := (el.2 : Int)
  Outcome.bind (index cols i_1) (fun t17 =>
    Outcome.bind (
      if (decide ((AMap.get groups t17 (GoZero.zero : Int)) < w_1)) then
        Outcome.bind (index cols i_1) (fun t19 =>
          let groups : (AMap Int Int) := (AMap.set groups t19 w_1)
          Outcome.ok groups)
      else
        Outcome.ok groups) (fun groups =>
      Outcome.ok groups))

/-- the Go map `groups` read at the natural keys is the function `f` -/
def GRel (gm : AMap Int Int) (f : Nat → Nat) : Prop := ∀ g : Nat, AMap.get gm (g : Int) 0 = (f g : Int)

/-- one step of the model's `groupWidth` fold -/
def gstep (g : Nat) (acc : Nat) (cw : Nat × Nat) : Nat := if cw.1 = g ∧ acc < cw.2 then cw.2 else acc

theorem groupStep_ok (cpre : List Nat) (col : Nat) (crest : List Nat) (gm : AMap Int Int) (f : Nat → Nat) (h : GRel gm f) (w : Nat) :
    ∃ gm', groupStep (natsGo (cpre ++ col :: crest)) gm ((w : Int), cpre.length) = Outcome.ok gm' ∧
      GRel gm' (fun g => gstep g (f g) (col, w)) := by
  unfold groupStep
  simp only [natsGo_split, index_at _ _ _ _ (natsGo_length cpre), Outcome.bind, zero_int]
  simp only [h col]
  by_cases hlt : (f col : Int) < (w : Int)
  · refine ⟨AMap.set gm (col : Int) (w : Int), by simp [hlt], ?_⟩
    intro g
    rw [AMap.get_set]
    unfold gstep
    by_cases e : col = g
    · subst e
      have : f col < w := by omega
      simp [this]
    · have e' : ¬ ((col : Int) = (g : Int)) := by omega
      simp [e, e', h g]
  · refine ⟨gm, by simp [hlt], ?_⟩
    intro g
    unfold gstep
    by_cases e : col = g
    · subst e
      have : ¬ f col < w := by omega
      simp [this, h col]
    · simp [e, h g]

/-- the second pass from position `|cpre|` on: the map read at `g` is the model's fold over the remaining (column, width) pairs -/
theorem groups_fold : ∀ (ws crest cpre : List Nat) (gm : AMap Int Int) (f : Nat → Nat), GRel gm f → ws.length ≤ crest.length →
    ∃ gm', foldlE (groupStep (natsGo (cpre ++ crest))) gm (List.zipIdx (natsGo ws) cpre.length) = Outcome.ok gm' ∧
      GRel gm' (fun g => (crest.zip ws).foldl (gstep g) (f g)) := by
  intro ws
  induction ws with
  | nil => intro crest cpre gm f h _; exact ⟨gm, by simp [foldlE, natsGo], by simpa using h⟩
  | cons w ws ih =>
    intro crest cpre gm f h hl
    cases crest with
    | nil => simp at hl
    | cons col crest =>
      obtain ⟨gm1, h1, hr1⟩ := groupStep_ok cpre col crest gm f h w
      rw [natsGo_cons, List.zipIdx_cons, foldlE_ok _ _ _ _ _ h1]
      have e : cpre ++ col :: crest = (cpre ++ [col]) ++ crest := by simp
      have hl' : cpre.length + 1 = (cpre ++ [col]).length := by simp
      rw [e, hl']
      obtain ⟨gm2, h2, hr2⟩ := ih crest (cpre ++ [col]) gm1 _ hr1 (by simpa using hl)
      exact ⟨gm2, h2, by simpa [List.zip_cons_cons, List.foldl_cons] using hr2⟩

theorem groupWidth_eq (cols ws : List Nat) (g : Nat) :
    Table.groupWidth cols ws g = (cols.zip ws).foldl (gstep g) 0 := rfl

theorem pass2_agrees (cols ws : List Nat) (hl : ws.length ≤ cols.length) :
    ∃ gm, foldlE (groupStep (natsGo cols)) ([] : AMap Int Int) (List.zipIdx (natsGo ws)) = Outcome.ok gm ∧
      GRel gm (Table.groupWidth cols ws) := by
  have h0 : GRel ([] : AMap Int Int) (fun _ => 0) := by intro g; rfl
  obtain ⟨gm, h1, h2⟩ := groups_fold ws cols [] [] _ h0 hl
  exact ⟨gm, by simpa using h1, h2⟩

/-! ## third pass -/

/-- the body of the loop `for i, w := range widths` that widens the columns -/
def widenStep (groups : AMap Int Int) (widths : List Int) (el : Int × Nat) : Outcome (List Int) :=
  let w_2 : Int := el.1
  let i_2 : Int := (el.2 : Int)
  Outcome.bind (
    if (decide (w_2 < (AMap.get groups i_2 (GoZero.zero : Int)))) then
      Outcome.bind (setIndex widths i_2 (AMap.get groups i_2 (GoZero.zero : Int))) (fun t25 =>
        let widths : (List Int) := t25
        Outcome.ok widths)
    else
      Outcome.ok widths) (fun widths =>
    Outcome.ok widths)

def widen (f : Nat → Nat) (wi : Nat × Nat) : Nat := if wi.1 < f wi.2 then f wi.2 else wi.1

theorem widenStep_ok (gm : AMap Int Int) (f : Nat → Nat) (h : GRel gm f) (pre : List Nat) (w : Nat) (rest : List Nat) (v : Nat) :
    widenStep gm (natsGo (pre ++ w :: rest)) ((v : Int), pre.length)
      = Outcome.ok (natsGo (pre ++ (if v < f pre.length then f pre.length else w) :: rest)) := by
  unfold widenStep
  simp only [zero_int, h pre.length, natsGo_split, setIndex_at _ _ _ _ _ (natsGo_length pre), Outcome.bind]
  by_cases hlt : v < f pre.length
  · have : (v : Int) < (f pre.length : Int) := by omega
    simp only [hlt, this, decide_true, if_true]
  · have : ¬ (v : Int) < (f pre.length : Int) := by omega
    simp only [hlt, this, decide_false, Bool.false_eq_true, if_false]

/-- the third pass from position `|pre|` on (the loop ranges over the widths as they were, and writes position `i` only) -/
theorem widen_fold (gm : AMap Int Int) (f : Nat → Nat) (h : GRel gm f) : ∀ (rest pre : List Nat),
    foldlE (widenStep gm) (natsGo (pre ++ rest)) (List.zipIdx (natsGo rest) pre.length)
      = Outcome.ok (natsGo (pre ++ (List.zipIdx rest pre.length).map (widen f))) := by
  intro rest
  induction rest with
  | nil => intro pre; simp [foldlE, natsGo]
  | cons w rest ih =>
    intro pre
    rw [natsGo_cons, List.zipIdx_cons, foldlE_ok _ _ _ _ _ (widenStep_ok gm f h pre w rest w)]
    have e : ∀ x, pre ++ x :: rest = (pre ++ [x]) ++ rest := by intro x; simp
    have hl : ∀ x, pre.length + 1 = (pre ++ [x]).length := by intro x; simp
    rw [e, hl (if w < f pre.length then f pre.length else w), ih]
    congr 2
    simp [List.zipIdx_cons, widen]

theorem pass3_agrees (gm : AMap Int Int) (cols ws : List Nat) (h : GRel gm (Table.groupWidth cols ws)) :
    foldlE (widenStep gm) (natsGo ws) (List.zipIdx (natsGo ws)) = Outcome.ok (natsGo (Table.widthsPass2 cols ws)) := by
  have := widen_fold gm _ h ws []
  simp only [List.nil_append, List.length_nil] at this
  rw [this]
  rfl

end Knut.FactsAgree.TransTableRender
