import Knut.FactsAgree.TransTableRender2
import Knut.Proofs.TableLayout
/-!
# The translated `TextRenderer.Render` writes exactly the model's text (`Table.renderText`)

The loop over the rows (`Render.range1`) and over the cells of a row (`Render.range2`) against `Table.renderRows` /
`Table.renderCells`; then the whole function: **`Render_agrees_rel`** (every Go table with `TableRel`; `Render_agrees` is its instance
for `tableGo t`).

* Same bytes: on a writer that holds `w`, for the Go table of a model table, `Render` returns `w ++ renderText` and a nil error; the
  renderer comes back with its field `table` reset.
* Same panic outcomes: a row with more cells than the table has columns (`widths[i]` in the first pass) and a row without cells
  (`row.cells[0]`) end in Go's `index out of range` exactly where the model answers `panic`.
* Stated assumption: `Color = false` (colour on is outside the model).  No bound on the widths: the number cells are padded by
  `table.padLeft`, which is the model's `padLeft` for every width (`padLeft_agrees`).
-/
namespace Knut.FactsAgree.TransTableRender
open Knut Knut.GoSem
open Knut.Generated.Go

/-- the loop over the cells from position `|done|` on writes the model's `renderCells` of the remaining cells and widths -/
theorem range2_agrees (tr : table.TextRenderer) (st : Color.State) (ff : Fmt.FloatFmt) (hst : st.NoColor = true)
    (R : table.Row) (row : List Table.Cell) (hR : RowRel R row) (ws : List Nat) :
    ∀ (rest done : List Table.Cell) (wrest wpre : List Nat) (w : String), row = done ++ rest → ws = wpre ++ wrest →
      wpre.length = done.length →
      table.TextRenderer.Render.range2 st ff tr (natsGo ws) R (rest.map cellGo) (done.length : Int) w
        = match Table.renderCells (rendOf tr) rest wrest with
          | some s => Outcome.ok (Flow.next (w ++ String.ofList s))
          | none => Outcome.panic idxPanic := by
  intro rest
  induction rest with
  | nil =>
    intro done wrest wpre w _ _ _
    simp [table.TextRenderer.Render.range2, Table.renderCells]
  | cons c rest ih =>
    intro done wrest wpre w hrow hw hlen
    have hwl : (natsGo wpre).length = done.length := (natsGo_length wpre).trans hlen
    have hdl : ((done.length : Nat) : Int) + 1 = (((done ++ [c]).length : Nat) : Int) := by simp
    rw [List.map_cons]
    unfold table.TextRenderer.Render.range2
    cases wrest with
    | nil =>
      simp only [hw, List.append_nil, index_end _ _ hwl, Outcome.bind, Table.renderCells, idxPanic]
    | cons x wrest =>
      have hws : natsGo ws = natsGo wpre ++ (x : Int) :: natsGo wrest := by rw [hw, natsGo_append]; rfl
      simp only [hws, index_at _ _ _ _ hwl, renderCell_agrees tr c x w st ff hst, Outcome.bind]
      rw [← hws]
      cases rest with
      | nil =>
        have hcells : R.cells = done.map cellGo ++ [cellGo c] := by rw [hR, hrow, List.map_append]; rfl
        simp only [hcells, not_lt_last _ _ _ (List.length_map _), decide_false, Bool.false_eq_true, if_false]
        rw [hdl, ih (done ++ [c]) wrest (wpre ++ [x]) _ (by rw [hrow]; simp) (by rw [hw]; simp) (by simp [hlen])]
        simp [Table.renderCells]
      | cons c' rest =>
        have hcells : R.cells = done.map cellGo ++ cellGo c :: cellGo c' :: rest.map cellGo := by
          rw [hR, hrow, List.map_append]; rfl
        simp only [hcells, lt_last _ _ _ _ _ (List.length_map _), index_at1 _ _ _ _ _ (List.length_map _), decide_true, if_true,
          Writer.Write, Option.isSome_none, Bool.false_eq_true, if_false, createSep_agrees]
        rw [hdl, ih (done ++ [c]) wrest (wpre ++ [x]) _ (by rw [hrow]; simp) (by rw [hw]; simp) (by simp [hlen])]
        simp only [Table.renderCells]
        cases Table.renderCells (rendOf tr) (c' :: rest) wrest with
        | none => rfl
        | some t => simp [String.append_assoc]

theorem getLast_cells (c0 : Table.Cell) (cs : List Table.Cell) :
    index ((c0 :: cs).map cellGo) (len ((c0 :: cs).map cellGo) - 1) = Outcome.ok (cellGo (((c0 :: cs).getLast?).getD c0)) := by
  have hl : (len ((c0 :: cs).map cellGo) - 1).toNat < ((c0 :: cs).map cellGo).length := by simp
  rw [index_ok _ _ (by simp) hl]
  congr 1
  have h1 : (len ((c0 :: cs).map cellGo) - 1).toNat = cs.length := by simp
  simp only [h1, List.getElem_map]
  congr 1
  rw [List.getLast?_eq_getElem?]
  simp

/-- one row: `"| "`/`"+-"`, the cells, `" |\n"`/`"-+\n"` -/
theorem row_agrees (tr : table.TextRenderer) (st : Color.State) (ff : Fmt.FloatFmt) (hst : st.NoColor = true)
    (ws : List Nat) (R : table.Row) (row : List Table.Cell) (hR : RowRel R row)
    (rows : List table.Row) (w : String) :
    table.TextRenderer.Render.range1 st ff tr (natsGo ws) (R :: rows) w
      = match Table.renderRow (rendOf tr) ws row with
        | some l => table.TextRenderer.Render.range1 st ff tr (natsGo ws) rows (w ++ String.ofList (l ++ ['\n']))
        | none => Outcome.panic idxPanic := by
  rw [table.TextRenderer.Render.range1]
  cases row with
  | nil =>
    have : R.cells = [] := hR
    simp [this, index, Outcome.bind, Table.renderRow, idxPanic]
  | cons c0 cs =>
    have hc : R.cells = (c0 :: cs).map cellGo := hR
    have h0 : index R.cells 0 = Outcome.ok (cellGo c0) := by
      simp [hc, index]
    simp only [h0, Outcome.bind, isSep_agrees, Writer.Write, Option.isSome_none, Bool.false_eq_true, if_false]
    have key : ∀ w0 : String,
        table.TextRenderer.Render.range2 st ff tr (natsGo ws) R R.cells 0 w0
          = match Table.renderCells (rendOf tr) (c0 :: cs) ws with
            | some s => Outcome.ok (Flow.next (w0 ++ String.ofList s))
            | none => Outcome.panic idxPanic := by
      intro w0
      have := range2_agrees tr st ff hst R (c0 :: cs) hR ws (c0 :: cs) [] ws [] w0 rfl rfl rfl
      rw [hc]
      simpa using this
    have hlast : index R.cells (len R.cells - 1)
        = Outcome.ok (cellGo (((c0 :: cs).getLast?).getD c0)) := by rw [hc]; exact getLast_cells c0 cs
    simp only [Table.renderRow]
    -- the lead goes into the writer before the cells are looked at: one text with the choice inside
    have hite : ∀ (b : Bool) (w0 x y : String),
        (if b = true then Outcome.ok (Flow.next (w0 ++ x)) else Outcome.ok (Flow.next (w0 ++ y))
          : Outcome (Flow String (table.TextRenderer × String × Option Error)))
          = Outcome.ok (Flow.next (w0 ++ if b then x else y)) := by
      intro b w0 x y; cases b <;> rfl
    simp only [hite, key]
    cases Table.renderCells (rendOf tr) (c0 :: cs) ws with
    | none => rfl
    | some body =>
      simp only [hlast, isSep_agrees]
      congr 1
      cases c0.isSep <;> cases (((c0 :: cs).getLast?).getD c0).isSep <;>
        (apply String.ext; simp [String.append_assoc])

theorem rows_agrees (tr : table.TextRenderer) (st : Color.State) (ff : Fmt.FloatFmt) (hst : st.NoColor = true)
    (ws : List Nat) : ∀ (rows : List (List Table.Cell)) (Rs : List table.Row) (w : String),
    RowsRel Rs rows →
    table.TextRenderer.Render.range1 st ff tr (natsGo ws) Rs w
      = match Table.renderRows (rendOf tr) ws rows with
        | some ls => Outcome.ok (Flow.next (w ++ String.ofList (ls.flatMap (· ++ ['\n']))))
        | none => Outcome.panic idxPanic := by
  intro rows Rs w h
  replace h := rowsRel_iff.mp h
  induction h generalizing w with
  | nil => simp [table.TextRenderer.Render.range1, Table.renderRows]
  | @cons R row Rs rows hR _ ih =>
    rw [row_agrees tr st ff hst ws R row hR]
    simp only [Table.renderRows]
    cases Table.renderRow (rendOf tr) ws row with
    | none => rfl
    | some l =>
      simp only [ih]
      cases Table.renderRows (rendOf tr) ws rows with
      | none => rfl
      | some ls => simp [String.append_assoc]

/-- the generated `Render` is the composition of the three width passes (with the loop bodies restated in
`TransTableRender2`), the loop over the rows and the final newline -/
theorem Render_unfold (r0 : table.TextRenderer) (t : table.Table) (w : String) (cs0 : Color.State) (ff : Fmt.FloatFmt) :
    table.TextRenderer.Render r0 t w cs0 ff =
      (let r : table.TextRenderer := { r0 with table := t }
       let cs : Color.State := { cs0 with NoColor := (!r.Color) }
       Outcome.bind (makeSlice (α := Int) (table.Table.Width r.table)) (fun widths =>
        Outcome.bind (foldlE (rowStep r ff) widths r.table.rows) (fun widths =>
          Outcome.bind (foldlE (groupStep r.table.columns) ([] : AMap Int Int) (List.zipIdx widths)) (fun groups =>
            Outcome.bind (foldlE (widenStep groups) widths (List.zipIdx widths)) (fun widths =>
              Outcome.bind (table.TextRenderer.Render.range1 cs ff r widths r.table.rows w) (fun r61 =>
                match r61 with
                | Flow.ret v => Outcome.ok v
                | Flow.next st60 =>
                  Outcome.ok ({ r with table := (GoZero.zero : table.Table) }, (Writer.Write st60 "\n").1, (Writer.Write st60 "\n").2.2))))))) := rfl

/-- **`TextRenderer.Render` = `Table.renderText`**: the same bytes, the same panic outcomes — for every Go table that stands for the
model table (`TableRel`: the same column groups and cells, any capacities) -/
theorem Render_agrees_rel (tr : table.TextRenderer) (T : table.Table) (t : Table.Table) (hT : TableRel T t) (w : String)
    (cs : Color.State) (ff : Fmt.FloatFmt) (hc : tr.Color = false) :
    table.TextRenderer.Render tr T w cs ff
      = match Table.renderText (rendOf tr) t with
        | .ok s => Outcome.ok ({ tr with table := GoZero.zero }, w ++ String.ofList s, none)
        | .panic _ => Outcome.panic idxPanic := by
  rw [Render_unfold]
  have hR : ∀ x : table.Table, rendOf { tr with table := x } = rendOf tr := fun _ => rfl
  have hcols : T.columns = natsGo t.columns := hT.1
  have hm : makeSlice (α := Int) (table.Table.Width T) = Outcome.ok (natsGo (List.replicate t.width 0)) := by
    simp [makeSlice, table.Table.Width, hcols, Table.Table.width, natsGo]
  simp only [hm, Outcome.bind]
  have h1 := pass1_agrees { tr with table := T } ff t.rows T.rows (List.replicate t.width 0) hT.2
  rw [hR] at h1
  simp only [hcols, h1]
  unfold Table.renderText Table.renderLines Table.finalWidths
  cases hp1 : Table.widthsPass1 (rendOf tr) (List.replicate t.width 0) t.rows with
  | none => rfl
  | some ws1 =>
    simp only [hp1]
    have hl1 : ws1.length ≤ t.columns.length := by
      have := Table.widthsPass1_length _ _ _ _ hp1
      simp [Table.Table.width] at this
      omega
    obtain ⟨gm, hg, hrel⟩ := pass2_agrees t.columns ws1 hl1
    simp only [hg, pass3_agrees gm t.columns ws1 hrel]
    have hst : ({ cs with NoColor := !({ tr with table := T } : table.TextRenderer).Color } : Color.State).NoColor = true := by
      simp [hc]
    have h4 := rows_agrees { tr with table := T } _ ff hst (Table.widthsPass2 t.columns ws1) t.rows T.rows w hT.2
    rw [hR] at h4
    simp only [h4]
    cases Table.renderRows (rendOf tr) (Table.widthsPass2 t.columns ws1) t.rows with
    | none => rfl
    | some ls =>
      simp only [Writer.Write, Table.joinLines]
      congr 2
      have : w ++ String.ofList (List.flatMap (fun x => x ++ ['\n']) ls) ++ "\n"
          = w ++ String.ofList (List.flatMap (fun x => x ++ ['\n']) ls ++ ['\n']) := by
        apply String.ext; simp
      rw [this]

/-- `Render_agrees_rel` for the Go table `tableGo t` (what the builder methods make of `t`: `TransTableBuild`) -/
theorem Render_agrees (tr : table.TextRenderer) (t : Table.Table) (w : String) (cs : Color.State) (ff : Fmt.FloatFmt)
    (hc : tr.Color = false) :
    table.TextRenderer.Render tr (tableGo t) w cs ff
      = match Table.renderText (rendOf tr) t with
        | .ok s => Outcome.ok ({ tr with table := GoZero.zero }, w ++ String.ofList s, none)
        | .panic _ => Outcome.panic idxPanic :=
  Render_agrees_rel tr (tableGo t) t (tableGo_rel t) w cs ff hc

/-- non-vacuity: a 2-column table with a separator row, rendered through the translated code -/
example : table.TextRenderer.Render ⟨GoZero.zero, false, false, 2⟩
    (tableGo ⟨[0, 1], [[.text "a".toList .left 0, .num 1234], [.sep, .sep]]⟩) "" ⟨false, false⟩ (fun _ _ _ => "")
    = Outcome.ok (⟨GoZero.zero, false, false, 2⟩, "| a | 1,234.00 |\n+---+----------+\n\n", none) := by
  decide +kernel

end Knut.FactsAgree.TransTableRender
