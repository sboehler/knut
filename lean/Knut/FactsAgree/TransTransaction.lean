import Knut.FactsAgree.TransPosting
import Knut.FactsAgree.Rel
import Knut.FactsAgree.TransDate
import Knut.Model.Accrual
/-!
# The translated `lib/model/transaction` (Compare, Builder.Build, expand) agrees with the model
-/
namespace Knut.FactsAgree.TransTransaction
open Knut Knut.GoSem Knut.JournalPrinter
open Knut.Generated.Go
open Knut.FactsAgree.TransPosting Knut.FactsAgree.TransAccount Knut.FactsAgree.TransDate

/-- a model transaction as the Go value: `psrc` is the `Src` pointer of every posting; `Targets` is nil (`none`) exactly when the
model transaction has no `@performance` annotation (the printer tells a nil slice from an empty one) -/
def txGo (cur : String → Bool) (src : Ref) (psrc : Ref) (t : Knut.Transaction) : transaction.Transaction :=
  { Src := src, Date := t.date, Description := t.description, Postings := t.postings.map (postingGo cur psrc),
    Targets := t.targets.map (fun tg => tg.map (commodityGo cur)) }

theorem replaceChars_quote (cs : List Char) :
    Strings.replaceChars ['"'] ['\''] cs 0 = cs.map (fun c => if c == '"' then '\'' else c) := by
  induction cs with
  | nil => rfl
  | cons c rest ih =>
    by_cases h : c = '"'
    · subst h; simp [Strings.replaceChars, List.isPrefixOf, ih]
    · have h' : ¬ '"' = c := fun e => h e.symm
      simp [Strings.replaceChars, List.isPrefixOf, ih, h, h']

theorem ReplaceAll_quote (s : String) : Strings.ReplaceAll s "\"" "'" = descText s := by
  unfold Strings.ReplaceAll descText
  have : ("\"" : String).isEmpty = false := by decide
  simp only [this, Bool.false_eq_true, if_false]
  have e1 : ("\"" : String).toList = ['"'] := by decide
  have e2 : ("'" : String).toList = ['\''] := by decide
  rw [e1, e2, replaceChars_quote]

/-- `transaction.Builder.Build`: the description's double quotes become single quotes, everything else is copied -/
theorem Builder_Build_agrees (src : Ref) (date : Int) (desc : String) (ps : List posting.Posting)
    (tg : Option (List commodity.Commodity)) :
    transaction.Builder.Build ⟨src, date, desc, ps, tg⟩ = ⟨src, date, descText desc, ps, tg⟩ := by
  simp [transaction.Builder.Build, ReplaceAll_quote]

theorem compare_Time_agrees (a b : Int) : compare.Time a b = ordGo (compare a b) := by
  unfold compare.Time
  rcases Int.lt_trichotomy a b with h | h | h
  · have : a ≠ b := by omega
    simp [h, this, Int.compare_eq_lt.mpr h, ordGo]
  · subst h; simp [ordGo]
  · have h1 : ¬ a < b := by omega
    have : a ≠ b := by omega
    simp [h1, this, Int.compare_eq_gt.mpr h, ordGo]

theorem Compare_loop_done (t u : transaction.Transaction) (fuel : Nat) (i : Int)
    (h : ¬ (i < len t.Postings ∧ i < len u.Postings)) :
    transaction.Compare.loop1 t u fuel i = .ok (.next i) := by
  unfold transaction.Compare.loop1
  rw [if_neg (by simpa only [Bool.and_eq_true, decide_eq_true_eq] using h)]

theorem Compare_loop_step (t u : transaction.Transaction) (fuel : Nat) (i : Int) (a b : posting.Posting)
    (h1 : i < len t.Postings) (h2 : i < len u.Postings) (ha : index t.Postings i = .ok a) (hb : index u.Postings i = .ok b) :
    transaction.Compare.loop1 t u (fuel + 1) i =
      if posting.Compare a b = 0 then transaction.Compare.loop1 t u fuel (i + 1)
      else .ok (.ret (posting.Compare a b)) := by
  rw [transaction.Compare.loop1, if_pos (by simpa only [Bool.and_eq_true, decide_eq_true_eq] using And.intro h1 h2), ha, hb]
  by_cases h : posting.Compare a b = 0 <;> simp [Outcome.bind, h]

theorem cmpPostings_all_eq : ∀ (ps qs : List Knut.Posting),
    (ps.zip qs).all (fun pq => cmpPosting pq.1 pq.2 == .eq) = true →
    ordGo (cmpPostings ps qs) = cmpOrdered (ps.length : Int) (qs.length : Int)
  | [], [], _ => by simp [cmpPostings, ordGo, cmpOrdered]
  | [], _ :: _, _ => by simp [cmpPostings, ordGo, cmpOrdered] <;> omega
  | _ :: _, [], _ => by simp [cmpPostings, ordGo, cmpOrdered] <;> omega
  | p :: ps, q :: qs, h => by
    simp only [List.zip_cons_cons, List.all_cons, Bool.and_eq_true, beq_iff_eq] at h
    have ih := cmpPostings_all_eq ps qs h.2
    simp only [cmpPostings, h.1, Ordering.then, ih, List.length_cons, cmpOrdered]
    have e1 : ((ps.length + 1 : Nat) : Int) < ((qs.length + 1 : Nat) : Int) ↔ (ps.length : Int) < (qs.length : Int) := by omega
    have e2 : ((qs.length + 1 : Nat) : Int) < ((ps.length + 1 : Nat) : Int) ↔ (qs.length : Int) < (ps.length : Int) := by omega
    simp only [e1, e2]

end Knut.FactsAgree.TransTransaction

namespace Knut.FactsAgree.TransBeancount
open Knut Knut.GoSem
open Knut.Generated.Go
open Knut.FactsAgree.TransPosting Knut.FactsAgree.TransTransaction
open Knut.FactsAgree.TransProcess (AllRel PRel AllRel_length AllRel_cons_inv AllRel_nil_inv)

/-- the loop of `transaction.Compare` from index `i` on, for Go postings that stand for the model's `ps`, `qs` (every `Src` pointer
arbitrary): the first pair of postings that differs decides, otherwise the index of the first posting that has no partner is returned -/
theorem Compare_loop_TRelB (cur : String → Bool) (t u : transaction.Transaction) :
    ∀ (ps qs : List Knut.Posting) (i : Nat) (fuel : Nat),
      AllRel (PRel cur) (t.Postings.drop i) ps → AllRel (PRel cur) (u.Postings.drop i) qs → ps.length ≤ fuel →
      transaction.Compare.loop1 t u fuel (i : Int) =
        if (ps.zip qs).all (fun pq => JournalPrinter.cmpPosting pq.1 pq.2 == .eq) then
          GoSem.Outcome.ok (Flow.next ((i + min ps.length qs.length : Nat) : Int))
        else GoSem.Outcome.ok (Flow.ret (ordGo (JournalPrinter.cmpPostings ps qs))) := by
  intro ps
  induction ps with
  | nil =>
    intro qs i fuel hp _ _
    simpa using Compare_loop_done t u fuel i (fun h => not_lt_len_of_drop_eq_nil (AllRel_nil_inv hp) h.1)
  | cons p ps ih =>
    intro qs i fuel hp hq hf
    cases qs with
    | nil => simpa using Compare_loop_done t u fuel i (fun h => not_lt_len_of_drop_eq_nil (AllRel_nil_inv hq) h.2)
    | cons q qs =>
      obtain ⟨g, gs, eg, hg, hp'⟩ := AllRel_cons_inv hp
      obtain ⟨h, hs, eh, hh, hq'⟩ := AllRel_cons_inv hq
      obtain ⟨h1, hgi, rfl⟩ := index_of_drop_eq_cons eg
      obtain ⟨h2, hhi, rfl⟩ := index_of_drop_eq_cons eh
      obtain ⟨n, rfl⟩ : ∃ n, fuel = n + 1 := ⟨fuel - 1, by simp at hf; omega⟩
      unfold PRel at hg hh
      rw [Compare_loop_step t u n i g h h1 h2 hgi hhi, hg, hh, posting_Compare_agrees,
        show (i : Int) + 1 = ((i + 1 : Nat) : Int) by omega, ih qs (i + 1) n hp' hq' (by simpa using hf)]
      have e : i + 1 + min ps.length qs.length = i + min (ps.length + 1) (qs.length + 1) := by omega
      by_cases hc : JournalPrinter.cmpPosting p q = .eq
      · simp only [hc, ordGo, if_true, List.zip_cons_cons, List.all_cons, beq_self_eq_true, Bool.true_and,
          JournalPrinter.cmpPostings, Ordering.then, List.length_cons, e]
      · have hb : (JournalPrinter.cmpPosting p q == Ordering.eq) = false := by simpa using hc
        simp only [ordGo_eq_zero, hc, if_false, List.zip_cons_cons, List.all_cons, hb, Bool.false_and, Bool.false_eq_true,
          JournalPrinter.cmpPostings, then_of_ne_eq _ hc]

/-- **`transaction.Compare`** (date, description, postings pairwise, number of postings) on Go transactions that stand for model
transactions is the model's `cmpTx`: the loop never runs out of its fuel `fuelLt 0 len(t.Postings)` and never indexes out of range -/
theorem Compare_TRelB (cur : String → Bool) (g h : transaction.Transaction) (t u : Knut.Transaction)
    (hg : TRelB cur g t) (hh : TRelB cur h u) :
    transaction.Compare g h = GoSem.Outcome.ok (ordGo (JournalPrinter.cmpTx t u)) := by
  obtain ⟨gd, gs, gp⟩ := hg
  obtain ⟨hd, hs, hp⟩ := hh
  unfold transaction.Compare JournalPrinter.cmpTx
  simp only [gd, gs, hd, hs, compare_Time_agrees, cmpOrdered_string, ordGo_then, JournalPrinter.cmpStr]
  have z : ordGo .eq = 0 := rfl
  have glen := AllRel_length gp
  have hlen := AllRel_length hp
  by_cases h1 : compare t.date u.date = .eq
  · by_cases h2 : compare t.description u.description = .eq
    · have hl := Compare_loop_TRelB cur g h t.postings u.postings 0 (fuelLt 0 (len g.Postings)) (by simpa using gp)
        (by simpa using hp) (by simp [fuelLt, len, glen])
      simp only [Int.natCast_zero] at hl
      simp only [h1, h2, z, decide_true, Bool.not_true, Bool.false_eq_true, if_false, if_true, hl]
      by_cases hall : (t.postings.zip u.postings).all (fun pq => JournalPrinter.cmpPosting pq.1 pq.2 == .eq) = true
      · simp only [hall, if_true, GoSem.Outcome.bind, cmpPostings_all_eq _ _ hall, len, glen, hlen]
      · simp only [hall, Bool.false_eq_true, if_false, GoSem.Outcome.bind]
    · have : ordGo (compare t.description u.description) ≠ 0 := by simpa using h2
      simp [h1, z, this]
  · have : ordGo (compare t.date u.date) ≠ 0 := by simpa using h1
    simp [this]

end Knut.FactsAgree.TransBeancount

namespace Knut.FactsAgree.TransTransaction
open Knut Knut.GoSem Knut.JournalPrinter
open Knut.Generated.Go
open Knut.FactsAgree.TransPosting Knut.FactsAgree.TransAccount Knut.FactsAgree.TransDate
open Knut.FactsAgree.TransProcess (AllRel_map PRel_postingGo)
open Knut.FactsAgree.TransBeancount (Compare_loop_TRelB Compare_TRelB)

/-- the loop on the Go postings of model postings -/
theorem Compare_loop_agrees (cur : String → Bool) (s1 s2 : Ref) (t u : transaction.Transaction) :
    ∀ (ps qs : List Knut.Posting) (i : Nat) (fuel : Nat),
      t.Postings.drop i = ps.map (postingGo cur s1) → u.Postings.drop i = qs.map (postingGo cur s2) →
      ps.length ≤ fuel →
      transaction.Compare.loop1 t u fuel (i : Int) =
        if (ps.zip qs).all (fun pq => cmpPosting pq.1 pq.2 == .eq) then
          GoSem.Outcome.ok (Flow.next ((i + min ps.length qs.length : Nat) : Int))
        else GoSem.Outcome.ok (Flow.ret (ordGo (cmpPostings ps qs))) := fun ps qs i fuel hp hq =>
  Compare_loop_TRelB cur t u ps qs i fuel (hp ▸ AllRel_map _ (PRel_postingGo cur s1) ps) (hq ▸ AllRel_map _ (PRel_postingGo cur s2) qs)

/-- `transaction.Compare` on the Go transactions of model transactions -/
theorem Compare_agrees (cur : String → Bool) (s1 p1 s2 p2 : Ref) (t u : Knut.Transaction) :
    transaction.Compare (txGo cur s1 p1 t) (txGo cur s2 p2 u) = GoSem.Outcome.ok (ordGo (cmpTx t u)) :=
  Compare_TRelB cur _ _ t u ⟨rfl, rfl, AllRel_map _ (PRel_postingGo cur p1) t.postings⟩
    ⟨rfl, rfl, AllRel_map _ (PRel_postingGo cur p2) u.postings⟩

/-- non-vacuity: equal dates and descriptions, the second posting decides -/
example : transaction.Compare
    ⟨⟨0⟩, 5, "a \"b\"", [⟨⟨0⟩, 1, 0, accountGo ⟨["Assets", "A"]⟩, accountGo ⟨["Assets", "B"]⟩, ⟨"CHF", false⟩⟩], none⟩
    ⟨⟨0⟩, 5, "a \"b\"", [⟨⟨0⟩, 2, 0, accountGo ⟨["Assets", "A"]⟩, accountGo ⟨["Assets", "B"]⟩, ⟨"CHF", false⟩⟩], none⟩
    = GoSem.Outcome.ok (-1) := by decide +kernel
example : (transaction.Builder.Build ⟨⟨0⟩, 5, "a \"b\"", [], none⟩).Description = "a 'b'" := by decide +kernel

/-! ## `transaction.expand` (the accrual expansion) -/

/-- the Go transaction of a model transaction as `transaction.Builder.Build` leaves it: double quotes of the description replaced -/
def txGoD (cur : String → Bool) (src psrc : Ref) (t : Knut.Transaction) : transaction.Transaction :=
  txGo cur src psrc { t with description := descText t.description }

def ivName : Knut.Interval → String
  | .once => "once" | .daily => "daily" | .weekly => "weekly" | .monthly => "monthly" | .quarterly => "quarterly" | .yearly => "yearly"

theorem ParseInterval_agrees (iv : Knut.Interval) : date.ParseInterval (ivName iv) = (ivGo iv, none) := by
  cases iv <;> simp [date.ParseInterval, ivName, ivGo, date.Once, date.Daily, date.Weekly, date.Monthly, date.Quarterly, date.Yearly]

theorem itoa_succ (k : Nat) : Strings.itoa ((k : Int) + 1) = toString (k + 1) := by
  have : ((k : Int) + 1) = ((k + 1 : Nat) : Int) := by omega
  simp only [Strings.itoa, this]
  rfl

theorem itoa_nat (n : Nat) : Strings.itoa (n : Int) = toString n := rfl

theorem partDesc_eq (desc : String) (k n : Nat) :
    Accrual.partDesc desc k n = desc ++ " (accrual " ++ toString (k + 1) ++ "/" ++ toString n ++ ")" := rfl

theorem foldlE_expandLoop (t : Knut.Transaction) (a : Accrual.Addon)
    (F : List transaction.Transaction → posting.Posting → GoSem.Outcome (List transaction.Transaction))
    (g : Knut.Posting → posting.Posting) (conv : Knut.Transaction → transaction.Transaction)
    (hF : ∀ acc p, F acc (g p) = match Accrual.expandPosting t a p with
      | .ok txs => GoSem.Outcome.ok (acc ++ txs.map conv)
      | .panic s => GoSem.Outcome.panic s) :
    ∀ (ps : List Knut.Posting) (acc : List transaction.Transaction),
      foldlE F acc (ps.map g) = match Accrual.expandLoop t a ps with
        | .ok txs => GoSem.Outcome.ok (acc ++ txs.map conv)
        | .panic s => GoSem.Outcome.panic s := by
  intro ps
  induction ps with
  | nil => intro acc; simp [foldlE, Accrual.expandLoop]
  | cons p rest ih =>
    intro acc
    simp only [List.map_cons, foldlE, hF, Accrual.expandLoop]
    cases hp : Accrual.expandPosting t a p with
    | panic s => simp [GoSem.Outcome.bind]
    | ok txs =>
      simp only [GoSem.Outcome.bind, ih]
      cases hr : Accrual.expandLoop t a rest with
      | panic s => simp
      | ok more => simp

theorem foldl_ieLoop (t : Knut.Transaction) (acct : Knut.Account) (p : Knut.Posting) (n : Nat) (amount rem : Rat)
    (G : List transaction.Transaction → (Int × Nat) → List transaction.Transaction) (conv : Knut.Transaction → transaction.Transaction)
    (hG : ∀ acc dt k, G acc (dt, k) = acc ++ [conv (Accrual.rebook t dt (Accrual.partDesc t.description k n) acct p
      (if k = 0 then amount + rem else amount))]) :
    ∀ (ends : List Int) (k : Nat) (acc : List transaction.Transaction),
      List.foldl G acc (List.zipIdx ends k) = acc ++ (Accrual.ieLoop t acct p n amount rem k ends).map conv := by
  intro ends
  induction ends with
  | nil => intro k acc; simp [Accrual.ieLoop]
  | cons dt rest ih =>
    intro k acc
    simp only [List.zipIdx_cons, List.foldl_cons, hG, ih, Accrual.ieLoop, List.map_cons, List.append_assoc, List.singleton_append]

/-- the generated transaction of `expand` for one posting and one quantity -/
theorem rebook_agrees (cur : String → Bool) (src : Ref) (t : Knut.Transaction) (dt : Int) (desc : String) (acct : Knut.Account)
    (p : Knut.Posting) (q : Rat) :
    transaction.Builder.Build ⟨src, dt, desc,
      posting.Builder.Build ⟨(GoZero.zero : Ref), q, (GoZero.zero : Rat), accountGo acct, accountGo p.account, commodityGo cur p.commodity⟩,
      t.targets.map (fun tg => tg.map (commodityGo cur))⟩
    = txGoD cur src ⟨0⟩ (Accrual.rebook t dt desc acct p q) := by
  rw [Builder_Build_agrees]
  have := TransPosting.Builder_Build_agrees cur ⟨0⟩ acct p.account p.commodity q 0
  simp only [zero_rat] at this ⊢
  rw [show (GoZero.zero : Ref) = ⟨0⟩ from rfl, this]
  simp [txGoD, txGo, Accrual.rebook]

/-- `transaction.expand` (the accrual expansion), with the results of its calls into the registry and the syntax layer as
parameters: the accrual account was created (`ext1`), both dates parsed (`ext2`, `ext3`), the interval text is `ext4`.
The translated function returns what the model's `expand` computes — the same transactions in the same order (descriptions
with the double quotes replaced, as `Builder.Build` does), the same error, the same panics (`NewPartition` on the zero time,
`QuoRem` by zero) — never out of fuel, never an index out of range.  `hwf`: the model decides by `a.account.wf` whether the registry
creates the accrual account; here that call is given as having succeeded. -/
theorem expand_agrees (cur : String → Bool) (src psrc accr : Ref) (t : Knut.Transaction) (a : Accrual.Addon)
    (hwf : a.account.wf = true) :
    transaction.expand (txGo cur src psrc t) accr (accountGo a.account, none) (a.start, none) (a.stop, none) (ivName a.interval)
      = match Accrual.expand t a with
        | .ok txs => GoSem.Outcome.ok (txs.map (txGoD cur src ⟨0⟩), none)
        | .error => GoSem.Outcome.ok ([], some ⟨"accrual period ends before it starts"⟩)
        | .panic s => GoSem.Outcome.panic s := by
  unfold transaction.expand Accrual.expand
  simp only [hwf, Bool.not_true, Bool.false_eq_true, if_false, Option.isSome_none, Time.Before, ParseInterval_agrees]
  by_cases hlt : a.stop < a.start
  · simp [hlt]
  · simp only [hlt, decide_false, Bool.false_eq_true, if_false, zero_list]
    simp only [txGo]
    rw [foldlE_expandLoop t a _ (postingGo cur psrc) (txGoD cur src ⟨0⟩) ?hF]
    case hF =>
      intro acc p
      simp only [postingGo, IsIE_agrees]
      unfold Accrual.expandPosting
      by_cases hie : p.account.isIE = true
      · simp only [hie, Bool.not_true, Bool.false_eq_true, if_false, if_true]
        have hnp := NewPartition_agrees ⟨a.start, a.stop⟩ a.interval 0
        simp only [periodGo] at hnp
        rw [hnp]
        cases hpart : newPartition ⟨a.start, a.stop⟩ a.interval 0 with
        | panic s => simp [outcomeGo, GoSem.Outcome.bind]
        | ok part =>
          simp only [outcomeGo, GoSem.Outcome.bind, Size_agrees, EndDates_agrees, Decimal.QuoRem, Decimal.NewFromInt,
            Accrual.quoRemPlaces]
          have h1 : (1 : Int).toNat = 1 := rfl
          rw [h1]
          cases hq : Dec.quoRem p.quantity ((part.size : Int) : Rat) 1 with
          | none => simp
          | some r =>
            obtain ⟨amount, rem⟩ := r
            simp only []
            rw [foldl_ieLoop t a.account p part.size amount rem _ (txGoD cur src ⟨0⟩) ?hG]
            case hG =>
              intro acc2 dt k
              simp only [itoa_succ, itoa_nat, Decimal.Add]
              have hd : t.description ++ " (accrual " ++ toString (k + 1) ++ "/" ++ toString part.size ++ ")"
                  = Accrual.partDesc t.description k part.size := (partDesc_eq _ _ _).symm
              rw [hd]
              have hk : (decide ((k : Int) = 0)) = decide (k = 0) := by
                by_cases h0 : k = 0 <;> simp [h0]
              rw [hk]
              have := rebook_agrees cur src t dt (Accrual.partDesc t.description k part.size) a.account p
                (if k = 0 then amount + rem else amount)
              simp only [decide_eq_true_eq]
              rw [← this]
      · have hie' : p.account.isIE = false := by simpa using hie
        simp only [hie', Bool.not_false, Bool.false_eq_true, if_false, if_true, GoSem.Outcome.bind]
        have := rebook_agrees cur src t t.date t.description a.account p p.quantity
        rw [this]
        simp
    cases Accrual.expandLoop t a t.postings <;> simp [GoSem.Outcome.bind]

/-- errors of the calls into the registry and the syntax layer are passed on unchanged, in the order of the calls -/
theorem expand_account_error (tx : transaction.Transaction) (accr : Ref) (acc : account.Account) (e : GoSem.Error)
    (x2 x3 : Int × Option GoSem.Error) (iv : String) :
    transaction.expand tx accr (acc, some e) x2 x3 iv = GoSem.Outcome.ok ([], some e) := by
  simp [transaction.expand]

theorem expand_start_error (tx : transaction.Transaction) (accr : Ref) (acc : account.Account) (d : Int) (e : GoSem.Error)
    (x3 : Int × Option GoSem.Error) (iv : String) :
    transaction.expand tx accr (acc, none) (d, some e) x3 iv = GoSem.Outcome.ok ([], some e) := by
  simp [transaction.expand]

theorem expand_end_error (tx : transaction.Transaction) (accr : Ref) (acc : account.Account) (d1 d2 : Int) (e : GoSem.Error)
    (iv : String) :
    transaction.expand tx accr (acc, none) (d1, none) (d2, some e) iv = GoSem.Outcome.ok ([], some e) := by
  simp [transaction.expand]

/-- non-vacuity: 100 CHF of expenses accrued monthly over 2024-01-01 … 2024-03-31 (days 738885 … 738975): three transactions
of 33.4, 33.3, 33.3 dated at the month ends -/
example : (transaction.expand
    ⟨⟨1⟩, 738860, "rent", [⟨⟨2⟩, -100, 0, accountGo ⟨["Assets", "Bank"]⟩, accountGo ⟨["Expenses", "Rent"]⟩, ⟨"CHF", false⟩⟩,
                           ⟨⟨2⟩, 100, 0, accountGo ⟨["Expenses", "Rent"]⟩, accountGo ⟨["Assets", "Bank"]⟩, ⟨"CHF", false⟩⟩], none⟩
    ⟨0⟩ (accountGo ⟨["Assets", "Accrual"]⟩, none) (738885, none) (738975, none) "monthly").bind
      (fun r => GoSem.Outcome.ok (r.1.map (fun tx => (tx.Date, tx.Description, tx.Postings.map (·.Quantity))), r.2))
    = GoSem.Outcome.ok ([(738860, "rent", [-100, 100]),
        (738915, "rent (accrual 1/3)", [-334/10, 334/10]), (738944, "rent (accrual 2/3)", [-333/10, 333/10]),
        (738975, "rent (accrual 3/3)", [-333/10, 333/10])], none) := by decide +kernel

end Knut.FactsAgree.TransTransaction
