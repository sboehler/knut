import Knut.Generated.TransWeights
import Knut.FactsAgree.TransPerformance
import Knut.Proofs.GoSemTree
/-!
# The translated `lib/reports/weights` (the report tree) agrees with the model (`Model/Weights.lean`): what is done to ONE node

The tree of `lib/common/multimap` has the pinned meaning of `GoSem/Multimap.lean`; `float64` is an exact rational (`GoSem/Float.lean`).
The map `Value.Weights` is `Option (AMap Int Rat)` (none = nil): the code tests it for nil, and storing into a nil map would panic.
The module is about what `Add`, `PropagateWeights` and `SortWeighted` do to ONE node; the tree is in `TransWeightsTree.lean`, the sorting in `TransWeightsSort.lean`.  In exact arithmetic none of the results
depends on an iteration order; the orders that the code fixes (`dict.SortedKeys`) matter for IEEE addition only.
-/
namespace Knut.FactsAgree.TransWeights
open Knut Knut.GoSem Knut.MapSum
open Knut.Generated.Go
open Knut.FactsAgree.TransPerformance (map_get_keys)

theorem NewReport_agrees : weights.NewReport = { dates := [], weights := MNode.new "" } := rfl

/-- `n.Value.Weights[date] += w` on the node `GetOrCreate` returned; a node without a map gets one and becomes a leaf -/
def bumpW (date : Int) (w : Rat) (n : MNode weights.Value) : MNode weights.Value :=
  { n with Value :=
      { Leaf := if n.Value.Weights.isNone then true else n.Value.Leaf
        Weights := some (AMap.set (n.Value.Weights.getD []) date (AMap.get (n.Value.Weights.getD []) date 0 + w))
        Weight := n.Value.Weight } }

/-- **`Report.Add`**: the date joins the report's dates; the path is created and the node at its end gets the weight added on the date -/
theorem Add_agrees (r : weights.Report) (ss : List String) (date : Int) (w : Rat) :
    weights.Report.Add r ss date w =
      .ok ({ dates := set.Set.Add r.dates date, weights := MNode.modifyAt (bumpW date w) ss r.weights }, none) := by
  unfold weights.Report.Add
  rw [← MNode.modifyAt_const_getAt (bumpW date w)]
  cases hw : (MNode.getAt (MNode.create ss r.weights) ss).Value.Weights with
  | none =>
    simp only [hw, Option.isNone_none, if_true, MNode.setAt_create, MNode.setAt_modifyAt, nilMapE_some, Outcome.bind,
      Option.getD_some, zero_rat, bumpW, Option.getD_none]
  | some W =>
    simp only [hw, Option.isNone_some, Bool.false_eq_true, if_false, nilMapE_some, Outcome.bind, Option.getD_some, zero_rat,
      MNode.setAt_create, bumpW]

/-- the weights of the child `name` of a node (nil and a missing child read as the empty map) -/
def childW (n : MNode weights.Value) (name : String) : AMap Int Rat :=
  ((AMap.get n.Children name (GoZero.zero : MNode weights.Value)).Value.Weights).getD []

def setW (n : MNode weights.Value) (W : AMap Int Rat) : MNode weights.Value :=
  { n with Value := { n.Value with Weights := some W } }

@[simp] theorem setW_Children (n : MNode weights.Value) (W : AMap Int Rat) : (setW n W).Children = n.Children := rfl
@[simp] theorem setW_Weights (n : MNode weights.Value) (W : AMap Int Rat) : (setW n W).Value.Weights = some W := rfl
@[simp] theorem setW_setW (n : MNode weights.Value) (W W' : AMap Int Rat) : setW (setW n W) W' = setW n W' := rfl
@[simp] theorem childW_setW (n : MNode weights.Value) (W : AMap Int Rat) (name : String) : childW (setW n W) name = childW n name := rfl
theorem setW_self (n : MNode weights.Value) (W : AMap Int Rat) (h : n.Value.Weights = some W) : setW n W = n := by
  cases n with
  | mk seg v cs so => cases v; simp_all [setW]

@[simp] theorem bind_okW {α β : Type} (a : α) (f : α → GoSem.Outcome β) : GoSem.Outcome.bind (.ok a) f = f a := rfl

theorem range2_cons (name : String) (d0 : Int) (o : List Int) (n : MNode weights.Value) (W : AMap Int Rat) (hW : n.Value.Weights = some W) :
    weights.Report.PropagateWeights.post1.range2 name (d0 :: o) n =
      if !(AMap.find? (childW n name) d0).isSome then weights.Report.PropagateWeights.post1.range2 name o n
      else weights.Report.PropagateWeights.post1.range2 name o
        (setW n (AMap.set W d0 (AMap.get W d0 0 + AMap.get (childW n name) d0 0))) := by
  conv => lhs; unfold weights.Report.PropagateWeights.post1.range2
  simp only [hW, nilMapE_some, bind_okW, Option.getD_some, zero_rat]
  rfl

/-- the loop over one child's map, for ANY order `o` of (some of) its dates without repetition: the node's weight on every date reached
grows by the child's weight; children, segment and the other fields stay -/
theorem Propagate_range_agrees (name : String) :
    ∀ (o : List Int) (n : MNode weights.Value) (W : AMap Int Rat), n.Value.Weights = some W → o.Nodup →
      ∃ W', weights.Report.PropagateWeights.post1.range2 name o n = .ok (setW n W') ∧ (NodupKeys W → NodupKeys W') ∧
        (∀ d, AMap.find? W' d =
          if d ∈ o ∧ (AMap.find? (childW n name) d).isSome then some (AMap.get W d 0 + AMap.get (childW n name) d 0)
          else AMap.find? W d) := by
  intro o n W hW ho
  -- the loop adds what it visits of the child's map to the node's
  have hrun : ∀ (o : List Int) (W : AMap Int Rat), weights.Report.PropagateWeights.post1.range2 name o (setW n W) =
      .ok (setW n ((AMap.visited (childW n name) o).foldl AMap.bump W)) :=
    AMap.range_eq_foldl (m := childW n name) 0 AMap.bump (fun W => GoSem.Outcome.ok (setW n W))
      (F := fun o W => weights.Report.PropagateWeights.post1.range2 name o (setW n W))
      (fun W => by unfold weights.Report.PropagateWeights.post1.range2; rfl)
      (fun d0 rest W => by
        show weights.Report.PropagateWeights.post1.range2 name (d0 :: rest) (setW n W) = _
        rw [range2_cons name d0 rest (setW n W) W rfl, childW_setW, setW_setW]
        cases (AMap.find? (childW n name) d0).isSome <;> rfl)
  refine ⟨_, by rw [← setW_self n W hW, hrun, setW_self n W hW], AMap.nodupKeys_bumps _, fun d => ?_⟩
  rw [AMap.find?_bumps, AMap.added_visited _ ho]
  by_cases hd : d ∈ o ∧ (AMap.find? (childW n name) d).isSome
  · rw [if_pos ((AMap.mem_keys_visited _ o d).2 hd), if_pos hd, if_pos hd.1]
  · rw [if_neg (mt (AMap.mem_keys_visited _ o d).1 hd), if_neg hd]

/-- the loop over the children (in the order of their names) from the node `setW n W`: per date the weights of the children are added;
a date is present afterwards iff it was or a child has it -/
theorem Propagate_children_agrees (n : MNode weights.Value) (o : List Int) (ho : o.Nodup)
    (hcov : ∀ name d, (AMap.find? (childW n name) d).isSome → d ∈ o) :
    ∀ (L : List String) (W : AMap Int Rat), ∃ W',
      foldlE (fun (st2 : MNode weights.Value) (el3 : String) =>
          GoSem.Outcome.bind (weights.Report.PropagateWeights.post1.range2 el3 o st2) (fun n => GoSem.Outcome.ok n)) (setW n W) L =
        .ok (setW n W') ∧ (NodupKeys W → NodupKeys W') ∧
      (∀ d, AMap.get W' d 0 = AMap.get W d 0 + (L.map (fun name => AMap.get (childW n name) d 0)).sum) ∧
      (∀ d, (AMap.find? W' d).isSome = ((AMap.find? W d).isSome || L.any (fun name => (AMap.find? (childW n name) d).isSome))) := by
  intro L
  induction L with
  | nil => intro W; exact ⟨W, rfl, id, fun d => by simp [Rat.add_zero], fun d => by simp⟩
  | cons name L ih =>
    intro W
    obtain ⟨W1, h1, hn1, h2⟩ := Propagate_range_agrees name o (setW n W) W rfl ho
    simp only [childW_setW] at h2
    obtain ⟨W', h3, hn3, h4, h5⟩ := ih W1
    refine ⟨W', ?_, fun h => hn3 (hn1 h), ?_, ?_⟩
    · simp only [foldlE, h1, setW_setW, bind_okW, h3]
    · intro d
      rw [h4 d, List.map_cons, List.sum_cons]
      have : AMap.get W1 d 0 = AMap.get W d 0 + AMap.get (childW n name) d 0 := by
        simp only [AMap.get, h2 d]
        by_cases hs : (AMap.find? (childW n name) d).isSome = true
        · simp [hcov name d hs, hs]
        · have hn : AMap.find? (childW n name) d = none := by simpa using hs
          simp [hn, Rat.add_zero]
      rw [this, Rat.add_assoc]
    · intro d
      rw [h5 d, h2 d, List.any_cons]
      by_cases hs : (AMap.find? (childW n name) d).isSome = true
      · simp [hcov name d hs, hs]
      · have hn : AMap.find? (childW n name) d = none := by simpa using hs
        simp [hn]

/-- **the function `PropagateWeights` passes to `PostOrder`**, for EVERY iteration order `order path` of the dates without repetition that
reaches the dates of all children: the node's map afterwards has on every date the node's own weight plus the weights of its children
(taken in the order of their names), a date being present iff the node or a child had it; the children are unchanged; never a panic -/
theorem Propagate_post_agrees (order : List String → List Int) (path : List String) (n : MNode weights.Value)
    (ho : (order path).Nodup) (hcov : ∀ name d, (AMap.find? (childW n name) d).isSome → d ∈ order path) :
    ∃ W', weights.Report.PropagateWeights.post1 order path () n = .ok ((), setW n W') ∧
      (NodupKeys (n.Value.Weights.getD []) → NodupKeys W') ∧
      (∀ d, AMap.get W' d 0 = AMap.get (n.Value.Weights.getD []) d 0 +
        ((sortedKeys n.Children cmpOrdered).map (fun name => AMap.get (childW n name) d 0)).sum) ∧
      (∀ d, (AMap.find? W' d).isSome = ((AMap.find? (n.Value.Weights.getD []) d).isSome ||
        (sortedKeys n.Children cmpOrdered).any (fun name => (AMap.find? (childW n name) d).isSome))) := by
  unfold weights.Report.PropagateWeights.post1
  cases hw : n.Value.Weights with
  | none =>
    obtain ⟨W', h1, hn, h2, h3⟩ := Propagate_children_agrees n (order path) ho hcov (sortedKeys n.Children cmpOrdered) []
    refine ⟨W', ?_, hn, h2, h3⟩
    simp only [Option.isNone_none, if_true]
    have : ({ n with Value := { n.Value with Weights := some ([] : AMap Int Rat) } } : MNode weights.Value) = setW n [] := rfl
    rw [this, h1]; rfl
  | some W =>
    obtain ⟨W', h1, hn, h2, h3⟩ := Propagate_children_agrees n (order path) ho hcov (sortedKeys n.Children cmpOrdered) W
    refine ⟨W', ?_, hn, h2, h3⟩
    simp only [Option.isNone_some, Bool.false_eq_true, if_false]
    rw [setW_self n W hw] at h1
    rw [h1]; rfl

/-- **the function `SortWeighted` passes to `PostOrder`**: `Weight` is minus the sum of the node's weights (added in date order) -/
theorem SortWeighted_post_agrees (path : List String) (n : MNode weights.Value) (hn : NodupKeys (n.Value.Weights.getD [])) :
    weights.Report.SortWeighted.post1 path () n =
      .ok ((), { n with Value := { n.Value with Weight := -(total (n.Value.Weights.getD [])) } }) := by
  unfold weights.Report.SortWeighted.post1 sortedKeys
  simp only [zero_rat]
  rw [foldl_add_eq_sum (fun c => AMap.get (n.Value.Weights.getD []) c 0)]
  rw [sum_perm ((List.mergeSort_perm _ _).map _), map_get_keys _ hn]
  rw [Rat.zero_add]; rfl

/-- **the comparator of `SortWeighted`**: by `Weight` (ascending: the heaviest node, whose `Weight` is the most negative, first), ties by
segment -/
theorem SortWeighted_cmp_agrees (a b : MNode weights.Value) :
    weights.Report.SortWeighted.cmp2 a b =
      if a.Value.Weight < b.Value.Weight then -1 else if b.Value.Weight < a.Value.Weight then 1
      else cmpOrdered a.Segment b.Segment := by
  unfold weights.Report.SortWeighted.cmp2 cmpOrdered MNode.sortAlpha cmpOrdered
  by_cases h1 : a.Value.Weight < b.Value.Weight
  · simp [h1]
  · by_cases h2 : b.Value.Weight < a.Value.Weight
    · simp [h1, h2]
    · simp [h1, h2]

/-- **`SortWeighted`**: the traversal that sets every `Weight`, then `Sort` with the comparator -/
theorem SortWeighted_agrees (r : weights.Report) (order : List String → List String) :
    weights.Report.SortWeighted r order =
      (MNode.postOrder weights.Report.SortWeighted.post1 order () r.weights).bind fun x =>
        .ok { r with weights := MNode.sort weights.Report.SortWeighted.cmp2 x.2 } := rfl

/-- **`PropagateWeights`**: the traversal with the function of `Propagate_post_agrees` -/
theorem PropagateWeights_agrees (r : weights.Report) (o1 : List String → List Int) (o2 : List String → List String) :
    weights.Report.PropagateWeights r o1 o2 =
      (MNode.postOrder (weights.Report.PropagateWeights.post1 o1) o2 () r.weights).bind fun x =>
        .ok { r with weights := x.2 } := rfl

end Knut.FactsAgree.TransWeights
