import Knut.Generated.TransWeights
import Knut.FactsAgree.TransWeights
import Knut.FactsAgree.TransWeightsTree
import Knut.FactsAgree.TransMapping
import Knut.Model.Weights
/-!
# `weights.Query.Execute` (the DayEnd closure: the per-day part of `knut portfolio weights`) against the model's `Weights.queryDay`

`Query.Execute` as a whole is outside the translator's subset (a set of `*journal.Day` pointers, a closure that assigns through the
captured `r`, an `append` onto a sub-slice that writes into the universe).  `harness/trans_units_weightsquery.go` translates two
FRAGMENTS of the DayEnd closure — the loop that sums `d.Performance.V1` over `dict.SortedKeys` (`Query.Execute.total`) and the
statements that look a commodity up (`Query.Execute.locate`: `V1[com]`, `Universe.Locate`, `Mapping.Level`) — and PINS THE REST BY
SOURCE TEXT (`pins`).  The pinned statements are read by hand: the `if` around the in-place `append` as `shortenGo` and `writeU`;
`r.Add(ss, d.Date, v/total)` as the TRANSLATED `Report.Add` on `F64.divE v total` (`goStep`); the loop header, the guard
`if !days.Has(d) { return nil }` and the final `return nil` as `goDay` (a `foldlE` over `sortedKeys`; `days.Has(d)` ⇔ the day's
date is an end date: the builder holds one `*Day` per date).  A change of any pinned statement breaks `pins`; a change of the
translated fragments breaks the agreement theorems.
-/
namespace Knut.FactsAgree.TransWeightsQuery
open Knut Knut.GoSem Knut.MapSum
open Knut.Generated.Go
open Knut.FactsAgree.TransPosting (commodityGo)
open Knut.FactsAgree.TransPerformance
open Knut.FactsAgree.TransMapping

/-- the statements of `Query.Execute` that are not translated, by their source text; no call of an untranslated function inside the
translated fragments -/
theorem pins :
    weights.Query.Execute.days.text = "days := set.FromSlice(j.Days(q.Partition.EndDates()))" ∧
    weights.Query.Execute.guard.text = "if !days.Has(d) { return nil }" ∧
    weights.Query.Execute.loop.text = "for _, com := range dict.SortedKeys(d.Performance.V1, commodity.Compare)" ∧
    weights.Query.Execute.shorten.text = "if ok && level < len(ss)-suffix { ss = append(ss[:level], ss[len(ss)-suffix:]...) }" ∧
    weights.Query.Execute.add.text = "r.Add(ss, d.Date, v/total)" ∧
    weights.Query.Execute.end.text = "return nil" ∧
    weights.Query.Execute.total.externals = [] ∧
    weights.Query.Execute.locate.externals = [] :=
  ⟨rfl, rfl, rfl, rfl, rfl, rfl, rfl, rfl⟩

@[simp] theorem bind_ok' {α β : Type} (a : α) (f : α → GoSem.Outcome β) : GoSem.Outcome.bind (.ok a) f = f a := rfl
@[simp] theorem bind_panic' {α β : Type} (m : String) (f : α → GoSem.Outcome β) : GoSem.Outcome.bind (GoSem.Outcome.panic m : GoSem.Outcome α) f = .panic m := rfl

/-- **fragment `total`** = `performance.sum` of the day's `V1` (the same loop); a nil `d.Performance` is Go's nil-pointer panic -/
theorem Query_total_eq (d : journal.Day) (p : journal.Performance) (hp : d.Performance = some p) :
    weights.Query.Execute.total d = .ok (performance.sum p.V1) := by
  unfold weights.Query.Execute.total performance.sum
  simp only [hp, derefE_some, bind_ok']
  rw [foldlE_pure (fun (st : Rat) (com : commodity.Commodity) => st + AMap.get p.V1 com (GoZero.zero : Rat))]
  rfl

theorem Query_total_nil (d : journal.Day) (hp : d.Performance = none) : weights.Query.Execute.total d = .panic nilDeref := by
  unfold weights.Query.Execute.total
  simp only [hp, derefE_none, bind_panic']

/-- against the model: the total is `sumVals` of the model's `v1` -/
theorem Query_total_agrees (cur : String → Bool) (d : journal.Day) (p : journal.Performance) (hp : d.Performance = some p)
    {v1 : AMap Knut.Commodity Rat} (hv : PEq cur p.V1 v1) :
    weights.Query.Execute.total d = .ok (Performance.sumVals v1) := by
  rw [Query_total_eq d p hp, sum_model cur hv]

/-- **fragment `locate`**: the value, the path `Universe.Locate` finds and the answer of the mapping, as the model computes them -/
theorem Query_locate_agrees (cur : String → Bool) (q : weights.Query) (u : Weights.Universe) (hu : UEq cur q.Universe u)
    (hm : ∀ r ∈ q.Mapping, RuleOK r) (d : journal.Day) (p : journal.Performance) (hp : d.Performance = some p) (c : Knut.Commodity) :
    weights.Query.Execute.locate q d (commodityGo cur c) =
      .ok (AMap.get p.V1 (commodityGo cur c) 0, Weights.locate u c,
           levelGo (mappingLevel (q.Mapping.map ruleOf) (String.intercalate ":" (Weights.locate u c)))) := by
  unfold weights.Query.Execute.locate
  simp only [hp, derefE_some, bind_ok', Locate_agrees cur hu c, Mapping_Level_agrees _ _ hm, Strings.Join]
  rfl

/-- `if ok && level < len(ss)-suffix { ss = append(ss[:level], ss[len(ss)-suffix:]...) }`: the new `ss`, and — when the branch is
taken — the new content of the array behind the old `ss[0:len(ss)]`.  The `append` is in place: with `0 ≤ level < len(ss) - suffix`
and `0 ≤ suffix` the result has `level + suffix < len(ss) ≤ cap(ss[:level])` elements, so Go's `append` never reallocates: it copies
the tail into the array behind `ss` from index `level` on and leaves the rest of that array alone -/
def shortenGo (ss : List String) (level suffix : Int) (ok : Bool) : GoSem.Outcome (List String × Option (List String)) :=
  if ok && decide (level < len ss - suffix) then
    GoSem.Outcome.bind (slice ss 0 level) (fun a =>
      GoSem.Outcome.bind (slice ss (len ss - suffix) (len ss)) (fun b =>
        .ok (a ++ b, some (a ++ b ++ ss.drop (a ++ b).length))))
  else .ok (ss, none)

/-- the write of the in-place `append` as the universe sees it: the array is the one `Universe.Locate` returned, the map entry itself
when the commodity is classified (the translated `Universe.Locate` returns `class_`), a fresh literal otherwise -/
def writeU (g : performance.Universe) (com : commodity.Commodity) (wr : Option (List String)) : performance.Universe :=
  match wr, AMap.find? g com with
  | some arr, some _ => AMap.set g com arr
  | _, _ => g

/-- the model's `shortenPath` on an already located path -/
def shortenModel (ss : List String) (o : Option (Nat × Nat)) : List String × Option (List String) :=
  match o with
  | none => (ss, none)
  | some (level, suffix) =>
    if level < ss.length - suffix ∧ suffix ≤ ss.length then
      (ss.take level ++ ss.drop (ss.length - suffix), some (ss.take level ++ ss.drop (ss.length - suffix) ++ ss.drop (level + suffix)))
    else (ss, none)

/-- **the pinned `if`** computes what the model's `shortenPath` computes (levels and suffixes of the mapping are not negative) -/
theorem shortenGo_agrees (ss : List String) (o : Option (Nat × Nat)) :
    shortenGo ss (levelGo o).1 (levelGo o).2.1 (levelGo o).2.2 = .ok (shortenModel ss o) := by
  cases o with
  | none => rfl
  | some pr =>
    obtain ⟨level, suffix⟩ := pr
    simp only [shortenGo, shortenModel, levelGo, Bool.true_and, len]
    by_cases h : level < ss.length - suffix ∧ suffix ≤ ss.length
    · have h1 : (level : Int) < (ss.length : Int) - (suffix : Int) := by omega
      have hl : (ss.take level ++ ss.drop (ss.length - suffix)).length = level + suffix := by
        rw [List.length_append, List.length_take, List.length_drop, Nat.min_eq_left (by omega), Nat.sub_sub_self h.2]
      simp only [h1, decide_true, if_true, h, and_self]
      rw [slice_take ss level (by omega), ← Int.ofNat_sub h.2, ← len, slice_drop ss _ (Nat.sub_le _ _), bind_ok', bind_ok', hl]
    · have h1 : ¬ (level : Int) < (ss.length : Int) - (suffix : Int) := by omega
      simp only [h1, decide_false, Bool.false_eq_true, if_false, h]
theorem shortenPath_eq (mapping : List MapRule) (u : Weights.Universe) (c : Knut.Commodity) :
    Weights.shortenPath mapping u c =
      ((shortenModel (Weights.locate u c) (mappingLevel mapping (String.intercalate ":" (Weights.locate u c)))).1,
       match (shortenModel (Weights.locate u c) (mappingLevel mapping (String.intercalate ":" (Weights.locate u c)))).2, AMap.find? u c with
       | some arr, some _ => AMap.set u c arr
       | _, _ => u) := by
  unfold Weights.shortenPath
  dsimp only
  generalize mappingLevel mapping (String.intercalate ":" (Weights.locate u c)) = o
  cases o with
  | none => cases AMap.find? u c <;> rfl
  | some pr =>
    obtain ⟨level, suffix⟩ := pr
    simp only [shortenModel]
    by_cases h : level < (Weights.locate u c).length - suffix ∧ suffix ≤ (Weights.locate u c).length
    · simp only [h, and_self, if_true]
      cases AMap.find? u c <;> rfl
    · simp only [h, if_false]

theorem UEq_write (cur : String → Bool) {g : performance.Universe} {u : Weights.Universe} (hu : UEq cur g u) (c : Knut.Commodity)
    (wr : Option (List String)) :
    UEq cur (writeU g (commodityGo cur c) wr)
      (match wr, AMap.find? u c with
       | some arr, some _ => AMap.set u c arr
       | _, _ => u) := by
  unfold writeU
  rw [hu c]
  cases wr with
  | none => exact hu
  | some arr =>
    cases AMap.find? u c with
    | none => exact hu
    | some _ => exact fun c' => (AMap.find?_set_conv (fun _ _ => TransCheck.commodityGo_inj cur) hu c arr c').trans (AMap.find?_set u c c' arr).symm

/-- one iteration of the second loop: the translated fragment `locate`, the pinned `if` (`shortenGo`, `writeU`), the pinned
`r.Add(ss, d.Date, v/total)` through the translated `Report.Add` -/
def goStep (d : journal.Day) (total : Rat) (st : weights.Query × weights.Report) (com : commodity.Commodity) :
    GoSem.Outcome (weights.Query × weights.Report) :=
  GoSem.Outcome.bind (weights.Query.Execute.locate st.1 d com) (fun t =>
    GoSem.Outcome.bind (shortenGo t.2.1 t.2.2.1 t.2.2.2.1 t.2.2.2.2) (fun s =>
      GoSem.Outcome.bind (F64.divE t.1 total) (fun w =>
        GoSem.Outcome.bind (weights.Report.Add st.2 s.1 d.Date w) (fun ra =>
          .ok ({ st.1 with Universe := writeU st.1.Universe com s.2 }, ra.1)))))

/-- the DayEnd closure: the pinned guard (`inDays` = `days.Has(d)`), the translated fragment `total`, the pinned loop over
`dict.SortedKeys(d.Performance.V1, commodity.Compare)` of `goStep`, `return nil` -/
def goDay (inDays : Bool) (d : journal.Day) (st : weights.Query × weights.Report) : GoSem.Outcome (weights.Query × weights.Report) :=
  if !inDays then .ok st
  else
    GoSem.Outcome.bind (weights.Query.Execute.total d) (fun total =>
      GoSem.Outcome.bind (derefE d.Performance) (fun p =>
        foldlE (goStep d total) st (sortedKeys p.V1 commodity.Compare)))

/-- the model's step of `queryDay` on the Go side's terms: the add it makes and the universe after it -/
theorem goStep_agrees (cur : String → Bool) (q : weights.Query) (r : weights.Report) (u : Weights.Universe) (hu : UEq cur q.Universe u)
    (hm : ∀ r ∈ q.Mapping, RuleOK r) (d : journal.Day) (p : journal.Performance) (hp : d.Performance = some p)
    (total : Rat) (ht : total ≠ 0) (c : Knut.Commodity) :
    ∃ q', goStep d total (q, r) (commodityGo cur c) =
        GoSem.Outcome.bind (weights.Report.Add r (Weights.shortenPath (q.Mapping.map ruleOf) u c).1 d.Date
          (AMap.get p.V1 (commodityGo cur c) 0 / total)) (fun ra => .ok (q', ra.1)) ∧
      UEq cur q'.Universe (Weights.shortenPath (q.Mapping.map ruleOf) u c).2 ∧ q'.Mapping = q.Mapping ∧ q'.Partition = q.Partition := by
  let wr := (shortenModel (Weights.locate u c) (mappingLevel (q.Mapping.map ruleOf) (String.intercalate ":" (Weights.locate u c)))).2
  let q' : weights.Query := { Partition := q.Partition, Universe := writeU q.Universe (commodityGo cur c) wr, Mapping := q.Mapping }
  refine ⟨q', ?_, ?_, rfl, rfl⟩
  · unfold goStep
    simp only [Query_locate_agrees cur q u hu hm d p hp c, bind_ok', shortenGo_agrees, F64.divE_ne ht, shortenPath_eq]
    rfl
  · rw [shortenPath_eq]
    exact UEq_write cur hu c _

/-- the model's loop of `queryDay`, element first: the adds of the entries `l` from the universe `u`, and the universe after them -/
def dayAdds (mapping : List MapRule) (date : Int) (T : Rat) : Weights.Universe → List (Knut.Commodity × Rat) → List Weights.Add × Weights.Universe
  | u, [] => ([], u)
  | u, e :: l =>
    ({ path := (Weights.shortenPath mapping u e.1).1, date := date, weight := e.2 / T } ::
        (dayAdds mapping date T (Weights.shortenPath mapping u e.1).2 l).1,
      (dayAdds mapping date T (Weights.shortenPath mapping u e.1).2 l).2)

theorem foldl_dayAdds (mapping : List MapRule) (date : Int) (T : Rat) (l : List (Knut.Commodity × Rat)) :
    ∀ (acc : List Weights.Add) (u : Weights.Universe),
      l.foldl (fun (acc : List Weights.Add × Weights.Universe) e =>
        let r := Weights.shortenPath mapping acc.2 e.1
        (acc.1 ++ [{ path := r.1, date := date, weight := e.2 / T }], r.2)) (acc, u) =
      (acc ++ (dayAdds mapping date T u l).1, (dayAdds mapping date T u l).2) := by
  induction l with
  | nil => intro acc u; simp [dayAdds]
  | cons e l ih => intro acc u; simp only [List.foldl_cons, dayAdds, ih]; simp

theorem queryDay_eq (mapping : List MapRule) (u : Weights.Universe) (date : Int) (v1 : AMap Knut.Commodity Rat) :
    Weights.queryDay mapping u date v1 =
      if v1.isEmpty then some ([], u)
      else if Performance.sumVals v1 = 0 then none
      else some (dayAdds mapping date (Performance.sumVals v1) u v1) := by
  unfold Weights.queryDay
  simp only [foldl_dayAdds, List.nil_append]

/-- the second loop against the model's: the report gets the model's adds in the model's order, the universe ends related -/
theorem goLoop_agrees (cur : String → Bool) (d : journal.Day) (p : journal.Performance) (hp : d.Performance = some p)
    (T : Rat) (hT : T ≠ 0) (l : List (Knut.Commodity × Rat)) :
    ∀ (q : weights.Query) (r : weights.Report) (u : Weights.Universe), UEq cur q.Universe u → (∀ r ∈ q.Mapping, RuleOK r) →
      (∀ e ∈ l, AMap.get p.V1 (commodityGo cur e.1) 0 = e.2) →
      ∃ q', foldlE (goStep d T) (q, r) (l.map (fun e => commodityGo cur e.1)) =
          GoSem.Outcome.bind (TransWeights.addAll r (dayAdds (q.Mapping.map ruleOf) d.Date T u l).1) (fun r' => .ok (q', r')) ∧
        UEq cur q'.Universe (dayAdds (q.Mapping.map ruleOf) d.Date T u l).2 ∧ q'.Mapping = q.Mapping ∧ q'.Partition = q.Partition := by
  induction l with
  | nil => intro q r u hu _ _; exact ⟨q, rfl, hu, rfl, rfl⟩
  | cons e l ih =>
    intro q r u hu hm hl
    obtain ⟨q1, h1, hu1, hm1, hp1⟩ := goStep_agrees cur q r u hu hm d p hp T hT e.1
    rw [hl e (List.mem_cons_self ..)] at h1
    simp only [List.map_cons, foldlE, h1, dayAdds, TransWeights.addAll, TransWeights.Add_agrees, bind_ok']
    obtain ⟨q', h2, hu2, hm2, hp2⟩ := ih q1 _ _ hu1 (by rw [hm1]; exact hm) (fun e' he' => hl e' (List.mem_cons_of_mem _ he'))
    rw [hm1] at h2 hu2
    exact ⟨q', h2, hu2, hm2.trans hm1, hp2.trans hp1⟩

theorem get_of_mem (cur : String → Bool) {g : AMap commodity.Commodity Rat} {v1 : AMap Knut.Commodity Rat} (hv : PEq cur g v1) :
    ∀ e ∈ v1, AMap.get g (commodityGo cur e.1) 0 = e.2 := by
  intro e he
  exact AMap.get_of_find? ((hv.lookup e.1).trans (TransCheck.find?_of_mem_nodup hv.mnodup he)) 0

/-- **the DayEnd closure on a period-end day** (`goDay`: the translated fragments and the pinned statements as read in the header)
against the model's `queryDay`: the same adds in the same order reach the report through the translated `Report.Add`, the universe
ends as the model's (the in-place `append` included); a zero total — Go computes `±Inf`/`NaN` weights — is the distinct outcome
`F64.undefined`, the model's `none`.  HYPOTHESIS `hord`: the model lists `v1` in the order of `commodity.Compare`, the order in which
the Go loop visits the keys (the model's fold is over the list as it stands). -/
theorem Query_DayEnd_agrees_of_order (cur : String → Bool) (q : weights.Query) (r : weights.Report) (u : Weights.Universe)
    (hu : UEq cur q.Universe u) (hm : ∀ r ∈ q.Mapping, RuleOK r) (d : journal.Day) (p : journal.Performance)
    (hp : d.Performance = some p) {v1 : AMap Knut.Commodity Rat} (hv : PEq cur p.V1 v1)
    (hord : sortedKeys p.V1 commodity.Compare = v1.map (fun e => commodityGo cur e.1)) :
    match Weights.queryDay (q.Mapping.map ruleOf) u d.Date v1 with
    | none => goDay true d (q, r) = .panic F64.undefined
    | some (adds, u') =>
      ∃ q', goDay true d (q, r) = GoSem.Outcome.bind (TransWeights.addAll r adds) (fun r' => .ok (q', r')) ∧
        UEq cur q'.Universe u' ∧ q'.Mapping = q.Mapping ∧ q'.Partition = q.Partition := by
  rw [queryDay_eq]
  unfold goDay
  simp only [Bool.not_true, Bool.false_eq_true, if_false, Query_total_agrees cur d p hp hv, hp, derefE_some, bind_ok', hord]
  cases v1 with
  | nil => exact ⟨q, rfl, hu, rfl, rfl⟩
  | cons e l =>
    simp only [List.isEmpty_cons, Bool.false_eq_true, if_false]
    by_cases hT : Performance.sumVals (e :: l) = 0
    · simp only [hT, if_true]
      simp only [List.map_cons, foldlE, goStep, Query_locate_agrees cur q u hu hm d p hp e.1, bind_ok', shortenGo_agrees,
        F64.divE_zero, bind_panic']
    · simp only [hT, if_false]
      exact goLoop_agrees cur d p hp _ hT (e :: l) q r u hu hm (get_of_mem cur hv)

/-- a day that is no period end: nothing happens -/
theorem Query_DayEnd_other (d : journal.Day) (st : weights.Query × weights.Report) : goDay false d st = .ok st := rfl

end Knut.FactsAgree.TransWeightsQuery
