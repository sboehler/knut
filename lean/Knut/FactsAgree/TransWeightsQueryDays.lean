import Knut.FactsAgree.TransWeightsQuery
/-!
# `weights.Query.Execute` over the days of a journal against the model's `Weights.queryFrom`

`Journal.Process` calls the query's `DayEnd` on every day in order (`goQuery`: a `foldlE` of `TransWeightsQuery.goDay`, the guard
`days.Has(d)` read as "the day's date is one of the partition's end dates").  `Query_days_agrees_of_order`: the report receives exactly
the adds of the model's `queryFrom`, in its order, the universe written in place from day to day as the model's; a zero total on a
period-end day is `F64.undefined` (model: `none`).  The days are related by `DayRelQ`: the date, `V1` by lookups (`DayRelW` of
`TransProcessAllWeights` gives both) and the ORDER hypothesis of `Query_DayEnd_agrees_of_order`.
-/
namespace Knut.FactsAgree.TransWeightsQuery
open Knut Knut.GoSem Knut.MapSum
open Knut.Generated.Go
open Knut.FactsAgree.TransPosting (commodityGo)
open Knut.FactsAgree.TransPerformance
open Knut.FactsAgree.TransMapping
open Knut.FactsAgree.TransProcess (AllRel)
open Knut.FactsAgree.TransWeights (addAll Add_agrees)

/-- a Go day as it reaches the query and the model's `DayPerf` -/
def DayRelQ (cur : String → Bool) (d : journal.Day) (dp : Performance.DayPerf) : Prop :=
  d.Date = dp.date ∧ ∃ p, d.Performance = some p ∧ PEq cur p.V1 dp.v1 ∧
    sortedKeys p.V1 commodity.Compare = dp.v1.map (fun e => commodityGo cur e.1)

/-- the query's `DayEnd` on every day in turn -/
def goQuery (endDates : List Int) (st : weights.Query × weights.Report) (days : List journal.Day) :
    GoSem.Outcome (weights.Query × weights.Report) :=
  foldlE (fun st d => goDay (endDates.contains d.Date) d st) st days

theorem addAll_ok (L : List Weights.Add) : ∀ r : weights.Report, ∃ r', addAll r L = .ok r' := by
  induction L with
  | nil => intro r; exact ⟨r, rfl⟩
  | cons a L ih => intro r; simp only [addAll, Add_agrees, bind_ok']; exact ih _

theorem addAll_append (a b : List Weights.Add) : ∀ r : weights.Report,
    addAll r (a ++ b) = GoSem.Outcome.bind (addAll r a) (fun r' => addAll r' b) := by
  induction a with
  | nil => intro r; rfl
  | cons x a ih => intro r; simp only [List.cons_append, addAll, Add_agrees, bind_ok', ih]

/-- **the query over all days** = the model's `queryFrom` -/
theorem Query_days_agrees_of_order (cur : String → Bool) (endDates : List Int) (days : List journal.Day)
    (perfs : List Performance.DayPerf) (hrel : AllRel (DayRelQ cur) days perfs) :
    ∀ (q : weights.Query) (r : weights.Report) (u : Weights.Universe), UEq cur q.Universe u → (∀ r ∈ q.Mapping, RuleOK r) →
      match Weights.queryFrom (q.Mapping.map ruleOf) endDates u perfs with
      | none => goQuery endDates (q, r) days = .panic F64.undefined
      | some adds => ∃ q', goQuery endDates (q, r) days = GoSem.Outcome.bind (addAll r adds) (fun r' => .ok (q', r')) ∧
          q'.Mapping = q.Mapping ∧ q'.Partition = q.Partition := by
  induction hrel with
  | nil =>
    intro q r u _ _
    exact ⟨q, rfl, rfl, rfl⟩
  | @cons d dp ds dps hd _ ih =>
    intro q r u hu hm
    obtain ⟨hdate, p, hp, hv, hord⟩ := hd
    unfold Weights.queryFrom
    have hgo : goQuery endDates (q, r) (d :: ds) =
        GoSem.Outcome.bind (goDay (endDates.contains dp.date) d (q, r)) (fun st => goQuery endDates st ds) := by
      simp only [goQuery, foldlE, hdate]
    rw [hgo]
    by_cases hc : endDates.contains dp.date = true
    · simp only [hc, if_true]
      have key := Query_DayEnd_agrees_of_order cur q r u hu hm d p hp hv hord
      rw [hdate] at key
      cases hq : Weights.queryDay (q.Mapping.map ruleOf) u dp.date dp.v1 with
      | none =>
        simp only [hq] at key
        simp only [key, bind_panic']
      | some pr =>
        obtain ⟨adds1, u'⟩ := pr
        simp only [hq] at key
        obtain ⟨q1, h1, hu1, hm1, hp1⟩ := key
        obtain ⟨r1, hr1⟩ := addAll_ok adds1 r
        simp only [h1, hr1, bind_ok']
        have ih' := ih q1 r1 u' hu1 (by rw [hm1]; exact hm)
        rw [hm1] at ih'
        cases hq2 : Weights.queryFrom (q.Mapping.map ruleOf) endDates u' dps with
        | none =>
          simp only [hq2] at ih'
          simpa using ih'
        | some adds2 =>
          simp only [hq2] at ih'
          obtain ⟨q', h2, hm2, hp2⟩ := ih'
          refine ⟨q', ?_, hm2, hp2.trans hp1⟩
          simp only [addAll_append, hr1, bind_ok', h2]
    · simp only [hc, Query_DayEnd_other, bind_ok']
      exact ih q r u hu hm

end Knut.FactsAgree.TransWeightsQuery
