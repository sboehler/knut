import Knut.FactsAgree.TransWeightsQueryDays
import Knut.Proofs.ReportPerm
import Knut.FactsAgree.TransProcessAllWeights
/-!
# The ORDER hypothesis of `Query_days_agrees_of_order` discharged

`TransWeightsQuery.Query_DayEnd_agrees_of_order` assumes `hord`: `dict.SortedKeys(d.Performance.V1, commodity.Compare)` visits the
commodities in the order in which the model lists `v1`.  The model's `v1` (`Performance.valuesDay`: `AMap.set`/`erase` posting by
posting) is in INSERTION order, not sorted by name, so `hord` is false in general for the days of `perfDaysV` (two postings in the
commodities `B`, `A` in this order: the model lists `[B, A]`, Go visits `[A, B]`).  What holds instead: the sorted key list is the
model's `v1` re-listed by commodity name (`sortV`), and the model's `queryFrom` on re-listed days yields a PERMUTATION of the adds
and fails (zero total) on the same inputs — one step of the day's loop (`shortenPath`) reads and writes the universe at its own
commodity only, and every commodity occurs once per day.
-/
namespace Knut.FactsAgree.TransWeightsQueryOrder
open Knut Knut.GoSem Knut.MapSum
open Knut.Generated.Go
open Knut.FactsAgree.TransPosting (commodityGo)
open Knut.FactsAgree.TransPerformance
open Knut.FactsAgree.TransMapping
open Knut.FactsAgree.TransProcess (AllRel)
open Knut.FactsAgree.TransProcessAllWeights (DayRelW)
open Knut.FactsAgree.TransWeights (addAll)
open Knut.FactsAgree.TransWeightsQuery

/-- the model's `v1` re-listed in the order of the commodity names: the order in which Go's `dict.SortedKeys(V1, commodity.Compare)`
visits it -/
def sortV (v1 : AMap Knut.Commodity Rat) : AMap Knut.Commodity Rat := v1.mergeSort (fun a b => decide (a.1 ≤ b.1))

theorem sortV_perm (v1 : AMap Knut.Commodity Rat) : (sortV v1).Perm v1 := List.mergeSort_perm _ _

theorem PEq_sortV (cur : String → Bool) {g : AMap commodity.Commodity Rat} {v1 : AMap Knut.Commodity Rat} (h : PEq cur g v1) :
    PEq cur g (sortV v1) :=
  ⟨fun c => (h.lookup c).trans (AMap.find?_perm (sortV_perm v1).symm h.mnodup c), h.keys, h.gnodup,
    ((sortV_perm v1).map Prod.fst).nodup_iff.mpr h.mnodup⟩

theorem keys_perm (cur : String → Bool) {g : AMap commodity.Commodity Rat} {v1 : AMap Knut.Commodity Rat} (h : PEq cur g v1) :
    (g.map Prod.fst).Perm (v1.map (fun e => commodityGo cur e.1)) := by
  have := (MEquiv.perm (fun _ _ => TransCheck.commodityGo_inj cur) h).map Prod.fst
  rwa [List.map_map] at this

theorem Compare_le (a b : commodity.Commodity) : decide (commodity.Compare a b ≠ 1) = decide (a.name ≤ b.name) :=
  TransPrice.Compare_le a b

/-- **`dict.SortedKeys(d.Performance.V1, commodity.Compare)`** is the model's `v1` re-listed by name — from `PEq` alone -/
theorem sortedKeys_V1 (cur : String → Bool) {g : AMap commodity.Commodity Rat} {v1 : AMap Knut.Commodity Rat} (h : PEq cur g v1) :
    sortedKeys g commodity.Compare = (sortV v1).map (fun e => commodityGo cur e.1) := by
  unfold sortedKeys sortV
  rw [show (fun a b : commodity.Commodity => decide (commodity.Compare a b ≠ 1)) = (fun a b => decide (a.name ≤ b.name)) from
      funext fun a => funext (Compare_le a),
    List.map_mergeSort (f := fun e : Knut.Commodity × Rat => commodityGo cur e.1) (r := fun a b => decide (a.1 ≤ b.1))
      (s := fun a b => decide (a.name ≤ b.name)) (fun _ _ _ _ => rfl)]
  -- the two lists of keys are permutations of each other, and the names decide the order among converted keys
  refine MapSum.mergeSort_perm_eq (fun a b : commodity.Commodity => decide (a.name ≤ b.name))
    (fun a b c => ReportPerm.strLE_trans a.name b.name c.name) (fun a b => ReportPerm.strLE_total a.name b.name) _ _ ?_ (keys_perm cur h)
  intro a b ha hb h1 h2
  obtain ⟨x, _, rfl⟩ := List.mem_map.mp ((keys_perm cur h).mem_iff.1 ha)
  obtain ⟨y, _, rfl⟩ := List.mem_map.mp ((keys_perm cur h).mem_iff.1 hb)
  rw [show x.1 = y.1 from String.le_antisymm (of_decide_eq_true h1) (of_decide_eq_true h2)]

/-- two listings of one universe (the model's universe is an association list; runs over differently listed days write it in different
orders) -/
def UExt (u u' : Weights.Universe) : Prop := ∀ c, AMap.find? u c = AMap.find? u' c

theorem locate_congr {u u' : Weights.Universe} (c : Knut.Commodity) (h : AMap.find? u c = AMap.find? u' c) :
    Weights.locate u c = Weights.locate u' c := by
  unfold Weights.locate; rw [h]

theorem shortenPath_fst_congr (m : List MapRule) {u u' : Weights.Universe} (c : Knut.Commodity)
    (h : AMap.find? u c = AMap.find? u' c) : (Weights.shortenPath m u c).1 = (Weights.shortenPath m u' c).1 := by
  rw [shortenPath_eq, shortenPath_eq, locate_congr c h]

theorem shortenPath_snd_other (m : List MapRule) (u : Weights.Universe) (c c' : Knut.Commodity) (hne : c ≠ c') :
    AMap.find? (Weights.shortenPath m u c).2 c' = AMap.find? u c' := by
  rw [shortenPath_eq]
  simp only
  split
  · rw [AMap.find?_set]; simp [hne]
  · rfl

theorem shortenPath_snd_self (m : List MapRule) {u u' : Weights.Universe} (c : Knut.Commodity)
    (h : AMap.find? u c = AMap.find? u' c) :
    AMap.find? (Weights.shortenPath m u c).2 c = AMap.find? (Weights.shortenPath m u' c).2 c := by
  rw [shortenPath_eq, shortenPath_eq, locate_congr c h]
  simp only
  generalize (shortenModel (Weights.locate u' c) (mappingLevel m (String.intercalate ":" (Weights.locate u' c)))).2 = wr
  cases wr with
  | none => simpa using h
  | some arr =>
    cases h1 : AMap.find? u c with
    | none =>
      rw [h1] at h
      rw [← h]
      simp only [h1, ← h]
    | some x =>
      rw [h1] at h
      rw [← h]
      simp only [AMap.find?_set, if_true]

/-- the adds of a day in closed form: every path is computed from the universe at the START of the day -/
theorem dayAdds_fst (m : List MapRule) (date : Int) (T : Rat) : ∀ (l : List (Knut.Commodity × Rat)) (u : Weights.Universe),
    NodupKeys l →
    (dayAdds m date T u l).1 = l.map (fun e => ({ path := (Weights.shortenPath m u e.1).1, date := date, weight := e.2 / T } : Weights.Add)) := by
  intro l
  induction l with
  | nil => intro u _; rfl
  | cons e l ih =>
    intro u hn
    have hn' : e.1 ∉ l.map Prod.fst ∧ NodupKeys l := by simpa [NodupKeys] using hn
    simp only [dayAdds, List.map_cons, List.cons.injEq, true_and]
    rw [ih _ hn'.2]
    apply List.map_congr_left
    intro e' he'
    have hne : e.1 ≠ e'.1 := fun h => hn'.1 (h ▸ List.mem_map_of_mem he')
    rw [shortenPath_fst_congr m e'.1 (shortenPath_snd_other m u e.1 e'.1 hne)]

theorem dayAdds_snd (m : List MapRule) (date : Int) (T : Rat) : ∀ (l : List (Knut.Commodity × Rat)) (u : Weights.Universe),
    NodupKeys l → ∀ c, AMap.find? (dayAdds m date T u l).2 c =
      if c ∈ l.map Prod.fst then AMap.find? (Weights.shortenPath m u c).2 c else AMap.find? u c := by
  intro l
  induction l with
  | nil => intro u _ c; simp [dayAdds]
  | cons e l ih =>
    intro u hn c
    have hn' : e.1 ∉ l.map Prod.fst ∧ NodupKeys l := by simpa [NodupKeys] using hn
    simp only [dayAdds]
    rw [ih _ hn'.2 c]
    by_cases hc : c = e.1
    · subst hc
      simp [hn'.1]
    · have hne : e.1 ≠ c := fun h => hc h.symm
      by_cases hm : c ∈ l.map Prod.fst
      · have : c ∈ (e :: l).map Prod.fst := List.mem_cons_of_mem _ hm
        simp only [hm, this, if_true]
        exact shortenPath_snd_self m c (shortenPath_snd_other m u e.1 c hne)
      · have : c ∉ (e :: l).map Prod.fst := by
          simp only [List.map_cons, List.mem_cons, not_or]; exact ⟨hc, hm⟩
        simp only [hm, this, if_false]
        exact shortenPath_snd_other m u e.1 c hne

/-- **a day's loop over a re-listed `v1`**: the adds are permuted, the universe ends with the same lookups -/
theorem dayAdds_perm (m : List MapRule) (date : Int) (T : Rat) {l l' : List (Knut.Commodity × Rat)} (hp : l.Perm l')
    (hn : NodupKeys l) {u u' : Weights.Universe} (hu : UExt u u') :
    (dayAdds m date T u l).1.Perm (dayAdds m date T u' l').1 ∧ UExt (dayAdds m date T u l).2 (dayAdds m date T u' l').2 := by
  have hn' : NodupKeys l' := (hp.map Prod.fst).nodup_iff.mp hn
  constructor
  · rw [dayAdds_fst m date T l u hn, dayAdds_fst m date T l' u' hn']
    have : (fun e : Knut.Commodity × Rat => ({ path := (Weights.shortenPath m u e.1).1, date := date, weight := e.2 / T } : Weights.Add)) =
        (fun e => { path := (Weights.shortenPath m u' e.1).1, date := date, weight := e.2 / T }) := by
      funext e; rw [shortenPath_fst_congr m e.1 (hu e.1)]
    rw [this]
    exact hp.map _
  · intro c
    rw [dayAdds_snd m date T l u hn, dayAdds_snd m date T l' u' hn']
    have hiff : c ∈ l.map Prod.fst ↔ c ∈ l'.map Prod.fst := (hp.map Prod.fst).mem_iff
    by_cases hc : c ∈ l.map Prod.fst
    · simp only [hc, hiff.mp hc, if_true]
      exact shortenPath_snd_self m c (hu c)
    · have : c ∉ l'.map Prod.fst := fun h => hc (hiff.mpr h)
      simp only [hc, this, if_false]
      exact hu c

/-- the outcomes of the model's query on two inputs: both undefined, or the adds permuted -/
def OutRel {β : Type} (R : β → β → Prop) : Option β → Option β → Prop
  | some a, some b => R a b
  | none, none => True
  | _, _ => False

theorem OutRel.cases {β : Type} {R : β → β → Prop} {x y : Option β} (h : OutRel R x y) :
    (x = none ∧ y = none) ∨ ∃ a b, x = some a ∧ y = some b ∧ R a b := by
  cases x <;> cases y
  · exact .inl ⟨rfl, rfl⟩
  · exact h.elim
  · exact h.elim
  · exact .inr ⟨_, _, rfl, rfl, h⟩

theorem queryDay_perm (m : List MapRule) (date : Int) {v v' : AMap Knut.Commodity Rat} (hp : v.Perm v') (hn : NodupKeys v)
    {u u' : Weights.Universe} (hu : UExt u u') :
    OutRel (fun a b => a.1.Perm b.1 ∧ UExt a.2 b.2) (Weights.queryDay m u date v) (Weights.queryDay m u' date v') := by
  rw [queryDay_eq, queryDay_eq]
  have hs : Performance.sumVals v = Performance.sumVals v' := sum_perm (hp.map _)
  have he : v.isEmpty = v'.isEmpty := by
    have := hp.length_eq
    cases v <;> cases v' <;> simp at this ⊢
  rw [← he, ← hs]
  by_cases h1 : v.isEmpty = true
  · simp only [h1, if_true]
    exact ⟨List.Perm.refl _, hu⟩
  · simp only [h1, Bool.false_eq_true, if_false]
    by_cases h2 : Performance.sumVals v = 0
    · simp only [h2, if_true]; trivial
    · simp only [h2, if_false]
      exact dayAdds_perm m date _ hp hn hu

/-- two model days that differ only in the listing order of `v1` -/
def VRel (dp dp' : Performance.DayPerf) : Prop := dp.date = dp'.date ∧ dp.v1.Perm dp'.v1 ∧ NodupKeys dp.v1

/-- **the model's `queryFrom` over re-listed days**: undefined on the same inputs, otherwise the adds are permuted -/
theorem queryFrom_perm (m : List MapRule) (endDates : List Int) {ps ps' : List Performance.DayPerf} (h : AllRel VRel ps ps') :
    ∀ (u u' : Weights.Universe), UExt u u' →
      OutRel List.Perm (Weights.queryFrom m endDates u ps) (Weights.queryFrom m endDates u' ps') := by
  induction h with
  | nil => intro u u' _; exact List.Perm.refl _
  | @cons dp dp' ps ps' hd _ ih =>
    intro u u' hu
    obtain ⟨hdate, hp, hn⟩ := hd
    unfold Weights.queryFrom
    rw [← hdate]
    by_cases hc : endDates.contains dp.date = true
    · simp only [hc, if_true]
      rcases (queryDay_perm m dp.date hp hn hu).cases with ⟨h1, h2⟩ | ⟨⟨a1, w⟩, ⟨b1, w'⟩, h1, h2, key⟩
      · rw [h1, h2]; trivial
      · rw [h1, h2]
        rcases (ih w w' key.2).cases with ⟨h3, h4⟩ | ⟨x, y, h3, h4, ih'⟩
        · simp only [h3, h4]; trivial
        · simp only [h3, h4]; exact List.Perm.append key.1 ih'
    · simp only [hc, Bool.false_eq_true, if_false]
      exact ih u u' hu

/-- the model day as the Go query sees it: `v1` in the order of the names -/
def sortDP (dp : Performance.DayPerf) : Performance.DayPerf := { dp with v1 := sortV dp.v1 }

/-- the days `DayRelW` relates to the model's days are related, WITH the order clause, to the re-listed days -/
theorem allRel_sorted (cur : String → Bool) {out : List journal.Day} {perfs : List Performance.DayPerf}
    (h : AllRel (DayRelW cur) out perfs) :
    AllRel (DayRelQ cur) out (perfs.map sortDP) ∧ AllRel VRel perfs (perfs.map sortDP) := by
  induction h with
  | nil => exact ⟨.nil, .nil⟩
  | cons hab _ ih =>
    obtain ⟨hd, p, hp, _, hv1⟩ := hab
    exact ⟨.cons ⟨hd, p, hp, PEq_sortV cur hv1, sortedKeys_V1 cur hv1⟩ ih.1,
      .cons ⟨rfl, (sortV_perm _).symm, hv1.mnodup⟩ ih.2⟩

/-- **`weights.Query.Execute` over the days of a journal against the model's `queryFrom`, WITHOUT an order hypothesis**: on days that
carry the model's `v1` by lookups (`DayRelW`), the report receives through the translated `Report.Add` a permutation `adds'` of the
model's adds — the adds of the model's own `queryFrom` on the days re-listed by commodity name — and the model is undefined (zero
total on a period-end day) exactly when the Go run is `F64.undefined` -/
theorem Query_days_agrees (cur : String → Bool) (endDates : List Int) (days : List journal.Day)
    (perfs : List Performance.DayPerf) (hrel : AllRel (DayRelW cur) days perfs)
    (q : weights.Query) (r : weights.Report) (u : Weights.Universe) (hu : UEq cur q.Universe u) (hm : ∀ r ∈ q.Mapping, RuleOK r) :
    match Weights.queryFrom (q.Mapping.map ruleOf) endDates u perfs with
    | none => goQuery endDates (q, r) days = .panic F64.undefined
    | some adds => ∃ q' adds', adds'.Perm adds ∧
        Weights.queryFrom (q.Mapping.map ruleOf) endDates u (perfs.map sortDP) = some adds' ∧
        goQuery endDates (q, r) days = GoSem.Outcome.bind (addAll r adds') (fun r' => .ok (q', r')) ∧
        q'.Mapping = q.Mapping ∧ q'.Partition = q.Partition := by
  obtain ⟨hq, hv⟩ := allRel_sorted cur hrel
  have key := Query_days_agrees_of_order cur endDates days _ hq q r u hu hm
  have hperm := queryFrom_perm (q.Mapping.map ruleOf) endDates hv u u (fun _ => rfl)
  rcases hperm.cases with ⟨h1, h2⟩ | ⟨adds, adds', h1, h2, hp⟩
  · rw [h1]; rw [h2] at key; exact key
  · rw [h1]; rw [h2] at key
    obtain ⟨q', hgo, hm', hp'⟩ := key
    exact ⟨q', adds', hp.symm, h2, hgo, hm', hp'⟩

end Knut.FactsAgree.TransWeightsQueryOrder
