import Knut.FactsAgree.TransWeightsTree
import Knut.FactsAgree.TransReportSort
/-!
# `SortWeighted` over the propagated tree of `lib/reports/weights`: every node's `Weight` is the model's `sortKey`

After `PropagateWeights` (`TransWeightsTree.lean`) every node's map holds the
model's `nodeWeight`; `SortWeighted` first sets, in a second `PostOrder` traversal, every node's `Weight` to minus the sum of its map —
the model's `sortKey` (minus the sum of the weights of the adds at or below the node) — and then sorts every node's children with the
comparator `SortWeighted_cmp_agrees` (by `Weight`, ties by segment).  The `Sorted` children — the order in which `renderNode` walks
them — are then the model's `Weights.sortedChildren`: the keys of the Go map are the model's `childSegs` in the same order, and on
them the Go comparator is the model's.
-/
namespace Knut.FactsAgree.TransWeights
open Knut Knut.GoSem Knut.MapSum
open Knut.Generated.Go

theorem children_fold (f : List String → Unit → Node → GoSem.Outcome (Unit × Node)) (ord : List String → List String) (fuel : Nat)
    (π : List String) (n : Node) (Pout : String → Node → Prop)
    (ih : ∀ s c, AMap.find? n.Children s = some c → ∃ c', MNode.postOrderF f ord fuel (π ++ [s]) () c = .ok ((), c') ∧ Pout s c')
    (hperm : (ord π).Perm (AMap.keys n.Children)) (hnd : (AMap.keys n.Children).Nodup) :
    ∃ cs', foldlE (MNode.childStep f ord fuel π) ((), n.Children) (ord π) = .ok ((), cs') ∧
      AMap.keys cs' = AMap.keys n.Children ∧ ∀ s c', AMap.find? cs' s = some c' → Pout s c' := by
  obtain ⟨_, cs', h, _, hk, hR⟩ := MNode.childStep_fold_all f ord fuel π n.Children (fun _ _ => True) (fun s _ c' => Pout s c')
    (fun s _ _ c _ hc => (ih s c hc).elim fun c' h => ⟨(), c', h.1, trivial, h.2⟩)
    (ord π) (hperm.nodup_iff.2 hnd) (fun s => hperm.mem_iff.trans AMap.mem_keys_iff_find?) () trivial
  exact ⟨cs', h, hk, fun s c hc => (hR s c hc).elim fun _ h => h.2⟩

/-- the sum of the weights of a list of adds (the model's `sortKey` is minus this sum over the adds at or below a path) -/
def wsum (xs : Log) : Rat := (xs.map (·.weight)).sum

theorem sortKey_eq (L : Log) (π : List String) : Weights.sortKey L π = -(wsum (below L π)) := rfl

theorem total_of_wOn : ∀ (W : AMap Int Rat) (xs : Log), NodupKeys W → (∀ d, AMap.find? W d = wOn xs d) → total W = wsum xs := by
  intro W xs hn hW
  unfold total wsum
  rw [← AMap.map_get_keys hn 0, sum_by_key_gen (·.date) (·.weight) (AMap.keys W) hn xs fun a ha =>
    (AMap.mem_keys_iff W a.date).2 (by rw [hW, wOn_isSome]; exact List.any_eq_true.2 ⟨a, ha, decide_eq_true rfl⟩)]
  refine congrArg List.sum (List.map_congr_left fun d _ => ?_)
  rw [AMap.get, hW, wOn_getD, ← sum_filter_onDate]

/-- **the node of the path `π` after the traversal of `SortWeighted`**: as after `PropagateWeights`, and `Weight` is the model's
`sortKey` -/
structure LocalS (L : Log) (π : List String) (n : Node) : Prop extends LocalP L π n where
  weight : n.Value.Weight = Weights.sortKey L π

/-- the subtree `n` at the path `π` after the traversal of `SortWeighted`: every node is `LocalS` -/
def SortAt (L : Log) (π : List String) (n : Node) : Prop := ∀ q m, MNode.nodeAt? n q = some m → LocalS L (π ++ q) m

/-- **the traversal of a subtree**, for EVERY order that visits each node's children once: every node's `Weight` becomes the model's
`sortKey`; maps and children stay; the fuel `MNode.height` suffices -/
theorem sortKeys_postOrderF (L : Log) (ord : List String → List String) (fuel : Nat) :
    ∀ (π : List String) (n : Node), MNode.height n ≤ fuel → PropAt L π n →
      (∀ q m, MNode.nodeAt? n q = some m → (ord (π ++ q)).Perm (AMap.keys m.Children)) →
      ∃ n', MNode.postOrderF weights.Report.SortWeighted.post1 ord fuel π () n = .ok ((), n') ∧ SortAt L π n' :=
  fun π n hh hprop hord => MNode.postOrderF_rule_unit _ ord
    (fun π n => PropAt L π n ∧ MNode.Below (fun q m => (ord q).Perm (AMap.keys m.Children)) π n) (fun π _ n' => SortAt L π n')
    (fun π n h => ⟨MNode.Below.here h.2, (MNode.Below.here h.1 : LocalP L π n).nodup⟩)
    (fun π n k c h hc => ⟨MNode.Below.child h.1 hc, MNode.Below.child h.2 hc⟩)
    (fun π n cs' h hkeys hback => by
      have hloc : LocalP L π n := MNode.Below.here h.1
      obtain ⟨W, hW, hWn, hWd⟩ := hloc.weights
      rw [SortWeighted_post_agrees π { n with Children := cs' } (by simpa [hW] using hWn)]
      refine ⟨_, rfl, MNode.Below.of_children (P := LocalS L) ?_ (fun s c hc => (hback s c hc).elim fun _ h => h.2)⟩
      refine ⟨⟨hloc.segment, ⟨W, hW, hWn, hWd⟩, (show (AMap.keys cs').Nodup from hkeys ▸ hloc.nodup),
        fun s => (show s ∈ AMap.keys cs' ↔ _ from hkeys ▸ hloc.children s), (show AMap.keys cs' = _ from hkeys.trans hloc.keysEq)⟩, ?_⟩
      show -(total ((n.Value.Weights).getD [])) = _
      rw [hW, Option.getD_some, total_of_wOn W (below L π) hWn hWd, sortKey_eq])
    fuel π n hh ⟨hprop, hord⟩

theorem cmp2_sort (a b : Node) :
    weights.Report.SortWeighted.cmp2 (MNode.sort weights.Report.SortWeighted.cmp2 a) (MNode.sort weights.Report.SortWeighted.cmp2 b) =
      weights.Report.SortWeighted.cmp2 a b := by
  simp only [SortWeighted_cmp_agrees, MNode.sort_Value, MNode.sort_Segment]

/-- `cmp.Compare` on strings is not `Greater` exactly when the model's `cmpStr` is not `gt` -/
theorem cmpOrdered_str (a b : String) : decide (cmpOrdered a b ≠ (1 : Int)) = (Weights.cmpStr a b != .gt) := by
  unfold cmpOrdered Weights.cmpStr
  simp only [compare, String.compare, compareOfLessAndEq]
  by_cases h1 : a < b
  · simp [h1]
  · by_cases h2 : b < a
    · have hne : ¬ a = b := fun e => by subst e; exact String.lt_irrefl _ h2
      simp [h1, h2, hne]
    · have hab : a = b := String.le_antisymm (String.not_lt.mp h2) (String.not_lt.mp h1)
      simp [hab]

/-- **`SortWeighted`** on the propagated report, for EVERY order of its traversal that visits each node's children once: no panic; every
node of the result has `Weight` = the model's `sortKey`, its map = `nodeWeight`, its children = `childSegs`, and its `Sorted` children
(the order in which `renderNode` walks them) are exactly the model's `sortedChildren … false` -/
theorem SortWeighted_tree_agrees (L : Log) (r : weights.Report) (hprop : PropAt L [] r.weights) (ord : List String → List String)
    (hord : ∀ q m, MNode.nodeAt? r.weights q = some m → (ord q).Perm (AMap.keys m.Children)) :
    ∃ T, weights.Report.SortWeighted r ord = .ok { r with weights := T } ∧
      ∀ q m, MNode.nodeAt? T q = some m →
        m.Value.Weight = Weights.sortKey L q ∧
        (∃ W, m.Value.Weights = some W ∧ NodupKeys W ∧ ∀ d, AMap.find? W d = Weights.nodeWeight L q d) ∧
        AMap.keys m.Children = Weights.childSegs L q ∧
        m.SortedKeys = Weights.sortedChildren L false q := by
  obtain ⟨T1, h1, hsort⟩ := sortKeys_postOrderF L ord (MNode.height r.weights) [] r.weights (Nat.le_refl _) hprop
    (by simpa using hord)
  refine ⟨MNode.sort weights.Report.SortWeighted.cmp2 T1, ?_, ?_⟩
  · rw [SortWeighted_agrees]; unfold MNode.postOrder; rw [h1]; rfl
  · intro q m hm
    rw [MNode.nodeAt?_sort] at hm
    obtain ⟨m0, hm0, rfl⟩ := Option.map_eq_some_iff.1 hm
    have hl : LocalS L q m0 := by simpa using hsort q m0 hm0
    refine ⟨by rw [MNode.sort_Value]; exact hl.weight, by rw [MNode.sort_Value]; exact hl.weights,
      by rw [MNode.sort_Children, MNode.keys_sortChildren]; exact hl.keysEq, ?_⟩
    have child : ∀ x, x ∈ Weights.childSegs L q → ∃ cx, AMap.find? m0.Children x = some cx ∧
        cx.Value.Weight = Weights.sortKey L (q ++ [x]) ∧ cx.Segment = x := by
      intro x hx
      obtain ⟨cx, hcx⟩ := Option.isSome_iff_exists.1 ((AMap.mem_keys_iff m0.Children _).mp (hl.keysEq ▸ hx))
      have hlx : LocalS L (q ++ [x]) cx := by
        simpa using hsort (q ++ [x]) cx (by rw [MNode.nodeAt?_append, hm0]; simp [MNode.nodeAt?_cons, hcx])
      exact ⟨cx, hcx, hlx.weight, by rw [hlx.segment]; simp⟩
    rw [MNode.sort_SortedKeys_eq _ cmp2_sort m0 hl.nodup, hl.keysEq]
    unfold Weights.sortedChildren
    rw [if_neg Bool.false_ne_true]
    refine mergeSort_congr _ _ _ fun a ha b hb => ?_
    obtain ⟨ca, hca, wa, sa⟩ := child a ha
    obtain ⟨cb, hcb, wb, sb⟩ := child b hb
    simp only [hca, hcb, Option.getD_some, SortWeighted_cmp_agrees, wa, wb, sa, sb]
    by_cases h1 : Weights.sortKey L (q ++ [a]) < Weights.sortKey L (q ++ [b])
    · simp [h1]
    · by_cases h2 : Weights.sortKey L (q ++ [b]) < Weights.sortKey L (q ++ [a])
      · simp [h1, h2]
      · simp only [h1, h2, if_false]
        exact cmpOrdered_str a b
/-- **the report of `knut portfolio weights` before rendering**: `NewReport`, the adds of the query in any number, `PropagateWeights`,
`SortWeighted` (the branch of `Renderer.Render` without `--sort-alphabetically`), for EVERY admissible family of iteration orders: nothing
panics, and every node of the resulting tree is, in the model's terms, the node of its path: `nodeWeight`, `childSegs`, `sortKey`,
`sortedChildren`; the dates are the dates of the adds -/
theorem Report_pipeline_agrees (L : Log) (o1 : List String → List Int) (o2 o3 : List String → List String) :
    ∃ r, addAll weights.NewReport L = .ok r ∧ (∀ d, set.Set.Has r.dates d = (L.map (·.date)).contains d) ∧
      (Orders L [] r.weights o1 o2 →
        ∃ T, weights.Report.PropagateWeights r o1 o2 = .ok { r with weights := T } ∧
          ((∀ q m, MNode.nodeAt? T q = some m → (o3 q).Perm (AMap.keys m.Children)) →
            ∃ T', weights.Report.SortWeighted { r with weights := T } o3 = .ok { r with weights := T' } ∧
              ∀ q m, MNode.nodeAt? T' q = some m →
                m.Value.Weight = Weights.sortKey L q ∧
                (∃ W, m.Value.Weights = some W ∧ NodupKeys W ∧ ∀ d, AMap.find? W d = Weights.nodeWeight L q d) ∧
                AMap.keys m.Children = Weights.childSegs L q ∧
                m.SortedKeys = Weights.sortedChildren L false q)) := by
  obtain ⟨r, hr, hrep, hdates⟩ := Add_fold_agrees L
  refine ⟨r, hr, hdates, fun hord => ?_⟩
  obtain ⟨T, hT, hprop⟩ := Propagate_tree_agrees L r hrep o1 o2 hord
  refine ⟨T, hT, fun hord3 => ?_⟩
  exact SortWeighted_tree_agrees L { r with weights := T } hprop o3 hord3

end Knut.FactsAgree.TransWeights
