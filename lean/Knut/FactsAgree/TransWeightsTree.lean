import Knut.FactsAgree.TransWeights
import Knut.FactsAgree.TransAmountsSum
import Knut.Proofs.PortfolioWeights
import Knut.Proofs.GoSemLogTree
/-!
# The translated report tree of `lib/reports/weights` after any log of `Report.Add` calls, and `PropagateWeights` over it

(What is done to one node: `TransWeights.lean`.)  `Rep L T`: after the log `L` of adds
(the model's `Weights.Add`: path, date, weight) every node of the tree is the node of its path: its map `Weights` is nil iff no add
went to exactly this path, and otherwise holds per date the sum of the weights added there on that date; its children are the next
segments of the added paths below it, in the model's order (the order of first occurrence).  `Rep` is the generic tree of a log of
paths (`MNode.LogTree`, `Proofs/GoSemLogTree.lean`).  `PropagateWeights` on such a tree, for EVERY admissible family of iteration
orders (each node's children each once, each node's dates reaching the dates of its children once), makes every node's map, per
date, the model's `nodeWeight` (the sum of the adds at or below the node on that date; no entry when there is none).
-/
namespace Knut.FactsAgree.TransWeights
open Knut Knut.GoSem Knut.MapSum
open Knut.Generated.Go
open Knut.FactsAgree.TransAmountsSum (find?_isSome)

abbrev Node := MNode weights.Value
abbrev Log := List Weights.Add

/-- the adds that went to exactly the path `π`: what the node of `π` holds before `PropagateWeights` -/
def ownL (L : Log) (π : List String) : Log := L.filter (fun a => decide (a.path = π))

/-- the weight of a list of adds on a date: no value when no add has the date -/
def wOn (xs : Log) (d : Int) : Option Rat :=
  if (xs.filter (fun a => decide (a.date = d))).isEmpty then none
  else some (((xs.filter (fun a => decide (a.date = d))).map (·.weight)).sum)

theorem wOn_append (xs : Log) (a : Weights.Add) (d : Int) :
    wOn (xs ++ [a]) d = if a.date = d then some ((wOn xs d).getD 0 + a.weight) else wOn xs d := by
  unfold wOn
  rw [List.filter_append]
  by_cases h : a.date = d
  · have hf : List.filter (fun a => decide (a.date = d)) [a] = [a] := by simp [h]
    rw [hf, if_pos h]
    generalize List.filter (fun a => decide (a.date = d)) xs = ys
    have hne : (ys ++ [a]).isEmpty = false := by cases ys <;> rfl
    rw [hne, if_neg Bool.false_ne_true, List.map_append, List.sum_append]
    show some (_ + (a.weight + 0)) = _
    rw [Rat.add_zero]
    cases ys <;> rfl
  · have hf : List.filter (fun a => decide (a.date = d)) [a] = [] := by simp [h]
    rw [hf, List.append_nil, if_neg h]

theorem dedup_snoc (t : String) : ∀ xs : List String,
    Weights.dedup (xs ++ [t]) = if t ∈ xs then Weights.dedup xs else Weights.dedup xs ++ [t] := by
  intro xs
  induction xs with
  | nil => simp [Weights.dedup]
  | cons x xs ih =>
    simp only [List.cons_append, Weights.dedup, ih, List.mem_cons]
    by_cases htx : t = x
    · subst htx
      by_cases hm : t ∈ xs
      · simp [hm]
      · simp [hm, List.filter_append]
    · by_cases hm : t ∈ xs
      · simp [hm, htx]
      · simp [hm, htx, List.filter_append]

/-- the model's children of a path when an add is appended: the next segment of its path goes to the end, if it is new -/
theorem childSegs_snoc (L : Log) (a : Weights.Add) (π : List String) :
    Weights.childSegs (L ++ [a]) π = MNode.addSeg (Weights.childSegs L π) (MNode.nextSeg π a.path) := by
  unfold Weights.childSegs Weights.below MNode.nextSeg
  rw [List.filter_append]
  by_cases hp : π.isPrefixOf a.path = true
  · simp only [hp, List.filter_cons_of_pos, List.filter_nil, if_true, List.filterMap_append, List.filterMap_cons, List.filterMap_nil,
      Weights.nextSeg]
    cases hh : (List.drop π.length a.path).head? with
    | none => simp [MNode.addSeg]
    | some t => simp only [dedup_snoc, Weights.mem_dedup, MNode.addSeg]
  · simp [hp, MNode.addSeg]

theorem mem_childSegs (L : Log) (π : List String) (s : String) :
    s ∈ Weights.childSegs L π ↔ ∃ a ∈ L, (π ++ [s]).isPrefixOf a.path = true := by
  unfold Weights.childSegs
  rw [Weights.mem_dedup]
  simp only [List.mem_filterMap, Weights.below, List.mem_filter, Weights.nextSeg]
  -- on an add below `π` the model's next segment is `MNode.nextSeg π` of its path
  constructor
  · rintro ⟨a, ⟨ha, hpre⟩, hs⟩
    exact ⟨a, ha, MNode.nextSeg_eq_some.1 (by rw [MNode.nextSeg, if_pos hpre]; exact hs)⟩
  · rintro ⟨a, ha, hpre⟩
    have hp := MNode.isPrefixOf_of_snoc hpre
    have hs := MNode.nextSeg_eq_some.2 hpre
    rw [MNode.nextSeg, if_pos hp] at hs
    exact ⟨a, ⟨ha, hp⟩, hs⟩

/-- **the node of the path `π`** in the tree of the adds `L` -/
structure Local (L : Log) (π : List String) (n : Node) : Prop where
  segment : n.Segment = π.getLast?.getD ""
  wnone : n.Value.Weights = none ↔ ownL L π = []
  weights : ∀ W, n.Value.Weights = some W → NodupKeys W ∧ ∀ d, AMap.find? W d = wOn (ownL L π) d
  nodup : (AMap.keys n.Children).Nodup
  children : ∀ s, s ∈ AMap.keys n.Children ↔ ∃ a ∈ L, (π ++ [s]).isPrefixOf a.path = true
  keysEq : AMap.keys n.Children = Weights.childSegs L π

/-- the Go tree `T` stands for the log `L` of adds: every node it has is the node of its path (`Local`); `Rep_iff`: it is the generic
`MNode.LogTree` -/
def Rep (L : Log) (T : Node) : Prop := ∀ π n, MNode.nodeAt? T π = some n → Local L π n

/-- what the `Value` of a node says of the adds `own` at exactly its path: `Weights` is nil iff there are none, otherwise it holds per
date their sum -/
def ValOf (own : Log) (v : weights.Value) : Prop :=
  (v.Weights = none ↔ own = []) ∧ ∀ W, v.Weights = some W → NodupKeys W ∧ ∀ d, AMap.find? W d = wOn own d

theorem ValOf.getD {own : Log} {v : weights.Value} (h : ValOf own v) :
    NodupKeys (v.Weights.getD []) ∧ ∀ d, AMap.find? (v.Weights.getD []) d = wOn own d := by
  cases hw : v.Weights with
  | none => rw [h.1.1 hw]; exact ⟨nodupKeys_nil, fun _ => rfl⟩
  | some W0 => exact h.2 W0 hw

theorem Local.getD {L : Log} {π : List String} {n : Node} (h : Local L π n) :
    NodupKeys (n.Value.Weights.getD []) ∧ ∀ d, AMap.find? (n.Value.Weights.getD []) d = wOn (ownL L π) d :=
  ValOf.getD ⟨h.wnone, h.weights⟩

/-- `Rep` for the subtree `n` that hangs at the path `π` -/
def RepAt (L : Log) (π : List String) (n : Node) : Prop := ∀ q m, MNode.nodeAt? n q = some m → Local L (π ++ q) m
theorem RepAt_root {L : Log} {T : Node} : Rep L T ↔ RepAt L [] T := by
  unfold Rep RepAt; simp

theorem bumpW_children (date : Int) (w : Rat) (n : Node) : (bumpW date w n).Children = n.Children := rfl

theorem Rep_iff {L : Log} {T : Node} : Rep L T ↔ MNode.LogTree (·.path) ValOf L T ∧
    ∀ p n, MNode.nodeAt? T p = some n → AMap.keys n.Children = Weights.childSegs L p :=
  ⟨fun h => ⟨fun p n hn => let l := h p n hn; ⟨l.segment, l.nodup, l.children, l.wnone, l.weights⟩, fun p n hn => (h p n hn).keysEq⟩,
   fun h p n hn => let l := h.1 p n hn; ⟨l.segment, l.value.1, l.value.2, l.nodup, l.children, h.2 p n hn⟩⟩

theorem Rep_new : Rep [] (MNode.new "" : Node) :=
  Rep_iff.2 ⟨MNode.LogTree.new _ ⟨⟨fun _ => rfl, fun _ => rfl⟩, fun W hW => nomatch hW⟩, fun p n hn => by
    cases p with
    | nil => cases hn; rfl
    | cons s rest => cases hn⟩

theorem Rep_add {L : Log} {T : Node} (h : Rep L T) (a : Weights.Add) :
    Rep (L ++ [a]) (MNode.modifyAt (bumpW a.date a.weight) a.path T) := by
  obtain ⟨h1, h2⟩ := Rep_iff.1 h
  refine Rep_iff.2 ⟨MNode.LogTree.insert _ h1 a _ (bumpW_children a.date a.weight) (fun _ => rfl) ⟨⟨fun _ => rfl, fun _ => rfl⟩, fun W hW => nomatch hW⟩ ?_,
    fun p n => MNode.LogTree.insert_keys _ h1 a _ (bumpW_children a.date a.weight) (fun _ => rfl) Weights.childSegs
      (childSegs_snoc L a) (fun q s hs => (mem_childSegs L q s).1 hs) h2⟩
  intro m hv
  refine ⟨⟨fun h => (nomatch h), fun h => (List.append_ne_nil_of_right_ne_nil _ (List.cons_ne_nil _ _) h).elim⟩, fun W hW' => ?_⟩
  obtain rfl : AMap.set (m.Value.Weights.getD []) a.date (AMap.get (m.Value.Weights.getD []) a.date 0 + a.weight) = W :=
    Option.some.inj hW'
  have hm := hv.getD
  refine ⟨AMap.nodupKeys_set hm.1 _ _, fun d => ?_⟩
  rw [wOn_append, AMap.find?_set, AMap.get, hm.2, hm.2]
  by_cases hd : a.date = d
  · subst hd; rfl
  · rw [if_neg hd, if_neg hd]

/-- the report after a log of `Report.Add` calls (`Add` never fails: `Add_agrees`) -/
def addAll (r : weights.Report) : Log → GoSem.Outcome weights.Report
  | [] => .ok r
  | a :: rest => (weights.Report.Add r a.path a.date a.weight).bind fun x => addAll x.1 rest

theorem addAll_rep : ∀ (rest L0 : Log) (r0 : weights.Report), Rep L0 r0.weights →
    (∀ d, set.Set.Has r0.dates d = (L0.map (·.date)).contains d) →
    ∃ r, addAll r0 rest = .ok r ∧ Rep (L0 ++ rest) r.weights ∧ ∀ d, set.Set.Has r.dates d = ((L0 ++ rest).map (·.date)).contains d
  | [], L0, r0, h1, h2 => ⟨r0, rfl, by rwa [List.append_nil], by rwa [List.append_nil]⟩
  | a :: rest, L0, r0, h1, h2 => by
    rw [addAll, Add_agrees, bind_okW, List.append_cons]
    refine addAll_rep rest (L0 ++ [a]) _ (Rep_add h1 a) (fun d => ?_)
    rw [TransCheck.Has_set, h2 d, List.map_append, List.contains_append, List.map_cons, List.map_nil, List.contains_cons, List.contains_nil,
      Bool.or_false, Bool.or_comm]
    exact congrArg _ (decide_eq_decide.2 eq_comm)

/-- **after any log of adds** from `NewReport`: no panic, the tree represents the log, the dates are the dates of the adds -/
theorem Add_fold_agrees (L : Log) :
    ∃ r, addAll weights.NewReport L = .ok r ∧ Rep L r.weights ∧ ∀ d, set.Set.Has r.dates d = (L.map (·.date)).contains d :=
  addAll_rep L [] weights.NewReport Rep_new (fun _ => rfl)

/-- the adds at or below `π` (the model's `Weights.below`) -/
def below (L : Log) (π : List String) : Log := L.filter (fun a => π.isPrefixOf a.path)

def lsum (f : Weights.Add → Rat) (xs : Log) : Rat := (xs.map f).sum

theorem lsum_cons (f : Weights.Add → Rat) (a : Weights.Add) (xs : Log) : lsum f (a :: xs) = f a + lsum f xs := rfl

/-- **sums split**: `ks` any duplicate-free list that contains the next segment of every added path below `π` -/
theorem lsum_below_split (f : Weights.Add → Rat) (L : Log) (π : List String) (ks : List String) (hn : ks.Nodup)
    (hks : ∀ a ∈ L, ∀ s, (π ++ [s]).isPrefixOf a.path = true → s ∈ ks) :
    lsum f (below L π) = lsum f (ownL L π) + (ks.map (fun s => lsum f (below L (π ++ [s])))).sum :=
  MNode.sum_belowOf_split Weights.Add.path f L π ks hn hks

/-- **"some add satisfies `p`" splits** in the same way -/
theorem any_below_split (p : Weights.Add → Bool) (L : Log) (π : List String) (ks : List String)
    (hks : ∀ a ∈ L, ∀ s, (π ++ [s]).isPrefixOf a.path = true → s ∈ ks) :
    (below L π).any p = ((ownL L π).any p || ks.any (fun s => (below L (π ++ [s])).any p)) := by
  rw [Bool.eq_iff_iff]
  simp only [List.any_eq_true, Bool.or_eq_true]
  constructor
  · rintro ⟨a, ha, hpa⟩
    rcases (MNode.mem_belowOf_split Weights.Add.path).1 ha with h | ⟨s, h⟩
    · exact Or.inl ⟨a, h, hpa⟩
    · exact Or.inr ⟨s, hks a (List.mem_filter.1 h).1 s (List.mem_filter.1 h).2, a, h, hpa⟩
  · rintro (⟨a, ha, hpa⟩ | ⟨s, _, a, ha, hpa⟩)
    · exact ⟨a, (MNode.mem_belowOf_split Weights.Add.path).2 (Or.inl ha), hpa⟩
    · exact ⟨a, (MNode.mem_belowOf_split Weights.Add.path).2 (Or.inr ⟨s, ha⟩), hpa⟩

def onDate (d : Int) (a : Weights.Add) : Bool := decide (a.date = d)
def wAt (d : Int) (a : Weights.Add) : Rat := if a.date = d then a.weight else 0

theorem sum_filter_onDate (xs : Log) (d : Int) :
    ((xs.filter (fun a => decide (a.date = d))).map (·.weight)).sum = lsum (wAt d) xs := by
  induction xs with
  | nil => rfl
  | cons a xs ih =>
    by_cases h : a.date = d
    · simp only [h, decide_true, List.filter_cons_of_pos, List.map_cons, List.sum_cons, ih, lsum_cons, wAt, if_true]
    · simp only [h, decide_false, Bool.false_eq_true, not_false_eq_true, List.filter_cons_of_neg, ih, lsum_cons, wAt, if_false]
      exact (Rat.zero_add _).symm

theorem isEmpty_filter_onDate (xs : Log) (d : Int) :
    (xs.filter (fun a => decide (a.date = d))).isEmpty = !xs.any (onDate d) := by
  induction xs with
  | nil => rfl
  | cons a xs ih =>
    by_cases h : a.date = d
    · simp [h, onDate]
    · simp [h, onDate, ih]

theorem wOn_eq (xs : Log) (d : Int) : wOn xs d = if xs.any (onDate d) then some (lsum (wAt d) xs) else none := by
  unfold wOn
  rw [isEmpty_filter_onDate, sum_filter_onDate]
  cases xs.any (onDate d) <;> simp

theorem lsum_zero_of_not_any (xs : Log) (d : Int) (h : xs.any (onDate d) = false) : lsum (wAt d) xs = 0 := by
  induction xs with
  | nil => rfl
  | cons a xs ih =>
    simp only [List.any_cons, Bool.or_eq_false_iff, onDate, decide_eq_false_iff_not] at h
    rw [lsum_cons, ih (by simpa [onDate] using h.2)]
    simp [wAt, h.1, Rat.add_zero]

theorem wOn_getD (xs : Log) (d : Int) : (wOn xs d).getD 0 = lsum (wAt d) xs := by
  rw [wOn_eq]
  cases h : xs.any (onDate d)
  · simp [lsum_zero_of_not_any xs d h]
  · simp

theorem wOn_isSome (xs : Log) (d : Int) : (wOn xs d).isSome = xs.any (onDate d) := by
  rw [wOn_eq]; cases xs.any (onDate d) <;> simp

theorem find?_of_get_isSome (W : AMap Int Rat) (d : Int) (x : Option Rat) (h1 : AMap.get W d 0 = x.getD 0)
    (h2 : (AMap.find? W d).isSome = x.isSome) : AMap.find? W d = x := by
  cases hf : AMap.find? W d with
  | none => cases x with
    | none => rfl
    | some v => simp [hf] at h2
  | some v => cases x with
    | none => simp [hf] at h2
    | some w => simp only [AMap.get, hf, Option.getD_some] at h1; rw [h1]

/-- **the node of the path `π` after `PropagateWeights`**: as before, but its map holds per date the sum of the adds at or below the path
(the model's `nodeWeight`), and is never nil -/
structure LocalP (L : Log) (π : List String) (n : Node) : Prop where
  segment : n.Segment = π.getLast?.getD ""
  weights : ∃ W, n.Value.Weights = some W ∧ NodupKeys W ∧ ∀ d, AMap.find? W d = wOn (below L π) d
  nodup : (AMap.keys n.Children).Nodup
  children : ∀ s, s ∈ AMap.keys n.Children ↔ ∃ a ∈ L, (π ++ [s]).isPrefixOf a.path = true
  keysEq : AMap.keys n.Children = Weights.childSegs L π

/-- the subtree `n` at the path `π` after `PropagateWeights`: every node is `LocalP` (its map holds the model's `nodeWeight`) -/
def PropAt (L : Log) (π : List String) (n : Node) : Prop := ∀ q m, MNode.nodeAt? n q = some m → LocalP L (π ++ q) m

/-- the iteration orders of one traversal of `PropagateWeights`: every node's children exactly once (`o2`); the order of the dates (`o1`)
without repetition and reaching every date of an add at or below the node -/
structure Orders (L : Log) (π : List String) (n : Node) (o1 : List String → List Int) (o2 : List String → List String) : Prop where
  children : ∀ q m, MNode.nodeAt? n q = some m → (o2 (π ++ q)).Perm (AMap.keys m.Children)
  datesNodup : ∀ q, (o1 q).Nodup
  dates : ∀ q, ∀ a ∈ below L q, a.date ∈ o1 q

theorem Orders_child {L : Log} {π : List String} {n : Node} {o1 : List String → List Int} {o2 : List String → List String}
    (h : Orders L π n o1 o2) {s : String} {c : Node} (hc : AMap.find? n.Children s = some c) : Orders L (π ++ [s]) c o1 o2 :=
  ⟨MNode.Below.child (P := fun q (m : Node) => (o2 q).Perm (AMap.keys m.Children)) h.children hc, h.datesNodup, h.dates⟩

theorem any_congr_mem {α : Type} {l : List α} {p q : α → Bool} (h : ∀ x ∈ l, p x = q x) : l.any p = l.any q := by
  induction l with
  | nil => rfl
  | cons x l ih => rw [List.any_cons, List.any_cons, h x List.mem_cons_self, ih (fun y hy => h y (List.mem_cons_of_mem _ hy))]

theorem height_pos (n : Node) : 0 < MNode.height n := MNode.height_pos n

theorem mem_below_of_snoc {L : Log} {π : List String} {s : String} {a : Weights.Add} (h : a ∈ below L (π ++ [s])) : a ∈ below L π := by
  simp only [below, List.mem_filter] at h ⊢
  exact ⟨h.1, MNode.isPrefixOf_of_snoc h.2⟩

/-- the children of a node during the traversal: the keys stay; a child already visited is propagated, the others are as they were -/
structure ChildInv (L : Log) (π : List String) (n : Node) (cs : List (String × Node)) (dn : String → Prop) : Prop where
  keys : AMap.keys cs = AMap.keys n.Children
  visited : ∀ s c, AMap.find? cs s = some c → dn s → PropAt L (π ++ [s]) c
  pending : ∀ s c, AMap.find? cs s = some c → ¬ dn s → AMap.find? n.Children s = some c

/-- `PropagateWeights`' closure on a node whose children (`cs'`, under the keys of the node's own) are already propagated -/
theorem propagate_node (L : Log) (o1 : List String → List Int) (o2 : List String → List String) (π : List String) (n : Node)
    (cs' : List (String × Node)) (hpre : RepAt L π n ∧ Orders L π n o1 o2) (hkeys : AMap.keys cs' = AMap.keys n.Children)
    (hback : ∀ k c', AMap.find? cs' k = some c' → ∃ c, AMap.find? n.Children k = some c ∧ PropAt L (π ++ [k]) c') :
    ∃ n', weights.Report.PropagateWeights.post1 o1 π () { n with Children := cs' } = .ok ((), n') ∧ PropAt L π n' := by
  obtain ⟨hrep, hord⟩ := hpre
  have hloc : Local L π n := MNode.Below.here hrep
  have hdone : ∀ s c, AMap.find? cs' s = some c → PropAt L (π ++ [s]) c := fun s c hc => (hback s c hc).elim fun _ h => h.2
  have hchild : ∀ name, name ∈ AMap.keys n.Children → ∀ d,
      AMap.find? (childW { n with Children := cs' } name) d = wOn (below L (π ++ [name])) d := by
    intro name hname d
    have : (AMap.find? cs' name).isSome := by rw [find?_isSome, hkeys]; simpa using hname
    obtain ⟨c, hc⟩ := Option.isSome_iff_exists.1 this
    obtain ⟨W, hW, _, hWd⟩ := (MNode.Below.here (hdone name c hc) : LocalP L (π ++ [name]) c).weights
    simp only [childW, AMap.get, hc, Option.getD_some, hW, hWd]
  have hcov : ∀ name d, (AMap.find? (childW { n with Children := cs' } name) d).isSome → d ∈ o1 π := by
    intro name d hs
    by_cases hname : name ∈ AMap.keys n.Children
    · rw [hchild name hname d, wOn_isSome, List.any_eq_true] at hs
      obtain ⟨a, ha, had⟩ := hs
      have := hord.dates π a (mem_below_of_snoc ha)
      simp only [onDate, decide_eq_true_eq] at had
      exact had ▸ this
    · have : AMap.find? cs' name = none := by
        rw [TransAmountsSum.find?_eq_none, hkeys]; exact hname
      simp [childW, AMap.get, this, GoZero.zero, MNode.new] at hs
  obtain ⟨W', hpost, hnd, hget, hsome⟩ := Propagate_post_agrees o1 π { n with Children := cs' } (hord.datesNodup π) hcov
  refine ⟨setW { n with Children := cs' } W', hpost, ?_⟩
  obtain ⟨hownN, hown⟩ := hloc.getD
  have hsk : (sortedKeys cs' (cmpOrdered : String → String → Int)).Perm (AMap.keys n.Children) := by
    unfold sortedKeys
    rw [← hkeys]
    exact List.mergeSort_perm _ _
  have hget' : ∀ name ∈ AMap.keys n.Children, ∀ d,
      AMap.get (childW { n with Children := cs' } name) d 0 = lsum (wAt d) (below L (π ++ [name])) := fun name hk d => by
    rw [AMap.get, hchild name hk d]; exact wOn_getD _ _
  have hsome' : ∀ name ∈ AMap.keys n.Children, ∀ d,
      (AMap.find? (childW { n with Children := cs' } name) d).isSome = (below L (π ++ [name])).any (onDate d) := fun name hk d => by
    rw [hchild name hk d, wOn_isSome]
  have hks : ∀ a ∈ L, ∀ s, (π ++ [s]).isPrefixOf a.path = true → s ∈ AMap.keys n.Children :=
    fun a ha s hs => (hloc.children s).2 ⟨a, ha, hs⟩
  refine MNode.Below.of_children (P := LocalP L) ?_ hdone
  refine ⟨hloc.segment, ⟨W', rfl, hnd hownN, fun d => find?_of_get_isSome _ _ _ ?_ ?_⟩, (show (AMap.keys cs').Nodup from hkeys ▸ hloc.nodup),
    fun s => (show s ∈ AMap.keys cs' ↔ _ from hkeys ▸ hloc.children s), (show AMap.keys cs' = _ from hkeys.trans hloc.keysEq)⟩
  · rw [hget d, AMap.get, hown d, wOn_getD, wOn_getD, lsum_below_split (wAt d) L π (AMap.keys n.Children) hloc.nodup hks, ← sum_perm (hsk.map _)]
    exact congrArg _ (congrArg _ (List.map_congr_left fun name hname => hget' name (hsk.mem_iff.1 hname) d))
  · rw [hsome d, hown d, wOn_isSome, wOn_isSome, any_below_split (onDate d) L π (AMap.keys n.Children) hks, ← any_congr_mem (fun s hs => hsome' s hs d),
      ← hsk.any_eq]

/-- **the traversal of a subtree**: every node's map becomes the model's `nodeWeight`; the fuel `MNode.height` suffices -/
theorem propagate_postOrderF (L : Log) (o1 : List String → List Int) (o2 : List String → List String) (fuel : Nat) :
    ∀ (π : List String) (n : Node), MNode.height n ≤ fuel → RepAt L π n → Orders L π n o1 o2 →
      ∃ n', MNode.postOrderF (weights.Report.PropagateWeights.post1 o1) o2 fuel π () n = .ok ((), n') ∧ PropAt L π n' :=
  fun π n hh hrep hord => MNode.postOrderF_rule_unit _ o2 (fun π n => RepAt L π n ∧ Orders L π n o1 o2) (fun π _ n' => PropAt L π n')
    (fun π n h => ⟨by simpa using h.2.children [] n rfl, (MNode.Below.here h.1).nodup⟩)
    (fun π n k c h hc => ⟨MNode.Below.child h.1 hc, Orders_child h.2 hc⟩)
    (propagate_node L o1 o2) fuel π n hh ⟨hrep, hord⟩

/-- **`PropagateWeights`** on the report after a log of adds, for EVERY admissible family of iteration orders: no panic, the fuel
suffices, and every node's map is the model's `nodeWeight` (`PropAt`); the dates are untouched -/
theorem Propagate_tree_agrees (L : Log) (r : weights.Report) (hrep : Rep L r.weights) (o1 : List String → List Int)
    (o2 : List String → List String) (hord : Orders L [] r.weights o1 o2) :
    ∃ T, weights.Report.PropagateWeights r o1 o2 = .ok { r with weights := T } ∧ PropAt L [] T := by
  obtain ⟨T, h1, h2⟩ := propagate_postOrderF L o1 o2 (MNode.height r.weights) [] r.weights (Nat.le_refl _) (RepAt_root.1 hrep) hord
  refine ⟨T, ?_, h2⟩
  rw [PropagateWeights_agrees]
  unfold MNode.postOrder
  rw [h1]; rfl

theorem below_eq (L : Log) (π : List String) : below L π = Weights.below L π := rfl

theorem nodeWeight_eq (L : Log) (π : List String) (d : Int) : wOn (below L π) d = Weights.nodeWeight L π d := rfl

/-- **the report after any log of adds and `PropagateWeights`**, in the model's terms: no panic; every node of the tree is a path prefix
of the adds; on every date its map holds the model's `nodeWeight` (no entry where the model has none); its children are the model's
`childSegs`, in the same order (the order of first occurrence) — for EVERY admissible family of iteration orders -/
theorem PropagateWeights_model (L : Log) (o1 : List String → List Int) (o2 : List String → List String) :
    ∃ r, addAll weights.NewReport L = .ok r ∧
      ((Orders L [] r.weights o1 o2) →
        ∃ T, weights.Report.PropagateWeights r o1 o2 = .ok { r with weights := T } ∧
          ∀ q m, MNode.nodeAt? T q = some m →
            (∃ W, m.Value.Weights = some W ∧ NodupKeys W ∧ ∀ d, AMap.find? W d = Weights.nodeWeight L q d) ∧
            (AMap.keys m.Children).Nodup ∧ AMap.keys m.Children = Weights.childSegs L q) := by
  obtain ⟨r, hr, hrep, _⟩ := Add_fold_agrees L
  refine ⟨r, hr, fun hord => ?_⟩
  obtain ⟨T, hT, hprop⟩ := Propagate_tree_agrees L r hrep o1 o2 hord
  refine ⟨T, hT, fun q m hm => ?_⟩
  have hl : LocalP L q m := by simpa using hprop q m hm
  exact ⟨hl.weights, hl.nodup, hl.keysEq⟩

end Knut.FactsAgree.TransWeights
