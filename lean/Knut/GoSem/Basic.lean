import Knut.Basic.AMap
/-!
# Meaning of the Go primitives used by the translated code (`harness/trans*.go`)

Hand-written and small on purpose: together with the translator this file is the trusted
reading of Go.  Every definition here is compared with the real Go primitive by the
differential stream `gosem` of C11 (`harness/gosem.go`, ops in `Driver/GoSem.lean`).

* Go `int`/`int64` are `Int` (unbounded): overflow is NOT modelled.  The translated functions
  compute on day numbers, months, lengths and counters only.
* `a / b`, `a % b` on integers truncate toward zero (`Int.tdiv`, `Int.tmod`); a zero divisor
  panics (`idivE`/`imodE`), a non-zero literal divisor cannot (`idiv`/`imod`).
* a function that can panic, that indexes a slice or that runs a three-clause/condition `for`
  loop is translated into the `Outcome` monad: `ok v`, `panic msg`, or `outOfFuel` when the
  fuel given to a loop did not suffice (an agreement theorem with a model function that never
  answers `outOfFuel` proves that the fuel expression is adequate).
* `error` values are `Option Error`; an `Error` keeps the constant message/format string only.
-/
namespace Knut.GoSem

inductive Outcome (α : Type) where
  | ok : α → Outcome α
  | panic : String → Outcome α
  | outOfFuel : Outcome α
  deriving Repr, DecidableEq

namespace Outcome
def bind {α β : Type} (x : Outcome α) (f : α → Outcome β) : Outcome β :=
  match x with
  | .ok a => f a
  | .panic m => .panic m
  | .outOfFuel => .outOfFuel
end Outcome

instance : Monad Outcome where
  pure := Outcome.ok
  bind := Outcome.bind

@[simp] theorem pure_eq {α : Type} (a : α) : (pure a : Outcome α) = Outcome.ok a := rfl
@[simp] theorem ok_bind {α β : Type} (a : α) (f : α → Outcome β) : (Outcome.ok a >>= f) = f a := rfl
@[simp] theorem panic_bind {α β : Type} (m : String) (f : α → Outcome β) :
    (Outcome.panic m >>= f) = Outcome.panic m := rfl
@[simp] theorem outOfFuel_bind {α β : Type} (f : α → Outcome β) :
    ((Outcome.outOfFuel : Outcome α) >>= f) = Outcome.outOfFuel := rfl

/-- result of a loop body or loop that contains a `return`: either control falls through with
the loop state `σ` or the enclosing function returns `ρ`. -/
inductive Flow (σ ρ : Type) where
  | next : σ → Flow σ ρ
  | ret : ρ → Flow σ ρ
  deriving Repr

/-- Go `error`: only the constant message (for `fmt.Errorf` the format string) is kept. -/
structure Error where
  msg : String
  deriving Repr, DecidableEq

/-- a Go pointer that the translated code only copies (a pointer into the syntax tree, `Src` fields): never
dereferenced, compared or assigned through there; `id = 0` is `nil` -/
structure Ref where
  id : Nat
  deriving Repr, DecidableEq

/-- zero value of a Go type (`var x T`, missing map entry, omitted struct field) -/
class GoZero (α : Type) where
  zero : α

instance : GoZero Int := ⟨0⟩
instance : GoZero Ref := ⟨⟨0⟩⟩
instance : GoZero Unit := ⟨()⟩
instance : GoZero Bool := ⟨false⟩
instance : GoZero String := ⟨""⟩
instance : GoZero Rat := ⟨0⟩
instance {α : Type} : GoZero (List α) := ⟨[]⟩
instance {α : Type} : GoZero (Option α) := ⟨none⟩
instance {α β : Type} [GoZero α] [GoZero β] : GoZero (α × β) := ⟨(GoZero.zero, GoZero.zero)⟩

@[simp] theorem zero_int : (GoZero.zero : Int) = 0 := rfl
@[simp] theorem zero_bool : (GoZero.zero : Bool) = false := rfl
@[simp] theorem zero_string : (GoZero.zero : String) = "" := rfl
@[simp] theorem zero_rat : (GoZero.zero : Rat) = 0 := rfl
@[simp] theorem zero_list {α : Type} : (GoZero.zero : List α) = [] := rfl
@[simp] theorem zero_option {α : Type} : (GoZero.zero : Option α) = none := rfl

/-- Go `a / b` on integers for a divisor that is a non-zero constant: truncated toward zero -/
@[simp] def idiv (a b : Int) : Int := Int.tdiv a b
/-- Go `a % b` on integers for a divisor that is a non-zero constant: sign of the dividend -/
@[simp] def imod (a b : Int) : Int := Int.tmod a b

theorem tdiv_eq (a b : Int) : Int.tdiv a b = if 0 ≤ a then a / b else -((-a) / b) := by
  split
  · exact Int.tdiv_eq_ediv_of_nonneg ‹_›
  · have h : 0 ≤ -a := by omega
    have := Int.tdiv_eq_ediv_of_nonneg (b := b) h
    rw [Int.neg_tdiv] at this
    omega
theorem tmod_eq (a b : Int) : Int.tmod a b = if 0 ≤ a then a % b else -((-a) % b) := by
  split
  · exact Int.tmod_eq_emod_of_nonneg ‹_›
  · have h : 0 ≤ -a := by omega
    have := Int.tmod_eq_emod_of_nonneg (b := b) h
    rw [Int.neg_tmod] at this
    omega

/-- Go `a / b` on integers: run-time panic for `b = 0` -/
def idivE (a b : Int) : Outcome Int :=
  if b = 0 then .panic "runtime error: integer divide by zero" else .ok (Int.tdiv a b)
def imodE (a b : Int) : Outcome Int :=
  if b = 0 then .panic "runtime error: integer divide by zero" else .ok (Int.tmod a b)

/-- `len(xs)` -/
@[simp] def len {α : Type} (xs : List α) : Int := (xs.length : Int)

/-- `xs[i]`: run-time panic outside `0 ≤ i < len(xs)` -/
def index {α : Type} (xs : List α) (i : Int) : Outcome α :=
  if i < 0 then .panic "runtime error: index out of range"
  else match xs[i.toNat]? with
    | some v => .ok v
    | none => .panic "runtime error: index out of range"

/-- `xs[i] = v` -/
def setIndex {α : Type} (xs : List α) (i : Int) (v : α) : Outcome (List α) :=
  if i < 0 ∨ (xs.length : Int) ≤ i then .panic "runtime error: index out of range"
  else .ok (xs.set i.toNat v)

/-- `xs[lo:hi]` for `0 ≤ lo ≤ hi ≤ len(xs)` (the capacity is not modelled: `hi` may not exceed the length) -/
def slice {α : Type} (xs : List α) (lo hi : Int) : Outcome (List α) :=
  if lo < 0 ∨ hi < lo ∨ (xs.length : Int) < hi then .panic "runtime error: slice bounds out of range"
  else .ok ((xs.take hi.toNat).drop lo.toNat)

/-- `compare.Ordered(a, b)` = `cmp.Compare(a, b)` on integers and strings: -1, 0, +1 -/
def cmpOrdered {α : Type} [LT α] [DecidableLT α] (a b : α) : Int :=
  if a < b then -1 else if b < a then 1 else 0

/-- `compare.Order` (-1, 0, +1) of a Lean `Ordering` -/
def ordGo : Ordering → Int
  | .lt => -1
  | .eq => 0
  | .gt => 1

/-- the entry of `m` at `k`, or `c` when there is none (`dict.GetDefault` before the entry is stored) -/
def getDefault {κ ν : Type} [DecidableEq κ] (m : AMap κ ν) (k : κ) (c : ν) : ν := (AMap.find? m k).getD c

/-- `dict.SortedKeys(m, cmp)`: the keys of the map sorted with "less" = (`cmp` = Smaller).  Exact when `cmp` is a strict total
order on the keys (then neither Go's map iteration order nor the unstable `sort.Slice` can show). -/
def sortedKeys {κ ν : Type} (m : AMap κ ν) (cmp : κ → κ → Int) : List κ :=
  (m.map Prod.fst).mergeSort (fun a b => decide (cmp a b ≠ 1))

/-- `dict.SortedValues(m, cmp)`: the values of the map sorted with "less" = (`cmp` = Smaller).  Exact when `cmp` is a strict total
order on the values that occur (then neither Go's map iteration order nor the unstable `sort.Slice` can show). -/
def sortedValues {κ ν : Type} (m : AMap κ ν) (cmp : ν → ν → Int) : List ν :=
  (m.map Prod.snd).mergeSort (fun a b => decide (cmp a b ≠ 1))

/-- a call `f(a)` of a function VALUE (a variable or field of function type): nil panics -/
def callFn1 {α β : Type} (f : Option (α → Outcome β)) (a : α) : Outcome β :=
  match f with
  | none => .panic "invalid memory address or nil pointer dereference"
  | some g => g a
def callFn2 {α β γ : Type} (f : Option (α → β → Outcome γ)) (a : α) (b : β) : Outcome γ :=
  match f with
  | none => .panic "invalid memory address or nil pointer dereference"
  | some g => g a b
def callFn3 {α β γ δ : Type} (f : Option (α → β → γ → Outcome δ)) (a : α) (b : β) (c : γ) : Outcome δ :=
  match f with
  | none => .panic "invalid memory address or nil pointer dereference"
  | some g => g a b c

/-- the body of a `for … range` loop in the Outcome monad -/
def foldlE {σ α : Type} (f : σ → α → Outcome σ) : σ → List α → Outcome σ
  | s, [] => .ok s
  | s, x :: rest => (f s x).bind (fun s' => foldlE f s' rest)

/-- fuel for a loop whose condition starts with `a >= b` (or `!a.Before(b)`) and whose body lowers `a` -/
def fuelGe (a b : Int) : Nat := (a - b + 1).toNat
/-- fuel for a loop whose condition starts with `a < b` and whose body narrows the gap -/
def fuelLt (a b : Int) : Nat := (b - a).toNat

/-- `sort.Search(n, f)`: Go's binary search, literally
`i, j := 0, n; for i < j { h := int(uint(i+j) >> 1); if !f(h) { i = h + 1 } else { j = h } }; return i`. -/
def sortSearchLoop (f : Int → Outcome Bool) : Nat → Int → Int → Outcome Int
  | 0, i, j => if i < j then .outOfFuel else .ok i
  | fuel + 1, i, j =>
    if i < j then
      let h := (i + j) / 2
      f h >>= fun b => if !b then sortSearchLoop f fuel (h + 1) j else sortSearchLoop f fuel i h
    else .ok i

def sortSearch (n : Int) (f : Int → Outcome Bool) : Outcome Int := sortSearchLoop f n.toNat 0 n

end Knut.GoSem
