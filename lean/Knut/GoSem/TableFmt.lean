import Knut.GoSem.Fmt
/-!
# Prelude of the translated table renderers (`lib/common/table`; `harness/trans_units_tablerender.go`)

* `github.com/fatih/color` v1.15.0: a `*color.Color` is its list of SGR parameters.  `(*Color).Fprintf(w, f, a…)` is
  `SetWriter(w)` (writes the escape sequence `ESC [ p1;p2;… m` unless colour is off), `fmt.Fprintf(w, f, a…)`, `UnsetWriter(w)` (writes
  the reset sequence `ESC [ 0 m` unless colour is off); its results are those of `fmt.Fprintf`.  Colour is off when the package
  variable `color.NoColor` is true, or when the colour object was created while the environment variable `NO_COLOR` was set
  (`color.New` stores that; the translated code creates its colours in package-level initialisers, i.e. when the process starts):
  `Color.State` holds both.
* `%f` of a `float64` (with width and precision) is NOT given a meaning: `Fmt.FloatFmt` is the type of the formatting function the
  translated functions take as a parameter (the verb as written in the format string, the operands of its `*`s, the exact value).
* `make([]T, n)`: `n` zero values; a negative length panics.  `Slices`: the capacity of a slice as `Option Int` (see below).

`Color.Fprintf` and `makeSlice` are compared with real Go by the stream `gosemtable` of C11 (`harness/gosem_table.go`).
-/
namespace Knut.GoSem

/-- `*color.Color`: the SGR parameters given to `color.New` -/
structure Color where
  params : List Int
  deriving DecidableEq, Repr

namespace Color
/-- `color.NoColor` (the package variable) and whether `NO_COLOR` was set when the process started -/
structure State where
  NoColor : Bool
  envNoColor : Bool
  deriving DecidableEq, Repr

/-- `color.New(attrs…)` -/
def New (ps : List Int) : Color := ⟨ps⟩

/-- `(*Color).sequence`: the parameters joined by `;` -/
def sequence (c : Color) : String := ";".intercalate (c.params.map (fun p => toString p))

/-- colour is off: `(*Color).isNoColorSet` -/
def off (st : State) : Bool := st.envNoColor || st.NoColor

/-- `c.Fprintf(w, format, a…)` for the formatted `text`: the new text of the writer, and the results of the inner `fmt.Fprintf` -/
def Fprintf (st : State) (c : Color) (w text : String) : String × Int × Option Error :=
  if off st then Writer.Write w text
  else (w ++ "\x1b[" ++ c.sequence ++ "m" ++ text ++ "\x1b[0m", Strings.byteLen text, none)

theorem Fprintf_off (st : State) (c : Color) (w text : String) (h : st.NoColor = true) :
    Fprintf st c w text = Writer.Write w text := by
  simp [Fprintf, off, h]
end Color

namespace Fmt
/-- what `fmt` prints for a verb `%[width][.prec]f` of a `float64`: the verb as written, the operands of its `*`s, the value
(an exact rational in the reading of `GoSem/Float.lean`).  No meaning is given: a parameter of the translated functions. -/
abbrev FloatFmt := String → List Int → Rat → String
end Fmt

/-- `make([]T, n)` -/
def makeSlice {α : Type} [GoZero α] (n : Int) : Outcome (List α) :=
  if n < 0 then .panic "runtime error: makeslice: len out of range" else .ok (List.replicate n.toNat GoZero.zero)

/-! The CAPACITY of a slice, for the struct fields whose capacity the translated code observes (`cap(r.cells)` in `Row.FillEmpty`):
`some n`, or `none` = unknown: after an `append` that did not fit, the runtime decides the capacity of the new array. -/
namespace Slices
def capUnknown : String := "cap of a slice that append has reallocated: its capacity is decided by the runtime, outside the reading"

/-- the capacity of `make([]T, 0, n)`; a negative capacity panics -/
def makeCap (n : Int) : Outcome (Option Int) :=
  if n < 0 then .panic "runtime error: makeslice: cap out of range" else .ok (some n)

/-- the capacity after `append` to the new length `newLen` -/
def appendCap (cap : Option Int) (newLen : Int) : Option Int :=
  match cap with
  | some c => if newLen ≤ c then some c else none
  | none => none

/-- `cap(xs)` -/
def capE (cap : Option Int) : Outcome Int :=
  match cap with
  | some c => .ok c
  | none => .panic capUnknown
end Slices

end Knut.GoSem
