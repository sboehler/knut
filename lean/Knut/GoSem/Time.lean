import Knut.Basic.Date
/-!
# Go's `time.Time`, restricted to UTC-midnight dates

A `time.Time` that the translated code handles is a date at 00:00:00 UTC (they are only ever
built by `time.Date(y, m, d, 0, 0, 0, 0, time.UTC)`, `AddDate` and the parser); it is the day
number of `Knut/Basic/Date.lean` (day 0 = 0001-01-01 = Go's zero `time.Time`).

`time.Date` normalises: the month may be any integer (`y, m = norm(y, m-1, 12)`, floor), the day is a
pure offset from the first of the normalised month.  That is `Date.ofCivil`.  `AddDate(y, m, d)` is
`Date(Year+y, Month+m, Day+d, …)`.  Compared with the real `time` package by the `gosem` stream.
-/
namespace Knut.GoSem

/-- documentation alias only; the translator writes `Int` for `time.Time` (an `abbrev` hides the type from `omega`) -/
abbrev Time := Int

namespace Time
open Knut.Date

/-- `time.Date(y, m, d, 0, 0, 0, 0, time.UTC)` -/
@[simp] def Date (y m d : Int) : Int := ofCivil y m d
@[simp] def Year (t : Int) : Int := year t
@[simp] def Month (t : Int) : Int := month t
@[simp] def Day (t : Int) : Int := day t
/-- `t.Weekday()`: Sunday = 0 … Saturday = 6 -/
@[simp] def Weekday (t : Int) : Int := weekday t
/-- `t.AddDate(y, m, d)` -/
def AddDate (t : Int) (y m d : Int) : Int := ofCivil (year t + y) (month t + m) (day t + d)
@[simp] def Before (t u : Int) : Bool := decide (t < u)
@[simp] def After (t u : Int) : Bool := decide (t > u)
@[simp] def Equal (t u : Int) : Bool := decide (t = u)
/-- `t.IsZero()`: the zero `time.Time` is 0001-01-01 00:00:00 UTC -/
@[simp] def IsZero (t : Int) : Bool := decide (t = 0)
/-- `t.Compare(u)` -/
@[simp] def Compare (t u : Int) : Int := if t < u then -1 else if t > u then 1 else 0

theorem AddDate_days (t : Int) (d : Int) : AddDate t 0 0 d = t + d := by
  have h := ofCivil_toCivil t
  have ⟨h1, h12⟩ := month_bounds t
  have e1 : (month t - 1) / 12 = 0 := by omega
  have e2 : (month t - 1) % 12 + 1 = month t := by omega
  unfold AddDate
  unfold ofCivil at h ⊢
  simp only [Int.add_zero, e1, e2] at h ⊢
  omega

end Time
end Knut.GoSem
