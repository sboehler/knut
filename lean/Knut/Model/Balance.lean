import Knut.Model.Check
import Knut.Model.Partition
import Knut.Model.Prices
/-!
# Model of the `balance` command's processing pipeline

`check → ComputePrices → Valuate → Filter → CloseAccounts → Query` (cmd/commands/balance.go,
lib/journal/process.go), run sequentially: day by day, each day through all stages in order.
(`cpr.Seq` runs the stages concurrently, one goroutine per stage with hand-over of the day; the
sequential result is what C19 shows every schedule produces.)

The report is kept as the *log of inserted entries* `(column date, mapped account, commodity,
amount)`; `Knut.Model.BalanceReport` turns the log into the rendered table.
-/
namespace Knut
open Knut.Prices (NPrices)

/-- one `Report.Insert` -/
structure Entry where
  date : Option Int        -- `Partition.Align` of the transaction date (`none` = after the window)
  account : Account        -- after remap and shorten
  commodity : Commodity
  amount : Rat
  deriving DecidableEq, Repr, Inhabited

/-- `account.Rule` with the regular expression as a predicate on account names -/
structure MapRule where
  level : Nat
  suffix : Nat
  test : String → Bool

/-- flags of the balance command that influence the entries -/
structure BalCfg where
  valuation : Option Commodity := none
  span : Period                         -- `Multiperiod` period clipped to the journal period
  periods : List Period                 -- the partition's periods (oldest first)
  close : Bool := true
  mapping : List MapRule := []          -- `-m`
  remap : String → Bool := fun _ => false   -- `--remap`
  accountFilter : String → Bool := fun _ => true   -- `--account`
  commodityFilter : String → Bool := fun _ => true -- `--commodity`

/-- `Registry.SwapType` -/
def swapType (a : Account) : Account :=
  match a.segments with
  | [] => a
  | s :: rest =>
    if s = "Assets" then ⟨"Liabilities" :: rest⟩
    else if s = "Liabilities" then ⟨"Assets" :: rest⟩
    else if s = "Income" then ⟨"Expenses" :: rest⟩
    else if s = "Expenses" then ⟨"Income" :: rest⟩
    else a

/-- `Mapping.Level`: first matching rule -/
def mappingLevel (m : List MapRule) (name : String) : Option (Nat × Nat) :=
  match m.find? (fun r => r.test name) with
  | some r => some (r.level, r.suffix)
  | none => none

/-- `account.Shorten` (after the repair that copies before appending); `none` = hidden -/
def shorten (m : List MapRule) (a : Account) : Option Account :=
  match mappingLevel m a.name with
  | none => some a
  | some (level, suffix) =>
    if level = 0 then none
    else if suffix ≥ a.level then some a
    else if level > a.level - suffix then some a
    else some ⟨a.segments.take level ++ a.segments.drop (a.level - suffix)⟩

/-- `mapper.Sequence(account.Remap, account.Shorten)` -/
def mapAccount (cfg : BalCfg) (a : Account) : Option Account :=
  shorten cfg.mapping (if cfg.remap a.name then swapType a else a)

/-- `Registry.ValuationAccountFor`: `Income:` + the account's path without its first segment -/
def valuationAccountFor (a : Account) : Account := ⟨"Income" :: a.segments.drop 1⟩

def equityAccount : Account := ⟨["Equity", "Equity"]⟩

inductive BalErr where
  | check (e : CheckErr)
  | zeroPrice
  | noPrice (c : Commodity)
  deriving Repr

/-- state of all stages -/
structure BalState where
  chk : CheckState := {}
  graph : Prices.Prices := []              -- ComputePrices: declared prices
  norm : Option NPrices := none            -- ComputePrices: `previous`
  vPrev : Option NPrices := none           -- Valuate: `prevPrices`
  vQty : AMap Position Rat := []           -- Valuate: `quantities`
  cQty : AMap Position Rat := []           -- CloseAccounts: `quantities`
  cVal : AMap Position Rat := []           -- CloseAccounts: `values`
  entries : List Entry := []               -- Report inserts, oldest first

namespace Balance

/-- `ComputePrices`: insert the day's prices; `DayEnd` normalises if the day declared any price -/
def pricesDay (v : Commodity) (st : BalState) (d : Day) : Except BalErr BalState := do
  let g ← d.prices.foldlM (fun g p =>
      match Prices.insert g ⟨p.commodity, p.price, p.target⟩ with
      | some g' => .ok g'
      | none => .error BalErr.zeroPrice) st.graph
  let norm := if d.prices.isEmpty then st.norm else some (Prices.normalize g v)
  .ok { st with graph := g, norm := norm }

/-- `NormalizedPrices.Price` (lib/model/price/prices.go) on the day's table, which is nil before the first price directive -/
def lookupPrice (np : Option NPrices) (c : Commodity) : Except BalErr Rat :=
  match np with
  | none => .error (.noPrice c)
  | some m => match Prices.find c m with
    | some p => .ok p
    | none => .error (.noPrice c)

/-- `Valuate.DayStart`, one position: a value adjustment if the position is open, foreign and its price changed -/
def adjustStep (v : Commodity) (date : Int) (prev cur : Option NPrices) (acc : List Transaction)
    (e : Position × Rat) : Except BalErr (List Transaction) :=
  if e.1.2 = v || !e.1.1.isAL || e.2 = 0 then .ok acc else do
    let pp ← lookupPrice prev e.1.2
    let cp ← lookupPrice cur e.1.2
    if cp - pp = 0 then .ok acc else
      .ok (acc ++ [{ date := date,
                     description := "Adjust value of " ++ e.1.2 ++ " in account " ++ e.1.1.name,
                     postings := postingBuild (valuationAccountFor e.1.1) e.1.1 e.1.2 0 (Prices.multiply (cp - pp) e.2),
                     targets := some [e.1.2] }])

/-- `Valuate.DayStart`: one value adjustment per open foreign asset/liability position whose price changed -/
def adjustments (v : Commodity) (date : Int) (prev cur : Option NPrices) (qty : AMap Position Rat) :
    Except BalErr (List Transaction) :=
  qty.foldlM (adjustStep v date prev cur) []

/-- `Valuate.Posting`: the value of one posting at the day's prices -/
def valuePosting (v : Commodity) (cur : Option NPrices) (p : Posting) : Except BalErr Posting :=
  if p.quantity = 0 then .ok p
  else if p.commodity = v then .ok { p with value := p.quantity }
  else do
    let pr ← lookupPrice cur p.commodity
    .ok { p with value := Prices.multiply p.quantity pr }

/-- the `Posting` handler of `Valuate` (lib/journal/process.go) over the postings of one transaction -/
def valueTx (v : Commodity) (cur : Option NPrices) (t : Transaction) : Except BalErr Transaction := do
  let ps ← t.postings.mapM (valuePosting v cur)
  .ok { t with postings := ps }

/-- quantities of asset/liability positions (`Valuate.Posting`, first half) -/
def addQty (qty : AMap Position Rat) (ts : List Transaction) : AMap Position Rat :=
  ts.foldl (fun q t => t.postings.foldl (fun q p =>
    if p.quantity = 0 then q
    else if p.account.isAL then q.set (p.account, p.commodity) (q.get (p.account, p.commodity) 0 + p.quantity)
    else q) q) qty

/-- the Valuate stage on one day: returns the day's transactions (with adjustments, valued) -/
def valuateDay (v : Commodity) (st : BalState) (d : Day) : Except BalErr (BalState × List Transaction) := do
  let adj ← adjustments v d.date st.vPrev st.norm st.vQty
  let txs ← (d.transactions ++ adj).mapM (valueTx v st.norm)
  .ok ({ st with vQty := addQty st.vQty (d.transactions ++ adj), vPrev := st.norm }, txs)

/-- `CloseAccounts.DayStart`: closing transactions for every accumulated non-zero position -/
def closings (date : Int) (cQty cVal : AMap Position Rat) : List Transaction :=
  cQty.filterMap (fun e =>
    let ((a, c), q) := e
    let v := cVal.get (a, c) 0
    if q = 0 && v = 0 then none
    else some { date := date,
                description := "Closing account " ++ a.name ++ " in " ++ c,
                postings := postingBuild a equityAccount c q v })

/-- `CloseAccounts.Posting`: accumulate income/expense/equity (except Equity:Equity) postings -/
def accumulate (st : BalState) (ts : List Transaction) : BalState :=
  ts.foldl (fun st t => t.postings.foldl (fun st p =>
    if p.account.isAL || p.account = equityAccount then st
    else
      let k : Position := (p.account, p.commodity)
      { st with cQty := st.cQty.set k (st.cQty.get k 0 + p.quantity),
                cVal := st.cVal.set k (st.cVal.get k 0 + p.value) }) st) st

/-- `Query.Into(report)` for one posting: a report insert if it passes the filters and is not hidden -/
def queryPosting (cfg : BalCfg) (t : Transaction) (p : Posting) : Option Entry :=
  if cfg.accountFilter p.account.name && cfg.commodityFilter p.commodity then
    match mapAccount cfg p.account with
    | some a => some { date := alignIn cfg.periods t.date, account := a, commodity := p.commodity,
                       amount := if cfg.valuation.isSome then p.value else p.quantity }
    | none => none
  else none

/-- the `Posting` handler of `Query.Into` (lib/journal/process.go) over the postings of one transaction: the report inserts -/
def queryTx (cfg : BalCfg) (t : Transaction) : List Entry := t.postings.filterMap (queryPosting cfg t)

/-- stage 1 (check) as a state transformer -/
def checkStage (st : BalState) (d : Day) : Except BalErr BalState :=
  match Check.day st.chk d with
  | .ok c => .ok { st with chk := c }
  | .error e => .error (BalErr.check e)

/-- stages 2+3 (ComputePrices, Valuate): the day's transactions, valued and with adjustments -/
def valuationStage (cfg : BalCfg) (st : BalState) (d : Day) : Except BalErr (BalState × List Transaction) :=
  match cfg.valuation with
  | none => .ok (st, d.transactions)
  | some v => do
    let st ← pricesDay v st d
    valuateDay v st d

/-- stage 4 (Filter) -/
def filterStage (cfg : BalCfg) (d : Day) (txs : List Transaction) : List Transaction :=
  if cfg.span.contains d.date then txs else []

/-- stage 5 (CloseAccounts) -/
def closeStage (cfg : BalCfg) (st : BalState) (d : Day) (txs : List Transaction) : BalState × List Transaction :=
  if cfg.close then
    let cl := if (cfg.periods.map (·.start)).contains d.date then closings d.date st.cQty st.cVal else []
    (accumulate st (txs ++ cl), txs ++ cl)
  else (st, txs)

/-- the transactions that reach the Query stage on day `d` -/
def dayTxs (cfg : BalCfg) (st : BalState) (d : Day) : Except BalErr (BalState × List Transaction) := do
  let st ← checkStage st d
  let (st, txs) ← valuationStage cfg st d
  .ok (closeStage cfg st d (filterStage cfg d txs))

/-- one day through all stages -/
def day (cfg : BalCfg) (st : BalState) (d : Day) : Except BalErr BalState := do
  let (st, txs) ← dayTxs cfg st d
  .ok { st with entries := st.entries ++ txs.flatMap (queryTx cfg) }

def run (cfg : BalCfg) (days : List Day) : Except BalErr BalState := days.foldlM (day cfg) {}

end Balance
end Knut
