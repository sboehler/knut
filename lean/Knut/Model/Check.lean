import Knut.Model.Journal
/-!
# Model of `lib/journal/check` (the checker processor, default options)
-/
namespace Knut

abbrev Position := Account × Commodity

structure CheckState where
  accounts : List Account := []          -- set of open accounts
  quantities : AMap Position Rat := []   -- only asset/liability positions are recorded
  deriving Repr

inductive CheckErrKind | alreadyOpen | notOpen | failedAssertion | nonzeroPosition
  deriving DecidableEq, Repr

/-- `check.Error`: the offending directive and the kind of message -/
structure CheckErr where
  directive : Directive
  kind : CheckErrKind
  deriving DecidableEq, Repr

namespace Check

/-- `Checker.open` (lib/journal/check/check.go) -/
def openAcc (st : CheckState) (o : Open) : Except CheckErr CheckState :=
  if st.accounts.contains o.account then .error ⟨.opening o, .alreadyOpen⟩
  else .ok { st with accounts := o.account :: st.accounts }

/-- `Checker.posting` -/
def posting (st : CheckState) (t : Transaction) (p : Posting) : Except CheckErr CheckState :=
  if !st.accounts.contains p.account then .error ⟨.tx t, .notOpen⟩
  else if p.account.isAL then
    let k : Position := (p.account, p.commodity)
    .ok { st with quantities := st.quantities.set k (st.quantities.get k 0 + p.quantity) }
  else .ok st

/-- `Checker.balance` (with NoCheck = false), after the repair that reads the map with its zero default -/
def balance (st : CheckState) (a : Assertion) (b : Balance) : Except CheckErr CheckState :=
  if !st.accounts.contains b.account then .error ⟨.assertion a, .notOpen⟩
  else if st.quantities.get (b.account, b.commodity) 0 ≠ b.quantity then .error ⟨.assertion a, .failedAssertion⟩
  else .ok st

/-- `Checker.close` -/
def close (st : CheckState) (c : Close) : Except CheckErr CheckState :=
  if st.quantities.any (fun e => e.1.1 = c.account && e.2 ≠ 0) then .error ⟨.closing c, .nonzeroPosition⟩
  else
    let qs := st.quantities.filter (fun e => e.1.1 ≠ c.account)
    if !st.accounts.contains c.account then .error ⟨.closing c, .notOpen⟩
    else .ok { accounts := st.accounts.filter (· ≠ c.account), quantities := qs }

/-- `Processor.Process` for the checker: opens, postings, balances, closes -/
def day (st : CheckState) (d : Day) : Except CheckErr CheckState := do
  let st ← d.openings.foldlM openAcc st
  let st ← d.transactions.foldlM (fun st t => t.postings.foldlM (fun st p => posting st t p) st) st
  let st ← d.assertions.foldlM (fun st a => a.balances.foldlM (fun st b => balance st a b) st) st
  d.closings.foldlM close st

def run (days : List Day) : Except CheckErr CheckState := days.foldlM day {}

end Check
end Knut
