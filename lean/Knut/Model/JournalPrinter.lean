import Knut.Model.Journal
import Knut.Model.BalanceReport
/-!
# Model of `journal.Print` and `lib/journal/printer` (the printer of *model* directives)

`knut print`, `check --write` and all importers print through this code.
-/
namespace Knut.JournalPrinter
open Knut

def fmtDate := BalanceReport.fmtDate

/-- `compare.Ordered` on strings: byte-wise = code-point-wise lexicographic -/
def cmpStr (a b : String) : Ordering := compare a b

def cmpRat (a b : Rat) : Ordering := if a < b then .lt else if b < a then .gt else .eq

/-- `account.Compare`: type, then name -/
def cmpAccount (a b : Account) : Ordering :=
  let ta : Nat := (a.type?.map (·.ord)).getD 9
  let tb : Nat := (b.type?.map (·.ord)).getD 9
  if ta < tb then .lt else if tb < ta then .gt else cmpStr a.name b.name

/-- `posting.Compare` -/
def cmpPosting (p q : Posting) : Ordering :=
  (cmpAccount p.account q.account).then <| (cmpAccount p.other q.other).then <|
  (cmpRat p.quantity q.quantity).then <| (cmpRat p.value q.value).then (cmpStr p.commodity q.commodity)

def cmpPostings : List Posting → List Posting → Ordering
  | [], [] => .eq
  | [], _ :: _ => .lt
  | _ :: _, [] => .gt
  | p :: ps, q :: qs => (cmpPosting p q).then (cmpPostings ps qs)

/-- `transaction.Compare`: date, description, postings pairwise, number of postings -/
def cmpTx (t u : Transaction) : Ordering :=
  (compare t.date u.date).then <| (cmpStr t.description u.description).then (cmpPostings t.postings u.postings)

/-- `journal.Sort`: `sort.Slice` is not stable; transactions that compare equal print identically unless
their `@performance` targets differ. The model sorts stably. -/
def sortTxs (ts : List Transaction) : List Transaction := ts.mergeSort (fun a b => cmpTx a b != .gt)

/-- `utf8.RuneCountInString`: the length of a Lean string counts characters -/
def runeLen (s : String) : Nat := s.length

/-- `Printer.UpdatePadding` over all transactions -/
def padding (days : List Day) : Nat :=
  days.foldl (fun m d => d.transactions.foldl (fun m t => t.postings.foldl (fun m p =>
    max m (max (runeLen p.account.name) (runeLen p.other.name))) m) m) 0

/-- `padRight` of `lib/journal/printer/printer.go`: blanks appended up to `w` runes; `padLeft`: what `%10s` does -/
def padRight (s : String) (w : Nat) : String := s ++ String.ofList (List.replicate (w - runeLen s) ' ')
def padLeft (s : String) (w : Nat) : String := String.ofList (List.replicate (w - runeLen s) ' ') ++ s

/-- `printPosting`: `%s %s %10s %s` of `padRight` Other, `padRight` Account, Quantity, Commodity -/
def printPosting (pad : Nat) (p : Posting) : String :=
  padRight p.other.name pad ++ " " ++ padRight p.account.name pad ++ " " ++ padLeft (Dec.showDec p.quantity) 10 ++ " " ++ p.commodity

/-- the posting loop of `printTransaction` skips the even indices (`i%2 == 0`): a booking is stored as two postings and
printed once, from the second -/
def everyOther : List Posting → List Posting
  | _ :: b :: rest => b :: everyOther rest
  | _ => []

/-- `strings.ReplaceAll(desc, "\"", "'")`: one ASCII byte replaced by another, character by character -/
def descText (s : String) : String := String.ofList (s.toList.map (fun c => if c == '"' then '\'' else c))

/-- `printTransaction` (the description's double quotes are printed as single quotes) -/
def printTx (pad : Nat) (t : Transaction) : String :=
  (match t.targets with
   | some tg => "@performance(" ++ String.intercalate "," tg ++ ")\n"
   | none => "") ++
  fmtDate t.date ++ " \"" ++ descText t.description ++ "\"\n" ++
  String.join ((everyOther t.postings).map (fun p => printPosting pad p ++ "\n"))

def printOpen (o : Open) : String := fmtDate o.date ++ " open " ++ o.account.name
def printClose (c : Close) : String := fmtDate c.date ++ " close " ++ c.account.name
def printPrice (p : Price) : String :=
  fmtDate p.date ++ " price " ++ p.commodity ++ " " ++ Dec.showDec p.price ++ " " ++ p.target

/-- `printAssertion`: a single balance on the line of the date, otherwise (several, or none) one balance per following line -/
def printAssertion (a : Assertion) : String :=
  fmtDate a.date ++ " balance" ++
  (match a.balances with
   | [b] => " " ++ b.account.name ++ " " ++ Dec.showDec b.quantity ++ " " ++ b.commodity
   | bs => String.join (bs.map (fun b => "\n" ++ b.account.name ++ " " ++ Dec.showDec b.quantity ++ " " ++ b.commodity)))

def printAssertions : List Assertion → String
  | [] => ""
  | [a] => printAssertion a ++ "\n"
  | a :: rest => printAssertion a ++ "\n" ++ (if a.balances.length != 1 then "\n" else "") ++ printAssertions rest

/-- one day of `journal.Print` -/
def printDay (pad : Nat) (d : Day) : String :=
  String.join (d.prices.map (fun p => printPrice p ++ "\n")) ++ (if d.prices.isEmpty then "" else "\n") ++
  String.join (d.openings.map (fun o => printOpen o ++ "\n")) ++ (if d.openings.isEmpty then "" else "\n") ++
  String.join ((sortTxs d.transactions).map (fun t => printTx pad t ++ "\n")) ++
  printAssertions d.assertions ++ (if d.assertions.isEmpty then "" else "\n") ++
  String.join (d.closings.map (fun c => printClose c ++ "\n")) ++ (if d.closings.isEmpty then "" else "\n")

/-- `journal.Print` -/
def print (days : List Day) : String := String.join (days.map (printDay (padding days)))

end Knut.JournalPrinter
