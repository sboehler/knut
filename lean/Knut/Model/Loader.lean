/-!
# Model of the recursive journal loader (`lib/syntax/syntax.go`: `ParseFileRecursively`, `parseRec`)

```go
func parseRec(ctx, wg, resCh, file string, ancestors []string) (directives.File, error) {
	for _, a := range ancestors {
		if path.Clean(a) == path.Clean(file) { return File{}, fmt.Errorf("include cycle …") }
	}
	ancestors = append(ancestors[:len(ancestors):len(ancestors)], file)
	text, err := os.ReadFile(file);            if err != nil { return File{}, err }
	p := parser.New(string(text), file);       if err := p.Advance(); err != nil { return File{}, err }
	p.Callback = func(d directives.Directive) {
		if inc, ok := d.Directive.(directives.Include); ok {
			file := path.Join(filepath.Dir(file), inc.IncludePath.Content.Extract())
			wg.Go(func() error { res, err := parseRec(ctx, wg, resCh, file, ancestors); … push res … })
		}
	}
	return p.ParseFile()
}
```

* The file system is a function `Path → Option Bytes` (`none`: `os.ReadFile` fails — missing file, directory,
  no permission, name too long, too many symbolic links) of which only finitely many *cleaned* paths are
  readable (`FileSys.fin`; every real file system satisfies it, if only through `PATH_MAX`).
* The parser is a parameter: `parse file text` gives the include paths handed to the callback — in order, also
  those seen before a later syntax error, as the callback fires while parsing — and the tree or the error.
  `Knut.Commands` instantiates it with the parser model `Knut.Syntax.parseText`.
* Every include is one goroutine of the `errgroup`; `wg.Wait()` returns the first error of any of them. Which
  error is first depends on the schedule; the model reports the first one in depth-first order and nothing
  but the class (`ok` / `error`) is ever compared. The order of the files in a successful result is likewise
  the depth-first order here and the order of arrival in Go (C05/C19 are about that order).
* There is no panic outcome: none of the calls above can panic in the model (`Range.Extract` of the include
  path is covered by `C07_extract_is_slice`).

The recursion needs **no fuel**: the chain of ancestors consists of readable files with pairwise different
cleaned paths, so it is at most as long as the file system has readable paths. `depthBound` makes the same
fact available as a number (see `Properties/C14.lean`, `C14_loader_depth_bounded`).
-/
namespace Knut.Loader
set_option linter.unusedVariables false

abbrev Path := String
abbrev Bytes := List UInt8

/-! ## `path.Clean`, `filepath.Dir`, `path.Join` (Unix) -/

/-- the loop of `path.Clean` on path elements; `out` is the output buffer as a stack of elements, newest first.
`..` elements are only ever pushed on a stack consisting of `..` elements (Go's `dotdot` mark). -/
def cleanLoop (rooted : Bool) : List String → List String → List String
  | out, [] => out
  | out, e :: rest =>
    if e = "" ∨ e = "." then cleanLoop rooted out rest
    else if e = ".." then
      match out with
      | top :: below =>
        if top = ".." then cleanLoop rooted (".." :: out) rest     -- cannot backtrack over `..` (never rooted here)
        else cleanLoop rooted below rest                           -- backtrack
      | [] => if rooted then cleanLoop rooted [] rest else cleanLoop rooted [".."] rest
    else cleanLoop rooted (e :: out) rest

/-- the elements between the slashes (`strings.Split(p, "/")`), by structural recursion so that it evaluates in the kernel -/
def splitOnSlash : List Char → List Char → List String
  | cur, [] => [String.ofList cur.reverse]
  | cur, c :: cs => if c = '/' then String.ofList cur.reverse :: splitOnSlash [] cs else splitOnSlash (c :: cur) cs

def splitSlash (p : String) : List String := splitOnSlash [] p.toList

/-- Go's `path.Clean` (= `filepath.Clean` on Unix) -/
def pathClean (p : String) : String :=
  if p = "" then "."
  else
    let rooted := p.front == '/'
    let out := (cleanLoop rooted [] (splitSlash p)).reverse
    if rooted then "/" ++ "/".intercalate out
    else if out.isEmpty then "." else "/".intercalate out

/-- the text up to and including the last `/` -/
def dirPrefix (p : String) : String :=
  String.ofList ((p.toList.reverse.dropWhile (· != '/')).reverse)

/-- `filepath.Dir` on Unix -/
def dirOf (p : String) : String := pathClean (dirPrefix p)

/-- `path.Join(filepath.Dir(includer), inc)`: the directory is never empty, so the two are joined by a slash
and cleaned -/
def resolve (includer inc : String) : String := pathClean (dirOf includer ++ "/" ++ inc)

/-! ## File system -/

structure FileSys where
  /-- `os.ReadFile` -/
  read : Path → Option Bytes
  /-- the cleaned forms of all readable paths -/
  paths : List Path
  fin : ∀ p, (read p).isSome = true → pathClean p ∈ paths

/-! ## The loader -/

/-- what the parser delivers for one file -/
structure Parsed (E F : Type) where
  /-- the include paths handed to `Callback`, in order (also when the parse fails afterwards) -/
  includes : List String
  /-- `p.Advance()` and `p.ParseFile()` -/
  result : Except E F

inductive LoadErr (E : Type) where
  /-- the file is in its own chain of including files -/
  | cycle (file : Path)
  /-- `os.ReadFile` failed -/
  | unreadable (file : Path)
  /-- the scanner or parser rejected the file -/
  | parse (file : Path) (e : E)
  deriving Repr, DecidableEq

/-- the check at the head of `parseRec` -/
def inChain (ancestors : List Path) (file : Path) : Bool :=
  ancestors.any (fun a => pathClean a == pathClean file)

/-- first error in list order, or all results concatenated -/
def collect {ε α : Type} : List (Except ε (List α)) → Except ε (List α)
  | [] => .ok []
  | .error e :: _ => .error e
  | .ok xs :: rest =>
    match collect rest with
    | .error e => .error e
    | .ok ys => .ok (xs ++ ys)

/-- readable cleaned paths not yet in the chain: the termination measure -/
def remaining (fs : FileSys) (ancestors : List Path) : Nat :=
  (fs.paths.filter (fun u => !(ancestors.map pathClean).contains u)).length

theorem filter_length_lt {α : Type} (p q : α → Bool) (l : List α) (himp : ∀ x, q x = true → p x = true)
    (x : α) (hx : x ∈ l) (hp : p x = true) (hq : q x = false) : (l.filter q).length < (l.filter p).length := by
  have e : l.filter q = (l.filter p).filter q := by
    rw [List.filter_filter]
    exact List.filter_congr fun a _ => by cases hqa : q a <;> simp [himp a, hqa]
  rw [e]
  exact List.length_filter_lt_length_iff_exists.mpr ⟨x, List.mem_filter.mpr ⟨hx, hp⟩, by simp [hq]⟩

theorem mem_of_lookup_eq_some {α β : Type} [BEq α] [LawfulBEq α] {a : α} {b : β} :
    ∀ {l : List (α × β)}, l.lookup a = some b → (a, b) ∈ l
  | [], h => by simp at h
  | (k, v) :: rest, h => by
    simp only [List.lookup_cons] at h
    cases hk : (a == k) with
    | true =>
      simp [hk] at h
      have : a = k := by simpa using hk
      subst this; subst h; exact List.mem_cons_self
    | false =>
      simp [hk] at h
      exact List.mem_cons_of_mem _ (mem_of_lookup_eq_some h)

theorem remaining_lt (fs : FileSys) (ancestors : List Path) (file : Path)
    (hc : inChain ancestors file = false) (hr : (fs.read file).isSome = true) :
    remaining fs (ancestors ++ [file]) < remaining fs ancestors := by
  unfold remaining
  have hc' : ∀ a ∈ ancestors, pathClean a ≠ pathClean file := by
    simpa [inChain] using hc
  refine filter_length_lt _ _ _ ?_ (pathClean file) (fs.fin file hr) ?_ ?_
  · intro x hx
    simp only [List.map_append, Bool.not_eq_true', List.contains_eq_mem, List.mem_append, decide_eq_false_iff_not] at hx ⊢
    exact fun h => hx (Or.inl h)
  · simp only [Bool.not_eq_true', List.contains_eq_mem, decide_eq_false_iff_not, List.mem_map, not_exists, not_and]
    exact fun a ha => hc' a ha
  · simp

/-- a file system given by a table of (path, content), looked up by the exact path string -/
def FileSys.ofList (files : List (Path × Bytes)) : FileSys where
  read p := files.lookup p
  paths := files.map (fun f => pathClean f.1)
  fin p h := by
    cases hl : files.lookup p with
    | none => simp [hl] at h
    | some b =>
      have : (p, b) ∈ files := mem_of_lookup_eq_some hl
      exact List.mem_map.mpr ⟨(p, b), this, rfl⟩

/-- `parseRec` together with the goroutines it starts: the files loaded, or the first error -/
def loadRec {E F : Type} (fs : FileSys) (parse : Path → Bytes → Parsed E F) (file : Path) (ancestors : List Path) :
    Except (LoadErr E) (List (Path × F)) :=
  if hc : inChain ancestors file then .error (.cycle file)
  else
    match hr : fs.read file with
    | none => .error (.unreadable file)
    | some text =>
      let p := parse file text
      let kids := p.includes.map (fun inc => loadRec fs parse (resolve file inc) (ancestors ++ [file]))
      match p.result with
      | .error e => .error (.parse file e)
      | .ok f =>
        match collect kids with
        | .error e => .error e
        | .ok fs' => .ok ((file, f) :: fs')
termination_by remaining fs ancestors
decreasing_by
  exact remaining_lt fs ancestors file (by simpa using hc) (by simp [hr])

/-- `syntax.ParseFileRecursively(root)` -/
def load {E F : Type} (fs : FileSys) (parse : Path → Bytes → Parsed E F) (root : Path) :
    Except (LoadErr E) (List (Path × F)) :=
  loadRec fs parse root []

/-! ## The same recursion with a depth budget (used only to *state* that the depth is bounded) -/

/-- `loadRec` with a depth budget: `none` when a call at depth `fuel` would be needed -/
def loadFuel {E F : Type} (fs : FileSys) (parse : Path → Bytes → Parsed E F) :
    Nat → Path → List Path → Option (Except (LoadErr E) (List (Path × F)))
  | 0, _, _ => none
  | fuel + 1, file, ancestors =>
    if inChain ancestors file then some (.error (.cycle file))
    else
      match fs.read file with
      | none => some (.error (.unreadable file))
      | some text =>
        let p := parse file text
        match p.includes.mapM (fun inc => loadFuel fs parse fuel (resolve file inc) (ancestors ++ [file])) with
        | none => none
        | some kids =>
          match p.result with
          | .error e => some (.error (.parse file e))
          | .ok f =>
            match collect kids with
            | .error e => some (.error e)
            | .ok fs' => some (.ok ((file, f) :: fs'))

/-- the depth the recursion can reach at most: one call per readable path, plus the failing last one -/
def depthBound (fs : FileSys) : Nat := fs.paths.length + 1

end Knut.Loader
