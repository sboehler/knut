import Knut.Basic.Date
/-!
# Model of `lib/common/date` (StartOf, EndOf, Period, NewPartition, Align)
-/
namespace Knut
open Knut.Date

inductive Interval | once | daily | weekly | monthly | quarterly | yearly
  deriving DecidableEq, Repr, Inhabited

/-- `date.StartOf` -/
def startOf (z : Int) : Interval → Int
  | .once => z
  | .daily => z
  | .weekly => z - (weekday z + 6) % 7
  | .monthly => ofCivil (year z) (month z) 1
  | .quarterly => ofCivil (year z) ((month z - 1) / 3 * 3 + 1) 1
  | .yearly => ofCivil (year z) 1 1

/-- `date.EndOf`. Monthly is `StartOf(d, Monthly).AddDate(0, 1, -1)`, i.e. Go's
`Date(y, m+1, 0)`; quarterly is `StartOf(d, Quarterly).AddDate(0, 3, 0).AddDate(0, 0, -1)`. -/
def endOf (z : Int) : Interval → Int
  | .once => z
  | .daily => z
  | .weekly => z + (7 - weekday z) % 7
  | .monthly => ofCivil (year z) (month z + 1) 0
  | .quarterly => ofCivil (year z) ((month z - 1) / 3 * 3 + 1 + 3) 1 - 1
  | .yearly => ofCivil (year z) 12 31

structure Period where
  start : Int
  stop : Int
  deriving DecidableEq, Repr, Inhabited

/-- `Period.Clip` -/
def Period.clip (p p2 : Period) : Period :=
  { start := if p2.start > p.start then p2.start else p.start,
    stop := if p2.stop < p.stop then p2.stop else p.stop }

/-- `Period.Contains` -/
def Period.contains (p : Period) (t : Int) : Bool := !(t < p.start) && !(t > p.stop)

def clampStart (s a : Int) : Int := if s < a then a else s

theorem ofCivil_first_le (z : Int) (m : Int) (h1 : 1 ≤ m) (h2 : m ≤ month z) :
    ofCivil (year z) m 1 ≤ z := by
  have ⟨_, h12, hz, _⟩ := day_range z
  have := cumDays_mono (isLeap (year z)) h1 h2 (by omega)
  rw [ofCivil_norm _ _ _ h1 (by omega)]
  omega

theorem startOf_le (z : Int) (iv : Interval) : startOf z iv ≤ z := by
  have ⟨h1, h12⟩ := month_bounds z
  cases iv <;> simp only [startOf]
  · omega
  · omega
  · have := weekday_bounds z; omega
  · exact ofCivil_first_le z _ h1 (Int.le_refl _)
  · exact ofCivil_first_le z _ (by omega) (by omega)
  · exact ofCivil_first_le z 1 (by omega) h1

/-- the loop of `NewPartition`, newest period first (before the final reversal) -/
def partLoop (a : Int) (iv : Interval) (last : Int) (e c : Int) : List Period :=
  if h : e < a ∨ (c ≥ last ∧ last > 0) then []
  else
    let s := clampStart (startOf e iv) a
    ⟨s, e⟩ :: partLoop a iv last (s - 1) (c + 1)
termination_by (e - a + 1).toNat
decreasing_by
  have := startOf_le e iv
  simp only [clampStart]
  split <;> omega

structure Partition where
  span : Period
  interval : Interval
  periods : List Period   -- oldest first
  deriving Repr

inductive Outcome (α : Type) where
  | ok : α → Outcome α
  | panic : String → Outcome α
  deriving Repr

/-- the period list built by `NewPartition` (oldest first) -/
def periodsOf (span : Period) (iv : Interval) (last : Int) : List Period :=
  if iv = .once then [span] else (partLoop span.start iv last span.stop 0).reverse

/-- `date.NewPartition`; day number `0` is Go's zero `time.Time` (0001-01-01). -/
def newPartition (span : Period) (iv : Interval) (last : Int) : Outcome Partition :=
  if span.start = 0 then .panic "can't create partition with zero time"
  else
    .ok { span := span, interval := iv, periods := periodsOf span iv last }

def Partition.contains (p : Partition) (d : Int) : Bool := p.span.contains d
def Partition.size (p : Partition) : Nat := p.periods.length
def Partition.startDates (p : Partition) : List Int := p.periods.map (·.start)
def Partition.endDates (p : Partition) : List Int := p.periods.map (·.stop)

/-- `Partition.Align`: end of the first period whose end is not before `d`;
`none` stands for the zero `time.Time`. -/
def alignIn (ps : List Period) (d : Int) : Option Int :=
  (ps.find? (fun p => !(p.stop < d))).map (·.stop)

def Partition.align (p : Partition) (d : Int) : Option Int := alignIn p.periods d

end Knut
