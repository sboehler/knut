/-!
# cpr.Seq, the loader fan-in and the journal builder as transition systems (core Lean only)

## Part 1 — `cpr.Seq` (`lib/common/cpr/cpr.go`)

`Seq(ctx, ts, fs...)` starts one goroutine for the source (pushes `ts` in order), one per stage
function `fs[k-1]` (`ForEach` over its input channel: receive, `f(t)`, `Push` to the next channel)
and one sink (appends to `res`).  All channels are unbuffered, so a hand-over is a rendezvous of the
sender (holding a finished item) with an idle receiver.  The workers run in a `conc` pool
`WithContext.WithCancelOnError.WithFirstError`: the first worker that returns an error records it
(`addErr`) and cancels the context; `Pop`/`Push` return `ctx.Err()` once the context is cancelled,
so no stage starts work on a new item after the cancellation, while work that is in flight runs to
its end.

Model: stages are numbered `1 … n` as in the Go code (`stageNo`), `0` is the source.
* `fed`       – loop index of the source (`for _, t := range ts`)
* `slot k`    – the item stage `k` owns (`some (a, false)`: received, work not finished;
                `some (a, true)`: `f` returned, blocked in `Push`)
* `st k`      – the private state of stage `k`'s closure (a `journal.Processor`'s captured maps)
* `hist k`    – ghost: the items stage `k` has handed on so far (never read by a guard)
* `out`       – the sink's `res`
* `err k`     – stage `k`'s `f` returned an error (the goroutine has left `ForEach`; it still "owns"
                the item it failed on, so it never receives again)
* `cancelled`, `reported` – the pool's context and the error `p.Wait()` returns (first `addErr`)

A stage function is `f k : σ → α → Except ε (σ × α)`: it may update its private state and the
item it owns, nothing else.  That stage closures share no other mutable state is the assumption
of this model that the race detector runs of the harness check on the real code.
-/
namespace Knut.Pipeline

/-- pointwise update of a function on stage numbers -/
def upd {β : Type} (g : Nat → β) (k : Nat) (v : β) : Nat → β := fun j => if j = k then v else g j

structure Sys (σ α ε : Type) where
  n : Nat
  f : Nat → σ → α → Except ε (σ × α)
  init : Nat → σ
  items : List α

structure St (σ α ε : Type) where
  fed : Nat
  slot : Nat → Option (α × Bool)
  st : Nat → σ
  hist : Nat → List α
  out : List α
  err : Nat → Option ε
  cancelled : Bool
  reported : Option (Nat × ε)

inductive Label
  | feed            -- source → stage 1          (rendezvous on the first channel)
  | direct          -- source → sink             (only when there is no stage)
  | work (k : Nat)  -- `f` of stage k returns nil
  | fail (k : Nat)  -- `f` of stage k returns an error
  | pass (k : Nat)  -- stage k → stage k+1       (rendezvous)
  | sink            -- stage n → sink            (rendezvous)
  | cancel (k : Nat) -- the pool records stage k's error as the first one and cancels the context
  deriving DecidableEq, Repr

variable {σ α ε : Type}

def St.initial (S : Sys σ α ε) : St σ α ε :=
  { fed := 0, slot := fun _ => none, st := S.init, hist := fun _ => [], out := [],
    err := fun _ => none, cancelled := false, reported := none }

/-- the transition function: `step? S s l = some s'` iff the step labelled `l` is enabled in `s`
and leads to `s'` -/
def step? (S : Sys σ α ε) (s : St σ α ε) : Label → Option (St σ α ε)
  | .feed =>
    if s.cancelled = false ∧ 0 < S.n ∧ (s.slot 1).isNone then
      match S.items[s.fed]? with
      | some a => some { s with fed := s.fed + 1, slot := upd s.slot 1 (some (a, false)) }
      | none => none
    else none
  | .direct =>
    if s.cancelled = false ∧ S.n = 0 then
      match S.items[s.fed]? with
      | some a => some { s with fed := s.fed + 1, out := s.out ++ [a] }
      | none => none
    else none
  | .work k =>
    if 1 ≤ k ∧ k ≤ S.n ∧ (s.err k).isNone then
      match s.slot k with
      | some (a, false) =>
        match S.f k (s.st k) a with
        | .ok (s', a') => some { s with st := upd s.st k s', slot := upd s.slot k (some (a', true)) }
        | .error _ => none
      | _ => none
    else none
  | .fail k =>
    if 1 ≤ k ∧ k ≤ S.n ∧ (s.err k).isNone then
      match s.slot k with
      | some (a, false) =>
        match S.f k (s.st k) a with
        | .ok _ => none
        | .error e => some { s with err := upd s.err k (some e) }
      | _ => none
    else none
  | .pass k =>
    if s.cancelled = false ∧ 1 ≤ k ∧ k < S.n ∧ (s.slot (k + 1)).isNone then
      match s.slot k with
      | some (a, true) =>
        some { s with slot := upd (upd s.slot k none) (k + 1) (some (a, false)),
                      hist := upd s.hist k (s.hist k ++ [a]) }
      | _ => none
    else none
  | .sink =>
    if s.cancelled = false ∧ 0 < S.n then
      match s.slot S.n with
      | some (a, true) =>
        some { s with slot := upd s.slot S.n none, hist := upd s.hist S.n (s.hist S.n ++ [a]),
                      out := s.out ++ [a] }
      | _ => none
    else none
  | .cancel k =>
    if s.cancelled = false then
      match s.err k with
      | some e => some { s with cancelled := true, reported := some (k, e) }
      | none => none
    else none

/-- reachable states -/
inductive Reach (S : Sys σ α ε) : St σ α ε → Prop
  | init : Reach S (St.initial S)
  | step {s s' : St σ α ε} (l : Label) : Reach S s → step? S s l = some s' → Reach S s'

/-- a run: the list of labels taken from `s` to `s'` -/
inductive Run (S : Sys σ α ε) : St σ α ε → List Label → St σ α ε → Prop
  | nil (s) : Run S s [] s
  | cons {s s' s'' : St σ α ε} {ls} (l : Label) : step? S s l = some s' → Run S s' ls s'' → Run S s (l :: ls) s''

/-- `p.Wait()` returns nil and `<-ch` delivers the result -/
def St.done (S : Sys σ α ε) (s : St σ α ε) : Prop :=
  s.cancelled = false ∧ (∀ k, s.err k = none) ∧ s.out.length = S.items.length

/-- `p.Wait()` returns the recorded error: the context is cancelled and no stage function is running -/
def St.stopped (s : St σ α ε) : Prop :=
  s.cancelled = true ∧ ∀ k a, s.slot k = some (a, false) → s.err k ≠ none

/-! ### the sequential meaning -/

/-- state and outputs after stage function `f` (initial state `s0`) has processed the first `i`
items of `l` one after the other; `none` if one of them failed (or `l` is shorter) -/
def proc (f : σ → α → Except ε (σ × α)) (s0 : σ) (l : List α) : Nat → Option (σ × List α)
  | 0 => some (s0, [])
  | i + 1 =>
    match proc f s0 l i with
    | none => none
    | some (s, o) =>
      match l[i]? with
      | none => none
      | some a =>
        match f s a with
        | .ok (s', a') => some (s', o ++ [a'])
        | .error _ => none

/-- one stage run to completion over a whole list -/
def seqStage (f : σ → α → Except ε (σ × α)) (s0 : σ) (l : List α) : Option (List α) :=
  (proc f s0 l l.length).map (·.2)

/-- stages `1 … k` run one after the other, each over the whole output of its predecessor -/
def seqUpTo (S : Sys σ α ε) : Nat → Option (List α)
  | 0 => some S.items
  | k + 1 => (seqUpTo S k).bind (seqStage (S.f (k + 1)) (S.init (k + 1)))

/-- the sequential result of `Seq` -/
def seqRun (S : Sys σ α ε) : Option (List α) := seqUpTo S S.n

/-- `f` run over a list until its first failure: the outputs of the processed prefix and the error, if any -/
def runStage (f : σ → α → Except ε (σ × α)) : σ → List α → List α × Option ε
  | _, [] => ([], none)
  | s, a :: as =>
    match f s a with
    | .ok (s', a') => let r := runStage f s' as; (a' :: r.1, r.2)
    | .error e => ([], some e)

/-- what reaches the output of stage `k` when every stage runs until its first failure -/
def stream (S : Sys σ α ε) : Nat → List α
  | 0 => S.items
  | k + 1 => (runStage (S.f (k + 1)) (S.init (k + 1)) (stream S k)).1

/-- the failures a run can report: for every stage its first failure on the stream that reaches it -/
def seqErrors (S : Sys σ α ε) : List (Nat × ε) :=
  (List.range S.n).filterMap (fun k => (runStage (S.f (k + 1)) (S.init (k + 1)) (stream S k)).2.map (fun e => (k + 1, e)))

/-- what stage `k` has emitted so far (`0` = the source) -/
def emitted (S : Sys σ α ε) (s : St σ α ε) (k : Nat) : List α :=
  if k = 0 then S.items.take s.fed else s.hist k

def occ (s : St σ α ε) (k : Nat) : Nat := if (s.slot k).isSome then 1 else 0

/-! ### executing the model under a schedule oracle (driver) -/

def labelsOf (n : Nat) : List Label :=
  [.feed, .direct, .sink] ++ (List.range (n + 1)).flatMap (fun k => [.work k, .fail k, .pass k, .cancel k])

def enabled (S : Sys σ α ε) (s : St σ α ε) : List (Label × St σ α ε) :=
  (labelsOf S.n).filterMap (fun l => (step? S s l).map (fun s' => (l, s')))

/-- run until no step is enabled; the oracle picks among the enabled steps -/
def runOracle (S : Sys σ α ε) (oracle : Nat → Nat) : Nat → Nat → St σ α ε → List Label → St σ α ε × List Label
  | 0, _, s, acc => (s, acc.reverse)
  | fuel + 1, i, s, acc =>
    match enabled S s with
    | [] => (s, acc.reverse)
    | e :: es =>
      let c := (e :: es)[oracle i % (es.length + 1)]?.getD e
      runOracle S oracle fuel (i + 1) c.2 (c.1 :: acc)

/-- a number of steps no run exceeds (`run_bound`: at most `(2n+1)m + 1`) -/
def stepBound (S : Sys σ α ε) : Nat := (2 * S.n + 1) * S.items.length + S.n + 2

/-! ## Part 2 — the relaxed trace acceptor

The `verif` hooks log `begin k` after stage `k` received an item, `end k` / `fail k` when its
function returned, `sink` when the sink received; not at the rendezvous itself.  A logged trace is
therefore some linearisation consistent with happens-before.  The acceptor keeps per stage how
many items it has begun and ended. -/

inductive Ev
  | begin (k : Nat) | done (k : Nat) | fail (k : Nat) | sink
  deriving DecidableEq, Repr

structure Acc where
  begun : Nat → Nat
  ended : Nat → Nat
  dead : Nat → Bool
  sunk : Nat

def Acc.initial : Acc := { begun := fun _ => 0, ended := fun _ => 0, dead := fun _ => false, sunk := 0 }

/-- how many items stage `k` can have received: what its predecessor (the source for `k = 1`) has finished -/
def upstream (m : Nat) (a : Acc) (k : Nat) : Nat := if k = 1 then m else a.ended (k - 1)

/-- how many items the sink can have received -/
def sinkLimit (n m : Nat) (a : Acc) : Nat := if n = 0 then m else a.ended n

/-- `n` stages, `m` items -/
def accStep (n m : Nat) (a : Acc) : Ev → Option Acc
  | .begin k =>
    if 1 ≤ k ∧ k ≤ n ∧ a.dead k = false ∧ a.begun k = a.ended k ∧ a.begun k < upstream m a k then
      some { a with begun := upd a.begun k (a.begun k + 1) }
    else none
  | .done k =>
    if 1 ≤ k ∧ k ≤ n ∧ a.dead k = false ∧ a.begun k = a.ended k + 1 then
      some { a with ended := upd a.ended k (a.ended k + 1) }
    else none
  | .fail k =>
    if 1 ≤ k ∧ k ≤ n ∧ a.dead k = false ∧ a.begun k = a.ended k + 1 then
      some { a with dead := upd a.dead k true }
    else none
  | .sink =>
    if a.sunk < sinkLimit n m a then some { a with sunk := a.sunk + 1 } else none

def accRun (n m : Nat) : Acc → List Ev → Option Acc
  | a, [] => some a
  | a, e :: es => (accStep n m a e).bind (fun a' => accRun n m a' es)

def accept (n m : Nat) (tr : List Ev) : Option Acc := accRun n m Acc.initial tr

def anyDead (n : Nat) (a : Acc) : Bool := (List.range (n + 1)).any (fun k => a.dead k)

/-- the run is complete: every stage has begun and ended all `m` items and the sink has them -/
def complete (n m : Nat) (a : Acc) : Bool :=
  !anyDead n a && a.sunk == m && (List.range (n + 1)).all (fun k => k == 0 || (a.begun k == m && a.ended k == m))

/-- the event a model step is logged as -/
def Label.event : Label → Option Ev
  | .feed => some (.begin 1)
  | .direct => some .sink
  | .work k => some (.done k)
  | .fail k => some (.fail k)
  | .pass k => some (.begin (k + 1))
  | .sink => some .sink
  | .cancel _ => none

/-! ### item-labelled traces (in-process harness: the stage functions know which item they hold)

The property predicate evaluated on the real code's observed schedule: every stage sees the items
`0, 1, 2, …` in this order, one at a time (no loss, no duplicate, FIFO), item `i` is begun by stage
`k` only after stage `k-1` ended it, and the sink receives them in order after the last stage. -/

inductive LEv
  | begin (k i : Nat) | done (k i : Nat) | fail (k i : Nat) | sink (i : Nat)
  deriving DecidableEq, Repr

def LEv.erase : LEv → Ev
  | .begin k _ => .begin k | .done k _ => .done k | .fail k _ => .fail k | .sink _ => .sink

/-- the labels are the ordinals: the `i`-th begin of stage `k` carries item `i` … -/
def labelsOK (a : Acc) : LEv → Bool
  | .begin k i => i == a.begun k
  | .done k i => i == a.ended k
  | .fail k i => i == a.ended k
  | .sink i => i == a.sunk

def laccRun (n m : Nat) : Acc → List LEv → Option Acc
  | a, [] => some a
  | a, e :: es => if labelsOK a e then (accStep n m a e.erase).bind (fun a' => laccRun n m a' es) else none

def laccept (n m : Nat) (tr : List LEv) : Option Acc := laccRun n m Acc.initial tr

/-! ## Part 3 — loader fan-in and journal builder

`syntax.ParseFileRecursively` starts one goroutine per file (an `errgroup`); each parses its file,
starts a goroutine for every `include` it meets (in the parser callback, i.e. while parsing) and
finally pushes its `directives.File` into the one result channel.  `model.FromStream` converts each
file in its own pool goroutine and pushes the directive list on; `journal.FromModelStream` is the
single consumer that `Add`s every directive to the `Builder` (a map date → `Day` with one slice per
directive kind).  The order in which files arrive at the builder is an arbitrary interleaving: it is
the oracle `arrival` below.  Any error (unreadable file, syntax error, include cycle, model error)
makes the command fail. -/

/-! ### the fan-in protocol

`pending` goroutines (one per file still to be delivered) each push one value into the single unbuffered
channel; the consumer (`model.FromStream`'s `ForEach`, then `journal.FromModelStream`) receives as long as it
is `draining`.  `journal.FromPath` runs its three workers in a pool *without* cancel-on-error, so a producer
blocked in `Push` is released only by a receive, or by the cancellation of its own errgroup context when a
*producer* failed (`cancelled`).  That the consumer keeps draining until the channel is closed — also after one
of its own conversions failed — is what makes the loader terminate (`C19_fan_progress`); a consumer that stops
early leaves the producers blocked for ever (`C19_fan_stuck_without_drain`). -/

structure Fan where
  pending : Nat
  delivered : Nat
  draining : Bool
  cancelled : Bool
  deriving DecidableEq, Repr

inductive FanLabel
  | push      -- rendezvous: one producer hands its file over
  | abandon   -- a producer's `Push` returns `ctx.Err()` (its errgroup context is cancelled)
  | cancel    -- a producer failed: the errgroup cancels the producers' context
  deriving DecidableEq, Repr

/-- `producerFailed`: some parser goroutine returned an error -/
def fanStep (producerFailed : Bool) (s : Fan) : FanLabel → Option Fan
  | .push => if 0 < s.pending ∧ s.draining = true then some { s with pending := s.pending - 1, delivered := s.delivered + 1 } else none
  | .abandon => if 0 < s.pending ∧ s.cancelled = true then some { s with pending := s.pending - 1 } else none
  | .cancel => if producerFailed = true ∧ s.cancelled = false then some { s with cancelled := true } else none

def Fan.finished (s : Fan) : Prop := s.pending = 0

inductive FanRun (pf : Bool) : Fan → List FanLabel → Fan → Prop
  | nil (s) : FanRun pf s [] s
  | cons {s s' s'' : Fan} {ls} (l : FanLabel) : fanStep pf s l = some s' → FanRun pf s' ls s'' → FanRun pf s (l :: ls) s''

inductive Kind | price | open_ | transaction | assertion | close
  deriving DecidableEq, Repr

/-- a directive as far as the builder looks at it: its date, its kind, an identity -/
structure Dir where
  date : Int
  kind : Kind
  id : Nat
  deriving DecidableEq, Repr

inductive Entry
  | dir (d : Dir)
  | include_ (file : Nat)       -- resolved path, as a file number
  | syntaxError                 -- the parser stops here with an error
  | modelError (d : Dir)        -- parses, but `model.ParseDirective` rejects it (e.g. invalid account type)
  deriving Repr

/-- a file system: file number ↦ entries; absent numbers are missing files -/
abbrev FS := List (Nat × List Entry)

def FS.find (fs : FS) (i : Nat) : Option (List Entry) := (fs.find? (fun p => p.1 == i)).map (·.2)

inductive LoadErr | missing | cycle | syntax | model | fuel
  deriving DecidableEq, Repr

/-- entries of one file up to the first syntax error: the directives kept, the includes met
(the callback fires for them even if a later line fails), whether the parse failed -/
def scanFile : List Entry → List Entry × List Nat × Bool
  | [] => ([], [], false)
  | .syntaxError :: _ => ([], [], true)
  | .include_ f :: rest => let (ds, incs, bad) := scanFile rest; (ds, f :: incs, bad)
  | e :: rest => let (ds, incs, bad) := scanFile rest; (e :: ds, incs, bad)

/-- `parseRec`: the files loaded from `file` (each as its list of entries), depth first;
`ancestors` as in the Go code.  All errors of the walk are collected: which one the command reports
depends on the schedule, *that* it fails does not. -/
def loadRec (fs : FS) : Nat → List Nat → Nat → List (List Entry) × List LoadErr
  | 0, _, _ => ([], [.fuel])
  | fuel + 1, ancestors, file =>
    if ancestors.contains file then ([], [.cycle]) else
    match fs.find file with
    | none => ([], [.missing])
    | some entries =>
      let (ds, incs, bad) := scanFile entries
      let subs := incs.map (loadRec fs fuel (ancestors ++ [file]))
      let files := subs.flatMap (·.1)
      let errs := subs.flatMap (·.2)
      if bad then (files, .syntax :: errs) else (ds :: files, errs)

def entryDirs : Entry → List Dir
  | .dir d => [d]
  | _ => []

def hasModelError (es : List Entry) : Bool := es.any (fun e => match e with | .modelError _ => true | _ => false)

/-- `journal.Day` -/
structure Day where
  date : Int
  prices : List Dir := []
  assertions : List Dir := []
  openings : List Dir := []
  transactions : List Dir := []
  closings : List Dir := []
  deriving Repr

def Day.get (d : Day) : Kind → List Dir
  | .price => d.prices | .open_ => d.openings | .transaction => d.transactions
  | .assertion => d.assertions | .close => d.closings

def Day.add (d : Day) (x : Dir) : Day :=
  match x.kind with
  | .price => { d with prices := d.prices ++ [x] }
  | .open_ => { d with openings := d.openings ++ [x] }
  | .transaction => { d with transactions := d.transactions ++ [x] }
  | .assertion => { d with assertions := d.assertions ++ [x] }
  | .close => { d with closings := d.closings ++ [x] }

/-- `Builder.days` as an association list (insertion order; `Build` sorts) -/
abbrev Builder := List Day

/-- `Builder.Add` (`dict.GetDefault` then append to the kind's slice) -/
def Builder.add : Builder → Dir → Builder
  | [], x => [Day.add { date := x.date } x]
  | d :: ds, x => if d.date = x.date then Day.add d x :: ds else d :: Builder.add ds x

/-- `FromModelStream`: the builder after the directive lists arrived in the given order -/
def fromModelStream (arrival : List (List Dir)) : Builder :=
  arrival.foldl (fun b ds => ds.foldl Builder.add b) []

/-- directives of a day and kind (empty if the day does not exist) -/
def Builder.get (b : Builder) (date : Int) (k : Kind) : List Dir :=
  match b.find? (fun d => d.date == date) with
  | some d => d.get k
  | none => []

/-- insertion sort by date (`dict.SortedValues(j.days, CompareDays)`; dates are distinct keys) -/
def insertDay (d : Day) : List Day → List Day
  | [] => [d]
  | e :: es => if d.date ≤ e.date then d :: e :: es else e :: insertDay d es

def Builder.build (b : Builder) : List Day := b.foldr insertDay []

/-- the directives of a day in the order `journal.Print` shows them -/
def Day.all (d : Day) : List Dir := d.prices ++ d.openings ++ d.transactions ++ d.assertions ++ d.closings

/-- all directives of a list of days, in printed order -/
def printed (days : List Day) : List Dir := days.flatMap Day.all

/-- the two lists hold the same directives, each equally often -/
def sameDirs (expected observed : List Dir) : Bool := (expected ++ observed).all (fun d => expected.count d == observed.count d)

def datesSorted (l : List Dir) : Bool := decide (l.Pairwise (fun a b => a.date ≤ b.date))

/-- **property predicate** on an observed journal (the directives `knut print` shows, in printed order) against
the directives of all files: nothing lost, nothing duplicated, days in date order -/
def censusOK (expected observed : List Dir) : Bool := sameDirs expected observed && datesSorted observed

/-- outcome of `journal.FromPath`: the errors of the walk, or the directives of the loaded files, one list per file
(depth first; in which order the lists arrive at the builder is not decided here) -/
def loadOutcome (fs : FS) (root : Nat) : Except (List LoadErr) (List (List Dir)) :=
  let (files, errs) := loadRec fs (fs.length + 1) [] root
  let errs := errs ++ (if files.any hasModelError then [.model] else [])
  if errs.isEmpty then .ok (files.map (fun es => es.flatMap entryDirs)) else .error errs

end Knut.Pipeline
