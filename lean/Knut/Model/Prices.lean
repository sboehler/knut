import Knut.Basic.Dec
import Knut.Basic.AMap
import Knut.Model.Core
/-!
# Model of `lib/model/price/prices.go` and of `journal.ComputePrices`

Go maps are association lists (`AMap`) accessed only through `find` (lookup), `set`
(functional update) and `keys` (the keys *in the list's order*, which stands for Go's
unspecified iteration order).  `Prices.normalize` ranges over `dict.SortedKeys`, i.e. it
sorts the keys by commodity name before use; the model does the same (`sortNames` in `neighbors`), and
`Proofs/Prices*.lean` shows that the result is therefore the same for every order of the
association lists.

A commodity is its name (the registry interns commodities by name, so pointer equality
in Go is name equality here).
-/
namespace Knut.Prices
open Knut Knut.Dec

/-- association list standing for a Go map keyed by commodity -/
abbrev AMap (β : Type) := List (Commodity × β)

/-- `m[k]` with the `ok` flag -/
def find {β : Type} (k : Commodity) : AMap β → Option β
  | [] => none
  | (a, b) :: rest => if a = k then some b else find k rest

/-- `delete(m, k)` -/
def del {β : Type} (k : Commodity) : AMap β → AMap β
  | [] => []
  | (a, b) :: rest => if a = k then del k rest else (a, b) :: del k rest

/-- `m[k] = v` -/
def set {β : Type} (m : AMap β) (k : Commodity) (v : β) : AMap β := (k, v) :: del k m

/-- the keys in map-iteration order -/
def keys {β : Type} (m : AMap β) : List Commodity := m.map (·.1)

/-- `price.NormalizedPrices` -/
abbrev NPrices := AMap Rat
/-- `price.Prices`: outer key = target commodity, inner key = commodity, value = price of the
inner commodity in the outer one -/
abbrev Prices := AMap NPrices

/-- the argument of `Truncate` in `price.Multiply` (tied to the source by `FactsAgree/C12.lean`) -/
def multiplyPlaces : Nat := 8
/-- the argument of `Truncate` in `Prices.Insert` -/
def insertPlaces : Nat := 8
/-- `normalize` ranges over `dict.SortedKeys(ps[c], commodity.Compare)`, not over the map itself -/
def sortsNeighbors : Bool := true

/-- `price.Multiply`: `n1.Mul(n2).Truncate(8)` -/
def multiply (a b : Rat) : Rat := trunc multiplyPlaces (a * b)

/-- the reciprocal stored by `Insert`: `one.Div(price).Truncate(8)` -/
def recip (p : Rat) : Rat := trunc insertPlaces (div16 1 p)

/-- `Prices.addPrice`: `dict.GetDefault(ps, target, newNormalizedPrices)[commodity] = price` -/
def addPrice (ps : Prices) (target commodity : Commodity) (price : Rat) : Prices :=
  set ps target (set ((find target ps).getD []) commodity price)

/-- one price declaration `price <commodity> <price> <target>` -/
structure Decl where
  commodity : Commodity
  price : Rat
  target : Commodity
  deriving DecidableEq, Repr, Inhabited

/-- `Prices.Insert`; `none` is the "invalid price" error -/
def insert (ps : Prices) (d : Decl) : Option Prices :=
  if d.price = 0 then none
  else some (addPrice (addPrice ps d.target d.commodity d.price) d.commodity d.target (recip d.price))

/-- a sequence of `Insert` calls, stopping at the first error -/
def insertAll (ps : Prices) : List Decl → Option Prices
  | [] => some ps
  | d :: ds => match insert ps d with
    | none => none
    | some ps' => insertAll ps' ds

/-- `ps[a][b]` with presence: the stored price of `b` in `a` -/
def edge (ps : Prices) (a b : Commodity) : Option Rat := (find a ps).bind (find b)

/-- `ps[c][n]` as Go evaluates it (zero value when absent) -/
def price (ps : Prices) (c n : Commodity) : Rat := (edge ps c n).getD 0

/-- `compare.Sort(keys, commodity.Compare)`: ascending by name (byte order = code point order) -/
def sortNames (ks : List Commodity) : List Commodity := ks.mergeSort (fun a b => decide (a ≤ b))

/-- `dict.SortedKeys(ps[c], commodity.Compare)` -/
def neighbors (ps : Prices) (c : Commodity) : List Commodity :=
  sortNames (keys ((find c ps).getD []))

/-- body of the inner `for … range` of `normalize` for one neighbour `n` of `c`;
state = (queue, res) -/
def visit (ps : Prices) (c : Commodity) (st : List Commodity × NPrices) (n : Commodity) :
    List Commodity × NPrices :=
  if (find n st.2).isSome then st
  else (st.1 ++ [n], set st.2 n (multiply (price ps c n) ((find c st.2).getD 0)))

/-- every commodity that occurs as an inner key -/
def allNames (ps : Prices) : List Commodity := ps.flatMap (fun e => keys e.2)

/-- number of (occurrences of) commodities that have no price yet: the termination measure -/
def unvisited (ps : Prices) (res : NPrices) : Nat :=
  ((allNames ps).filter (fun k => (find k res).isNone)).length

/-! `find`, `del`, `keys` are the lookups of `Knut.AMap` with the key first; the facts about them are those of `Basic/AMap.lean`. -/

theorem find_eq {β : Type} (k : Commodity) : ∀ m : AMap β, find k m = Knut.AMap.find? m k
  | [] => rfl
  | (a, b) :: rest => by rw [find, Knut.AMap.find?_cons, find_eq k rest]

theorem del_eq {β : Type} (k : Commodity) : ∀ m : AMap β, del k m = Knut.AMap.erase m k
  | [] => rfl
  | (a, b) :: rest => by rw [del, Knut.AMap.erase, del_eq k rest]

theorem find_set_self {β : Type} (m : AMap β) (k : Commodity) (v : β) : find k (set m k v) = some v := by
  simp [set, find]

theorem find_del_ne {β : Type} (m : AMap β) (k d : Commodity) (h : d ≠ k) :
    find d (del k m) = find d m := by
  rw [find_eq, find_eq, del_eq, Knut.AMap.find?_erase, if_neg h.symm]

theorem find_del_self {β : Type} (m : AMap β) (k : Commodity) : find k (del k m) = none := by
  rw [find_eq, del_eq, Knut.AMap.find?_erase, if_pos rfl]

theorem find_set_ne {β : Type} (m : AMap β) (k d : Commodity) (v : β) (h : d ≠ k) :
    find d (set m k v) = find d m := by
  have : k ≠ d := fun x => h x.symm
  simp [set, find, this, find_del_ne m k d h]

theorem mem_of_find {β : Type} {m : AMap β} {k : Commodity} {v : β} (h : find k m = some v) :
    (k, v) ∈ m := Knut.AMap.mem_of_find? (find_eq k m ▸ h)

theorem mem_keys_of_find {β : Type} {m : AMap β} {k : Commodity} {v : β} (h : find k m = some v) :
    k ∈ keys m := List.mem_map.mpr ⟨(k, v), mem_of_find h, rfl⟩

theorem find_isSome_of_mem_keys {β : Type} {m : AMap β} {k : Commodity} (h : k ∈ keys m) :
    (find k m).isSome := find_eq k m ▸ (Knut.AMap.mem_keys_iff m k).mp h

theorem sortNames_perm (ks : List Commodity) : (sortNames ks).Perm ks := List.mergeSort_perm _ _

theorem mem_sortNames {ks : List Commodity} {k : Commodity} : k ∈ sortNames ks ↔ k ∈ ks :=
  (sortNames_perm ks).mem_iff

/-- a neighbour of `c` is an inner key of the outer entry of `c`, hence one of `allNames` -/
theorem neighbors_sub_universe (ps : Prices) (c n : Commodity) (h : n ∈ neighbors ps c) :
    n ∈ allNames ps := by
  unfold neighbors at h
  rw [mem_sortNames] at h
  cases hf : find c ps with
  | none => simp [hf, keys] at h
  | some m =>
    simp only [hf, Option.getD_some] at h
    have := mem_of_find hf
    unfold allNames
    exact List.mem_flatMap.mpr ⟨(c, m), this, h⟩

theorem filter_length_lt {α : Type} (p q : α → Bool) (l : List α) (himp : ∀ a, q a = true → p a = true)
    (n : α) (hn : n ∈ l) (hp : p n = true) (hq : q n = false) :
    (l.filter q).length < (l.filter p).length := by
  -- `q` selects from what `p` selects, and leaves `n` out
  have e : l.filter q = (l.filter p).filter q := by
    rw [List.filter_filter]
    exact List.filter_congr fun a _ => by cases hqa : q a <;> simp [himp a, hqa]
  rw [e]
  exact List.length_filter_lt_length_iff_exists.mpr ⟨n, List.mem_filter.mpr ⟨hn, hp⟩, by simp [hq]⟩

/-- giving a price to a commodity of `allNames` that had none decreases the measure -/
theorem unvisited_set_lt (ps : Prices) (res : NPrices) (n : Commodity) (x : Rat)
    (hn : n ∈ allNames ps) (hnone : (find n res).isSome = false) :
    unvisited ps (set res n x) < unvisited ps res := by
  unfold unvisited
  apply filter_length_lt _ _ _ _ n hn
  · simpa using hnone
  · simp [find_set_self]
  · intro a ha
    by_cases han : a = n
    · subst han; simpa using hnone
    · rw [find_set_ne _ _ _ _ han] at ha; exact ha

/-- one `visit` never increases `unvisited + queue length` -/
theorem visit_measure (ps : Prices) (c n : Commodity) (st : List Commodity × NPrices) (hn : n ∈ allNames ps) :
    unvisited ps (visit ps c st n).2 + (visit ps c st n).1.length ≤ unvisited ps st.2 + st.1.length := by
  unfold visit
  split
  · exact Nat.le_refl _
  · rename_i h
    have := unvisited_set_lt ps st.2 n (multiply (price ps c n) ((find c st.2).getD 0)) hn (by simpa using h)
    simp only [List.length_append, List.length_cons, List.length_nil]
    omega

theorem visitAll_measure (ps : Prices) (c : Commodity) (ns : List Commodity) (st : List Commodity × NPrices)
    (hns : ∀ n ∈ ns, n ∈ allNames ps) :
    unvisited ps (ns.foldl (visit ps c) st).2 + (ns.foldl (visit ps c) st).1.length
      ≤ unvisited ps st.2 + st.1.length := by
  induction ns generalizing st with
  | nil => exact Nat.le_refl _
  | cons n rest ih =>
    simp only [List.foldl_cons]
    have h1 := ih (visit ps c st n) (fun m hm => hns m (List.mem_cons_of_mem _ hm))
    have h2 := visit_measure ps c n st (hns n (List.mem_cons_self))
    omega

/-- the `for len(queue) > 0` loop of `Prices.normalize`.  Terminates because every pass either
gives a price to a commodity that had none (there are finitely many) or shortens the queue. -/
def normLoop (ps : Prices) (queue : List Commodity) (res : NPrices) : NPrices :=
  match queue with
  | [] => res
  | c :: rest =>
    normLoop ps ((neighbors ps c).foldl (visit ps c) (rest, res)).1
      ((neighbors ps c).foldl (visit ps c) (rest, res)).2
termination_by unvisited ps res + queue.length
decreasing_by
  have := visitAll_measure ps c (neighbors ps c) (rest, res) (neighbors_sub_universe ps c)
  simp only [List.length_cons] at this ⊢
  omega

/-- `Prices.Normalize(t)` -/
def normalize (ps : Prices) (t : Commodity) : NPrices := normLoop ps [t] [(t, 1)]

/-- `NormalizedPrices.Price`; `none` is the "no price found" error -/
def npPrice (np : NPrices) (c : Commodity) : Option Rat := find c np

/-- `NormalizedPrices.Valuate`; `none` is the "no price found" error -/
def npValuate (np : NPrices) (c : Commodity) (a : Rat) : Option Rat :=
  match find c np with
  | none => none
  | some p => some (multiply a p)

/-! ## `journal.ComputePrices` -/

/-- the prices of one journal day, in file order -/
structure Day where
  date : Int
  prices : List Decl
  deriving Repr, Inhabited

/-- state of the `ComputePrices` processor: the price map and the last normalisation
(`none` = Go's nil map, in which no commodity has a price) -/
structure CPState where
  prc : Prices := []
  previous : Option NPrices := none
  deriving Repr, Inhabited

/-- `Processor.Process` for one day with the callbacks of `ComputePrices(v)`: `Price` for every price
of the day, then `DayEnd`.  Result: the new state and `d.Normalized`; `none` = the error of `Insert`. -/
def cpDay (v : Commodity) (st : CPState) (d : Day) : Option (CPState × Option NPrices) :=
  match insertAll st.prc d.prices with
  | none => none
  | some prc =>
    let previous := if d.prices.length > 0 then some (normalize prc v) else st.previous
    some ({ prc := prc, previous := previous }, previous)

/-- `Journal.Process(ComputePrices(v))` over the days in date order: `d.Normalized` of every day -/
def computePrices (v : Commodity) (st : CPState) : List Day → Option (List (Int × Option NPrices))
  | [] => some []
  | d :: ds => match cpDay v st d with
    | none => none
    | some (st', n) => match computePrices v st' ds with
      | none => none
      | some rest => some ((d.date, n) :: rest)

/-- `journal.Builder.Add` + `Build`: directives are grouped by date (file order kept within a date),
days sorted by date.  `insertDay` is the grouping of one directive: a price (`some d`) or any other
directive (`none`), which only makes the day exist. -/
def insertDay (days : List Day) (date : Int) (d : Option Decl) : List Day :=
  match days with
  | [] => [{ date := date, prices := d.toList }]
  | x :: rest =>
    if date < x.date then { date := date, prices := d.toList } :: x :: rest
    else if date = x.date then { x with prices := x.prices ++ d.toList } :: rest
    else x :: insertDay rest date d

/-- the journal's days from dated directives in file order -/
def buildDays (ds : List (Int × Option Decl)) : List Day := ds.foldl (fun acc e => insertDay acc e.1 e.2) []

end Knut.Prices
