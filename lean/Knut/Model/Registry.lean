/-!
# Model of the shared registries (`lib/model/commodity/registry.go`, `lib/model/account/registry.go`)

Every included file is converted to model objects in its own goroutine (`model.FromStream`), all of them
through ONE commodity registry and ONE account registry.  Everything downstream keys by object identity
(`*Commodity`, `*Account` pointers), so "the journal processed is the union of the files' directives"
needs `Get` to be an atomic get-or-create: one object per name, whatever the interleaving.

```go
func (cs *Registry) Get(name string) (*Commodity, error) {
	cs.mutex.RLock(); res, ok := cs.index[name]; cs.mutex.RUnlock()      // section 1 (read lock)
	if ok { return res, nil }
	cs.mutex.Lock(); defer cs.mutex.Unlock()                               // section 2 (write lock)
	if res, ok = cs.index[name]; ok { return res, nil }                    //   re-check
	if !isValidCommodity(name) { return nil, fmt.Errorf(…) }
	res = &Commodity{name: name}; cs.insert(res); return res, nil
}
```

The two critical sections are the atomic steps (the `sync.RWMutex` makes them so — trusted); a schedule is
any sequence of thread numbers, the scheduled thread runs its next section.  Object identities are
allocation numbers.  `recheck` is the fact extracted from the source on every run
(`FactsAgree.C19.commodity_get_rechecks`, `account_getOrCreate_rechecks`, about `Generated.commodityGetShape`,
`Generated.accountGetOrCreateShape`): with `false` the model is the
variant without the second lookup, for which `Properties/C19Registry.lean` exhibits the split.
-/
namespace Knut.Registry

/-- a Go map `name → object`: the newest binding of a name wins (insert overwrites) -/
structure Reg where
  index : List (String × Nat) := []
  next : Nat := 0
  deriving Repr, Inhabited

def Reg.lookup (r : Reg) (n : String) : Option Nat := (r.index.find? (fun e => e.1 == n)).map (·.2)

/-- one goroutine: the names it still has to resolve, and the name for which section 1 missed -/
structure Thread where
  todo : List String := []
  pending : Option String := none
  deriving Repr, Inhabited

/-- what a call of `Get` returned -/
inductive Ret | obj (id : Nat) | err
  deriving Repr, DecidableEq, Inhabited

/-- a completed call -/
structure Event where
  thread : Nat
  name : String
  ret : Ret
  deriving Repr, DecidableEq, Inhabited

structure Sys where
  reg : Reg := {}
  threads : List Thread := []
  deriving Repr, Inhabited

/-- section 2 of `Get` (under the write lock) -/
def slow (recheck : Bool) (valid : String → Bool) (r : Reg) (n : String) : Reg × Ret :=
  match (if recheck then r.lookup n else none) with
  | some i => (r, .obj i)
  | none =>
    if !valid n then (r, .err)
    else ({ index := (n, r.next) :: r.index, next := r.next + 1 }, .obj r.next)

/-- the scheduled thread runs its next critical section -/
def step (recheck : Bool) (valid : String → Bool) (s : Sys) (t : Nat) : Sys × Option Event :=
  match s.threads[t]? with
  | none => (s, none)
  | some th =>
    match th.pending with
    | some n =>
      let (r', ret) := slow recheck valid s.reg n
      ({ reg := r', threads := s.threads.set t { th with pending := none } }, some ⟨t, n, ret⟩)
    | none =>
      match th.todo with
      | [] => (s, none)
      | n :: rest =>
        match s.reg.lookup n with
        | some i => ({ s with threads := s.threads.set t { th with todo := rest } }, some ⟨t, n, .obj i⟩)
        | none => ({ s with threads := s.threads.set t { todo := rest, pending := some n } }, none)

/-- a whole schedule; the events in the order the calls returned -/
def run (recheck : Bool) (valid : String → Bool) : Sys → List Nat → Sys × List Event
  | s, [] => (s, [])
  | s, t :: ts =>
    let (s', e) := step recheck valid s t
    let (s'', es) := run recheck valid s' ts
    (s'', e.toList ++ es)

/-- the system at the start: an empty registry and one thread per program -/
def start (programs : List (List String)) : Sys := { threads := programs.map (fun p => { todo := p }) }

end Knut.Registry
