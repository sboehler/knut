import Knut.Basic.Dec
/-!
# Model of `lib/common/table` (table.go, renderer.go, csv.go)

Strings are `List Char` (Go strings that are valid UTF-8; `utf8.RuneCountInString` is `List.length`,
`table.padLeft` pads to a width counted in runes as well).  Go `int`s that can be negative
(`Indent`, the arithmetic inside a text cell) are `Int`; column widths start at 0 and only grow,
so they are `Nat`.

Not modelled: `percentCell` (never produced by the balance report), colour (all comparisons run with
`Color:false`, for which `color.Fprintf` is `fmt.Fprintf`), write errors of the `io.Writer`.
Explicit panic outcomes: a row with more cells than the table has columns (`widths[i]`, index out of
range) and a row without cells (`row.cells[0]`).
-/
namespace Knut.Table
open Knut.Dec

/-- `table.Alignment` -/
inductive Align | left | right | center
  deriving DecidableEq, Repr, Inhabited

/-- `table.cell` implementations: `emptyCell`, `SeparatorCell`, `textCell`, `numberCell` -/
inductive Cell
  | empty
  | sep
  | text (content : List Char) (align : Align) (indent : Int)
  | num (n : Rat)
  deriving DecidableEq, Repr, Inhabited

def Cell.isSep : Cell → Bool
  | .sep => true
  | _ => false

/-- `table.Table`: `columns[i]` is the group number of column `i` -/
structure Table where
  columns : List Nat
  rows : List (List Cell)
  deriving Repr, Inhabited

/-- `table.New(groups...)` -/
def groupColumns : Nat → List Nat → List Nat
  | _, [] => []
  | g, size :: rest => List.replicate size g ++ groupColumns (g + 1) rest

def Table.new (groups : List Nat) : Table := ⟨groupColumns 0 groups, []⟩

def Table.width (t : Table) : Nat := t.columns.length

/-! ## Building a table (the exported API) -/

/-- `AddRow` -/
def Table.addRow (t : Table) : Table := { t with rows := t.rows ++ [[]] }

/-- `AddSeparatorRow` -/
def Table.addSeparatorRow (t : Table) : Table := { t with rows := t.rows ++ [List.replicate t.width .sep] }

/-- `AddEmptyRow` -/
def Table.addEmptyRow (t : Table) : Table := { t with rows := t.rows ++ [List.replicate t.width .empty] }

/-- `Row.addCell` on the most recently added row; `none` when there is no row yet -/
def Table.addCell (t : Table) (c : Cell) : Option Table :=
  match t.rows.reverse with
  | [] => none
  | last :: before => some { t with rows := (before.reverse) ++ [last ++ [c]] }

/-- `Row.FillEmpty`: fills up to `cap(r.cells)`, which is the table width as long as the row never
outgrew it (`none`: the capacity after `append` reallocated is a property of the Go runtime and is
not modelled; the harness never produces it). -/
def Table.fillEmpty (t : Table) : Option Table :=
  match t.rows.reverse with
  | [] => none
  | last :: before =>
    if last.length ≤ t.width then
      some { t with rows := (before.reverse) ++ [last ++ List.replicate (t.width - last.length) .empty] }
    else none

/-! ## Text renderer -/

/-- `TextRenderer` (colour off) -/
structure Renderer where
  thousands : Bool
  round : Int
  deriving Repr, Inhabited, DecidableEq

/-- the loop of `addThousandsSep`: `i` is the index of `ch` (the strings are ASCII, so byte index =
rune index), `ok` is set once a digit has been seen.  `(index-i)%3` is Go's truncated remainder. -/
def sepLoop (index : Int) : Int → Bool → List Char → List Char
  | _, _, [] => []
  | i, ok, ch :: rest =>
    if i ≥ index ∧ ch ≠ '-' then ch :: rest
    else
      let tl := ch :: sepLoop index (i + 1) (ok || isDigit ch) rest
      if Int.tmod (index - i) 3 = 0 ∧ ok = true then ',' :: tl else tl

/-- `addThousandsSep`: `strings.Index(e, ".")`, or `len(e)` when there is no point -/
def addThousandsSep (e : List Char) : List Char := sepLoop (e.idxOf '.') 0 false e

/-- the number actually formatted: `d.Shift(-3)` with `--thousands` — the exact quotient by 1000 (since the repair
`93a24c8`; before it `d.Div(1000)`, rounded to 16 places, see `C17_no_double_rounding`) -/
def scaled (r : Renderer) (d : Rat) : Rat := if r.thousands then d / 1000 else d

/-- `TextRenderer.numToString` -/
def numToString (r : Renderer) (d : Rat) : List Char :=
  addThousandsSep (showFixed r.round (scaled r d)).toList

/-- `minLengthCell` -/
def minLengthCell (r : Renderer) : Cell → Int
  | .empty => 0
  | .sep => 0
  | .text s a ind => if a = .left then ind + s.length else s.length
  | .num n => (numToString r n).length

def spaces (n : Int) : List Char := List.replicate n.toNat ' '
def dashes (n : Int) : List Char := List.replicate n.toNat '-'

/-- `padLeft(s, l)` (renderer.go): blanks in front of `s` until it is `l` runes wide -/
def padLeft (l : Nat) (s : List Char) : List Char := List.replicate (l - s.length) ' ' ++ s

/-- `renderCell` -/
def renderCell (r : Renderer) (c : Cell) (l : Nat) : List Char :=
  match c with
  | .empty => spaces l
  | .sep => dashes l
  | .text s a ind =>
    let rc : Int := s.length
    let before : Int :=
      match a with
      | .left => ind
      | .right => l - rc
      | .center => Int.tdiv (l - rc) 2
    spaces before ++ s ++ spaces (l - before - rc)
  | .num n => if n = 0 then padLeft l [] else padLeft l (numToString r n)

/-- `createSep` -/
def createSep (c1 c2 : Cell) : List Char :=
  if c1.isSep && c2.isSep then "-+-".toList
  else if c1.isSep then "-+ ".toList
  else if c2.isSep then " +-".toList
  else " | ".toList

/-- first loop of `Render` for one row: `widths[i] = max(widths[i], minLengthCell(c))`;
`none` is the index-out-of-range panic for a row longer than the table is wide -/
def updWidths (r : Renderer) : List Nat → List Cell → Option (List Nat)
  | ws, [] => some ws
  | [], _ :: _ => none
  | w :: ws, c :: cs =>
    match updWidths r ws cs with
    | some t => some ((if (w : Int) < minLengthCell r c then (minLengthCell r c).toNat else w) :: t)
    | none => none

def widthsPass1 (r : Renderer) : List Nat → List (List Cell) → Option (List Nat)
  | ws, [] => some ws
  | ws, row :: rows =>
    match updWidths r ws row with
    | some ws' => widthsPass1 r ws' rows
    | none => none

/-- `groups[g]` after the second loop: the largest width among the columns of group `g` (0 if none) -/
def groupWidth (cols ws : List Nat) (g : Nat) : Nat :=
  (cols.zip ws).foldl (fun acc cw => if cw.1 = g ∧ acc < cw.2 then cw.2 else acc) 0

/-- third loop: `if w < groups[i] { widths[i] = groups[i] }` — indexed by the column number `i`,
not by the column's group `columns[i]`, exactly as the code has it -/
def widthsPass2 (cols ws : List Nat) : List Nat :=
  ws.zipIdx.map (fun wi => if wi.1 < groupWidth cols ws wi.2 then groupWidth cols ws wi.2 else wi.1)

def finalWidths (r : Renderer) (t : Table) : Option (List Nat) :=
  match widthsPass1 r (List.replicate t.width 0) t.rows with
  | some ws => some (widthsPass2 t.columns ws)
  | none => none

/-- cells of one row with the separators between them; `none`: `widths[i]` out of range -/
def renderCells (r : Renderer) : List Cell → List Nat → Option (List Char)
  | [], _ => some []
  | _ :: _, [] => none
  | [c], w :: _ => some (renderCell r c w)
  | c :: c' :: cs, w :: ws =>
    match renderCells r (c' :: cs) ws with
    | some t => some (renderCell r c w ++ createSep c c' ++ t)
    | none => none

/-- one output line (without the newline); `none`: `row.cells[0]` on an empty row -/
def renderRow (r : Renderer) (ws : List Nat) (row : List Cell) : Option (List Char) :=
  match row with
  | [] => none
  | c0 :: _ =>
    match renderCells r row ws with
    | some body =>
      some ((if c0.isSep then "+-".toList else "| ".toList) ++ body ++
        (if (row.getLast?.getD c0).isSep then "-+".toList else " |".toList))
    | none => none

def renderRows (r : Renderer) (ws : List Nat) : List (List Cell) → Option (List (List Char))
  | [] => some []
  | row :: rows =>
    match renderRow r ws row, renderRows r ws rows with
    | some l, some ls => some (l :: ls)
    | _, _ => none

inductive Outcome (α : Type) | ok (a : α) | panic (site : String)
  deriving Repr, DecidableEq

/-- the lines of `TextRenderer.Render` (each is followed by "\n" in the output, and one more "\n"
ends the table) -/
def renderLines (r : Renderer) (t : Table) : Outcome (List (List Char)) :=
  match finalWidths r t with
  | none => .panic "index out of range (row longer than the table width)"
  | some ws =>
    match renderRows r ws t.rows with
    | some ls => .ok ls
    | none => .panic "index out of range (row without cells)"

def joinLines (ls : List (List Char)) : List Char := ls.flatMap (· ++ ['\n']) ++ ['\n']

/-- `TextRenderer.Render` -/
def renderText (r : Renderer) (t : Table) : Outcome (List Char) :=
  match renderLines r t with
  | .ok ls => .ok (joinLines ls)
  | .panic s => .panic s

/-! ## CSV renderer (`csv.go` + `encoding/csv.Writer` with the default comma, `UseCRLF = false`) -/

/-- `CSVRenderer.renderCell` -/
def csvCell : Cell → List Char
  | .empty => []
  | .sep => []
  | .text s _ _ => s
  | .num n => (showDec n).toList

/-- `unicode.IsSpace` -/
def isSpaceRune (c : Char) : Bool :=
  let n := c.toNat
  (9 ≤ n && n ≤ 13) || n == 0x20 || n == 0x85 || n == 0xA0 || n == 0x1680 ||
  (0x2000 ≤ n && n ≤ 0x200a) || n == 0x2028 || n == 0x2029 || n == 0x202f || n == 0x205f || n == 0x3000

/-- `csv.Writer.fieldNeedsQuotes` -/
def fieldNeedsQuotes (f : List Char) : Bool :=
  if f.isEmpty then false
  else if f = ['\\', '.'] then true
  else if f.any (fun c => c == '\n' || c == '\r' || c == '"' || c == ',') then true
  else match f with
    | c :: _ => isSpaceRune c
    | [] => false

/-- one field as `csv.Writer.Write` emits it -/
def csvField (f : List Char) : List Char :=
  if fieldNeedsQuotes f then
    '"' :: f.flatMap (fun c => if c = '"' then ['"', '"'] else [c]) ++ ['"']
  else f

/-- fields joined by the comma -/
def joinFields : List (List Char) → List Char
  | [] => []
  | [f] => f
  | f :: g :: rest => f ++ ',' :: joinFields (g :: rest)

def csvLine (rec : List (List Char)) : List Char :=
  joinFields (rec.map csvField) ++ ['\n']

/-- the records written: rows all of whose cells render to "" are skipped -/
def csvRecords (t : Table) : List (List (List Char)) :=
  (t.rows.map (fun row => row.map csvCell)).filter (fun rec => rec.any (fun f => !f.isEmpty))

/-- `CSVRenderer.Render` -/
def renderCSV (t : Table) : List Char := (csvRecords t).flatMap csvLine

end Knut.Table
