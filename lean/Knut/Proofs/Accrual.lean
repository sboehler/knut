import Knut.Model.Accrual
import Knut.Spec.AccrualSpec
import Knut.Proofs.Partition
import Knut.Proofs.RatLemmas
import Knut.Proofs.PostingBuild
/-!
# Lemmas for C10: sums over postings, the symmetric pair builder, the split of a quantity
-/
namespace Knut.Accrual
open Knut Knut.Dec Knut.Spec

/-! ## `QuoRem` -/

/-- `q, r := x.QuoRem(n, p)` satisfies `q·n + r = x` (whenever it does not panic, i.e. `n ≠ 0`) -/
theorem quoRem_sum (x n : Rat) (p : Nat) (q r : Rat) (h : quoRem x n p = some (q, r)) : q * n + r = x := by
  unfold quoRem at h
  split at h
  · cases h
  · simp only [Option.some.injEq, Prod.mk.injEq] at h
    obtain ⟨hq, hr⟩ := h
    subst hq
    rw [← hr]
    grind

theorem quoRem_ne_zero (x n : Rat) (p : Nat) (qr : Rat × Rat) (h : quoRem x n p = some qr) : n ≠ 0 := by
  unfold quoRem at h
  split at h
  · cases h
  · assumption

theorem quoRem_isSome (x n : Rat) (p : Nat) (h : n ≠ 0) : ∃ qr, quoRem x n p = some qr := by
  unfold quoRem
  simp [h]

theorem booked_append (a : Account) (c : Commodity) (l1 l2 : List Posting) :
    booked a c (l1 ++ l2) = booked a c l1 + booked a c l2 := sum_rec_append rfl (fun _ _ => rfl) l1 l2

theorem bookedTxs_append (a : Account) (c : Commodity) (l1 l2 : List Transaction) :
    bookedTxs a c (l1 ++ l2) = bookedTxs a c l1 + bookedTxs a c l2 := sum_rec_append rfl (fun _ _ => rfl) l1 l2

/-- total quantity of commodity `c` over a list of postings (all accounts) -/
def comSum (c : Commodity) : List Posting → Rat
  | [] => 0
  | p :: ps => (if p.commodity = c then p.quantity else 0) + comSum c ps

theorem comSum_append (c : Commodity) (l1 l2 : List Posting) :
    comSum c (l1 ++ l2) = comSum c l1 + comSum c l2 := sum_rec_append rfl (fun _ _ => rfl) l1 l2

/-! ## the symmetric pair builder -/

theorem postingBuild_eq (cr dr : Account) (c : Commodity) (q : Rat) :
    postingBuild cr dr c q =
      if q < 0 then
        [{ account := dr, other := cr, commodity := c, quantity := -(-q), value := -(-0) },
         { account := cr, other := dr, commodity := c, quantity := -q, value := -0 }]
      else
        [{ account := cr, other := dr, commodity := c, quantity := -q, value := -0 },
         { account := dr, other := cr, commodity := c, quantity := q, value := 0 }] := by
  unfold postingBuild
  by_cases h : q < 0 <;> simp [h]

theorem neg_nonneg_of_neg {q : Rat} (h : q < 0) : ¬ -q < 0 := fun hc => by
  have := Rat.neg_lt_neg hc
  rw [Rat.neg_neg, Rat.neg_zero] at this
  exact Rat.not_lt.mpr (Rat.le_of_lt h) this

/-- the pair has two postings, and building again from the second (the one the printer writes: its account is the debit
side, its quantity not negative) gives the same pair -/
theorem postingBuild_shape (cr dr : Account) (c : Commodity) (q : Rat) :
    ∃ p1 p2, postingBuild cr dr c q = [p1, p2] ∧ postingBuild p2.other p2.account p2.commodity p2.quantity = [p1, p2] := by
  rw [postingBuild_eq]
  by_cases h : q < 0
  · rw [if_pos h]
    exact ⟨_, _, rfl, by rw [postingBuild_eq, if_neg (neg_nonneg_of_neg h), Rat.neg_zero, Rat.neg_zero]⟩
  · rw [if_neg h]
    exact ⟨_, _, rfl, by rw [postingBuild_eq, if_neg h]⟩

theorem booked_eq_sum (a : Account) (c : Commodity) : ∀ ps : List Posting,
    booked a c ps = (ps.map (fun p => if p.account = a ∧ p.commodity = c then p.quantity else 0)).sum
  | [] => rfl
  | p :: ps => by rw [booked, booked_eq_sum a c ps, List.map_cons, List.sum_cons]

theorem comSum_eq_sum (c : Commodity) : ∀ ps : List Posting,
    comSum c ps = (ps.map (fun p => if p.commodity = c then p.quantity else 0)).sum
  | [] => rfl
  | p :: ps => by rw [comSum, comSum_eq_sum c ps, List.map_cons, List.sum_cons]

theorem booked_postingBuild (cr dr : Account) (c : Commodity) (q : Rat) (a : Account) (c' : Commodity) :
    booked a c' (postingBuild cr dr c q) =
      (if dr = a ∧ c = c' then q else 0) + (if cr = a ∧ c = c' then -q else 0) := by
  rw [booked_eq_sum, sum_postingBuild]
  exact Rat.add_comm _ _

theorem comSum_postingBuild (cr dr : Account) (c : Commodity) (q : Rat) (c' : Commodity) :
    comSum c' (postingBuild cr dr c q) = 0 := by
  rw [comSum_eq_sum, sum_postingBuild]
  show (if c = c' then -q else 0) + (if c = c' then q else 0) = 0
  split
  · exact Rat.neg_add_cancel q
  · exact Rat.add_zero 0

theorem comSum_postingsOf (bs : List Booking) (c : Commodity) : comSum c (postingsOf bs) = 0 := by
  induction bs with
  | nil => simp [postingsOf, comSum]
  | cons b rest ih =>
    have : postingsOf (b :: rest) = postingBuild b.credit b.debit b.commodity b.quantity ++ postingsOf rest := by
      simp [postingsOf]
    rw [this, comSum_append, comSum_postingBuild, ih]
    grind

theorem balancedPair_rebook (t : Transaction) (date : Int) (desc : String) (acc : Account) (p : Posting) (q : Rat) :
    balancedPair acc (rebook t date desc acc p q) = true := by
  unfold balancedPair rebook
  simp only
  rw [postingBuild_eq]
  by_cases h : q < 0 <;> simp [h]

theorem rebook_books (t : Transaction) (date : Int) (desc : String) (acc : Account) (p : Posting) (q : Rat) :
    (rebook t date desc acc p q).postings.any (fun x => decide (x.account = p.account ∧ x.commodity = p.commodity)) = true := by
  unfold rebook
  simp only
  rw [postingBuild_eq]
  by_cases h : q < 0 <;> simp [h]

theorem booked_rebook (t : Transaction) (date : Int) (desc : String) (acc : Account) (p : Posting) (q : Rat)
    (a : Account) (c : Commodity) :
    booked a c (rebook t date desc acc p q).postings =
      (if p.account = a ∧ p.commodity = c then q else 0) + (if acc = a ∧ p.commodity = c then -q else 0) := by
  unfold rebook
  exact booked_postingBuild acc p.account p.commodity q a c

/-! ## the split of one income/expense posting -/

/-- sum of the quantities assigned by the loop from index `i` on -/
def ieSum (amount rem : Rat) : Nat → List Int → Rat
  | _, [] => 0
  | i, _ :: rest => (if i = 0 then amount + rem else amount) + ieSum amount rem (i + 1) rest

theorem ieSum_succ (amount rem : Rat) (i : Nat) (dates : List Int) :
    ieSum amount rem (i + 1) dates = amount * ((dates.length : Int) : Rat) := by
  induction dates generalizing i with
  | nil => simp [ieSum]
  | cons d rest ih =>
    simp only [ieSum, ih, List.length_cons, Nat.add_eq_zero_iff, Nat.succ_ne_self, and_false, if_false]
    simp [Rat.intCast_add]
    grind

theorem ieSum_zero (amount rem : Rat) (d : Int) (rest : List Int) :
    ieSum amount rem 0 (d :: rest) = amount * (((d :: rest).length : Int) : Rat) + rem := by
  simp only [ieSum, if_true, ieSum_succ, List.length_cons]
  simp [Rat.intCast_add]
  grind

theorem ite_pair_add (P Q : Prop) [Decidable P] [Decidable Q] (x y : Rat) :
    ((if P then x else 0) + (if Q then -x else 0)) + ((if P then y else 0) + (if Q then -y else 0)) =
      (if P then x + y else 0) + (if Q then -(x + y) else 0) := by
  by_cases hP : P <;> by_cases hQ : Q <;> simp only [hP, hQ, if_true, if_false] <;> grind

section ieLoop
variable (t : Transaction) (acc : Account) (p : Posting) (n : Nat) (amount rem : Rat) (i : Nat) (dates : List Int)

theorem bookedTxs_ieLoop (a : Account) (c : Commodity) :
    bookedTxs a c (ieLoop t acc p n amount rem i dates) =
      (if p.account = a ∧ p.commodity = c then ieSum amount rem i dates else 0) +
      (if acc = a ∧ p.commodity = c then -(ieSum amount rem i dates) else 0) := by
  induction dates generalizing i with
  | nil => simp only [ieLoop, bookedTxs, ieSum]; grind
  | cons d rest ih =>
    simp only [ieLoop, bookedTxs, ih, booked_rebook, ieSum]
    exact ite_pair_add _ _ _ _

theorem ieLoop_eq_map :
    ieLoop t acc p n amount rem i dates = (dates.zipIdx i).map (fun x =>
      rebook t x.1 (partDesc t.description x.2 n) acc p (if x.2 = 0 then amount + rem else amount)) := by
  induction dates generalizing i with
  | nil => rfl
  | cons d rest ih => simp [ieLoop, ih]

theorem ieLoop_dates : (ieLoop t acc p n amount rem i dates).map (·.date) = dates := by
  simp [ieLoop_eq_map, rebook, Function.comp_def]

theorem ieLoop_length : (ieLoop t acc p n amount rem i dates).length = dates.length := by
  simp [ieLoop_eq_map]

theorem ieLoop_all (P : Transaction → Prop) (hP : ∀ date desc q, P (rebook t date desc acc p q)) :
    ∀ g ∈ ieLoop t acc p n amount rem i dates, P g := by
  simp only [ieLoop_eq_map, List.mem_map]
  rintro g ⟨x, _, rfl⟩
  exact hP _ _ _

theorem ieLoop_descriptions :
    (ieLoop t acc p n amount rem i dates).map (·.description) =
      (List.range dates.length).map (fun k => partDesc t.description (i + k) n) := by
  rw [ieLoop_eq_map, List.map_map]
  show List.map ((fun k => partDesc t.description k n) ∘ Prod.snd) (dates.zipIdx i) = _
  rw [← List.map_map, List.zipIdx_map_snd, List.range'_eq_map_range, List.map_map]
  rfl

end ieLoop

theorem periodsOf_ne_nil (span : Period) (iv : Interval) (h : span.start ≤ span.stop) : periodsOf span iv 0 ≠ [] := by
  unfold periodsOf
  split
  · simp
  · rw [partLoop_step (by omega)]
    simp

/-! ## the generated list, posting by posting (the readable form of `datesB`) -/

/-- what one original posting `p` turns into: a single transaction on the original date with the
original description if `p` is not on an income/expense account; otherwise one transaction per
period of the accrual window, dated at the period ends in order and described `"… (accrual i/n)"`.
Every one of them books `p`'s account and commodity against the accrual account. -/
structure LegShape (t : Transaction) (ad : Addon) (p : Posting) (txs : List Transaction) : Prop where
  other : p.account.isIE = false →
    ∃ g, txs = [g] ∧ g.date = t.date ∧ g.description = t.description ∧ g.targets = t.targets
  ie : p.account.isIE = true →
    txs.map (·.date) = (periodsOf ⟨ad.start, ad.stop⟩ ad.interval 0).map (·.stop) ∧
    txs.map (·.description) = (List.range txs.length).map (fun k => partDesc t.description k txs.length)
  books : ∀ g ∈ txs, g.postings.any (fun x => decide (x.account = p.account ∧ x.commodity = p.commodity)) = true
  balanced : ∀ g ∈ txs, balancedPair ad.account g = true
  amount : ∀ a c, bookedTxs a c txs =
    (if p.account = a ∧ p.commodity = c then p.quantity else 0) +
    (if ad.account = a ∧ p.commodity = c then -p.quantity else 0)

/-- the generated transactions are the concatenation, in posting order, of each posting's legs -/
inductive Legs (t : Transaction) (ad : Addon) : List Posting → List Transaction → Prop
  | nil : Legs t ad [] []
  | cons {p : Posting} {ps : List Posting} {txs1 txs2 : List Transaction} :
      LegShape t ad p txs1 → Legs t ad ps txs2 → Legs t ad (p :: ps) (txs1 ++ txs2)

/-! ## one posting, all postings

`expandPosting` by cases: another account; an income/expense account with a window starting at Go's zero
time; an income/expense account otherwise. -/

theorem expandPosting_other {t : Transaction} {ad : Addon} {p : Posting} (hie : p.account.isIE = false) :
    expandPosting t ad p = .ok [rebook t t.date t.description ad.account p p.quantity] := by
  simp [expandPosting, hie]

theorem expandPosting_zero {t : Transaction} {ad : Addon} {p : Posting} (hie : p.account.isIE = true)
    (h0 : ad.start = 0) : expandPosting t ad p = .panic "can't create partition with zero time" := by
  simp [expandPosting, newPartition, hie, h0]

theorem expandPosting_ie {t : Transaction} {ad : Addon} {p : Posting} (hie : p.account.isIE = true)
    (h0 : ad.start ≠ 0) :
    expandPosting t ad p =
      match quoRem p.quantity (((periodsOf ⟨ad.start, ad.stop⟩ ad.interval 0).length : Int) : Rat) quoRemPlaces with
      | none => .panic "decimal division by 0"
      | some (amount, rem) =>
        .ok (ieLoop t ad.account p (periodsOf ⟨ad.start, ad.stop⟩ ad.interval 0).length amount rem 0
          ((periodsOf ⟨ad.start, ad.stop⟩ ad.interval 0).map (·.stop))) := by
  unfold expandPosting
  simp only [hie, Bool.not_true, Bool.false_eq_true, if_false]
  rw [newPartition_eq_ok.mpr ⟨h0, rfl⟩]
  rfl

theorem expandPosting_legShape {t : Transaction} {ad : Addon} {p : Posting} {txs : List Transaction}
    (h : expandPosting t ad p = .ok txs) : LegShape t ad p txs := by
  cases hie : p.account.isIE
  · rw [expandPosting_other hie] at h
    injection h with h; subst h
    refine ⟨fun _ => ⟨_, rfl, rfl, rfl, rfl⟩, fun h' => by simp [h'] at hie, ?_, ?_, ?_⟩
    · intro g hg; rw [List.mem_singleton.mp hg]; exact rebook_books _ _ _ _ _ _
    · intro g hg; rw [List.mem_singleton.mp hg]; exact balancedPair_rebook _ _ _ _ _ _
    · intro a c; simp only [bookedTxs, booked_rebook]; grind
  · by_cases h0 : ad.start = 0
    · rw [expandPosting_zero hie h0] at h; cases h
    rw [expandPosting_ie hie h0] at h
    split at h
    · cases h
    rename_i amount rem hq
    injection h with h; subst h
    refine ⟨fun h' => by simp [h'] at hie, fun _ => ⟨?_, ?_⟩, ?_, ?_, ?_⟩
    · rw [ieLoop_dates]
    · rw [ieLoop_descriptions, ieLoop_length]; simp
    · exact ieLoop_all _ _ _ _ _ _ _ _ _ (fun date desc q => rebook_books t date desc ad.account p q)
    · exact ieLoop_all _ _ _ _ _ _ _ _ _ (fun date desc q => balancedPair_rebook t date desc ad.account p q)
    · intro a c
      -- the parts add up to `amount · n + rem`, which `QuoRem` guarantees to be the quantity
      have hsum := quoRem_sum _ _ _ _ _ hq
      have hS : ieSum amount rem 0 ((periodsOf ⟨ad.start, ad.stop⟩ ad.interval 0).map (·.stop)) = p.quantity := by
        cases hd : (periodsOf ⟨ad.start, ad.stop⟩ ad.interval 0).map (·.stop) with
        | nil =>
          have hn := quoRem_ne_zero _ _ _ _ hq
          rw [List.map_eq_nil_iff.mp hd] at hn
          simp at hn
        | cons d rest => rw [ieSum_zero, ← hd, List.length_map]; exact hsum
      rw [bookedTxs_ieLoop, hS]

theorem expandLoop_cons_eq_ok {t : Transaction} {ad : Addon} {p : Posting} {ps : List Posting} {txs : List Transaction} :
    expandLoop t ad (p :: ps) = .ok txs ↔
      ∃ txs1 txs2, expandPosting t ad p = .ok txs1 ∧ expandLoop t ad ps = .ok txs2 ∧ txs = txs1 ++ txs2 := by
  simp only [expandLoop]
  cases expandPosting t ad p with
  | panic s => simp
  | ok txs1 =>
    cases expandLoop t ad ps with
    | panic s => simp
    | ok txs2 => simp [eq_comm]

theorem expandLoop_legs (t : Transaction) (ad : Addon) (ps : List Posting) (txs : List Transaction)
    (h : expandLoop t ad ps = .ok txs) : Legs t ad ps txs := by
  induction ps generalizing txs with
  | nil =>
    simp only [expandLoop, Step.ok.injEq] at h
    subst h; exact Legs.nil
  | cons p rest ih =>
    obtain ⟨txs1, txs2, h1, h2, rfl⟩ := expandLoop_cons_eq_ok.mp h
    exact Legs.cons (expandPosting_legShape h1) (ih txs2 h2)

theorem Legs.balanced {t : Transaction} {ad : Addon} {ps : List Posting} {txs : List Transaction}
    (h : Legs t ad ps txs) : ∀ g ∈ txs, balancedPair ad.account g = true := by
  induction h with
  | nil => simp
  | cons h1 _ ih =>
    intro g hg
    rcases List.mem_append.mp hg with hg | hg
    · exact h1.balanced g hg
    · exact ih g hg

theorem Legs.booked {t : Transaction} {ad : Addon} {ps : List Posting} {txs : List Transaction}
    (h : Legs t ad ps txs) (a : Account) (c : Commodity) :
    bookedTxs a c txs = Spec.booked a c ps + (if ad.account = a then -(comSum c ps) else 0) := by
  induction h with
  | nil => simp only [bookedTxs, Spec.booked, comSum, Rat.neg_zero, ite_self, Rat.add_zero]
  | @cons p ps _ _ h1 _ ih =>
    rw [bookedTxs_append, h1.amount, ih]
    simp only [Spec.booked, comSum]
    -- the accrual account's share of `p` joins its share of the rest
    have hacc : (if ad.account = a ∧ p.commodity = c then -p.quantity else 0) + (if ad.account = a then -(comSum c ps) else 0)
        = if ad.account = a then -((if p.commodity = c then p.quantity else 0) + comSum c ps) else 0 := by
      by_cases ha : ad.account = a <;> by_cases hc : p.commodity = c <;> simp only [ha, hc, true_and, false_and, if_true, if_false] <;> grind
    rw [← hacc, Rat.add_assoc, Rat.add_assoc, Rat.add_left_comm _ (Spec.booked a c ps)]

theorem Legs.datesB {t : Transaction} {ad : Addon} {ps : List Posting} {txs : List Transaction}
    (h : Legs t ad ps txs) :
    Spec.datesB t.date ((periodsOf ⟨ad.start, ad.stop⟩ ad.interval 0).map (·.stop)) ps txs = true := by
  induction h with
  | nil => simp [Spec.datesB]
  | @cons p _ txs1 _ h1 _ ih =>
    simp only [Spec.datesB]
    by_cases hie : p.account.isIE = true
    · obtain ⟨hd, _⟩ := h1.ie hie
      have hlen : txs1.length = ((periodsOf ⟨ad.start, ad.stop⟩ ad.interval 0).map (·.stop)).length := by
        rw [← hd]; simp
      simp only [hie, if_true]
      rw [List.take_left' hlen, List.drop_left' hlen, hd, ih]
      simp only [decide_true, Bool.true_and, Bool.and_true, List.all_eq_true]
      exact h1.books
    · have hie' : p.account.isIE = false := by simpa using hie
      obtain ⟨g, rfl, hdate, _⟩ := h1.other hie'
      simp only [hie', Bool.false_eq_true, if_false]
      rw [List.take_left' (by simp), List.drop_left' (by simp), ih]
      simp only [List.map_cons, List.map_nil, hdate, decide_true, Bool.true_and, Bool.and_true, List.all_eq_true]
      exact h1.books

theorem expandPosting_ok (t : Transaction) (ad : Addon) (p : Posting) (h0 : ad.start ≠ 0) (hle : ad.start ≤ ad.stop) :
    ∃ txs, expandPosting t ad p = .ok txs := by
  cases hie : p.account.isIE
  · exact ⟨_, expandPosting_other hie⟩
  · have hne := periodsOf_ne_nil ⟨ad.start, ad.stop⟩ ad.interval hle
    have hsz : ((((periodsOf ⟨ad.start, ad.stop⟩ ad.interval 0).length : Nat) : Int) : Rat) ≠ 0 := by
      exact_mod_cast fun h => hne (List.length_eq_zero_iff.mp h)
    obtain ⟨⟨amount, rem⟩, hq⟩ := quoRem_isSome p.quantity _ quoRemPlaces hsz
    rw [expandPosting_ie hie h0, hq]
    exact ⟨_, rfl⟩

theorem expandLoop_ok (t : Transaction) (ad : Addon) (ps : List Posting) (h0 : ad.start ≠ 0) (hle : ad.start ≤ ad.stop) :
    ∃ txs, expandLoop t ad ps = .ok txs := by
  induction ps with
  | nil => exact ⟨[], rfl⟩
  | cons p rest ih =>
    obtain ⟨txs1, h1⟩ := expandPosting_ok t ad p h0 hle
    obtain ⟨txs2, h2⟩ := ih
    exact ⟨txs1 ++ txs2, by simp [expandLoop, h1, h2]⟩

theorem expandLoop_zero_panics (t : Transaction) (ad : Addon) (ps : List Posting) (h0 : ad.start = 0)
    (hie : ∃ p ∈ ps, p.account.isIE = true) :
    expandLoop t ad ps = .panic "can't create partition with zero time" := by
  induction ps with
  | nil => obtain ⟨p, hp, _⟩ := hie; simp at hp
  | cons p rest ih =>
    simp only [expandLoop]
    cases hp : p.account.isIE
    · have : ∃ q ∈ rest, q.account.isIE = true := by
        obtain ⟨q, hq, hqi⟩ := hie
        rcases List.mem_cons.mp hq with rfl | hq'
        · rw [hqi] at hp; cases hp
        · exact ⟨q, hq', hqi⟩
      rw [expandPosting_other hp, ih this]
    · rw [expandPosting_zero hp h0]

/-! ## what a call of `transaction.Create` does, and what it returns

`create_run` is the one pass through `create` and `expand`; `create_eq_ok` reads the successful calls off it.
`Made ti u` lists the three ways a returned transaction comes about, `create_made` joins them: whoever needs a fact about
everything `transaction.Create` returns takes the three cases, without unfolding `create`, `expand`, `expandLoop`,
`expandPosting` or `ieLoop`. -/

/-- the transaction `transaction.Create` builds before any `@accrue` expansion -/
def created (ti : TxInput) : Transaction :=
  { date := ti.date, description := ti.description, postings := postingsOf ti.bookings, targets := ti.targets }

def Step.toResult : Step → Result
  | .ok txs => .ok txs
  | .panic s => .panic s

/-- the four ways a call of `transaction.Create` ends: the registry rejects an account of a booking; no `@accrue`; the
registry rejects the accrual account or the window ends before it starts; the expansion of the postings.
(The result of the last case is a premise, so that `cases` never has to unify a result with `toResult …`.) -/
inductive CreateRun (ti : TxInput) : Result → Prop
  | badBooking : (ti.bookings.all fun b => b.credit.wf && b.debit.wf) = false → CreateRun ti .error
  | plain : (ti.bookings.all fun b => b.credit.wf && b.debit.wf) = true → ti.accrual = none → CreateRun ti (.ok [created ti])
  | badAddon {a : Addon} : (ti.bookings.all fun b => b.credit.wf && b.debit.wf) = true → ti.accrual = some a →
      (a.account.wf = false ∨ a.stop < a.start) → CreateRun ti .error
  | expanded {a : Addon} {r : Result} : (ti.bookings.all fun b => b.credit.wf && b.debit.wf) = true → ti.accrual = some a →
      a.account.wf = true → a.start ≤ a.stop → r = (expandLoop (created ti) a (postingsOf ti.bookings)).toResult → CreateRun ti r

theorem create_run (ti : TxInput) : CreateRun ti (create ti) := by
  unfold create
  cases hb : ti.bookings.all fun b => b.credit.wf && b.debit.wf
  · exact .badBooking hb
  · simp only [Bool.not_true, Bool.false_eq_true, if_false]
    cases ha : ti.accrual with
    | none => exact .plain hb ha
    | some a =>
      simp only [expand]
      cases hw : a.account.wf
      · exact .badAddon hb ha (Or.inl hw)
      · by_cases hle : a.stop < a.start
        · simp only [Bool.not_true, Bool.false_eq_true, if_false, hle, if_true]
          exact .badAddon hb ha (Or.inr hle)
        · simp only [Bool.not_true, Bool.false_eq_true, if_false, hle]
          refine .expanded hb ha hw (by omega) ?_
          unfold created
          cases expandLoop _ a (postingsOf ti.bookings) <;> rfl

theorem create_eq_ok {ti : TxInput} {txs : List Transaction} : create ti = .ok txs ↔
    (∀ b ∈ ti.bookings, b.credit.wf = true ∧ b.debit.wf = true) ∧
    ((ti.accrual = none ∧ txs = [created ti]) ∨
      ∃ a, ti.accrual = some a ∧ a.account.wf = true ∧ a.start ≤ a.stop ∧
        expandLoop (created ti) a (postingsOf ti.bookings) = .ok txs) := by
  have hall : (ti.bookings.all fun b => b.credit.wf && b.debit.wf) = true ↔
      ∀ b ∈ ti.bookings, b.credit.wf = true ∧ b.debit.wf = true := by simp [List.all_eq_true]
  have hr := create_run ti
  generalize create ti = r at hr
  cases hr with
  | badBooking hb => exact ⟨(fun h => nomatch h), fun h => by rw [hall.mpr h.1] at hb; cases hb⟩
  | plain hb ha =>
    refine ⟨fun h => ⟨hall.mp hb, Or.inl ⟨ha, (Result.ok.inj h).symm⟩⟩, ?_⟩
    rintro ⟨_, ⟨_, rfl⟩ | ⟨a, e, _⟩⟩
    · rfl
    · rw [ha] at e; cases e
  | badAddon hb ha hbad =>
    refine ⟨(fun h => nomatch h), ?_⟩
    rintro ⟨_, ⟨e, _⟩ | ⟨a, e, hw, hle, _⟩⟩
    · rw [ha] at e; cases e
    · rw [ha] at e; cases e
      rcases hbad with h | h
      · rw [hw] at h; cases h
      · omega
  | expanded hb ha hw hle e =>
    subst e
    constructor
    · intro h
      refine ⟨hall.mp hb, Or.inr ⟨_, ha, hw, hle, ?_⟩⟩
      cases hx : expandLoop (created ti) _ (postingsOf ti.bookings) with
      | ok txs' => rw [hx] at h; exact congrArg Step.ok (Result.ok.inj h)
      | panic s => rw [hx] at h; cases h
    · rintro ⟨_, ⟨e, _⟩ | ⟨a, e, _, _, hx⟩⟩
      · rw [ha] at e; cases e
      · rw [ha] at e; cases e
        rw [hx]; rfl

theorem create_ok {t : TxInput} {ad : Addon} {gen : List Transaction}
    (ha : t.accrual = some ad) (h : create t = .ok gen) :
    ad.start ≤ ad.stop ∧
    expandLoop { date := t.date, description := t.description, postings := postingsOf t.bookings, targets := t.targets }
      ad (postingsOf t.bookings) = .ok gen := by
  obtain ⟨_, ⟨e, _⟩ | ⟨a, e, _, hle, hx⟩⟩ := create_eq_ok.mp h
  · rw [ha] at e; cases e
  · rw [ha] at e; cases e; exact ⟨hle, hx⟩

/-- a transaction `transaction.Create` returns for `ti`: the created one; or, under `@accrue`, a posting moved to the
accrual account on the original date (the posting is not on an income/expense account); or the `i`-th part of a posting
that is, dated at a period end of the accrual window -/
inductive Made (ti : TxInput) : Transaction → Prop
  | plain : ti.accrual = none → Made ti (created ti)
  | moved {a : Addon} {p : Posting} : ti.accrual = some a → p ∈ postingsOf ti.bookings →
      Made ti (rebook (created ti) ti.date ti.description a.account p p.quantity)
  | part {a : Addon} {p : Posting} {part : Partition} {amount rem : Rat} {i : Nat} {dt : Int} :
      ti.accrual = some a → p ∈ postingsOf ti.bookings → newPartition ⟨a.start, a.stop⟩ a.interval 0 = .ok part →
      quoRem p.quantity ((part.size : Int) : Rat) quoRemPlaces = some (amount, rem) → dt ∈ part.endDates →
      Made ti (rebook (created ti) dt (partDesc ti.description i part.size) a.account p (if i = 0 then amount + rem else amount))

theorem expandPosting_mem {t : Transaction} {a : Addon} {p : Posting} {txs : List Transaction}
    (h : expandPosting t a p = .ok txs) {u : Transaction} (hu : u ∈ txs) :
    u = rebook t t.date t.description a.account p p.quantity ∨
    ∃ part amount rem i dt, newPartition ⟨a.start, a.stop⟩ a.interval 0 = .ok part ∧
      quoRem p.quantity ((part.size : Int) : Rat) quoRemPlaces = some (amount, rem) ∧ dt ∈ part.endDates ∧
      u = rebook t dt (partDesc t.description i part.size) a.account p (if i = 0 then amount + rem else amount) := by
  unfold expandPosting at h
  split at h
  · cases h; exact Or.inl (List.mem_singleton.mp hu)
  · split at h
    · cases h
    · rename_i part hpart
      split at h
      · cases h
      · rename_i amount rem hqr
        cases h
        rw [ieLoop_eq_map] at hu
        obtain ⟨x, hx, rfl⟩ := List.mem_map.mp hu
        exact Or.inr ⟨part, amount, rem, x.2, x.1, hpart, hqr, (List.mem_zipIdx hx).2.2 ▸ List.getElem_mem _, rfl⟩

theorem expandLoop_mem {t : Transaction} {a : Addon} : ∀ {ps : List Posting} {txs : List Transaction},
    expandLoop t a ps = .ok txs → ∀ {u : Transaction}, u ∈ txs → ∃ p ∈ ps, ∃ txs1, expandPosting t a p = .ok txs1 ∧ u ∈ txs1
  | [], _, h, u, hu => by cases h; cases hu
  | p :: ps, _, h, u, hu => by
    obtain ⟨txs1, txs2, h1, h2, rfl⟩ := expandLoop_cons_eq_ok.mp h
    rcases List.mem_append.mp hu with hu | hu
    · exact ⟨p, List.mem_cons_self, txs1, h1, hu⟩
    · obtain ⟨q, hq, r⟩ := expandLoop_mem h2 hu
      exact ⟨q, List.mem_cons_of_mem _ hq, r⟩

/-- **everything `transaction.Create` returns is `Made`** -/
theorem create_made {ti : TxInput} {txs : List Transaction} (h : create ti = .ok txs) :
    (∀ b ∈ ti.bookings, b.credit.wf = true ∧ b.debit.wf = true) ∧
    (∀ a, ti.accrual = some a → a.account.wf = true ∧ a.start ≤ a.stop) ∧ ∀ u ∈ txs, Made ti u := by
  obtain ⟨hb, ⟨ha, rfl⟩ | ⟨a, ha, hw, hle, hx⟩⟩ := create_eq_ok.mp h
  · exact ⟨hb, fun a e => (by rw [ha] at e; cases e), fun u hu => by rw [List.mem_singleton.mp hu]; exact .plain ha⟩
  · refine ⟨hb, fun a' e => (by rw [ha] at e; cases e; exact ⟨hw, hle⟩), fun u hu => ?_⟩
    obtain ⟨p, hp, txs1, h1, hu1⟩ := expandLoop_mem hx hu
    rcases expandPosting_mem h1 hu1 with rfl | ⟨part, amount, rem, i, dt, hpart, hqr, hdt, rfl⟩
    · exact .moved ha hp
    · exact .part ha hp hpart hqr hdt

/-! ## meaning of the executable conservation check -/

theorem booked_eq_zero_of_not_mem (a : Account) (c : Commodity) (ps : List Posting)
    (h : (a, c) ∉ positionsOf ps) : booked a c ps = 0 := by
  induction ps with
  | nil => rfl
  | cons p rest ih =>
    simp only [positionsOf, List.map_cons, List.mem_cons, not_or] at h
    have h1 : ¬ (p.account = a ∧ p.commodity = c) := by
      intro x; exact h.1 (by rw [x.1, x.2])
    simp only [booked, if_neg h1, ih h.2]
    grind

theorem bookedTxs_eq_booked_flat (a : Account) (c : Commodity) (gen : List Transaction) :
    bookedTxs a c gen = booked a c (gen.flatMap (·.postings)) := by
  induction gen with
  | nil => rfl
  | cons g rest ih => simp only [bookedTxs, List.flatMap_cons, booked_append, ih]

theorem conservedB_sound (orig : List Posting) (gen : List Transaction) (h : conservedB orig gen = true)
    (a : Account) (c : Commodity) : bookedTxs a c gen = booked a c orig := by
  by_cases hm : (a, c) ∈ positionsOf orig ++ positionsOf (gen.flatMap (·.postings))
  · simp only [conservedB, List.all_eq_true, decide_eq_true_eq] at h
    exact h (a, c) (List.mem_eraseDups.mpr hm)
  · simp only [List.mem_append, not_or] at hm
    rw [bookedTxs_eq_booked_flat, booked_eq_zero_of_not_mem a c _ hm.2, booked_eq_zero_of_not_mem a c _ hm.1]

theorem booked_untouched (acc : Account) (c : Commodity) (bs : List Booking)
    (h : ∀ b ∈ bs, b.credit ≠ acc ∧ b.debit ≠ acc) : booked acc c (postingsOf bs) = 0 := by
  induction bs with
  | nil => rfl
  | cons b rest ih =>
    have : postingsOf (b :: rest) = postingBuild b.credit b.debit b.commodity b.quantity ++ postingsOf rest := by
      simp [postingsOf]
    rw [this, booked_append, booked_postingBuild, ih (fun b' hb' => h b' (List.mem_cons_of_mem _ hb'))]
    have hb := h b List.mem_cons_self
    have h1 : ¬ (b.debit = acc ∧ b.commodity = c) := fun x => hb.2 x.1
    have h2 : ¬ (b.credit = acc ∧ b.commodity = c) := fun x => hb.1 x.1
    simp only [if_neg h1, if_neg h2]
    grind

end Knut.Accrual
