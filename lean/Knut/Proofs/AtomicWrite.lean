import Knut.Model.AtomicWrite
/-!
# `writeFile` and `rewriteFile` by what fails first

A run of `writeFile` is determined by the old target and the operation that fails first (`writeFile_eq`), so what C18
needs of a run (`WFSpec`) is proved of `writeRun`, one shape of run at a time; likewise `rewriteFile` (`rewriteFile_cases`).
-/
namespace Knut.AtomicWrite

theorem get_del_same (fs : FS) (p : Path) : FS.get (FS.del fs p) p = none := by
  induction fs with
  | nil => rfl
  | cons e rest ih =>
    unfold FS.del
    split
    · exact ih
    · rename_i h; simp only [FS.get, h, if_false]; exact ih

theorem get_del_other (fs : FS) {p q : Path} (h : q ≠ p) : FS.get (FS.del fs p) q = FS.get fs q := by
  induction fs with
  | nil => rfl
  | cons e rest ih =>
    unfold FS.del
    split
    · rename_i hr; rw [ih, FS.get, if_neg (hr ▸ Ne.symm h)]
    · simp only [FS.get, ih]

theorem get_set_same (fs : FS) (p : Path) (f : File) : FS.get (FS.set fs p f) p = some f := by
  simp [FS.set, FS.get]

theorem get_set_other (fs : FS) {p q : Path} (f : File) (h : q ≠ p) : FS.get (FS.set fs p f) q = FS.get fs q := by
  have : ¬ p = q := fun x => h x.symm
  simp [FS.set, FS.get, this, get_del_other fs h]

theorem del_del (fs : FS) (p : Path) : FS.del (FS.del fs p) p = FS.del fs p := by
  induction fs with
  | nil => rfl
  | cons x rest ih =>
    obtain ⟨q, f⟩ := x
    by_cases h : q = p <;> simp [FS.del, h, ih]

theorem del_set (fs : FS) (p : Path) (f : File) : FS.del (FS.set fs p f) p = FS.del fs p := by
  simp [FS.set, FS.del, del_del]

theorem set_set (fs : FS) (p : Path) (a b : File) : FS.set (FS.set fs p a) p b = FS.set fs p b := by
  simp [FS.set, FS.del, del_del]

def newFile (fs0 : FS) (target : Path) (new : Bytes) : File :=
  ⟨new, match FS.get fs0 target with | some o => o.mode | none => 0o600⟩

def OnlyTmp (fs0 st : FS) (tmp : Path) : Prop := ∀ p, p ≠ tmp → FS.get st p = FS.get fs0 p

theorem onlyTmp_set (fs0 : FS) (tmp : Path) (f : File) : OnlyTmp fs0 (FS.set fs0 tmp f) tmp :=
  fun _ hp => get_set_other fs0 f hp

theorem onlyTmp_refl (fs0 : FS) (tmp : Path) : OnlyTmp fs0 fs0 tmp := fun _ _ => rfl

theorem onlyTmp_del {fs0 st : FS} {tmp : Path} (h : OnlyTmp fs0 st tmp) : OnlyTmp fs0 (FS.del st tmp) tmp :=
  fun p hp => by rw [get_del_other st hp]; exact h p hp

def Replaced (fs0 st : FS) (tmp target : Path) (new : Bytes) : Prop :=
  FS.get st target = some (newFile fs0 target new) ∧ FS.get st tmp = none ∧
  ∀ p, p ≠ tmp → p ≠ target → FS.get st p = FS.get fs0 p

def WFSpec (sc : Scenario) (fs0 : FS) (tmp target : Path) (new : Bytes) (r : Run) : Prop :=
  r.final ∈ r.states () ∧
  (∀ st ∈ r.states (), OnlyTmp fs0 st tmp ∨ (st = r.final ∧ r.outcome = .ok)) ∧
  (r.outcome = .ok → Replaced fs0 r.final tmp target new) ∧
  (∀ op, r.outcome = .error op → OnlyTmp fs0 r.final tmp ∧
    (sc.unlinkFails = false → FS.get fs0 tmp = none → FS.get r.final tmp = none))

theorem cleanup_outcome (sc : Scenario) (tmp : Path) (states : Unit → List FS) (fs : FS) (op : Op) :
    (cleanup sc tmp states fs op).outcome = .error op := by
  unfold cleanup; split <;> rfl

theorem wfspec_cleanup {sc : Scenario} {tmp target : Path} {new : Bytes} {states : Unit → List FS} {fs0 fs : FS} {op : Op}
    (hs : ∀ st ∈ states (), OnlyTmp fs0 st tmp) (hf : OnlyTmp fs0 fs tmp) (hin : fs ∈ states ()) :
    WFSpec sc fs0 tmp target new (cleanup sc tmp states fs op) := by
  unfold cleanup
  split
  · rename_i hu
    exact ⟨hin, fun st hst => Or.inl (hs st hst), (nomatch ·), fun _ _ => ⟨hf, fun h => by rw [hu] at h; cases h⟩⟩
  · refine ⟨List.mem_append_right _ (List.mem_singleton.mpr rfl), fun st hst => Or.inl ?_, (nomatch ·),
      fun _ _ => ⟨onlyTmp_del hf, fun _ _ => get_del_same fs tmp⟩⟩
    rcases List.mem_append.mp hst with h | h
    · exact hs st h
    · rw [List.mem_singleton.mp h]; exact onlyTmp_del hf

/-! ### `writeFile`: its run as a function of the operation that fails first -/

theorem copyStates_onlyTmp (sc : Scenario) (tmp : Path) (new : Bytes) (fs0 : FS) :
    ∀ st ∈ copyStates sc tmp new fs0, OnlyTmp fs0 st tmp := by
  intro st hst
  unfold copyStates at hst
  rcases List.mem_append.mp hst with h | h
  · simp at h
    rcases h with rfl | rfl
    · exact onlyTmp_refl _ _
    · exact onlyTmp_set _ _ _
  · obtain ⟨j, _, rfl⟩ := List.mem_map.mp h
    exact onlyTmp_set _ _ _

theorem copyStates_mem (sc : Scenario) (tmp : Path) (new : Bytes) (fs0 : FS) {j : Nat} (hj : j ≤ written sc new) :
    FS.set fs0 tmp ⟨new.take j, 0o600⟩ ∈ copyStates sc tmp new fs0 :=
  List.mem_append_right _ (List.mem_map.mpr ⟨j, List.mem_range.mpr (Nat.lt_succ_of_le hj), rfl⟩)

/-- the temp file as `io.Copy` leaves it -/
def copied (sc : Scenario) (tmp : Path) (new : Bytes) (fs0 : FS) : FS :=
  FS.set fs0 tmp ⟨new.take (written sc new), 0o600⟩

/-- the state in which the rename is attempted, `old` being what `os.Stat(target)` found -/
def staged (sc : Scenario) (tmp : Path) (new : Bytes) (fs0 : FS) : Option File → FS
  | none => copied sc tmp new fs0
  | some old => FS.set fs0 tmp ⟨new, old.mode⟩

/-- with an original target `staged` is one more state, whether or not a `chmod` was needed -/
def stagedStates (sc : Scenario) (tmp : Path) (new : Bytes) (fs0 : FS) (old : Option File) : List FS :=
  copyStates sc tmp new fs0 ++
    match old with
    | none => []
    | some _ => [staged sc tmp new fs0 old]

def installed (tmp target : Path) (new : Bytes) (fs0 : FS) (old : Option File) : FS :=
  FS.set (FS.del fs0 tmp) target ⟨new, match old with | some o => o.mode | none => 0o600⟩

def writeRun (sc : Scenario) (tmp target : Path) (new : Bytes) (fs0 : FS) (old : Option File) : Outcome → Run
  | .ok => { states := fun _ => stagedStates sc tmp new fs0 old ++ [installed tmp target new fs0 old],
             final := installed tmp target new fs0 old, outcome := .ok }
  | .error op =>
    if op = .createTemp then { states := fun _ => [fs0], final := fs0, outcome := .error op }
    else if op = .rename then cleanup sc tmp (fun _ => stagedStates sc tmp new fs0 old) (staged sc tmp new fs0 old) op
    else cleanup sc tmp (fun _ => copyStates sc tmp new fs0) (copied sc tmp new fs0) op

/-- `writeFile` and `writeOutcome` make the same tests in the same order: push `writeRun` through the tests of
`writeOutcome` and compare branch by branch. Every state before the rename is `fs0` with something under `tmp`
(`set_set`), so the rename always starts from `FS.del fs0 tmp` (`del_set`). -/
theorem writeFile_eq_of_stat (sc : Scenario) (tmp target : Path) (new : Bytes) (fs0 : FS) {old : Option File}
    (hold : FS.get (copied sc tmp new fs0) target = old) :
    writeFile sc tmp target new fs0 = writeRun sc tmp target new fs0 old (writeOutcome sc new old) := by
  unfold copied at hold
  unfold writeFile writeOutcome
  simp only [hold]
  cases old <;> simp only [apply_ite (writeRun sc tmp target new fs0 _)] <;>
    simp [writeRun, staged, stagedStates, installed, copied, del_set, set_set]

/-- the temp name is fresh (`O_EXCL`), so `os.Stat(target)` finds the target of the initial state -/
theorem writeFile_eq (sc : Scenario) {tmp target : Path} (new : Bytes) (fs0 : FS) (hne : tmp ≠ target) :
    writeFile sc tmp target new fs0 =
      writeRun sc tmp target new fs0 (FS.get fs0 target) (writeOutcome sc new (FS.get fs0 target)) :=
  writeFile_eq_of_stat sc tmp target new fs0 (get_set_other fs0 _ (Ne.symm hne))

theorem writeRun_outcome (sc : Scenario) (tmp target : Path) (new : Bytes) (fs0 : FS) (old : Option File) (o : Outcome) :
    (writeRun sc tmp target new fs0 old o).outcome = o := by
  cases o with
  | ok => rfl
  | error op =>
    simp only [writeRun]
    split
    · rfl
    · split <;> exact cleanup_outcome ..

theorem onlyTmp_staged (sc : Scenario) (tmp : Path) (new : Bytes) (fs0 : FS) (old : Option File) :
    OnlyTmp fs0 (staged sc tmp new fs0 old) tmp := by
  cases old <;> exact onlyTmp_set _ _ _

theorem staged_mem (sc : Scenario) (tmp : Path) (new : Bytes) (fs0 : FS) (old : Option File) :
    staged sc tmp new fs0 old ∈ stagedStates sc tmp new fs0 old := by
  cases old with
  | none => exact List.mem_append_left _ (copyStates_mem sc tmp new fs0 (Nat.le_refl _))
  | some _ => exact List.mem_append_right _ (List.mem_singleton.mpr rfl)

theorem stagedStates_onlyTmp (sc : Scenario) (tmp : Path) (new : Bytes) (fs0 : FS) (old : Option File) :
    ∀ st ∈ stagedStates sc tmp new fs0 old, OnlyTmp fs0 st tmp := by
  intro st hst
  rcases List.mem_append.mp hst with h | h
  · exact copyStates_onlyTmp sc tmp new fs0 st h
  · cases old with
    | none => cases h
    | some _ => rw [List.mem_singleton.mp h]; exact onlyTmp_staged sc tmp new fs0 _

theorem replaced_installed {tmp target : Path} (new : Bytes) (fs0 : FS) (hne : tmp ≠ target) :
    Replaced fs0 (installed tmp target new fs0 (FS.get fs0 target)) tmp target new :=
  ⟨get_set_same _ _ _, by unfold installed; rw [get_set_other _ _ hne, get_del_same],
    fun p hp1 hp2 => by unfold installed; rw [get_set_other _ _ hp2, get_del_other _ hp1]⟩

theorem wfspec_writeRun (sc : Scenario) {tmp target : Path} (new : Bytes) (fs0 : FS) (hne : tmp ≠ target) (o : Outcome) :
    WFSpec sc fs0 tmp target new (writeRun sc tmp target new fs0 (FS.get fs0 target) o) := by
  cases o with
  | ok =>
    refine ⟨List.mem_append_right _ (List.mem_singleton.mpr rfl), fun st hst => ?_,
      fun _ => replaced_installed new fs0 hne, fun _ h => by cases h⟩
    rcases List.mem_append.mp hst with h | h
    · exact Or.inl (stagedStates_onlyTmp sc tmp new fs0 _ st h)
    · exact Or.inr ⟨List.mem_singleton.mp h, rfl⟩
  | error op =>
    simp only [writeRun]
    split
    · exact ⟨List.mem_singleton.mpr rfl, fun st hst => Or.inl (by rw [List.mem_singleton.mp hst]; exact onlyTmp_refl _ _),
        (nomatch ·), fun _ _ => ⟨onlyTmp_refl _ _, fun _ h => h⟩⟩
    · split
      · exact wfspec_cleanup (stagedStates_onlyTmp sc tmp new fs0 _) (onlyTmp_staged sc tmp new fs0 _) (staged_mem ..)
      · exact wfspec_cleanup (copyStates_onlyTmp sc tmp new fs0) (onlyTmp_set _ _ _)
          (copyStates_mem sc tmp new fs0 (Nat.le_refl _))

theorem writeFile_spec (sc : Scenario) {tmp target : Path} (new : Bytes) (fs0 : FS) (hne : tmp ≠ target) :
    WFSpec sc fs0 tmp target new (writeFile sc tmp target new fs0) := by
  rw [writeFile_eq sc new fs0 hne]; exact wfspec_writeRun sc new fs0 hne _

theorem writeFile_outcome (sc : Scenario) {tmp target : Path} (new : Bytes) (fs0 : FS) (hne : tmp ≠ target) :
    (writeFile sc tmp target new fs0).outcome = writeOutcome sc new (FS.get fs0 target) := by
  rw [writeFile_eq sc new fs0 hne]; exact writeRun_outcome ..

theorem writeOutcome_error (sc : Scenario) (new : Bytes) (old : Option File) {op : Op} :
    writeOutcome sc new old = .error op → op = .write ∨ sc.fault = some op := by
  unfold writeOutcome
  cases old <;> grind

theorem copyStates_subset_writeRun (sc : Scenario) (tmp target : Path) (new : Bytes) (fs0 : FS) (old : Option File)
    {o : Outcome} (ho : o ≠ .error .createTemp) {st : FS} (h : st ∈ copyStates sc tmp new fs0) :
    st ∈ (writeRun sc tmp target new fs0 old o).states () := by
  have hcl : ∀ {pre : List FS} (fs : FS) (op : Op), st ∈ pre → st ∈ (cleanup sc tmp (fun _ => pre) fs op).states () := by
    intro pre fs op h
    unfold cleanup
    split
    · exact h
    · exact List.mem_append_left _ h
  cases o with
  | ok => exact List.mem_append_left _ (List.mem_append_left _ h)
  | error op =>
    simp only [writeRun]
    split
    · rename_i hop; rw [hop] at ho; exact absurd rfl ho
    · split
      · exact hcl _ _ (List.mem_append_left _ h)
      · exact hcl _ _ h

theorem writeFile_invariant (sc : Scenario) {tmp target : Path} (new : Bytes) (fs0 : FS) (hne : tmp ≠ target) :
    ∀ st ∈ (writeFile sc tmp target new fs0).states (),
      FS.get st target = FS.get fs0 target ∨ FS.get st target = some (newFile fs0 target new) := by
  obtain ⟨_, hst, hok, _⟩ := writeFile_spec sc new fs0 hne
  intro st hmem
  rcases hst st hmem with h | ⟨rfl, ho⟩
  · exact Or.inl (h target (Ne.symm hne))
  · exact Or.inr (hok ho).1

theorem writeFile_target (sc : Scenario) {tmp target : Path} (new : Bytes) (fs0 : FS) (hne : tmp ≠ target) :
    FS.get (writeFile sc tmp target new fs0).final target =
      if writeOutcome sc new (FS.get fs0 target) = .ok then some (newFile fs0 target new) else FS.get fs0 target := by
  obtain ⟨_, _, hok, herr⟩ := writeFile_spec sc new fs0 hne
  rw [← writeFile_outcome sc new fs0 hne]
  cases ho : (writeFile sc tmp target new fs0).outcome with
  | ok => simp; exact (hok ho).1
  | error op => simp; exact (herr op ho).1 target (Ne.symm hne)

theorem writeFile_frame (sc : Scenario) {tmp target : Path} (new : Bytes) (fs0 : FS) (hne : tmp ≠ target)
    {p : Path} (hp1 : p ≠ tmp) (hp2 : p ≠ target) : ∀ st ∈ (writeFile sc tmp target new fs0).states (), FS.get st p = FS.get fs0 p := by
  obtain ⟨_, hst, hok, _⟩ := writeFile_spec sc new fs0 hne
  intro st hmem
  rcases hst st hmem with h | ⟨rfl, ho⟩
  · exact h p hp1
  · exact (hok ho).2.2 p hp1 hp2

/-! ### `rewriteFile` -/

/-- the front end of `rewriteFile`: the bytes to write, or the operation (`read`, `parse`) at which the command stops
before `atomic.WriteFile` is called -/
def rendered (render : Bytes → Option Bytes) (sc : Scenario) (old : Option File) : Except Op Bytes :=
  if sc.fault = some .read then .error .read else
  match old with
  | none => .error .read
  | some f =>
    match render f.content with
    | none => .error .parse
    | some new => .ok new

theorem rendered_ok {render : Bytes → Option Bytes} {sc : Scenario} {old : Option File} {new : Bytes}
    (h : rendered render sc old = .ok new) : ∃ f, old = some f ∧ render f.content = some new := by
  unfold rendered at h
  split at h
  · cases h
  · cases old with
    | none => cases h
    | some f =>
      cases hr : render f.content with
      | none => simp [hr] at h
      | some new' => simp [hr] at h; exact ⟨f, rfl, h ▸ hr⟩

theorem rewriteFile_cases (render : Bytes → Option Bytes) (sc : Scenario) (tmp target : Path) (fs : FS) :
    (∃ op, rendered render sc (FS.get fs target) = .error op ∧
      rewriteFile render sc tmp target fs = { states := fun _ => [fs], final := fs, outcome := .error op }) ∨
    ∃ f new, rendered render sc (FS.get fs target) = .ok new ∧ FS.get fs target = some f ∧ render f.content = some new ∧
      rewriteFile render sc tmp target fs = writeFile sc tmp target new fs := by
  unfold rewriteFile rendered
  by_cases h : sc.fault = some .read
  · rw [if_pos h, if_pos h]; exact Or.inl ⟨.read, rfl, rfl⟩
  · rw [if_neg h, if_neg h]
    cases FS.get fs target with
    | none => exact Or.inl ⟨.read, rfl, rfl⟩
    | some f =>
      cases hrn : render f.content with
      | none => exact Or.inl ⟨.parse, by simp only [hrn], by simp only [hrn]⟩
      | some new => exact Or.inr ⟨f, new, by simp only [hrn], rfl, hrn, by simp only [hrn]⟩

def rewriteOutcome (render : Bytes → Option Bytes) (sc : Scenario) (old : Option File) : Outcome :=
  match rendered render sc old with
  | .error op => .error op
  | .ok new => writeOutcome sc new old

def rewriteTarget (render : Bytes → Option Bytes) (sc : Scenario) (old : Option File) : Option File :=
  match rendered render sc old with
  | .error _ => old
  | .ok new =>
    if writeOutcome sc new old = .ok then some ⟨new, match old with | some o => o.mode | none => 0o600⟩ else old

theorem rewriteFile_outcome (render : Bytes → Option Bytes) (sc : Scenario) {tmp target : Path} (fs : FS) (hne : tmp ≠ target) :
    (rewriteFile render sc tmp target fs).outcome = rewriteOutcome render sc (FS.get fs target) := by
  unfold rewriteOutcome
  rcases rewriteFile_cases render sc tmp target fs with ⟨op, hr, e⟩ | ⟨f, new, hr, -, -, e⟩ <;> rw [e, hr]
  exact writeFile_outcome sc new fs hne

theorem rewriteFile_target (render : Bytes → Option Bytes) (sc : Scenario) {tmp target : Path} (fs : FS) (hne : tmp ≠ target) :
    FS.get (rewriteFile render sc tmp target fs).final target = rewriteTarget render sc (FS.get fs target) := by
  unfold rewriteTarget
  rcases rewriteFile_cases render sc tmp target fs with ⟨op, hr, e⟩ | ⟨f, new, hr, -, -, e⟩ <;> rw [e, hr]
  exact writeFile_target sc new fs hne

theorem rewriteFile_frame (render : Bytes → Option Bytes) (sc : Scenario) {tmp target : Path} (fs : FS) (hne : tmp ≠ target)
    {p : Path} (hp1 : p ≠ tmp) (hp2 : p ≠ target) : ∀ st ∈ (rewriteFile render sc tmp target fs).states (), FS.get st p = FS.get fs p := by
  rcases rewriteFile_cases render sc tmp target fs with ⟨op, -, e⟩ | ⟨f, new, -, -, -, e⟩ <;> rw [e]
  · intro st h; rw [List.mem_singleton.mp h]
  · exact writeFile_frame sc new fs hne hp1 hp2

theorem rewriteFile_final_mem (render : Bytes → Option Bytes) (sc : Scenario) {tmp target : Path} (fs : FS) (hne : tmp ≠ target) :
    (rewriteFile render sc tmp target fs).final ∈ (rewriteFile render sc tmp target fs).states () := by
  rcases rewriteFile_cases render sc tmp target fs with ⟨op, -, e⟩ | ⟨f, new, -, -, -, e⟩ <;> rw [e]
  · exact List.mem_singleton.mpr rfl
  · exact (writeFile_spec sc new fs hne).1

def Job.paths (j : Job) : List Path := [j.target, j.tmp]

theorem nodup_paths_of_mem {jobs : List Job} (hnd : (jobs.flatMap Job.paths).Nodup) {j : Job} (hj : j ∈ jobs) :
    (Job.paths j).Nodup := by
  induction jobs with
  | nil => cases hj
  | cons a as ih =>
    simp only [List.flatMap_cons] at hnd
    have h := List.nodup_append.mp hnd
    rcases List.mem_cons.mp hj with rfl | hj
    · exact h.1
    · exact ih h.2.1 hj


theorem rewriteAll_spec (render : Bytes → Option Bytes) : ∀ (jobs : List Job) (fs : FS),
    (jobs.flatMap Job.paths).Nodup →
    (∀ p, p ∉ jobs.flatMap Job.paths → FS.get (rewriteAll render jobs fs).1 p = FS.get fs p) ∧
    (∀ j ∈ jobs, FS.get (rewriteAll render jobs fs).1 j.target = rewriteTarget render j.sc (FS.get fs j.target)) ∧
    (rewriteAll render jobs fs).2 = jobs.map (fun j => rewriteOutcome render j.sc (FS.get fs j.target)) := by
  intro jobs
  induction jobs with
  | nil => intro fs _; simp [rewriteAll]
  | cons j js ih =>
    intro fs hnd
    rw [List.flatMap_cons] at hnd
    obtain ⟨hj, hnd', hdisj⟩ := List.nodup_append.mp hnd
    have hne : j.tmp ≠ j.target := by
      simp [Job.paths] at hj
      exact fun h => hj h.symm
    -- the first job changes nothing but its own two paths, so the other jobs find their targets as they were
    have hframe : ∀ p, p ∉ Job.paths j → FS.get (rewriteFile render j.sc j.tmp j.target fs).final p = FS.get fs p := by
      intro p hp
      simp only [Job.paths, List.mem_cons, List.not_mem_nil, or_false, not_or] at hp
      exact rewriteFile_frame render j.sc fs hne hp.2 hp.1 _ (rewriteFile_final_mem render j.sc fs hne)
    have hmem : ∀ j' ∈ js, j'.target ∈ js.flatMap Job.paths :=
      fun j' hj' => List.mem_flatMap.mpr ⟨j', hj', List.mem_cons_self⟩
    have hrest : ∀ j' ∈ js, FS.get (rewriteFile render j.sc j.tmp j.target fs).final j'.target = FS.get fs j'.target :=
      fun j' hj' => hframe _ fun h => hdisj _ h _ (hmem j' hj') rfl
    obtain ⟨ih1, ih2, ih3⟩ := ih (rewriteFile render j.sc j.tmp j.target fs).final hnd'
    refine ⟨?_, ?_, ?_⟩
    · intro p hp
      rw [List.flatMap_cons, List.mem_append, not_or] at hp
      simp only [rewriteAll]
      rw [ih1 p hp.2, hframe p hp.1]
    · intro j' hj'
      simp only [rewriteAll]
      rcases List.mem_cons.mp hj' with rfl | hj'
      · rw [ih1 _ fun h => hdisj _ List.mem_cons_self _ h rfl, rewriteFile_target render j'.sc fs hne]
      · rw [ih2 j' hj', hrest j' hj']
    · simp only [rewriteAll, List.map_cons]
      rw [ih3, rewriteFile_outcome render j.sc fs hne]
      congr 1
      exact List.map_congr_left fun j' hj' => by rw [hrest j' hj']

end Knut.AtomicWrite
