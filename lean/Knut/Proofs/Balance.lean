import Knut.Proofs.Sim
import Knut.Proofs.PostingBuild
import Knut.Proofs.BalanceValuate
import Knut.Proofs.BalanceQuery
import Knut.Proofs.ReportSums
/-! The balance pipeline one day at a time: what each stage returns when it succeeds, the day as a product of stages that
each own a part of `BalState` (`Balance.Step`, `Balance.Steps`), and for C01 the posting pairs that cancel (`Paired`):
valuation keeps them, the value adjustments are such pairs, and Query sums them to zero (`sumSel`). -/
namespace Knut
open Knut.Dec

/-- `Truncate` is odd -/
theorem trunc_neg (n : Nat) (r : Rat) : trunc n (-r) = -trunc n r := by
  unfold trunc scaledTrunc
  rw [Rat.neg_mkRat]
  simp only [Rat.neg_num, Rat.neg_den, Int.neg_mul, Int.neg_tdiv]

theorem multiply_neg (q p : Rat) : Prices.multiply (-q) p = -Prices.multiply q p := by
  unfold Prices.multiply
  rw [Rat.neg_mul, trunc_neg]

/-- a list of postings made of pairs that cancel: same commodity, opposite quantity and value -/
inductive Paired : List Posting → Prop
  | nil : Paired []
  | cons (a b : Posting) (rest : List Posting) (hc : b.commodity = a.commodity)
      (hq : b.quantity = -a.quantity) (hv : b.value = -a.value) (h : Paired rest) : Paired (a :: b :: rest)

theorem Paired.append {xs ys : List Posting} (hx : Paired xs) (hy : Paired ys) : Paired (xs ++ ys) := by
  induction hx with
  | nil => simpa using hy
  | cons a b rest hc hq hv _ ih => exact Paired.cons a b _ hc hq hv ih

theorem paired_postingBuild (cr dr : Account) (c : Commodity) (q v : Rat) : Paired (postingBuild cr dr c q v) := by
  rcases postingBuild_cases cr dr c q v with e | e <;> rw [e]
  · exact Paired.cons _ _ [] rfl (Rat.neg_neg q).symm (Rat.neg_neg v).symm Paired.nil
  · exact Paired.cons _ _ [] rfl rfl rfl Paired.nil

theorem pairsHave_paired : PairsHave Paired :=
  ⟨Paired.nil, fun _ _ _ _ => paired_postingBuild _ _ _ _ _, Paired.append⟩

theorem paired_flatMap_build (bks : List (Account × Account × Commodity × Rat)) :
    Paired (bks.flatMap (fun b => postingBuild b.1 b.2.1 b.2.2.1 b.2.2.2)) :=
  PairsHave.flatMap pairsHave_paired _ (fun _ => paired_postingBuild _ _ _ _ _) bks

def TxPaired (t : Transaction) : Prop := Paired t.postings

theorem exceptMap_bind {ε α β γ : Type} (f : β → γ) (x : Except ε α) (k : α → Except ε β) :
    (x >>= k).map f = x >>= fun a => (k a).map f := by
  cases x <;> rfl


namespace Balance
open Knut.Prices (NPrices)

theorem checkStage_ok {st s1 : BalState} {d : Day} :
    checkStage st d = .ok s1 ↔ ∃ c, Check.day st.chk d = .ok c ∧ s1 = { st with chk := c } := by
  unfold checkStage
  cases Check.day st.chk d with
  | error e => exact ⟨fun h => (by cases h), fun ⟨_, h, _⟩ => (by cases h)⟩
  | ok c => exact ⟨fun h => ⟨c, rfl, (Except.ok.inj h).symm⟩, fun ⟨_, hc, e⟩ => by cases hc; rw [e]⟩

/-- `ComputePrices`: the day's prices go into the graph; the normalised prices are recomputed on a day that declares one -/
theorem pricesDay_ok {v : Commodity} {st sp : BalState} {d : Day} :
    pricesDay v st d = .ok sp ↔
      ∃ g, d.prices.foldlM (fun g p =>
          match Prices.insert g ⟨p.commodity, p.price, p.target⟩ with
          | some g' => Except.ok g'
          | none => Except.error BalErr.zeroPrice) st.graph = .ok g ∧
        sp = { st with graph := g, norm := if d.prices.isEmpty then st.norm else some (Prices.normalize g v) } := by
  unfold pricesDay
  rw [bindOk_iff]
  exact exists_congr fun g => and_congr_right fun _ => ⟨fun h => (Except.ok.inj h).symm, fun h => congrArg Except.ok h.symm⟩

/-- `Valuate`: the value adjustments of the day, then every transaction valued at the day's normalised prices -/
theorem valuateDay_ok {v : Commodity} {st : BalState} {d : Day} {r : BalState × List Transaction} :
    valuateDay v st d = .ok r ↔
      ∃ adj, adjustments v d.date st.vPrev st.norm st.vQty = .ok adj ∧
        (d.transactions ++ adj).mapM (valueTx v st.norm) = .ok r.2 ∧
        r.1 = { st with vQty := addQty st.vQty (d.transactions ++ adj), vPrev := st.norm } := by
  unfold valuateDay
  simp only [bindOk_iff]
  refine exists_congr fun adj => and_congr_right fun _ => ⟨?_, ?_⟩
  · rintro ⟨txs, ht, h⟩; cases Except.ok.inj h; exact ⟨ht, rfl⟩
  · rintro ⟨ht, hr⟩; exact ⟨r.2, ht, by rw [← hr]⟩

theorem valueTx_ok {v : Commodity} {cur : Option Prices.NPrices} {t t' : Transaction} :
    valueTx v cur t = .ok t' ↔ ∃ ps, t.postings.mapM (valuePosting v cur) = .ok ps ∧ t' = { t with postings := ps } := by
  unfold valueTx
  rw [bindOk_iff]
  exact exists_congr fun ps => and_congr_right fun _ => ⟨fun h => (Except.ok.inj h).symm, fun h => congrArg Except.ok h.symm⟩

theorem valuationStage_ok {cfg : BalCfg} {st : BalState} {d : Day} {r : BalState × List Transaction} :
    valuationStage cfg st d = .ok r ↔
      match cfg.valuation with
      | none => r = (st, d.transactions)
      | some v => ∃ sp, pricesDay v st d = .ok sp ∧ valuateDay v sp d = .ok r := by
  unfold valuationStage
  cases cfg.valuation with
  | none => exact ⟨fun h => (Except.ok.inj h).symm, fun h => congrArg Except.ok h.symm⟩
  | some v => exact bindOk_iff

theorem valuationStage_none {cfg : BalCfg} (hv : cfg.valuation = none) (st : BalState) (d : Day) :
    valuationStage cfg st d = .ok (st, d.transactions) := by
  unfold valuationStage; rw [hv]

/-! ### the day as a product of its stages

`BalState` is one flat record, but every stage reads and writes fields of its own: the checker `chk`; ComputePrices and
Valuate `graph`, `norm`, `vPrev`, `vQty` (`VSt`); CloseAccounts `cQty`, `cVal` (`CSt`); Query `entries`.  `vStage` and
`cStage` are the two stateful stages on their own parts, `day_eq` says that `Balance.day` is their product, `Step` is one
successful day and `Steps` a run of days together with the transactions handed to Query.  Whatever is independent of a
part of the state, or of a flag, is read off the arguments these functions do not have. -/

/-- what ComputePrices and Valuate keep from day to day -/
structure VSt where
  graph : Prices.Prices := []
  norm : Option NPrices := none
  vPrev : Option NPrices := none
  vQty : AMap Position Rat := []

/-- what CloseAccounts keeps from day to day -/
structure CSt where
  cQty : AMap Position Rat := []
  cVal : AMap Position Rat := []

def vOf (st : BalState) : VSt := ⟨st.graph, st.norm, st.vPrev, st.vQty⟩
def cOf (st : BalState) : CSt := ⟨st.cQty, st.cVal⟩
def join (k : CheckState) (v : VSt) (c : CSt) (es : List Entry) : BalState :=
  ⟨k, v.graph, v.norm, v.vPrev, v.vQty, c.cQty, c.cVal, es⟩

theorem join_eta (st : BalState) : join st.chk (vOf st) (cOf st) st.entries = st := rfl
theorem eq_join {st : BalState} {k : CheckState} {v : VSt} {c : CSt} {es : List Entry} :
    st = join k v c es ↔ st.chk = k ∧ vOf st = v ∧ cOf st = c ∧ st.entries = es :=
  ⟨fun h => h ▸ ⟨rfl, rfl, rfl, rfl⟩, fun ⟨h1, h2, h3, h4⟩ => by rw [← join_eta st, h1, h2, h3, h4]⟩

def vStage (cfg : BalCfg) (v : VSt) (d : Day) : Except BalErr (VSt × List Transaction) :=
  (valuationStage cfg (join {} v {} []) d).map fun r => (vOf r.1, r.2)

def cStage (cfg : BalCfg) (c : CSt) (d : Day) (txs : List Transaction) : CSt × List Transaction :=
  (cOf (closeStage cfg (join {} {} c []) d txs).1, (closeStage cfg (join {} {} c []) d txs).2)

/-- ComputePrices and Valuate read and write the valuation part only: unfold both sides, the record updates agree field by field -/
theorem valuationStage_eq (cfg : BalCfg) (st : BalState) (d : Day) :
    valuationStage cfg st d = (vStage cfg (vOf st) d).map fun r => (join st.chk r.1 (cOf st) st.entries, r.2) := by
  unfold vStage valuationStage
  cases cfg.valuation with
  | none => rfl
  | some v =>
    unfold pricesDay valuateDay
    simp only [exceptMap_bind]
    dsimp only [join, vOf, cOf]
    generalize (List.foldlM _ st.graph d.prices : Except BalErr _) = x
    cases x with
    | error e => rfl
    | ok g =>
      dsimp only [bind, Except.bind]
      generalize adjustments v d.date _ _ _ = y
      cases y with
      | error e => rfl
      | ok adj =>
        dsimp only
        generalize (List.mapM (valueTx v _) (d.transactions ++ adj) : Except BalErr _) = z
        cases z <;> rfl

def accC (c : CSt) (ts : List Transaction) : CSt := cOf (accumulate (join {} {} c []) ts)

theorem accumulate_join (k : CheckState) (v : VSt) (es : List Entry) (c : CSt) (ts : List Transaction) :
    accumulate (join k v c es) ts = join k v (accC c ts) es := by
  unfold accumulate
  refine foldl_rel (fun s t => s = join k v (cOf t) es) (fun s t x r => ?_) ts _ _ rfl
  refine foldl_rel (fun s t => s = join k v (cOf t) es) (fun s t p r => ?_) x.postings _ _ r
  subst r
  dsimp only
  split <;> rfl

theorem accumulate_parts (st : BalState) (ts : List Transaction) :
    accumulate st ts = join st.chk (vOf st) (accC (cOf st) ts) st.entries :=
  accumulate_join st.chk (vOf st) st.entries (cOf st) ts

theorem closeStage_eq (cfg : BalCfg) (st : BalState) (d : Day) (txs : List Transaction) :
    closeStage cfg st d txs =
      (join st.chk (vOf st) (cStage cfg (cOf st) d txs).1 st.entries, (cStage cfg (cOf st) d txs).2) := by
  unfold cStage closeStage
  split
  · exact Prod.ext (accumulate_join st.chk (vOf st) st.entries (cOf st) _) rfl
  · rfl

def closingsAt (cfg : BalCfg) (c : CSt) (d : Day) : List Transaction :=
  if (cfg.periods.map (·.start)).contains d.date then closings d.date c.cQty c.cVal else []

theorem cStage_close {cfg : BalCfg} (hc : cfg.close = true) (c : CSt) (d : Day) (txs : List Transaction) :
    cStage cfg c d txs = (accC c (txs ++ closingsAt cfg c d), txs ++ closingsAt cfg c d) := by
  unfold cStage closeStage; rw [if_pos hc]; rfl

theorem cStage_noClose {cfg : BalCfg} (hc : cfg.close = false) (c : CSt) (d : Day) (txs : List Transaction) :
    cStage cfg c d txs = (c, txs) := by
  unfold cStage closeStage; rw [hc]; rfl

theorem vStage_none {cfg : BalCfg} (hv : cfg.valuation = none) (v : VSt) (d : Day) :
    vStage cfg v d = .ok (v, d.transactions) := by
  unfold vStage; rw [valuationStage_none hv]; rfl

theorem filterStage_in {cfg : BalCfg} {d : Day} (h : cfg.span.contains d.date = true) (txs : List Transaction) :
    filterStage cfg d txs = txs := by
  unfold filterStage; rw [if_pos h]

theorem filterStage_out {cfg : BalCfg} {d : Day} (h : cfg.span.contains d.date = false) (txs : List Transaction) :
    filterStage cfg d txs = [] := by
  unfold filterStage; rw [h]; rfl

theorem mem_filterStage {cfg : BalCfg} {d : Day} {txs : List Transaction} {t : Transaction}
    (h : t ∈ filterStage cfg d txs) : t ∈ txs := by
  cases hin : cfg.span.contains d.date with
  | true => rwa [filterStage_in hin] at h
  | false => rw [filterStage_out hin] at h; cases h

theorem valuationStage_ok_iff {cfg : BalCfg} {st st1 : BalState} {d : Day} {txs : List Transaction} :
    valuationStage cfg st d = .ok (st1, txs) ↔
      vStage cfg (vOf st) d = .ok (vOf st1, txs) ∧ st1.chk = st.chk ∧ cOf st1 = cOf st ∧ st1.entries = st.entries := by
  rw [valuationStage_eq]
  cases vStage cfg (vOf st) d with
  | error e => exact ⟨fun h => (nomatch h), fun h => (nomatch h.1)⟩
  | ok r =>
    constructor
    · intro h; cases h; exact ⟨rfl, rfl, rfl, rfl⟩
    · rintro ⟨h, h1, h2, h3⟩; cases h
      exact congrArg Except.ok (Prod.ext (eq_join.mpr ⟨h1, rfl, h2, h3⟩).symm rfl)

/-- `ComputePrices.Process`: the price graph after the day's price directives -/
def dayGraph (d : Day) (g : Prices.Prices) : Except BalErr Prices.Prices :=
  d.prices.foldlM (fun g p =>
    match Prices.insert g ⟨p.commodity, p.price, p.target⟩ with
    | some g' => .ok g'
    | none => .error BalErr.zeroPrice) g

/-- `ComputePrices.DayEnd`: the normalised prices are recomputed on a day that declares a price -/
def dayNorm (w : Commodity) (d : Day) (g : Prices.Prices) (n : Option NPrices) : Option NPrices :=
  if d.prices.isEmpty then n else some (Prices.normalize g w)

/-- **the valuation of a day in closed form**: the graph takes the day's prices, the normalised prices follow, the
open positions are revalued from yesterday's prices to today's, and everything is valued at today's -/
theorem vStage_some_iff {cfg : BalCfg} {w : Commodity} (hv : cfg.valuation = some w) {v v' : VSt} {d : Day}
    {raw : List Transaction} :
    vStage cfg v d = .ok (v', raw) ↔ ∃ g adj, dayGraph d v.graph = .ok g ∧
      adjustments w d.date v.vPrev (dayNorm w d g v.norm) v.vQty = .ok adj ∧
      (d.transactions ++ adj).mapM (valueTx w (dayNorm w d g v.norm)) = .ok raw ∧
      v' = ⟨g, dayNorm w d g v.norm, dayNorm w d g v.norm, addQty v.vQty (d.transactions ++ adj)⟩ := by
  have h1 : vStage cfg v d = .ok (v', raw) ↔
      valuationStage cfg (join {} v {} []) d = .ok (join {} v' {} [], raw) := by
    rw [valuationStage_ok_iff]; exact ⟨fun h => ⟨h, rfl, rfl, rfl⟩, fun h => h.1⟩
  rw [h1, valuationStage_ok, hv]
  constructor
  · rintro ⟨sp, hp, hval⟩
    obtain ⟨g, hg, rfl⟩ := pricesDay_ok.mp hp
    obtain ⟨adj, ha, hm, hr⟩ := valuateDay_ok.mp hval
    exact ⟨g, adj, hg, ha, hm, congrArg vOf hr⟩
  · rintro ⟨g, adj, hg, ha, hm, rfl⟩
    exact ⟨_, pricesDay_ok.mpr ⟨g, hg, rfl⟩, valuateDay_ok.mpr ⟨adj, ha, hm, rfl⟩⟩

theorem valuationStage_some_iff {cfg : BalCfg} {w : Commodity} (hv : cfg.valuation = some w) {st st' : BalState} {d : Day}
    {raw : List Transaction} :
    valuationStage cfg st d = .ok (st', raw) ↔ ∃ g adj, dayGraph d st.graph = .ok g ∧
      adjustments w d.date st.vPrev (dayNorm w d g st.norm) st.vQty = .ok adj ∧
      (d.transactions ++ adj).mapM (valueTx w (dayNorm w d g st.norm)) = .ok raw ∧
      st' = { st with graph := g, norm := dayNorm w d g st.norm, vPrev := dayNorm w d g st.norm,
                      vQty := addQty st.vQty (d.transactions ++ adj) } := by
  rw [valuationStage_ok_iff, vStage_some_iff hv]
  constructor
  · rintro ⟨⟨g, adj, hg, ha, hm, hv'⟩, h1, h2, h3⟩
    exact ⟨g, adj, hg, ha, hm, eq_join.mpr ⟨h1, hv', h2, h3⟩⟩
  · rintro ⟨g, adj, hg, ha, hm, rfl⟩
    exact ⟨⟨g, adj, hg, ha, hm, rfl⟩, rfl, rfl, rfl⟩

theorem dayTxs_eq (cfg : BalCfg) (st : BalState) (d : Day) :
    dayTxs cfg st d = (checkStage st d >>= fun s => vStage cfg (vOf st) d >>= fun r =>
      .ok (join s.chk r.1 (cStage cfg (cOf st) d (filterStage cfg d r.2)).1 st.entries,
        (cStage cfg (cOf st) d (filterStage cfg d r.2)).2)) := by
  unfold dayTxs checkStage
  cases Check.day st.chk d with
  | error e => rfl
  | ok k =>
    dsimp only [bind, Except.bind]
    rw [valuationStage_eq, show vOf { st with chk := k } = vOf st from rfl]
    cases vStage cfg (vOf st) d with
    | error e => rfl
    | ok r => dsimp only [Except.map]; rw [closeStage_eq]; rfl

theorem dayTxs_ok_iff {cfg : BalCfg} {st s1 : BalState} {d : Day} {q : List Transaction} :
    dayTxs cfg st d = .ok (s1, q) ↔ ∃ raw, Check.day st.chk d = .ok s1.chk ∧ vStage cfg (vOf st) d = .ok (vOf s1, raw) ∧
      cStage cfg (cOf st) d (filterStage cfg d raw) = (cOf s1, q) ∧ s1.entries = st.entries := by
  rw [dayTxs_eq, bindOk_iff]
  constructor
  · rintro ⟨s, hs, h⟩
    obtain ⟨k, hk, rfl⟩ := checkStage_ok.mp hs
    obtain ⟨r, hr, h⟩ := bindOk_iff.mp h
    cases h
    exact ⟨r.2, hk, hr, rfl, rfl⟩
  · rintro ⟨raw, hk, hv, hc, he⟩
    refine ⟨_, checkStage_ok.mpr ⟨_, hk, rfl⟩, bindOk_iff.mpr ⟨_, hv, ?_⟩⟩
    rw [hc]
    exact congrArg Except.ok (Prod.ext (eq_join.mpr ⟨rfl, rfl, rfl, he⟩).symm rfl)

theorem day_eq (cfg : BalCfg) (st : BalState) (d : Day) :
    day cfg st d = (checkStage st d >>= fun s => vStage cfg (vOf st) d >>= fun r =>
      .ok (join s.chk r.1 (cStage cfg (cOf st) d (filterStage cfg d r.2)).1
        (st.entries ++ (cStage cfg (cOf st) d (filterStage cfg d r.2)).2.flatMap (queryTx cfg)))) := by
  unfold day
  rw [dayTxs_eq]
  cases checkStage st d with
  | error e => rfl
  | ok s =>
    dsimp only [bind, Except.bind]
    cases vStage cfg (vOf st) d <;> rfl

/-- one successful day; `raw` leaves Valuate, `q` reaches Query -/
structure Step (cfg : BalCfg) (st : BalState) (d : Day) (st' : BalState) (raw q : List Transaction) : Prop where
  chk : Check.day st.chk d = .ok st'.chk
  val : vStage cfg (vOf st) d = .ok (vOf st', raw)
  close : cStage cfg (cOf st) d (filterStage cfg d raw) = (cOf st', q)
  entries : st'.entries = st.entries ++ q.flatMap (queryTx cfg)

theorem day_ok_iff {cfg : BalCfg} {st st' : BalState} {d : Day} :
    day cfg st d = .ok st' ↔ ∃ raw q, Step cfg st d st' raw q := by
  rw [day_eq, bindOk_iff]
  constructor
  · rintro ⟨s, hs, h⟩
    obtain ⟨k, hk, rfl⟩ := checkStage_ok.mp hs
    obtain ⟨r, hr, h⟩ := bindOk_iff.mp h
    cases h
    exact ⟨r.2, _, hk, hr, rfl, rfl⟩
  · rintro ⟨raw, q, hk, hv, hc, he⟩
    refine ⟨_, checkStage_ok.mpr ⟨_, hk, rfl⟩, bindOk_iff.mpr ⟨_, hv, ?_⟩⟩
    rw [hc]
    exact congrArg Except.ok (eq_join.mpr ⟨rfl, rfl, rfl, he⟩).symm

/-- a successful run of days from one state to another, with the transactions handed to Query on the way -/
inductive Steps (cfg : BalCfg) : BalState → List Day → BalState → List Transaction → Prop
  | nil (st : BalState) : Steps cfg st [] st []
  | cons {st st1 st' : BalState} {d : Day} {ds : List Day} {raw q qs : List Transaction} :
      Step cfg st d st1 raw q → Steps cfg st1 ds st' qs → Steps cfg st (d :: ds) st' (q ++ qs)

theorem foldlM_day_ok_iff {cfg : BalCfg} : ∀ {ds : List Day} {st st' : BalState},
    ds.foldlM (day cfg) st = .ok st' ↔ ∃ q, Steps cfg st ds st' q
  | [], st, st' => ⟨fun h => by cases h; exact ⟨[], .nil _⟩, fun ⟨_, h⟩ => by cases h; rfl⟩
  | d :: ds, st, st' => by
    rw [foldlM_cons_ok]
    constructor
    · rintro ⟨s1, h1, h2⟩
      obtain ⟨raw, q, hs⟩ := day_ok_iff.mp h1
      obtain ⟨qs, hr⟩ := foldlM_day_ok_iff.mp h2
      exact ⟨_, .cons hs hr⟩
    · rintro ⟨_, h⟩
      cases h with
      | cons hs hr => exact ⟨_, day_ok_iff.mpr ⟨_, _, hs⟩, foldlM_day_ok_iff.mpr ⟨_, hr⟩⟩

theorem Steps.entries {cfg : BalCfg} {st st' : BalState} {ds : List Day} {q : List Transaction}
    (h : Steps cfg st ds st' q) : st'.entries = st.entries ++ q.flatMap (queryTx cfg) := by
  induction h with
  | nil => exact (List.append_nil _).symm
  | cons hs _ ih => rw [ih, hs.entries, List.flatMap_append, List.append_assoc]

/-- flags and state the stages do not look at: a run under `cfg` from `st` is a run under any `cfg'` with the same
valuation, window, periods and closing flag, from any state with the same checker, valuation and closing parts;
only the inserts differ -/
structure SameStages (cfg cfg' : BalCfg) : Prop where
  val : ∀ v d, vStage cfg' v d = vStage cfg v d
  close : ∀ c d txs, cStage cfg' c d txs = cStage cfg c d txs
  filter : ∀ d txs, filterStage cfg' d txs = filterStage cfg d txs

theorem Steps.transfer {cfg cfg' : BalCfg} (hc : SameStages cfg cfg') {st st' : BalState} {ds : List Day}
    {q : List Transaction} (h : Steps cfg st ds st' q) : ∀ es : List Entry,
    Steps cfg' (join st.chk (vOf st) (cOf st) es) ds
      (join st'.chk (vOf st') (cOf st') (es ++ q.flatMap (queryTx cfg'))) q := by
  induction h with
  | nil st => intro es; rw [List.flatMap_nil, List.append_nil]; exact .nil _
  | @cons st st1 st' d ds raw q qs hs _ ih =>
    intro es
    rw [List.flatMap_append, ← List.append_assoc]
    refine .cons (raw := raw) (st1 := join st1.chk (vOf st1) (cOf st1) (es ++ q.flatMap (queryTx cfg'))) ⟨hs.chk, ?_, ?_, rfl⟩ (ih _)
    · rw [hc.val]; exact hs.val
    · rw [hc.close, hc.filter]; exact hs.close

end Balance

/-! ### valuation keeps cancelling pairs, value adjustments are cancelling pairs
(that every transaction reaching Query is paired: `paired_dayTxs` in `Proofs/BalanceInv`) -/

theorem valuePosting_pair {v : Commodity} {cur : Option Prices.NPrices} {a b a' b' : Posting}
    (hc : b.commodity = a.commodity) (hq : b.quantity = -a.quantity) (hv : b.value = -a.value)
    (ha : Balance.valuePosting v cur a = .ok a') (hb : Balance.valuePosting v cur b = .ok b') :
    b'.commodity = a'.commodity ∧ b'.quantity = -a'.quantity ∧ b'.value = -a'.value := by
  have hz : b.quantity = 0 ↔ a.quantity = 0 := by rw [hq]; grind
  by_cases h0 : a.quantity = 0
  · rw [valuePosting_zero h0] at ha; rw [valuePosting_zero (hz.mpr h0)] at hb
    cases ha; cases hb; exact ⟨hc, hq, hv⟩
  · by_cases hcv : a.commodity = v
    · rw [valuePosting_own h0 hcv] at ha; rw [valuePosting_own (mt hz.mp h0) (hc.trans hcv)] at hb
      cases ha; cases hb; exact ⟨hc, hq, hq⟩
    · rw [valuePosting_foreign h0 hcv] at ha
      rw [valuePosting_foreign (mt hz.mp h0) (hc ▸ hcv), hc] at hb
      cases hl : Balance.lookupPrice cur a.commodity with
      | error e => rw [hl] at ha; cases ha
      | ok pr =>
        rw [hl] at ha hb; cases ha; cases hb
        exact ⟨rfl, hq, by show Prices.multiply b.quantity pr = -Prices.multiply a.quantity pr; rw [hq, multiply_neg]⟩

theorem paired_mapM_value (v : Commodity) (cur : Option Prices.NPrices) :
    ∀ (ps qs : List Posting), Paired ps → ps.mapM (Balance.valuePosting v cur) = .ok qs → Paired qs := by
  intro ps qs hp
  induction hp generalizing qs with
  | nil => intro h; rw [mapM_nil_ok.mp h]; exact Paired.nil
  | cons a b rest hc hq hv _ ih =>
    intro h
    obtain ⟨a', _, ha, h2, rfl⟩ := mapM_cons_ok.mp h
    obtain ⟨b', rest', hb, hr, rfl⟩ := mapM_cons_ok.mp h2
    obtain ⟨hc', hq', hv'⟩ := valuePosting_pair hc hq hv ha hb
    exact Paired.cons _ _ _ hc' hq' hv' (ih rest' hr)

theorem paired_valueTx {v : Commodity} {cur : Option Prices.NPrices} {t t' : Transaction}
    (h : TxPaired t) (hv : Balance.valueTx v cur t = .ok t') : TxPaired t' := by
  obtain ⟨ps, hm, rfl⟩ := Balance.valueTx_ok.mp hv
  exact paired_mapM_value v cur _ _ h hm

/-- what holds of every value adjustment (a `postingBuild` pair on the position's valuation account and the position's
account) holds of every transaction `Valuate.DayStart` produces -/
theorem adjustments_all {v : Commodity} {date : Int} {prev cur : Option Prices.NPrices} {qty : AMap Position Rat}
    {adj : List Transaction} (P : Transaction → Prop)
    (hP : ∀ e ∈ qty, ∀ (t : Transaction) (w : Rat),
      t.postings = postingBuild (valuationAccountFor e.1.1) e.1.1 e.1.2 0 w → P t)
    (h : Balance.adjustments v date prev cur qty = .ok adj) : ∀ t ∈ adj, P t := by
  intro t ht
  obtain ⟨_, _, _, _, _, he, _, _, _, _, _, _, rfl⟩ := adjustments_mem h t ht
  exact hP _ he _ _ rfl

/-- sum of the amounts of the entries selected by a predicate on (column date, commodity) -/
def sumSel (κ : Option Int → Commodity → Bool) (es : List Entry) : Rat :=
  ((es.filter (fun e => κ e.date e.commodity)).map (·.amount)).sum

theorem sumSel_append (κ : Option Int → Commodity → Bool) (xs ys : List Entry) :
    sumSel κ (xs ++ ys) = sumSel κ xs + sumSel κ ys := by
  unfold sumSel
  rw [List.filter_append]
  exact BalanceReport.sumAmounts_append _ _

theorem sumSel_nil (κ : Option Int → Commodity → Bool) : sumSel κ [] = 0 := rfl

/-- no account or commodity filter, no account hidden by the mapping -/
structure Unfiltered (cfg : BalCfg) : Prop where
  acc : ∀ s, cfg.accountFilter s = true
  com : ∀ s, cfg.commodityFilter s = true
  visible : ∀ a, (mapAccount cfg a).isSome = true

theorem queryPosting_unfiltered (cfg : BalCfg) (hu : Unfiltered cfg) (t : Transaction) (p : Posting) :
    ∃ a', Balance.queryPosting cfg t p =
      some ⟨alignIn cfg.periods t.date, a', p.commodity, (if cfg.valuation.isSome then p.value else p.quantity)⟩ := by
  obtain ⟨a', ha⟩ := Option.isSome_iff_exists.mp (hu.visible p.account)
  exact ⟨a', queryPosting_eq_some_iff.mpr ⟨hu.acc _, hu.com _, a', ha, rfl⟩⟩

theorem sumSel_queryTx (cfg : BalCfg) (hu : Unfiltered cfg) (κ : Option Int → Commodity → Bool)
    (t : Transaction) (h : TxPaired t) : sumSel κ (Balance.queryTx cfg t) = 0 := by
  rw [queryTx_def]
  unfold TxPaired at h
  generalize t.postings = ps at h
  induction h with
  | nil => rfl
  | cons a b rest hc hq hv _ ih =>
    obtain ⟨a', ha⟩ := queryPosting_unfiltered cfg hu t a
    obtain ⟨b', hb⟩ := queryPosting_unfiltered cfg hu t b
    simp only [List.filterMap_cons, ha, hb]
    have e2 : ∀ (x y : Entry) (l : List Entry), x :: y :: l = [x, y] ++ l := by intros; rfl
    rw [e2, sumSel_append, ih, Rat.add_zero]
    unfold sumSel
    simp only [hc]
    by_cases hk : κ (alignIn cfg.periods t.date) a.commodity = true
    · simp only [List.filter_cons, hk, if_true, List.filter_nil, List.map_cons, List.map_nil, List.sum_cons, List.sum_nil, Rat.add_zero]
      split
      · rw [hv]; exact Rat.add_neg_cancel _
      · rw [hq]; exact Rat.add_neg_cancel _
    · simp only [List.filter_cons, hk]; rfl

theorem sumSel_flatMap_queryTx (cfg : BalCfg) (hu : Unfiltered cfg) (κ : Option Int → Commodity → Bool)
    (txs : List Transaction) (h : ∀ t ∈ txs, TxPaired t) : sumSel κ (txs.flatMap (Balance.queryTx cfg)) = 0 := by
  induction txs with
  | nil => rfl
  | cons t rest ih =>
    simp only [List.flatMap_cons]
    rw [sumSel_append, sumSel_queryTx cfg hu κ t (h t List.mem_cons_self),
      ih (fun t ht => h t (List.mem_cons_of_mem _ ht)), Rat.add_zero]

end Knut
