import Knut.Proofs.BalanceMaps
/-!
# CloseAccounts never touches an asset/liability position

The accumulators of CloseAccounts are keyed by income, expense and equity positions only (`CloseInvC`), so the closing
transactions book between those accounts and `Equity:Equity`: what `cStage` hands to Query beyond its input has no
posting on an asset or liability account.
-/
namespace Knut.Balance
open Knut.Spec Knut.LedgerClose

/-- the quantity accumulator of CloseAccounts holds no asset/liability position -/
def CloseInvC (c : CSt) : Prop := ∀ k ∈ c.cQty.map (·.1), k.1.isAL = false

theorem accC_closeInv {c : CSt} (h : CloseInvC c) (ts : List Transaction) : CloseInvC (accC c ts) := by
  intro k hk
  rcases (accumulate_keys ts (join {} {} c []) k).mp hk with hk | ⟨p, _, hp, rfl⟩
  · exact h k hk
  · exact Bool.not_eq_true _ ▸ ((closable_iff p.account).mp hp).1

theorem closingsAt_no_AL {cfg : BalCfg} {c : CSt} (h : CloseInvC c) (d : Day) :
    ∀ t ∈ closingsAt cfg c d, ∀ p ∈ t.postings, p.account.isAL = false := by
  intro t ht p hp
  unfold closingsAt at ht
  split at ht
  · obtain ⟨e, he, _, rfl⟩ := mem_closings_iff.mp ht
    rcases mem_postingBuild hp with rfl | rfl
    · exact h e.1 (List.mem_map_of_mem he)
    · rfl
  · cases ht

theorem cStage_closeInv {cfg : BalCfg} {c : CSt} (h : CloseInvC c) (d : Day) (txs : List Transaction) :
    CloseInvC (cStage cfg c d txs).1 := by
  cases hc : cfg.close with
  | true => rw [cStage_close hc]; exact accC_closeInv h _
  | false => rw [cStage_noClose hc]; exact h

theorem cStage_AL {cfg : BalCfg} {c : CSt} (h : CloseInvC c) (d : Day) (txs : List Transaction) :
    ∃ cl, (cStage cfg c d txs).2 = txs ++ cl ∧ ∀ t ∈ cl, ∀ p ∈ t.postings, p.account.isAL = false := by
  cases hc : cfg.close with
  | true => rw [cStage_close hc]; exact ⟨_, rfl, closingsAt_no_AL h d⟩
  | false => rw [cStage_noClose hc]; exact ⟨[], (List.append_nil _).symm, fun _ ht => nomatch ht⟩

theorem mem_cStage {cfg : BalCfg} {c : CSt} {d : Day} {raw : List Transaction} {t : Transaction}
    (h : t ∈ (cStage cfg c d (filterStage cfg d raw)).2) : t ∈ raw ∨ t ∈ closings d.date c.cQty c.cVal := by
  cases hc : cfg.close with
  | true =>
    rw [cStage_close hc] at h
    exact (List.mem_append.mp h).imp mem_filterStage mem_closingsAt
  | false => rw [cStage_noClose hc] at h; exact Or.inl (mem_filterStage h)

end Knut.Balance
