import Knut.Proofs.BalanceMaps
/-!
# What every stage keeps: a property of everything that reaches Query

A property `Q` of transactions that valuation keeps and that the transactions the pipeline books itself have (value
adjustments and closings are `postingBuild` pairs on positions the pipeline has seen: `K`) holds of every transaction
that reaches Query, and the report of a run is `flatMap queryTx` of such transactions.  The walk is over the stages on
their own parts of the state, then one day, then a run.
C01 (cancelling pairs) and C05 (accounts with an account type) are instances.
-/
namespace Knut.Balance
open Knut.AMap

/-- `Q` is a property of transactions that valuation keeps, that every `postingBuild` pair the pipeline books itself on
a position satisfying `K` has, and that puts the postings of a transaction on positions satisfying `K` -/
structure TxInv (K : Position → Prop) (Q : Transaction → Prop) : Prop where
  value : ∀ {v cur t t'}, Q t → valueTx v cur t = .ok t' → Q t'
  adjust : ∀ {k}, K k → ∀ (t : Transaction) w, t.postings = postingBuild (valuationAccountFor k.1) k.1 k.2 0 w → Q t
  closing : ∀ {k}, K k → ∀ (t : Transaction) q w, t.postings = postingBuild k.1 equityAccount k.2 q w → Q t
  keys : ∀ {t}, Q t → ∀ p ∈ t.postings, K (p.account, p.commodity)

/-- the positions the Valuate quantities and the CloseAccounts accumulators are keyed by satisfy `K` -/
structure KeysIn (K : Position → Prop) (st : BalState) : Prop where
  vQty : ∀ k ∈ st.vQty.map (·.1), K k
  cQty : ∀ k ∈ st.cQty.map (·.1), K k

theorem KeysIn.init {K : Position → Prop} : KeysIn K {} := ⟨fun _ h => (nomatch h), fun _ h => (nomatch h)⟩

section
variable {K : Position → Prop} {Q : Transaction → Prop} (hQ : TxInv K Q)
include hQ

theorem TxInv.keys_postings {ts : List Transaction} (h : ∀ t ∈ ts, Q t) {p : Posting} (hp : p ∈ postings ts) :
    K (p.account, p.commodity) := by
  obtain ⟨t, ht, hpt⟩ := List.mem_flatMap.mp hp
  exact hQ.keys (h t ht) p hpt

theorem valuate_inv {v : Commodity} {date : Int} {prev cur : Option Prices.NPrices} {qty : AMap Position Rat}
    {txs adj raw : List Transaction} (i : ∀ k ∈ qty.map (·.1), K k) (hd : ∀ t ∈ txs, Q t)
    (ha : adjustments v date prev cur qty = .ok adj) (hm : (txs ++ adj).mapM (valueTx v cur) = .ok raw) :
    (∀ k ∈ (addQty qty (txs ++ adj)).map (·.1), K k) ∧ ∀ t ∈ raw, Q t := by
  have hall : ∀ t ∈ txs ++ adj, Q t := fun t ht => (List.mem_append.mp ht).elim (hd t)
    (adjustments_all Q (fun e he t w => hQ.adjust (i e.1 (List.mem_map_of_mem he)) t w) ha t)
  refine ⟨fun k hk => ?_, fun t' ht' => ?_⟩
  · rcases addQty_keys (q := qty) (ts := txs ++ adj) hk with h | ⟨p, hp, _, rfl⟩
    · exact i k h
    · exact hQ.keys_postings hall hp
  · obtain ⟨t, ht, hv⟩ := mapM_ok_mem _ _ _ hm t' ht'
    exact hQ.value (hall t ht) hv

theorem vStage_inv {cfg : BalCfg} {v v' : VSt} {d : Day} {raw : List Transaction} (i : ∀ k ∈ v.vQty.map (·.1), K k)
    (hd : ∀ t ∈ d.transactions, Q t) (h : vStage cfg v d = .ok (v', raw)) :
    (∀ k ∈ v'.vQty.map (·.1), K k) ∧ ∀ t ∈ raw, Q t := by
  cases hv : cfg.valuation with
  | none => rw [vStage_none hv] at h; cases h; exact ⟨i, hd⟩
  | some w =>
    obtain ⟨g, adj, _, ha, hm, rfl⟩ := (vStage_some_iff hv).mp h
    exact valuate_inv hQ i hd ha hm

theorem cStage_inv (cfg : BalCfg) {c : CSt} (d : Day) {txs : List Transaction} (i : ∀ k ∈ c.cQty.map (·.1), K k)
    (ht : ∀ t ∈ txs, Q t) :
    (∀ k ∈ (cStage cfg c d txs).1.cQty.map (·.1), K k) ∧ ∀ t ∈ (cStage cfg c d txs).2, Q t := by
  cases hc : cfg.close with
  | false => rw [cStage_noClose hc]; exact ⟨i, ht⟩
  | true =>
    rw [cStage_close hc]
    have hout : ∀ t ∈ txs ++ closingsAt cfg c d, Q t := fun t h => (List.mem_append.mp h).elim (ht t) fun h => by
      obtain ⟨e, he, _, rfl⟩ := mem_closings_iff.mp (mem_closingsAt h)
      exact hQ.closing (i e.1 (List.mem_map_of_mem he)) _ _ _ rfl
    refine ⟨fun k hk => ?_, hout⟩
    rcases (accC_keys _ c k).mp hk with h | ⟨p, hp, _, rfl⟩
    · exact i k h
    · exact hQ.keys_postings hout hp

theorem Step.inv {cfg : BalCfg} {st st' : BalState} {d : Day} {raw q : List Transaction} (h : Step cfg st d st' raw q)
    (i : KeysIn K st) (hd : ∀ t ∈ d.transactions, Q t) : KeysIn K st' ∧ ∀ t ∈ q, Q t := by
  obtain ⟨iv, hraw⟩ := vStage_inv hQ (v := vOf st) i.vQty hd h.val
  have hc := cStage_inv hQ cfg (c := cOf st) d (txs := filterStage cfg d raw) i.cQty fun t ht => hraw t (mem_filterStage ht)
  rw [h.close] at hc
  exact ⟨⟨iv, hc.1⟩, hc.2⟩

theorem Steps.inv {cfg : BalCfg} {st st' : BalState} {ds : List Day} {q : List Transaction} (h : Steps cfg st ds st' q) :
    KeysIn K st → (∀ d ∈ ds, ∀ t ∈ d.transactions, Q t) → KeysIn K st' ∧ ∀ t ∈ q, Q t := by
  induction h with
  | nil => exact fun i _ => ⟨i, fun _ h => nomatch h⟩
  | cons hs _ ih =>
    intro i hd
    obtain ⟨i1, h1⟩ := hs.inv hQ i (hd _ List.mem_cons_self)
    obtain ⟨i2, h2⟩ := ih i1 fun d hdm => hd d (List.mem_cons_of_mem _ hdm)
    exact ⟨i2, fun t ht => (List.mem_append.mp ht).elim (h1 t) (h2 t)⟩

theorem dayTxs_inv {cfg : BalCfg} {st st' : BalState} {d : Day} {txs : List Transaction} (i : KeysIn K st)
    (hd : ∀ t ∈ d.transactions, Q t) (h : dayTxs cfg st d = .ok (st', txs)) : KeysIn K st' ∧ ∀ t ∈ txs, Q t := by
  rw [dayTxs_eq] at h
  obtain ⟨s, _, h⟩ := bindOk_iff.mp h
  obtain ⟨r, hr, h⟩ := bindOk_iff.mp h
  cases h
  obtain ⟨iv, hraw⟩ := vStage_inv hQ (v := vOf st) i.vQty hd hr
  obtain ⟨ic, hq⟩ := cStage_inv hQ cfg (c := cOf st) d (txs := filterStage cfg d r.2) i.cQty fun t ht =>
    hraw t (mem_filterStage ht)
  exact ⟨⟨iv, ic⟩, hq⟩

theorem run_inv {cfg : BalCfg} {days : List Day} (hd : ∀ d ∈ days, ∀ t ∈ d.transactions, Q t) {st0 st : BalState}
    (i : KeysIn K st0) (h : days.foldlM (day cfg) st0 = .ok st) :
    KeysIn K st ∧ ∃ txs : List Transaction, (∀ t ∈ txs, Q t) ∧ st.entries = st0.entries ++ txs.flatMap (queryTx cfg) := by
  obtain ⟨q, hs⟩ := foldlM_day_ok_iff.mp h
  obtain ⟨i', hq⟩ := hs.inv hQ i hd
  exact ⟨i', q, hq, hs.entries⟩

end

end Knut.Balance

namespace Knut

/-! ### C01: cancelling pairs -/

theorem txInv_paired : Balance.TxInv (fun _ => True) TxPaired where
  value := paired_valueTx
  adjust _ _ _ e := by unfold TxPaired; rw [e]; exact paired_postingBuild _ _ _ _ _
  closing _ _ _ _ e := by unfold TxPaired; rw [e]; exact paired_postingBuild _ _ _ _ _
  keys _ _ _ := trivial

theorem paired_dayTxs (cfg : BalCfg) (st st' : BalState) (d : Day) (txs : List Transaction)
    (hin : ∀ t ∈ d.transactions, TxPaired t) (h : Balance.dayTxs cfg st d = .ok (st', txs)) :
    ∀ t ∈ txs, TxPaired t :=
  (Balance.dayTxs_inv txInv_paired ⟨fun _ _ => trivial, fun _ _ => trivial⟩ hin h).2

theorem sumSel_day (cfg : BalCfg) (hu : Unfiltered cfg) (κ : Option Int → Commodity → Bool)
    (st st' : BalState) (d : Day) (hin : ∀ t ∈ d.transactions, TxPaired t)
    (h : Balance.day cfg st d = .ok st') : sumSel κ st'.entries = sumSel κ st.entries := by
  obtain ⟨raw, q, hs⟩ := Balance.day_ok_iff.mp h
  rw [hs.entries, sumSel_append,
    sumSel_flatMap_queryTx cfg hu κ q (hs.inv txInv_paired ⟨fun _ _ => trivial, fun _ _ => trivial⟩ hin).2, Rat.add_zero]

end Knut

