import Knut.Proofs.Balance
import Knut.Proofs.Builder
import Knut.Proofs.Accrual
import Knut.Driver.C04
/-! Lemmas that lift C01 (and C02) from `Balance.run` to the command and the rendered table: everything
`transaction.Create` (and the driver's loader) produces is made of `postingBuild` pairs, so it has every property of
such lists (`PairsHave`, Proofs/PostingBuild: paired, unvalued, …; the journal builder then keeps it per transaction:
`DaysAll`, Proofs/Builder), and the shape of the rows `renderVals` produces. -/
namespace Knut
open Knut.Table (Cell)


section
variable {R : List Posting → Prop} (hR : PairsHave R)
include hR

open Knut.Accrual

/-- everything `transaction.Create` returns, with or without `@accrue`, is made of `postingBuild` pairs -/
theorem create_all (t : TxInput) (gen : List Transaction) (h : create t = .ok gen) : ∀ g ∈ gen, R g.postings := by
  intro g hg
  cases (create_made h).2.2 g hg with
  | plain => exact PairsHave.flatMap hR _ (fun b => hR.pair _ _ _ _) _
  | moved | part => exact hR.pair _ _ _ _

/-- the driver's loader (`Driver.C04.load`, used by every journal-taking driver op) builds its transactions with
`Transaction.ofBookings` (no annotation) or `Accrual.create` -/
theorem load_go_all :
    ∀ (rest : List Driver.RawDirective) (i : Nat) (acc ids : List (Nat × Directive)),
      (∀ p ∈ acc, ∀ t, p.2 = Directive.tx t → R t.postings) →
      Driver.C04.load.go i rest acc = .ok ids → ∀ p ∈ ids, ∀ t, p.2 = Directive.tx t → R t.postings := by
  intro rest
  induction rest with
  | nil =>
    intro i acc ids hacc h
    simp only [Driver.C04.load.go] at h
    cases h
    intro p hp; exact hacc p (List.mem_reverse.mp hp)
  | cons d tl ih =>
    intro i acc ids hacc h
    have hcons : ∀ (x : Directive), (∀ t, x = .tx t → R t.postings) →
        ∀ p ∈ (i, x) :: acc, ∀ t, p.2 = Directive.tx t → R t.postings := by
      intro x hx p hp t ht
      rcases List.mem_cons.mp hp with rfl | hp
      · exact hx t ht
      · exact hacc p hp t ht
    cases d with
    | price p | opening p | closing p | assertion p =>
      simp only [Driver.C04.load.go] at h; exact ih _ _ _ (hcons _ (by intro t e; cases e)) h
    | tx date desc tg ac bks =>
      cases ac with
      | none =>
        simp only [Driver.C04.load.go] at h
        refine ih _ _ _ (hcons _ ?_) h
        intro t e; cases e
        exact PairsHave.flatMap hR _ (fun b => hR.pair _ _ _ _) _
      | some a =>
        simp only [Driver.C04.load.go] at h
        split at h
        · cases h
        · split at h
          · rename_i txs hc
            refine ih _ _ _ ?_ h
            intro p hp t ht
            rcases List.mem_append.mp hp with hp | hp
            · obtain ⟨g, hg, rfl⟩ := List.mem_map.mp (List.mem_reverse.mp hp)
              rw [← Directive.tx.inj ht]
              exact create_all hR _ _ hc g hg
            · exact hacc p hp t ht
          · cases h
          · cases h

theorem load_all (raw : List Driver.RawDirective) (ids : List (Nat × Directive)) (h : Driver.C04.load raw = .ok ids) :
    ∀ t, Directive.tx t ∈ ids.map (·.2) → R t.postings := by
  intro t ht
  obtain ⟨p, hp, hpt⟩ := List.mem_map.mp ht
  exact load_go_all hR raw 0 [] ids (fun p hp => nomatch hp) h p hp t hpt

end


/-- shape of the rows rendered for one name: a first row that starts with the name, continuation rows
that start with an empty cell -/
theorem renderVals_shape (rc : RenderCfg) (dc : Bool) (indent : Nat) (name : String) (neg : Bool)
    (coms : List (Option Commodity)) (cell : Option Commodity → Int → Rat) :
    ∃ r rs, BalanceReport.renderVals rc dc indent name neg coms cell = r :: rs ∧
      r.head? = some (Cell.text name.toList .left indent) ∧ ∀ r' ∈ rs, r'.head? = some Cell.empty := by
  unfold BalanceReport.renderVals
  simp only
  cases coms with
  | nil => exact ⟨_, [], rfl, rfl, by intro r' h; cases h⟩
  | cons c cs =>
    simp only [List.isEmpty_cons, Bool.false_eq_true, if_false, List.zipIdx_cons, List.map_cons]
    refine ⟨_, _, rfl, rfl, ?_⟩
    intro r' hr'
    obtain ⟨p, hm, rfl⟩ := List.mem_map.mp hr'
    have hi : 0 + 1 ≤ p.2 := List.le_snd_of_mem_zipIdx hm
    have : ¬ p.2 = 0 := by omega
    simp only [this, if_false, List.cons_append, List.head?_cons]

end Knut
