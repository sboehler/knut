import Knut.Proofs.Balance
import Knut.Proofs.SumMap
import Knut.Spec.Ledger
/-!
# The quantity map of Valuate and the accumulators of CloseAccounts as maps updated by `+=`

The two folds of the model (`Balance.addQty`, `Balance.accumulate`) are `AMap.bump` folds (`Proofs/SumMap`) over the updates
that `qtyUpd` resp. `closeUpd` select from the postings.  What is added at a position is what the postings book there, and
the closing transactions take every accumulated total off its position, quantity and value alike.
-/
namespace Knut.LedgerClose
open Knut.Spec

theorem closable_iff (a : Account) : closable a = true ↔ ¬ (a.isAL = true) ∧ a ≠ equityAccount := by
  unfold closable; simp

end Knut.LedgerClose

namespace Knut.Balance
open Knut.AMap Knut.Spec Knut.LedgerClose

abbrev postings (ts : List Transaction) : List Posting := ts.flatMap (·.postings)

def onPos (k : Position) (p : Posting) : Bool := decide (p.account = k.1) && decide (p.commodity = k.2)

theorem onPos_iff {k : Position} {p : Posting} : onPos k p = true ↔ (p.account, p.commodity) = k := by
  unfold onPos
  rw [Bool.and_eq_true, decide_eq_true_eq, decide_eq_true_eq, ← Prod.mk.injEq]

/-- what `Valuate.Posting` adds to the quantities: non-zero quantities on asset/liability accounts -/
def qtyUpd (p : Posting) : Option (Position × Rat) :=
  if p.quantity = 0 then none else if p.account.isAL then some ((p.account, p.commodity), p.quantity) else none

/-- what `CloseAccounts.Posting` adds to an accumulator (`f` the quantity or the value): everything booked on income,
expense and equity accounts other than `Equity:Equity` -/
def closeUpd (f : Posting → Rat) (p : Posting) : Option (Position × Rat) :=
  if closable p.account then some ((p.account, p.commodity), f p) else none

theorem closeUpd_snd {f : Posting → Rat} {p : Posting} {e : Position × Rat} (h : closeUpd f p = some e) : e.2 = f p := by
  unfold closeUpd at h
  split at h
  · cases h; rfl
  · cases h

theorem foldl_postings {σ : Type} (g : σ → Posting → σ) (ts : List Transaction) (s : σ) :
    ts.foldl (fun s t => t.postings.foldl g s) s = (postings ts).foldl g s := List.foldl_flatMap.symm

theorem addQty_eq (ts : List Transaction) (q : AMap Position Rat) :
    addQty q ts = ((postings ts).filterMap qtyUpd).foldl bump q := by
  unfold addQty
  rw [foldl_postings]
  induction postings ts generalizing q with
  | nil => rfl
  | cons p ps ih =>
    rw [List.foldl_cons, ih, List.filterMap_cons]
    unfold qtyUpd
    by_cases h0 : p.quantity = 0
    · rw [if_pos h0, if_pos h0]
    · rw [if_neg h0, if_neg h0]; cases p.account.isAL <;> rfl

theorem accumulate_eq (ts : List Transaction) (st : BalState) :
    accumulate st ts = { st with
      cQty := ((postings ts).filterMap (closeUpd (·.quantity))).foldl bump st.cQty,
      cVal := ((postings ts).filterMap (closeUpd (·.value))).foldl bump st.cVal } := by
  unfold accumulate
  rw [foldl_postings]
  induction postings ts generalizing st with
  | nil => rfl
  | cons p ps ih =>
    have hc : closable p.account = !(p.account.isAL || decide (p.account = equityAccount)) := by
      unfold closable; rw [Bool.not_or]; rfl
    rw [List.foldl_cons, ih, List.filterMap_cons, List.filterMap_cons]
    unfold closeUpd
    rw [hc]
    cases (p.account.isAL || decide (p.account = equityAccount)) <;> rfl


theorem mem_qtyUpd {ps : List Posting} {k : Position} (h : k ∈ (ps.filterMap qtyUpd).map (·.1)) :
    ∃ p ∈ ps, p.account.isAL = true ∧ k = (p.account, p.commodity) := by
  obtain ⟨e, he, rfl⟩ := List.mem_map.mp h
  obtain ⟨p, hp, he⟩ := List.mem_filterMap.mp he
  unfold qtyUpd at he
  split at he
  · cases he
  · split at he
    · cases he; exact ⟨p, hp, ‹_›, rfl⟩
    · cases he

theorem mem_closeUpd {f : Posting → Rat} {ps : List Posting} {k : Position} :
    k ∈ (ps.filterMap (closeUpd f)).map (·.1) ↔ ∃ p ∈ ps, closable p.account = true ∧ k = (p.account, p.commodity) := by
  constructor
  · intro h
    obtain ⟨e, he, rfl⟩ := List.mem_map.mp h
    obtain ⟨p, hp, he⟩ := List.mem_filterMap.mp he
    unfold closeUpd at he
    split at he
    · cases he; exact ⟨p, hp, ‹_›, rfl⟩
    · cases he
  · rintro ⟨p, hp, hc, rfl⟩
    exact List.mem_map.mpr ⟨_, List.mem_filterMap.mpr ⟨p, hp, by unfold closeUpd; rw [if_pos hc]⟩, rfl⟩

theorem added_qtyUpd (ps : List Posting) {k : Position} (hal : k.1.isAL = true) :
    added (ps.filterMap qtyUpd) k = ((ps.filter (onPos k)).map (·.quantity)).sum := by
  induction ps with
  | nil => rfl
  | cons p ps ih =>
    have step : added ((p :: ps).filterMap qtyUpd) k =
        (if onPos k p = true then p.quantity else 0) + added (ps.filterMap qtyUpd) k := by
      rw [List.filterMap_cons]
      unfold qtyUpd
      by_cases h0 : p.quantity = 0
      · rw [if_pos h0, h0, ite_self, Rat.zero_add]
      · rw [if_neg h0]
        by_cases ho : onPos k p = true
        · have hk := onPos_iff.mp ho
          rw [if_pos (show p.account.isAL = true by rw [show p.account = k.1 from congrArg Prod.fst hk]; exact hal),
            added_cons, if_pos ho, if_pos hk]
        · rw [if_neg ho, Rat.zero_add]
          cases p.account.isAL
          · rfl
          · rw [if_pos rfl, added_cons, if_neg (fun h => ho (onPos_iff.mpr h)), Rat.zero_add]
    rw [step, ih, List.filter_cons]
    split
    · rfl
    · exact Rat.zero_add _

theorem added_closeUpd (f : Posting → Rat) (ps : List Posting) {k : Position} (hk : closable k.1 = true) :
    added (ps.filterMap (closeUpd f)) k = ((ps.filter (onPos k)).map f).sum := by
  induction ps with
  | nil => rfl
  | cons p ps ih =>
    have hsel : closeUpd f p = if closable p.account then some ((p.account, p.commodity), f p) else none := rfl
    rw [List.filterMap_cons, List.filter_cons, hsel]
    by_cases ho : onPos k p = true
    · have hp := onPos_iff.mp ho
      rw [if_pos ho, if_pos (show closable p.account = true by rw [show p.account = k.1 from congrArg Prod.fst hp]; exact hk),
        added_cons, if_pos hp, ih]
      rfl
    · rw [if_neg ho, ← ih]
      by_cases hc : closable p.account = true
      · rw [if_pos hc, added_cons, if_neg (fun h => ho (onPos_iff.mpr h)), Rat.zero_add]
      · rw [if_neg hc]


theorem addQty_get (q : AMap Position Rat) (ts : List Transaction) {k : Position} (hal : k.1.isAL = true) :
    (addQty q ts).get k 0 = q.get k 0 + (((postings ts).filter (onPos k)).map (·.quantity)).sum := by
  rw [addQty_eq, get_bumps, added_qtyUpd _ hal]

theorem addQty_nodup {q : AMap Position Rat} (h : NodupKeys q) (ts : List Transaction) : NodupKeys (addQty q ts) := by
  rw [addQty_eq]; exact nodupKeys_bumps _ h

theorem addQty_keys {q : AMap Position Rat} {ts : List Transaction} {k : Position} (h : k ∈ (addQty q ts).map (·.1)) :
    k ∈ q.map (·.1) ∨ ∃ p ∈ postings ts, p.account.isAL = true ∧ k = (p.account, p.commodity) := by
  exact ((keys_bumps _ _ k).mp (addQty_eq ts q ▸ h)).imp_right mem_qtyUpd

theorem accumulate_cQty_get (ts : List Transaction) (st : BalState) {k : Position} (hk : closable k.1 = true) :
    (accumulate st ts).cQty.get k 0 = st.cQty.get k 0 + (((postings ts).filter (onPos k)).map (·.quantity)).sum := by
  rw [accumulate_eq, get_bumps, added_closeUpd _ _ hk]

theorem accumulate_cVal_get (ts : List Transaction) (st : BalState) {k : Position} (hk : closable k.1 = true) :
    (accumulate st ts).cVal.get k 0 = st.cVal.get k 0 + (((postings ts).filter (onPos k)).map (·.value)).sum := by
  rw [accumulate_eq, get_bumps, added_closeUpd _ _ hk]

theorem accumulate_nodup {st : BalState} (h : NodupKeys st.cQty) (ts : List Transaction) :
    NodupKeys (accumulate st ts).cQty := by
  rw [accumulate_eq]; exact nodupKeys_bumps _ h

theorem accumulate_keys (ts : List Transaction) (st : BalState) (k : Position) :
    k ∈ (accumulate st ts).cQty.map (·.1) ↔
      k ∈ st.cQty.map (·.1) ∨ ∃ p ∈ postings ts, closable p.account = true ∧ k = (p.account, p.commodity) := by
  rw [accumulate_eq]
  exact (keys_bumps _ _ k).trans (or_congr_right mem_closeUpd)


theorem accC_eq (ts : List Transaction) (c : CSt) : accC c ts =
    ⟨((postings ts).filterMap (closeUpd (·.quantity))).foldl bump c.cQty,
      ((postings ts).filterMap (closeUpd (·.value))).foldl bump c.cVal⟩ := by
  unfold accC; rw [accumulate_eq]; rfl

theorem accC_cQty_get (ts : List Transaction) (c : CSt) {k : Position} (hk : closable k.1 = true) :
    (accC c ts).cQty.get k 0 = c.cQty.get k 0 + (((postings ts).filter (onPos k)).map (·.quantity)).sum :=
  accumulate_cQty_get ts (join {} {} c []) hk

theorem accC_nodup {c : CSt} (h : NodupKeys c.cQty) (ts : List Transaction) : NodupKeys (accC c ts).cQty :=
  accumulate_nodup (st := join {} {} c []) h ts

theorem accC_keys (ts : List Transaction) (c : CSt) (k : Position) :
    k ∈ (accC c ts).cQty.map (·.1) ↔
      k ∈ c.cQty.map (·.1) ∨ ∃ p ∈ postings ts, closable p.account = true ∧ k = (p.account, p.commodity) :=
  accumulate_keys ts (join {} {} c []) k

theorem mem_closingsAt {cfg : BalCfg} {c : CSt} {d : Day} {t : Transaction} (h : t ∈ closingsAt cfg c d) :
    t ∈ closings d.date c.cQty c.cVal := by
  unfold closingsAt at h
  split at h
  · exact h
  · cases h


/-- of a closing pair CloseAccounts accumulates the posting on the position (if it is closable), not the one on
`Equity:Equity` -/
theorem closeUpd_build (f : Posting → Rat) (a : Account) (c : Commodity) (q v : Rat) :
    (postingBuild a equityAccount c q v).filterMap (closeUpd f) =
      if closable a then [((a, c), f ⟨a, equityAccount, c, -q, -v⟩)] else [] := by
  have h1 : closeUpd f ⟨a, equityAccount, c, -q, -v⟩ =
      if closable a then some ((a, c), f ⟨a, equityAccount, c, -q, -v⟩) else none := rfl
  have h2 : closeUpd f ⟨equityAccount, a, c, q, v⟩ = none := by
    have : closable equityAccount = false := by decide
    show (if closable equityAccount = true then _ else none) = none
    rw [this]; rfl
  rcases postingBuild_cases a equityAccount c q v with e | e <;> rw [e] <;>
    simp only [List.filterMap_cons, List.filterMap_nil, h1, h2] <;> cases closable a <;> rfl

theorem closeUpd_closings (f : Posting → Rat) (date : Int) (cVal : AMap Position Rat) : ∀ (cQty : AMap Position Rat),
    (postings (closings date cQty cVal)).filterMap (closeUpd f) =
      cQty.filterMap fun e => (if closable e.1.1 = true ∧ ¬ (e.2 = 0 ∧ cVal.get e.1 0 = 0)
        then some (f ⟨e.1.1, equityAccount, e.1.2, -e.2, -(cVal.get e.1 0)⟩) else none).map fun x => (e.1, x)
  | [] => rfl
  | ((a, c), q) :: rest => by
    have ih := closeUpd_closings f date cVal rest
    unfold closings postings at ih ⊢
    rw [List.filterMap_cons, List.filterMap_cons]
    by_cases hz : q = 0 ∧ cVal.get (a, c) 0 = 0
    · rw [if_neg (fun h => h.2 hz), ← ih]
      simp only [hz.1, hz.2, decide_true, Bool.and_self, if_true, Option.map_none]
    · have : (decide (q = 0) && decide (cVal.get (a, c) 0 = 0)) = false := by
        rw [Bool.and_eq_false_iff, decide_eq_false_iff_not, decide_eq_false_iff_not]; exact Decidable.not_and_iff_or_not.mp hz
      simp only [this, Bool.false_eq_true, if_false, List.flatMap_cons, List.filterMap_append]
      rw [closeUpd_build f a c q, ← ih]
      by_cases ha : closable a = true
      · rw [if_pos ha, if_pos ⟨ha, hz⟩]; rfl
      · rw [if_neg ha, if_neg (fun h => ha h.1)]; rfl

/-- what the closing transactions add at a closable position: `φ` of the accumulated quantity and value, where `φ q v` is
what `f` reads off the posting that takes `q` and `v` off the position -/
theorem added_closings (f : Posting → Rat) (φ : Rat → Rat → Rat) (hφ : ∀ a b c q v, f ⟨a, b, c, -q, -v⟩ = φ q v)
    (h0 : φ 0 0 = 0) (date : Int) {cQty : AMap Position Rat} (cVal : AMap Position Rat) (hn : NodupKeys cQty)
    {k : Position} (hk : closable k.1 = true) :
    added ((postings (closings date cQty cVal)).filterMap (closeUpd f)) k =
      ((find? cQty k).map fun q => φ q (cVal.get k 0)).getD 0 := by
  rw [closeUpd_closings f date cVal cQty,
    added_filterMap_nodup (fun e : Position × Rat => if closable e.1.1 = true ∧ ¬ (e.2 = 0 ∧ cVal.get e.1 0 = 0)
      then some (f ⟨e.1.1, equityAccount, e.1.2, -e.2, -(cVal.get e.1 0)⟩) else none) k hn]
  cases find? cQty k with
  | none => rfl
  | some q =>
    rw [Option.bind_some, Option.map_some, Option.getD_some]
    by_cases hz : q = 0 ∧ cVal.get k 0 = 0
    · rw [if_neg (fun h => h.2 hz), hz.1, hz.2, h0]; rfl
    · rw [if_pos ⟨hk, hz⟩]; exact hφ _ _ _ _ _

theorem added_closings_qty (date : Int) {cQty : AMap Position Rat} (cVal : AMap Position Rat) (hn : NodupKeys cQty)
    {k : Position} (hk : closable k.1 = true) :
    added ((postings (closings date cQty cVal)).filterMap (closeUpd (·.quantity))) k = -(cQty.get k 0) := by
  rw [added_closings (·.quantity) (fun q _ => -q) (fun _ _ _ _ _ => rfl) Rat.neg_zero date cVal hn hk]
  unfold AMap.get
  cases find? cQty k with
  | none => exact Rat.neg_zero.symm
  | some q => rfl

theorem added_closings_val (date : Int) {cQty : AMap Position Rat} (cVal : AMap Position Rat) (hn : NodupKeys cQty)
    {k : Position} (hk : closable k.1 = true) :
    added ((postings (closings date cQty cVal)).filterMap (closeUpd (·.value))) k =
      if k ∈ cQty.map (·.1) then -(cVal.get k 0) else 0 := by
  rw [added_closings (·.value) (fun _ v => -v) (fun _ _ _ _ _ => rfl) Rat.neg_zero date cVal hn hk]
  cases hf : find? cQty k with
  | none => rw [if_neg (show k ∉ cQty.map (·.1) from find?_eq_none_iff.mp hf)]; rfl
  | some q => rw [if_pos (show k ∈ cQty.map (·.1) from mem_keys_iff_find?.mpr ⟨q, hf⟩)]; rfl

/-- the transaction CloseAccounts books for position `k` holding quantity `q` and value `v`: both go to `Equity:Equity` -/
def closingTx (date : Int) (k : Position) (q v : Rat) : Transaction :=
  { date := date, description := "Closing account " ++ k.1.name ++ " in " ++ k.2,
    postings := postingBuild k.1 equityAccount k.2 q v }

theorem mem_closings_iff {date : Int} {cQty cVal : AMap Position Rat} {t : Transaction} :
    t ∈ closings date cQty cVal ↔
      ∃ e ∈ cQty, ¬ (e.2 = 0 ∧ cVal.get e.1 0 = 0) ∧ t = closingTx date e.1 e.2 (cVal.get e.1 0) := by
  unfold closings
  rw [List.mem_filterMap]
  refine exists_congr fun e => and_congr_right fun _ => ?_
  obtain ⟨⟨a, c⟩, q⟩ := e
  by_cases h : q = 0 ∧ cVal.get (a, c) 0 = 0
  · simp [h]
  · simp only [Bool.and_eq_true, decide_eq_true_eq, h, if_false, Option.some.injEq, not_false_eq_true, true_and]
    exact eq_comm

end Knut.Balance
