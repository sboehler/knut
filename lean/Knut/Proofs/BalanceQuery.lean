import Knut.Model.Balance
import Knut.Spec.Ledger
/-! The Query stage, stated once so that no proof elsewhere unfolds `mappingLevel`, `shorten`, `mapAccount`,
`Balance.queryPosting` or `Balance.queryTx`: what the mapper (`--remap`, then `-m`: `Registry.SwapType`, `account.Shorten`)
does to an account, and that the insert of a posting is the specification's `Spec.entryOf` (`queryPosting_eq_entryOf`). -/
namespace Knut
open Knut.Spec

theorem mappingLevel_nil (s : String) : mappingLevel [] s = none := rfl

theorem mappingLevel_cons (r : MapRule) (m : List MapRule) (s : String) :
    mappingLevel (r :: m) s = if r.test s then some (r.level, r.suffix) else mappingLevel m s := by
  unfold mappingLevel
  rw [List.find?_cons]
  cases r.test s <;> rfl

theorem mappingLevel_eq_none {m : List MapRule} {s : String} (h : ∀ r ∈ m, r.test s = false) : mappingLevel m s = none := by
  unfold mappingLevel
  rw [List.find?_eq_none.mpr (fun r hr => by rw [h r hr]; exact Bool.false_ne_true)]

theorem mappingLevel_some {m : List MapRule} {s : String} {l sf : Nat} (h : mappingLevel m s = some (l, sf)) :
    ∃ r ∈ m, r.level = l ∧ r.suffix = sf := by
  unfold mappingLevel at h
  cases hf : m.find? (fun r => r.test s) with
  | none => rw [hf] at h; cases h
  | some r =>
    rw [hf] at h
    injection h with h
    exact ⟨r, List.mem_of_find?_eq_some hf, congrArg Prod.fst h, congrArg Prod.snd h⟩

/-- `account.Shorten`: no rule matches the account — kept; the first matching rule has level 0 — hidden; the account is
too short for the rule — kept; otherwise the first `level` and the last `suffix` segments -/
theorem shorten_cases (m : List MapRule) (a : Account) :
    (mappingLevel m a.name = none ∧ shorten m a = some a) ∨
    ∃ l sf, mappingLevel m a.name = some (l, sf) ∧
      ((l = 0 ∧ shorten m a = none) ∨
       (l ≠ 0 ∧ (sf ≥ a.level ∨ l > a.level - sf) ∧ shorten m a = some a) ∨
       (l ≠ 0 ∧ sf < a.level ∧ l ≤ a.level - sf ∧
        shorten m a = some ⟨a.segments.take l ++ a.segments.drop (a.level - sf)⟩)) := by
  unfold shorten
  cases h : mappingLevel m a.name with
  | none => exact Or.inl ⟨rfl, rfl⟩
  | some p =>
    obtain ⟨l, sf⟩ := p
    refine Or.inr ⟨l, sf, rfl, ?_⟩
    by_cases h0 : l = 0
    · exact Or.inl ⟨h0, if_pos h0⟩
    · by_cases h1 : sf ≥ a.level
      · exact Or.inr (Or.inl ⟨h0, Or.inl h1, by simp only [h0, h1, if_true, if_false]⟩)
      · by_cases h2 : l > a.level - sf
        · exact Or.inr (Or.inl ⟨h0, Or.inr h2, by simp only [h0, h1, h2, if_true, if_false]⟩)
        · exact Or.inr (Or.inr ⟨h0, by omega, by omega, by simp only [h0, h1, h2, if_false]⟩)

theorem shorten_of_no_rule {m : List MapRule} {a : Account} (h : ∀ r ∈ m, r.test a.name = false) : shorten m a = some a := by
  rcases shorten_cases m a with ⟨_, h1⟩ | ⟨l, sf, h1, _⟩
  · exact h1
  · rw [mappingLevel_eq_none h] at h1; cases h1

theorem shorten_nil (a : Account) : shorten [] a = some a := shorten_of_no_rule (fun _ hr => nomatch hr)

theorem shorten_first {m : List MapRule} {a b : Account} (h : shorten m a = some b) :
    b = a ∨ ∃ s rest rest', a.segments = s :: rest ∧ b.segments = s :: rest' := by
  rcases shorten_cases m a with ⟨_, h1⟩ | ⟨l, sf, _, ⟨_, h1⟩ | ⟨_, _, h1⟩ | ⟨h0, hs, _, h1⟩⟩
  · exact Or.inl (Option.some.inj (h.symm.trans h1))
  · rw [h1] at h; cases h
  · exact Or.inl (Option.some.inj (h.symm.trans h1))
  · obtain rfl := Option.some.inj (h.symm.trans h1)
    obtain ⟨segs⟩ := a
    cases segs with
    | nil => exact absurd hs (Nat.not_lt_zero _)
    | cons s rest =>
      cases l with
      | zero => exact absurd rfl h0
      | succ n => exact Or.inr ⟨s, rest, _, rfl, congrArg (s :: ·) rfl⟩

theorem shorten_isSome_of_levels {m : List MapRule} (hl : ∀ r ∈ m, 1 ≤ r.level) (a : Account) : (shorten m a).isSome = true := by
  rcases shorten_cases m a with ⟨_, h1⟩ | ⟨l, sf, hm, ⟨h0, _⟩ | ⟨_, _, h1⟩ | ⟨_, _, _, h1⟩⟩
  · rw [h1]; rfl
  · obtain ⟨r, hr, e, _⟩ := mappingLevel_some hm
    have := hl r hr
    omega
  · rw [h1]; rfl
  · rw [h1]; rfl

/-- `Registry.SwapType` exchanges the first segment for its counterpart, or leaves the account alone -/
theorem swapType_cases (a : Account) :
    swapType a = a ∨ ∃ s s' rest, a.segments = s :: rest ∧ swapType a = ⟨s' :: rest⟩ ∧
      ((s, s') = ("Assets", "Liabilities") ∨ (s, s') = ("Liabilities", "Assets") ∨
       (s, s') = ("Income", "Expenses") ∨ (s, s') = ("Expenses", "Income")) := by
  obtain ⟨segs⟩ := a
  cases segs with
  | nil => exact Or.inl rfl
  | cons s rest =>
    unfold swapType
    simp only
    by_cases h1 : s = "Assets"
    · exact Or.inr ⟨s, _, rest, rfl, if_pos h1, Or.inl (by rw [h1])⟩
    by_cases h2 : s = "Liabilities"
    · exact Or.inr ⟨s, _, rest, rfl, by rw [if_neg h1, if_pos h2], Or.inr (Or.inl (by rw [h2]))⟩
    by_cases h3 : s = "Income"
    · exact Or.inr ⟨s, _, rest, rfl, by rw [if_neg h1, if_neg h2, if_pos h3], Or.inr (Or.inr (Or.inl (by rw [h3])))⟩
    by_cases h4 : s = "Expenses"
    · exact Or.inr ⟨s, _, rest, rfl, by rw [if_neg h1, if_neg h2, if_neg h3, if_pos h4], Or.inr (Or.inr (Or.inr (by rw [h4])))⟩
    exact Or.inl (by rw [if_neg h1, if_neg h2, if_neg h3, if_neg h4])

theorem mapAccount_eq (cfg : BalCfg) (a : Account) :
    mapAccount cfg a = shorten cfg.mapping (if cfg.remap a.name then swapType a else a) := rfl

theorem mapAccount_inv {cfg : BalCfg} (P : Account → Prop) (hs : ∀ a, P a → P (swapType a))
    (hsh : ∀ a b, P a → shorten cfg.mapping a = some b → P b) {a b : Account} (ha : P a) (h : mapAccount cfg a = some b) :
    P b := by
  rw [mapAccount_eq] at h
  split at h
  · exact hsh _ b (hs a ha) h
  · exact hsh a b ha h

theorem isAL_cons (s : String) (rest rest' : List String) : (Account.isAL ⟨s :: rest⟩) = (Account.isAL ⟨s :: rest'⟩) := rfl

theorem swapType_isAL (a : Account) : (swapType a).isAL = a.isAL := by
  rcases swapType_cases a with h | ⟨s, s', rest, ha, hs, hw⟩
  · rw [h]
  · obtain ⟨segs⟩ := a
    subst ha
    rw [hs]
    -- assets and liabilities are exchanged with each other, income and expenses with each other
    rcases hw with h | h | h | h <;> obtain ⟨rfl, rfl⟩ := Prod.mk.inj h <;> rfl

theorem shorten_isAL (m : List MapRule) {a b : Account} (hb : shorten m a = some b) : b.isAL = a.isAL := by
  rcases shorten_first hb with rfl | ⟨s, rest, rest', ha, hbs⟩
  · rfl
  · obtain ⟨segs⟩ := a
    obtain ⟨segsb⟩ := b
    subst ha; subst hbs
    exact isAL_cons _ _ _

/-- `--remap` and `-m` keep an account on its side of the report: asset/liability or income/expense/equity -/
theorem mapAccount_isAL (cfg : BalCfg) {a b : Account} (hb : mapAccount cfg a = some b) : b.isAL = a.isAL :=
  mapAccount_inv (fun x => x.isAL = a.isAL) (fun x hx => (swapType_isAL x).trans hx)
    (fun _ _ hx hy => (shorten_isAL _ hy).trans hx) rfl hb

theorem mapAccount_plain {cfg : BalCfg} (hm : cfg.mapping = []) (hr : ∀ s, cfg.remap s = false) (a : Account) :
    mapAccount cfg a = some a := by
  rw [mapAccount_eq, hm, hr, if_neg Bool.false_ne_true, shorten_nil]

theorem mapAccount_isSome_of_levels {cfg : BalCfg} (hl : ∀ r ∈ cfg.mapping, 1 ≤ r.level) (a : Account) :
    (mapAccount cfg a).isSome = true := shorten_isSome_of_levels hl _

/-- what `Query` inserts for a posting: its value in a valued report (`--val`), its quantity otherwise -/
def Posting.amountIn (cfg : BalCfg) (p : Posting) : Rat := if cfg.valuation.isSome then p.value else p.quantity

theorem Posting.amountIn_valued {cfg : BalCfg} (h : cfg.valuation.isSome = true) (p : Posting) : p.amountIn cfg = p.value :=
  if_pos h

theorem Posting.amountIn_unvalued {cfg : BalCfg} (h : cfg.valuation = none) (p : Posting) : p.amountIn cfg = p.quantity := by
  unfold Posting.amountIn
  rw [h]
  rfl

theorem entryOf_eq_some_iff {cfg : BalCfg} {date : Int} {a : Account} {c : Commodity} {x : Rat} {e : Entry} :
    entryOf cfg date a c x = some e ↔
      cfg.accountFilter a.name = true ∧ cfg.commodityFilter c = true ∧
      ∃ a', mapAccount cfg a = some a' ∧ e = ⟨alignIn cfg.periods date, a', c, x⟩ := by
  unfold entryOf
  constructor
  · intro h
    split at h
    · rename_i hf
      rw [Bool.and_eq_true] at hf
      cases hm : mapAccount cfg a with
      | none => rw [hm] at h; cases h
      | some a' => rw [hm] at h; exact ⟨hf.1, hf.2, a', rfl, (Option.some.inj h).symm⟩
    · cases h
  · rintro ⟨h1, h2, a', hm, rfl⟩
    rw [h1, h2, hm]
    rfl

theorem entryOf_pos {cfg : BalCfg} {a : Account} {c : Commodity}
    (h : (cfg.accountFilter a.name && cfg.commodityFilter c) = true) (date : Int) (x : Rat) :
    entryOf cfg date a c x = (mapAccount cfg a).map (fun a' => ⟨alignIn cfg.periods date, a', c, x⟩) := if_pos h

theorem entryOf_neg {cfg : BalCfg} {a : Account} {c : Commodity}
    (h : ¬ (cfg.accountFilter a.name && cfg.commodityFilter c) = true) (date : Int) (x : Rat) :
    entryOf cfg date a c x = none := if_neg h

theorem entryOf_of_hidden {cfg : BalCfg} {a : Account} (h : mapAccount cfg a = none) (date : Int) (c : Commodity) (x : Rat) :
    entryOf cfg date a c x = none := by
  unfold entryOf
  rw [h]
  split <;> rfl

theorem entryOf_unmapped {cfg : BalCfg} (hm : cfg.mapping = []) (hr : ∀ s, cfg.remap s = false) (date : Int) (a : Account)
    (c : Commodity) (x : Rat) :
    entryOf cfg date a c x =
      if (cfg.accountFilter a.name && cfg.commodityFilter c) = true then some ⟨alignIn cfg.periods date, a, c, x⟩ else none := by
  unfold entryOf
  rw [mapAccount_plain hm hr]
  rfl

theorem entryOf_plain {cfg : BalCfg} (hm : cfg.mapping = []) (hr : ∀ s, cfg.remap s = false) (hacc : ∀ s, cfg.accountFilter s = true)
    (hcom : ∀ s, cfg.commodityFilter s = true) (date : Int) (a : Account) (c : Commodity) (x : Rat) :
    entryOf cfg date a c x = some ⟨alignIn cfg.periods date, a, c, x⟩ :=
  entryOf_eq_some_iff.mpr ⟨hacc _, hcom _, a, mapAccount_plain hm hr a, rfl⟩

theorem queryPosting_eq_entryOf (cfg : BalCfg) (t : Transaction) (p : Posting) :
    Balance.queryPosting cfg t p = entryOf cfg t.date p.account p.commodity (p.amountIn cfg) := by
  unfold Balance.queryPosting entryOf
  split
  · cases mapAccount cfg p.account <;> rfl
  · rfl

theorem queryPosting_eq_some_iff {cfg : BalCfg} {t : Transaction} {p : Posting} {e : Entry} :
    Balance.queryPosting cfg t p = some e ↔
      cfg.accountFilter p.account.name = true ∧ cfg.commodityFilter p.commodity = true ∧
      ∃ a', mapAccount cfg p.account = some a' ∧ e = ⟨alignIn cfg.periods t.date, a', p.commodity, p.amountIn cfg⟩ := by
  rw [queryPosting_eq_entryOf]
  exact entryOf_eq_some_iff

theorem queryTx_def (cfg : BalCfg) (t : Transaction) :
    Balance.queryTx cfg t = t.postings.filterMap (Balance.queryPosting cfg t) := rfl

theorem queryTx_eq (cfg : BalCfg) (t : Transaction) :
    Balance.queryTx cfg t = t.postings.filterMap (fun p => entryOf cfg t.date p.account p.commodity (p.amountIn cfg)) := by
  unfold Balance.queryTx
  exact congrArg (t.postings.filterMap ·) (funext (queryPosting_eq_entryOf cfg t))

theorem mem_queryTx {cfg : BalCfg} {t : Transaction} {e : Entry} :
    e ∈ Balance.queryTx cfg t ↔ ∃ p ∈ t.postings,
      cfg.accountFilter p.account.name = true ∧ cfg.commodityFilter p.commodity = true ∧
      ∃ a', mapAccount cfg p.account = some a' ∧ e = ⟨alignIn cfg.periods t.date, a', p.commodity, p.amountIn cfg⟩ := by
  rw [queryTx_eq, List.mem_filterMap]
  exact exists_congr fun p => and_congr_right fun _ => entryOf_eq_some_iff

theorem mem_flatMap_queryTx {cfg : BalCfg} {txs : List Transaction} {e : Entry} :
    e ∈ txs.flatMap (Balance.queryTx cfg) ↔ ∃ t ∈ txs, ∃ p ∈ t.postings,
      cfg.accountFilter p.account.name = true ∧ cfg.commodityFilter p.commodity = true ∧
      ∃ a', mapAccount cfg p.account = some a' ∧ e = ⟨alignIn cfg.periods t.date, a', p.commodity, p.amountIn cfg⟩ := by
  rw [List.mem_flatMap]
  exact exists_congr fun t => and_congr_right fun _ => mem_queryTx

theorem queryTx_plain {cfg : BalCfg} (hm : cfg.mapping = []) (hr : ∀ s, cfg.remap s = false) (hacc : ∀ s, cfg.accountFilter s = true)
    (hcom : ∀ s, cfg.commodityFilter s = true) (t : Transaction) :
    Balance.queryTx cfg t =
      t.postings.map (fun p => ⟨alignIn cfg.periods t.date, p.account, p.commodity, p.amountIn cfg⟩) := by
  rw [queryTx_eq]
  generalize t.postings = ps
  induction ps with
  | nil => rfl
  | cons p rest ih => rw [List.filterMap_cons, entryOf_plain hm hr hacc hcom, List.map_cons, ih]

end Knut
