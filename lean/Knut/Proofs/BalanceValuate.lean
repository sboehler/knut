import Knut.Model.Balance
import Knut.Proofs.Sim
/-!
# `Valuate`: what one posting and one position yield

`Valuate.Posting` case by case and as an inversion of success, `Valuate.DayStart` position by position (`adjustStep_ok`)
and over the whole quantity map (`adjustments_mem`): every transaction it books is the value adjustment `adjustmentTx` of
an open foreign asset/liability position whose price changed.  What is said elsewhere about the adjustments of a day —
their shape, date, commodity, zero quantities, pairing — is read off that one membership fact.
-/
namespace Knut
open Knut.Dec

theorem lookupPrice_ok {np : Option Prices.NPrices} {c : Commodity} {p : Rat} (h : Balance.lookupPrice np c = .ok p) :
    ∃ m, np = some m ∧ Prices.find c m = some p := by
  unfold Balance.lookupPrice at h
  split at h
  · cases h
  · split at h
    · cases h; exact ⟨_, rfl, by assumption⟩
    · cases h


theorem valuePosting_zero {v : Commodity} {cur : Option Prices.NPrices} {p : Posting} (h : p.quantity = 0) :
    Balance.valuePosting v cur p = .ok p := by
  unfold Balance.valuePosting; rw [if_pos h]

theorem valuePosting_own {v : Commodity} {cur : Option Prices.NPrices} {p : Posting} (h : p.quantity ≠ 0)
    (hc : p.commodity = v) : Balance.valuePosting v cur p = .ok { p with value := p.quantity } := by
  unfold Balance.valuePosting; rw [if_neg h, if_pos hc]

theorem valuePosting_foreign {v : Commodity} {cur : Option Prices.NPrices} {p : Posting} (h : p.quantity ≠ 0)
    (hc : p.commodity ≠ v) : Balance.valuePosting v cur p =
      (Balance.lookupPrice cur p.commodity).map fun pr => { p with value := Prices.multiply p.quantity pr } := by
  unfold Balance.valuePosting; rw [if_neg h, if_neg hc]
  cases Balance.lookupPrice cur p.commodity <;> rfl

/-- `Valuate.Posting`: only the value changes; it stays for a zero quantity, is the quantity in the valuation
commodity, and otherwise `Truncate₈(quantity × the day's price)`, which must exist -/
theorem valuePosting_ok {v : Commodity} {cur : Option Prices.NPrices} {p p' : Posting}
    (h : Balance.valuePosting v cur p = .ok p') :
    ∃ x, p' = { p with value := x } ∧ (p.quantity = 0 → x = p.value) ∧
      (p.quantity ≠ 0 → p.commodity = v → x = p.quantity) ∧
      (p.quantity ≠ 0 → p.commodity ≠ v →
        ∃ pr, Balance.lookupPrice cur p.commodity = .ok pr ∧ x = trunc 8 (p.quantity * pr)) := by
  by_cases hq : p.quantity = 0
  · rw [valuePosting_zero hq] at h; cases h
    exact ⟨p.value, rfl, fun _ => rfl, fun h => absurd hq h, fun h => absurd hq h⟩
  · by_cases hc : p.commodity = v
    · rw [valuePosting_own hq hc] at h; cases h
      exact ⟨p.quantity, rfl, fun h => absurd h hq, fun _ _ => rfl, fun _ h => absurd hc h⟩
    · rw [valuePosting_foreign hq hc] at h
      cases hl : Balance.lookupPrice cur p.commodity with
      | error e => rw [hl] at h; cases h
      | ok pr =>
        rw [hl] at h; cases h
        exact ⟨_, rfl, fun h => absurd h hq, fun _ h => absurd h hc, fun _ _ => ⟨pr, rfl, rfl⟩⟩

theorem valuePosting_account {v : Commodity} {cur : Option Prices.NPrices} {p p' : Posting}
    (h : Balance.valuePosting v cur p = .ok p') : p'.account = p.account ∧ p'.quantity = p.quantity := by
  obtain ⟨x, rfl, _⟩ := valuePosting_ok h
  exact ⟨rfl, rfl⟩

/-- the value adjustment `Valuate.DayStart` books for position `(a, c)` -/
def adjustmentTx (date : Int) (a : Account) (c : Commodity) (g : Rat) : Transaction :=
  { date := date, description := "Adjust value of " ++ c ++ " in account " ++ a.name,
    postings := postingBuild (valuationAccountFor a) a c 0 g, targets := some [c] }

/-- `Valuate.DayStart` for one position: nothing for the valuation commodity, other account types and closed
positions; otherwise both prices must exist, and an adjustment is booked if they differ -/
theorem adjustStep_ok {v : Commodity} {date : Int} {prev cur : Option Prices.NPrices} {acc res : List Transaction}
    {a : Account} {c : Commodity} {q : Rat} (h : Balance.adjustStep v date prev cur acc ((a, c), q) = .ok res) :
    ((c = v ∨ a.isAL = false ∨ q = 0) ∧ res = acc) ∨
    ∃ pp cp, c ≠ v ∧ a.isAL = true ∧ q ≠ 0 ∧ Balance.lookupPrice prev c = .ok pp ∧ Balance.lookupPrice cur c = .ok cp ∧
      ((cp - pp = 0 ∧ res = acc) ∨
       (cp - pp ≠ 0 ∧ res = acc ++ [adjustmentTx date a c (trunc 8 ((cp - pp) * q))])) := by
  unfold Balance.adjustStep at h
  simp only at h
  split at h
  · rename_i hcond
    cases h
    simp only [Bool.or_eq_true, decide_eq_true_eq, Bool.not_eq_true'] at hcond
    exact Or.inl ⟨by rcases hcond with (h | h) | h <;> simp [h], rfl⟩
  · rename_i hcond
    simp only [Bool.or_eq_true, decide_eq_true_eq, Bool.not_eq_true', not_or, Bool.not_eq_false] at hcond
    obtain ⟨pp, hpp, h⟩ := bindOk_iff.mp h
    obtain ⟨cp, hcp, h⟩ := bindOk_iff.mp h
    refine Or.inr ⟨pp, cp, hcond.1.1, hcond.1.2, hcond.2, hpp, hcp, ?_⟩
    split at h
    · rename_i hd
      cases h
      exact Or.inl ⟨hd, rfl⟩
    · rename_i hd
      cases h
      exact Or.inr ⟨hd, rfl⟩

theorem adjustStep_ok_cases {v : Commodity} {date : Int} {prev cur : Option Prices.NPrices} {acc res : List Transaction}
    {e : Position × Rat} (h : Balance.adjustStep v date prev cur acc e = .ok res) :
    res = acc ∨ ∃ g, e.1.2 ≠ v ∧ res = acc ++ [adjustmentTx date e.1.1 e.1.2 g] := by
  obtain ⟨⟨a, c⟩, q⟩ := e
  rcases adjustStep_ok h with ⟨_, h⟩ | ⟨pp, cp, hc, _, _, _, _, ⟨_, h⟩ | ⟨_, h⟩⟩
  · exact Or.inl h
  · exact Or.inl h
  · exact Or.inr ⟨_, hc, h⟩

theorem adjustments_mem {v : Commodity} {date : Int} {prev cur : Option Prices.NPrices} {qty : AMap Position Rat}
    {adj : List Transaction} (h : Balance.adjustments v date prev cur qty = .ok adj) :
    ∀ t ∈ adj, ∃ a c q pp cp, ((a, c), q) ∈ qty ∧ c ≠ v ∧ a.isAL = true ∧ q ≠ 0 ∧
      Balance.lookupPrice prev c = .ok pp ∧ Balance.lookupPrice cur c = .ok cp ∧ cp - pp ≠ 0 ∧
      t = adjustmentTx date a c (trunc 8 ((cp - pp) * q)) := by
  unfold Balance.adjustments at h
  refine foldlM_ok_inv (fun acc => ∀ t ∈ acc, ∃ a c q pp cp, ((a, c), q) ∈ qty ∧ c ≠ v ∧ a.isAL = true ∧ q ≠ 0 ∧
      Balance.lookupPrice prev c = .ok pp ∧ Balance.lookupPrice cur c = .ok cp ∧ cp - pp ≠ 0 ∧
      t = adjustmentTx date a c (trunc 8 ((cp - pp) * q))) qty (fun acc e res he hacc hs => ?_) (fun _ ht => by cases ht) h
  obtain ⟨⟨a, c⟩, q⟩ := e
  rcases adjustStep_ok hs with ⟨_, rfl⟩ | ⟨pp, cp, hc, hal, hq, hpp, hcp, ⟨_, rfl⟩ | ⟨hd, rfl⟩⟩
  · exact hacc
  · exact hacc
  · exact fun t ht => (List.mem_append.mp ht).elim (hacc t)
      fun ht => ⟨a, c, q, pp, cp, he, hc, hal, hq, hpp, hcp, hd, List.mem_singleton.mp ht⟩

end Knut
