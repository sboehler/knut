import Knut.Spec.BeancountSpec
import Knut.Proofs.BalanceInv
import Knut.Proofs.Builder
/-! Lemmas for C16: structure of the entry list `beancount.Transcode` writes, and what the processors
`Sort, ComputePrices, check, Valuate` guarantee about a processed day. -/
namespace Knut.Beancount
open Knut Knut.BeancountSpec Knut.JournalPrinter

def BEntry.tx? : BEntry → Option Transaction | .tx t => some t | _ => none
def BEntry.opening? : BEntry → Option Open | .opening o => some o | _ => none
def BEntry.closing? : BEntry → Option Close | .closing c => some c | _ => none

theorem txsOf_eq (es : List BEntry) : txsOf es = es.filterMap BEntry.tx? := by
  induction es with
  | nil => rfl
  | cons e rest ih => cases e <;> simp [txsOf, BEntry.tx?, List.filterMap_cons, ih]

theorem opensOf_eq (es : List BEntry) : opensOf es = es.filterMap BEntry.opening? := by
  induction es with
  | nil => rfl
  | cons e rest ih => cases e <;> simp [opensOf, BEntry.opening?, List.filterMap_cons, ih]

theorem closesOf_eq (es : List BEntry) : closesOf es = es.filterMap BEntry.closing? := by
  induction es with
  | nil => rfl
  | cons e rest ih => cases e <;> simp [closesOf, BEntry.closing?, List.filterMap_cons, ih]

theorem txsOf_append (a b : List BEntry) : txsOf (a ++ b) = txsOf a ++ txsOf b := by
  rw [txsOf_eq, txsOf_eq, txsOf_eq, List.filterMap_append]

theorem opensOf_append (a b : List BEntry) : opensOf (a ++ b) = opensOf a ++ opensOf b := by
  rw [opensOf_eq, opensOf_eq, opensOf_eq, List.filterMap_append]

theorem closesOf_append (a b : List BEntry) : closesOf (a ++ b) = closesOf a ++ closesOf b := by
  rw [closesOf_eq, closesOf_eq, closesOf_eq, List.filterMap_append]

theorem filterMap_map_some {α β : Type} (f : α → β) (sel : β → Option α) (h : ∀ a, sel (f a) = some a) (l : List α) :
    (l.map f).filterMap sel = l := by
  rw [List.filterMap_map, show sel ∘ f = some from funext h, List.filterMap_some]

theorem filterMap_map_none {α β γ : Type} (f : α → β) (sel : β → Option γ) (h : ∀ a, sel (f a) = none) (l : List α) :
    (l.map f).filterMap sel = [] :=
  List.filterMap_eq_nil_iff.mpr fun _ hb => by obtain ⟨a, _, rfl⟩ := List.mem_map.mp hb; exact h a

theorem txsOf_dayEntries (seen : List Account) (d : ProcDay) : txsOf (dayEntries seen d).2 = sortTxs d.transactions := by
  simp only [dayEntries, txsOf_eq, List.filterMap_append, filterMap_map_none BEntry.opening BEntry.tx? fun _ => rfl,
    filterMap_map_none BEntry.closing BEntry.tx? fun _ => rfl, filterMap_map_some BEntry.tx BEntry.tx? fun _ => rfl,
    List.nil_append, List.append_nil]

theorem closesOf_dayEntries (seen : List Account) (d : ProcDay) : closesOf (dayEntries seen d).2 = d.closings := by
  simp only [dayEntries, closesOf_eq, List.filterMap_append, filterMap_map_none BEntry.opening BEntry.closing? fun _ => rfl,
    filterMap_map_none BEntry.tx BEntry.closing? fun _ => rfl, filterMap_map_some BEntry.closing BEntry.closing? fun _ => rfl,
    List.nil_append]

theorem opensOf_dayEntries (seen : List Account) (d : ProcDay) :
    opensOf (dayEntries seen d).2 = d.openings ++ (synthOpens seen (sortTxs d.transactions)).2 := by
  simp only [dayEntries, opensOf_eq, List.filterMap_append, filterMap_map_none BEntry.tx BEntry.opening? fun _ => rfl,
    filterMap_map_none BEntry.closing BEntry.opening? fun _ => rfl, filterMap_map_some BEntry.opening BEntry.opening? fun _ => rfl,
    List.append_nil]

theorem txsOf_entriesFrom (seen : List Account) (pds : List ProcDay) :
    txsOf (entriesFrom seen pds) = pds.flatMap (fun d => sortTxs d.transactions) := by
  induction pds generalizing seen with
  | nil => rfl
  | cons d rest ih => simp [entriesFrom, txsOf_append, txsOf_dayEntries, ih]

theorem closesOf_entriesFrom (seen : List Account) (pds : List ProcDay) :
    closesOf (entriesFrom seen pds) = pds.flatMap (·.closings) := by
  induction pds generalizing seen with
  | nil => rfl
  | cons d rest ih => simp [entriesFrom, closesOf_append, closesOf_dayEntries, ih]

theorem opensOf_entriesFrom_sub (seen : List Account) (pds : List ProcDay) :
    ∀ o ∈ pds.flatMap (·.openings), o ∈ opensOf (entriesFrom seen pds) := by
  induction pds generalizing seen with
  | nil => intro o ho; cases ho
  | cons d rest ih =>
    intro o ho
    simp only [List.flatMap_cons, List.mem_append] at ho
    simp only [entriesFrom, opensOf_append, opensOf_dayEntries, List.mem_append]
    rcases ho with ho | ho
    · exact Or.inl (Or.inl ho)
    · exact Or.inr (ih _ o ho)

theorem mem_sortTxs (l : List Transaction) (t : Transaction) : t ∈ sortTxs l ↔ t ∈ l :=
  (List.mergeSort_perm l _).mem_iff

theorem sortTxs_perm (l : List Transaction) : (sortTxs l).Perm l := List.mergeSort_perm l _

theorem sum_values_paired {ps : List Posting} (h : Paired ps) : (ps.map (·.value)).sum = 0 := by
  induction h with
  | nil => rfl
  | cons a b rest hc hq hv _ ih =>
    simp only [List.map_cons, List.sum_cons, ih, hv, Rat.add_zero]
    exact Rat.add_neg_cancel _

theorem valueTx_keeps {v : Commodity} {cur : Option Prices.NPrices} {t t' : Transaction}
    (h : Balance.valueTx v cur t = .ok t') :
    t'.date = t.date ∧ t'.description = t.description ∧ t'.postings.map (·.account) = t.postings.map (·.account) := by
  unfold Balance.valueTx at h
  obtain ⟨ps, hm, h⟩ := bindOk_iff.mp h
  injection h with h; subst h
  exact ⟨rfl, rfl, mapM_ok_map (fun _ _ hp => (valuePosting_account hp).1) hm⟩

theorem processDay_parts {v : Commodity} {st st' : BalState} {d : Day} {pd : ProcDay}
    (h : processDay v st d = .ok (st', pd)) :
    ∃ (s1 s2 : BalState) (adj : List Transaction),
      Balance.pricesDay v st { d with transactions := sortTxs d.transactions } = .ok s1 ∧
      Balance.checkStage s1 { d with transactions := sortTxs d.transactions } = .ok s2 ∧
      Balance.adjustments v d.date s2.vPrev s2.norm s2.vQty = .ok adj ∧
      (sortTxs d.transactions ++ adj).mapM (Balance.valueTx v s2.norm) = .ok pd.transactions ∧
      st' = { s2 with vQty := Balance.addQty s2.vQty (sortTxs d.transactions ++ adj), vPrev := s2.norm } ∧
      pd.date = d.date ∧ pd.openings = d.openings ∧ pd.closings = d.closings := by
  unfold processDay at h
  obtain ⟨s1, hp, h⟩ := bindOk_iff.mp h
  obtain ⟨s2, hc, h⟩ := bindOk_iff.mp h
  obtain ⟨⟨s3, txs⟩, hv, h⟩ := bindOk_iff.mp h
  obtain ⟨adj, ha, hm, (rfl : s3 = _)⟩ := Balance.valuateDay_ok.mp hv
  injection h with h
  injection h with h3 h4
  subst h3 h4
  exact ⟨s1, s2, adj, hp, hc, ha, hm, rfl, rfl, rfl, rfl⟩

theorem processFrom_nil_ok {v : Commodity} {st : BalState} {pds : List ProcDay} (h : processFrom v st [] = .ok pds) : pds = [] := by
  simp only [processFrom, Except.ok.injEq] at h
  exact h.symm

theorem processFrom_cons_ok {v : Commodity} {st : BalState} {d : Day} {rest : List Day} {pds : List ProcDay}
    (h : processFrom v st (d :: rest) = .ok pds) :
    ∃ st1 pd pds', processDay v st d = .ok (st1, pd) ∧ processFrom v st1 rest = .ok pds' ∧ pds = pd :: pds' := by
  rw [processFrom] at h
  obtain ⟨⟨st1, pd⟩, hd, h⟩ := bindOk_iff.mp h
  obtain ⟨pds', hr, h⟩ := bindOk_iff.mp h
  injection h with h
  exact ⟨st1, pd, pds', hd, hr, h.symm⟩

theorem processDay_paired {v : Commodity} {st st' : BalState} {d : Day} {pd : ProcDay}
    (hin : ∀ t ∈ d.transactions, TxPaired t) (h : processDay v st d = .ok (st', pd)) :
    ∀ t ∈ pd.transactions, TxPaired t := by
  obtain ⟨s1, s2, adj, _, _, ha, hm, _, _, _, _⟩ := processDay_parts h
  exact (Balance.valuate_inv txInv_paired (fun _ _ => trivial) (fun t ht => hin t ((mem_sortTxs _ _).mp ht)) ha hm).2

/-- `t` is the value adjustment `Valuate` books for position `e` -/
def IsAdjOf (date : Int) (e : Position × Rat) (t : Transaction) : Prop :=
  e.1.1.isAL = true ∧ e.2 ≠ 0 ∧ ∃ g : Rat,
    t = { date := date, description := "Adjust value of " ++ e.1.2 ++ " in account " ++ e.1.1.name,
          postings := postingBuild (valuationAccountFor e.1.1) e.1.1 e.1.2 0 g, targets := some [e.1.2] }

theorem adjustments_shape (v : Commodity) (date : Int) (prev cur : Option Prices.NPrices)
    (qty : AMap Position Rat) (adj : List Transaction)
    (h : Balance.adjustments v date prev cur qty = .ok adj) : ∀ t ∈ adj, ∃ e ∈ qty, IsAdjOf date e t := by
  intro t ht
  obtain ⟨_, _, _, _, _, he, _, hal, hq, _, _, _, rfl⟩ := adjustments_mem h t ht
  exact ⟨_, he, hal, hq, _, rfl⟩

/-- every directive of the day carries the day's date: what the builder guarantees (`ofList_dayDates`) -/
structure DayDates (d : Day) : Prop where
  opens : ∀ o ∈ d.openings, o.date = d.date
  closes : ∀ c ∈ d.closings, c.date = d.date
  txs : ∀ t ∈ d.transactions, t.date = d.date

structure ProcDates (pd : ProcDay) : Prop where
  opens : ∀ o ∈ pd.openings, o.date = pd.date
  closes : ∀ c ∈ pd.closings, c.date = pd.date
  txs : ∀ t ∈ pd.transactions, t.date = pd.date

theorem pricesDay_frame {v : Commodity} {st s1 : BalState} {d : Day} (h : Balance.pricesDay v st d = .ok s1) :
    s1.chk = st.chk ∧ s1.vQty = st.vQty := by
  obtain ⟨g, _, rfl⟩ := Balance.pricesDay_ok.mp h
  exact ⟨rfl, rfl⟩

theorem checkStage_frame {s1 s2 : BalState} {d : Day} (h : Balance.checkStage s1 d = .ok s2) :
    Check.day s1.chk d = .ok s2.chk ∧ s2.vQty = s1.vQty := by
  obtain ⟨c, hc, rfl⟩ := Balance.checkStage_ok.mp h
  exact ⟨hc, rfl⟩

theorem processDay_parts2 {v : Commodity} {st st' : BalState} {d : Day} {pd : ProcDay}
    (h : processDay v st d = .ok (st', pd)) :
    ∃ (adj : List Transaction) (cur : Option Prices.NPrices),
      Check.day st.chk { d with transactions := sortTxs d.transactions } = .ok st'.chk ∧
      (∀ t ∈ adj, ∃ e ∈ st.vQty, IsAdjOf d.date e t) ∧
      (sortTxs d.transactions ++ adj).mapM (Balance.valueTx v cur) = .ok pd.transactions ∧
      st'.vQty = Balance.addQty st.vQty (sortTxs d.transactions ++ adj) := by
  obtain ⟨s1, s2, adj, hp, hc, ha, hm, hst, _, _, _⟩ := processDay_parts h
  obtain ⟨p1, p2⟩ := pricesDay_frame hp
  obtain ⟨c1, c2⟩ := checkStage_frame hc
  refine ⟨adj, s2.norm, ?_, ?_, hm, ?_⟩
  · rw [hst]; simp only; rw [← p1]; exact c1
  · have := adjustments_shape v d.date _ _ _ adj ha
    rw [c2, p2] at this; exact this
  · rw [hst]; simp only; rw [c2, p2]

theorem processDay_txs {v : Commodity} {st st' : BalState} {d : Day} {pd : ProcDay} (h : processDay v st d = .ok (st', pd)) :
    ∃ (user adjs : List Transaction), pd.transactions = user ++ adjs ∧
      user.length = d.transactions.length ∧
      (∀ t' ∈ user, ∃ t ∈ d.transactions, t'.date = t.date ∧ t'.description = t.description ∧
          t'.postings.map (·.account) = t.postings.map (·.account)) ∧
      (∀ t' ∈ adjs, ∃ t, (∃ e ∈ st.vQty, IsAdjOf d.date e t) ∧ t'.date = t.date ∧ t'.description = t.description ∧
          t'.postings.map (·.account) = t.postings.map (·.account)) := by
  obtain ⟨adj, cur, _, hadj, hm, _⟩ := processDay_parts2 h
  obtain ⟨r1, r2, h1, h2, h3⟩ := mapM_ok_append_iff.mp hm
  refine ⟨r1, r2, h3, ?_, ?_, ?_⟩
  · rw [mapM_ok_length h1]; exact (sortTxs_perm d.transactions).length_eq
  · intro t' ht'
    obtain ⟨t, ht, hv⟩ := mapM_ok_mem _ _ _ h1 t' ht'
    exact ⟨t, (mem_sortTxs _ _).mp ht, valueTx_keeps hv⟩
  · intro t' ht'
    obtain ⟨t, ht, hv⟩ := mapM_ok_mem _ _ _ h2 t' ht'
    exact ⟨t, hadj t ht, valueTx_keeps hv⟩

theorem processDay_dates {v : Commodity} {st st' : BalState} {d : Day} {pd : ProcDay}
    (hd : DayDates d) (h : processDay v st d = .ok (st', pd)) : pd.date = d.date ∧ ProcDates pd := by
  obtain ⟨s1, s2, adj, _, _, ha, hm, _, h1, h2, h3⟩ := processDay_parts h
  refine ⟨h1, ?_, ?_, ?_⟩
  · rw [h2, h1]; exact hd.opens
  · rw [h3, h1]; exact hd.closes
  · intro t' ht'
    obtain ⟨user, adjs, hpd, _, hu, hadj⟩ := processDay_txs h
    rw [hpd] at ht'
    rcases List.mem_append.mp ht' with ht' | ht'
    · obtain ⟨t, ht, hdate, _⟩ := hu t' ht'
      rw [hdate, h1]; exact hd.txs t ht
    · obtain ⟨t, ⟨e, _, _, _, g, hg⟩, hdate, _⟩ := hadj t' ht'
      rw [hdate, h1, hg]

/-- day by day `pd` is `processDay` of `d` from SOME state: the days of a run with the states forgotten, not a run -/
inductive Processed (v : Commodity) : List Day → List ProcDay → Prop
  | nil : Processed v [] []
  | cons {d : Day} {pd : ProcDay} {days : List Day} {pds : List ProcDay}
      (h : ∃ s s' : BalState, processDay v s d = .ok (s', pd)) (rest : Processed v days pds) :
      Processed v (d :: days) (pd :: pds)

theorem synthStep_dates (D : Int) (ps : List Posting) (acc : List Account × List Open) (h : ∀ o ∈ acc.2, o.date = D) :
    ∀ o ∈ (ps.foldl (synthStep D) acc).2, o.date = D :=
  foldl_inv (fun acc : List Account × List Open => ∀ o ∈ acc.2, o.date = D) ps acc (fun acc p _ h => by
    unfold synthStep
    split
    · intro o ho
      rcases List.mem_append.mp ho with ho | ho
      · exact h o ho
      · simp only [List.mem_singleton] at ho; subst ho; rfl
    · exact h) h

theorem synthOpens_dates (D : Int) (seen : List Account) (txs : List Transaction) (ht : ∀ t ∈ txs, t.date = D) :
    ∀ o ∈ (synthOpens seen txs).2, o.date = D :=
  foldl_inv (fun acc : List Account × List Open => ∀ o ∈ acc.2, o.date = D) txs (seen, [])
    (fun acc t ht' h => by rw [ht t ht']; exact synthStep_dates D t.postings acc h) (fun _ ho => nomatch ho)

theorem dayEntries_dates (seen : List Account) (pd : ProcDay) (hp : ProcDates pd) :
    ∀ e ∈ (dayEntries seen pd).2, e.date = pd.date := by
  intro e he
  simp only [dayEntries, List.mem_append, List.mem_map] at he
  rcases he with ((⟨o, ho, rfl⟩ | ⟨o, ho, rfl⟩) | ⟨t, ht, rfl⟩) | ⟨c, hc, rfl⟩
  · exact hp.opens o ho
  · exact synthOpens_dates pd.date seen _ (fun t ht => hp.txs t ((mem_sortTxs _ _).mp ht)) o ho
  · exact hp.txs t ((mem_sortTxs _ _).mp ht)
  · exact hp.closes c hc

theorem entriesFrom_dates (pds : List ProcDay) (hp : ∀ pd ∈ pds, ProcDates pd) : ∀ (seen : List Account),
    ∀ e ∈ entriesFrom seen pds, ∃ pd ∈ pds, e.date = pd.date := by
  induction pds with
  | nil => intro seen e he; cases he
  | cons pd rest ih =>
    intro seen e he
    simp only [entriesFrom, List.mem_append] at he
    rcases he with he | he
    · exact ⟨pd, List.mem_cons_self, dayEntries_dates seen pd (hp pd List.mem_cons_self) e he⟩
    · obtain ⟨pd', hpd', hd⟩ := ih (fun pd' h' => hp pd' (List.mem_cons_of_mem _ h')) _ e he
      exact ⟨pd', List.mem_cons_of_mem _ hpd', hd⟩

theorem entriesFrom_pairwise (pds : List ProcDay) (hs : List.Pairwise (fun a b => a.date < b.date) pds)
    (hp : ∀ pd ∈ pds, ProcDates pd) : ∀ (seen : List Account),
    List.Pairwise (fun a b => a.date ≤ b.date) (entriesFrom seen pds) := by
  induction pds with
  | nil => intro seen; exact List.Pairwise.nil
  | cons pd rest ih =>
    intro seen
    simp only [entriesFrom]
    rw [List.pairwise_append]
    rw [List.pairwise_cons] at hs
    refine ⟨?_, ih hs.2 (fun pd' h' => hp pd' (List.mem_cons_of_mem _ h')) _, ?_⟩
    · rw [List.pairwise_iff_forall_sublist]
      intro a b hab
      have ha := dayEntries_dates seen pd (hp pd List.mem_cons_self) a (hab.subset (by simp))
      have hb := dayEntries_dates seen pd (hp pd List.mem_cons_self) b (hab.subset (by simp))
      omega
    · intro a ha b hb
      have h1 := dayEntries_dates seen pd (hp pd List.mem_cons_self) a ha
      obtain ⟨pd', hpd', h2⟩ := entriesFrom_dates rest (fun pd' h' => hp pd' (List.mem_cons_of_mem _ h')) _ b hb
      have := hs.1 pd' hpd'
      omega

theorem chronological_of_pairwise : ∀ (es : List BEntry), List.Pairwise (fun a b => a.date ≤ b.date) es →
    chronological es = true := by
  intro es
  induction es with
  | nil => intro _; rfl
  | cons a rest ih =>
    intro h
    cases rest with
    | nil => rfl
    | cons b rest' =>
      rw [List.pairwise_cons] at h
      simp only [chronological, Bool.and_eq_true, decide_eq_true_eq]
      exact ⟨h.1 b List.mem_cons_self, ih h.2⟩

theorem processed_fields {v : Commodity} {days : List Day} {pds : List ProcDay} (h : Processed v days pds) :
    pds.map (·.date) = days.map (·.date) ∧ pds.flatMap (·.openings) = days.flatMap (·.openings) ∧
    pds.flatMap (·.closings) = days.flatMap (·.closings) := by
  induction h with
  | nil => exact ⟨rfl, rfl, rfl⟩
  | cons hd _ ih =>
    obtain ⟨s, s', hd⟩ := hd
    obtain ⟨_, _, _, _, _, _, _, _, h1, h2, h3⟩ := processDay_parts hd
    obtain ⟨i1, i2, i3⟩ := ih
    simp [h1, h2, h3, i1, i2, i3]

theorem processed_dates {v : Commodity} {days : List Day} {pds : List ProcDay} (h : Processed v days pds)
    (hd : ∀ d ∈ days, DayDates d) : ∀ pd ∈ pds, ProcDates pd := by
  induction h with
  | nil => intro pd hpd; cases hpd
  | cons hday _ ih =>
    obtain ⟨s, s', hday⟩ := hday
    intro pd' hpd'
    rcases List.mem_cons.mp hpd' with rfl | hpd'
    · exact (processDay_dates (hd _ List.mem_cons_self) hday).2
    · exact ih (fun d' hd' => hd d' (List.mem_cons_of_mem _ hd')) pd' hpd'

theorem processed_sorted {v : Commodity} {days : List Day} {pds : List ProcDay} (h : Processed v days pds)
    (hs : Sorted days) : List.Pairwise (fun a b => a.date < b.date) pds := by
  have h1 : List.Pairwise (· < ·) (days.map (·.date)) := by
    unfold Sorted at hs; rw [List.pairwise_map]; exact hs
  rw [← (processed_fields h).1, List.pairwise_map] at h1
  exact h1

/-- what the loader produces is paired -/
theorem ofBookings_paired (date : Int) (desc : String) (tg : Option (List Commodity)) (bks : List Booking) :
    TxPaired (Transaction.ofBookings date desc tg bks) :=
  PairsHave.flatMap pairsHave_paired _ (fun _ => paired_postingBuild _ _ _ _ _) bks

/-! ### the builder files every directive under its own date -/

theorem ofList_kind_dates {α : Type} (k : Kind α) (dateOf : α → Int)
    (hpick : ∀ x a, k.pick x = some a → x.date = dateOf a) (ds : List Directive) :
    ∀ d ∈ (Builder.ofList ds).days, ∀ a ∈ k.proj d, dateOf a = d.date := by
  intro d hd a ha
  rw [built_proj k ds d hd] at ha
  obtain ⟨x, _, hdx, hx⟩ := (mem_collect k ds d.date a).mp ha
  rw [← hdx]; exact (hpick x a hx).symm

theorem ofList_dayDates (ds : List Directive) : ∀ d ∈ (Builder.ofList ds).build, DayDates d := by
  intro d hd
  refine ⟨?_, ?_, ?_⟩
  · exact ofList_kind_dates openKind (·.date) (by intro x a h; cases x <;> simp [openKind] at h; subst h; rfl) ds d hd
  · exact ofList_kind_dates closeKind (·.date) (by intro x a h; cases x <;> simp [closeKind] at h; subst h; rfl) ds d hd
  · exact ofList_kind_dates txKind (·.date) (by intro x a h; cases x <;> simp [txKind] at h; subst h; rfl) ds d hd

end Knut.Beancount
