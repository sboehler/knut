import Knut.Proofs.BeancountRun
import Knut.Proofs.CheckDay
/-! The lifecycle clause of C16 (open before use / not after close): a position `Valuate` still holds belongs to an account the
checker holds open (`QInv`), and an account the checker holds open has an open in the journal that no past close follows (`Env`,
`AccInv`); carried along every re-listed run (`procOrd_uses`). -/
namespace Knut.Beancount
open Knut Knut.BeancountSpec Knut.JournalPrinter

/-- what the postings book at an asset/liability position, as `contribSum` and as the filtered sum of `Proofs/BalanceMaps.lean` -/
theorem contribSum_eq_filter (ps : List Posting) {k : Position} (hal : k.1.isAL = true) :
    contribSum ps k = ((ps.filter (Balance.onPos k)).map (·.quantity)).sum := by
  rw [MapSum.sum_map_filter, contribSum]
  congr 1
  refine List.map_congr_left fun p _ => ?_
  unfold contrib
  by_cases h : (p.account, p.commodity) = k
  · rw [if_pos ⟨by rw [show p.account = k.1 from congrArg Prod.fst h]; exact hal, h⟩, if_pos (Balance.onPos_iff.mpr h)]
  · rw [if_neg (fun hc => h hc.2), if_neg (fun hc => h (Balance.onPos_iff.mp hc))]

theorem added_contrib (ps : List Posting) (k : Position) : AMap.added (ps.filterMap Balance.qtyUpd) k = contribSum ps k := by
  by_cases hal : k.1.isAL = true
  · rw [Balance.added_qtyUpd ps hal, contribSum_eq_filter ps hal]
  · -- no update and no contribution at a position outside the asset/liability accounts
    rw [AMap.added_of_not_mem fun hm => by obtain ⟨p, _, hp, rfl⟩ := Balance.mem_qtyUpd hm; exact hal hp]
    refine (contribSum_zero fun p _ => if_neg fun hc => hal ?_).symm
    rw [← hc.2]; exact hc.1

theorem addQty_get (ts : List Transaction) (q : AMap Position Rat) (hn : AMap.NodupKeys q) :
    AMap.NodupKeys (Balance.addQty q ts) ∧
    ∀ k, (Balance.addQty q ts).get k 0 = q.get k 0 + contribSum (ts.flatMap (·.postings)) k :=
  ⟨Balance.addQty_nodup hn ts, fun k => by rw [Balance.addQty_eq, AMap.get_bumps, added_contrib]⟩

/-- the link between the checker's and `Valuate`'s view of the asset/liability positions -/
structure QInv (st : BalState) : Prop where
  same : ∀ k, st.chk.quantities.get k 0 = st.vQty.get k 0
  closed : ∀ k, k.1 ∉ st.chk.accounts → st.vQty.get k 0 = 0
  nodup : AMap.NodupKeys st.vQty

theorem postingBuild_accounts (cr dr : Account) (c : Commodity) (q g : Rat) :
    ∀ a ∈ (postingBuild cr dr c q g).map (·.account), a = cr ∨ a = dr := by
  intro a ha
  obtain ⟨p, hp, rfl⟩ := List.mem_map.mp ha
  exact postingBuild_account _ _ _ _ _ p hp

theorem postingBuild_has_debit (cr dr : Account) (c : Commodity) (q g : Rat) :
    dr ∈ (postingBuild cr dr c q g).map (·.account) :=
  List.mem_map.mpr ⟨_, mem_postingBuild_iff.mpr (Or.inr rfl), rfl⟩

theorem qinv_step {v : Commodity} {st st' : BalState} {d : Day} {pd : ProcDay} (hq : QInv st)
    (h : processDay v st d = .ok (st', pd)) : QInv st' := by
  obtain ⟨adj, cur, hc, hadj, _, hv⟩ := processDay_parts2 h
  obtain ⟨k1, k2, k3, k4⟩ := checkDay_ok hc
  simp only at k1 k2 k3 k4
  obtain ⟨n1, n2⟩ := addQty_get (sortTxs d.transactions ++ adj) st.vQty hq.nodup
  have hadj0 : ∀ k, contribSum (adj.flatMap (·.postings)) k = 0 := by
    intro k
    apply contribSum_zero_of_quantity
    intro p hp
    obtain ⟨t, ht, hpt⟩ := List.mem_flatMap.mp hp
    obtain ⟨e, _, _, _, g, hg⟩ := hadj t ht
    rw [hg] at hpt
    exact postingBuild_zero_quantity _ _ _ _ p hpt
  have hget : ∀ k, st'.vQty.get k 0 = st.vQty.get k 0 + contribSum ((sortTxs d.transactions).flatMap (·.postings)) k := by
    intro k
    rw [hv, n2 k, List.flatMap_append, contribSum_append, hadj0 k, Rat.add_zero]
  refine ⟨?_, ?_, ?_⟩
  · intro k
    rw [k3 k, hget k, hq.same k]
  · intro k hk
    rw [hget k]
    rw [k2 k.1] at hk
    by_cases hopen : k.1 ∈ st.chk.accounts ∨ ∃ o ∈ d.openings, o.account = k.1
    · -- closed today: the checker saw all its positions at zero
      have : ¬ ∀ c ∈ d.closings, c.account ≠ k.1 := fun hall => hk ⟨hopen, hall⟩
      have : ∃ c ∈ d.closings, c.account = k.1 := by
        apply Classical.byContradiction
        intro hne
        exact this (fun c hc e => hne ⟨c, hc, e⟩)
      obtain ⟨c, hc, hck⟩ := this
      have := k4 c hc k.2
      rw [hck, hq.same] at this
      exact this
    · have h0 := hq.closed k (fun hm => hopen (Or.inl hm))
      rw [h0, Rat.zero_add]
      apply contribSum_zero_of_account
      intro p hp e
      obtain ⟨t, ht, hpt⟩ := List.mem_flatMap.mp hp
      exact hopen (e ▸ k1 t ht p hpt)
  · rw [hv]; exact n1

theorem openOnL_iff (os : List Open) (cs : List Close) (a : Account) (D : Int) :
    openOnL os cs a D = true ↔
      ∃ o ∈ os, o.account = a ∧ o.date ≤ D ∧ ∀ c ∈ cs, c.account = a → o.date ≤ c.date → ¬ c.date < D := by
  unfold openOnL
  simp only [List.any_eq_true, Bool.and_eq_true, decide_eq_true_eq, List.all_eq_true, Bool.not_eq_true',
    Bool.and_eq_false_imp]
  constructor
  · rintro ⟨o, ho, ⟨h1, h2⟩, h3⟩
    refine ⟨o, ho, h1, h2, ?_⟩
    intro c hc hca hoc
    have := h3 c hc ⟨hca, hoc⟩
    simpa using this
  · rintro ⟨o, ho, h1, h2, h3⟩
    refine ⟨o, ho, ⟨h1, h2⟩, ?_⟩
    intro c hc hca
    simpa using h3 c hc hca.1 hca.2

theorem openOnL_mono {os os' : List Open} {cs : List Close} {a : Account} {D : Int} (hsub : ∀ o ∈ os, o ∈ os')
    (h : openOnL os cs a D = true) : openOnL os' cs a D = true := by
  rw [openOnL_iff] at h ⊢
  obtain ⟨o, ho, h1⟩ := h
  exact ⟨o, hsub o ho, h1⟩

/-- the description `Valuate` writes is recognised -/
theorem adjDesc_built (c : Commodity) (a : Account) :
    adjDesc ("Adjust value of " ++ c ++ " in account " ++ a.name) a = true := by
  unfold adjDesc
  simp only [Bool.and_eq_true, decide_eq_true_eq, String.toList_append, List.isPrefixOf_iff_prefix, List.isSuffixOf_iff_suffix]
  refine ⟨⟨?_, ?_⟩, ?_⟩
  · simp only [List.length_append]; omega
  · exact ⟨c.toList ++ " in account ".toList ++ a.name.toList, by simp [List.append_assoc]⟩
  · exact ⟨"Adjust value of ".toList ++ c.toList, by simp [List.append_assoc]⟩

/-- the journal around the days still to be processed: `O`/`C` are all opens/closes of the journal, `lo` a lower bound
of the remaining dates; closes dated before `lo` are in the past -/
structure Env (O : List Open) (C : List Close) (lo : Int) (rest : List Day) : Prop where
  opens : ∀ d ∈ rest, ∀ o ∈ d.openings, o ∈ O
  closes : ∀ c ∈ C, c.date < lo ∨ ∃ d ∈ rest, c ∈ d.closings
  lb : ∀ d ∈ rest, lo ≤ d.date
  sorted : Sorted rest
  dates : ∀ d ∈ rest, DayDates d

def AccInv (accs : List Account) (O : List Open) (C : List Close) (lo : Int) : Prop :=
  ∀ a ∈ accs, ∃ o ∈ O, o.account = a ∧ o.date < lo ∧ ∀ c ∈ C, c.account = a → c.date < lo → c.date < o.date

theorem env_close_today {O : List Open} {C : List Close} {lo : Int} {d : Day} {rest : List Day}
    (env : Env O C lo (d :: rest)) (c : Close) (hc : c ∈ C) :
    c.date < lo ∨ (c ∈ d.closings ∧ c.date = d.date) ∨ d.date < c.date := by
  rcases env.closes c hc with h | ⟨d', hd', hcd⟩
  · exact Or.inl h
  · rcases List.mem_cons.mp hd' with rfl | hd'
    · exact Or.inr (Or.inl ⟨hcd, (env.dates _ List.mem_cons_self).closes c hcd⟩)
    · have h1 := (env.dates d' (List.mem_cons_of_mem _ hd')).closes c hcd
      have h2 := (List.pairwise_cons.mp env.sorted).1 d' hd'
      exact Or.inr (Or.inr (by omega))

theorem acc1_open {O : List Open} {C : List Close} {lo : Int} {d : Day} {rest : List Day} {accs : List Account}
    (env : Env O C lo (d :: rest)) (inv : AccInv accs O C lo) (a : Account)
    (h : a ∈ accs ∨ ∃ o ∈ d.openings, o.account = a) : openOnL O C a d.date = true := by
  rw [openOnL_iff]
  have hlo := env.lb d List.mem_cons_self
  rcases h with h | ⟨o, ho, hoa⟩
  · obtain ⟨o, hoO, hoa, hod, hcl⟩ := inv a h
    refine ⟨o, hoO, hoa, by omega, ?_⟩
    intro c hc hca hoc hcd
    rcases env_close_today env c hc with h1 | ⟨_, h1⟩ | h1
    · have := hcl c hc hca h1; omega
    · omega
    · omega
  · have hod := (env.dates d List.mem_cons_self).opens o ho
    refine ⟨o, env.opens d List.mem_cons_self o ho, hoa, by omega, ?_⟩
    intro c _ _ hoc hcd
    omega

theorem env_step {O : List Open} {C : List Close} {lo : Int} {d : Day} {rest : List Day}
    (env : Env O C lo (d :: rest)) : Env O C (d.date + 1) rest := by
  refine ⟨fun d' hd' => env.opens d' (List.mem_cons_of_mem _ hd'), ?_, ?_, (List.pairwise_cons.mp env.sorted).2,
    fun d' hd' => env.dates d' (List.mem_cons_of_mem _ hd')⟩
  · intro c hc
    rcases env.closes c hc with h | ⟨d', hd', hcd⟩
    · have := env.lb d List.mem_cons_self; exact Or.inl (by omega)
    · rcases List.mem_cons.mp hd' with rfl | hd'
      · have := (env.dates _ List.mem_cons_self).closes c hcd; exact Or.inl (by omega)
      · exact Or.inr ⟨d', hd', hcd⟩
  · intro d' hd'
    have := (List.pairwise_cons.mp env.sorted).1 d' hd'
    omega

theorem accInv_step {O : List Open} {C : List Close} {lo : Int} {d : Day} {rest : List Day} {accs accs' : List Account}
    (env : Env O C lo (d :: rest)) (inv : AccInv accs O C lo)
    (h : ∀ a, a ∈ accs' ↔ (a ∈ accs ∨ ∃ o ∈ d.openings, o.account = a) ∧ ∀ c ∈ d.closings, c.account ≠ a) :
    AccInv accs' O C (d.date + 1) := by
  intro a ha
  obtain ⟨hopen, hnc⟩ := (h a).mp ha
  have hlo := env.lb d List.mem_cons_self
  rcases hopen with hold | ⟨o, ho, hoa⟩
  · obtain ⟨o, hoO, hoa, hod, hcl⟩ := inv a hold
    refine ⟨o, hoO, hoa, by omega, ?_⟩
    intro c hc hca hcd
    rcases env_close_today env c hc with h1 | ⟨h1, _⟩ | h1
    · exact hcl c hc hca h1
    · exact absurd hca (hnc c h1)
    · omega
  · have hod := (env.dates d List.mem_cons_self).opens o ho
    refine ⟨o, env.opens d List.mem_cons_self o ho, hoa, by omega, ?_⟩
    intro c hc hca hcd
    rcases env_close_today env c hc with h1 | ⟨h1, _⟩ | h1
    · omega
    · exact absurd hca (hnc c h1)
    · omega

theorem qinv_position_open {st : BalState} (hq : QInv st) (e : Position × Rat) (he : e ∈ st.vQty) (hz : e.2 ≠ 0) :
    e.1.1 ∈ st.chk.accounts :=
  Classical.byContradiction fun hn => hz ((AMap.get_of_mem hq.nodup (k := e.1) (v := e.2) he 0).symm.trans (hq.closed e.1 hn))


theorem day_uses {v : Commodity} {O : List Open} {C : List Close} {lo : Int} {d : Day} {rest : List Day}
    {st st' : BalState} {pd : ProcDay} (env : Env O C lo (d :: rest)) (inv : AccInv st.chk.accounts O C lo) (hq : QInv st)
    (h : processDay v st d = .ok (st', pd)) :
    ∀ t ∈ pd.transactions, ∀ a ∈ t.postings.map (·.account), openOnL O C a t.date = true ∨ adjustmentLeg t a = true := by
  obtain ⟨_, _, hc, _, _, _⟩ := processDay_parts2 h
  obtain ⟨k1, _, _, _⟩ := checkDay_ok hc
  simp only at k1
  obtain ⟨user, adjs, hpd, _, hu, hadj⟩ := processDay_txs h
  intro t' ht' a ha
  rw [hpd] at ht'
  rcases List.mem_append.mp ht' with ht' | ht'
  · -- a user transaction: the checker saw every posting account open
    obtain ⟨t, ht, hdate, _, hacc⟩ := hu t' ht'
    rw [hacc] at ha
    obtain ⟨p, hp, hpa⟩ := List.mem_map.mp ha
    have hd : t.date = d.date := (env.dates d List.mem_cons_self).txs t ht
    left
    rw [hdate, hd, ← hpa]
    exact acc1_open env inv p.account (k1 t ((mem_sortTxs _ _).mpr ht) p hp)
  · obtain ⟨t, ⟨e, he, hal, hz, g, hg⟩, hdate, hdesc, hacc⟩ := hadj t' ht'
    have hd : t.date = d.date := by rw [hg]
    rw [hacc, hg] at ha
    rcases postingBuild_accounts _ _ _ _ _ a ha with hav | hap
    · right
      unfold adjustmentLeg
      rw [List.any_eq_true]
      have : e.1.1 ∈ t'.postings.map (·.account) := by
        rw [hacc, hg]; exact postingBuild_has_debit _ _ _ _ _
      obtain ⟨q, hq', hqa⟩ := List.mem_map.mp this
      refine ⟨q, hq', ?_⟩
      simp only [Bool.and_eq_true, decide_eq_true_eq]
      rw [hqa, hdesc, hg]
      exact ⟨⟨hal, hav⟩, adjDesc_built _ _⟩
    · left
      rw [hdate, hd, hap]
      exact acc1_open env inv e.1.1 (Or.inl (qinv_position_open hq e he hz))

end Knut.Beancount

namespace Knut.C16Go2
open Knut Knut.Beancount Knut.BeancountSpec Knut.FactsAgree.TransProcessAll

theorem qinv_relist {st : BalState} (hq : QInv st) {vq : AMap Position Rat} (hr : Relist st.vQty vq) (hn : AMap.NodupKeys vq) :
    QInv { st with vQty := vq } :=
  ⟨fun k => (hq.same k).trans (hr.get k 0).symm, fun k hk => (hr.get k 0).trans (hq.closed k hk), hn⟩

theorem procOrd_uses {v : Commodity} (O : List Open) (C : List Close) {days : List Day} {st : BalState} {pds : List ProcDay}
    (h : ProcOrd v st days pds) : ∀ (lo : Int), Env O C lo days → AccInv st.chk.accounts O C lo → QInv st →
    ∀ pd ∈ pds, ∀ t ∈ pd.transactions, ∀ a ∈ t.postings.map (·.account),
      openOnL O C a t.date = true ∨ adjustmentLeg t a = true := by
  induction h with
  | nil st => intro _ _ _ _ pd hpd; cases hpd
  | @cons st st1 d ds pd pds vq hr hn hday _ ih =>
    intro lo env inv hq pd' hpd'
    have hq' := qinv_relist hq hr hn
    rcases List.mem_cons.mp hpd' with rfl | hpd'
    · exact day_uses (st := { st with vQty := vq }) env inv hq' hday
    · obtain ⟨_, _, hc, _, _, _⟩ := processDay_parts2 hday
      obtain ⟨_, k2, _, _⟩ := checkDay_ok hc
      simp only at k2
      exact ih (d.date + 1) (env_step env) (accInv_step env inv k2) (qinv_step hq' hday) pd' hpd'

end Knut.C16Go2

namespace Knut.C16
open Knut Knut.Beancount Knut.BeancountSpec Knut.FactsAgree.TransProcessAll Knut.C16Go2

/-- the clause from the uses of the processed days, in the environment of the whole journal: all its opens and closes, the
date of its first day, no account open yet, nothing held -/
theorem lifecycle_of_procOrd {v : Commodity} {days : List Day} {pds : List ProcDay} (hs : Sorted days)
    (hdd : ∀ d ∈ days, DayDates d) (hpo : ProcOrd v {} days pds) : lifecycleOKExceptValuation (entries pds) = true := by
  obtain ⟨_, fo, fc⟩ := processed_fields (procOrd_processed hpo)
  let lo : Int := match days with | [] => 0 | d :: _ => d.date
  have env : Env (days.flatMap (·.openings)) (days.flatMap (·.closings)) lo days := by
    refine ⟨fun d hd o ho => List.mem_flatMap.mpr ⟨d, hd, ho⟩, ?_, ?_, hs, hdd⟩
    · intro c hc
      obtain ⟨d, hd, hcd⟩ := List.mem_flatMap.mp hc
      exact Or.inr ⟨d, hd, hcd⟩
    · intro d hd
      cases days with
      | nil => cases hd
      | cons d0 rest =>
        rcases List.mem_cons.mp hd with rfl | hd
        · exact Int.le_refl _
        · have := (List.pairwise_cons.mp hs).1 d hd
          show d0.date ≤ d.date
          omega
  have inv : AccInv ({} : BalState).chk.accounts (days.flatMap (·.openings)) (days.flatMap (·.closings)) lo := by
    intro a ha; cases ha
  have hq : QInv {} := ⟨fun _ => rfl, fun _ _ => rfl, List.Pairwise.nil⟩
  have huses := procOrd_uses _ _ hpo lo env inv hq
  unfold lifecycleOKExceptValuation unopenedUses
  rw [List.all_eq_true]
  intro u hu
  obtain ⟨t, ht, hu⟩ := List.mem_flatMap.mp hu
  obtain ⟨p, hp, rfl⟩ := List.mem_map.mp hu
  obtain ⟨hp, hnot⟩ := List.mem_filter.mp hp
  unfold entries at ht
  rw [txsOf_entriesFrom] at ht
  obtain ⟨pd, hpd, ht⟩ := List.mem_flatMap.mp ht
  rcases huses pd hpd t ((mem_sortTxs _ _).mp ht) p.account (List.mem_map.mpr ⟨p, hp, rfl⟩) with hopen | hadj
  · -- open in the journal, hence open in the ledger
    exfalso
    have : openOn (entries pds) p.account t.date = true := by
      unfold openOn entries
      rw [closesOf_entriesFrom, fc]
      apply openOnL_mono _ hopen
      intro o ho
      rw [← fo] at ho
      exact opensOf_entriesFrom_sub [] pds o ho
    rw [this] at hnot
    cases hnot
  · exact hadj

end Knut.C16

namespace Knut.Beancount
open Knut Knut.BeancountSpec

/-- **all uses**: every account used by a posting of the processed journal is open on the day of use, or is the
generated valuation account of a value adjustment -/
theorem uses_from {v : Commodity} (O : List Open) (C : List Close) : ∀ (rest : List Day) (st : BalState)
    (pds : List ProcDay) (lo : Int), processFrom v st rest = .ok pds → Env O C lo rest →
    AccInv st.chk.accounts O C lo → QInv st →
    ∀ pd ∈ pds, ∀ t ∈ pd.transactions, ∀ a ∈ t.postings.map (·.account),
      openOnL O C a t.date = true ∨ adjustmentLeg t a = true := by
  intro rest st pds lo h env inv hq
  exact C16Go2.procOrd_uses O C (C16Go2.ProcOrd_of_processFrom v rest st pds hq.nodup h) lo env inv hq

end Knut.Beancount
