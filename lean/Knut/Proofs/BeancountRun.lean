import Knut.Proofs.Beancount
import Knut.Proofs.Relist
/-! The run of the model behind `knut transcode` with `vQty` re-listed before each day (`ProcOrd`: `Valuate.DayStart` ranges over
a Go map, the re-listing stands for every iteration order), and the clauses of C16 that need nothing of the checker.
`Beancount.processFrom` is the run that re-lists nothing, so what holds of every `ProcOrd` holds of it (`Properties/C16.lean`) and of
what the translated stages deliver (`FactsAgree/TransProcessAllTranscode.lean`, `Properties/C16Go2.lean`). -/

namespace Knut.FactsAgree.TransProcessAll
open Knut

inductive ProcOrd (v : Knut.Commodity) : BalState → List Knut.Day → List Beancount.ProcDay → Prop
  | nil (st : BalState) : ProcOrd v st [] []
  | cons {st st1 : BalState} {d : Knut.Day} {ds : List Knut.Day} {pd : Beancount.ProcDay} {pds : List Beancount.ProcDay}
      (vq : Knut.AMap Position Rat) : Relist st.vQty vq → Knut.AMap.NodupKeys vq →
      Beancount.processDay v { st with vQty := vq } d = .ok (st1, pd) → ProcOrd v st1 ds pds → ProcOrd v st (d :: ds) (pd :: pds)

end Knut.FactsAgree.TransProcessAll

namespace Knut.C16Go2
open Knut Knut.Beancount Knut.BeancountSpec Knut.FactsAgree.TransProcessAll

theorem processDay_nodup {v : Commodity} {st st' : BalState} {d : Day} {pd : ProcDay} (hn : AMap.NodupKeys st.vQty)
    (h : processDay v st d = .ok (st', pd)) : AMap.NodupKeys st'.vQty := by
  obtain ⟨_, _, _, _, _, hv⟩ := processDay_parts2 h
  rw [hv]; exact Balance.addQty_nodup hn _

theorem ProcOrd_of_processFrom (v : Commodity) : ∀ (days : List Day) (st : BalState) (pds : List ProcDay),
    AMap.NodupKeys st.vQty → processFrom v st days = .ok pds → ProcOrd v st days pds := by
  intro days
  induction days with
  | nil => intro st pds _ h; obtain rfl := processFrom_nil_ok h; exact .nil st
  | cons d rest ih =>
    intro st pds hn h
    obtain ⟨st1, pd, pds', hd, hr, rfl⟩ := processFrom_cons_ok h
    exact .cons st.vQty (.refl _) hn hd (ih st1 pds' (processDay_nodup hn hd) hr)

theorem ProcOrd_of_process (v : Commodity) (days : List Day) (pds : List ProcDay) (h : process v days = .ok pds) :
    ProcOrd v {} days pds :=
  ProcOrd_of_processFrom v days {} pds List.Pairwise.nil h

theorem procOrd_paired {v : Commodity} {days : List Day} {st : BalState} {pds : List ProcDay} (h : ProcOrd v st days pds) :
    (∀ d ∈ days, ∀ t ∈ d.transactions, TxPaired t) → ∀ pd ∈ pds, ∀ t ∈ pd.transactions, TxPaired t := by
  induction h with
  | nil st => intro _ pd hpd; cases hpd
  | cons vq _ _ hday _ ih =>
    intro hp pd' hpd'
    rcases List.mem_cons.mp hpd' with rfl | hpd'
    · exact processDay_paired (hp _ List.mem_cons_self) hday
    · exact ih (fun d' hd' => hp d' (List.mem_cons_of_mem _ hd')) pd' hpd'

theorem procOrd_processed {v : Commodity} {days : List Day} {st : BalState} {pds : List ProcDay} (h : ProcOrd v st days pds) :
    Processed v days pds := by
  induction h with
  | nil st => exact .nil
  | cons vq _ _ hday _ ih => exact .cons ⟨_, _, hday⟩ ih

end Knut.C16Go2

namespace Knut.C16
open Knut Knut.Beancount Knut.BeancountSpec Knut.FactsAgree.TransProcessAll Knut.C16Go2

theorem entries_of_ok {v : Commodity} {days : List Day} {es : List BEntry} (h : transcodeEntries v days = .ok es) :
    ∃ pds, process v days = .ok pds ∧ ProcOrd v {} days pds ∧ es = entries pds := by
  unfold transcodeEntries at h
  cases hpr : process v days with
  | error e => rw [hpr] at h; cases h
  | ok pds =>
    rw [hpr] at h; simp only [Except.map] at h
    injection h with h
    exact ⟨pds, rfl, ProcOrd_of_process v days pds hpr, h.symm⟩

theorem balanced_entries {pds : List ProcDay} (hp : ∀ pd ∈ pds, ∀ t ∈ pd.transactions, TxPaired t) :
    balanced (entries pds) = true := by
  unfold balanced entries
  rw [txsOf_entriesFrom, List.all_eq_true]
  intro t ht
  obtain ⟨pd, hpd, ht⟩ := List.mem_flatMap.mp ht
  exact decide_eq_true (sum_values_paired (hp pd hpd t ((mem_sortTxs _ _).mp ht)))

theorem chronological_entries {v : Commodity} {days : List Day} {pds : List ProcDay} (hP : Processed v days pds)
    (hs : Sorted days) (hd : ∀ d ∈ days, DayDates d) : chronological (entries pds) = true :=
  chronological_of_pairwise _ (entriesFrom_pairwise pds (processed_sorted hP hs) (processed_dates hP hd) [])

theorem tx_bijection_entries (pds : List ProcDay) :
    (txsOf (entries pds)).Perm (pds.flatMap (·.transactions)) ∧
      sameTxs (txsOf (entries pds)) (pds.flatMap (·.transactions)) = true := by
  have hperm : (txsOf (entries pds)).Perm (pds.flatMap (·.transactions)) := by
    unfold entries
    rw [txsOf_entriesFrom]
    exact MapSum.flatMap_perm_left _ (fun d _ => sortTxs_perm d.transactions)
  refine ⟨hperm, ?_⟩
  unfold sameTxs
  rw [List.isPerm_iff]
  exact hperm.map _

end Knut.C16
