import Knut.Model.Journal
import Knut.Proofs.ListSorted
import Knut.Proofs.Sim
/-!
# The journal builder groups directives by day, independently of their order

`Builder.Day` is the sorted insert of a date (`insertDay`, an instance of `upsertBy`), `Builder.Add` files a directive under the day of its
date (`addToDays`); a day of the built journal holds, kind by kind, the directives of its date in the order they were added
(`ofList_spec`: `contentOn k` of the built days is `collect k` of the directives), so two orders of the same directives build days that
differ by a permutation of their contents (`built_day_perm`, `ofList_perm_raw`).  The dates a command registers besides
(`dates.foldl insertDay days`) add empty days and touch no other; the raw directive list of a parsed file (`rawDirs`, `ofList_perm_raw`, `ofList_shape`) comes last.
-/
namespace Knut

/-! ### `Builder.Day`: the sorted insert of a date -/

def findDay (days : List Day) (date : Int) : Option Day := days.find? (fun d => d.date = date)

def Sorted (days : List Day) : Prop := List.Pairwise (fun a b => a.date < b.date) days

/-- `Builder.Day(d)` is the sorted insert by date that creates an empty day and touches no existing one -/
theorem insertDay_eq_upsertBy (date : Int) : ∀ days : List Day,
    insertDay days date = upsertBy (·.date) date { date := date } id days
  | [] => rfl
  | d :: rest => by rw [insertDay, upsertBy, insertDay_eq_upsertBy date rest]; rfl

theorem insertDay_cases (days : List Day) (date : Int) :
    insertDay days date = days ∨ ∃ pre post, days = pre ++ post ∧ insertDay days date = pre ++ { date := date } :: post := by
  rw [insertDay_eq_upsertBy]
  exact upsertBy_id_cases _ date _ days

theorem insertDay_mem {l : List Day} {date : Int} {d : Day} (h : d ∈ insertDay l date) : d ∈ l ∨ d = { date := date } := by
  rcases insertDay_cases l date with e | ⟨pre, post, rfl, e⟩ <;> rw [e] at h
  · exact .inl h
  · rcases List.mem_append.mp h with h | h
    · exact .inl (List.mem_append_left _ h)
    · exact (List.mem_cons.mp h).elim .inr fun h => .inl (List.mem_append_right _ h)

theorem insertDay_subset (days : List Day) (x : Int) : ∀ d ∈ days, d ∈ insertDay days x := by
  intro d hd
  rcases insertDay_cases days x with e | ⟨pre, post, rfl, e⟩ <;> rw [e]
  · exact hd
  · exact (List.mem_append.mp hd).elim (List.mem_append_left _) fun h => List.mem_append_right _ (List.mem_cons_of_mem _ h)

theorem insertDay_mem_dates (days : List Day) (date x : Int) :
    x ∈ (insertDay days date).map (·.date) ↔ x = date ∨ x ∈ days.map (·.date) := by
  rw [insertDay_eq_upsertBy]
  exact map_key_upsertBy (mk := { date := date }) (upd := id) rfl (fun _ => rfl) days x

theorem insertDay_sorted (days : List Day) (date : Int) (h : Sorted days) : Sorted (insertDay days date) := by
  rw [insertDay_eq_upsertBy]
  exact List.pairwise_map.mp (pairwise_upsertBy (mk := { date := date }) (upd := id) rfl (fun _ => rfl) (List.pairwise_map.mpr h))

/-- the dates of sorted days ascend strictly (so two sorted day lists with the same dates have the same date sequence:
`MapSum.increasing_ext`) -/
theorem sorted_dates (days : List Day) (h : Sorted days) : List.Pairwise (· < ·) (days.map (·.date)) :=
  List.pairwise_map.mpr h

def DaysAll (P : Int → Transaction → Prop) (days : List Day) : Prop :=
  ∀ d ∈ days, ∀ t ∈ d.transactions, P d.date t

theorem insertDay_all (P : Int → Transaction → Prop) (days : List Day) (date : Int) (h : DaysAll P days) :
    DaysAll P (insertDay days date) := by
  intro d hd t ht
  -- a day of the result is a day there was, or the empty day, which has no transaction
  rcases insertDay_mem hd with hd | rfl
  · exact h d hd t ht
  · cases ht

theorem insertDay_rel {E : Day → Day → Prop} (hdate : ∀ {d d'}, E d d' → d.date = d'.date)
    (hnew : ∀ date, E { date := date } { date := date }) {l l' : List Day} (h : List.Forall₂ E l l') (date : Int) :
    List.Forall₂ E (insertDay l date) (insertDay l' date) := by
  rw [insertDay_eq_upsertBy, insertDay_eq_upsertBy]
  exact upsertBy_forall₂ (R := E) (hkey := hdate) (hmk := hnew date) (hupd := id) h

/-! ### `Builder.Add`: the directive goes to the day of its date -/

def txsOn (days : List Day) (date : Int) : List Transaction := ((findDay days date).map (·.transactions)).getD []
def opensOn (days : List Day) (date : Int) : List Open := ((findDay days date).map (·.openings)).getD []
def closesOn (days : List Day) (date : Int) : List Close := ((findDay days date).map (·.closings)).getD []
def pricesOn (days : List Day) (date : Int) : List Price := ((findDay days date).map (·.prices)).getD []
def assertsOn (days : List Day) (date : Int) : List Assertion := ((findDay days date).map (·.assertions)).getD []

theorem findDay_cons (d : Day) (rest : List Day) (x : Int) :
    findDay (d :: rest) x = if d.date = x then some d else findDay rest x := by
  simp only [findDay, List.find?_cons]
  by_cases h : d.date = x <;> simp [h]

theorem findDay_self (days : List Day) (hs : Sorted days) (d : Day) (hd : d ∈ days) : findDay days d.date = some d := by
  induction days with
  | nil => cases hd
  | cons x rest ih =>
    unfold Sorted at hs
    rw [List.pairwise_cons] at hs
    rcases List.mem_cons.mp hd with rfl | hd
    · rw [findDay_cons, if_pos rfl]
    · rw [findDay_cons, if_neg (by have := hs.1 d hd; omega)]
      exact ih hs.2 hd

theorem findDay_append (a b : List Day) (y : Int) : findDay (a ++ b) y = (findDay a y).or (findDay b y) := by
  unfold findDay; rw [List.find?_append]

theorem findDay_none_of_ne {l : List Day} {y : Int} (h : ∀ d ∈ l, d.date ≠ y) : findDay l y = none :=
  List.find?_eq_none.mpr fun d hd => by simpa using h d hd

theorem Day.add_date (d : Day) (x : Directive) : (d.add x).date = d.date := by
  cases x <;> rfl

theorem map_sorted (days : List Day) (f : Day → Day) (hf : ∀ d, (f d).date = d.date) (h : Sorted days) :
    Sorted (days.map f) := by
  unfold Sorted at *
  rw [List.pairwise_map]
  exact h.imp (fun hab => by rw [hf, hf]; exact hab)

theorem addToDays_sorted (days : List Day) (x : Directive) (h : Sorted days) : Sorted (addToDays days x) := by
  unfold addToDays
  apply map_sorted _ _ _ (insertDay_sorted days x.date h)
  intro d; split
  · exact Day.add_date d x
  · rfl

theorem map_add_of_ne (x : Directive) {l : List Day} (h : ∀ d ∈ l, d.date ≠ x.date) :
    l.map (fun d => if d.date = x.date then d.add x else d) = l :=
  (List.map_congr_left fun d hd => if_neg (h d hd)).trans (List.map_id _)

theorem addToDays_split {days : List Day} (hs : Sorted days) (x : Directive) :
    ∃ pre post d, (∀ a ∈ pre, a.date < x.date) ∧ (∀ a ∈ post, x.date < a.date) ∧ d.date = x.date ∧
      addToDays days x = pre ++ d.add x :: post ∧
      ((days = pre ++ post ∧ d = { date := x.date }) ∨ days = pre ++ d :: post) := by
  obtain ⟨pre, post, hpre, hpost, h⟩ := upsertBy_split (k := x.date) (mk := ({ date := x.date } : Day)) (upd := id)
    (List.pairwise_map.mpr hs)
  have e1 := map_add_of_ne x (l := pre) fun d hd => Int.ne_of_lt (hpre d hd)
  have e2 := map_add_of_ne x (l := post) fun d hd => (Int.ne_of_lt (hpost d hd)).symm
  unfold addToDays
  rw [insertDay_eq_upsertBy]
  rcases h with ⟨e, eu⟩ | ⟨d, hd, e, eu⟩
  · exact ⟨pre, post, _, hpre, hpost, rfl, by rw [eu, List.map_append, List.map_cons, e1, e2, if_pos rfl], .inl ⟨e, rfl⟩⟩
  · exact ⟨pre, post, d, hpre, hpost, hd, by rw [eu, List.map_append, List.map_cons, e1, e2, id, if_pos hd], .inr e⟩

theorem findDay_addToDays (days : List Day) (hs : Sorted days) (x : Directive) (y : Int) :
    findDay (addToDays days x) y =
      if y = x.date then some (((findDay days y).getD { date := x.date }).add x) else findDay days y := by
  obtain ⟨pre, post, d, hpre, hpost, hd, e, hc⟩ := addToDays_split hs x
  have hda : (d.add x).date = x.date := (Day.add_date d x).trans hd
  rw [e, findDay_append, findDay_cons]
  by_cases hy : y = x.date
  · subst hy
    have n1 : findDay pre x.date = none := findDay_none_of_ne fun a ha => Int.ne_of_lt (hpre a ha)
    have n2 : findDay post x.date = none := findDay_none_of_ne fun a ha => (Int.ne_of_lt (hpost a ha)).symm
    rw [if_pos rfl, if_pos hda, n1, Option.none_or]
    rcases hc with ⟨rfl, rfl⟩ | rfl
    · rw [findDay_append, n1, n2]; rfl
    · rw [findDay_append, n1, findDay_cons, if_pos hd]; rfl
  · rw [if_neg hy, if_neg (fun h => hy (h.symm.trans hda))]
    rcases hc with ⟨rfl, _⟩ | rfl
    · rw [findDay_append]
    · rw [findDay_append, findDay_cons, if_neg (fun h => hy (h.symm.trans hd))]

theorem mem_dates_addToDays (days : List Day) (x : Directive) (y : Int) :
    y ∈ (addToDays days x).map (·.date) ↔ y = x.date ∨ y ∈ days.map (·.date) := by
  unfold addToDays
  rw [List.map_map]
  have : ((fun d : Day => d.date) ∘ fun d => if d.date = x.date then d.add x else d) = fun d => d.date := by
    funext d; simp only [Function.comp]; split
    · exact Day.add_date d x
    · rfl
  rw [this]
  exact insertDay_mem_dates days x.date y

/-! ### `Builder.add` over a list of directives: `ofList` -/

theorem Builder.add_days (b : Builder) (x : Directive) : (b.add x).days = addToDays b.days x := by
  unfold Builder.add; cases x <;> rfl

theorem ofList_snoc (pre : List Directive) (x : Directive) :
    Builder.ofList (pre ++ [x]) = (Builder.ofList pre).add x := by
  simp only [Builder.ofList, List.foldl_append, List.foldl_cons, List.foldl_nil]

theorem ofList_induction {P : List Directive → Builder → Prop} (nil : P [] {})
    (snoc : ∀ pre x, P pre (Builder.ofList pre) → P (pre ++ [x]) ((Builder.ofList pre).add x)) :
    ∀ ds, P ds (Builder.ofList ds) := by
  suffices h : ∀ ds pre, P pre (Builder.ofList pre) → P (pre ++ ds) (Builder.ofList (pre ++ ds)) from fun ds => h ds [] nil
  intro ds
  induction ds with
  | nil => intro pre h; rwa [List.append_nil]
  | cons x rest ih =>
    intro pre h
    have := ih (pre ++ [x]) (ofList_snoc pre x ▸ snoc pre x h)
    rwa [List.append_assoc] at this

theorem ofList_sorted (ds : List Directive) : Sorted (Builder.ofList ds).days :=
  ofList_induction (P := fun _ b => Sorted b.days) List.Pairwise.nil
    (fun _ x h => by rw [Builder.add_days]; exact addToDays_sorted _ x h) ds

theorem ofList_dates (ds : List Directive) (y : Int) :
    y ∈ (Builder.ofList ds).days.map (·.date) ↔ y ∈ ds.map (·.date) :=
  ofList_induction (P := fun pre b => y ∈ b.days.map (·.date) ↔ y ∈ pre.map (·.date)) Iff.rfl
    (fun pre x h => by
      rw [Builder.add_days, mem_dates_addToDays, h, List.map_append, List.mem_append, List.map_singleton,
        List.mem_singleton, or_comm]) ds

/-! ### What a day holds, for the five kinds of directive at once -/

/-- a kind of directive: how to recognise it and where a day stores it -/
structure Kind (α : Type) where
  pick : Directive → Option α
  proj : Day → List α
  add : ∀ (d : Day) (x : Directive), proj (d.add x) = proj d ++ (pick x).toList
  empty : ∀ date, proj { date := date } = []

def txKind : Kind Transaction := ⟨fun x => match x with | .tx t => some t | _ => none, (·.transactions),
  by intro d x; cases x <;> simp [Day.add], by intro _; rfl⟩
def openKind : Kind Open := ⟨fun x => match x with | .opening t => some t | _ => none, (·.openings),
  by intro d x; cases x <;> simp [Day.add], by intro _; rfl⟩
def closeKind : Kind Close := ⟨fun x => match x with | .closing t => some t | _ => none, (·.closings),
  by intro d x; cases x <;> simp [Day.add], by intro _; rfl⟩
def priceKind : Kind Price := ⟨fun x => match x with | .price t => some t | _ => none, (·.prices),
  by intro d x; cases x <;> simp [Day.add], by intro _; rfl⟩
def assertKind : Kind Assertion := ⟨fun x => match x with | .assertion t => some t | _ => none, (·.assertions),
  by intro d x; cases x <;> simp [Day.add], by intro _; rfl⟩

def contentOn {α : Type} (k : Kind α) (days : List Day) (y : Int) : List α := ((findDay days y).map k.proj).getD []

def collect {α : Type} (k : Kind α) (ds : List Directive) (y : Int) : List α :=
  ds.filterMap (fun x => if x.date = y then k.pick x else none)

theorem collect_cons {α : Type} (k : Kind α) (x : Directive) (rest : List Directive) (y : Int) :
    collect k (x :: rest) y = (if x.date = y then (k.pick x).toList else []) ++ collect k rest y := by
  unfold collect
  rw [List.filterMap_cons]
  by_cases hy : x.date = y
  · simp only [hy, if_true]
    cases k.pick x <;> rfl
  · simp only [hy, if_false]; rfl

theorem collect_append {α : Type} (k : Kind α) (a b : List Directive) (y : Int) :
    collect k (a ++ b) y = collect k a y ++ collect k b y := by
  unfold collect; exact List.filterMap_append

theorem collect_nil_of_ne {α : Type} (k : Kind α) (ds : List Directive) (y : Int) (h : ∀ x ∈ ds, x.date ≠ y) :
    collect k ds y = [] := by
  unfold collect
  apply List.filterMap_eq_nil_iff.mpr
  intro x hx
  simp [h x hx]

theorem collect_same {α : Type} (k : Kind α) (ds : List Directive) (y : Int) (h : ∀ x ∈ ds, x.date = y) :
    collect k ds y = ds.filterMap k.pick := by
  unfold collect
  induction ds with
  | nil => rfl
  | cons x rest ih =>
    simp only [List.filterMap_cons, h x List.mem_cons_self, if_true]
    rw [ih (fun z hz => h z (List.mem_cons_of_mem _ hz))]

theorem mem_collect {α : Type} (k : Kind α) (ds : List Directive) (y : Int) (a : α) :
    a ∈ collect k ds y ↔ ∃ x ∈ ds, x.date = y ∧ k.pick x = some a := by
  unfold collect
  simp only [List.mem_filterMap]
  constructor
  · rintro ⟨x, hx, h⟩
    split at h
    · exact ⟨x, hx, by assumption, h⟩
    · cases h
  · rintro ⟨x, hx, hd, h⟩
    exact ⟨x, hx, by simp [hd, h]⟩

theorem contentOn_add {α : Type} (k : Kind α) (days : List Day) (hs : Sorted days) (x : Directive) (y : Int) :
    contentOn k (addToDays days x) y = contentOn k days y ++ (if x.date = y then (k.pick x).toList else []) := by
  unfold contentOn
  rw [findDay_addToDays days hs]
  by_cases hy : y = x.date
  · subst hy
    simp only [if_true]
    cases hf : findDay days x.date with
    | none => simp [k.add, k.empty]
    | some d => simp [k.add]
  · have : ¬ x.date = y := fun e => hy e.symm
    simp [hy, this]

theorem contentOn_self {α : Type} (k : Kind α) (days : List Day) (hs : Sorted days) (d : Day) (hd : d ∈ days) :
    contentOn k days d.date = k.proj d := by
  unfold contentOn; rw [findDay_self days hs d hd]; rfl

/-- **grouping**: the builder's days are sorted by date, and each day holds exactly the directives of that
date, per kind in input order -/
theorem ofList_spec {α : Type} (k : Kind α) (ds : List Directive) :
    Sorted (Builder.ofList ds).days ∧ ∀ y, contentOn k (Builder.ofList ds).days y = collect k ds y := by
  refine ofList_induction (P := fun pre b => Sorted b.days ∧ ∀ y, contentOn k b.days y = collect k pre y)
    ⟨List.Pairwise.nil, fun _ => rfl⟩ (fun pre x ⟨hs, hc⟩ => ⟨?_, fun y => ?_⟩) ds
  · rw [Builder.add_days]; exact addToDays_sorted _ _ hs
  · rw [Builder.add_days, contentOn_add k _ hs, hc y, collect_append, collect_cons]
    exact congrArg _ (List.append_nil _).symm

theorem built_proj {α : Type} (k : Kind α) (ds : List Directive) (d : Day) (hd : d ∈ (Builder.ofList ds).build) :
    k.proj d = collect k ds d.date := by
  have hs := ofList_spec k ds
  rw [← contentOn_self k _ hs.1 d hd, hs.2]

theorem built_day_perm (ds ds' : List Directive) (hp : ds.Perm ds') {d d' : Day} (hd : d ∈ (Builder.ofList ds).days)
    (hd' : d' ∈ (Builder.ofList ds').days) (hdate : d.date = d'.date) {α : Type} (k : Kind α) :
    (k.proj d).Perm (k.proj d') := by
  rw [built_proj k ds d hd, built_proj k ds' d' hd', hdate]
  exact hp.filterMap _

theorem txKind_pick_eq_some (x : Directive) (t : Transaction) : txKind.pick x = some t ↔ x = .tx t := by
  cases x <;> simp only [txKind, Option.some.injEq, Directive.tx.injEq, reduceCtorEq]

theorem assertKind_pick_eq_some (x : Directive) (a : Assertion) : assertKind.pick x = some a ↔ x = .assertion a := by
  cases x <;> simp only [assertKind, Option.some.injEq, Directive.assertion.injEq, reduceCtorEq]

theorem mem_built {α : Type} (k : Kind α) (mk : α → Directive) (hk : ∀ x a, k.pick x = some a ↔ x = mk a) (ds : List Directive)
    (d : Day) (hd : d ∈ (Builder.ofList ds).build) (a : α) : a ∈ k.proj d ↔ mk a ∈ ds ∧ (mk a).date = d.date := by
  rw [built_proj k ds d hd, mem_collect]
  constructor
  · rintro ⟨x, hx, hy, hp⟩
    rw [(hk x a).mp hp] at hx hy
    exact ⟨hx, hy⟩
  · rintro ⟨hx, hy⟩
    exact ⟨_, hx, hy, (hk _ a).mpr rfl⟩

theorem mem_built_tx (ds : List Directive) (d : Day) (hd : d ∈ (Builder.ofList ds).build) (t : Transaction) :
    t ∈ d.transactions ↔ Directive.tx t ∈ ds ∧ t.date = d.date :=
  mem_built txKind .tx txKind_pick_eq_some ds d hd t

theorem mem_built_assertion (ds : List Directive) (d : Day) (hd : d ∈ (Builder.ofList ds).build) (a : Assertion) :
    a ∈ d.assertions ↔ Directive.assertion a ∈ ds ∧ a.date = d.date :=
  mem_built assertKind .assertion assertKind_pick_eq_some ds d hd a

abbrev txsIn (ds : List Directive) : List Transaction := ds.filterMap txKind.pick

theorem mem_txsIn {ds : List Directive} {t : Transaction} : t ∈ txsIn ds ↔ Directive.tx t ∈ ds := by
  rw [txsIn, List.mem_filterMap]
  exact ⟨fun ⟨x, hx, hp⟩ => (txKind_pick_eq_some x t).mp hp ▸ hx, fun h => ⟨_, h, rfl⟩⟩

theorem pick_filter_date (y : Int) (x : Directive) :
    (if x.date = y then txKind.pick x else none) = (txKind.pick x).filter (fun t => decide (t.date = y)) := by
  cases x with
  -- the two `if`s carry different `Decidable` instances
  | tx t => simp only [txKind, Directive.date, Option.filter, decide_eq_true_eq]; exact ite_congr rfl (fun _ => rfl) (fun _ => rfl)
  | _ => exact ite_self _

theorem collect_tx (ds : List Directive) (y : Int) : collect txKind ds y = (txsIn ds).filter (fun t => decide (t.date = y)) := by
  unfold collect txsIn
  rw [List.filter_filterMap]
  exact congrArg (List.filterMap · ds) (funext (pick_filter_date y))

/-! ### The registered dates: `dates.foldl insertDay days` -/

theorem ensureDays_subset (dates : List Int) (days : List Day) (d : Day) (hd : d ∈ days) : d ∈ dates.foldl insertDay days :=
  foldl_inv (d ∈ ·) dates days (fun l x _ h => insertDay_subset l x d h) hd

theorem foldl_insertDay_mem (dates : List Int) :
    ∀ (days : List Day) (y : Int), y ∈ (dates.foldl insertDay days).map (·.date) ↔ y ∈ dates ∨ y ∈ days.map (·.date) := by
  induction dates with
  | nil => intro days y; simp
  | cons x rest ih =>
    intro days y
    simp only [List.foldl_cons, ih, insertDay_mem_dates, List.mem_cons, or_assoc, or_left_comm]

theorem foldl_insertDay_sorted (dates : List Int) (days : List Day) (h : Sorted days) :
    Sorted (dates.foldl insertDay days) :=
  foldl_inv Sorted dates days (fun days x _ h => insertDay_sorted days x h) h

theorem foldl_insertDay_all (P : Int → Transaction → Prop) (dates : List Int) (days : List Day)
    (h : DaysAll P days) : DaysAll P (dates.foldl insertDay days) :=
  foldl_inv (DaysAll P) dates days (fun days x _ h => insertDay_all P days x h) h

theorem ensureDays_rel {E : Day → Day → Prop} (hdate : ∀ {d d'}, E d d' → d.date = d'.date)
    (hnew : ∀ date, E { date := date } { date := date }) (dates : List Int) {l l' : List Day}
    (h : List.Forall₂ E l l') : List.Forall₂ E (dates.foldl insertDay l) (dates.foldl insertDay l') :=
  foldl_rel (List.Forall₂ E) (fun _ _ x h => insertDay_rel hdate hnew h x) dates l l' h

end Knut

namespace Knut.FromSyntax
open Knut

/-- the directives of a day, transactions in insertion order -/
def rawDirs (d : Day) : List Directive :=
  d.prices.map .price ++ (d.openings.map .opening ++ (d.transactions.map .tx ++
    (d.assertions.map .assertion ++ d.closings.map .closing)))

theorem perm_mid {α : Type} {a : α} {l₂ r : List α} (l₁ : List α) (h : l₂.Perm (a :: r)) : (l₁ ++ l₂).Perm (a :: (l₁ ++ r)) :=
  (h.append_left l₁).trans List.perm_middle

/-- the added directive sits at the end of its group, one `perm_mid` per group before it -/
theorem rawDirs_add (d : Day) (x : Directive) : (rawDirs (d.add x)).Perm (x :: rawDirs d) := by
  cases x <;> simp only [Day.add, rawDirs, List.map_append, List.map_cons, List.map_nil, List.append_assoc, List.cons_append,
    List.nil_append]
  case price => exact List.perm_middle
  case opening => exact perm_mid _ List.perm_middle
  case tx => exact perm_mid _ (perm_mid _ List.perm_middle)
  case assertion => exact perm_mid _ (perm_mid _ (perm_mid _ List.perm_middle))
  case closing => exact perm_mid _ (perm_mid _ (perm_mid _ (perm_mid _ (List.perm_append_singleton _ _))))

theorem rawDirs_empty (date : Int) : rawDirs { date := date } = [] := rfl

theorem addToDays_perm (days : List Day) (hs : Sorted days) (x : Directive) :
    ((addToDays days x).flatMap rawDirs).Perm (x :: days.flatMap rawDirs) := by
  obtain ⟨pre, post, d, _, _, _, e, h⟩ := addToDays_split hs x
  have hp : ((pre ++ d.add x :: post).flatMap rawDirs).Perm (x :: (pre.flatMap rawDirs ++ (rawDirs d ++ post.flatMap rawDirs))) := by
    rw [List.flatMap_append, List.flatMap_cons]
    exact perm_mid _ ((rawDirs_add d x).append_right _)
  rw [e]
  rcases h with ⟨rfl, rfl⟩ | rfl
  · rwa [rawDirs_empty, List.nil_append, ← List.flatMap_append] at hp
  · rwa [← List.flatMap_cons, ← List.flatMap_append] at hp

theorem ofList_perm_raw (ds : List Directive) : ((Builder.ofList ds).days.flatMap rawDirs).Perm ds :=
  ofList_induction (P := fun pre b => (b.days.flatMap rawDirs).Perm pre) (List.Perm.refl _)
    (fun pre x h => by
      rw [Builder.add_days]
      exact (addToDays_perm _ (ofList_sorted pre) x).trans
        ((h.cons x).trans (List.perm_append_singleton x pre).symm)) ds

theorem addToDays_shape (days : List Day) (x : Directive)
    (h : ∀ d ∈ days, rawDirs d ≠ [] ∧ ∀ y ∈ rawDirs d, y.date = d.date) :
    ∀ d ∈ addToDays days x, rawDirs d ≠ [] ∧ ∀ y ∈ rawDirs d, y.date = d.date := by
  intro d' hd'
  obtain ⟨d, hd, rfl⟩ := List.mem_map.mp hd'
  have hd := insertDay_mem hd
  split
  · rename_i he
    have hp := rawDirs_add d x
    refine ⟨fun e => by rw [e] at hp; exact List.cons_ne_nil _ _ hp.nil_eq.symm, fun y hy => ?_⟩
    rw [Day.add_date]
    rcases List.mem_cons.mp (hp.mem_iff.mp hy) with rfl | hy
    · exact he.symm
    · rcases hd with hd | rfl
      · exact (h d hd).2 y hy
      · cases hy
  · rcases hd with hd | rfl
    · exact h d hd
    · exact absurd rfl ‹_›

theorem ofList_shape (ds : List Directive) :
    ∀ d ∈ (Builder.ofList ds).days, rawDirs d ≠ [] ∧ ∀ y ∈ rawDirs d, y.date = d.date :=
  ofList_induction (P := fun _ b => ∀ d ∈ b.days, rawDirs d ≠ [] ∧ ∀ y ∈ rawDirs d, y.date = d.date)
    (fun _ hd => nomatch hd) (fun _ x h => by rw [Builder.add_days]; exact addToDays_shape _ x h) ds

end Knut.FromSyntax

namespace Knut

theorem ofList_all (P : Int → Transaction → Prop) (ds : List Directive)
    (hp : ∀ t, Directive.tx t ∈ ds → P t.date t) : DaysAll P (Builder.ofList ds).days := by
  intro d hd t ht
  have hraw : Directive.tx t ∈ FromSyntax.rawDirs d := by simp [FromSyntax.rawDirs, ht]
  have hdate : t.date = d.date := (FromSyntax.ofList_shape ds d hd).2 _ hraw
  rw [← hdate]
  exact hp t ((FromSyntax.ofList_perm_raw ds).mem_iff.mp (List.mem_flatMap.mpr ⟨d, hd, hraw⟩))

end Knut
