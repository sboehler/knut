import Knut.Proofs.CheckSteps
import Knut.Spec.Lifecycle
import Knut.Proofs.Sim
/-! Refinement of the checker model (maps with deletion) to the lifecycle specification (log of postings). -/
namespace Knut
open Knut.Spec

/-- the checker's state refines the specification's: the same open accounts, every recorded quantity is the sum over the log -/
structure CheckRel (st : CheckState) (s : LState) : Prop where
  accounts : st.accounts = s.opened
  qty : ∀ a c, st.quantities.get (a, c) 0 = qtyOf s.log a c
  nodup : AMap.NodupKeys st.quantities

/-- the checker's error names the directive the specification rejects -/
def ErrRel (e : CheckErr) (d : Directive) : Prop := e.directive = d

theorem qtyOf_append (log : List Posting) (p : Posting) (a : Account) (c : Commodity) :
    qtyOf (log ++ [p]) a c = qtyOf log a c + (if p.account = a ∧ p.commodity = c then p.quantity else 0) := by
  unfold qtyOf
  simp only [List.filter_append, List.map_append, List.sum_append]
  congr 1
  by_cases h : p.account = a ∧ p.commodity = c
  · simp [h, Rat.add_zero]
  · simp only [h, if_false]
    have : (decide (p.account = a) && decide (p.commodity = c)) = false := by
      simp only [Bool.and_eq_false_imp, decide_eq_true_eq, decide_eq_false_iff_not]
      intro h1 h2; exact h ⟨h1, h2⟩
    simp [this]

theorem sim_open (st : CheckState) (s : LState) (o : Open) (h : CheckRel st s) :
    Sim CheckRel ErrRel (Check.openAcc st o) (stepOpen s o) := by
  unfold Check.openAcc stepOpen
  rw [h.accounts]
  split
  · exact Sim.error rfl
  · exact Sim.ok ⟨by simp, h.qty, h.nodup⟩

theorem sim_posting (st : CheckState) (s : LState) (t : Transaction) (p : Posting) (h : CheckRel st s) :
    Sim CheckRel ErrRel (Check.posting st t p) (stepPosting s t p) := by
  unfold Check.posting stepPosting
  rw [h.accounts]
  split
  · exact Sim.error rfl
  · split
    · refine Sim.ok ⟨rfl, ?_, AMap.nodupKeys_set h.nodup _ _⟩
      intro a c
      simp only
      rw [AMap.get_set, qtyOf_append, h.qty p.account p.commodity]
      by_cases hk : (p.account, p.commodity) = (a, c)
      · injection hk with h1 h2; subst h1; subst h2; simp
      · have : ¬ (p.account = a ∧ p.commodity = c) := by
          intro ⟨h1, h2⟩; exact hk (by rw [h1, h2])
        simp only [hk, this, if_false]
        rw [h.qty a c]; exact (Rat.add_zero _).symm
    · exact Sim.ok h

theorem sim_balance (st : CheckState) (s : LState) (a : Assertion) (b : Balance) (h : CheckRel st s)
    (hAL : ∀ e ∈ st.quantities, e.1.1.isAL = true) :
    Sim CheckRel ErrRel (Check.balance st a b) (stepBalance true s a b) := by
  unfold Check.balance stepBalance
  rw [h.accounts]
  split
  · exact Sim.error rfl
  · by_cases hal : b.account.isAL = true
    · simp only [hal, if_true]
      rw [h.qty]
      by_cases hq : qtyOf s.log b.account b.commodity = b.quantity
      · simp [hq, Sim]; exact h
      · simp [hq, Sim, ErrRel]
    · simp only [hal]
      -- non-A/L account: the map has no entry, the recorded quantity is 0
      have hz : st.quantities.get (b.account, b.commodity) 0 = 0 := Classical.byContradiction fun hne => by
        obtain ⟨v, hf, _⟩ := AMap.get_ne hne
        exact absurd (hAL _ (AMap.mem_of_find? hf)) hal
      rw [hz]
      by_cases hq : b.quantity = 0
      · simp [hq, Sim]; exact h
      · have : (0 : Rat) ≠ b.quantity := fun e => hq e.symm
        simp [hq, this, Sim, ErrRel]

theorem qtyOf_ne_zero_mem {log : List Posting} {a : Account} {c : Commodity} (h : qtyOf log a c ≠ 0) :
    ∃ p ∈ log, p.account = a ∧ p.commodity = c := by
  unfold qtyOf at h
  cases hl : log.filter (fun p => decide (p.account = a) && decide (p.commodity = c)) with
  | nil => rw [hl] at h; simp at h
  | cons p rest =>
    have hp : p ∈ log.filter (fun p => decide (p.account = a) && decide (p.commodity = c)) := by
      rw [hl]; exact List.mem_cons_self
    simp only [List.mem_filter, Bool.and_eq_true, decide_eq_true_eq] at hp
    exact ⟨p, hp.1, hp.2.1, hp.2.2⟩

theorem allZero_true_iff (log : List Posting) (a : Account) :
    allZero log a = true ↔ ∀ p ∈ log, p.account = a → qtyOf log a p.commodity = 0 := by
  unfold allZero
  simp only [List.all_eq_true, List.mem_filter, decide_eq_true_eq, and_imp]

theorem qtyOf_zero_of_allZero {log : List Posting} {a : Account} (hz : allZero log a = true) (k : Commodity) :
    qtyOf log a k = 0 := by
  rw [allZero_true_iff] at hz
  apply Classical.byContradiction
  intro hne
  obtain ⟨p, hp, hpa, hpc⟩ := qtyOf_ne_zero_mem hne
  have := hz p hp hpa
  rw [hpc] at this
  exact hne this

theorem allZero_iff (st : CheckState) (s : LState) (h : CheckRel st s) (a : Account) :
    allZero s.log a = true ↔ Check.Zeroed st a := by
  constructor
  · intro hz e he hea
    rw [← AMap.get_of_mem h.nodup (k := e.1) he 0, show e.1 = (e.1.1, e.1.2) from rfl, h.qty, hea]
    exact qtyOf_zero_of_allZero hz _
  · intro hz
    rw [allZero_true_iff]
    intro p hp hpa
    rw [← h.qty a p.commodity]
    exact Check.Zeroed.get hz _

theorem sim_close (st : CheckState) (s : LState) (c : Close) (h : CheckRel st s) :
    Sim CheckRel ErrRel (Check.close st c) (stepClose s c) := by
  unfold Check.close stepClose
  by_cases hz : Check.Zeroed st c.account
  · have ha := (allZero_iff st s h c.account).mpr hz
    rw [if_neg (Check.not_any_iff_zeroed.mpr hz), ha, h.accounts]
    simp only [Bool.not_true, Bool.false_eq_true, if_false]
    split
    · exact Sim.error rfl
    · refine Sim.ok ⟨rfl, ?_, AMap.nodupKeys_filter h.nodup _⟩
      intro a k
      refine (AMap.get_filter_key st.quantities (fun key => decide (key.1 ≠ c.account)) (a, k) 0).trans ?_
      by_cases hac : a = c.account
      · rw [hac]
        simp only [ne_eq, not_true_eq_false, decide_false, Bool.false_eq_true, if_false]
        exact (qtyOf_zero_of_allZero ha k).symm
      · simp only [ne_eq, hac, not_false_eq_true, decide_true, if_true]
        exact h.qty a k
  · rw [if_pos (Decidable.not_not.mp (mt Check.not_any_iff_zeroed.mp hz)),
      Bool.eq_false_iff.mpr (mt (allZero_iff st s h c.account).mp hz)]
    exact Sim.error rfl

/-- only asset/liability positions are ever recorded -/
def OnlyAL (st : CheckState) : Prop := ∀ e ∈ st.quantities, e.1.1.isAL = true

theorem onlyAL_posting {st st' : CheckState} {t : Transaction} {p : Posting} (h : OnlyAL st)
    (hs : Check.posting st t p = .ok st') : OnlyAL st' := by
  obtain ⟨_, rfl⟩ := Check.posting_ok_iff.mp hs
  split
  · rename_i hal
    intro e he
    rcases AMap.mem_set _ _ _ _ he with h1 | h1
    · rw [h1]; exact hal
    · exact h e h1
  · exact h

theorem onlyAL_open {st st' : CheckState} {o : Open} (h : OnlyAL st) (hs : Check.openAcc st o = .ok st') : OnlyAL st' := by
  obtain ⟨_, rfl⟩ := Check.openAcc_ok_iff.mp hs
  exact h

theorem onlyAL_balance {st st' : CheckState} {a : Assertion} {b : Balance} (h : OnlyAL st)
    (hs : Check.balance st a b = .ok st') : OnlyAL st' := by
  obtain ⟨_, rfl⟩ := Check.balance_ok_iff.mp hs
  exact h

theorem onlyAL_close {st st' : CheckState} {c : Close} (h : OnlyAL st) (hs : Check.close st c = .ok st') : OnlyAL st' := by
  obtain ⟨_, _, rfl⟩ := Check.close_ok_iff.mp hs
  exact fun e he => h e (List.mem_filter.mp he).1

end Knut

namespace Knut.C04
open Knut Knut.Spec

/-- the relation the refinement keeps over a run -/
def R (st : CheckState) (s : LState) : Prop := CheckRel st s ∧ OnlyAL st

theorem sim_and {x : Except CheckErr CheckState} {y : Except Directive LState}
    (h : Sim CheckRel ErrRel x y) (h2 : ∀ st', x = .ok st' → OnlyAL st') : Sim R ErrRel x y := by
  cases ESim.of_sim h with
  | ok hr => exact ⟨hr, h2 _ rfl⟩
  | error he => exact he

theorem sim_day (st : CheckState) (s : LState) (d : Day) (h : R st s) :
    Sim R ErrRel (Check.day st d) (stepDay true s d) := by
  unfold Check.day stepDay
  apply bind_sim (R := R)
  · exact foldlM_sim R ErrRel _ _ _ (fun st s o _ hr => sim_and (sim_open st s o hr.1) (fun _ e => onlyAL_open hr.2 e)) st s h
  · intro st s h
    apply bind_sim (R := R)
    · apply foldlM_sim R ErrRel _ _ _ _ st s h
      intro st s t _ hr
      exact foldlM_sim R ErrRel _ _ _ (fun st s p _ hr => sim_and (sim_posting st s t p hr.1) (fun _ e => onlyAL_posting hr.2 e)) st s hr
    · intro st s h
      apply bind_sim (R := R)
      · apply foldlM_sim R ErrRel _ _ _ _ st s h
        intro st s a _ hr
        exact foldlM_sim R ErrRel _ _ _ (fun st s b _ hr => sim_and (sim_balance st s a b hr.1 hr.2) (fun _ e => onlyAL_balance hr.2 e)) st s hr
      · intro st s h
        exact foldlM_sim R ErrRel _ _ _ (fun st s c _ hr => sim_and (sim_close st s c hr.1) (fun _ e => onlyAL_close hr.2 e)) st s h

theorem R_init : R {} {} := by
  refine ⟨⟨rfl, ?_, ?_⟩, ?_⟩
  · intro a c; simp [AMap.get, AMap.find?, qtyOf]
  · exact AMap.nodupKeys_nil
  · intro e he; simp at he

end Knut.C04
