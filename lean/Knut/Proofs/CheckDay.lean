import Knut.Proofs.CheckSteps
import Knut.Proofs.BalanceMaps
import Knut.Spec.BeancountSpec
/-! What an accepted day of the checker (`Check.day`) says about the set of open accounts and about the asset/liability
quantities (`checkDay_ok`).  Read by the lifecycle clause of C16 (`Proofs/BeancountLifecycle.lean`) and by the printed import of
C13 (`Proofs/PrintImportText.lean`, `Proofs/PrintImportBalances.lean`). -/
namespace Knut.Beancount
open Knut Knut.BeancountSpec Knut.JournalPrinter

theorem openAcc_ok {st st' : CheckState} {o : Open} (h : Check.openAcc st o = .ok st') :
    st'.accounts = o.account :: st.accounts ∧ st'.quantities = st.quantities := by
  obtain ⟨_, rfl⟩ := Check.openAcc_ok_iff.mp h
  exact ⟨rfl, rfl⟩

def contrib (p : Posting) (k : Position) : Rat :=
  if p.account.isAL = true ∧ (p.account, p.commodity) = k then p.quantity else 0

theorem posting_ok {st st' : CheckState} {t : Transaction} {p : Posting} (h : Check.posting st t p = .ok st') :
    st'.accounts = st.accounts ∧ p.account ∈ st.accounts ∧
    ∀ k, st'.quantities.get k 0 = st.quantities.get k 0 + contrib p k := by
  obtain ⟨hmem, rfl⟩ := Check.posting_ok_iff.mp h
  unfold contrib
  by_cases hal : p.account.isAL = true
  · rw [if_pos hal]
    refine ⟨rfl, hmem, fun k => ?_⟩
    simp only [AMap.get_set, hal, true_and]
    split
    · rename_i hk; subst hk; rfl
    · rw [Rat.add_zero]
  · rw [if_neg hal]
    exact ⟨rfl, hmem, fun k => by rw [if_neg (fun h => hal h.1), Rat.add_zero]⟩

theorem balance_ok {st st' : CheckState} {a : Assertion} {b : Balance} (h : Check.balance st a b = .ok st') : st' = st :=
  (Check.balance_ok_iff.mp h).2

theorem close_ok {st st' : CheckState} {c : Close} (h : Check.close st c = .ok st') :
    st'.accounts = st.accounts.filter (· ≠ c.account) ∧
    (∀ com, st.quantities.get (c.account, com) 0 = 0) ∧
    (∀ k, st'.quantities.get k 0 = st.quantities.get k 0) := by
  obtain ⟨hz, _, rfl⟩ := Check.close_ok_iff.mp h
  refine ⟨rfl, hz.get, fun k => ?_⟩
  refine (AMap.get_filter_key st.quantities (fun key => decide (key.1 ≠ c.account)) k 0).trans ?_
  by_cases hk : k.1 = c.account
  · rw [if_neg (by simp [hk]), show k = (c.account, k.2) by rw [← hk], hz.get]
  · rw [if_pos (by simp [hk])]

def contribSum (ps : List Posting) (k : Position) : Rat := (ps.map (fun p => contrib p k)).sum

theorem contribSum_append (a b : List Posting) (k : Position) : contribSum (a ++ b) k = contribSum a k + contribSum b k := by
  simp [contribSum, List.sum_append]

theorem postings_fold {t : Transaction} : ∀ (ps : List Posting) (st st' : CheckState),
    ps.foldlM (fun st p => Check.posting st t p) st = .ok st' →
    st'.accounts = st.accounts ∧ (∀ p ∈ ps, p.account ∈ st.accounts) ∧
    ∀ k, st'.quantities.get k 0 = st.quantities.get k 0 + contribSum ps k :=
  foldlM_ok_ind (fun st => ⟨rfl, (fun _ hp => nomatch hp), fun k => by simp [contribSum, Rat.add_zero]⟩)
    fun p rest st s1 st' hp _ ⟨ha2, hm2, hq2⟩ => by
    obtain ⟨ha, hm, hq⟩ := posting_ok hp
    refine ⟨ha2.trans ha, ?_, ?_⟩
    · intro q hq'
      rcases List.mem_cons.mp hq' with rfl | hq'
      · exact hm
      · rw [← ha]; exact hm2 q hq'
    · intro k
      rw [hq2 k, hq k]
      simp only [contribSum, List.map_cons, List.sum_cons]
      rw [Rat.add_assoc]

theorem txs_fold : ∀ (ts : List Transaction) (st st' : CheckState),
    ts.foldlM (fun st t => t.postings.foldlM (fun st p => Check.posting st t p) st) st = .ok st' →
    st'.accounts = st.accounts ∧ (∀ t ∈ ts, ∀ p ∈ t.postings, p.account ∈ st.accounts) ∧
    ∀ k, st'.quantities.get k 0 = st.quantities.get k 0 + contribSum (ts.flatMap (·.postings)) k :=
  foldlM_ok_ind (fun st => ⟨rfl, (fun _ ht => nomatch ht), fun k => by simp [contribSum, Rat.add_zero]⟩)
    fun t rest st s1 st' hp _ ⟨ha2, hm2, hq2⟩ => by
    obtain ⟨ha, hm, hq⟩ := postings_fold _ _ _ hp
    refine ⟨ha2.trans ha, ?_, ?_⟩
    · intro t' ht' p hp'
      rcases List.mem_cons.mp ht' with rfl | ht'
      · exact hm p hp'
      · rw [← ha]; exact hm2 t' ht' p hp'
    · intro k
      rw [hq2 k, hq k, List.flatMap_cons, contribSum_append, Rat.add_assoc]

theorem txs_run (ts : List Transaction) (st : CheckState) (h : ∀ t ∈ ts, ∀ p ∈ t.postings, p.account ∈ st.accounts) :
    ∃ st', ts.foldlM (fun st t => t.postings.foldlM (fun st p => Check.posting st t p) st) st = .ok st' ∧
      st'.accounts = st.accounts :=
  foldlM_ok_of (I := fun s => s.accounts = st.accounts) (P := fun t => ∀ p ∈ t.postings, p.account ∈ st.accounts)
    (fun s t hs => foldlM_ok_of (I := fun s => s.accounts = st.accounts) (P := fun p => p.account ∈ st.accounts)
      (fun _ _ hs hp => have h1 := Check.posting_ok_iff.mpr ⟨hs ▸ hp, rfl⟩; ⟨_, h1, (posting_ok h1).1.trans hs⟩) t.postings s hs)
    ts st rfl h

theorem opens_fold : ∀ (os : List Open) (st st' : CheckState), os.foldlM Check.openAcc st = .ok st' →
    (∀ a, a ∈ st'.accounts ↔ a ∈ st.accounts ∨ ∃ o ∈ os, o.account = a) ∧ st'.quantities = st.quantities :=
  foldlM_ok_ind (fun st => ⟨fun a => by simp, rfl⟩) fun o rest st s1 st' ho _ ⟨ha2, hq2⟩ => by
    obtain ⟨ha, hq⟩ := openAcc_ok ho
    refine ⟨?_, hq2.trans hq⟩
    intro a
    rw [ha2 a, ha]
    simp only [List.mem_cons, exists_eq_or_imp]
    constructor
    · rintro ((h1 | h1) | h1)
      · exact Or.inr (Or.inl h1.symm)
      · exact Or.inl h1
      · exact Or.inr (Or.inr h1)
    · rintro (h1 | h1 | h1)
      · exact Or.inl (Or.inr h1)
      · exact Or.inl (Or.inl h1.symm)
      · exact Or.inr h1

theorem assertions_fold : ∀ (as : List Assertion) (st st' : CheckState),
    as.foldlM (fun st a => a.balances.foldlM (fun st b => Check.balance st a b) st) st = .ok st' → st' = st := by
  intro as st st' h
  refine foldlM_ok_inv (fun s => s = st) as ?_ rfl h
  intro s a s' _ hs hf
  subst hs
  exact foldlM_ok_inv (fun x => x = s) a.balances (by intro x b x' _ hx hb; subst hx; exact balance_ok hb) rfl hf

theorem closes_fold : ∀ (cs : List Close) (st st' : CheckState), cs.foldlM Check.close st = .ok st' →
    (∀ a, a ∈ st'.accounts ↔ a ∈ st.accounts ∧ ∀ c ∈ cs, c.account ≠ a) ∧
    (∀ k, st'.quantities.get k 0 = st.quantities.get k 0) ∧
    (∀ c ∈ cs, ∀ com, st.quantities.get (c.account, com) 0 = 0) :=
  foldlM_ok_ind (fun st => ⟨fun a => by simp, fun _ => rfl, fun _ hc => nomatch hc⟩)
    fun c rest st s1 st' hc _ ⟨ha2, hq2, hz2⟩ => by
    obtain ⟨ha, hz, hq⟩ := close_ok hc
    refine ⟨?_, fun k => (hq2 k).trans (hq k), ?_⟩
    · intro a
      rw [ha2 a, ha]
      simp only [List.mem_filter, List.mem_cons, forall_eq_or_imp, decide_eq_true_eq]
      constructor
      · rintro ⟨⟨h1, h2⟩, h3⟩; exact ⟨h1, fun e => h2 e.symm, h3⟩
      · rintro ⟨h1, h2, h3⟩; exact ⟨⟨h1, fun e => h2 e.symm⟩, h3⟩
    · intro c' hc' com
      rcases List.mem_cons.mp hc' with rfl | hc'
      · exact hz com
      · rw [← hq]; exact hz2 c' hc' com

/-- **one accepted day of the checker**: the accounts open while the day's transactions are booked are the
previously open ones and the ones opened today; every posting hits one of them; afterwards the accounts closed
today are gone, and their positions were zero. Quantities change by the day's asset/liability postings. -/
theorem checkDay_ok {st st' : CheckState} {d : Day} (h : Check.day st d = .ok st') :
    (∀ t ∈ d.transactions, ∀ p ∈ t.postings, p.account ∈ st.accounts ∨ ∃ o ∈ d.openings, o.account = p.account) ∧
    (∀ a, a ∈ st'.accounts ↔ (a ∈ st.accounts ∨ ∃ o ∈ d.openings, o.account = a) ∧ ∀ c ∈ d.closings, c.account ≠ a) ∧
    (∀ k, st'.quantities.get k 0 = st.quantities.get k 0 + contribSum (d.transactions.flatMap (·.postings)) k) ∧
    (∀ c ∈ d.closings, ∀ com, st.quantities.get (c.account, com) 0 + contribSum (d.transactions.flatMap (·.postings)) (c.account, com) = 0) := by
  unfold Check.day at h
  obtain ⟨s1, h1, h⟩ := bindOk_iff.mp h
  obtain ⟨s2, h2, h⟩ := bindOk_iff.mp h
  obtain ⟨s3, h3, h4⟩ := bindOk_iff.mp h
  obtain ⟨o1, o2⟩ := opens_fold _ _ _ h1
  obtain ⟨t1, t2, t3⟩ := txs_fold _ _ _ h2
  have e3 := assertions_fold _ _ _ h3
  subst e3
  obtain ⟨c1, c2, c3⟩ := closes_fold _ _ _ h4
  refine ⟨?_, ?_, ?_, ?_⟩
  · intro t ht p hp
    exact (o1 p.account).mp (t2 t ht p hp)
  · intro a
    rw [c1 a, t1, o1 a]
  · intro k
    rw [c2 k, t3 k, o2]
  · intro c hc com
    have := c3 c hc com
    rw [t3, o2] at this
    exact this

theorem contribSum_zero {ps : List Posting} {k : Position} (h : ∀ p ∈ ps, contrib p k = 0) : contribSum ps k = 0 :=
  MapSum.sum_map_eq_zero _ ps h

theorem contribSum_zero_of_account {ps : List Posting} {k : Position} (h : ∀ p ∈ ps, p.account ≠ k.1) : contribSum ps k = 0 :=
  contribSum_zero fun p hp => if_neg fun hc => h p hp (congrArg Prod.fst hc.2)

theorem contribSum_zero_of_quantity {ps : List Posting} {k : Position} (h : ∀ p ∈ ps, p.quantity = 0) : contribSum ps k = 0 :=
  contribSum_zero fun p hp => by
    unfold contrib
    split
    · exact h p hp
    · rfl

end Knut.Beancount
