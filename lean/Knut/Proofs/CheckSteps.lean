import Knut.Model.Check
/-!
# The steps of the checker: when each succeeds, and with which state

Each step is a chain of guards that ends in one next state.  Proofs that take a successful step apart, or need a step to succeed,
read these four iffs.  Comparisons in lock step with another `if`-chain (the refinement `sim_*` of `Proofs/Check.lean`, the
agreement with the translated checker) unfold both sides instead.
-/
namespace Knut.Check

theorem guard_ok_iff {ε α : Type} {c : Prop} [Decidable c] {e : ε} {x : Except ε α} {a : α} :
    (if c then .error e else x) = .ok a ↔ ¬ c ∧ x = .ok a := by
  by_cases h : c
  · rw [if_pos h]; exact ⟨(fun e => nomatch e), fun e => absurd h e.1⟩
  · rw [if_neg h]; exact ⟨fun e => ⟨h, e⟩, fun e => e.2⟩

theorem ok_eq_iff {ε α : Type} {a b : α} : (Except.ok a : Except ε α) = .ok b ↔ b = a :=
  ⟨fun h => (Except.ok.inj h).symm, fun h => h ▸ rfl⟩

theorem not_contains_iff {l : List Account} {a : Account} : ¬ (!l.contains a) = true ↔ a ∈ l := by simp

/-- what `Checker.close` tests: no recorded position of account `a` holds a quantity other than zero -/
def Zeroed (st : CheckState) (a : Account) : Prop := ∀ e ∈ st.quantities, e.1.1 = a → e.2 = 0

theorem openAcc_ok_iff {st st' : CheckState} {o : Open} :
    openAcc st o = .ok st' ↔ o.account ∉ st.accounts ∧ st' = { st with accounts := o.account :: st.accounts } := by
  rw [openAcc, guard_ok_iff, ok_eq_iff, List.contains_iff_mem]

theorem posting_ok_iff {st st' : CheckState} {t : Transaction} {p : Posting} :
    posting st t p = .ok st' ↔ p.account ∈ st.accounts ∧ st' = if p.account.isAL then
      { st with quantities := st.quantities.set (p.account, p.commodity) (st.quantities.get (p.account, p.commodity) 0 + p.quantity) }
      else st := by
  rw [posting, guard_ok_iff, not_contains_iff]
  by_cases h : p.account.isAL = true
  · rw [if_pos h, if_pos h, ok_eq_iff]
  · rw [if_neg h, if_neg h, ok_eq_iff]

theorem balance_ok_iff {st st' : CheckState} {a : Assertion} {b : Balance} :
    balance st a b = .ok st' ↔
      (b.account ∈ st.accounts ∧ st.quantities.get (b.account, b.commodity) 0 = b.quantity) ∧ st' = st := by
  rw [balance, guard_ok_iff, guard_ok_iff, ok_eq_iff, not_contains_iff, Decidable.not_not, and_assoc]

theorem not_any_iff_zeroed {st : CheckState} {a : Account} :
    ¬ st.quantities.any (fun e => e.1.1 = a && e.2 ≠ 0) = true ↔ Zeroed st a := by
  simp only [Zeroed, List.any_eq_true, Bool.and_eq_true, decide_eq_true_eq, not_exists, not_and, Decidable.not_not]

theorem close_ok_iff {st st' : CheckState} {c : Close} :
    close st c = .ok st' ↔ Zeroed st c.account ∧ c.account ∈ st.accounts ∧
      st' = { accounts := st.accounts.filter (· ≠ c.account), quantities := st.quantities.filter (fun e => e.1.1 ≠ c.account) } := by
  rw [close, guard_ok_iff, guard_ok_iff, ok_eq_iff, not_contains_iff, not_any_iff_zeroed]

theorem Zeroed.get {st : CheckState} {a : Account} (h : Zeroed st a) (com : Commodity) : st.quantities.get (a, com) 0 = 0 :=
  Classical.byContradiction fun hne => by
    obtain ⟨q, hf, hq⟩ := AMap.get_ne hne
    exact hq (h _ (AMap.mem_of_find? hf) rfl)

end Knut.Check
