import Knut.Model.Commands
import Knut.Proofs.Accrual
import Knut.Proofs.TableLayout
import Knut.Proofs.SyntaxItems
import Knut.Proofs.InferFormat
import Knut.Proofs.ListMapM
import Knut.Proofs.ReportRender
/-!
# What the stages of the command model `Cmd.run` can end in (C14)

`ErrsIn P m`: every error of `m` satisfies `P`; with `NotPanic` and `NotOk` it follows the elaboration, the loader
(`fromPath_errs`) and the runners (`run*_noPanic` under the guards of the two recorded findings, `run_fromPath_error`). The
panic sites of the modelled code that are unreachable: the table renderer's indices (`table_rows_fit`), `Extract` in `infer`
(`fileTxs_total`). `parseForLoader_result`, `fileLoopSeen_fst`: the parser the loader runs is `parseText` with the include
callback. The C05 layout and C09 command theorems read the loader lemmas here as well.
-/
namespace Knut.Commands
open Knut

def NoPanic {α : Type} (m : M α) : Prop := ∀ s, m ≠ .error (.panic s)

def NoOk {α : Type} (m : M α) : Prop := ∀ s, m ≠ .error (.ok s)

/-! ### what a computation can fail with

`ErrsIn P m`: every error `m` ends in satisfies `P`. The elaboration of the fields fails with a diagnostic only, so it
stays within every `P` that holds of the diagnostics; `transaction.Create` alone can panic, so the statements about
directives, files and the journal take what is known about the transactions as a hypothesis. `NoPanic m` and `NoOk m` say
`ErrsIn NotPanic m` and `ErrsIn NotOk m` (`noPanic_iff`, `noOk_iff`); the lemmas below are stated with `ErrsIn`. -/

def ErrsIn {α : Type} (P : CmdOutcome → Prop) (m : M α) : Prop := ∀ e, m = .error e → P e

def NotPanic (e : CmdOutcome) : Prop := ∀ s, e ≠ .panic s
def NotOk (e : CmdOutcome) : Prop := ∀ s, e ≠ .ok s

theorem noPanic_iff {α : Type} {m : M α} : NoPanic m ↔ ErrsIn NotPanic m :=
  ⟨fun h e he s hs => h s (by rw [he, hs]), fun h s hs => h _ hs s rfl⟩

theorem noOk_iff {α : Type} {m : M α} : NoOk m ↔ ErrsIn NotOk m :=
  ⟨fun h e he s hs => h s (by rw [he, hs]), fun h s hs => h _ hs s rfl⟩

theorem notPanic_msg (w : String) : NotPanic (.error w) := fun _ h => nomatch h
theorem notOk_msg (w : String) : NotOk (.error w) := fun _ h => nomatch h

section
variable {α β : Type} {P : CmdOutcome → Prop}

theorem ErrsIn.ok (a : α) : ErrsIn P (.ok a : M α) := fun _ h => by cases h
theorem ErrsIn.pure (a : α) : ErrsIn P (pure a : M α) := fun _ h => by cases h
theorem ErrsIn.error {e : CmdOutcome} (h : P e) : ErrsIn P (.error e : M α) := fun _ h' => by cases h'; exact h

theorem ErrsIn.bind' {m : M α} {f : α → M β} (h1 : ErrsIn P m) (h2 : ∀ a, m = .ok a → ErrsIn P (f a)) :
    ErrsIn P (m >>= f) := by
  cases m with
  | error e => exact .error (h1 e rfl)
  | ok a => exact h2 a rfl

theorem ErrsIn.bind {m : M α} {f : α → M β} (h1 : ErrsIn P m) (h2 : ∀ a, ErrsIn P (f a)) : ErrsIn P (m >>= f) :=
  h1.bind' fun a _ => h2 a

theorem ErrsIn.map {m : M α} (f : α → β) (h : ErrsIn P m) : ErrsIn P (f <$> m) := by
  cases m with
  | error e => exact .error (h e rfl)
  | ok a => exact .ok _

theorem ErrsIn.map' {m : M α} (f : α → β) (h : ErrsIn P m) : ErrsIn P (m.map f) := h.map f

theorem ErrsIn.mapM {f : α → M β} : ∀ {l : List α}, (∀ x ∈ l, ErrsIn P (f x)) → ErrsIn P (l.mapM f)
  | [], _ => .pure _
  | x :: xs, h => by
    rw [List.mapM_cons]
    exact (h x List.mem_cons_self).bind fun b =>
      (ErrsIn.mapM fun y hy => h y (List.mem_cons_of_mem _ hy)).bind fun bs => .pure _

end

theorem NoPanic.map {α β : Type} {m : M α} (f : α → β) (h : NoPanic m) : NoPanic (f <$> m) :=
  noPanic_iff.mpr ((noPanic_iff.mp h).map f)

theorem NoOk.map {α β : Type} {m : M α} (f : α → β) (h : NoOk m) : NoOk (f <$> m) :=
  noOk_iff.mpr ((noOk_iff.mp h).map f)

section
variable {P : CmdOutcome → Prop} (hP : ∀ w, P (.error w))
include hP

theorem elabDate_errs (text : Bytes) (d : Syntax.Date) : ErrsIn P (elabDate text d) := by
  unfold elabDate; split
  · exact .ok _
  · exact .error (hP _)

theorem elabDecimal_errs (text : Bytes) (d : Syntax.Decimal) : ErrsIn P (elabDecimal text d) := by
  unfold elabDecimal; split
  · exact .ok _
  · exact .error (hP _)

theorem elabAccount_errs (text : Bytes) (a : Syntax.Account) : ErrsIn P (elabAccount text a) := by
  unfold elabAccount; simp only; split
  · exact .ok _
  · exact .error (hP _)

theorem elabCommodity_errs (text : Bytes) (c : Syntax.Commodity) : ErrsIn P (elabCommodity text c) := by
  unfold elabCommodity; simp only; split
  · exact .ok _
  · exact .error (hP _)

theorem elabBooking_errs (text : Bytes) (b : Syntax.Booking) : ErrsIn P (elabBooking text b) := by
  unfold elabBooking
  exact (elabDecimal_errs hP _ _).bind fun _ => (elabCommodity_errs hP _ _).bind fun _ => .pure _

theorem elabAccrual_errs (text : Bytes) (a : Syntax.Accrual) : ErrsIn P (elabAccrual text a) := by
  unfold elabAccrual
  refine (elabDate_errs hP _ _).bind fun _ => (elabDate_errs hP _ _).bind fun _ => ?_
  split
  · exact .error (hP _)
  · exact .pure _

theorem elabAccrualOpt_errs (text : Bytes) (t : Syntax.Transaction) : ErrsIn P (elabAccrualOpt text t) := by
  unfold elabAccrualOpt; split
  · exact .pure _
  · exact (elabAccrual_errs hP _ _).map' _

theorem elabTargets_errs (text : Bytes) (t : Syntax.Transaction) : ErrsIn P (elabTargets text t) := by
  unfold elabTargets; split
  · exact .pure _
  · exact (ErrsIn.mapM fun _ _ => elabCommodity_errs hP _ _).map' _

theorem txInput_errs (text : Bytes) (t : Syntax.Transaction) : ErrsIn P (txInput text t) := by
  unfold txInput
  refine (elabDate_errs hP _ _).bind fun _ => ?_
  refine (ErrsIn.mapM fun _ _ => elabBooking_errs hP _ _).bind fun _ => ?_
  refine (elabTargets_errs hP _ _).bind fun _ => ?_
  exact (elabAccrualOpt_errs hP _ _).bind fun _ => .pure _

theorem elabBalance_errs (text : Bytes) (b : Syntax.Balance) : ErrsIn P (elabBalance text b) := by
  unfold elabBalance
  exact (elabAccount_errs hP _ _).bind fun _ => (elabDecimal_errs hP _ _).bind fun _ =>
    (elabCommodity_errs hP _ _).bind fun _ => .pure _

theorem elabDirective_errs (text : Bytes) (d : Syntax.Directive)
    (ht : ∀ t, d.body = .transaction t → ErrsIn P (elabTransaction text t)) : ErrsIn P (elabDirective text d) := by
  unfold elabDirective
  split
  · next t hb => exact ht t hb
  · exact (elabAccount_errs hP _ _).bind fun _ => (elabDate_errs hP _ _).bind fun _ => .pure _
  · exact (elabAccount_errs hP _ _).bind fun _ => (elabDate_errs hP _ _).bind fun _ => .pure _
  · exact (elabDate_errs hP _ _).bind fun _ => (ErrsIn.mapM fun _ _ => elabBalance_errs hP _ _).bind fun _ => .pure _
  · exact (elabDate_errs hP _ _).bind fun _ => (elabCommodity_errs hP _ _).bind fun _ =>
      (elabDecimal_errs hP _ _).bind fun _ => (elabCommodity_errs hP _ _).bind fun _ => .pure _
  · exact .pure _

theorem elabFile_errs (tf : Bytes × Syntax.File)
    (ht : ∀ d ∈ tf.2.directives, ∀ t, d.body = .transaction t → ErrsIn P (elabTransaction tf.1 t)) :
    ErrsIn P (elabFile tf) := by
  unfold elabFile
  exact (ErrsIn.mapM fun d hd => elabDirective_errs hP _ d (ht d hd)).map' _

theorem fromPath_errs (fs : Loader.FileSys) (path : Loader.Path)
    (ht : ∀ files, Loader.load fs parseForLoader path = .ok files → ∀ pf ∈ files, ∀ d ∈ pf.2.2.directives,
      ∀ t, d.body = .transaction t → ErrsIn P (elabTransaction pf.2.1 t)) : ErrsIn P (fromPath fs path) := by
  unfold fromPath
  cases h : Loader.load fs parseForLoader path with
  | error e => exact .error (hP _)
  | ok files => exact (ErrsIn.mapM fun pf hpf => elabFile_errs hP _ (ht files h pf hpf)).map' _

end

theorem elabDate_ok {text : Bytes} {d : Syntax.Date} {z : Int} (h : elabDate text d = .ok z) :
    parseDate (textOf text d.range) = some z := by
  unfold elabDate at h
  split at h
  · rename_i z' hz
    rw [hz, Except.ok.inj h]
  · cases h

theorem elabAccrual_start {text : Bytes} {a : Syntax.Accrual} {ad : Accrual.Addon} (h : elabAccrual text a = .ok ad) :
    parseDate (textOf text a.start.range) = some ad.start := by
  obtain ⟨s, hs, h⟩ := bindOk_iff.mp h
  obtain ⟨e, _, h⟩ := bindOk_iff.mp h
  split at h
  · cases h
  · cases Except.ok.inj h
    exact elabDate_ok hs

theorem txInput_accrual {text : Bytes} {t : Syntax.Transaction} {inp : Accrual.TxInput} (h : txInput text t = .ok inp) :
    elabAccrualOpt text t = .ok inp.accrual := by
  obtain ⟨_, _, h⟩ := bindOk_iff.mp h
  obtain ⟨_, _, h⟩ := bindOk_iff.mp h
  obtain ⟨_, _, h⟩ := bindOk_iff.mp h
  obtain ⟨ac, hac, h⟩ := bindOk_iff.mp h
  cases Except.ok.inj h
  exact hac

/-- `transaction.Create` panics only in `date.NewPartition`, and only for a window starting at Go's zero time -/
theorem create_noPanic (inp : Accrual.TxInput) (h : ∀ ad, inp.accrual = some ad → ad.start ≠ 0) :
    ∀ s, Accrual.create inp ≠ .panic s := by
  intro s hs
  have hr := Accrual.create_run inp
  rw [hs] at hr
  cases hr with
  | expanded hb ha hw hle e =>
    obtain ⟨txs, hx⟩ := Accrual.expandLoop_ok (Accrual.created inp) _ (Accrual.postingsOf inp.bookings) (h _ ha) hle
    rw [hx] at e; cases e

/-- the guard of the known finding, per transaction: its `@accrue` window (if any) does not start on
0001-01-01 (day 0, Go's zero `time.Time`) -/
def accrualStartsLater (text : Bytes) (t : Syntax.Transaction) : Prop :=
  t.addons.accrual.range.empty = false → parseDate (textOf text t.addons.accrual.start.range) ≠ some 0

theorem elabTransaction_noPanic (text : Bytes) (t : Syntax.Transaction) (g : accrualStartsLater text t) :
    ErrsIn NotPanic (elabTransaction text t) := by
  unfold elabTransaction
  refine (txInput_errs notPanic_msg _ _).bind' fun inp hinp => ?_
  have hacc := txInput_accrual hinp
  have hcreate : ∀ s, Accrual.create inp ≠ .panic s := by
    apply create_noPanic
    intro ad had
    rw [had] at hacc
    unfold elabAccrualOpt at hacc
    cases he : t.addons.accrual.range.empty with
    | true => simp [he] at hacc; cases hacc
    | false =>
      simp only [he, Bool.false_eq_true, if_false] at hacc
      cases hx : elabAccrual text t.addons.accrual with
      | error e => rw [hx] at hacc; cases hacc
      | ok ad' =>
        rw [hx] at hacc
        have : ad' = ad := by cases hacc; rfl
        subst this
        have hs := elabAccrual_start hx
        intro h0
        exact g he (by rw [hs, h0])
  cases hc : Accrual.create inp with
  | ok txs => exact .pure _
  | error => exact .error (notPanic_msg _)
  | panic site => exact absurd hc (hcreate site)

theorem elabTransaction_noOk (text : Bytes) (t : Syntax.Transaction) : ErrsIn NotOk (elabTransaction text t) := by
  unfold elabTransaction
  refine (txInput_errs notOk_msg _ _).bind fun inp => ?_
  cases Accrual.create inp with
  | ok txs => exact .pure _
  | error => exact .error (notOk_msg _)
  | panic site => exact .error fun _ h => nomatch h


/-- the guard of the known finding for one file: no `@accrue` window starts on 0001-01-01 -/
def fileGuard (tf : Bytes × Syntax.File) : Prop :=
  ∀ d ∈ tf.2.directives, ∀ t, d.body = .transaction t → accrualStartsLater tf.1 t

/-- the guard of the known finding `accrual-window-starting-0001-01-01` for a journal: in no file of the include
graph does an `@accrue` window start on 0001-01-01 -/
def AccrualGuard (fs : Loader.FileSys) (path : Loader.Path) : Prop :=
  ∀ files, Loader.load fs parseForLoader path = .ok files → ∀ pf ∈ files, fileGuard pf.2

theorem fromPath_noPanic (fs : Loader.FileSys) (path : Loader.Path) (g : AccrualGuard fs path) :
    ErrsIn NotPanic (fromPath fs path) :=
  fromPath_errs notPanic_msg fs path fun files h pf hpf d hd t ht =>
    elabTransaction_noPanic _ t (g files h pf hpf d hd t ht)

theorem fromPath_noOk (fs : Loader.FileSys) (path : Loader.Path) : ErrsIn NotOk (fromPath fs path) :=
  fromPath_errs notOk_msg fs path fun _ _ _ _ _ _ t _ => elabTransaction_noOk _ t

theorem fromPath_load_error (fs : Loader.FileSys) (path : Loader.Path) {e : Loader.LoadErr Syntax.Err}
    (h : Loader.load fs parseForLoader path = .error e) : fromPath fs path = .error (.error "loading") := by
  unfold fromPath; rw [h]

theorem notPanic_ok (out : String) : NotPanic (.ok out) := fun _ h => nomatch h

theorem ofExcept_pure (o : CmdOutcome) : ofExcept (pure o) = o := rfl

theorem ofExcept_bind_notPanic {α : Type} {m : M α} {k : α → M CmdOutcome} (h1 : ErrsIn NotPanic m)
    (h2 : ∀ a, m = .ok a → NotPanic (ofExcept (k a))) : NotPanic (ofExcept (m >>= k)) := by
  cases m with
  | error e => exact h1 e rfl
  | ok a => exact h2 a rfl

theorem bind_error_error {α β : Type} {m : M α} {f : α → M β} {w : String} (h : m = .error (.error w)) :
    (m >>= f) = .error (.error w) := by rw [h]; rfl

open Knut.Table

theorem nodeRows_length (rc : RenderCfg) (dc : Bool) (es : List Entry) (neg : Bool) (node : List String × Nat) :
    ∀ row ∈ BalanceReport.nodeRows rc dc es neg node, row.length = 1 + (if dc then 1 else 0) + rc.endDates.length := by
  intro row hrow
  unfold BalanceReport.nodeRows at hrow
  exact MTM.renderVals_length _ _ _ _ _ _ _ row hrow

theorem table_rows_length (rc : RenderCfg) (es : List Entry) :
    ∀ row ∈ (BalanceReport.table rc es).rows,
      row.length = 1 + (if (rc.valuation.isNone || rc.hasShowCommodities) then 1 else 0) + rc.endDates.length := by
  have hnode := nodeRows_length rc (rc.valuation.isNone || rc.hasShowCommodities)
  have hvals := MTM.renderVals_length rc (rc.valuation.isNone || rc.hasShowCommodities)
  unfold BalanceReport.table
  -- the rows are a concatenation: the claim for each piece
  simp only [List.forall_mem_append, List.forall_mem_cons, List.forall_mem_flatMap, List.length_replicate,
    List.not_mem_nil, false_imp_iff, implies_true, and_true, true_and]
  refine ⟨⟨⟨⟨⟨?_, fun a _ => ⟨hnode _ _ _, fun x _ => hnode _ _ _⟩⟩, hvals _ _ _ _ _⟩,
    fun a _ => ⟨hnode _ _ _, fun x _ => hnode _ _ _⟩⟩, hvals _ _ _ _ _⟩, hvals _ _ _ _ _⟩
  cases (rc.valuation.isNone || rc.hasShowCommodities) <;> simp <;> omega

theorem table_width (rc : RenderCfg) (es : List Entry) :
    (BalanceReport.table rc es).width = 1 + (if (rc.valuation.isNone || rc.hasShowCommodities) then 1 else 0) + rc.endDates.length := by
  unfold BalanceReport.table Table.width
  simp only
  cases (rc.valuation.isNone || rc.hasShowCommodities) <;> simp [Table.groupColumns] <;> omega

/-- every row of the balance report has exactly as many cells as the table has columns: the text renderer's
`widths[i]` and `row.cells[0]` are in range -/
theorem table_rows_fit (rc : RenderCfg) (es : List Entry) :
    ∀ row ∈ (BalanceReport.table rc es).rows, row ≠ [] ∧ row.length ≤ (BalanceReport.table rc es).width := by
  intro row hrow
  have h1 := table_rows_length rc es row hrow
  have h2 := table_width rc es
  constructor
  · intro h; rw [h] at h1; simp at h1; omega
  · omega

theorem renderText_table_noPanic (r : Renderer) (rc : RenderCfg) (es : List Entry) :
    ∀ s, Table.renderText r (BalanceReport.table rc es) ≠ .panic s := by
  intro s
  obtain ⟨ls, hls⟩ := (renderLines_ok_iff r _).mpr (table_rows_fit rc es)
  simp [Table.renderText, hls]


theorem commodityFlag_cases (v : Option Commodity) :
    (∃ c, commodityFlag v = .ok c) ∨ commodityFlag v = .error (.error "invalid commodity") := by
  unfold commodityFlag
  split
  · exact Or.inl ⟨_, rfl⟩
  · split
    · exact Or.inl ⟨_, rfl⟩
    · split
      · exact Or.inl ⟨_, rfl⟩
      · exact Or.inr rfl

theorem commodityFlag_errs {P : CmdOutcome → Prop} (hP : ∀ w, P (.error w)) (v : Option Commodity) :
    ErrsIn P (commodityFlag v) := by
  rcases commodityFlag_cases v with ⟨c, hc⟩ | hc <;> rw [hc]
  · exact .ok _
  · exact .error (hP _)

/-- `balanceRunner.execute` after the journal is built panics only in `date.NewPartition` on a window that starts at
Go's zero time -/
theorem balanceRun_noPanic (f : BalanceFlags) (ds : List Directive)
    (hw : (BalanceCmd.window f (Builder.ofList ds)).start ≠ 0) : ∀ s, BalanceCmd.run f ds ≠ .panic s := by
  intro s
  unfold BalanceCmd.run BalanceCmd.entries
  simp only [newPartition, hw, if_false]
  split
  · next o heq =>
    split at heq
    · cases heq; intro h; cases h
    · cases heq
  · next es part heq =>
    split
    · intro h; cases h
    · split
      · intro h; cases h
      · next s' hs' => exact absurd hs' (renderText_table_noPanic _ _ _ s')

theorem beancountRun_noPanic (v : Option Commodity) (ds : List Directive) : ∀ s, Beancount.run v ds ≠ .panic s := by
  intro s
  unfold Beancount.run
  split
  · intro h; cases h
  · split
    · intro h; cases h
    · split
      · intro h; cases h
      · split <;> (intro h; cases h)

/-- the guard of the known finding `transaction-dated-0001-01-01`: the report window, clipped to the journal, does
not start on 0001-01-01 (it does exactly if no `--from` later than that is given and the journal's earliest
transaction is dated 0001-01-01 or earlier) -/
def WindowGuard (fs : Loader.FileSys) (f : Flags) : Prop :=
  ∀ ds, fromPath fs f.path = .ok ds → (BalanceCmd.window f.balance (Builder.ofList ds)).start ≠ 0

theorem runCheck_noPanic (fs : Loader.FileSys) (f : Flags) (g : AccrualGuard fs f.path) : ∀ s, runCheck fs f ≠ .panic s := by
  unfold runCheck
  refine ofExcept_bind_notPanic (fromPath_noPanic fs f.path g) fun ds _ => ?_
  simp only
  split
  · exact notPanic_msg _
  · split <;> exact notPanic_ok _

theorem runPrint_noPanic (fs : Loader.FileSys) (f : Flags) (g : AccrualGuard fs f.path) : ∀ s, runPrint fs f ≠ .panic s := by
  unfold runPrint
  refine ofExcept_bind_notPanic (fromPath_noPanic fs f.path g) fun ds _ => ?_
  simp only
  split
  · exact notPanic_msg _
  · exact notPanic_ok _

theorem runTranscode_noPanic (fs : Loader.FileSys) (f : Flags) (g : AccrualGuard fs f.path) :
    ∀ s, runTranscode fs f ≠ .panic s := by
  unfold runTranscode
  refine ofExcept_bind_notPanic (commodityFlag_errs notPanic_msg _) fun v _ => ?_
  cases v with
  | none => exact notPanic_msg _
  | some v =>
    refine ofExcept_bind_notPanic (fromPath_noPanic fs f.path g) fun ds _ => ?_
    rw [ofExcept_pure]
    exact beancountRun_noPanic (some v) ds

theorem runBalance_noPanic (fs : Loader.FileSys) (f : Flags) (g : AccrualGuard fs f.path) (w : WindowGuard fs f) :
    ∀ s, runBalance fs f ≠ .panic s := by
  unfold runBalance
  refine ofExcept_bind_notPanic (commodityFlag_errs notPanic_msg _) fun v _ => ?_
  refine ofExcept_bind_notPanic (fromPath_noPanic fs f.path g) fun ds hds => ?_
  rw [ofExcept_pure]
  exact balanceRun_noPanic { f.balance with valuation := v } ds (w ds hds)

theorem runFormat_noPanic (fs : Loader.FileSys) (f : Flags) : ∀ s, runFormat fs f ≠ .panic s := by
  intro s
  unfold runFormat
  split
  · intro h; cases h
  · next text _ =>
    cases hp : Syntax.parseText f.path text with
    | error e => simp [Syntax.formatFile, hp]
    | ok file =>
      obtain ⟨_, _, _, _, ho, _⟩ := Syntax.parse_format hp
      simp [Syntax.formatFile, hp, ho]

end Knut.Commands

namespace Knut.Syntax

theorem fileLoopSeen_fst (path : String) (start : Nat) (acc : List Directive) (s : St) :
    (fileLoopSeen path start acc s).1 = fileLoop path start acc s := by
  fun_induction fileLoopSeen path start acc s with
  | case1 acc s hE => rw [fileLoop_eq]; simp [hE]
  | case2 acc s hE e s1 h1 => rw [fileLoop_eq]; simp [hE, h1, Res.bind]
  | case3 acc s hE d s1 h1 hE1 => rw [fileLoop_eq]; simp [hE, h1, Res.bind, hE1]
  | case4 acc s hE d s1 h1 hE1 e s2 h2 => rw [fileLoop_eq]; simp [hE, h1, Res.bind, hE1, h2]
  | case5 acc s hE d s1 h1 hE1 u s2 h2 ih => rw [fileLoop_eq]; simp [hE, h1, Res.bind, hE1, h2, ih]

theorem fileLoopSeen_snd (path : String) (start : Nat) (acc : List Directive) (s : St) :
    ∀ f s', (fileLoopSeen path start acc s).1 = .ok f s' → (fileLoopSeen path start acc s).2 = f.directives := by
  fun_induction fileLoopSeen path start acc s with
  | case1 acc s hE => intro f s' h; simp only at h; injection h with h1 h2; subst h1; rfl
  | case2 acc s hE e s1 h1 => intro f s' h; cases h
  | case3 acc s hE d s1 h1 hE1 => intro f s' h; simp only at h; injection h with h1 h2; subst h1; rfl
  | case4 acc s hE d s1 h1 hE1 e s2 h2 => intro f s' h; cases h
  | case5 acc s hE d s1 h1 hE1 u s2 h2 ih => exact ih

end Knut.Syntax

namespace Knut.Commands
open Knut Knut.Syntax Knut.Infer

theorem parseForLoader_result (file : Loader.Path) (text : Bytes) :
    (parseForLoader file text).result = (match parseText file text with | .ok f => .ok (text, f) | .error e => .error e) := by
  unfold parseForLoader parseText parseFile
  cases hs : Syntax.start (Utf8.decodeAll text) with
  | err e s => rfl
  | ok u s =>
    simp only
    have := fileLoopSeen_fst file s.off [] s
    cases hl : fileLoopSeen file s.off [] s with
    | mk r seen =>
      rw [hl] at this
      simp only at this
      rw [← this]
      cases r <;> rfl

theorem parseForLoader_ok {file : Loader.Path} {text : Bytes} {f : Syntax.File} (h : parseText file text = .ok f) :
    parseForLoader file text = { includes := includePaths text f.directives, result := .ok (text, f) } := by
  unfold parseText parseFile at h
  unfold parseForLoader
  cases hs : Syntax.start (Utf8.decodeAll text) with
  | err e s => rw [hs] at h; cases h
  | ok u s =>
    rw [hs] at h
    simp only at h ⊢
    have h1 := fileLoopSeen_fst file s.off [] s
    have h2 := fileLoopSeen_snd file s.off [] s
    cases hl : fileLoopSeen file s.off [] s with
    | mk r seen =>
      rw [hl] at h1 h2
      simp only at h1 h2 ⊢
      rw [← h1] at h
      cases r with
      | err e s' => cases h
      | ok f' s' =>
        simp only at h
        injection h with h
        subst h
        rw [h2 f' s' rfl]

/-- what `Model.Update` extracts is among what the formatter extracts -/
theorem viewT_isSome_of_viewTransaction (text : Bytes) (t : Syntax.Transaction) (h : (viewTransaction text t).isSome = true) :
    (viewT text t).isSome = true := by
  unfold viewTransaction at h
  unfold viewT
  cases hd : t.description.content.extract text with
  | none => simp [hd] at h
  | some desc =>
    cases hb : t.bookings.mapM (viewBooking text) with
    | none => simp [hd, hb] at h
    | some bs =>
      have hall := mapM_isSome_iff.mp (by simp [hb] : (t.bookings.mapM (viewBooking text)).isSome = true)
      have : (t.bookings.mapM fun b => (viewBooking text b).map fun v => (⟨b.credit.isMacro, b.debit.isMacro, v⟩ : TBooking)).isSome = true := by
        apply mapM_isSome_iff.mpr
        intro b hbm
        have := hall b hbm
        cases hv : viewBooking text b with
        | none => rw [hv] at this; cases this
        | some v => simp
      cases hm : (t.bookings.mapM fun b => (viewBooking text b).map fun v => (⟨b.credit.isMacro, b.debit.isMacro, v⟩ : TBooking)) with
      | none => rw [hm] at this; cases this
      | some tb => simp

/-- the training transactions of a file the parser accepted can be extracted (no slice bound is violated) -/
theorem fileTxs_total {path : String} {text : Bytes} {f : Syntax.File} (h : parseText path text = .ok f) :
    (fileTxs text f).isSome = true := by
  obtain ⟨items, _, i2, i3⟩ := parse_items h
  have hsome : (f.directives.mapM (viewDirective text)).isSome = true := by rw [i2, items_views i3]; rfl
  have hall := mapM_isSome_iff.mp hsome
  unfold fileTxs
  apply mapM_isSome_iff.mpr
  intro t ht
  obtain ⟨d, hd, hdt⟩ := List.mem_filterMap.mp ht
  have hv := hall d hd
  unfold viewDirective at hv
  split at hdt
  · next t' hb =>
    cases hdt
    rw [hb] at hv
    exact viewT_isSome_of_viewTransaction text _ hv
  · cases hdt

theorem runInfer_noPanic (fs : Loader.FileSys) (f : Flags) : ∀ s, runInfer fs f ≠ .panic s := by
  intro s
  unfold runInfer
  cases hl : Loader.load fs parseForLoader f.training with
  | error e => intro h; cases h
  | ok files =>
    simp only
    cases hr : fs.read f.path with
    | none => intro h; cases h
    | some target =>
      simp only
      unfold inferCmd
      cases hm : (files.map (fun pf => (pf.1, pf.2.1))).mapM (fun pt => (parseText pt.1 pt.2).toOption.map fun f => (pt.2, f)) with
      | none => intro h; cases h
      | some tfs =>
        simp only
        have htx : (tfs.mapM (fun tf => fileTxs tf.1 tf.2)).isSome = true := by
          apply mapM_isSome_iff.mpr
          intro tf htf
          obtain ⟨pt, _, hpt⟩ := mapM_some_mem hm tf htf
          cases hp : parseText pt.1 pt.2 with
          | error e => simp [hp, Except.toOption] at hpt
          | ok g =>
            simp [hp, Except.toOption] at hpt
            subst hpt
            exact fileTxs_total hp
        cases hx : tfs.mapM (fun tf => fileTxs tf.1 tf.2) with
        | none => rw [hx] at htx; cases htx
        | some txss =>
          simp only
          cases hp : parseText f.path target with
          | error e => intro h; cases h
          | ok g =>
            simp only
            obtain ⟨_, _, _, _, ho, _⟩ := parse_format hp
            have := formatWith_isSome ((train f.account.toUTF8.toList txss.flatten).inferDir exactScorer) target g
            rw [ho] at this
            unfold inferFormat
            cases hf : formatWith ((train f.account.toUTF8.toList txss.flatten).inferDir exactScorer) target g with
            | none => rw [hf] at this; cases this
            | some o => simp only; split <;> (intro h; cases h)


theorem cls_ne_panic {o : CmdOutcome} (h : ∀ s, o ≠ .panic s) : CmdOutcome.cls o ≠ .panic := by
  cases o with
  | ok s => intro h'; cases h'
  | error w => intro h'; cases h'
  | panic s => exact absurd rfl (h s)

theorem runInfer_load_error (fs : Loader.FileSys) (f : Flags) {e : Loader.LoadErr Syntax.Err}
    (h : Loader.load fs parseForLoader f.training = .error e) : runInfer fs f = .error "loading" := by
  unfold runInfer; rw [h]

theorem fromPath_error_of_file (fs : Loader.FileSys) (path : Loader.Path) :
    ∀ files, Loader.load fs parseForLoader path = .ok files → ∀ pf ∈ files, ∀ e, elabFile pf.2 = .error e →
      ∃ e', fromPath fs path = .error e' := by
  intro files hl pf hpf e he
  obtain ⟨e', h'⟩ := mapM_error_of_mem (g := fun (pf : Loader.Path × Bytes × Syntax.File) => elabFile pf.2) hpf he
  refine ⟨e', ?_⟩
  simp only [fromPath, hl, h']
  rfl

theorem ofExcept_bind_error {α : Type} {m : M α} {f : α → M CmdOutcome} {e : CmdOutcome} (h : m = .error e) :
    ofExcept (m >>= f) = e := by rw [h]; rfl

theorem commodityFlag_noOk (v : Option Commodity) : NoOk (commodityFlag v) :=
  noOk_iff.mpr (commodityFlag_errs notOk_msg v)

theorem cls_ne_ok {o : CmdOutcome} (h : ∀ s, o ≠ .ok s) : o.cls ≠ .ok := by
  cases o with
  | ok s => exact absurd rfl (h s)
  | error w => exact fun h' => nomatch h'
  | panic s => exact fun h' => nomatch h'

theorem run_fromPath_error (c : Command) (hc : c = .check ∨ c = .balance ∨ c = .print ∨ c = .transcode)
    (fs : Loader.FileSys) (f : Flags) {e : CmdOutcome} (h : fromPath fs f.path = .error e) :
    Cmd.run c fs f = e ∨ ∃ w, Cmd.run c fs f = .error w := by
  rcases hc with rfl | rfl | rfl | rfl
  · exact Or.inl (by show runCheck fs f = e; unfold runCheck; rw [h]; rfl)
  · show runBalance fs f = e ∨ ∃ w, runBalance fs f = .error w
    unfold runBalance
    rcases commodityFlag_cases f.balance.valuation with ⟨v, hv⟩ | hv <;> rw [hv]
    · rw [h]; exact Or.inl rfl
    · exact Or.inr ⟨_, rfl⟩
  · exact Or.inl (by show runPrint fs f = e; unfold runPrint; rw [h]; rfl)
  · show runTranscode fs f = e ∨ ∃ w, runTranscode fs f = .error w
    unfold runTranscode
    rcases commodityFlag_cases f.valuation with ⟨v, hv⟩ | hv <;> rw [hv]
    · cases v with
      | none => exact Or.inr ⟨_, rfl⟩
      | some v => simp only [h]; exact Or.inl rfl
    · exact Or.inr ⟨_, rfl⟩

end Knut.Commands
