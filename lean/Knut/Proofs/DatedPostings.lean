import Knut.Spec.Ledger
import Knut.Spec.MTM
/-! The specifications read the journal as a list of dated postings (`Spec.userPostings`).  With every transaction filed under
the date of its day, selecting dated postings by a test on the date is selecting days (`userPostings_by_days`): running
quantities, step counts and the bookings of a column are read off that (by the ledger-close proofs of C02 and the MTM modules of C03). -/
namespace Knut.LedgerClose
open Knut

theorem dated_of_consistent (x : Int) : ∀ (ts : List Transaction), (∀ t ∈ ts, t.date = x) →
    ts.flatMap (fun t => t.postings.map (fun p => (t.date, p))) = (ts.flatMap (·.postings)).map (fun p => (x, p))
  | [], _ => rfl
  | t :: rest, h => by
    simp only [List.flatMap_cons, List.map_append]
    rw [dated_of_consistent x rest (fun t ht => h t (List.mem_cons_of_mem _ ht)), h t List.mem_cons_self]

end Knut.LedgerClose

namespace Knut.MTM
open Knut Knut.Spec

/-- the ledger specification (C02) reads the same list under another name -/
theorem datedPostings_eq (days : List Day) : datedPostings days = userPostings days := rfl

theorem userPostings_cons (d : Day) (ds : List Day) :
    userPostings (d :: ds) = d.transactions.flatMap (fun t => t.postings.map (fun p => (t.date, p))) ++ userPostings ds := by
  unfold userPostings
  rw [List.flatMap_cons]

theorem userPostings_by_days (dp : Int → Bool) (pp : Posting → Bool) : ∀ (days : List Day),
    (∀ d ∈ days, ∀ t ∈ d.transactions, t.date = d.date) →
    (userPostings days).filter (fun x => dp x.1 && pp x.2) =
      (userPostings (days.filter (fun d => dp d.date))).filter (fun x => pp x.2)
  | [], _ => rfl
  | d :: ds, h => by
    have ih := userPostings_by_days dp pp ds (fun x hx => h x (List.mem_cons_of_mem _ hx))
    rw [userPostings_cons, List.filter_append, ih, LedgerClose.dated_of_consistent d.date d.transactions (h d List.mem_cons_self),
      List.filter_cons]
    -- all postings of the day carry the day's date: the date test keeps them all or none
    cases hd : dp d.date
    · rw [if_neg Bool.false_ne_true, List.filter_eq_nil_iff.mpr (fun x hx => by
        obtain ⟨p, _, rfl⟩ := List.mem_map.mp hx
        simp only [hd, Bool.false_and, Bool.false_eq_true, not_false_eq_true]), List.nil_append]
    · rw [if_pos rfl, userPostings_cons, List.filter_append,
        LedgerClose.dated_of_consistent d.date d.transactions (h d List.mem_cons_self)]
      congr 1
      exact List.filter_congr (fun x hx => by
        obtain ⟨p, _, rfl⟩ := List.mem_map.mp hx
        simp only [hd, Bool.true_and])

theorem userPostings_filter (dp : Int → Bool) (pp : Posting → Bool) (days : List Day)
    (hcons : ∀ d ∈ days, ∀ t ∈ d.transactions, t.date = d.date) :
    ((userPostings days).filter (fun x => dp x.1 && pp x.2)).map (·.2) =
      (days.filter (fun d => dp d.date)).flatMap (fun d => (d.transactions.flatMap (·.postings)).filter pp) := by
  rw [userPostings_by_days dp pp days hcons]
  generalize days.filter (fun d => dp d.date) = L
  induction L with
  | nil => rfl
  | cons d ds ih =>
    rw [userPostings_cons, List.filter_append, List.map_append, ih, List.flatMap_cons]
    congr 1
    clear ih
    induction d.transactions with
    | nil => rfl
    | cons t ts iht =>
      rw [List.flatMap_cons, List.flatMap_cons, List.filter_append, List.filter_append, List.map_append, iht,
        List.filter_map, List.map_map]
      exact congrArg (· ++ _) (List.map_id _)

end Knut.MTM
