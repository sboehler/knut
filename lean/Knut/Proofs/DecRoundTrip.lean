import Knut.Proofs.Digits
/-!
# Decimal text round trip (C09; also the decimal clause of C17)

`showScaled m k` (the body of shopspring's `String()`/`StringFixed`) has the shape `-? digits (. digits{k})?`; read back with
`parseDec` (`NewFromString` on the journal grammar's decimals) it yields `m / 10^k` exactly.  `showDec r` (`String()`) chooses the
least `k` with `r.den ∣ 10^k`, found by a search with fuel `r.den` (enough: `dvd_pow10_self`).  The digits are those of the REAL
`toString` (core: `Nat.toString_eq_repr`, `Nat.repr_eq_ofList_toDigits`, `Nat.ofDigitChars_ten_toDigits`); no substitute digit
function is used.
-/
namespace Knut.Dec

theorem isDigit_eq (c : Char) : Knut.Dec.isDigit c = c.isDigit := by
  simp [Knut.Dec.isDigit, Char.isDigit, Char.le_def]

abbrev digitsOf (n : Nat) : List Char := Nat.toDigits 10 n

def fracPart (k fp : Nat) : List Char :=
  if k = 0 then [] else '.' :: (List.replicate (k - (digitsOf fp).length) '0' ++ digitsOf fp)

def signPart (m : Int) : List Char := if m < 0 then ['-'] else []

theorem showScaled_toList (m : Int) (k : Nat) :
    (showScaled m k).toList =
      signPart m ++ digitsOf (m.natAbs / 10 ^ k) ++ fracPart k (m.natAbs % 10 ^ k) := by
  unfold showScaled signPart fracPart natDigits padLeftZeros
  by_cases hm : m < 0 <;> by_cases hk : k = 0 <;>
    simp [hm, hk, String.toList_append, Nat.toString_eq_repr, Nat.repr_eq_ofList_toDigits, String.length_ofList]

theorem signSplit (cs : List Char) :
    cs.head? ≠ some '-' → (match cs with | '-' :: rest => (true, rest) | _ => (false, cs)) = (false, cs) := by
  intro h
  split
  · simp at h
  · rfl

theorem digitsOf_isDigit {n : Nat} {c : Char} (h : c ∈ digitsOf n) : isDigit c = true := by
  rw [isDigit_eq]; exact Nat.isDigit_of_mem_toDigits (by decide) (by decide) h

theorem digitsOf_ne_nil (n : Nat) : digitsOf n ≠ [] := Nat.toDigits_ne_nil

theorem digitsToNat_eq (cs : List Char) : digitsToNat cs = Nat.ofDigitChars 10 cs 0 := by
  unfold digitsToNat Nat.ofDigitChars
  congr 1
  funext acc c
  rw [Nat.mul_comm]

theorem digitsToNat_digitsOf (n : Nat) : digitsToNat (digitsOf n) = n := by
  rw [digitsToNat_eq]; exact Nat.ofDigitChars_ten_toDigits

theorem digitsOf_length_le {n k : Nat} (hk : 0 < k) (h : n < 10 ^ k) : (digitsOf n).length ≤ k :=
  (Nat.length_toDigits_le_iff (by decide) hk).mpr h

/-- the digits after the point: exactly `k`, all decimal digits -/
def fracDigits (k fp : Nat) : List Char := List.replicate (k - (digitsOf fp).length) '0' ++ digitsOf fp

theorem fracDigits_length {k fp : Nat} (hk : 0 < k) (h : fp < 10 ^ k) : (fracDigits k fp).length = k := by
  have := digitsOf_length_le hk h
  simp [fracDigits]; omega

theorem fracDigits_isDigit {k fp : Nat} {c : Char} (h : c ∈ fracDigits k fp) : isDigit c = true := by
  simp only [fracDigits, List.mem_append, List.mem_replicate] at h
  rcases h with ⟨_, rfl⟩ | h
  · decide
  · exact digitsOf_isDigit h

theorem digitsToNat_shape (ip k fp : Nat) (hk : 0 < k) (h : fp < 10 ^ k) :
    digitsToNat (digitsOf ip ++ fracDigits k fp) = ip * 10 ^ k + fp := by
  have hl := digitsOf_length_le hk h
  rw [digitsToNat_eq, Nat.ofDigitChars_append, Nat.ofDigitChars_ten_toDigits, fracDigits,
    Nat.ofDigitChars_append, Nat.ofDigitChars_replicate_zero, Nat.ofDigitChars_eq_ofDigitChars_zero,
    Nat.ofDigitChars_ten_toDigits, ← Nat.mul_assoc, ← Nat.pow_add]
  have : (digitsOf fp).length + (k - (digitsOf fp).length) = k := by omega
  rw [this, Nat.mul_comm]

theorem fracPart_eq (k fp : Nat) : fracPart k fp = if k = 0 then [] else '.' :: fracDigits k fp := rfl

theorem span_digitsOf (n : Nat) (T : List Char) (hT : ∀ c, T.head? = some c → isDigit c = false) :
    (digitsOf n ++ T).takeWhile isDigit = digitsOf n ∧ (digitsOf n ++ T).dropWhile isDigit = T := by
  have hD : ∀ c ∈ digitsOf n, isDigit c = true := fun c hc => digitsOf_isDigit hc
  rw [List.takeWhile_append_of_pos hD, List.dropWhile_append_of_pos hD]
  cases T with
  | nil => simp
  | cons c T => simp [hT c rfl]

theorem parseUnsigned_shape (neg : Bool) (a k : Nat) :
    parseUnsigned neg (digitsOf (a / 10 ^ k) ++ fracPart k (a % 10 ^ k)) =
      some (mkRat (if neg then -(a : Int) else a) (10 ^ k)) := by
  have h3 : ∀ n, (digitsOf n).isEmpty = false := fun n => by simp
  unfold parseUnsigned
  rw [fracPart_eq]
  by_cases hk : k = 0
  · subst hk
    obtain ⟨h1, h2⟩ := span_digitsOf a [] (by simp)
    rw [List.append_nil] at h1 h2
    simp only [if_true, List.append_nil, Nat.pow_zero, Nat.div_one, h1, h2, h3, Bool.false_eq_true, if_false,
      digitsToNat_digitsOf, Rat.mkRat_one]
  · have hk' : 0 < k := Nat.pos_of_ne_zero hk
    have hfp : a % 10 ^ k < 10 ^ k := Nat.mod_lt _ (Nat.pow_pos (by decide))
    obtain ⟨h1, h2⟩ := span_digitsOf (a / 10 ^ k) ('.' :: fracDigits k (a % 10 ^ k)) (by simp [isDigit])
    have h4 : (fracDigits k (a % 10 ^ k)).isEmpty = false := by
      rw [List.isEmpty_eq_false_iff, ← List.length_pos_iff, fracDigits_length hk' hfp]; exact hk'
    have h5 : (fracDigits k (a % 10 ^ k)).all isDigit = true := by
      rw [List.all_eq_true]; exact fun c hc => fracDigits_isDigit hc
    simp only [hk, if_false, h1, h2, h3, h4, h5, Bool.false_eq_true, Bool.not_true, Bool.or_self,
      digitsToNat_shape _ _ _ hk' hfp, fracDigits_length hk' hfp]
    congr 2
    have := Nat.div_add_mod a (10 ^ k)
    rw [Nat.mul_comm] at this
    rw [this]

theorem head_digitsOf_ne_minus (n : Nat) (T : List Char) : (digitsOf n ++ T).head? ≠ some '-' := by
  cases h : digitsOf n with
  | nil => exact absurd h (digitsOf_ne_nil n)
  | cons c cs =>
    have : isDigit c = true := digitsOf_isDigit (h ▸ List.mem_cons_self)
    intro hh
    exact isDigit_ne this rfl (by simpa using hh)

theorem parseDec_showScaled (m : Int) (k : Nat) : parseDec (showScaled m k) = some (mkRat m (10 ^ k)) := by
  have hl := showScaled_toList m k
  by_cases hm : m < 0
  · have : (showScaled m k).toList = '-' :: (digitsOf (m.natAbs / 10 ^ k) ++ fracPart k (m.natAbs % 10 ^ k)) := by
      rw [hl]; simp [signPart, hm]
    rw [parseDec_neg _ _ this, parseUnsigned_shape]
    simp only [if_true]
    congr 2
    omega
  · have : (showScaled m k).toList = digitsOf (m.natAbs / 10 ^ k) ++ fracPart k (m.natAbs % 10 ^ k) := by
      rw [hl]; simp [signPart, hm]
    rw [parseDec_nonneg _ (by rw [this]; exact head_digitsOf_ne_minus _ _), this, parseUnsigned_shape]
    simp only [Bool.false_eq_true, if_false]
    congr 2
    omega

theorem coprime_of_not_dvd {d p : Nat} (hp : ∀ g, g ∣ p → g = 1 ∨ g = p) (h : ¬ p ∣ d) : Nat.Coprime d p := by
  rcases hp _ (Nat.gcd_dvd_right d p) with h1 | h1
  · exact h1
  · exact absurd (h1 ▸ Nat.gcd_dvd_left d p) h

theorem dvd_two {g : Nat} (h : g ∣ 2) : g = 1 ∨ g = 2 := by
  have := Nat.le_of_dvd (by decide) h
  have := Nat.pos_of_dvd_of_pos h (by decide)
  omega

theorem dvd_five {g : Nat} (h : g ∣ 5) : g = 1 ∨ g = 5 := by
  have := Nat.le_of_dvd (by decide) h
  have := Nat.pos_of_dvd_of_pos h (by decide)
  have : g = 1 ∨ g = 2 ∨ g = 3 ∨ g = 4 ∨ g = 5 := by omega
  rcases this with rfl | rfl | rfl | rfl | rfl <;> omega

/-- splitting off a factor `p` of ten costs one power of ten, and `e + 1 ≤ p * e` -/
theorem dvd_pow10_mul {p q e : Nat} (hpq : p * q = 10) (hp : 2 ≤ p) (e0 : 0 < e) (he : e ∣ 10 ^ e) :
    p * e ∣ 10 ^ (p * e) := by
  have h1 : p * e ∣ 10 ^ (e + 1) := by
    have := Nat.mul_dvd_mul (⟨q, rfl⟩ : p ∣ p * q) he
    rwa [hpq, Nat.mul_comm 10, ← Nat.pow_succ] at this
  have : 2 * e ≤ p * e := Nat.mul_le_mul_right e hp
  exact Nat.dvd_trans h1 (Nat.pow_dvd_pow 10 (by omega))

/-- a divisor of a power of ten divides `10 ^ itself` (so `findScale`'s fuel `den` is enough) -/
theorem dvd_pow10_self : ∀ (d K : Nat), d ∣ 10 ^ K → d ∣ 10 ^ d := by
  intro d
  induction d using Nat.strongRecOn with
  | _ d ih =>
    intro K h
    have hd0 : 0 < d := Nat.pos_of_dvd_of_pos h (Nat.pow_pos (by decide))
    by_cases h2 : 2 ∣ d
    · obtain ⟨e, rfl⟩ := h2
      exact dvd_pow10_mul (q := 5) rfl (Nat.le_refl 2) (by omega)
        (ih e (by omega) K (Nat.dvd_trans ⟨2, Nat.mul_comm _ _⟩ h))
    · by_cases h5 : 5 ∣ d
      · obtain ⟨e, rfl⟩ := h5
        exact dvd_pow10_mul (q := 2) rfl (by decide) (by omega)
          (ih e (by omega) K (Nat.dvd_trans ⟨5, Nat.mul_comm _ _⟩ h))
      · -- coprime to 2 and to 5, hence to `10 ^ K`, which it divides
        have c10 : Nat.Coprime d (10 ^ K) :=
          Nat.Coprime.pow_right K (Nat.Coprime.mul_right (coprime_of_not_dvd @dvd_two h2) (coprime_of_not_dvd @dvd_five h5))
        rw [Nat.Coprime.eq_one_of_dvd c10 h]
        exact Nat.one_dvd _

theorem findScale_spec (den : Nat) : ∀ (fuel k : Nat),
    k ≤ findScale den fuel k ∧ findScale den fuel k ≤ k + fuel ∧
      (den ∣ 10 ^ findScale den fuel k ∨ findScale den fuel k = k + fuel)
  | 0, k => by simp [findScale]
  | fuel + 1, k => by
    unfold findScale
    split
    · rename_i h
      exact ⟨Nat.le_refl _, by omega, Or.inl (Nat.dvd_of_mod_eq_zero h)⟩
    · have := findScale_spec den fuel (k + 1)
      omega

theorem den_dvd_scaleOf (r : Rat) (K : Nat) (h : r.den ∣ 10 ^ K) : r.den ∣ 10 ^ scaleOf r := by
  unfold scaleOf
  rcases (findScale_spec r.den r.den 0).2.2 with h1 | h1
  · exact h1
  · rw [h1, Nat.zero_add]; exact dvd_pow10_self _ K h

theorem findScale_min (den : Nat) : ∀ (fuel k j : Nat), k ≤ j → j < findScale den fuel k → ¬ den ∣ 10 ^ j
  | 0, k, j, h1, h2 => by simp [findScale] at h2; omega
  | fuel + 1, k, j, h1, h2 => by
    unfold findScale at h2
    split at h2
    · omega
    · rename_i hk
      by_cases hj : j = k
      · subst hj; intro hd; exact hk (Nat.mod_eq_zero_of_dvd hd)
      · exact findScale_min den fuel (k + 1) j (by omega) h2

theorem mkRat_scaled (r : Rat) (k : Nat) (h : r.den ∣ 10 ^ k) :
    mkRat (r.num * pow10 k / r.den) (10 ^ k) = r := by
  obtain ⟨c, hc⟩ := h
  have hc0 : c ≠ 0 := by
    intro h0; subst h0
    have : 0 < 10 ^ k := Nat.pow_pos (by decide)
    omega
  have hden : (r.den : Int) ≠ 0 := by have := r.den_pos; omega
  have e1 : pow10 k = (r.den : Int) * (c : Int) := by unfold pow10; exact_mod_cast hc
  have e2 : r.num * pow10 k / (r.den : Int) = r.num * (c : Int) := by
    rw [e1, ← Int.mul_assoc, Int.mul_comm r.num, Int.mul_assoc, Int.mul_ediv_cancel_left _ hden]
  rw [e2, hc, Rat.mkRat_mul_right hc0, Rat.mkRat_self]

theorem parseDec_showDec (r : Rat) (K : Nat) (h : r.den ∣ 10 ^ K) : parseDec (showDec r) = some r := by
  unfold showDec
  simp only [parseDec_showScaled, mkRat_scaled r (scaleOf r) (den_dvd_scaleOf r K h)]

theorem den_mkRat_dvd (n : Int) (d : Nat) (hd : d ≠ 0) : (mkRat n d).den ∣ d := by
  rw [Rat.den_mkRat]; simp only [hd, if_false]
  exact Nat.div_dvd_of_dvd (Nat.gcd_dvd_left _ _)

theorem den_mkRat_pow10_dvd (m : Int) (k : Nat) : (mkRat m (10 ^ k)).den ∣ 10 ^ k :=
  den_mkRat_dvd m _ (Nat.ne_of_gt (Nat.pow_pos (by decide)))

theorem dec_add (a b : Rat) (i j : Nat) (ha : a.den ∣ 10 ^ i) (hb : b.den ∣ 10 ^ j) :
    (a + b).den ∣ 10 ^ (i + j) := by
  rw [Rat.add_def', Nat.pow_add]
  exact Nat.dvd_trans (den_mkRat_dvd _ _ (Nat.mul_ne_zero a.den_nz b.den_nz)) (Nat.mul_dvd_mul ha hb)

theorem dec_mul (a b : Rat) (i j : Nat) (ha : a.den ∣ 10 ^ i) (hb : b.den ∣ 10 ^ j) :
    (a * b).den ∣ 10 ^ (i + j) := by
  rw [Rat.mul_def', Nat.pow_add]
  exact Nat.dvd_trans (den_mkRat_dvd _ _ (Nat.mul_ne_zero a.den_nz b.den_nz)) (Nat.mul_dvd_mul ha hb)

end Knut.Dec
