import Knut.Model.JournalPrinter
/-!
# `JournalPrinter.descText` (the printer's replacement of `"` by `'`) as a function on strings

What the agreement modules of `transaction.Builder.Build` and of the journal printer both need of it, without the printer's own proofs.
-/
namespace Knut.JournalPrinter

theorem descText_idem (s : String) : descText (descText s) = descText s := by
  unfold descText
  simp only [String.toList_ofList, List.map_map]
  congr 1
  apply List.map_congr_left
  intro c _
  by_cases h : c = '"' <;> simp [h]

theorem descText_append (a b : String) : descText (a ++ b) = descText a ++ descText b := by
  simp [descText, String.toList_append, String.ofList_append]

end Knut.JournalPrinter
