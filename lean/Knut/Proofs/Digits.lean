import Knut.Basic.Dec
import Knut.Basic.Date
/-!
# Digits, decimal texts and the month table: what the round trips share

The print-then-parse round trips of dates and decimals are each proved once (`Proofs/DecRoundTrip.lean`,
`Proofs/PrintedFields.lean`).  Around them the same small facts are needed by the journal printer, the loader, the importers
and the tables: the code points of the ASCII digits, what `parseDec` has read when it succeeds (`parseDec_cases`,
`parseUnsigned_inv`), the days of the months (`Date.daysIn_table`: the month table evaluated row by row) and the day
numbers of the years 0000..9999 that `time.Parse` yields (`Date.ofCivil_bounds`).
-/
namespace Knut.Dec

theorem isDigit_iff (c : Char) : isDigit c = true ↔ 48 ≤ c.toNat ∧ c.toNat ≤ 57 := by
  simp only [isDigit, Bool.and_eq_true, decide_eq_true_eq, Char.le_def, UInt32.le_iff_toNat_le]
  exact Iff.rfl

theorem isDigit_ne {c x : Char} (h : isDigit c = true) (hx : isDigit x = false) : c ≠ x :=
  fun e => Bool.false_ne_true (hx.symm.trans (e ▸ h))

theorem digit_le {c : Char} (h : isDigit c = true) : c.toNat - '0'.toNat ≤ 9 := by
  have := (isDigit_iff c).mp h
  show c.toNat - 48 ≤ 9
  omega

/-- `parseDec` after the sign -/
def parseUnsigned (neg : Bool) (cs : List Char) : Option Rat :=
  let ip := cs.takeWhile isDigit
  let rest := cs.dropWhile isDigit
  if ip.isEmpty then none else
  match rest with
  | [] =>
    let v : Int := digitsToNat ip
    some ((if neg then -v else v : Int) : Rat)
  | '.' :: fp =>
    if fp.isEmpty || !fp.all isDigit then none else
    let v : Int := digitsToNat (ip ++ fp)
    some (mkRat (if neg then -v else v) (10 ^ fp.length))
  | _ => none

theorem parseDec_neg (s : String) (rest : List Char) (h : s.toList = '-' :: rest) :
    parseDec s = parseUnsigned true rest := by
  unfold parseDec parseUnsigned
  simp only [h]
  rfl

theorem parseDec_nonneg (s : String) (h : s.toList.head? ≠ some '-') :
    parseDec s = parseUnsigned false s.toList := by
  unfold parseDec
  generalize s.toList = cs at h
  cases cs with
  | nil => rfl
  | cons c rest =>
    have hc : c ≠ '-' := by simpa using h
    simp only []
    split
    · rename_i heq
      cases heq; exact absurd rfl hc
    · rfl

theorem parseDec_cases (s : String) :
    ∃ neg cs, parseDec s = parseUnsigned neg cs ∧ (s.toList = cs ∨ s.toList = '-' :: cs) := by
  cases h : s.toList with
  | nil => exact ⟨false, [], by rw [parseDec_nonneg s (by rw [h]; simp), h], Or.inl rfl⟩
  | cons c rest =>
    by_cases hc : c = '-'
    · exact ⟨true, rest, parseDec_neg s rest (hc ▸ h), Or.inr (hc ▸ rfl)⟩
    · exact ⟨false, c :: rest, by rw [parseDec_nonneg s (by rw [h]; simpa using hc), h], Or.inl rfl⟩

theorem parseUnsigned_inv {neg : Bool} {cs : List Char} {q : Rat} (h : parseUnsigned neg cs = some q) :
    ∃ ip fp : List Char, ip ≠ [] ∧ (∀ c ∈ ip, isDigit c = true) ∧ (∀ c ∈ fp, isDigit c = true) ∧
      ((cs = ip ∧ q = ((if neg then -(digitsToNat ip : Int) else digitsToNat ip : Int) : Rat)) ∨
       (cs = ip ++ '.' :: fp ∧ fp ≠ [] ∧
        q = mkRat (if neg then -(digitsToNat (ip ++ fp) : Int) else digitsToNat (ip ++ fp)) (10 ^ fp.length))) := by
  unfold parseUnsigned at h
  simp only at h
  have hcs := (List.takeWhile_append_dropWhile (p := isDigit) (l := cs)).symm
  have hip : ∀ c ∈ cs.takeWhile isDigit, isDigit c = true := fun c hc => List.all_eq_true.mp List.all_takeWhile c hc
  generalize cs.takeWhile isDigit = ip at h hcs hip
  generalize cs.dropWhile isDigit = rest at h hcs
  by_cases he : ip.isEmpty = true
  · rw [if_pos he] at h; cases h
  · rw [if_neg he] at h
    have hne : ip ≠ [] := fun e => he (by rw [e]; rfl)
    split at h
    · exact ⟨ip, [], hne, hip, (fun _ h => nomatch h), Or.inl ⟨by simpa using hcs, (Option.some.inj h).symm⟩⟩
    · rename_i fp
      by_cases hf : (fp.isEmpty || !fp.all isDigit) = true
      · rw [if_pos hf] at h; cases h
      · rw [if_neg hf] at h
        simp only [Bool.or_eq_true, Bool.not_eq_true', not_or, Bool.not_eq_false] at hf
        exact ⟨ip, fp, hne, hip, List.all_eq_true.mp hf.2,
          Or.inr ⟨hcs, fun e => hf.1 (by rw [e]; rfl), (Option.some.inj h).symm⟩⟩
    · cases h

end Knut.Dec

namespace Knut.Date

/-- the month table row by row: the days of month `m` in a leap or common year -/
theorem daysIn_table (leap : Bool) (m : Int) (h1 : 1 ≤ m) (h12 : m ≤ 12) :
    cumDays leap (m + 1) - cumDays leap m =
      if m = 2 then (if leap = true then 29 else 28) else if m = 4 ∨ m = 6 ∨ m = 9 ∨ m = 11 then 30 else 31 := by
  obtain ⟨k, rfl⟩ : ∃ k : Fin 12, m = k.val + 1 := ⟨⟨(m - 1).toNat, by omega⟩, by simp only; omega⟩
  clear h1 h12
  revert k leap
  decide +kernel

theorem yearStart_0 : yearStart 0 = -366 := by decide
theorem yearStart_10000 : yearStart 10000 = 3652059 := by decide

theorem ofCivil_bounds (y m d : Int) (hy0 : 0 ≤ y) (hy1 : y ≤ 9999) (hm0 : 1 ≤ m) (hm1 : m ≤ 12) (hd0 : 1 ≤ d)
    (hd1 : d ≤ cumDays (isLeap y) (m + 1) - cumDays (isLeap y) m) : -366 ≤ ofCivil y m d ∧ ofCivil y m d ≤ 3652058 := by
  rw [ofCivil_norm y m d hm0 hm1]
  have h0 : yearStart 0 ≤ yearStart y := yearStart_mono hy0
  have h1 : yearStart (y + 1) ≤ yearStart 10000 := yearStart_mono (by omega)
  have hs := yearStart_succ y
  have hc := cumDays_within (isLeap y) hm0 hm1
  rw [cumDays_yearLen] at hc
  rw [yearStart_0] at h0
  rw [yearStart_10000] at h1
  omega

end Knut.Date
