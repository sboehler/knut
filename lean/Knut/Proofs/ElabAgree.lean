import Knut.Proofs.ElabFields
import Knut.Proofs.ListMapM
import Knut.Proofs.Accrual
/-!
# `Commands.elabFile` = `FromSyntax.loadText` (C09: one elaboration model)

Two models of `model.FromStream` exist: `FromSyntax.loadText` (bytes → directives; C04's `loadtext` correspondence, the
C09/C13 text theorems) and `Commands.elabFile` (used by `Cmd.run`, which C14 compares with the real binary). For every
directive of a successfully parsed file (`parse_views`: field tokens of the right lexical classes, validly encoded) the
two read the same fields (`Proofs/ElabFields.lean`), make the same checks — the account check of bookings and of `@accrue`
is done by `item` in one model and by `transaction.Create` in the other, with the same outcome — and handle the directives
in the same order, so that the first failure is the same one: `elabFile_agree`.
-/
namespace Knut.ElabAgree
open Knut Knut.Syntax Knut.Utf8 Knut.FromSyntax Knut.Commands

/-- an `error` return (not a panic) -/
def IsErr {α : Type} (r : M α) : Prop := ∃ m, r = .error (.error m)

/-- the string-based elaboration `r` returns what the byte-based one does: the same value, or an `error` -/
def Agrees {α β : Type} (o : Option α) (r : M β) (k : α → M β) : Prop :=
  match o with
  | some x => r = k x
  | none => IsErr r

@[simp] theorem agrees_some {α β : Type} (x : α) (r : M β) (k : α → M β) : Agrees (some x) r k ↔ r = k x := Iff.rfl
@[simp] theorem agrees_none {α β : Type} (r : M β) (k : α → M β) : Agrees (none : Option α) r k ↔ IsErr r := Iff.rfl

@[simp] theorem bind_ok {α β : Type} (a : α) (f : α → M β) : (Except.ok a : M α) >>= f = f a := rfl
@[simp] theorem bind_err {α β : Type} (e : CmdOutcome) (f : α → M β) : (Except.error e : M α) >>= f = .error e := rfl
@[simp] theorem pure_ok {α : Type} (a : α) : (pure a : M α) = .ok a := rfl
@[simp] theorem map_ok {α β : Type} (a : α) (f : α → β) : f <$> (Except.ok a : M α) = .ok (f a) := rfl
@[simp] theorem map_err {α β : Type} (e : CmdOutcome) (f : α → β) : f <$> (Except.error e : M α) = .error e := rfl

theorem viewDirective_inv {text : List UInt8} {d : Syntax.Directive} {w : DirV} (h : viewDirective text d = some w) :
    match w with
    | .transaction accr perf dt desc bks =>
      ∃ t, d.body = .transaction t ∧ viewTransaction text t = some (.transaction accr perf dt desc bks)
    | .open dt ac => ∃ o, d.body = .open o ∧ o.date.range.extract text = some dt ∧ o.account.range.extract text = some ac
    | .close dt ac => ∃ o, d.body = .close o ∧ o.date.range.extract text = some dt ∧ o.account.range.extract text = some ac
    | .assertion dt bs =>
      ∃ a, d.body = .assertion a ∧ a.date.range.extract text = some dt ∧ a.balances.mapM (viewBalance text) = some bs
    | .price dt c pr tg =>
      ∃ p, d.body = .price p ∧ p.date.range.extract text = some dt ∧ p.commodity.range.extract text = some c ∧
        p.price.range.extract text = some pr ∧ p.target.range.extract text = some tg
    | .include p => ∃ i, d.body = .include i ∧ i.includePath.content.extract text = some p := by
  have hv := viewDirective_eq_some_iff.mp h
  generalize d.body = body at hv ⊢
  cases hv with
  | transaction ht => exact ⟨_, rfl, ht⟩
  | «open» h1 h2 | close h1 h2 | assertion h1 h2 => exact ⟨_, rfl, h1, h2⟩
  | price h1 h2 h3 h4 => exact ⟨_, rfl, h1, h2, h3, h4⟩
  | «include» h1 => exact ⟨_, rfl, h1⟩

/-- the two elaborations are sequences of the same steps: they agree if they agree step by step -/
theorem Agrees.bind {α β γ : Type} {o : Option α} {r : M α} {k : α → Option β} {k' : α → M γ} {j : β → M γ}
    (h : Agrees o r .ok) (hk : ∀ x, Agrees (k x) (k' x) j) : Agrees (o.bind k) (r >>= k') j := by
  cases o with
  | none => obtain ⟨m, hm⟩ := h; exact ⟨m, by rw [hm]; rfl⟩
  | some x => rw [show r = .ok x from h]; exact hk x

theorem Agrees.of_some_ok {α : Type} {o : Option α} {r : M α} (h : ∃ x, o = some x ∧ r = .ok x) : Agrees o r .ok := by
  obtain ⟨x, rfl, rfl⟩ := h; rfl

theorem Agrees.elim {α : Type} (o : Option α) (m : String) : Agrees o (o.elim (.error (.error m)) .ok) .ok := by
  cases o
  · exact ⟨m, rfl⟩
  · rfl

section
variable {text : List UInt8}

theorem date_agree {d : Syntax.Date} {c : List Tok} (hx : d.range.extract text = some (flat c)) (hc : Canon c) (hv : Valid c) :
    elabDate text d = (FromSyntax.parseDate (flat c)).elim (.error (.error "parsing date")) .ok := by
  obtain ⟨s, hs, _, ht⟩ := field_string hx hc hv
  unfold elabDate
  rw [ht, hs, flat_strToks, parseDate_agree]
  cases Commands.parseDate s <;> rfl

theorem date_agrees {d : Syntax.Date} {c : List Tok} (hx : d.range.extract text = some (flat c)) (hc : Canon c) (hv : Valid c) :
    Agrees (FromSyntax.parseDate (flat c)) (elabDate text d) .ok :=
  date_agree hx hc hv ▸ Agrees.elim _ _

theorem dec_agree {d : Syntax.Decimal} {c : List Tok} (hx : d.range.extract text = some (flat c)) (hc : Canon c) (hv : Valid c) :
    elabDecimal text d = (decimalV (flat c)).elim (.error (.error "parsing decimal")) .ok := by
  obtain ⟨s, hs, _, ht⟩ := field_string hx hc hv
  unfold elabDecimal
  rw [ht, hs, flat_strToks, decimal_agree]
  cases Dec.parseDec s <;> rfl

theorem dec_agrees {d : Syntax.Decimal} {c : List Tok} (hx : d.range.extract text = some (flat c)) (hc : Canon c) (hv : Valid c) :
    Agrees (decimalV (flat c)) (elabDecimal text d) .ok :=
  dec_agree hx hc hv ▸ Agrees.elim _ _

theorem str_agree {r : Range} {c : List Tok} (hx : r.extract text = some (flat c)) (hc : Canon c) (hv : Valid c) :
    ∃ s, utf8 (flat c) = some s ∧ textOf text r = s := by
  obtain ⟨s, hs, _, ht⟩ := field_string hx hc hv
  exact ⟨s, by rw [hs, flat_strToks, utf8_strBytes], ht⟩

theorem commodity_agree {cm : Syntax.Commodity} {c : List Tok} (hx : cm.range.extract text = some (flat c)) (hc : Canon c)
    (hok : CommodityOK c) : ∃ s, utf8 (flat c) = some s ∧ elabCommodity text cm = .ok s := by
  obtain ⟨s, hu, ht⟩ := str_agree hx hc hok.2
  refine ⟨s, hu, ?_⟩
  have := okName_of_commodityOK hok hc hu
  unfold elabCommodity
  simp only [ht]
  have hv : Beancount.validCommodity s = true := by
    simp only [okName, Bool.and_eq_true, Bool.not_eq_true', List.isEmpty_eq_false_iff] at this
    simp only [Beancount.validCommodity, Bool.and_eq_true, Bool.not_eq_true', this.2, and_true]
    cases hl : s.toList with
    | nil => exact absurd hl this.1
    | cons a l =>
      have : s ≠ "" := by intro e; rw [e] at hl; cases hl
      simpa [String.isEmpty_iff] using this
  rw [if_pos hv]

theorem eq_of_strToks_runes {s kw : String} (h : (strToks s).map (·.r) = runesOf kw) : s = kw := by
  simp only [strToks, charsToks, List.map_map, runesOf] at h
  exact String.ext ((List.map_inj_right fun _ _ => char_of_toNat).mp h)

theorem interval_agree {iv : Syntax.Interval} {c : List Tok} (hx : iv.range.extract text = some (flat c)) (hc : Canon c)
    (hok : IntervalOK c) : ∃ s i, utf8 (flat c) = some s ∧ textOf text iv.range = s ∧ FromSyntax.interval s = some i ∧
      Commands.parseInterval s = some i := by
  obtain ⟨s, hs, _, ht⟩ := field_string hx hc hok.2
  obtain ⟨kw, hkw, hr⟩ := hok.1
  have hu : utf8 (flat c) = some s := by rw [hs, flat_strToks, utf8_strBytes]
  obtain rfl : s = kw := eq_of_strToks_runes (hs ▸ hr)
  simp only [intervalKeywords, List.mem_cons, List.not_mem_nil, or_false] at hkw
  rcases hkw with rfl | rfl | rfl | rfl
  · exact ⟨_, .daily, hu, ht, by decide, by decide⟩
  · exact ⟨_, .weekly, hu, ht, by decide, by decide⟩
  · exact ⟨_, .monthly, hu, ht, by decide, by decide⟩
  · exact ⟨_, .quarterly, hu, ht, by decide, by decide⟩


theorem account_agree {a : Syntax.Account} {c : List Tok} (hx : a.range.extract text = some (flat c)) (hc : Canon c) (hv : Valid c) :
    accountV (flat c) =
      (if (Account.ofName (textOf text a.range)).wf then some (Account.ofName (textOf text a.range)) else none) := by
  obtain ⟨s, hu, ht⟩ := str_agree hx hc hv
  simp only [accountV, hu, ht, Option.bind_eq_bind, Option.bind_some]

theorem elabAccount_agree {a : Syntax.Account} {c : List Tok} (hx : a.range.extract text = some (flat c)) (hc : Canon c)
    (hv : Valid c) :
    Agrees (accountV (flat c)) (elabAccount text a) .ok := by
  rw [account_agree hx hc hv]
  unfold elabAccount
  simp only
  by_cases hw : (Account.ofName (textOf text a.range)).wf = true
  · simp only [hw, if_true]
    exact rfl
  · simp only [hw]
    exact ⟨_, rfl⟩

theorem mapM_agree {α β γ : Type} (f : α → M γ) (g : β → Option γ) (R : α → β → Prop)
    (h : ∀ a b, R a b → Agrees (g b) (f a) .ok) :
    ∀ (l : List α) (l' : List β), List.Forall₂ R l l' → Agrees (l'.mapM g) (l.mapM f) .ok
  | [], [], _ => rfl
  | a :: l, b :: l', .cons hab hrest => by
    rw [List.mapM_cons, List.mapM_cons]
    exact (h a b hab).bind fun x => (mapM_agree f g R h l l' hrest).bind fun xs => rfl

theorem balance_agree {b : Syntax.Balance} {w : BalanceT} (hview : viewBalance text b = some w.bytes) (hok : w.ok) (hcan : w.canon) :
    Agrees (balanceV w.bytes) (elabBalance text b) .ok := by
  obtain ⟨g1, g2, g3⟩ := viewBalance_eq_some_iff.mp hview
  exact (elabAccount_agree g1 hcan.1 hok.1.2).bind fun a => (dec_agrees g2 hcan.2.1 hok.2.1.2).bind fun q =>
    (Agrees.of_some_ok (commodity_agree g3 hcan.2.2 hok.2.2)).bind fun c => rfl

def bookingWF (b : Accrual.Booking) : Bool := b.credit.wf && b.debit.wf

theorem booking_agree {b : Syntax.Booking} {w : BookingT} (hview : viewBooking text b = some w.bytes) (hok : w.ok) (hcan : w.canon) :
    (IsErr (elabBooking text b) ∧ bookingV w.bytes = none) ∨
      (∃ x, elabBooking text b = .ok x ∧ bookingV w.bytes = if bookingWF x then some x else none) := by
  obtain ⟨g1, g2, g3, g4⟩ := viewBooking_eq_some_iff.mp hview
  have a1 := account_agree g1 hcan.1 hok.1.2
  have a2 := account_agree g2 hcan.2.1 hok.2.1.2
  have a3 := dec_agree g3 hcan.2.2.1 hok.2.2.1.2
  obtain ⟨s, a4, a5⟩ := commodity_agree g4 hcan.2.2.2 hok.2.2.2
  simp only [bookingV, BookingT.bytes, elabBooking, Option.bind_eq_bind, Option.pure_def, a1, a2, a3, a4, a5]
  cases h3 : decimalV (flat w.quantity) with
  | none =>
    left
    refine ⟨⟨_, rfl⟩, ?_⟩
    by_cases w1 : (Account.ofName (textOf text b.credit.range)).wf = true <;>
      by_cases w2 : (Account.ofName (textOf text b.debit.range)).wf = true <;> simp [w1, w2]
  | some q =>
    right
    refine ⟨_, rfl, ?_⟩
    simp only [bookingWF, Option.bind_some]
    by_cases w1 : (Account.ofName (textOf text b.credit.range)).wf = true <;>
      by_cases w2 : (Account.ofName (textOf text b.debit.range)).wf = true <;> simp [w1, w2]

theorem bookings_agree : ∀ (l : List Syntax.Booking) (ws : List BookingT),
    List.Forall₂ (fun b w => viewBooking text b = some w.bytes ∧ w.ok ∧ w.canon) l ws →
    (IsErr (l.mapM (elabBooking text)) ∧ (ws.map BookingT.bytes).mapM bookingV = none) ∨
      (∃ xs, l.mapM (elabBooking text) = .ok xs ∧
        (ws.map BookingT.bytes).mapM bookingV = if xs.all bookingWF then some xs else none)
  | [], [], _ => Or.inr ⟨[], rfl, rfl⟩
  | b :: l, w :: ws, hf => by
    cases hf with
    | cons hbw hrest =>
      have ih := bookings_agree l ws hrest
      simp only [List.map_cons, List.mapM_cons, Option.bind_eq_bind, Option.pure_def]
      rcases booking_agree hbw.1 hbw.2.1 hbw.2.2 with ⟨⟨m, hm⟩, hn⟩ | ⟨x, hx, hv⟩
      · left
        rw [hm, hn]
        exact ⟨⟨m, rfl⟩, rfl⟩
      · rw [hx, hv]
        rcases ih with ⟨⟨m, hm⟩, hn⟩ | ⟨xs, hxs, hvs⟩
        · left
          rw [hm, hn]
          refine ⟨⟨m, rfl⟩, ?_⟩
          split <;> rfl
        · right
          rw [hxs, hvs]
          refine ⟨x :: xs, rfl, ?_⟩
          simp only [List.all_cons]
          by_cases h1 : bookingWF x = true <;> by_cases h2 : xs.all bookingWF = true <;> simp [h1, h2]


theorem targets_list_agree : ∀ (l : List Syntax.Commodity) (ts : List (List Tok)),
    List.Forall₂ (fun (c : Syntax.Commodity) t => c.range.extract text = some (flat t) ∧ (CommodityOK t ∧ Canon t)) l ts →
    ∃ ss, (ts.map flat).mapM utf8 = some ss ∧ l.mapM (elabCommodity text) = .ok ss
  | [], [], _ => ⟨[], rfl, rfl⟩
  | c :: l, t :: ts, hf => by
    cases hf with
    | cons h hrest =>
      obtain ⟨ss, h1, h2⟩ := targets_list_agree l ts hrest
      obtain ⟨s, g1, g2⟩ := commodity_agree h.1 h.2.2 h.2.1
      refine ⟨s :: ss, ?_, ?_⟩
      · simp only [List.map_cons, List.mapM_cons, g1, h1, Option.bind_eq_bind, Option.bind_some, Option.pure_def]
      · simp only [List.mapM_cons, g2, h2, bind_ok, pure_ok]

theorem optView_cases {α β : Type} {e : Bool} {m : Option α} {x : Option β} {g : β → α}
    (h : (if !e then m.map some else pure none) = some (x.map g)) :
    (e = true ∧ x = none) ∨ (e = false ∧ ∃ b, x = some b ∧ m = some (g b)) := by
  cases e with
  | true => cases x with
    | none => exact Or.inl ⟨rfl, rfl⟩
    | some b => cases h
  | false =>
    cases x with
    | none => cases m <;> cases h
    | some b => cases m with
      | none => cases h
      | some a => cases h; exact Or.inr ⟨rfl, b, rfl, rfl⟩

def targetsV (perf : Option (List (List UInt8))) : Option (Option (List String)) :=
  match perf with
  | none => some none
  | some ts => (ts.mapM utf8).map some

theorem targets_agree {t : Syntax.Transaction} {perf : Option (List (List Tok))}
    (hview : (if !t.addons.performance.range.empty then
        (t.addons.performance.targets.mapM (fun (c : Syntax.Commodity) => c.range.extract text)).map some
      else pure none) = some (perf.map (·.map flat)))
    (hok : ∀ ts, perf = some ts → ∀ t ∈ ts, CommodityOK t) (hcan : ∀ ts, perf = some ts → ∀ t ∈ ts, Canon t) :
    ∃ tg, targetsV (perf.map (·.map flat)) = some tg ∧ elabTargets text t = .ok tg := by
  unfold elabTargets
  obtain ⟨he, rfl⟩ | ⟨he, ts, rfl, hxs⟩ := optView_cases hview <;> rw [he]
  · exact ⟨none, rfl, rfl⟩
  · have hf := forall₂_of_mapM (fun (c : Syntax.Commodity) => c.range.extract text) flat _ ts hxs
    have hf' := forall₂_strengthen (P := fun x => CommodityOK x ∧ Canon x) hf
      (fun x hx => ⟨hok ts rfl x hx, hcan ts rfl x hx⟩)
    obtain ⟨ss, h1, h2⟩ := targets_list_agree _ ts hf'
    refine ⟨some ss, ?_, ?_⟩
    · simp only [targetsV, Option.map_some, h1]
    · simp only [Bool.false_eq_true, if_false, h2]
      rfl

def accrualOptV (accr : Option AccrualV) : Option (Option Accrual.Addon) :=
  match accr with
  | none => some none
  | some a => (accrualV a).map some

def addonWF (a : Option Accrual.Addon) : Bool :=
  match a with
  | none => true
  | some a => a.account.wf

theorem accrual_agree {t : Syntax.Transaction} {accr : Option AccrualT}
    (hview : (if !t.addons.accrual.range.empty then (viewAccrual text t.addons.accrual).map some else pure none) =
      some (accr.map AccrualT.bytes))
    (hok : ∀ a, accr = some a → a.ok) (hcan : ∀ a, accr = some a → a.canon) :
    (IsErr (elabAccrualOpt text t) ∧ accrualOptV (accr.map AccrualT.bytes) = none) ∨
      (∃ ax, elabAccrualOpt text t = .ok ax ∧
        accrualOptV (accr.map AccrualT.bytes) = if addonWF ax then some ax else none) := by
  unfold elabAccrualOpt
  obtain ⟨he, rfl⟩ | ⟨he, a, rfl, hav⟩ := optView_cases hview <;> rw [he]
  · exact Or.inr ⟨none, rfl, rfl⟩
  · have aok := hok a rfl
    have acan := hcan a rfl
    obtain ⟨g1, g2, g3, g4⟩ := viewAccrual_eq_some_iff.mp hav
    obtain ⟨s, iv, i1, i2, i3, i4⟩ := interval_agree g1 acan.1 aok.1
    have d1 := date_agree g2 acan.2.1 aok.2.1.2
    have d2 := date_agree g3 acan.2.2.1 aok.2.2.1.2
    have ac := account_agree g4 acan.2.2.2 aok.2.2.2.2
    simp only [Bool.false_eq_true, if_false, elabAccrual, d1, d2, i2, i4, accrualOptV, Option.map_some, accrualV,
      AccrualT.bytes, i1, i3, ac, Option.bind_eq_bind, Option.bind_some, Option.pure_def]
    cases h1 : FromSyntax.parseDate (flat a.start) with
    | none => exact Or.inl ⟨⟨_, rfl⟩, rfl⟩
    | some z1 =>
      cases h2 : FromSyntax.parseDate (flat a.stop) with
      | none => exact Or.inl ⟨⟨_, rfl⟩, rfl⟩
      | some z2 =>
        right
        refine ⟨some ⟨iv, z1, z2, Account.ofName (textOf text t.addons.accrual.account.range)⟩, rfl, ?_⟩
        simp only [Option.bind_some, addonWF]
        by_cases hw : (Account.ofName (textOf text t.addons.accrual.account.range)).wf = true <;> simp [hw]


/-- what `model.ParseDirective` does with an elaborated item -/
def stepM : FromSyntax.Item → M (List Directive)
  | .price p => .ok [.price p]
  | .opening o => .ok [.opening o]
  | .closing c => .ok [.closing c]
  | .assertion a => .ok [.assertion a]
  | .includeFile _ => .ok []
  | .tx t =>
    match Accrual.create t with
    | .ok txs => .ok (txs.map .tx)
    | .error => .error (.error "invalid transaction")
    | .panic s => .error (.panic ("accrual: " ++ s))

theorem itemV_transaction (accr : Option AccrualV) (perf : Option (List (List UInt8))) (d desc : List UInt8) (bks : List BookingV) :
    itemV (.transaction accr perf d desc bks) =
      (FromSyntax.parseDate d).bind fun dt => (utf8 desc).bind fun ds => (bks.mapM bookingV).bind fun bs =>
        (targetsV perf).bind fun tg => (accrualOptV accr).bind fun ac =>
          some (FromSyntax.Item.tx { date := dt, description := ds, bookings := bs, targets := tg, accrual := ac }) := by
  cases accr <;> cases perf <;> rfl

theorem create_not_wf {inp : Accrual.TxInput} (h : (inp.bookings.all bookingWF && addonWF inp.accrual) = false) :
    Accrual.create inp = .error := by
  have hr := Accrual.create_run inp
  generalize Accrual.create inp = r at hr
  cases hr with
  | badBooking | badAddon => rfl
  | plain hb ha => rw [show inp.bookings.all bookingWF = true from hb, ha] at h; cases h
  | expanded hb ha hw =>
    rw [show inp.bookings.all bookingWF = true from hb, ha, Bool.true_and] at h
    cases hw.symm.trans h

theorem check_bind_check {α β γ : Type} (a b : Bool) (x : α) (y : β) (k : α → β → γ) :
    ((if a = true then some x else none).bind fun u => (if b = true then some y else none).bind fun v => some (k u v)) =
      if (a && b) = true then some (k x y) else none := by
  cases a <;> cases b <;> rfl

theorem transaction_agree {t : Syntax.Transaction} {accr : Option AccrualT} {perf : Option (List (List Tok))}
    {d desc : List Tok} {bks : List BookingT}
    (hview : viewTransaction text t = some (DirT.transaction accr perf d desc bks).bytes)
    (hok : (DirT.transaction accr perf d desc bks).ok) (hcan : (DirT.transaction accr perf d desc bks).canon) :
    Agrees (itemV (DirT.transaction accr perf d desc bks).bytes) (elabTransaction text t) stepM := by
  -- the fields agree one by one; the account checks `item` makes per field are the refusal of `transaction.Create` on the
  -- other side (`create_not_wf`)
  obtain ⟨okA, okP, okD, okC, _, okB⟩ := hok
  obtain ⟨canA, canP, canD, canC, canB⟩ := hcan
  obtain ⟨a', p', d', c', b', hw, hA, hP, hD, hC, hB⟩ := viewTransaction_inv hview
  simp only [DirT.bytes, DirV.transaction.injEq] at hw
  obtain ⟨rfl, rfl, rfl, rfl, rfl⟩ := hw
  have hdate := date_agree hD canD okD.2
  obtain ⟨ds, hds, hdt⟩ := str_agree hC canC okC.2
  have hfb := forall₂_strengthen (P := fun w : BookingT => w.ok ∧ w.canon)
    (forall₂_of_mapM (viewBooking text) BookingT.bytes _ bks hB) (fun w hw => ⟨okB w hw, canB w hw⟩)
  have hbk := bookings_agree (text := text) t.bookings bks hfb
  obtain ⟨tg, htg, hte⟩ := targets_agree (text := text) (t := t) (perf := perf) hP okP canP
  have hac := accrual_agree (text := text) (t := t) (accr := accr) hA okA canA
  rw [DirT.bytes, itemV_transaction]
  unfold elabTransaction Commands.txInput
  rw [hdate, hds, htg]
  cases h1 : FromSyntax.parseDate (flat d) with
  | none => exact ⟨_, rfl⟩
  | some z =>
    simp only [Option.elim_some, Option.bind_some, bind_ok]
    rcases hbk with ⟨⟨m, hm⟩, hn⟩ | ⟨xs, hxs, hvs⟩
    · rw [hm, hn]
      exact ⟨m, rfl⟩
    · rw [hxs, hvs, hte]
      simp only [bind_ok]
      rcases hac with ⟨⟨m, hm⟩, hn⟩ | ⟨ax, hax, hav⟩
      · rw [hm, hn]
        cases xs.all bookingWF <;> exact ⟨m, rfl⟩
      · rw [hax, hav, hdt, check_bind_check]
        simp only [bind_ok, pure_ok]
        by_cases hw : (xs.all bookingWF && addonWF ax) = true
        · rw [if_pos hw]
          simp only [agrees_some, stepM]
          cases Accrual.create { date := z, description := ds, bookings := xs, targets := tg, accrual := ax } <;> rfl
        · rw [if_neg hw, create_not_wf (inp := { date := z, description := ds, bookings := xs, targets := tg, accrual := ax })
            (by simpa using hw)]
          exact ⟨_, rfl⟩

theorem elabDirective_agree {d : Syntax.Directive} {v : DirT} (hview : viewDirective text d = some v.bytes)
    (hok : v.ok) (hcan : v.canon) :
    Agrees (itemV v.bytes) (elabDirective text d) stepM := by
  have hv := viewDirective_inv hview
  unfold elabDirective
  cases v with
  | transaction accr perf dt desc bks =>
    obtain ⟨t, hb, ht⟩ := hv
    rw [hb]
    exact transaction_agree ht hok hcan
  | «open» dt a =>
    obtain ⟨o, hb, g1, g2⟩ := hv
    rw [hb]
    exact (elabAccount_agree g2 hcan.2 hok.2.2).bind fun acc => (date_agrees g1 hcan.1 hok.1.2).bind fun z => rfl
  | close dt a =>
    obtain ⟨o, hb, g1, g2⟩ := hv
    rw [hb]
    exact (elabAccount_agree g2 hcan.2 hok.2.2).bind fun acc => (date_agrees g1 hcan.1 hok.1.2).bind fun z => rfl
  | price dt c pr tg =>
    obtain ⟨p, hb, g1, g2, g3, g4⟩ := hv
    rw [hb]
    exact (date_agrees g1 hcan.1 hok.1.2).bind fun z =>
      (Agrees.of_some_ok (commodity_agree g2 hcan.2.1 hok.2.1)).bind fun c =>
      (dec_agrees g3 hcan.2.2.1 hok.2.2.1.2).bind fun q =>
      (Agrees.of_some_ok (commodity_agree g4 hcan.2.2.2 hok.2.2.2)).bind fun t => rfl
  | «include» p =>
    obtain ⟨i, hb, g1⟩ := hv
    obtain ⟨s, hu, _⟩ := str_agree g1 hcan hok.2
    rw [hb]
    simp only [DirT.bytes, itemV, hu, Option.bind_eq_bind, Option.bind_some, Option.pure_def]
    rfl
  | assertion dt bs =>
    obtain ⟨a, hb, g1, g2⟩ := hv
    rw [hb]
    have hf := forall₂_strengthen (P := fun w : BalanceT => w.ok ∧ w.canon)
      (forall₂_of_mapM (viewBalance text) BalanceT.bytes _ bs g2) (fun w hw => ⟨hok.2.2 w hw, hcan.2 w hw⟩)
    have a2 : Agrees ((bs.map BalanceT.bytes).mapM balanceV) (a.balances.mapM (elabBalance text)) .ok := by
      rw [List.mapM_map]
      exact mapM_agree (elabBalance text) (fun w : BalanceT => balanceV w.bytes)
        (fun b w => viewBalance text b = some w.bytes ∧ (w.ok ∧ w.canon))
        (fun b w h => balance_agree h.1 h.2.1 h.2.2) a.balances bs hf
    exact (date_agrees g1 hcan.1 hok.1.2).bind fun z => a2.bind fun xs => rfl

/-- `loadText` after the parse, with the accumulator of `loadItems.go` -/
def core (text : List UInt8) (ds : List Syntax.Directive) (acc : List Directive) : Loaded :=
  match ds.mapM (item text) with
  | none =>
    match loadItems.go (okPrefix (item text) ds) acc with
    | .panic s => .panic s
    | _ => .error
  | some its => loadItems.go its acc

theorem loadText_core (path : String) (text : List UInt8) :
    loadText path text = (match parseText path text with | .error _ => .error | .ok f => core text f.directives []) := by
  unfold loadText core loadFailed loadItems
  cases parseText path text with
  | error e => rfl
  | ok f =>
    simp only
    cases f.directives.mapM (item text) with
    | none => simp only; cases loadItems.go (okPrefix (item text) f.directives) [] <;> rfl
    | some its => rfl

/-- one step of `loadItems.go` -/
def stepL (it : FromSyntax.Item) (acc : List Directive) (k : List Directive → Loaded) : Loaded :=
  match it with
  | .price p => k (.price p :: acc)
  | .opening o => k (.opening o :: acc)
  | .closing c => k (.closing c :: acc)
  | .assertion a => k (.assertion a :: acc)
  | .includeFile _ => k acc
  | .tx t =>
    match Accrual.create t with
    | .ok txs => k ((txs.map Directive.tx).reverse ++ acc)
    | .error => .error
    | .panic s => .panic s

theorem step_cases (it : FromSyntax.Item) :
    (∃ xs, stepM it = .ok xs ∧ ∀ acc k, stepL it acc k = k (xs.reverse ++ acc)) ∨
    (IsErr (stepM it) ∧ ∀ acc k, stepL it acc k = .error) ∨
    (∃ t, stepM it = .error (.panic ("accrual: " ++ t)) ∧ ∀ acc k, stepL it acc k = .panic t) := by
  cases it with
  | tx t =>
    simp only [stepM, stepL]
    cases Accrual.create t with
    | ok txs => exact Or.inl ⟨_, rfl, fun _ _ => rfl⟩
    | error => exact Or.inr (Or.inl ⟨⟨_, rfl⟩, fun _ _ => rfl⟩)
    | panic s => exact Or.inr (Or.inr ⟨s, rfl, fun _ _ => rfl⟩)
  | _ => exact Or.inl ⟨_, rfl, fun _ _ => rfl⟩

theorem core_nil (acc : List Directive) : core text [] acc = .ok acc.reverse := rfl

theorem core_cons_none {d : Syntax.Directive} (ds : List Syntax.Directive) (acc : List Directive) (h : item text d = none) :
    core text (d :: ds) acc = .error := by
  simp only [core, List.mapM_cons, h, Option.bind_eq_bind, Option.bind_none, okPrefix, loadItems.go]

theorem core_of_none {ds : List Syntax.Directive} (hm : ds.mapM (item text) = none) (acc : List Directive) :
    core text ds acc = (match loadItems.go (okPrefix (item text) ds) acc with | .panic s => .panic s | _ => .error) := by
  simp only [core, hm]

theorem core_of_some {ds : List Syntax.Directive} {its : List FromSyntax.Item} (hm : ds.mapM (item text) = some its)
    (acc : List Directive) : core text ds acc = loadItems.go its acc := by
  simp only [core, hm]

theorem go_cons (it : FromSyntax.Item) (its : List FromSyntax.Item) (acc : List Directive) :
    loadItems.go (it :: its) acc = stepL it acc (loadItems.go its) := by
  cases it <;> rfl

theorem stepL_failed (it : FromSyntax.Item) (acc : List Directive) (k : List Directive → Loaded) :
    (match stepL it acc k with | .panic s => .panic s | _ => .error) =
      stepL it acc fun a => match k a with | .panic s => .panic s | _ => .error := by
  cases it with
  | tx t => simp only [stepL]; cases Accrual.create t <;> rfl
  | _ => rfl

theorem core_cons_some {d : Syntax.Directive} {it : FromSyntax.Item} (ds : List Syntax.Directive) (acc : List Directive)
    (h : item text d = some it) : core text (d :: ds) acc = stepL it acc (core text ds) := by
  cases hm : ds.mapM (item text) with
  | none =>
    have hm' : (d :: ds).mapM (item text) = none := by
      simp only [List.mapM_cons, h, hm, Option.bind_eq_bind, Option.bind_some, Option.bind_none]
    rw [core_of_none hm']
    simp only [okPrefix, h, go_cons, stepL_failed]
    congr 1; funext a; rw [core_of_none hm]
  | some its =>
    rw [core_of_some (mapM_cons_some.mpr ⟨it, its, h, hm, rfl⟩), go_cons]
    congr 1; funext a; rw [core_of_some hm]

/-- the string-based elaboration of a list of directives against the byte-based one -/
def SameLoad (r : M (List (List Directive))) (acc : List Directive) (L : Loaded) : Prop :=
  (∃ dss, r = .ok dss ∧ L = .ok (acc.reverse ++ dss.flatten)) ∨ (IsErr r ∧ L = .error) ∨
    (∃ t, r = .error (.panic ("accrual: " ++ t)) ∧ L = .panic t)

theorem sameLoad_cons {x : List Directive} {r : M (List (List Directive))} {acc : List Directive} {L : Loaded}
    (h : SameLoad r (x.reverse ++ acc) L) :
    SameLoad ((Except.ok x : M (List Directive)) >>= fun y => r >>= fun ys => pure (y :: ys)) acc L := by
  rcases h with ⟨dss, hr, hL⟩ | ⟨⟨m, hm⟩, hL⟩ | ⟨t, hr, hL⟩
  · left
    refine ⟨x :: dss, by rw [hr]; rfl, ?_⟩
    rw [hL]; simp
  · right; left
    exact ⟨⟨m, by rw [hm]; rfl⟩, hL⟩
  · right; right
    exact ⟨t, by rw [hr]; rfl, hL⟩

theorem dirs_agree : ∀ (ds : List Syntax.Directive) (vs : List DirT),
    List.Forall₂ (fun d v => viewDirective text d = some v.bytes ∧ (v.ok ∧ v.canon)) ds vs →
    ∀ acc, SameLoad (ds.mapM (elabDirective text)) acc (core text ds acc)
  | [], [], _, acc => Or.inl ⟨[], rfl, by simp [core_nil]⟩
  | d :: ds, v :: vs, hf, acc => by
    cases hf with
    | cons hdv hrest =>
      have ih := dirs_agree ds vs hrest
      have hit : item text d = itemV v.bytes := item_of_view hdv.1
      have hag := elabDirective_agree hdv.1 hdv.2.1 hdv.2.2
      rw [← hit] at hag
      rw [List.mapM_cons]
      cases hi : item text d with
      | none =>
        rw [hi] at hag
        obtain ⟨m, hm⟩ := hag
        rw [core_cons_none ds acc hi, hm]
        exact Or.inr (Or.inl ⟨⟨m, rfl⟩, rfl⟩)
      | some it =>
        rw [hi] at hag
        simp only [agrees_some] at hag
        rw [core_cons_some ds acc hi, hag]
        rcases step_cases it with ⟨xs, hm, hl⟩ | ⟨⟨m, hm⟩, hl⟩ | ⟨t, hm, hl⟩
        · rw [hm, hl]; exact sameLoad_cons (ih _)
        · rw [hm, hl]; exact Or.inr (Or.inl ⟨⟨m, rfl⟩, rfl⟩)
        · rw [hm, hl]; exact Or.inr (Or.inr ⟨t, rfl, rfl⟩)

/-- **`Commands.elabFile` and `FromSyntax.loadText` agree on every parsed file**: the same directives, an error when the
other reports an error, the `transaction.Create` panic (tagged `accrual: `) when the other panics -/
theorem elabFile_agree {path : String} {text : List UInt8} {f : Syntax.File} (hp : parseText path text = .ok f) :
    match loadText path text with
    | .ok ds => elabFile (text, f) = .ok ds
    | .error => IsErr (elabFile (text, f))
    | .panic s => elabFile (text, f) = .error (.panic ("accrual: " ++ s)) := by
  obtain ⟨vs, hvs, hviews⟩ := parse_views hp
  have hf := forall₂_strengthen (P := fun v : DirT => v.ok ∧ v.canon)
    (forall₂_of_mapM (viewDirective text) DirT.bytes _ vs hviews) hvs
  have := dirs_agree (text := text) f.directives vs hf []
  rw [loadText_core, hp]
  simp only
  unfold elabFile
  simp only
  rcases this with ⟨dss, hr, hL⟩ | ⟨⟨m, hm⟩, hL⟩ | ⟨t, hr, hL⟩
  · rw [hL, hr]; simp; rfl
  · rw [hL, hm]; exact ⟨m, rfl⟩
  · rw [hL, hr]; rfl

theorem _root_.Knut.FromSyntax.FileViews.elabFile_ok {path : String} {text : List UInt8} {f : Syntax.File} {vs : List DirT}
    (h : FileViews path text f vs) {ds : List Directive} (hl : loadViews vs = .ok ds) : elabFile (text, f) = .ok ds := by
  have := elabFile_agree h.parse
  rw [h.loadText, hl] at this
  exact this

end
end Knut.ElabAgree
