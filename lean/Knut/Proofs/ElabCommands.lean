import Knut.Proofs.ElabAgree
import Knut.Proofs.PrintCommands
import Knut.Proofs.LayoutFactor
import Knut.Proofs.LayoutElab
import Knut.Proofs.PrintSound
import Knut.Proofs.Loader
/-!
# `Cmd.run` (the command model C14 compares with the binary) against `printFile` (the model of the C09 theorems)

On a file without `include` directives `Cmd.run .print` IS `printFile` of the file's bytes (same output; error iff error; the
`transaction.Create` panic with `Cmd.run`'s tag).  Every journal `Cmd.run` loads, from any include tree, consists of printable
directives, and the printed text, which has no `include` directive, loads through `Cmd.run`'s own loader and elaboration to the
directives `journal.Print` wrote.  So the C09 theorems speak about the object the C14 correspondence compares with the binary.
-/
namespace Knut.ElabAgree
open Knut Knut.Syntax Knut.Utf8 Knut.FromSyntax Knut.Commands Knut.Loader Knut.Layout Knut.JournalPrinter

def isInclude (d : Syntax.Directive) : Bool :=
  match d.body with
  | .include _ => true
  | _ => false

/-- the file has no `include` directive (nothing is said about a file that does not parse) -/
def NoIncludes (path : String) (text : List UInt8) : Prop :=
  ∀ f, parseText path text = .ok f → ∀ d ∈ f.directives, isInclude d = false

theorem includePaths_nil (text : List UInt8) (ds : List Syntax.Directive) (h : ∀ d ∈ ds, isInclude d = false) :
    includePaths text ds = [] := by
  unfold includePaths
  rw [List.filterMap_eq_nil_iff]
  intro d hd
  have := h d hd
  unfold isInclude at this
  split at this
  · cases this
  · rename_i hb
    split
    · rename_i i hi; exact absurd hi (hb i)
    · rfl

theorem journalOf_single (fs : FileSys) (path : Loader.Path) (text : List UInt8) (hr : fs.read path = some text)
    (hn : NoIncludes path text) :
    journalOf fs path =
      (match parseText path text with
       | .error _ => .error (.error "loading")
       | .ok f => elabFile (text, f)) := by
  unfold journalOf load
  rw [loadRec_read fs parseForLoader path [] text rfl hr]
  unfold body
  cases hp : parseText path text with
  | error e => rw [parseForLoader_result, hp]
  | ok f =>
    rw [parseForLoader_ok hp, includePaths_nil text f.directives (hn f hp)]
    simp only [List.map_nil, Loader.collect, journalOfFiles, List.mapM_cons, List.mapM_nil]
    cases elabFile (text, f) with
    | error e => rfl
    | ok ds => simp [bind, Except.bind, pure, Except.pure, Except.map]


/-- the outcome of `Cmd.run` against the outcome of the one-file model: the same output, an error when the other reports
an error, the `transaction.Create` panic with the tag `Cmd.run` puts in front -/
def SameOutcome (a b : CmdOutcome) : Prop :=
  match b with
  | .ok out => a = .ok out
  | .error _ => ∃ m, a = .error m
  | .panic s => a = .panic ("accrual: " ++ s)

theorem loadText_parse_error {path : String} {text : List UInt8} {e : Syntax.Err} (hp : parseText path text = .error e) :
    loadText path text = .error := by
  unfold loadText; rw [hp]

theorem runPrint_single (fs : FileSys) (f : Flags) (text : List UInt8) (hr : fs.read f.path = some text)
    (hn : NoIncludes f.path text) : SameOutcome (Cmd.run .print fs f) (printFile f.path text) := by
  rw [run_print_eq, journalOf_single fs f.path text hr hn]
  unfold printFile
  cases hp : parseText f.path text with
  | error e =>
    rw [loadText_parse_error hp]
    exact ⟨_, rfl⟩
  | ok file =>
    have hag := elabFile_agree hp
    cases hl : loadText f.path text with
    | ok ds =>
      rw [hl] at hag
      simp only at hag ⊢
      rw [hag]
      simp only [printOn]
      cases Check.run (Builder.ofList ds).build with
      | error e => exact ⟨_, rfl⟩
      | ok st => rfl
    | error =>
      rw [hl] at hag
      obtain ⟨m, hm⟩ := hag
      simp only [hm]
      exact ⟨_, rfl⟩
    | panic s =>
      rw [hl] at hag
      simp only at hag ⊢
      rw [hag]
      rfl

theorem journalOf_printable (fs : FileSys) (root : Loader.Path) (ds : List Directive) (h : journalOf fs root = .ok ds) :
    ∀ x ∈ ds, PrintableDir x := by
  unfold journalOf at h
  cases hl : load fs parseForLoader root with
  | error e => rw [hl] at h; cases h
  | ok files =>
    rw [hl] at h
    obtain ⟨dss, hm, rfl⟩ := map_eq_ok.mp h
    intro x hx
    obtain ⟨l, hl', hxl⟩ := List.mem_flatten.mp hx
    refine mapM_ok_forall (P := fun l => ∀ x ∈ l, PrintableDir x) hm (fun pf hpf l hel x hxl => ?_) l hl' x hxl
    obtain ⟨text, hrd, hres⟩ := loadRec_mem fs parseForLoader root [] files hl pf hpf
    rw [parseForLoader_result] at hres
    cases hp : parseText pf.1 text with
    | error e => rw [hp] at hres; cases hres
    | ok f =>
      rw [hp] at hres
      simp only [Except.ok.injEq] at hres
      have hag := elabFile_agree hp
      rw [hres, hel] at hag
      cases hlt : loadText pf.1 text with
      | ok ds' =>
        rw [hlt] at hag
        cases hag
        exact loadText_printable pf.1 text l hlt x hxl
      | error => rw [hlt] at hag; obtain ⟨m, hm'⟩ := hag; cases hm'
      | panic s => rw [hlt] at hag; cases hag

theorem noIncludes_print (path : String) (j : List Day) (h : ∀ x ∈ journalDirs j, PrintableDir x) :
    NoIncludes path (strBytes (print j)) := by
  intro f hp d hd
  obtain ⟨f2, hf⟩ := (rend_print j h).fileViews path
  cases hp.symm.trans hf.parse
  -- the view of `d` is that of a printed directive, never an include view
  obtain ⟨v, hv, hx⟩ := forall₂_mem_left (forall₂_of_mapM (viewDirective _) DirT.bytes _ _ hf.views) d hd
  obtain ⟨x, _, rfl⟩ := List.mem_map.mp hv
  have hi := viewDirective_inv hx
  cases x <;> obtain ⟨_, hb, _⟩ := hi <;> simp only [isInclude, hb]

theorem runPrint_ok {fs : FileSys} {f : Flags} {out : String} (h : Cmd.run .print fs f = .ok out) :
    ∃ ds, journalOf fs f.path = .ok ds ∧ (Check.run (Builder.ofList ds).build).isOk = true ∧
      out = print (Builder.ofList ds).build := by
  rw [run_print_eq] at h
  cases hj : journalOf fs f.path with
  | error o =>
    rw [hj] at h
    simp only at h
    exact absurd h (fromPath_noOk fs f.path _ hj out)
  | ok ds =>
    rw [hj] at h
    simp only [printOn] at h
    cases hc : Check.run (Builder.ofList ds).build with
    | error e => rw [hc] at h; cases h
    | ok st =>
      rw [hc] at h
      simp only [CmdOutcome.ok.injEq] at h
      exact ⟨ds, rfl, by rw [hc]; rfl, h.symm⟩

theorem journalOf_printed (fs' : FileSys) (path' : Loader.Path) (ds : List Directive) (hp : ∀ x ∈ ds, PrintableDir x)
    (hr : fs'.read path' = some (strBytes (print (Builder.ofList ds).build))) :
    journalOf fs' path' = .ok (printedDirs ds) := by
  have hj := printable_built ds hp
  obtain ⟨f, hf⟩ := (rend_print _ hj.dirs).fileViews path'
  rw [journalOf_single fs' path' _ hr (noIncludes_print path' _ hj.dirs), hf.parse]
  exact hf.elabFile_ok (loadViews_dirViews _ hj.dirs)

end Knut.ElabAgree
