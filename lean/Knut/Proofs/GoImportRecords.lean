import Knut.GoSem.Basic
import Knut.Model.Import.Cards
/-!
# Records of a csv file in the translated importers and in the importer models

Go's `r[i]` on a record (`GoSem.index`: a panic outside the record) against the models' `Import.fldD`; the `for` loop of `parse`
over the reader's results against `Import.mapRows` (`loop_mapRows`), proved once for the card importers.  Their agreement statements
are three-way `match`es on the model's result: `tri_imp`/`tri_bind` pass from one to a weaker one, `ok_of_agrees` reads one backwards
(from Go's nil error to the model's `ok`).
-/
namespace Knut.Proofs.GoImport
open Knut Knut.GoSem

theorem index_fld {r : List String} {i : Nat} (h : i < r.length) : index r (i : Int) = .ok (Import.fldD r i) := by
  unfold index Import.fldD
  rw [if_neg (by omega), Int.toNat_natCast, List.getElem?_eq_getElem h]
  rfl

theorem fld_fldD {r : List String} {i : Nat} (h : i < r.length) : Import.fld r i = .ok (Import.fldD r i) := by
  unfold Import.fld Import.fldD
  rw [List.getElem?_eq_getElem h]
  rfl

/-- A three-way statement about a model result passes to a weaker one.  Stated with the `match` inline: Lean reuses a matcher whose
discriminant type and patterns coincide, so the lemma applies to the importers' statements as they are (`generalizing := false`
keeps the conclusion's `match` from abstracting `h`). -/
theorem tri_imp {A A' : List Directive → Prop} {B B' C C' : Prop} {r : Import.Res (List Directive)}
    (h : match r with | .ok a => A a | .error => B | .panic => C)
    (ha : ∀ a, A a → A' a) (hb : B → B') (hc : C → C') : match (generalizing := false) r with | .ok a => A' a | .error => B' | .panic => C' := by
  cases r with
  | ok a => exact ha a h
  | error => exact hb h
  | panic => exact hc h

theorem tri_bind {A A' : List Directive → Prop} {B B' C C' : Prop} {r : Import.Res (List Directive)}
    {f : List Directive → Import.Res (List Directive)}
    (h : match r with | .ok a => A a | .error => B | .panic => C)
    (ha : ∀ a, A a → match f a with | .ok a => A' a | .error => B' | .panic => C') (hb : B → B') (hc : C → C') :
    match (generalizing := false) r >>= f with | .ok a => A' a | .error => B' | .panic => C' := by
  cases r with
  | ok a => exact ha a h
  | error => exact hb h
  | panic => exact hc h

/-- The `for` loop of an importer's `parse` against `Import.mapRows`.  `L` is the loop (`hnil`, `hcons`: its two equations: the
reader's `io.EOF` ends it without error, any other error is returned), `step` the per-record function, `deliver r` what the reader
returns for the record `r`, `I` what holds between the parser and the model's builder, `Pn` what a panic of the model's row
stands for (kept by whatever follows: `hpn`).  If `step` follows the model's `row` on every record (`hstep`), the loop follows
`mapRows row`. -/
theorem loop_mapRows {P : Type} {eof : Error}
    {L : P → List (List String × Option Error) → GoSem.Outcome (P × Option Error)}
    {step : P → List String × Option Error → GoSem.Outcome (P × Option Error)}
    (hnil : ∀ p, L p [] = GoSem.Outcome.bind (step p ([], some eof)) (fun (p', err) =>
      if err = some eof then .ok (p', none) else .ok (p', err)))
    (hcons : ∀ p rd reads, L p (rd :: reads) = GoSem.Outcome.bind (step p rd) (fun (p', err) =>
      if err = some eof then .ok (p', none) else if err.isSome then .ok (p', err) else L p' reads))
    (heof : ∀ p, step p ([], some eof) = .ok (p, some eof))
    {row : Import.Rec → Import.Res (List Directive)} {deliver : Import.Rec → List String × Option Error}
    {I : P → Knut.Builder → Prop} {Pn : Import.Rec → GoSem.Outcome (P × Option Error) → Prop}
    (hpn : ∀ r o k, Pn r o → Pn r (Outcome.bind o k))
    (hstep : ∀ p b r, I p b → match row r with
      | .ok ds => ∃ p', step p (deliver r) = .ok (p', none) ∧ I p' (ds.foldl Knut.Builder.add b)
      | .error => ∃ p' e, e ≠ eof ∧ step p (deliver r) = .ok (p', some e)
      | .panic => Pn r (step p (deliver r))) :
    ∀ (rows : List Import.Rec) (p : P) (b : Knut.Builder), I p b →
      match Import.mapRows row rows with
      | .ok ds => ∃ p', L p (rows.map deliver) = .ok (p', none) ∧ I p' (ds.foldl Knut.Builder.add b)
      | .error => ∃ p' e, L p (rows.map deliver) = .ok (p', some e)
      | .panic => ∃ r ∈ rows, Pn r (L p (rows.map deliver))
  | [], p, b, hI => ⟨p, by rw [List.map_nil, hnil, heof]; simp [GoSem.Outcome.bind], hI⟩
  | r :: rows, p, b, hI => by
    rw [List.map_cons, hcons]
    unfold Import.mapRows
    refine tri_bind (hstep p b r hI) (fun ds ⟨p1, hp1, hI1⟩ => ?_) (fun ⟨p1, e, hne, he⟩ => ⟨p1, e, by rw [he]; simp [GoSem.Outcome.bind, hne]⟩)
      (fun h => ⟨r, List.mem_cons_self, hpn _ _ _ h⟩)
    rw [hp1]
    refine tri_bind (f := fun ds' => pure (ds ++ ds')) (loop_mapRows hnil hcons heof hpn hstep rows p1 _ hI1)
      (fun ds' ⟨p', hp', hI'⟩ => ⟨p', by simpa [GoSem.Outcome.bind] using hp', by simpa [List.foldl_append] using hI'⟩)
      (fun ⟨p', e, h⟩ => ⟨p', e, by simpa [GoSem.Outcome.bind] using h⟩)
      (fun ⟨r', hr', h'⟩ => ⟨r', List.mem_cons_of_mem _ hr', by simpa [GoSem.Outcome.bind] using h'⟩)

/-- an agreement statement read backwards: where the Go side returned a nil error the model answered `ok`, with what the statement
says of that case (`Pn`: what it says of a panic of the model, excluded by `hpn`) -/
theorem ok_of_agrees {P : Type} {res : Import.Res (List Directive)} {o : GoSem.Outcome (P × Option Error)}
    {Q : P → List Directive → Prop} {Pn : Prop}
    (ha : match res with
      | .ok ds => ∃ p', o = .ok (p', none) ∧ Q p' ds
      | .error => ∃ p' e, o = .ok (p', some e)
      | .panic => Pn)
    (hpn : ¬ Pn) {p' : P} (h : o = .ok (p', none)) : ∃ ds, res = .ok ds ∧ Q p' ds := by
  cases res with
  | ok ds =>
    obtain ⟨q, hq, hQ⟩ := ha
    cases hq.symm.trans h
    exact ⟨ds, rfl, hQ⟩
  | error =>
    obtain ⟨q, e, hq⟩ := ha
    cases hq.symm.trans h
  | panic => exact absurd ha hpn

end Knut.Proofs.GoImport
