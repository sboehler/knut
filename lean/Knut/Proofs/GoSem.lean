import Knut.GoSem.Basic
import Knut.GoSem.Strings
import Knut.Proofs.Sim
/-!
# The Go primitives and loop idioms of the prelude `Knut/GoSem`, as the agreement proofs (`FactsAgree/Trans*.lean`) use them

One group of lemmas per primitive or idiom, each in the form the translated code presents it: a slice read, written or cut at a known
position (`index_*`, `setIndex_*`, `slice_*`; at a split point `pre ++ x :: post` no `toNat` is left), `foldlE` one step at a time,
`cmpOrdered`/`ordGo` as the orders they compute, `append` in a loop, the in-place reversal (`swapLoop_reverse`), `sort.Search`
(`sortSearch_spec`) and sorting by a key (`mergeSort_key_eq`).
-/
namespace Knut.GoSem

theorem index_ok {α : Type} (xs : List α) (i : Int) (h0 : 0 ≤ i) (h : i.toNat < xs.length) :
    index xs i = .ok xs[i.toNat] := by
  unfold index
  have : ¬ i < 0 := by omega
  simp [this, List.getElem?_eq_getElem h]

theorem setIndex_ok {α : Type} (xs : List α) (i : Int) (v : α) (h0 : 0 ≤ i) (h : i.toNat < xs.length) :
    setIndex xs i v = .ok (xs.set i.toNat v) := by
  unfold setIndex
  have : ¬ (i < 0 ∨ (xs.length : Int) ≤ i) := by omega
  simp [this]

theorem index_append {α : Type} (pre : List α) (x : α) (post : List α) : index (pre ++ x :: post) (pre.length : Int) = .ok x := by
  unfold index
  have h : ¬ ((pre.length : Int) < 0) := by omega
  simp [h]

theorem setIndex_append {α : Type} (pre : List α) (x y : α) (post : List α) :
    setIndex (pre ++ x :: post) (pre.length : Int) y = .ok (pre ++ y :: post) := by
  unfold setIndex
  have h : ¬ ((pre.length : Int) < 0 ∨ ((pre ++ x :: post).length : Int) ≤ (pre.length : Int)) := by
    simp only [List.length_append, List.length_cons]; omega
  rw [if_neg h]
  simp

theorem index_map {α β : Type} (f : α → β) (xs : List α) (i : Int) :
    index (xs.map f) i = match index xs i with
      | .ok v => .ok (f v)
      | .panic m => .panic m
      | .outOfFuel => .outOfFuel := by
  unfold index
  by_cases h : i < 0
  · simp [h]
  · simp only [h, if_false, List.getElem?_map]
    cases xs[i.toNat]? <;> rfl

theorem len_map {α β : Type} (f : α → β) (xs : List α) : len (xs.map f) = len xs := by simp [len]

theorem slice_take {α : Type} (xs : List α) (n : Nat) (h : n ≤ xs.length) :
    slice xs 0 (n : Int) = .ok (xs.take n) := by
  unfold slice
  have : ¬ ((0 : Int) < 0 ∨ (n : Int) < 0 ∨ (xs.length : Int) < (n : Int)) := by omega
  simp [h]

theorem slice_drop {α : Type} (xs : List α) (n : Nat) (h : n ≤ xs.length) :
    slice xs (n : Int) (len xs) = .ok (xs.drop n) := by
  unfold slice
  simp [len, h]

theorem index_of_drop_eq_cons {α : Type} {xs : List α} {i : Nat} {x : α} {rest : List α} (h : xs.drop i = x :: rest) :
    (i : Int) < len xs ∧ index xs (i : Int) = .ok x ∧ xs.drop (i + 1) = rest := by
  have hi : i < xs.length := by
    have := congrArg List.length h
    simp at this; omega
  rw [List.drop_eq_getElem_cons hi, List.cons.injEq] at h
  refine ⟨by simp [hi], ?_, h.2⟩
  rw [index_ok xs i (by omega) (by simpa using hi)]
  simp [h.1]

theorem not_lt_len_of_drop_eq_nil {α : Type} {xs : List α} {i : Nat} (h : xs.drop i = []) : ¬ (i : Int) < len xs := by
  have := List.drop_eq_nil_iff.mp h
  simp; omega

/-! ## reading and writing a slice at a split point

A `for i, x := range xs` loop that also indexes a second slice at `i` is proved with the slice split at the position reached,
`pre ++ x :: post` with `|pre| = i`.  These are the facts about `index`, `setIndex` and the test `i < len(xs) - 1` in that form: no
`toNat`, no `getElem` is left to the loop lemmas.
-/

theorem index_at {α : Type} (pre : List α) (x : α) (post : List α) (n : Nat) (h : pre.length = n) :
    index (pre ++ x :: post) (n : Int) = .ok x := h ▸ index_append pre x post

theorem index_at1 {α : Type} (pre : List α) (x y : α) (post : List α) (n : Nat) (h : pre.length = n) :
    index (pre ++ x :: y :: post) ((n : Int) + 1) = .ok y := by
  have := index_at (pre ++ [x]) y post (n + 1) (by simp [h])
  simpa using this

theorem index_end {α : Type} (pre : List α) (n : Nat) (h : pre.length = n) :
    index pre (n : Int) = .panic "runtime error: index out of range" := by
  subst h
  unfold index
  have h : ¬ ((pre.length : Int) < 0) := by omega
  simp [h]

theorem setIndex_at {α : Type} (pre : List α) (x y : α) (post : List α) (n : Nat) (h : pre.length = n) :
    setIndex (pre ++ x :: post) (n : Int) y = .ok (pre ++ y :: post) := h ▸ setIndex_append pre x y post

theorem lt_last {α : Type} (pre : List α) (x y : α) (post : List α) (n : Nat) (h : pre.length = n) :
    (n : Int) < len (pre ++ x :: y :: post) - 1 := by
  subst h; simp; omega

theorem not_lt_last {α : Type} (pre : List α) (x : α) (n : Nat) (h : pre.length = n) :
    ¬ (n : Int) < len (pre ++ [x]) - 1 := by
  subst h; simp

/-- `len(s) > 0` on a string: it has a character -/
theorem byteLen_pos (s : String) : decide (Strings.byteLen s > 0) = !s.toList.isEmpty := by
  unfold Strings.byteLen
  cases h : s.toList with
  | nil => simp
  | cons c cs =>
    have := Char.utf8Size_pos c
    simp only [List.map_cons, List.sum_cons, List.isEmpty_cons, Bool.not_false, decide_eq_true_eq]
    omega

/-! `foldlE`, the body of a `for … range` loop in the `Outcome` monad, step by step -/

theorem foldlE_cons_ok {σ α : Type} (f : σ → α → Outcome σ) (s s' : σ) (x : α) (rest : List α) (h : f s x = .ok s') :
    foldlE f s (x :: rest) = foldlE f s' rest := by
  rw [foldlE, h]; rfl

theorem foldlE_cons_panic {σ α : Type} (f : σ → α → Outcome σ) (m : String) (s : σ) (x : α) (rest : List α)
    (h : f s x = .panic m) : foldlE f s (x :: rest) = .panic m := by
  rw [foldlE, h]; rfl

theorem foldlE_pure {σ α : Type} (f : σ → α → σ) : ∀ (l : List α) (s : σ),
    foldlE (fun s a => Outcome.ok (f s a)) s l = .ok (l.foldl f s)
  | [], _ => rfl
  | a :: l, s => foldlE_pure f l (f s a)

/-- what a translated loop does with the `Flow` of its body: a `return` ends the loop, otherwise `k` goes on -/
def Flow.andThen {σ σ' ρ : Type} (r : Flow σ ρ) (k : σ → Outcome (Flow σ' ρ)) : Outcome (Flow σ' ρ) :=
  match r with
  | .ret v => .ok (.ret v)
  | .next s => k s

theorem cmpOrdered_string (a b : String) : cmpOrdered a b = ordGo (compare a b) := by
  show cmpOrdered a b = ordGo (compareOfLessAndEq a b)
  unfold cmpOrdered compareOfLessAndEq
  by_cases h1 : a < b
  · simp [h1, ordGo]
  · by_cases h2 : b < a
    · have : a ≠ b := fun e => by subst e; exact String.lt_irrefl _ h2
      simp [h1, h2, this, ordGo]
    · have : a = b := String.le_antisymm (String.not_lt.mp h2) (String.not_lt.mp h1)
      simp [this, ordGo, String.lt_irrefl]

theorem cmpOrdered_int (a b : Int) : cmpOrdered a b = ordGo (compare a b) := by
  unfold cmpOrdered
  rcases Int.lt_trichotomy a b with h | h | h
  · simp [h, Int.compare_eq_lt.mpr h, ordGo]
  · subst h; simp [ordGo]
  · have h1 : ¬ a < b := by omega
    simp [h, h1, Int.compare_eq_gt.mpr h, ordGo]

/-- `compare.Ordered(a, b) != Greater` is `a ≤ b`, in a total order -/
theorem cmpOrdered_le {α : Type} [LT α] [LE α] [DecidableLT α] [DecidableLE α] (hlt : ∀ a b : α, a < b → a ≤ b)
    (hnot : ∀ a b : α, ¬ b < a ↔ a ≤ b) (a b : α) : decide (cmpOrdered a b ≠ 1) = decide (a ≤ b) := by
  unfold cmpOrdered
  by_cases h1 : a < b
  · simp [h1, hlt a b h1]
  · by_cases h2 : b < a
    · simp [h1, h2, (not_congr (hnot a b)).1 (fun h => h h2)]
    · simp [h1, h2, (hnot a b).1 h2]

theorem cmpOrdered_le_string (a b : String) : decide (cmpOrdered a b ≠ 1) = decide (a ≤ b) :=
  cmpOrdered_le (fun _ _ h => String.not_lt.1 (String.lt_asymm h)) (fun _ _ => String.not_lt) a b

theorem cmpOrdered_le_int (a b : Int) : decide (cmpOrdered a b ≠ 1) = decide (a ≤ b) :=
  cmpOrdered_le (fun _ _ => Int.le_of_lt) (fun _ _ => Int.not_lt) a b

@[simp] theorem ordGo_eq_zero (o : Ordering) : ordGo o = 0 ↔ o = .eq := by cases o <;> simp [ordGo]

theorem ordGo_then (a b : Ordering) : ordGo (a.then b) = if ordGo a = 0 then ordGo b else ordGo a := by
  cases a <;> simp [Ordering.then, ordGo]

theorem then_of_ne_eq : ∀ {a : Ordering} (b : Ordering), a ≠ .eq → a.then b = a
  | .lt, _, _ => rfl
  | .gt, _, _ => rfl
  | .eq, _, h => absurd rfl h

/-- `for _, x := range xs { res = append(res, f(x)...) }` -/
theorem foldl_append_flat {α β : Type} (f : α → List β) (xs : List α) (acc : List β) :
    List.foldl (fun st el => st ++ f el) acc xs = acc ++ xs.flatMap f := by
  rw [List.flatMap_eq_foldl, ← foldl_op_init (· ++ ·) List.append_assoc, List.append_nil]

/-- `for _, x := range xs { res = append(res, f(x)) }` -/
theorem foldl_append_singleton {α β : Type} (f : α → β) (xs : List α) (acc : List β) :
    List.foldl (fun st el => st ++ [f el]) acc xs = acc ++ xs.map f := by
  rw [foldl_append_flat (fun x => [f x]), List.map_eq_flatMap]

/-- the in-place reversal idiom `for i, j := 0, len(xs)-1; i < j; i, j = i+1, j-1 { xs[i], xs[j] = xs[j], xs[i] }`
in the shape the translator gives it -/
def swapLoop {α : Type} (fuel : Nat) (xs : List α) (i j : Int) : Outcome (List α × Int × Int) :=
  if decide (i < j) then
    match fuel with
    | 0 => Outcome.outOfFuel
    | fuel + 1 =>
      Outcome.bind (index xs j) (fun a =>
        Outcome.bind (index xs i) (fun b =>
          Outcome.bind (setIndex xs i a) (fun xs1 =>
            Outcome.bind (setIndex xs1 j b) (fun xs2 =>
              swapLoop fuel xs2 (i + 1) (j - 1)))))
  else Outcome.ok (xs, i, j)

theorem swapLoop_exit {α : Type} (fuel : Nat) (xs : List α) (i j : Int) (h : ¬ i < j) :
    swapLoop fuel xs i j = .ok (xs, i, j) := by
  unfold swapLoop
  rw [if_neg (by simpa using h)]

theorem swapLoop_step {α : Type} (fuel : Nat) (xs : List α) (i j : Int) (a b : α) (hij : i < j) (h0 : 0 ≤ i)
    (ha : xs[j.toNat]? = some a) (hb : xs[i.toNat]? = some b) :
    swapLoop (fuel + 1) xs i j = swapLoop fuel ((xs.set i.toNat a).set j.toNat b) (i + 1) (j - 1) := by
  obtain ⟨hj, rfl⟩ := List.getElem?_eq_some_iff.mp ha
  obtain ⟨hi, rfl⟩ := List.getElem?_eq_some_iff.mp hb
  rw [swapLoop, if_pos (by simpa using hij), index_ok xs j (by omega) hj, index_ok xs i h0 hi]
  simp only [Outcome.bind, setIndex_ok xs i _ h0 hi]
  rw [setIndex_ok _ j _ (by omega) (by simpa using hj)]

theorem eq_reverse_of_mirrored {α : Type} (orig xs : List α) (i j : Int) (hij : ¬ i < j)
    (hsum : i + j = (orig.length : Int) - 1) (hlen : xs.length = orig.length)
    (hinv : ∀ k : Nat, k < orig.length →
      xs[k]? = if (k : Int) < i ∨ j < (k : Int) then orig[orig.length - 1 - k]? else orig[k]?) :
    xs = orig.reverse := by
  apply List.ext_getElem?
  intro k
  by_cases hk : k < orig.length
  · rw [hinv k hk, List.getElem?_reverse hk]
    split
    · rfl
    · rw [show orig.length - 1 - k = k by omega]
  · rw [List.getElem?_eq_none (by omega), List.getElem?_eq_none (by simp; omega)]

theorem swapLoop_inv {α : Type} (orig : List α) :
    ∀ (fuel : Nat) (xs : List α) (i j : Int), 0 ≤ i → i + j = (orig.length : Int) - 1 → xs.length = orig.length →
      (∀ k : Nat, k < orig.length → xs[k]? = if (k : Int) < i ∨ j < (k : Int) then orig[orig.length - 1 - k]? else orig[k]?) →
      (j - i).toNat ≤ fuel →
      ∃ i' j', swapLoop fuel xs i j = .ok (orig.reverse, i', j') := by
  intro fuel
  induction fuel with
  | zero =>
    intro xs i j _ hsum hlen hinv hf
    have hij : ¬ i < j := by omega
    exact ⟨i, j, by rw [swapLoop_exit _ _ _ _ hij, eq_reverse_of_mirrored orig xs i j hij hsum hlen hinv]⟩
  | succ n ih =>
    intro xs i j h0 hsum hlen hinv hf
    by_cases hij : i < j
    · obtain ⟨a, rfl⟩ := Int.eq_ofNat_of_zero_le h0
      obtain ⟨b, rfl⟩ := Int.eq_ofNat_of_zero_le (Int.le_of_lt (Int.lt_of_le_of_lt h0 hij))
      have hb : b < orig.length := by omega
      have ha : a < orig.length := by omega
      have ea := hinv a ha
      have eb := hinv b hb
      rw [if_neg (by omega), List.getElem?_eq_getElem ha] at ea
      rw [if_neg (by omega), List.getElem?_eq_getElem hb] at eb
      rw [swapLoop_step n xs a b _ _ hij h0 eb ea]
      simp only [Int.toNat_natCast]
      apply ih _ _ _ (by omega) (by omega) (by simpa using hlen) _ (by omega)
      intro k hk
      by_cases kb : k = b
      · subst kb
        rw [List.getElem?_set_self (by simpa [hlen] using hb), if_pos (by omega),
          show orig.length - 1 - k = a by omega, List.getElem?_eq_getElem ha]
      · by_cases ka : k = a
        · subst ka
          rw [List.getElem?_set_ne (Ne.symm kb), List.getElem?_set_self (by simpa [hlen] using ha), if_pos (by omega),
            show orig.length - 1 - k = b by omega, List.getElem?_eq_getElem hb]
        · rw [List.getElem?_set_ne (Ne.symm kb), List.getElem?_set_ne (Ne.symm ka), hinv k hk]
          simp only [show ((k : Int) < (a : Int) ∨ (b : Int) < (k : Int)) ↔ ((k : Int) < (a : Int) + 1 ∨ (b : Int) - 1 < (k : Int)) by omega]
    · exact ⟨i, j, by rw [swapLoop_exit _ _ _ _ hij, eq_reverse_of_mirrored orig xs i j hij hsum hlen hinv]⟩

/-- the reversal idiom reverses, and `fuelLt 0 (len xs - 1)` suffices -/
theorem swapLoop_reverse {α : Type} (xs : List α) :
    ∃ i' j', swapLoop (fuelLt 0 (len xs - 1)) xs 0 (len xs - 1) = .ok (xs.reverse, i', j') := by
  apply swapLoop_inv xs _ xs 0 (len xs - 1) (by omega) (by simp) rfl
  · intro k hk
    have : ¬ ((k : Int) < 0 ∨ len xs - 1 < (k : Int)) := by simp; omega
    simp only [this, if_false]
  · simp [fuelLt]

/-- Go's binary search on a monotone predicate returns the first index at which it holds (or `n`) -/
theorem sortSearchLoop_spec (f : Int → Outcome Bool) (p : Nat → Bool) (n : Nat)
    (hf : ∀ k : Nat, k < n → f (k : Int) = .ok (p k))
    (hmono : ∀ a b : Nat, a ≤ b → b < n → p a = true → p b = true) :
    ∀ (fuel : Nat) (i j : Nat), i ≤ j → j ≤ n → j - i ≤ fuel →
      (∀ k, k < i → p k = false) → (∀ k, j ≤ k → k < n → p k = true) →
      ∃ r : Nat, sortSearchLoop f fuel (i : Int) (j : Int) = .ok (r : Int) ∧ r ≤ n ∧
        (∀ k, k < r → p k = false) ∧ (r < n → p r = true) := by
  intro fuel
  induction fuel with
  | zero =>
    intro i j hij hjn hfu hlo hhi
    have : i = j := by omega
    subst this
    refine ⟨i, ?_, hjn, hlo, fun h => hhi i (Nat.le_refl _) h⟩
    simp [sortSearchLoop]
  | succ m ih =>
    intro i j hij hjn hfu hlo hhi
    by_cases hlt : i < j
    · have hlt' : (i : Int) < (j : Int) := by omega
      have hh : ((i : Int) + (j : Int)) / 2 = (((i + j) / 2 : Nat) : Int) := by omega
      have hi : i ≤ (i + j) / 2 := by omega
      have hj : (i + j) / 2 < j := by omega
      unfold sortSearchLoop
      simp only [hlt', if_true, hh]
      rw [hf _ (by omega)]
      simp only [ok_bind]
      cases hp : p ((i + j) / 2) with
      | false =>
        simp only [Bool.not_false, if_true]
        have e : ((((i + j) / 2 : Nat) : Int) + 1) = (((i + j) / 2 + 1 : Nat) : Int) := by omega
        rw [e]
        apply ih _ _ (by omega) hjn (by omega) _ hhi
        intro k hk
        by_cases hk2 : k < i
        · exact hlo k hk2
        · cases hpk : p k with
          | false => rfl
          | true =>
            have := hmono k ((i + j) / 2) (by omega) (by omega) hpk
            rw [hp] at this; exact absurd this (by simp)
      | true =>
        simp only [Bool.not_true, Bool.false_eq_true, if_false]
        apply ih _ _ hi (by omega) (by omega) hlo
        intro k hk hkn
        exact hmono _ k hk hkn hp
    · have : i = j := by omega
      subst this
      refine ⟨i, ?_, hjn, hlo, fun h => hhi i (Nat.le_refl _) h⟩
      unfold sortSearchLoop
      simp

theorem sortSearch_spec (f : Int → Outcome Bool) (p : Nat → Bool) (n : Nat)
    (hf : ∀ k : Nat, k < n → f (k : Int) = .ok (p k))
    (hmono : ∀ a b : Nat, a ≤ b → b < n → p a = true → p b = true) :
    ∃ r : Nat, sortSearch (n : Int) f = .ok (r : Int) ∧ r ≤ n ∧
      (∀ k, k < r → p k = false) ∧ (r < n → p r = true) := by
  have := sortSearchLoop_spec f p n hf hmono n 0 n (Nat.zero_le _) (Nat.le_refl _) (by omega)
    (fun k hk => absurd hk (Nat.not_lt_zero _)) (fun k hk hkn => absurd hkn (by omega))
  simpa [sortSearch] using this

theorem find?_eq_getElem? {α : Type} (q : α → Bool) : ∀ (xs : List α) (r : Nat), r ≤ xs.length →
    (∀ k (h : k < xs.length), k < r → q xs[k] = false) → (∀ h : r < xs.length, q xs[r] = true) →
    xs.find? q = xs[r]?
  | [], r, _, _, _ => by simp
  | x :: rest, 0, _, _, h1 => by
    have := h1 (by simp)
    simp at this
    simp [List.find?, this]
  | x :: rest, r + 1, hr, h0, h1 => by
    have hx : q x = false := h0 0 (by simp) (by omega)
    simp only [List.find?, hx, List.getElem?_cons_succ]
    apply find?_eq_getElem? q rest r (by simpa using hr)
    · intro k h hk
      have := h0 (k + 1) (by simpa using h) (by omega)
      simpa using this
    · intro h
      have := h1 (by simpa using h)
      simpa using this

theorem mergeSort_congr {α : Type} (l : List α) (r s : α → α → Bool) (h : ∀ a ∈ l, ∀ b ∈ l, r a b = s a b) :
    l.mergeSort r = l.mergeSort s := by
  have := List.map_mergeSort (r := r) (s := s) (f := id) (l := l) (by simpa using h)
  simpa using this

/-- sorting by a key: a permutation of a list that is sorted by `key`, with keys that tell its elements apart, sorts to that list
(whatever the sort does with equal keys: there are none) -/
theorem mergeSort_key_eq {α κ : Type} [LE κ] [DecidableLE κ] (key : α → κ)
    (htrans : ∀ a b c : κ, a ≤ b → b ≤ c → a ≤ c) (htotal : ∀ a b : κ, a ≤ b ∨ b ≤ a) {l l' : List α} (hp : l.Perm l')
    (hs : l'.Pairwise (fun a b => key a ≤ key b))
    (hinj : ∀ a ∈ l', ∀ b ∈ l', key a ≤ key b → key b ≤ key a → a = b) :
    l.mergeSort (fun a b => decide (key a ≤ key b)) = l' := by
  have hperm := (List.mergeSort_perm l (fun a b => decide (key a ≤ key b))).trans hp
  refine List.Perm.eq_of_pairwise (le := fun a b => decide (key a ≤ key b) = true) ?_ ?_ ?_ hperm
  · intro a b ha hb h1 h2
    exact hinj a (hperm.mem_iff.mp ha) b hb (of_decide_eq_true h1) (of_decide_eq_true h2)
  · refine List.pairwise_mergeSort (fun a b c h1 h2 => ?_) (fun a b => ?_) _
    · exact decide_eq_true (htrans _ _ _ (of_decide_eq_true h1) (of_decide_eq_true h2))
    · simpa only [Bool.or_eq_true, decide_eq_true_eq] using htotal (key a) (key b)
  · exact hs.imp (fun h => decide_eq_true h)

end Knut.GoSem
