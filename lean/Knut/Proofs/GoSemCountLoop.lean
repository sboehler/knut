import Knut.GoSem.Basic
/-!
# Counting loops with fuel

A Go loop `for i := a; i < n; i++ { … }` with a body that can panic is translated into a recursive function `X.loop1 fuel s i` on fuel
(`GoSem/Basic.lean`).  The rule for such a function asks for the run of its state as a sequence and for two equations (a round, the
stop); the recursion on fuel and the arithmetic of the bound are done here once, and the instances are handed the comparison they have
to rewrite with, so that they contain no arithmetic.
-/
namespace Knut.GoSem

/-- a loop with fuel that, started in round `k` with `d` rounds to go and at least `d` units of fuel, runs to the end: `f k`, `c k` are state
and counter in round `k`; the two wrappers below choose `c` -/
theorem countCore {σ ρ : Type} (L : Nat → σ → Int → Outcome ρ) (f : Nat → σ) (c : Nat → Int) (N : Nat) (out : ρ)
    (hstep : ∀ (fuel k : Nat), k < N → L (fuel + 1) (f k) (c k) = L fuel (f (k + 1)) (c (k + 1)))
    (hstop : ∀ fuel, L fuel (f N) (c N) = Outcome.ok out) :
    ∀ (d fuel k : Nat), k + d = N → d ≤ fuel → L fuel (f k) (c k) = Outcome.ok out := by
  intro d
  induction d with
  | zero => intro fuel k hk _; rw [Nat.add_zero] at hk; rw [hk]; exact hstop fuel
  | succ d ih =>
    intro fuel k hk hf
    cases fuel with
    | zero => exact absurd hf (Nat.not_succ_le_zero d)
    | succ fuel =>
      rw [hstep fuel k (hk ▸ Nat.lt_add_of_pos_right (Nat.succ_pos d))]
      exact ih fuel (k + 1) (by rw [← hk, Nat.add_assoc, Nat.add_comm 1 d]) (Nat.le_of_succ_le_succ hf)

/-- `f k` is the state after `k` rounds.  The loop makes `(n - a).toNat` rounds and leaves the counter at `n`, or at `a` when `n ≤ a`:
hence the `if` in `hstop`. -/
theorem countUp {σ ρ : Type} (L : Nat → σ → Int → Outcome ρ) (f : Nat → σ) (a n : Int) (out : ρ)
    (hstep : ∀ (fuel k : Nat), a + (k : Int) < n → L (fuel + 1) (f k) (a + (k : Int)) = L fuel (f (k + 1)) (a + (k : Int) + 1))
    (hstop : ¬ (if a < n then n else a) < n → ∀ fuel, L fuel (f (n - a).toNat) (if a < n then n else a) = Outcome.ok out)
    (s0 : σ) (h0 : f 0 = s0) (fuel : Nat) (hf : (n - a).toNat ≤ fuel) : L fuel s0 a = Outcome.ok out := by
  have hend : a + (((n - a).toNat : Nat) : Int) = if a < n then n else a := by split <;> omega
  have hnot : ¬ (if a < n then n else a) < n := by split <;> omega
  have := countCore L f (fun k => a + (k : Int)) (n - a).toNat out
    (fun fuel k hk => by rw [hstep fuel k (by omega), Int.natCast_add, Int.add_assoc]; rfl)
    (fun fuel => by rw [hend]; exact hstop hnot fuel) (n - a).toNat fuel 0 (Nat.zero_add _) hf
  rw [h0] at this
  simpa using this

/-- the same rule for a counter that runs over naturals `i, i+1, …, n` (lengths): no `toNat` in the instance -/
theorem countUpNat {σ ρ : Type} (L : Nat → σ → Int → Outcome ρ) (f : Nat → σ) (i n : Nat) (out : ρ)
    (hstep : ∀ (fuel k : Nat), i + k < n → ((i + k : Nat) : Int) < (n : Int) →
      L (fuel + 1) (f k) ((i + k : Nat) : Int) = L fuel (f (k + 1)) (((i + k : Nat) : Int) + 1))
    (hstop : ¬ (n : Int) < (n : Int) → ∀ fuel, L fuel (f (n - i)) (n : Int) = Outcome.ok out)
    (hi : i ≤ n) (s0 : σ) (h0 : f 0 = s0) (fuel : Nat) (hf : n - i ≤ fuel) : L fuel s0 (i : Int) = Outcome.ok out := by
  have e2 : i + (n - i) = n := Nat.add_sub_of_le hi
  have := countCore L f (fun k => ((i + k : Nat) : Int)) (n - i) out
    (fun fuel k hk => by
      have hl : i + k < n := by rw [← e2]; exact Nat.add_lt_add_left hk i
      rw [hstep fuel k hl (Int.ofNat_lt.mpr hl)]; rfl)
    (fun fuel => by show L fuel (f (n - i)) ((i + (n - i) : Nat) : Int) = _; rw [e2]; exact hstop (Int.lt_irrefl _) fuel)
    (n - i) fuel 0 (Nat.zero_add _) hf
  rw [h0] at this
  exact this

end Knut.GoSem
