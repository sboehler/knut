import Knut.Proofs.GoSemPostOrder
import Knut.Proofs.MapSum
/-!
# The tree of a log of paths

Both report trees of knut (`lib/reports/balance`, `lib/reports/weights`) are built in the same way: every call takes a path, creates it
(`GetOrCreate`) and updates the value of the node at its end (`MNode.modifyAt f path`).  `LogTree path Val L T`: `T` is the tree of the
log `L` of items, `path` giving the path of an item: every node is the node of its path (`NodeOf`) — its segment is the last segment of
the path, the keys of its children are the next segments of the logged paths below it, each once, and its value is described by `Val`
of the items logged at exactly its path (`ownOf`).  One lemma about the tree alone (`nodeAt?_modifyAt_node`) carries "one more call
keeps the tree"; sums over the items at or below a path split along the children.
-/
namespace Knut.GoSem.MNode
variable {V ι : Type}

theorem isPrefixOf_self (p : List String) : p.isPrefixOf p = true := List.isPrefixOf_iff_prefix.2 (List.prefix_refl p)

theorem isPrefixOf_of_snoc {p : List String} {s : String} {q : List String} (h : (p ++ [s]).isPrefixOf q = true) :
    p.isPrefixOf q = true :=
  List.isPrefixOf_iff_prefix.2 ((List.prefix_append p [s]).trans (List.isPrefixOf_iff_prefix.1 h))

def nextSeg (p q : List String) : Option String := if p.isPrefixOf q then (q.drop p.length).head? else none

theorem nextSeg_append (p r : List String) : nextSeg p (p ++ r) = r.head? := by
  rw [nextSeg, if_pos (List.isPrefixOf_iff_prefix.2 (List.prefix_append _ _)), List.drop_left]

theorem nextSeg_eq_some {p q : List String} {s : String} : nextSeg p q = some s ↔ (p ++ [s]).isPrefixOf q = true := by
  unfold nextSeg
  by_cases hp : p.isPrefixOf q = true
  · obtain ⟨t, rfl⟩ := List.isPrefixOf_iff_prefix.1 hp
    rw [if_pos hp, List.drop_left, List.isPrefixOf_iff_prefix, List.prefix_append_right_inj]
    cases t with
    | nil => simp
    | cons a t' => simp [eq_comm]
  · rw [if_neg hp]
    exact ⟨fun h => (nomatch h), fun h => absurd (isPrefixOf_of_snoc h) hp⟩

theorem nextSeg_eq_none {p q : List String} (hp : p.isPrefixOf q = true) : nextSeg p q = none ↔ q = p := by
  obtain ⟨t, rfl⟩ := List.isPrefixOf_iff_prefix.1 hp
  rw [nextSeg_append]
  cases t <;> simp

section
variable (path : ι → List String)

def ownOf (L : List ι) (p : List String) : List ι := L.filter (fun e => decide (path e = p))
def belowOf (L : List ι) (p : List String) : List ι := L.filter (fun e => p.isPrefixOf (path e))

theorem ownOf_snoc (L : List ι) (a : ι) (p : List String) :
    ownOf path (L ++ [a]) p = if path a = p then ownOf path L p ++ [a] else ownOf path L p := by
  unfold ownOf
  rw [List.filter_append]
  by_cases h : path a = p <;> simp [h]

/-- a new key goes to the end of a Go map read as an association list -/
def addSeg (acc : List String) : Option String → List String
  | none => acc
  | some t => if t ∈ acc then acc else acc ++ [t]

theorem mem_addSeg {acc : List String} {o : Option String} {s : String} : s ∈ addSeg acc o ↔ s ∈ acc ∨ o = some s := by
  cases o with
  | none => simp [addSeg]
  | some t =>
    by_cases ht : t ∈ acc
    · simp only [addSeg, ht, if_true, Option.some.injEq]
      exact ⟨Or.inl, fun h => h.elim id (fun e => e ▸ ht)⟩
    · simp [addSeg, ht, eq_comm]

theorem nodup_addSeg {acc : List String} (h : acc.Nodup) (o : Option String) : (addSeg acc o).Nodup := by
  cases o with
  | none => exact h
  | some t =>
    by_cases ht : t ∈ acc
    · simpa [addSeg, ht] using h
    · simp only [addSeg, ht, if_false]
      exact List.nodup_append.2 ⟨h, List.pairwise_singleton _ t, fun x hx y hy => by
        rw [List.mem_singleton.1 hy]; exact fun e => ht (e ▸ hx)⟩

/-- `m` is the node that was at the path before: a fresh one if there was none, and then the path is a prefix of `p` -/
theorem nodeAt?_modifyAt_node [GoZero V] (f : MNode V → MNode V) (hfc : ∀ m, (f m).Children = m.Children)
    (hfs : ∀ m, (f m).Segment = m.Segment) (p : List String) (T : MNode V) {q : List String} {n : MNode V}
    (h : nodeAt? (modifyAt f p T) q = some n) :
    ∃ m, (nodeAt? T q = some m ∨ nodeAt? T q = none ∧ q.isPrefixOf p = true ∧ m = new (q.getLast?.getD "")) ∧
      n.Segment = m.Segment ∧ AMap.keys n.Children = addSeg (AMap.keys m.Children) (nextSeg q p) ∧
      n.Value = if p = q then (f m).Value else m.Value := by
  rw [nodeAt?_modifyAt _ hfc] at h
  by_cases hpre : q.isPrefixOf p = true
  · rw [if_pos hpre, Option.some.injEq] at h
    refine ⟨(nodeAt? T q).getD (new (q.getLast?.getD "")), ?_, ?_⟩
    · cases hT : nodeAt? T q with
      | some m => exact Or.inl rfl
      | none => exact Or.inr ⟨rfl, hpre, rfl⟩
    generalize (nodeAt? T q).getD (new (q.getLast?.getD "")) = m at h
    obtain ⟨r, rfl⟩ := List.isPrefixOf_iff_prefix.1 hpre
    rw [List.drop_left] at h
    subst h
    rw [nextSeg_append]
    cases r with
    | nil => exact ⟨hfs m, congrArg AMap.keys (hfc m), by simp [modifyAt]⟩
    | cons t r' =>
      have hne : ¬ q ++ t :: r' = q := fun e => by simpa using congrArg List.length e
      exact ⟨rfl, AMap.keys_set_eq _ _ _, by rw [if_neg hne]; rfl⟩
  · rw [if_neg hpre] at h
    have hne : ¬ p = q := fun e => hpre (e ▸ isPrefixOf_self _)
    exact ⟨n, Or.inl h, rfl, by rw [nextSeg, if_neg hpre]; rfl, by rw [if_neg hne]⟩

structure NodeOf (Val : List ι → V → Prop) (L : List ι) (p : List String) (n : MNode V) : Prop where
  segment : n.Segment = p.getLast?.getD ""
  nodup : (AMap.keys n.Children).Nodup
  children : ∀ s, s ∈ AMap.keys n.Children ↔ ∃ e ∈ L, (p ++ [s]).isPrefixOf (path e) = true
  value : Val (ownOf path L p) n.Value

def LogTree (Val : List ι → V → Prop) (L : List ι) (T : MNode V) : Prop := ∀ p n, nodeAt? T p = some n → NodeOf path Val L p n

theorem LogTree.below {Val : List ι → V → Prop} {L : List ι} {T : MNode V} (h : LogTree path Val L T) : Below (NodeOf path Val L) [] T :=
  fun q m hm => h q m hm

theorem NodeOf.fresh [GoZero V] {Val : List ι → V → Prop} (hzero : Val [] GoZero.zero) (L : List ι) (p : List String)
    (hp : ∀ e ∈ L, p.isPrefixOf (path e) = false) : NodeOf path Val L p (new (p.getLast?.getD "")) := by
  have hown : ownOf path L p = [] := List.filter_eq_nil_iff.2 fun e he heq => by
    have := hp e he
    rw [of_decide_eq_true heq, isPrefixOf_self] at this
    cases this
  refine ⟨rfl, List.nodup_nil, fun s => ⟨fun h => (nomatch h), fun ⟨e, he, h⟩ => ?_⟩, hown ▸ hzero⟩
  have := hp e he
  rw [isPrefixOf_of_snoc h] at this; exact Bool.noConfusion this

theorem LogTree.new [GoZero V] {Val : List ι → V → Prop} (hzero : Val [] GoZero.zero) : LogTree path Val [] (new "" : MNode V) := by
  intro p n h
  cases p with
  | nil => cases h; exact NodeOf.fresh path hzero [] [] (fun _ h => nomatch h)
  | cons s rest => cases h

theorem exists_of_prefix {Val : List ι → V → Prop} {L : List ι} (a : ι) (ha : a ∈ L) : ∀ (q p : List String) (n : MNode V),
    Below (NodeOf path Val L) p n → (p ++ q).isPrefixOf (path a) = true → (nodeAt? n q).isSome = true
  | [], _, _, _, _ => rfl
  | s :: q', p, n, hrep, hq => by
    have hq' : ((p ++ [s]) ++ q').isPrefixOf (path a) = true := by rwa [List.append_assoc]
    have hs : (p ++ [s]).isPrefixOf (path a) = true :=
      List.isPrefixOf_iff_prefix.2 ((List.prefix_append _ q').trans (List.isPrefixOf_iff_prefix.1 hq'))
    obtain ⟨c, hc⟩ := AMap.mem_keys_iff_find?.1 ((hrep.here.children s).2 ⟨a, ha, hs⟩)
    rw [nodeAt?_cons, hc]
    exact exists_of_prefix a ha q' (p ++ [s]) c (hrep.child hc) hq'

theorem LogTree.insert [GoZero V] {Val : List ι → V → Prop} {L : List ι} {T : MNode V} (h : LogTree path Val L T) (a : ι)
    (f : MNode V → MNode V) (hfc : ∀ m, (f m).Children = m.Children) (hfs : ∀ m, (f m).Segment = m.Segment)
    (hzero : Val [] GoZero.zero)
    (hval : ∀ m : MNode V, Val (ownOf path L (path a)) m.Value → Val (ownOf path L (path a) ++ [a]) (f m).Value) :
    LogTree path Val (L ++ [a]) (modifyAt f (path a) T) := by
  intro q n hq
  obtain ⟨m, hm, hseg, hkeys, hv⟩ := nodeAt?_modifyAt_node f hfc hfs (path a) T hq
  have hold : NodeOf path Val L q m := by
    rcases hm with hm | ⟨hT, _, rfl⟩
    · exact h q m hm
    · refine NodeOf.fresh path hzero L q (fun e he => Bool.eq_false_iff.2 (fun hpe => ?_))
      have := exists_of_prefix path e he q [] T h.below hpe
      rw [hT] at this
      exact Bool.noConfusion this
  refine ⟨hseg.trans hold.segment, hkeys ▸ nodup_addSeg hold.nodup _, fun s => ?_, ?_⟩
  · rw [hkeys, mem_addSeg, hold.children s, nextSeg_eq_some]
    simp only [List.mem_append, List.mem_singleton, or_and_right, exists_or, exists_eq_left]
  · rw [hv, ownOf_snoc]
    by_cases hq' : path a = q
    · subst hq'; rw [if_pos rfl, if_pos rfl]; exact hval m hold.value
    · rw [if_neg hq', if_neg hq']; exact hold.value

/-- `segs`: any listing of the children that gains the next segment of a new path at its end (the model's `childSegs`) -/
theorem LogTree.insert_keys [GoZero V] {Val : List ι → V → Prop} {L : List ι} {T : MNode V} (h : LogTree path Val L T) (a : ι)
    (f : MNode V → MNode V) (hfc : ∀ m, (f m).Children = m.Children) (hfs : ∀ m, (f m).Segment = m.Segment)
    (segs : List ι → List String → List String)
    (hsnoc : ∀ q, segs (L ++ [a]) q = addSeg (segs L q) (nextSeg q (path a)))
    (hmem : ∀ q s, s ∈ segs L q → ∃ e ∈ L, (q ++ [s]).isPrefixOf (path e) = true)
    (hk : ∀ p n, nodeAt? T p = some n → AMap.keys n.Children = segs L p) {q : List String} {n : MNode V}
    (hq : nodeAt? (modifyAt f (path a) T) q = some n) : AMap.keys n.Children = segs (L ++ [a]) q := by
  obtain ⟨m, hm, _, hkeys, _⟩ := nodeAt?_modifyAt_node f hfc hfs (path a) T hq
  rw [hkeys, hsnoc]
  refine congrArg (addSeg · _) ?_
  rcases hm with hm | ⟨hT, _, rfl⟩
  · exact hk q m hm
  · refine (List.eq_nil_iff_forall_not_mem.2 fun s hs => ?_).symm
    obtain ⟨e, he, hpe⟩ := hmem q s hs
    have := exists_of_prefix path e he q [] T h.below (isPrefixOf_of_snoc hpe)
    rw [hT] at this
    exact Bool.noConfusion this

/-- a path at or below `p` lies at `p` or below exactly one child of `p`: `MapSum.sum_by_key` at the next segment -/
theorem sum_belowOf_split (f : ι → Rat) (L : List ι) (p : List String) (ks : List String) (hn : ks.Nodup)
    (hks : ∀ e ∈ L, ∀ s, (p ++ [s]).isPrefixOf (path e) = true → s ∈ ks) :
    ((belowOf path L p).map f).sum =
      ((ownOf path L p).map f).sum + (ks.map (fun s => ((belowOf path L (p ++ [s])).map f).sum)).sum := by
  rw [MapSum.sum_by_key (fun e => nextSeg p (path e)) f ks hn (belowOf path L p)
    fun e he s h => hks e (List.mem_filter.mp he).1 s (nextSeg_eq_some.mp h)]
  unfold belowOf ownOf
  simp only [List.filter_filter]
  congr 2
  · refine congrArg (List.map f) (List.filter_congr fun e _ => ?_)
    by_cases hp : p.isPrefixOf (path e) = true
    · simp [hp, nextSeg_eq_none hp]
    · have : ¬ path e = p := fun h => hp (h ▸ isPrefixOf_self p)
      simp [hp, this]
  · refine List.map_congr_left fun s _ => congrArg (fun l => (List.map f l).sum) (List.filter_congr fun e _ => ?_)
    by_cases h : (p ++ [s]).isPrefixOf (path e) = true
    · simp [h, nextSeg_eq_some.mpr h, isPrefixOf_of_snoc h]
    · have : ¬ nextSeg p (path e) = some s := fun h' => h (nextSeg_eq_some.mp h')
      simp [h, this]

theorem mem_belowOf_split {L : List ι} {p : List String} {a : ι} :
    a ∈ belowOf path L p ↔ a ∈ ownOf path L p ∨ ∃ s, a ∈ belowOf path L (p ++ [s]) := by
  simp only [belowOf, ownOf, List.mem_filter, decide_eq_true_eq]
  constructor
  · rintro ⟨ha, hpre⟩
    obtain ⟨t, ht⟩ := List.isPrefixOf_iff_prefix.1 hpre
    cases t with
    | nil => exact Or.inl ⟨ha, by simpa using ht.symm⟩
    | cons s t' => exact Or.inr ⟨s, ha, nextSeg_eq_some.1 (by rw [← ht, nextSeg_append]; rfl)⟩
  · rintro (⟨ha, heq⟩ | ⟨s, ha, hpre⟩)
    · exact ⟨ha, heq ▸ isPrefixOf_self _⟩
    · exact ⟨ha, isPrefixOf_of_snoc hpre⟩

end
end Knut.GoSem.MNode
