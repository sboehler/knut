import Knut.Proofs.MapSum
/-!
# A Go `for k, v := range m` with its iteration order as a parameter

The translator turns a `range` over a map into a recursion `F.rangeN` over a list `o` of keys, the iteration order, which the
agreement theorems quantify over; keys of `o` that are not in the map are skipped.  What such a loop sees is `visited m o`: the
entries of the keys of `o`, in that order.  A loop of that shape is a `foldl` over `visited m o` (`range_eq_foldl`), and an order
that reaches every key once visits a permutation of the map (`visited_perm`): what does not depend on the order of a list does not
depend on the iteration order.
-/
namespace Knut.AMap
variable {κ ν σ τ : Type} [DecidableEq κ]

/-- the entries a `range` over `m` in the iteration order `o` visits -/
def visited (m : AMap κ ν) (o : List κ) : List (κ × ν) := o.filterMap fun k => (find? m k).map fun v => (k, v)

theorem visited_cons_none {m : AMap κ ν} {k : κ} (h : find? m k = none) (o : List κ) : visited m (k :: o) = visited m o := by
  simp [visited, h]

theorem visited_cons_some {m : AMap κ ν} {k : κ} {v : ν} (h : find? m k = some v) (o : List κ) :
    visited m (k :: o) = (k, v) :: visited m o := by
  simp [visited, h]

theorem mem_visited {m : AMap κ ν} {o : List κ} {e : κ × ν} : e ∈ visited m o ↔ e.1 ∈ o ∧ find? m e.1 = some e.2 := by
  obtain ⟨k, v⟩ := e
  simp only [visited, List.mem_filterMap, Option.map_eq_some_iff, Prod.mk.injEq]
  constructor
  · rintro ⟨a, ha, w, hw, rfl, rfl⟩; exact ⟨ha, hw⟩
  · rintro ⟨ha, hw⟩; exact ⟨k, ha, v, hw, rfl, rfl⟩

/-- `F` is the generated recursion, `h0` and `hc` its two equations; `ret` covers loops into `Outcome` -/
theorem range_eq_foldl {m : AMap κ ν} (d : ν) (step : σ → κ × ν → σ) (ret : σ → τ) (F : List κ → σ → τ) (h0 : ∀ s, F [] s = ret s)
    (hc : ∀ k rest s, F (k :: rest) s = if (find? m k).isSome then F rest (step s (k, get m k d)) else F rest s) :
    ∀ (o : List κ) (s : σ), F o s = ret ((visited m o).foldl step s)
  | [], s => h0 s
  | k :: rest, s => by
    rw [hc]
    cases h : find? m k with
    | none => rw [visited_cons_none h]; exact range_eq_foldl d step ret F h0 hc rest s
    | some v => rw [visited_cons_some h, get_of_find? h]; exact range_eq_foldl d step ret F h0 hc rest _

theorem keys_visited (m : AMap κ ν) : ∀ o : List κ, keys (visited m o) = o.filter fun k => (find? m k).isSome
  | [] => rfl
  | k :: o => by
    cases h : find? m k with
    | none => rw [List.filter_cons_of_neg (by simp [h]), visited_cons_none h, keys_visited m o]
    | some v => rw [List.filter_cons_of_pos (by simp [h]), visited_cons_some h, keys_cons, keys_visited m o]

theorem mem_keys_visited (m : AMap κ ν) (o : List κ) (k : κ) : k ∈ keys (visited m o) ↔ k ∈ o ∧ (find? m k).isSome := by
  rw [keys_visited, List.mem_filter]

theorem nodupKeys_visited (m : AMap κ ν) {o : List κ} (ho : o.Nodup) : NodupKeys (visited m o) := by
  rw [nodupKeys_iff, keys_visited]; exact ho.filter _

theorem find?_visited (m : AMap κ ν) (k : κ) : ∀ o : List κ, find? (visited m o) k = if k ∈ o then find? m k else none
  | [] => rfl
  | k' :: o => by
    have ih := find?_visited m k o
    by_cases e : k' = k
    · subst e
      cases h : find? m k' with
      | none => rw [visited_cons_none h, ih, h, ite_self, ite_self]
      | some v => rw [visited_cons_some h, find?_cons, if_pos rfl, if_pos List.mem_cons_self]
    · have hm : k ∈ k' :: o ↔ k ∈ o := by rw [List.mem_cons]; exact or_iff_right fun x => e x.symm
      cases h : find? m k' with
      | none => rw [visited_cons_none h, ih]; by_cases hk : k ∈ o <;> simp [hk, hm]
      | some v => rw [visited_cons_some h, find?_cons, if_neg e, ih]; by_cases hk : k ∈ o <;> simp [hk, hm]

theorem visited_filter (m : AMap κ ν) : ∀ o : List κ, visited m (o.filter fun k => (find? m k).isSome) = visited m o
  | [] => rfl
  | k :: o => by
    cases h : find? m k with
    | none => rw [List.filter_cons_of_neg (by simp [h]), visited_cons_none h, visited_filter m o]
    | some v => rw [List.filter_cons_of_pos (by simp [h]), visited_cons_some h, visited_cons_some h, visited_filter m o]

theorem visited_cons_of_not_mem (a : κ) (b : ν) (rest : AMap κ ν) : ∀ {o : List κ}, a ∉ o → visited ((a, b) :: rest) o = visited rest o
  | [], _ => rfl
  | k :: o, h => by
    have hk : a ≠ k := fun e => h (e ▸ List.mem_cons_self)
    have ih := visited_cons_of_not_mem a b rest (o := o) fun x => h (List.mem_cons_of_mem _ x)
    simp only [visited, List.filterMap_cons, find?_cons, hk, if_false] at ih ⊢
    rw [ih]

theorem visited_keys : ∀ {m : AMap κ ν}, NodupKeys m → visited m (keys m) = m
  | [], _ => rfl
  | (a, b) :: rest, hn => by
    obtain ⟨ha, hr⟩ := nodupKeys_cons.mp hn
    rw [keys_cons, visited_cons_some (v := b) (by simp [find?_cons]), visited_cons_of_not_mem a b rest (o := keys rest) ha, visited_keys hr]

theorem visited_perm {m : AMap κ ν} (hm : NodupKeys m) {o : List κ} (ho : o.Nodup) (hall : ∀ k, (find? m k).isSome → k ∈ o) :
    (visited m o).Perm m := by
  have h2 : (o.filter fun k => (find? m k).isSome).Perm (keys m) := by
    refine (List.perm_ext_iff_of_nodup (ho.filter _) hm).2 fun k => ?_
    rw [List.mem_filter]
    exact ⟨fun h => (mem_keys_iff m k).2 h.2, fun h => ⟨hall k ((mem_keys_iff m k).1 h), (mem_keys_iff m k).1 h⟩⟩
  have h3 := h2.filterMap fun k => (find? m k).map fun v => (k, v)
  rwa [← visited, ← visited, visited_filter, visited_keys hm] at h3

theorem visited_map_conv {κ' : Type} [DecidableEq κ'] {conv : κ' → κ} {g : AMap κ ν} {m : AMap κ' ν}
    (h : ∀ c, find? g (conv c) = find? m c) (hm : NodupKeys m) : visited g ((keys m).map conv) = m.map fun e => (conv e.1, e.2) := by
  have hv : visited g ((keys m).map conv) = (visited m (keys m)).map fun e => (conv e.1, e.2) := by
    unfold visited
    rw [List.filterMap_map, List.map_filterMap]
    refine congrArg (fun f => List.filterMap f (keys m)) (funext fun c => ?_)
    simp only [Function.comp, h c]
    cases find? m c <;> rfl
  rwa [visited_keys hm] at hv

/-! ### lookups under an injective key conversion

The agreement relations of the translated maps (`MEquiv`, `UEq`, …) have a field that says: the Go map at `conv c` reads what the
model reads at `c` (`look c`, whatever container the model uses), and most have another: every key of the Go map is a `conv c`.
Both survive `m[conv c] = v` and `delete(m, conv c)`. -/

section conv
variable {κ' : Type} [DecidableEq κ'] {conv : κ' → κ} (hinj : ∀ a b, conv a = conv b → a = b) {g : AMap κ ν} {look : κ' → Option ν}

include hinj
theorem find?_set_conv (h : ∀ c, find? g (conv c) = look c) (c : κ') (v : ν) (c' : κ') :
    find? (set g (conv c) v) (conv c') = if c = c' then some v else look c' := by
  rw [find?_set, h]
  by_cases e : c = c'
  · rw [if_pos e, if_pos (congrArg conv e)]
  · rw [if_neg e, if_neg fun x => e (hinj _ _ x)]

theorem find?_erase_conv (h : ∀ c, find? g (conv c) = look c) (c c' : κ') :
    find? (erase g (conv c)) (conv c') = if c = c' then none else look c' := by
  rw [find?_erase, h]
  by_cases e : c = c'
  · rw [if_pos e, if_pos (congrArg conv e)]
  · rw [if_neg e, if_neg fun x => e (hinj _ _ x)]

omit hinj [DecidableEq κ'] in
theorem keys_set_conv (h : ∀ k, (find? g k).isSome → ∃ c, k = conv c) (c : κ') (v : ν) (k : κ)
    (hk : (find? (set g (conv c) v) k).isSome) : ∃ c, k = conv c := by
  rw [find?_set] at hk
  by_cases e : conv c = k
  · exact ⟨c, e.symm⟩
  · rw [if_neg e] at hk; exact h k hk

omit hinj [DecidableEq κ'] in
theorem keys_erase_conv (h : ∀ k, (find? g k).isSome → ∃ c, k = conv c) (c : κ') (k : κ)
    (hk : (find? (erase g (conv c)) k).isSome) : ∃ c, k = conv c := by
  rw [find?_erase] at hk
  by_cases e : conv c = k
  · rw [if_pos e] at hk; cases hk
  · rw [if_neg e] at hk; exact h k hk

end conv

end Knut.AMap

/-! ### a Go map of rationals that stands for a model map has the model's entries, hence its sums -/

namespace Knut.MapSum
open Knut
variable {κ : Type} [DecidableEq κ]

/-- the Go map `g` (keys converted by `conv`) stands for the model map `m` -/
structure MEquiv {κ' : Type} [DecidableEq κ'] (conv : κ' → κ) (g : AMap κ Rat) (m : AMap κ' Rat) : Prop where
  lookup : ∀ c, AMap.find? g (conv c) = AMap.find? m c
  keys : ∀ k, (AMap.find? g k).isSome → ∃ c, k = conv c
  gnodup : NodupKeys g
  mnodup : NodupKeys m

theorem MEquiv.nil {κ' : Type} [DecidableEq κ'] (conv : κ' → κ) : MEquiv conv ([] : AMap κ Rat) ([] : AMap κ' Rat) :=
  ⟨fun _ => rfl, fun _ h => by simp at h, nodupKeys_nil, nodupKeys_nil⟩

theorem MEquiv.perm {κ' : Type} [DecidableEq κ'] {conv : κ' → κ} (hinj : ∀ a b, conv a = conv b → a = b) {g : AMap κ Rat}
    {m : AMap κ' Rat} (h : MEquiv conv g m) : g.Perm (m.map fun e => (conv e.1, e.2)) := by
  rw [← AMap.visited_map_conv h.lookup h.mnodup]
  refine (AMap.visited_perm h.gnodup (List.Pairwise.map conv (fun a b hab e => hab (hinj _ _ e)) h.mnodup) fun k hk => ?_).symm
  obtain ⟨c, rfl⟩ := h.keys k hk
  rw [h.lookup c] at hk
  exact List.mem_map_of_mem ((AMap.mem_keys_iff m c).2 hk)

theorem msum_congr {κ' : Type} [DecidableEq κ'] {conv : κ' → κ} (hinj : ∀ a b, conv a = conv b → a = b) (f : Rat → Rat)
    (m : AMap κ' Rat) (g : AMap κ Rat) (h : MEquiv conv g m) : msum f g = msum f m := by
  unfold msum
  rw [sum_perm ((h.perm hinj).map _), List.map_map]
  rfl

theorem total_congr {κ' : Type} [DecidableEq κ'] {conv : κ' → κ} (hinj : ∀ a b, conv a = conv b → a = b)
    {m : AMap κ' Rat} {g : AMap κ Rat} (h : MEquiv conv g m) : total g = total m :=
  msum_congr hinj (fun x => x) m g h

end Knut.MapSum
