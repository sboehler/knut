import Knut.GoSem.ParseLayout
import Knut.GoSem.ImportStr
import Knut.GoSem.Fmt
import Knut.Model.Import.Cards
import Knut.Model.FromSyntax
/-!
# The prelude's copies of model helpers are the model's definitions

Where a Go library function has a model of its own in `Model/` (`time.Parse` on a layout, `decimal.NewFromString`, the importers'
regular expressions and replacers), the prelude modules the translated loader and importers call (`GoSem/ParseLayout`, `ImportStr`,
`Fmt`; they do not import the model) hold a copy.  Each copy is proved
equal to its original here, once; the agreement modules of the loader and of the importers use these equations to pass from the
translated code, which calls the copy, to the model, which calls the original.
-/
namespace Knut.GoSem

theorem isDig_model : Parse.isDig = Import.isDig := rfl
theorem charVal_model : ParseLayout.charVal = Import.charVal := rfl
theorem getnum_model : ParseLayout.getnum = Import.getnum := rfl
theorem daysIn_model : ParseLayout.daysIn = Import.daysIn := rfl

/-- the prelude's `time.Parse("2006-01-02", ·)` on bytes is the loader model's `parseDate` -/
theorem parseDate_model (bs : List UInt8) : Parse.parseDate bs = FromSyntax.parseDate bs := rfl

/-- the prelude's `decimal.NewFromString` is the importer models' `newFromString` -/
theorem newFromString_model (s : String) : Parse.newFromString s = Import.newFromString s := by
  unfold Parse.newFromString Import.newFromString
  rw [show Parse.parseSignedInt = Import.parseSignedInt from rfl]
  rfl

theorem skipDot_model (v : List Char) : Import.skipLit v ['.'] = ParseLayout.skipDot v := by
  cases v with
  | nil => rfl
  | cons c v =>
    by_cases h : (c == '.') = true
    · simp [Import.skipLit, Import.skipLitF, ParseLayout.skipDot, h]
    · simp [Import.skipLit, Import.skipLitF, ParseLayout.skipDot, h]

theorem year4_model (els : List Import.LEl) (acc : Import.YMD) (v : List Char) :
    Import.parseEls (.year4 :: els) acc v = (ParseLayout.year4 v).bind (fun (y, v') => Import.parseEls els { acc with y := (y : Nat) } v') := by
  unfold ParseLayout.year4
  split
  · rename_i a b c d v'
    simp only [Import.parseEls, isDig_model, charVal_model]
    by_cases h : (Import.isDig a && Import.isDig b && Import.isDig c && Import.isDig d) = true
    · simp only [h, if_true, Option.bind_some]
    · simp only [h, if_false, Option.bind_none, Bool.false_eq_true]
  · rename_i h
    unfold Import.parseEls
    split
    · rename_i a b c d v' ; exact absurd rfl (h a b c d v')
    · rfl

/-- the prelude's `time.Parse("02.01.2006", ·)` is the importer models' layout interpreter on `layoutDMYdot` -/
theorem parseDMYdot_model (s : String) : ParseLayout.parseDMYdot s = Import.parseDate Import.layoutDMYdot s := by
  unfold ParseLayout.parseDMYdot Import.parseDate Import.layoutDMYdot
  rw [Import.parseEls.eq_3, getnum_model]
  cases Import.getnum true s.toList with
  | none => rfl
  | some x =>
    simp only [Option.bind_some, Import.parseEls.eq_2, skipDot_model]
    cases ParseLayout.skipDot x.2 with
    | none => rfl
    | some v2 =>
      simp only [Option.bind_some, Import.parseEls.eq_5]
      cases Import.getnum true v2 with
      | none => rfl
      | some y =>
        simp only [Option.bind_some]
        split
        · rfl
        · simp only [Import.parseEls.eq_2, skipDot_model]
          cases ParseLayout.skipDot y.2 with
          | none => rfl
          | some v4 =>
            simp only [Option.bind_some, year4_model]
            cases ParseLayout.year4 v4 with
            | none => rfl
            | some z =>
              obtain ⟨yr, v5⟩ := z
              cases v5 <;> rfl

theorem dateReHere_model (cs : List Char) : Regexp.dateReHere cs = Import.dateReHere cs := rfl

theorem anySuffix_model (cs : List Char) : Regexp.anySuffix Regexp.dateReHere cs = Import.anySuffix Import.dateReHere cs := by
  induction cs with
  | nil => simp [Regexp.anySuffix, Import.anySuffix, dateReHere_model]
  | cons c cs ih => simp [Regexp.anySuffix, Import.anySuffix, dateReHere_model, ih]

theorem matchDate_model (s : String) : Regexp.matchDate s = Import.dateRe s := anySuffix_model _

theorem TrimSpace_model (s : String) : Strings.TrimSpace s = Import.trimSpace s := rfl

theorem replaceChfAposChars_model (cs : List Char) : Strings.replaceChfAposChars cs = Import.Swisscard.stripChf cs := by
  fun_induction Import.Swisscard.stripChf cs with
  | case1 => rw [Strings.replaceChfAposChars]
  | case2 rest ih => rw [Strings.replaceChfAposChars, ih]
  | case3 rest ih => rw [Strings.replaceChfAposChars, ih]
  | case4 c rest h1 h2 ih => rw [Strings.replaceChfAposChars, ih] <;> simp_all

theorem replaceChfApos_model (s : String) : Strings.replaceChfApos s = String.ofList (Import.Swisscard.stripChf s.toList) := by
  unfold Strings.replaceChfApos; rw [replaceChfAposChars_model]

theorem join_model (ws : List String) : Strings.Join ws " " = Import.joinWith " " ws := rfl

theorem isSpaceRe_model : Regexp.isSpaceRe = Import.isSpaceRe := rfl

theorem replaceAllWsChars_model (cs : List Char) : Regexp.replaceAllWsChars [' '] cs = Import.collapseWsChars cs := by
  fun_induction Import.collapseWsChars cs with
  | case1 => rw [Regexp.replaceAllWsChars]
  | case2 c rest h ih =>
    rw [Regexp.replaceAllWsChars, isSpaceRe_model, if_pos h, ih]; rfl
  | case3 c rest h ih =>
    rw [Regexp.replaceAllWsChars, isSpaceRe_model, if_neg h, ih]

/-- the prelude's `\s+` replacement by one blank is the importer models' `collapseWs` -/
theorem replaceAllWs_model (s : String) : Regexp.replaceAllWs s " " = Import.collapseWs s := by
  unfold Regexp.replaceAllWs Import.collapseWs
  rw [show (" " : String).toList = [' '] from rfl, replaceAllWsChars_model]

end Knut.GoSem
