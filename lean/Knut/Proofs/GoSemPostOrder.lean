import Knut.Proofs.GoSemTree
/-!
# `MNode.postOrderF`: subtree predicates, the children loop, the rule of the traversal

`postOrderF f ord (fuel + 1) path s n` folds `childStep` over `ord path` and then calls `f` on the node with the new children.
`Below P p n` says that `P` holds, with its path, of every node of the subtree `n` hanging at `p`.  `postOrderF_rule` takes a
precondition that passes from a node to its children, a postcondition that `f` re-establishes at a node whose children already satisfy
it, and (for a traversal with state) an invariant of the keys still to come; the recursion on fuel, the heights and the children loop
(`childStep_fold`) are done there once, so that a traversal is proved by a lemma about ONE call of `f`.  The recursion only ever runs
on the original children (a child still to be visited is the node's own), so only the heights of the tree before the traversal matter
for the fuel.
-/
namespace Knut.GoSem.MNode
variable {V σ : Type}

/-- one child of the traversal: skipped when the key is not (or no longer) a child -/
def childStep {σ : Type} (f : List String → σ → MNode V → Outcome (σ × MNode V)) (ord : List String → List String)
    (fuel : Nat) (path : List String) (st : σ × List (String × MNode V)) (key : String) : Outcome (σ × List (String × MNode V)) :=
  match AMap.find? st.2 key with
  | none => .ok st
  | some ch => (postOrderF f ord fuel (path ++ [key]) st.1 ch).bind fun r => .ok (r.1, AMap.set st.2 key r.2)

theorem childStep_some {σ : Type} (f : List String → σ → MNode V → Outcome (σ × MNode V)) (ord : List String → List String)
    (fuel : Nat) (path : List String) (st : σ × List (String × MNode V)) (key : String) (ch : MNode V) (h : AMap.find? st.2 key = some ch) :
    childStep f ord fuel path st key =
      (postOrderF f ord fuel (path ++ [key]) st.1 ch).bind fun r => .ok (r.1, AMap.set st.2 key r.2) := by simp [childStep, h]

theorem postOrderF_succ {σ : Type} (f : List String → σ → MNode V → Outcome (σ × MNode V)) (ord : List String → List String)
    (fuel : Nat) (path : List String) (s : σ) (n : MNode V) :
    postOrderF f ord (fuel + 1) path s n =
      (foldlE (childStep f ord fuel path) (s, n.Children) (ord path)).bind fun st => f path st.1 { n with Children := st.2 } := rfl

def Below (P : List String → MNode V → Prop) (p : List String) (n : MNode V) : Prop :=
  ∀ q m, nodeAt? n q = some m → P (p ++ q) m

theorem Below.here {P : List String → MNode V → Prop} {p : List String} {n : MNode V} (h : Below P p n) : P p n := by
  simpa using h [] n rfl

theorem Below.child {P : List String → MNode V → Prop} {p : List String} {n : MNode V} (h : Below P p n) {s : String} {c : MNode V}
    (hc : AMap.find? n.Children s = some c) : Below P (p ++ [s]) c := by
  intro q m hm
  simpa [List.append_assoc] using h (s :: q) m (nodeAt?_of_child hc hm)

theorem Below.of_children {P : List String → MNode V → Prop} {p : List String} {n : MNode V} (hroot : P p n)
    (hch : ∀ s c, AMap.find? n.Children s = some c → Below P (p ++ [s]) c) : Below P p n
  | [], m, hm => by cases hm; rwa [List.append_nil]
  | s :: q', m, hm => by
    obtain ⟨c, hc, hm'⟩ := nodeAt?_cons_some hm
    have := hch s c hc q' m hm'
    rwa [List.append_assoc, List.singleton_append] at this

/-- the children loop of one node: `cs0` are the node's children before the loop, `ks` the keys still to be visited, `cs` the
children as they stand; a child whose key is still in `ks` is the original one, every other child `c'` is the result `R s c c'` of
the traversal of its original `c`; `I` is the invariant of the state along the keys to come.  At the end every child is a result. -/
theorem childStep_fold (f : List String → σ → MNode V → Outcome (σ × MNode V)) (ord : List String → List String) (fuel : Nat)
    (path : List String) (cs0 : List (String × MNode V))
    (I : List String → σ → Prop) (R : String → MNode V → MNode V → Prop)
    (step : ∀ s rest st c, I (s :: rest) st → AMap.find? cs0 s = some c →
      ∃ st' c', postOrderF f ord fuel (path ++ [s]) st c = .ok (st', c') ∧ I rest st' ∧ R s c c') :
    ∀ (ks : List String) (st : σ) (cs : List (String × MNode V)), ks.Nodup → (∀ s ∈ ks, ∃ c, AMap.find? cs0 s = some c) →
      I ks st → AMap.keys cs = AMap.keys cs0 → (∀ s ∈ ks, AMap.find? cs s = AMap.find? cs0 s) →
      (∀ s c', s ∉ ks → AMap.find? cs s = some c' → ∃ c, AMap.find? cs0 s = some c ∧ R s c c') →
      ∃ st' cs', foldlE (childStep f ord fuel path) (st, cs) ks = .ok (st', cs') ∧ I [] st' ∧ AMap.keys cs' = AMap.keys cs0 ∧
        ∀ s c', AMap.find? cs' s = some c' → ∃ c, AMap.find? cs0 s = some c ∧ R s c c' := by
  intro ks
  induction ks with
  | nil => intro st cs _ _ hI hk _ hdone; exact ⟨st, cs, rfl, hI, hk, fun s c' => hdone s c' List.not_mem_nil⟩
  | cons s rest ih =>
    intro st cs hnd hks hI hk hpend hdone
    obtain ⟨hs, hnd'⟩ := List.nodup_cons.1 hnd
    obtain ⟨c, hc⟩ := hks s List.mem_cons_self
    have hcs : AMap.find? cs s = some c := (hpend s List.mem_cons_self).trans hc
    obtain ⟨st1, c1, g1, g2, g3⟩ := step s rest st c hI hc
    rw [foldlE, childStep_some _ _ _ _ _ _ c hcs, g1]
    refine ih st1 (AMap.set cs s c1) hnd' (fun x hx => hks x (List.mem_cons_of_mem _ hx)) g2 (((AMap.keys_set_eq cs s c1).trans (if_pos (AMap.mem_keys_iff_find?.2 ⟨c, hcs⟩))).trans hk)
      (fun x hx => ?_) (fun x d hx hd => ?_)
    · rw [AMap.find?_set, if_neg (fun (e : s = x) => hs (e ▸ hx))]; exact hpend x (List.mem_cons_of_mem _ hx)
    · rw [AMap.find?_set] at hd
      by_cases hsx : s = x
      · rw [if_pos hsx] at hd; cases hd; exact ⟨c, hsx ▸ hc, hsx ▸ g3⟩
      · rw [if_neg hsx] at hd
        exact hdone x d (fun h => (List.mem_cons.1 h).elim (fun e => hsx e.symm) hx) hd

theorem childStep_fold_all (f : List String → σ → MNode V → Outcome (σ × MNode V)) (ord : List String → List String) (fuel : Nat)
    (path : List String) (cs0 : List (String × MNode V))
    (I : List String → σ → Prop) (R : String → MNode V → MNode V → Prop)
    (step : ∀ s rest st c, I (s :: rest) st → AMap.find? cs0 s = some c →
      ∃ st' c', postOrderF f ord fuel (path ++ [s]) st c = .ok (st', c') ∧ I rest st' ∧ R s c c')
    (ks : List String) (hnd : ks.Nodup) (hks : ∀ s, s ∈ ks ↔ ∃ c, AMap.find? cs0 s = some c) (st : σ) (hI : I ks st) :
    ∃ st' cs', foldlE (childStep f ord fuel path) (st, cs0) ks = .ok (st', cs') ∧ I [] st' ∧ AMap.keys cs' = AMap.keys cs0 ∧
      ∀ s c', AMap.find? cs' s = some c' → ∃ c, AMap.find? cs0 s = some c ∧ R s c c' :=
  childStep_fold f ord fuel path cs0 I R step ks st cs0 hnd (fun s hs => (hks s).1 hs) hI rfl (fun _ _ => rfl)
    (fun s c' hs hc => absurd ((hks s).2 ⟨c', hc⟩) hs)

theorem children_ext : ∀ {cs cs' : List (String × MNode V)}, AMap.keys cs' = AMap.keys cs → (AMap.keys cs).Nodup →
    (∀ s c c', AMap.find? cs s = some c → AMap.find? cs' s = some c' → c' = c) → cs' = cs
  | [], [], _, _, _ => rfl
  | [], _ :: _, hk, _, _ => by cases hk
  | _ :: _, [], hk, _, _ => by cases hk
  | (a, b) :: cs, (a', b') :: cs', hk, hn, h => by
    obtain ⟨ha, hk'⟩ := List.cons.inj hk
    have ha : a' = a := ha
    have hk' : AMap.keys cs' = AMap.keys cs := hk'
    subst ha
    obtain ⟨hna, hn'⟩ := List.nodup_cons.1 hn
    rw [h a' b b' (by simp [AMap.find?]) (by simp [AMap.find?])]
    refine congrArg _ (children_ext hk' hn' fun s c c' hc hc' => h s c c' ?_ ?_)
    · have : ¬ a' = s := fun e => hna (e ▸ AMap.mem_keys_iff_find?.2 ⟨c, hc⟩)
      simpa [AMap.find?, this] using hc
    · have : ¬ a' = s := fun e => hna (e ▸ (hk' ▸ AMap.mem_keys_iff_find?.2 ⟨c', hc'⟩ : s ∈ AMap.keys cs))
      simpa [AMap.find?, this] using hc'

/-- `Pre p s n`: what is known of the subtree `n` at `p` and the state `s` before its traversal;
`Post p s n s' n'`: what holds of the result; `I p s n ks st`: the state `st` of the traversal of the children of `n` when the keys `ks`
are still to come.  To show: the order of the children lists each once (`hord`); the invariant holds at the start (`hinit`); it gives
the precondition of the next child and is re-established by its postcondition (`hchild`); and `f`, called on the node whose children
`cs'` have the keys of `n`'s and are each the result of a traversal, establishes the postcondition (`hnode`). -/
theorem postOrderF_rule (f : List String → σ → MNode V → Outcome (σ × MNode V)) (ord : List String → List String)
    (Pre : List String → σ → MNode V → Prop) (Post : List String → σ → MNode V → σ → MNode V → Prop)
    (I : List String → σ → MNode V → List String → σ → Prop)
    (hord : ∀ p s n, Pre p s n → (ord p).Perm (AMap.keys n.Children) ∧ (AMap.keys n.Children).Nodup)
    (hinit : ∀ p s n, Pre p s n → I p s n (ord p) s)
    (hchild : ∀ p s n k rest st c, Pre p s n → I p s n (k :: rest) st → AMap.find? n.Children k = some c →
      Pre (p ++ [k]) st c ∧ ∀ st' c', Post (p ++ [k]) st c st' c' → I p s n rest st')
    (hnode : ∀ p s n st cs', Pre p s n → I p s n [] st → AMap.keys cs' = AMap.keys n.Children →
      (∀ k c', AMap.find? cs' k = some c' → ∃ c, AMap.find? n.Children k = some c ∧ ∃ a b, Post (p ++ [k]) a c b c') →
      ∃ s' n', f p st { n with Children := cs' } = .ok (s', n') ∧ Post p s n s' n') (fuel : Nat) :
    ∀ p s n, height n ≤ fuel → Pre p s n → ∃ s' n', postOrderF f ord fuel p s n = .ok (s', n') ∧ Post p s n s' n' := by
  induction fuel with
  | zero => intro p s n hh; have := height_pos n; omega
  | succ fuel ih =>
    intro p s n hh hpre
    obtain ⟨hperm, hnd⟩ := hord p s n hpre
    obtain ⟨st, cs', h1, hI, hk, hback⟩ := childStep_fold_all f ord fuel p n.Children (I p s n)
      (fun k c c' => ∃ a b, Post (p ++ [k]) a c b c')
      (fun k rest st c hI hc => by
        obtain ⟨hp, hq⟩ := hchild p s n k rest st c hpre hI hc
        obtain ⟨st', c', e, hpost⟩ := ih (p ++ [k]) st c (Nat.le_of_lt_succ (Nat.lt_of_lt_of_le (height_child_lt hc) hh)) hp
        exact ⟨st', c', e, hq st' c' hpost, st, st', hpost⟩)
      (ord p) (hperm.nodup_iff.2 hnd) (fun k => hperm.mem_iff.trans AMap.mem_keys_iff_find?) s (hinit p s n hpre)
    rw [postOrderF_succ, h1]
    exact hnode p s n st cs' hpre hI hk hback

theorem postOrderF_rule_unit (f : List String → Unit → MNode V → Outcome (Unit × MNode V)) (ord : List String → List String)
    (Pre : List String → MNode V → Prop) (Post : List String → MNode V → MNode V → Prop)
    (hord : ∀ p n, Pre p n → (ord p).Perm (AMap.keys n.Children) ∧ (AMap.keys n.Children).Nodup)
    (hchild : ∀ p n k c, Pre p n → AMap.find? n.Children k = some c → Pre (p ++ [k]) c)
    (hnode : ∀ p n cs', Pre p n → AMap.keys cs' = AMap.keys n.Children →
      (∀ k c', AMap.find? cs' k = some c' → ∃ c, AMap.find? n.Children k = some c ∧ Post (p ++ [k]) c c') →
      ∃ n', f p () { n with Children := cs' } = .ok ((), n') ∧ Post p n n') (fuel : Nat) (p : List String) (n : MNode V)
    (hh : height n ≤ fuel) (hpre : Pre p n) : ∃ n', postOrderF f ord fuel p () n = .ok ((), n') ∧ Post p n n' := by
  obtain ⟨_, n', h, hp⟩ := postOrderF_rule f ord (fun p _ n => Pre p n) (fun p _ n _ n' => Post p n n') (fun _ _ _ _ _ => True)
    (fun p _ n => hord p n) (fun _ _ _ _ => trivial) (fun p _ n k _ _ c hp _ hc => ⟨hchild p n k c hp hc, fun _ _ _ => trivial⟩)
    (fun p _ n _ cs' hp _ hk hb => by
      obtain ⟨n', e, hq⟩ := hnode p n cs' hp hk (fun k c' hc' => (hb k c' hc').elim fun c h => ⟨c, h.1, h.2.elim fun _ h => h.elim fun _ h => h⟩)
      exact ⟨(), n', e, hq⟩)
    fuel p () n hh hpre
  exact ⟨n', h, hp⟩

end Knut.GoSem.MNode
