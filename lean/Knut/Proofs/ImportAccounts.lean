import Knut.Proofs.ImportCards
/-!
# C13: what the bank-account importers yield (`Yields`: faithful to the statement readers, well-formed, printable)
-/
namespace Knut.Proofs.Import
open Knut Knut.Import Knut.Spec.Import Knut.FromSyntax

/-! ## ch.postfinance -/

theorem postfinance_keyValues : ∀ (recs : List Rec) (cur : Option String), Ensures (Postfinance.keyValues cur recs)
    (fun kv => postfinanceCurrency cur recs = ((kv.1.map (trimCutset ['=', '"'])).getD "CHF", kv.2))
  | [], _ => .error
  | r :: rs, cur => .ite (fun h => .ok (by rw [postfinanceCurrency, if_pos h])) fun h kv e => by
    rw [postfinanceCurrency, if_neg h]; exact postfinance_keyValues rs _ kv e

theorem postfinance_currencyOf : ∀ o, Ensures (Postfinance.currencyOf o)
    (fun c => c = (o.map (trimCutset ['=', '"'])).getD "CHF" ∧ ComOK c)
  | some _ => ensures_getIs _
  | none => .ok ⟨rfl, comOK_chf⟩

theorem postfinance_amount (g l : String) :
    Ensures (Postfinance.amount g l) (fun q => (q = if nonEmpty g then numApos g else numApos l) ∧ IsDec q) :=
  .ite (fun h => .ofOption fun q hq =>
    ⟨by rw [if_pos (c := nonEmpty _ = true) (Bool.and_eq_true_iff.mp h).1, numApos_eq hq], isDec_newFromString hq⟩) fun _ =>
  .ite (fun h => .ofOption fun q hq =>
    ⟨by rw [if_neg (not_nonEmpty (Bool.and_eq_true_iff.mp h).1), numApos_eq hq], isDec_newFromString hq⟩) fun _ =>
  .error

theorem postfinance_bookings (na : Bool) (acct : Account) {cur : Commodity} (hcur : ComOK cur) : ∀ recs,
    Ensures (Postfinance.bookings acct cur recs) (fun b => Yields acct (acct ≠ tbd) (AccOK acct) na (postfinanceRows cur recs) b.1)
  | [] => .error
  | r :: rs => .ite (fun h => .ok (by rw [postfinanceRows, if_pos h]; exact .nil)) fun h =>
    .bind (ensures_some _) fun d hd => .bind (postfinance_amount _ _) fun q hq =>
    .bind (postfinance_bookings na acct hcur rs) fun b hb => .ok (by
      rw [postfinanceRows, if_neg h, dateOf_eq hd, ← hq.1]
      exact .cons (.plain (parseDate_printable rfl rfl hd) (.inn hq.2 hcur id (fun ha => ⟨accOK_tbd, ha⟩) .nil)) hb)

theorem postfinance_yields (na : Bool) (acct : Account) (recs : List Rec) :
    Ensures (Postfinance.run acct recs) (Yields acct (acct ≠ tbd) (AccOK acct) na (postfinance recs)) :=
  .bind (postfinance_keyValues recs none) fun kv hkv => .bind (postfinance_currencyOf kv.1) fun c hc =>
  .bind (postfinance_bookings na acct hc.2 kv.2) fun b hb => .ite (fun _ => .ok (by
    unfold postfinance
    rw [hkv, ← hc.1]; exact hb)) fun _ => .error

/-! ## revolut2 -/

def EntryOK (e : (Int × Commodity) × Rat) : Prop := PrintableDate e.1.1 ∧ ComOK e.1.2 ∧ IsDec e.2

/-- `na = false`: the output carries the statement's balances -/
abbrev R2Yields (acct fee : Account) := Yields acct (acct ≠ tbd ∧ acct ≠ fee) (AccOK acct ∧ AccOK fee) false

theorem revolut2_row (acct fee : Account) (r : Rec) :
    Ensures (Revolut2.row acct fee r) (fun o => match o with
      | none => fldD r 3 = ""
      | some (t, k, bal) => fldD r 3 ≠ "" ∧ k = (dateOf10 layoutYMD (fldD r 3), fldD r 7) ∧ bal = num (fldD r 9) ∧
          EntryOK (k, bal) ∧ R2Yields acct fee (revolut2Row r) [t]) :=
  .ite (fun _ => .error) fun _ => .ite (fun he => .ok he) fun he =>
  .bind (ensures_date10 _ _) fun d hd => .bind (ensures_getIs _) fun c hc => .bind (ensures_some _) fun q hq =>
  .bind (ensures_some _) fun f hf => .bind (ensures_some _) fun bal hb =>
  have hdp : PrintableDate d := hd ▸ printable_dateOf10 rfl rfl _
  .ok ⟨he, by rw [hd, hc.1], (num_eq hb).symm, ⟨hdp, hc.2, isDec_newFromString hb⟩, by
    rw [revolut2Row, if_neg he, hd, num_eq hq, num_eq hf, ← hc.1]
    exact .plain hdp (.inn (isDec_newFromString hq) hc.2 (·.1) (fun h => ⟨accOK_tbd, h.1⟩)
      (.outUnlessZero (isDec_newFromString hf) hc.2 (·.2) fun h => ⟨h.2, h.1⟩))⟩

theorem setBalance_ok (k : Int × Commodity) (v : Rat) (hk : EntryOK (k, v)) {m : List ((Int × Commodity) × Rat)}
    (hm : ∀ e ∈ m, EntryOK e) : ∀ e ∈ Revolut2.setBalance m k v, EntryOK e := fun e he =>
  (revolut2_mem_setBalance he).elim (fun h => h ▸ hk) (hm e)

theorem revolut2_rows (acct fee : Account) : ∀ (rs : List Rec) (m : List ((Int × Commodity) × Rat)), (∀ e ∈ m, EntryOK e) →
    Ensures (Revolut2.rows acct fee m rs) (fun out => R2Yields acct fee (rs.flatMap revolut2Row) out.1 ∧
      out.2 = revolut2Balances m rs ∧ ∀ e ∈ out.2, EntryOK e)
  | [], _, hm => .ok ⟨.nil, rfl, hm⟩
  | r :: rs, m, hm => .bind (revolut2_row acct fee r) fun o ho => by
    rw [List.flatMap_cons, revolut2Balances]
    match o, ho with
    | none, he =>
      rw [revolut2Row, if_pos he, if_pos he]
      exact revolut2_rows acct fee rs m hm
    | some (t, k, bal), ⟨he, hk, hbal, hkb, ht⟩ =>
      rw [if_neg he, ← hk, ← hbal]
      exact .bind (revolut2_rows acct fee rs _ (setBalance_ok k bal hkb hm)) fun _ h => .ok ⟨ht.append h.1, h.2⟩

theorem assertions_yields (acct fee : Account) : ∀ (m : List ((Int × Commodity) × Rat)), (∀ e ∈ m, EntryOK e) →
    R2Yields acct fee (m.map (fun e => Spec.Import.Item.assertion e.1.1 e.2 e.1.2)) (m.map (Revolut2.assertionOf acct))
  | [], _ => .nil
  | _ :: m, h =>
    have he := List.forall_mem_cons.mp h
    .cons (.assertion he.1.1 he.1.2.2 he.1.2.1 And.left) (assertions_yields acct fee m he.2)

theorem revolut2_yields (acct fee : Account) : ∀ recs, Ensures (Revolut2.run acct fee recs) (R2Yields acct fee (revolut2 recs))
  | [] => .error
  | _ :: rs => .ite (fun _ => .error) fun _ => .ite (fun _ => .error) fun _ =>
    .bind (revolut2_rows acct fee rs [] (List.forall_mem_nil _)) fun out h => .ok (by
      show R2Yields acct fee (rs.flatMap revolut2Row ++ (Revolut2.sortKeys (revolut2Balances [] rs)).map _) _
      rw [← h.2.1]
      exact h.1.append (assertions_yields acct fee _ fun e he => h.2.2 e (revolut2_mem_sortKeys he)))

/-! ## revolut -/

theorem revolut_combi (f : String) : Ensures (Revolut.combi f) (fun ca => combiOf f = ca ∧ ComOK ca.1 ∧ IsDec ca.2) := by
  unfold Revolut.combi combiOf
  split
  · rename_i hf
    exact .bind (ensures_getIs _) fun c hc => .bind (ensures_some _) fun a ha =>
      .ok ⟨by rw [hf]; dsimp only; rw [numApos_eq ha, hc.1], hc.2, isDec_newFromString ha⟩
  · exact .error

theorem revolutRows_cons (cur : Commodity) (prev : Int) (r : Rec) (rs : List Rec) :
    revolutRows cur prev (r :: rs) = revolutRows cur prev [r] ++ revolutRows cur (dateOf layoutDMonY (fldD r 0)) rs := by
  simp [revolutRows]

/-- `na = false`: the day's balance at each change of date -/
abbrev RevYields (acct : Account) := Yields acct (acct ≠ tbd ∧ acct ≠ valuationAccountFor acct) (AccOK acct) false
abbrev RevLegs (acct : Account) := Legs acct (acct ≠ tbd ∧ acct ≠ valuationAccountFor acct) (AccOK acct)

theorem revolut_row (acct : Account) {cur : Commodity} (hcur : ComOK cur) (n : Nat) (prev : Int) (r : Rec) :
    Ensures (Revolut.row acct cur n prev r)
      (fun out => out.1 = dateOf layoutDMonY (fldD r 0) ∧ RevYields acct (revolutRows cur prev [r]) out.2) :=
  .ite (fun _ => .error) fun _ => .ite (fun _ => .error) fun _ => .bind (ensures_some _) fun d hd =>
  have hdp : PrintableDate d := parseDate_printable rfl rfl hd
  .bind (P := RevYields acct (if d ≠ prev then [Spec.Import.Item.assertion d (numApos (fldD r 6)) cur] else []))
    (.ite (fun h => .bind (ensures_some _) fun b hb => .ok (by
        rw [if_pos h, numApos_eq hb]; exact .assertion hdp (isDec_newFromString hb) hcur id))
      fun h => .ok (by rw [if_neg h]; exact .nil)) fun as has =>
  .bind (P := fun q => (q = if nonEmpty (fldD r 2) then -numApos (fldD r 2) else numApos (fldD r 3)) ∧ IsDec q)
    (.ite (fun h => .bind (ensures_some _) fun q hq => .ok
        ⟨by rw [if_pos (c := nonEmpty _ = true) (Bool.and_eq_true_iff.mp h).1, numApos_eq hq], isDec_neg (isDec_newFromString hq)⟩)
      fun _ => .ite (fun h => .ofOption fun q hq =>
        ⟨by rw [if_neg (not_nonEmpty (Bool.and_eq_true_iff.mp h).1), numApos_eq hq], isDec_newFromString hq⟩)
        fun _ => .error) fun q hq =>
  -- the row's transaction `bs` against the booking item with the other currency's legs `other`
  have leaf {desc : String} {bs : List PB} {other : List (Commodity × Rat)} (hl : RevLegs acct bs ((cur, q) :: other)) (hne : bs ≠ [])
      (ho : (if fxSellRe (fldD r 1) then [((combiOf (fldD r 4)).1, (combiOf (fldD r 4)).2)]
        else if fxBuyRe (fldD r 1) then [((combiOf (fldD r 5)).1, -(combiOf (fldD r 5)).2)] else []) = other) :
      d = dateOf layoutDMonY (fldD r 0) ∧ RevYields acct (revolutRows cur prev [r]) (as ++ [mkTx d desc bs]) := by
    refine ⟨(dateOf_eq hd).symm, ?_⟩
    simp only [revolutRows, dateOf_eq hd, ← hq.1, ho]
    exact has.append (.tx hdp hne hl (fun _ h => nomatch h))
  -- an exchange row: both legs against the valuation account
  have fx {oc : Commodity} {oq : Rat} (hc : ComOK oc) (ho : IsDec oq) : RevLegs acct
      [⟨Import.valuationAccountFor acct, acct, cur, q⟩, ⟨Import.valuationAccountFor acct, acct, oc, oq⟩] [(cur, q), (oc, oq)] :=
    .inn hq.2 hcur (·.2) (fun ha => ⟨accOK_valuation ha, ha⟩) (.inn ho hc (·.2) (fun ha => ⟨accOK_valuation ha, ha⟩) .nil)
  .ite (fun hs => .bind (revolut_combi _) fun ca hca =>
    .ok (leaf (fx hca.2.1 hca.2.2) (List.cons_ne_nil _ _) (by rw [if_pos hs, hca.1]))) fun hs =>
  .ite (fun hb => .bind (revolut_combi _) fun ca hca =>
    .ok (leaf (fx hca.2.1 (isDec_neg hca.2.2)) (List.cons_ne_nil _ _) (by rw [if_neg hs, if_pos hb, hca.1]))) fun hb =>
  .ok (leaf (.inn hq.2 hcur (·.1) (fun ha => ⟨accOK_tbd, ha⟩) .nil) (List.cons_ne_nil _ _) (by rw [if_neg hs, if_neg hb]))

theorem revolut_rows (acct : Account) {cur : Commodity} (hcur : ComOK cur) (n : Nat) :
    ∀ (rs : List Rec) (prev : Int), Ensures (Revolut.rows acct cur n prev rs) (RevYields acct (revolutRows cur prev rs))
  | [], _ => .ok .nil
  | r :: rs, prev => .bind (revolut_row acct hcur n prev r) fun out h1 =>
    .bind (revolut_rows acct hcur n rs out.1) fun _ h2 => .ok (by
      rw [revolutRows_cons, ← h1.1]; exact h1.2.append h2)

theorem revolut_yields (acct : Account) : ∀ recs, Ensures (Revolut.run acct recs) (RevYields acct (revolut recs))
  | [] => .error
  | hd :: rs => .ite (fun _ => .error) fun _ => by
    show Ensures _ (RevYields acct (revolutRows ((paidOutRe (fldD hd 2)).getD "") 0 rs))
    split
    · exact .error
    · rename_i cur hcur
      exact .bind (ensures_getIs _) fun c hc => by
        rw [hcur, Option.getD_some, ← hc.1]; exact revolut_rows acct hc.2 9 rs 0

/-! ## com.wise -/

abbrev WiseA (acct feeAcct trading : Account) : Prop := AccOK acct ∧ AccOK feeAcct ∧ AccOK trading
abbrev WiseF (acct feeAcct trading : Account) : Prop := acct ≠ tbd ∧ acct ≠ feeAcct ∧ acct ≠ trading

abbrev WiseYields (na : Bool) (acct feeAcct trading : Account) :=
  Yields acct (WiseF acct feeAcct trading) (WiseA acct feeAcct trading) na
abbrev WiseLegs (acct feeAcct trading : Account) := Legs acct (WiseF acct feeAcct trading) (WiseA acct feeAcct trading)

theorem wise_fee (acct feeAcct trading : Account) (amount currency : String) :
    Ensures (Wise.fee acct feeAcct amount currency) (fun ps => WiseLegs acct feeAcct trading ps (wiseFee amount currency)) := by
  unfold Wise.fee
  refine .ite (fun hc => ?_) fun hc => .ok (by rw [wiseFee, if_neg (by simpa [nonEmpty] using hc)]; exact .nil)
  have hne : nonEmpty currency = true := decide_eq_true hc
  cases ha : newFromString amount with
  | none => exact .error
  | some a =>
    exact .ite (fun hz => .ok (by
        rw [wiseFee, if_pos hne, num_eq ha, hz]
        exact Legs.nil.congr fun c' => by simp [expected, Rat.add_zero])) fun _ =>
      .bind (ensures_mustIs _) fun c hcc => .ok (by
        rw [wiseFee, if_pos hne, num_eq ha, ← hcc.1]
        exact .out (isDec_newFromString ha) hcc.2 (·.2.1) (fun h => ⟨h.2.1, h.1⟩) .nil)

theorem wise_row (na : Bool) (acct feeAcct trading : Account) (r : Rec) :
    Ensures (Wise.row acct feeAcct trading r) (WiseYields na acct feeAcct trading (wiseRow r)) :=
  .ite (fun _ => .error) fun _ => .bind (ensures_date10 _ _) fun d hd =>
  .ite (fun hcan => .ok (by rw [wiseRow]; simp only [if_pos hcan]; exact .nil)) fun hcan =>
  .bind (wise_fee _ _ trading _ _) fun f1 h1 => .bind (wise_fee _ _ trading _ _) fun f2 h2 =>
  .bind (ensures_some _) fun sa hsa => .bind (ensures_some _) fun ta hta =>
  .bind (ensures_mustIs _) fun sc hsc => .bind (ensures_mustIs _) fun tc htc => by
    have hdp : PrintableDate d := hd ▸ printable_dateOf10 rfl rfl _
    have hsaD := isDec_newFromString hsa
    have htaD := isDec_newFromString hta
    -- fees first, then the legs of the transaction
    have tx : ∀ desc effs bs, WiseLegs acct feeAcct trading bs effs → bs ≠ [] →
        WiseYields na acct feeAcct trading
          [.booking d (wiseFee (fldD r 5) (fldD r 6) ++ wiseFee (fldD r 7) (fldD r 8) ++ effs)] [mkTx d desc (f1 ++ f2 ++ bs)] :=
      fun desc effs bs hl hne => .tx hdp (by simp [hne]) ((h1.append h2).append hl) (fun _ h => nomatch h)
    -- an amount away from (`OUT`) or towards (`IN`) the account against `Expenses:TBD`
    have out {c : Commodity} {q : Rat} (hq : IsDec q) (hc : ComOK c) : WiseLegs acct feeAcct trading [⟨acct, tbd, c, q⟩] [(c, -q)] :=
      .out hq hc (·.1) (fun h => ⟨accOK_tbd, h.1⟩) .nil
    have inn {c : Commodity} {q : Rat} (hq : IsDec q) (hc : ComOK c) : WiseLegs acct feeAcct trading [⟨tbd, acct, c, q⟩] [(c, q)] :=
      .inn hq hc (·.1) (fun h => ⟨accOK_tbd, h.1⟩) .nil
    -- the reader and the importer branch on the same conditions
    rw [wiseRow]
    simp only [hd, if_neg hcan, num_eq hsa, num_eq hta, ← hsc.1, ← htc.1]
    by_cases hcur : sc = tc
    · rw [if_neg (not_not_intro hcur), if_neg (not_not_intro hcur)]
      by_cases ho : fldD r 2 = "OUT"
      · rw [if_pos ho, if_pos ho]; exact .ok (tx _ _ _ (out hsaD hsc.2) (List.cons_ne_nil _ _))
      · rw [if_neg ho, if_neg ho]
        by_cases hi : fldD r 2 = "IN"
        · rw [if_pos hi, if_pos hi]; exact .ok (tx _ _ _ (inn hsaD hsc.2) (List.cons_ne_nil _ _))
        · rw [if_neg hi, if_neg hi]; exact .ite (fun _ => .ok .nil) fun _ => .error
    · rw [if_pos hcur, if_pos hcur]
      have conv := fun desc => tx desc _ [⟨acct, trading, sc, sa⟩, ⟨trading, acct, tc, ta⟩]
        (.out hsaD hsc.2 (·.2.2) (fun h => ⟨h.2.2, h.1⟩) (.inn htaD htc.2 (·.2.2) (fun h => ⟨h.2.2, h.1⟩) .nil))
        (List.cons_ne_nil _ _)
      by_cases ho : fldD r 2 = "OUT"
      · rw [if_pos ho, if_pos ho]
        exact .ok (.cons (conv _) (.plain hdp (out htaD htc.2)))
      · rw [if_neg ho, if_neg ho]
        by_cases hi : fldD r 2 = "IN"
        · rw [if_pos hi, if_pos hi]
          exact .ok (.cons (conv _) (.plain hdp (inn htaD htc.2)))
        · rw [if_neg hi, if_neg hi]; exact .ite (fun _ => .ok (conv _)) fun _ => .error

theorem wise_yields (na : Bool) (acct feeAcct trading : Account) :
    ∀ recs, Ensures (Wise.run acct feeAcct trading recs) (WiseYields na acct feeAcct trading (wise recs))
  | [] => .error
  | _ :: rs => .ite (fun _ => .error) fun _ => .ite (fun _ => .error) fun _ => mapRows_yields (wise_row na acct feeAcct trading) rs

/-! ## ch.viac -/

theorem viac_entry (na : Bool) (a : Account) (com : Commodity) (fromDay : Int) (e : String × String) :
    Ensures (Viac.entry com fromDay e) (Yields a True (ComOK com) na (viacEntry com fromDay e)) :=
  .bind (ensures_some _) fun d hd =>
  .ite (fun hlt => .ok (by rw [viacEntry, dateOf_eq hd, if_pos (by simp [hlt])]; exact .nil)) fun hlt =>
  .bind (ensures_some _) fun v hv =>
  .ite (fun hz => .ok (by rw [viacEntry, num_eq hv, if_pos (by simp [hz])]; exact .nil)) fun hz =>
  .ok (by
    rw [viacEntry, dateOf_eq hd, num_eq hv, if_neg (by simp [hlt, hz])]
    exact .price (parseDate_printable rfl rfl hd) (isDec_round _ _) id comOK_chf)

theorem viac_yields (na : Bool) (a : Account) (com : Commodity) (fromDay : Int) :
    ∀ es, Ensures (Viac.run com fromDay es) (Yields a True (ComOK com) na (viac com fromDay es))
  | [] => .ok .nil
  | e :: es => .bind (viac_entry na a com fromDay e) fun _ h1 => .bind (viac_yields na a com fromDay es) fun _ h2 =>
    .ok (by unfold viac; rw [List.flatMap_cons]; exact h1.append h2)

end Knut.Proofs.Import
