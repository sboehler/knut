import Knut.Proofs.ImportYields
/-!
# C13: what `ch.swissquote` yields (`Yields`: faithful to the statement reader, well-formed, printable); `us.interactivebrokers`, which
shares its flag accounts (`AcctsOK`, `AcctsValid`), is `Proofs/ImportIB.lean`
-/
namespace Knut.Proofs.Import
open Knut Knut.Import Knut.Spec.Import Knut.FromSyntax

/-! ## ch.swissquote -/

/-- the accounts given by flags are all different from the import account -/
structure AcctsOK (a : Swissquote.Accts) : Prop where
  tbd : a.account ≠ tbd
  dividend : a.account ≠ a.dividend
  tax : a.account ≠ a.tax
  fee : a.account ≠ a.fee
  interest : a.account ≠ a.interest
  trading : a.account ≠ a.trading

structure RowOf (l : Rec) (r : Swissquote.Row) : Prop where
  date : r.date = dateOf10 layoutDMYdash (fldD l 0)
  ty : r.trxType = fldD l 2
  cur : r.currency = fldD l 12
  net : r.net = numApos (fldD l 10)
  fee : r.fee = numApos (fldD l 8)
  qty : r.quantity = numApos (fldD l 6)
  price : r.price = numApos (fldD l 7)
  sym : ∀ s, r.symbol = some s → s = fldD l 3 ∧ ComOK s
  curOK : ComOK r.currency

namespace RowOf
variable {l : Rec} {r : Swissquote.Row} (R : RowOf l r)
include R
theorem dateOK : PrintableDate r.date := R.date ▸ printable_dateOf10 rfl rfl _
theorem netDec : IsDec r.net := R.net ▸ isDec_numApos _
theorem feeDec : IsDec r.fee := R.fee ▸ isDec_numApos _
theorem qtyDec : IsDec r.quantity := R.qty ▸ isDec_numApos _
theorem priceDec : IsDec r.price := R.price ▸ isDec_numApos _
end RowOf

theorem swissquote_toRow (l : Rec) : Ensures (Swissquote.toRow l) (RowOf l) :=
  .bind (ensures_date10 _ _) fun _ hd =>
  .bind (P := fun o => ∀ s, o = some s → s = fldD l 3 ∧ ComOK s)
    (.ite (fun _ => .bind (ensures_getIs _) fun _ hc => .ok (some_ok hc)) fun _ => .ok none_ok) fun _ hs =>
  .bind (ensures_some _) fun _ hq => .bind (ensures_some _) fun _ hp => .bind (ensures_some _) fun _ hf =>
  .bind .trivial fun _ _ => .bind (ensures_some _) fun _ hn => .bind .trivial fun _ _ => .bind (ensures_getIs _) fun _ hc =>
  .ok ⟨hd.symm, rfl, hc.1, (numApos_eq hn).symm, (numApos_eq hf).symm, (numApos_eq hq).symm, (numApos_eq hp).symm, hs, hc.2⟩

/-- a trade books the proceeds with the fee added and takes the fee off again -/
theorem expected_trade {sym cur : Commodity} {qty net f : Rat} (c' : Commodity) :
    expected [(sym, qty), (cur, net + f), (cur, -f)] c' = expected [(sym, qty), (cur, net)] c' := by
  simp only [expected]
  by_cases hc : cur = c' <;> simp only [hc, if_true, if_false] <;> grind

/-- the pending forex half of the model and of the reader describe the same row -/
def LastRel : Option Swissquote.Row → Option Rec → Prop
  | none, none => True
  | some r, some l => RowOf l r
  | _, _ => False

theorem lastRel_none {last : Option Swissquote.Row} {lastRec : Option Rec} (hl : ¬ last.isSome = true)
    (hrel : LastRel last lastRec) : last = none ∧ lastRec = none := by
  match last, lastRec, hrel with
  | none, none, _ => exact ⟨rfl, rfl⟩
  | some _, some _, _ => exact absurd rfl hl

abbrev SqYields (na : Bool) (a : Swissquote.Accts) := Yields a.account (AcctsOK a) (AcctsValid a) na
abbrev SqLegs (a : Swissquote.Accts) := Legs a.account (AcctsOK a) (AcctsValid a)

/-- one step of the importer is one step of the reader, which goes on with the pending forex half `lastRec'`; only a forex row may
follow a pending half -/
theorem swissquote_step (na : Bool) (a : Swissquote.Accts) {l : Rec} {r : Swissquote.Row} (R : RowOf l r)
    {last : Option Swissquote.Row} {lastRec : Option Rec} (hrel : LastRel last lastRec) :
    Ensures (Swissquote.step a last r) (fun out => ∃ lastRec' items, LastRel out.1 lastRec' ∧
      SqYields na a items out.2 ∧ ∀ ls, swissquoteRows lastRec (l :: ls) = items ++ swissquoteRows lastRec' ls) := by
  unfold Swissquote.step
  rw [R.ty]
  refine .ite (fun htrade => ?trade) fun htrade => .ite (fun hfx => ?forex) fun hfx => .ite (fun _ => .error) fun hlast =>
    .ite (fun hdiv => ?dividend) fun hdiv => ?other
  case trade =>
    split
    · exact .panic
    · rename_i sym hsym
      obtain ⟨esym, hsymOK⟩ := R.sym sym hsym
      have hq : IsDec (if fldD l 2 = "Verkauf" then -r.quantity else r.quantity) := by
        split
        · exact isDec_neg R.qtyDec
        · exact R.qtyDec
      have legs : SqLegs a _ _ := .inn hq hsymOK (·.trading) (fun v => ⟨v.trading, v.account⟩) <|
        .inn (isDec_add R.netDec R.feeDec) R.curOK (·.trading) (fun v => ⟨v.trading, v.account⟩) <|
        .inn (isDec_neg R.feeDec) R.curOK (·.fee) (fun v => ⟨v.fee, v.account⟩) .nil
      exact .ok ⟨lastRec, _, hrel, .tx R.dateOK (List.cons_ne_nil _ _) (legs.congr expected_trade)
        (List.forall_mem_cons.mpr ⟨hsymOK, List.forall_mem_singleton.mpr R.curOK⟩), fun ls => by
          simp only [swissquoteRows, if_pos htrade, ← R.date, ← R.cur, ← R.net, ← R.qty, ← esym]; rfl⟩
  case forex =>
    match last, lastRec, hrel with
    | none, none, _ =>
      exact .ok ⟨some l, [], R, .nil, fun ls => by simp only [swissquoteRows, if_neg htrade, if_pos hfx]; rfl⟩
    | some lr, some f, F =>
      have F : RowOf f lr := F
      exact .ok ⟨none, _, trivial, .tx R.dateOK (List.cons_ne_nil _ _)
        (.inn F.netDec F.curOK (·.trading) (fun v => ⟨v.trading, v.account⟩) <|
          .inn R.netDec R.curOK (·.trading) (fun v => ⟨v.trading, v.account⟩) .nil)
        (List.forall_mem_cons.mpr ⟨F.curOK, List.forall_mem_singleton.mpr R.curOK⟩), fun ls => by
          simp only [swissquoteRows, if_neg htrade, if_pos hfx, ← R.date, ← R.cur, ← R.net, ← F.cur, ← F.net]; rfl⟩
  case dividend =>
    obtain ⟨rfl, rfl⟩ := lastRel_none hlast hrel
    split
    · exact .panic
    · rename_i sym hsym
      exact .ok ⟨none, _, trivial, .tx R.dateOK (List.cons_ne_nil _ _)
        (.inn R.priceDec R.curOK (·.dividend) (fun v => ⟨v.dividend, v.account⟩) <|
          .outUnlessZero R.feeDec R.curOK (·.tax) fun v => ⟨v.tax, v.account⟩)
        (List.forall_mem_singleton.mpr (R.sym sym hsym).2), fun ls => by
          simp only [swissquoteRows, if_neg htrade, if_neg hfx, if_pos hdiv, ← R.date, ← R.cur, ← R.fee, ← R.price]; rfl⟩
  case other =>
    obtain ⟨rfl, rfl⟩ := lastRel_none hlast hrel
    -- the net amount against the fee, interest or TBD account
    have single : ∀ desc other tg, (AcctsOK a → a.account ≠ other) → (AcctsValid a → AccOK other) → (∀ t ∈ tg.getD [], ComOK t) →
        ∃ lastRec' items, LastRel (none : Option Swissquote.Row) lastRec' ∧
        SqYields na a items [mkTx r.date desc [⟨other, a.account, r.currency, r.net⟩] tg] ∧
        ∀ ls, swissquoteRows none (l :: ls) = items ++ swissquoteRows lastRec' ls :=
      fun desc other tg hne hacc htg => ⟨none, _, trivial, .tx R.dateOK (List.cons_ne_nil _ _)
        (.inn R.netDec R.curOK hne (fun v => ⟨hacc v, v.account⟩) .nil) htg, fun ls => by
          simp only [swissquoteRows, if_neg htrade, if_neg hfx, if_neg hdiv, ← R.date, ← R.cur, ← R.net]; rfl⟩
    exact .ite (fun _ => .ok (single _ _ _ (·.fee) (·.fee) (fun _ h => nomatch h))) fun _ =>
      .ite (fun _ => .ok (single _ _ _ (·.tbd) (fun _ => accOK_tbd) (fun _ h => nomatch h))) fun _ =>
      .ite (fun _ => .ok (single _ _ _ (·.interest) (·.interest) (List.forall_mem_singleton.mpr R.curOK))) fun _ =>
      .ok (single _ _ _ (·.tbd) (fun _ => accOK_tbd) (fun _ h => nomatch h))

theorem swissquote_rows (na : Bool) (a : Swissquote.Accts) : ∀ (ls : List Rec) (last : Option Swissquote.Row)
    (lastRec : Option Rec), LastRel last lastRec →
    Ensures (Swissquote.rows a last ls) (SqYields na a (swissquoteRows lastRec ls))
  | [], _, _, _ => .ok .nil
  | l :: ls, last, lastRec, hrel => .ite (fun _ => .error) fun _ => .bind (swissquote_toRow l) fun r R =>
    .bind (swissquote_step na a R hrel) fun out h1 => by
      obtain ⟨lastRec', items, hrel', hitems, heq⟩ := h1
      exact .bind (swissquote_rows na a ls out.1 lastRec' hrel') fun ds2 h2 => .ok (by rw [heq]; exact hitems.append h2)

theorem swissquote_yields (na : Bool) (a : Swissquote.Accts) :
    ∀ recs, Ensures (Swissquote.run a recs) (SqYields na a (swissquote recs))
  | [] => .error
  | _ :: ls => .ite (fun _ => .error) fun _ => swissquote_rows na a ls none none trivial

end Knut.Proofs.Import
