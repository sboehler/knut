import Knut.Proofs.ImportYields
/-!
# C13: what the card importers yield (`Yields`: faithful to the statement readers, well-formed, printable)
-/
namespace Knut.Proofs.Import
open Knut Knut.Import Knut.Spec.Import Knut.FromSyntax

abbrev CardYields (na : Bool) (acct : Account) := Yields acct (acct ≠ tbd) (AccOK acct) na

/-! ## ch.swisscard2 -/

theorem swisscard2_row (na : Bool) (acct : Account) (r : Rec) :
    Ensures (Swisscard2.row acct r) (CardYields na acct (swisscard2Row r)) :=
  .ite (fun _ => .error) fun _ => .bind (ensures_some _) fun d hd => .bind (ensures_mustIs _) fun c hc =>
  .bind (ensures_some _) fun q hq => .ok (by
    rw [swisscard2Row, dateOf_eq hd, num_eq hq, ← hc.1]
    exact .plain (parseDate_printable rfl rfl hd) (.out (isDec_newFromString hq) hc.2 id (fun ha => ⟨accOK_tbd, ha⟩) .nil))

theorem swisscard2_yields (na : Bool) (acct : Account) :
    ∀ recs, Ensures (Swisscard2.run acct recs) (CardYields na acct (swisscard2 recs))
  | [] => .error
  | _ :: rows => .ite (fun _ => .error) fun _ => mapRows_yields (swisscard2_row na acct) rows

/-! ## ch.swisscard -/

theorem swisscard_row (na : Bool) (acct : Account) (n : Nat) (r : Rec) :
    Ensures (Swisscard.row acct n r) (CardYields na acct (swisscardRow r)) :=
  .ite (fun _ => .error) fun _ => .bind (ensures_fldD r 0) fun f0 e0 =>
  .ite (fun h0 => .ok (by
    rw [swisscardRow, e0, if_neg fun h => not_of_bnot h0 (Bool.and_eq_true_iff.mp h).1]; exact .nil)) fun h0 =>
  .bind (ensures_fldD r 1) fun f1 e1 =>
  .ite (fun h1 => .ok (by
    rw [swisscardRow, e1, if_neg fun h => not_of_bnot h1 (Bool.and_eq_true_iff.mp h).2]; exact .nil)) fun h1 =>
  .ite (fun _ => .error) fun _ => .bind (ensures_some _) fun d hd => .bind (ensures_some _) fun q hq => .ok (by
    rw [swisscardRow, e0, e1, if_pos (Bool.and_eq_true_iff.mpr ⟨of_not_bnot h0, of_not_bnot h1⟩), dateOf_eq hd, num_eq hq]
    exact .plain (parseDate_printable rfl rfl hd) (.out (isDec_newFromString hq) comOK_chf id (fun ha => ⟨accOK_tbd, ha⟩) .nil))

theorem swisscard_yields (na : Bool) (acct : Account) (recs : List Rec) :
    Ensures (Swisscard.run acct recs) (CardYields na acct (swisscard recs)) :=
  mapRows_yields (swisscard_row na acct _) recs

/-! ## ch.supercard -/

theorem supercard_amount (r : Rec) : Ensures (Supercard.amount r)
    (fun q => (q = if nonEmpty (fldD r 11) then num (fldD r 11) else -num (fldD r 10)) ∧ IsDec q) :=
  .ite (fun h => .ofOption fun q hq => ⟨by rw [nonEmpty, if_pos (decide_eq_true h), num_eq hq], isDec_newFromString hq⟩) fun h =>
  .ite (fun _ => .bind (ensures_some _) fun q hq =>
    .ok ⟨by rw [nonEmpty, if_neg (by simpa using h), num_eq hq], isDec_neg (isDec_newFromString hq)⟩) fun _ =>
  .error

theorem supercard_row (na : Bool) (acct : Account) (r : Rec) :
    Ensures (Supercard.row acct r) (CardYields na acct (supercardRow r)) :=
  .bind (ensures_fldD r 4) fun text e4 =>
  .ite (fun hs => .ok (by rw [supercardRow, e4, if_pos (by simp [hs])]; exact .nil)) fun hs =>
  .ite (fun hk => .ok (by rw [supercardRow, if_pos (by rw [Bool.or_assoc, hk, Bool.or_true])]; exact .nil)) fun hk =>
  .ite (fun _ => .error) fun _ => .bind (ensures_some _) fun d hd => .bind (supercard_amount r) fun q hq =>
  .bind (ensures_getIs _) fun c hc => .ok (by
    rw [supercardRow, e4, if_neg (by simpa [hs] using hk), dateOf_eq hd, ← hq.1, ← hc.1]
    exact .plain (parseDate_printable rfl rfl hd) (.inn hq.2 hc.2 id (fun ha => ⟨accOK_tbd, ha⟩) .nil))

theorem supercard_yields (na : Bool) (acct : Account) :
    ∀ recs, Ensures (Supercard.run acct recs) (CardYields na acct (supercard recs))
  | _ :: _ :: rows =>
    .ite (fun _ => .error) fun _ => .ite (fun _ => .error) fun _ => .ite (fun _ => .error) fun _ =>
      mapRows_yields (supercard_row na acct) rows
  | [_] => .ite (fun _ => .error) fun _ => .error
  | [] => .error

/-! ## ch.cumulus -/

def pItem (p : Cumulus.Pending) : Spec.Import.Item := .booking p.date [("CHF", p.quantity)]

theorem not_nonEmpty {s : String} (h : (s.utf8ByteSize == 0) = true) : ¬ nonEmpty s = true := by
  rw [nonEmpty, beq_iff_eq.mp h]; exact Bool.false_ne_true

theorem cumulus_amount (cf df : String) : Ensures (Cumulus.amount cf df) (fun q => q = cumulusAmount cf df) :=
  .ite (fun h => .bind (ensures_some _) fun q hq => .ok (by
    rw [cumulusAmount, if_pos (c := nonEmpty _ = true) (Bool.and_eq_true_iff.mp h).1, numApos_eq hq])) fun _ =>
  .ite (fun h => .bind (ensures_some _) fun q hq => .ok (by
    rw [cumulusAmount, if_neg (not_nonEmpty (Bool.and_eq_true_iff.mp h).1), numApos_eq hq])) fun _ => .error

theorem addComment_items {c : String} {ps ps' : List Cumulus.Pending} (h : Cumulus.addComment c ps = some ps') :
    ps'.map pItem = ps.map pItem := by
  induction ps generalizing ps' with
  | nil => simp [Cumulus.addComment] at h
  | cons p rest ih =>
    cases rest with
    | nil => simp [Cumulus.addComment] at h; subst h; simp [pItem]
    | cons q rest' =>
      simp only [Cumulus.addComment, Option.map_eq_some_iff] at h
      obtain ⟨t, ht, h⟩ := h
      subst h
      simp [ih ht]

theorem cumulus_rounding (r : Rec) : Ensures (Cumulus.rounding r) (fun o => match o with
    | some p => cumulusRow r = [pItem p]
    | none => (dateRe (fldD r 0) && fldD r 1 = "Rundungskorrektur") = false) :=
  .ite (fun h0 => .ok (by simp at h0; simp [h0])) fun h0 => .bind (ensures_fldD r 1) fun f1 e1 =>
  .ite (fun h1 => .ok (by simp [e1, h1])) fun h1 => .ite (fun _ => .error) fun _ =>
  .bind (ensures_some _) fun d hd => .bind (cumulus_amount _ _) fun q hq => .ok (by
    rw [cumulusRow, if_pos (by simp at h0 h1; simp [h0, e1, h1]), dateOf_eq hd, ← hq]; rfl)

theorem cumulus_booking (r : Rec) (hround : (dateRe (fldD r 0) && fldD r 1 = "Rundungskorrektur") = false)
    (hfx : Cumulus.isFxComment r = false) :
    Ensures (Cumulus.booking r) (fun o => cumulusRow r = (o.map pItem).toList) :=
  have base : cumulusRow r = if (dateRe (fldD r 0) && dateRe (fldD r 1)) = true then
      [.booking (dateOf layoutDMYdot (fldD r 0)) [("CHF", cumulusAmount (fldD r 4) (fldD r 3))]] else [] := by
    simp only [cumulusRow, hround, hfx, Bool.false_eq_true, if_false]
  .ite (fun h0 => .ok (by rw [base, if_neg fun h => not_of_bnot h0 (Bool.and_eq_true_iff.mp h).1]; rfl)) fun h0 =>
  .bind (ensures_fldD r 1) fun f1 e1 =>
  .ite (fun h1 => .ok (by rw [base, e1, if_neg fun h => not_of_bnot h1 (Bool.and_eq_true_iff.mp h).2]; rfl)) fun h1 =>
  .ite (fun _ => .error) fun _ => .bind (ensures_some _) fun d hd => .bind (cumulus_amount _ _) fun q hq => .ok (by
    rw [base, e1, if_pos (Bool.and_eq_true_iff.mpr ⟨of_not_bnot h0, of_not_bnot h1⟩), dateOf_eq hd, ← hq]; rfl)

theorem cumulus_step (ps : List Cumulus.Pending) (r : Rec) :
    Ensures (Cumulus.step ps r) (fun ps' => ps'.map pItem = ps.map pItem ++ cumulusRow r) :=
  .bind (cumulus_rounding r) fun o ho => by
    cases o with
    | some p => exact .ok (by rw [List.map_append, ho]; rfl)
    | none =>
      have ho : _ = false := ho
      refine .ite (fun hfx => .ofOption fun ps' h => ?_) fun hfx => .bind (cumulus_booking r ho (by simpa using hfx)) fun o2 h2 => ?_
      · rw [addComment_items h, cumulusRow, ho, hfx]; simp
      · cases o2 with
        | some p => exact .ok (by rw [List.map_append, h2]; rfl)
        | none => exact .ok (by rw [h2]; simp)

theorem cumulus_steps : ∀ (recs : List Rec) (ps : List Cumulus.Pending),
    Ensures (Cumulus.steps ps recs) (fun ps' => ps'.map pItem = ps.map pItem ++ recs.flatMap cumulusRow)
  | [], _ => .ok (by simp)
  | r :: rs, ps => .bind (cumulus_step ps r) fun ps1 h1 ps' h => by rw [cumulus_steps rs ps1 ps' h, h1]; simp

/-- why the pending transactions need no invariant of their own -/
theorem cumulusRow_fine (r : Rec) : ∀ i ∈ cumulusRow r, ∃ d q, i = .booking d [("CHF", q)] ∧ PrintableDate d ∧ IsDec q := by
  have amt : ∀ a b, IsDec (cumulusAmount a b) := fun a b => by
    unfold cumulusAmount
    split
    · exact isDec_neg (isDec_numApos _)
    · exact isDec_numApos _
  intro i hi
  unfold cumulusRow at hi
  split at hi
  · exact ⟨_, _, List.mem_singleton.mp hi, printable_dateOf rfl rfl _, amt _ _⟩
  · split at hi
    · cases hi
    · split at hi
      · exact ⟨_, _, List.mem_singleton.mp hi, printable_dateOf rfl rfl _, amt _ _⟩
      · cases hi

theorem cumulus_pending (na : Bool) (acct : Account) : ∀ ps : List Cumulus.Pending,
    (∀ p ∈ ps, PrintableDate p.date ∧ IsDec p.quantity) → CardYields na acct (ps.map pItem) (ps.map (Cumulus.toTx acct))
  | [], _ => .nil
  | _ :: ps, h =>
    have hp := List.forall_mem_cons.mp h
    .cons (.plain hp.1.1 (.inn hp.1.2 comOK_chf id (fun ha => ⟨accOK_tbd, ha⟩) .nil)) (cumulus_pending na acct ps hp.2)

theorem cumulus_yields (na : Bool) (acct : Account) (recs : List Rec) :
    Ensures (Cumulus.run acct recs) (CardYields na acct (cumulus recs)) :=
  .bind (cumulus_steps recs []) fun ps hps => .ok (by
    have e : ps.map pItem = recs.flatMap cumulusRow := by simpa using hps
    unfold cumulus
    rw [← e]
    refine cumulus_pending na acct ps fun p hp => ?_
    obtain ⟨r, _, hr⟩ := List.mem_flatMap.mp (e ▸ List.mem_map_of_mem hp)
    obtain ⟨d, q, hi, hd, hq⟩ := cumulusRow_fine r _ hr
    injection hi with h1 h2
    injection h2 with h2
    injection h2 with _ h2
    exact ⟨h1 ▸ hd, h2 ▸ hq⟩)

end Knut.Proofs.Import
