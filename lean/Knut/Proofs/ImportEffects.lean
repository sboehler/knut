import Knut.Spec.ImportItems
import Knut.Proofs.RatLemmas
import Knut.Proofs.PostingBuild
import Knut.Proofs.ListRel
/-!
# C13: what the posting builders add to an account, and `Ensures`

The importers are `do` blocks in `Res`.  `Ensures x P` (if `x` succeeds its value satisfies `P`) is carried through a block one
bound value at a time (`.bind`, `.ite`, `.ofOption`), so the equations `… = .ok a` over an importer's large terms never have to be
written down.  (Taking a run `… = .ok ds` apart by hand with `split at h` on a whole parser body is very slow to check.)
-/
namespace Knut.Proofs.Import
open Knut Knut.Import Knut.Spec.Import

theorem effectOn_append (a : Account) (c : Commodity) (ps qs : List Posting) :
    effectOn a c (ps ++ qs) = effectOn a c ps + effectOn a c qs := sum_rec_append rfl (fun _ _ => rfl) ps qs

/-- what the posting pair of the builder `b` adds to account `a` in commodity `c'`: the quantity on the debit side, its negative on the
credit side (`effectOn_postingBuild`) -/
def pbEffect (a : Account) (c' : Commodity) (b : PB) : Rat :=
  (if b.debit = a ∧ b.commodity = c' then b.quantity else 0) + (if b.credit = a ∧ b.commodity = c' then -b.quantity else 0)

theorem effectOn_eq_sum (a : Account) (c : Commodity) : ∀ ps : List Posting,
    effectOn a c ps = (ps.map (fun p => if p.account = a ∧ p.commodity = c then p.quantity else 0)).sum
  | [] => rfl
  | p :: ps => by rw [effectOn, effectOn_eq_sum a c ps, List.map_cons, List.sum_cons]

theorem effectOn_postingBuild (a : Account) (c' : Commodity) (cr dr : Account) (c : Commodity) (q : Rat) :
    effectOn a c' (postingBuild cr dr c q) = pbEffect a c' ⟨cr, dr, c, q⟩ := by
  rw [effectOn_eq_sum, sum_postingBuild]
  exact Rat.add_comm _ _

/-- … summed over the builders of one transaction (`effectOn_buildPostings`) -/
def pbSum (a : Account) (c' : Commodity) : List PB → Rat
  | [] => 0
  | b :: bs => pbEffect a c' b + pbSum a c' bs

theorem effectOn_buildPostings (a : Account) (c' : Commodity) (bs : List PB) :
    effectOn a c' (buildPostings bs) = pbSum a c' bs := by
  induction bs with
  | nil => simp [buildPostings, effectOn, pbSum]
  | cons b bs ih =>
    have : buildPostings (b :: bs) = postingBuild b.credit b.debit b.commodity b.quantity ++ buildPostings bs := by
      simp [buildPostings]
    rw [this, effectOn_append, effectOn_postingBuild, pbSum, ← ih]

theorem pbSum_append (a : Account) (c : Commodity) (xs ys : List PB) :
    pbSum a c (xs ++ ys) = pbSum a c xs + pbSum a c ys := sum_rec_append rfl (fun _ _ => rfl) xs ys

theorem expected_append (xs ys : List (Commodity × Rat)) (c : Commodity) :
    expected (xs ++ ys) c = expected xs c + expected ys c :=
  sum_rec_append (F := (expected · c)) (g := fun x => if x.1 = c then x.2 else 0) rfl (fun _ _ => rfl) xs ys

theorem pbEffect_debit {acct other : Account} (h : acct ≠ other) (cur : Commodity) (q : Rat) (c' : Commodity) :
    pbEffect acct c' ⟨other, acct, cur, q⟩ = if cur = c' then q else 0 := by
  by_cases hc : cur = c' <;> simp [pbEffect, hc, h.symm, Rat.add_zero]

theorem pbEffect_credit {acct other : Account} (h : acct ≠ other) (cur : Commodity) (q : Rat) (c' : Commodity) :
    pbEffect acct c' ⟨acct, other, cur, q⟩ = if cur = c' then -q else 0 := by
  by_cases hc : cur = c' <;> simp [pbEffect, hc, h.symm, Rat.zero_add]

theorem buildPostings_ne_nil {bs : List PB} (h : bs ≠ []) : buildPostings bs ≠ [] := by
  cases bs with
  | nil => exact absurd rfl h
  | cons b bs =>
    obtain ⟨_, _, e, _⟩ := postingBuild_pair b.credit b.debit b.commodity b.quantity 0
    simp [buildPostings, e]

theorem mkTx_matches {a : Account} {d : Int} {desc : String} {bs : List PB} {tg : Option (List Commodity)}
    {effs : List (Commodity × Rat)} (h : ∀ c, pbSum a c bs = expected effs c) (hne : bs ≠ []) :
    Matches a (.booking d effs) (mkTx d desc bs tg) := by
  unfold mkTx Matches
  exact ⟨rfl, fun c => by rw [effectOn_buildPostings]; exact h c, buildPostings_ne_nil hne⟩

/-- the specification's `All2` is `List.Forall₂`; its facts are those of `Proofs/ListRel` -/
theorem all2_iff {α β : Type} {R : α → β → Prop} {as : List α} {bs : List β} : All2 R as bs ↔ List.Forall₂ R as bs :=
  ⟨fun h => by induction h with | nil => exact .nil | cons r _ ih => exact .cons r ih,
    fun h => by induction h with | nil => exact .nil | cons r _ ih => exact .cons r ih⟩

theorem ofOption_eq_ok {α : Type} {o : Option α} {a : α} (h : Res.ofOption o = .ok a) : o = some a := by
  cases o <;> simp [Res.ofOption] at h; subst h; rfl

def Ensures {α : Type} (x : Res α) (P : α → Prop) : Prop := ∀ a, x = .ok a → P a

namespace Ensures
variable {α β : Type} {P : α → Prop} {Q : β → Prop}

theorem ok {a : α} (h : P a) : Ensures (.ok a) P := fun _ e => Res.ok.inj e ▸ h
theorem error : Ensures (.error : Res α) P := fun _ e => nomatch e
theorem panic : Ensures (.panic : Res α) P := fun _ e => nomatch e

theorem bind {x : Res α} {f : α → Res β} (hx : Ensures x P) (hf : ∀ a, P a → Ensures (f a) Q) : Ensures (x >>= f) Q := by
  intro b e
  obtain ⟨a, ha, e⟩ := Res.bind_eq_ok e
  exact hf a (hx a ha) b e

theorem ite {c : Prop} [Decidable c] {x y : Res α} (hx : c → Ensures x P) (hy : ¬c → Ensures y P) :
    Ensures (if c then x else y) P := by
  split
  · exact hx ‹_›
  · exact hy ‹_›

theorem ofOption {o : Option α} (h : ∀ a, o = some a → P a) : Ensures (Res.ofOption o) P :=
  fun a e => h a (ofOption_eq_ok e)

theorem trivial {x : Res α} : Ensures x (fun _ => True) := fun _ _ => True.intro

end Ensures

theorem not_of_bnot {x : Bool} (h : (!x) = true) : ¬ x = true := by cases x <;> simp_all
theorem of_not_bnot {x : Bool} (h : ¬ (!x) = true) : x = true := by cases x <;> simp_all

/-- `∀ a, o = some a → P a` is how a postcondition speaks of an optional result -/
theorem none_ok {α : Type} {P : α → Prop} : ∀ a, (none : Option α) = some a → P a := fun _ e => nomatch e
theorem some_ok {α : Type} {P : α → Prop} {a : α} (h : P a) : ∀ b, some a = some b → P b := fun _ e => Option.some.inj e ▸ h

theorem num_eq {s : String} {q : Rat} (h : newFromString s = some q) : num s = q := by rw [num, h]; rfl
theorem numApos_eq {s : String} {q : Rat} (h : parseDecimalApos s = some q) : numApos s = q := by rw [numApos, h]; rfl
theorem numComma_eq {s : String} {q : Rat} (h : parseDecimalComma s = some q) : numComma s = q := by rw [numComma, h]; rfl
theorem dateOf_eq {l : List LEl} {s : String} {d : Int} (h : parseDate l s = some d) : dateOf l s = d := by
  rw [dateOf, h]; rfl

/-! a bound value is remembered by the equation of its success; from it a leaf takes (`num_eq`, `dateOf_eq`) that the value is what
the specification's reader says of the field -/

theorem ensures_some {α : Type} (o : Option α) : Ensures (Res.ofOption o) (fun a => o = some a) := .ofOption fun _ h => h
theorem ensures_fldD (r : Rec) (i : Nat) : Ensures (fld r i) (fun s => fldD r i = s) := fun s h => by
  unfold fld at h; unfold fldD; split at h <;> simp_all
theorem ensures_date10 (l : List LEl) (s : String) : Ensures (parseDatePrefix10 l s) (fun d => dateOf10 l s = d) :=
  fun d h => by unfold dateOf10; rw [h]

end Knut.Proofs.Import
