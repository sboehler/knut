import Knut.Proofs.ImportEffects
import Knut.Proofs.MapSum
/-!
# C13: the executable predicate `faithfulB` and the proposition `Faithful`
-/
namespace Knut.Proofs.Import
open Knut Knut.Import Knut.Spec.Import

theorem effectOn_untouched (a : Account) (c : Commodity) (ps : List Posting) (h : c ∉ touched a ps) : effectOn a c ps = 0 := by
  rw [effectOn_eq_sum]
  refine MapSum.sum_map_eq_zero _ ps fun p hp => if_neg fun hc => h ?_
  exact List.mem_map.mpr ⟨p, List.mem_filter.mpr ⟨hp, by simpa using hc.1⟩, hc.2⟩

theorem expected_unlisted (effs : List (Commodity × Rat)) (c : Commodity) (h : c ∉ effs.map (·.1)) : expected effs c = 0 := by
  induction effs with
  | nil => rfl
  | cons e effs ih =>
    obtain ⟨c', q⟩ := e
    have hc : ¬ c' = c := fun hc => h (hc ▸ List.mem_cons_self)
    rw [expected, if_neg hc, ih (fun hm => h (List.mem_cons_of_mem _ hm)), Rat.add_zero]

theorem matchesB_iff (a : Account) (i : Item) (d : Directive) : matchesB a i d = true ↔ Matches a i d := by
  cases i with
  | booking date effs =>
    cases d with
    | tx t =>
      simp only [matchesB, Matches, Bool.and_eq_true, beq_iff_eq, List.all_eq_true, Bool.not_eq_true', List.isEmpty_eq_false_iff]
      constructor
      · rintro ⟨⟨h1, h2⟩, h3⟩
        refine ⟨h1, fun c => ?_, h3⟩
        by_cases hc : c ∈ touched a t.postings ++ effs.map (·.1)
        · exact h2 c hc
        · simp only [List.mem_append, not_or] at hc
          rw [effectOn_untouched a c _ hc.1, expected_unlisted effs c hc.2]
      · rintro ⟨h1, h2, h3⟩
        exact ⟨⟨h1, fun c _ => h2 c⟩, h3⟩
    | price _ => simp [matchesB, Matches]
    | opening _ => simp [matchesB, Matches]
    | assertion _ => simp [matchesB, Matches]
    | closing _ => simp [matchesB, Matches]
  | assertion date q c =>
    cases d <;> simp [matchesB, Matches]
  | price date c p tg =>
    cases d <;> simp [matchesB, Matches]

theorem removeFirst_head {β : Type} (p : β → Bool) (x : β) (xs : List β) (h : p x = true) : removeFirst p (x :: xs) = some xs := by
  simp [removeFirst, h]

theorem removeFirst_perm {β : Type} (p : β → Bool) : ∀ (xs ys : List β), removeFirst p xs = some ys →
    ∃ x, p x = true ∧ xs.Perm (x :: ys) := by
  intro xs
  induction xs with
  | nil => intro ys h; simp [removeFirst] at h
  | cons x xs ih =>
    intro ys h
    unfold removeFirst at h
    split at h
    · simp at h; subst h; exact ⟨x, by assumption, List.Perm.refl _⟩
    · simp only [Option.map_eq_some_iff] at h
      obtain ⟨zs, hz, h⟩ := h
      subst h
      obtain ⟨y, hy, hperm⟩ := ih zs hz
      exact ⟨y, hy, (List.Perm.cons x hperm).trans (List.Perm.swap y x zs)⟩

end Knut.Proofs.Import
