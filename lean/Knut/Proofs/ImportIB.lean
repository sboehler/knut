import Knut.Proofs.ImportBrokers
/-!
# C13: us.interactivebrokers — the chain of record parsers against the chain of record readers: what each handled record yields
-/
namespace Knut.Proofs.Import
open Knut Knut.Import Knut.Spec.Import Knut.FromSyntax

theorem ensures_fldBind {α : Type} {f : String → Res α} {P : α → Prop} (r : Rec) (i : Nat) (h : Ensures (f (fldD r i)) P) :
    Ensures ((fld r i).bind f) P := .bind (ensures_fldD r i) fun _ e => e ▸ h

theorem ensures_round2 (s : String) : Ensures (IB.rounded s) (fun q => q = round2 s) :=
  .bind (ensures_some _) fun a ha => .ok (by rw [round2, numComma_eq ha])

theorem ensures_isTrue (x : Res Bool) : Ensures x (fun b => isTrue x = b) := fun _ h => by rw [h]; rfl

def StFine (st : IB.St) : Prop := PrintableDate st.dateTo ∧ ∀ b, st.base = some b → ComOK b

/-- `na = false`: `createAssertions` emits assertions -/
abbrev IbYields (a : Swissquote.Accts) := Yields a.account (AcctsOK a) (AcctsValid a) false

/-- parser `p` against reader `sp` on every record: handled ↔ recognised, same new state (which keeps the invariant), and the
directives are what the reader's items yield -/
def Reads (a : Swissquote.Accts) (p : IB.St → Rec → Res IB.Out) (sp : IB.St → Rec → SOut) : Prop :=
  ∀ st r, StFine st → Ensures (p st r) (fun o => match o with
    | some (st', ds) => ∃ items, sp st r = some (st', items) ∧ StFine st' ∧ IbYields a items ds
    | none => sp st r = none)

theorem reads_baseCurrency (a : Swissquote.Accts) : Reads a IB.parseBaseCurrency ibBaseCurrency := fun st r hst =>
  .bind (ensures_isTrue _) fun b hb =>
  .ite (fun hn => .ok (by rw [ibBaseCurrency, hb, if_neg (not_of_bnot hn)])) fun hn =>
  .bind (ensures_fldD r 3) fun v hv => .bind (ensures_getIs _) fun c hc =>
  .ok ⟨[], by rw [ibBaseCurrency, hb, if_pos (of_not_bnot hn), hv, hc.1], ⟨hst.1, some_ok hc.2⟩, .nil⟩

theorem reads_period (a : Swissquote.Accts) : Reads a IB.parsePeriod ibPeriod := fun st r hst =>
  .bind (ensures_isTrue _) fun b hb =>
  .ite (fun hn => .ok (by rw [ibPeriod, hb, if_neg (not_of_bnot hn)])) fun hn =>
  .bind (ensures_fldD r 3) fun v hv => .bind .trivial fun _ _ => .bind .trivial fun _ _ =>
  .bind (ensures_fldD _ 1) fun d1 h1 => .bind (ensures_some _) fun dt hdt =>
  .ok ⟨[], by rw [ibPeriod, hb, if_pos (of_not_bnot hn), hv, h1, dateOf_eq hdt], ⟨parseDate_printable rfl rfl hdt, hst.2⟩, .nil⟩

theorem reads_forex (a : Swissquote.Accts) : Reads a (IB.parseForex a) ibForex := fun st r hst =>
  .bind (ensures_isTrue _) fun b hb =>
  .ite (fun hn => .ok (by rw [ibForex, hb, if_neg (not_of_bnot hn)])) fun hn => by
    split
    · exact .error
    · rename_i base hbase
      exact .bind (ensures_fldBind r 4 (ensures_getIs _)) fun cur hcur => .bind (ensures_fldD r 5) fun sym hsym =>
        .bind (ensures_getIs _) fun stock hstock => .bind (ensures_fldBind r 6 (ensures_date10 _ _)) fun d hd =>
        .bind (ensures_fldBind r 7 (ensures_round2 _)) fun qty hq => .bind .trivial fun _ _ =>
        .bind (ensures_fldBind r 10 (ensures_round2 _)) fun proceeds hp => .bind (ensures_fldBind r 11 (ensures_round2 _)) fun fee hf =>
        .ok ⟨_, by rw [ibForex, hb, if_pos (of_not_bnot hn)], hst, by
          rw [hsym, ← hstock.1, ← hcur.1, hd, ← hq, ← hp, ← hf, hbase, Option.getD_some]
          exact .tx (hd ▸ printable_dateOf10 rfl rfl _) (by simp)
            (.append (.inn (hq ▸ isDec_round2 _) hstock.2 (·.trading) (fun v => ⟨v.trading, v.account⟩) <|
                .inn (hp ▸ isDec_round2 _) hcur.2 (·.trading) (fun v => ⟨v.trading, v.account⟩) .nil) (by
              split
              · exact .nil
              · exact .inn (hf ▸ isDec_round2 _) (hst.2 base hbase) (·.fee) (fun v => ⟨v.fee, v.account⟩) .nil))
            (List.forall_mem_cons.mpr ⟨hstock.2, List.forall_mem_singleton.mpr hcur.2⟩)⟩

theorem reads_trade (a : Swissquote.Accts) : Reads a (IB.parseTrade a) ibTrade := fun st r hst =>
  .bind (ensures_isTrue _) fun b hb =>
  .ite (fun hn => .ok (by rw [ibTrade, hb, if_neg (not_of_bnot hn)])) fun hn =>
  .bind (ensures_fldBind r 4 (ensures_getIs _)) fun cur hcur => .bind (ensures_fldBind r 5 (ensures_getIs _)) fun stock hstock =>
  .bind (ensures_fldBind r 6 (ensures_date10 _ _)) fun d hd => .bind (ensures_fldBind r 7 (ensures_round2 _)) fun qty hq =>
  .bind .trivial fun _ _ => .bind (ensures_fldBind r 10 (ensures_round2 _)) fun proceeds hp =>
  .bind (ensures_fldBind r 11 (ensures_some _)) fun fee hf =>
  .ok ⟨_, by rw [ibTrade, hb, if_pos (of_not_bnot hn)], hst, by
    rw [← hstock.1, ← hcur.1, hd, ← hq, ← hp, num_eq hf]
    exact .tx (hd ▸ printable_dateOf10 rfl rfl _) (List.cons_ne_nil _ _)
      (.inn (hq ▸ isDec_round2 _) hstock.2 (·.trading) (fun v => ⟨v.trading, v.account⟩) <|
        .inn (hp ▸ isDec_round2 _) hcur.2 (·.trading) (fun v => ⟨v.trading, v.account⟩) <|
        .inn (isDec_newFromString hf) hcur.2 (·.fee) (fun v => ⟨v.fee, v.account⟩) .nil)
      (List.forall_mem_cons.mpr ⟨hstock.2, List.forall_mem_singleton.mpr hcur.2⟩)⟩

theorem reads_deposit (a : Swissquote.Accts) : Reads a (IB.parseDeposit a) ibDeposit := fun st r hst =>
  .bind (ensures_isTrue _) fun b hb =>
  .ite (fun hn => .ok (by rw [ibDeposit, hb, if_neg (not_of_bnot hn)])) fun hn =>
  .bind (ensures_fldBind r 2 (ensures_getIs _)) fun cur hcur => .bind (ensures_fldBind r 3 (ensures_some _)) fun d hd =>
  .bind (ensures_fldBind r 5 (ensures_round2 _)) fun q hq =>
  .ok ⟨_, by rw [ibDeposit, hb, if_pos (of_not_bnot hn)], hst, by
    rw [← hcur.1, dateOf_eq hd, ← hq]
    exact .plain (parseDate_printable rfl rfl hd)
      (.inn (hq ▸ isDec_round2 _) hcur.2 (·.tbd) (fun v => ⟨accOK_tbd, v.account⟩) .nil)⟩

/-- dividends, interest, withholding tax -/
theorem cash_row {a : Swissquote.Accts} {other : Account} (hne : AcctsOK a → a.account ≠ other) (ho : AcctsValid a → AccOK other)
    {r : Rec} {cur : Commodity} {d : Int} {q : Rat} (hcur : cur = fldD r 2 ∧ ComOK cur)
    (hd : parseDate layoutYMD (fldD r 3) = some d) (hq : parseDecimalComma (fldD r 5) = some q)
    {desc : String} {tg : List Commodity} (htg : ∀ t ∈ tg, ComOK t) :
    IbYields a [.booking (dateOf layoutYMD (fldD r 3)) [(fldD r 2, numComma (fldD r 5))]]
      [mkTx d desc [⟨other, a.account, cur, q⟩] (some tg)] := by
  rw [← hcur.1, dateOf_eq hd, numComma_eq hq]
  exact .tx (parseDate_printable rfl rfl hd) (List.cons_ne_nil _ _)
    (.inn (isDec_newFromString hq) hcur.2 hne (fun v => ⟨ho v, v.account⟩) .nil) htg

theorem reads_dividend (a : Swissquote.Accts) : Reads a (IB.parseDividend a) (ibCash "Dividends" true) := fun st r hst =>
  .bind (ensures_isTrue _) fun b hb =>
  .ite (fun hn => .ok (by rw [ibCash, hb, Bool.not_true, Bool.false_or, if_neg (not_of_bnot hn)])) fun hn =>
  .bind (ensures_fldBind r 2 (ensures_getIs _)) fun cur hcur => .bind (ensures_fldBind r 3 (ensures_some _)) fun d hd =>
  .bind (ensures_fldBind r 5 (ensures_some _)) fun q hq => .bind .trivial fun desc _ => .ite (fun _ => .error) fun hsym =>
  .ok ⟨_, by rw [ibCash, hb, Bool.not_true, Bool.false_or, if_pos (of_not_bnot hn)], hst,
    cash_row (·.dividend) (·.dividend) hcur hd hq (List.forall_mem_singleton.mpr (firstAlnumRun_ok desc hsym))⟩

theorem reads_interest (a : Swissquote.Accts) : Reads a (IB.parseInterest a) (ibCash "Interest" true) := fun st r hst =>
  .bind (ensures_isTrue _) fun b hb =>
  .ite (fun hn => .ok (by rw [ibCash, hb, Bool.not_true, Bool.false_or, if_neg (not_of_bnot hn)])) fun hn =>
  .bind (ensures_fldBind r 2 (ensures_getIs _)) fun cur hcur => .bind (ensures_fldBind r 3 (ensures_some _)) fun d hd =>
  .bind (ensures_fldBind r 5 (ensures_some _)) fun q hq => .bind .trivial fun _ _ =>
  .ok ⟨_, by rw [ibCash, hb, Bool.not_true, Bool.false_or, if_pos (of_not_bnot hn)], hst,
    cash_row (·.interest) (·.interest) hcur hd hq (List.forall_mem_singleton.mpr hcur.2)⟩

theorem reads_withholding (a : Swissquote.Accts) : Reads a (IB.parseWithholdingTax a) (ibCash "Withholding Tax" false) :=
  fun st r hst =>
  .bind (ensures_isTrue _) fun b hb =>
  .ite (fun hn => .ok (by
    rw [ibCash, hb, Bool.not_false, Bool.true_or, Bool.and_true, if_neg (not_of_bnot hn)])) fun hn =>
  .bind .trivial fun desc _ => .bind (ensures_fldBind r 2 (ensures_getIs _)) fun cur hcur =>
  .bind (ensures_fldBind r 3 (ensures_some _)) fun d hd => .bind (ensures_fldBind r 5 (ensures_some _)) fun q hq =>
  .ite (fun _ => .error) fun hsym =>
  .ok ⟨_, by rw [ibCash, hb, Bool.not_false, Bool.true_or, Bool.and_true, if_pos (of_not_bnot hn)], hst,
    cash_row (·.tax) (·.tax) hcur hd hq (List.forall_mem_singleton.mpr (firstAlnumRun_ok desc hsym))⟩

theorem reads_positions (a : Swissquote.Accts) : Reads a (IB.createAssertions a) ibPositions := fun st r hst =>
  .bind (ensures_isTrue _) fun b hb =>
  .ite (fun hn => .ok (by rw [ibPositions, hb, if_neg (not_of_bnot hn)])) fun hn => .ite (fun _ => .error) fun _ =>
  .bind (ensures_fldBind r 5 (ensures_getIs _)) fun sym hsym => .bind (ensures_fldBind r 6 (ensures_some _)) fun q hq =>
  .ok ⟨_, by rw [ibPositions, hb, if_pos (of_not_bnot hn)], hst, by
    rw [← hsym.1, num_eq hq]; exact .assertion hst.1 (isDec_newFromString hq) hsym.2 (·.account)⟩

theorem reads_forexBalances (a : Swissquote.Accts) : Reads a (IB.createCurrencyAssertions a) ibForexBalances := fun st r hst =>
  .bind (ensures_isTrue _) fun b hb =>
  .ite (fun hn => .ok (by rw [ibForexBalances, hb, if_neg (not_of_bnot hn)])) fun hn => .ite (fun _ => .error) fun _ =>
  .bind (ensures_fldBind r 4 (ensures_getIs _)) fun sym hsym => .bind (ensures_fldBind r 5 (ensures_round2 _)) fun q hq =>
  .ok ⟨_, by rw [ibForexBalances, hb, if_pos (of_not_bnot hn)], hst, by
    rw [← hsym.1, ← hq]; exact .assertion hst.1 (hq ▸ isDec_round2 _) hsym.2 (·.account)⟩

theorem tryAll_reads (a : Swissquote.Accts) {ps : List (IB.St → Rec → Res IB.Out)} {sps : List (IB.St → Rec → SOut)}
    (h : All2 (Reads a) ps sps) (st : IB.St) (r : Rec) (hst : StFine st) : Ensures (IB.tryAll ps st r)
      (fun out => (firstSome sps st r).1 = out.1 ∧ StFine out.1 ∧ IbYields a (firstSome sps st r).2 out.2) := by
  induction h with
  | nil => exact .ok ⟨rfl, hst, .nil⟩
  | cons hag _ ih =>
    refine .bind (hag st r hst) fun o ho => ?_
    unfold firstSome
    match o, ho with
    | some (st1, ds1), ⟨items, hsp, hst1, hall⟩ => rw [hsp]; exact .ok ⟨rfl, hst1, hall⟩
    | none, hsp => rw [hsp]; exact ih

theorem ib_parsers_read (a : Swissquote.Accts) : All2 (Reads a) (IB.parsers a) ibReaders := by
  unfold IB.parsers ibReaders
  exact All2.cons (reads_baseCurrency a) <| All2.cons (reads_period a) <| All2.cons (reads_forex a) <|
    All2.cons (reads_trade a) <| All2.cons (reads_deposit a) <| All2.cons (reads_dividend a) <|
    All2.cons (reads_interest a) <| All2.cons (reads_withholding a) <| All2.cons (reads_positions a) <|
    All2.cons (reads_forexBalances a) All2.nil

theorem ib_rows (a : Swissquote.Accts) : ∀ (recs : List Rec) (st : IB.St), StFine st →
    Ensures (IB.run' a st recs) (IbYields a (ibRows st recs))
  | [], _, _ => .ok .nil
  | r :: rs, st, hst => .bind (tryAll_reads a (ib_parsers_read a) st r hst) fun out h1 =>
    .bind (ib_rows a rs out.1 h1.2.1) fun _ h2 => .ok (by rw [ibRows, h1.1]; exact h1.2.2.append h2)

theorem interactivebrokers_yields (a : Swissquote.Accts) (recs : List Rec) :
    Ensures (IB.run a recs) (IbYields a (interactivebrokers recs)) :=
  ib_rows a recs {} ⟨by decide, none_ok⟩

end Knut.Proofs.Import
