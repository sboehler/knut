import Knut.Proofs.ImportEffects
/-!
# C13: well-formed directives (accounts and commodities are valid names, transactions have bookings in pairs), the
hypothesis of the print-then-parse round trip: what `mkTx` and an assertion need for it.  That every importer emits only
such directives is part of `Yields` (`Proofs/ImportYields.lean`).
-/
namespace Knut.Proofs.Import
open Knut Knut.Import Knut.Spec.Import

/-- the character class of the registry and of the parser -/
abbrev alnum (r : Nat) : Bool := Syntax.isAlphanumeric r

/-- an account the registry accepts (what `accountFlag` checks) -/
def AccOK (a : Account) : Prop := Spec.Import.validAccount alnum a = true
def ComOK (c : Commodity) : Prop := validName c alnum = true

theorem accOK_of_flag {s : String} {a : Account} (h : accountFlag s = .ok a) : AccOK a := by
  unfold accountFlag at h
  simp only at h
  split at h
  · simp at h; subst h
    rename_i hv
    unfold AccOK Spec.Import.validAccount
    unfold Import.validAccount at hv
    cases hseg : (Account.ofName s).segments with
    | nil => simp [hseg] at hv
    | cons t rest => simp [hseg] at hv ⊢; exact ⟨hv.1, fun x hx => by simpa [validName, validSegment] using hv.2 x hx⟩
  · cases h

theorem accOK_tbd : AccOK tbd := by unfold AccOK; decide +kernel

theorem accOK_valuation {a : Account} (h : AccOK a) : AccOK (Knut.Import.valuationAccountFor a) := by
  unfold AccOK Spec.Import.validAccount at h ⊢
  unfold Knut.Import.valuationAccountFor
  cases hseg : a.segments with
  | nil => simp [hseg] at h
  | cons t rest =>
    simp [hseg] at h ⊢
    exact ⟨by decide +kernel, h.2⟩

theorem comOK_chf : ComOK "CHF" := by unfold ComOK; decide +kernel

def PBOK (b : PB) : Prop := AccOK b.credit ∧ AccOK b.debit ∧ ComOK b.commodity

theorem buildPostings_ok (bs : List PB) (h : ∀ b ∈ bs, PBOK b) :
    (buildPostings bs).length % 2 = 0 ∧
    ∀ p ∈ buildPostings bs, Spec.Import.validAccount alnum p.account = true ∧ Spec.Import.validAccount alnum p.other = true ∧
      validName p.commodity alnum = true := by
  refine ⟨?_, fun p hp => ?_⟩
  · clear h
    induction bs with
    | nil => rfl
    | cons b bs ih =>
      have e : (postingBuild b.credit b.debit b.commodity b.quantity).length = 2 := rfl
      rw [buildPostings, List.flatMap_cons, List.length_append, e]
      exact (Nat.add_mod_left 2 _).trans ih
  · obtain ⟨b, hb, hp⟩ := List.mem_flatMap.mp hp
    obtain ⟨h1, h2, h3⟩ := h b hb
    rcases mem_postingBuild hp with rfl | rfl
    · exact ⟨h1, h2, h3⟩
    · exact ⟨h2, h1, h3⟩

theorem replaceQuotes_no_quote (s : String) : (replaceQuotes s).toList.all (fun c => c != '"') = true := by
  unfold replaceQuotes
  simp only [String.toList_ofList, List.all_eq_true, List.mem_map]
  rintro c ⟨x, _, rfl⟩
  by_cases hx : x = '"'
  · subst hx; decide
  · have : (x == '"') = false := by simpa using hx
    simp [this, hx]

theorem mkTx_wf {d : Int} {desc : String} {bs : List PB} {tg : Option (List Commodity)} (hne : bs ≠ [])
    (hb : ∀ b ∈ bs, PBOK b) (htg : ∀ t ∈ tg.getD [], ComOK t) : wellFormed alnum (mkTx d desc bs tg) = true := by
  obtain ⟨h1, h2⟩ := buildPostings_ok bs hb
  unfold mkTx wellFormed
  simp only [Bool.and_eq_true, Bool.not_eq_true', List.isEmpty_eq_false_iff, beq_iff_eq]
  refine ⟨⟨⟨⟨replaceQuotes_no_quote desc, buildPostings_ne_nil hne⟩, h1⟩, ?_⟩, ?_⟩
  · simp only [List.all_eq_true]
    intro p hp
    obtain ⟨a, b, c⟩ := h2 p hp
    simp [a, b, c]
  · cases tg with
    | none => rfl
    | some ts => simp only [List.all_eq_true]; intro t ht; exact htg t (by simpa using ht)

theorem wf_assertion {d : Int} {a : Account} {q : Rat} {c : Commodity} (ha : AccOK a) (hc : ComOK c) :
    wellFormed alnum (.assertion { date := d, balances := [⟨a, q, c⟩] }) = true := by
  unfold AccOK at ha; unfold ComOK at hc
  simp [wellFormed, ha, hc]

/-! ## the balance index of `revolut2` -/

theorem revolut2_mem_setBalance {m : List ((Int × Commodity) × Rat)} {k : Int × Commodity} {v : Rat} {e : (Int × Commodity) × Rat}
    (he : e ∈ Revolut2.setBalance m k v) : e = (k, v) ∨ e ∈ m := by
  induction m with
  | nil => exact Or.inl (List.mem_singleton.mp he)
  | cons x m ih =>
    obtain ⟨k', v'⟩ := x
    unfold Revolut2.setBalance at he
    by_cases hk : k' = k
    · rw [if_pos hk] at he
      rcases List.mem_cons.mp he with he | he
      · exact Or.inl he
      · exact Or.inr (List.mem_cons_of_mem _ he)
    · rw [if_neg hk] at he
      rcases List.mem_cons.mp he with he | he
      · exact Or.inr (he ▸ List.mem_cons_self)
      · exact (ih he).imp_right (List.mem_cons_of_mem _)

theorem revolut2_mem_insertKey {e x : (Int × Commodity) × Rat} {l : List ((Int × Commodity) × Rat)}
    (hx : x ∈ Revolut2.insertKey e l) : x = e ∨ x ∈ l := by
  induction l with
  | nil => exact Or.inl (List.mem_singleton.mp hx)
  | cons y l ih =>
    unfold Revolut2.insertKey at hx
    split at hx
    · exact List.mem_cons.mp hx
    · rcases List.mem_cons.mp hx with hx | hx
      · exact Or.inr (hx ▸ List.mem_cons_self)
      · exact (ih hx).imp_right (List.mem_cons_of_mem _)

theorem revolut2_mem_sortKeys {x : (Int × Commodity) × Rat} {m : List ((Int × Commodity) × Rat)}
    (hx : x ∈ Revolut2.sortKeys m) : x ∈ m := by
  induction m with
  | nil => exact hx
  | cons y m ih =>
    rcases revolut2_mem_insertKey (show x ∈ Revolut2.insertKey y (Revolut2.sortKeys m) from hx) with h | h
    · exact h ▸ List.mem_cons_self
    · exact List.mem_cons_of_mem _ (ih h)

/-! ## the brokers (`ch.swissquote`, `us.interactivebrokers`): flag accounts and symbols -/

structure AcctsValid (a : Swissquote.Accts) : Prop where
  account : AccOK a.account
  dividend : AccOK a.dividend
  tax : AccOK a.tax
  fee : AccOK a.fee
  interest : AccOK a.interest
  trading : AccOK a.trading

theorem firstAlnumRun_ok (s : String) (h : firstAlnumRun s ≠ "") : ComOK (firstAlnumRun s) := by
  unfold ComOK validName
  have hall : (firstAlnumRun s).toList.all (fun c => alnum c.toNat) = true := by
    unfold firstAlnumRun
    simp only [String.toList_ofList, List.all_eq_true]
    intro c hc
    have := List.all_eq_true.mp List.all_takeWhile c hc
    -- ASCII letters and digits are alphanumeric for the registry
    have hascii : ∀ n : Fin 128, (isAlnumA (Char.ofNat n.val) = true → alnum n.val = true) := by decide +kernel
    have hlt : c.toNat < 128 := by
      unfold isAlnumA isAlphaA isDig at this
      simp only [Bool.or_eq_true, Bool.and_eq_true, decide_eq_true_eq] at this
      rcases this with (⟨_, h2⟩ | ⟨_, h2⟩) | ⟨_, h2⟩ <;> exact Nat.lt_of_le_of_lt h2 (by decide)
    have := hascii ⟨c.toNat, hlt⟩ (by simpa [Char.ofNat_toNat] using this)
    exact this
  have hne : (firstAlnumRun s).isEmpty = false := by
    cases hb : (firstAlnumRun s).isEmpty with
    | false => rfl
    | true => exact absurd (by simpa [String.isEmpty_iff] using hb) h
  simp [hne, hall]

end Knut.Proofs.Import
