import Knut.Proofs.PrintImport
/-!
# C13: what a stretch of an importer's output is

`Yields` joins the three facts C13 states of an importer's output, each under its own premise, so that one walk over an importer's
`do` block (`Proofs/Import{Cards,Accounts,Brokers,IB}.lean`) establishes all of them and the end results are its projections.
-/
namespace Knut.Proofs.Import
open Knut Knut.Import Knut.Spec.Import Knut.FromSyntax

/-- transactions and prices only: nothing the checker could refuse once the accounts are open -/
def TxOrPrice : Directive → Prop
  | .tx _ => True
  | .price _ => True
  | _ => False

/-- the posting builders `bs` handed to `mkTx` against the amounts `effs` of a booking row; built leg by leg (`inn`, `out`) -/
structure Legs (acct : Account) (F A : Prop) (bs : List PB) (effs : List (Commodity × Rat)) : Prop where
  ok : ∀ b ∈ bs, IsDec b.quantity ∧ (A → PBOK b)
  sum : F → ∀ c, pbSum acct c bs = expected effs c

namespace Legs
variable {acct other : Account} {F A : Prop} {c : Commodity} {q : Rat} {bs : List PB} {effs : List (Commodity × Rat)}

theorem nil : Legs acct F A [] [] := ⟨List.forall_mem_nil _, fun _ _ => rfl⟩

theorem append {xs ys : List PB} {es fs : List (Commodity × Rat)} (h1 : Legs acct F A xs es) (h2 : Legs acct F A ys fs) :
    Legs acct F A (xs ++ ys) (es ++ fs) :=
  ⟨List.forall_mem_append.mpr ⟨h1.ok, h2.ok⟩, fun f c => by rw [pbSum_append, expected_append, h1.sum f, h2.sum f]⟩

theorem inn (hq : IsDec q) (hc : ComOK c) (hne : F → acct ≠ other) (hv : A → AccOK other ∧ AccOK acct) (h : Legs acct F A bs effs) :
    Legs acct F A (⟨other, acct, c, q⟩ :: bs) ((c, q) :: effs) :=
  ⟨List.forall_mem_cons.mpr ⟨⟨hq, fun a => ⟨(hv a).1, (hv a).2, hc⟩⟩, h.ok⟩, fun f c' => by
    rw [pbSum, expected, pbEffect_debit (hne f), h.sum f]⟩

theorem out (hq : IsDec q) (hc : ComOK c) (hne : F → acct ≠ other) (hv : A → AccOK other ∧ AccOK acct) (h : Legs acct F A bs effs) :
    Legs acct F A (⟨acct, other, c, q⟩ :: bs) ((c, -q) :: effs) :=
  ⟨List.forall_mem_cons.mpr ⟨⟨hq, fun a => ⟨(hv a).2, (hv a).1, hc⟩⟩, h.ok⟩, fun f c' => by
    rw [pbSum, expected, pbEffect_credit (hne f), h.sum f]⟩

theorem outUnlessZero (hq : IsDec q) (hc : ComOK c) (hne : F → acct ≠ other) (hv : A → AccOK other ∧ AccOK acct) :
    Legs acct F A (if q = 0 then [] else [⟨acct, other, c, q⟩]) [(c, -q)] := by
  by_cases hz : q = 0
  · rw [if_pos hz, hz]
    exact ⟨List.forall_mem_nil _, fun _ c' => by simp [pbSum, expected, Rat.add_zero]⟩
  · rw [if_neg hz]
    exact .out hq hc hne hv .nil

theorem congr {effs' : List (Commodity × Rat)} (h : Legs acct F A bs effs) (he : ∀ c, expected effs c = expected effs' c) :
    Legs acct F A bs effs' :=
  ⟨h.ok, fun f c => (h.sum f c).trans (he c)⟩

end Legs

/-- the stretch `ds` of an importer's output against the items `items` the specification reads there: one for one what the
items ask for, given `F` (the flags' accounts differ from the import account `acct`); well-formed and printable, given `A` (the
flags' accounts are valid names); under the flag `na`, "no assertions", transactions and prices only -/
structure Yields (acct : Account) (F A : Prop) (na : Bool) (items : List Spec.Import.Item) (ds : List Directive) : Prop where
  faithful : F → All2 (Matches acct) items ds
  valid : A → ∀ d ∈ ds, wellFormed alnum d = true ∧ PrintableDir d
  kinds : na = true → ∀ d ∈ ds, TxOrPrice d

namespace Yields
variable {acct : Account} {F A : Prop} {na : Bool}

theorem nil : Yields acct F A na [] [] := ⟨fun _ => .nil, fun _ => List.forall_mem_nil _, fun _ => List.forall_mem_nil _⟩

theorem append {is1 is2 : List Spec.Import.Item} {ds1 ds2 : List Directive} (h1 : Yields acct F A na is1 ds1)
    (h2 : Yields acct F A na is2 ds2) : Yields acct F A na (is1 ++ is2) (ds1 ++ ds2) :=
  ⟨fun f => all2_iff.mpr (forall₂_append (all2_iff.mp (h1.1 f)) (all2_iff.mp (h2.1 f))), fun a => List.forall_mem_append.mpr ⟨h1.2 a, h2.2 a⟩,
    fun n => List.forall_mem_append.mpr ⟨h1.3 n, h2.3 n⟩⟩

theorem cons {i : Spec.Import.Item} {x : Directive} {is : List Spec.Import.Item} {ds : List Directive}
    (h1 : Yields acct F A na [i] [x]) (h2 : Yields acct F A na is ds) : Yields acct F A na (i :: is) (x :: ds) := append h1 h2

theorem tx {d : Int} {desc : String} {bs : List PB} {tg : Option (List Commodity)} {effs : List (Commodity × Rat)}
    (hd : PrintableDate d) (hne : bs ≠ []) (hl : Legs acct F A bs effs) (htg : ∀ t ∈ tg.getD [], ComOK t) :
    Yields acct F A na [.booking d effs] [mkTx d desc bs tg] :=
  ⟨fun f => All2.cons (mkTx_matches (hl.sum f) hne) All2.nil,
    fun a => List.forall_mem_singleton.mpr ⟨mkTx_wf hne (fun b hm => (hl.ok b hm).2 a) htg,
      mkTx_printable hd hne (fun b hm => (hl.ok b hm).1) (fun b hm => (hl.ok b hm).2 a) htg⟩,
    fun _ => List.forall_mem_singleton.mpr trivial⟩

theorem plain {d : Int} {desc : String} {b : PB} {bs : List PB} {effs : List (Commodity × Rat)} (hd : PrintableDate d)
    (hl : Legs acct F A (b :: bs) effs) : Yields acct F A na [.booking d effs] [mkTx d desc (b :: bs)] :=
  tx hd (List.cons_ne_nil _ _) hl (fun _ h => nomatch h)

theorem assertion {d : Int} {q : Rat} {c : Commodity} (hd : PrintableDate d) (hq : IsDec q) (hc : ComOK c) (ha : A → AccOK acct) :
    Yields acct F A false [.assertion d q c] [.assertion { date := d, balances := [⟨acct, q, c⟩] }] :=
  ⟨fun _ => All2.cons rfl All2.nil,
    fun a => List.forall_mem_singleton.mpr ⟨wf_assertion (ha a) hc, assertion_printable hd (ha a) hq hc⟩, fun h => nomatch h⟩

theorem price {d : Int} {c tg : Commodity} {p : Rat} (hd : PrintableDate d) (hp : IsDec p) (hc : A → ComOK c) (ht : ComOK tg) :
    Yields acct F A na [.price d c p tg] [.price { date := d, commodity := c, price := p, target := tg }] :=
  ⟨fun _ => All2.cons rfl All2.nil,
    fun a => List.forall_mem_singleton.mpr ⟨by
      have h1 : validName c alnum = true := hc a
      have h2 : validName tg alnum = true := ht
      simp [wellFormed, h1, h2], price_printable hd (hc a) hp ht⟩,
    fun _ => List.forall_mem_singleton.mpr trivial⟩

variable {items : List Spec.Import.Item} {ds : List Directive}
theorem wf (h : Yields acct F A na items ds) (hA : A) : ∀ d ∈ ds, wellFormed alnum d = true := fun d hd => (h.valid hA d hd).1
theorem printable (h : Yields acct F A na items ds) (hA : A) : ∀ d ∈ ds, PrintableDir d := fun d hd => (h.valid hA d hd).2
theorem txOrPrice (h : Yields acct F A true items ds) : ∀ d ∈ ds, TxOrPrice d := h.kinds rfl

end Yields

theorem mapRows_yields {acct : Account} {F A : Prop} {na : Bool} {f : Rec → Res (List Directive)}
    {g : Rec → List Spec.Import.Item} (h : ∀ r, Ensures (f r) (Yields acct F A na (g r))) :
    ∀ rs, Ensures (mapRows f rs) (Yields acct F A na (rs.flatMap g))
  | [] => .ok .nil
  | r :: rs => .bind (h r) fun _ h1 => .bind (mapRows_yields h rs) fun _ h2 => .ok (List.flatMap_cons ▸ h1.append h2)

theorem ensures_getIs (s : String) : Ensures (getCommodity s) (fun c => c = s ∧ ComOK c) :=
  .ite (fun hv => .ok ⟨rfl, hv⟩) fun _ => .error
theorem ensures_mustIs (s : String) : Ensures (mustCommodity s) (fun c => c = s ∧ ComOK c) :=
  .ite (fun hv => .ok ⟨rfl, hv⟩) fun _ => .panic

/-! the specification's readers default to 0, so these hold whatever the field holds -/

theorem isDec_num (s : String) : IsDec (num s) := by
  unfold num
  cases h : newFromString s with
  | none => exact isDec_zero
  | some q => exact isDec_newFromString h
theorem isDec_numApos (s : String) : IsDec (numApos s) := isDec_num _
theorem isDec_round2 (s : String) : IsDec (round2 s) := isDec_round _ _

theorem printable_dateOf {l : List LEl} (hy : setsYear l = true) (hm : setsMonth l = true) (s : String) :
    PrintableDate (dateOf l s) := by
  unfold dateOf
  cases h : Knut.Import.parseDate l s with
  | none => decide
  | some d => exact parseDate_printable hy hm h

theorem printable_dateOf10 {l : List LEl} (hy : setsYear l = true) (hm : setsMonth l = true) (s : String) :
    PrintableDate (dateOf10 l s) := by
  unfold dateOf10
  split
  · exact ensures_prefix10 hy hm s _ ‹_›
  · decide

end Knut.Proofs.Import
