import Knut.Proofs.InferStruct
/-!
# The inferred account is the best-scoring candidate, the smallest name among equals (helper lemmas for C15)

For a comparison `gt` that is the strict part of a total preorder (as `>` on floats without NaN is).
-/
namespace Knut.Infer
open Knut Knut.Syntax

variable {S : Type} (sc : Scorer S) (m : Model)

theorem asc_split {pre post : List Bytes} {a : Bytes} (h : Asc (pre ++ a :: post)) :
    (∀ c ∈ pre, bytesLt c a = true) ∧ (∀ c ∈ post, bytesLt a c = true) :=
  have ⟨_, h2, h3⟩ := List.pairwise_append.mp h
  ⟨fun c hc => h3 c hc a List.mem_cons_self, (List.pairwise_cons.mp h2).1⟩

/-- **the inferred account is a best-scoring candidate, and the smallest name among the best-scoring ones**: no
candidate scores higher, and every candidate with a smaller name scores strictly lower -/
theorem inferAccount_argmax (ho : sc.Order) {desc : Bytes} {b : BookingV} {other a : Bytes}
    (h : m.inferAccount sc desc b other = some a) :
    let tokens := tokenize desc b.commodity b.quantity other
    ∀ c ∈ m.countByAccount.keys, c ≠ other →
      sc.gt (m.scoreCandidate sc c tokens) (m.scoreCandidate sc a tokens) = false ∧
      (bytesLt c a = true → sc.gt (m.scoreCandidate sc a tokens) (m.scoreCandidate sc c tokens) = true) := by
  intro tokens c hc hco
  obtain ⟨r, hr, e⟩ := inferAccount_picks sc m desc b other
  rw [e] at h
  cases hr with
  | keep _ => cases h
  | pick a' pre post e' _ h5 h4 =>
    split at h
    · cases h
    injection h with h
    subst h
    have hasc := asc_sortU m.countByAccount.keys
    rw [e'] at hasc
    obtain ⟨a1, a2⟩ := asc_split hasc
    have hmem : c ∈ pre ++ a' :: post := by rw [← e']; exact mem_sortU.mpr hc
    rcases List.mem_append.mp hmem with hp | hp
    · have := (h4 ho).2 c hp hco
      refine ⟨?_, fun _ => this⟩
      cases hx : sc.gt (m.scoreCandidate sc c tokens) (m.scoreCandidate sc a' tokens) with
      | false => rfl
      | true => have := ho.trans _ _ _ this hx; rw [ho.irrefl] at this; cases this
    · rcases List.mem_cons.mp hp with e'' | e''
      · subst e''
        exact ⟨ho.irrefl _, fun hl => by rw [bytesLt_irrefl] at hl; cases hl⟩
      · refine ⟨h5 c e'' hco, fun hl => ?_⟩
        have := a2 c e''
        rw [bytesLt_asymm this] at hl; cases hl


/-- the exact score with `>` on `Rat` is such a comparison -/
theorem exactScorer_order : exactScorer.Order := by
  refine ⟨?_, ?_, ?_⟩
  · intro a; simp [exactScorer, Rat.lt_irrefl]
  · intro a b c h1 h2
    simp only [exactScorer, decide_eq_true_eq] at h1 h2 ⊢
    exact Std.lt_trans h2 h1
  · intro a b c h1 h2
    simp only [exactScorer, decide_eq_false_iff_not, Rat.not_lt] at h1 h2 ⊢
    exact Rat.le_trans h1 h2

end Knut.Infer
