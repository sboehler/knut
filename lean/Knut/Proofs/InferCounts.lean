import Knut.Proofs.Sim
import Knut.Proofs.InferSort
import Knut.Spec.InferSpec
/-!
# The count tables of `bayes.Model` as counts over the multiset of `update` calls (helper lemmas for C15)

`events placeholder txs` lists the calls `Model.update(t, b, account, other)` that training performs, each as the account
it counts and the token set it counts it with. The three tables of the trained model are then plain counts over that
list (`Agrees`), which do not depend on the order of the transactions nor on the order in which a token set is walked.
-/
namespace Knut.Infer
open Knut Knut.Syntax Knut.Spec.Infer

/-- one call of `Model.update` -/
structure Event where
  account : Bytes
  tokens : List Bytes

def bookingEvents (placeholder desc : Bytes) (b : TBooking) : List Event :=
  if eligible placeholder b then
    [⟨b.v.credit, tokenize desc b.v.commodity b.v.quantity b.v.debit⟩,
     ⟨b.v.debit, tokenize desc b.v.commodity b.v.quantity b.v.credit⟩]
  else []

def txEvents (placeholder : Bytes) (t : TTx) : List Event := t.bookings.flatMap (bookingEvents placeholder t.desc)

def events (placeholder : Bytes) (txs : List TTx) : List Event := txs.flatMap (txEvents placeholder)

/-- a Go map entry: absent for a zero count -/
def cnt (n : Nat) : Option Nat := if n = 0 then none else some n

theorem cnt_getD (n : Nat) : (cnt n).getD 0 = n := by
  unfold cnt; split <;> simp_all

theorem cnt_succ (n : Nat) : cnt (n + 1) = some (n + 1) := by simp [cnt]

/-- the three tables of `m` are the counts over the `update` calls `evs` (absent entry for a zero count) -/
structure Agrees (m : Model) (evs : List Event) : Prop where
  count : m.count = evs.length
  byAccount : ∀ a, m.countByAccount.find? a = cnt (evs.countP fun e => e.account = a)
  byTA : ∀ t a, m.lookupTA t a = cnt (evs.countP fun e => e.account = a ∧ t ∈ e.tokens)

/-- `m.countByTokenAndAccount[t][a]` on the bare table -/
def lookup (tm : AMap Bytes (AMap Bytes Nat)) (t a : Bytes) : Option Nat := (tm.find? t).bind (·.find? a)

theorem lookup_incrTA (tm : AMap Bytes (AMap Bytes Nat)) (acct tok t a : Bytes) :
    lookup (incrTA tm acct tok) t a =
      if tok = t ∧ acct = a then some ((lookup tm t a).getD 0 + 1) else lookup tm t a := by
  simp only [lookup, incrTA, incr, AMap.find?_set, AMap.get]
  by_cases h : tok = t
  · subst h
    by_cases h2 : acct = a <;> cases tm.find? tok <;> simp [h2, AMap.find?_set]
  · simp [h]

theorem lookup_foldl (acct : Bytes) : ∀ (tokens : List Bytes) (tm : AMap Bytes (AMap Bytes Nat)) (t a : Bytes), tokens.Nodup →
    lookup (tokens.foldl (fun tm tok => incrTA tm acct tok) tm) t a =
      if acct = a ∧ t ∈ tokens then some ((lookup tm t a).getD 0 + 1) else lookup tm t a
  | [], tm, t, a, _ => by simp
  | tok :: rest, tm, t, a, hn => by
    obtain ⟨hnot, hn'⟩ := List.nodup_cons.mp hn
    rw [List.foldl_cons, lookup_foldl acct rest _ t a hn', lookup_incrTA]
    by_cases h2 : tok = t
    · subst h2; simp [hnot]
    · simp [h2, Ne.symm h2]

/-- `Model.update` with an arbitrary enumeration of the token set -/
def Model.updateWith (m : Model) (account : Bytes) (tokens : List Bytes) : Model :=
  { m with
    count := m.count + 1
    countByAccount := incr m.countByAccount account
    countByTokenAndAccount := tokens.foldl (fun tm tok => incrTA tm account tok) m.countByTokenAndAccount }

theorem update_eq (m : Model) (desc : Bytes) (b : BookingV) (account other : Bytes) :
    m.update desc b account other = m.updateWith account (tokenize desc b.commodity b.quantity other) := rfl

/-- one more event: the Go map entry after `++` (`p`: the event counts; `n' = n` then) -/
theorem cnt_step {n n' : Nat} (p : Prop) [Decidable p] (hn : p → n' = n) :
    (if p then some ((cnt n').getD 0 + 1) else cnt n) = cnt (n + if decide p then 1 else 0) := by
  by_cases h : p
  · simp [h, hn h, cnt_getD, cnt_succ]
  · simp [h]

/-- one `update` call appends one event, whatever the order in which its token set is walked -/
theorem Agrees.updateWith {m : Model} {evs : List Event} (h : Agrees m evs) (account : Bytes) (tokens walk : List Bytes)
    (hw : walk.Nodup) (hmem : ∀ t, t ∈ walk ↔ t ∈ tokens) :
    Agrees (m.updateWith account walk) (evs ++ [⟨account, tokens⟩]) := by
  refine ⟨by simp [Model.updateWith, h.count], fun a => ?_, fun t a => ?_⟩
  · simp only [Model.updateWith, incr, AMap.find?_set, AMap.get, h.byAccount, List.countP_append, List.countP_singleton]
    exact cnt_step (account = a) fun e => by rw [e]
  · have hb : lookup m.countByTokenAndAccount t a = _ := h.byTA t a
    have := lookup_foldl account walk m.countByTokenAndAccount t a hw
    simp only [hb, hmem] at this
    rw [show (m.updateWith account walk).lookupTA t a = _ from this, List.countP_append, List.countP_singleton]
    exact cnt_step (account = a ∧ t ∈ tokens) fun _ => rfl

theorem nodup_tokenize (d c q o : Bytes) : (tokenize d c q o).Nodup := nodup_sortU _

theorem Agrees.update {m : Model} {evs : List Event} (h : Agrees m evs) (desc : Bytes) (b : BookingV) (account other : Bytes) :
    Agrees (m.update desc b account other) (evs ++ [⟨account, tokenize desc b.commodity b.quantity other⟩]) := by
  rw [update_eq]
  exact h.updateWith account _ _ (nodup_tokenize ..) (fun _ => Iff.rfl)

theorem update_account (m : Model) (desc : Bytes) (b : BookingV) (account other : Bytes) :
    (m.update desc b account other).account = m.account := rfl

theorem updateBooking_account (desc : Bytes) (m : Model) (b : TBooking) : (Model.updateBooking desc m b).account = m.account := by
  unfold Model.updateBooking; split <;> simp [update_account]

theorem Agrees.updateBooking {m : Model} {evs : List Event} (h : Agrees m evs) (desc : Bytes) (b : TBooking) :
    Agrees (Model.updateBooking desc m b) (evs ++ bookingEvents m.account desc b) := by
  unfold Model.updateBooking bookingEvents
  split
  · have := (h.update desc b.v b.v.credit b.v.debit).update desc b.v b.v.debit b.v.credit
    simpa [List.append_assoc] using this
  · simpa using h

theorem foldl_updateBooking_account (desc : Bytes) (bs : List TBooking) (m : Model) :
    (bs.foldl (Model.updateBooking desc) m).account = m.account :=
  foldl_inv (·.account = m.account) bs m (fun s b _ h => (updateBooking_account desc s b).trans h) rfl

theorem Agrees.foldl_updateBooking (desc : Bytes) : ∀ (bs : List TBooking) {m : Model} {evs : List Event}, Agrees m evs →
    Agrees (bs.foldl (Model.updateBooking desc) m) (evs ++ bs.flatMap (bookingEvents m.account desc))
  | [], m, evs, h => by simpa using h
  | b :: bs, m, evs, h => by
    have := Agrees.foldl_updateBooking desc bs (h.updateBooking desc b)
    rw [updateBooking_account] at this
    simpa [List.flatMap_cons, List.append_assoc] using this

theorem updateTx_account (m : Model) (t : TTx) : (m.updateTx t).account = m.account :=
  foldl_updateBooking_account t.desc t.bookings m

theorem Agrees.updateTx {m : Model} {evs : List Event} (h : Agrees m evs) (t : TTx) :
    Agrees (m.updateTx t) (evs ++ txEvents m.account t) :=
  Agrees.foldl_updateBooking t.desc t.bookings h

theorem foldl_updateTx_account (txs : List TTx) (m : Model) : (txs.foldl Model.updateTx m).account = m.account :=
  foldl_inv (·.account = m.account) txs m (fun s t _ h => (updateTx_account s t).trans h) rfl

theorem Agrees.foldl_updateTx : ∀ (txs : List TTx) {m : Model} {evs : List Event}, Agrees m evs →
    Agrees (txs.foldl Model.updateTx m) (evs ++ events m.account txs)
  | [], m, evs, h => by simpa [events] using h
  | t :: ts, m, evs, h => by
    have := Agrees.foldl_updateTx ts (h.updateTx t)
    rw [updateTx_account] at this
    simpa [events, List.flatMap_cons, List.append_assoc] using this

theorem agrees_new (placeholder : Bytes) : Agrees (newModel placeholder) [] :=
  ⟨rfl, fun _ => by simp [newModel, cnt], fun _ _ => by simp [newModel, Model.lookupTA, cnt]⟩

theorem agrees_train (placeholder : Bytes) (txs : List TTx) : Agrees (train placeholder txs) (events placeholder txs) := by
  have := Agrees.foldl_updateTx txs (agrees_new placeholder)
  simpa [train, newModel] using this

theorem train_account (placeholder : Bytes) (txs : List TTx) : (train placeholder txs).account = placeholder := by
  unfold train; rw [foldl_updateTx_account]; rfl

/-- two models that `inferAccount` cannot tell apart -/
structure Model.Equiv (m₁ m₂ : Model) : Prop where
  count : m₁.count = m₂.count
  byAccount : ∀ a, m₁.countByAccount.find? a = m₂.countByAccount.find? a
  byTA : ∀ t a, m₁.lookupTA t a = m₂.lookupTA t a
  account : m₁.account = m₂.account

theorem Agrees.equiv {m₁ m₂ : Model} {e₁ e₂ : List Event} (h₁ : Agrees m₁ e₁) (h₂ : Agrees m₂ e₂) (hp : e₁.Perm e₂)
    (ha : m₁.account = m₂.account) : m₁.Equiv m₂ :=
  ⟨by rw [h₁.count, h₂.count, hp.length_eq],
   fun a => by rw [h₁.byAccount, h₂.byAccount, hp.countP_eq],
   fun t a => by rw [h₁.byTA, h₂.byTA, hp.countP_eq], ha⟩

theorem events_perm {placeholder : Bytes} {txs₁ txs₂ : List TTx} (h : txs₁.Perm txs₂) :
    (events placeholder txs₁).Perm (events placeholder txs₂) := h.flatMap_right _

theorem train_perm {placeholder : Bytes} {txs₁ txs₂ : List TTx} (h : txs₁.Perm txs₂) :
    (train placeholder txs₁).Equiv (train placeholder txs₂) :=
  (agrees_train placeholder txs₁).equiv (agrees_train placeholder txs₂) (events_perm h)
    (by rw [train_account, train_account])

theorem Model.Equiv.sortedKeys {m₁ m₂ : Model} (h : m₁.Equiv m₂) :
    sortU m₁.countByAccount.keys = sortU m₂.countByAccount.keys :=
  sortU_congr fun a => by rw [AMap.mem_keys_iff, AMap.mem_keys_iff, h.byAccount]

theorem Model.Equiv.scoreCandidate {S : Type} (sc : Scorer S) {m₁ m₂ : Model} (h : m₁.Equiv m₂) (c : Bytes) (tokens : List Bytes) :
    m₁.scoreCandidate sc c tokens = m₂.scoreCandidate sc c tokens := by
  simp only [Model.scoreCandidate, h.count, AMap.get, h.byAccount, h.byTA]

theorem Model.Equiv.inferAccount {S : Type} (sc : Scorer S) {m₁ m₂ : Model} (h : m₁.Equiv m₂) (desc : Bytes) (b : BookingV) (other : Bytes) :
    m₁.inferAccount sc desc b other = m₂.inferAccount sc desc b other := by
  have hs : inferStep sc m₁ = inferStep sc m₂ := by
    funext tokens other st c
    simp only [inferStep, h.scoreCandidate]
  simp only [Model.inferAccount, h.sortedKeys, hs]

theorem Model.Equiv.inferBooking {S : Type} (sc : Scorer S) {m₁ m₂ : Model} (h : m₁.Equiv m₂) (desc : Bytes) (b : BookingV) :
    m₁.inferBooking sc desc b = m₂.inferBooking sc desc b := by
  simp only [Model.inferBooking, h.inferAccount, h.account]

theorem Model.Equiv.inferDir {S : Type} (sc : Scorer S) {m₁ m₂ : Model} (h : m₁.Equiv m₂) : m₁.inferDir sc = m₂.inferDir sc := by
  funext d
  cases d <;> simp [Model.inferDir, h.inferBooking]

theorem filter_flatMap {α β : Type} (p : α → Bool) (f : α → List β) : ∀ l : List α,
    (l.filter p).flatMap f = l.flatMap fun x => if p x then f x else []
  | [] => rfl
  | x :: xs => by
    by_cases h : p x <;> simp [h, List.flatMap_cons, filter_flatMap p f xs]

theorem events_accounts (placeholder : Bytes) (txs : List TTx) :
    (events placeholder txs).map (·.account) = trainingAccounts placeholder txs := by
  unfold events trainingAccounts
  rw [List.map_flatMap]
  congr 1
  funext t
  unfold txEvents
  rw [List.map_flatMap, filter_flatMap]
  congr 1
  funext b
  unfold bookingEvents
  split <;> simp

theorem cnt_isSome (n : Nat) : (cnt n).isSome = true ↔ 0 < n := by
  unfold cnt
  by_cases h : n = 0
  · simp [h]
  · simp [h]; omega

theorem mem_keys_train (placeholder : Bytes) (txs : List TTx) (a : Bytes) :
    a ∈ (train placeholder txs).countByAccount.keys ↔ a ∈ trainingAccounts placeholder txs := by
  rw [AMap.mem_keys_iff, (agrees_train placeholder txs).byAccount, cnt_isSome, List.countP_pos_iff, ← events_accounts]
  simp only [List.mem_map, decide_eq_true_eq]

theorem trainingAccounts_spec {placeholder : Bytes} {txs : List TTx} {a : Bytes} (h : a ∈ trainingAccounts placeholder txs) :
    ∃ t ∈ txs, ∃ b ∈ t.bookings, (a = b.v.credit ∨ a = b.v.debit) ∧ b.creditMacro = false ∧ b.debitMacro = false ∧
      b.v.credit ≠ placeholder ∧ b.v.debit ≠ placeholder ∧ a ≠ [] ∧ a ≠ placeholder := by
  simp only [trainingAccounts, List.mem_flatMap, List.mem_filter] at h
  obtain ⟨t, ht, b, ⟨hb, he⟩, ha⟩ := h
  simp only [eligible, Bool.and_eq_true, Bool.not_eq_true', Bool.or_eq_false_iff, beq_eq_false_iff_ne] at he
  obtain ⟨⟨⟨h1, h2⟩, h3, h4⟩, h5, h6⟩ := he
  refine ⟨t, ht, b, hb, ?_, h1, h2, h5, h6, ?_, ?_⟩
  · simpa using ha
  · rcases List.mem_cons.mp ha with e | e
    · rw [e]; exact h3
    · simp at e; rw [e]; exact h4
  · rcases List.mem_cons.mp ha with e | e
    · rw [e]; exact h5
    · simp at e; rw [e]; exact h6

theorem train_no_empty_key (placeholder : Bytes) (txs : List TTx) : [] ∉ (train placeholder txs).countByAccount.keys := by
  intro h
  obtain ⟨_, _, _, _, _, _, _, _, _, h1, _⟩ := trainingAccounts_spec ((mem_keys_train _ _ _).mp h)
  exact h1 rfl

end Knut.Infer
