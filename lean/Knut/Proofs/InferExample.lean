import Knut.Proofs.InferReparse
import Knut.Proofs.SyntaxExamples
/-!
# A worked run of `knut infer` on a concrete text (for the non-vacuity example of `Properties/C15Parse.lean`)

The parser loops are defined by well-founded recursion, which the kernel does not unfold; instead of evaluating the
parser, the text is given as the rendering of a hand-written run (`Ex.items`), for which the print-then-parse lemmas say
how it parses (`parse_rendered`), and training and inference are computed on the views (`fileTxs_of_views`).
-/
namespace Knut.Infer
open Knut Knut.Syntax Knut.Spec.Syntax Knut.Spec.Infer Knut.Utf8

theorem parse_rendered (padding : Nat) (path : String) (items : List Item) (hR : ItemsR items) :
    ∃ f, parseText path (flat (outToks padding items)) = .ok f ∧
      f.directives.mapM (viewDirective (flat (outToks padding items))) = some ((viewsOf items).map DirT.bytes) ∧
      gapsOf (flat (outToks padding items)) 0 (f.directives.map (·.range)) = gapBytes [] items :=
  let ⟨f, hp, hv, hg, _⟩ := rendered_parses padding path items hR; ⟨f, hp, hv, hg⟩

theorem trainingTxs_single {path : String} {text : Bytes} {f : File} {vs : List DirV} (hp : parseText path text = .ok f)
    (hv : f.directives.mapM (viewDirective text) = some vs) : trainingTxs [(path, text)] = some (txsOfViews vs) := by
  simp [trainingTxs, hp, Except.toOption, fileTxs_of_views hp hv]

/-! ### the example: one transaction, a learnable booking `B F 1 C` and a booking `B T 1 C` with the placeholder `T` -/

namespace Ex

def date : List Tok := lits "2020-01-02"
def bk (debit : String) : BookingT := ⟨lits "B", lits debit, lits "1", lits "C"⟩
def trx (debit : String) : DirT := .transaction none none date (lits "m") [bk "F", bk debit]
/-- the run: the transaction (which ends with the line break of its last booking), then the end of the text -/
def items (debit : String) : List Item := [.dir [] default (trx debit) [] []]
/-- the text: the run rendered with the width of its accounts -/
def text (debit : String) : Bytes := flat (outToks 1 (items debit))

theorem text_eq (debit : String) : text debit = flat (renderT 1 (trx debit)) := by
  simp only [text, items, outToks, Item.out, List.append_nil]

theorem text_T : text "T" = bytesOf "2020-01-02 \"m\"\nB F          1 C\nB T          1 C\n" := by
  refine Eq.trans ?_ (bytesOf_ofList _).symm
  decide +kernel
theorem text_F : text "F" = bytesOf "2020-01-02 \"m\"\nB F          1 C\nB F          1 C\n" := by
  refine Eq.trans ?_ (bytesOf_ofList _).symm
  decide +kernel

theorem all_lits (p : Nat → Bool) (s : String) (h : ∀ c ∈ s.toList, p c.toNat = true) : All p (lits s) := by
  intro t ht
  simp only [lits, List.mem_map] at ht
  obtain ⟨c, hc, rfl⟩ := ht
  exact h c hc

theorem accountOK1 (s : String) (hne : lits s ≠ []) (h : ∀ c ∈ s.toList, c.toNat < 128)
    (ha : ∀ c ∈ s.toList, isAlphanumeric c.toNat = true) : AccountOK (lits s) :=
  ⟨⟨false, by
    simp only [IsAccount, Bool.false_eq_true, if_false]
    exact ⟨lits s, [], by simp, hne, all_lits _ s ha, SegTail.nil⟩⟩, valid_lits s h⟩

theorem date_ok : DateOK date := by
  refine ⟨⟨tk 50, tk 48, tk 50, tk 48, tk 45, tk 48, tk 49, tk 45, tk 48, tk 50, by decide +kernel, ?_⟩, valid_lits _ (by decide +kernel)⟩
  decide +kernel

theorem decimal_1 : DecimalOK (lits "1") :=
  ⟨⟨[], lits "1", [], by simp, Or.inl rfl, by decide +kernel, all_lits _ "1" (by decide +kernel), Or.inl rfl⟩,
    valid_lits _ (by decide +kernel)⟩
theorem commodity_C : CommodityOK (lits "C") :=
  ⟨⟨by decide, all_lits _ "C" (by decide +kernel)⟩, valid_lits _ (by decide +kernel)⟩

theorem bk_ok (debit : String) (hd : AccountOK (lits debit)) : (bk debit).ok :=
  ⟨accountOK1 "B" (by decide +kernel) (by decide +kernel) (by decide +kernel), hd, decimal_1, commodity_C⟩

theorem bk_canon (debit : String) (hd : ∀ c ∈ debit.toList, c.toNat < 128) : (bk debit).canon :=
  ⟨canon_lits _ (by decide +kernel), canon_lits _ hd, canon_lits _ (by decide +kernel), canon_lits _ (by decide +kernel)⟩

theorem okF : AccountOK (lits "F") := accountOK1 "F" (by decide +kernel) (by decide +kernel) (by decide +kernel)
theorem okT : AccountOK (lits "T") := accountOK1 "T" (by decide +kernel) (by decide +kernel) (by decide +kernel)

theorem trx_ok (debit : String) (hd : AccountOK (lits debit)) : (trx debit).ok := by
  refine ⟨(fun a h => by cases h), (fun ts h => by cases h), date_ok,
    ⟨all_lits _ "m" (by decide +kernel), valid_lits _ (by decide +kernel)⟩, (by simp), ?_⟩
  intro b hb
  simp only [List.mem_cons, List.not_mem_nil, or_false] at hb
  rcases hb with rfl | rfl
  · exact bk_ok "F" okF
  · exact bk_ok debit hd

theorem trx_canon (debit : String) (hd : ∀ c ∈ debit.toList, c.toNat < 128) : (trx debit).canon := by
  refine ⟨(fun a h => by cases h), (fun ts h => by cases h), canon_lits _ (by decide +kernel), canon_lits _ (by decide +kernel), ?_⟩
  intro b hb
  simp only [List.mem_cons, List.not_mem_nil, or_false] at hb
  rcases hb with rfl | rfl
  · exact bk_canon "F" (by decide +kernel)
  · exact bk_canon debit hd

theorem itemsR (debit : String) (hd : AccountOK (lits debit)) (hc : ∀ c ∈ debit.toList, c.toNat < 128) :
    ItemsR (items debit) := by
  unfold items ItemsR
  exact ⟨trx_ok debit hd, trx_canon debit hc, All.nil, Or.inl rfl, Valid.nil, Canon.nil, (fun _ => rfl), trivial⟩

def ph : Bytes := bytesOf "T"

def txs : List TTx := txsOfViews [(trx "T").bytes]

theorem training_T : ∀ a, a ∈ trainingAccounts ph txs ↔ a = flat (lits "B") ∨ a = flat (lits "F") := by
  have : trainingAccounts ph txs = [flat (lits "B"), flat (lits "F")] := by decide +kernel
  intro a
  rw [this]
  simp

theorem inferDir_trx {S : Type} (sc : Scorer S) : (train ph txs).inferDir sc (trx "T").bytes = (trx "F").bytes := by
  have b1 := inferBooking_no_placeholder sc (train ph txs) (train_no_empty_key ph txs) (flat (lits "m")) (bk "F").bytes
    (by rw [train_account]; decide) (by rw [train_account]; decide)
  have b2 : (train ph txs).inferBooking sc (flat (lits "m")) (bk "T").bytes = (bk "F").bytes :=
    inferBooking_debit_two sc training_T (by decide) (by decide) (flat (lits "m")) (flat (lits "1")) (flat (lits "C"))
  simp only [trx, DirT.bytes, Model.inferDir, List.map_cons, List.map_nil, b1, b2]

/-- **the command on the example**: with the text as its own training file and `T` as placeholder, `knut infer` writes the
text with the placeholder replaced by `F` (the only learnable account other than `B`), for every score function -/
theorem infer_example {S : Type} (sc : Scorer S) :
    inferCmd sc ph [("j.knut", text "T")] "j.knut" (text "T") = .written (text "F") := by
  obtain ⟨f, hp, hv, hg⟩ := parse_rendered 1 "j.knut" (items "T") (itemsR "T" okT (by decide))
  change parseText "j.knut" (text "T") = .ok f at hp
  change f.directives.mapM (viewDirective (text "T")) = some [(trx "T").bytes] at hv
  change gapsOf (text "T") 0 (f.directives.map (·.range)) = [[], []] at hg
  have htrain : trainingTxs [("j.knut", text "T")] = some txs := trainingTxs_single hp hv
  -- `infer` writes something, because the formatter does
  have hsome : (inferFormat sc (train ph txs) (text "T") f).isSome = true := by
    unfold inferFormat
    rw [formatWith_isSome]
    obtain ⟨_, _, h1, _⟩ := roundtrip hp
    rw [h1]; rfl
  obtain ⟨out, hout⟩ := Option.isSome_iff_exists.mp hsome
  rw [inferCmd_of sc htrain hp hout]
  -- and what it writes is the rendering of the edited transaction between the gaps of the text
  obtain ⟨vs, hvs, hshape⟩ := formatWith_shape hout
  obtain rfl : [(trx "T").bytes] = vs := Option.some.inj (hv.symm.trans hvs)
  have hpad : paddingOf [(trx "F").bytes] = 1 := by
    have r : runeCount (flat (lits "B")) = 1 := runeCount_flat (canon_lits _ (by decide))
    have r' : runeCount (flat (lits "F")) = 1 := runeCount_flat (canon_lits _ (by decide))
    simp only [paddingOf, paddingV, trx, bk, DirT.bytes, BookingT.bytes, List.map_cons, List.map_nil, List.foldl_cons,
      List.foldl_nil, r, r']
    rfl
  rw [hshape, hg, List.map_cons, List.map_nil, inferDir_trx, List.map_cons, List.map_nil, hpad,
    ← flat_renderT 1 (trx "F") (trx_canon "F" (by decide))]
  rw [text_eq]
  show Outcome.written ([] ++ flat (renderT 1 (trx "F")) ++ []) = _
  rw [List.nil_append, List.append_nil]

end Ex

end Knut.Infer
