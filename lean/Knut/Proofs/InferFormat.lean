import Knut.Spec.InferSpec
import Knut.Proofs.SyntaxFormat
import Knut.Proofs.SyntaxViews
import Knut.Proofs.ListMapM
/-!
# `infer`'s output is the formatter's output on edited fields (helper lemmas for C15)

`formatWith edit` is `Syntax.format` with the extracted fields passed through `edit` before the padding is computed
and the directives are rendered.
-/
namespace Knut.Infer
open Knut Knut.Syntax Knut.Spec.Syntax

/-- the loop of `Printer.Format` is the loop on extracted fields -/
theorem formatLoop_eq (text : Bytes) (padding : Nat) : ∀ (ds : List Directive) (vs : List DirV) (pos : Nat),
    ds.mapM (viewDirective text) = some vs → formatLoop text padding pos ds = formatLoopV text padding pos (ds.zip vs) := by
  intro ds vs pos h
  replace h := mapM_eq_some_iff.mp h
  induction h generalizing pos with
  | nil => rfl
  | @cons d _ _ _ h1 _ ih =>
    simp only [formatLoop, List.zip_cons_cons, formatLoopV, printDirective, h1, Option.map_some]
    rw [ih d.range.stop]
    cases sliceChecked text pos d.range.start <;> rfl

theorem formatWith_id (text : Bytes) (f : File) : formatWith id text f = format text f := by
  unfold formatWith format initPadding
  cases h : f.directives.mapM (viewDirective text) with
  | none => rfl
  | some vs =>
    simp only [Option.bind_eq_bind, Option.bind_some, Option.map_some, List.map_id]
    rw [formatLoop_eq text _ f.directives vs 0 h]
    rfl

theorem formatLoopV_cons_isSome (text : Bytes) (p pos : Nat) (d : Directive) (v : DirV) (rest : List (Directive × DirV)) :
    (formatLoopV text p pos ((d, v) :: rest)).isSome =
      ((sliceChecked text pos d.range.start).isSome && (formatLoopV text p d.range.stop rest).isSome) := by
  rw [formatLoopV]
  cases sliceChecked text pos d.range.start <;> cases formatLoopV text p d.range.stop rest <;> rfl

theorem formatLoopV_isSome (text : Bytes) (p q : Nat) : ∀ (ds : List Directive) (vs ws : List DirV) (pos : Nat),
    vs.length = ds.length → ws.length = ds.length →
    (formatLoopV text p pos (ds.zip vs)).isSome = (formatLoopV text q pos (ds.zip ws)).isSome
  | [], _, _, _, _, _ => by simp [formatLoopV]
  | d :: ds, [], _, _, h, _ => by simp at h
  | d :: ds, _ :: _, [], _, _, h => by simp at h
  | d :: ds, v :: vs, w :: ws, pos, h1, h2 => by
    simp only [List.zip_cons_cons, formatLoopV_cons_isSome]
    rw [formatLoopV_isSome text p q ds vs ws d.range.stop (by simpa using h1) (by simpa using h2)]

/-- **`infer` reaches a slice-bounds panic exactly when the formatter does on the untouched tree** -/
theorem formatWith_isSome (edit : DirV → DirV) (text : Bytes) (f : File) :
    (formatWith edit text f).isSome = (format text f).isSome := by
  rw [← formatWith_id]
  unfold formatWith
  cases h : f.directives.mapM (viewDirective text) with
  -- not `rfl`: the kernel would compare the two loops under the binder before it looks at `none`
  | none => simp only [Option.bind_eq_bind, Option.bind_none]
  | some vs =>
    simp only [Option.bind_eq_bind, Option.bind_some]
    have hl := mapM_some_length h
    exact formatLoopV_isSome text _ _ f.directives _ _ 0 (by simp [hl]) (by simp [hl])

theorem formatLoopV_shape (text : Bytes) (padding : Nat) : ∀ (ds : List Directive) (ws : List DirV) (pos : Nat) (out : Bytes),
    ws.length = ds.length → formatLoopV text padding pos (ds.zip ws) = some out →
    out = interleave (gapsOf text pos (ds.map (·.range))) (ws.map (renderDir padding))
  | [], ws, pos, out, hl, h => by
    simp only [List.zip_nil_left, formatLoopV] at h
    have := (sliceChecked_eq h).1
    cases ws with
    | nil => simp [gapsOf, interleave, this]
    | cons _ _ => simp at hl
  | d :: ds, [], _, _, hl, _ => by simp at hl
  | d :: ds, w :: ws, pos, out, hl, h => by
    simp only [List.zip_cons_cons, formatLoopV, Option.bind_eq_bind, Option.bind_eq_some_iff, Option.pure_def,
      Option.some.injEq] at h
    obtain ⟨gap, hg, tail, ht, hout⟩ := h
    have := formatLoopV_shape text padding ds ws d.range.stop tail (by simpa using hl) ht
    rw [← hout, this, (sliceChecked_eq hg).1]
    simp [gapsOf, interleave]

/-- **gaps verbatim**: the text between the directives is copied from the input; the padding is that of the EDITED fields -/
theorem formatWith_shape {edit : DirV → DirV} {text : Bytes} {f : File} {out : Bytes} (h : formatWith edit text f = some out) :
    ∃ vs, f.directives.mapM (viewDirective text) = some vs ∧
      out = interleave (gapsOf text 0 (f.directives.map (·.range))) ((vs.map edit).map (renderDir (paddingOf (vs.map edit)))) := by
  unfold formatWith at h
  cases hv : f.directives.mapM (viewDirective text) with
  | none => simp [hv] at h
  | some vs =>
    simp only [hv, Option.bind_eq_bind, Option.bind_some] at h
    exact ⟨vs, rfl, formatLoopV_shape text _ f.directives _ 0 out (by simp [mapM_some_length hv]) h⟩

theorem formatWith_congr {e₁ e₂ : DirV → DirV} (h : e₁ = e₂) (text : Bytes) (f : File) :
    formatWith e₁ text f = formatWith e₂ text f := by rw [h]

theorem fileTxs_mem {text : Bytes} {f : File} {txs : List TTx} (h : fileTxs text f = some txs) {t : TTx} (ht : t ∈ txs)
    {tb : TBooking} (htb : tb ∈ t.bookings) :
    ∃ d ∈ f.directives, ∃ tr, d.body = .transaction tr ∧ ∃ bk ∈ tr.bookings,
      bk.credit.range.extract text = some tb.v.credit ∧ bk.debit.range.extract text = some tb.v.debit ∧
      tb.creditMacro = bk.credit.isMacro ∧ tb.debitMacro = bk.debit.isMacro := by
  unfold fileTxs at h
  obtain ⟨tr, htr, hv⟩ := mapM_some_mem h t ht
  obtain ⟨d, hd, hdb⟩ := List.mem_filterMap.mp htr
  have hbody : d.body = .transaction tr := by
    cases hb : d.body <;> simp [hb] at hdb
    exact congrArg _ hdb
  simp only [viewT, Option.bind_eq_bind, Option.bind_eq_some_iff, Option.pure_def, Option.some.injEq] at hv
  obtain ⟨desc, _, bs, hbs, rfl⟩ := hv
  obtain ⟨bk, hbk, hvb⟩ := mapM_some_mem hbs tb htb
  simp only [Option.map_eq_some_iff] at hvb
  obtain ⟨v, hv1, rfl⟩ := hvb
  obtain ⟨e1, e2, _⟩ := viewBooking_eq_some_iff.mp hv1
  exact ⟨d, hd, tr, hbody, bk, hbk, e1, e2, rfl, rfl⟩

theorem mapM_perm {α β : Type} (f : α → Option β) {l₁ l₂ : List α} (h : l₁.Perm l₂) :
    (l₁.mapM f = none ∧ l₂.mapM f = none) ∨ ∃ r₁ r₂, l₁.mapM f = some r₁ ∧ l₂.mapM f = some r₂ ∧ r₁.Perm r₂ := by
  cases h₁ : l₁.mapM f with
  | none =>
    obtain ⟨x, hx, hfx⟩ := (mapM_eq_none_iff (f := f) (l := l₁)).mp h₁
    exact Or.inl ⟨rfl, (mapM_eq_none_iff (f := f) (l := l₂)).mpr ⟨x, h.mem_iff.mp hx, hfx⟩⟩
  | some r₁ =>
    cases h₂ : l₂.mapM f with
    | none =>
      obtain ⟨x, hx, hfx⟩ := (mapM_eq_none_iff (f := f) (l := l₂)).mp h₂
      rw [(mapM_eq_none_iff (f := f) (l := l₁)).mpr ⟨x, h.mem_iff.mpr hx, hfx⟩] at h₁
      cases h₁
    | some r₂ =>
      refine Or.inr ⟨r₁, r₂, rfl, rfl, ?_⟩
      rw [mapM_eq_filterMap h₁, mapM_eq_filterMap h₂]
      exact h.filterMap f
