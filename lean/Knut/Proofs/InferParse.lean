import Knut.Proofs.SyntaxRoundTrip
import Knut.Proofs.InferFormat
/-!
# Print-then-parse for a formatter that edits the extracted fields (C15: the output of `infer` parses)

`Proofs/SyntaxRoundTrip.lean` replays the parser's main loop on the rendering of the run it made on the input. Here
the same replay is done for a run whose directive views were *replaced* by other well-formed, canonical views
(`Item.mapView`): nothing in the replay depends on where a view came from (`ItemsR` is `ItemsOK` without the two
conditions that tie an item to the original text). `formatWith_roundtrip` assembles it for `formatWith edit`, for
every `edit` that maps well-formed fields to well-formed fields (`DirVOK`); with `edit = id` it is `roundtrip`.
-/
namespace Knut.Syntax
open Knut.Utf8 Knut.Spec.Syntax

def Item.mapView (g : DirT → DirT) : Item → Item
  | .gap c w nl => .gap c w nl
  | .dir D d v w nl => .dir D d (g v) w nl

theorem viewsOf_mapView (g : DirT → DirT) : ∀ items : List Item, viewsOf (items.map (Item.mapView g)) = (viewsOf items).map g
  | [] => rfl
  | .gap .. :: rest => viewsOf_mapView g rest
  | .dir .. :: rest => congrArg (_ :: ·) (viewsOf_mapView g rest)

theorem gapBytes_mapView (g : DirT → DirT) : ∀ (items : List Item) (pre : List UInt8),
    gapBytes pre (items.map (Item.mapView g)) = gapBytes pre items
  | [], _ => rfl
  | .gap .. :: rest, _ => gapBytes_mapView g rest _
  | .dir .. :: rest, _ => congrArg (_ :: ·) (gapBytes_mapView g rest _)

theorem ItemsR.mapView {g : DirT → DirT} : ∀ {items : List Item}, ItemsR items → (∀ v ∈ viewsOf items, (g v).ok ∧ (g v).canon) →
    ItemsR (items.map (Item.mapView g))
  | [], _, _ => trivial
  | .gap c w nl :: rest, h, hv => by
    unfold ItemsR at h
    obtain ⟨h1, h2, h3, h4, h5, h6, h7, h8, h9⟩ := h
    exact ⟨h1, h2, h3, h4, h5, h6, h7, fun e => by rw [h8 e]; rfl, h9.mapView hv⟩
  | .dir D d v w nl :: rest, h, hv => by
    unfold ItemsR at h
    obtain ⟨_, _, pw, onl, vr, cr, hlast, hrest⟩ := h
    exact ⟨(hv v List.mem_cons_self).1, (hv v List.mem_cons_self).2, pw, onl, vr, cr, fun e => by rw [hlast e]; rfl,
      hrest.mapView fun x hx => hv x (List.mem_cons_of_mem _ hx)⟩

theorem out_interleave (p : Nat) : ∀ (items : List Item) (pre : List UInt8), (∀ v ∈ viewsOf items, v.canon) →
    pre ++ flat (outToks p items) =
      interleave (gapBytes pre items) ((viewsOf items).map fun v => renderDir p v.bytes)
  | [], pre, _ => by simp [outToks, gapBytes, viewsOf, interleave]
  | .gap c w nl :: rest, pre, h => by
    have ih := out_interleave p rest (pre ++ flat (c ++ (w ++ nl))) (by simpa [viewsOf] using h)
    simp only [outToks, Item.out, gapBytes, viewsOf, flat_append] at ih ⊢
    rw [← ih]
    simp
  | .dir D d v w nl :: rest, pre, h => by
    have ih := out_interleave p rest (flat (w ++ nl)) (fun x hx => h x (by simp [viewsOf, hx]))
    have hv := flat_renderT p v (h v (by simp [viewsOf]))
    simp only [outToks, Item.out, gapBytes, viewsOf, flat_append, List.map_cons, interleave] at ih ⊢
    rw [← ih, hv]
    simp

/-- the extracted fields `w` are the bytes of well-formed, canonical token lists: what the parser hands to the
formatter, and what the formatter can print so that the parser reads the same fields again -/
def DirVOK (w : DirV) : Prop := ∃ vT : DirT, vT.ok ∧ vT.canon ∧ vT.bytes = w

open Classical in
/-- an edit of extracted fields that keeps them well-formed, lifted to token views (any well-formed token list with those bytes) -/
noncomputable def liftEdit (edit : DirV → DirV) (v : DirT) : DirT :=
  if h : DirVOK (edit v.bytes) then Classical.choose h else v

theorem liftEdit_spec {edit : DirV → DirV} {v : DirT} (h : DirVOK (edit v.bytes)) :
    (liftEdit edit v).ok ∧ (liftEdit edit v).canon ∧ (liftEdit edit v).bytes = edit v.bytes := by
  unfold liftEdit; rw [dif_pos h]; exact Classical.choose_spec h

theorem parsed_views_ok {path : String} {text : Bytes} {f : File} (h : parseText path text = .ok f) :
    ∃ vs, f.directives.mapM (viewDirective text) = some vs ∧ ∀ w ∈ vs, DirVOK w := by
  obtain ⟨items, _, i2, i3⟩ := parse_items h
  refine ⟨(viewsOf items).map DirT.bytes, by rw [i2]; exact items_views i3, ?_⟩
  intro w hw
  obtain ⟨v, hv, rfl⟩ := List.mem_map.mp hw
  exact ⟨v, (viewsOf_ok i3 v hv).1, (viewsOf_ok i3 v hv).2, rfl⟩

end Knut.Syntax

namespace Knut.Infer
open Knut Knut.Syntax Knut.Spec.Syntax Knut.Utf8

theorem paddingOf_eq_padOf (vs : List DirV) : paddingOf vs = padOf vs := rfl

/-- **print-then-parse for an editing formatter**: if `edit` maps well-formed fields to well-formed fields, then for
every text that parses `formatWith edit` succeeds, its output parses, the fields of the directives of the output are
exactly the edited fields of the input, the text between the directives is the input's, gap by gap, and the output
is a fixed point of `format`. -/
theorem formatWith_roundtrip {edit : DirV → DirV} (hedit : ∀ w, DirVOK w → DirVOK (edit w))
    {path : String} {text : Bytes} {f : File} (h : parseText path text = .ok f) :
    ∃ out f2 vs, formatWith edit text f = some out ∧ f.directives.mapM (viewDirective text) = some vs ∧
      (∀ w ∈ vs, DirVOK w) ∧
      parseText path out = .ok f2 ∧
      f2.directives.mapM (viewDirective out) = some (vs.map edit) ∧
      gapsOf out 0 (f2.directives.map (·.range)) = gapsOf text 0 (f.directives.map (·.range)) ∧
      format out f2 = some out := by
  obtain ⟨items, i1, i2, i3⟩ := parse_items h
  have hvs : f.directives.mapM (viewDirective text) = some ((viewsOf items).map DirT.bytes) := by
    rw [i2]; exact items_views i3
  have hvok : ∀ w ∈ (viewsOf items).map DirT.bytes, DirVOK w := by
    intro w hw
    obtain ⟨v, hv, rfl⟩ := List.mem_map.mp hw
    exact ⟨v, (viewsOf_ok i3 v hv).1, (viewsOf_ok i3 v hv).2, rfl⟩
  have hg : ∀ v ∈ viewsOf items, _ := fun v hv => liftEdit_spec (hedit _ (hvok _ (List.mem_map_of_mem hv)))
  let items' := items.map (Item.mapView (liftEdit edit))
  have hR : ItemsR items' := i3.toR.mapView fun v hv => ⟨(hg v hv).1, (hg v hv).2.1⟩
  have hviews' : (viewsOf items').map DirT.bytes = ((viewsOf items).map DirT.bytes).map edit := by
    rw [viewsOf_mapView, List.map_map, List.map_map]
    exact List.map_congr_left fun v hv => (hg v hv).2.2
  let padding := paddingOf (((viewsOf items).map DirT.bytes).map edit)
  have hsome : (formatWith edit text f).isSome = true := by
    rw [formatWith_isSome]
    obtain ⟨out0, _, hf0, _⟩ := roundtrip h
    rw [hf0]; rfl
  obtain ⟨out, hout⟩ := Option.isSome_iff_exists.mp hsome
  obtain ⟨vs0, hv0, hshape⟩ := formatWith_shape hout
  rw [hvs] at hv0
  injection hv0 with hv0
  subst hv0
  have hG0 : Good text ⟨0, origToks items⟩ := by rw [← i1]; exact good_start text
  obtain ⟨_, hgaps⟩ := items_format (padding := padding) hG0 i3 0 (Nat.le_refl _)
  simp only [slice_self] at hgaps
  have hout_eq : out = flat (outToks padding items') := by
    have hi := out_interleave padding items' [] (by
      rw [viewsOf_mapView]; intro v hv; obtain ⟨x, hx, rfl⟩ := List.mem_map.mp hv; exact (hg x hx).2.1)
    simp only [List.nil_append] at hi
    have e : List.map (fun v => renderDir padding v.bytes) (viewsOf items') =
        ((viewsOf items').map DirT.bytes).map (renderDir padding) := by rw [List.map_map]; rfl
    rw [hi, hshape, i2, hgaps, gapBytes_mapView, e, hviews']
  obtain ⟨f2, hparse2, hv2, hg2, hf2⟩ := rendered_parses padding path items' hR
  refine ⟨out, f2, (viewsOf items).map DirT.bytes, hout, hvs, hvok, by rw [hout_eq]; exact hparse2, ?_, ?_, ?_⟩
  · rw [hout_eq, hv2, hviews']
  · rw [hout_eq, hg2, i2, gapBytes_mapView, hgaps]
  · rw [hout_eq]
    exact hf2 (by rw [hviews']; rfl)

end Knut.Infer
