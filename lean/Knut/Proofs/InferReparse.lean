import Knut.Proofs.InferParse
import Knut.Proofs.InferViews
import Knut.Proofs.InferStruct
/-!
# `infer` maps well-formed fields to well-formed fields, and is idempotent (helper lemmas for C15)

`AccB a`: the bytes `a` are the bytes of a well-formed, canonical account token list. Every account text the parser
hands out is one (`fileTxs_accB`), hence every key of a model trained on parsed files (`trained_keys_accB`), hence
every account `Infer` writes: `inferDir` preserves `DirVOK` (`inferDir_ok`), which is what `formatWith_roundtrip`
asks of an edit.
-/
namespace Knut.Infer
open Knut Knut.Syntax Knut.Spec.Syntax Knut.Spec.Infer Knut.Utf8

variable {S : Type} (sc : Scorer S) (m : Model)

/-- the bytes of a well-formed, canonical account token list: an account text the parser accepts and the formatter reprints -/
def AccB (a : Bytes) : Prop := ∃ c, AccountOK c ∧ Canon c ∧ flat c = a

/-- `DirVOK` for the four fields of one booking -/
def BookingVOK (b : BookingV) : Prop := ∃ bT : BookingT, bT.ok ∧ bT.canon ∧ bT.bytes = b

theorem inferBooking_ok (hne : [] ∉ m.countByAccount.keys) (hk : ∀ a ∈ m.countByAccount.keys, AccB a) (desc : Bytes)
    (b : BookingV) (hb : BookingVOK b) : BookingVOK (m.inferBooking sc desc b) := by
  obtain ⟨bT, ⟨o1, o2, o3, o4⟩, ⟨c1, c2, c3, c4⟩, rfl⟩ := hb
  have spec := inferBooking_spec sc m desc bT.bytes hne
  have hcr : AccB (m.inferBooking sc desc bT.bytes).credit := by
    rcases spec.credit_cases with e | ⟨_, e, _⟩
    · rw [e]; exact ⟨bT.credit, o1, c1, rfl⟩
    · exact hk _ e
  have hdb : AccB (m.inferBooking sc desc bT.bytes).debit := by
    rcases spec.debit_cases with e | ⟨_, e, _⟩
    · rw [e]; exact ⟨bT.debit, o2, c2, rfl⟩
    · exact hk _ e
  obtain ⟨x, xo, xc, xe⟩ := hcr
  obtain ⟨y, yo, yc, ye⟩ := hdb
  exact ⟨⟨x, y, bT.quantity, bT.commodity⟩, ⟨xo, yo, o3, o4⟩, ⟨xc, yc, c3, c4⟩,
    BookingV.ext_fields xe ye spec.quantity.symm spec.commodity.symm⟩

theorem exists_map_eq {α β : Type} (P : α → Prop) (g : α → β) : ∀ l : List β, (∀ y ∈ l, ∃ x, P x ∧ g x = y) →
    ∃ xs : List α, xs.map g = l ∧ ∀ x ∈ xs, P x
  | [], _ => ⟨[], rfl, fun _ h => nomatch h⟩
  | y :: ys, h => by
    obtain ⟨x, px, e⟩ := h y List.mem_cons_self
    obtain ⟨xs, es, pxs⟩ := exists_map_eq P g ys fun z hz => h z (List.mem_cons_of_mem _ hz)
    exact ⟨x :: xs, by rw [List.map_cons, e, es], List.forall_mem_cons.mpr ⟨px, pxs⟩⟩

/-- **`Infer` maps well-formed fields to well-formed fields** when every key of the model is an account text -/
theorem inferDir_ok (hne : [] ∉ m.countByAccount.keys) (hk : ∀ a ∈ m.countByAccount.keys, AccB a) (w : DirV)
    (hw : DirVOK w) : DirVOK (m.inferDir sc w) := by
  obtain ⟨vT, hok, hcan, rfl⟩ := hw
  cases vT with
  | transaction aT pT d desc bs =>
    obtain ⟨k1, k2, k3, k4, k5, k6⟩ := hok
    obtain ⟨n1, n2, n3, n4, n5⟩ := hcan
    obtain ⟨bs', e, oc⟩ := exists_map_eq (fun b : BookingT => b.ok ∧ b.canon) BookingT.bytes
      ((bs.map BookingT.bytes).map (m.inferBooking sc (flat desc))) fun y hy => by
        obtain ⟨v, hv, rfl⟩ := List.mem_map.mp hy
        obtain ⟨b, hb, rfl⟩ := List.mem_map.mp hv
        obtain ⟨b', o', c', e'⟩ := inferBooking_ok sc m hne hk (flat desc) b.bytes ⟨b, k6 b hb, n5 b hb, rfl⟩
        exact ⟨b', ⟨o', c'⟩, e'⟩
    have hne' : bs' ≠ [] := by
      intro e0
      rw [e0] at e
      have := congrArg List.length e
      simp only [List.map_nil, List.length_nil, List.length_map] at this
      exact k5 (List.eq_nil_of_length_eq_zero this.symm)
    exact ⟨.transaction aT pT d desc bs', ⟨k1, k2, k3, k4, hne', fun b hb => (oc b hb).1⟩, ⟨n1, n2, n3, n4, fun b hb => (oc b hb).2⟩, by
      simp only [DirT.bytes, Model.inferDir, e]⟩
  | _ => exact ⟨_, hok, hcan, rfl⟩

theorem txsOfViews_accB {vs : List DirV} (hv : ∀ w ∈ vs, DirVOK w) {t : TTx} (ht : t ∈ txsOfViews vs) {tb : TBooking}
    (htb : tb ∈ t.bookings) : AccB tb.v.credit ∧ AccB tb.v.debit := by
  obtain ⟨w, hw, hwt⟩ := List.mem_filterMap.mp ht
  obtain ⟨vT, hok, hcan, rfl⟩ := hv w hw
  cases vT with
  | transaction aT pT d desc bs =>
    simp only [DirT.bytes, Option.some.injEq] at hwt
    subst hwt
    obtain ⟨bv, hbv, rfl⟩ := List.mem_map.mp htb
    obtain ⟨bT, hbT, rfl⟩ := List.mem_map.mp hbv
    obtain ⟨o1, o2, _, _⟩ := hok.2.2.2.2.2 bT hbT
    obtain ⟨c1, c2, _, _⟩ := hcan.2.2.2.2 bT hbT
    exact ⟨⟨bT.credit, o1, c1, rfl⟩, ⟨bT.debit, o2, c2, rfl⟩⟩
  | _ => simp [DirT.bytes] at hwt

/-- **every account text training reads from a parsed file is a well-formed account** -/
theorem fileTxs_accB {path : String} {text : Bytes} {f : File} (hp : parseText path text = .ok f) {txs : List TTx}
    (h : fileTxs text f = some txs) {t : TTx} (ht : t ∈ txs) {tb : TBooking} (htb : tb ∈ t.bookings) :
    AccB tb.v.credit ∧ AccB tb.v.debit := by
  -- training reads the file through its views, and those are well-formed
  obtain ⟨vs, hvs, hok⟩ := parsed_views_ok hp
  rw [fileTxs_of_views hp hvs] at h
  cases h
  exact txsOfViews_accB hok ht htb

theorem trained_keys_accB {placeholder : Bytes} {txs : List TTx}
    (h : ∀ t ∈ txs, ∀ tb ∈ t.bookings, AccB tb.v.credit ∧ AccB tb.v.debit) :
    ∀ a ∈ (train placeholder txs).countByAccount.keys, AccB a := by
  intro a ha
  obtain ⟨t, ht, tb, htb, hor, _⟩ := trainingAccounts_spec ((mem_keys_train placeholder txs a).mp ha)
  rcases hor with rfl | rfl
  · exact (h t ht tb htb).1
  · exact (h t ht tb htb).2

/-- the transactions `inferRunner.train` feeds to the model: those of all training files, in arrival order
(`none`: a file does not parse, or a slice is out of range) -/
def trainingTxs (training : List (String × Bytes)) : Option (List TTx) :=
  match training.mapM (fun pt => (parseText pt.1 pt.2).toOption.map fun f => (pt.2, f)) with
  | none => none
  | some files => (files.mapM fun tf => fileTxs tf.1 tf.2).map List.flatten

theorem inferCmd_written_iff {placeholder : Bytes} {training : List (String × Bytes)} {path : String} {target out : Bytes} :
    inferCmd sc placeholder training path target = .written out ↔
      ∃ txs f, trainingTxs training = some txs ∧ parseText path target = .ok f ∧
        inferFormat sc (train placeholder txs) target f = some out := by
  unfold inferCmd trainingTxs
  cases h1 : training.mapM (fun pt => (parseText pt.1 pt.2).toOption.map fun f => (pt.2, f)) with
  | none => simp
  | some files =>
    cases h2 : files.mapM (fun tf => fileTxs tf.1 tf.2) with
    | none => simp [h2]
    | some txss =>
      cases h3 : parseText path target with
      | error e => simp [h2]
      | ok f => cases h4 : inferFormat sc (train placeholder txss.flatten) target f <;> simp [h2, h4]

theorem trainingTxs_accB {training : List (String × Bytes)} {txs : List TTx} (h : trainingTxs training = some txs) :
    ∀ t ∈ txs, ∀ tb ∈ t.bookings, AccB tb.v.credit ∧ AccB tb.v.debit := by
  unfold trainingTxs at h
  cases h1 : training.mapM (fun pt => (parseText pt.1 pt.2).toOption.map fun f => (pt.2, f)) with
  | none => simp [h1] at h
  | some files =>
    simp only [h1, Option.map_eq_some_iff] at h
    obtain ⟨txss, h2, rfl⟩ := h
    intro t ht tb htb
    obtain ⟨txs, htxs, ht'⟩ := List.mem_flatten.mp ht
    obtain ⟨tf, htf, hftx⟩ := mapM_some_mem h2 txs htxs
    obtain ⟨pt, _, hpt⟩ := mapM_some_mem h1 tf htf
    cases hq : parseText pt.1 pt.2 with
    | error e => simp [hq, Except.toOption] at hpt
    | ok g =>
      simp only [hq, Except.toOption, Option.map_some, Option.some.injEq] at hpt
      subst hpt
      exact fileTxs_accB hq hftx ht' htb

theorem inferCmd_written {placeholder : Bytes} {training : List (String × Bytes)} {path : String} {target out : Bytes}
    (h : inferCmd sc placeholder training path target = .written out) :
    ∃ txs f, trainingTxs training = some txs ∧ parseText path target = .ok f ∧
      inferFormat sc (train placeholder txs) target f = some out ∧
      ∀ t ∈ txs, ∀ tb ∈ t.bookings, AccB tb.v.credit ∧ AccB tb.v.debit := by
  obtain ⟨txs, f, h1, h2, h3⟩ := (inferCmd_written_iff sc).mp h
  exact ⟨txs, f, h1, h2, h3, trainingTxs_accB h1⟩

theorem inferCmd_of {placeholder : Bytes} {training : List (String × Bytes)} {path : String} {target out : Bytes}
    {txs : List TTx} {f : File} (h1 : trainingTxs training = some txs) (h2 : parseText path target = .ok f)
    (h3 : inferFormat sc (train placeholder txs) target f = some out) :
    inferCmd sc placeholder training path target = .written out :=
  (inferCmd_written_iff sc).mpr ⟨txs, f, h1, h2, h3⟩

theorem inferBooking_idem (hne : [] ∉ m.countByAccount.keys) (hp : m.account ∉ m.countByAccount.keys) (desc : Bytes)
    (b : BookingV) : m.inferBooking sc desc (m.inferBooking sc desc b) = m.inferBooking sc desc b :=
  (inferBooking_spec sc m desc b hne).idem (inferBooking_spec sc m desc _ hne) hp

theorem inferDir_idem (hne : [] ∉ m.countByAccount.keys) (hp : m.account ∉ m.countByAccount.keys) (w : DirV) :
    m.inferDir sc (m.inferDir sc w) = m.inferDir sc w := by
  cases w with
  | transaction accr perf date desc bs =>
    simp only [Model.inferDir, List.map_map, DirV.transaction.injEq, true_and]
    apply List.map_congr_left
    intro b _
    exact inferBooking_idem sc m hne hp desc b
  | _ => rfl

theorem formatWith_fixed {edit : DirV → DirV} {text : Bytes} {f : File} {vs : List DirV}
    (hv : f.directives.mapM (viewDirective text) = some vs) (hfix : vs.map edit = vs) :
    formatWith edit text f = format text f := by
  rw [← formatWith_id]
  unfold formatWith
  simp only [hv, Option.bind_eq_bind, Option.bind_some, hfix, List.map_id]

end Knut.Infer
