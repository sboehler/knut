import Knut.Proofs.InferCounts
/-!
# What `inferAccount` / `Infer` can and cannot change (helper lemmas for C15), for every score function
-/
namespace Knut.Infer
open Knut Knut.Syntax Knut.Spec.Infer

/-- `gt` is the strict part of a total preorder -/
structure Scorer.Order {S : Type} (sc : Scorer S) : Prop where
  irrefl : ∀ a, sc.gt a a = false
  trans : ∀ a b c, sc.gt a b = true → sc.gt b c = true → sc.gt a c = true
  negtrans : ∀ a b c, sc.gt a b = false → sc.gt b c = false → sc.gt a c = false

variable {S : Type} (sc : Scorer S) (m : Model)

theorem Scorer.Order.lt_of_le_lt {sc : Scorer S} (ho : sc.Order) {x y z : S} (h1 : sc.gt x y = false) (h2 : sc.gt z y = true) :
    sc.gt z x = true := by
  cases h : sc.gt z x with
  | true => rfl
  | false => have := ho.negtrans z x y h h1; rw [h2] at this; cases this

theorem inferStep_other (tokens : List Bytes) (other : Bytes) (st : Bytes × Option S) : inferStep sc m tokens other st other = st := by
  simp [inferStep]

def beats (s : S) : Option S → Bool
  | none => true
  | some mx => sc.gt s mx

theorem inferStep_eq (tokens : List Bytes) (other : Bytes) (st : Bytes × Option S) (c : Bytes) (hc : c ≠ other) :
    inferStep sc m tokens other st c =
      if beats sc (m.scoreCandidate sc c tokens) st.2 then (c, some (m.scoreCandidate sc c tokens)) else st := by
  obtain ⟨b, o⟩ := st
  cases o <;> simp only [inferStep, hc, beats, if_false, if_true] <;> rfl

/-- the result of the candidate loop from the state `(b, o)`: the state is kept, or it moves to the FIRST candidate of maximal score -/
inductive Picks (tokens : List Bytes) (other : Bytes) (l : List Bytes) (b : Bytes) (o : Option S) : Bytes × Option S → Prop
  | keep : (∀ c ∈ l, c ≠ other → beats sc (m.scoreCandidate sc c tokens) o = false) → Picks tokens other l b o (b, o)
  | pick (a : Bytes) (pre post : List Bytes) : l = pre ++ a :: post → a ≠ other →
      (∀ c ∈ post, c ≠ other → sc.gt (m.scoreCandidate sc c tokens) (m.scoreCandidate sc a tokens) = false) →
      (sc.Order → beats sc (m.scoreCandidate sc a tokens) o = true ∧
        ∀ c ∈ pre, c ≠ other → sc.gt (m.scoreCandidate sc a tokens) (m.scoreCandidate sc c tokens) = true) →
      Picks tokens other l b o (a, some (m.scoreCandidate sc a tokens))

theorem foldl_inferStep_picks (tokens : List Bytes) (other : Bytes) : ∀ (l : List Bytes) (b : Bytes) (o : Option S),
    Picks sc m tokens other l b o (l.foldl (inferStep sc m tokens other) (b, o))
  | [], b, o => .keep fun _ h => by cases h
  | c :: cs, b, o => by
    rw [List.foldl_cons]
    by_cases hc : c = other
    · rw [hc, inferStep_other]
      have ih := foldl_inferStep_picks tokens other cs b o
      generalize List.foldl _ _ cs = r at ih ⊢
      cases ih with
      | keep h => exact .keep (List.forall_mem_cons.mpr ⟨fun hco => absurd rfl hco, h⟩)
      | pick a pre post e h1 h5 h4 =>
        exact .pick a (other :: pre) post (by rw [e]; rfl) h1 h5 fun ho =>
          ⟨(h4 ho).1, List.forall_mem_cons.mpr ⟨fun hco => absurd rfl hco, (h4 ho).2⟩⟩
    · rw [inferStep_eq sc m tokens other _ c hc]
      cases hg : beats sc (m.scoreCandidate sc c tokens) o with
      | true =>
        -- `c` becomes the best so far; whatever replaces it later beats it, hence beats `o`
        rw [if_pos rfl]
        have ih := foldl_inferStep_picks tokens other cs c (some (m.scoreCandidate sc c tokens))
        generalize List.foldl _ _ cs = r at ih ⊢
        cases ih with
        | keep h => exact .pick c [] cs rfl hc h fun _ => ⟨hg, fun _ hx _ => (by cases hx)⟩
        | pick a pre post e h1 h5 h4 =>
          refine .pick a (c :: pre) post (by rw [e]; rfl) h1 h5 fun ho =>
            ⟨?_, List.forall_mem_cons.mpr ⟨fun _ => (h4 ho).1, (h4 ho).2⟩⟩
          cases o with
          | none => rfl
          | some s => exact ho.trans _ _ _ (h4 ho).1 hg
      | false =>
        -- `c` does not beat the best so far (so there is one): what beats that one later beats `c`
        rw [if_neg Bool.false_ne_true]
        have ih := foldl_inferStep_picks tokens other cs b o
        generalize List.foldl _ _ cs = r at ih ⊢
        cases ih with
        | keep h => exact .keep (List.forall_mem_cons.mpr ⟨fun _ => hg, h⟩)
        | pick a pre post e h1 h5 h4 =>
          refine .pick a (c :: pre) post (by rw [e]; rfl) h1 h5 fun ho =>
            ⟨(h4 ho).1, List.forall_mem_cons.mpr ⟨fun _ => ?_, (h4 ho).2⟩⟩
          cases o with
          | none => cases hg
          | some s => exact ho.lt_of_le_lt hg (h4 ho).1

theorem inferAccount_picks (desc : Bytes) (b : BookingV) (other : Bytes) :
    ∃ r, Picks sc m (tokenize desc b.commodity b.quantity other) other (sortU m.countByAccount.keys) [] none r ∧
      m.inferAccount sc desc b other = if r.1 = [] then none else some r.1 :=
  ⟨_, foldl_inferStep_picks sc m _ other _ [] none, rfl⟩

theorem Picks.mem {tokens : List Bytes} {other : Bytes} {l : List Bytes} {b : Bytes} {o : Option S} {r : Bytes × Option S}
    (h : Picks sc m tokens other l b o r) : r = (b, o) ∨ (r.1 ∈ l ∧ r.1 ≠ other) := by
  cases h with
  | keep _ => exact Or.inl rfl
  | pick a pre post e h1 _ _ => exact Or.inr ⟨e ▸ List.mem_append_right _ List.mem_cons_self, h1⟩

theorem inferAccount_some {desc : Bytes} {b : BookingV} {other a : Bytes} (h : m.inferAccount sc desc b other = some a) :
    a ∈ m.countByAccount.keys ∧ a ≠ other ∧ a ≠ [] := by
  obtain ⟨r, hr, e⟩ := inferAccount_picks sc m desc b other
  rw [e] at h
  split at h
  · cases h
  · rename_i hne
    injection h with h
    subst h
    rcases hr.mem with rfl | ⟨h1, h2⟩
    · exact absurd rfl hne
    · exact ⟨mem_sortU.mp h1, h2, hne⟩

theorem inferAccount_none {desc : Bytes} {b : BookingV} {other : Bytes} (h : ∀ k ∈ m.countByAccount.keys, k = other) :
    m.inferAccount sc desc b other = none := by
  obtain ⟨r, hr, e⟩ := inferAccount_picks sc m desc b other
  rcases hr.mem with rfl | ⟨h1, h2⟩
  · rw [e]; rfl
  · exact absurd (h _ (mem_sortU.mp h1)) h2

/-- `hne`: an empty key that wins would read as "nothing inferred"; training produces none (`train_no_empty_key`) -/
theorem inferAccount_isSome {desc : Bytes} {b : BookingV} {other : Bytes} (hne : [] ∉ m.countByAccount.keys)
    (h : ∃ k ∈ m.countByAccount.keys, k ≠ other) : ∃ a, m.inferAccount sc desc b other = some a := by
  obtain ⟨k, hk, hko⟩ := h
  obtain ⟨r, hr, e⟩ := inferAccount_picks sc m desc b other
  cases hr with
  | keep hn => cases hn k (mem_sortU.mpr hk) hko
  | pick a pre post e' h1 _ _ =>
    have : a ≠ [] := fun e0 => hne (mem_sortU.mp (e0 ▸ e' ▸ List.mem_append_right _ List.mem_cons_self))
    exact ⟨a, by rw [e, if_neg this]⟩

/-- what `Infer` does to one booking, in terms of the keys of `countByAccount` -/
structure BookingSpec (keys : List Bytes) (placeholder : Bytes) (b b' : BookingV) : Prop where
  quantity : b'.quantity = b.quantity
  commodity : b'.commodity = b.commodity
  credit_other : b.credit ≠ placeholder → b'.credit = b.credit
  credit_kept : (∀ k ∈ keys, k = b.debit) → b'.credit = b.credit
  credit_new : b.credit = placeholder → (∃ k ∈ keys, k ≠ b.debit) → b'.credit ∈ keys ∧ b'.credit ≠ b.debit
  credit_cases : b'.credit = b.credit ∨ (b.credit = placeholder ∧ b'.credit ∈ keys ∧ b'.credit ≠ b.debit ∧ b'.credit ≠ [])
  debit_other : b.debit ≠ placeholder → b'.debit = b.debit
  debit_kept : (∀ k ∈ keys, k = b'.credit) → b'.debit = b.debit
  debit_new : b.debit = placeholder → (∃ k ∈ keys, k ≠ b'.credit) → b'.debit ∈ keys ∧ b'.debit ≠ b'.credit
  debit_cases : b'.debit = b.debit ∨ (b.debit = placeholder ∧ b'.debit ∈ keys ∧ b'.debit ≠ b'.credit ∧ b'.debit ≠ [])

theorem BookingV.ext_fields {a b : BookingV} (hc : a.credit = b.credit) (hd : a.debit = b.debit)
    (hq : a.quantity = b.quantity) (hk : a.commodity = b.commodity) : a = b := by
  cases a; cases b
  simp only at hc hd hq hk
  rw [hc, hd, hq, hk]

theorem BookingSpec.congr_keys {k₁ k₂ : List Bytes} {ph : Bytes} {b b' : BookingV} (hk : ∀ a, a ∈ k₁ ↔ a ∈ k₂)
    (h : BookingSpec k₁ ph b b') : BookingSpec k₂ ph b b' where
  quantity := h.quantity
  commodity := h.commodity
  credit_other := h.credit_other
  credit_kept hc := h.credit_kept fun k hk' => hc k ((hk k).mp hk')
  credit_new h1 := fun ⟨k, hk', hne⟩ => (h.credit_new h1 ⟨k, (hk k).mpr hk', hne⟩).imp_left (hk _).mp
  credit_cases := h.credit_cases.imp_right fun ⟨e, hm, r⟩ => ⟨e, (hk _).mp hm, r⟩
  debit_other := h.debit_other
  debit_kept hc := h.debit_kept fun k hk' => hc k ((hk k).mp hk')
  debit_new h1 := fun ⟨k, hk', hne⟩ => (h.debit_new h1 ⟨k, (hk k).mpr hk', hne⟩).imp_left (hk _).mp
  debit_cases := h.debit_cases.imp_right fun ⟨e, hm, r⟩ => ⟨e, (hk _).mp hm, r⟩

/-- **a second run changes nothing**, from the specification alone: a field that is still the placeholder (which is no key) had
no candidate the first time, and the account it is inferred against is the same the second time -/
theorem BookingSpec.idem {keys : List Bytes} {ph : Bytes} {b b' b'' : BookingV} (h1 : BookingSpec keys ph b b')
    (h2 : BookingSpec keys ph b' b'') (hp : ph ∉ keys) : b'' = b' := by
  have hc : b''.credit = b'.credit := by
    rcases h2.credit_cases with e | ⟨e, _⟩
    · exact e
    · have e1 : b'.credit = b.credit := h1.credit_cases.resolve_right fun ⟨_, hk, _⟩ => hp (e ▸ hk)
      by_cases hall : ∀ k ∈ keys, k = b.debit
      · have hd : b'.debit = b.debit := h1.debit_cases.elim id fun ⟨_, hk, _⟩ => hall _ hk
        exact h2.credit_kept fun k hk => (hall k hk).trans hd.symm
      · simp only [Classical.not_forall, Classical.not_imp, exists_prop] at hall
        exact absurd (e ▸ (h1.credit_new (e1 ▸ e) hall).1) hp
  refine BookingV.ext_fields hc ?_ h2.quantity h2.commodity
  rcases h2.debit_cases with e | ⟨e, _⟩
  · exact e
  · have e1 : b'.debit = b.debit := h1.debit_cases.resolve_right fun ⟨_, hk, _⟩ => hp (e ▸ hk)
    by_cases hall : ∀ k ∈ keys, k = b'.credit
    · exact h2.debit_kept (hc ▸ hall)
    · simp only [Classical.not_forall, Classical.not_imp, exists_prop] at hall
      exact absurd (e ▸ (h1.debit_new (e1 ▸ e) hall).1) hp

/-- the account field one half of the loop body leaves: `old` inferred against `other` -/
def Model.inferField (desc : Bytes) (b : BookingV) (old other : Bytes) : Bytes :=
  if old = m.account then (m.inferAccount sc desc b other).getD old else old

theorem inferBooking_eq (desc : Bytes) (b : BookingV) :
    m.inferBooking sc desc b =
      { b with credit := m.inferField sc desc b b.credit b.debit,
               debit := m.inferField sc desc { b with credit := m.inferField sc desc b b.credit b.debit } b.debit
                 (m.inferField sc desc b b.credit b.debit) } := by
  obtain ⟨cr, db, q, c⟩ := b
  unfold Model.inferBooking Model.inferField
  by_cases h1 : cr = m.account
  · simp only [if_pos h1]
    cases m.inferAccount sc desc ⟨cr, db, q, c⟩ db with
    | none =>
      by_cases h2 : db = m.account <;> simp only [Option.getD, h2, if_true, if_false]
      cases m.inferAccount sc desc ⟨cr, m.account, q, c⟩ cr <;> rfl
    | some a =>
      by_cases h2 : db = m.account <;> simp only [Option.getD, h2, if_true, if_false]
      cases m.inferAccount sc desc ⟨a, m.account, q, c⟩ a <;> rfl
  · simp only [if_neg h1]
    by_cases h2 : db = m.account <;> simp only [h2, if_true, if_false]
    cases m.inferAccount sc desc ⟨cr, m.account, q, c⟩ cr <;> rfl

theorem inferField_spec (desc : Bytes) (b : BookingV) (old other : Bytes) (hne : [] ∉ m.countByAccount.keys) :
    (old ≠ m.account → m.inferField sc desc b old other = old) ∧
    ((∀ k ∈ m.countByAccount.keys, k = other) → m.inferField sc desc b old other = old) ∧
    (old = m.account → (∃ k ∈ m.countByAccount.keys, k ≠ other) →
      m.inferField sc desc b old other ∈ m.countByAccount.keys ∧ m.inferField sc desc b old other ≠ other) ∧
    (m.inferField sc desc b old other = old ∨ (old = m.account ∧ m.inferField sc desc b old other ∈ m.countByAccount.keys ∧
      m.inferField sc desc b old other ≠ other ∧ m.inferField sc desc b old other ≠ [])) := by
  unfold Model.inferField
  by_cases hph : old = m.account
  · rw [if_pos hph]
    cases hi : m.inferAccount sc desc b other with
    | none =>
      refine ⟨fun _ => rfl, fun _ => rfl, fun _ hex => ?_, Or.inl rfl⟩
      obtain ⟨a, ha⟩ := inferAccount_isSome sc m (desc := desc) (b := b) hne hex
      rw [hi] at ha; cases ha
    | some a =>
      have ha := inferAccount_some sc m hi
      refine ⟨fun h => absurd hph h, fun h => absurd (h a ha.1) ha.2.1, fun _ _ => ⟨ha.1, ha.2.1⟩, Or.inr ⟨hph, ha⟩⟩
  · rw [if_neg hph]
    exact ⟨fun _ => rfl, fun _ => rfl, fun h => absurd h hph, Or.inl rfl⟩

theorem inferBooking_spec (desc : Bytes) (b : BookingV) (hne : [] ∉ m.countByAccount.keys) :
    BookingSpec m.countByAccount.keys m.account b (m.inferBooking sc desc b) := by
  rw [inferBooking_eq]
  obtain ⟨co, ck, cn, cc⟩ := inferField_spec sc m desc b b.credit b.debit hne
  obtain ⟨do_, dk, dn, dc⟩ := inferField_spec sc m desc { b with credit := m.inferField sc desc b b.credit b.debit } b.debit
    (m.inferField sc desc b b.credit b.debit) hne
  exact ⟨rfl, rfl, co, ck, cn, cc, do_, dk, dn, dc⟩

theorem all_beq_iff (l : List Bytes) (x : Bytes) : (l.all (· == x)) = true ↔ ∀ k ∈ l, k = x := by
  simp [List.all_eq_true]

theorem fieldOK_of {training : List Bytes} {placeholder old new against otherNew : Bytes}
    (hother : old ≠ placeholder → new = old) (hkept : (∀ k ∈ training, k = against) → new = old)
    (hnew : old = placeholder → (∃ k ∈ training, k ≠ against) → new ∈ training ∧ new ≠ against)
    (hdiff : new ≠ against → new ≠ otherNew) :
    fieldOK placeholder training old new against otherNew = true := by
  unfold fieldOK
  by_cases h1 : old = placeholder
  · rw [if_pos (beq_iff_eq.mpr h1)]
    by_cases h2 : ∀ k ∈ training, k = against
    · rw [if_pos ((all_beq_iff _ _).mpr h2)]
      exact beq_iff_eq.mpr (hkept h2)
    · rw [if_neg (fun e => h2 ((all_beq_iff _ _).mp e))]
      obtain ⟨n1, n2⟩ := hnew h1 (by simpa only [Classical.not_forall, Classical.not_imp, exists_prop] using h2)
      simp only [List.contains_eq_mem, n1, decide_true, Bool.true_and, Bool.and_eq_true, bne_iff_ne,
        ne_eq, n2, not_false_eq_true, hdiff n2, and_self]
  · rw [if_neg (fun e => h1 (beq_iff_eq.mp e))]
    exact beq_iff_eq.mpr (hother h1)

theorem bookingOK_of_spec {training : List Bytes} {placeholder : Bytes} {b b' : BookingV}
    (h : BookingSpec training placeholder b b') : bookingOK placeholder training b b' = true := by
  have hcredit : fieldOK placeholder training b.credit b'.credit b.debit b'.debit = true := by
    refine fieldOK_of h.credit_other h.credit_kept h.credit_new fun n2 => ?_
    rcases h.debit_cases with e | ⟨_, _, e, _⟩
    · rw [e]; exact n2
    · exact fun x => e x.symm
  have hdebit := fieldOK_of (otherNew := b'.credit) h.debit_other h.debit_kept h.debit_new id
  simp [bookingOK, h.quantity, h.commodity, hcredit, hdebit]

theorem bookingsOK_map {training : List Bytes} {placeholder : Bytes} (f : BookingV → BookingV)
    (h : ∀ b, BookingSpec training placeholder b (f b)) : ∀ bs : List BookingV, bookingsOK placeholder training bs (bs.map f) = true
  | [] => rfl
  | b :: bs => by
    simp only [List.map_cons, bookingsOK, Bool.and_eq_true]
    exact ⟨bookingOK_of_spec (h b), bookingsOK_map f h bs⟩

theorem viewsOK_map {training : List Bytes} {placeholder : Bytes}
    (h : ∀ desc b, BookingSpec training placeholder b (m.inferBooking sc desc b)) :
    ∀ vs : List DirV, viewsOK placeholder training vs (vs.map (m.inferDir sc)) = true
  | [] => rfl
  | v :: vs => by
    simp only [List.map_cons, viewsOK, Bool.and_eq_true]
    refine ⟨?_, viewsOK_map h vs⟩
    cases v with
    | transaction accr perf date desc bs =>
      simp only [Model.inferDir, dirOK, beq_self_eq_true, Bool.true_and]
      exact bookingsOK_map _ (h desc) bs
    | _ => simp [Model.inferDir, dirOK]

theorem train_spec {S : Type} (sc : Scorer S) (ph : Bytes) (txs : List TTx) (desc : Bytes) (b : BookingV) :
    BookingSpec (trainingAccounts ph txs) ph b ((train ph txs).inferBooking sc desc b) := by
  have h := inferBooking_spec sc (train ph txs) desc b (train_no_empty_key ph txs)
  rw [train_account] at h
  exact h.congr_keys (mem_keys_train ph txs)

theorem inferBooking_no_placeholder {S : Type} (sc : Scorer S) (m : Model) (hne : [] ∉ m.countByAccount.keys) (desc : Bytes)
    (b : BookingV) (h1 : b.credit ≠ m.account) (h2 : b.debit ≠ m.account) : m.inferBooking sc desc b = b := by
  have spec := inferBooking_spec sc m desc b hne
  exact BookingV.ext_fields (spec.credit_other h1) (spec.debit_other h2) spec.quantity spec.commodity

theorem inferBooking_debit_two {S : Type} (sc : Scorer S) {ph : Bytes} {txs : List TTx} {x y : Bytes}
    (ht : ∀ a, a ∈ trainingAccounts ph txs ↔ a = x ∨ a = y) (hx : x ≠ ph) (hxy : y ≠ x) (desc : Bytes) (q c : Bytes) :
    (train ph txs).inferBooking sc desc ⟨x, ph, q, c⟩ = ⟨x, y, q, c⟩ := by
  have spec := train_spec sc ph txs desc ⟨x, ph, q, c⟩
  have e1 := spec.credit_other hx
  obtain ⟨n1, n2⟩ := spec.debit_new rfl ⟨y, (ht y).mpr (Or.inr rfl), by rw [e1]; exact hxy⟩
  refine BookingV.ext_fields e1 (((ht _).mp n1).resolve_left fun e => n2 (e.trans e1.symm)) spec.quantity spec.commodity

end Knut.Infer
