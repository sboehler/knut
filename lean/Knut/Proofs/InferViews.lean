import Knut.Proofs.InferFormat
import Knut.Proofs.SyntaxSem
/-!
# Training reads a parsed file only through its field views (helper lemmas for C15)

`bayes.Model.Update` reads the description, the four booking fields and the `Macro` flags of the two account nodes.
For a tree the parser returned the flag is a function of the account text (`parseText_shape`: a macro iff it starts
with `$`), so the training transactions of a parsed file are a function of the typed views of its directives:
`fileTxs_of_views`. So what holds of the views of a parsed file holds of what training reads (`fileTxs_accB`), and with the
print-then-parse lemmas the whole command can be evaluated on texts given as rendered token lists (the non-vacuity example of
`Properties/C15Parse.lean`).
-/
namespace Knut.Infer
open Knut Knut.Syntax Knut.Spec.Syntax Knut.Utf8

theorem viewTransaction_some {text : Bytes} {tr : Transaction} {w : DirV} (h : viewTransaction text tr = some w) :
    ∃ accr perf date desc bookings, w = .transaction accr perf date desc bookings ∧
      tr.description.content.extract text = some desc ∧ tr.bookings.mapM (viewBooking text) = some bookings := by
  obtain ⟨accr, perf, date, desc, bookings, hw, _, _, _, hd, hb⟩ := viewTransaction_inv h
  exact ⟨accr, perf, date, desc, bookings, hw, hd, hb⟩

def tbookingOfView (b : BookingV) : TBooking := ⟨isDollar b.credit, isDollar b.debit, b⟩

def txsOfViews (vs : List DirV) : List TTx :=
  vs.filterMap fun v =>
    match v with
    | .transaction _ _ _ desc bs => some ⟨desc, bs.map tbookingOfView⟩
    | _ => none

theorem mapM_tbookings {text : Bytes} (l : List Booking) (bvs : List BookingV) (hs : ∀ b ∈ l, BookingShape text b)
    (h : l.mapM (viewBooking text) = some bvs) :
    l.mapM (fun b => (viewBooking text b).map fun v => (⟨b.credit.isMacro, b.debit.isMacro, v⟩ : TBooking)) =
      some (bvs.map tbookingOfView) :=
  mapM_eq_some_iff.mpr <| forall₂_map_right.mpr <| forall₂_imp_mem (mapM_eq_some_iff.mp h) fun b hb v _ h1 => by
    obtain ⟨e1, e2, _⟩ := viewBooking_eq_some_iff.mp h1
    obtain ⟨s1, s2⟩ := hs b hb
    simp [h1, tbookingOfView, s1 _ e1, s2 _ e2]

theorem viewT_of_view {text : Bytes} {t : Transaction} {v : DirV} (hs : ∀ b ∈ t.bookings, BookingShape text b)
    (h : viewTransaction text t = some v) :
    ∃ accr perf date desc bookings, v = .transaction accr perf date desc bookings ∧
      viewT text t = some ⟨desc, bookings.map tbookingOfView⟩ := by
  obtain ⟨accr, perf, date, desc, bookings, rfl, hd, hb⟩ := viewTransaction_some h
  refine ⟨accr, perf, date, desc, bookings, rfl, ?_⟩
  simp only [viewT, hd, mapM_tbookings t.bookings bookings hs hb, Option.bind_eq_bind, Option.bind_some, Option.pure_def]

theorem body_of_view_tx {text : Bytes} {d : Directive} {accr perf date desc bs}
    (h : viewDirective text d = some (.transaction accr perf date desc bs)) : ∃ t, d.body = .transaction t := by
  have hv := viewDirective_eq_some_iff.mp h
  generalize d.body = body at hv ⊢
  cases hv
  exact ⟨_, rfl⟩

theorem fileTxs_aux {text : Bytes} (ds : List Directive) (vs : List DirV) (hs : ∀ d ∈ ds, DirShape text d)
    (h : ds.mapM (viewDirective text) = some vs) :
    (ds.filterMap fun d => match d.body with | .transaction t => some t | _ => none).mapM (viewT text) = some (txsOfViews vs) := by
  -- the transactions are kept on both sides, every other directive is dropped on both
  refine mapM_eq_some_iff.mpr (forall₂_filterMap (fun d hd v _ h1 => ?_) (mapM_eq_some_iff.mp h))
  cases hb : d.body with
  | transaction t =>
    have hd := hs d hd
    rw [DirShape, hb] at hd
    rw [viewDirective_transaction hb] at h1
    obtain ⟨accr, perf, date, desc, bookings, rfl, hvt⟩ := viewT_of_view hd.2 h1
    exact .inr ⟨_, _, rfl, rfl, hvt⟩
  | _ =>
    refine .inl ⟨rfl, ?_⟩
    cases v with
    | transaction => exact absurd (body_of_view_tx h1).choose_spec (by simp [hb])
    | _ => rfl

/-- **training reads a parsed file only through the views of its directives** -/
theorem fileTxs_of_views {path : String} {text : Bytes} {f : File} {vs : List DirV} (h : parseText path text = .ok f)
    (hv : f.directives.mapM (viewDirective text) = some vs) : fileTxs text f = some (txsOfViews vs) :=
  fileTxs_aux f.directives vs (parseText_shape h) hv

end Knut.Infer
