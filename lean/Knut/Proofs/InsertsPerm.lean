import Knut.Proofs.LifecyclePerm
import Knut.Proofs.ReportPerm
import Knut.Proofs.BalanceInv
import Knut.Proofs.Builder
/-!
# Closing transactions up to key order; runs that succeed; well-formed inserts (C05)

With closing, the closing transactions are generated from the CloseAccounts accumulators, association lists whose KEY
ORDER depends on the order of the postings.  What two runs over day lists that agree day by day up to order share is: both
accumulators have distinct keys and answer every lookup alike (`AMap.Same`; the accumulators are `+=` maps, whose lookups
do not depend on the order of the updates: `AMap.Same.bumps`), hence hold the same entries (`AMap.Same.perm`), hence the
closing transactions are permutations of each other (`closings_perm`).  The simulation itself, for every configuration,
is `InsertsPermValued.run_sim`.

Also here: an unvalued run succeeds iff the checker accepts; journals with well-formed accounts give well-formed report
inserts (an instance of `Balance.run_inv`).
-/

namespace Knut.InsertsPerm
open Knut Knut.Spec Knut.LedgerClose


theorem closings_perm (date : Int) {cQty cQty' cVal cVal' : AMap Position Rat} (hq : AMap.Same cQty cQty')
    (hv : ∀ k, cVal.find? k = cVal'.find? k) :
    (Balance.closings date cQty cVal).Perm (Balance.closings date cQty' cVal') := by
  unfold Balance.closings
  have : ∀ k, cVal.get k 0 = cVal'.get k 0 := fun k => AMap.get_congr (hv k) 0
  simp only [this]
  exact hq.perm.filterMap _


theorem run_isOk (cfg : BalCfg) (hv : cfg.valuation = none) (days : List Day) :
    ∀ (st : BalState), (days.foldlM (Balance.day cfg) st).isOk = (days.foldlM Check.day st.chk).isOk := by
  induction days with
  | nil => intro st; rfl
  | cons d rest ih =>
    intro st
    rw [List.foldlM_cons, List.foldlM_cons, Balance.day_eq, Balance.vStage_none hv]
    unfold Balance.checkStage
    cases Check.day st.chk d with
    | error e => rfl
    | ok c => exact ih _


theorem wf_cons (s : String) (rest : List String) : (Account.wf ⟨s :: rest⟩) = (AccountType.ofName s).isSome := rfl

theorem wf_segments {a : Account} (h : a.wf = true) : ∃ s rest, a.segments = s :: rest ∧ (AccountType.ofName s).isSome = true := by
  obtain ⟨segs⟩ := a
  cases segs with
  | nil => cases h
  | cons s rest => exact ⟨s, rest, rfl, h⟩

theorem swapType_wf {a : Account} (h : a.wf = true) : (swapType a).wf = true := by
  obtain ⟨segs⟩ := a
  cases segs with
  | nil => cases h
  | cons s rest =>
    show (if s = "Assets" then (⟨"Liabilities" :: rest⟩ : Account)
      else if s = "Liabilities" then ⟨"Assets" :: rest⟩
      else if s = "Income" then ⟨"Expenses" :: rest⟩
      else if s = "Expenses" then ⟨"Income" :: rest⟩
      else ⟨s :: rest⟩).wf = true
    by_cases h1 : s = "Assets"
    · rw [if_pos h1]; exact (wf_cons _ _).trans (by decide)
    rw [if_neg h1]
    by_cases h2 : s = "Liabilities"
    · rw [if_pos h2]; exact (wf_cons _ _).trans (by decide)
    rw [if_neg h2]
    by_cases h3 : s = "Income"
    · rw [if_pos h3]; exact (wf_cons _ _).trans (by decide)
    rw [if_neg h3]
    by_cases h4 : s = "Expenses"
    · rw [if_pos h4]; exact (wf_cons _ _).trans (by decide)
    rw [if_neg h4]
    exact h

theorem shorten_wf (m : List MapRule) {a b : Account} (h : a.wf = true) (hb : shorten m a = some b) : b.wf = true := by
  rcases shorten_first hb with rfl | ⟨s, rest, rest', ha, hbs⟩
  · exact h
  · obtain ⟨segs⟩ := a
    obtain ⟨segsb⟩ := b
    subst ha; subst hbs
    exact h

theorem mapAccount_wf (cfg : BalCfg) {a b : Account} (h : a.wf = true) (hb : mapAccount cfg a = some b) : b.wf = true :=
  mapAccount_inv (fun x => x.wf = true) (fun _ => swapType_wf) (fun _ _ hx hy => shorten_wf _ hx hy) h hb

/-- every posting is on an account with an account type (`Account.wf`; the registry admits no others) -/
def TxsWF (ts : List Transaction) : Prop := ∀ t ∈ ts, ∀ p ∈ t.postings, p.account.wf = true

theorem queryTx_wf (cfg : BalCfg) {ts : List Transaction} (h : TxsWF ts) : ReportPerm.WF (ts.flatMap (Balance.queryTx cfg)) := by
  intro e he
  obtain ⟨t, ht, p, hp, _, _, a, ha, rfl⟩ := mem_flatMap_queryTx.mp he
  exact mapAccount_wf cfg (h t ht p hp) ha

theorem TxsWF.append {xs ys : List Transaction} (hx : TxsWF xs) (hy : TxsWF ys) : TxsWF (xs ++ ys) := by
  intro t ht
  rcases List.mem_append.1 ht with h | h
  · exact hx t h
  · exact hy t h

/-- postings on accounts with an account type: valuation keeps the account, value adjustments book on the position's
account and on `Income:…`, closings on the position's account and on `Equity:Equity` -/
theorem txInv_wf : Balance.TxInv (fun k => k.1.wf = true) (fun t => ∀ p ∈ t.postings, p.account.wf = true) where
  value {v cur t t'} h hv p' hp' := by
    obtain ⟨ps, h1, rfl⟩ := Balance.valueTx_ok.mp hv
    obtain ⟨p, hp, hpv⟩ := mapM_ok_mem _ _ _ h1 p' hp'
    rw [(valuePosting_account hpv).1]
    exact h p hp
  adjust hk t w e p hp := by
    rw [e] at hp
    rcases postingBuild_account _ _ _ _ _ p hp with h | h <;> rw [h]
    · rfl
    · exact hk
  closing hk t q w e p hp := by
    rw [e] at hp
    rcases postingBuild_account _ _ _ _ _ p hp with h | h <;> rw [h]
    · exact hk
    · rfl
  keys h := h

theorem run_wf (cfg : BalCfg) (days : List Day) (hd : ∀ d ∈ days, TxsWF d.transactions) (st : BalState)
    (h : Balance.run cfg days = .ok st) : ReportPerm.WF st.entries := by
  obtain ⟨_, txs, ht, he⟩ := Balance.run_inv txInv_wf hd Balance.KeysIn.init h
  rw [he]; exact queryTx_wf cfg ht


theorem dayEquiv_refl (d : Day) : DayEquiv d d :=
  ⟨rfl, List.Perm.refl _, List.Perm.refl _, List.Perm.refl _, List.Perm.refl _⟩

/-- … for the transactions among directives -/
def DirsWF (ds : List Directive) : Prop := ∀ t, Directive.tx t ∈ ds → ∀ p ∈ t.postings, p.account.wf = true

end Knut.InsertsPerm
