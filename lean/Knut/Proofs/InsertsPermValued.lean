import Knut.Proofs.ListMapM
import Knut.Proofs.InsertsPerm
import Knut.Proofs.PricesSpec
import Knut.Proofs.Check
/-!
# The report inserts of a VALUED balance run do not depend on the order of the directives within a day (C05/C06)

For every configuration, `cfg.valuation = some v` included (`run_sim_unvalued` is the case without valuation, where the
price directives need not correspond).  `day_sim`/`run_sim`: two runs of the pipeline model over day lists that agree day by day up to the order of the
directives of each kind (`DayEquivP`) both fail, or both succeed in states related by `RelV`, stage by stage on the
part of the state each stage owns (`checkStage_sim`, `vStage_sim` with `RelVal`, `cStage_sim` with `RelClose`; `Balance.day_eq`):

* checker states that refine equivalent lifecycle states (`ChkEq`; C04 refinement + `stepDay_perm`);
* price graphs with distinct keys and the same stored prices (`GEq`), hence the same `Normalize` table
  (`Prices.normalize_ext`: the traversal sorts the keys it ranges over); the same `norm` and `vPrev`;
* `vQty` with distinct keys and the same lookups (`AMap.Same`), so the two association lists are permutations of each
  other (`AMap.Same.perm`) and the adjustment transactions, generated in key order, are permutations of each other — and
  a missing price makes the day fail for one order iff it does for the other (`adjustments_perm`, an instance of
  `foldlM_perm_sim`);
* `cQty` likewise, `cVal` with the same lookups; report inserts equal up to order.

The price declarations of corresponding days are the same list, or a permutation in which no two declarations are
about the same unordered pair of commodities (`DeclsEquiv`; the property excludes journals with two prices for one
pair on one day — for these the later declaration wins and the order does matter).
-/

namespace Knut.InsertsPermValued
open Knut Knut.Spec Knut.LedgerClose Knut.InsertsPerm
open Knut.Prices (Decl insertAll edge WF normalize)

/-! ### the checker on two equivalent days -/

/-- both checker states refine equivalent lifecycle states -/
def ChkEq (c c' : CheckState) : Prop := ∃ s s', C04.R c s ∧ C04.R c' s' ∧ LEquiv s s'

theorem chkEq_init : ChkEq {} {} := ⟨{}, {}, C04.R_init, C04.R_init, LEquiv.refl _⟩

theorem chk_day {c c' : CheckState} (h : ChkEq c c') {d d' : Day} (hd : DayEquiv d d') :
    PSim ChkEq (Check.day c d) (Check.day c' d') := by
  obtain ⟨s, s', r, r', e⟩ := h
  -- checker ~ specification ~ specification on the permuted day ~ checker
  exact sim_imp (sim_trans (sim_trans (C04.sim_day c s d r) (stepDay_perm true s s' d d' hd e)) (sim_symm (C04.sim_day c' s' d' r')))
    (fun _ _ ⟨t', ⟨t, h1, h2⟩, h3⟩ => ⟨t, t', h1, h3, h2⟩) (fun _ _ _ => trivial)

/-! ### `Valuate.DayStart`: the adjustment transactions follow the key order of `vQty` -/

def adjOne (v : Commodity) (date : Int) (prev cur : Option Prices.NPrices) (e : Position × Rat) :
    Except BalErr (List Transaction) := Balance.adjustStep v date prev cur [] e

theorem adjustStep_eq (v : Commodity) (date : Int) (prev cur : Option Prices.NPrices) (acc : List Transaction)
    (e : Position × Rat) :
    Balance.adjustStep v date prev cur acc e = (adjOne v date prev cur e >>= fun l => .ok (acc ++ l)) := by
  unfold adjOne Balance.adjustStep
  split
  · simp only [bind, Except.bind, List.append_nil]
  · cases Balance.lookupPrice prev e.1.2 with
    | error x => rfl
    | ok pp =>
      cases Balance.lookupPrice cur e.1.2 with
      | error x => rfl
      | ok cp =>
        simp only [bind, Except.bind]
        split
        · simp only [List.append_nil]
        · simp only [List.nil_append]

theorem adjustStep_resp (v : Commodity) (date : Int) (prev cur : Option Prices.NPrices)
    (acc acc' : List Transaction) (e : Position × Rat) (h : acc.Perm acc') :
    PSim List.Perm (Balance.adjustStep v date prev cur acc e) (Balance.adjustStep v date prev cur acc' e) := by
  rw [adjustStep_eq, adjustStep_eq]
  cases adjOne v date prev cur e with
  | error x => trivial
  | ok l => exact h.append_right l

theorem adjustStep_comm (v : Commodity) (date : Int) (prev cur : Option Prices.NPrices)
    (acc : List Transaction) (x y : Position × Rat) :
    PSim List.Perm
      (Balance.adjustStep v date prev cur acc x >>= fun a => Balance.adjustStep v date prev cur a y)
      (Balance.adjustStep v date prev cur acc y >>= fun a => Balance.adjustStep v date prev cur a x) := by
  simp only [adjustStep_eq]
  cases adjOne v date prev cur x <;> cases adjOne v date prev cur y <;> simp only [bind, Except.bind, PSim, Sim]
  rw [List.append_assoc, List.append_assoc]
  exact List.perm_append_comm.append_left acc

theorem adjustments_perm (v : Commodity) (date : Int) (prev cur : Option Prices.NPrices)
    {qty qty' : AMap Position Rat} (hp : qty.Perm qty') :
    PSim List.Perm (Balance.adjustments v date prev cur qty) (Balance.adjustments v date prev cur qty') :=
  foldlM_perm_sim List.Perm List.Perm.refl (fun _ _ _ h1 h2 => h1.trans h2) _
    (fun a a' e h => adjustStep_resp v date prev cur a a' e h)
    (fun a x y => adjustStep_comm v date prev cur a x y) hp [] [] (List.Perm.refl _)

/-! ### `ComputePrices`: the price graph up to the order of a day's declarations -/

/-- two representations of the same price graph: distinct keys everywhere and the same stored prices -/
def GEq (g g' : Prices.Prices) : Prop := WF g ∧ WF g' ∧ ∀ a b, edge g a b = edge g' a b

theorem geq_nil : GEq [] [] := ⟨Prices.wf_nil, Prices.wf_nil, fun _ _ => rfl⟩

theorem normalize_geq {g g' : Prices.Prices} (h : GEq g g') (v : Commodity) : normalize g v = normalize g' v :=
  Prices.normalize_ext h.1.2 h.2.1.2 h.2.2 v

def SamePair (p q : Decl) : Prop :=
  (p.commodity = q.commodity ∧ p.target = q.target) ∨ (p.commodity = q.target ∧ p.target = q.commodity)

theorem samePair_symm {p q : Decl} (h : SamePair p q) : SamePair q p := by
  rcases h with ⟨h1, h2⟩ | ⟨h1, h2⟩
  · exact Or.inl ⟨h1.symm, h2.symm⟩
  · exact Or.inr ⟨h2.symm, h1.symm⟩

def PairsDistinct (l : List Decl) : Prop := l.Pairwise (fun p q => ¬ SamePair p q)

theorem pairsDistinct_perm {l l' : List Decl} (hp : l.Perm l') (h : PairsDistinct l) : PairsDistinct l' :=
  (hp.pairwise_iff (fun {_ _} hn hs => hn (samePair_symm hs))).1 h

def declVal (d : Decl) (a b : Commodity) : Option Rat :=
  if a = d.commodity ∧ b = d.target then some (Prices.recip d.price)
  else if a = d.target ∧ b = d.commodity then some d.price else none

theorem latest_cons (d : Decl) (ds : List Decl) (a b : Commodity) :
    latest (d :: ds) a b = (latest ds a b).or (declVal d a b) := by
  unfold declVal
  rw [latest]
  cases latest ds a b <;> rfl

theorem declVal_some {d : Decl} {a b : Commodity} (h : (declVal d a b).isSome = true) :
    (a = d.commodity ∧ b = d.target) ∨ (a = d.target ∧ b = d.commodity) := by
  unfold declVal at h
  split at h
  · exact Or.inl ‹_›
  · split at h
    · exact Or.inr ‹_›
    · cases h

theorem latest_perm {l l' : List Decl} (hp : l.Perm l') (hd : PairsDistinct l) (a b : Commodity) :
    latest l a b = latest l' a b := by
  induction hp with
  | nil => rfl
  | cons x _ ih =>
    rw [latest_cons, latest_cons, ih (List.Pairwise.of_cons hd)]
  | swap x y l =>
    rw [latest_cons, latest_cons, latest_cons, latest_cons]
    have hxy : ¬ SamePair y x := (List.pairwise_cons.1 hd).1 x List.mem_cons_self
    cases latest l a b with
    | some z => rfl
    | none =>
      cases hx : declVal x a b with
      | none => cases declVal y a b <;> rfl
      | some u =>
        cases hy : declVal y a b with
        | none => rfl
        | some w =>
          exfalso; apply hxy
          have mx := declVal_some (d := x) (a := a) (b := b) (by rw [hx]; rfl)
          have my := declVal_some (d := y) (a := a) (b := b) (by rw [hy]; rfl)
          unfold SamePair
          rcases mx with ⟨e1, e2⟩ | ⟨e1, e2⟩ <;> rcases my with ⟨e3, e4⟩ | ⟨e3, e4⟩
          · exact Or.inl ⟨e3.symm.trans e1, e4.symm.trans e2⟩
          · exact Or.inr ⟨e4.symm.trans e2, e3.symm.trans e1⟩
          · exact Or.inr ⟨e3.symm.trans e1, e4.symm.trans e2⟩
          · exact Or.inl ⟨e4.symm.trans e2, e3.symm.trans e1⟩
  | trans h12 _ ih1 ih2 => rw [ih1 hd, ih2 (pairsDistinct_perm h12 hd)]

def DeclsEquiv (l l' : List Decl) : Prop := l = l' ∨ (l.Perm l' ∧ PairsDistinct l)

theorem DeclsEquiv.perm {l l' : List Decl} (h : DeclsEquiv l l') : l.Perm l' := by
  rcases h with rfl | h
  · exact List.Perm.refl _
  · exact h.1

theorem DeclsEquiv.latest {l l' : List Decl} (h : DeclsEquiv l l') (a b : Commodity) : latest l a b = latest l' a b := by
  rcases h with rfl | h
  · rfl
  · exact latest_perm h.1 h.2 a b

theorem insertAll_geq {g g' : Prices.Prices} (h : GEq g g') {l l' : List Decl} (hl : DeclsEquiv l l') :
    match insertAll g l, insertAll g' l' with
    | some g1, some g1' => GEq g1 g1'
    | none, none => True
    | _, _ => False := by
  cases h1 : insertAll g l with
  | none =>
    cases h2 : insertAll g' l' with
    | none => trivial
    | some g1' =>
      obtain ⟨d, hd, hz⟩ := (Prices.insertAll_eq_none_iff l g).1 h1
      have : insertAll g' l' = none := (Prices.insertAll_eq_none_iff l' g').2 ⟨d, hl.perm.mem_iff.1 hd, hz⟩
      rw [this] at h2; cases h2
  | some g1 =>
    cases h2 : insertAll g' l' with
    | none =>
      obtain ⟨d, hd, hz⟩ := (Prices.insertAll_eq_none_iff l' g').1 h2
      have : insertAll g l = none := (Prices.insertAll_eq_none_iff l g).2 ⟨d, hl.perm.mem_iff.2 hd, hz⟩
      rw [this] at h1; cases h1
    | some g1' =>
      refine ⟨Prices.wf_insertAll l g g1 h.1 h1, Prices.wf_insertAll l' g' g1' h.2.1 h2, ?_⟩
      intro a b
      rw [Prices.edge_insertAll l g g1 h1, Prices.edge_insertAll l' g' g1' h2, hl.latest a b, h.2.2 a b]


def toDecl (p : Price) : Decl := ⟨p.commodity, p.price, p.target⟩

theorem pricesDay_eq (v : Commodity) (st : BalState) (d : Day) :
    Balance.pricesDay v st d =
      match insertAll st.graph (d.prices.map toDecl) with
      | some g => .ok { st with graph := g, norm := if d.prices.isEmpty then st.norm else some (normalize g v) }
      | none => .error BalErr.zeroPrice := by
  unfold Balance.pricesDay
  refine (congrArg (· >>= _) (Prices.foldlM_insert_eq_insertAll BalErr.zeroPrice toDecl d.prices st.graph)).trans ?_
  cases insertAll st.graph (d.prices.map toDecl) <;> rfl


def DayEquivP (d d' : Day) : Prop := DayEquiv d d' ∧ DeclsEquiv (d.prices.map toDecl) (d'.prices.map toDecl)

theorem dayEquivP_of_eq {d d' : Day} (h : DayEquiv d d') (hp : d.prices = d'.prices) : DayEquivP d d' :=
  ⟨h, Or.inl (by rw [hp])⟩

theorem dayEquivP_refl (d : Day) : DayEquivP d d := ⟨dayEquiv_refl d, Or.inl rfl⟩

/-- the valuation parts of two runs: the same price graph (`GEq`), the same tables, the same quantities up to key order -/
structure RelVal (v v' : Balance.VSt) : Prop where
  graph : GEq v.graph v'.graph
  norm : v.norm = v'.norm
  vPrev : v.vPrev = v'.vPrev
  vq : AMap.Same v.vQty v'.vQty

/-- the closing parts: the same accumulators up to key order -/
structure RelClose (c c' : Balance.CSt) : Prop where
  cq : AMap.Same c.cQty c'.cQty
  cv : ∀ k, c.cVal.find? k = c'.cVal.find? k

/-- the relation kept between the two runs, part by part; the report inserts up to order -/
structure RelV (st st' : BalState) : Prop where
  chk : ChkEq st.chk st'.chk
  val : RelVal (Balance.vOf st) (Balance.vOf st')
  close : RelClose (Balance.cOf st) (Balance.cOf st')
  ent : st.entries.Perm st'.entries

theorem relV_init : RelV {} {} :=
  ⟨chkEq_init, ⟨geq_nil, rfl, rfl, .nil⟩, ⟨.nil, fun _ => rfl⟩, .refl _⟩

theorem checkStage_sim {st st' : BalState} (r : ChkEq st.chk st'.chk) {d d' : Day} (hd : DayEquiv d d') :
    PSim (fun s s' => ChkEq s.chk s'.chk) (Balance.checkStage st d) (Balance.checkStage st' d') := by
  unfold Balance.checkStage
  have := chk_day r hd
  revert this
  cases Check.day st.chk d <;> cases Check.day st'.chk d' <;> intro this <;> exact this

theorem pricesDay_sim (v : Commodity) {st st' : BalState} (r : RelVal (Balance.vOf st) (Balance.vOf st')) {d d' : Day}
    (hd : DayEquivP d d') :
    PSim (fun s s' => RelVal (Balance.vOf s) (Balance.vOf s')) (Balance.pricesDay v st d) (Balance.pricesDay v st' d') := by
  rw [pricesDay_eq, pricesDay_eq]
  have hg : GEq st.graph st'.graph := r.graph
  have h := insertAll_geq hg hd.2
  have he : d.prices.isEmpty = d'.prices.isEmpty := by
    rw [← List.isEmpty_map (f := toDecl), ← List.isEmpty_map (f := toDecl) (l := d'.prices)]; exact hd.2.perm.isEmpty_eq
  revert h
  cases insertAll st.graph (d.prices.map toDecl) <;> cases insertAll st'.graph (d'.prices.map toDecl) <;>
    intro h <;> simp only [PSim, Sim] at h ⊢
  refine { r with graph := h, norm := ?_ }
  show (if d.prices.isEmpty then st.norm else _) = (if d'.prices.isEmpty then st'.norm else _)
  rw [he, show st.norm = st'.norm from r.norm, normalize_geq h]

theorem valuateDay_eq (v : Commodity) (st : BalState) (d : Day) : Balance.valuateDay v st d =
    (Balance.adjustments v d.date st.vPrev st.norm st.vQty >>= fun adj =>
      (d.transactions ++ adj).mapM (Balance.valueTx v st.norm) >>= fun txs =>
        .ok ({ st with vQty := Balance.addQty st.vQty (d.transactions ++ adj), vPrev := st.norm }, txs)) := rfl

/-- what the valuation stages hand on: related valuation parts, the day's transactions up to order -/
def RelP (x x' : Balance.VSt × List Transaction) : Prop := RelVal x.1 x'.1 ∧ x.2.Perm x'.2

theorem valuateDay_sim (v : Commodity) {st st' : BalState} (r : RelVal (Balance.vOf st) (Balance.vOf st')) {d d' : Day}
    (hd : DayEquiv d d') :
    PSim (fun x x' => RelP (Balance.vOf x.1, x.2) (Balance.vOf x'.1, x'.2))
      (Balance.valuateDay v st d) (Balance.valuateDay v st' d') := by
  have hp : st.vPrev = st'.vPrev := r.vPrev
  have hn : st.norm = st'.norm := r.norm
  rw [valuateDay_eq, valuateDay_eq, ← hd.1, ← hp, ← hn]
  refine bind_sim (adjustments_perm v d.date st.vPrev st.norm r.vq.perm) fun adj adj' ha => ?_
  have hall : (d.transactions ++ adj).Perm (d'.transactions ++ adj') := hd.2.2.1.append ha
  refine bind_sim (mapM_perm_sim _ hall) fun txs txs' ht => ⟨{ r with norm := rfl, vPrev := rfl, vq := ?_ }, ht⟩
  show AMap.Same (Balance.addQty _ _) (Balance.addQty _ _)
  rw [Balance.addQty_eq, Balance.addQty_eq]
  exact r.vq.bumps ((hall.flatMap_right _).filterMap _)

theorem vStage_sim (cfg : BalCfg) {v v' : Balance.VSt} (r : RelVal v v') {d d' : Day} (hd : DayEquivP d d') :
    PSim RelP (Balance.vStage cfg v d) (Balance.vStage cfg v' d') := by
  unfold Balance.vStage
  refine map_sim (R := fun x x' => RelP (Balance.vOf x.1, x.2) (Balance.vOf x'.1, x'.2)) ?_ fun _ _ h => h
  unfold Balance.valuationStage
  cases cfg.valuation with
  | none => exact ⟨r, hd.1.2.2.1⟩
  | some w =>
    exact bind_sim (pricesDay_sim w (st := Balance.join {} v {} []) (st' := Balance.join {} v' {} []) r hd)
      (fun s s' rs => valuateDay_sim w rs hd.1)

theorem filterStage_perm (cfg : BalCfg) {d d' : Day} (hd : DayEquiv d d') {txs txs' : List Transaction}
    (h : txs.Perm txs') : (Balance.filterStage cfg d txs).Perm (Balance.filterStage cfg d' txs') := by
  unfold Balance.filterStage
  rw [← hd.1]
  split
  · exact h
  · exact List.Perm.refl _

/-- **CloseAccounts** on the closing parts: the closing transactions follow the key order of the accumulators, so what
is handed to Query is the same up to order -/
theorem cStage_sim (cfg : BalCfg) {c c' : Balance.CSt} (r : RelClose c c') {d d' : Day} (hd : d.date = d'.date)
    {txs txs' : List Transaction} (ht : txs.Perm txs') :
    RelClose (Balance.cStage cfg c d txs).1 (Balance.cStage cfg c' d' txs').1 ∧
      (Balance.cStage cfg c d txs).2.Perm (Balance.cStage cfg c' d' txs').2 := by
  cases hc : cfg.close with
  | false => rw [Balance.cStage_noClose hc, Balance.cStage_noClose hc]; exact ⟨r, ht⟩
  | true =>
    rw [Balance.cStage_close hc, Balance.cStage_close hc]
    have hcl : (Balance.closingsAt cfg c d).Perm (Balance.closingsAt cfg c' d') := by
      unfold Balance.closingsAt
      rw [← hd]
      split
      · exact closings_perm _ r.cq r.cv
      · exact List.Perm.refl _
    have hall := ht.append hcl
    have hps := hall.flatMap_right (·.postings)
    rw [Balance.accC_eq, Balance.accC_eq]
    exact ⟨⟨r.cq.bumps (hps.filterMap _), AMap.find?_bumps_perm (hps.filterMap _) r.cv⟩, hall⟩

theorem day_sim (cfg : BalCfg) {st st' : BalState} (r : RelV st st') {d d' : Day} (hd : DayEquivP d d') :
    PSim RelV (Balance.day cfg st d) (Balance.day cfg st' d') := by
  rw [Balance.day_eq, Balance.day_eq]
  refine bind_sim (checkStage_sim r.chk hd.1) fun s s' rs => ?_
  refine bind_sim (vStage_sim cfg r.val hd) fun x x' rx => ?_
  obtain ⟨rc, hq⟩ := cStage_sim cfg r.close hd.1.1 (filterStage_perm cfg hd.1 rx.2)
  exact ⟨rs, rx.1, rc, r.ent.append (hq.flatMap_right _)⟩

theorem run_sim (cfg : BalCfg) {days days' : List Day} (h : List.Forall₂ DayEquivP days days') :
    ∀ (st st' : BalState), RelV st st' →
      PSim RelV (days.foldlM (Balance.day cfg) st) (days'.foldlM (Balance.day cfg) st') :=
  foldlM_forall₂_sim (f := Balance.day cfg) (g := Balance.day cfg) (fun _ _ _ _ hd r => day_sim cfg r hd) h

/-! ### unvalued runs do not read the prices -/

def noPrices (d : Day) : Day := { d with prices := [] }

theorem day_noPrices {cfg : BalCfg} (hv : cfg.valuation = none) (st : BalState) (d : Day) :
    Balance.day cfg st (noPrices d) = Balance.day cfg st d := by
  rw [Balance.day_eq, Balance.day_eq, Balance.vStage_none hv, Balance.vStage_none hv]; rfl

theorem dayEquivP_noPrices : ∀ {days days' : List Day}, List.Forall₂ DayEquiv days days' →
    List.Forall₂ DayEquivP (days.map noPrices) (days'.map noPrices)
  | _, _, .nil => .nil
  | _, _, .cons h hs => .cons ⟨h, Or.inl rfl⟩ (dayEquivP_noPrices hs)

theorem run_sim_unvalued (cfg : BalCfg) (hv : cfg.valuation = none) {days days' : List Day}
    (h : List.Forall₂ DayEquiv days days') (st st' : BalState) (r : RelV st st') :
    PSim RelV (days.foldlM (Balance.day cfg) st) (days'.foldlM (Balance.day cfg) st') := by
  have e : ∀ (l : List Day) (s : BalState), l.foldlM (Balance.day cfg) s = (l.map noPrices).foldlM (Balance.day cfg) s :=
    fun l s => by rw [List.foldlM_map]; simp only [day_noPrices hv]
  rw [e days, e days']
  exact run_sim cfg (dayEquivP_noPrices h) st st' r

end Knut.InsertsPermValued
