import Knut.Spec.LayoutSpec
import Knut.Proofs.PrintJournal
import Knut.Proofs.ElabAgree
import Knut.Proofs.Commands
/-!
# The command model's elaboration (`Commands.elabDirective`) on printed directives (C05 layout, C09 text round trip)

A file written with the printer's functions and `include` lines is a rendering (`Rend`, `Proofs/PrintedText.lean`), so it
is read with the views it was written from (`Rend.fileViews`). On these views the byte-based loader returns the file's
directives and skips the includes (`loadViews_fitems`, `Proofs/LoadViewsPrinted.lean`), the command model's elaboration returns the same
(`FileViews.elabFile_ok`, from the agreement of the two elaborations), and the include callback is handed the include
paths (`FileViews.includePaths`): `file_loads`. For a single directive: `elabDirective_printed`.
-/
namespace Knut.Layout
open Knut Knut.Syntax Knut.Utf8 Knut.Commands Knut.FromSyntax Knut.JournalPrinter Knut.Dec

theorem strOf_flat_strToks (s : String) : strOf (flat (strToks s)) = s := by
  rw [flat_strToks, ElabAgree.strOf_strBytes]

theorem textOf_extract {text : Commands.Bytes} {r : Range} {bs : Commands.Bytes} (h : r.extract text = some bs) :
    textOf text r = strOf bs := by
  rw [textOf, ElabAgree.slice_of_extract h]

theorem cparseDate_fmtDate (z : Int) (h0 : minDate ≤ z) (h1 : z ≤ maxDate) : Commands.parseDate (fmtDate z) = some z := by
  rw [← ElabAgree.parseDate_agree, ← flat_strToks, strToks, fmtDate_toList]
  exact parseDate_fmtDate z h0 h1

theorem elabDirective_printed {text : Commands.Bytes} {d : Syntax.Directive} (x : Directive) (hx : PrintableDir x)
    (h : viewDirective text d = some (dirView x).bytes) : elabDirective text d = .ok [x] := by
  have hag := ElabAgree.elabDirective_agree h (dirView_ok x hx).1 (dirView_ok x hx).2
  rw [itemV_dirView x hx] at hag
  rw [show elabDirective text d = ElabAgree.stepM (itemOf x) from hag]
  cases x with
  | tx t => simp only [itemOf, ElabAgree.stepM, create_txInput t hx, List.map_cons, List.map_nil]
  | _ => rfl

theorem includePaths_cons (text : Commands.Bytes) (d : Syntax.Directive) (ds : List Syntax.Directive) :
    includePaths text (d :: ds) = includePaths text [d] ++ includePaths text ds := by
  simp only [includePaths, List.filterMap_cons, List.filterMap_nil]
  split <;> simp

/-- what the include callback is handed for a field view -/
def incOf : DirT → Option String
  | .include p => some (strOf (flat p))
  | _ => none

theorem _root_.Knut.FromSyntax.FileViews.includePaths {path : String} {text : Commands.Bytes} {f : Syntax.File}
    {vs : List DirT} (h : FileViews path text f vs) : includePaths text f.directives = vs.filterMap incOf := by
  have hf := forall₂_of_mapM (viewDirective text) DirT.bytes _ vs h.views
  generalize f.directives = ds at hf
  clear h
  induction hf with
  | nil => rfl
  | @cons d v ds vs hv _ ih =>
    rw [includePaths_cons, ih, List.filterMap_cons]
    have hi := ElabAgree.viewDirective_inv hv
    cases v
    case «include» p =>
      obtain ⟨_, hb, hx⟩ := hi
      simp only [Commands.includePaths, List.filterMap_cons, List.filterMap_nil, hb, incOf, textOf_extract hx,
        List.singleton_append]
    all_goals
      obtain ⟨_, hb, _⟩ := hi
      simp only [Commands.includePaths, List.filterMap_cons, List.filterMap_nil, hb, incOf, List.nil_append]

/-- **a file written with the functions of `journal.Print` and `include` lines**: it parses, the command model
elaborates it to exactly its directives, in order, and the loader is handed exactly its include paths, in order -/
theorem file_loads (pad : Nat) (path : String) (its : List FItem) (hg : ∀ i ∈ its, i.Good) :
    ∃ f, parseText path (strBytes (String.join (its.map (FItem.text pad)))) = .ok f ∧
      elabFile (strBytes (String.join (its.map (FItem.text pad))), f) = .ok (its.filterMap FItem.dir?) ∧
      includePaths (strBytes (String.join (its.map (FItem.text pad)))) f.directives =
        its.filterMap FItem.inc? := by
  have hr : Rend pad (String.join (its.map (FItem.text pad))) (its.map FItem.item) (its.map FItem.view) :=
    Rend.lines _ _ _ its fun i hi => Rend.item (i.toks pad (hg i hi)) (i.good_item (hg i hi))
  obtain ⟨f, hf⟩ := hr.fileViews path
  refine ⟨f, hf.parse, hf.elabFile_ok (loadViews_fitems its hg), ?_⟩
  rw [hf.includePaths, List.filterMap_map]
  refine congrArg (List.filterMap · its) (funext fun i => ?_)
  rcases i with x | sp
  · cases x <;> rfl
  · simp only [Function.comp, FItem.view, incOf, strOf_flat_strToks, FItem.inc?]

end Knut.Layout
