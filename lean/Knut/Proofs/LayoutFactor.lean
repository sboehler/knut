import Knut.Spec.LayoutSpec
import Knut.Proofs.InsertsPerm
import Knut.Proofs.Accrual
import Knut.Proofs.ListMapM
/-!
# `Cmd.run` factors through `journalOf`; what every loaded journal satisfies (C05, layout)

`run_check_eq`, `run_balance_eq`, `run_print_eq`: the three commands as functions of `journalOf fs f.path`; for `check --write`
the outcome class is the checker's (`checkWrite_isOk`). Every journal that loads books on accounts with a type only
(`journalOf_wf`, from `create_wf` per transaction), which discharges the well-formedness hypothesis of the permutation theorems.
-/
namespace Knut.Layout
open Knut Knut.Loader Knut.Commands Knut.InsertsPerm

theorem fromPath_eq_journalOf (fs : FileSys) (root : Path) : fromPath fs root = journalOf fs root := rfl

theorem run_check_eq (fs : FileSys) (f : Flags) :
    Cmd.run .check fs f = (match journalOf fs f.path with | .error o => o | .ok ds => checkOn f.write ds) := by
  show runCheck fs f = _
  unfold runCheck
  rw [fromPath_eq_journalOf]
  cases journalOf fs f.path with
  | error o => rfl
  | ok ds =>
    simp only [bind, Except.bind, checkOn]
    cases checkWrite {} (Builder.ofList ds).build with
    | error e => rfl
    | ok as => cases f.write <;> rfl

theorem run_check_of_journal {fs : FileSys} {f : Flags} {ds : List Directive} (h : journalOf fs f.path = .ok ds) :
    Cmd.run .check fs f = checkOn f.write ds := by
  rw [run_check_eq, h]

theorem run_balance_eq (fs : FileSys) (f : Flags) :
    Cmd.run .balance fs f = balanceOn f.balance (journalOf fs f.path) := by
  show runBalance fs f = _
  unfold runBalance balanceOn
  rw [fromPath_eq_journalOf]
  cases commodityFlag f.balance.valuation with
  | error o => rfl
  | ok v => cases journalOf fs f.path <;> rfl

theorem run_print_eq (fs : FileSys) (f : Flags) :
    Cmd.run .print fs f = (match journalOf fs f.path with | .error o => o | .ok ds => printOn ds) := by
  show runPrint fs f = _
  unfold runPrint
  rw [fromPath_eq_journalOf]
  cases journalOf fs f.path with
  | error o => rfl
  | ok ds =>
    simp only [bind, Except.bind, printOn]
    cases Check.run (Builder.ofList ds).build <;> rfl

theorem isOk_eq_cases {ε ε' α β : Type} {a : Except ε α} {b : Except ε' β} (h : a.isOk = b.isOk) :
    (∃ e e', a = .error e ∧ b = .error e') ∨ ∃ x y, a = .ok x ∧ b = .ok y := by
  cases a with
  | error e =>
    cases b with
    | error e' => exact Or.inl ⟨e, e', rfl, rfl⟩
    | ok y => cases h
  | ok x =>
    cases b with
    | error e' => cases h
    | ok y => exact Or.inr ⟨x, y, rfl, rfl⟩

theorem checkWrite_isOk : ∀ (days : List Day) (st : CheckState),
    (checkWrite st days).isOk = (days.foldlM Check.day st).isOk
  | [], st => rfl
  | d :: rest, st => by
    simp only [checkWrite, List.foldlM_cons]
    cases h : Check.day st d with
    | error e => rfl
    | ok st' =>
      have ih := checkWrite_isOk rest st'
      simp only [bind, Except.bind]
      rw [← ih]
      cases checkWrite st' rest <;> rfl

theorem checkWrite_isOk_run (days : List Day) : (checkWrite {} days).isOk = (Check.run days).isOk :=
  checkWrite_isOk days {}

theorem checkOn_of_accepted {ds : List Directive} (h : (Check.run (Builder.ofList ds).build).isOk = true) :
    checkOn false ds = .ok "" := by
  rw [← checkWrite_isOk_run] at h
  unfold checkOn
  cases hc : checkWrite {} (Builder.ofList ds).build with
  | error e => rw [hc] at h; cases h
  | ok as => rfl

theorem postingBuild_wf (cr dr : Account) (c : Commodity) (q : Rat) (h1 : cr.wf = true) (h2 : dr.wf = true) :
    ∀ p ∈ postingBuild cr dr c q, p.account.wf = true := by
  intro p hp
  rcases mem_postingBuild hp with rfl | rfl <;> assumption

open Knut.Accrual in
/-- everything `transaction.Create` returns books on accounts with an account type (the registry's check) -/
theorem create_wf (t : TxInput) (gen : List Transaction) (h : create t = .ok gen) :
    ∀ g ∈ gen, ∀ q ∈ g.postings, q.account.wf = true := by
  obtain ⟨hb, ha, hm⟩ := create_made h
  have hps : ∀ p ∈ postingsOf t.bookings, p.account.wf = true := fun p hp => by
    obtain ⟨b, hbm, hpb⟩ := List.mem_flatMap.mp hp
    exact postingBuild_wf _ _ _ _ (hb b hbm).1 (hb b hbm).2 p hpb
  intro g hg
  cases hm g hg with
  | plain => exact hps
  | moved e hp | part e hp => exact postingBuild_wf _ _ _ _ (ha _ e).1 (hps _ hp)

theorem dirsWF_single {x : Directive} (h : ∀ t, x ≠ .tx t) : DirsWF [x] :=
  fun t ht => absurd (List.mem_singleton.mp ht).symm (h t)

theorem elabDirective_wf (text : Commands.Bytes) (d : Syntax.Directive) (xs : List Directive) (h : elabDirective text d = .ok xs) :
    DirsWF xs := by
  unfold elabDirective at h
  split at h
  · -- a transaction: whatever `transaction.Create` returns
    rename_i t _
    obtain ⟨inp, _, h⟩ := bindOk_iff.mp h
    split at h
    · rename_i txs hc
      cases Except.ok.inj h
      intro u hu p hp
      obtain ⟨g, hg, hgu⟩ := List.mem_map.mp hu
      cases hgu
      exact create_wf inp txs hc _ hg p hp
    · cases h
    · cases h
  -- the other kinds: one directive that is no transaction, or none
  · obtain ⟨_, _, h⟩ := bindOk_iff.mp h
    obtain ⟨_, _, h⟩ := bindOk_iff.mp h
    cases Except.ok.inj h
    exact dirsWF_single nofun
  · obtain ⟨_, _, h⟩ := bindOk_iff.mp h
    obtain ⟨_, _, h⟩ := bindOk_iff.mp h
    cases Except.ok.inj h
    exact dirsWF_single nofun
  · obtain ⟨_, _, h⟩ := bindOk_iff.mp h
    obtain ⟨_, _, h⟩ := bindOk_iff.mp h
    cases Except.ok.inj h
    exact dirsWF_single nofun
  · obtain ⟨_, _, h⟩ := bindOk_iff.mp h
    obtain ⟨_, _, h⟩ := bindOk_iff.mp h
    obtain ⟨_, _, h⟩ := bindOk_iff.mp h
    obtain ⟨_, _, h⟩ := bindOk_iff.mp h
    cases Except.ok.inj h
    exact dirsWF_single nofun
  · cases Except.ok.inj h
    exact fun t ht => nomatch ht

theorem dirsWF_flatten {xss : List (List Directive)} (h : ∀ xs ∈ xss, DirsWF xs) : DirsWF xss.flatten := by
  intro t ht
  obtain ⟨xs, hxs, hx⟩ := List.mem_flatten.mp ht
  exact h xs hxs t hx

theorem elabFile_wf (tf : Commands.Bytes × Syntax.File) (ds : List Directive) (h : elabFile tf = .ok ds) : DirsWF ds := by
  obtain ⟨xss, hm, rfl⟩ := map_eq_ok.mp h
  exact dirsWF_flatten (mapM_ok_forall hm (fun d _ xs hx => elabDirective_wf tf.1 d xs hx))

theorem journalOfFiles_wf (files : List LoadedFile) (ds : List Directive) (h : journalOfFiles files = .ok ds) : DirsWF ds := by
  obtain ⟨xss, hm, rfl⟩ := map_eq_ok.mp h
  exact dirsWF_flatten (mapM_ok_forall hm (fun pf _ xs hx => elabFile_wf pf.2 xs hx))

theorem journalOf_wf (fs : FileSys) (root : Path) (ds : List Directive) (h : journalOf fs root = .ok ds) : DirsWF ds := by
  unfold journalOf at h
  split at h
  · cases h
  · exact journalOfFiles_wf _ ds h

end Knut.Layout
