import Knut.Proofs.LayoutElab
import Knut.Proofs.Loader
/-!
# The loader on a layout tree (C05, constructive side)

`journalOf_layout`: for a layout tree `t` (`Spec/LayoutSpec.lean`) whose directives are printable, whose include
spellings resolve to the paths of the included files and whose files have pairwise different cleaned paths, the file
system that holds the rendered files loads, from the root, exactly `t.journal`: the directives file by file, depth first.
-/
namespace Knut.Layout
open Knut Knut.Loader Knut.Commands Knut.FromSyntax Knut.Syntax Knut.Utf8

def LItems.flat : LItems → List FItem
  | .nil => []
  | .dir x rest => .inl x :: rest.flat
  | .inc sp _ rest => .inr sp :: rest.flat

theorem LItems.text_flat (pad : Nat) : ∀ (items : LItems), items.text pad = String.join (items.flat.map (FItem.text pad))
  | .nil => rfl
  | .dir x rest => by
    simp only [LItems.text, LItems.flat, List.map_cons, String.join_cons, FItem.text]
    rw [LItems.text_flat pad rest]
  | .inc sp _ rest => by
    simp only [LItems.text, LItems.flat, List.map_cons, String.join_cons, FItem.text]
    rw [LItems.text_flat pad rest]

theorem LItems.own_flat : ∀ (items : LItems),
    items.own = items.flat.filterMap FItem.dir?
  | .nil => rfl
  | .dir x rest => by simp only [LItems.own, LItems.flat, List.filterMap_cons, FItem.dir?]; rw [LItems.own_flat rest]
  | .inc sp _ rest => by simp only [LItems.own, LItems.flat, List.filterMap_cons, FItem.dir?]; rw [LItems.own_flat rest]

theorem LItems.incs_flat : ∀ (items : LItems),
    items.incs.map (·.1) = items.flat.filterMap FItem.inc?
  | .nil => rfl
  | .dir x rest => by simp only [LItems.incs, LItems.flat, List.filterMap_cons, FItem.inc?]; rw [LItems.incs_flat rest]
  | .inc sp _ rest => by simp only [LItems.incs, LItems.flat, List.filterMap_cons, List.map_cons, FItem.inc?]; rw [LItems.incs_flat rest]

theorem LItems.flat_good : ∀ (items : LItems), (∀ x ∈ items.own, PrintableDir x) → (∀ i ∈ items.incs, '"' ∉ i.1.toList) →
    ∀ i ∈ items.flat, i.Good
  | .nil, _, _ => by intro i hi; cases hi
  | .dir x rest, h1, h2 => by
    intro i hi
    simp only [LItems.flat, List.mem_cons] at hi
    rcases hi with rfl | hi
    · exact h1 x (by simp [LItems.own])
    · exact LItems.flat_good rest (fun y hy => h1 y (by simp [LItems.own, hy])) (fun j hj => h2 j (by simpa [LItems.incs] using hj)) i hi
  | .inc sp c rest, h1, h2 => by
    intro i hi
    simp only [LItems.flat, List.mem_cons] at hi
    rcases hi with rfl | hi
    · exact h2 (sp, c) (by simp [LItems.incs])
    · exact LItems.flat_good rest (fun y hy => h1 y (by simpa [LItems.own] using hy))
        (fun j hj => h2 j (by simp [LItems.incs, hj])) i hi

def NodeOK (fs : FileSys) (pad : Nat) (n : Path × LItems) : Prop :=
  fs.read n.1 = some (fileBytes (n.2.text pad)) ∧ (∀ x ∈ n.2.own, PrintableDir x) ∧
    ∀ i ∈ n.2.incs, '"' ∉ i.1.toList ∧ resolve n.1 i.1 = i.2.path

theorem node_loads (pad : Nat) (p : Path) (items : LItems) (h1 : ∀ x ∈ items.own, PrintableDir x)
    (h2 : ∀ i ∈ items.incs, '"' ∉ i.1.toList) :
    ∃ f, parseForLoader p (fileBytes (items.text pad)) =
        { includes := items.incs.map (·.1), result := .ok (fileBytes (items.text pad), f) } ∧
      elabFile (fileBytes (items.text pad), f) = .ok items.own := by
  have hb : fileBytes (items.text pad) = strBytes (String.join (items.flat.map (FItem.text pad))) := by
    unfold fileBytes; rw [strBytes_toUTF8, LItems.text_flat]
  rw [hb]
  obtain ⟨f, hp, he, hi⟩ := file_loads pad p items.flat (items.flat_good h1 h2)
  refine ⟨f, ?_, ?_⟩
  · rw [parseForLoader_ok hp, hi, LItems.incs_flat]
  · rw [he, LItems.own_flat]

theorem journalOfFiles_nil : journalOfFiles [] = .ok [] := rfl

theorem journalOfFiles_cons_iff {pf : LoadedFile} {files : List LoadedFile} {zs : List Directive} :
    journalOfFiles (pf :: files) = .ok zs ↔
      ∃ xs ys, elabFile pf.2 = .ok xs ∧ journalOfFiles files = .ok ys ∧ zs = xs ++ ys := by
  constructor
  · intro h
    obtain ⟨xss, hm, rfl⟩ := map_eq_ok.mp h
    obtain ⟨xs, yss, h1, h2, rfl⟩ := mapM_cons_ok.mp hm
    exact ⟨xs, yss.flatten, h1, map_eq_ok.mpr ⟨yss, h2, rfl⟩, rfl⟩
  · rintro ⟨xs, ys, h1, h2, rfl⟩
    obtain ⟨yss, hm, rfl⟩ := map_eq_ok.mp h2
    exact map_eq_ok.mpr ⟨xs :: yss, mapM_cons_ok.mpr ⟨xs, yss, h1, hm, rfl⟩, rfl⟩

theorem journalOfFiles_append : ∀ {a b : List LoadedFile} {xs ys : List Directive},
    journalOfFiles a = .ok xs → journalOfFiles b = .ok ys → journalOfFiles (a ++ b) = .ok (xs ++ ys)
  | [], b, xs, ys, h1, h2 => by cases h1; exact h2
  | pf :: a, b, xs, ys, h1, h2 => by
    obtain ⟨x1, x2, e1, e2, rfl⟩ := journalOfFiles_cons_iff.mp h1
    rw [List.cons_append, List.append_assoc]
    exact journalOfFiles_cons_iff.mpr ⟨_, _, e1, journalOfFiles_append e2 h2, rfl⟩

theorem inChain_false {anc : List Path} {file : Path} (h : ∀ a ∈ anc, pathClean a ≠ pathClean file) :
    inChain anc file = false := by
  unfold inChain
  rw [Bool.eq_false_iff]
  intro hc
  obtain ⟨a, ha, he⟩ := List.any_eq_true.mp hc
  exact h a ha (by simpa using he)

mutual
theorem load_tree (fs : FileSys) (pad : Nat) : ∀ (t : LTree), (∀ n ∈ t.nodes, NodeOK fs pad n) →
    (t.nodes.map (fun n => pathClean n.1)).Nodup →
    ∀ anc : List Path, (∀ a ∈ anc, ∀ n ∈ t.nodes, pathClean a ≠ pathClean n.1) →
    ∃ files, loadRec fs parseForLoader t.path anc = .ok files ∧ journalOfFiles files = .ok t.journal
  | .node p items, hok, hnd, anc, hanc => by
    have hn : (p, items) ∈ (LTree.node p items).nodes := by simp [LTree.nodes]
    obtain ⟨hread, hdirs, hincs⟩ := hok _ hn
    obtain ⟨f, hparse, helab⟩ := node_loads pad p items hdirs (fun i hi => (hincs i hi).1)
    have hc : inChain anc p = false := inChain_false (fun a ha => hanc a ha _ hn)
    simp only [LTree.nodes, List.map_cons, List.nodup_cons] at hnd
    have hanc' : ∀ a ∈ anc ++ [p], ∀ n ∈ items.childNodes, pathClean a ≠ pathClean n.1 := by
      intro a ha n hnm
      rcases List.mem_append.mp ha with ha | ha
      · exact hanc a ha n (by simp [LTree.nodes, hnm])
      · simp only [List.mem_singleton] at ha
        subst ha
        intro e
        exact hnd.1 (List.mem_map.mpr ⟨n, hnm, e.symm⟩)
    obtain ⟨files, hcol, hj⟩ := load_items fs pad items (fun n hnm => hok n (by simp [LTree.nodes, hnm])) hnd.2 p (anc ++ [p])
      (fun i hi => (hincs i hi).2) hanc'
    refine ⟨(p, (fileBytes (items.text pad), f)) :: files, ?_, ?_⟩
    · rw [LTree.path, loadRec_read _ _ _ _ _ hc hread]
      simp only [body, hparse, List.map_map]
      have : ((fun inc => loadRec fs parseForLoader (resolve p inc) (anc ++ [p])) ∘ fun (x : String × LTree) => x.1) =
          fun i => loadRec fs parseForLoader (resolve p i.1) (anc ++ [p]) := rfl
      rw [this, hcol]
    · have := (journalOfFiles_cons_iff (pf := (p, (fileBytes (items.text pad), f)))).mpr ⟨_, _, helab, hj, rfl⟩
      simpa [LTree.journal, LTree.nodes] using this
theorem load_items (fs : FileSys) (pad : Nat) : ∀ (items : LItems), (∀ n ∈ items.childNodes, NodeOK fs pad n) →
    (items.childNodes.map (fun n => pathClean n.1)).Nodup →
    ∀ (parent : Path) (anc : List Path), (∀ i ∈ items.incs, resolve parent i.1 = i.2.path) →
    (∀ a ∈ anc, ∀ n ∈ items.childNodes, pathClean a ≠ pathClean n.1) →
    ∃ files, Loader.collect (items.incs.map (fun i => loadRec fs parseForLoader (resolve parent i.1) anc)) = .ok files ∧
      journalOfFiles files = .ok (items.childNodes.flatMap (fun n => n.2.own))
  | .nil, _, _, _, _, _, _ => ⟨[], rfl, rfl⟩
  | .dir x rest, hok, hnd, parent, anc, hres, hanc => by
    simp only [LItems.childNodes, LItems.incs] at hok hnd hres hanc ⊢
    exact load_items fs pad rest hok hnd parent anc hres hanc
  | .inc sp c rest, hok, hnd, parent, anc, hres, hanc => by
    simp only [LItems.childNodes, LItems.incs, List.map_append, List.nodup_append, List.mem_append, List.mem_cons,
      List.flatMap_append, List.map_cons] at hok hnd hres hanc ⊢
    obtain ⟨f1, h1, j1⟩ := load_tree fs pad c (fun n hn => hok n (Or.inl hn)) hnd.1 anc (fun a ha n hn => hanc a ha n (Or.inl hn))
    obtain ⟨f2, h2, j2⟩ := load_items fs pad rest (fun n hn => hok n (Or.inr hn)) hnd.2.1 parent anc
      (fun i hi => hres i (Or.inr hi)) (fun a ha n hn => hanc a ha n (Or.inr hn))
    have e : resolve parent sp = c.path := hres (sp, c) (Or.inl rfl)
    refine ⟨f1 ++ f2, ?_, journalOfFiles_append j1 j2⟩
    simp only [Loader.collect, e, h1, h2]
end

theorem lookup_of_nodup {α β : Type} [BEq α] [LawfulBEq α] : ∀ {l : List (α × β)} {a : α} {b : β},
    (l.map (·.1)).Nodup → (a, b) ∈ l → l.lookup a = some b
  | [], _, _, _, h => by cases h
  | (k, v) :: rest, a, b, hnd, h => by
    simp only [List.map_cons, List.nodup_cons] at hnd
    rcases List.mem_cons.mp h with e | hr
    · cases e; simp
    · have hne : a ≠ k := by
        intro e
        exact hnd.1 (List.mem_map.mpr ⟨(a, b), hr, e⟩)
      rw [List.lookup_cons]
      have : (a == k) = false := by simpa using hne
      rw [this]
      exact lookup_of_nodup hnd.2 hr

theorem journalOf_layout (pad : Nat) (t : LTree) (fs : FileSys)
    (hfs : ∀ n ∈ t.nodes, fs.read n.1 = some (fileBytes (n.2.text pad)))
    (hdirs : ∀ x ∈ t.journal, PrintableDir x)
    (hedges : ∀ e ∈ t.edges, '"' ∉ e.2.1.toList ∧ resolve e.1 e.2.1 = e.2.2)
    (hpaths : (t.nodes.map (fun n => pathClean n.1)).Nodup) :
    journalOf fs t.path = .ok t.journal := by
  have hok : ∀ n ∈ t.nodes, NodeOK fs pad n := by
    intro n hn
    refine ⟨hfs n hn, ?_, ?_⟩
    · intro x hx
      exact hdirs x (List.mem_flatMap.mpr ⟨n, hn, hx⟩)
    · intro i hi
      exact hedges (n.1, i.1, i.2.path) (List.mem_flatMap.mpr ⟨n, hn, List.mem_map.mpr ⟨i, hi, rfl⟩⟩)
  obtain ⟨files, hl, hj⟩ := load_tree fs pad t hok hpaths [] (by intro a ha; cases ha)
  unfold journalOf load
  rw [hl]
  exact hj

mutual
theorem journal_perm_reading : ∀ (t : LTree), t.journal.Perm t.reading
  | .node p items => by
    have := childJournal_perm items
    simp only [LTree.journal, LTree.nodes, List.flatMap_cons, LTree.reading]
    exact this
theorem childJournal_perm : ∀ (items : LItems),
    (items.own ++ items.childNodes.flatMap (fun n => n.2.own)).Perm items.reading
  | .nil => List.Perm.refl _
  | .dir x rest => by
    simp only [LItems.own, LItems.childNodes, LItems.reading, List.cons_append]
    exact (childJournal_perm rest).cons x
  | .inc sp c rest => by
    simp only [LItems.own, LItems.childNodes, LItems.reading, List.flatMap_append]
    have h1 := journal_perm_reading c
    have h2 := childJournal_perm rest
    unfold LTree.journal at h1
    -- own(rest) ++ (J(c) ++ CJ(rest)) ~ J(c) ++ (own(rest) ++ CJ(rest))
    refine List.Perm.trans ?_ (h1.append h2)
    rw [← List.append_assoc, ← List.append_assoc]
    exact List.Perm.append_right _ List.perm_append_comm
end

end Knut.Layout
