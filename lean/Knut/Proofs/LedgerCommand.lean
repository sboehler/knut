import Knut.Model.BalanceCmd
import Knut.Proofs.Builder
import Knut.Proofs.BalanceLift
import Knut.Proofs.InsertsPerm
import Knut.Proofs.LedgerClose
/-!
# The balance command over `cfgOf` / `daysOf` (C01, C02, C03 and C05 at the command level)

What `BalanceCmd.entries` hands to the pipeline (`cfgOf`, `daysOf`) satisfies the hypotheses of `C02_close` / `C02_noclose`:
`Builder.ofList` / `Builder.ensureDays` keep the days sorted, file every transaction under its date (instances of `DaysAll`,
`Proofs/Builder`) and make every period start the date of a day; the period starts of a partition increase; everything
the loader builds carries value 0 (`PairsHave`).  `BalanceCmd.run` and `BalanceCmd.runSpec` are restated over `cfgOf` / `daysOf`, as
partition, then pipeline, then rendering (`run_stages`, `runSpec_stages`): two runs of the command are compared stage by stage
(`onPartition_congr`, `outcomeOf_congr`).
-/
namespace Knut.LedgerCommand
open Knut Knut.Spec

/-- **the period starts of every partition `NewPartition` returns are strictly increasing** (all intervals,
with and without `--last`) -/
theorem startDates_increasing {span : Period} {iv : Interval} {last : Int} {P : Partition}
    (h : newPartition span iv last = .ok P) : List.Pairwise (· < ·) P.startDates := by
  rw [Partition.startDates, List.pairwise_map]
  rcases periods_chained h with ⟨hone, _⟩ | ⟨s, _, hch, _⟩
  · rw [hone]; exact List.pairwise_singleton _ _
  · -- in a chain every period ends before the later ones start
    exact hch.sep.imp_of_mem fun hp _ hpq => Int.lt_of_le_of_lt (hch.bounds _ hp).2 hpq


def TxZero (t : Transaction) : Prop := ∀ p ∈ t.postings, p.value = 0

theorem pairsHave_zero : PairsHave (fun ps => ∀ p ∈ ps, p.value = 0) :=
  ⟨fun _ h => (List.not_mem_nil h).elim, postingBuild_value_zero,
    fun ha hb p hp => (List.mem_append.mp hp).elim (ha p) (hb p)⟩

theorem ofBookings_zero (date : Int) (desc : String) (tg : Option (List Commodity)) (bks : List Booking) :
    TxZero (Transaction.ofBookings date desc tg bks) :=
  PairsHave.flatMap pairsHave_zero _ (fun _ => postingBuild_value_zero _ _ _ _) bks

theorem create_zero (t : Accrual.TxInput) (gen : List Transaction) (h : Accrual.create t = .ok gen) :
    ∀ g ∈ gen, TxZero g := create_all pairsHave_zero t gen h

def IdsZero (ids : List (Nat × Directive)) : Prop := ∀ p ∈ ids, ∀ t, p.2 = Directive.tx t → TxZero t

theorem load_go_zero (rest : List Driver.RawDirective) (i : Nat) (acc ids : List (Nat × Directive))
    (hacc : IdsZero acc) (h : Driver.C04.load.go i rest acc = .ok ids) : IdsZero ids :=
  load_go_all pairsHave_zero rest i acc ids hacc h


/-- the pipeline configuration `BalanceCmd.entries` builds from the flags and the partition -/
def cfgOf (f : BalanceFlags) (part : Partition) : BalCfg :=
  { valuation := f.valuation, span := part.span, periods := part.periods, close := f.close,
    mapping := f.mapping, remap := f.remap, accountFilter := f.accountFilter,
    commodityFilter := f.commodityFilter }

/-- the day list `BalanceCmd.entries` builds: the grouped directives, plus (with closing) a day for every
period start (`Builder.Days(partition.StartDates())`) -/
def daysOf (f : BalanceFlags) (ds : List Directive) (part : Partition) : List Day :=
  (if f.close then (Builder.ofList ds).ensureDays part.startDates else Builder.ofList ds).build

theorem entries_eq (f : BalanceFlags) (ds : List Directive) :
    BalanceCmd.entries f ds =
      match newPartition (BalanceCmd.window f (Builder.ofList ds)) f.interval f.last with
      | .panic s => .error (.panic s)
      | .ok part =>
        match Balance.run (cfgOf f part) (daysOf f ds part) with
        | .error _ => .error (.error "processing")
        | .ok st => .ok (st.entries, part) := rfl

theorem entries_ok {f : BalanceFlags} {ds : List Directive} {es : List Entry} {part : Partition}
    (h : BalanceCmd.entries f ds = .ok (es, part)) :
    newPartition (BalanceCmd.window f (Builder.ofList ds)) f.interval f.last = .ok part ∧
    ∃ st, Balance.run (cfgOf f part) (daysOf f ds part) = .ok st ∧ st.entries = es := by
  rw [entries_eq] at h
  split at h
  · cases h
  · rename_i part' hpart
    split at h
    · cases h
    · rename_i st hrun
      injection h with h
      injection h with h1 h2
      subst h2
      exact ⟨hpart, st, hrun, h1⟩

theorem daysOf_sorted (f : BalanceFlags) (ds : List Directive) (part : Partition) : Sorted (daysOf f ds part) := by
  unfold daysOf Builder.build
  split
  · exact foldl_insertDay_sorted _ _ (ofList_sorted ds)
  · exact ofList_sorted ds

theorem daysOf_all (P : Int → Transaction → Prop) (f : BalanceFlags) (ds : List Directive) (part : Partition)
    (hp : ∀ t, Directive.tx t ∈ ds → P t.date t) : DaysAll P (daysOf f ds part) := by
  unfold daysOf Builder.build
  split
  · exact foldl_insertDay_all P _ _ (ofList_all P ds hp)
  · exact ofList_all P ds hp

theorem daysOf_consistent (f : BalanceFlags) (ds : List Directive) (part : Partition) :
    C02.DaysConsistent (daysOf f ds part) :=
  daysOf_all (fun y t => t.date = y) f ds part (fun _ _ => rfl)

theorem daysOf_zero (f : BalanceFlags) (ds : List Directive) (part : Partition)
    (hz : ∀ t, Directive.tx t ∈ ds → TxZero t) :
    ∀ d ∈ daysOf f ds part, ∀ t ∈ d.transactions, ∀ p ∈ t.postings, p.value = 0 :=
  daysOf_all (fun _ t => TxZero t) f ds part hz

theorem daysOf_starts (f : BalanceFlags) (hc : f.close = true) (ds : List Directive) (part : Partition) :
    ∀ s ∈ part.startDates, s ∈ (daysOf f ds part).map (·.date) := by
  intro s hs
  unfold daysOf Builder.build Builder.ensureDays
  simp only [hc, if_true]
  exact (foldl_insertDay_mem _ _ _).mpr (Or.inl hs)


/-- the outcome of rendering a table as the command does (text or csv) -/
def renderOut (f : BalanceFlags) (t : Table.Table) : CmdOutcome :=
  if f.csv then .ok (String.ofList (Table.renderCSV t))
  else
    match Table.renderText { thousands := f.thousands, round := f.digits } t with
    | .ok cs => .ok (String.ofList cs)
    | .panic s => .panic s

theorem run_eq (f : BalanceFlags) (ds : List Directive) :
    BalanceCmd.run f ds =
      match BalanceCmd.entries f ds with
      | .error o => o
      | .ok (es, part) => renderOut f (BalanceReport.table (BalanceCmd.renderCfg f part) es) := by
  unfold BalanceCmd.run renderOut; rfl

theorem runSpec_eq (f : BalanceFlags) (hv : f.valuation = none) (ds : List Directive) :
    BalanceCmd.runSpec f ds =
      match newPartition (BalanceCmd.window f (Builder.ofList ds)) f.interval f.last with
      | .panic s => .panic s
      | .ok part =>
        match Check.run (daysOf f ds part) with
        | .error _ => .error "processing"
        | .ok _ => renderOut f (BalanceReport.table (BalanceCmd.renderCfg f part)
            (ledgerEntries (cfgOf f part) (daysOf f ds part))) := by
  cases f
  simp only at hv
  subst hv
  rfl

theorem run_isOk_check (cfg : BalCfg) (hv : cfg.valuation = none) (days : List Day) :
    (Balance.run cfg days).isOk = (Check.run days).isOk := by
  unfold Balance.run
  rw [InsertsPerm.run_isOk cfg hv]
  rfl

/-- the partition stage: a panic of `NewPartition`, or the rest of the command on the partition -/
def onPartition (f : BalanceFlags) (b : Builder) (k : Partition → CmdOutcome) : CmdOutcome :=
  match newPartition (BalanceCmd.window f b) f.interval f.last with
  | .panic s => .panic s
  | .ok part => k part

theorem onPartition_congr {f : BalanceFlags} {b b' : Builder} {k k' : Partition → CmdOutcome}
    (hw : BalanceCmd.window f b = BalanceCmd.window f b')
    (h : ∀ part, newPartition (BalanceCmd.window f b) f.interval f.last = .ok part → k part = k' part) :
    onPartition f b k = onPartition f b' k' := by
  unfold onPartition
  rw [← hw]
  cases hp : newPartition (BalanceCmd.window f b) f.interval f.last with
  | panic s => rfl
  | ok part => exact h part hp

/-- the render stage: what the command prints for the outcome of its pipeline -/
def outcomeOf (f : BalanceFlags) (part : Partition) {ε : Type} : Except ε (List Entry) → CmdOutcome
  | .error _ => .error "processing"
  | .ok es => renderOut f (BalanceReport.table (BalanceCmd.renderCfg f part) es)

theorem outcomeOf_ok (f : BalanceFlags) (part : Partition) {ε : Type} (es : List Entry) :
    outcomeOf f part (.ok es : Except ε _) = renderOut f (BalanceReport.table (BalanceCmd.renderCfg f part) es) := rfl

/-- the output is a function of the MULTISET of inserts (on accounts with a type) -/
theorem outcomeOf_congr {f : BalanceFlags} {part : Partition} {ε ε' : Type} :
    ∀ {x : Except ε (List Entry)} {y : Except ε' (List Entry)},
      Sim (fun es es' => es.Perm es' ∧ ReportPerm.WF es) (fun _ _ => True) x y → outcomeOf f part x = outcomeOf f part y
  | .error _, .error _, _ => rfl
  | .ok es, .ok es', h => by rw [outcomeOf_ok, outcomeOf_ok, ReportPerm.table_perm_wf _ es es' h.1 h.2]
  | .error _, .ok _, h => h.elim
  | .ok _, .error _, h => h.elim

/-- `knut balance` is: partition, pipeline, rendering -/
theorem run_stages (f : BalanceFlags) (ds : List Directive) :
    BalanceCmd.run f ds = onPartition f (Builder.ofList ds) fun part =>
      outcomeOf f part ((Balance.run (cfgOf f part) (daysOf f ds part)).map (·.entries)) := by
  rw [run_eq, entries_eq]
  unfold onPartition
  cases newPartition (BalanceCmd.window f (Builder.ofList ds)) f.interval f.last with
  | panic s => rfl
  | ok part => dsimp only; cases Balance.run (cfgOf f part) (daysOf f ds part) <;> rfl

theorem runSpec_stages (f : BalanceFlags) (hv : f.valuation = none) (ds : List Directive) :
    BalanceCmd.runSpec f ds = onPartition f (Builder.ofList ds) fun part =>
      outcomeOf f part ((Check.run (daysOf f ds part)).map fun _ => ledgerEntries (cfgOf f part) (daysOf f ds part)) := by
  rw [runSpec_eq f hv]
  unfold onPartition
  cases newPartition (BalanceCmd.window f (Builder.ofList ds)) f.interval f.last with
  | panic s => rfl
  | ok part => dsimp only; cases Check.run (daysOf f ds part) <;> rfl

theorem entries_of_run {f : BalanceFlags} {ds : List Directive} {part : Partition} {st : BalState}
    (hpart : newPartition (BalanceCmd.window f (Builder.ofList ds)) f.interval f.last = .ok part)
    (hrun : Balance.run (cfgOf f part) (daysOf f ds part) = .ok st) : BalanceCmd.entries f ds = .ok (st.entries, part) := by
  rw [entries_eq, hpart]; simp only [hrun]

theorem daysOf_rel {E : Day → Day → Prop} (hdate : ∀ {d d'}, E d d' → d.date = d'.date)
    (hnew : ∀ date, E { date := date } { date := date }) (f : BalanceFlags) {ds ds' : List Directive} (part : Partition)
    (h : List.Forall₂ E (Builder.ofList ds).build (Builder.ofList ds').build) :
    List.Forall₂ E (daysOf f ds part) (daysOf f ds' part) := by
  unfold daysOf
  split
  · exact ensureDays_rel hdate hnew _ h
  · exact h

theorem daysOf_wf (f : BalanceFlags) (ds : List Directive) (part : Partition) (hwf : InsertsPerm.DirsWF ds) :
    ∀ d ∈ daysOf f ds part, InsertsPerm.TxsWF d.transactions :=
  daysOf_all (fun _ t => ∀ p ∈ t.postings, p.account.wf = true) f ds part hwf

end Knut.LedgerCommand
