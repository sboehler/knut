import Knut.Spec.Lifecycle
import Knut.Proofs.Sim
import Knut.Proofs.MapSum
import Knut.Proofs.ListRel
/-!
# The lifecycle verdict does not depend on the directive order within a day (C04/C05)

`Spec.stepDay` folds over the opens, transactions, assertions and closes of a day, each in list order.
Shown here: permuting each of the four lists leaves the outcome unchanged up to `LEquiv` (same set of
open accounts, same multiset of logged postings); a rejecting run stays rejecting, though the directive
it names may differ.  Method: each of the four steps tests a guard on the state and then updates it (`guarded`);
such steps respect `LEquiv` and two of the same kind commute up to `LEquiv`, failure included, because the update of one
changes the guard of the other only by a symmetric test (the same account twice) and the updates commute (`Guarded`,
`guarded_comm`); the generic `foldlM_perm_sim` lifts that to permutations.  The order of the postings inside a transaction
and of the balances inside an assertion is fixed.  The file ends with what only C04 uses: a strict step is a lenient step
(`stepBalance_mono`, `stepDay_mono`), and the two tests agree on asset/liability accounts and zero quantities (`stepBalance_eq`).
-/

namespace Knut.Spec
open Knut


theorem foldlM_perm_sim {α σ ε : Type} (R : σ → σ → Prop)
    (hr : ∀ a, R a a) (ht : ∀ a b c, R a b → R b c → R a c)
    (f : σ → α → Except ε σ)
    (hresp : ∀ s s' x, R s s' → PSim R (f s x) (f s' x))
    (hcomm : ∀ s x y, PSim R (f s x >>= fun s1 => f s1 y) (f s y >>= fun s1 => f s1 x))
    {l l' : List α} (hp : l.Perm l') : ∀ s s', R s s' → PSim R (l.foldlM f s) (l'.foldlM f s') := by
  induction hp with
  | nil => intro s s' h; exact h
  | cons x _ ih =>
    intro s s' h
    simp only [List.foldlM_cons]
    exact bind_sim (hresp s s' x h) ih
  | swap x y l =>
    intro s s' h
    simp only [List.foldlM_cons, ← bind_assoc]
    refine bind_sim (R := R) ?_ (foldlM_sim R _ f f l (fun s t x _ h => hresp s t x h))
    exact psim_trans ht (hcomm s y x) (bind_sim (hresp s s' x h) (fun a b h => hresp a b y h))
  | trans _ _ ih1 ih2 =>
    intro s s' h
    exact psim_trans ht (ih1 s s' h) (ih2 s' s' (hr s'))


def LEquiv (s s' : LState) : Prop := (∀ a, a ∈ s.opened ↔ a ∈ s'.opened) ∧ s.log.Perm s'.log

theorem LEquiv.refl (s : LState) : LEquiv s s := ⟨fun _ => Iff.rfl, List.Perm.refl _⟩
theorem LEquiv.trans (a b c : LState) (h1 : LEquiv a b) (h2 : LEquiv b c) : LEquiv a c :=
  ⟨fun x => (h1.1 x).trans (h2.1 x), h1.2.trans h2.2⟩

theorem contains_congr {l l' : List Account} (h : ∀ a, a ∈ l ↔ a ∈ l') (x : Account) : l.contains x = l'.contains x := by
  rw [Bool.eq_iff_iff, List.contains_iff_mem, List.contains_iff_mem]; exact h x

theorem qtyOf_perm {log log' : List Posting} (h : log.Perm log') (a : Account) (c : Commodity) :
    qtyOf log a c = qtyOf log' a c := by
  unfold qtyOf
  exact MapSum.sum_perm ((h.filter _).map _)

theorem allZero_perm {log log' : List Posting} (h : log.Perm log') (a : Account) :
    allZero log a = allZero log' a := by
  unfold allZero
  have : (fun p : Posting => decide (qtyOf log a p.commodity = 0)) = (fun p => decide (qtyOf log' a p.commodity = 0)) := by
    funext p; rw [qtyOf_perm h]
  rw [this]
  exact (h.filter _).all_eq


def balTest (strict : Bool) (s : LState) (b : Balance) : Bool :=
  s.opened.contains b.account &&
    (if b.account.isAL then decide (qtyOf s.log b.account b.commodity = b.quantity)
     else !(strict && decide (b.quantity ≠ 0)))

theorem stepBalance_closed (strict : Bool) (s : LState) (a : Assertion) (b : Balance) :
    stepBalance strict s a b = if balTest strict s b then .ok s else .error (.assertion a) := by
  unfold stepBalance balTest
  cases s.opened.contains b.account
  · rfl
  · cases b.account.isAL
    · cases strict
      · rfl
      · by_cases hq : b.quantity = 0 <;> simp [hq]
    · by_cases hq : qtyOf s.log b.account b.commodity = b.quantity <;> simp [hq]

/-! ### steps that test a guard on the state and then update it -/

/-- test the guard `g`, then update by `u`; `e x` is the error of a failed test -/
def guarded {σ α ε : Type} (g : σ → α → Bool) (u : σ → α → σ) (e : α → ε) (s : σ) (x : α) : Except ε σ :=
  if g s x then .ok (u s x) else .error (e x)

/-- what makes a guarded update insensitive to the order of its inputs, up to `R` -/
structure Guarded {σ α : Type} (R : σ → σ → Prop) (g : σ → α → Bool) (u : σ → α → σ) (c : α → α → Bool) : Prop where
  guard : ∀ {s s'} x, R s s' → g s x = g s' x
  upd : ∀ {s s'} x, R s s' → R (u s x) (u s' x)
  clash : ∀ x y, c x y = c y x
  after : ∀ s x y, g s x = true → g (u s x) y = (g s y && c x y)
  comm : ∀ s x y, R (u (u s x) y) (u (u s y) x)

variable {σ α ε : Type} {R : σ → σ → Prop} {g : σ → α → Bool} {u : σ → α → σ} {c : α → α → Bool} {e : α → ε}

theorem guarded_resp (G : Guarded R g u c) (s s' : σ) (x : α) (h : R s s') : PSim R (guarded g u e s x) (guarded g u e s' x) := by
  unfold guarded
  rw [G.guard x h]
  cases g s' x
  · trivial
  · exact G.upd x h

theorem guarded_comm (G : Guarded R g u c) (s : σ) (x y : α) :
    PSim R (guarded g u e s x >>= fun s1 => guarded g u e s1 y) (guarded g u e s y >>= fun s1 => guarded g u e s1 x) := by
  unfold guarded
  cases hx : g s x <;> cases hy : g s y
  · trivial
  · simp only [Bool.false_eq_true, if_false, if_true, bind, Except.bind, G.after s y x hy, hx, Bool.false_and]; trivial
  · simp only [Bool.false_eq_true, if_false, if_true, bind, Except.bind, G.after s x y hx, hy, Bool.false_and]; trivial
  · simp only [if_true, bind, Except.bind, G.after s x y hx, G.after s y x hy, hx, hy, Bool.true_and, G.clash y x]
    cases c x y
    · trivial
    · exact G.comm s x y

theorem guarded_perm (hr : ∀ a, R a a) (ht : ∀ a b d, R a b → R b d → R a d) (G : Guarded R g u c) {l l' : List α}
    (hp : l.Perm l') (s s' : σ) (h : R s s') : PSim R (l.foldlM (guarded g u e) s) (l'.foldlM (guarded g u e) s') :=
  foldlM_perm_sim R hr ht _ (guarded_resp G) (guarded_comm G) hp s s' h

def openG (s : LState) (o : Open) : Bool := !s.opened.contains o.account
def openU (s : LState) (o : Open) : LState := { s with opened := o.account :: s.opened }
def accClash {α : Type} (acc : α → Account) (x y : α) : Bool := acc x != acc y

theorem accClash_comm {α : Type} (acc : α → Account) (x y : α) : accClash acc x y = accClash acc y x := by
  unfold accClash; rw [bne_comm]

theorem stepOpen_guarded : stepOpen = guarded openG openU Directive.opening := by
  funext s o; unfold stepOpen guarded openG openU; cases s.opened.contains o.account <;> rfl

theorem open_guarded : Guarded LEquiv openG openU (accClash (·.account)) where
  guard x h := by unfold openG; rw [contains_congr h.1]
  upd x h := ⟨fun a => by simp only [openU, List.mem_cons, h.1 a], h.2⟩
  clash := accClash_comm _
  after s x y _ := by
    unfold openG openU accClash
    rw [List.contains_cons, Bool.not_or, Bool.and_comm, bne_comm]; rfl
  comm s x y := ⟨fun a => by simp only [openU, List.mem_cons]; exact or_left_comm, List.Perm.refl _⟩

theorem opens_perm {l l' : List Open} (hp : l.Perm l') (s s' : LState) (h : LEquiv s s') :
    PSim LEquiv (l.foldlM stepOpen s) (l'.foldlM stepOpen s') := by
  rw [stepOpen_guarded]; exact guarded_perm LEquiv.refl LEquiv.trans open_guarded hp s s' h

def closeG (s : LState) (c : Close) : Bool := allZero s.log c.account && s.opened.contains c.account
def closeU (s : LState) (c : Close) : LState := { s with opened := s.opened.filter (· ≠ c.account) }

theorem stepClose_guarded : stepClose = guarded closeG closeU Directive.closing := by
  funext s c; unfold stepClose guarded closeG closeU
  cases allZero s.log c.account <;> cases s.opened.contains c.account <;> rfl

theorem close_guarded : Guarded LEquiv closeG closeU (accClash (·.account)) where
  guard x h := by unfold closeG; rw [contains_congr h.1, allZero_perm h.2]
  upd x h := ⟨fun a => by simp only [closeU, List.mem_filter, h.1 a], h.2⟩
  clash := accClash_comm _
  after s x y _ := by
    have : (s.opened.filter (· ≠ x.account)).contains y.account = (s.opened.contains y.account && accClash (·.account) x y) := by
      rw [Bool.eq_iff_iff]
      simp only [accClash, List.contains_iff_mem, List.mem_filter, Bool.and_eq_true, bne_iff_ne, decide_eq_true_eq, ne_eq]
      exact and_congr_right fun _ => ne_comm
    show (allZero s.log y.account && (s.opened.filter (· ≠ x.account)).contains y.account) = _
    rw [this, ← Bool.and_assoc]; rfl
  comm s x y := ⟨fun a => by simp only [closeU, List.mem_filter]; exact and_right_comm, List.Perm.refl _⟩

theorem closes_perm {l l' : List Close} (hp : l.Perm l') (s s' : LState) (h : LEquiv s s') :
    PSim LEquiv (l.foldlM stepClose s) (l'.foldlM stepClose s') := by
  rw [stepClose_guarded]; exact guarded_perm LEquiv.refl LEquiv.trans close_guarded hp s s' h


def stepTx (s : LState) (t : Transaction) : Except Directive LState :=
  t.postings.foldlM (fun s p => stepPosting s t p) s

theorem ok_bind {ε α β : Type} (a : α) (f : α → Except ε β) : (Except.ok a >>= f) = f a := rfl
theorem error_bind {ε α β : Type} (e : ε) (f : α → Except ε β) : (Except.error e >>= f) = .error e := rfl

theorem stepPosting_err {s : LState} (t : Transaction) {p : Posting} (h : s.opened.contains p.account = false) :
    stepPosting s t p = .error (.tx t) := by
  unfold stepPosting; rw [h]; rfl
theorem stepPosting_ok {s : LState} (t : Transaction) {p : Posting} (h : s.opened.contains p.account = true) :
    stepPosting s t p = .ok (if p.account.isAL then { s with log := s.log ++ [p] } else s) := by
  unfold stepPosting; rw [h]; rfl

theorem foldl_posting_closed (t : Transaction) (ps : List Posting) : ∀ s : LState,
    ps.foldlM (fun s p => stepPosting s t p) s =
      if ps.all (fun p => s.opened.contains p.account) then
        .ok { s with log := s.log ++ ps.filter (fun p => p.account.isAL) }
      else .error (.tx t) := by
  induction ps with
  | nil => intro s; simp [pure, Except.pure]
  | cons p rest ih =>
    intro s
    rw [List.foldlM_cons, List.all_cons]
    cases hc : s.opened.contains p.account
    · rw [stepPosting_err t hc, error_bind]; rfl
    · rw [stepPosting_ok t hc, ok_bind, ih, Bool.true_and, List.filter_cons]
      cases hal : p.account.isAL
      · rfl
      · simp only [if_true, List.append_assoc, List.singleton_append]

theorem stepTx_closed (s : LState) (t : Transaction) :
    stepTx s t = if t.postings.all (fun p => s.opened.contains p.account) then
        .ok { s with log := s.log ++ t.postings.filter (fun p => p.account.isAL) }
      else .error (.tx t) := foldl_posting_closed t t.postings s

def txG (s : LState) (t : Transaction) : Bool := t.postings.all fun p => s.opened.contains p.account
def txU (s : LState) (t : Transaction) : LState := { s with log := s.log ++ t.postings.filter fun p => p.account.isAL }

theorem stepTx_guarded : stepTx = guarded txG txU Directive.tx := by
  funext s t; exact stepTx_closed s t

theorem tx_guarded : Guarded LEquiv txG txU (fun _ _ => true) where
  guard x h := List.all_congr rfl fun p => contains_congr h.1 p.account
  upd x h := ⟨h.1, h.2.append_right _⟩
  clash _ _ := rfl
  after s x y _ := (Bool.and_true _).symm
  comm s x y := ⟨fun _ => Iff.rfl, by
    show (s.log ++ _ ++ _).Perm (s.log ++ _ ++ _)
    rw [List.append_assoc, List.append_assoc]; exact List.perm_append_comm.append_left _⟩

theorem txs_perm {l l' : List Transaction} (hp : l.Perm l') (s s' : LState) (h : LEquiv s s') :
    PSim LEquiv (l.foldlM stepTx s) (l'.foldlM stepTx s') := by
  rw [stepTx_guarded]; exact guarded_perm LEquiv.refl LEquiv.trans tx_guarded hp s s' h

/-! ### Assertions: every balance is a test, the state does not change -/

def stepAssert (strict : Bool) (s : LState) (a : Assertion) : Except Directive LState :=
  a.balances.foldlM (fun s b => stepBalance strict s a b) s

theorem foldl_balance_closed (strict : Bool) (s : LState) (a : Assertion) (bs : List Balance) :
    bs.foldlM (fun s b => stepBalance strict s a b) s =
      if bs.all (balTest strict s) then .ok s else .error (.assertion a) := by
  induction bs with
  | nil => rfl
  | cons b rest ih =>
    rw [List.foldlM_cons, List.all_cons, stepBalance_closed]
    cases balTest strict s b
    · rfl
    · rw [if_pos rfl, ok_bind, ih, Bool.true_and]

theorem stepAssert_closed (strict : Bool) (s : LState) (a : Assertion) :
    stepAssert strict s a = if a.balances.all (balTest strict s) then .ok s else .error (.assertion a) :=
  foldl_balance_closed strict s a a.balances

theorem stepAssert_guarded (strict : Bool) :
    stepAssert strict = guarded (fun s a => a.balances.all (balTest strict s)) (fun s _ => s) Directive.assertion := by
  funext s a; exact stepAssert_closed strict s a

theorem assert_guarded (strict : Bool) :
    Guarded LEquiv (fun s (a : Assertion) => a.balances.all (balTest strict s)) (fun s _ => s) (fun _ _ => true) where
  guard x h := List.all_congr rfl fun b => by unfold balTest; rw [contains_congr h.1, qtyOf_perm h.2]
  upd _ h := h
  clash _ _ := rfl
  after s x y _ := (Bool.and_true _).symm
  comm s _ _ := LEquiv.refl s

theorem asserts_perm (strict : Bool) {l l' : List Assertion} (hp : l.Perm l') (s s' : LState) (h : LEquiv s s') :
    PSim LEquiv (l.foldlM (stepAssert strict) s) (l'.foldlM (stepAssert strict) s') := by
  rw [stepAssert_guarded]; exact guarded_perm LEquiv.refl LEquiv.trans (assert_guarded strict) hp s s' h


/-- two days with the same date and, per kind the checker looks at, the same directives up to order
(prices are irrelevant to the checker) -/
def DayEquiv (d d' : Day) : Prop :=
  d.date = d'.date ∧ d.openings.Perm d'.openings ∧ d.transactions.Perm d'.transactions ∧
    d.assertions.Perm d'.assertions ∧ d.closings.Perm d'.closings

theorem stepDay_eq (strict : Bool) (s : LState) (d : Day) :
    stepDay strict s d =
      (d.openings.foldlM stepOpen s >>= fun s => d.transactions.foldlM stepTx s >>= fun s =>
        d.assertions.foldlM (stepAssert strict) s >>= fun s => d.closings.foldlM stepClose s) := rfl

theorem stepDay_perm (strict : Bool) (s s' : LState) (d d' : Day) (hd : DayEquiv d d') (h : LEquiv s s') :
    PSim LEquiv (stepDay strict s d) (stepDay strict s' d') := by
  rw [stepDay_eq, stepDay_eq]
  obtain ⟨_, ho, ht, ha, hc⟩ := hd
  refine bind_sim (opens_perm ho s s' h) (fun s s' h => ?_)
  refine bind_sim (txs_perm ht s s' h) (fun s s' h => ?_)
  refine bind_sim (asserts_perm strict ha s s' h) (fun s s' h => ?_)
  exact closes_perm hc s s' h

theorem foldl_days_perm (strict : Bool) {days days' : List Day} (h : List.Forall₂ DayEquiv days days') :
    ∀ s s', LEquiv s s' → PSim LEquiv (days.foldlM (stepDay strict) s) (days'.foldlM (stepDay strict) s') :=
  foldlM_forall₂_sim (fun s s' d d' hd h => stepDay_perm strict s s' d d' hd h) h

theorem verdict_perm_sim (strict : Bool) (days days' : List Day) (h : List.Forall₂ DayEquiv days days') :
    PSim LEquiv (Spec.verdict strict days) (Spec.verdict strict days') :=
  foldl_days_perm strict h {} {} (LEquiv.refl _)

/-- **the verdict does not depend on the order of the directives within a day** -/
theorem verdict_perm (strict : Bool) (days days' : List Day) (h : List.Forall₂ DayEquiv days days') :
    (Spec.verdict strict days).isOk = (Spec.verdict strict days').isOk :=
  psim_isOk (verdict_perm_sim strict days days' h)

theorem balTest_mono (s : LState) (b : Balance) (h : balTest true s b = true) : balTest false s b = true := by
  unfold balTest at *
  rw [Bool.and_eq_true] at h ⊢
  refine ⟨h.1, ?_⟩
  split
  · rw [← h.2, if_pos ‹_›]
  · rfl

theorem stepBalance_mono (s s' : LState) (a : Assertion) (b : Balance)
    (h : stepBalance true s a b = .ok s') : stepBalance false s a b = .ok s' := by
  rw [stepBalance_closed] at h ⊢
  split at h
  · rw [if_pos (balTest_mono s b ‹_›)]; exact h
  · cases h

theorem stepDay_mono (s s' : LState) (d : Day) (h : stepDay true s d = .ok s') : stepDay false s d = .ok s' := by
  unfold stepDay at *
  obtain ⟨s1, h1, h⟩ := bindOk_iff.mp h
  obtain ⟨s2, h2, h⟩ := bindOk_iff.mp h
  obtain ⟨s3, h3, h⟩ := bindOk_iff.mp h
  refine bindOk_iff.mpr ⟨s1, h1, bindOk_iff.mpr ⟨s2, h2, bindOk_iff.mpr ⟨s3, ?_, h⟩⟩⟩
  exact foldlM_ok_mono _ _ d.assertions
    (fun s s' a _ ha => foldlM_ok_mono _ _ a.balances (fun s s' b _ hb => stepBalance_mono s s' a b hb) s s' ha) s2 s3 h3

theorem stepBalance_eq (s : LState) (a : Assertion) (b : Balance) (h : b.account.isAL = true ∨ b.quantity = 0) :
    stepBalance false s a b = stepBalance true s a b := by
  have : balTest false s b = balTest true s b := by
    unfold balTest
    rcases h with h | h <;> simp [h]
  rw [stepBalance_closed, stepBalance_closed, this]

end Knut.Spec
