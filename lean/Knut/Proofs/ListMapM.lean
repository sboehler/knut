import Knut.Proofs.Sim
import Knut.Proofs.ListRel
/-!
# `List.mapM` in `Option` and in `Except`: when it succeeds, and when it fails

A successful `mapM` relates the list to its result element by element (`mapM_eq_some_iff`, `mapM_eq_ok_iff` in `Proofs/ListRel.lean`;
the other lemmas about successful `Except` runs are in `Proofs/Sim.lean`); members, lengths and concatenation are read off `List.Forall₂`.
-/
namespace Knut

theorem mapM_cons_some {α β : Type} {f : α → Option β} {a : α} {l : List α} {ys : List β} :
    (a :: l).mapM f = some ys ↔ ∃ y ys', f a = some y ∧ l.mapM f = some ys' ∧ ys = y :: ys' := by
  rw [mapM_eq_some_iff]
  exact ⟨fun h => by cases h with | cons ha t => exact ⟨_, _, ha, mapM_eq_some_iff.mpr t, rfl⟩,
    fun ⟨_, _, ha, t, e⟩ => e ▸ .cons ha (mapM_eq_some_iff.mp t)⟩

theorem mapM_some_mem {α β : Type} {f : α → Option β} {l : List α} {ys : List β} (h : l.mapM f = some ys) :
    ∀ y ∈ ys, ∃ x ∈ l, f x = some y := forall₂_mem_right (mapM_eq_some_iff.mp h)

theorem mapM_some_mem_fwd {α β : Type} {f : α → Option β} {l : List α} {ys : List β} (h : l.mapM f = some ys) :
    ∀ x ∈ l, ∃ y ∈ ys, f x = some y := forall₂_mem_left (mapM_eq_some_iff.mp h)

theorem mapM_some_map_mem_fwd {α β γ : Type} {f : α → Option β} {g : γ → β} {l : List α} {r : List γ} (h : l.mapM f = some (r.map g)) :
    ∀ a ∈ l, ∃ c ∈ r, f a = some (g c) :=
  forall₂_mem_left (forall₂_map_right (R := fun a y => f a = some y).mp (mapM_eq_some_iff.mp h))

theorem mapM_isSome_iff {α β : Type} {f : α → Option β} : ∀ {l : List α},
    (l.mapM f).isSome = true ↔ ∀ x ∈ l, (f x).isSome = true
  | [] => by simp
  | a :: l => by
    have ih := mapM_isSome_iff (f := f) (l := l)
    rw [List.mapM_cons, List.forall_mem_cons, ← ih]
    cases f a with
    | none => simp
    | some y => cases l.mapM f <;> simp

theorem mapM_eq_none_iff {α β : Type} {f : α → Option β} {l : List α} : l.mapM f = none ↔ ∃ x ∈ l, f x = none := by
  have h := mapM_isSome_iff (f := f) (l := l)
  rw [← Option.not_isSome_iff_eq_none, h]
  simp only [Classical.not_forall, Option.not_isSome_iff_eq_none, exists_prop]

theorem mapM_eq_filterMap {α β : Type} {f : α → Option β} {l : List α} {ys : List β} (h : l.mapM f = some ys) :
    ys = l.filterMap f := by
  replace h := mapM_eq_some_iff.mp h
  induction h with
  | nil => rfl
  | cons ha _ ih => rw [List.filterMap_cons, ha, ← ih]

theorem mapM_some_length {α β : Type} {f : α → Option β} {l : List α} {ys : List β} (h : l.mapM f = some ys) :
    ys.length = l.length := (forall₂_length (mapM_eq_some_iff.mp h)).symm

theorem mapM_some_of_forall {α β : Type} {f : α → Option β} {g : α → β} {l : List α} (h : ∀ x ∈ l, f x = some (g x)) :
    l.mapM f = some (l.map g) := mapM_eq_some_iff.mpr (forall₂_map_self h)

theorem mapM_some_append_iff {α β : Type} {f : α → Option β} {xs ys : List α} {r : List β} :
    (xs ++ ys).mapM f = some r ↔ ∃ r1 r2, xs.mapM f = some r1 ∧ ys.mapM f = some r2 ∧ r = r1 ++ r2 := by
  simp only [mapM_eq_some_iff, forall₂_append_left]

theorem forall₂_of_mapM {α β γ : Type} (v : α → Option γ) (m : β → γ) (l : List α) (ws : List β)
    (h : l.mapM v = some (ws.map m)) : List.Forall₂ (fun a w => v a = some (m w)) l ws :=
  forall₂_map_right (R := fun a y => v a = some y).mp (mapM_eq_some_iff.mp h)

theorem mapM_ok_forall {α β ε : Type} {g : α → Except ε β} {P : β → Prop} {l : List α} {ys : List β}
    (h : l.mapM g = .ok ys) (hp : ∀ a ∈ l, ∀ y, g a = .ok y → P y) : ∀ y ∈ ys, P y := by
  intro y hy
  obtain ⟨x, hx, hg⟩ := mapM_ok_mem _ _ _ h y hy
  exact hp x hx y hg

theorem mapM_perm_sim {α β ε : Type} (f : α → Except ε β) {l l' : List α} (hp : l.Perm l') :
    Spec.PSim List.Perm (l.mapM f) (l'.mapM f) := by
  have cons : ∀ (a : α) (l : List α), (a :: l).mapM f = (f a >>= fun b => l.mapM f >>= fun bs => .ok (b :: bs)) :=
    fun a l => by rw [List.mapM_cons]; rfl
  induction hp with
  | nil => exact List.Perm.refl _
  | cons x _ ih =>
    rw [cons, cons]
    refine bind_sim (R := Eq) ?_ fun b b' hb => ?_
    · cases f x <;> simp [Sim]
    · subst hb; exact bind_sim ih fun bs bs' h => h.cons b
  | swap x y l =>
    simp only [cons]
    cases f x <;> cases f y <;> cases l.mapM f <;> simp only [bind, Except.bind, Sim]
    exact List.Perm.swap _ _ _
  | trans _ _ ih1 ih2 => exact Spec.psim_trans (R := List.Perm) (fun _ _ _ h1 h2 => h1.trans h2) ih1 ih2

theorem mapM_ok_perm {α β ε : Type} {g : α → Except ε β} {l l' : List α} (hp : l.Perm l') {ys : List β}
    (h : l.mapM g = .ok ys) : ∃ ys', l'.mapM g = .ok ys' ∧ ys.Perm ys' := by
  have := mapM_perm_sim g hp
  rw [h] at this
  cases h' : l'.mapM g with
  | error e => rw [h'] at this; exact this.elim
  | ok ys' => rw [h'] at this; exact ⟨ys', rfl, this⟩

theorem mapM_error_of_mem {α β ε : Type} {g : α → Except ε β} {l : List α} {x : α} {e : ε} (hx : x ∈ l)
    (he : g x = .error e) : ∃ e', l.mapM g = .error e' := by
  cases h : l.mapM g with
  | error e' => exact ⟨e', rfl⟩
  | ok ys =>
    obtain ⟨y, _, hy⟩ := mapM_ok_mem_fwd h x hx
    rw [he] at hy; cases hy

end Knut
