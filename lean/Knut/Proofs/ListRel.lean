import Knut.Basic.AMap
/-!
# `List.Forall₂`: two lists related element by element

Core has no `List.Forall₂`; the definition is Mathlib's. This is the one lemma set for a pointwise relation of two lists: the
twin inductives of the agreement modules and of the import specification are read through it (`allRel_iff`, `all2_iff`), and
a successful `mapM` is this relation between argument and result (`mapM_eq_some_iff`, `mapM_eq_ok_iff`).
-/
namespace List
inductive Forall₂ {α β : Type} (R : α → β → Prop) : List α → List β → Prop
  | nil : Forall₂ R [] []
  | cons {a b l₁ l₂} : R a b → Forall₂ R l₁ l₂ → Forall₂ R (a :: l₁) (b :: l₂)
end List

namespace Knut
variable {α β γ δ : Type} {R S : α → β → Prop} {l l1 l2 : List α} {l' l1' l2' : List β}

theorem forall₂_imp_mem (h : List.Forall₂ R l l') (hr : ∀ a ∈ l, ∀ b ∈ l', R a b → S a b) : List.Forall₂ S l l' := by
  induction h with
  | nil => exact .nil
  | cons h _ ih =>
    exact .cons (hr _ List.mem_cons_self _ List.mem_cons_self h)
      (ih fun a ha b hb => hr a (List.mem_cons_of_mem _ ha) b (List.mem_cons_of_mem _ hb))

theorem forall₂_imp (h : List.Forall₂ R l l') (hr : ∀ a b, R a b → S a b) : List.Forall₂ S l l' :=
  forall₂_imp_mem h fun a _ b _ => hr a b

theorem forall₂_and (h : List.Forall₂ R l l') (h' : List.Forall₂ S l l') : List.Forall₂ (fun a b => R a b ∧ S a b) l l' := by
  induction h with
  | nil => exact .nil
  | cons h _ ih => cases h' with | cons h' t' => exact .cons ⟨h, h'⟩ (ih t')

theorem forall₂_flip : ∀ {l : List α} {l' : List β}, List.Forall₂ R l l' → List.Forall₂ (fun b a => R a b) l' l
  | _, _, .nil => .nil
  | _, _, .cons h t => .cons h (forall₂_flip t)

theorem forall₂_length (h : List.Forall₂ R l l') : l.length = l'.length := by
  induction h with
  | nil => rfl
  | cons _ _ ih => rw [List.length_cons, List.length_cons, ih]

theorem forall₂_mem_left (h : List.Forall₂ R l l') : ∀ a ∈ l, ∃ b ∈ l', R a b := by
  induction h with
  | nil => exact fun _ ha => nomatch ha
  | cons hab _ ih =>
    intro a ha
    rcases List.mem_cons.mp ha with rfl | ha
    · exact ⟨_, List.mem_cons_self, hab⟩
    · exact (ih a ha).imp fun _ hb => ⟨List.mem_cons_of_mem _ hb.1, hb.2⟩

theorem forall₂_mem_right (h : List.Forall₂ R l l') : ∀ b ∈ l', ∃ a ∈ l, R a b := forall₂_mem_left (forall₂_flip h)

theorem forall₂_same {R : α → α → Prop} {l : List α} (h : ∀ a ∈ l, R a a) : List.Forall₂ R l l := by
  induction l with
  | nil => exact .nil
  | cons a l ih => exact .cons (h a List.mem_cons_self) (ih fun b hb => h b (List.mem_cons_of_mem _ hb))

theorem forall₂_map_left {f : γ → α} {l : List γ} :
    List.Forall₂ R (l.map f) l' ↔ List.Forall₂ (fun c b => R (f c) b) l l' := by
  induction l generalizing l' with
  | nil => exact ⟨fun h => by cases h; exact .nil, fun h => by cases h; exact .nil⟩
  | cons c l ih =>
    exact ⟨fun h => by cases h with | cons h t => exact .cons h (ih.mp t),
      fun h => by cases h with | cons h t => exact .cons h (ih.mpr t)⟩

theorem forall₂_map_right {f : γ → β} {l' : List γ} :
    List.Forall₂ R l (l'.map f) ↔ List.Forall₂ (fun a c => R a (f c)) l l' :=
  ⟨fun h => forall₂_flip (forall₂_map_left.mp (forall₂_flip h)), fun h => forall₂_flip (forall₂_map_left.mpr (forall₂_flip h))⟩

theorem forall₂_map_self {f : α → β} (h : ∀ a ∈ l, R a (f a)) : List.Forall₂ R l (l.map f) :=
  forall₂_map_right.mpr (forall₂_same h)

theorem forall₂_map_eq {f : α → γ} {g : β → γ} (h : List.Forall₂ R l l') (hfg : ∀ a, ∀ b ∈ l', R a b → f a = g b) :
    l.map f = l'.map g := by
  induction h with
  | nil => rfl
  | cons hab _ ih =>
    rw [List.map_cons, List.map_cons, hfg _ _ List.mem_cons_self hab, ih fun a b hb => hfg a b (List.mem_cons_of_mem _ hb)]

theorem forall₂_of_map_eq {f : α → γ} {g : β → γ} : ∀ {l : List α} {l' : List β}, l.map f = l'.map g →
    (∀ a ∈ l, ∀ b ∈ l', f a = g b → R a b) → List.Forall₂ R l l'
  | [], [], _, _ => .nil
  | [], _ :: _, h, _ => nomatch h
  | _ :: _, [], h, _ => nomatch h
  | a :: l, b :: l', h, hr => by
    rw [List.map_cons, List.map_cons, List.cons.injEq] at h
    exact .cons (hr a List.mem_cons_self b List.mem_cons_self h.1)
      (forall₂_of_map_eq h.2 fun d hd d' hd' => hr d (List.mem_cons_of_mem _ hd) d' (List.mem_cons_of_mem _ hd'))

theorem forall₂_append (h : List.Forall₂ R l1 l1') (h' : List.Forall₂ R l2 l2') : List.Forall₂ R (l1 ++ l2) (l1' ++ l2') := by
  induction h with
  | nil => exact h'
  | cons hab _ ih => exact .cons hab ih

theorem forall₂_append_left {r : List β} :
    List.Forall₂ R (l1 ++ l2) r ↔ ∃ r1 r2, List.Forall₂ R l1 r1 ∧ List.Forall₂ R l2 r2 ∧ r = r1 ++ r2 := by
  induction l1 generalizing r with
  | nil => exact ⟨fun h => ⟨[], r, .nil, h, rfl⟩, fun ⟨_, _, h1, h2, e⟩ => by cases h1; exact e ▸ h2⟩
  | cons a l1 ih =>
    constructor
    · intro h
      cases h with
      | cons h t =>
        obtain ⟨r1, r2, h1, h2, rfl⟩ := ih.mp t
        exact ⟨_ :: r1, r2, .cons h h1, h2, rfl⟩
    · rintro ⟨_, r2, h1, h2, rfl⟩
      exact forall₂_append h1 h2

/-- related elements are dropped together or kept as related results -/
theorem forall₂_filterMap {S : γ → δ → Prop} {f : α → Option γ} {g : β → Option δ}
    (hfg : ∀ a ∈ l, ∀ b ∈ l', R a b → (f a = none ∧ g b = none) ∨ ∃ x y, f a = some x ∧ g b = some y ∧ S x y)
    (h : List.Forall₂ R l l') : List.Forall₂ S (l.filterMap f) (l'.filterMap g) := by
  induction h with
  | nil => exact .nil
  | cons hab _ ih =>
    have ih := ih fun a ha b hb => hfg a (List.mem_cons_of_mem _ ha) b (List.mem_cons_of_mem _ hb)
    rcases hfg _ List.mem_cons_self _ List.mem_cons_self hab with ⟨e1, e2⟩ | ⟨x, y, e1, e2, hs⟩
    · rw [List.filterMap_cons, List.filterMap_cons, e1, e2]; exact ih
    · rw [List.filterMap_cons, List.filterMap_cons, e1, e2]; exact .cons hs ih

theorem forall₂_filter {p : α → Bool} {q : β → Bool} (hpq : ∀ a ∈ l, ∀ b ∈ l', R a b → p a = q b)
    (h : List.Forall₂ R l l') : List.Forall₂ R (l.filter p) (l'.filter q) := by
  induction h with
  | nil => exact .nil
  | cons hab _ ih =>
    have ih := ih fun a ha b hb => hpq a (List.mem_cons_of_mem _ ha) b (List.mem_cons_of_mem _ hb)
    rw [List.filter_cons, List.filter_cons, hpq _ List.mem_cons_self _ List.mem_cons_self hab]
    split
    · exact .cons hab ih
    · exact ih

theorem forall₂_get (h : List.Forall₂ R l l') : ∀ (i : Nat) (a : α), l[i]? = some a → ∃ b, l'[i]? = some b ∧ R a b := by
  induction h with
  | nil => intro i a h; simp at h
  | cons hab _ ih =>
    intro i a h
    cases i with
    | zero => simp at h; subst h; exact ⟨_, by simp, hab⟩
    | succ i => simp at h; obtain ⟨b, hb, hr⟩ := ih i a h; exact ⟨b, by simpa using hb, hr⟩

theorem forall₂_perm {l0 : List α} (hp : l0.Perm l) (h : List.Forall₂ R l l') : ∃ l0', List.Forall₂ R l0 l0' ∧ l0'.Perm l' := by
  induction hp generalizing l' with
  | nil => exact ⟨l', h, .refl _⟩
  | cons a _ ih =>
    cases h with
    | cons hab t =>
      obtain ⟨r, hr, hp⟩ := ih t
      exact ⟨_ :: r, .cons hab hr, hp.cons _⟩
  | swap a b l =>
    cases h with
    | cons hb t =>
      cases t with
      | cons ha t => exact ⟨_, .cons ha (.cons hb t), .swap _ _ _⟩
  | trans _ _ ih1 ih2 =>
    obtain ⟨r2, h2, p2⟩ := ih2 h
    obtain ⟨r1, h1, p1⟩ := ih1 h2
    exact ⟨r1, h1, p1.trans p2⟩

theorem forall₂_pairwise {P : α → α → Prop} {Q : β → β → Prop} (hPQ : ∀ a b x y, R a x → R b y → P a b → Q x y)
    (h : List.Forall₂ R l l') (hp : l.Pairwise P) : l'.Pairwise Q := by
  induction h with
  | nil => exact .nil
  | cons hax t ih =>
    have hc := List.pairwise_cons.mp hp
    exact List.pairwise_cons.mpr
      ⟨fun y hy => (forall₂_mem_right t y hy).elim fun b hb => hPQ _ _ _ _ hax hb.2 (hc.1 b hb.1), ih hc.2⟩

theorem forall₂_trans {R : α → α → Prop} (ht : ∀ a b c, R a b → R b c → R a c) :
    ∀ {l1 l2 l3 : List α}, List.Forall₂ R l1 l2 → List.Forall₂ R l2 l3 → List.Forall₂ R l1 l3
  | _, _, _, .nil, .nil => .nil
  | _, _, _, .cons h1 t1, .cons h2 t2 => .cons (ht _ _ _ h1 h2) (forall₂_trans ht t1 t2)

theorem eq_of_forall₂_eq {a b : List α} (h : List.Forall₂ Eq a b) : a = b :=
  (List.map_id a).symm.trans ((forall₂_map_eq (f := id) (g := id) h fun _ _ _ e => e).trans (List.map_id b))

theorem AMap.find?_forall₂ {κ ν ν' : Type} [DecidableEq κ] {Q : ν → ν' → Prop} {m : AMap κ ν} {m' : AMap κ ν'}
    (h : List.Forall₂ (fun e e' => e.1 = e'.1 ∧ Q e.2 e'.2) m m') (k : κ) :
    (AMap.find? m k = none ∧ AMap.find? m' k = none) ∨
      ∃ v v', AMap.find? m k = some v ∧ AMap.find? m' k = some v' ∧ Q v v' := by
  induction h with
  | nil => exact .inl ⟨rfl, rfl⟩
  | @cons e e' _ _ he _ ih =>
    obtain ⟨a, b⟩ := e
    obtain ⟨a', b'⟩ := e'
    obtain ⟨rfl, hq⟩ := he
    rw [AMap.find?_cons, AMap.find?_cons]
    by_cases hak : a = k
    · rw [if_pos hak, if_pos hak]; exact .inr ⟨b, b', rfl, rfl, hq⟩
    · rw [if_neg hak, if_neg hak]; exact ih

theorem forall₂_zip : ∀ {l : List α} {l' : List β}, List.Forall₂ R l l' →
    l.length = l'.length ∧ ∀ p ∈ l.zip l', R p.1 p.2
  | _, _, .nil => ⟨rfl, fun p hp => by cases hp⟩
  | _, _, .cons h t => by
    obtain ⟨hl, hz⟩ := forall₂_zip t
    refine ⟨by simp [hl], ?_⟩
    intro p hp
    simp only [List.zip_cons_cons, List.mem_cons] at hp
    rcases hp with rfl | hp
    · exact h
    · exact hz p hp

theorem forall₂_strengthen {P : β → Prop} {ws : List β} (h : List.Forall₂ R l ws) (hp : ∀ w ∈ ws, P w) :
    List.Forall₂ (fun a w => R a w ∧ P w) l ws :=
  forall₂_imp_mem h fun _ _ w hw hr => ⟨hr, hp w hw⟩

/-- **a successful `mapM`**: the results are the function's values, element by element -/
theorem mapM_eq_some_iff {α β : Type} {f : α → Option β} {l : List α} {ys : List β} :
    l.mapM f = some ys ↔ List.Forall₂ (fun a y => f a = some y) l ys := by
  induction l generalizing ys with
  | nil => exact ⟨fun h => by cases h; exact .nil, fun h => by cases h; rfl⟩
  | cons a l ih =>
    rw [List.mapM_cons]
    constructor
    · intro h
      cases ha : f a with
      | none => rw [ha] at h; cases h
      | some y =>
        cases hl : l.mapM f with
        | none => rw [ha, hl] at h; cases h
        | some ys' => rw [ha, hl] at h; cases h; exact .cons ha (ih.mp hl)
    · intro h
      cases h with
      | cons ha t => rw [ha, ih.mpr t]; rfl

theorem mapM_eq_ok_iff {ε α β : Type} {f : α → Except ε β} {l : List α} {ys : List β} :
    l.mapM f = .ok ys ↔ List.Forall₂ (fun a y => f a = .ok y) l ys := by
  induction l generalizing ys with
  | nil => exact ⟨fun h => by cases h; exact .nil, fun h => by cases h; rfl⟩
  | cons a l ih =>
    rw [List.mapM_cons]
    constructor
    · intro h
      cases ha : f a with
      | error e => rw [ha] at h; cases h
      | ok y =>
        cases hl : l.mapM f with
        | error e => rw [ha, hl] at h; cases h
        | ok ys' => rw [ha, hl] at h; cases h; exact .cons ha (ih.mp hl)
    · intro h
      cases h with
      | cons ha t => rw [ha, ih.mpr t]; rfl

end Knut
