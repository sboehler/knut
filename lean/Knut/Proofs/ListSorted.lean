import Knut.Proofs.ListRel
/-!
# Insert into a list kept strictly sorted by an integer key

`journal.Builder.Day` / `Add` as modelled for the journal (`Knut.insertDay`) and for the price days (`Prices.insertDay`)
are the same three-way insert: before the first element with a larger key a new element `mk` goes in; an element that has
the key is updated by `upd`; otherwise the walk goes on.  `upsertBy` is that insert over any key function; the fixed
definitions agree with it (`insertDay_eq_upsertBy` in `Proofs/Builder.lean` and in `Proofs/PricesDays.lean`), and what is known of them is an
instance of the lemmas here.
On a sorted list the insert has one description, `upsertBy_split`: the list splits at the key, and at the seam the new
element goes in or the element that has the key is updated.  Two facts about any list with pairwise related or strictly sorted
elements (`pairwise_mem`, `split_le`) stand at the end.
-/
namespace Knut

variable {α β : Type} {key : α → Int} {k : Int} {mk : α} {upd : α → α}

def upsertBy (key : α → Int) (k : Int) (mk : α) (upd : α → α) : List α → List α
  | [] => [mk]
  | x :: rest =>
    if k < key x then mk :: x :: rest
    else if k = key x then upd x :: rest
    else x :: upsertBy key k mk upd rest

theorem upsertBy_cons (key : α → Int) (k : Int) (mk : α) (upd : α → α) (x : α) (rest : List α) :
    (k < key x ∧ upsertBy key k mk upd (x :: rest) = mk :: x :: rest) ∨
    (k = key x ∧ upsertBy key k mk upd (x :: rest) = upd x :: rest) ∨
    (key x < k ∧ upsertBy key k mk upd (x :: rest) = x :: upsertBy key k mk upd rest) := by
  rw [upsertBy]
  by_cases h1 : k < key x
  · exact .inl ⟨h1, if_pos h1⟩
  · by_cases h2 : k = key x
    · exact .inr (.inl ⟨h2, by rw [if_neg h1, if_pos h2]⟩)
    · exact .inr (.inr ⟨by omega, by rw [if_neg h1, if_neg h2]⟩)

theorem upsertBy_cases (key : α → Int) (k : Int) (mk : α) (upd : α → α) : ∀ l : List α,
    ∃ pre post, l = pre ++ post ∧ (∀ a ∈ pre, key a < k) ∧
      ((upsertBy key k mk upd l = pre ++ mk :: post ∧ ∀ x ∈ post.head?, k < key x) ∨
       ∃ x post', post = x :: post' ∧ key x = k ∧ upsertBy key k mk upd l = pre ++ upd x :: post')
  | [] => ⟨[], [], rfl, nofun, .inl ⟨rfl, nofun⟩⟩
  | x :: rest => by
    rcases upsertBy_cons key k mk upd x rest with ⟨h, e⟩ | ⟨h, e⟩ | ⟨h, e⟩
    · exact ⟨[], x :: rest, rfl, nofun, .inl ⟨e, fun y hy => Option.some.inj hy ▸ h⟩⟩
    · exact ⟨[], x :: rest, rfl, nofun, .inr ⟨x, rest, rfl, h.symm, e⟩⟩
    · obtain ⟨pre, post, rfl, hpre, hc⟩ := upsertBy_cases key k mk upd rest
      refine ⟨x :: pre, post, rfl, List.forall_mem_cons.mpr ⟨h, hpre⟩, ?_⟩
      rw [e]
      rcases hc with ⟨e', hp⟩ | ⟨y, post', rfl, hk, e'⟩
      · exact .inl ⟨congrArg (x :: ·) e', hp⟩
      · exact .inr ⟨y, post', rfl, hk, congrArg (x :: ·) e'⟩

theorem upsertBy_id_cases (key : α → Int) (k : Int) (mk : α) (l : List α) :
    upsertBy key k mk id l = l ∨ ∃ pre post, l = pre ++ post ∧ upsertBy key k mk id l = pre ++ mk :: post := by
  obtain ⟨pre, post, rfl, _, ⟨e, _⟩ | ⟨x, post', rfl, _, e⟩⟩ := upsertBy_cases key k mk id l
  · exact .inr ⟨pre, post, rfl, e⟩
  · exact .inl e

theorem upsertBy_split {l : List α} (hs : (l.map key).Pairwise (· < ·)) :
    ∃ pre post, (∀ a ∈ pre, key a < k) ∧ (∀ a ∈ post, k < key a) ∧
      ((l = pre ++ post ∧ upsertBy key k mk upd l = pre ++ mk :: post) ∨
       ∃ x, key x = k ∧ l = pre ++ x :: post ∧ upsertBy key k mk upd l = pre ++ upd x :: post) := by
  obtain ⟨pre, post, rfl, hpre, h⟩ := upsertBy_cases key k mk upd l
  rw [List.map_append, List.pairwise_append] at hs
  rcases h with ⟨e, hhd⟩ | ⟨x, post', rfl, hk, e⟩
  · refine ⟨pre, post, hpre, ?_, .inl ⟨rfl, e⟩⟩
    cases post with
    | nil => exact nofun
    | cons y ys =>
      have hy := hhd y rfl
      rw [List.map_cons, List.pairwise_cons] at hs
      exact fun a ha => (List.mem_cons.mp ha).elim (· ▸ hy) fun ha => Int.lt_trans hy (hs.2.1.1 _ (List.mem_map_of_mem ha))
  · rw [List.map_cons, List.pairwise_cons] at hs
    exact ⟨pre, post', hpre, fun a ha => hk ▸ hs.2.1.1 _ (List.mem_map_of_mem ha), .inr ⟨x, hk, rfl, e⟩⟩

theorem map_key_upsertBy (hmk : key mk = k) (hupd : ∀ x, key (upd x) = key x) (l : List α) (d : Int) :
    d ∈ (upsertBy key k mk upd l).map key ↔ d = k ∨ d ∈ l.map key := by
  obtain ⟨pre, post, rfl, _, ⟨e, _⟩ | ⟨x, post', rfl, hk, e⟩⟩ := upsertBy_cases key k mk upd l <;> rw [e]
  · simp only [List.map_append, List.map_cons, List.mem_append, List.mem_cons, hmk]
    exact or_left_comm
  · simp only [List.map_append, List.map_cons, List.mem_append, List.mem_cons, hupd, hk]
    exact ⟨.inr, fun h => h.elim (fun h => .inr (.inl h)) id⟩

theorem pairwise_upsertBy (hmk : key mk = k) (hupd : ∀ x, key (upd x) = key x) : ∀ {l : List α},
    (l.map key).Pairwise (· < ·) → ((upsertBy key k mk upd l).map key).Pairwise (· < ·)
  | [], _ => List.pairwise_singleton _ _
  | x :: rest, h => by
    rw [List.map_cons, List.pairwise_cons] at h
    rcases upsertBy_cons key k mk upd x rest with ⟨hlt, e⟩ | ⟨_, e⟩ | ⟨hgt, e⟩ <;> rw [e]
    · rw [List.map_cons, hmk, List.map_cons, List.pairwise_cons, List.pairwise_cons]
      exact ⟨fun a ha => (List.mem_cons.mp ha).elim (fun e => e ▸ hlt) fun ha => Int.lt_trans hlt (h.1 a ha), h⟩
    · rw [List.map_cons, hupd, List.pairwise_cons]; exact h
    · rw [List.map_cons, List.pairwise_cons]
      refine ⟨fun a ha => ?_, pairwise_upsertBy hmk hupd h.2⟩
      rcases (map_key_upsertBy hmk hupd rest a).mp ha with rfl | ha
      · exact hgt
      · exact h.1 a ha

theorem mem_upsertBy {y : α} {l : List α} (hs : (l.map key).Pairwise (· < ·)) (h : y ∈ upsertBy key k mk upd l) :
    (y = mk ∧ k ∉ l.map key) ∨ (∃ x ∈ l, key x = k ∧ y = upd x) ∨ (y ∈ l ∧ key y ≠ k) := by
  obtain ⟨pre, post, hpre, hpost, hc⟩ := upsertBy_split (k := k) (mk := mk) (upd := upd) hs
  have hne : ∀ a, a ∈ pre ∨ a ∈ post → key a ≠ k := fun a ha =>
    ha.elim (fun h => Int.ne_of_lt (hpre a h)) fun h => (Int.ne_of_lt (hpost a h)).symm
  rcases hc with ⟨rfl, e⟩ | ⟨x, hx, rfl, e⟩ <;> rw [e] at h <;> rcases List.mem_append.mp h with h | h
  · exact .inr (.inr ⟨List.mem_append_left _ h, hne y (.inl h)⟩)
  · rcases List.mem_cons.mp h with rfl | h
    · refine .inl ⟨rfl, fun hm => ?_⟩
      obtain ⟨a, ha, hk⟩ := List.mem_map.mp hm
      exact hne a (List.mem_append.mp ha) hk
    · exact .inr (.inr ⟨List.mem_append_right _ h, hne y (.inr h)⟩)
  · exact .inr (.inr ⟨List.mem_append_left _ h, hne y (.inl h)⟩)
  · rcases List.mem_cons.mp h with rfl | h
    · exact .inr (.inl ⟨x, List.mem_append_right _ List.mem_cons_self, hx, rfl⟩)
    · exact .inr (.inr ⟨List.mem_append_right _ (List.mem_cons_of_mem _ h), hne y (.inr h)⟩)

theorem upsertBy_forall₂ {R : α → β → Prop} {key' : β → Int} {mk' : β} {upd' : β → β}
    (hkey : ∀ {a b}, R a b → key a = key' b) (hmk : R mk mk') (hupd : ∀ {a b}, R a b → R (upd a) (upd' b))
    {l : List α} {l' : List β} (h : List.Forall₂ R l l') :
    List.Forall₂ R (upsertBy key k mk upd l) (upsertBy key' k mk' upd' l') := by
  induction h with
  | nil => exact .cons hmk .nil
  | @cons a b r r' hab hr ih =>
    have hk := hkey hab
    rcases upsertBy_cons key k mk upd a r with ⟨h1, e⟩ | ⟨h1, e⟩ | ⟨h1, e⟩
    · rw [e, upsertBy, if_pos (hk ▸ h1)]; exact .cons hmk (.cons hab hr)
    · rw [e, upsertBy, if_neg (by omega), if_pos (hk ▸ h1)]; exact .cons (hupd hab) hr
    · rw [e, upsertBy, if_neg (by omega), if_neg (by omega)]; exact .cons hab ih

theorem pairwise_mem {R : α → α → Prop} : ∀ {l : List α}, List.Pairwise R l → ∀ a ∈ l, ∀ b ∈ l, a = b ∨ R a b ∨ R b a
  | [], _, _, ha, _, _ => nomatch ha
  | x :: rest, hp, a, ha, b, hb => by
    rw [List.pairwise_cons] at hp
    rcases List.mem_cons.mp ha with ha' | ha' <;> rcases List.mem_cons.mp hb with hb' | hb'
    · exact Or.inl (ha'.trans hb'.symm)
    · subst ha'; exact Or.inr (Or.inl (hp.1 b hb'))
    · subst hb'; exact Or.inr (Or.inr (hp.1 a ha'))
    · exact pairwise_mem hp.2 a ha' b hb'

theorem split_le {l pre post : List α} {d : α} (hs : (l.map key).Pairwise (· < ·)) (hsplit : l = pre ++ d :: post) :
    ∀ x ∈ pre ++ [d], x ∈ l ∧ key x ≤ key d := by
  subst hsplit
  intro x hx
  rw [List.map_append, List.pairwise_append] at hs
  rcases List.mem_append.mp hx with hx | hx
  · have := hs.2.2 (key x) (List.mem_map_of_mem hx) (key d) (by simp)
    exact ⟨List.mem_append_left _ hx, by omega⟩
  · rw [List.mem_singleton.mp hx]
    exact ⟨List.mem_append_right _ List.mem_cons_self, Int.le_refl _⟩

end Knut
