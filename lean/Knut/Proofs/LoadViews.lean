import Knut.Model.FromSyntax
import Knut.Proofs.SyntaxViews
import Knut.Proofs.ListRel
/-!
# The byte-based elaboration of a directive as a function of its field view

`FromSyntax.item` reads the fields of a syntax directive out of the text; `viewDirective` extracts the same fields as bytes.
`itemV` elaborates such a view, and `item_of_view` says that `item` is `itemV` of the view. So whatever is known about the
views of a file - from the parser's soundness or from a rendering - is known about what the loader makes of it.
-/
namespace Knut.FromSyntax
open Knut Knut.Syntax Knut.Utf8

def accountV (bs : Bytes) : Option Account := do
  let s ← utf8 bs
  let acc := Account.ofName s
  if acc.wf then some acc else none

def decimalV (bs : Bytes) : Option Rat :=
  if bs.all (fun b => asciiDigit b || b = 45 || b = 46) then (utf8 bs).bind Dec.parseDec else none

def bookingV (b : BookingV) : Option Accrual.Booking := do
  let cr ← accountV b.credit
  let dr ← accountV b.debit
  let q ← decimalV b.quantity
  let c ← utf8 b.commodity
  pure ⟨cr, dr, q, c⟩

def balanceV (b : BalanceV) : Option Balance := do
  let acc ← accountV b.account
  let q ← decimalV b.quantity
  let c ← utf8 b.commodity
  pure ⟨acc, q, c⟩

def accrualV (a : AccrualV) : Option Accrual.Addon := do
  let ivs ← utf8 a.interval
  let iv ← interval ivs
  let s ← parseDate a.start
  let e ← parseDate a.stop
  let acc ← accountV a.account
  pure ⟨iv, s, e, acc⟩

def itemV : DirV → Option Item
  | .open d a => do
    let acc ← accountV a
    let dt ← parseDate d
    pure (.opening ⟨dt, acc⟩)
  | .close d a => do
    let acc ← accountV a
    let dt ← parseDate d
    pure (.closing ⟨dt, acc⟩)
  | .price d c p t => do
    let dt ← parseDate d
    let c ← utf8 c
    let pr ← decimalV p
    let t ← utf8 t
    pure (.price ⟨dt, c, pr, t⟩)
  | .assertion d bs => do
    let dt ← parseDate d
    let bals ← bs.mapM balanceV
    pure (.assertion ⟨dt, bals⟩)
  | .include p => do
    let p ← utf8 p
    pure (.includeFile p)
  | .transaction accr perf d desc bks => do
    let dt ← parseDate d
    let desc ← utf8 desc
    let bks ← bks.mapM bookingV
    let targets ← (match perf with
      | none => some none
      | some ts => (ts.mapM utf8).map some)
    let accrual ← (match accr with
      | none => some none
      | some a => (accrualV a).map some)
    pure (.tx { date := dt, description := desc, bookings := bks, targets := targets, accrual := accrual })

theorem account_of_extract {text : Bytes} {a : Syntax.Account} {bs : Bytes} (h : a.range.extract text = some bs) :
    account text a = accountV bs := by
  simp [account, accountV, fieldStr, field, h]

theorem decimal_of_extract {text : Bytes} {r : Syntax.Range} {bs : Bytes} (h : r.extract text = some bs) :
    decimal text r = decimalV bs := by
  simp [decimal, decimalV, field, h]

theorem fieldStr_of_extract {text : Bytes} {r : Syntax.Range} {bs : Bytes} (h : r.extract text = some bs) :
    fieldStr text r = utf8 bs := by
  simp [fieldStr, field, h]

theorem date_of_extract {text : Bytes} {d : Syntax.Date} {bs : Bytes} (h : d.range.extract text = some bs) :
    date text d = parseDate bs := by
  simp [date, field, h]

theorem booking_of_view {text : Bytes} {b : Syntax.Booking} {w : BookingV} (h : viewBooking text b = some w) :
    booking text b = bookingV w := by
  obtain ⟨h1, h2, h3, h4⟩ := viewBooking_eq_some_iff.mp h
  simp [booking, bookingV, account_of_extract h1, account_of_extract h2, decimal_of_extract h3, fieldStr_of_extract h4]

theorem mapM_congr_view {α β γ : Type} {f : α → Option β} {g : α → Option γ} {k : β → Option γ} {l : List α} {ws : List β}
    (h : l.mapM f = some ws) (hk : ∀ a w, f a = some w → g a = k w) : l.mapM g = ws.mapM k := by
  replace h := mapM_eq_some_iff.mp h
  induction h with
  | nil => rfl
  | cons hw _ ih => rw [List.mapM_cons, List.mapM_cons, hk _ _ hw, ih]

theorem targets_of_view {text : Bytes} {p : Syntax.Performance} {perf : Option (List Bytes)}
    (h : (if !p.range.empty then (p.targets.mapM (fun (c : Syntax.Commodity) => c.range.extract text)).map some else pure none) =
      some perf) :
    (if p.range.empty then some none else (p.targets.mapM (fun c => fieldStr text c.range)).map some) =
      (match (generalizing := false) perf with
       | none => some none
       | some ts => (ts.mapM utf8).map some) := by
  cases he : p.range.empty <;>
    simp only [he, Bool.not_false, Bool.not_true, Bool.false_eq_true, if_false, if_true, Option.pure_def, Option.some.injEq,
      Option.map_eq_some_iff] at h ⊢
  · obtain ⟨ts, hts, rfl⟩ := h
    rw [mapM_congr_view (k := utf8) hts (fun c wv hv => fieldStr_of_extract hv)]
  · subst h; rfl

theorem accrual_of_view {text : Bytes} {a : Syntax.Accrual} {accr : Option AccrualV}
    (h : (if !a.range.empty then (viewAccrual text a).map some else pure none) = some accr) :
    (if a.range.empty then some none
      else do
        let ivs ← fieldStr text a.interval.range
        let iv ← interval ivs
        let s ← date text a.start
        let e ← date text a.stop
        let acc ← account text a.account
        pure (some (⟨iv, s, e, acc⟩ : Accrual.Addon))) =
      (match (generalizing := false) accr with
       | none => some none
       | some av => (accrualV av).map some) := by
  cases he : a.range.empty <;>
    simp only [he, Bool.not_false, Bool.not_true, Bool.false_eq_true, if_false, if_true, Option.pure_def, Option.some.injEq,
      Option.map_eq_some_iff] at h ⊢
  · obtain ⟨av, hav, rfl⟩ := h
    obtain ⟨g1, g2, g3, g4⟩ := viewAccrual_eq_some_iff.mp hav
    simp only [accrualV, fieldStr_of_extract g1, date_of_extract g2, date_of_extract g3, account_of_extract g4,
      Option.bind_eq_bind, Option.pure_def, Option.map_bind, Function.comp_def, Option.map_some]
  · subst h; rfl

theorem item_of_view {text : Bytes} {d : Syntax.Directive} {w : DirV} (h : viewDirective text d = some w) :
    item text d = itemV w := by
  have hv := viewDirective_eq_some_iff.mp h
  unfold item
  generalize d.body = body at hv
  cases hv with
  | «open» h1 h2 | close h1 h2 => simp [itemV, account_of_extract h2, date_of_extract h1]
  | price h1 h2 h3 h4 =>
    simp [itemV, date_of_extract h1, fieldStr_of_extract h2, decimal_of_extract h3, fieldStr_of_extract h4]
  | «include» h1 => simp [itemV, fieldStr_of_extract h1]
  | assertion h1 h2 =>
    simp only
    rw [mapM_congr_view (k := balanceV) h2]
    · simp only [itemV, date_of_extract h1, Option.bind_eq_bind, Option.pure_def]
    · intro b wv hv
      obtain ⟨g1, g2, g3⟩ := viewBalance_eq_some_iff.mp hv
      simp [balanceV, account_of_extract g1, decimal_of_extract g2, fieldStr_of_extract g3]
  | transaction ht =>
    obtain ⟨_, _, _, _, _, e, hac, hpf, h1, h2, h3⟩ := viewTransaction_inv ht
    cases e
    simp only
    rw [targets_of_view hpf, accrual_of_view hac]
    simp only [itemV, date_of_extract h1, fieldStr_of_extract h2, mapM_congr_view h3 (fun b wv hv => booking_of_view hv),
      Option.bind_eq_bind, Option.pure_def]

theorem okPrefix_congr_view {α β γ : Type} {f : α → Option β} {g : α → Option γ} {k : β → Option γ} {l : List α} {ws : List β}
    (h : l.mapM f = some ws) (hk : ∀ a w, f a = some w → g a = k w) : okPrefix g l = okPrefix k ws := by
  replace h := mapM_eq_some_iff.mp h
  induction h with
  | nil => rfl
  | cons hw _ ih => simp only [okPrefix, hk _ _ hw, ih]

theorem okPrefix_map {α β γ} (k : β → Option γ) (m : α → β) (l : List α) :
    okPrefix k (l.map m) = okPrefix (fun a => k (m a)) l := by
  induction l with
  | nil => rfl
  | cons a l ih => simp only [List.map_cons, okPrefix, ih]

end Knut.FromSyntax
