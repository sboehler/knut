import Knut.Spec.LayoutSpec
import Knut.Proofs.PrintFields
import Knut.Proofs.ListMapM
import Knut.Proofs.Accrual
/-!
# The loader on the field views of printed directives and `include` lines

The views of what `journal.Print` writes (`dirView`) and of `include` lines load to exactly the directives they were written
from, in order (`loadViews_fitems`; `loadViews_dirViews` is the case without includes). The loader as a function of the views
stands in `Proofs/LoadViews.lean` (one directive; below `Proofs/PrintedFields.lean`) and `Proofs/PrintFields.lean`
(`FileViews`, `loadViews`; on the parser's soundness for whole files); this module needs both and the printed fields, and lies
beside the agreement of the two elaborations (`Proofs/ElabAgree.lean`), not under it.
`Layout.FItem` (an item of a file of a layout: a directive or an `include` line, written with `dirText`/`incText` of
`Spec/LayoutSpec.lean`) is defined here and not in the specification: it is a proof notion, and with it the loader lemma for
printed directives is the include-free case of the one for the files of a layout.
-/
namespace Knut.FromSyntax
open Knut Knut.Syntax Knut.Utf8 Knut.Dec Knut.JournalPrinter

theorem create_txInput (t : Transaction) (h : PrintableTx t) : Accrual.create (txInput t) = .ok [t] := by
  obtain ⟨hd, hq, hne, hps, hnf, htg'⟩ := h
  refine Knut.Accrual.create_eq_ok.mpr ⟨fun b hb => ?_, Or.inl ⟨rfl, ?_⟩⟩
  · obtain ⟨p, hp, rfl⟩ := List.mem_map.mp hb
    exact (hps p hp).wf
  · have hpost : Accrual.postingsOf ((everyOther t.postings).map bookingOf) = t.postings := by
      simp only [Accrual.postingsOf, bookingOf, List.flatMap_map]
      exact hnf.symm
    simp only [Accrual.created, txInput, hpost]

theorem loadItems_go_itemOf (x : Directive) (h : PrintableDir x) (its : List Item) (acc : List Directive) :
    loadItems.go (itemOf x :: its) acc = loadItems.go its (x :: acc) := by
  cases x with
  | tx t => simp only [itemOf, loadItems.go, create_txInput t h]; rfl
  | _ => rfl

end Knut.FromSyntax

namespace Knut.Layout
open Knut Knut.Syntax Knut.Utf8 Knut.Commands Knut.FromSyntax Knut.JournalPrinter Knut.Dec

/-- an item of a file: a directive or an include (its spelling) -/
abbrev FItem := Directive ⊕ String

def FItem.text (pad : Nat) : FItem → String
  | .inl x => dirText pad x
  | .inr sp => incText sp

def FItem.view : FItem → DirT
  | .inl x => dirView x
  | .inr sp => .include (strToks sp)

/-- the item of the parser's main loop: the field view, no trailing blanks, one line break -/
def FItem.item (i : FItem) : Syntax.Item := .dir [] default i.view [] [tk 10]

def FItem.Good : FItem → Prop
  | .inl x => PrintableDir x
  | .inr sp => '"' ∉ sp.toList

def FItem.dir? : FItem → Option Directive
  | .inl x => some x
  | .inr _ => none

def FItem.inc? : FItem → Option String
  | .inl _ => none
  | .inr sp => some sp

/-- what the byte-based elaboration makes of the view of an item -/
def FItem.itemOf : FItem → FromSyntax.Item
  | .inl x => FromSyntax.itemOf x
  | .inr sp => .includeFile sp

theorem FItem.itemV_view (i : FItem) (h : i.Good) : itemV i.view.bytes = some i.itemOf := by
  cases i with
  | inl x => exact itemV_dirView x h
  | inr sp => simp [FItem.view, DirT.bytes, itemV, utf8_str, FItem.itemOf]

theorem loadItems_go_fitems (its : List FItem) (h : ∀ i ∈ its, i.Good) (acc : List Directive) :
    loadItems.go (its.map FItem.itemOf) acc = .ok (acc.reverse ++ its.filterMap FItem.dir?) := by
  induction its generalizing acc with
  | nil => simp [loadItems.go]
  | cons i rest ih =>
    have ihr := fun acc => ih (fun y hy => h y (List.mem_cons_of_mem _ hy)) acc
    rcases i with x | sp
    · rw [List.map_cons, FItem.itemOf, loadItems_go_itemOf x (h _ List.mem_cons_self), ihr]
      simp [FItem.dir?]
    · rw [List.map_cons, FItem.itemOf, loadItems.go, ihr]
      simp [FItem.dir?, List.filterMap_cons]

theorem loadViews_fitems (its : List FItem) (h : ∀ i ∈ its, i.Good) :
    loadViews (its.map FItem.view) = .ok (its.filterMap FItem.dir?) := by
  have hm : (its.map FItem.view).mapM (fun v => itemV v.bytes) = some (its.map FItem.itemOf) := by
    rw [List.mapM_map]
    exact mapM_some_of_forall fun i hi => i.itemV_view (h i hi)
  unfold loadViews
  rw [hm]
  simp only [loadItems]
  rw [loadItems_go_fitems its h]
  rfl

end Knut.Layout

namespace Knut.FromSyntax
open Knut Knut.Syntax Knut.Utf8 Knut.Dec Knut.JournalPrinter

theorem loadViews_dirViews (xs : List Directive) (h : ∀ x ∈ xs, PrintableDir x) : loadViews (xs.map dirView) = .ok xs := by
  have := Layout.loadViews_fitems (xs.map .inl) (by simpa [Layout.FItem.Good] using h)
  simpa [Layout.FItem.view, Layout.FItem.dir?, List.filterMap_map, Function.comp_def] using this

end Knut.FromSyntax
