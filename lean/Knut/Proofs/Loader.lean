import Knut.Model.Loader
import Knut.Proofs.ListMapM
/-!
# The recursive include loader `Loader.loadRec` (`syntax.parseRec`) as a call tree

`Calls` is the tree of calls a load makes (one per include path the parser delivers), `Fails` a call that returns an error
itself (cycle, unreadable file, rejected by the parser), `Walk` a chain of `Includes` edges from the root. A load succeeds iff no
call of its tree fails (`loadRec_ok_iff`), every call is the end of a walk and conversely (`walk_of_calls`, `calls_of_walk`), and
a depth budget above the number of readable paths is never used up (`loadFuel_eq`). The C14 statements are phrased with these
notions; the C05 layout theorems (`Proofs/LayoutTree.lean`) and C09 for `Cmd.run` (`Proofs/ElabCommands.lean`) compute loads
with `loadRec_read` and `body`.
-/
namespace Knut.Loader

variable {E F : Type}

theorem loadRec_cycle (fs : FileSys) (parse : Path → Bytes → Parsed E F) (file : Path) (anc : List Path)
    (h : inChain anc file = true) : loadRec fs parse file anc = .error (.cycle file) := by
  rw [loadRec]; simp [h]

theorem loadRec_unreadable (fs : FileSys) (parse : Path → Bytes → Parsed E F) (file : Path) (anc : List Path)
    (h : inChain anc file = false) (hr : fs.read file = none) : loadRec fs parse file anc = .error (.unreadable file) := by
  rw [loadRec]; simp only [h, Bool.false_eq_true, dite_false]; split
  · rfl
  · next text ht => rw [hr] at ht; cases ht

/-- the body of `parseRec` once the file has been read -/
def body (fs : FileSys) (parse : Path → Bytes → Parsed E F) (file : Path) (anc : List Path) (text : Bytes) :
    Except (LoadErr E) (List (Path × F)) :=
  match (parse file text).result with
  | .error e => .error (.parse file e)
  | .ok f =>
    match collect ((parse file text).includes.map (fun inc => loadRec fs parse (resolve file inc) (anc ++ [file]))) with
    | .error e => .error e
    | .ok fs' => .ok ((file, f) :: fs')

theorem loadRec_read (fs : FileSys) (parse : Path → Bytes → Parsed E F) (file : Path) (anc : List Path) (text : Bytes)
    (h : inChain anc file = false) (hr : fs.read file = some text) :
    loadRec fs parse file anc = body fs parse file anc text := by
  rw [loadRec]; simp only [h, Bool.false_eq_true, dite_false]; split
  · next hn => rw [hr] at hn; cases hn
  · next t ht =>
    rw [hr] at ht; cases ht
    rfl

theorem loadRec_induction (fs : FileSys) (parse : Path → Bytes → Parsed E F) {motive : Path → List Path → Prop}
    (step : ∀ file anc, (∀ text inc, inChain anc file = false → fs.read file = some text →
      motive (resolve file inc) (anc ++ [file])) → motive file anc) (file : Path) (anc : List Path) : motive file anc :=
  step file anc fun _ inc _ _ => loadRec_induction fs parse step (resolve file inc) (anc ++ [file])
termination_by remaining fs anc
decreasing_by exact remaining_lt fs anc file ‹_› (by simp [*])

theorem loadRec_cases (fs : FileSys) (parse : Path → Bytes → Parsed E F) (file : Path) (anc : List Path) :
    (inChain anc file = true ∧ loadRec fs parse file anc = .error (.cycle file)) ∨
    (inChain anc file = false ∧ fs.read file = none ∧ loadRec fs parse file anc = .error (.unreadable file)) ∨
    ∃ text, inChain anc file = false ∧ fs.read file = some text ∧ loadRec fs parse file anc = body fs parse file anc text := by
  cases hc : inChain anc file with
  | true => exact Or.inl ⟨rfl, loadRec_cycle _ _ _ _ hc⟩
  | false =>
    cases hr : fs.read file with
    | none => exact Or.inr (Or.inl ⟨rfl, rfl, loadRec_unreadable _ _ _ _ hc hr⟩)
    | some text => exact Or.inr (Or.inr ⟨text, rfl, rfl, loadRec_read _ _ _ _ _ hc hr⟩)

theorem body_ok_iff (fs : FileSys) (parse : Path → Bytes → Parsed E F) (file : Path) (anc : List Path) (text : Bytes)
    (files : List (Path × F)) :
    body fs parse file anc text = .ok files ↔ ∃ f fs', (parse file text).result = .ok f ∧
      collect ((parse file text).includes.map fun inc => loadRec fs parse (resolve file inc) (anc ++ [file])) = .ok fs' ∧
      files = (file, f) :: fs' := by
  unfold body
  cases (parse file text).result with
  | error e => exact ⟨(fun h => nomatch h), fun ⟨_, _, h, _⟩ => nomatch h⟩
  | ok f =>
    cases collect ((parse file text).includes.map fun inc => loadRec fs parse (resolve file inc) (anc ++ [file])) with
    | error e => exact ⟨(fun h => nomatch h), fun ⟨_, _, _, h, _⟩ => nomatch h⟩
    | ok fs' =>
      exact ⟨fun h => ⟨f, fs', rfl, rfl, by cases h; rfl⟩, fun ⟨_, _, h1, h2, e⟩ => by cases h1; cases h2; rw [e]⟩

theorem collect_ok_iff {ε α : Type} : ∀ (l : List (Except ε (List α))),
    (∃ xs, collect l = .ok xs) ↔ ∀ r ∈ l, ∃ x, r = .ok x
  | [] => by simp [collect]
  | .error e :: rest => by
    simp only [collect, List.mem_cons, forall_eq_or_imp]
    constructor
    · rintro ⟨_, h⟩; cases h
    · rintro ⟨⟨_, h⟩, _⟩; cases h
  | .ok xs :: rest => by
    have ih := collect_ok_iff rest
    simp only [collect, List.mem_cons, forall_eq_or_imp]
    constructor
    · rintro ⟨ys, h⟩
      refine ⟨⟨xs, rfl⟩, ih.mp ?_⟩
      cases hc : collect rest with
      | error e => rw [hc] at h; cases h
      | ok zs => exact ⟨zs, rfl⟩
    · rintro ⟨_, h⟩
      obtain ⟨zs, hz⟩ := ih.mpr h
      exact ⟨xs ++ zs, by rw [hz]⟩

theorem collect_ok_or_error {ε α : Type} (l : List (Except ε (List α))) :
    (∃ xs, collect l = .ok xs) ∨ (∃ e, collect l = .error e) := by
  cases collect l with
  | ok xs => exact Or.inl ⟨xs, rfl⟩
  | error e => exact Or.inr ⟨e, rfl⟩

/-- the call `parseRec(file, anc)` returns an error itself: cycle, unreadable file, or rejected by the parser -/
def Fails (fs : FileSys) (parse : Path → Bytes → Parsed E F) (file : Path) (anc : List Path) : Prop :=
  inChain anc file = true ∨ fs.read file = none ∨ ∃ text e, fs.read file = some text ∧ (parse file text).result = .error e

/-- `Calls file anc file' anc'`: the call `parseRec(file, anc)` is, or (transitively) starts, the call
`parseRec(file', anc')`. A call starts one call per include path its parser delivers, whether or not the parse
succeeds in the end. -/
inductive Calls (fs : FileSys) (parse : Path → Bytes → Parsed E F) : Path → List Path → Path → List Path → Prop
  | refl (file : Path) (anc : List Path) : Calls fs parse file anc file anc
  | step {file : Path} {anc : List Path} {text : Bytes} {inc : String} {file' : Path} {anc' : List Path} :
      inChain anc file = false → fs.read file = some text → inc ∈ (parse file text).includes →
      Calls fs parse (resolve file inc) (anc ++ [file]) file' anc' → Calls fs parse file anc file' anc'

theorem Calls.trans {fs : FileSys} {parse : Path → Bytes → Parsed E F} {f1 f2 f3 : Path} {a1 a2 a3 : List Path}
    (h1 : Calls fs parse f1 a1 f2 a2) (h2 : Calls fs parse f2 a2 f3 a3) : Calls fs parse f1 a1 f3 a3 := by
  induction h1 with
  | refl => exact h2
  | step hc hr hi _ ih => exact .step hc hr hi (ih h2)

theorem loadRec_ok_iff (fs : FileSys) (parse : Path → Bytes → Parsed E F) (file : Path) (anc : List Path) :
    (∃ files, loadRec fs parse file anc = .ok files) ↔
      ∀ file' anc', Calls fs parse file anc file' anc' → ¬ Fails fs parse file' anc' := by
  induction file, anc using loadRec_induction fs parse with
  | step file anc ih =>
    obtain ⟨hc, h⟩ | ⟨hc, hr, h⟩ | ⟨text, hc, hr, h⟩ := loadRec_cases fs parse file anc <;> rw [h]
    · exact ⟨(fun ⟨_, h⟩ => nomatch h), fun h => absurd (Or.inl hc) (h _ _ (.refl _ _))⟩
    · exact ⟨(fun ⟨_, h⟩ => nomatch h), fun h => absurd (Or.inr (Or.inl hr)) (h _ _ (.refl _ _))⟩
    · have hkids := collect_ok_iff ((parse file text).includes.map fun inc => loadRec fs parse (resolve file inc) (anc ++ [file]))
      simp only [List.forall_mem_map] at hkids
      constructor
      · rintro ⟨files, hok⟩ f' a' hcl
        obtain ⟨f, fs', hf, hcol, _⟩ := (body_ok_iff ..).mp hok
        cases hcl with
        | refl =>
          rintro (h | h | ⟨t, e, h1, h2⟩)
          · rw [hc] at h; cases h
          · rw [hr] at h; cases h
          · rw [hr] at h1; cases h1; rw [hf] at h2; cases h2
        | step _ hr2 hi hcl' =>
          rw [hr] at hr2; cases hr2
          exact (ih text _ hc hr).mp (hkids.mp ⟨fs', hcol⟩ _ hi) _ _ hcl'
      · intro hno
        cases hf : (parse file text).result with
        | error e => exact absurd (Or.inr (Or.inr ⟨text, e, hr, hf⟩)) (hno _ _ (.refl _ _))
        | ok f =>
          obtain ⟨fs', hcol⟩ := hkids.mpr fun inc hi => (ih text inc hc hr).mpr fun f' a' hcl => hno f' a' (.step hc hr hi hcl)
          exact ⟨_, (body_ok_iff ..).mpr ⟨f, fs', hf, hcol, rfl⟩⟩

theorem loadRec_ok_or_error (fs : FileSys) (parse : Path → Bytes → Parsed E F) (file : Path) (anc : List Path) :
    (∃ files, loadRec fs parse file anc = .ok files) ∨ (∃ e, loadRec fs parse file anc = .error e) := by
  cases loadRec fs parse file anc with
  | ok xs => exact Or.inl ⟨xs, rfl⟩
  | error e => exact Or.inr ⟨e, rfl⟩

theorem loadRec_error_iff (fs : FileSys) (parse : Path → Bytes → Parsed E F) (file : Path) (anc : List Path) :
    (∃ e, loadRec fs parse file anc = .error e) ↔
      ∃ file' anc', Calls fs parse file anc file' anc' ∧ Fails fs parse file' anc' := by
  have h := loadRec_ok_iff fs parse file anc
  constructor
  · rintro ⟨e, he⟩
    apply Classical.byContradiction
    intro hn
    have : ∃ files, loadRec fs parse file anc = .ok files :=
      h.mpr (fun f' a' hc hf => hn ⟨f', a', hc, hf⟩)
    obtain ⟨_, hh⟩ := this
    rw [hh] at he; cases he
  · rintro ⟨f', a', hc, hf⟩
    rcases loadRec_ok_or_error fs parse file anc with hok | herr
    · exact absurd hf (h.mp hok f' a' hc)
    · exact herr


theorem remaining_le_length (fs : FileSys) (anc : List Path) : remaining fs anc ≤ fs.paths.length := by
  unfold remaining; exact List.length_filter_le _ _

theorem loadFuel_eq (fs : FileSys) (parse : Path → Bytes → Parsed E F) :
    ∀ (n : Nat) (file : Path) (anc : List Path), remaining fs anc < n →
      loadFuel fs parse n file anc = some (loadRec fs parse file anc)
  | 0, _, _, h => by omega
  | n + 1, file, anc, h => by
    unfold loadFuel
    cases hc : inChain anc file with
    | true => simp [loadRec_cycle _ _ _ _ hc]
    | false =>
      cases hr : fs.read file with
      | none => simp [loadRec_unreadable _ _ _ _ hc hr]
      | some text =>
        have hlt := remaining_lt fs anc file hc (by simp [hr])
        have hk := mapM_some_of_forall (l := (parse file text).includes)
          (f := fun inc => loadFuel fs parse n (resolve file inc) (anc ++ [file]))
          (g := fun inc => loadRec fs parse (resolve file inc) (anc ++ [file]))
          (fun inc _ => loadFuel_eq fs parse n _ _ (by omega))
        simp only [Bool.false_eq_true, if_false, hk, loadRec_read _ _ _ _ _ hc hr, body]
        cases (parse file text).result with
        | error e => rfl
        | ok f =>
          simp only
          cases collect ((parse file text).includes.map (fun inc => loadRec fs parse (resolve file inc) (anc ++ [file]))) <;> rfl

/-- `b` is named by an include directive the parser delivers for the readable file `a` -/
def Includes (fs : FileSys) (parse : Path → Bytes → Parsed E F) (a b : Path) : Prop :=
  ∃ text inc, fs.read a = some text ∧ inc ∈ (parse a text).includes ∧ b = resolve a inc

/-- `Walk a vs c`: following include directives from `a` one reaches `c`; `vs` are the files passed on the way,
in order, starting with `a` and without `c` (empty for `a = c`, no step) -/
inductive Walk (fs : FileSys) (parse : Path → Bytes → Parsed E F) : Path → List Path → Path → Prop
  | nil (a : Path) : Walk fs parse a [] a
  | cons {a b c : Path} {vs : List Path} : Includes fs parse a b → Walk fs parse b vs c → Walk fs parse a (a :: vs) c

theorem calls_of_walk {fs : FileSys} {parse : Path → Bytes → Parsed E F} {a c : Path} {vs : List Path}
    (w : Walk fs parse a vs c) : ∀ (anc : List Path),
    (∀ f' a', Calls fs parse a anc f' a' → ¬ Fails fs parse f' a') → Calls fs parse a anc c (anc ++ vs) := by
  induction w with
  | nil a => intro anc _; rw [List.append_nil]; exact .refl a anc
  | @cons a0 b0 c0 vs0 hinc _ ih =>
    intro anc hno
    -- `b0 = resolve a0 inc` is used by rewriting: substituting it makes Lean normalise `resolve a0 inc`
    obtain ⟨text, inc, hr, hi, hb⟩ := hinc
    have hc : inChain anc a0 = false := by
      cases h : inChain anc a0 with
      | false => rfl
      | true => exact absurd (Or.inl h) (hno _ _ (.refl _ _))
    have := ih (anc ++ [a0]) (fun f' a' hcl => hno f' a' (.step hc hr hi (hb ▸ hcl)))
    rw [List.append_assoc, hb] at this
    exact .step hc hr hi this

theorem load_error_of_walk {fs : FileSys} {parse : Path → Bytes → Parsed E F} {root c : Path} {vs : List Path}
    (w : Walk fs parse root vs c) (hf : Fails fs parse c vs) : ∃ e, load fs parse root = .error e := by
  unfold load
  rcases loadRec_ok_or_error fs parse root [] with hok | herr
  · have hno := (loadRec_ok_iff fs parse root []).mp hok
    have hc := calls_of_walk w [] hno
    simp only [List.nil_append] at hc
    exact absurd hf (hno _ _ hc)
  · exact herr


theorem walk_of_calls {fs : FileSys} {parse : Path → Bytes → Parsed E F} {a c : Path} {anc anc' : List Path}
    (h : Calls fs parse a anc c anc') : ∃ vs, anc' = anc ++ vs ∧ Walk fs parse a vs c := by
  induction h with
  | refl file anc => exact ⟨[], by simp, .nil _⟩
  | @step file anc text inc file' anc' _ hr hi _ ih =>
    obtain ⟨vs, h1, h2⟩ := ih
    exact ⟨file :: vs, by simp [h1], .cons ⟨text, inc, hr, hi, rfl⟩ h2⟩


theorem collect_mem {ε α : Type} : ∀ (l : List (Except ε (List α))) (xs : List α), collect l = .ok xs →
    ∀ x ∈ xs, ∃ ys, .ok ys ∈ l ∧ x ∈ ys
  | [], xs, h, x, hx => by simp [collect] at h; subst h; cases hx
  | .error e :: rest, xs, h, x, hx => by simp [collect] at h
  | .ok ys :: rest, xs, h, x, hx => by
    simp only [collect] at h
    cases hc : collect rest with
    | error e => rw [hc] at h; cases h
    | ok zs =>
      rw [hc] at h
      cases h
      rcases List.mem_append.mp hx with h1 | h2
      · exact ⟨ys, List.mem_cons_self, h1⟩
      · obtain ⟨ws, hw, hxw⟩ := collect_mem rest zs hc x h2
        exact ⟨ws, List.mem_cons_of_mem _ hw, hxw⟩

theorem loadRec_mem (fs : FileSys) (parse : Path → Bytes → Parsed E F) (file : Path) (anc : List Path) :
    ∀ files, loadRec fs parse file anc = .ok files →
      ∀ pf ∈ files, ∃ text, fs.read pf.1 = some text ∧ (parse pf.1 text).result = .ok pf.2 := by
  induction file, anc using loadRec_induction fs parse with
  | step file anc ih =>
    intro files h pf hpf
    obtain ⟨_, h'⟩ | ⟨_, _, h'⟩ | ⟨text, hc, hr, h'⟩ := loadRec_cases fs parse file anc <;> rw [h'] at h
    · cases h
    · cases h
    · obtain ⟨f, fs', hf, hcol, rfl⟩ := (body_ok_iff ..).mp h
      rcases List.mem_cons.mp hpf with rfl | hin
      · exact ⟨text, hr, hf⟩
      · obtain ⟨ys, hys, hx⟩ := collect_mem _ _ hcol pf hin
        obtain ⟨inc, _, hk⟩ := List.mem_map.mp hys
        exact ih text inc hc hr ys hk pf hx
end Knut.Loader
