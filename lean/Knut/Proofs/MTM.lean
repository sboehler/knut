import Knut.Proofs.Balance
/-! The quantitative core of C03 for ONE position `(a, c)`, `c ≠ V`: a valuation trace (`DayStep`, `St`, `stepDay`, `run`)
mirroring `Valuate.DayStart` / `Valuate.Posting` — the adjustment `Truncate₈((p_d − p_{d−1})·Q_{d−1})` unless the position is
closed or the price did not move, the bookings valued `Truncate₈(q·p_d)` unless `q = 0` — and `run_bound`: the exact terms
telescope, and each truncation moves the value toward zero by less than `10⁻⁸` (`trunc_close`).  Error bounds are stated as
`Within x y` and added with `Within.add`; `Tracks` is the shape of a mark-to-market statement about a column. -/
namespace Knut.MTM
open Knut Knut.Dec

def Within (x y : Rat) : Prop := -y ≤ x ∧ x ≤ y

theorem Within.add {x y a b : Rat} (h1 : Within x a) (h2 : Within y b) : Within (x + y) (a + b) := by
  unfold Within at *
  constructor <;> grind

theorem Within.mono {x a b : Rat} (h : Within x a) (hab : a ≤ b) : Within x b := by
  unfold Within at *
  constructor <;> grind

theorem within_zero : Within 0 0 := ⟨by decide, by decide⟩

theorem Within.add_units {x y u : Rat} {m n : Nat} (h1 : Within x (m * u)) (h2 : Within y (n * u)) :
    Within (x + y) ((m + n : Nat) * u) := by
  rw [Rat.natCast_add, Rat.add_mul]
  exact h1.add h2

theorem abs_lt_of {x y : Rat} (h1 : -y < x) (h2 : x < y) : x.abs < y := by
  unfold Rat.abs; split <;> grind

theorem abs_le_of {x y : Rat} (h1 : -y ≤ x) (h2 : x ≤ y) : x.abs ≤ y := by
  unfold Rat.abs; split <;> grind

theorem zero_add_sub_sub (x y z : Rat) : 0 + x - y - (0 - z) = x - (y - z) := by grind

theorem sub_add_sub_cancel (a b c : Rat) : (a - b) + (b - c) = a - c := by grind

theorem add_sub_add_comm (a b c d : Rat) : (a + b) - (c + d) = (a - c) + (b - d) := by grind

def ulp (n : Nat) : Rat := 1 / (10 : Rat) ^ n

theorem p10_pos (n : Nat) : (0 : Rat) < (10 : Rat) ^ n := Rat.pow_pos (by decide)

theorem ulp_pos (n : Nat) : 0 < ulp n := by
  unfold ulp
  rw [Rat.div_def, Rat.one_mul]
  exact Rat.inv_pos.mpr (p10_pos n)

theorem ulp_mul (n : Nat) : ulp n * (10 : Rat) ^ n = 1 := by
  unfold ulp
  exact Rat.div_mul_cancel (Rat.ne_of_gt (p10_pos n))

theorem mul_ulp (k : Rat) (n : Nat) : k * ulp n = k / (10 : Rat) ^ n := by
  unfold ulp
  rw [Rat.div_def, Rat.div_def, Rat.one_mul]

/-- general `n` version of `C03_trunc_error` -/
theorem scaledTrunc_bounds (n : Nat) (r : Rat) :
    let s := r.num * pow10 n
    (0 ≤ s → scaledTrunc n r * r.den ≤ s ∧ s < (scaledTrunc n r + 1) * r.den) ∧
    (s ≤ 0 → s ≤ scaledTrunc n r * r.den ∧ (scaledTrunc n r - 1) * r.den < s) := by
  intro s
  have hd : (0 : Int) < r.den := by have := r.den_pos; omega
  unfold scaledTrunc
  show (0 ≤ s → s.tdiv r.den * r.den ≤ s ∧ s < (s.tdiv r.den + 1) * r.den) ∧
    (s ≤ 0 → s ≤ s.tdiv r.den * r.den ∧ (s.tdiv r.den - 1) * r.den < s)
  have key := Int.tmod_add_tdiv_mul s r.den
  have h2 := Int.tmod_lt_of_pos s hd
  have e1 : (s.tdiv r.den + 1) * (r.den : Int) = s.tdiv r.den * r.den + r.den := by rw [Int.add_mul, Int.one_mul]
  have e2 : (s.tdiv r.den - 1) * (r.den : Int) = s.tdiv r.den * r.den - r.den := by rw [Int.sub_mul, Int.one_mul]
  rw [e1, e2]
  generalize s.tdiv r.den * (r.den : Int) = m at key
  constructor
  · intro hs
    have h3 : 0 ≤ s.tmod r.den := Int.tmod_nonneg _ hs
    constructor <;> omega
  · intro hs
    have h3 : s.tmod r.den ≤ 0 := by
      have := Int.tmod_nonneg (r.den : Int) (a := -s) (by omega)
      rw [Int.neg_tmod] at this; omega
    have h4 : -(r.den : Int) < s.tmod r.den := by
      have := Int.tmod_lt_of_pos (-s) hd
      rw [Int.neg_tmod] at this; omega
    constructor <;> omega

theorem trunc_mul_p10 (n : Nat) (r : Rat) : trunc n r * (10 : Rat) ^ n = (scaledTrunc n r : Rat) := by
  unfold trunc
  rw [Rat.mkRat_eq_div, Rat.natCast_pow]
  exact Rat.div_mul_cancel (Rat.ne_of_gt (p10_pos n))

theorem mul_den (r : Rat) : r * (r.den : Rat) = (r.num : Rat) := by
  have h : r = (r.num : Rat) / ((r.den : Nat) : Rat) := by
    rw [← Rat.mkRat_eq_div, Rat.mkRat_self]
  have hd : ((r.den : Nat) : Rat) ≠ 0 := Rat.ne_of_gt (Rat.natCast_pos.mpr r.den_pos)
  calc r * (r.den : Rat) = (r.num : Rat) / ((r.den : Nat) : Rat) * (r.den : Rat) := by rw [← h]
    _ = r.num := Rat.div_mul_cancel hd

theorem pow10_cast (n : Nat) : ((pow10 n : Int) : Rat) = (10 : Rat) ^ n := by
  unfold pow10
  rw [Rat.intCast_pow]; rfl

theorem trunc_nonneg_case (n : Nat) (r : Rat) (h : 0 ≤ r) :
    trunc n r ≤ r ∧ r < trunc n r + ulp n := by
  have hD : (0 : Rat) < (r.den : Rat) := Rat.natCast_pos.mpr r.den_pos
  have hP := p10_pos n
  have hPD : (0 : Rat) < (10 : Rat) ^ n * (r.den : Rat) := Rat.mul_pos hP hD
  have hs : 0 ≤ r.num * pow10 n := Int.mul_nonneg (Rat.num_nonneg.mpr h) (by unfold pow10; exact Int.pow_nonneg (by decide))
  obtain ⟨h1, h2⟩ := (scaledTrunc_bounds n r).1 hs
  have c1 := Rat.intCast_le_intCast.mpr h1
  have c2 := Rat.intCast_lt_intCast.mpr h2
  rw [Rat.intCast_mul, Rat.intCast_mul, pow10_cast, ← trunc_mul_p10, ← mul_den r, Rat.intCast_natCast] at c1
  rw [Rat.intCast_mul, Rat.intCast_mul, pow10_cast, Rat.intCast_add, ← trunc_mul_p10, ← mul_den r, Rat.intCast_natCast] at c2
  constructor
  · apply Rat.le_of_mul_le_mul_right _ hPD
    rw [← Rat.mul_assoc, Rat.mul_comm ((10 : Rat) ^ n) (r.den : Rat), ← Rat.mul_assoc]
    exact c1
  · apply Rat.lt_of_mul_lt_mul_right _ (Rat.le_of_lt hPD)
    rw [← Rat.mul_assoc (trunc n r + ulp n), Rat.add_mul, ulp_mul, Rat.mul_comm ((10 : Rat) ^ n) (r.den : Rat),
      ← Rat.mul_assoc]
    exact c2

theorem sub_bounds_of_nonneg {t r u : Rat} (h1 : t ≤ r) (h2 : r < t + u) : -u < t - r ∧ t - r ≤ 0 := by
  constructor <;> grind

theorem both_of_nonpos {x u : Rat} (hu : 0 < u) (h1 : -u < x) (h2 : x ≤ 0) : -u < x ∧ x < u := by
  constructor <;> grind

theorem both_of_nonneg {x u : Rat} (hu : 0 < u) (h1 : 0 ≤ x) (h2 : x < u) : -u < x ∧ x < u := by
  constructor <;> grind

theorem sub_bounds_neg {t r u : Rat} (h : -u < -t - -r ∧ -t - -r ≤ 0) : 0 ≤ t - r ∧ t - r < u := by
  constructor <;> grind

def terr (n : Nat) (r : Rat) : Rat := trunc n r - r

/-- **`Truncate(n)` is close**: it moves a value toward zero by less than one unit of the `n`-th decimal (the case
`r ≤ 0` is the case `0 ≤ −r`: `Truncate` is odd) -/
theorem trunc_close (n : Nat) (r : Rat) :
    (0 ≤ r → -ulp n < trunc n r - r ∧ trunc n r - r ≤ 0) ∧
    (r ≤ 0 → 0 ≤ trunc n r - r ∧ trunc n r - r < ulp n) := by
  refine ⟨fun h => sub_bounds_of_nonneg (trunc_nonneg_case n r h).1 (trunc_nonneg_case n r h).2, fun h => ?_⟩
  have h' := trunc_nonneg_case n (-r) (by rw [← Rat.neg_zero]; exact Rat.neg_le_neg h)
  rw [trunc_neg] at h'
  exact sub_bounds_neg (sub_bounds_of_nonneg h'.1 h'.2)

theorem trunc_close_both (n : Nat) (r : Rat) : -ulp n < trunc n r - r ∧ trunc n r - r < ulp n := by
  have hu := ulp_pos n
  rcases Rat.le_total (a := 0) (b := r) with h | h
  · exact both_of_nonpos hu ((trunc_close n r).1 h).1 ((trunc_close n r).1 h).2
  · exact both_of_nonneg hu ((trunc_close n r).2 h).1 ((trunc_close n r).2 h).2

theorem trunc_within (n : Nat) (r : Rat) : Within (trunc n r - r) (ulp n) :=
  ⟨Rat.le_of_lt (trunc_close_both n r).1, Rat.le_of_lt (trunc_close_both n r).2⟩

/-- one day of one position `(a, c)`, `c ≠ V`: yesterday's and today's price of `c` in `V` and the signed
quantities booked today -/
structure DayStep where
  pPrev : Rat
  pCur : Rat
  qs : List Rat
  deriving Repr

/-- running value `W`, running quantity `Q`, number of truncations so far -/
structure St where
  W : Rat := 0
  Q : Rat := 0
  steps : Nat := 0
  deriving DecidableEq, Repr

/-- `Valuate.DayStart` for the position: nothing if closed or the price did not move -/
def adjSkipped (Q pPrev pCur : Rat) : Prop := Q = 0 ∨ pCur - pPrev = 0

instance (Q pPrev pCur : Rat) : Decidable (adjSkipped Q pPrev pCur) := by unfold adjSkipped; infer_instance

def adjustment (Q pPrev pCur : Rat) : Rat :=
  if adjSkipped Q pPrev pCur then 0 else trunc 8 ((pCur - pPrev) * Q)

/-- `Valuate.Posting` for the day's bookings: zero quantities are not valued -/
def booked (pCur : Rat) (qs : List Rat) : Rat :=
  ((qs.filter (fun q => q ≠ 0)).map (fun q => trunc 8 (q * pCur))).sum

def stepDay (s : St) (d : DayStep) : St :=
  { W := s.W + adjustment s.Q d.pPrev d.pCur + booked d.pCur d.qs,
    Q := s.Q + d.qs.sum,
    steps := s.steps + (if adjSkipped s.Q d.pPrev d.pCur then 0 else 1) + (d.qs.filter (fun q => q ≠ 0)).length }

def run (s : St) (ds : List DayStep) : St := ds.foldl stepDay s

/-- yesterday's price of each day is the previous day's price of today; `p0` is the price before the first day -/
def Consistent (p0 : Rat) : List DayStep → Prop
  | [] => True
  | d :: ds => d.pPrev = p0 ∧ Consistent d.pCur ds

def lastPrice (p0 : Rat) : List DayStep → Rat
  | [] => p0
  | d :: ds => lastPrice d.pCur ds

theorem natCast_zero_mul (u : Rat) : ((0 : Nat) : Rat) * u = 0 := Rat.zero_mul u

theorem natCast_one_mul (u : Rat) : ((1 : Nat) : Rat) * u = u := Rat.one_mul u

theorem natCast_sub_of_le {m n : Nat} (h : m ≤ n) : ((n - m : Nat) : Rat) = (n : Rat) - (m : Rat) := by
  obtain ⟨k, rfl⟩ := Nat.exists_eq_add_of_le h
  rw [Nat.add_sub_cancel_left, Rat.natCast_add]
  grind

theorem adjustment_zero (pp cp : Rat) : adjustment 0 pp cp = 0 := if_pos (Or.inl rfl)

theorem adjustment_same {Q pp cp : Rat} (h : cp - pp = 0) : adjustment Q pp cp = 0 := if_pos (Or.inr h)

theorem adjustment_of_ne {Q pp cp : Rat} (hq : Q ≠ 0) (hd : cp - pp ≠ 0) :
    adjustment Q pp cp = trunc 8 ((cp - pp) * Q) := if_neg (fun h => h.elim hq hd)

theorem adjustment_err (Q pPrev pCur : Rat) :
    Within (adjustment Q pPrev pCur - (pCur - pPrev) * Q)
      (((if adjSkipped Q pPrev pCur then 0 else 1 : Nat) : Rat) * ulp 8) := by
  unfold adjustment
  by_cases h : adjSkipped Q pPrev pCur
  · have : (pCur - pPrev) * Q = 0 := by
      rcases h with h | h
      · rw [h, Rat.mul_zero]
      · rw [h, Rat.zero_mul]
    rw [if_pos h, if_pos h, this, natCast_zero_mul, Rat.sub_self]
    exact within_zero
  · rw [if_neg h, if_neg h, natCast_one_mul]
    exact trunc_within 8 _

theorem booked_cons_zero (p : Rat) (qs : List Rat) : booked p (0 :: qs) = booked p qs := by
  unfold booked
  rw [List.filter_cons_of_neg (by simp)]

theorem booked_cons_ne (p q : Rat) (qs : List Rat) (hq : q ≠ 0) : booked p (q :: qs) = trunc 8 (q * p) + booked p qs := by
  unfold booked
  rw [List.filter_cons_of_pos (by simp [hq]), List.map_cons, List.sum_cons]

theorem booked_err (p : Rat) : ∀ (qs : List Rat),
    Within (booked p qs - (qs.map (· * p)).sum) (((qs.filter (fun q => q ≠ 0)).length : Nat) * ulp 8)
  | [] => by
    have e : booked p [] - (([] : List Rat).map (· * p)).sum = 0 := Rat.sub_self
    rw [e, List.filter_nil, List.length_nil, natCast_zero_mul]
    exact within_zero
  | q :: rest => by
    have ih := booked_err p rest
    rw [List.map_cons, List.sum_cons]
    by_cases hq : q = 0
    · subst hq
      rw [booked_cons_zero, List.filter_cons_of_neg (by simp), Rat.zero_mul, Rat.zero_add]
      exact ih
    · rw [booked_cons_ne p q rest hq, List.filter_cons_of_pos (by simp [hq]), List.length_cons, add_sub_add_comm,
        Nat.add_comm]
      have h1 := trunc_within 8 (q * p)
      rw [← natCast_one_mul (ulp 8)] at h1
      exact h1.add_units ih

/-- the exact identity behind mark-to-market -/
theorem telescope (Qprev pPrev pCur : Rat) (qs : List Rat) :
    Qprev * pPrev + (pCur - pPrev) * Qprev + (qs.map (· * pCur)).sum = (Qprev + qs.sum) * pCur := by
  induction qs with
  | nil => simp; grind
  | cons q rest ih =>
    simp only [List.map_cons, List.sum_cons] at ih ⊢
    grind

/-- deviation of the running value from the exact mark-to-market value at price `p` -/
def dev (s : St) (p : Rat) : Rat := s.W - s.Q * p

/-- one day: the deviation moves by the errors of the day's truncations, the exact terms telescope -/
theorem stepDay_bound (s : St) (d : DayStep) :
    Within (dev (stepDay s d) d.pCur - dev s d.pPrev) ((((stepDay s d).steps : Rat) - (s.steps : Rat)) * ulp 8) := by
  have e : dev (stepDay s d) d.pCur - dev s d.pPrev =
      (adjustment s.Q d.pPrev d.pCur - (d.pCur - d.pPrev) * s.Q) + (booked d.pCur d.qs - (d.qs.map (· * d.pCur)).sum) := by
    have t := telescope s.Q d.pPrev d.pCur d.qs
    unfold dev stepDay
    simp only
    grind
  have k : ((stepDay s d).steps : Rat) - (s.steps : Rat) =
      (((if adjSkipped s.Q d.pPrev d.pCur then 0 else 1) + (d.qs.filter (fun q => q ≠ 0)).length : Nat) : Rat) := by
    unfold stepDay
    simp only [Rat.natCast_add]
    grind
  rw [e, k]
  exact (adjustment_err s.Q d.pPrev d.pCur).add_units (booked_err d.pCur d.qs)

/-- **windowed bound**: over any consistent stretch of days the change of the running value differs from the change
of the exact mark-to-market value by at most one unit of the 8th decimal per truncation -/
theorem run_bound : ∀ (p0 : Rat) (ds : List DayStep) (s : St), Consistent p0 ds →
    Within (dev (run s ds) (lastPrice p0 ds) - dev s p0) ((((run s ds).steps : Rat) - (s.steps : Rat)) * ulp 8)
  | p0, [], s, _ => by
    show Within (dev s p0 - dev s p0) (((s.steps : Rat) - (s.steps : Rat)) * ulp 8)
    rw [Rat.sub_self, Rat.sub_self, Rat.zero_mul]
    exact within_zero
  | p0, d :: ds, s, hc => by
    show Within (dev (run (stepDay s d) ds) (lastPrice d.pCur ds) - dev s p0)
      ((((run (stepDay s d) ds).steps : Rat) - (s.steps : Rat)) * ulp 8)
    have h := (run_bound d.pCur ds (stepDay s d) hc.2).add (stepDay_bound s d)
    rwa [hc.1, sub_add_sub_cancel, ← Rat.add_mul, sub_add_sub_cancel] at h

/-- **the change `x` of a shown value follows the change of an exact value** `mD − mF` — both of which exist — up to `B`
units of the 8th decimal: the shape of every mark-to-market statement about a column (`x` the change of a running total
between the eve and the end of the column, `mD`, `mF` the specification's values there, `B` its step bound) -/
def Tracks (x : Rat) (mD mF : Option Rat) (B : Nat) : Prop :=
  ∃ d f, mD = some d ∧ mF = some f ∧ -((B : Rat) * ulp 8) ≤ x - (d - f) ∧ x - (d - f) ≤ (B : Rat) * ulp 8

theorem Tracks.abs {x : Rat} {mD mF : Option Rat} {B : Nat} (h : Tracks x mD mF B) :
    ∃ d f, mD = some d ∧ mF = some f ∧ (x - (d - f)).abs ≤ (B : Rat) / (10 : Rat) ^ 8 := by
  obtain ⟨d, f, h1, h2, h3, h4⟩ := h
  exact ⟨d, f, h1, h2, by rw [← mul_ulp]; exact abs_le_of h3 h4⟩

theorem valuationAccount_not_AL (a : Account) : (valuationAccountFor a).isAL = false := by
  unfold valuationAccountFor Account.isAL Account.type? AccountType.ofName
  simp

theorem ne_valuationAccount (a : Account) (h : a.isAL = true) : a ≠ valuationAccountFor a := by
  intro he
  have := valuationAccount_not_AL a
  rw [← he, h] at this
  cases this

/-- non-vacuity example used in `Properties/C03Bound.lean` -/
def exampleTrace : List DayStep :=
  [⟨0, 1/3, [1]⟩, ⟨1/3, 2/3, [2, 0]⟩, ⟨2/3, 123456789/1000000000, [-1]⟩]

end Knut.MTM
