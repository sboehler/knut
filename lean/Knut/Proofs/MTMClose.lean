import Knut.Proofs.MTMFlows
/-! Period closing in a valued report.  With `--close` every day whose date is a shown period start books, for every
income/expense/equity position (except `Equity:Equity`), the accumulated quantity and VALUE against `Equity:Equity`.  A day
of the closing run is the day of the run without closing (`noClose cfg`: same checks, prices, valuation, filter) followed
by the closing transactions computed from the accumulators before the day (`dayQ_close`); these book minus the accumulated
value on every closable position, and the value accumulator is the total value booked so far, closings included
(`closings_valOn`, `run_cval`).  So the run without closing succeeds on the same days and differs by the closing
transactions only (`pipelineRun_parallel`): a column of a closable account shows, in terms of that run, its running total
at the period end minus that on the eve of the period (`C03_close_period` in `Properties/C03Flows.lean`). -/
namespace Knut.MTM
open Knut Knut.Dec Knut.Spec

def noClose (cfg : BalCfg) : BalCfg := { cfg with close := false }

theorem plain_noClose {cfg : BalCfg} (h : Plain cfg) : Plain (noClose cfg) := ⟨h.mapping, h.remap, h.acc, h.com⟩

def setC (st : BalState) (q v : AMap Position Rat) (es : List Entry) : BalState := { st with cQty := q, cVal := v, entries := es }

/-- the stages before CloseAccounts: check, prices, valuation, filter -/
def rawDay (cfg : BalCfg) (st : BalState) (d : Day) : Except BalErr (BalState × List Transaction) :=
  match Balance.checkStage st d with
  | .error e => .error e
  | .ok stc =>
    match Balance.valuationStage cfg stc d with
    | .error e => .error e
    | .ok (st1, txs1) => .ok (st1, Balance.filterStage cfg d txs1)

theorem rawDay_ok_iff {cfg : BalCfg} {st st1 : BalState} {d : Day} {raw : List Transaction} :
    rawDay cfg st d = .ok (st1, raw) ↔ ∃ r, Check.day st.chk d = .ok st1.chk ∧
      Balance.vStage cfg (Balance.vOf st) d = .ok (Balance.vOf st1, r) ∧ raw = Balance.filterStage cfg d r ∧
      Balance.cOf st1 = Balance.cOf st ∧ st1.entries = st.entries := by
  unfold rawDay Balance.checkStage
  cases Check.day st.chk d with
  | error e => exact ⟨fun h => (nomatch h), fun ⟨_, h, _⟩ => (nomatch h)⟩
  | ok k =>
    dsimp only
    cases hv : Balance.valuationStage cfg { st with chk := k } d with
    | error e =>
      refine ⟨fun h => (nomatch h), fun ⟨r, h1, h2, _, h4, h5⟩ => ?_⟩
      have := (Balance.valuationStage_ok_iff (st := { st with chk := k })).mpr ⟨h2, (Except.ok.inj h1).symm, h4, h5⟩
      rw [hv] at this; cases this
    | ok x =>
      obtain ⟨h2, h3, h4, h5⟩ := Balance.valuationStage_ok_iff.mp hv
      constructor
      · intro h; cases h; exact ⟨_, congrArg Except.ok h3.symm, h2, rfl, h4, h5⟩
      · rintro ⟨r, h1, h2', rfl, h4', h5'⟩
        have := (Balance.valuationStage_ok_iff (st := { st with chk := k })).mpr ⟨h2', (Except.ok.inj h1).symm, h4', h5'⟩
        rw [hv] at this; cases this; rfl

/-- the closing transactions `CloseAccounts` books on day `d`: those of `Balance.closingsAt` for the accumulators of `st` (none unless `d` is a period start) -/
def closingsOf (cfg : BalCfg) (st : BalState) (d : Day) : List Transaction :=
  if (cfg.periods.map (·.start)).contains d.date then Balance.closings d.date st.cQty st.cVal else []

theorem dayQ_close (cfg : BalCfg) (hcl : cfg.close = true) (st st' : BalState) (d : Day) (txs : List Transaction)
    (h : dayQ cfg st d = .ok (st', txs)) :
    ∃ st1 raw, rawDay cfg st d = .ok (st1, raw) ∧ txs = raw ++ closingsOf cfg st d ∧
      st' = { Balance.accumulate st1 txs with entries := (Balance.accumulate st1 txs).entries ++ txs.flatMap (Balance.queryTx cfg) } := by
  obtain ⟨r, hs⟩ := dayQ_ok_iff.mp h
  obtain ⟨hc1, rfl⟩ := Prod.mk.inj ((Balance.cStage_close hcl _ d _).symm.trans hs.close)
  refine ⟨Balance.join st'.chk (Balance.vOf st') (Balance.cOf st) st.entries, _,
    rawDay_ok_iff.mpr ⟨r, hs.chk, hs.val, rfl, rfl, rfl⟩, rfl, ?_⟩
  rw [Balance.accumulate_parts]
  exact Balance.eq_join.mpr ⟨rfl, rfl, hc1.symm, hs.entries⟩

/-- the accumulators are keyed alike: no duplicate keys, and a position without a quantity entry has no value -/
def KeyInv (st : BalState) : Prop :=
  AMap.NodupKeys st.cQty ∧ ∀ k, k ∉ st.cQty.map (·.1) → st.cVal.get k 0 = 0

theorem keyInv_init : KeyInv {} := ⟨AMap.nodupKeys_nil, fun _ _ => rfl⟩

theorem accumulate_keyInv (st : BalState) (ts : List Transaction) (h : KeyInv st) : KeyInv (Balance.accumulate st ts) := by
  refine ⟨Balance.accumulate_nodup h.1 ts, fun k hk => ?_⟩
  -- the two accumulators receive updates at the same keys
  rw [Balance.accumulate_keys, ← Balance.mem_closeUpd (f := (·.value))] at hk
  rw [Balance.accumulate_eq]
  show (List.foldl AMap.bump st.cVal _).get k 0 = 0
  rw [AMap.get_bumps, h.2 k (fun e => hk (Or.inl e)), AMap.added_of_not_mem (fun e => hk (Or.inr e)), Rat.add_zero]

theorem closings_valOn (b : Account) (c : Commodity) (hb : Spec.closable b = true) (date : Int) (cVal : AMap Position Rat)
    (cQty : AMap Position Rat) (hn : AMap.NodupKeys cQty) :
    valOn b c (Balance.closings date cQty cVal) = if (b, c) ∈ cQty.map (·.1) then -(cVal.get (b, c) 0) else 0 :=
  (Balance.added_closeUpd (·.value) _ (k := (b, c)) hb).symm.trans (Balance.added_closings_val date cVal hn hb)

/-- the accumulators being keyed alike (`KeyInv`), that is minus the accumulated value whether or not the position has an entry -/
theorem closings_valOn_inv (b : Account) (c : Commodity) (hb : Spec.closable b = true) (date : Int) (st : BalState)
    (h : KeyInv st) : valOn b c (Balance.closings date st.cQty st.cVal) = -(st.cVal.get (b, c) 0) := by
  rw [closings_valOn b c hb date st.cVal st.cQty h.1]
  split
  · rfl
  · rename_i hk
    rw [h.2 _ hk]
    exact Rat.neg_zero.symm

theorem dayQ_close_cval (cfg : BalCfg) (hcl : cfg.close = true) (st st' : BalState) (d : Day) (txs : List Transaction)
    (hk : KeyInv st) (h : dayQ cfg st d = .ok (st', txs)) :
    KeyInv st' ∧ ∀ (b : Account) (c : Commodity), Spec.closable b = true →
      st'.cVal.get (b, c) 0 = st.cVal.get (b, c) 0 + valOn b c txs := by
  obtain ⟨st1, raw, hr, _, hst⟩ := dayQ_close cfg hcl st st' d txs h
  obtain ⟨_, _, _, _, hc, _⟩ := rawDay_ok_iff.mp hr
  have f2 : st1.cVal = st.cVal := congrArg (·.cVal) hc
  have hk1 : KeyInv st1 := by unfold KeyInv; rw [show st1.cQty = st.cQty from congrArg (·.cQty) hc, f2]; exact hk
  rw [hst]
  refine ⟨accumulate_keyInv st1 txs hk1, ?_⟩
  intro b c hb
  show (Balance.accumulate st1 txs).cVal.get (b, c) 0 = _
  rw [Balance.accumulate_cVal_get txs st1 (k := (b, c)) hb, f2]
  rfl

theorem run_cval (cfg : BalCfg) (hcl : cfg.close = true) : ∀ (ds : List Day) (st st' : BalState) (txs : List Transaction),
    KeyInv st → pipelineRun cfg st ds = .ok (st', txs) →
    KeyInv st' ∧ ∀ (b : Account) (c : Commodity), Spec.closable b = true →
      st'.cVal.get (b, c) 0 = st.cVal.get (b, c) 0 + valOn b c txs
  | [], st, st', txs, hk, h => by
    obtain ⟨rfl, rfl⟩ := pipelineRun_nil_ok h
    exact ⟨hk, fun b c _ => (Rat.add_zero _).symm⟩
  | d :: ds, st, st', _, hk, h => by
    obtain ⟨sd, td, rest, hq, hr, rfl⟩ := pipelineRun_cons.mp h
    obtain ⟨k1, v1⟩ := dayQ_close_cval cfg hcl st sd d td hk hq
    obtain ⟨k2, v2⟩ := run_cval cfg hcl ds sd st' rest k1 hr
    refine ⟨k2, fun b c hb => ?_⟩
    rw [v2 b c hb, v1 b c hb, valOn_append]
    exact Rat.add_assoc _ _ _

/-- **a closing day resets a closable position**: what the day hands to Query on it is what the day itself booked minus
everything accumulated before -/
theorem dayQ_close_reset (cfg : BalCfg) (hcl : cfg.close = true) (st st' : BalState) (d : Day) (txs : List Transaction)
    (hk : KeyInv st) (hstart : (cfg.periods.map (·.start)).contains d.date = true)
    (h : dayQ cfg st d = .ok (st', txs)) (b : Account) (c : Commodity) (hb : Spec.closable b = true) :
    ∃ st1 raw, rawDay cfg st d = .ok (st1, raw) ∧ valOn b c txs = valOn b c raw - st.cVal.get (b, c) 0 := by
  obtain ⟨st1, raw, hr, htx, _⟩ := dayQ_close cfg hcl st st' d txs h
  refine ⟨st1, raw, hr, ?_⟩
  rw [htx, valOn_append]
  unfold closingsOf
  rw [hstart]
  simp only [if_true]
  rw [closings_valOn_inv b c hb d.date st hk]
  exact (Rat.sub_eq_add_neg _ _).symm

/-- the states of the two runs differ in the closing accumulators and the insert log only -/
def CEq (st stN : BalState) : Prop := ∃ q v e, stN = setC st q v e

theorem cEq_refl (st : BalState) : CEq st st := ⟨st.cQty, st.cVal, st.entries, rfl⟩

theorem cEq_iff {st stN : BalState} : CEq st stN ↔ stN.chk = st.chk ∧ Balance.vOf stN = Balance.vOf st :=
  ⟨fun ⟨_, _, _, h⟩ => h ▸ ⟨rfl, rfl⟩, fun ⟨h1, h2⟩ => ⟨stN.cQty, stN.cVal, stN.entries,
    (Balance.eq_join (c := Balance.cOf stN)).mpr ⟨h1, h2, rfl, rfl⟩⟩⟩

theorem dayQ_parallel (cfg : BalCfg) (hcl : cfg.close = true) (st st' stN : BalState) (d : Day) (txs : List Transaction)
    (hc : CEq st stN) (h : dayQ cfg st d = .ok (st', txs)) :
    ∃ stN' raw, dayQ (noClose cfg) stN d = .ok (stN', raw) ∧ CEq st' stN' ∧ txs = raw ++ closingsOf cfg st d := by
  obtain ⟨r, hs⟩ := dayQ_ok_iff.mp h
  obtain ⟨h1, h2⟩ := cEq_iff.mp hc
  refine ⟨Balance.join st'.chk (Balance.vOf st') (Balance.cOf stN)
      (stN.entries ++ (Balance.filterStage cfg d r).flatMap (Balance.queryTx cfg)), _,
    dayQ_ok_iff.mpr ⟨r, ?_, ?_, Balance.cStage_noClose rfl _ d _, rfl⟩, cEq_iff.mpr ⟨rfl, rfl⟩,
    (Prod.mk.inj ((Balance.cStage_close hcl _ d _).symm.trans hs.close)).2.symm⟩
  · rw [h1]; exact hs.chk
  · rw [h2]; exact hs.val

/-- **the two runs in parallel**: the run without closing succeeds on the same days; it hands the same transactions to
Query except for the closing transactions, so the inserts on asset/liability accounts are the same, and on days without
a period start all inserts are the same -/
theorem pipelineRun_parallel (cfg : BalCfg) (v : Commodity) (hv : cfg.valuation = some v) (hcl : cfg.close = true)
    (hpl : Plain cfg) :
    ∀ (ds : List Day) (st st' stN : BalState) (txs : List Transaction), CEq st stN → CloseInv st →
      pipelineRun cfg st ds = .ok (st', txs) →
      ∃ stN' raw, pipelineRun (noClose cfg) stN ds = .ok (stN', raw) ∧ CEq st' stN' ∧ CloseInv st' ∧
        (∀ (sel : Entry → Bool), (∀ e, sel e = true → e.account.isAL = true) →
          (txs.flatMap (Balance.queryTx cfg)).filter sel = (raw.flatMap (Balance.queryTx cfg)).filter sel) ∧
        ((∀ d ∈ ds, (cfg.periods.map (·.start)).contains d.date = false) → raw = txs)
  | [], st, st', stN, txs, hc, hinv, h => by
    obtain ⟨rfl, rfl⟩ := pipelineRun_nil_ok h
    exact ⟨stN, [], rfl, hc, hinv, fun _ _ => rfl, fun _ => rfl⟩
  | d :: ds, st, st', stN, _, hc, hinv, h => by
    obtain ⟨sd, td, rest, hq, hr, rfl⟩ := pipelineRun_cons.mp h
    obtain ⟨sdN, rawd, hqN, hcd, htd⟩ := dayQ_parallel cfg hcl st sd stN d td hc hq
    obtain ⟨s2N, rawr, hrN, hc2, hinv2, hal2, hsame2⟩ :=
      pipelineRun_parallel cfg v hv hcl hpl ds sd st' sdN rest hcd (dayQ_closeInv hinv hq) hr
    refine ⟨s2N, rawd ++ rawr, pipelineRun_cons.mpr ⟨sdN, rawd, rawr, hqN, hrN, rfl⟩, hc2, hinv2, ?_, ?_⟩
    · intro sel hsel
      rw [List.flatMap_append, List.flatMap_append, List.filter_append, List.filter_append, hal2 sel hsel, htd,
        List.flatMap_append, List.filter_append]
      have hnil : ((closingsOf cfg st d).flatMap (Balance.queryTx cfg)).filter sel = [] := by
        rw [List.filter_eq_nil_iff]
        intro e he hs
        obtain ⟨t, ht, p, hp, rfl⟩ := mem_entries_plain cfg hpl (by rw [hv]; rfl) _ e he
        have := Balance.closingsAt_no_AL (cfg := cfg) (c := Balance.cOf st) hinv d t ht p hp
        have h2 := hsel _ hs
        simp only at h2
        rw [this] at h2
        cases h2
      rw [hnil, List.append_nil]
    · intro hno
      have h1 : closingsOf cfg st d = [] := by
        unfold closingsOf
        rw [hno d List.mem_cons_self]
        rfl
      rw [htd, h1, List.append_nil, hsame2 (fun x hx => hno x (List.mem_cons_of_mem _ hx))]

theorem sumVal_congr_positions (b : Account) (T1 T2 : List Transaction) (h : ∀ c, valOn b c T1 = valOn b c T2) :
    sumVal (accSel b) T1 = sumVal (accSel b) T2 := by
  let K := (((T1 ++ T2).flatMap (·.postings)).map (·.commodity)).eraseDups
  have hKn : K.Nodup := MapSum.nodup_eraseDups _ _ (Nat.le_refl _)
  have key : ∀ (T : List Transaction), (∀ p ∈ T.flatMap (·.postings), p.commodity ∈ K) →
      sumVal (accSel b) T = (K.map (fun c => valOn b c T)).sum := by
    intro T hcov
    unfold sumVal
    rw [MapSum.sum_by_key_gen (fun (p : Posting) => p.commodity) (·.value) K hKn _ (fun p hp => hcov p (List.mem_filter.mp hp).1)]
    congr 1
    apply List.map_congr_left
    intro c _
    unfold valOn posOn
    rw [List.filter_filter]
    congr 2
    apply List.filter_congr
    intro p _
    unfold accSel onPos
    exact Bool.and_comm _ _
  rw [key T1 (fun p hp => by
      rw [List.mem_eraseDups]
      exact List.mem_map.mpr ⟨p, by rw [List.flatMap_append]; exact List.mem_append_left _ hp, rfl⟩),
    key T2 (fun p hp => by
      rw [List.mem_eraseDups]
      exact List.mem_map.mpr ⟨p, by rw [List.flatMap_append]; exact List.mem_append_right _ hp, rfl⟩)]
  congr 1
  apply List.map_congr_left
  intro c _
  exact h c

theorem closingsOf_valOn (cfg : BalCfg) (st : BalState) (d : Day) (hk : KeyInv st)
    (hstart : (cfg.periods.map (·.start)).contains d.date = true) (b : Account) (c : Commodity)
    (hb : Spec.closable b = true) : valOn b c (closingsOf cfg st d) = -(st.cVal.get (b, c) 0) := by
  unfold closingsOf
  rw [hstart]
  simp only [if_true]
  exact closings_valOn_inv b c hb d.date st hk

end Knut.MTM
