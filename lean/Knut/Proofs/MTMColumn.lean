import Knut.Proofs.MTMRun
import Knut.Model.BalanceReport
/-! A cell of a valued report is a sum of inserts aligned to column dates `≤ D` (`cumSel`).  What a column shows over
`(F, D]` is read off a cut of the run (`SplitAt`): the date-sorted days fall into those dated `≤ F`, those in `(F, D]`
and those after `D`; `Align` sends the inserts of the middle part into `(F, D]` and those of the last part beyond `D`, so
the change of any such sum between `F` and `D` is the total of the middle part's inserts, plus whatever the first part
has aligned after `F` — nothing, if `F` is itself a period end (`SplitAt.cum_delta`, `SplitAt.cum_before`) or lies before the window
(`SplitAt.before_nil`): for an eve `F` of the column (`IsEve`) that is the column theorem `SplitAt.column`.  `Col cfg days stF F D`
bundles what every theorem about a column assumes (date-sorted, dated, unvalued days; increasing period ends, `D` one of them and
inside the window; `F` an eve; the run succeeded).  The file ends with the running totals of an account and of a position
(`accCum`, `posCum`). -/
namespace Knut.MTM
open Knut Knut.Dec Knut.Spec
open Knut.BalanceReport (sumAmounts sumAmounts_append)

theorem sorted_split3 (lo D : Int) (hlo : lo ≤ D + 1) (days : List Day) (hs : Sorted days) :
    days = days.filter (fun d => decide (d.date < lo)) ++
        days.filter (fun d => !decide (d.date < lo) && decide (d.date ≤ D)) ++
        days.filter (fun d => !decide (d.date < lo) && !decide (d.date ≤ D)) ∧
    days.filter (fun d => d.date ≤ D) = days.filter (fun d => decide (d.date < lo)) ++
        days.filter (fun d => !decide (d.date < lo) && decide (d.date ≤ D)) := by
  constructor
  · have h1 := sorted_split lo days hs
    have h2 := sorted_split (D + 1) _ (sorted_filter (fun d => !decide (d.date < lo)) days hs)
    rw [List.filter_filter, List.filter_filter] at h2
    have e1 : (fun d : Day => decide (d.date < D + 1) && !decide (d.date < lo)) =
        (fun d => !decide (d.date < lo) && decide (d.date ≤ D)) := by
      funext d
      rw [decide_lt_succ, Bool.and_comm]
    have e2 : (fun d : Day => !decide (d.date < D + 1) && !decide (d.date < lo)) =
        (fun d => !decide (d.date < lo) && !decide (d.date ≤ D)) := by
      funext d
      rw [decide_lt_succ, Bool.and_comm]
    rw [e1, e2] at h2
    rw [List.append_assoc, ← h2]
    exact h1
  · have h1 := sorted_split lo _ (sorted_filter (fun d => decide (d.date ≤ D)) days hs)
    rw [List.filter_filter, List.filter_filter] at h1
    rw [h1]
    congr 1
    apply List.filter_congr
    intro d _
    by_cases ha : d.date < lo
    · have : d.date ≤ D := by omega
      simp [ha, this]
    · simp [ha]

/-- the insert is aligned to a column date `≤ D` (an insert outside every period has no column date) -/
def dateLe (D : Int) (e : Entry) : Bool := match e.date with | some D' => decide (D' ≤ D) | none => false

theorem mem_queryTx_date (cfg : BalCfg) (txs : List Transaction) (e : Entry) (he : e ∈ txs.flatMap (Balance.queryTx cfg)) :
    ∃ t ∈ txs, e.date = alignIn cfg.periods t.date := by
  obtain ⟨t, ht, p, _, _, _, a', _, rfl⟩ := mem_flatMap_queryTx.mp he
  exact ⟨t, ht, rfl⟩

/-- the inserts selected by `Q` that are aligned to a column date `≤ X`, summed: a running total of a cumulative report -/
def cumSel (Q : Entry → Bool) (es : List Entry) (X : Int) : Rat := sumAmounts (es.filter (fun e => Q e && dateLe X e))

theorem cumSel_append (Q : Entry → Bool) (xs ys : List Entry) (X : Int) :
    cumSel Q (xs ++ ys) X = cumSel Q xs X + cumSel Q ys X := by
  unfold cumSel
  rw [List.filter_append, sumAmounts_append]

theorem cumSel_zero_of (Q : Entry → Bool) (es : List Entry) (X : Int)
    (h : ∀ e ∈ es, ∀ D', e.date = some D' → X < D') : cumSel Q es X = 0 := by
  unfold cumSel
  rw [List.filter_eq_nil_iff.mpr]
  · rfl
  · intro e he hc
    simp only [Bool.and_eq_true] at hc
    unfold dateLe at hc
    cases hd : e.date with
    | none => rw [hd] at hc; exact Bool.false_ne_true hc.2
    | some D' =>
      rw [hd] at hc
      have := h e he D' hd
      simp only [decide_eq_true_eq] at hc
      omega

theorem cumSel_filter (Q p : Entry → Bool) (es : List Entry) (X : Int) (h : ∀ e, Q e = true → p e = true) :
    cumSel Q (es.filter p) X = cumSel Q es X := by
  unfold cumSel
  rw [List.filter_filter]
  congr 1
  apply List.filter_congr
  intro e _
  cases hq : Q e with
  | false => rfl
  | true => rw [h e hq, Bool.and_true]

theorem cumSel_eq_total (Q : Entry → Bool) (es : List Entry) (X : Int)
    (h : ∀ e ∈ es, ∃ D', e.date = some D' ∧ D' ≤ X) : cumSel Q es X = sumAmounts (es.filter Q) := by
  unfold cumSel
  congr 1
  apply List.filter_congr
  intro e he
  obtain ⟨D', h1, h2⟩ := h e he
  unfold dateLe
  rw [h1]
  simp [h2]

theorem delta_arith (aD aF b : Rat) : (aD + b) - aF = (aD - aF) + b := by grind

/-- three runs of inserts: anything, then inserts aligned into `(F, D]`, then inserts aligned after `D` -/
theorem cumSel_delta (Q : Entry → Bool) (eA eB eC : List Entry) (F D : Int) (hFD : F ≤ D)
    (hBle : ∀ e ∈ eB, ∃ D', e.date = some D' ∧ D' ≤ D) (hBgt : ∀ e ∈ eB, ∀ D', e.date = some D' → F < D')
    (hC : ∀ e ∈ eC, ∀ D', e.date = some D' → D < D') :
    cumSel Q (eA ++ eB ++ eC) D - cumSel Q (eA ++ eB ++ eC) F =
        (cumSel Q eA D - cumSel Q eA F) + sumAmounts (eB.filter Q) := by
  have hCF : cumSel Q eC F = 0 := cumSel_zero_of Q eC F (fun e he D' hd => by have := hC e he D' hd; omega)
  rw [cumSel_append, cumSel_append, cumSel_append, cumSel_append, cumSel_zero_of Q eC D hC, hCF,
    cumSel_zero_of Q eB F hBgt, cumSel_eq_total Q eB D hBle, Rat.add_zero, Rat.add_zero, Rat.add_zero]
  exact delta_arith _ _ _

theorem alignIn_gt (ps : List Period) (t D D' : Int) (ht : D < t) (h : alignIn ps t = some D') : D < D' :=
  Int.lt_of_lt_of_le ht (alignIn_some h).2

theorem entries_dates_le (cfg : BalCfg) (hinc : List.Pairwise (· < ·) (cfg.periods.map (·.stop))) {D : Int}
    (hD : D ∈ cfg.periods.map (·.stop)) {L : List Day} {s1 s2 : BalState} {T : List Transaction}
    (hcons : ∀ d ∈ L, ∀ t ∈ d.transactions, t.date = d.date) (hrun : pipelineRun cfg s1 L = .ok (s2, T))
    (hL : ∀ x ∈ L, x.date ≤ D) : ∀ e ∈ T.flatMap (Balance.queryTx cfg), ∃ D', e.date = some D' ∧ D' ≤ D := by
  intro e he
  obtain ⟨t, ht, hdt⟩ := mem_queryTx_date cfg T e he
  obtain ⟨x, hx, hxt⟩ := pipelineRun_dates cfg L s1 s2 T hrun hcons t ht
  rw [hdt]
  exact alignIn_least hinc hD (by rw [hxt]; exact hL x hx)

theorem entries_dates_gt (cfg : BalCfg) (X : Int) {L : List Day} {s1 s2 : BalState} {T : List Transaction}
    (hcons : ∀ d ∈ L, ∀ t ∈ d.transactions, t.date = d.date) (hrun : pipelineRun cfg s1 L = .ok (s2, T))
    (hL : ∀ x ∈ L, X < x.date) : ∀ e ∈ T.flatMap (Balance.queryTx cfg), ∀ D', e.date = some D' → X < D' := by
  intro e he D' hd
  obtain ⟨t, ht, hdt⟩ := mem_queryTx_date cfg T e he
  obtain ⟨x, hx, hxt⟩ := pipelineRun_dates cfg L s1 s2 T hrun hcons t ht
  rw [hdt] at hd
  exact alignIn_gt cfg.periods t.date X D' (by rw [hxt]; exact hL x hx) hd

/-- a successful run on date-sorted days cut at `F ≤ D`: the days dated `≤ F`, in `(F, D]` and after `D`, the states
between them and the transactions each part hands to the Query stage -/
structure SplitAt (cfg : BalCfg) (days : List Day) (stF : BalState) (F D : Int) (A B C : List Day)
    (stA stB : BalState) (tA tB tC : List Transaction) : Prop where
  days_eq : days = A ++ B ++ C
  memA : ∀ d ∈ A, d ∈ days ∧ d.date ≤ F
  memB : ∀ d ∈ B, d ∈ days ∧ F < d.date ∧ d.date ≤ D
  memC : ∀ d ∈ C, d ∈ days ∧ D < d.date
  upToF : days.filter (fun d => d.date ≤ F) = A
  upToD : days.filter (fun d => d.date ≤ D) = A ++ B
  between : days.filter (fun d => decide (F < d.date) && decide (d.date ≤ D)) = B
  runA : pipelineRun cfg {} A = .ok (stA, tA)
  runB : pipelineRun cfg stA B = .ok (stB, tB)
  runC : pipelineRun cfg stB C = .ok (stF, tC)
  entries_eq : stF.entries =
    tA.flatMap (Balance.queryTx cfg) ++ tB.flatMap (Balance.queryTx cfg) ++ tC.flatMap (Balance.queryTx cfg)

theorem mem_between {days : List Day} {F D : Int} {d : Day}
    (hd : d ∈ days.filter (fun d => decide (F < d.date) && decide (d.date ≤ D))) : d ∈ days ∧ F < d.date ∧ d.date ≤ D := by
  rw [List.mem_filter, Bool.and_eq_true, decide_eq_true_eq, decide_eq_true_eq] at hd
  exact hd

theorem run_splitAt (cfg : BalCfg) (days : List Day) (stF : BalState) (F D : Int) (hFD : F ≤ D) (hs : Sorted days)
    (h : Balance.run cfg days = .ok stF) : ∃ A B C stA stB tA tB tC, SplitAt cfg days stF F D A B C stA stB tA tB tC := by
  obtain ⟨hsplit, hpre⟩ := sorted_split3 (F + 1) D (by omega) days hs
  have eA : days.filter (fun d => decide (d.date < F + 1)) = days.filter (fun d => d.date ≤ F) :=
    List.filter_congr (fun d _ => decide_lt_succ _ _)
  have eB : days.filter (fun d => !decide (d.date < F + 1) && decide (d.date ≤ D)) =
      days.filter (fun d => decide (F < d.date) && decide (d.date ≤ D)) :=
    List.filter_congr (fun d _ => by rw [decide_lt_succ, not_decide_le])
  rw [eA, eB] at hsplit hpre
  obtain ⟨txs, hp, he⟩ := run_pipelineRun cfg days stF h
  rw [hsplit] at hp
  obtain ⟨stB, tAB, tC, h12, h3, e1⟩ := pipelineRun_append.mp hp
  obtain ⟨stA, tA, tB, h1, h2, e2⟩ := pipelineRun_append.mp h12
  refine ⟨_, _, _, stA, stB, tA, tB, tC, hsplit, ?_, fun d hd => mem_between hd, ?_, rfl, hpre, rfl, h1, h2, h3, ?_⟩
  · exact fun d hd => ⟨(List.mem_filter.mp hd).1, of_decide_eq_true (List.mem_filter.mp hd).2⟩
  · intro d hd
    have := (List.mem_filter.mp hd).2
    rw [decide_lt_succ, not_decide_le, not_decide_le, Bool.and_eq_true, decide_eq_true_eq, decide_eq_true_eq] at this
    exact ⟨(List.mem_filter.mp hd).1, this.2⟩
  · rw [he, e1, e2, List.flatMap_append, List.flatMap_append]

namespace SplitAt
variable {cfg : BalCfg} {days : List Day} {stF : BalState} {F D : Int} {A B C : List Day} {stA stB : BalState}
  {tA tB tC : List Transaction}

theorem reachedA (S : SplitAt cfg days stF F D A B C stA stB tA tB tC) {v : Commodity} (hv : cfg.valuation = some v) :
    Reached v (days.filter (fun d => d.date ≤ F)) stA := by
  rw [S.upToF]; exact Reached.of_run hv S.runA

theorem reachedB (S : SplitAt cfg days stF F D A B C stA stB tA tB tC) {v : Commodity} (hv : cfg.valuation = some v) :
    Reached v (days.filter (fun d => d.date ≤ D)) stB := by
  rw [S.upToD]; exact (Reached.of_run hv S.runA).run hv S.runB

theorem cum_at_eve (S : SplitAt cfg days stF F D A B C stA stB tA tB tC) (hFD : F ≤ D)
    (hcons : ∀ d ∈ days, ∀ t ∈ d.transactions, t.date = d.date) (Q : Entry → Bool) :
    cumSel Q stF.entries F = cumSel Q (tA.flatMap (Balance.queryTx cfg)) F := by
  rw [S.entries_eq, cumSel_append, cumSel_append,
    cumSel_zero_of Q _ F (entries_dates_gt cfg F (fun d hd => hcons d (S.memB d hd).1) S.runB (fun d hd => (S.memB d hd).2.1)),
    cumSel_zero_of Q _ F (entries_dates_gt cfg F (fun d hd => hcons d (S.memC d hd).1) S.runC
      (fun d hd => by have := (S.memC d hd).2; omega)), Rat.add_zero, Rat.add_zero]

/-- **the change of a sum of inserts between the eve and the end of the column** is what the days in between insert,
plus the change on the inserts of the days up to the eve; at the eve only the latter count -/
theorem cum_delta (S : SplitAt cfg days stF F D A B C stA stB tA tB tC) (hFD : F ≤ D)
    (hcons : ∀ d ∈ days, ∀ t ∈ d.transactions, t.date = d.date)
    (hinc : List.Pairwise (· < ·) (cfg.periods.map (·.stop))) (hD : D ∈ cfg.periods.map (·.stop)) (Q : Entry → Bool) :
    cumSel Q stF.entries D - cumSel Q stF.entries F =
        (cumSel Q (tA.flatMap (Balance.queryTx cfg)) D - cumSel Q (tA.flatMap (Balance.queryTx cfg)) F) +
          sumAmounts ((tB.flatMap (Balance.queryTx cfg)).filter Q) ∧
      cumSel Q stF.entries F = cumSel Q (tA.flatMap (Balance.queryTx cfg)) F := by
  refine ⟨?_, S.cum_at_eve hFD hcons Q⟩
  rw [S.entries_eq]
  exact cumSel_delta Q _ _ _ F D hFD
    (entries_dates_le cfg hinc hD (fun d hd => hcons d (S.memB d hd).1) S.runB (fun d hd => (S.memB d hd).2.2))
    (entries_dates_gt cfg F (fun d hd => hcons d (S.memB d hd).1) S.runB (fun d hd => (S.memB d hd).2.1))
    (entries_dates_gt cfg D (fun d hd => hcons d (S.memC d hd).1) S.runC (fun d hd => (S.memC d hd).2))

theorem cum_at_end (S : SplitAt cfg days stF F D A B C stA stB tA tB tC) (hFD : F ≤ D)
    (hcons : ∀ d ∈ days, ∀ t ∈ d.transactions, t.date = d.date)
    (hinc : List.Pairwise (· < ·) (cfg.periods.map (·.stop))) (hD : D ∈ cfg.periods.map (·.stop)) (Q : Entry → Bool) :
    cumSel Q stF.entries D = sumAmounts ((tA.flatMap (Balance.queryTx cfg)).filter Q) +
      sumAmounts ((tB.flatMap (Balance.queryTx cfg)).filter Q) := by
  rw [S.entries_eq, cumSel_append, cumSel_append,
    cumSel_zero_of Q _ D (entries_dates_gt cfg D (fun d hd => hcons d (S.memC d hd).1) S.runC (fun d hd => (S.memC d hd).2)),
    cumSel_eq_total Q _ D (entries_dates_le cfg hinc hD (fun d hd => hcons d (S.memA d hd).1) S.runA
      (fun d hd => by have := (S.memA d hd).2; omega)),
    cumSel_eq_total Q _ D (entries_dates_le cfg hinc hD (fun d hd => hcons d (S.memB d hd).1) S.runB
      (fun d hd => (S.memB d hd).2.2)), Rat.add_zero]

theorem head_start (S : SplitAt cfg days stF F D A B C stA stB tA tB tC) (hs : Sorted days)
    (hmem : F + 1 ∈ days.map (·.date)) (hsD : F + 1 ≤ D) :
    ∃ d Q, B = d :: Q ∧ d.date = F + 1 ∧ ∀ x ∈ Q, F + 1 < x.date := by
  obtain ⟨d0, hd0, hd0s⟩ := List.mem_map.mp hmem
  have hd0m : d0 ∈ B := by
    rw [← S.between, List.mem_filter]
    have h1 : F < d0.date := by omega
    have h2 : d0.date ≤ D := by omega
    exact ⟨hd0, by simp [h1, h2]⟩
  have hsB : Sorted B := by rw [← S.between]; exact sorted_filter _ days hs
  cases B with
  | nil => cases hd0m
  | cons h Q =>
    unfold Sorted at hsB
    rw [List.pairwise_cons] at hsB
    have hh := (S.memB h List.mem_cons_self).2.1
    have hhs : h.date = F + 1 := by
      rcases List.mem_cons.mp hd0m with e | e
      · rw [← e]; exact hd0s
      · have := hsB.1 d0 e
        omega
    exact ⟨h, Q, rfl, hhs, fun x hx => by have := hsB.1 x hx; omega⟩

theorem cum_before (S : SplitAt cfg days stF F D A B C stA stB tA tB tC) (hFD : F ≤ D)
    (hcons : ∀ d ∈ days, ∀ t ∈ d.transactions, t.date = d.date)
    (hinc : List.Pairwise (· < ·) (cfg.periods.map (·.stop))) (hF : F ∈ cfg.periods.map (·.stop)) (Q : Entry → Bool) :
    cumSel Q (tA.flatMap (Balance.queryTx cfg)) D - cumSel Q (tA.flatMap (Balance.queryTx cfg)) F = 0 := by
  have hAF := entries_dates_le cfg hinc hF (fun d hd => hcons d (S.memA d hd).1) S.runA (fun d hd => (S.memA d hd).2)
  rw [cumSel_eq_total Q _ F hAF, cumSel_eq_total Q _ D (fun e he => by
    obtain ⟨D', h1, h2⟩ := hAF e he
    exact ⟨D', h1, by omega⟩)]
  exact Rat.sub_self

theorem userPostings_window (S : SplitAt cfg days stF F D A B C stA stB tA tB tC)
    (hcons : ∀ d ∈ days, ∀ t ∈ d.transactions, t.date = d.date) (s : Posting → Bool) :
    (Spec.userPostings days).filter (fun (x : Int × Posting) => decide (F < x.1) && decide (x.1 ≤ D) && s x.2) =
      (Spec.userPostings B).filter (fun x => s x.2) := by
  rw [← S.between]
  exact userPostings_by_days (fun d => decide (F < d) && decide (d ≤ D)) s days hcons

end SplitAt

/-- the eve of a column: the day before the window, or an earlier period end inside the window -/
def IsEve (cfg : BalCfg) (F D : Int) : Prop :=
  F = cfg.span.start - 1 ∨ (F ∈ cfg.periods.map (·.stop) ∧ F < D ∧ cfg.span.contains F = true)

theorem IsEve.le {cfg : BalCfg} {F D : Int} (hF : IsEve cfg F D) (hDin : cfg.span.contains D = true) :
    cfg.span.start ≤ F + 1 ∧ F ≤ D ∧ D ≤ cfg.span.stop := by
  have hD := (Period.contains_iff _ _).mp hDin
  rcases hF with rfl | ⟨_, h2, h3⟩
  · omega
  · have := (Period.contains_iff _ _).mp h3
    omega

/-- **a column of a report**: date-sorted days filed under their dates and arriving unvalued, increasing period ends, `D` one
of them and inside the window, `F` an eve of it, and the run succeeded -/
structure Col (cfg : BalCfg) (days : List Day) (stF : BalState) (F D : Int) : Prop where
  sorted : Sorted days
  dated : ∀ d ∈ days, ∀ t ∈ d.transactions, t.date = d.date
  unvalued : ∀ d ∈ days, ∀ t ∈ d.transactions, ∀ p ∈ t.postings, p.value = 0
  inc : List.Pairwise (· < ·) (cfg.periods.map (·.stop))
  hD : D ∈ cfg.periods.map (·.stop)
  eve : IsEve cfg F D
  inside : cfg.span.contains D = true
  run : Balance.run cfg days = .ok stF

theorem Col.plain {cfg cfg' : BalCfg} {days : List Day} {stF stP : BalState} {F D : Int} (K : Col cfg days stF F D)
    (hp : cfg'.periods = cfg.periods) (hsp : cfg'.span = cfg.span) (hrun : Balance.run cfg' days = .ok stP) :
    Col cfg' days stP F D :=
  ⟨K.sorted, K.dated, K.unvalued, hp ▸ K.inc, hp ▸ K.hD, by have := K.eve; unfold IsEve at this ⊢; rw [hp, hsp]; exact this,
    hsp ▸ K.inside, hrun⟩

theorem SplitAt.before_nil {cfg : BalCfg} {days : List Day} {stF : BalState} {F D : Int} {A B C : List Day}
    {stA stB : BalState} {tA tB tC : List Transaction} (S : SplitAt cfg days stF F D A B C stA stB tA tB tC)
    (hF : F < cfg.span.start) : tA = [] :=
  (pipelineRun_outside (fun d hd => (Period.contains_eq_false_iff _ _).mpr (.inl (by have := (S.memA d hd).2; omega))) rfl S.runA).1

/-- **a column of a cumulative report**: between its eve and its end a sum of inserts changes by what the days in between
insert, and at the eve of the window it is 0 (the days before the window insert nothing; the days up to an earlier period
end align up to it) -/
theorem SplitAt.column {cfg : BalCfg} {days : List Day} {stF : BalState} {F D : Int} {A B C : List Day}
    {stA stB : BalState} {tA tB tC : List Transaction} (S : SplitAt cfg days stF F D A B C stA stB tA tB tC)
    (hcons : ∀ d ∈ days, ∀ t ∈ d.transactions, t.date = d.date)
    (hinc : List.Pairwise (· < ·) (cfg.periods.map (·.stop))) (hD : D ∈ cfg.periods.map (·.stop))
    (hF : IsEve cfg F D) (hDin : cfg.span.contains D = true) (Q : Entry → Bool) :
    cumSel Q stF.entries D - cumSel Q stF.entries F = sumAmounts ((tB.flatMap (Balance.queryTx cfg)).filter Q) ∧
      (F = cfg.span.start - 1 → cumSel Q stF.entries F = 0) := by
  obtain ⟨hlo, hFD, _⟩ := hF.le hDin
  obtain ⟨e1, e2⟩ := S.cum_delta hFD hcons hinc hD Q
  rw [e1, e2]
  refine ⟨?_, fun hFe => by rw [S.before_nil (by omega)]; rfl⟩
  rcases hF with hFe | ⟨hF1, _, _⟩
  · rw [S.before_nil (by omega)]
    exact (congrArg (· + _) (Rat.sub_self (a := 0))).trans (Rat.zero_add _)
  · rw [S.cum_before hFD hcons hinc hF1 Q, Rat.zero_add]

theorem cumSel_before_window (cfg : BalCfg) (days : List Day) (stF : BalState) (X : Int) (hs : Sorted days)
    (hcons : ∀ d ∈ days, ∀ t ∈ d.transactions, t.date = d.date) (hX : X < cfg.span.start)
    (h : Balance.run cfg days = .ok stF) (Q : Entry → Bool) : cumSel Q stF.entries X = 0 := by
  obtain ⟨A, B, C, stA, stB, tA, tB, tC, S⟩ := run_splitAt cfg days stF X X (Int.le_refl _) hs h
  rw [S.cum_at_eve (Int.le_refl _) hcons Q, S.before_nil hX]
  rfl

theorem cumSel_window_eve (cfg : BalCfg) (days : List Day) (stF : BalState) (hs : Sorted days)
    (hcons : ∀ d ∈ days, ∀ t ∈ d.transactions, t.date = d.date) (h : Balance.run cfg days = .ok stF) (Q : Entry → Bool) :
    cumSel Q stF.entries (cfg.span.start - 1) = 0 :=
  cumSel_before_window cfg days stF _ hs hcons (Int.sub_one_lt_of_le (Int.le_refl _)) h Q

/-! `accCum a es D` is what a cumulative valued report shows for account `a` in the column of the period end `D`: the sum of
all inserts on `a` (every commodity) aligned to a column date `≤ D` (`Proofs/MTMRender.lean` proves that this is the
rendered cell); `posCum a c es D` the same for the single position `(a, c)` (a commodity line of a `-s` row). -/

def accCum (a : Account) (es : List Entry) (D : Int) : Rat :=
  sumAmounts (es.filter (fun e => decide (e.account = a) &&
    (match e.date with | some D' => decide (D' ≤ D) | none => false)))

theorem accCum_eq_cumSel (a : Account) (es : List Entry) (X : Int) :
    accCum a es X = cumSel (fun e => decide (e.account = a)) es X := rfl

theorem accCum_def (a : Account) (es : List Entry) (D : Int) :
    accCum a es D = sumAmounts (es.filter (fun e => decide (e.account = a) && dateLe D e)) := rfl

/-- the inserts on account `a` that `Q` selects, summed (`Q` carries the column date: `accCum a es D = selCum (dateLe D) a es`) -/
def selCum (Q : Entry → Bool) (a : Account) (es : List Entry) : Rat :=
  sumAmounts (es.filter (fun e => decide (e.account = a) && Q e))

/-- commodity `c`, column date `≤ D` -/
def posQ (c : Commodity) (D : Int) (e : Entry) : Bool := decide (e.commodity = c) && dateLe D e

def posCum (a : Account) (c : Commodity) (es : List Entry) (D : Int) : Rat := selCum (posQ c D) a es

theorem posCum_eq_cumSel (a : Account) (c : Commodity) (es : List Entry) (X : Int) :
    posCum a c es X = cumSel (fun e => decide (e.account = a) && decide (e.commodity = c)) es X := by
  unfold posCum selCum posQ cumSel
  congr 1
  apply List.filter_congr
  intro e _
  exact (Bool.and_assoc _ _ _).symm

end Knut.MTM
