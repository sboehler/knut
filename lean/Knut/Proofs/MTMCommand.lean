import Knut.Proofs.MTMRender
import Knut.Proofs.Portfolio
import Knut.Proofs.LedgerCommand
/-! From the pipeline to the rendered table.  `command_col`: the command's run yields a column `Col cfg days stF F D`
(`Proofs/MTMColumn.lean`: what every pipeline theorem about a column assumes) for every column `k` of its report, with the
eve `eveOf f.diff …`; `command_cells`: the row of any account with an insert whose name `-s` does not match (`hrs`; a matched row is a block of
commodity lines, `nodeRows_show`) exists and shows, in column `k`, the inserts
on the account aligned into `(F_k, D_k]` (sign flipped in the income/expense/equity section).  Each cell theorem of
`Properties/C03*.lean` is these two plus a theorem about the pipeline. -/
namespace Knut.C03
open Knut Knut.Dec Knut.MTM Knut.LedgerCommand
open Knut.Table (Cell)

theorem alignIn_mem (ps : List Period) (t D' : Int) (h : alignIn ps t = some D') : D' ∈ ps.map (·.stop) :=
  (alignIn_some h).1

theorem accCum_al (a : Account) (hal : a.isAL = true) (es : List Entry) (D : Int) :
    accCum a (es.filter (fun e => e.account.isAL)) D = accCum a es D :=
  cumSel_filter _ _ es D (fun e he => by rw [of_decide_eq_true he]; exact hal)

end Knut.C03

namespace Knut.MTM
open Knut Knut.Dec Knut.LedgerCommand Knut.C03
open Knut.Table (Cell)

/-- what the cell theorems use of the command's partition and inserts: increasing period ends, all inside the window
(there is an insert, so the window is not empty), and every insert aligned to one of them -/
theorem command_setup (f : BalanceFlags) (ds : List Directive) (part : Partition) (st : BalState)
    (hpart : newPartition (BalanceCmd.window f (Builder.ofList ds)) f.interval f.last = .ok part)
    (hrun : Balance.run (cfgOf f part) (daysOf f ds part) = .ok st) (hne : st.entries ≠ []) :
    List.Pairwise (· < ·) part.endDates ∧ (∀ D ∈ part.endDates, (cfgOf f part).span.contains D = true) ∧
    (∀ x ∈ st.entries, ∀ D', x.date = some D' → D' ∈ part.endDates) := by
  have hwin := window_nonempty_any (cfgOf f part) _ st hrun hne
  have hspan := Performance.newPartition_span hpart
  obtain ⟨hinc, hin⟩ := Performance.endDates_increasing hpart
  have hwin' : (BalanceCmd.window f (Builder.ofList ds)).start ≤ (BalanceCmd.window f (Builder.ofList ds)).stop := by
    rw [← hspan]; exact hwin
  refine ⟨hinc, ?_, ?_⟩
  · intro D hD
    have := hin hwin' _ hD
    show part.span.contains _ = true
    rw [hspan]; exact this
  · intro x hx D' hd
    obtain ⟨txs, _, hes⟩ := run_pipelineRun (cfgOf f part) _ st hrun
    rw [hes] at hx
    obtain ⟨t, _, hdt⟩ := mem_queryTx_date (cfgOf f part) txs x hx
    rw [hdt] at hd
    exact alignIn_mem part.periods t.date D' hd

/-- the row of an account whose name `-s` does not match exists whenever the account has an insert — in the
income/expense/equity section with the sign flipped; the commodity cell is there if the table has that column -/
theorem command_row_dc (f : BalanceFlags) (v : Commodity) (hv : f.valuation = some v) (part : Partition) (es : List Entry)
    (e : Entry) (he : e ∈ es) (hne : e.account.segments ≠ [])
    (hrs : (f.showCommodities.getD (fun _ => false)) (⟨e.account.segments⟩ : Account).name = false) :
    ∃ pre post cc cells,
      (BalanceReport.table (BalanceCmd.renderCfg f part) es).rows =
        pre ++ [Cell.text (e.account.segments.getLast?.getD "").toList .left
          ((2 * (e.account.segments.length - 1) : Nat) : Int) :: (cc ++ cells)] ++ post ∧
      cc.length = (if f.showCommodities.isSome then 1 else 0) ∧
      cells.length = part.endDates.length ∧
      ∀ (k : Nat) (_ : k < part.endDates.length) (hk' : k < cells.length),
        cellVal cells[k] =
          (if e.account.isAL then
            shownAt f.diff part.endDates (BalanceReport.cellAt (BalanceReport.own
              (es.filter (fun x => x.account.isAL == e.account.isAL)) e.account.segments) false none) k
           else -(shownAt f.diff part.endDates (BalanceReport.cellAt (BalanceReport.own
              (es.filter (fun x => x.account.isAL == e.account.isAL)) e.account.segments) false none) k)) := by
  generalize hrc : BalanceCmd.renderCfg f part = rc
  have hrv : rc.valuation.isSome = true := by rw [← hrc]; unfold BalanceCmd.renderCfg; rw [hv]; rfl
  have hrs' : rc.showCommodities (⟨e.account.segments⟩ : Account).name = false := by rw [← hrc]; exact hrs
  have hrd : rc.diff = f.diff := by rw [← hrc]; rfl
  have hre : rc.endDates = part.endDates := by rw [← hrc]; rfl
  have hdc : (rc.valuation.isNone || rc.hasShowCommodities) = f.showCommodities.isSome := by
    rw [← hrc]; unfold BalanceCmd.renderCfg; rw [hv]; rfl
  obtain ⟨pre, post, hrows⟩ := table_has_row rc es e he hne
  obtain ⟨cc, cells, hnode, hcc, hlen, hcell⟩ := nodeRows_valued_dc rc (rc.valuation.isNone || rc.hasShowCommodities) hrv
    (es.filter (fun x => x.account.isAL == e.account.isAL)) (!e.account.isAL) e.account.segments
    (2 * (e.account.segments.length - 1)) hrs'
  rw [hnode] at hrows
  refine ⟨pre, post, cc, cells, hrows, by rw [hcc, hdc], by rw [hlen, hre], fun k hk hk' => ?_⟩
  rw [hcell k (by rw [hre]; exact hk) hk', hrd, hre]
  cases e.account.isAL <;> rfl

theorem isAL_segments_ne {a : Account} (hal : a.isAL = true) : a.segments ≠ [] := by
  intro h
  unfold Account.isAL Account.type? at hal
  rw [h] at hal
  cases hal

theorem command_col (f : BalanceFlags) (ds : List Directive) (hz : ∀ t, Directive.tx t ∈ ds → ∀ p ∈ t.postings, p.value = 0)
    (part : Partition) (st : BalState)
    (hpart : newPartition (BalanceCmd.window f (Builder.ofList ds)) f.interval f.last = .ok part)
    (hrun : Balance.run (cfgOf f part) (daysOf f ds part) = .ok st) (hne : st.entries ≠ [])
    (diff : Bool) (k : Nat) (hk : k < part.endDates.length) :
    Col (cfgOf f part) (daysOf f ds part) st (eveOf diff part.span.start part.endDates k) part.endDates[k] := by
  obtain ⟨hinc, hin, _⟩ := command_setup f ds part st hpart hrun hne
  exact ⟨daysOf_sorted f ds part, daysOf_consistent f ds part, daysOf_zero f ds part hz, hinc, List.getElem_mem hk,
    eveOf_isEve (cfgOf f part) part.endDates rfl hinc hin diff k hk, hin _ (List.getElem_mem hk), hrun⟩

theorem command_eve_zero (f : BalanceFlags) (ds : List Directive) (part : Partition) (st : BalState)
    (hrun : Balance.run (cfgOf f part) (daysOf f ds part) = .ok st) (Q : Entry → Bool) :
    cumSel Q st.entries (part.span.start - 1) = 0 :=
  cumSel_window_eve (cfgOf f part) _ st (daysOf_sorted f ds part) (daysOf_consistent f ds part) hrun Q

/-- **the row of an account in the table the command renders**: it exists whenever the account has an insert and `-s`
does not match it, and its cell in column `k` shows the inserts on the account aligned into `(F_k, D_k]`, sign flipped
in the income/expense/equity section -/
theorem command_cells (f : BalanceFlags) (v : Commodity) (hv : f.valuation = some v) (ds : List Directive)
    (es : List Entry) (part : Partition) (h : BalanceCmd.entries f ds = .ok (es, part))
    (e : Entry) (he : e ∈ es) (hne : e.account.segments ≠ [])
    (hrs : (f.showCommodities.getD (fun _ => false)) (⟨e.account.segments⟩ : Account).name = false) :
    ∃ pre post cc cells,
      (BalanceReport.table (BalanceCmd.renderCfg f part) es).rows =
        pre ++ [Cell.text (e.account.segments.getLast?.getD "").toList .left
          ((2 * (e.account.segments.length - 1) : Nat) : Int) :: (cc ++ cells)] ++ post ∧
      cc.length = (if f.showCommodities.isSome then 1 else 0) ∧
      cells.length = part.endDates.length ∧
      ∀ (k : Nat) (hk : k < part.endDates.length) (hk' : k < cells.length),
        cellVal cells[k] =
          (if e.account.isAL then
            accCum e.account es part.endDates[k] - accCum e.account es (eveOf f.diff part.span.start part.endDates k)
           else -(accCum e.account es part.endDates[k] - accCum e.account es (eveOf f.diff part.span.start part.endDates k))) := by
  obtain ⟨hpart, st, hrun, rfl⟩ := entries_ok h
  obtain ⟨hinc, _, hdates⟩ := command_setup f ds part st hpart hrun (List.ne_nil_of_mem he)
  obtain ⟨pre, post, cc, cells, hrows, hcc, hlen, hcell⟩ := command_row_dc f v hv part st.entries e he hne hrs
  refine ⟨pre, post, cc, cells, hrows, hcc, hlen, fun k hk hk' => ?_⟩
  have hz0 : accCum e.account st.entries (part.span.start - 1) = 0 := command_eve_zero f ds part st hrun _
  -- the inserts of the other section do not count for the account
  have hsec : ∀ X, accCum e.account (st.entries.filter (fun x => x.account.isAL == e.account.isAL)) X =
      accCum e.account st.entries X := fun X =>
    cumSel_filter _ _ st.entries X (fun x hx => by rw [of_decide_eq_true hx]; exact beq_self_eq_true _)
  rw [hcell k hk hk', shownAt_delta e.account _ part.endDates hinc (fun x hx _ => hdates x (List.mem_filter.mp hx).1)
    f.diff part.span.start (by rw [hsec]; exact hz0) k hk, hsec, hsec]

theorem command_cells_plain (f : BalanceFlags) (v : Commodity) (hv : f.valuation = some v) (hsh : f.showCommodities = none)
    (ds : List Directive) (es : List Entry) (part : Partition) (h : BalanceCmd.entries f ds = .ok (es, part))
    (e : Entry) (he : e ∈ es) (hne : e.account.segments ≠ []) :
    ∃ pre post cells,
      (BalanceReport.table (BalanceCmd.renderCfg f part) es).rows =
        pre ++ [Cell.text (e.account.segments.getLast?.getD "").toList .left
          ((2 * (e.account.segments.length - 1) : Nat) : Int) :: cells] ++ post ∧
      cells.length = part.endDates.length ∧
      ∀ (k : Nat) (hk : k < part.endDates.length) (hk' : k < cells.length),
        cellVal cells[k] =
          (if e.account.isAL then
            accCum e.account es part.endDates[k] - accCum e.account es (eveOf f.diff part.span.start part.endDates k)
           else -(accCum e.account es part.endDates[k] - accCum e.account es (eveOf f.diff part.span.start part.endDates k))) := by
  obtain ⟨pre, post, cc, cells, h1, h2, h3, h4⟩ := command_cells f v hv ds es part h e he hne (by rw [hsh]; rfl)
  rw [hsh] at h2
  obtain rfl := List.length_eq_zero_iff.mp h2
  exact ⟨pre, post, cells, h1, h3, h4⟩

end Knut.MTM
