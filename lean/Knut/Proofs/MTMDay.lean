import Knut.Proofs.MTM
import Knut.Proofs.BalanceClose
import Knut.Proofs.RatLemmas
import Knut.Proofs.ListMapM
/-! ONE day of the valued pipeline.  `Valuate` on a day, seen from an asset/liability position `(a, c)`, is one `stepDay` of the
single-position trace of `Proofs/MTM.lean` (`valuateDay_position`: of all value adjustments exactly the one of `(a, c)` lands on it, the
keys of the quantity map being distinct); on any selection of postings it leaves the day's bookings valued by `bookVal` plus the
adjustments (`valuateDay_parts`).  `dayQ` is the day through ALL stages with the transactions handed to Query kept: one `Balance.Step`.
On a day outside the window (`--from` / `--to`) nothing reaches Query on an asset/liability account (Filter drops the day's transactions,
closings never touch such accounts), while the Valuate state evolves exactly as inside (`dayQ_any`, `dayQ_outside`).  Prices enter through `PriceIs np c p` ("if `c`
has a price in `np` it is `p`"), so that days on which `c` has no price yet (possible only while the position is closed and
nothing is booked on it) need no special case.  The last part: what the Query stage of a plain valued report makes of a day's
transactions (`Plain`, `entryVal`, `total_flatMap_sel`), the dates and prices of a day (`dayQ_dates`, `dayQ_prices`,
`dayQ_open_price`), and the valuation commodity itself, where values are quantities (`dayQ_valOn_v`). -/
namespace Knut.MTM
open Knut Knut.Dec

def onPos (a : Account) (c : Commodity) (p : Posting) : Bool := decide (p.account = a) && decide (p.commodity = c)

/-- the postings of `ts` with account `a` AND commodity `c` (the adjustments of other positions land on other accounts or on other
commodities of `a`).  A booking of `a` against itself yields two postings on `(a, c)` (`q` and `−q`): both are here, both are valued -/
def posOn (a : Account) (c : Commodity) (ts : List Transaction) : List Posting :=
  (ts.flatMap (·.postings)).filter (onPos a c)

/-- their quantities; `valOn`: the sum of their values -/
def qtysOn (a : Account) (c : Commodity) (ts : List Transaction) : List Rat := (posOn a c ts).map (·.quantity)

def valOn (a : Account) (c : Commodity) (ts : List Transaction) : Rat := ((posOn a c ts).map (·.value)).sum

theorem posOn_nil (a : Account) (c : Commodity) : posOn a c [] = [] := rfl

theorem posOn_append (a : Account) (c : Commodity) (xs ys : List Transaction) :
    posOn a c (xs ++ ys) = posOn a c xs ++ posOn a c ys := by
  unfold posOn
  rw [List.flatMap_append, List.filter_append]

theorem posOn_cons (a : Account) (c : Commodity) (t : Transaction) (ts : List Transaction) :
    posOn a c (t :: ts) = t.postings.filter (onPos a c) ++ posOn a c ts := by
  unfold posOn
  rw [List.flatMap_cons, List.filter_append]

theorem valOn_append (a : Account) (c : Commodity) (xs ys : List Transaction) :
    valOn a c (xs ++ ys) = valOn a c xs + valOn a c ys := by
  unfold valOn
  rw [posOn_append, List.map_append, List.sum_append]

theorem qtysOn_append (a : Account) (c : Commodity) (xs ys : List Transaction) :
    qtysOn a c (xs ++ ys) = qtysOn a c xs ++ qtysOn a c ys := by
  unfold qtysOn
  rw [posOn_append, List.map_append]

theorem onPos_iff {a : Account} {c : Commodity} {p : Posting} :
    onPos a c p = true ↔ (p.account, p.commodity) = (a, c) := by
  unfold onPos
  rw [Bool.and_eq_true, decide_eq_true_eq, decide_eq_true_eq, Prod.mk.injEq]

theorem addQty_get (q : AMap Position Rat) (ts : List Transaction) (a : Account) (c : Commodity) (hal : a.isAL = true) :
    (Balance.addQty q ts).get (a, c) 0 = q.get (a, c) 0 + (qtysOn a c ts).sum :=
  Balance.addQty_get q ts (k := (a, c)) hal

theorem addQty_nodup (q : AMap Position Rat) (ts : List Transaction) (h : AMap.NodupKeys q) :
    AMap.NodupKeys (Balance.addQty q ts) := Balance.addQty_nodup h ts

theorem valuationAccount_ne (a a' : Account) (hal : a.isAL = true) : valuationAccountFor a' ≠ a := by
  intro he
  have := valuationAccount_not_AL a'
  rw [he, hal] at this
  cases this

theorem build_valOn (a a' : Account) (c c' : Commodity) (g : Rat) (hal : a.isAL = true) :
    (((postingBuild (valuationAccountFor a') a' c' 0 g).filter (onPos a c)).map (·.value)).sum =
      if a' = a ∧ c' = c then g else 0 := by
  -- the posting on the `Income:` account is never on `(a, c)`; the one on `a'` carries `g`
  have hx : onPos a c ((⟨valuationAccountFor a', a', c', -0, -g⟩ : Posting)) = false := by
    rw [← Bool.not_eq_true, onPos_iff]
    exact fun h => valuationAccount_ne a a' hal (Prod.mk.inj h).1
  have hy : onPos a c ((⟨a', valuationAccountFor a', c', 0, g⟩ : Posting)) = true ↔ a' = a ∧ c' = c := by
    rw [onPos_iff]
    exact Prod.mk.injEq _ _ _ _ ▸ Iff.rfl
  by_cases hk : a' = a ∧ c' = c
  · rw [if_pos hk]
    rcases postingBuild_cases (valuationAccountFor a') a' c' 0 g with e | e <;> rw [e]
    · rw [List.filter_cons_of_neg (by rw [hx]; exact Bool.false_ne_true), List.filter_cons_of_pos (hy.mpr hk)]
      exact Rat.add_zero g
    · rw [List.filter_cons_of_pos (hy.mpr hk), List.filter_cons_of_neg (by rw [hx]; exact Bool.false_ne_true)]
      exact Rat.add_zero g
  · rw [if_neg hk]
    have hy' : ¬ onPos a c ((⟨a', valuationAccountFor a', c', 0, g⟩ : Posting)) = true := fun h => hk (hy.mp h)
    rcases postingBuild_cases (valuationAccountFor a') a' c' 0 g with e | e <;> rw [e]
    · rw [List.filter_cons_of_neg (by rw [hx]; exact Bool.false_ne_true), List.filter_cons_of_neg hy']
      rfl
    · rw [List.filter_cons_of_neg hy', List.filter_cons_of_neg (by rw [hx]; exact Bool.false_ne_true)]
      rfl

/-- `p` is the price of `c` if there is one -/
def PriceIs (np : Option Prices.NPrices) (c : Commodity) (p : Rat) : Prop :=
  ∀ x, Balance.lookupPrice np c = .ok x → x = p

theorem priceIs_of_ok {np : Option Prices.NPrices} {c : Commodity} {p : Rat}
    (h : Balance.lookupPrice np c = .ok p) : PriceIs np c p := by
  intro x hx; rw [h] at hx; injection hx with hx; exact hx.symm

/-- what the value adjustments are: no posting carries a quantity -/
def QtyZero (ts : List Transaction) : Prop := ∀ t ∈ ts, ∀ p ∈ t.postings, p.quantity = 0

theorem valOn_single (a : Account) (c : Commodity) (t : Transaction) :
    valOn a c [t] = ((t.postings.filter (onPos a c)).map (·.value)).sum := by
  unfold valOn
  rw [posOn_cons, posOn_nil, List.append_nil]

theorem multiply_eq (x y : Rat) : Prices.multiply x y = trunc 8 (x * y) := rfl

theorem valOn_snoc_adjustmentTx (a a' : Account) (c c' : Commodity) (date : Int) (g : Rat) (acc : List Transaction)
    (hal : a.isAL = true) :
    valOn a c (acc ++ [adjustmentTx date a' c' g]) = valOn a c acc + (if a' = a ∧ c' = c then g else 0) := by
  rw [valOn_append, valOn_single]
  exact congrArg _ (build_valOn a a' c c' g hal)

theorem adjustments_qtyZero (v : Commodity) (date : Int) (prev cur : Option Prices.NPrices)
    (q : AMap Position Rat) (adj : List Transaction) (h : Balance.adjustments v date prev cur q = .ok adj) :
    QtyZero adj := by
  intro t ht
  obtain ⟨_, _, _, _, _, _, _, _, _, _, _, _, rfl⟩ := adjustments_mem h t ht
  exact postingBuild_zero_quantity _ _ _ _

theorem adjustStep_valOn (v : Commodity) (date : Int) (prev cur : Option Prices.NPrices)
    (acc res : List Transaction) (e : Position × Rat) (a : Account) (c : Commodity) (pp cp : Rat)
    (hc : c ≠ v) (hal : a.isAL = true)
    (hpp : PriceIs prev c pp) (hcp : PriceIs cur c cp)
    (h : Balance.adjustStep v date prev cur acc e = .ok res) :
    valOn a c res = valOn a c acc + (if e.1 = (a, c) then adjustment e.2 pp cp else 0) := by
  obtain ⟨⟨a', c'⟩, q⟩ := e
  by_cases hk : (a', c') = (a, c)
  · cases hk
    rw [if_pos rfl]
    rcases adjustStep_ok h with ⟨hs, rfl⟩ | ⟨pp', cp', _, _, hq, hpp', hcp', hr⟩
    · have hq : q = 0 := by
        rcases hs with h | h | h
        · exact absurd h hc
        · rw [hal] at h; cases h
        · exact h
      rw [hq, adjustment_zero, Rat.add_zero]
    · cases hpp _ hpp'
      cases hcp _ hcp'
      rcases hr with ⟨hd, rfl⟩ | ⟨hd, rfl⟩
      · rw [adjustment_same hd, Rat.add_zero]
      · rw [valOn_snoc_adjustmentTx _ _ _ _ _ _ _ hal, if_pos ⟨rfl, rfl⟩, adjustment_of_ne hq hd]
  · rw [if_neg hk, Rat.add_zero]
    rcases adjustStep_ok_cases h with rfl | ⟨g, _, rfl⟩
    · rfl
    · rw [valOn_snoc_adjustmentTx _ _ _ _ _ _ _ hal, if_neg (fun h => hk (Prod.ext h.1 h.2)), Rat.add_zero]

/-- **the adjustments of one day, seen from `(a, c)`**: of all positions (their keys are distinct) only `(a, c)` itself
contributes, and it contributes the `adjustment` term of the trace -/
theorem adjustments_valOn (v : Commodity) (date : Int) (prev cur : Option Prices.NPrices)
    (q : AMap Position Rat) (adj : List Transaction) (a : Account) (c : Commodity) (pp cp : Rat)
    (hc : c ≠ v) (hal : a.isAL = true) (hn : AMap.NodupKeys q)
    (hpp : PriceIs prev c pp) (hcp : PriceIs cur c cp)
    (h : Balance.adjustments v date prev cur q = .ok adj) :
    valOn a c adj = adjustment (q.get (a, c) 0) pp cp := by
  unfold Balance.adjustments at h
  have key := foldlM_ok_ind (f := Balance.adjustStep v date prev cur)
    (R := fun q acc res => AMap.NodupKeys q → valOn a c res = valOn a c acc + adjustment (AMap.get q (a, c) 0) pp cp)
    (fun acc _ => by rw [show AMap.get ([] : AMap Position Rat) (a, c) 0 = 0 from rfl, adjustment_zero, Rat.add_zero])
    (fun e rest acc acc' res hs _ ih hn => by
      obtain ⟨k, x⟩ := e
      rw [AMap.nodupKeys_cons] at hn
      rw [ih hn.2, adjustStep_valOn v date prev cur acc acc' (k, x) a c pp cp hc hal hpp hcp hs, AMap.get_cons,
        Rat.add_assoc]
      by_cases hk : k = (a, c)
      · rw [if_pos hk, if_pos hk, AMap.get_of_not_key (hk ▸ hn.1), adjustment_zero, Rat.add_zero]
      · rw [if_neg hk, if_neg hk, Rat.zero_add]) q [] adj h hn
  rw [key]
  exact Rat.zero_add _

/-- the values of the postings of `txs` that `sel` selects, summed (`valOn a c` is the case `onPos a c`) -/
def sumVal (sel : Posting → Bool) (txs : List Transaction) : Rat :=
  (((txs.flatMap (·.postings)).filter sel).map (·.value)).sum

theorem sumVal_nil (sel : Posting → Bool) : sumVal sel [] = 0 := rfl

theorem sumVal_cons (sel : Posting → Bool) (t : Transaction) (ts : List Transaction) :
    sumVal sel (t :: ts) = ((t.postings.filter sel).map (·.value)).sum + sumVal sel ts := by
  unfold sumVal
  rw [List.flatMap_cons, List.filter_append, List.map_append, List.sum_append]

theorem sumVal_append (sel : Posting → Bool) (xs ys : List Transaction) :
    sumVal sel (xs ++ ys) = sumVal sel xs + sumVal sel ys := by
  unfold sumVal
  rw [List.flatMap_append, List.filter_append, List.map_append, List.sum_append]

theorem valOn_eq_sumVal (a : Account) (c : Commodity) (ts : List Transaction) : valOn a c ts = sumVal (onPos a c) ts := rfl

/-- the value `Valuate.Posting` computes for an unvalued posting under the day's normalised prices -/
def bookVal (v : Commodity) (cur : Option Prices.NPrices) (p : Posting) : Option Rat :=
  if p.quantity = 0 then some 0
  else if p.commodity = v then some p.quantity
  else match cur with
    | none => none
    | some np => (Prices.find p.commodity np).map (fun pr => Prices.multiply p.quantity pr)

/-- `sel` does not look at the value of a posting, so `Valuate`, which writes only values, keeps the selection -/
def NoValue (sel : Posting → Bool) : Prop := ∀ (p : Posting) (x : Rat), sel { p with value := x } = sel p

theorem noValue_onPos (a : Account) (c : Commodity) : NoValue (onPos a c) := fun _ _ => rfl

/-- `Valuate.Posting` against `bookVal` (the specification's `Spec.bookingValue` by `rfl`) -/
theorem valuePosting_bookVal {v : Commodity} {cur : Option Prices.NPrices} {p p' : Posting}
    (hz : p.quantity = 0 → p.value = 0) (h : Balance.valuePosting v cur p = .ok p') : bookVal v cur p = some p'.value := by
  obtain ⟨x, rfl, h0, hv', hne⟩ := valuePosting_ok h
  unfold bookVal
  by_cases hq : p.quantity = 0
  · rw [if_pos hq, h0 hq, hz hq]
  · rw [if_neg hq]
    by_cases hc : p.commodity = v
    · rw [if_pos hc, hv' hq hc]
    · obtain ⟨pr, hpr, rfl⟩ := hne hq hc
      obtain ⟨m, rfl, hf⟩ := lookupPrice_ok hpr
      rw [if_neg hc]
      simp only [hf]
      rfl

/-- … over a list, for any selection of postings that does not look at the value (a position, an account, a set of
accounts): valuation keeps the selected places -/
theorem mapM_valuePosting_sel (v : Commodity) (cur : Option Prices.NPrices) {sel : Posting → Bool} (hsel : NoValue sel)
    (ps ps' : List Posting) (hz : ∀ p ∈ ps, sel p = true → p.quantity = 0 → p.value = 0)
    (h : ps.mapM (Balance.valuePosting v cur) = .ok ps') :
    (ps.filter sel).mapM (bookVal v cur) = some ((ps'.filter sel).map (·.value)) := by
  have hf := forall₂_filter (p := sel) (q := sel) (fun p _ p' _ hv => by
    obtain ⟨x, rfl, _⟩ := valuePosting_ok hv
    exact (hsel p x).symm) (mapM_eq_ok_iff.mp h)
  exact mapM_eq_some_iff.mpr <| forall₂_map_right.mpr <| forall₂_imp_mem hf fun p hp p' _ hv =>
    valuePosting_bookVal (hz p (List.mem_filter.mp hp).1 (List.mem_filter.mp hp).2) hv

theorem mapM_valueTx_postings {v : Commodity} {cur : Option Prices.NPrices} {ts ts' : List Transaction}
    (h : ts.mapM (Balance.valueTx v cur) = .ok ts') :
    (ts.flatMap (·.postings)).mapM (Balance.valuePosting v cur) = .ok (ts'.flatMap (·.postings)) := by
  replace h := mapM_eq_ok_iff.mp h
  induction h with
  | nil => rfl
  | cons ht _ ih =>
    obtain ⟨ps, hps, rfl⟩ := Balance.valueTx_ok.mp ht
    rw [List.flatMap_cons, List.flatMap_cons]
    exact mapM_ok_append_iff.mpr ⟨_, _, hps, ih, rfl⟩

theorem mapM_valueTx_sel (v : Commodity) (cur : Option Prices.NPrices) {sel : Posting → Bool} (hsel : NoValue sel)
    {ts ts' : List Transaction} (hz : ∀ t ∈ ts, ∀ p ∈ t.postings, sel p = true → p.quantity = 0 → p.value = 0)
    (h : ts.mapM (Balance.valueTx v cur) = .ok ts') :
    ((ts.flatMap (·.postings)).filter sel).mapM (bookVal v cur) =
      some (((ts'.flatMap (·.postings)).filter sel).map (·.value)) :=
  mapM_valuePosting_sel v cur hsel _ _ (fun p hp => by
    obtain ⟨t, ht, hpt⟩ := List.mem_flatMap.mp hp
    exact hz t ht p hpt) (mapM_valueTx_postings h)

theorem mapM_valuePosting_zero (v : Commodity) (cur : Option Prices.NPrices) (ps : List Posting) (h : ∀ p ∈ ps, p.quantity = 0) :
    ps.mapM (Balance.valuePosting v cur) = .ok ps :=
  mapM_eq_ok_iff.mpr (forall₂_same fun p hp => valuePosting_zero (h p hp))

/-- on postings in a commodity `c ≠ V` priced `cp`, `bookVal` is the `booked` term of the trace -/
theorem bookVal_priced {v : Commodity} {cur : Option Prices.NPrices} {c : Commodity} {cp : Rat} (hc : c ≠ v)
    (hcp : PriceIs cur c cp) : ∀ (ps : List Posting) (vals : List Rat), (∀ p ∈ ps, p.commodity = c) →
      ps.mapM (bookVal v cur) = some vals → vals.sum = booked cp (ps.map (·.quantity))
  | [], _, _, h => by cases h; rfl
  | p :: ps, _, hpc, h => by
    obtain ⟨x, vals, hx, hr, rfl⟩ := mapM_cons_some.mp h
    have ih := bookVal_priced hc hcp ps vals (fun q hq => hpc q (List.mem_cons_of_mem _ hq)) hr
    have hpcc := hpc p List.mem_cons_self
    rw [List.sum_cons, List.map_cons, ih]
    unfold bookVal at hx
    by_cases hq : p.quantity = 0
    · rw [if_pos hq] at hx
      rw [hq, booked_cons_zero, ← Option.some.inj hx, Rat.zero_add]
    · rw [if_neg hq, if_neg (hpcc ▸ hc)] at hx
      rw [booked_cons_ne _ _ _ hq]
      cases hcur : cur with
      | none => rw [hcur] at hx; cases hx
      | some np =>
        rw [hcur] at hx
        cases hf : Prices.find p.commodity np with
        | none => simp only [hf] at hx; cases hx
        | some pr =>
          simp only [hf, Option.map_some, Option.some.injEq] at hx
          have : pr = cp := hcp pr (by rw [hcur, ← hpcc]; unfold Balance.lookupPrice; simp only [hf])
          rw [← hx, this]
          rfl

theorem bookVal_own {v : Commodity} {cur : Option Prices.NPrices} : ∀ (ps : List Posting) (vals : List Rat),
    (∀ p ∈ ps, p.commodity = v) → ps.mapM (bookVal v cur) = some vals → vals.sum = (ps.map (·.quantity)).sum
  | [], _, _, h => by cases h; rfl
  | p :: ps, _, hpc, h => by
    obtain ⟨x, vals, hx, hr, rfl⟩ := mapM_cons_some.mp h
    rw [List.sum_cons, List.map_cons, List.sum_cons,
      bookVal_own ps vals (fun q hq => hpc q (List.mem_cons_of_mem _ hq)) hr]
    unfold bookVal at hx
    by_cases hq : p.quantity = 0
    · rw [if_pos hq] at hx; rw [hq, ← Option.some.inj hx]
    · rw [if_neg hq, if_pos (hpc p List.mem_cons_self)] at hx; rw [← Option.some.inj hx]

/-- zero-quantity postings on `(a, c)` carry no value (what the journal's own postings satisfy: they are built
with value 0) -/
def Unvalued (a : Account) (c : Commodity) (ts : List Transaction) : Prop :=
  ∀ t ∈ ts, ∀ p ∈ t.postings, p.account = a → p.commodity = c → p.quantity = 0 → p.value = 0

theorem mem_posOn {a : Account} {c : Commodity} {ts : List Transaction} {p : Posting} (h : p ∈ posOn a c ts) :
    ∃ t ∈ ts, p ∈ t.postings ∧ p.account = a ∧ p.commodity = c := by
  obtain ⟨hm, ho⟩ := List.mem_filter.mp h
  obtain ⟨t, ht, hp⟩ := List.mem_flatMap.mp hm
  exact ⟨t, ht, hp, (Prod.mk.inj (onPos_iff.mp ho)).1, (Prod.mk.inj (onPos_iff.mp ho)).2⟩

theorem mem_posOn_of {a : Account} {c : Commodity} {ts : List Transaction} {t : Transaction} {p : Posting}
    (ht : t ∈ ts) (hp : p ∈ t.postings) (h1 : p.account = a) (h2 : p.commodity = c) : p ∈ posOn a c ts :=
  List.mem_filter.mpr ⟨List.mem_flatMap.mpr ⟨t, ht, hp⟩, onPos_iff.mpr (by rw [h1, h2])⟩

theorem qtysOn_qtyZero (a : Account) (c : Commodity) (ts : List Transaction) (h : QtyZero ts) :
    (qtysOn a c ts).sum = 0 := by
  unfold qtysOn
  have : (posOn a c ts).map (·.quantity) = (posOn a c ts).map (fun _ => (0 : Rat)) := by
    apply List.map_congr_left
    intro p hp
    obtain ⟨t, ht, hpt, _, _⟩ := mem_posOn hp
    exact h t ht p hpt
  rw [this]
  exact MapSum.sum_map_zero _

theorem valuationStage_some {cfg : BalCfg} {v : Commodity} {st st' : BalState} {d : Day} {txs : List Transaction}
    (hv : cfg.valuation = some v) (h : Balance.valuationStage cfg st d = .ok (st', txs)) :
    ∃ stp, Balance.pricesDay v st d = .ok stp ∧ Balance.valuateDay v stp d = .ok (st', txs) := by
  rw [Balance.valuationStage_ok, hv] at h
  exact h

theorem valuateDay_vQty (v : Commodity) (st st' : BalState) (d : Day) (txs : List Transaction)
    (a : Account) (c : Commodity) (hal : a.isAL = true) (h : Balance.valuateDay v st d = .ok (st', txs)) :
    st'.vQty.get (a, c) 0 = st.vQty.get (a, c) 0 + (qtysOn a c d.transactions).sum ∧ st'.vPrev = st.norm ∧
    (AMap.NodupKeys st.vQty → AMap.NodupKeys st'.vQty) := by
  obtain ⟨adj, ha, _, rfl⟩ := Balance.valuateDay_ok.mp h
  refine ⟨?_, rfl, fun hn => addQty_nodup _ _ hn⟩
  show (Balance.addQty st.vQty (d.transactions ++ adj)).get (a, c) 0 = _
  rw [addQty_get _ _ _ _ hal, qtysOn_append, List.sum_append,
    qtysOn_qtyZero a c adj (adjustments_qtyZero v d.date _ _ _ adj ha), Rat.add_zero]

/-- what leaves `Valuate` on a day totals, on any selection, the day's own transactions valued (`uv`) and the value
adjustments `adj` of the day's start: an adjustment has quantity 0 and is not valued again -/
theorem valuateDay_parts {v : Commodity} {st st' : BalState} {d : Day} {txs : List Transaction}
    (h : Balance.valuateDay v st d = .ok (st', txs)) :
    ∃ adj uv, Balance.adjustments v d.date st.vPrev st.norm st.vQty = .ok adj ∧
      d.transactions.mapM (Balance.valueTx v st.norm) = .ok uv ∧
      ∀ sel, sumVal sel txs = sumVal sel uv + sumVal sel adj := by
  obtain ⟨adj, ha, hm, _⟩ := Balance.valuateDay_ok.mp h
  obtain ⟨uv, av, hu, hav, e⟩ := mapM_ok_append_iff.mp hm
  have hav' : av.flatMap (·.postings) = adj.flatMap (·.postings) := by
    have := mapM_valueTx_postings hav
    rw [mapM_valuePosting_zero v _ _ (fun p hp => by
      obtain ⟨t, ht, hpt⟩ := List.mem_flatMap.mp hp
      exact adjustments_qtyZero v d.date _ _ _ adj ha t ht p hpt)] at this
    exact (Except.ok.inj this).symm
  refine ⟨adj, uv, ha, hu, fun sel => ?_⟩
  show sumVal sel txs = _
  rw [show txs = uv ++ av from e, sumVal_append]
  unfold sumVal
  rw [hav']

theorem valuateDay_position (v : Commodity) (st st' : BalState) (d : Day) (txs : List Transaction)
    (a : Account) (c : Commodity) (pp cp : Rat)
    (hc : c ≠ v) (hal : a.isAL = true) (hn : AMap.NodupKeys st.vQty) (hu : Unvalued a c d.transactions)
    (hpp : PriceIs st.vPrev c pp) (hcp : PriceIs st.norm c cp)
    (h : Balance.valuateDay v st d = .ok (st', txs)) :
    st'.vQty.get (a, c) 0 = st.vQty.get (a, c) 0 + (qtysOn a c d.transactions).sum ∧
    valOn a c txs = adjustment (st.vQty.get (a, c) 0) pp cp + booked cp (qtysOn a c d.transactions) ∧
    st'.vPrev = st.norm ∧ AMap.NodupKeys st'.vQty := by
  obtain ⟨q1, q2, q3⟩ := valuateDay_vQty v st st' d txs a c hal h
  refine ⟨q1, ?_, q2, q3 hn⟩
  obtain ⟨adj, uv, ha, hm, hsum⟩ := valuateDay_parts h
  have hb := mapM_valueTx_sel v st.norm (noValue_onPos a c)
    (fun t ht p hp ho hq => hu t ht p hp (Prod.mk.inj (onPos_iff.mp ho)).1 (Prod.mk.inj (onPos_iff.mp ho)).2 hq) hm
  rw [valOn_eq_sumVal, hsum, ← valOn_eq_sumVal a c adj,
    adjustments_valOn v d.date st.vPrev st.norm st.vQty adj a c pp cp hc hal hn hpp hcp ha, Rat.add_comm]
  exact congrArg _ (bookVal_priced hc hcp _ _ (fun p hp => (Prod.mk.inj (onPos_iff.mp (List.mem_filter.mp hp).2)).2) hb)

/-- the price of `c` in `np`, or the carried price `dflt` while `c` has none: what the trace takes for today's price -/
def priceOr (np : Option Prices.NPrices) (c : Commodity) (dflt : Rat) : Rat :=
  match Balance.lookupPrice np c with
  | .ok p => p
  | .error _ => dflt

theorem priceIs_priceOr (np : Option Prices.NPrices) (c : Commodity) (dflt : Rat) :
    PriceIs np c (priceOr np c dflt) := by
  intro x hx
  unfold priceOr
  rw [hx]

theorem priceOr_of_ok {np : Option Prices.NPrices} {c : Commodity} {p : Rat} (dflt : Rat)
    (h : Balance.lookupPrice np c = .ok p) : priceOr np c dflt = p := by
  unfold priceOr; rw [h]

theorem valuationStage_step (cfg : BalCfg) (v : Commodity) (st st' : BalState) (d : Day) (txs : List Transaction)
    (a : Account) (c : Commodity) (p : Rat) (s : St)
    (hv : cfg.valuation = some v) (hc : c ≠ v) (hal : a.isAL = true) (hn : AMap.NodupKeys st.vQty)
    (hu : Unvalued a c d.transactions) (hpp : PriceIs st.vPrev c p) (hQ : s.Q = st.vQty.get (a, c) 0)
    (h : Balance.valuationStage cfg st d = .ok (st', txs)) :
    (stepDay s ⟨p, priceOr st'.vPrev c p, qtysOn a c d.transactions⟩).W = s.W + valOn a c txs ∧
    (stepDay s ⟨p, priceOr st'.vPrev c p, qtysOn a c d.transactions⟩).Q = st'.vQty.get (a, c) 0 ∧
    AMap.NodupKeys st'.vQty := by
  obtain ⟨stp, hp, h⟩ := valuationStage_some hv h
  obtain ⟨g, _, hstp⟩ := Balance.pricesDay_ok.mp hp
  have e1 : stp.vQty = st.vQty := by rw [hstp]
  have e2 : stp.vPrev = st.vPrev := by rw [hstp]
  obtain ⟨r1, r2, r3, r4⟩ := valuateDay_position v stp st' d txs a c p (priceOr stp.norm c p) hc hal (e1 ▸ hn) hu
    (e2 ▸ hpp) (priceIs_priceOr _ _ _) h
  rw [r3]
  unfold stepDay
  simp only
  rw [hQ, r1, r2, e1, Rat.add_assoc]
  exact ⟨rfl, rfl, r4⟩

/-- `CloseAccounts` accumulates non-asset/liability positions only -/
def CloseInv (st : BalState) : Prop := ∀ k ∈ st.cQty.map (·.1), k.1.isAL = false

theorem closeInv_init : CloseInv {} := fun _ hk => by cases hk

theorem equityAccount_not_AL : equityAccount.isAL = false := by decide

theorem posOn_no_AL (a : Account) (c : Commodity) (hal : a.isAL = true) {ts : List Transaction}
    (h : ∀ t ∈ ts, ∀ p ∈ t.postings, p.account.isAL = false) : posOn a c ts = [] := by
  unfold posOn
  rw [List.filter_eq_nil_iff]
  intro p hp
  obtain ⟨t, ht, hpt⟩ := List.mem_flatMap.mp hp
  have hne : p.account ≠ a := fun e => by have := h t ht p hpt; rw [e, hal] at this; cases this
  simp [onPos, hne]

/-- what Filter and CloseAccounts pass on to the Query stage has, on an asset/liability position, the postings the
valuation stage produced if the day is inside the window and nothing otherwise (closings are booked between
income/expense/equity accounts and `Equity:Equity`) -/
theorem cStage_posOn {cfg : BalCfg} {cs : Balance.CSt} (hinv : Balance.CloseInvC cs) (d : Day) (raw : List Transaction)
    (a : Account) (c : Commodity) (hal : a.isAL = true) :
    posOn a c (Balance.cStage cfg cs d (Balance.filterStage cfg d raw)).2 =
      if cfg.span.contains d.date = true then posOn a c raw else [] := by
  obtain ⟨cl, e, hcl⟩ := Balance.cStage_AL (cfg := cfg) hinv d (Balance.filterStage cfg d raw)
  rw [e, posOn_append, posOn_no_AL a c hal hcl, List.append_nil]
  cases hin : cfg.span.contains d.date
  · rw [Balance.filterStage_out hin]; rfl
  · rw [Balance.filterStage_in hin]; rfl

/-- one day through ALL stages (`Balance.dayTxs`), returning also the transactions handed to the Query stage;
`Balance.day` is this with the transactions forgotten -/
def dayQ (cfg : BalCfg) (st : BalState) (d : Day) : Except BalErr (BalState × List Transaction) :=
  match Balance.dayTxs cfg st d with
  | .error e => .error e
  | .ok (st1, txs) => .ok ({ st1 with entries := st1.entries ++ txs.flatMap (Balance.queryTx cfg) }, txs)

theorem dayQ_eq (cfg : BalCfg) (st : BalState) (d : Day) :
    dayQ cfg st d = (Balance.checkStage st d >>= fun s => Balance.vStage cfg (Balance.vOf st) d >>= fun r =>
      .ok (Balance.join s.chk r.1 (Balance.cStage cfg (Balance.cOf st) d (Balance.filterStage cfg d r.2)).1
        (st.entries ++ (Balance.cStage cfg (Balance.cOf st) d (Balance.filterStage cfg d r.2)).2.flatMap (Balance.queryTx cfg)),
        (Balance.cStage cfg (Balance.cOf st) d (Balance.filterStage cfg d r.2)).2)) := by
  unfold dayQ
  rw [Balance.dayTxs_eq]
  cases Balance.checkStage st d with
  | error e => rfl
  | ok s =>
    dsimp only [bind, Except.bind]
    cases Balance.vStage cfg (Balance.vOf st) d <;> rfl

theorem dayQ_ok_iff {cfg : BalCfg} {st st' : BalState} {d : Day} {q : List Transaction} :
    dayQ cfg st d = .ok (st', q) ↔ ∃ raw, Balance.Step cfg st d st' raw q := by
  rw [dayQ_eq, bindOk_iff]
  constructor
  · rintro ⟨s, hs, h⟩
    obtain ⟨k, hk, rfl⟩ := Balance.checkStage_ok.mp hs
    obtain ⟨r, hr, h⟩ := bindOk_iff.mp h
    cases h
    exact ⟨r.2, hk, hr, rfl, rfl⟩
  · rintro ⟨raw, hk, hv, hc, he⟩
    refine ⟨_, Balance.checkStage_ok.mpr ⟨_, hk, rfl⟩, bindOk_iff.mpr ⟨_, hv, ?_⟩⟩
    rw [hc]
    exact congrArg Except.ok (Prod.ext (Balance.eq_join.mpr ⟨rfl, rfl, rfl, he⟩).symm rfl)

theorem step_position {cfg : BalCfg} {st st' : BalState} {d : Day} {raw q : List Transaction} (hinv : CloseInv st)
    (hs : Balance.Step cfg st d st' raw q) :
    CloseInv st' ∧ ∀ (a : Account) (c : Commodity), a.isAL = true →
      posOn a c q = if cfg.span.contains d.date = true then posOn a c raw else [] := by
  have h1 : (Balance.cStage cfg (Balance.cOf st) d (Balance.filterStage cfg d raw)).1 = Balance.cOf st' :=
    congrArg Prod.fst hs.close
  have h2 : (Balance.cStage cfg (Balance.cOf st) d (Balance.filterStage cfg d raw)).2 = q := congrArg Prod.snd hs.close
  have hinv : Balance.CloseInvC (Balance.cOf st) := hinv
  exact ⟨show Balance.CloseInvC (Balance.cOf st') from h1 ▸ Balance.cStage_closeInv hinv d _,
    fun a c hal => h2 ▸ cStage_posOn hinv d raw a c hal⟩

theorem dayQ_ok {cfg : BalCfg} {st st' : BalState} {d : Day} {txs : List Transaction}
    (h : dayQ cfg st d = .ok (st', txs)) :
    ∃ ck st1 txs1 cq cv, Check.day st.chk d = .ok ck ∧ Balance.valuationStage cfg { st with chk := ck } d = .ok (st1, txs1) ∧
      Balance.closeStage cfg st1 d (Balance.filterStage cfg d txs1) = ({ st1 with cQty := cq, cVal := cv }, txs) ∧
      st' = { st1 with cQty := cq, cVal := cv, entries := st1.entries ++ txs.flatMap (Balance.queryTx cfg) } := by
  obtain ⟨raw, hs⟩ := dayQ_ok_iff.mp h
  refine ⟨st'.chk, Balance.join st'.chk (Balance.vOf st') (Balance.cOf st) st.entries, raw, st'.cQty, st'.cVal, hs.chk,
    Balance.valuationStage_ok_iff.mpr ⟨hs.val, rfl, rfl, rfl⟩, ?_, ?_⟩
  · rw [Balance.closeStage_eq]
    show (Balance.join _ _ (Balance.cStage cfg (Balance.cOf st) d _).1 _, (Balance.cStage cfg (Balance.cOf st) d _).2) = _
    rw [hs.close]
    rfl
  · exact Balance.eq_join.mpr ⟨rfl, rfl, rfl, hs.entries⟩

theorem dayQ_position {cfg : BalCfg} {st st' : BalState} {d : Day} {txs : List Transaction} (hinv : CloseInv st)
    (h : dayQ cfg st d = .ok (st', txs)) :
    ∃ ck st1 txs1, Balance.valuationStage cfg { st with chk := ck } d = .ok (st1, txs1) ∧
      st'.vQty = st1.vQty ∧ st'.vPrev = st1.vPrev ∧ st'.norm = st1.norm ∧ st'.graph = st1.graph ∧ CloseInv st' ∧
      ∀ (a : Account) (c : Commodity), a.isAL = true →
        posOn a c txs = if cfg.span.contains d.date = true then posOn a c txs1 else [] := by
  obtain ⟨raw, hs⟩ := dayQ_ok_iff.mp h
  obtain ⟨hinv', hpos⟩ := step_position hinv hs
  exact ⟨st'.chk, Balance.join st'.chk (Balance.vOf st') (Balance.cOf st) st.entries, raw,
    Balance.valuationStage_ok_iff.mpr ⟨hs.val, rfl, rfl, rfl⟩, rfl, rfl, rfl, rfl, hinv', hpos⟩

theorem dayQ_step (cfg : BalCfg) (v : Commodity) (st st' : BalState) (d : Day) (txs : List Transaction)
    (a : Account) (c : Commodity) (p : Rat) (s : St)
    (hv : cfg.valuation = some v) (hc : c ≠ v) (hal : a.isAL = true)
    (hn : AMap.NodupKeys st.vQty) (hinv : CloseInv st) (hspan : cfg.span.contains d.date = true)
    (hu : Unvalued a c d.transactions) (hpp : PriceIs st.vPrev c p) (hQ : s.Q = st.vQty.get (a, c) 0)
    (h : dayQ cfg st d = .ok (st', txs)) :
    (stepDay s ⟨p, priceOr st'.vPrev c p, qtysOn a c d.transactions⟩).W = s.W + valOn a c txs ∧
    (stepDay s ⟨p, priceOr st'.vPrev c p, qtysOn a c d.transactions⟩).Q = st'.vQty.get (a, c) 0 ∧
    AMap.NodupKeys st'.vQty ∧ CloseInv st' := by
  obtain ⟨ck, st1, txs1, hvs, e1, e2, _, _, hinv', hpos⟩ := dayQ_position hinv h
  obtain ⟨w1, w2, w3⟩ := valuationStage_step cfg v { st with chk := ck } st1 d txs1 a c p s hv hc hal hn hu hpp hQ hvs
  have hval : valOn a c txs = valOn a c txs1 := by unfold valOn; rw [hpos a c hal, if_pos hspan]
  rw [e1, e2, hval]
  exact ⟨w1, w2, w3, hinv'⟩

/-- no `-m` mapping, no `--remap`, no account/commodity filter -/
structure Plain (cfg : BalCfg) : Prop where
  mapping : cfg.mapping = []
  remap : ∀ s, cfg.remap s = false
  acc : ∀ s, cfg.accountFilter s = true
  com : ∀ s, cfg.commodityFilter s = true

/-- a plain configuration hides no account: what C01 (`C03_equity_equity_residual`) asks of the flags -/
theorem Plain.unfiltered {cfg : BalCfg} (h : Plain cfg) : Unfiltered cfg :=
  ⟨h.acc, h.com, fun a => by rw [mapAccount_plain h.mapping h.remap]; rfl⟩

/-- the total of the report inserts on account `a`, commodity `c` (over all columns) -/
def entryVal (a : Account) (c : Commodity) (es : List Entry) : Rat :=
  ((es.filter (fun e => decide (e.account = a) && decide (e.commodity = c))).map (·.amount)).sum

theorem queryTx_valued (cfg : BalCfg) (hp : Plain cfg) (hv : cfg.valuation.isSome = true) (t : Transaction) :
    Balance.queryTx cfg t = t.postings.map (fun p => ⟨alignIn cfg.periods t.date, p.account, p.commodity, p.value⟩) := by
  rw [Knut.queryTx_plain hp.mapping hp.remap hp.acc hp.com]
  exact List.map_congr_left (fun p _ => by rw [Posting.amountIn_valued hv])

/-- in a plain valued report the inserts selected by account and commodity total the values of the postings so selected -/
theorem total_flatMap_sel (cfg : BalCfg) (hp : Plain cfg) (hv : cfg.valuation.isSome = true) (s : Account → Commodity → Bool) :
    ∀ (txs : List Transaction),
      BalanceReport.sumAmounts ((txs.flatMap (Balance.queryTx cfg)).filter (fun e => s e.account e.commodity)) =
        sumVal (fun p => s p.account p.commodity) txs
  | [] => rfl
  | t :: rest => by
    rw [sumVal_cons, List.flatMap_cons, List.filter_append, BalanceReport.sumAmounts_append,
      total_flatMap_sel cfg hp hv s rest, queryTx_valued cfg hp hv t, List.filter_map, BalanceReport.sumAmounts_map]
    rfl

theorem entryVal_flatMap (cfg : BalCfg) (hp : Plain cfg) (hv : cfg.valuation.isSome = true) (a : Account) (c : Commodity)
    (txs : List Transaction) : entryVal a c (txs.flatMap (Balance.queryTx cfg)) = valOn a c txs :=
  total_flatMap_sel cfg hp hv (fun x y => decide (x = a) && decide (y = c)) txs

theorem mapM_valueTx_dates (v : Commodity) (cur : Option Prices.NPrices) (D : Int) (ts ts' : List Transaction)
    (h : ts.mapM (Balance.valueTx v cur) = .ok ts') : (∀ t ∈ ts, t.date = D) → ∀ t ∈ ts', t.date = D := by
  refine mapM_ok_ind (fun ts ts' => (∀ t ∈ ts, t.date = D) → ∀ t ∈ ts', t.date = D) (fun h => h) ?_ h
  intro t t' ts ts' ht _ ih hd x hx
  obtain ⟨ps, _, rfl⟩ := Balance.valueTx_ok.mp ht
  rcases List.mem_cons.mp hx with rfl | hx
  · exact hd t List.mem_cons_self
  · exact ih (fun y hy => hd y (List.mem_cons_of_mem _ hy)) x hx

theorem adjustments_dates {v : Commodity} {date : Int} {prev cur : Option Prices.NPrices} {q : AMap Position Rat}
    {adj : List Transaction} (h : Balance.adjustments v date prev cur q = .ok adj) : ∀ t ∈ adj, t.date = date := by
  intro t ht
  obtain ⟨_, _, _, _, _, _, _, _, _, _, _, _, rfl⟩ := adjustments_mem h t ht
  rfl

theorem closings_dates (date : Int) (cQty cVal : AMap Position Rat) :
    ∀ t ∈ Balance.closings date cQty cVal, t.date = date := by
  intro t ht
  obtain ⟨_, _, _, rfl⟩ := Balance.mem_closings_iff.mp ht
  rfl

theorem dayQ_dates (cfg : BalCfg) (st st' : BalState) (d : Day) (txs : List Transaction)
    (hd : ∀ t ∈ d.transactions, t.date = d.date) (h : dayQ cfg st d = .ok (st', txs)) :
    ∀ t ∈ txs, t.date = d.date := by
  obtain ⟨raw, hs⟩ := dayQ_ok_iff.mp h
  have h1 : ∀ t ∈ raw, t.date = d.date := by
    cases hv : cfg.valuation with
    | none =>
      obtain ⟨_, rfl⟩ := Prod.mk.inj (Except.ok.inj ((Balance.vStage_none hv _ d).symm.trans hs.val))
      exact hd
    | some v =>
      obtain ⟨g, adj, _, ha, hm, _⟩ := (Balance.vStage_some_iff hv).mp hs.val
      refine mapM_valueTx_dates v _ d.date _ _ hm (fun t ht => ?_)
      rcases List.mem_append.mp ht with ht | ht
      · exact hd t ht
      · exact adjustments_dates ha t ht
  intro t ht
  have hq : (Balance.cStage cfg (Balance.cOf st) d (Balance.filterStage cfg d raw)).2 = txs := congrArg Prod.snd hs.close
  rcases Balance.mem_cStage (hq ▸ ht) with ht | ht
  · exact h1 t ht
  · exact closings_dates _ _ _ t ht

theorem valuationStage_vQty (cfg : BalCfg) (v : Commodity) (st st' : BalState) (d : Day) (txs : List Transaction)
    (a : Account) (c : Commodity) (hv : cfg.valuation = some v) (hal : a.isAL = true)
    (h : Balance.valuationStage cfg st d = .ok (st', txs)) :
    st'.vQty.get (a, c) 0 = st.vQty.get (a, c) 0 + (qtysOn a c d.transactions).sum := by
  obtain ⟨stp, hp, h⟩ := valuationStage_some hv h
  obtain ⟨g, _, hstp⟩ := Balance.pricesDay_ok.mp hp
  have e1 : stp.vQty = st.vQty := by rw [hstp]
  rw [← e1]
  exact (valuateDay_vQty v stp st' d txs a c hal h).1

theorem valuationStage_nodup (cfg : BalCfg) (v : Commodity) (st st' : BalState) (d : Day) (txs : List Transaction)
    (hv : cfg.valuation = some v) (h : Balance.valuationStage cfg st d = .ok (st', txs))
    (hn : AMap.NodupKeys st.vQty) : AMap.NodupKeys st'.vQty := by
  obtain ⟨g, adj, _, _, _, rfl⟩ := (Balance.valuationStage_some_iff hv).mp h
  exact addQty_nodup _ _ hn

theorem dayQ_any (cfg : BalCfg) (v : Commodity) (st st' : BalState) (d : Day) (txs : List Transaction)
    (hv : cfg.valuation = some v) (hinv : CloseInv st) (h : dayQ cfg st d = .ok (st', txs)) :
    (AMap.NodupKeys st.vQty → AMap.NodupKeys st'.vQty) ∧ CloseInv st' ∧
    ∀ (a : Account) (c : Commodity), a.isAL = true →
      st'.vQty.get (a, c) 0 = st.vQty.get (a, c) 0 + (qtysOn a c d.transactions).sum ∧
      (cfg.span.contains d.date = false → posOn a c txs = []) := by
  obtain ⟨ck, st1, txs1, hvs, e1, _, _, _, hinv', hpos⟩ := dayQ_position hinv h
  rw [e1]
  exact ⟨valuationStage_nodup cfg v { st with chk := ck } st1 d txs1 hv hvs, hinv', fun a c hal =>
    ⟨valuationStage_vQty cfg v { st with chk := ck } st1 d txs1 a c hv hal hvs, fun hout => by rw [hpos a c hal, hout]; rfl⟩⟩

/-- outside the window Filter drops the day, and there is nothing to close while the accumulators are empty -/
theorem dayQ_outside {cfg : BalCfg} {st st' : BalState} {d : Day} {txs : List Transaction}
    (hout : cfg.span.contains d.date = false) (hq0 : st.cQty = []) (h : dayQ cfg st d = .ok (st', txs)) :
    txs = [] ∧ st'.cQty = [] := by
  obtain ⟨raw, hs⟩ := dayQ_ok_iff.mp h
  have hc := hs.close
  have hcl : Balance.closingsAt cfg (Balance.cOf st) d = [] := by
    show (if _ then Balance.closings d.date st.cQty st.cVal else []) = []
    rw [hq0]
    split <;> rfl
  rw [Balance.filterStage_out hout] at hc
  cases hclose : cfg.close with
  | true =>
    rw [Balance.cStage_close hclose, hcl] at hc
    obtain ⟨e1, e2⟩ := Prod.mk.inj hc
    exact ⟨e2.symm, (congrArg (·.cQty) e1).symm.trans hq0⟩
  | false =>
    rw [Balance.cStage_noClose hclose] at hc
    obtain ⟨e1, e2⟩ := Prod.mk.inj hc
    exact ⟨e2.symm, (congrArg (·.cQty) e1).symm.trans hq0⟩

theorem dayQ_closeInv {cfg : BalCfg} {st st' : BalState} {d : Day} {txs : List Transaction}
    (hinv : CloseInv st) (h : dayQ cfg st d = .ok (st', txs)) : CloseInv st' := by
  obtain ⟨_, hs⟩ := dayQ_ok_iff.mp h
  exact (step_position hinv hs).1

open Knut.Spec

/-- one `Prices.Insert` per declaration, stopping at a zero price -/
def insDecl (g : Prices.Prices) (p : Price) : Option Prices.Prices := Prices.insert g ⟨p.commodity, p.price, p.target⟩

theorem pricesFold_option (ps : List Price) (g g' : Prices.Prices)
    (h : ps.foldlM (fun g p =>
      match Prices.insert g ⟨p.commodity, p.price, p.target⟩ with
      | some g' => Except.ok g'
      | none => Except.error BalErr.zeroPrice) g = .ok g') : ps.foldlM insDecl g = some g' := by
  refine foldlM_ok_ind (R := fun ps g g' => ps.foldlM insDecl g = some g') (fun _ => rfl) ?_ ps g g' h
  intro p ps g g1 g' hp _ ih
  rw [List.foldlM_cons]
  unfold insDecl at ih ⊢
  split at hp
  · rename_i hi
    cases hp
    rw [hi]
    exact ih
  · cases hp

theorem dayQ_prices (cfg : BalCfg) (v : Commodity) (st st' : BalState) (d : Day) (txs : List Transaction)
    (hv : cfg.valuation = some v) (h : dayQ cfg st d = .ok (st', txs)) :
    d.prices.foldlM insDecl st.graph = some st'.graph ∧
    st'.norm = (if d.prices.isEmpty then st.norm else some (Prices.normalize st'.graph v)) ∧
    st'.vPrev = st'.norm := by
  obtain ⟨ck, st1, txs1, cq, cv, _, hvs, _, rfl⟩ := dayQ_ok h
  obtain ⟨g, adj, hg, _, _, rfl⟩ := (Balance.valuationStage_some_iff hv).mp hvs
  exact ⟨pricesFold_option _ _ _ hg, rfl, rfl⟩

/-- the valuation stage succeeded and the position is open afterwards: its commodity has a price that day -/
theorem valuationStage_open_price (cfg : BalCfg) (v : Commodity) (st st' : BalState) (d : Day) (txs : List Transaction)
    (a : Account) (c : Commodity) (hv : cfg.valuation = some v) (hc : c ≠ v) (hal : a.isAL = true)
    (h : Balance.valuationStage cfg st d = .ok (st', txs)) (hq : st'.vQty.get (a, c) 0 ≠ 0) :
    ∃ p, Balance.lookupPrice st'.vPrev c = .ok p := by
  have q1 := valuationStage_vQty cfg v st st' d txs a c hv hal h
  obtain ⟨g, adj, _, ha, hm, rfl⟩ := (Balance.valuationStage_some_iff hv).mp h
  show ∃ p, Balance.lookupPrice (Balance.dayNorm v d g st.norm) c = .ok p
  by_cases h0 : st.vQty.get (a, c) 0 = 0
  · -- opened today: a non-zero booking on (a, c) was valued
    rw [h0, Rat.zero_add] at q1
    rw [q1] at hq
    obtain ⟨x, hx, hx0⟩ := MapSum.sum_ne_zero_mem _ hq
    obtain ⟨p, hp', rfl⟩ := List.mem_map.mp hx
    obtain ⟨t, ht, hpt, _, e2⟩ := mem_posOn hp'
    obtain ⟨t', _, ht'⟩ := mapM_ok_mem_fwd hm t (List.mem_append_left _ ht)
    obtain ⟨ps, hps, _⟩ := Balance.valueTx_ok.mp ht'
    obtain ⟨p', _, hp''⟩ := mapM_ok_mem_fwd hps p hpt
    obtain ⟨_, _, _, _, hne⟩ := valuePosting_ok hp''
    obtain ⟨pr, hl, _⟩ := hne hx0 (e2 ▸ hc)
    exact ⟨pr, e2 ▸ hl⟩
  · -- open at the start of the day: the adjustment step looked the price up
    obtain ⟨q, hf, hq0⟩ := AMap.get_ne h0
    have hmem : ((a, c), q) ∈ st.vQty := AMap.mem_of_find? hf
    unfold Balance.adjustments at ha
    obtain ⟨b1, b2, hs⟩ := foldlM_ok_mem _ _ _ _ ha _ hmem
    rcases adjustStep_ok hs with ⟨hskip, _⟩ | ⟨_, cp, _, _, _, _, hcp, _⟩
    · rcases hskip with h | h | h
      · exact absurd h hc
      · rw [hal] at h; cases h
      · exact absurd h hq0
    · exact ⟨cp, hcp⟩

theorem dayQ_open_price (cfg : BalCfg) (v : Commodity) (st st' : BalState) (d : Day) (txs : List Transaction)
    (a : Account) (c : Commodity) (hv : cfg.valuation = some v) (hc : c ≠ v) (hal : a.isAL = true)
    (h : dayQ cfg st d = .ok (st', txs)) (hq : st'.vQty.get (a, c) 0 ≠ 0) :
    ∃ p, Balance.lookupPrice st'.vPrev c = .ok p := by
  obtain ⟨ck, st1, txs1, cq, cv, _, hvs, _, rfl⟩ := dayQ_ok h
  exact valuationStage_open_price cfg v _ st1 d txs1 a c hv hc hal hvs hq

theorem adjustments_not_v (v : Commodity) (date : Int) (prev cur : Option Prices.NPrices)
    (q : AMap Position Rat) (adj : List Transaction) (h : Balance.adjustments v date prev cur q = .ok adj) :
    ∀ t ∈ adj, ∀ p ∈ t.postings, p.commodity ≠ v := by
  intro t ht p hp
  obtain ⟨_, _, _, _, _, _, hc, _, _, _, _, _, rfl⟩ := adjustments_mem h t ht
  rw [postingBuild_commodity _ _ _ _ _ p hp]
  exact hc

theorem valuationStage_valOn_v (cfg : BalCfg) (v : Commodity) (st st' : BalState) (d : Day) (txs : List Transaction)
    (a : Account) (hv : cfg.valuation = some v) (hu : Unvalued a v d.transactions)
    (h : Balance.valuationStage cfg st d = .ok (st', txs)) :
    valOn a v txs = (qtysOn a v d.transactions).sum := by
  obtain ⟨stp, hp, h⟩ := valuationStage_some hv h
  obtain ⟨adj, uv, ha, hm, hsum⟩ := valuateDay_parts h
  have hb := mapM_valueTx_sel v stp.norm (noValue_onPos a v)
    (fun t ht p hp ho hq => hu t ht p hp (Prod.mk.inj (onPos_iff.mp ho)).1 (Prod.mk.inj (onPos_iff.mp ho)).2 hq) hm
  -- no value adjustment is booked in the valuation commodity
  have hadj : sumVal (onPos a v) adj = 0 := MapSum.sum_map_eq_zero _ _ (fun p hp => by
    obtain ⟨t, ht, hpt⟩ := List.mem_flatMap.mp (List.mem_filter.mp hp).1
    exact absurd (Prod.mk.inj (onPos_iff.mp (List.mem_filter.mp hp).2)).2 (adjustments_not_v v d.date _ _ _ adj ha t ht p hpt))
  rw [valOn_eq_sumVal, hsum, hadj, Rat.add_zero]
  exact bookVal_own _ _ (fun p hp => (Prod.mk.inj (onPos_iff.mp (List.mem_filter.mp hp).2)).2) hb

theorem dayQ_valOn_v (cfg : BalCfg) (v : Commodity) (st st' : BalState) (d : Day) (txs : List Transaction)
    (a : Account) (hv : cfg.valuation = some v) (hal : a.isAL = true) (hinv : CloseInv st)
    (hspan : cfg.span.contains d.date = true) (hu : Unvalued a v d.transactions)
    (h : dayQ cfg st d = .ok (st', txs)) :
    valOn a v txs = (qtysOn a v d.transactions).sum := by
  obtain ⟨ck, st1, txs1, hvs, _, _, _, _, _, hpos⟩ := dayQ_position hinv h
  unfold valOn
  rw [hpos a v hal, if_pos hspan]
  exact valuationStage_valOn_v cfg v _ st1 d txs1 a hv hu hvs

open Knut.BalanceReport (sumAmounts)

theorem mem_entries_plain (cfg : BalCfg) (hp : Plain cfg) (hv : cfg.valuation.isSome = true) (txs : List Transaction)
    (e : Entry) (he : e ∈ txs.flatMap (Balance.queryTx cfg)) :
    ∃ t ∈ txs, ∃ p ∈ t.postings, e = ⟨alignIn cfg.periods t.date, p.account, p.commodity, p.value⟩ := by
  obtain ⟨t, ht, he⟩ := List.mem_flatMap.mp he
  rw [queryTx_valued cfg hp hv t] at he
  obtain ⟨p, hpt, rfl⟩ := List.mem_map.mp he
  exact ⟨t, ht, p, hpt, rfl⟩

end Knut.MTM
