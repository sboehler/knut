import Knut.Proofs.LedgerCommand
import Knut.Spec.MTM
/-! With `--close` the command makes sure a day exists for every period start (`Builder.Days(partition.StartDates())`): days
without any directive.  `Spec.mtm`, `Spec.qtyAt`, `Spec.pricesAt`, `Spec.stepBound`, `Spec.flowAt` do not see days without transactions
and price declarations, so they may be evaluated on the journal's own days `(Builder.ofList ds).build` (what the driver
op `c03mtm` does) instead of `LedgerCommand.daysOf f ds part`. -/
namespace Knut.MTM
open Knut Knut.Spec Knut.LedgerCommand

/-- a day without price declarations and transactions: what `Builder.Days` adds for a period start the journal has no day for -/
def blank (d : Day) : Bool := d.prices.isEmpty && d.transactions.isEmpty

/-- the days the specification sees -/
def core (days : List Day) : List Day := days.filter (fun d => !blank d)

theorem userPostings_core : ∀ (days : List Day), userPostings (core days) = userPostings days
  | [] => rfl
  | d :: ds => by
    have ih := userPostings_core ds
    unfold core at ih ⊢
    unfold userPostings at ih ⊢
    rw [List.filter_cons]
    by_cases hb : blank d = true
    · simp only [hb, Bool.not_true, Bool.false_eq_true, if_false, List.flatMap_cons]
      have : d.transactions = [] := by
        unfold blank at hb
        simp only [Bool.and_eq_true, List.isEmpty_iff] at hb
        exact hb.2
      rw [this, ih]
      rfl
    · simp only [hb, Bool.not_false, if_true, List.flatMap_cons, ih]

theorem foldlM_skip {α β : Type} (step : β → α → Option β) (q : α → Bool)
    (hq : ∀ x, q x = false → ∀ g, step g x = some g) (L : List α) (g : β) :
    (L.filter q).foldlM step g = L.foldlM step g := by
  rw [List.foldlM_filter]
  congr
  funext g x
  cases hx : q x
  · rw [hq x hx g]; rfl
  · rfl

theorem blank_prices {d : Day} (h : (!blank d) = false) : d.prices = [] := by
  unfold blank at h
  simp only [Bool.not_eq_false', Bool.and_eq_true, List.isEmpty_iff] at h
  exact h.1

theorem graphAt_core (days : List Day) (D : Int) : graphAt (core days) D = graphAt days D := by
  unfold graphAt core
  rw [List.filter_filter]
  have : (fun d : Day => decide (d.date ≤ D) && !blank d) = (fun d => (!blank d) && decide (d.date ≤ D)) := by
    funext d; rw [Bool.and_comm]
  rw [this, ← List.filter_filter]
  apply foldlM_skip
  intro d hd g
  rw [blank_prices hd]
  rfl

theorem pricesAt_core (v : Commodity) (days : List Day) (D : Int) : pricesAt v (core days) D = pricesAt v days D := by
  unfold pricesAt
  rw [graphAt_core]
  have : ((core days).filter (fun d => d.date ≤ D)).all (fun d => d.prices.isEmpty) =
      (days.filter (fun d => d.date ≤ D)).all (fun d => d.prices.isEmpty) := by
    unfold core
    induction days with
    | nil => rfl
    | cons d ds ih =>
      simp only [List.filter_cons]
      by_cases hb : blank d = true
      · have hp : d.prices.isEmpty = true := by
          unfold blank at hb
          simp only [Bool.and_eq_true] at hb
          exact hb.1
        simp only [hb, Bool.not_true, Bool.false_eq_true, if_false]
        rw [ih]
        split
        · simp only [List.all_cons, hp, Bool.true_and]
        · rfl
      · simp only [hb, Bool.not_false, if_true, List.filter_cons]
        split
        · simp only [List.all_cons, ih]
        · exact ih
  rw [this]

theorem stepCount_core (v : Commodity) (days : List Day) (a : Account) (F D : Int) (c : Commodity) :
    stepCount v (core days) a F D c = stepCount v days a F D c := by
  unfold stepCount
  rw [userPostings_core]
  have : ((core days).filter (fun d => decide (F < d.date) && decide (d.date ≤ D) && !d.prices.isEmpty)).length =
      (days.filter (fun d => decide (F < d.date) && decide (d.date ≤ D) && !d.prices.isEmpty)).length := by
    unfold core
    rw [List.filter_filter]
    congr 1
    apply List.filter_congr
    intro d _
    by_cases hb : blank d = true
    · have hp : d.prices.isEmpty = true := by
        unfold blank at hb
        simp only [Bool.and_eq_true] at hb
        exact hb.1
      simp [hb, hp]
    · simp [hb]
  rw [this]

theorem core_insertDay (days : List Day) (x : Int) : core (insertDay days x) = core days := by
  rcases insertDay_cases days x with e | ⟨pre, post, rfl, e⟩ <;> rw [e]
  -- the empty day that went in is blank
  unfold core
  rw [List.filter_append, List.filter_append, List.filter_cons_of_neg (by simp [blank])]

theorem core_ensureDays (dates : List Int) (days : List Day) : core (dates.foldl insertDay days) = core days :=
  foldl_inv (core · = core days) dates days (fun l x _ h => (core_insertDay l x).trans h) rfl

theorem core_daysOf (f : BalanceFlags) (ds : List Directive) (part : Partition) :
    core (daysOf f ds part) = core (Builder.ofList ds).build := by
  unfold daysOf Builder.build
  split
  · exact core_ensureDays _ _
  · rfl

theorem userPostings_daysOf (f : BalanceFlags) (ds : List Directive) (part : Partition) :
    userPostings (daysOf f ds part) = userPostings (Builder.ofList ds).build := by
  rw [← userPostings_core, core_daysOf, userPostings_core]

theorem stepCount_daysOf (f : BalanceFlags) (ds : List Directive) (part : Partition) (v : Commodity) (a : Account)
    (F D : Int) (c : Commodity) :
    stepCount v (daysOf f ds part) a F D c = stepCount v (Builder.ofList ds).build a F D c := by
  rw [← stepCount_core, core_daysOf, stepCount_core]

theorem pricesAt_daysOf (f : BalanceFlags) (ds : List Directive) (part : Partition) (v : Commodity) (D : Int) :
    pricesAt v (daysOf f ds part) D = pricesAt v (Builder.ofList ds).build D := by
  rw [← pricesAt_core, core_daysOf, pricesAt_core]

theorem qtyAt_daysOf (f : BalanceFlags) (ds : List Directive) (part : Partition) (a : Account) (c : Commodity) (D : Int) :
    qtyAt (daysOf f ds part) a c D = qtyAt (Builder.ofList ds).build a c D := by
  unfold qtyAt; rw [userPostings_daysOf]

theorem commoditiesOf_daysOf (f : BalanceFlags) (ds : List Directive) (part : Partition) (a : Account) :
    commoditiesOf (daysOf f ds part) a = commoditiesOf (Builder.ofList ds).build a := by
  unfold commoditiesOf; rw [userPostings_daysOf]

theorem mtm_daysOf (f : BalanceFlags) (ds : List Directive) (part : Partition) (v : Commodity) (a : Account) (D : Int) :
    mtm v (daysOf f ds part) a D = mtm v (Builder.ofList ds).build a D := by
  unfold mtm; simp only [commoditiesOf_daysOf, qtyAt_daysOf, pricesAt_daysOf]

theorem stepBound_daysOf (f : BalanceFlags) (ds : List Directive) (part : Partition) (v : Commodity) (a : Account)
    (F D : Int) : stepBound v (daysOf f ds part) a F D = stepBound v (Builder.ofList ds).build a F D := by
  unfold stepBound; rw [commoditiesOf_daysOf]
  exact congrArg List.sum (List.map_congr_left (fun c _ => stepCount_daysOf f ds part v a F D c))

theorem sourceAccounts_daysOf (f : BalanceFlags) (ds : List Directive) (part : Partition) (sel : Account → Bool) :
    Spec.sourceAccounts sel (daysOf f ds part) = Spec.sourceAccounts sel (Builder.ofList ds).build := by
  unfold Spec.sourceAccounts
  rw [userPostings_daysOf]

theorem mtmOver_daysOf (f : BalanceFlags) (ds : List Directive) (part : Partition) (v : Commodity) (S : List Account) (D : Int) :
    Spec.mtmOver v (daysOf f ds part) S D = Spec.mtmOver v (Builder.ofList ds).build S D := by
  unfold Spec.mtmOver
  simp only [mtm_daysOf]

theorem stepBoundOver_daysOf (f : BalanceFlags) (ds : List Directive) (part : Partition) (v : Commodity) (S : List Account)
    (F D : Int) : Spec.stepBoundOver v (daysOf f ds part) S F D = Spec.stepBoundOver v (Builder.ofList ds).build S F D := by
  unfold Spec.stepBoundOver
  simp only [stepBound_daysOf]

theorem mtmPosOver_daysOf (f : BalanceFlags) (ds : List Directive) (part : Partition) (v : Commodity) (S : List Account)
    (c : Commodity) (D : Int) :
    Spec.mtmPosOver v (daysOf f ds part) S c D = Spec.mtmPosOver v (Builder.ofList ds).build S c D := by
  unfold Spec.mtmPosOver Spec.mtmPos
  simp only [qtyAt_daysOf, pricesAt_daysOf]

theorem stepCountOver_daysOf (f : BalanceFlags) (ds : List Directive) (part : Partition) (v : Commodity) (S : List Account)
    (F D : Int) (c : Commodity) :
    Spec.stepCountOver v (daysOf f ds part) S F D c = Spec.stepCountOver v (Builder.ofList ds).build S F D c := by
  unfold Spec.stepCountOver
  simp only [stepCount_daysOf]

theorem flowAt_daysOf (f : BalanceFlags) (ds : List Directive) (part : Partition) (v : Commodity) (b : Account)
    (F D : Int) : Spec.flowAt v (LedgerCommand.daysOf f ds part) b F D = Spec.flowAt v (Builder.ofList ds).build b F D := by
  unfold Spec.flowAt Spec.bookingValue; simp only [userPostings_daysOf, pricesAt_daysOf]

theorem mirrored_daysOf (f : BalanceFlags) (ds : List Directive) (part : Partition) (b : Account) :
    Spec.mirrored (LedgerCommand.daysOf f ds part) b = Spec.mirrored (Builder.ofList ds).build b := by
  unfold Spec.mirrored Spec.alAccounts
  rw [userPostings_daysOf]

theorem flowOver_daysOf (f : BalanceFlags) (ds : List Directive) (part : Partition) (v : Commodity) (S : List Account)
    (F D : Int) : Spec.flowOver v (LedgerCommand.daysOf f ds part) S F D = Spec.flowOver v (Builder.ofList ds).build S F D := by
  unfold Spec.flowOver
  simp only [flowAt_daysOf]

end Knut.MTM
