import Knut.Proofs.Partition
/-! For a partition `NewPartition` returns: period `k` ends at `endDates[k]`; for `k ≥ 1` it starts the day after
`endDates[k−1]` (C11: consecutive); no other period starts inside it (`Chained.mem_cases`); without `--last` the first
period starts at the window start.  Used by the closing case of `C03_command_flow_cell`. -/
namespace Knut.MTM
open Knut

theorem consecutive_getElem : ∀ (L : List Period), Consecutive L → ∀ (k : Nat) (h : k + 1 < L.length),
    (L[k]'(by omega)).stop + 1 = (L[k + 1]'h).start
  | [], _, k, h => by simp at h
  | [_], _, k, h => by simp at h
  | p :: q :: rest, hc, 0, _ => hc.1
  | p :: q :: rest, hc, k + 1, h => by
    have := consecutive_getElem (q :: rest) hc.2 k (by simpa using h)
    simpa using this

/-- the start of period `k` of the partition (0 if there is no such period) -/
def periodStart (part : Partition) (k : Nat) : Int := (part.periods.map (·.start)).getD k 0

theorem period_facts {span : Period} {iv : Interval} {last : Int} {part : Partition}
    (hpart : newPartition span iv last = .ok part) (k : Nat) (hk : k < part.endDates.length) :
    (part.periods.map (·.start)).contains (periodStart part k) = true ∧
    (∀ x ∈ part.periods.map (·.start), x ≤ periodStart part k ∨ part.endDates[k] < x) ∧
    (∀ j, k = j + 1 → periodStart part k = part.endDates.getD j 0 + 1) := by
  have hk' : k < part.periods.length := by rw [Partition.endDates, List.length_map] at hk; exact hk
  have hks : k < (part.periods.map (·.start)).length := by rw [List.length_map]; exact hk'
  have hps : periodStart part k = (part.periods[k]'hk').start := by
    unfold periodStart
    rw [List.getD_eq_getElem?_getD, List.getElem?_eq_getElem hks, Option.getD_some, List.getElem_map]
  have hpe : part.endDates[k] = (part.periods[k]'hk').stop := by
    simp only [Partition.endDates, List.getElem_map]
  have hmem : part.periods[k]'hk' ∈ part.periods := List.getElem_mem hk'
  rw [hps, hpe]
  generalize hpk : part.periods[k]'hk' = p at hmem ⊢
  refine ⟨by simpa using ⟨_, hmem, rfl⟩, fun x hx => ?_, fun j hkj => ?_⟩
  · -- every other period of the chain lies wholly before or wholly after `p`
    obtain ⟨q, hq, rfl⟩ := List.mem_map.mp hx
    rcases periods_chained hpart with ⟨hone, _⟩ | ⟨s, _, hch, _⟩
    · rw [hone, List.mem_singleton] at hq hmem
      rw [hq, hmem]; exact Or.inl (Int.le_refl _)
    · have hb := hch.bounds q hq
      rcases (hch.mem_cases p hmem).1 q hq with e | e | e
      · left; omega
      · left; rw [e]; exact Int.le_refl _
      · right; exact e
  · subst hkj
    have hc := consecutive_getElem part.periods (C11.consecutive_of_ok hpart) j hk'
    rw [hpk] at hc
    have hje : j < (part.periods.map (·.stop)).length := by rw [List.length_map]; omega
    rw [Partition.endDates, List.getD_eq_getElem?_getD, List.getElem?_eq_getElem hje, Option.getD_some, List.getElem_map]
    omega

theorem first_start {span : Period} {iv : Interval} {last : Int} {part : Partition}
    (hpart : newPartition span iv last = .ok part) (hl : last ≤ 0) (h0 : 0 < part.endDates.length) :
    periodStart part 0 = part.span.start := by
  have hlen : part.endDates.length = part.periods.length := by unfold Partition.endDates; rw [List.length_map]
  have hspan : part.span = span := by obtain ⟨_, rfl⟩ := newPartition_eq_ok.mp hpart; rfl
  unfold periodStart
  cases hp : part.periods with
  | nil => rw [hp] at hlen; simp only [List.length_nil] at hlen; omega
  | cons p rest =>
    simp only [List.map_cons, List.getD_cons_zero]
    by_cases hiv : iv = .once
    · subst hiv
      have ⟨_, hpp⟩ := C11.periods_eq hpart
      rw [hp] at hpp
      simp only [periodsOf, if_true] at hpp
      injection hpp with h1 _
      rw [h1, hspan]
    · have := (C11.tiles_of_ok hpart hiv hl).getLast_start p (by rw [hp]; simp)
      rw [this, hspan]

end Knut.MTM
