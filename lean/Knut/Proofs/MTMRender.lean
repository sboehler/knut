import Knut.Proofs.MTMColumn
import Knut.Proofs.ReportPerm
import Knut.Proofs.ReportRender
/-! In a valued report a row without `-s` breakdown has ONE value line (`valsCommodities_valued`; the row itself is
`nodeRows_valued_dc` below); its numeric cells are the running totals of the per-column sums (cumulative
report), and the running total up to the column of the period end `D` is `MTM.accCum a es D` — the sum of the inserts on
the account aligned to a column date `≤ D` (`cum_eq_accCum`).  If every per-column sum is zero the row shows empty cells
instead of zeros (`SumBy` removes zero sums); `cellVal` reads an empty cell as 0.  `table_has_row`: where the row stands.  The columns of a `--diff` report and the
lines of a `-s` row follow. -/
namespace Knut.MTM
open Knut Knut.Dec
open Knut.Table (Cell)
open Knut.BalanceReport

theorem all_none_nodup : ∀ (L : List (Option Commodity)), (∀ x ∈ L, x = none) → L.Nodup → L = [] ∨ L = [none]
  | [], _, _ => Or.inl rfl
  | [x], h, _ => by right; rw [h x List.mem_cons_self]
  | x :: y :: rest, h, hn => by
    have hx := h x List.mem_cons_self
    have hy := h y (List.mem_cons_of_mem _ List.mem_cons_self)
    rw [List.nodup_cons] at hn
    exact absurd (by rw [hx, hy]; exact List.mem_cons_self) hn.1

theorem valsCommodities_valued (es : List Entry) :
    (valsCommodities es false = [] ∧ ∀ d, cellAt es false none d = 0) ∨ valsCommodities es false = [none] := by
  have hnone : ∀ x ∈ valsCommodities es false, x = none := by
    intro x hx
    unfold valsCommodities at hx
    rw [(List.mergeSort_perm _ _).mem_iff, List.mem_eraseDups] at hx
    obtain ⟨k, hk, rfl⟩ := List.mem_map.mp hx
    have hk' := (List.mem_filter.mp hk).1
    rw [List.mem_eraseDups] at hk'
    obtain ⟨e, _, rfl⟩ := List.mem_map.mp hk'
    rfl
  have hnd : (valsCommodities es false).Nodup := by
    unfold valsCommodities
    exact (List.mergeSort_perm _ _).nodup_iff.mpr (MapSum.nodup_eraseDups _ _ (Nat.le_refl _))
  rcases all_none_nodup _ hnone hnd with h0 | h1
  · exact Or.inl ⟨h0, valsCommodities_zero es false none (by rw [h0]; exact List.not_mem_nil)⟩
  · exact Or.inr h1

theorem cellAt_valued (es : List Entry) (d : Int) :
    cellAt es false none d = sumAmounts (es.filter (fun e => decide (e.date = some d))) :=
  sumAmounts_filter_congr (fun e _ => Bool.and_true _)

theorem cells_sum_dates (es : List Entry) (L : List Int) (hn : L.Nodup) :
    (L.map (cellAt es false none)).sum =
      sumAmounts (es.filter (fun e => match e.date with | some D' => decide (D' ∈ L) | none => false)) := by
  rw [sumAmounts_filter_by_key (·.date) (L.map some) (hn.map some fun _ _ h e => h (Option.some.inj e)), List.map_map]
  · refine congrArg List.sum (List.map_congr_left fun d hd => ?_)
    rw [Function.comp_apply, cellAt_valued]
    exact sumAmounts_filter_congr fun e _ => by cases he : e.date <;> simp_all
  · intro e _ he
    cases hd : e.date with
    | none => rw [hd] at he; cases he
    | some D' => rw [hd] at he; exact List.mem_map_of_mem (of_decide_eq_true he)

theorem mem_take_increasing (l : List Int) (hinc : List.Pairwise (· < ·) l) (k : Nat) (hk : k < l.length) (x : Int)
    (hx : x ∈ l) : x ∈ l.take (k + 1) ↔ x ≤ l[k] := by
  rw [List.pairwise_iff_getElem] at hinc
  constructor
  · intro h
    obtain ⟨j, hj, rfl⟩ := List.mem_take_iff_getElem.mp h
    have hjk : j ≤ k := by omega
    by_cases e : j = k
    · subst e; exact Int.le_refl _
    · have := hinc j k (by omega) hk (by omega)
      omega
  · intro h
    obtain ⟨i, hi, rfl⟩ := List.mem_iff_getElem.mp hx
    by_cases hik : i ≤ k
    · exact List.mem_take_iff_getElem.mpr ⟨i, by omega, rfl⟩
    · have := hinc k i hk hi (by omega)
      omega

theorem increasing_nodup (l : List Int) (hinc : List.Pairwise (· < ·) l) : l.Nodup :=
  List.Pairwise.imp (fun h => by omega) hinc

/-- **the running total shown in column `k` is `accCum` at that column's period end**, when the column dates increase
and every insert on the account is aligned to one of them -/
theorem cum_eq_accCum (a : Account) (es : List Entry) (ends : List Int) (hinc : List.Pairwise (· < ·) ends)
    (hdates : ∀ e ∈ es, e.account = a → ∀ D', e.date = some D' → D' ∈ ends) (k : Nat) (hk : k < ends.length) :
    ((ends.take (k + 1)).map (cellAt (own es a.segments) false none)).sum = accCum a es ends[k] := by
  rw [cells_sum_dates _ _ (List.Pairwise.sublist (List.take_sublist _ _) (increasing_nodup ends hinc))]
  unfold own accCum
  rw [List.filter_filter]
  congr 1
  apply List.filter_congr
  intro e he
  by_cases hacc : e.account = a
  · have hseg : e.account.segments = a.segments := by rw [hacc]
    cases hd : e.date with
    | none => simp [hacc]
    | some D' =>
      have hm := hdates e he hacc D' hd
      have := mem_take_increasing ends hinc k hk D' hm
      simp only [hacc, decide_true, Bool.and_true, Bool.true_and]
      by_cases h1 : D' ≤ ends[k]
      · simp [h1, this.mpr h1]
      · have h2 : ¬ D' ∈ ends.take (k + 1) := fun h => h1 (this.mp h)
        simp [h1, h2]
  · have hseg : ¬ e.account.segments = a.segments := by
      intro h
      apply hacc
      cases hx : e.account; cases hy : a
      rw [hx, hy] at h
      simp only at h
      rw [h]
    simp [hseg, hacc]

theorem flatMap_mem_split {α β : Type} (f : α → List β) : ∀ (l : List α) (x : α), x ∈ l →
    ∃ pre post, l.flatMap f = pre ++ f x ++ post
  | [], _, hx => by cases hx
  | y :: l, x, hx => by
    rcases List.mem_cons.mp hx with rfl | hx
    · exact ⟨[], l.flatMap f, by rw [List.flatMap_cons, List.nil_append]⟩
    · obtain ⟨pre, post, h⟩ := flatMap_mem_split f l x hx
      exact ⟨f y ++ pre, post, by rw [List.flatMap_cons, h, List.append_assoc, List.append_assoc, List.append_assoc]⟩

theorem le_maxDepth (es : List Entry) (e : Entry) (he : e ∈ es) : e.account.segments.length ≤ maxDepth es := by
  unfold maxDepth
  suffices h : ∀ (es : List Entry) (m : Nat), (m ≤ es.foldl (fun m e => max m e.account.segments.length) m) ∧
      (e ∈ es → e.account.segments.length ≤ es.foldl (fun m e => max m e.account.segments.length) m) from (h es 0).2 he
  intro es
  induction es with
  | nil => intro m; exact ⟨Nat.le_refl _, fun h => by cases h⟩
  | cons x rest ih =>
    intro m
    simp only [List.foldl_cons]
    obtain ⟨i1, i2⟩ := ih (max m x.account.segments.length)
    refine ⟨by omega, ?_⟩
    intro hm
    rcases List.mem_cons.mp hm with rfl | hm
    · omega
    · exact i2 hm

theorem mem_childSegs (es : List Entry) (e : Entry) (he : e ∈ es) (path rest : List String) (s : String)
    (hseg : e.account.segments = path ++ s :: rest) : s ∈ childSegs es path := by
  unfold childSegs
  rw [List.mem_eraseDups, List.mem_filterMap]
  refine ⟨e, he, ?_⟩
  rw [hseg]
  have h1 : path.isPrefixOf (path ++ s :: rest) = true := by
    rw [List.isPrefixOf_iff_prefix]
    exact List.prefix_append _ _
  simp only [h1, if_true, List.drop_left, List.head?_cons]

theorem mem_sortedChildren (rc : RenderCfg) (es : List Entry) (fuel : Nat) (path : List String) (s : String) :
    s ∈ sortedChildren rc es fuel path ↔ s ∈ childSegs es path := by
  unfold sortedChildren
  exact (List.mergeSort_perm _ _).mem_iff

theorem mem_walk (rc : RenderCfg) (es : List Entry) (e : Entry) (he : e ∈ es) :
    ∀ (rest path : List String) (fuel indent : Nat), rest ≠ [] → e.account.segments = path ++ rest → rest.length ≤ fuel →
      (e.account.segments, indent + 2 * (rest.length - 1)) ∈ walk rc es fuel path indent
  | [], _, _, _, h, _, _ => absurd rfl h
  | s :: rest, path, 0, _, _, _, hf => by simp at hf
  | s :: rest, path, fuel + 1, indent, _, hseg, hf => by
    unfold walk
    rw [List.mem_flatMap]
    refine ⟨s, (mem_sortedChildren rc es fuel path s).mpr (mem_childSegs es e he path rest s hseg), ?_⟩
    cases rest with
    | nil =>
      rw [hseg]
      exact List.mem_cons_self
    | cons s2 rest2 =>
      apply List.mem_cons_of_mem
      have := mem_walk rc es e he (s2 :: rest2) (path ++ [s]) fuel (indent + 2) (by simp)
        (by rw [hseg, List.append_assoc]; rfl) (by simpa using hf)
      simp only [List.length_cons] at this ⊢
      have e1 : indent + 2 * (rest2.length + 1 + 1 - 1) = indent + 2 + 2 * (rest2.length + 1 - 1) := by omega
      rw [e1]
      exact this

theorem sect_has_row (rc : RenderCfg) (dc : Bool) (empty : List Cell) (es : List Entry) (neg : Bool)
    (e : Entry) (he : e ∈ es) (hne : e.account.segments ≠ []) :
    ∃ pre post, ReportPerm.sect rc dc empty es neg =
      pre ++ nodeRows rc dc es neg (e.account.segments, 2 * (e.account.segments.length - 1)) ++ post := by
  unfold ReportPerm.sect
  cases hseg : e.account.segments with
  | nil => exact absurd hseg hne
  | cons top rest =>
    have htop : top ∈ sortedChildren rc es (maxDepth es) [] :=
      (mem_sortedChildren rc es _ [] top).mpr (mem_childSegs es e he [] rest top (by rw [hseg]; rfl))
    obtain ⟨pre1, post1, h1⟩ := flatMap_mem_split (fun top =>
      ((([top], 0) :: walk rc es (maxDepth es) [top] 2).flatMap (nodeRows rc dc es neg)) ++ [empty]) _ top htop
    have hnode : (top :: rest, 2 * ((top :: rest).length - 1)) ∈ ([top], 0) :: walk rc es (maxDepth es) [top] 2 := by
      cases rest with
      | nil => exact List.mem_cons_self
      | cons s2 rest2 =>
        apply List.mem_cons_of_mem
        have hd := le_maxDepth es e he
        rw [hseg] at hd
        have := mem_walk rc es e he (s2 :: rest2) [top] (maxDepth es) 2 (by simp) (by rw [hseg]; rfl)
          (by simp only [List.length_cons] at hd ⊢; omega)
        rw [hseg] at this
        simp only [List.length_cons] at this ⊢
        have e1 : 2 * (rest2.length + 1 + 1 - 1) = 2 + 2 * (rest2.length + 1 - 1) := by omega
        rw [e1]
        exact this
    obtain ⟨pre2, post2, h2⟩ := flatMap_mem_split (nodeRows rc dc es neg) _ _ hnode
    rw [h1, h2]
    refine ⟨pre1 ++ pre2, post2 ++ [empty] ++ post1, ?_⟩
    simp only [List.append_assoc]

theorem split_R {α : Type} {l x : List α} (b : List α) (h : ∃ pre post, l = pre ++ x ++ post) :
    ∃ pre post, l ++ b = pre ++ x ++ post := by
  obtain ⟨pre, post, rfl⟩ := h
  exact ⟨pre, post ++ b, by simp only [List.append_assoc]⟩

theorem split_L {α : Type} {l x : List α} (a : List α) (h : ∃ pre post, l = pre ++ x ++ post) :
    ∃ pre post, a ++ l = pre ++ x ++ post := by
  obtain ⟨pre, post, rfl⟩ := h
  exact ⟨a ++ pre, post, by simp only [List.append_assoc]⟩

/-- **the row of an account stands in the rendered table**, in the section of its kind — assets and liabilities as they
are, equity, income and expenses with the sign flipped — among the inserts of that section -/
theorem table_has_row (rc : RenderCfg) (es : List Entry) (e : Entry) (he : e ∈ es) (hne : e.account.segments ≠ []) :
    ∃ pre post, (table rc es).rows =
      pre ++ nodeRows rc (rc.valuation.isNone || rc.hasShowCommodities)
        (es.filter (fun x => x.account.isAL == e.account.isAL)) (!e.account.isAL)
        (e.account.segments, 2 * (e.account.segments.length - 1)) ++ post := by
  rw [ReportPerm.table_eq]
  simp only
  have hsect := fun (sec : List Entry) (neg : Bool) (hm : e ∈ sec) =>
    sect_has_row rc (rc.valuation.isNone || rc.hasShowCommodities)
      (List.replicate (1 + (if (rc.valuation.isNone || rc.hasShowCommodities) = true then 1 else 0) + rc.endDates.length) Cell.empty)
      sec neg e hm hne
  cases hal : e.account.isAL with
  | true =>
    rw [show (fun x : Entry => x.account.isAL == true) = (fun x => x.account.isAL) from funext fun x => beq_true _]
    obtain ⟨pre, post, h⟩ := hsect (es.filter (fun e => e.account.isAL)) false (List.mem_filter.mpr ⟨he, hal⟩)
    -- `ReportPerm.table_eq`: seven blocks follow the asset/liability section, the header block precedes it
    iterate 7 apply split_R
    apply split_L
    exact ⟨pre, post, h⟩
  | false =>
    rw [show (fun x : Entry => x.account.isAL == false) = (fun x => !x.account.isAL) from funext fun x => beq_false _]
    obtain ⟨pre, post, h⟩ := hsect (es.filter (fun e => !e.account.isAL)) true
      (List.mem_filter.mpr ⟨he, by rw [hal]; rfl⟩)
    -- four blocks follow the income/expense/equity section
    iterate 4 apply split_R
    apply split_L
    exact ⟨pre, post, h⟩

open Knut.Spec

/-! A `--diff` report shows for account `a` in the column of the period end `D` the sum of the inserts on `a` aligned to
exactly `D` (`numCells_getElem`: every column shows its own sum).  That sum is `accCum a es D − accCum a es D'` for the previous
period end `D'` (`diff_eq_accCum_sub`, stated on the rendered `cellAt (own …)`), a difference `MTM.run_account_delta` bounds
with the valuation steps INSIDE `(D', D]` only. -/

/-- the inserts on account `a` aligned to the column date `D`, summed -/
def accAt (a : Account) (es : List Entry) (D : Int) : Rat :=
  sumAmounts (es.filter (fun e => decide (e.account = a) && decide (e.date = some D)))

theorem diff_eq_accCum_sub (a : Account) (es : List Entry) (ends : List Int) (hinc : List.Pairwise (· < ·) ends)
    (hdates : ∀ e ∈ es, e.account = a → ∀ D', e.date = some D' → D' ∈ ends) (k : Nat) (hk : k + 1 < ends.length) :
    cellAt (own es a.segments) false none ends[k + 1] = accCum a es ends[k + 1] - accCum a es ends[k] := by
  rw [← cum_eq_accCum a es ends hinc hdates (k + 1) hk, ← cum_eq_accCum a es ends hinc hdates k (by omega)]
  rw [List.take_succ_eq_append_getElem hk, List.map_append, List.sum_append]
  rw [List.map_cons, List.map_nil, List.sum_cons, List.sum_nil, Rat.add_zero, add_sub_cancel_left_rat]

theorem diff_eq_accCum_zero (a : Account) (es : List Entry) (ends : List Int) (hinc : List.Pairwise (· < ·) ends)
    (hdates : ∀ e ∈ es, e.account = a → ∀ D', e.date = some D' → D' ∈ ends) (hk : 0 < ends.length) :
    cellAt (own es a.segments) false none ends[0] = accCum a es ends[0] := by
  rw [← cum_eq_accCum a es ends hinc hdates 0 hk]
  rw [List.take_succ_eq_append_getElem hk]
  simp only [List.take_zero, List.nil_append, List.map_cons, List.map_nil, List.sum_cons, List.sum_nil, Rat.add_zero]

/-! With `-s regex` the table has a commodity column.  A row whose account name does not match keeps one value line
(`nodeRows_valued_dc`); a row whose account name matches shows one line per commodity with a non-zero sum in some
column (`nodeRows_show`): the line of commodity `c` shows the per-column sums of the inserts in `c` (running totals in a
cumulative report), and a commodity without a line has all per-column sums zero. -/

/-- **the row of an account whose name `-s` does not match, in a valued report**: one row: name cell, the commodity
cell if the table has the column, then one cell per column showing `shownAt` (per-column sums in a `--diff` report,
running totals otherwise; sign flipped in the income/expense/equity section) -/
theorem nodeRows_valued_dc (rc : RenderCfg) (dc : Bool) (hv : rc.valuation.isSome = true) (es : List Entry) (neg : Bool)
    (path : List String) (indent : Nat) (hshow : rc.showCommodities (⟨path⟩ : Account).name = false) :
    ∃ (cc cells : List Cell),
      nodeRows rc dc es neg (path, indent) = [Cell.text (path.getLast?.getD "").toList .left indent :: (cc ++ cells)] ∧
      cc.length = (if dc then 1 else 0) ∧
      cells.length = rc.endDates.length ∧
      ∀ (k : Nat) (hk : k < rc.endDates.length) (hk' : k < cells.length),
        cellVal cells[k] =
          (if neg then -(shownAt rc.diff rc.endDates (cellAt (own es path) false none) k)
           else shownAt rc.diff rc.endDates (cellAt (own es path) false none) k) := by
  unfold nodeRows
  have hby : (rc.valuation.isNone || rc.showCommodities (⟨path⟩ : Account).name) = false := by
    rw [hshow]
    cases hval : rc.valuation with
    | none => rw [hval] at hv; cases hv
    | some x => rfl
  simp only [hby]
  generalize own es path = mine
  rw [renderVals_eq]
  rcases valsCommodities_valued mine with ⟨h0, hz⟩ | h1
  · rw [h0]
    simp only [List.isEmpty_nil, if_true]
    refine ⟨List.replicate (if dc then 1 else 0) .empty, List.replicate rc.endDates.length .empty, ?_,
      List.length_replicate, List.length_replicate, ?_⟩
    · rw [List.replicate_append_replicate]
    · intro k hk hk'
      rw [List.getElem_replicate]
      rw [shownAt_zero _ _ _ hz]
      split
      · exact Rat.neg_zero.symm
      · rfl
  · rw [h1]
    simp only [List.isEmpty_cons, Bool.false_eq_true, if_false, List.zipIdx_cons, List.zipIdx_nil, List.map_cons,
      List.map_nil, if_true]
    obtain ⟨n1, n2⟩ := numCells_spec rc.diff neg rc.endDates (cellAt mine false none)
    refine ⟨if dc then [commCellOf rc none] else [], FactsAgree.TransRender.numCells rc.diff neg (cellAt mine false none) rc.endDates 0, rfl, ?_, n1, ?_⟩
    · cases dc <;> rfl
    · intro k hk hk'
      exact n2 k hk hk'

theorem valsCommodities_some (es : List Entry) : ∀ x ∈ valsCommodities es true, ∃ c, x = some c := by
  intro x hx
  unfold valsCommodities at hx
  simp only [if_true] at hx
  rw [(List.mergeSort_perm _ _).mem_iff, List.mem_eraseDups] at hx
  obtain ⟨k, hk, rfl⟩ := List.mem_map.mp hx
  have hk' := (List.mem_filter.mp hk).1
  rw [List.mem_eraseDups] at hk'
  obtain ⟨e, _, rfl⟩ := List.mem_map.mp hk'
  exact ⟨e.commodity, rfl⟩

theorem cell_text_inj {x c : Commodity} (h : Cell.text x.toList .left 0 = Cell.text c.toList .left 0) : x = c := by
  injection h with h1 _ _
  exact String.toList_inj.mp h1

/-- **the lines of an account whose name `-s` matches, in a valued report**: the block of rows starts with the name cell;
every line of commodity `c` in it shows `shownAt` of the per-column sums of the inserts in `c`; a commodity without a
line has all per-column sums zero -/
theorem nodeRows_show (rc : RenderCfg) (es : List Entry) (neg : Bool)
    (path : List String) (indent : Nat) (hshow : rc.showCommodities (⟨path⟩ : Account).name = true) :
    (∃ rest tail, nodeRows rc true es neg (path, indent) =
      (Cell.text (path.getLast?.getD "").toList .left indent :: rest) :: tail) ∧
    (∀ (c : Commodity) (first : Cell) (cells : List Cell),
      (first :: Cell.text c.toList .left 0 :: cells) ∈ nodeRows rc true es neg (path, indent) →
      cells.length = rc.endDates.length ∧
      ∀ (k : Nat) (hk : k < rc.endDates.length) (hk' : k < cells.length),
        cellVal cells[k] =
          (if neg then -(shownAt rc.diff rc.endDates (cellAt (own es path) true (some c)) k)
           else shownAt rc.diff rc.endDates (cellAt (own es path) true (some c)) k)) ∧
    (∀ (c : Commodity), (∀ (first : Cell) (cells : List Cell),
        (first :: Cell.text c.toList .left 0 :: cells) ∉ nodeRows rc true es neg (path, indent)) →
      ∀ d, cellAt (own es path) true (some c) d = 0) := by
  unfold nodeRows
  have hby : (rc.valuation.isNone || rc.showCommodities (⟨path⟩ : Account).name) = true := by rw [hshow]; simp
  simp only [hby]
  generalize own es path = mine
  rw [renderVals_eq]
  generalize hcoms : valsCommodities mine true = coms
  have hsome : ∀ x ∈ coms, ∃ c, x = some c := by rw [← hcoms]; exact valsCommodities_some mine
  cases coms with
  | nil =>
    simp only [List.isEmpty_nil, if_true]
    refine ⟨⟨_, [], rfl⟩, ?_, ?_⟩
    · intro c first cells hm
      rw [List.mem_singleton] at hm
      injection hm with _ h2
      rw [← List.replicate_append_replicate] at h2
      simp only [List.replicate_one, List.singleton_append] at h2
      injection h2 with h3 _
      cases h3
    · intro c _ d
      exact valsCommodities_zero mine true (some c) (by rw [hcoms]; exact List.not_mem_nil) d
  | cons c0 crest =>
    simp only [List.isEmpty_cons, Bool.false_eq_true, if_false, if_true]
    refine ⟨⟨_, _, by rw [List.zipIdx_cons, List.map_cons]; rfl⟩, ?_, ?_⟩
    · intro c first cells hm
      obtain ⟨⟨x, i⟩, hxi, hrow⟩ := List.mem_map.mp hm
      simp only at hrow
      injection hrow with _ h2
      injection h2 with h3 h4
      have hx : x ∈ c0 :: crest := by
        have := List.mem_zipIdx hxi
        rw [this.2.2]
        exact List.getElem_mem _
      obtain ⟨x', rfl⟩ := hsome x hx
      have hxc : x' = c := cell_text_inj h3
      subst hxc
      obtain ⟨n1, n2⟩ := numCells_spec rc.diff neg rc.endDates (cellAt mine true (some x'))
      rw [← h4]
      exact ⟨n1, n2⟩
    · intro c hno d
      apply valsCommodities_zero mine true (some c) _ d
      rw [hcoms]
      intro hmem
      obtain ⟨i, hi, hget⟩ := List.mem_iff_getElem.mp hmem
      have hz : (some c, i) ∈ (c0 :: crest).zipIdx := by
        rw [List.mem_zipIdx_iff_getElem?]
        rw [List.getElem?_eq_getElem hi, hget]
      exact hno _ _ (List.mem_map.mpr ⟨(some c, i), hz, rfl⟩)

theorem cellAt_com (es : List Entry) (c : Commodity) (d : Int) :
    cellAt es true (some c) d = cellAt (es.filter (fun e => decide (e.commodity = c))) false none d := by
  rw [cellAt_eq, cellAt_eq, List.filter_filter]
  refine sumAmounts_filter_congr (fun e _ => ?_)
  unfold cellSel
  by_cases h1 : e.date = some d <;> by_cases h2 : e.commodity = c <;> simp [h1, h2]

theorem own_filter (es : List Entry) (p : Entry → Bool) (path : List String) :
    own (es.filter p) path = (own es path).filter p := by
  unfold own
  rw [List.filter_filter, List.filter_filter]
  apply List.filter_congr
  intro e _
  exact Bool.and_comm _ _

theorem accCum_filter_com (a : Account) (c : Commodity) (es : List Entry) (D : Int) :
    accCum a (es.filter (fun e => decide (e.commodity = c))) D = posCum a c es D := by
  unfold accCum posCum selCum posQ dateLe
  rw [List.filter_filter]
  congr 1
  apply List.filter_congr
  intro e _
  by_cases h1 : e.account = a <;> by_cases h2 : e.commodity = c <;> simp [h1, h2] <;> rfl

/-- the eve of column `k`: in a `--diff` report the previous period end (the day before the window start for the first
column), in a cumulative report the day before the window start -/
def eveOf (diff : Bool) (start : Int) (ends : List Int) (k : Nat) : Int :=
  if diff then (match k with | 0 => start - 1 | j + 1 => ends.getD j 0) else start - 1

theorem shownAt_prev (a : Account) (es : List Entry) (ends : List Int) (hinc : List.Pairwise (· < ·) ends)
    (hdates : ∀ e ∈ es, e.account = a → ∀ D', e.date = some D' → D' ∈ ends) (diff : Bool) (k : Nat) (hk : k < ends.length) :
    shownAt diff ends (cellAt (own es a.segments) false none) k =
      accCum a es ends[k] -
        (if diff then (match (generalizing := false) k with | 0 => 0 | j + 1 => accCum a es (ends.getD j 0)) else 0) := by
  unfold shownAt
  cases diff with
  | false =>
    simp only [Bool.false_eq_true, if_false]
    rw [cum_eq_accCum a es ends hinc hdates k hk, sub_zero_rat]
  | true =>
    simp only [if_true, List.getD_eq_getElem?_getD, List.getElem?_eq_getElem hk, Option.getD_some]
    cases k with
    | zero =>
      simp only
      rw [diff_eq_accCum_zero a es ends hinc hdates hk, sub_zero_rat]
    | succ j =>
      have hj : j < ends.length := by omega
      simp only [List.getElem?_eq_getElem hj, Option.getD_some]
      exact diff_eq_accCum_sub a es ends hinc hdates j hk

/-- **a column of an account row shows the running total at its period end minus the running total at its eve** -/
theorem shownAt_delta (a : Account) (es : List Entry) (ends : List Int) (hinc : List.Pairwise (· < ·) ends)
    (hdates : ∀ e ∈ es, e.account = a → ∀ D', e.date = some D' → D' ∈ ends) (diff : Bool) (start : Int)
    (hz : accCum a es (start - 1) = 0) (k : Nat) (hk : k < ends.length) :
    shownAt diff ends (cellAt (own es a.segments) false none) k =
      accCum a es ends[k] - accCum a es (eveOf diff start ends k) := by
  rw [shownAt_prev a es ends hinc hdates diff k hk]
  unfold eveOf
  cases diff with
  | false => simp only [Bool.false_eq_true, if_false, hz]
  | true => cases k <;> simp only [if_true, hz]

theorem eveOf_isEve (cfg : BalCfg) (ends : List Int) (he : cfg.periods.map (·.stop) = ends)
    (hinc : List.Pairwise (· < ·) ends) (hin : ∀ D ∈ ends, cfg.span.contains D = true) (diff : Bool)
    (k : Nat) (hk : k < ends.length) : IsEve cfg (eveOf diff cfg.span.start ends k) ends[k] := by
  unfold eveOf IsEve
  cases diff with
  | false => left; rfl
  | true =>
    cases k with
    | zero => left; rfl
    | succ j =>
      right
      have hj : j < ends.length := by omega
      simp only [if_true, List.getD_eq_getElem?_getD, List.getElem?_eq_getElem hj, Option.getD_some]
      refine ⟨by rw [he]; exact List.getElem_mem hj, ?_, hin _ (List.getElem_mem hj)⟩
      exact List.pairwise_iff_getElem.mp hinc j (j + 1) hj hk (by omega)

theorem posCum_al (a : Account) (hal : a.isAL = true) (c : Commodity) (es : List Entry) (D : Int) :
    posCum a c (es.filter (fun e => e.account.isAL)) D = posCum a c es D := by
  rw [posCum_eq_cumSel, posCum_eq_cumSel]
  refine cumSel_filter _ _ es D (fun e he => ?_)
  rw [Bool.and_eq_true, decide_eq_true_eq] at he
  rw [he.1]; exact hal

/-- **a column of a commodity line shows the running total of the position at the period end minus that at the eve** -/
theorem shownAt_delta_pos (a : Account) (c : Commodity) (es : List Entry) (ends : List Int)
    (hinc : List.Pairwise (· < ·) ends)
    (hdates : ∀ e ∈ es, e.account = a → ∀ D', e.date = some D' → D' ∈ ends) (diff : Bool) (start : Int)
    (hz : posCum a c es (start - 1) = 0) (k : Nat) (hk : k < ends.length) :
    shownAt diff ends (cellAt (own es a.segments) true (some c)) k =
      posCum a c es ends[k] - posCum a c es (eveOf diff start ends k) := by
  have hfun : cellAt (own es a.segments) true (some c) =
      cellAt (own (es.filter (fun e => decide (e.commodity = c))) a.segments) false none := by
    funext d
    rw [cellAt_com, own_filter]
  rw [hfun, shownAt_delta a (es.filter (fun e => decide (e.commodity = c))) ends hinc
    (fun e he => hdates e (List.mem_filter.mp he).1) diff start (by rw [accCum_filter_com]; exact hz) k hk,
    accCum_filter_com, accCum_filter_com]

end Knut.MTM
