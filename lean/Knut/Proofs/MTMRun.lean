import Knut.Proofs.MTMDay
import Knut.Proofs.Partition
import Knut.Proofs.Builder
import Knut.Proofs.DatedPostings
/-! A LIST of days of the valued pipeline.  The fold of the valuation stage (`valuationRun`, `traceOf`) and of all stages
(`pipelineRun`, `traceOfRun`) over the days, projected on one position, is `MTM.run` on the extracted trace (`pipelineRun_trace`,
`pipelineRun_bound`, from any state); a successful `pipelineRun` is `Balance.Steps`.  A date-sorted day list is cut at the window
(`sorted_window_split`), and from the empty state NOTHING reaches the Query stage on days outside it, whatever the flags
(`pipelineRun_outside`).  `Reached v L st` is the ONE invariant of a run: `st` is the state after the days `L`. -/
namespace Knut.MTM
open Knut Knut.Dec

/-- the whole pipeline folded over the days, collecting the transactions handed to the Query stage -/
def pipelineRun (cfg : BalCfg) : BalState → List Day → Except BalErr (BalState × List Transaction)
  | st, [] => .ok (st, [])
  | st, d :: ds =>
    match dayQ cfg st d with
    | .error e => .error e
    | .ok (st1, txs) =>
      match pipelineRun cfg st1 ds with
      | .error e => .error e
      | .ok (st2, rest) => .ok (st2, txs ++ rest)

theorem pipelineRun_cons {cfg : BalCfg} {st st' : BalState} {d : Day} {ds : List Day} {txs : List Transaction} :
    pipelineRun cfg st (d :: ds) = .ok (st', txs) ↔
      ∃ st1 t1 t2, dayQ cfg st d = .ok (st1, t1) ∧ pipelineRun cfg st1 ds = .ok (st', t2) ∧ txs = t1 ++ t2 := by
  constructor
  · intro h
    unfold pipelineRun at h
    split at h
    · cases h
    · rename_i st1 t1 h1
      split at h
      · cases h
      · rename_i st2 t2 h2
        cases h
        exact ⟨st1, t1, t2, h1, h2, rfl⟩
  · rintro ⟨st1, t1, t2, h1, h2, rfl⟩
    rw [pipelineRun, h1]
    simp only [h2]

theorem pipelineRun_nil_ok {cfg : BalCfg} {st st' : BalState} {txs : List Transaction}
    (h : pipelineRun cfg st [] = .ok (st', txs)) : st' = st ∧ txs = [] := by
  unfold pipelineRun at h
  injection h with h; injection h with h1 h2
  exact ⟨h1.symm, h2.symm⟩

theorem pipelineRun_ind {cfg : BalCfg} {R : BalState → List Day → BalState → List Transaction → Prop}
    (nil : ∀ st, R st [] st [])
    (cons : ∀ st d ds st1 t1 st' t2, dayQ cfg st d = .ok (st1, t1) →
      pipelineRun cfg st1 ds = .ok (st', t2) → R st1 ds st' t2 → R st (d :: ds) st' (t1 ++ t2)) :
    ∀ (ds : List Day) (st st' : BalState) (txs : List Transaction), pipelineRun cfg st ds = .ok (st', txs) → R st ds st' txs
  | [], st, st', txs, h => by
    unfold pipelineRun at h
    cases h
    exact nil st
  | d :: ds, st, st', txs, h => by
    obtain ⟨st1, t1, t2, h1, h2, rfl⟩ := pipelineRun_cons.mp h
    exact cons st d ds st1 t1 st' t2 h1 h2 (pipelineRun_ind nil cons ds st1 st' t2 h2)

theorem pipelineRun_ok_iff {cfg : BalCfg} : ∀ {ds : List Day} {st st' : BalState} {q : List Transaction},
    pipelineRun cfg st ds = .ok (st', q) ↔ Balance.Steps cfg st ds st' q
  | [], st, st', q => ⟨fun h => by cases h; exact .nil _, fun h => by cases h; rfl⟩
  | d :: ds, st, st', q => by
    rw [pipelineRun_cons]
    constructor
    · rintro ⟨st1, t1, t2, h1, h2, rfl⟩
      obtain ⟨raw, hs⟩ := dayQ_ok_iff.mp h1
      exact .cons hs (pipelineRun_ok_iff.mp h2)
    · intro h
      cases h with
      | cons hs hr => exact ⟨_, _, _, dayQ_ok_iff.mpr ⟨_, hs⟩, pipelineRun_ok_iff.mpr hr, rfl⟩

theorem pipelineRun_entries (cfg : BalCfg) (ds : List Day) (st st' : BalState) (txs : List Transaction)
    (h : pipelineRun cfg st ds = .ok (st', txs)) : st'.entries = st.entries ++ txs.flatMap (Balance.queryTx cfg) :=
  (pipelineRun_ok_iff.mp h).entries

theorem run_pipelineRun (cfg : BalCfg) (days : List Day) (stF : BalState) (h : Balance.run cfg days = .ok stF) :
    ∃ txs, pipelineRun cfg {} days = .ok (stF, txs) ∧ stF.entries = txs.flatMap (Balance.queryTx cfg) :=
  have ⟨q, hq⟩ := Balance.foldlM_day_ok_iff.mp h
  ⟨q, pipelineRun_ok_iff.mpr hq, hq.entries⟩

theorem run_of_pipelineRun (cfg : BalCfg) (days : List Day) (st : BalState) (txs : List Transaction)
    (h : pipelineRun cfg {} days = .ok (st, txs)) : Balance.run cfg days = .ok st :=
  Balance.foldlM_day_ok_iff.mpr ⟨txs, pipelineRun_ok_iff.mp h⟩

theorem pipelineRun_append {cfg : BalCfg} : ∀ {xs ys : List Day} {st st' : BalState} {txs : List Transaction},
    pipelineRun cfg st (xs ++ ys) = .ok (st', txs) ↔
      ∃ st1 t1 t2, pipelineRun cfg st xs = .ok (st1, t1) ∧ pipelineRun cfg st1 ys = .ok (st', t2) ∧ txs = t1 ++ t2
  | [], ys, st, st', txs =>
    ⟨fun h => ⟨st, [], txs, rfl, h, rfl⟩, fun ⟨_, _, _, h1, h2, e⟩ => by cases h1; rw [e]; exact h2⟩
  | d :: xs, ys, st, st', txs => by
    rw [List.cons_append, pipelineRun_cons]
    constructor
    · rintro ⟨sd, td, rest, hq, hr, rfl⟩
      obtain ⟨st1, t1, t2, a1, a2, rfl⟩ := pipelineRun_append.mp hr
      exact ⟨st1, td ++ t1, t2, pipelineRun_cons.mpr ⟨sd, td, t1, hq, a1, rfl⟩, a2, (List.append_assoc _ _ _).symm⟩
    · rintro ⟨st1, t1, t2, h1, h2, rfl⟩
      obtain ⟨sd, td, rest, hq, hr, rfl⟩ := pipelineRun_cons.mp h1
      exact ⟨sd, td, rest ++ t2, hq, pipelineRun_append.mpr ⟨st1, rest, t2, hr, h2, rfl⟩, List.append_assoc _ _ _⟩

/-- `traceOf` along `dayQ` instead of `Balance.valuationStage`: the trace of `(a, c)` extracted from the run through ALL stages -/
def traceOfRun (cfg : BalCfg) (a : Account) (c : Commodity) : Rat → BalState → List Day → List DayStep
  | _, _, [] => []
  | p, st, d :: ds =>
    match dayQ cfg st d with
    | .error _ => []
    | .ok (st1, _) =>
      ⟨p, priceOr st1.vPrev c p, qtysOn a c d.transactions⟩ :: traceOfRun cfg a c (priceOr st1.vPrev c p) st1 ds

theorem consistent_traceOfRun (cfg : BalCfg) (a : Account) (c : Commodity) :
    ∀ (ds : List Day) (p : Rat) (st : BalState), Consistent p (traceOfRun cfg a c p st ds)
  | [], _, _ => trivial
  | d :: ds, p, st => by
    unfold traceOfRun
    split
    · trivial
    · exact ⟨rfl, consistent_traceOfRun cfg a c ds _ _⟩

theorem traceOfRun_cons {cfg : BalCfg} {st st1 : BalState} {d : Day} {t1 : List Transaction} (a : Account) (c : Commodity)
    (p : Rat) (ds : List Day) (h : dayQ cfg st d = .ok (st1, t1)) :
    traceOfRun cfg a c p st (d :: ds) =
      ⟨p, priceOr st1.vPrev c p, qtysOn a c d.transactions⟩ :: traceOfRun cfg a c (priceOr st1.vPrev c p) st1 ds := by
  rw [traceOfRun, h]

/-- **the lift over the whole pipeline**: `Balance.dayTxs` folded over days that lie inside the window, projected on
`(a, c)`, is `MTM.run` on the extracted trace -/
theorem pipelineRun_trace (cfg : BalCfg) (v : Commodity) (a : Account) (c : Commodity)
    (hv : cfg.valuation = some v) (hc : c ≠ v) (hal : a.isAL = true) :
    ∀ (ds : List Day) (st st' : BalState) (txs : List Transaction), pipelineRun cfg st ds = .ok (st', txs) →
    ∀ (p : Rat) (s : St), AMap.NodupKeys st.vQty → CloseInv st → (∀ d ∈ ds, cfg.span.contains d.date = true) →
      (∀ d ∈ ds, Unvalued a c d.transactions) → PriceIs st.vPrev c p → s.Q = st.vQty.get (a, c) 0 →
      (run s (traceOfRun cfg a c p st ds)).W = s.W + valOn a c txs ∧
      (run s (traceOfRun cfg a c p st ds)).Q = st'.vQty.get (a, c) 0 ∧
      PriceIs st'.vPrev c (lastPrice p (traceOfRun cfg a c p st ds)) ∧
      AMap.NodupKeys st'.vQty ∧ CloseInv st' := by
  refine pipelineRun_ind ?_ ?_
  · intro st p s hn hinv _ _ hpp hQ
    exact ⟨(Rat.add_zero _).symm, hQ, hpp, hn, hinv⟩
  · intro st d ds st1 t1 st' t2 hs _ ih p s hn hinv hsp hu hpp hQ
    obtain ⟨w1, w2, w3, w4⟩ := dayQ_step cfg v st st1 d t1 a c p s hv hc hal hn hinv
      (hsp d List.mem_cons_self) (hu d List.mem_cons_self) hpp hQ hs
    obtain ⟨i1, i2, i3, i4⟩ := ih (priceOr st1.vPrev c p) _ w3 w4 (fun d' hd' => hsp d' (List.mem_cons_of_mem _ hd'))
      (fun d' hd' => hu d' (List.mem_cons_of_mem _ hd')) (priceIs_priceOr _ _ _) w2
    rw [traceOfRun_cons a c p ds hs]
    refine ⟨?_, i2, i3, i4⟩
    show (run (stepDay s _) _).W = _
    rw [i1, w1, valOn_append, Rat.add_assoc]

/-- **the windowed bound on the pipeline**: from any state, over days inside the window, the values put on `(a, c)`
differ from the change of `quantity × price` by at most one unit of the 8th decimal per truncation of the extracted
trace (started with the position's quantity and no value); the trace's last price is the price in the end state -/
theorem pipelineRun_bound (cfg : BalCfg) (v : Commodity) (a : Account) (c : Commodity)
    (hv : cfg.valuation = some v) (hc : c ≠ v) (hal : a.isAL = true)
    (ds : List Day) (st st' : BalState) (txs : List Transaction) (h : pipelineRun cfg st ds = .ok (st', txs)) (p : Rat)
    (hn : AMap.NodupKeys st.vQty) (hinv : CloseInv st) (hsp : ∀ d ∈ ds, cfg.span.contains d.date = true)
    (hu : ∀ d ∈ ds, Unvalued a c d.transactions) (hpp : PriceIs st.vPrev c p) :
    Within (valOn a c txs -
        (st'.vQty.get (a, c) 0 * lastPrice p (traceOfRun cfg a c p st ds) - st.vQty.get (a, c) 0 * p))
      (((run ⟨0, st.vQty.get (a, c) 0, 0⟩ (traceOfRun cfg a c p st ds)).steps : Rat) * ulp 8) ∧
    PriceIs st'.vPrev c (lastPrice p (traceOfRun cfg a c p st ds)) := by
  obtain ⟨w1, w2, w3, _⟩ := pipelineRun_trace cfg v a c hv hc hal ds st st' txs h p ⟨0, st.vQty.get (a, c) 0, 0⟩ hn hinv hsp hu
    hpp rfl
  have hb := run_bound p (traceOfRun cfg a c p st ds) ⟨0, st.vQty.get (a, c) 0, 0⟩ (consistent_traceOfRun cfg a c ds p st)
  unfold dev at hb
  rw [w1, w2] at hb
  rw [zero_add_sub_sub, show ((0 : Nat) : Rat) = 0 from rfl, sub_zero_rat] at hb
  exact ⟨hb, w3⟩

/-! The same for the valuation stage ALONE (no check, Filter or CloseAccounts in the way): the fold, the extracted trace and the
lift, which `Properties/C03Bridge.lean` states first and whose vocabulary (`valuationRun`, `traceOf`) its end results use. -/

/-- the stages `ComputePrices → Valuate` folded over a list of days, collecting the valued transactions
(`Balance.valuationStage` is what `Balance.dayTxs` runs between the check and the filter) -/
def valuationRun (cfg : BalCfg) : BalState → List Day → Except BalErr (BalState × List Transaction)
  | st, [] => .ok (st, [])
  | st, d :: ds =>
    match Balance.valuationStage cfg st d with
    | .error e => .error e
    | .ok (st1, txs) =>
      match valuationRun cfg st1 ds with
      | .error e => .error e
      | .ok (st2, rest) => .ok (st2, txs ++ rest)

/-- the single-position trace of `(a, c)` extracted from the pipeline: yesterday's price is the price carried from the
day before (`p` before the first day), today's price is the price of `c` in the day's normalised prices (which
`Valuate` keeps as `vPrev` for the next day) or, while `c` has no price yet, the carried one; the quantities are those
of the day's postings on `(a, c)` -/
def traceOf (cfg : BalCfg) (a : Account) (c : Commodity) : Rat → BalState → List Day → List DayStep
  | _, _, [] => []
  | p, st, d :: ds =>
    match Balance.valuationStage cfg st d with
    | .error _ => []
    | .ok (st1, _) =>
      ⟨p, priceOr st1.vPrev c p, qtysOn a c d.transactions⟩ :: traceOf cfg a c (priceOr st1.vPrev c p) st1 ds

theorem consistent_traceOf (cfg : BalCfg) (a : Account) (c : Commodity) :
    ∀ (ds : List Day) (p : Rat) (st : BalState), Consistent p (traceOf cfg a c p st ds)
  | [], _, _ => trivial
  | d :: ds, p, st => by
    unfold traceOf
    split
    · trivial
    · exact ⟨rfl, consistent_traceOf cfg a c ds _ _⟩

theorem valuationRun_ind {cfg : BalCfg} {R : BalState → List Day → BalState → List Transaction → Prop}
    (nil : ∀ st, R st [] st [])
    (cons : ∀ st d ds st1 t1 st' t2, Balance.valuationStage cfg st d = .ok (st1, t1) →
      valuationRun cfg st1 ds = .ok (st', t2) → R st1 ds st' t2 → R st (d :: ds) st' (t1 ++ t2)) :
    ∀ (ds : List Day) (st st' : BalState) (txs : List Transaction), valuationRun cfg st ds = .ok (st', txs) → R st ds st' txs
  | [], st, st', txs, h => by
    unfold valuationRun at h
    cases h
    exact nil st
  | d :: ds, st, st', txs, h => by
    unfold valuationRun at h
    split at h
    · cases h
    · rename_i st1 t1 h1
      split at h
      · cases h
      · rename_i st2 t2 h2
        cases h
        exact cons st d ds st1 t1 st' t2 h1 h2 (valuationRun_ind nil cons ds st1 st' t2 h2)

theorem traceOf_cons {cfg : BalCfg} {st st1 : BalState} {d : Day} {t1 : List Transaction} (a : Account) (c : Commodity)
    (p : Rat) (ds : List Day) (h : Balance.valuationStage cfg st d = .ok (st1, t1)) :
    traceOf cfg a c p st (d :: ds) =
      ⟨p, priceOr st1.vPrev c p, qtysOn a c d.transactions⟩ :: traceOf cfg a c (priceOr st1.vPrev c p) st1 ds := by
  rw [traceOf, h]

/-- **the lift**: folding the pipeline's valuation stage over the days and projecting on `(a, c)` is `MTM.run` on
the extracted trace -/
theorem valuationRun_trace (cfg : BalCfg) (v : Commodity) (a : Account) (c : Commodity)
    (hv : cfg.valuation = some v) (hc : c ≠ v) (hal : a.isAL = true)
    (ds : List Day) (st st' : BalState) (txs : List Transaction) (h : valuationRun cfg st ds = .ok (st', txs)) :
    ∀ (p : Rat) (s : St), AMap.NodupKeys st.vQty → (∀ d ∈ ds, Unvalued a c d.transactions) → PriceIs st.vPrev c p →
      s.Q = st.vQty.get (a, c) 0 →
      (run s (traceOf cfg a c p st ds)).W = s.W + valOn a c txs ∧
      (run s (traceOf cfg a c p st ds)).Q = st'.vQty.get (a, c) 0 ∧
      PriceIs st'.vPrev c (lastPrice p (traceOf cfg a c p st ds)) ∧
      AMap.NodupKeys st'.vQty := by
  revert ds st st' txs
  refine valuationRun_ind ?_ ?_
  · intro st p s hn _ hpp hQ
    exact ⟨(Rat.add_zero _).symm, hQ, hpp, hn⟩
  · intro st d ds st1 t1 st' t2 hs _ ih p s hn hu hpp hQ
    obtain ⟨w1, w2, w3⟩ := valuationStage_step cfg v st st1 d t1 a c p s hv hc hal hn (hu d List.mem_cons_self) hpp hQ hs
    obtain ⟨i1, i2, i3, i4⟩ := ih (priceOr st1.vPrev c p) _ w3 (fun d' hd' => hu d' (List.mem_cons_of_mem _ hd'))
      (priceIs_priceOr _ _ _) w2
    rw [traceOf_cons a c p ds hs]
    refine ⟨?_, i2, i3, i4⟩
    show (run (stepDay s _) _).W = _
    rw [i1, w1, valOn_append, Rat.add_assoc]

theorem pipelineRun_dates (cfg : BalCfg) (ds : List Day) (st st' : BalState) (txs : List Transaction)
    (h : pipelineRun cfg st ds = .ok (st', txs)) :
    (∀ d ∈ ds, ∀ t ∈ d.transactions, t.date = d.date) → ∀ t ∈ txs, ∃ d ∈ ds, t.date = d.date := by
  revert ds st st' txs
  refine pipelineRun_ind (fun _ _ t ht => by cases ht) ?_
  intro st d ds st1 t1 st' t2 hq _ ih hd t ht
  rcases List.mem_append.mp ht with ht | ht
  · exact ⟨d, List.mem_cons_self, dayQ_dates cfg st st1 d t1 (hd d List.mem_cons_self) hq t ht⟩
  · obtain ⟨d', hd', e⟩ := ih (fun x hx => hd x (List.mem_cons_of_mem _ hx)) t ht
    exact ⟨d', List.mem_cons_of_mem _ hd', e⟩

/-- **days outside the window hand nothing to the Query stage** while the closing accumulators are empty — in particular
from the empty state: whatever the valuation, the mapping, the filters, closing on or off -/
theorem pipelineRun_outside {cfg : BalCfg} : ∀ {ds : List Day} {st st' : BalState} {txs : List Transaction},
    (∀ d ∈ ds, cfg.span.contains d.date = false) → st.cQty = [] → pipelineRun cfg st ds = .ok (st', txs) →
    txs = [] ∧ st'.cQty = []
  | [], _, _, _, _, hq0, h => by
    unfold pipelineRun at h
    cases h
    exact ⟨rfl, hq0⟩
  | d :: ds, st, st', _, hout, hq0, h => by
    obtain ⟨sd, td, rest, hq, hr, rfl⟩ := pipelineRun_cons.mp h
    obtain ⟨rfl, hsd⟩ := dayQ_outside (hout d List.mem_cons_self) hq0 hq
    exact pipelineRun_outside (fun x hx => hout x (List.mem_cons_of_mem _ hx)) hsd hr

theorem window_nonempty_any (cfg : BalCfg) (days : List Day) (st : BalState)
    (h : Balance.run cfg days = .ok st) (hne : st.entries ≠ []) : cfg.span.start ≤ cfg.span.stop := by
  apply Classical.byContradiction
  intro hlt
  obtain ⟨txs, hp, hes⟩ := run_pipelineRun cfg days st h
  rw [(pipelineRun_outside (fun d _ => (Period.contains_eq_false_iff _ _).mpr (by omega)) rfl hp).1] at hes
  exact hne hes

theorem decide_lt_succ (x y : Int) : decide (x < y + 1) = decide (x ≤ y) := decide_eq_decide.mpr Int.lt_add_one_iff

theorem not_decide_lt (x y : Int) : (!decide (x < y)) = decide (y ≤ x) := by
  rw [← decide_not]
  exact decide_eq_decide.mpr Int.not_lt

theorem not_decide_le (x y : Int) : (!decide (x ≤ y)) = decide (y < x) := by
  rw [← decide_not]
  exact decide_eq_decide.mpr Int.not_le

theorem sorted_split (x : Int) : ∀ (days : List Day), Sorted days →
    days = days.filter (fun d => decide (d.date < x)) ++ days.filter (fun d => !decide (d.date < x))
  | [], _ => rfl
  | d :: ds, h => by
    unfold Sorted at h
    rw [List.pairwise_cons] at h
    have ih := sorted_split x ds h.2
    by_cases hd : d.date < x
    · simp only [List.filter_cons, hd, decide_true, if_true, Bool.not_true, Bool.false_eq_true, if_false, List.cons_append]
      exact congrArg _ ih
    · have hall : ds.filter (fun d => decide (d.date < x)) = [] := by
        rw [List.filter_eq_nil_iff]
        intro b hb
        have := h.1 b hb
        simp only [decide_eq_true_eq]; omega
      have hall2 : ds.filter (fun d => !decide (d.date < x)) = ds := by
        rw [List.filter_eq_self]
        intro b hb
        have := h.1 b hb
        simp only [Bool.not_eq_true', decide_eq_false_iff_not]; omega
      simp only [List.filter_cons, hd, decide_false, Bool.false_eq_true, if_false, Bool.not_false, if_true, hall, hall2,
        List.nil_append]

theorem sorted_filter (p : Day → Bool) (days : List Day) (h : Sorted days) : Sorted (days.filter p) :=
  List.Pairwise.sublist List.filter_sublist h

theorem sorted_window_split (span : Period) (days : List Day) (hs : Sorted days) :
    days = days.filter (fun d => decide (d.date < span.start)) ++ days.filter (fun d => span.contains d.date) ++
      days.filter (fun d => !decide (d.date < span.start) && decide (d.date > span.stop)) := by
  have h1 := sorted_split span.start days hs
  have hs2 : Sorted (days.filter (fun d => !decide (d.date < span.start))) := sorted_filter _ _ hs
  have h2 := sorted_split (span.stop + 1) _ hs2
  rw [List.filter_filter, List.filter_filter] at h2
  have e1 : (fun d : Day => decide (d.date < span.stop + 1) && !decide (d.date < span.start)) =
      (fun d => span.contains d.date) := by
    funext d
    unfold Period.contains
    rw [decide_lt_succ, Bool.and_comm, ← not_decide_lt span.stop d.date]
  have e2 : (fun d : Day => !decide (d.date < span.stop + 1) && !decide (d.date < span.start)) =
      (fun d => !decide (d.date < span.start) && decide (d.date > span.stop)) := by
    funext d
    rw [decide_lt_succ, Bool.and_comm, not_decide_le]
  rw [e1, e2] at h2
  rw [List.append_assoc, ← h2]
  exact h1

theorem window_pre_out (span : Period) (days : List Day) :
    ∀ d ∈ days.filter (fun d => decide (d.date < span.start)), span.contains d.date = false := by
  intro d hd
  have := (List.mem_filter.mp hd).2
  simp only [decide_eq_true_eq] at this
  unfold Period.contains
  simp [this]

theorem window_mid_in (span : Period) (days : List Day) :
    ∀ d ∈ days.filter (fun d => span.contains d.date), span.contains d.date = true :=
  fun _ hd => (List.mem_filter.mp hd).2

theorem window_post_out (span : Period) (days : List Day) :
    ∀ d ∈ days.filter (fun d => !decide (d.date < span.start) && decide (d.date > span.stop)),
      span.contains d.date = false := by
  intro d hd
  have := (List.mem_filter.mp hd).2
  simp only [Bool.and_eq_true, Bool.not_eq_true', decide_eq_false_iff_not, decide_eq_true_eq] at this
  unfold Period.contains
  simp [this.2]

/-- the days before / inside / after the window of a configuration -/
def preDays (cfg : BalCfg) (days : List Day) : List Day := days.filter (fun d => decide (d.date < cfg.span.start))

def midDays (cfg : BalCfg) (days : List Day) : List Day := days.filter (fun d => cfg.span.contains d.date)

def postDays (cfg : BalCfg) (days : List Day) : List Day :=
  days.filter (fun d => !decide (d.date < cfg.span.start) && decide (d.date > cfg.span.stop))

/-- the price of `c` carried into the window: its price in the normalised prices of the last day before the window
(0 if it has none yet) -/
def startPrice (stP : BalState) (c : Commodity) : Rat := priceOr stP.vPrev c 0

/-- the single-position trace of `(a, c)` over the days inside the window, starting from the state `stP` reached on the
days before it -/
def windowTrace (cfg : BalCfg) (a : Account) (c : Commodity) (stP : BalState) (days : List Day) : List DayStep :=
  traceOfRun cfg a c (startPrice stP c) stP (midDays cfg days)

open Knut.Spec
/-! The pipeline's Valuate/ComputePrices state IS the specification's quantity and price (`Spec/MTM.lean`): `Spec.qtyAt`
sums the bookings dated `≤ D`, `Spec.pricesAt` normalises the declarations dated `≤ D`, and after the days dated `≤ D` (a
prefix of a date-sorted day list) the quantity map of `Valuate` holds `Spec.qtyAt` at every asset/liability position and
the normalised prices of `ComputePrices` (and `Valuate`'s previous prices) are `Spec.pricesAt` (`Reached.spec`,
`Reached.mtmPos`). -/

def graphOf (L : List Day) : Option Prices.Prices := L.foldlM (fun g d => d.prices.foldlM insDecl g) []

/-- `Day.Normalized` after a list of days: nil before the first declaration -/
def normOf (v : Commodity) (L : List Day) : Option Prices.NPrices :=
  if L.all (fun d => d.prices.isEmpty) then none else (graphOf L).map (fun g => Prices.normalize g v)

theorem pricesAt_eq (v : Commodity) (days : List Day) (D : Int) :
    Spec.pricesAt v days D = normOf v (days.filter (fun d => d.date ≤ D)) := rfl

theorem graphOf_snoc (L : List Day) (d : Day) :
    graphOf (L ++ [d]) = (graphOf L).bind (fun g => d.prices.foldlM insDecl g) := by
  unfold graphOf
  rw [List.foldlM_append]
  cases L.foldlM (fun g d => d.prices.foldlM insDecl g) ([] : Prices.Prices) with
  | none => rfl
  | some g => simp [List.foldlM_cons, List.foldlM_nil]

/-- the price invariant of the run: after the days `L` the graph holds their declarations, the normalised prices are
`normOf v L`, and `Valuate`'s previous prices are the same -/
def PriceInv (v : Commodity) (L : List Day) (st : BalState) : Prop :=
  graphOf L = some st.graph ∧ st.norm = normOf v L ∧ st.vPrev = st.norm

theorem priceInv_init (v : Commodity) : PriceInv v [] {} := ⟨rfl, rfl, rfl⟩

theorem priceInv_day (cfg : BalCfg) (v : Commodity) (L : List Day) (st st' : BalState) (d : Day) (txs : List Transaction)
    (hv : cfg.valuation = some v) (hi : PriceInv v L st) (h : dayQ cfg st d = .ok (st', txs)) :
    PriceInv v (L ++ [d]) st' := by
  obtain ⟨i1, i2, _⟩ := hi
  obtain ⟨p1, p2, p3⟩ := dayQ_prices cfg v st st' d txs hv h
  have hg : graphOf (L ++ [d]) = some st'.graph := by rw [graphOf_snoc, i1]; exact p1
  refine ⟨hg, ?_, p3⟩
  rw [p2]
  unfold normOf
  rw [hg, List.all_append]
  simp only [List.all_cons, List.all_nil, Bool.and_true, Option.map_some]
  by_cases he : d.prices.isEmpty = true
  · simp only [he, if_true, Bool.and_true]
    rw [i2]
    unfold normOf
    have hgs : st'.graph = st.graph := by
      have : d.prices = [] := List.isEmpty_iff.mp he
      rw [this] at p1
      simp only [List.foldlM_nil, pure] at p1
      injection p1 with p1; exact p1.symm
    rw [i1, hgs]
    rfl
  · simp only [he, Bool.and_false, Bool.false_eq_true, if_false]

def qtySum (a : Account) (c : Commodity) (L : List Day) : Rat := (L.map (fun d => (qtysOn a c d.transactions).sum)).sum

theorem qtySum_append (a : Account) (c : Commodity) (xs ys : List Day) :
    qtySum a c (xs ++ ys) = qtySum a c xs + qtySum a c ys := by
  unfold qtySum
  rw [List.map_append, List.sum_append]

/-- **`Spec.qtyAt` by days**: with every transaction filed under its date, the specification's running quantity is the
sum over the days dated `≤ D` -/
theorem qtyAt_eq (a : Account) (c : Commodity) (D : Int) (days : List Day)
    (hcons : ∀ d ∈ days, ∀ t ∈ d.transactions, t.date = d.date) :
    Spec.qtyAt days a c D = qtySum a c (days.filter (fun d => d.date ≤ D)) := by
  have e : Spec.qtyAt days a c D = ((((userPostings days).filter
      (fun x => decide (x.1 ≤ D) && onPos a c x.2)).map (·.2)).map (·.quantity)).sum := by
    unfold Spec.qtyAt
    rw [List.map_map]
    congr 3
    funext ⟨d, p⟩
    exact Bool.and_assoc _ _ _
  rw [e, userPostings_filter (fun d => decide (d ≤ D)) (onPos a c) days hcons, MapSum.sum_flatMap]
  rfl

/-- **`st` is the state of the valued pipeline after the days `L`**: the price graph holds their
declarations and the normalised prices are theirs; `Valuate` holds, at every asset/liability position, the quantities they
booked on it, under distinct keys; `CloseAccounts` accumulates no asset/liability position; an open position has a price -/
structure Reached (v : Commodity) (L : List Day) (st : BalState) : Prop where
  price : PriceInv v L st
  qty : ∀ (a : Account) (c : Commodity), a.isAL = true → st.vQty.get (a, c) 0 = qtySum a c L
  nodup : AMap.NodupKeys st.vQty
  close : CloseInv st
  priced : ∀ (a : Account) (c : Commodity), a.isAL = true → c ≠ v → st.vQty.get (a, c) 0 ≠ 0 →
    ∃ p, Balance.lookupPrice st.vPrev c = .ok p

theorem Reached.init (v : Commodity) : Reached v [] {} :=
  ⟨priceInv_init v, fun _ _ _ => rfl, List.nodup_nil, (fun _ hk => nomatch hk), fun _ _ _ _ h => absurd rfl h⟩

theorem Reached.day {cfg : BalCfg} {v : Commodity} {L : List Day} {st st' : BalState} {d : Day} {txs : List Transaction}
    (R : Reached v L st) (hv : cfg.valuation = some v) (h : dayQ cfg st d = .ok (st', txs)) :
    Reached v (L ++ [d]) st' := by
  obtain ⟨hn, hcl, hq⟩ := dayQ_any cfg v st st' d txs hv R.close h
  refine ⟨priceInv_day cfg v L st st' d txs hv R.price h, fun a c hal => ?_, hn R.nodup, hcl,
    fun a c hal hc hne => dayQ_open_price cfg v st st' d txs a c hv hc hal h hne⟩
  rw [(hq a c hal).1, R.qty a c hal, qtySum_append]
  exact congrArg _ (Rat.add_zero _).symm

theorem Reached.run {cfg : BalCfg} {v : Commodity} (hv : cfg.valuation = some v) :
    ∀ {ds L : List Day} {st st' : BalState} {txs : List Transaction}, Reached v L st →
      pipelineRun cfg st ds = .ok (st', txs) → Reached v (L ++ ds) st'
  | [], L, _, _, _, R, h => by
    unfold pipelineRun at h
    cases h
    rw [List.append_nil]; exact R
  | d :: ds, L, _, _, _, R, h => by
    obtain ⟨sd, td, rest, hq, hr, rfl⟩ := pipelineRun_cons.mp h
    have := Reached.run hv (R.day hv hq) hr
    rwa [List.append_assoc] at this

theorem Reached.of_run {cfg : BalCfg} {v : Commodity} (hv : cfg.valuation = some v) {ds : List Day} {st : BalState}
    {txs : List Transaction} (h : pipelineRun cfg {} ds = .ok (st, txs)) : Reached v ds st :=
  (Reached.init v).run hv h

theorem Reached.outside {cfg : BalCfg} {v : Commodity} (hv : cfg.valuation = some v) (a : Account) (c : Commodity)
    (hal : a.isAL = true) : ∀ {ds L : List Day} {st st' : BalState} {txs : List Transaction}, Reached v L st →
      pipelineRun cfg st ds = .ok (st', txs) → (∀ d ∈ ds, cfg.span.contains d.date = false) → posOn a c txs = []
  | [], _, _, _, _, _, h, _ => by
    unfold pipelineRun at h
    cases h
    rfl
  | d :: ds, L, st, _, _, R, h, hout => by
    obtain ⟨sd, td, rest, hq, hr, rfl⟩ := pipelineRun_cons.mp h
    rw [posOn_append, ((dayQ_any cfg v st sd d td hv R.close hq).2.2 a c hal).2 (hout d List.mem_cons_self),
      Reached.outside hv a c hal (R.day hv hq) hr (fun x hx => hout x (List.mem_cons_of_mem _ hx))]
    rfl

/-- **the state after the days dated `≤ D` holds the specification's quantities and prices** -/
theorem Reached.spec {v : Commodity} {days : List Day} {D : Int} {st : BalState}
    (R : Reached v (days.filter (fun d => d.date ≤ D)) st)
    (hcons : ∀ d ∈ days, ∀ t ∈ d.transactions, t.date = d.date) :
    (∀ a c, a.isAL = true → st.vQty.get (a, c) 0 = Spec.qtyAt days a c D) ∧ st.norm = Spec.pricesAt v days D ∧
      st.vPrev = Spec.pricesAt v days D :=
  ⟨fun a c hal => by rw [R.qty a c hal, qtyAt_eq a c D days hcons], R.price.2.1, R.price.2.2.trans R.price.2.1⟩

/-- one step of the fold in `Spec.mtm` -/
def mtmStep (v : Commodity) (days : List Day) (a : Account) (D : Int) (acc : Rat) (c : Commodity) : Option Rat :=
  let q := Spec.qtyAt days a c D
  if q = 0 then some acc
  else if c = v then some (acc + q)
  else match Spec.pricesAt v days D with
    | none => none
    | some np => (Prices.find c np).map (fun p => acc + q * p)

theorem mtm_unfold (v : Commodity) (days : List Day) (a : Account) (D : Int) :
    Spec.mtm v days a D = (Spec.commoditiesOf days a).foldlM (mtmStep v days a D) 0 := rfl

theorem mtmStep_eq (v : Commodity) (days : List Day) (a : Account) (D : Int) (acc : Rat) (c : Commodity) :
    mtmStep v days a D acc c = (Spec.mtmPos v days a c D).map (fun x => acc + x) := by
  unfold mtmStep Spec.mtmPos
  simp only
  split
  · simp only [Option.map_some, Rat.add_zero]
  · split
    · rfl
    · cases Spec.pricesAt v days D with
      | none => rfl
      | some np =>
        simp only
        cases Prices.find c np <;> rfl

theorem foldlM_map_add (g : Commodity → Option Rat) : ∀ (cs : List Commodity) (acc : Rat),
    cs.foldlM (fun acc c => (g c).map (fun x => acc + x)) acc = (cs.mapM g).map (fun l => acc + l.sum)
  | [], acc => by simp [Rat.add_zero]
  | c :: cs, acc => by
    rw [List.foldlM_cons, List.mapM_cons]
    cases g c with
    | none => rfl
    | some x =>
      simp only [Option.map_some, Option.bind_eq_bind, Option.bind_some]
      rw [foldlM_map_add g cs (acc + x)]
      cases cs.mapM g with
      | none => rfl
      | some l => simp [List.sum_cons, Rat.add_assoc]

theorem mtm_eq_mtmPos (v : Commodity) (days : List Day) (a : Account) (D : Int) :
    Spec.mtm v days a D = ((Spec.commoditiesOf days a).mapM (fun c => Spec.mtmPos v days a c D)).map List.sum := by
  have hstep : (fun acc c => mtmStep v days a D acc c) = (fun acc c => (Spec.mtmPos v days a c D).map (fun x => acc + x)) :=
    funext fun acc => funext fun c => mtmStep_eq v days a D acc c
  rw [mtm_unfold, show mtmStep v days a D = (fun acc c => mtmStep v days a D acc c) from rfl, hstep, foldlM_map_add]
  cases (Spec.commoditiesOf days a).mapM (fun c => Spec.mtmPos v days a c D) with
  | none => rfl
  | some l => simp [Rat.zero_add]

/-- the specification's price of `c` in `v` on day `D`: 1 for `v` itself, else the normalised price of the declarations
dated `≤ D` (0 if there is none — a case `Reached.mtmPos` excludes for open positions) -/
def specPrice (v : Commodity) (days : List Day) (D : Int) (c : Commodity) : Rat :=
  if c = v then 1 else priceOr (Spec.pricesAt v days D) c 0

/-- **the position term of the specification exists and is quantity × price** whenever the pipeline accepts the days up to `D` -/
theorem Reached.mtmPos {v : Commodity} {days : List Day} {D : Int} {st : BalState}
    (R : Reached v (days.filter (fun d => d.date ≤ D)) st)
    (hcons : ∀ d ∈ days, ∀ t ∈ d.transactions, t.date = d.date) (a : Account) (hal : a.isAL = true) (c : Commodity) :
    Spec.mtmPos v days a c D = some (Spec.qtyAt days a c D * specPrice v days D c) := by
  obtain ⟨hq, _, hpv⟩ := R.spec hcons
  unfold Spec.mtmPos specPrice
  simp only
  by_cases h0 : Spec.qtyAt days a c D = 0
  · simp only [h0, if_true, Rat.zero_mul]
  · simp only [h0, if_false]
    by_cases hcv : c = v
    · simp only [hcv, if_true, Rat.mul_one]
    · simp only [hcv, if_false]
      obtain ⟨p, hl⟩ := R.priced a c hal hcv (by rw [hq a c hal]; exact h0)
      rw [hpv] at hl
      rw [priceOr_of_ok 0 hl]
      obtain ⟨np, hnp, hf⟩ := lookupPrice_ok hl
      simp only [hnp, hf]
      rfl

/-! A position that is closed and never booked takes no step (`traceOfRun_idle`); the trace takes at most one step per day
with a price declaration — the only days on which a price can move — plus one per non-zero booking (`traceOfRun_steps_le`), and
these two counts are the ones `Spec.stepCount` makes over `Spec.userPostings`; in the valuation commodity itself the values are
the quantities, no truncation is involved (`pipelineRun_valOn_v`). -/

theorem stepDay_idle (s : St) (d : DayStep) (hQ : s.Q = 0) (hq : d.qs = []) : stepDay s d = s := by
  cases s with
  | mk W Q steps =>
    simp only at hQ
    subst hQ
    unfold stepDay adjustment adjSkipped booked
    simp [hq, Rat.add_zero]

theorem run_idle : ∀ (tr : List DayStep) (s : St), s.Q = 0 → (∀ d ∈ tr, d.qs = []) → run s tr = s
  | [], _, _, _ => rfl
  | d :: tr, s, hQ, h => by
    have e : run s (d :: tr) = run (stepDay s d) tr := rfl
    rw [e, stepDay_idle s d hQ (h d List.mem_cons_self)]
    exact run_idle tr s hQ (fun x hx => h x (List.mem_cons_of_mem _ hx))

theorem traceOfRun_qs (cfg : BalCfg) (a : Account) (c : Commodity) :
    ∀ (ds : List Day) (p : Rat) (st : BalState), ∀ x ∈ traceOfRun cfg a c p st ds, ∃ d ∈ ds, x.qs = qtysOn a c d.transactions
  | [], _, _, x, hx => by cases hx
  | d :: ds, p, st, x, hx => by
    unfold traceOfRun at hx
    split at hx
    · cases hx
    · rcases List.mem_cons.mp hx with rfl | hx
      · exact ⟨d, List.mem_cons_self, rfl⟩
      · obtain ⟨d', hd', e⟩ := traceOfRun_qs cfg a c ds _ _ x hx
        exact ⟨d', List.mem_cons_of_mem _ hd', e⟩

theorem traceOfRun_idle (cfg : BalCfg) (a : Account) (c : Commodity) (ds : List Day) (p : Rat) (st : BalState) (s : St)
    (hQ : s.Q = 0) (hno : ∀ d ∈ ds, posOn a c d.transactions = []) :
    run s (traceOfRun cfg a c p st ds) = s := by
  apply run_idle _ _ hQ
  intro x hx
  obtain ⟨d, hd, e⟩ := traceOfRun_qs cfg a c ds p st x hx
  rw [e]
  unfold qtysOn
  rw [hno d hd]
  rfl

theorem priceOr_of_priceIs {np : Option Prices.NPrices} {c : Commodity} {p : Rat} (h : PriceIs np c p) :
    priceOr np c p = p := by
  unfold priceOr
  cases hl : Balance.lookupPrice np c with
  | ok x => exact h x hl
  | error e => rfl

/-- non-zero bookings on `(a, c)` over a list of days -/
def nzCount (a : Account) (c : Commodity) (L : List Day) : Nat :=
  (L.map (fun d => ((qtysOn a c d.transactions).filter (fun q => q ≠ 0)).length)).sum

/-- days with a price declaration -/
def priceDays (L : List Day) : Nat := (L.filter (fun d => !d.prices.isEmpty)).length

/-- one day's step: a price can move only on a day with a price declaration -/
theorem dayQ_steps_le (cfg : BalCfg) (v : Commodity) (a : Account) (c : Commodity) (hv : cfg.valuation = some v)
    (L : List Day) (st st' : BalState) (d : Day) (txs : List Transaction) (p : Rat) (s : St)
    (hi : PriceInv v L st) (hp : PriceIs st.vPrev c p) (hq : dayQ cfg st d = .ok (st', txs)) :
    (stepDay s ⟨p, priceOr st'.vPrev c p, qtysOn a c d.transactions⟩).steps ≤
      s.steps + (if d.prices.isEmpty then 0 else 1) + ((qtysOn a c d.transactions).filter (fun q => q ≠ 0)).length := by
  unfold stepDay
  simp only
  by_cases he : d.prices.isEmpty = true
  · obtain ⟨_, p2, p3⟩ := dayQ_prices cfg v st st' d txs hv hq
    have : priceOr st'.vPrev c p = p := by
      rw [p3, p2, if_pos he, ← hi.2.2]
      exact priceOr_of_priceIs hp
    have hsk : adjSkipped s.Q p (priceOr st'.vPrev c p) := Or.inr (by rw [this]; exact Rat.sub_self)
    rw [if_pos hsk, if_pos he]
    omega
  · rw [if_neg he]
    split <;> omega

/-- **step bound**: over any list of days, the trace of `(a, c)` takes at most one step per day with a price declaration
(the only days on which a price can move) plus one per non-zero booking -/
theorem traceOfRun_steps_le (cfg : BalCfg) (v : Commodity) (a : Account) (c : Commodity) (hv : cfg.valuation = some v)
    (ds : List Day) (st st' : BalState) (txs : List Transaction) (h : pipelineRun cfg st ds = .ok (st', txs)) :
    ∀ (L : List Day) (p : Rat) (s : St), PriceInv v L st → PriceIs st.vPrev c p →
      (run s (traceOfRun cfg a c p st ds)).steps ≤ s.steps + priceDays ds + nzCount a c ds := by
  revert ds st st' txs
  refine pipelineRun_ind (fun _ _ _ _ _ _ => Nat.le_refl _) ?_
  intro st d ds st1 t1 st' t2 hq _ ih L p s hi hp
  have ih := ih (L ++ [d]) (priceOr st1.vPrev c p) (stepDay s ⟨p, priceOr st1.vPrev c p, qtysOn a c d.transactions⟩)
    (priceInv_day cfg v L st st1 d t1 hv hi hq) (priceIs_priceOr _ _ _)
  have hstep := dayQ_steps_le cfg v a c hv L st st1 d t1 p s hi hp hq
  rw [traceOfRun_cons a c p ds hq]
  show (run (stepDay s _) _).steps ≤ _
  unfold priceDays nzCount at ih ⊢
  rw [List.filter_cons, List.map_cons, List.sum_cons]
  by_cases he : d.prices.isEmpty = true
  · rw [if_pos he] at hstep
    simp only [he, Bool.not_true, Bool.false_eq_true, if_false]
    omega
  · rw [if_neg he] at hstep
    simp only [he, Bool.not_false, if_true, List.length_cons]
    omega

theorem mem_commoditiesOf {days : List Day} {a : Account} {c : Commodity} {d : Day} {t : Transaction} {p : Posting}
    (hd : d ∈ days) (ht : t ∈ d.transactions) (hp : p ∈ t.postings) (ha : p.account = a) (hc : p.commodity = c) :
    c ∈ Spec.commoditiesOf days a := by
  unfold Spec.commoditiesOf
  rw [List.mem_eraseDups]
  apply List.mem_map.mpr
  refine ⟨(t.date, p), ?_, hc⟩
  rw [List.mem_filter]
  refine ⟨?_, by simp [ha]⟩
  unfold Spec.userPostings
  rw [List.mem_flatMap]
  refine ⟨d, hd, ?_⟩
  rw [List.mem_flatMap]
  exact ⟨t, ht, List.mem_map.mpr ⟨p, hp, rfl⟩⟩

theorem nzCount_spec (a : Account) (c : Commodity) (F D : Int) (days : List Day)
    (hcons : ∀ d ∈ days, ∀ t ∈ d.transactions, t.date = d.date) :
    ((Spec.userPostings days).filter (fun (x : Int × Posting) => decide (F < x.1) && decide (x.1 ≤ D) && decide (x.2.account = a) &&
        decide (x.2.commodity = c) && decide (x.2.quantity ≠ 0))).length =
      nzCount a c (days.filter (fun d => decide (F < d.date) && decide (d.date ≤ D))) := by
  have e : (fun (x : Int × Posting) => decide (F < x.1) && decide (x.1 ≤ D) && decide (x.2.account = a) &&
        decide (x.2.commodity = c) && decide (x.2.quantity ≠ 0)) =
      (fun x => (decide (F < x.1) && decide (x.1 ≤ D)) && (onPos a c x.2 && decide (x.2.quantity ≠ 0))) := by
    funext x
    unfold onPos
    simp only [Bool.and_assoc]
  rw [e, ← List.length_map (f := (·.2)),
    userPostings_filter (fun d => decide (F < d) && decide (d ≤ D)) (fun p => onPos a c p && decide (p.quantity ≠ 0)) days hcons,
    List.length_flatMap]
  unfold nzCount
  congr 1
  apply List.map_congr_left
  intro d _
  unfold qtysOn posOn
  rw [List.filter_map, List.length_map, List.filter_filter]
  simp only [Function.comp]
  congr 1
  exact List.filter_congr (fun p _ => Bool.and_comm _ _)

theorem priceDays_spec (F D : Int) (days : List Day) :
    (days.filter (fun d => decide (F < d.date) && decide (d.date ≤ D) && !d.prices.isEmpty)).length =
      priceDays (days.filter (fun d => decide (F < d.date) && decide (d.date ≤ D))) := by
  unfold priceDays
  rw [List.filter_filter]
  congr 1
  apply List.filter_congr
  intro d _
  rw [Bool.and_comm]

/-- **the valuation commodity**: over days inside the window the report inserts on `(a, V)` total the quantities
booked — exactly, no truncation is involved -/
theorem pipelineRun_valOn_v (cfg : BalCfg) (v : Commodity) (a : Account)
    (hv : cfg.valuation = some v) (hal : a.isAL = true)
    (ds : List Day) (st st' : BalState) (txs : List Transaction) (h : pipelineRun cfg st ds = .ok (st', txs)) :
    CloseInv st → (∀ d ∈ ds, cfg.span.contains d.date = true) → (∀ d ∈ ds, Unvalued a v d.transactions) →
      valOn a v txs = qtySum a v ds := by
  revert ds st st' txs
  refine pipelineRun_ind (fun _ _ _ _ => rfl) ?_
  intro st d ds st1 t1 st' t2 hq _ ih hinv hsp hu
  have a3 := (dayQ_any cfg v st st1 d t1 hv hinv hq).2.1
  rw [valOn_append, dayQ_valOn_v cfg v st st1 d t1 a hv hal hinv (hsp d List.mem_cons_self) (hu d List.mem_cons_self) hq,
    ih a3 (fun x hx => hsp x (List.mem_cons_of_mem _ hx)) (fun x hx => hu x (List.mem_cons_of_mem _ hx))]
  unfold qtySum
  rw [List.map_cons, List.sum_cons]

end Knut.MTM