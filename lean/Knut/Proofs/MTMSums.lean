import Knut.Proofs.MTMColumn
import Knut.Model.BalanceReport
/-! The position is the atom: `run_position_delta` — over `(F, D]`, `F` an eve of the column (`IsEve`), the inserts on an
asset/liability position total `Spec.mtmPos … D − Spec.mtmPos … F`, quantity × normalised price, up to `Spec.stepCount`
units of the 8th decimal, exactly 0 for a commodity the account is never booked in.  An account is the sum of its
positions (`mtm_eq_mtmPos`, `accCum_by_commodity`, `Tracks.sum`): `run_account_delta`; `C03_account_window`
(`Properties/C03Report.lean`) is its instance for `F` the eve of the window.  A mapped row, and a commodity line of a `-s`
row, is in turn a sum over the accounts the row collects (`row_sum`, `run_row_mapped`, `run_posrow_mapped`). -/
namespace Knut.MTM
open Knut Knut.Dec Knut.Spec
open Knut.BalanceReport (sumAmounts)

theorem abs_le_pair {x y : Rat} (h : x.abs ≤ y) : -y ≤ x ∧ x ≤ y := by
  unfold Rat.abs at h
  split at h <;> constructor <;> grind

/-- **one position over a stretch of days inside the window**: `stA` is the state after the days `A`, `B1` the following
days.  The values put on an asset/liability position `(a, c)`, `c ≠ V`, during `B1` differ from the change of
`quantity × price` (prices looked up in `stA` and in the state after `B1`; 0 where there is none) by at most one unit of the
8th decimal per day with a price declaration and per non-zero booking in `B1` -/
theorem window_position_bound (cfg : BalCfg) (v : Commodity) (a : Account) (c : Commodity)
    (hv : cfg.valuation = some v) (hc : c ≠ v) (hal : a.isAL = true)
    (A B1 : List Day) (stA stB : BalState) (tB1 : List Transaction)
    (RA : Reached v A stA) (hB : pipelineRun cfg stA B1 = .ok (stB, tB1))
    (hin : ∀ d ∈ B1, cfg.span.contains d.date = true) (hu : ∀ d ∈ B1, Unvalued a c d.transactions) :
    Within (valOn a c tB1 -
        (stB.vQty.get (a, c) 0 * priceOr stB.vPrev c 0 - stA.vQty.get (a, c) 0 * priceOr stA.vPrev c 0))
      (((priceDays B1 + nzCount a c B1 : Nat) : Rat) * ulp 8) := by
  have hpF := priceIs_priceOr stA.vPrev c 0
  obtain ⟨hb, w3⟩ :=
    pipelineRun_bound cfg v a c hv hc hal B1 stA stB tB1 hB (priceOr stA.vPrev c 0) RA.nodup RA.close hin hu hpF
  have hst := traceOfRun_steps_le cfg v a c hv B1 stA stB tB1 hB A (priceOr stA.vPrev c 0) ⟨0, stA.vQty.get (a, c) 0, 0⟩
    RA.price hpF
  generalize traceOfRun cfg a c (priceOr stA.vPrev c 0) stA B1 = tr at hb w3 hst
  -- the price after `B1`: the last price of the trace, or irrelevant because the position is closed
  have hQD : stB.vQty.get (a, c) 0 * lastPrice (priceOr stA.vPrev c 0) tr =
      stB.vQty.get (a, c) 0 * priceOr stB.vPrev c 0 := by
    cases hl : Balance.lookupPrice stB.vPrev c with
    | ok x => rw [← w3 x hl, priceOr_of_ok 0 hl]
    | error e =>
      have : stB.vQty.get (a, c) 0 = 0 := Classical.byContradiction fun hne => by
        obtain ⟨x, hx⟩ := (RA.run hv hB).priced a c hal hc hne
        rw [hl] at hx; cases hx
      rw [this, Rat.zero_mul, Rat.zero_mul]
  rw [hQD] at hb
  refine hb.mono (Rat.mul_le_mul_of_nonneg_right (Rat.natCast_le_natCast.mpr ?_) (Rat.le_of_lt (ulp_pos 8)))
  simp only at hst
  omega

theorem window_position_idle (cfg : BalCfg) (v : Commodity) (a : Account) (c : Commodity)
    (hv : cfg.valuation = some v) (hal : a.isAL = true)
    (A B1 : List Day) (stA stB : BalState) (tB1 : List Transaction)
    (RA : Reached v A stA) (hB : pipelineRun cfg stA B1 = .ok (stB, tB1))
    (hin : ∀ d ∈ B1, cfg.span.contains d.date = true)
    (hnoA : ∀ d ∈ A, posOn a c d.transactions = []) (hnoB : ∀ d ∈ B1, posOn a c d.transactions = []) :
    valOn a c tB1 = 0 := by
  have hu : ∀ d ∈ B1, Unvalued a c d.transactions := by
    intro d hd t ht p hp h1 h2 _
    have := mem_posOn_of ht hp h1 h2
    rw [hnoB d hd] at this
    cases this
  have hzero : ∀ (L : List Day), (∀ d ∈ L, posOn a c d.transactions = []) → qtySum a c L = 0 := fun L hno =>
    MapSum.sum_map_eq_zero _ L (fun d hd => by unfold qtysOn; rw [hno d hd]; rfl)
  by_cases hc : c = v
  · subst hc
    rw [pipelineRun_valOn_v cfg c a hv hal B1 stA stB tB1 hB RA.close hin hu]
    exact hzero B1 hnoB
  · obtain ⟨w1, _⟩ := pipelineRun_trace cfg v a c hv hc hal B1 stA stB tB1 hB (priceOr stA.vPrev c 0) ⟨0, 0, 0⟩
      RA.nodup RA.close hin hu (priceIs_priceOr _ _ _) ((RA.qty a c hal).trans (hzero A hnoA)).symm
    rw [traceOfRun_idle cfg a c B1 _ stA ⟨0, 0, 0⟩ rfl hnoB] at w1
    simp only [Rat.zero_add] at w1
    exact w1.symm

theorem sum_bounds {α : Type} (f g : α → Rat) : ∀ (K : List α), (∀ c ∈ K, -g c ≤ f c ∧ f c ≤ g c) →
    -(K.map g).sum ≤ (K.map f).sum ∧ (K.map f).sum ≤ (K.map g).sum
  | [], _ => within_zero
  | k :: K, h => Within.add (h k List.mem_cons_self) (sum_bounds f g K (fun c hc => h c (List.mem_cons_of_mem _ hc)))

theorem sum_map_sub {α : Type} (f g : α → Rat) : ∀ (K : List α),
    (K.map (fun c => f c - g c)).sum = (K.map f).sum - (K.map g).sum
  | [] => (Rat.sub_self (a := 0)).symm
  | k :: K => by
    rw [List.map_cons, List.map_cons, List.map_cons, List.sum_cons, List.sum_cons, List.sum_cons, sum_map_sub f g K,
      add_sub_add_comm]

theorem natCast_sum_mul (u : Rat) : ∀ (K : List Nat), ((K.sum : Nat) : Rat) * u = (K.map (fun (n : Nat) => (n : Rat) * u)).sum
  | [] => natCast_zero_mul u
  | k :: K => by rw [List.sum_cons, List.map_cons, List.sum_cons, Rat.natCast_add, Rat.add_mul, natCast_sum_mul u K]

theorem stepCount_eq (v : Commodity) (days : List Day) (a : Account) (c : Commodity) (F D : Int) (hc : c ≠ v)
    (hcons : ∀ d ∈ days, ∀ t ∈ d.transactions, t.date = d.date) :
    Spec.stepCount v days a F D c =
      priceDays (days.filter (fun d => decide (F < d.date) && decide (d.date ≤ D))) +
        nzCount a c (days.filter (fun d => decide (F < d.date) && decide (d.date ≤ D))) := by
  unfold Spec.stepCount
  rw [if_neg hc, ← nzCount_spec a c F D days hcons, ← priceDays_spec, Nat.add_comm]

theorem between_inside (cfg : BalCfg) (days : List Day) (F D : Int) (hlo : cfg.span.start - 1 ≤ F) (hhi : D ≤ cfg.span.stop) :
    ∀ d ∈ days.filter (fun d => decide (F < d.date) && decide (d.date ≤ D)), cfg.span.contains d.date = true := by
  intro d hd
  have := (mem_between hd).2
  rw [Period.contains_iff]
  omega

/-- **one position over `(F, D]` in the terms of the specification**: `stA`, `stB` are the states after the days dated
`≤ F` and `≤ D`, `tB` what the days in `(F, D]` (all inside the window) hand to the Query stage -/
theorem between_position_bound (cfg : BalCfg) (v : Commodity) (a : Account) (c : Commodity) (days : List Day) (F D : Int)
    (stA stB : BalState) (tB : List Transaction)
    (hv : cfg.valuation = some v) (hal : a.isAL = true)
    (hcons : ∀ d ∈ days, ∀ t ∈ d.transactions, t.date = d.date)
    (hz : ∀ d ∈ days, ∀ t ∈ d.transactions, ∀ p ∈ t.postings, p.value = 0)
    (hlo : cfg.span.start - 1 ≤ F) (hhi : D ≤ cfg.span.stop)
    (RA : Reached v (days.filter (fun d => d.date ≤ F)) stA) (RB : Reached v (days.filter (fun d => d.date ≤ D)) stB)
    (hB : pipelineRun cfg stA (days.filter (fun d => decide (F < d.date) && decide (d.date ≤ D))) = .ok (stB, tB)) :
    Within (valOn a c tB - (Spec.qtyAt days a c D * specPrice v days D c - Spec.qtyAt days a c F * specPrice v days F c))
      ((Spec.stepCount v days a F D c : Rat) * ulp 8) := by
  obtain ⟨qD, _, pvD⟩ := RB.spec hcons
  obtain ⟨qF, _, pvF⟩ := RA.spec hcons
  have hBin := between_inside cfg days F D hlo hhi
  have hu : ∀ d ∈ days.filter (fun d => decide (F < d.date) && decide (d.date ≤ D)), Unvalued a c d.transactions :=
    fun d hd t ht p hp _ _ _ => hz d (List.mem_filter.mp hd).1 t ht p hp
  by_cases hc : c = v
  · subst hc
    have e1 := pipelineRun_valOn_v cfg c a hv hal _ stA stB tB hB RA.close hBin hu
    -- in the valuation commodity values are quantities: nothing is truncated, no step is counted
    unfold specPrice Spec.stepCount
    rw [if_pos rfl, if_pos rfl, if_pos rfl, Rat.mul_one, Rat.mul_one, ← qD a c hal, ← qF a c hal,
      ((RA.run hv hB).qty a c hal), RA.qty a c hal, qtySum_append, e1, natCast_zero_mul, add_sub_cancel_left_rat, Rat.sub_self]
    exact within_zero
  · have hb := window_position_bound cfg v a c hv hc hal _ _ stA stB tB RA hB hBin hu
    unfold specPrice
    simp only [hc, if_false]
    rw [← qD a c hal, ← qF a c hal, ← pvD, ← pvF, stepCount_eq v days a c F D hc hcons]
    exact hb

/-- the keys of the selected inserts, beyond a given duplicate-free list `S` of keys -/
theorem cover_keys {κ : Type} [DecidableEq κ] (key : Entry → κ) (sel : Entry → Bool) (S : List κ) (hSn : S.Nodup)
    (es : List Entry) :
    ∃ X : List κ, (S ++ X).Nodup ∧ (∀ k ∈ X, k ∉ S ∧ ∃ e ∈ es, sel e = true ∧ key e = k) ∧
      ∀ e ∈ es, sel e = true → key e ∈ S ++ X := by
  refine ⟨(((es.filter sel).map key).eraseDups).filter (fun k => !decide (k ∈ S)), ?_, ?_, ?_⟩
  · rw [List.nodup_append]
    refine ⟨hSn, List.Pairwise.sublist List.filter_sublist (MapSum.nodup_eraseDups _ _ (Nat.le_refl _)), ?_⟩
    intro x hx y hy e
    have := (List.mem_filter.mp hy).2
    simp only [Bool.not_eq_true', decide_eq_false_iff_not] at this
    exact this (e ▸ hx)
  · intro k hk
    obtain ⟨h1, h2⟩ := List.mem_filter.mp hk
    simp only [Bool.not_eq_true', decide_eq_false_iff_not] at h2
    rw [List.mem_eraseDups] at h1
    obtain ⟨e, he, rfl⟩ := List.mem_map.mp h1
    exact ⟨h2, e, (List.mem_filter.mp he).1, (List.mem_filter.mp he).2, rfl⟩
  · intro e he hsel
    by_cases hc : key e ∈ S
    · exact List.mem_append_left _ hc
    · apply List.mem_append_right
      rw [List.mem_filter, List.mem_eraseDups]
      exact ⟨List.mem_map.mpr ⟨e, List.mem_filter.mpr ⟨he, hsel⟩, rfl⟩, by simp [hc]⟩

theorem posOn_nil_of_not_com {days : List Day} {a : Account} {c : Commodity} (hc : c ∉ Spec.commoditiesOf days a) :
    ∀ d ∈ days, posOn a c d.transactions = [] := by
  intro d hd
  unfold posOn
  rw [List.filter_eq_nil_iff]
  intro p hp ho
  obtain ⟨t, ht, hpt⟩ := List.mem_flatMap.mp hp
  unfold onPos at ho
  simp only [Bool.and_eq_true, decide_eq_true_eq] at ho
  exact hc (mem_commoditiesOf hd ht hpt ho.1 ho.2)

/-- **one asset/liability position of a plain report over `(F, D]`**, `F` the eve of the window or an earlier period end -/
theorem run_position_delta (cfg : BalCfg) (v : Commodity) (a : Account) (c : Commodity) (days : List Day) (stF : BalState)
    (F D : Int)
    (hv : cfg.valuation = some v) (hal : a.isAL = true) (hpl : Plain cfg) (hs : Sorted days)
    (hcons : ∀ d ∈ days, ∀ t ∈ d.transactions, t.date = d.date)
    (hz : ∀ d ∈ days, ∀ t ∈ d.transactions, ∀ p ∈ t.postings, p.value = 0)
    (hinc : List.Pairwise (· < ·) (cfg.periods.map (·.stop))) (hD : D ∈ cfg.periods.map (·.stop))
    (hF : IsEve cfg F D) (hDin : cfg.span.contains D = true)
    (h : Balance.run cfg days = .ok stF) :
    ∃ mD mF, Spec.mtmPos v days a c D = some mD ∧ Spec.mtmPos v days a c F = some mF ∧
      -((Spec.stepCount v days a F D c : Rat) * ulp 8) ≤ (posCum a c stF.entries D - posCum a c stF.entries F) - (mD - mF) ∧
      (posCum a c stF.entries D - posCum a c stF.entries F) - (mD - mF) ≤ (Spec.stepCount v days a F D c : Rat) * ulp 8 ∧
      (c ∉ Spec.commoditiesOf days a → posCum a c stF.entries D - posCum a c stF.entries F = 0) ∧
      (F = cfg.span.start - 1 → posCum a c stF.entries F = 0) := by
  have hvs : cfg.valuation.isSome = true := by rw [hv]; rfl
  obtain ⟨hlo, hFD, hhi⟩ := hF.le hDin
  obtain ⟨A, B1, B2, stA, stB, tA, tB1, tB2, S⟩ := run_splitAt cfg days stF F D hFD hs h
  have RA := S.reachedA hv
  have RB := S.reachedB hv
  have hB : pipelineRun cfg stA (days.filter (fun d => decide (F < d.date) && decide (d.date ≤ D))) = .ok (stB, tB1) := by
    rw [S.between]; exact S.runB
  refine ⟨_, _, RB.mtmPos hcons a hal c, RA.mtmPos hcons a hal c, ?_⟩
  -- the inserts on the position change over `(F, D]` by what the days in `(F, D]` insert
  obtain ⟨hdiff, hzeroF⟩ := S.column hcons hinc hD hF hDin (fun e => decide (e.account = a) && decide (e.commodity = c))
  rw [← posCum_eq_cumSel, ← posCum_eq_cumSel] at hdiff
  rw [← posCum_eq_cumSel] at hzeroF
  rw [hdiff.trans (entryVal_flatMap cfg hpl hvs a c tB1)]
  have hidle : c ∉ Spec.commoditiesOf days a → valOn a c tB1 = 0 := fun hcn =>
    window_position_idle cfg v a c hv hal _ _ stA stB tB1 RA hB (between_inside cfg days F D (by omega) hhi)
      (fun d hd => posOn_nil_of_not_com hcn d (List.mem_filter.mp hd).1)
      (fun d hd => posOn_nil_of_not_com hcn d (List.mem_filter.mp hd).1)
  have hb := between_position_bound cfg v a c days F D stA stB tB1 hv hal hcons hz (by omega) hhi RA RB hB
  exact ⟨hb.1, hb.2, hidle, hzeroF⟩

theorem commoditiesOf_nil_of_not_mem {days : List Day} {a : Account}
    (h : a ∉ ((Spec.userPostings days).map (fun x => x.2.account))) : Spec.commoditiesOf days a = [] := by
  unfold Spec.commoditiesOf
  have : (Spec.userPostings days).filter (fun (x : Int × Posting) => match x with | (_, p) => decide (p.account = a)) = [] := by
    rw [List.filter_eq_nil_iff]
    intro x hx hc
    apply h
    obtain ⟨x1, x2⟩ := x
    simp only [decide_eq_true_eq] at hc
    exact List.mem_map.mpr ⟨(x1, x2), hx, hc⟩
  rw [this]
  rfl

theorem mapM_some_getD {α : Type} (f : α → Option Rat) (S : List α) (h : ∀ a ∈ S, ∃ m, f a = some m) :
    S.mapM f = some (S.map (fun a => (f a).getD 0)) :=
  mapM_eq_some_iff.mpr (forall₂_map_self fun a ha => (h a ha).elim fun m hm => by rw [hm]; rfl)

/-- a difference of totals that split over the keys `S ++ X`, the keys of `X` not moving, is the sum of the differences
over `S` -/
theorem delta_split {κ : Type} (S X : List κ) (tot : Int → Rat) (cum : κ → Int → Rat) (F D : Int)
    (hsum : ∀ Y, tot Y = (S.map (fun a => cum a Y)).sum + (X.map (fun a => cum a Y)).sum)
    (hX : ∀ a ∈ X, cum a D - cum a F = 0) : tot D - tot F = (S.map (fun a => cum a D - cum a F)).sum := by
  have hXzero := MapSum.sum_map_eq_zero _ X hX
  rw [sum_map_sub] at hXzero
  rw [hsum D, hsum F, sum_map_sub, add_sub_add_comm, hXzero, Rat.add_zero]

/-- **summing over keys** (the commodities of an account, the accounts of a row): changes that each follow an exact value up
to some steps follow, summed, the summed values up to the summed steps -/
theorem Tracks.sum {κ : Type} (S : List κ) (x : κ → Rat) (mD mF : κ → Option Rat) (B : κ → Nat)
    (hacc : ∀ a ∈ S, Tracks (x a) (mD a) (mF a) (B a)) :
    Tracks (S.map x).sum ((S.mapM mD).map List.sum) ((S.mapM mF).map List.sum) (S.map B).sum := by
  have hD : (S.mapM mD).map List.sum = some ((S.map (fun a => (mD a).getD 0)).sum) := by
    rw [mapM_some_getD _ S (fun a ha => by obtain ⟨d, _, h1, _⟩ := hacc a ha; exact ⟨d, h1⟩)]; rfl
  have hF : (S.mapM mF).map List.sum = some ((S.map (fun a => (mF a).getD 0)).sum) := by
    rw [mapM_some_getD _ S (fun a ha => by obtain ⟨_, f, _, h2, _⟩ := hacc a ha; exact ⟨f, h2⟩)]; rfl
  refine ⟨_, _, hD, hF, ?_⟩
  have hdev := sum_bounds (fun a => x a - ((mD a).getD 0 - (mF a).getD 0)) (fun a => (B a : Rat) * ulp 8) S (fun a ha => by
    obtain ⟨d, f, h1, h2, h3, h4⟩ := hacc a ha
    rw [h1, h2]; exact ⟨h3, h4⟩)
  rw [sum_map_sub, sum_map_sub] at hdev
  rw [natCast_sum_mul, List.map_map]
  exact hdev

theorem accCum_by_commodity (a : Account) (K : List Commodity) (hK : K.Nodup) (es : List Entry) (D : Int)
    (h : ∀ e ∈ es, decide (e.account = a) = true → e.commodity ∈ K) :
    accCum a es D = (K.map (fun c => posCum a c es D)).sum := by
  rw [accCum_def, BalanceReport.sumAmounts_filter_by_key (·.commodity) K hK _ es (fun e he hq => h e he (Bool.and_eq_true _ _ ▸ hq).1)]
  refine congrArg List.sum (List.map_congr_left (fun c _ => BalanceReport.sumAmounts_filter_congr (fun e _ => ?_)))
  unfold posQ
  cases decide (e.commodity = c) <;> cases decide (e.account = a) <;> cases dateLe D e <;> rfl

/-- **one asset/liability account of a plain report over `(F, D]`**, `F` the eve of the window or an earlier period end:
its positions (`run_position_delta`) summed over the commodities booked on it.  The inserts on `a` aligned to column dates
in `(F, D]` total `Spec.mtm … D − Spec.mtm … F` — the exact Σ quantity × latest normalised price at `D` minus the same at
`F`, both of which exist — up to `Spec.stepBound … F D` units of the 8th decimal: only the valuation steps inside `(F, D]`
are charged.  For every plain valued configuration and every column `Col` of its report. -/
theorem run_account_delta {cfg : BalCfg} {days : List Day} {stF : BalState} {F D : Int} (K : Col cfg days stF F D)
    (v : Commodity) (a : Account) (hv : cfg.valuation = some v) (hal : a.isAL = true) (hpl : Plain cfg) :
    Tracks (accCum a stF.entries D - accCum a stF.entries F) (Spec.mtm v days a D) (Spec.mtm v days a F)
      (Spec.stepBound v days a F D) := by
  have hpos := fun c => run_position_delta cfg v a c days stF F D hv hal hpl K.sorted K.dated K.unvalued K.inc K.hD K.eve
    K.inside K.run
  -- `X`: the commodities of inserts on `a` in which `a` is never booked; their positions do not move
  obtain ⟨X, hn, hX, hcov⟩ := cover_keys (·.commodity) (fun e => decide (e.account = a)) (Spec.commoditiesOf days a)
    (MapSum.nodup_eraseDups _ _ (Nat.le_refl _)) stF.entries
  rw [mtm_eq_mtmPos, mtm_eq_mtmPos, delta_split (Spec.commoditiesOf days a) X (accCum a stF.entries)
    (fun c Y => posCum a c stF.entries Y) F D
    (fun Y => by rw [accCum_by_commodity a _ hn stF.entries Y hcov, List.map_append, List.sum_append])
    (fun c hc => by obtain ⟨_, _, _, _, _, _, h5, _⟩ := hpos c; exact h5 (hX c hc).1)]
  exact Tracks.sum _ _ _ _ _ (fun c _ => by obtain ⟨mD, mF, h1, h2, h3, h4, _⟩ := hpos c; exact ⟨mD, mF, h1, h2, h3, h4⟩)

open Knut.BalanceReport (sumAmounts_filter_cons)

/-! ## the stages before Query do not look at `-m`, `--remap`, `--account`, `--commodity`

`plainOf cfg` is `cfg` without mapping, remapping and filters.  The transactions handed to the Query stage are the same
under `cfg` and `plainOf cfg` (`sameStages_plainOf`, `Balance.Steps.transfer`); only the report inserts differ, and the inserts under `cfg` are
the inserts under `plainOf cfg` passed through `reEntry cfg` (filters, then `mapAccount` on the account):
`run_plainOf`.
-/

def plainOf (cfg : BalCfg) : BalCfg :=
  { cfg with mapping := [], remap := fun _ => false, accountFilter := fun _ => true, commodityFilter := fun _ => true }

theorem plain_plainOf (cfg : BalCfg) : Plain (plainOf cfg) := ⟨rfl, fun _ => rfl, fun _ => rfl, fun _ => rfl⟩

theorem sameStages_plainOf (cfg : BalCfg) : Balance.SameStages cfg (plainOf cfg) :=
  ⟨fun _ _ => rfl, fun _ _ _ => rfl, fun _ _ => rfl⟩

def reEntry (cfg : BalCfg) (e : Entry) : Option Entry :=
  if cfg.accountFilter e.account.name && cfg.commodityFilter e.commodity then
    (mapAccount cfg e.account).map (fun a => { e with account := a })
  else none

/-- on an insert of the plain report `reEntry` does what `Spec.entryOf` does on the booking -/
theorem reEntry_entry (cfg : BalCfg) (date : Int) (a : Account) (c : Commodity) (x : Rat) :
    reEntry cfg ⟨alignIn cfg.periods date, a, c, x⟩ = Spec.entryOf cfg date a c x := rfl

theorem queryTx_reEntry (cfg : BalCfg) (t : Transaction) :
    Balance.queryTx cfg t = (Balance.queryTx (plainOf cfg) t).filterMap (reEntry cfg) := by
  rw [queryTx_plain (cfg := plainOf cfg) rfl (fun _ => rfl) (fun _ => rfl) (fun _ => rfl), List.filterMap_map, queryTx_eq]
  rfl

theorem flatMap_queryTx_reEntry (cfg : BalCfg) (txs : List Transaction) :
    txs.flatMap (Balance.queryTx cfg) = (txs.flatMap (Balance.queryTx (plainOf cfg))).filterMap (reEntry cfg) := by
  induction txs with
  | nil => rfl
  | cons t rest ih => rw [List.flatMap_cons, List.flatMap_cons, List.filterMap_append, ih, queryTx_reEntry]

theorem run_plainOf (cfg : BalCfg) (days : List Day) (stF : BalState) (h : Balance.run cfg days = .ok stF) :
    ∃ stP, Balance.run (plainOf cfg) days = .ok stP ∧ stF.entries = stP.entries.filterMap (reEntry cfg) := by
  obtain ⟨q, hq⟩ := Balance.foldlM_day_ok_iff.mp h
  exact ⟨_, Balance.foldlM_day_ok_iff.mpr ⟨q, hq.transfer (sameStages_plainOf cfg) []⟩,
    hq.entries.trans (flatMap_queryTx_reEntry cfg q)⟩

/-! The running total of a report row `r` under any mapping is the sum, over the accounts `a` that pass `--account` and that
`mapAccount` turns into `r`, of the running totals of `a` in the plain report (`sel_mapped_sum`, `accCum_mapped_sum`).
`mapAccount` keeps the asset/liability nature (`mapAccount_isAL`), so the row of an A/L account collects A/L accounts
only (`row_sources`), and `run_row_mapped` sums `run_account_delta` over the journal's accounts mapped to `r`
(`Spec.sourceAccounts`) by `row_sum`: value = `Spec.mtmOver … D − Spec.mtmOver … F` up to `Spec.stepBoundOver`
units of the 8th decimal.  An account with an insert but no booking in the journal does not change (`run_account_delta_idle`). -/

theorem mapAccount_isAL (cfg : BalCfg) {a b : Account} (hb : mapAccount cfg a = some b) : b.isAL = a.isAL :=
  Knut.mapAccount_isAL cfg hb

/-- the accounts collected in row `r`: they pass `--account`, and `--remap` followed by `-m` turns them into `r` -/
def srcSel (cfg : BalCfg) (r a : Account) : Bool := cfg.accountFilter a.name && decide (mapAccount cfg a = some r)

theorem sel_mapped (cfg : BalCfg) (hcom : ∀ s, cfg.commodityFilter s = true) (r : Account) (Q : Entry → Bool)
    (hQ : ∀ (e : Entry) (a' : Account), Q { e with account := a' } = Q e) :
    ∀ (esP : List Entry), sumAmounts ((esP.filterMap (reEntry cfg)).filter (fun e => decide (e.account = r) && Q e)) =
      sumAmounts (esP.filter (fun e => srcSel cfg r e.account && Q e))
  | [] => rfl
  | e :: rest => by
    have hre : reEntry cfg e = if cfg.accountFilter e.account.name = true then
        (mapAccount cfg e.account).map (fun a => { e with account := a }) else none := by
      unfold reEntry; rw [hcom, Bool.and_true]
    rw [List.filterMap_cons, hre, sumAmounts_filter_cons (fun e => srcSel cfg r e.account && Q e),
      ← sel_mapped cfg hcom r Q hQ rest]
    show _ = (if (cfg.accountFilter e.account.name && decide (mapAccount cfg e.account = some r) && Q e) = true
      then e.amount else 0) + _
    cases hf : cfg.accountFilter e.account.name with
    | false => exact (Rat.zero_add _).symm
    | true =>
      rw [if_pos rfl, Bool.true_and]
      cases hm : mapAccount cfg e.account with
      | none => exact (Rat.zero_add _).symm
      | some a' =>
        rw [Option.map_some, sumAmounts_filter_cons, hQ e a']
        by_cases h1 : a' = r
        · rw [h1, decide_eq_true rfl, decide_eq_true rfl]
        · rw [decide_eq_false h1, decide_eq_false (fun h => h1 (Option.some.inj h))]

theorem sum_sel_by_account (sel : Account → Bool) (Q : Entry → Bool) (es : List Entry) (S : List Account) (hS : S.Nodup)
    (hsel : ∀ a ∈ S, sel a = true) (hcov : ∀ e ∈ es, sel e.account = true → e.account ∈ S) :
    sumAmounts (es.filter (fun e => sel e.account && Q e)) =
      (S.map (fun a => sumAmounts (es.filter (fun e => decide (e.account = a) && Q e)))).sum := by
  rw [BalanceReport.sumAmounts_filter_by_key (·.account) S hS (fun e => sel e.account && Q e) es (fun e he hq => by
    simp only [Bool.and_eq_true] at hq
    exact hcov e he hq.1)]
  congr 1
  apply List.map_congr_left
  intro a ha
  congr 1
  apply List.filter_congr
  intro e _
  by_cases h1 : e.account = a
  · rw [h1, hsel a ha]; simp
  · simp [h1]

theorem sel_mapped_sum (cfg : BalCfg) (hcom : ∀ s, cfg.commodityFilter s = true) (r : Account) (Q : Entry → Bool)
    (hQ : ∀ (e : Entry) (a' : Account), Q { e with account := a' } = Q e)
    (esP : List Entry) (S : List Account) (hS : S.Nodup) (hsel : ∀ a ∈ S, srcSel cfg r a = true)
    (hcov : ∀ e ∈ esP, srcSel cfg r e.account = true → e.account ∈ S) :
    sumAmounts ((esP.filterMap (reEntry cfg)).filter (fun e => decide (e.account = r) && Q e)) =
      (S.map (fun a => sumAmounts (esP.filter (fun e => decide (e.account = a) && Q e)))).sum := by
  rw [sel_mapped cfg hcom r Q hQ esP]
  exact sum_sel_by_account (srcSel cfg r) Q esP S hS hsel hcov

theorem accCum_mapped_sum (cfg : BalCfg) (hcom : ∀ s, cfg.commodityFilter s = true) (r : Account) (D : Int)
    (esP : List Entry) (S : List Account) (hS : S.Nodup) (hsel : ∀ a ∈ S, srcSel cfg r a = true)
    (hcov : ∀ e ∈ esP, srcSel cfg r e.account = true → e.account ∈ S) :
    accCum r (esP.filterMap (reEntry cfg)) D = (S.map (fun a => accCum a esP D)).sum :=
  sel_mapped_sum cfg hcom r (dateLe D) (fun _ _ => rfl) esP S hS hsel hcov

theorem cover_accounts (sel : Account → Bool) (S : List Account) (hSn : S.Nodup) (es : List Entry) :
    ∃ X : List Account, (S ++ X).Nodup ∧ (∀ a ∈ X, a ∉ S ∧ sel a = true) ∧
      ∀ e ∈ es, sel e.account = true → e.account ∈ S ++ X := by
  obtain ⟨X, hn, hX, hcov⟩ := cover_keys (·.account) (fun e => sel e.account) S hSn es
  refine ⟨X, hn, fun a ha => ?_, hcov⟩
  obtain ⟨h1, e, _, h2, rfl⟩ := hX a ha
  exact ⟨h1, h2⟩

/-- the shape a mark-to-market bound `-(steps · u) ≤ x - (mtm D - mtm F) ≤ steps · u` takes for an account without
commodities (`Spec.mtm = 0`, `Spec.stepBound = 0`, the latter a cast of `(0 : Nat)`); stated about variables so that
`grind` sees nothing else -/
theorem rat_zero_of_bounds (x u : Rat) (h3 : -(((0 : Nat) : Rat) * u) ≤ x - (0 - 0))
    (h4 : x - (0 - 0) ≤ ((0 : Nat) : Rat) * u) : x = 0 := by
  have e0 : (((0 : Nat) : Rat)) = 0 := rfl
  grind

theorem run_account_delta_idle {cfg : BalCfg} {days : List Day} {stF : BalState} {F D : Int} (K : Col cfg days stF F D)
    (v : Commodity) (a : Account) (hv : cfg.valuation = some v) (hal : a.isAL = true) (hpl : Plain cfg)
    (hnot : a ∉ ((Spec.userPostings days).map (fun x => x.2.account))) :
    accCum a stF.entries D - accCum a stF.entries F = 0 := by
  obtain ⟨mD, mF, h1, h2, h3, h4⟩ := run_account_delta K v a hv hal hpl
  have hc := commoditiesOf_nil_of_not_mem hnot
  unfold Spec.mtm at h1 h2
  rw [hc] at h1 h2
  unfold Spec.stepBound at h3 h4
  rw [hc] at h3 h4
  injection h1 with h1
  injection h2 with h2
  subst h1; subst h2
  simp only [List.map_nil, List.sum_nil] at h3 h4
  exact rat_zero_of_bounds _ _ h3 h4

/-- the accounts a row `r` of asset/liability type collects: the journal's (`Spec.sourceAccounts`), and those `X` that
carry an insert without a booking in the journal; all are of asset/liability type -/
theorem row_sources (cfg : BalCfg) (r : Account) (hal : r.isAL = true) (days : List Day) (es : List Entry) :
    ∃ X, (Spec.sourceAccounts (srcSel cfg r) days ++ X).Nodup ∧
      (∀ a ∈ Spec.sourceAccounts (srcSel cfg r) days ++ X, srcSel cfg r a = true ∧ a.isAL = true) ∧
      (∀ a ∈ X, a ∉ (Spec.userPostings days).map (fun x => x.2.account)) ∧
      ∀ e ∈ es, srcSel cfg r e.account = true → e.account ∈ Spec.sourceAccounts (srcSel cfg r) days ++ X := by
  have hSn : (Spec.sourceAccounts (srcSel cfg r) days).Nodup :=
    List.Pairwise.sublist List.filter_sublist (MapSum.nodup_eraseDups _ _ (Nat.le_refl _))
  have hmem : ∀ a, a ∈ Spec.sourceAccounts (srcSel cfg r) days ↔
      a ∈ (Spec.userPostings days).map (fun x => x.2.account) ∧ srcSel cfg r a = true := by
    intro a; unfold Spec.sourceAccounts; rw [List.mem_filter, List.mem_eraseDups]
  have hselAL : ∀ a, srcSel cfg r a = true → a.isAL = true := by
    intro a ha
    unfold srcSel at ha
    simp only [Bool.and_eq_true, decide_eq_true_eq] at ha
    rw [← mapAccount_isAL cfg ha.2]; exact hal
  obtain ⟨X, hn, hX, hcov⟩ := cover_accounts (srcSel cfg r) _ hSn es
  refine ⟨X, hn, ?_, fun a ha hm => (hX a ha).1 ((hmem a).mpr ⟨hm, (hX a ha).2⟩), hcov⟩
  intro a ha
  have : srcSel cfg r a = true := by
    rcases List.mem_append.mp ha with h1 | h1
    · exact ((hmem a).mp h1).2
    · exact (hX a h1).2
  exact ⟨this, hselAL a this⟩

/-- **a row of the mapped report is the sum over its source accounts of what the plain report shows per account**
(`selCum (Q Y) a`: the account's running total, or that of one of its positions), exact values and bounds summed -/
theorem row_sum (cfg : BalCfg) (r : Account) (days : List Day) (stF : BalState) (F D : Int)
    (hcom : ∀ s, cfg.commodityFilter s = true) (hal : r.isAL = true) (h : Balance.run cfg days = .ok stF)
    (Q : Int → Entry → Bool) (hQ : ∀ (Y : Int) (e : Entry) (a' : Account), Q Y { e with account := a' } = Q Y e)
    (m : Account → Int → Option Rat) (B : Account → Nat)
    (hacc : ∀ stP, Balance.run (plainOf cfg) days = .ok stP → ∀ a, a.isAL = true →
      Tracks (selCum (Q D) a stP.entries - selCum (Q F) a stP.entries) (m a D) (m a F) (B a) ∧
      (a ∉ (Spec.userPostings days).map (fun x => x.2.account) →
        selCum (Q D) a stP.entries - selCum (Q F) a stP.entries = 0)) :
    Tracks (selCum (Q D) r stF.entries - selCum (Q F) r stF.entries)
      (((Spec.sourceAccounts (srcSel cfg r) days).mapM (fun a => m a D)).map List.sum)
      (((Spec.sourceAccounts (srcSel cfg r) days).mapM (fun a => m a F)).map List.sum)
      ((Spec.sourceAccounts (srcSel cfg r) days).map B).sum := by
  -- the inserts are those of the plain report, mapped; sum what is shown for the accounts collected in `r`
  obtain ⟨stP, hrunP, hes⟩ := run_plainOf cfg days stF h
  obtain ⟨X, hSXn, hSX, hXout, hcov⟩ := row_sources cfg r hal days stP.entries
  generalize Spec.sourceAccounts (srcSel cfg r) days = S at hSXn hSX hcov ⊢
  rw [delta_split S X (fun Y => selCum (Q Y) r stF.entries) (fun a Y => selCum (Q Y) a stP.entries) F D
    (fun Y => by
      unfold selCum
      rw [hes, sel_mapped_sum cfg hcom r (Q Y) (hQ Y) stP.entries (S ++ X) hSXn (fun a ha => (hSX a ha).1) hcov,
        List.map_append, List.sum_append])
    (fun a ha => (hacc stP hrunP a (hSX a (List.mem_append_right _ ha)).2).2 (hXout a ha))]
  exact Tracks.sum S _ _ _ B (fun a ha => (hacc stP hrunP a (hSX a (List.mem_append_left _ ha)).2).1)

/-- **the row `r` of a mapped valued report over `(F, D]`**: for every valued configuration without a commodity filter
(any `-m`, `--remap`, `--account`), the inserts on an asset/liability row account `r` aligned to column dates in
`(F, D]` total `Spec.mtmOver … S D − Spec.mtmOver … S F` — `S` the journal's accounts collected in `r` — up to
`Spec.stepBoundOver … S F D` units of the 8th decimal; both values exist (`Tracks`). -/
theorem run_row_mapped {cfg : BalCfg} {days : List Day} {stF : BalState} {F D : Int} (K : Col cfg days stF F D)
    (v : Commodity) (r : Account) (hv : cfg.valuation = some v) (hcom : ∀ s, cfg.commodityFilter s = true)
    (hal : r.isAL = true) :
    Tracks (accCum r stF.entries D - accCum r stF.entries F)
      (Spec.mtmOver v days (Spec.sourceAccounts (srcSel cfg r) days) D)
      (Spec.mtmOver v days (Spec.sourceAccounts (srcSel cfg r) days) F)
      (Spec.stepBoundOver v days (Spec.sourceAccounts (srcSel cfg r) days) F D) :=
  row_sum cfg r days stF F D hcom hal K.run dateLe (fun _ _ _ => rfl)
    (fun a Y => Spec.mtm v days a Y) (fun a => Spec.stepBound v days a F D) (fun stP hrunP a ha =>
      ⟨run_account_delta (K.plain (cfg' := plainOf cfg) rfl rfl hrunP) v a hv ha (plain_plainOf cfg),
        run_account_delta_idle (K.plain (cfg' := plainOf cfg) rfl rfl hrunP) v a hv ha (plain_plainOf cfg)⟩)

/-! ## the per-commodity lines of a `-s` row

`run_position_delta` (one asset/liability position over `(F, D]`) summed over the accounts a mapped
row collects, by `row_sum`. -/

/-- **one commodity of the row `r` of a mapped valued report over `(F, D]`**: the inserts on the asset/liability row
account `r` in commodity `c` aligned to column dates in `(F, D]` total `Spec.mtmPosOver … S c D − Spec.mtmPosOver … S c F`
(`S` the journal's accounts collected in `r`) up to `Spec.stepCountOver … S F D c` units of the 8th decimal -/
theorem run_posrow_mapped (cfg : BalCfg) (v : Commodity) (r : Account) (c : Commodity) (days : List Day) (stF : BalState)
    (F D : Int)
    (hv : cfg.valuation = some v) (hcom : ∀ s, cfg.commodityFilter s = true) (hal : r.isAL = true) (hs : Sorted days)
    (hcons : ∀ d ∈ days, ∀ t ∈ d.transactions, t.date = d.date)
    (hz : ∀ d ∈ days, ∀ t ∈ d.transactions, ∀ p ∈ t.postings, p.value = 0)
    (hinc : List.Pairwise (· < ·) (cfg.periods.map (·.stop))) (hD : D ∈ cfg.periods.map (·.stop))
    (hF : IsEve cfg F D) (hDin : cfg.span.contains D = true)
    (h : Balance.run cfg days = .ok stF) :
    ∃ mD mF, Spec.mtmPosOver v days (Spec.sourceAccounts (srcSel cfg r) days) c D = some mD ∧
      Spec.mtmPosOver v days (Spec.sourceAccounts (srcSel cfg r) days) c F = some mF ∧
      -((Spec.stepCountOver v days (Spec.sourceAccounts (srcSel cfg r) days) F D c : Rat) * ulp 8) ≤
        (posCum r c stF.entries D - posCum r c stF.entries F) - (mD - mF) ∧
      (posCum r c stF.entries D - posCum r c stF.entries F) - (mD - mF) ≤
        (Spec.stepCountOver v days (Spec.sourceAccounts (srcSel cfg r) days) F D c : Rat) * ulp 8 ∧
      (F = cfg.span.start - 1 → posCum r c stF.entries F = 0) := by
  obtain ⟨mD, mF, h1, h2, h3, h4⟩ := row_sum cfg r days stF F D hcom hal h (posQ c) (fun _ _ _ => rfl)
    (fun a Y => Spec.mtmPos v days a c Y) (fun a => Spec.stepCount v days a F D c) (fun stP hrunP a ha => by
      obtain ⟨mD, mF, h1, h2, h3, h4, h5, _⟩ := run_position_delta (plainOf cfg) v a c days stP F D hv ha (plain_plainOf cfg)
        hs hcons hz hinc hD hF hDin hrunP
      exact ⟨⟨mD, mF, h1, h2, h3, h4⟩, fun hn => h5 (by rw [commoditiesOf_nil_of_not_mem hn]; exact List.not_mem_nil)⟩)
  refine ⟨mD, mF, h1, h2, h3, h4, fun hFe => ?_⟩
  rw [posCum_eq_cumSel]
  exact cumSel_before_window cfg days stF F hs hcons (by omega) h _

end Knut.MTM
