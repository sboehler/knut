import Knut.Model.Partition
/-! `date.NewPartition` and `Partition.Align`: calendar units, the loop as a newest-first tiling (`Tiles`), and the shown
periods oldest first as a chain (`Chained`: each period non-empty and starting the day after the one before), which is the
form the reports' proofs use (`periods_chained`); `Align` as the least period end not before a date. -/
namespace Knut
open Knut.Date

theorem cumDays_13 (leap : Bool) : cumDays leap 13 = (if leap then 366 else 365) := by
  cases leap <;> rfl

/-- days between the start of the unit of `z` and `z` lie in the same unit -/
theorem startOf_same (z w : Int) (iv : Interval) (h1 : startOf z iv ≤ w) (h2 : w ≤ z) :
    startOf w iv = startOf z iv := by
  have ⟨m1, m12⟩ := month_bounds z
  cases iv <;> simp only [startOf] at h1 ⊢
  · omega
  · omega
  · unfold weekday at h1 ⊢; omega
  · obtain ⟨hy, _, _⟩ := civil_between z w _ m1 (Int.le_refl _) h1 h2
    rw [hy, show month w = month z by omega]
  · obtain ⟨hy, _, _⟩ := civil_between z w _ (by omega) (by omega) h1 h2
    rw [hy, show (month w - 1) / 3 * 3 + 1 = (month z - 1) / 3 * 3 + 1 by omega]
  · obtain ⟨hy, _, _⟩ := civil_between z w 1 (by omega) m1 h1 h2
    rw [hy]

theorem startOf_idem (z : Int) (iv : Interval) : startOf (startOf z iv) iv = startOf z iv :=
  startOf_same z (startOf z iv) iv (Int.le_refl _) (startOf_le z iv)

theorem Period.contains_iff (p : Period) (d : Int) : p.contains d = true ↔ p.start ≤ d ∧ d ≤ p.stop := by
  simp only [Period.contains, Bool.and_eq_true, Bool.not_eq_true', decide_eq_false_iff_not]
  omega

theorem Period.contains_eq_false_iff (p : Period) (d : Int) : p.contains d = false ↔ d < p.start ∨ p.stop < d := by
  rw [← Bool.not_eq_true, Period.contains_iff]
  omega

/-- `Tiles a iv e L`: the newest-first list `L` tiles `[a, e]` exactly, every period being
cut at the unit start of its end date (or at the window start). -/
def Tiles (a : Int) (iv : Interval) : Int → List Period → Prop
  | e, [] => e < a
  | e, p :: rest => p.stop = e ∧ p.start = clampStart (startOf e iv) a ∧ a ≤ p.start ∧ p.start ≤ e ∧
      Tiles a iv (p.start - 1) rest

theorem clampStart_ge (s a : Int) : a ≤ clampStart s a := by unfold clampStart; split <;> omega
theorem le_clampStart (s a : Int) : s ≤ clampStart s a := by unfold clampStart; split <;> omega
theorem clampStart_eq_or (s a : Int) : clampStart s a = a ∨ clampStart s a = s := by
  unfold clampStart; split <;> simp
theorem clampStart_le (s a e : Int) (h1 : s ≤ e) (h2 : a ≤ e) : clampStart s a ≤ e := by
  unfold clampStart; split <;> omega

theorem clampStart_startOf_le (iv : Interval) {a e : Int} (h : a ≤ e) : clampStart (startOf e iv) a ≤ e :=
  clampStart_le _ _ _ (startOf_le e iv) h

theorem partLoop_tiles (a : Int) (iv : Interval) (last e c : Int) (hl : last ≤ 0) :
    Tiles a iv e (partLoop a iv last e c) := by
  fun_induction partLoop a iv last e c with
  | case1 e c h =>
    unfold Tiles
    rcases h with h | h <;> omega
  | case2 e c h s ih =>
    unfold Tiles
    exact ⟨rfl, rfl, clampStart_ge _ _, clampStart_startOf_le iv (by omega), ih⟩

theorem partLoop_exit {a : Int} {iv : Interval} {last e c : Int} (h : e < a ∨ (c ≥ last ∧ last > 0)) :
    partLoop a iv last e c = [] := by
  rw [partLoop, dif_pos h]

theorem partLoop_step {a : Int} {iv : Interval} {last e c : Int} (h : ¬ (e < a ∨ (c ≥ last ∧ last > 0))) :
    partLoop a iv last e c =
      ⟨clampStart (startOf e iv) a, e⟩ :: partLoop a iv last (clampStart (startOf e iv) a - 1) (c + 1) := by
  rw [partLoop, dif_neg h]

theorem partLoop_last (a : Int) (iv : Interval) (last e c : Int) (hl : 0 < last) (hc : 0 ≤ c) (hcl : c ≤ last) :
    partLoop a iv last e c = (partLoop a iv 0 e c).take (last - c).toNat := by
  fun_induction partLoop a iv 0 e c with
  | case1 e c h => rw [partLoop_exit (by omega), List.take_nil]
  | case2 e c h s ih =>
    by_cases hcl' : c ≥ last
    · rw [partLoop_exit (Or.inr ⟨hcl', hl⟩), show (last - c).toNat = 0 by omega]; rfl
    · rw [partLoop_step (by omega), show (last - c).toNat = (last - (c + 1)).toNat + 1 by omega,
        List.take_succ_cons, ih (by omega) (by omega)]

theorem Tiles.mem_bounds {a : Int} {iv : Interval} : ∀ {e : Int} {L : List Period}, Tiles a iv e L →
    ∀ p ∈ L, a ≤ p.start ∧ p.start ≤ p.stop ∧ p.stop ≤ e ∧ p.start = clampStart (startOf p.stop iv) a
  | _, [], _, p, hp => by simp at hp
  | e, q :: rest, h, p, hp => by
    obtain ⟨h1, h2, h3, h4, h5⟩ := h
    rcases List.mem_cons.mp hp with rfl | hm
    · refine ⟨h3, by omega, by omega, by rw [h1]; exact h2⟩
    · have := Tiles.mem_bounds h5 p hm
      omega

theorem Tiles.cover {a : Int} {iv : Interval} : ∀ {e : Int} {L : List Period}, Tiles a iv e L →
    ∀ d : Int, (a ≤ d ∧ d ≤ e) ↔ ∃ p ∈ L, p.start ≤ d ∧ d ≤ p.stop
  | e, [], h, d => by
    unfold Tiles at h
    constructor
    · intro ⟨h1, h2⟩; omega
    · intro ⟨p, hp, _⟩; simp at hp
  | e, q :: rest, h, d => by
    obtain ⟨h1, h2, h3, h4, h5⟩ := h
    have ih := Tiles.cover h5 d
    constructor
    · intro ⟨ha, hb⟩
      by_cases hd : q.start ≤ d
      · exact ⟨q, List.mem_cons_self, hd, by omega⟩
      · obtain ⟨p, hp, hp1, hp2⟩ := ih.mp ⟨ha, by omega⟩
        exact ⟨p, List.mem_cons_of_mem _ hp, hp1, hp2⟩
    · intro ⟨p, hp, hp1, hp2⟩
      rcases List.mem_cons.mp hp with rfl | hm
      · omega
      · have := ih.mpr ⟨p, hm, hp1, hp2⟩
        omega

theorem Tiles.disjoint {a : Int} {iv : Interval} : ∀ {e : Int} {L : List Period}, Tiles a iv e L →
    ∀ d : Int, ∀ p ∈ L, ∀ q ∈ L, p.start ≤ d → d ≤ p.stop → q.start ≤ d → d ≤ q.stop → p = q
  | _, [], _, _, p, hp, _, _ => by simp at hp
  | e, r :: rest, h, d, p, hp, q, hq => by
    intro p1 p2 q1 q2
    obtain ⟨h1, h2, h3, h4, h5⟩ := h
    rcases List.mem_cons.mp hp with rfl | hpm <;> rcases List.mem_cons.mp hq with rfl | hqm
    · rfl
    · have := (Tiles.mem_bounds h5 q hqm); omega
    · have := (Tiles.mem_bounds h5 p hpm); omega
    · exact Tiles.disjoint h5 d p hpm q hqm p1 p2 q1 q2

/-- consecutive: in the oldest-first order every period starts the day after its predecessor ends -/
def Consecutive : List Period → Prop
  | [] => True
  | [_] => True
  | p :: q :: rest => p.stop + 1 = q.start ∧ Consecutive (q :: rest)

def ConsecutiveRev : List Period → Prop
  | [] => True
  | [_] => True
  | p :: q :: rest => q.stop + 1 = p.start ∧ ConsecutiveRev (q :: rest)

theorem Tiles.consecutiveRev {a : Int} {iv : Interval} : ∀ {e : Int} {L : List Period}, Tiles a iv e L →
    ConsecutiveRev L
  | _, [], _ => trivial
  | _, [_], _ => trivial
  | e, p :: q :: rest, h => by
    obtain ⟨_, _, _, _, h5⟩ := h
    exact ⟨by have := h5.1; omega, Tiles.consecutiveRev h5⟩

theorem take_consecutiveRev : ∀ (L : List Period) (n : Nat), ConsecutiveRev L → ConsecutiveRev (L.take n)
  | [], n, _ => by simp; trivial
  | [p], n, _ => by cases n <;> simp <;> trivial
  | p :: q :: rest, 0, _ => trivial
  | p :: q :: rest, 1, _ => by simp; trivial
  | p :: q :: rest, n + 2, hc => by
    simp only [List.take_succ_cons]
    exact ⟨hc.1, by simpa using take_consecutiveRev (q :: rest) (n + 1) hc.2⟩

/-! ### `Align`: the end of the first period that does not end before the date -/

theorem alignIn_cons_of_le {p : Period} {d : Int} (h : d ≤ p.stop) (rest : List Period) :
    alignIn (p :: rest) d = some p.stop := by
  have : ¬ p.stop < d := by omega
  simp [alignIn, this]

theorem alignIn_cons_of_lt {p : Period} {d : Int} (h : p.stop < d) (rest : List Period) :
    alignIn (p :: rest) d = alignIn rest d := by
  simp [alignIn, h]

/-- periods oldest first, each non-empty and starting the day after the one before; the first starts on `s` -/
def Chained : Int → List Period → Prop
  | _, [] => True
  | s, p :: rest => p.start = s ∧ s ≤ p.stop ∧ Chained (p.stop + 1) rest

theorem Chained.bounds : ∀ {P : List Period} {s : Int}, Chained s P → ∀ p ∈ P, s ≤ p.start ∧ p.start ≤ p.stop
  | [], _, _, _, hp => nomatch hp
  | q :: rest, s, ⟨h1, h2, h3⟩, p, hp => by
    rcases List.mem_cons.mp hp with rfl | hp
    · omega
    · have := Chained.bounds h3 p hp; omega

theorem Chained.sep : ∀ {P : List Period} {s : Int}, Chained s P → List.Pairwise (fun p q => p.stop < q.start) P
  | [], _, _ => List.Pairwise.nil
  | _ :: _, _, ⟨_, _, h3⟩ =>
    List.pairwise_cons.mpr ⟨fun q hq => Int.lt_of_lt_of_le (Int.lt_succ _) (h3.bounds q hq).1, h3.sep⟩

theorem Chained.mem_cases : ∀ {P : List Period} {s : Int}, Chained s P → ∀ p ∈ P,
    (∀ q ∈ P, q.stop < p.start ∨ q = p ∨ p.stop < q.start) ∧ (p.start = s ∨ ∃ q ∈ P, q.stop + 1 = p.start)
  | [], _, _, _, hp => nomatch hp
  | x :: rest, s, ⟨h1, _, h3⟩, p, hp => by
    have hb := h3.bounds
    rcases List.mem_cons.mp hp with rfl | hp
    · refine ⟨fun q hq => ?_, Or.inl h1⟩
      rcases List.mem_cons.mp hq with rfl | hq
      · exact Or.inr (Or.inl rfl)
      · exact Or.inr (Or.inr (by have := hb q hq; omega))
    · have hbp := hb p hp
      obtain ⟨i1, i2⟩ := h3.mem_cases p hp
      refine ⟨fun q hq => ?_, Or.inr ?_⟩
      · rcases List.mem_cons.mp hq with rfl | hq
        · exact Or.inl (by omega)
        · exact i1 q hq
      · rcases i2 with e | ⟨q, hq, e⟩
        · exact ⟨x, List.mem_cons_self, e.symm⟩
        · exact ⟨q, List.mem_cons_of_mem _ hq, e⟩

theorem Chained.consecutive : ∀ {P : List Period} {s : Int}, Chained s P → Consecutive P
  | [], _, _ => trivial
  | [_], _, _ => trivial
  | _ :: _ :: _, _, ⟨_, _, h3⟩ => ⟨h3.1.symm, h3.consecutive⟩

theorem Chained.cover : ∀ {ps : List Period} {s : Int}, Chained s ps → ∀ {q : Period} {d : Int},
    ps.getLast? = some q → s ≤ d → d ≤ q.stop → ∃ r ∈ ps, r.start ≤ d ∧ d ≤ r.stop
  | [], _, _, _, _, hq, _, _ => nomatch hq
  | [p], _, ⟨h1, _, _⟩, q, d, hq, hs, hd => by
    cases hq
    exact ⟨p, List.mem_cons_self, by omega, hd⟩
  | p :: p' :: rest, _, ⟨h1, _, h3⟩, q, d, hq, hs, hd => by
    by_cases hdp : d ≤ p.stop
    · exact ⟨p, List.mem_cons_self, by omega, hdp⟩
    · rw [List.getLast?_cons_cons] at hq
      obtain ⟨r, hr, hr'⟩ := h3.cover hq (by omega) hd
      exact ⟨r, List.mem_cons_of_mem _ hr, hr'⟩

theorem Chained.alignIn_of_mem : ∀ {ps : List Period} {s : Int}, Chained s ps → ∀ {p : Period} {d : Int},
    p ∈ ps → p.start ≤ d → d ≤ p.stop → alignIn ps d = some p.stop
  | [], _, _, _, _, hp, _, _ => nomatch hp
  | q :: rest, _, ⟨_, _, h3⟩, p, d, hp, h1, h2 => by
    rcases List.mem_cons.mp hp with rfl | hp'
    · exact alignIn_cons_of_le h2 rest
    · have := (h3.bounds p hp').1
      rw [alignIn_cons_of_lt (by omega)]
      exact h3.alignIn_of_mem hp' h1 h2

/-- the `n` newest periods of a tiling, oldest first, continue any chain that starts the day after the tiling's end -/
theorem Tiles.chained {a : Int} {iv : Interval} : ∀ {e : Int} {L : List Period}, Tiles a iv e L →
    ∀ (n : Nat) (acc : List Period), Chained (e + 1) acc → ∃ s, Chained s ((L.take n).reverse ++ acc)
  | e, [], _, _, acc, hacc => ⟨e + 1, by rw [List.take_nil]; exact hacc⟩
  | e, _ :: _, _, 0, acc, hacc => ⟨e + 1, hacc⟩
  | e, p :: rest, ⟨h1, _, _, h4, h5⟩, n + 1, acc, hacc => by
    rw [List.take_succ_cons, List.reverse_cons, List.append_assoc]
    exact h5.chained n (p :: acc) ⟨(Int.sub_add_cancel _ _).symm, by omega, h1.symm ▸ hacc⟩

theorem Tiles.getLast_start {a : Int} {iv : Interval} : ∀ {e : Int} {L : List Period}, Tiles a iv e L →
    ∀ p, L.getLast? = some p → p.start = a
  | _, [], _, p, hp => by simp at hp
  | e, [q], h, p, hp => by
    obtain ⟨_, _, h3, _, h5⟩ := h
    unfold Tiles at h5
    simp at hp; subst hp; omega
  | e, q :: r :: rest, h, p, hp => by
    obtain ⟨_, _, _, _, h5⟩ := h
    rw [List.getLast?_cons_cons] at hp
    exact Tiles.getLast_start h5 p hp

theorem Tiles.head_stop {a : Int} {iv : Interval} {e : Int} {L : List Period} (h : Tiles a iv e L)
    (p : Period) (hp : L.head? = some p) : p.stop = e := by
  cases L with
  | nil => simp at hp
  | cons q rest =>
    simp at hp; subst hp
    exact h.1

theorem Tiles.shown {a : Int} {iv : Interval} {e : Int} {L : List Period} (h : Tiles a iv e L) (n : Nat) :
    Consecutive (L.take n).reverse ∧
    (∀ p ∈ (L.take n).reverse,
      a ≤ p.start ∧ p.start ≤ p.stop ∧ p.stop ≤ e ∧ p.start = clampStart (startOf p.stop iv) a) ∧
    (∀ p, (L.take n).reverse.getLast? = some p → p.stop = e) := by
  refine ⟨(h.chained n [] trivial).elim fun _ hs => (List.append_nil _ ▸ hs).consecutive,
    fun p hp => h.mem_bounds p (List.mem_of_mem_take (List.mem_reverse.mp hp)), fun p hp => h.head_stop p ?_⟩
  rw [List.getLast?_reverse, List.head?_take] at hp
  split at hp
  · cases hp
  · exact hp

theorem newPartition_eq_ok {span : Period} {iv : Interval} {last : Int} {P : Partition} :
    newPartition span iv last = .ok P ↔
      span.start ≠ 0 ∧ P = { span := span, interval := iv, periods := periodsOf span iv last } := by
  by_cases h0 : span.start = 0
  · simp [newPartition, h0]
  · simp [newPartition, h0, eq_comm]

theorem alignIn_some {ps : List Period} {t D : Int} (h : alignIn ps t = some D) : D ∈ ps.map (·.stop) ∧ t ≤ D := by
  unfold alignIn at h
  obtain ⟨p, hp, rfl⟩ := Option.map_eq_some_iff.mp h
  have h2 := List.find?_some hp
  simp only [Bool.not_eq_true', decide_eq_false_iff_not] at h2
  exact ⟨List.mem_map_of_mem (List.mem_of_find?_eq_some hp), by omega⟩

theorem alignIn_eq_none_iff {ps : List Period} {t : Int} : alignIn ps t = none ↔ ∀ p ∈ ps, p.stop < t := by
  unfold alignIn
  simp [List.find?_eq_none]

theorem alignIn_least : ∀ {ps : List Period} {t E : Int}, (ps.map (·.stop)).Pairwise (· < ·) → E ∈ ps.map (·.stop) → t ≤ E →
    ∃ D, alignIn ps t = some D ∧ D ≤ E
  | [], _, _, _, hE, _ => nomatch hE
  | p :: rest, t, E, hp, hE, ht => by
    obtain ⟨hp1, hp2⟩ := List.pairwise_cons.mp hp
    by_cases hs : p.stop < t
    · rw [alignIn_cons_of_lt hs]
      rcases List.mem_cons.mp hE with e | e
      · have : E = p.stop := e
        omega
      · exact alignIn_least hp2 e ht
    · rw [alignIn_cons_of_le (by omega)]
      refine ⟨_, rfl, ?_⟩
      rcases List.mem_cons.mp hE with e | e
      · exact Int.le_of_eq e.symm
      · exact Int.le_of_lt (hp1 E e)

end Knut

namespace Knut.C11
open Knut.Date

theorem periods_eq {span : Period} {iv : Interval} {last : Int} {P : Partition}
    (h : newPartition span iv last = .ok P) :
    span.start ≠ 0 ∧ P.periods = periodsOf span iv last := by
  obtain ⟨h0, rfl⟩ := newPartition_eq_ok.mp h
  exact ⟨h0, rfl⟩

theorem tiles_of_ok {span : Period} {iv : Interval} {last : Int} {P : Partition}
    (h : newPartition span iv last = .ok P) (hiv : iv ≠ .once) (hl : last ≤ 0) :
    Tiles span.start iv span.stop P.periods.reverse := by
  have ⟨_, hp⟩ := periods_eq h
  rw [hp]
  simp only [periodsOf, hiv, if_false, List.reverse_reverse]
  exact partLoop_tiles _ _ _ _ _ hl

/-- shape of the model's output for a proper interval: the reversed `n` newest periods of the full tiling -/
theorem periods_shape {span : Period} {iv : Interval} {last : Int} {P : Partition}
    (h : newPartition span iv last = .ok P) (hiv : iv ≠ .once) :
    ∃ L0 n, Tiles span.start iv span.stop L0 ∧ P.periods = (L0.take n).reverse ∧
      (last ≤ 0 → L0.length ≤ n) ∧ (0 < last → n = last.toNat) := by
  obtain ⟨_, rfl⟩ := newPartition_eq_ok.mp h
  by_cases hl : last ≤ 0
  · refine ⟨partLoop span.start iv last span.stop 0, (partLoop span.start iv last span.stop 0).length,
      partLoop_tiles _ _ _ _ _ hl, ?_, fun _ => Nat.le_refl _, fun h => by omega⟩
    rw [List.take_length]
    simp only [periodsOf, hiv, if_false]
  · refine ⟨partLoop span.start iv 0 span.stop 0, last.toNat,
      partLoop_tiles _ _ _ _ _ (Int.le_refl _), ?_, fun h => by omega, fun _ => rfl⟩
    simp only [periodsOf, hiv, if_false]
    rw [partLoop_last _ _ _ _ _ (by omega) (Int.le_refl _) (by omega)]
    simp

theorem periods_once {span : Period} {last : Int} {P : Partition} (h : newPartition span .once last = .ok P) :
    P.periods = [span] := (newPartition_eq_ok.mp h).2 ▸ rfl

/-- for every `last`, so with `--last n` too -/
theorem shown_periods {span : Period} {iv : Interval} {last : Int} {P : Partition}
    (h : newPartition span iv last = .ok P) (hiv : iv ≠ .once) :
    Consecutive P.periods ∧
    (∀ p ∈ P.periods, span.start ≤ p.start ∧ p.start ≤ p.stop ∧ p.stop ≤ span.stop ∧
      p.start = clampStart (startOf p.stop iv) span.start) ∧
    (∀ p, P.periods.getLast? = some p → p.stop = span.stop) := by
  obtain ⟨L0, n, ht, hp, _, _⟩ := periods_shape h hiv
  rw [hp]
  exact ht.shown n

theorem consecutive_of_ok {span : Period} {iv : Interval} {last : Int} {P : Partition}
    (h : newPartition span iv last = .ok P) : Consecutive P.periods := by
  by_cases hiv : iv = .once
  · rw [(periods_eq h).2, hiv]; trivial
  · exact (shown_periods h hiv).1

theorem shown_chained {span : Period} {iv : Interval} {last : Int} {P : Partition}
    (h : newPartition span iv last = .ok P) (hiv : iv ≠ .once) :
    ∃ s, span.start ≤ s ∧ Chained s P.periods ∧ ∀ p ∈ P.periods, p.stop ≤ span.stop := by
  obtain ⟨L0, n, ht, hp, _, _⟩ := periods_shape h hiv
  obtain ⟨s, hs⟩ := ht.chained n [] trivial
  rw [List.append_nil, ← hp] at hs
  have hb := (shown_periods h hiv).2.1
  cases hper : P.periods with
  | nil => exact ⟨span.start, Int.le_refl _, trivial, fun _ hp => nomatch hp⟩
  | cons o rest =>
    rw [hper] at hs hb
    exact ⟨s, hs.1 ▸ (hb o List.mem_cons_self).1, hs, fun p hp => (hb p hp).2.2.1⟩

end Knut.C11

namespace Knut

/-- **the periods of a partition, oldest first**: the inverted window of `once`, or a chain inside the window -/
theorem periods_chained {span : Period} {iv : Interval} {last : Int} {P : Partition}
    (h : newPartition span iv last = .ok P) :
    (P.periods = [span] ∧ span.stop < span.start) ∨
      ∃ s, span.start ≤ s ∧ Chained s P.periods ∧ ∀ p ∈ P.periods, p.stop ≤ span.stop := by
  by_cases hiv : iv = .once
  · subst hiv
    rw [C11.periods_once h]
    by_cases hinv : span.stop < span.start
    · exact Or.inl ⟨rfl, hinv⟩
    · exact Or.inr ⟨span.start, Int.le_refl _, ⟨rfl, by omega, trivial⟩, fun p hp => List.mem_singleton.mp hp ▸ Int.le_refl _⟩
  · exact Or.inr (C11.shown_chained h hiv)

end Knut
