import Knut.Model.Pipeline
/-!
# The `cpr.Seq` transition system: the invariant, read stage by stage, and what each step does
-/
namespace Knut.Pipeline

variable {σ α ε : Type}
variable {S : Sys σ α ε} {s s' : St σ α ε} {f : σ → α → Except ε (σ × α)} {k : Nat}

@[simp] theorem upd_same {β : Type} (g : Nat → β) (k : Nat) (v : β) : upd g k v k = v := by simp [upd]
theorem upd_other {β : Type} (g : Nat → β) {k j : Nat} (v : β) (h : j ≠ k) : upd g k v j = g j := by simp [upd, h]

theorem upd_cases {β : Type} (P : Nat → β → Prop) {g : Nat → β} {v : β} (hk : P k v) (ho : ∀ j, j ≠ k → P j (g j))
    (j : Nat) : P j (upd g k v j) := by
  by_cases h : j = k
  · rw [h, upd_same]; exact hk
  · rw [upd_other _ _ h]; exact ho j h

theorem forall_of_at {P : Nat → Prop} (k : Nat) (hk : P k) (ho : ∀ j, j ≠ k → P j) : ∀ j, P j :=
  fun j => if h : j = k then h ▸ hk else ho j h

theorem lt_of_get {l : List α} {i : Nat} {a : α} (h : l[i]? = some a) : i < l.length :=
  (List.getElem?_eq_some_iff.1 h).1

theorem proc_len {s0 : σ} {l : List α} :
    ∀ {i : Nat} {s : σ} {o : List α}, proc f s0 l i = some (s, o) → o.length = i ∧ i ≤ l.length := by
  intro i
  induction i with
  | zero => intro s o h; simp [proc] at h; simp [← h.2]
  | succ i ih =>
    intro s o h
    simp only [proc] at h
    split at h
    · cases h
    · rename_i s1 o1 h1
      split at h
      · cases h
      · rename_i a ha
        split at h
        · rename_i s' a' hf
          injection h with h; injection h with h1' h2'
          have := ih h1
          have hlt : i < l.length := lt_of_get ha
          subst h2'
          simp; omega
        · cases h

theorem proc_append {s0 : σ} (l x : List α) :
    ∀ i, i ≤ l.length → proc f s0 (l ++ x) i = proc f s0 l i := by
  intro i
  induction i with
  | zero => intro _; simp [proc]
  | succ i ih =>
    intro h
    simp only [proc]
    rw [ih (by omega), List.getElem?_append_left (by omega)]

theorem proc_step {s0 : σ} {l : List α} {c : Nat} {s s' : σ} {o : List α} {a a' : α}
    (h : proc f s0 l c = some (s, o)) (ha : l[c]? = some a) (hf : f s a = .ok (s', a')) :
    proc f s0 l (c + 1) = some (s', o ++ [a']) := by
  simp [proc, h, ha, hf]

theorem proc_take {f : σ → α → Except ε (σ × α)} {s0 : σ} (l : List α) (i : Nat) (h : i ≤ l.length) :
    proc f s0 (l.take i) i = proc f s0 l i := by
  have := proc_append (f := f) (s0 := s0) (l.take i) (l.drop i) i (by simp; omega)
  rw [List.take_append_drop] at this
  exact this.symm

/-- what holds in every reachable state: the source has fed a prefix of the items (`fed_le`), the sink holds what the last stage
handed on (`out_eq`), there is no slot outside the stages (`outside`); every stage has received exactly what its predecessor handed on (`chain`); its
private state and its history are those of a sequential run of its function over what it received (`data_*`, one field
per slot state; read together as `StageOK` by `Inv.stage`); a recorded error is genuine (`err_ok`); the pool's reported
error and the cancellation go together (`canc`, `rep`, `norep`) -/
structure Inv (S : Sys σ α ε) (s : St σ α ε) : Prop where
  fed_le : s.fed ≤ S.items.length
  chain : ∀ k, k < S.n → (emitted S s (k + 1)).length + occ s (k + 1) = (emitted S s k).length
  out_eq : s.out = emitted S s S.n
  data_idle : ∀ k, k < S.n → s.slot (k + 1) = none →
    proc (S.f (k + 1)) (S.init (k + 1)) (emitted S s k) (s.hist (k + 1)).length = some (s.st (k + 1), s.hist (k + 1))
  data_busy : ∀ k a, k < S.n → s.slot (k + 1) = some (a, false) →
    proc (S.f (k + 1)) (S.init (k + 1)) (emitted S s k) (s.hist (k + 1)).length = some (s.st (k + 1), s.hist (k + 1)) ∧
    (emitted S s k)[(s.hist (k + 1)).length]? = some a
  data_done : ∀ k a, k < S.n → s.slot (k + 1) = some (a, true) →
    proc (S.f (k + 1)) (S.init (k + 1)) (emitted S s k) ((s.hist (k + 1)).length + 1) = some (s.st (k + 1), s.hist (k + 1) ++ [a])
  err_ok : ∀ k e, s.err k = some e → 1 ≤ k ∧ k ≤ S.n ∧ ∃ a, s.slot k = some (a, false) ∧ S.f k (s.st k) a = .error e
  canc : s.cancelled = true → ∃ k e, s.reported = some (k, e)
  rep : ∀ k e, s.reported = some (k, e) → s.err k = some e
  norep : s.cancelled = false → s.reported = none
  outside : ∀ k, (k = 0 ∨ S.n < k) → s.slot k = none

theorem emitted_zero (S : Sys σ α ε) (s : St σ α ε) : emitted S s 0 = S.items.take s.fed := by simp [emitted]
theorem emitted_succ (S : Sys σ α ε) (s : St σ α ε) (k : Nat) : emitted S s (k + 1) = s.hist (k + 1) := by simp [emitted]
theorem emitted_pos (S : Sys σ α ε) (s : St σ α ε) (h : 1 ≤ k) : emitted S s k = s.hist k := by
  have : k ≠ 0 := by omega
  simp [emitted, this]

theorem take_succ_of_get {l : List α} {i : Nat} {a : α} (h : l[i]? = some a) : l.take (i + 1) = l.take i ++ [a] := by
  rw [List.take_add_one, h]; rfl

/-! ### one stage

What the invariant says of a single stage, in terms of the list `inp` it has been offered so far: the stage
function, started in `s0`, has handed on `hist`, holds `slot` and is in state `st`.  A step moves a stage along
idle → busy → held → idle; `receive`, `work` and `emit` below are all that invariant preservation needs to know about `proc`. -/

inductive StageOK (f : σ → α → Except ε (σ × α)) (s0 : σ) (inp : List α) : List α → Option (α × Bool) → σ → Prop
  | idle {hist st} : hist.length = inp.length → proc f s0 inp hist.length = some (st, hist) → StageOK f s0 inp hist none st
  | busy {hist st a} : hist.length + 1 = inp.length → proc f s0 inp hist.length = some (st, hist) →
      inp[hist.length]? = some a → StageOK f s0 inp hist (some (a, false)) st
  | held {hist st a} : hist.length + 1 = inp.length → proc f s0 inp (hist.length + 1) = some (st, hist ++ [a]) →
      StageOK f s0 inp hist (some (a, true)) st

theorem StageOK.receive {s0 st : σ} {inp hist : List α} (a : α)
    (h : StageOK f s0 inp hist none st) : StageOK f s0 (inp ++ [a]) hist (some (a, false)) st := by
  cases h with
  | idle hl hp =>
    refine .busy (by rw [List.length_append, hl]; rfl) ?_ ?_
    · rw [proc_append _ _ _ (Nat.le_of_eq hl)]; exact hp
    · rw [hl, List.getElem?_append_right (Nat.le_refl _), Nat.sub_self]; rfl

theorem StageOK.work {s0 st t : σ} {inp hist : List α} {a a' : α}
    (h : StageOK f s0 inp hist (some (a, false)) st) (hf : f st a = .ok (t, a')) :
    StageOK f s0 inp hist (some (a', true)) t := by
  cases h with
  | busy hl hp hg => exact .held hl (proc_step hp hg hf)

theorem StageOK.emit {s0 st : σ} {inp hist : List α} {a : α}
    (h : StageOK f s0 inp hist (some (a, true)) st) : StageOK f s0 inp (hist ++ [a]) none st := by
  cases h with
  | held hl hp =>
    have e : (hist ++ [a]).length = hist.length + 1 := List.length_append
    exact .idle (e.trans hl) (e ▸ hp)

theorem StageOK.len {s0 st : σ} {inp hist : List α} {sl : Option (α × Bool)}
    (h : StageOK f s0 inp hist sl st) : hist.length + (if sl.isSome then 1 else 0) = inp.length := by
  cases h with
  | idle hl _ => exact hl
  | busy hl _ _ => exact hl
  | held hl _ => exact hl

theorem StageOK.congr {s0 st st' : σ} {inp inp' hist hist' : List α} {sl sl' : Option (α × Bool)}
    (h : StageOK f s0 inp hist sl st) (h1 : inp' = inp) (h2 : hist' = hist) (h3 : sl' = sl) (h4 : st' = st) :
    StageOK f s0 inp' hist' sl' st' := by
  subst h1 h2 h3 h4; exact h

theorem Inv.stage (hi : Inv S s) (hk : k < S.n) :
    StageOK (S.f (k + 1)) (S.init (k + 1)) (emitted S s k) (s.hist (k + 1)) (s.slot (k + 1)) (s.st (k + 1)) := by
  have hc := hi.chain k hk
  rw [emitted_succ, occ] at hc
  cases hs : s.slot (k + 1) with
  | none => rw [hs] at hc; exact .idle hc (hi.data_idle k hk hs)
  | some p =>
    rw [hs] at hc
    obtain ⟨a, d⟩ := p
    cases d with
    | false => exact .busy hc (hi.data_busy k a hk hs).1 (hi.data_busy k a hk hs).2
    | true => exact .held hc (hi.data_done k a hk hs)

theorem Inv.idle_len (hi : Inv S s) (hk : k < S.n) (hs : s.slot (k + 1) = none) :
    (s.hist (k + 1)).length = (emitted S s k).length := by
  have := hi.chain k hk
  rw [emitted_succ, occ, hs] at this
  exact this

theorem Inv.of_stages (fed_le : s.fed ≤ S.items.length) (out_eq : s.out = emitted S s S.n)
    (stage : ∀ k, k < S.n →
      StageOK (S.f (k + 1)) (S.init (k + 1)) (emitted S s k) (s.hist (k + 1)) (s.slot (k + 1)) (s.st (k + 1)))
    (err_ok : ∀ k e, s.err k = some e → 1 ≤ k ∧ k ≤ S.n ∧ ∃ a, s.slot k = some (a, false) ∧ S.f k (s.st k) a = .error e)
    (canc : s.cancelled = true → ∃ k e, s.reported = some (k, e)) (rep : ∀ k e, s.reported = some (k, e) → s.err k = some e)
    (norep : s.cancelled = false → s.reported = none) (outside : ∀ k, (k = 0 ∨ S.n < k) → s.slot k = none) : Inv S s := by
  refine ⟨fed_le, ?_, out_eq, ?_, ?_, ?_, err_ok, canc, rep, norep, outside⟩
  · intro k hk
    rw [emitted_succ, occ]
    exact (stage k hk).len
  · intro k hk hs
    have := stage k hk
    rw [hs] at this
    cases this with
    | idle _ hp => exact hp
  · intro k a hk hs
    have := stage k hk
    rw [hs] at this
    cases this with
    | busy _ hp hg => exact ⟨hp, hg⟩
  · intro k a hk hs
    have := stage k hk
    rw [hs] at this
    cases this with
    | held _ hp => exact hp

theorem inv_initial (S : Sys σ α ε) : Inv S (St.initial S) := by
  have hem : ∀ k, emitted S (St.initial S) k = [] := fun k => by unfold emitted; split <;> rfl
  exact Inv.of_stages (Nat.zero_le _) (hem _).symm (fun k _ => .idle (congrArg List.length (hem k)).symm rfl)
    nofun nofun nofun (fun _ => rfl) (fun _ _ => rfl)

/-! ### the steps as a relation

One constructor per label: the guard of the step as premises, the state it leads to as index.  Proofs about a step
are by `cases` on `Step.of`; an enabled step is a constructor followed by `Step.run`. -/

inductive Step (S : Sys σ α ε) (s : St σ α ε) : Label → St σ α ε → Prop
  | feed {a} : s.cancelled = false → 0 < S.n → s.slot 1 = none → S.items[s.fed]? = some a →
      Step S s .feed { s with fed := s.fed + 1, slot := upd s.slot 1 (some (a, false)) }
  | direct {a} : s.cancelled = false → S.n = 0 → S.items[s.fed]? = some a →
      Step S s .direct { s with fed := s.fed + 1, out := s.out ++ [a] }
  | work {k a t a'} : 1 ≤ k → k ≤ S.n → s.err k = none → s.slot k = some (a, false) → S.f k (s.st k) a = .ok (t, a') →
      Step S s (.work k) { s with st := upd s.st k t, slot := upd s.slot k (some (a', true)) }
  | fail {k a e} : 1 ≤ k → k ≤ S.n → s.err k = none → s.slot k = some (a, false) → S.f k (s.st k) a = .error e →
      Step S s (.fail k) { s with err := upd s.err k (some e) }
  | pass {k a} : s.cancelled = false → 1 ≤ k → k < S.n → s.slot (k + 1) = none → s.slot k = some (a, true) →
      Step S s (.pass k) { s with slot := upd (upd s.slot k none) (k + 1) (some (a, false)),
                                  hist := upd s.hist k (s.hist k ++ [a]) }
  | sink {a} : s.cancelled = false → 0 < S.n → s.slot S.n = some (a, true) →
      Step S s .sink { s with slot := upd s.slot S.n none, hist := upd s.hist S.n (s.hist S.n ++ [a]), out := s.out ++ [a] }
  | cancel {k e} : s.cancelled = false → s.err k = some e →
      Step S s (.cancel k) { s with cancelled := true, reported := some (k, e) }

theorem Step.run {l : Label} (h : Step S s l s') : step? S s l = some s' := by
  cases h with
  | feed hc hn hs ha => simp only [step?, hc, hn, hs, ha, Option.isNone_none, and_self, if_true]
  | direct hc hn ha => simp only [step?, hc, hn, ha, and_self, if_true]
  | work h1 hn he hs hf => simp only [step?, h1, hn, he, hs, hf, Option.isNone_none, and_self, if_true]
  | fail h1 hn he hs hf => simp only [step?, h1, hn, he, hs, hf, Option.isNone_none, and_self, if_true]
  | pass hc h1 hn hnext hs => simp only [step?, hc, h1, hn, hnext, hs, Option.isNone_none, and_self, if_true]
  | sink hc hn hs => simp only [step?, hc, hn, hs, and_self, if_true]
  | cancel hc he => simp only [step?, hc, he, if_true]

theorem Step.of {l : Label} (h : step? S s l = some s') : Step S s l s' := by
  cases l with
  | feed =>
    obtain ⟨hc, h⟩ := Option.ite_none_right_eq_some.mp h
    split at h
    · rename_i a ha; cases h; exact .feed hc.1 hc.2.1 (by simpa using hc.2.2) ha
    · cases h
  | direct =>
    obtain ⟨hc, h⟩ := Option.ite_none_right_eq_some.mp h
    split at h
    · rename_i a ha; cases h; exact .direct hc.1 hc.2 ha
    · cases h
  | work k =>
    obtain ⟨hc, h⟩ := Option.ite_none_right_eq_some.mp h
    split at h
    · rename_i a hs
      split at h
      · rename_i t a' hf; cases h; exact .work hc.1 hc.2.1 (by simpa using hc.2.2) hs hf
      · cases h
    · cases h
  | fail k =>
    obtain ⟨hc, h⟩ := Option.ite_none_right_eq_some.mp h
    split at h
    · rename_i a hs
      split at h
      · cases h
      · rename_i e hf; cases h; exact .fail hc.1 hc.2.1 (by simpa using hc.2.2) hs hf
    · cases h
  | pass k =>
    obtain ⟨hc, h⟩ := Option.ite_none_right_eq_some.mp h
    split at h
    · rename_i a hs; cases h; exact .pass hc.1 hc.2.1 hc.2.2.1 (by simpa using hc.2.2.2) hs
    · cases h
  | sink =>
    obtain ⟨hc, h⟩ := Option.ite_none_right_eq_some.mp h
    split at h
    · rename_i a hs; cases h; exact .sink hc.1 hc.2 hs
    · cases h
  | cancel k =>
    obtain ⟨hc, h⟩ := Option.ite_none_right_eq_some.mp h
    split at h
    · rename_i e he; cases h; exact .cancel hc he
    · cases h

theorem step_iff {l : Label} : step? S s l = some s' ↔ Step S s l s' := ⟨Step.of, Step.run⟩

end Knut.Pipeline
