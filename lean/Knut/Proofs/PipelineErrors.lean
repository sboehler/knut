import Knut.Proofs.Pipeline
/-!
# Every recorded error is one of the sequential first failures
-/
namespace Knut.Pipeline

variable {σ α ε : Type}
variable {S : Sys σ α ε} {s s' : St σ α ε} {f : σ → α → Except ε (σ × α)} {k : Nat}

theorem proc_cons_ok {s s' : σ} {a a' : α} (l : List α) (hf : f s a = .ok (s', a')) :
    ∀ i, proc f s (a :: l) (i + 1) = (proc f s' l i).map (fun p => (p.1, a' :: p.2))
  | 0 => by simp [proc, hf]
  | i + 1 => by
    rw [proc, proc_cons_ok l hf i, proc, List.getElem?_cons_succ]
    cases proc f s' l i with
    | none => rfl
    | some p =>
      obtain ⟨t, o⟩ := p
      simp only [Option.map_some]
      cases l[i]? with
      | none => rfl
      | some b =>
        simp only
        cases f t b with
        | error e => rfl
        | ok r => rfl

theorem proc_cons_error {s : σ} {a : α} {e : ε} (l : List α) (hf : f s a = .error e) : ∀ i, proc f s (a :: l) (i + 1) = none
  | 0 => by simp [proc, hf]
  | i + 1 => by rw [proc, proc_cons_error l hf i]

theorem runStage_of_proc :
    ∀ {l : List α} {s t : σ} {c : Nat} {o : List α}, proc f s l c = some (t, o) →
      runStage f s l = (o ++ (runStage f t (l.drop c)).1, (runStage f t (l.drop c)).2) := by
  intro l
  induction l with
  | nil =>
    intro s t c o hp
    have hc : c = 0 := by simpa using (proc_len hp).2
    subst hc
    obtain ⟨rfl, rfl⟩ := Prod.mk.inj (Option.some.inj hp)
    rfl
  | cons b l ih =>
    intro s t c o hp
    cases c with
    | zero =>
      obtain ⟨rfl, rfl⟩ := Prod.mk.inj (Option.some.inj hp)
      rfl
    | succ c =>
      cases hfb : f s b with
      | error e' => rw [proc_cons_error l hfb] at hp; cases hp
      | ok r =>
        obtain ⟨s', b'⟩ := r
        rw [proc_cons_ok l hfb] at hp
        obtain ⟨⟨t', o'⟩, hp', e⟩ := Option.map_eq_some_iff.mp hp
        obtain ⟨rfl, rfl⟩ := Prod.mk.inj e
        simp only [runStage, hfb, ih hp', List.drop_succ_cons, List.cons_append]

theorem runStage_of_proc_fail {l : List α} {s t : σ} {c : Nat} {o : List α} {a : α} {e : ε}
    (hp : proc f s l c = some (t, o)) (hg : l[c]? = some a) (hf : f t a = .error e) : runStage f s l = (o, some e) := by
  have hd : l.drop c = a :: l.drop (c + 1) := by
    rw [List.drop_eq_getElem_cons (lt_of_get hg)]
    congr 1
    exact Option.some.inj ((List.getElem?_eq_getElem _).symm.trans hg)
  rw [runStage_of_proc hp, hd]
  simp only [runStage, hf, List.append_nil]

theorem proc_prefix_runStage {l : List α} {s t : σ} {c : Nat} {o : List α}
    (hp : proc f s l c = some (t, o)) : o <+: (runStage f s l).1 := by
  rw [runStage_of_proc hp]; exact List.prefix_append _ _

theorem StageOK.hist_prefix {s0 st : σ} {inp hist : List α} {sl : Option (α × Bool)}
    (h : StageOK f s0 inp hist sl st) (r : List α) : hist <+: (runStage f s0 (inp ++ r)).1 := by
  cases h with
  | idle _ hp => exact proc_prefix_runStage ((proc_append _ r _ (proc_len hp).2).trans hp)
  | busy _ hp _ => exact proc_prefix_runStage ((proc_append _ r _ (proc_len hp).2).trans hp)
  | held _ hp =>
    exact (List.prefix_append _ _).trans (proc_prefix_runStage ((proc_append _ r _ (proc_len hp).2).trans hp))

theorem emitted_prefix_stream (hi : Inv S s) :
    ∀ k, k ≤ S.n → emitted S s k <+: stream S k := by
  intro k
  induction k with
  | zero => intro _; rw [emitted_zero]; exact List.take_prefix _ _
  | succ k ih =>
    intro hk
    obtain ⟨r, hr⟩ := ih (by omega)
    rw [emitted_succ, stream, ← hr]
    exact (hi.stage hk).hist_prefix r

theorem err_mem_seqErrors (hi : Inv S s) {e : ε} (he : s.err k = some e) :
    (k, e) ∈ seqErrors S := by
  obtain ⟨h1, hn, a, hsl, hf⟩ := hi.err_ok k e he
  obtain ⟨j, rfl⟩ : ∃ j, k = j + 1 := ⟨k - 1, by omega⟩
  obtain ⟨hp, hg⟩ := hi.data_busy j a (by omega) hsl
  obtain ⟨r, hr⟩ := emitted_prefix_stream hi j (by omega)
  have hlt := lt_of_get hg
  rw [← proc_append _ r _ (by omega)] at hp
  have hg' : (emitted S s j ++ r)[(s.hist (j + 1)).length]? = some a := by
    rw [List.getElem?_append_left hlt]; exact hg
  rw [hr] at hp hg'
  have := runStage_of_proc_fail hp hg' hf
  simp only [seqErrors, List.mem_filterMap, List.mem_range]
  exact ⟨j, by omega, by simp [this]⟩

end Knut.Pipeline
