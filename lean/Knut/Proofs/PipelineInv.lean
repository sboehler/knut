import Knut.Proofs.Pipeline
/-!
# Every step of the `cpr.Seq` transition system preserves the invariant

A step touches the slots of at most two neighbouring stages: those move along `StageOK.receive/work/emit`;
for every other stage the four things `Inv.stage` speaks of (input, history, slot, state) are unchanged.
-/
namespace Knut.Pipeline

variable {σ α ε : Type}
variable {S : Sys σ α ε} {s s' : St σ α ε} {k : Nat}

theorem emitted_congr (S : Sys σ α ε) {s s' : St σ α ε} (hf : s'.fed = s.fed) {j : Nat} (hh : s'.hist j = s.hist j) :
    emitted S s' j = emitted S s j := by
  unfold emitted; rw [hf, hh]

theorem err_ok_frame (hi : Inv S s) (herr : ∀ k, s'.err k = s.err k)
    (hkeep : ∀ k b, s.err k ≠ none → s.slot k = some (b, false) → s'.slot k = some (b, false) ∧ s'.st k = s.st k) :
    ∀ k e, s'.err k = some e → 1 ≤ k ∧ k ≤ S.n ∧ ∃ a, s'.slot k = some (a, false) ∧ S.f k (s'.st k) a = .error e := by
  intro k e he
  rw [herr] at he
  obtain ⟨h1, h2, b, hb, hf⟩ := hi.err_ok k e he
  obtain ⟨hs, ht⟩ := hkeep k b (by rw [he]; exact fun h => nomatch h) hb
  exact ⟨h1, h2, b, hs, ht ▸ hf⟩

theorem inv_step {l : Label} (hi : Inv S s) (h : step? S s l = some s') : Inv S s' := by
  cases Step.of h with
  | @feed a hc hn hs1 ha =>
    have hlt := lt_of_get ha
    have hem : ∀ j, 1 ≤ j → emitted S { s with fed := s.fed + 1, slot := upd s.slot 1 (some (a, false)) } j = emitted S s j :=
      fun j hj => (emitted_pos S _ hj).trans (emitted_pos S s hj).symm
    refine Inv.of_stages hlt ?_ ?_ ?_ hi.canc hi.rep hi.norep ?_
    · exact hi.out_eq.trans (hem S.n hn).symm
    · intro j hj
      rcases Nat.eq_zero_or_pos j with rfl | hj0
      · refine ((hi.stage hn).congr rfl rfl hs1.symm rfl |>.receive a).congr ?_ rfl (upd_same s.slot 1 _) rfl
        rw [emitted_zero, emitted_zero]; exact take_succ_of_get ha
      · exact (hi.stage hj).congr (hem j hj0) rfl (upd_other _ _ (by omega)) rfl
    · refine err_ok_frame hi (fun _ => rfl) ?_
      intro k b _ hb
      have : k ≠ 1 := by rintro rfl; rw [hs1] at hb; cases hb
      exact ⟨(upd_other _ _ this).trans hb, rfl⟩
    · intro k hk
      exact (upd_other _ _ (by omega)).trans (hi.outside k hk)
  | @direct a hc hn ha =>
    refine Inv.of_stages (lt_of_get ha) ?_ (fun k hk => absurd hk (by omega)) hi.err_ok hi.canc hi.rep hi.norep hi.outside
    have := hi.out_eq
    rw [hn, emitted_zero] at this ⊢
    show s.out ++ [a] = _
    rw [take_succ_of_get ha, this]
  | @work k a t a' hk1 hkn hek hsk hf =>
    refine Inv.of_stages hi.fed_le hi.out_eq ?_ ?_ hi.canc hi.rep hi.norep ?_
    · intro j hj
      by_cases hjk : j + 1 = k
      · subst hjk
        exact ((hi.stage hj).congr rfl rfl hsk.symm rfl |>.work hf).congr rfl rfl (upd_same _ _ _) (upd_same _ _ _)
      · exact (hi.stage hj).congr rfl rfl (upd_other _ _ hjk) (upd_other _ _ hjk)
    · refine err_ok_frame hi (fun _ => rfl) ?_
      intro j b hej hb
      have : j ≠ k := by rintro rfl; exact hej hek
      exact ⟨(upd_other _ _ this).trans hb, upd_other _ _ this⟩
    · intro j hj
      exact (upd_other _ _ (by omega)).trans (hi.outside j hj)
  | @fail k a e hk1 hkn hek hsk hf =>
    refine Inv.of_stages hi.fed_le hi.out_eq (fun _ => hi.stage) ?_ hi.canc ?_ hi.norep hi.outside
    · intro j e' he
      by_cases hjk : j = k
      · subst hjk
        have : e = e' := Option.some.inj ((upd_same _ _ _).symm.trans he)
        exact ⟨hk1, hkn, a, hsk, this ▸ hf⟩
      · exact hi.err_ok j e' ((upd_other _ _ hjk).symm.trans he)
    · intro j e' hr
      have := hi.rep j e' hr
      have hjk : j ≠ k := by rintro rfl; rw [hek] at this; cases this
      exact (upd_other _ _ hjk).trans this
  | @cancel k e hc he =>
    refine Inv.of_stages hi.fed_le hi.out_eq (fun _ => hi.stage) hi.err_ok (fun _ => ⟨k, e, rfl⟩) ?_ (fun hx => nomatch hx) hi.outside
    intro j e' hr
    obtain ⟨rfl, rfl⟩ := Prod.mk.inj (Option.some.inj hr)
    exact he
  | @pass k a hc hk1 hkn hnext hsk =>
    -- stage `k` hands its item on: for the stage itself, `emit`; for its neighbour — stage `k + 1`, whose input is what stage `k` has handed on — `receive`
    obtain ⟨k, rfl⟩ : ∃ i, k = i + 1 := ⟨k - 1, by omega⟩
    refine Inv.of_stages hi.fed_le ?_ ?_ ?_ hi.canc hi.rep hi.norep ?_
    · exact hi.out_eq.trans (emitted_congr S (by rfl) (upd_other _ _ (by omega))).symm
    · intro j hj
      by_cases h1 : j = k
      · subst h1
        exact ((hi.stage hj).congr rfl rfl hsk.symm rfl).emit.congr (emitted_congr S (by rfl) (upd_other _ _ (by omega))) (upd_same _ _ _)
          ((upd_other _ _ (by omega)).trans (upd_same _ _ _)) rfl
      · by_cases h2 : j = k + 1
        · subst h2
          refine ((hi.stage hj).congr rfl rfl hnext.symm rfl |>.receive a).congr ?_ (upd_other _ _ (by omega)) (upd_same _ _ _) rfl
          exact (emitted_succ S _ k).trans ((upd_same _ _ _).trans (congrArg (· ++ [a]) (emitted_succ S s k).symm))
        · exact (hi.stage hj).congr (emitted_congr S (by rfl) (upd_other _ _ h2)) (upd_other _ _ (by omega))
            ((upd_other _ _ (by omega)).trans (upd_other _ _ (by omega))) rfl
    · refine err_ok_frame hi (fun _ => rfl) ?_
      intro j b _ hb
      have h1 : j ≠ k + 1 := by rintro rfl; rw [hsk] at hb; cases hb
      have h2 : j ≠ k + 1 + 1 := by rintro rfl; rw [hnext] at hb; cases hb
      exact ⟨(upd_other _ _ h2).trans ((upd_other _ _ h1).trans hb), rfl⟩
    · intro j hj
      exact (upd_other _ _ (by omega)).trans ((upd_other _ _ (by omega)).trans (hi.outside j hj))
  | @sink a hc hn hsn =>
    obtain ⟨n, hn'⟩ : ∃ i, S.n = i + 1 := ⟨S.n - 1, by omega⟩
    rw [hn'] at hsn
    refine Inv.of_stages hi.fed_le ?_ ?_ ?_ hi.canc hi.rep hi.norep ?_
    · show s.out ++ [a] = _
      rw [hi.out_eq, emitted_pos S s hn, emitted_pos S _ hn]
      exact (upd_same _ _ _).symm
    · intro j hj
      by_cases h1 : j = n
      · subst h1
        exact ((hi.stage hj).congr rfl rfl hsn.symm rfl).emit.congr (emitted_congr S (by rfl) (upd_other _ _ (by omega)))
          (hn' ▸ upd_same _ _ _) (hn' ▸ upd_same _ _ _) rfl
      · exact (hi.stage hj).congr (emitted_congr S (by rfl) (upd_other _ _ (by omega))) (upd_other _ _ (by omega)) (upd_other _ _ (by omega)) rfl
    · refine err_ok_frame hi (fun _ => rfl) ?_
      intro j b _ hb
      have h1 : j ≠ S.n := by rintro rfl; rw [hn', hsn] at hb; cases hb
      exact ⟨(upd_other _ _ h1).trans hb, rfl⟩
    · intro j hj
      exact (upd_other _ _ (by omega)).trans (hi.outside j hj)

theorem inv_reach (h : Reach S s) : Inv S s := by
  induction h with
  | init => exact inv_initial S
  | step l _ hs ih => exact inv_step ih hs

end Knut.Pipeline
