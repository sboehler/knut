import Knut.Model.Pipeline
import Knut.Proofs.Sim
/-!
# The loader's fan-in hands every file over while its consumer drains; the journal builder receives every directive exactly once, whatever the arrival order
-/
namespace Knut.Pipeline

/-- the directives of date `d` and kind `k` in a list, in order -/
def sel (d : Int) (k : Kind) (l : List Dir) : List Dir := l.filter (fun x => x.date == d && x.kind == k)

theorem Day.get_add (dy : Day) (x : Dir) (k : Kind) :
    (dy.add x).get k = dy.get k ++ (if x.kind = k then [x] else []) := by
  cases hk : x.kind <;> cases k <;> simp [Day.add, Day.get, hk]

@[simp] theorem Day.add_date (dy : Day) (x : Dir) : (dy.add x).date = dy.date := by
  cases hk : x.kind <;> simp [Day.add, hk]

theorem Builder.get_nil (d : Int) (k : Kind) : Builder.get [] d k = [] := rfl

theorem Builder.get_cons (dy : Day) (ds : List Day) (d : Int) (k : Kind) :
    Builder.get (dy :: ds) d k = if dy.date = d then dy.get k else Builder.get ds d k := by
  by_cases h : dy.date = d
  · simp [Builder.get, h]
  · have : (dy.date == d) = false := by simpa using h
    simp [Builder.get, h, this]

theorem Builder.get_add (b : Builder) (x : Dir) (d : Int) (k : Kind) :
    (Builder.add b x).get d k = b.get d k ++ (if x.date = d ∧ x.kind = k then [x] else []) := by
  induction b with
  | nil =>
    simp only [Builder.add, Builder.get_cons, Builder.get_nil, Day.add_date, Day.get_add]
    by_cases hd : x.date = d
    · simp [hd, Day.get]; cases k <;> simp
    · simp [hd]
  | cons dy ds ih =>
    simp only [Builder.add]
    by_cases hx : dy.date = x.date
    · simp only [hx, if_true, Builder.get_cons, Day.add_date, Day.get_add]
      by_cases hd : x.date = d
      · simp [hd]
      · simp [hd]
    · simp only [hx, if_false, Builder.get_cons, ih]
      by_cases hd : dy.date = d
      · have : ¬ x.date = d := by rw [← hd]; exact fun h => hx h.symm
        simp [hd, this]
      · simp [hd]

theorem foldl_add_get (ds : List Dir) (b : Builder) (d : Int) (k : Kind) :
    (ds.foldl Builder.add b).get d k = b.get d k ++ sel d k ds := by
  induction ds generalizing b with
  | nil => simp [sel]
  | cons x xs ih =>
    simp only [List.foldl_cons, ih, Builder.get_add, sel, List.filter_cons]
    by_cases h : x.date = d ∧ x.kind = k
    · simp [h.1, h.2]
    · simp [h, show (x.date == d && x.kind == k) = false by simpa using h]

theorem fromModelStream_eq (arrival : List (List Dir)) : fromModelStream arrival = arrival.flatten.foldl Builder.add [] :=
  List.foldl_flatten.symm

theorem fromModelStream_get (arrival : List (List Dir)) (d : Int) (k : Kind) :
    (fromModelStream arrival).get d k = sel d k arrival.flatten := by
  rw [fromModelStream_eq, foldl_add_get, Builder.get_nil, List.nil_append]

theorem insertDay_perm (d : Day) (l : List Day) : (insertDay d l).Perm (d :: l) := by
  induction l with
  | nil => exact List.Perm.refl _
  | cons e es ih =>
    simp only [insertDay]
    split
    · exact List.Perm.refl _
    · exact (List.Perm.cons e ih).trans (List.Perm.swap d e es)

theorem build_perm (b : Builder) : b.build.Perm b := by
  induction b with
  | nil => exact List.Perm.refl _
  | cons d ds ih =>
    simp only [Builder.build, List.foldr_cons]
    exact (insertDay_perm d _).trans (List.Perm.cons d ih)

theorem insertDay_sorted (d : Day) (l : List Day) (h : l.Pairwise (fun a b => a.date ≤ b.date)) :
    (insertDay d l).Pairwise (fun a b => a.date ≤ b.date) := by
  induction l with
  | nil => simp [insertDay]
  | cons e es ih =>
    simp only [insertDay]
    have ⟨h1, h2⟩ := List.pairwise_cons.mp h
    split
    · rename_i hle
      refine List.pairwise_cons.mpr ⟨?_, h⟩
      intro x hx
      rcases List.mem_cons.mp hx with rfl | hx
      · exact hle
      · exact Int.le_trans hle (h1 x hx)
    · rename_i hnle
      refine List.pairwise_cons.mpr ⟨?_, ih h2⟩
      intro x hx
      have := (insertDay_perm d es).mem_iff.mp hx
      rcases List.mem_cons.mp this with rfl | hx
      · omega
      · exact h1 x hx

theorem build_sorted (b : Builder) : b.build.Pairwise (fun a b => a.date ≤ b.date) := by
  induction b with
  | nil => simp [Builder.build]
  | cons d ds ih =>
    simp only [Builder.build, List.foldr_cons]
    exact insertDay_sorted d _ ih

theorem fanStep_push {pf : Bool} {s s' : Fan} (h : fanStep pf s .push = some s') :
    0 < s.pending ∧ s.draining = true ∧ s' = { s with pending := s.pending - 1, delivered := s.delivered + 1 } := by
  simp only [fanStep] at h
  split at h
  · rename_i hc; exact ⟨hc.1, hc.2, (Option.some.inj h).symm⟩
  · cases h

theorem fanStep_abandon {pf : Bool} {s s' : Fan} (h : fanStep pf s .abandon = some s') :
    0 < s.pending ∧ s.cancelled = true ∧ s' = { s with pending := s.pending - 1 } := by
  simp only [fanStep] at h
  split at h
  · rename_i hc; exact ⟨hc.1, hc.2, (Option.some.inj h).symm⟩
  · cases h

theorem fanStep_cancel {pf : Bool} {s s' : Fan} (h : fanStep pf s .cancel = some s') :
    pf = true ∧ s.cancelled = false ∧ s' = { s with cancelled := true } := by
  simp only [fanStep] at h
  split at h
  · rename_i hc; exact ⟨hc.1, hc.2, (Option.some.inj h).symm⟩
  · cases h

theorem fan_run_counts {pf : Bool} {s s' : Fan} {ls : List FanLabel} (h : FanRun pf s ls s') :
    s'.pending + ls.count .push + ls.count .abandon = s.pending ∧ s'.delivered = s.delivered + ls.count .push ∧
    s'.draining = s.draining ∧ (s.cancelled = true → s'.cancelled = true) ∧
    (s'.cancelled = false → ls.count .abandon = 0) ∧ ls.count .cancel + (if s.cancelled then 1 else 0) ≤ 1 := by
  induction h with
  | nil => exact ⟨rfl, rfl, rfl, id, fun _ => rfl, by simp only [List.count_nil]; split <;> omega⟩
  | cons l hs _ ih =>
    obtain ⟨h1, h2, h3, h4, h5, h6⟩ := ih
    cases l with
    | push =>
      obtain ⟨hp, _, rfl⟩ := fanStep_push hs
      simp only [List.count_cons, beq_iff_eq, reduceCtorEq, if_true, if_false, Nat.add_zero] at h1 h2 h3 h4 h5 h6 ⊢
      exact ⟨by omega, by omega, h3, h4, h5, h6⟩
    | abandon =>
      obtain ⟨hp, hc, rfl⟩ := fanStep_abandon hs
      simp only [List.count_cons, beq_iff_eq, reduceCtorEq, if_true, if_false, Nat.add_zero] at h1 h2 h3 h4 h5 h6 ⊢
      refine ⟨by omega, h2, h3, h4, fun hf => ?_, h6⟩
      rw [h4 hc] at hf; cases hf
    | cancel =>
      obtain ⟨_, hc, rfl⟩ := fanStep_cancel hs
      simp only [List.count_cons, beq_iff_eq, reduceCtorEq, if_true, if_false, Nat.add_zero, hc] at h1 h2 h3 h4 h5 h6 ⊢
      exact ⟨h1, h2, h3, False.elim, h5, by omega⟩

theorem fan_length (ls : List FanLabel) : ls.length = ls.count .push + ls.count .abandon + ls.count .cancel := by
  induction ls with
  | nil => simp
  | cons l ls ih => cases l <;> simp [ih] <;> omega

theorem sameDirs_iff_perm (e o : List Dir) : sameDirs e o = true ↔ e.Perm o := by
  rw [List.perm_iff_count]
  simp only [sameDirs, List.all_eq_true, List.mem_append, beq_iff_eq]
  constructor
  · intro h a
    by_cases ha : a ∈ e ∨ a ∈ o
    · exact h a ha
    · have h1 : a ∉ e := fun x => ha (Or.inl x)
      have h2 : a ∉ o := fun x => ha (Or.inr x)
      rw [List.count_eq_zero_of_not_mem h1, List.count_eq_zero_of_not_mem h2]
  · intro h a _; exact h a

/-- the new directive goes to the end of one of the five slices; pull it to the front -/
theorem Day.all_add (d : Day) (x : Dir) : (d.add x).all.Perm (x :: d.all) := by
  have mid : ∀ l₁ l₂ : List Dir, (l₁ ++ (l₂ ++ [x])).Perm (x :: (l₁ ++ l₂)) := fun l₁ l₂ => by
    rw [← List.append_assoc]; exact List.perm_append_singleton _ _
  cases hk : x.kind <;> simp only [Day.all, Day.add, hk]
  · exact ((((List.perm_append_singleton x _).append_right _).append_right _).append_right _).append_right _
  · exact (((mid _ _).append_right _).append_right _).append_right _
  · exact ((mid _ _).append_right _).append_right _
  · exact (mid _ _).append_right _
  · exact mid _ _

theorem printed_add (b : Builder) (x : Dir) : (printed (Builder.add b x)).Perm (x :: printed b) := by
  induction b with
  | nil => simpa [printed, Builder.add, Day.all] using Day.all_add { date := x.date } x
  | cons d ds ih =>
    simp only [Builder.add]
    split
    · exact (Day.all_add d x).append_right _
    · exact (List.Perm.append_left _ ih).trans List.perm_middle

theorem printed_foldl_add (ds : List Dir) (b : Builder) : (printed (ds.foldl Builder.add b)).Perm (printed b ++ ds) := by
  induction ds generalizing b with
  | nil => simp
  | cons x xs ih => exact ((ih _).trans ((printed_add b x).append_right xs)).trans List.perm_middle.symm

theorem printed_stream (arrival : List (List Dir)) : (printed (fromModelStream arrival)).Perm arrival.flatten := by
  rw [fromModelStream_eq]; exact printed_foldl_add arrival.flatten []

/-- every directive sits in the day of its date -/
def DayWF (b : List Day) : Prop := ∀ d ∈ b, ∀ x ∈ d.all, x.date = d.date

theorem mem_all_add {d : Day} {x y : Dir} (h : y ∈ (d.add x).all) : y = x ∨ y ∈ d.all := by
  have := (Day.all_add d x).mem_iff.mp h
  simpa using this

theorem dayWF_add {b : Builder} (h : DayWF b) (x : Dir) : DayWF (Builder.add b x) := by
  induction b with
  | nil =>
    intro d hd y hy
    simp only [Builder.add, List.mem_singleton] at hd
    subst hd
    rcases mem_all_add hy with rfl | hy
    · simp
    · simp [Day.all] at hy
  | cons e es ih =>
    simp only [Builder.add]
    split
    · rename_i heq
      intro d hd y hy
      rcases List.mem_cons.mp hd with rfl | hd
      · rcases mem_all_add hy with rfl | hy
        · simp [heq]
        · simpa using h e List.mem_cons_self y hy
      · exact h d (List.mem_cons_of_mem _ hd) y hy
    · intro d hd y hy
      rcases List.mem_cons.mp hd with rfl | hd
      · exact h d List.mem_cons_self y hy
      · exact ih (fun d hd => h d (List.mem_cons_of_mem _ hd)) d hd y hy

theorem dayWF_stream (arrival : List (List Dir)) : DayWF (fromModelStream arrival) := by
  rw [fromModelStream_eq]
  exact foldl_inv DayWF _ [] (fun _ x _ h => dayWF_add h x) (fun d hd => nomatch hd)

theorem printed_sorted {days : List Day} (hwf : DayWF days) (hs : days.Pairwise (fun a b => a.date ≤ b.date)) :
    (printed days).Pairwise (fun a b => a.date ≤ b.date) := by
  refine List.pairwise_flatMap.mpr ⟨fun d hd => ?_, hs.imp_of_mem fun {d e} hd he hle x hx y hy => ?_⟩
  · -- within a day all dates are equal
    refine List.pairwise_of_forall_mem_list fun x hx y hy => ?_
    rw [hwf d hd x hx, hwf d hd y hy]; exact Int.le_refl _
  · rw [hwf d hd x hx, hwf e he y hy]; exact hle

/-- **the census predicate holds on the model**: what the built journal prints is, for every arrival
order, exactly the arriving directives, in date order -/
theorem census_model (arrival : List (List Dir)) :
    censusOK arrival.flatten (printed (fromModelStream arrival).build) = true := by
  simp only [censusOK, Bool.and_eq_true]
  constructor
  · rw [sameDirs_iff_perm]
    exact (((build_perm _).flatMap_right Day.all).trans (printed_stream arrival)).symm
  · simp only [datesSorted, decide_eq_true_eq]
    apply printed_sorted
    · intro d hd
      exact dayWF_stream arrival d ((build_perm _).mem_iff.mp hd)
    · exact build_sorted _

end Knut.Pipeline
