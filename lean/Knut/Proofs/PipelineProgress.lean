import Knut.Proofs.Pipeline
/-!
# Progress and the sequential result of the `cpr.Seq` transition system

An unfinished, unstopped state can step (`progress`), and a finished run delivered what the stages compute one after the other
(`done_seqRun`: `Properties/C19` reads `C19_confluent` off it, `FactsAgree/TransProcessAll` the sequential meaning of `Journal.Process`);
`step_frame` and `run_err_persist`: a recorded error stays, and a cancelled run only finishes work in hand.
-/
namespace Knut.Pipeline

variable {σ α ε : Type}
variable {S : Sys σ α ε} {s s' : St σ α ε} {k : Nat}

theorem le_of_chain {g : Nat → Nat} {n : Nat} (h : ∀ k, k < n → g (k + 1) ≤ g k) :
    ∀ {j k : Nat}, j ≤ k → k ≤ n → g k ≤ g j := by
  intro j k hjk
  induction hjk with
  | refl => exact fun _ => Nat.le_refl _
  | step _ ih => exact fun hk => Nat.le_trans (h _ hk) (ih (Nat.le_of_succ_le hk))

theorem emitted_len_le (hi : Inv S s) {j k : Nat} (hjk : j ≤ k) (hk : k ≤ S.n) :
    (emitted S s k).length ≤ (emitted S s j).length :=
  le_of_chain (g := fun i => (emitted S s i).length) (fun i hi' => Nat.le.intro (hi.chain i hi')) hjk hk

theorem emitted_len_lt (hi : Inv S s) {j k : Nat} (hjk : j < k) (hk : k ≤ S.n)
    (hocc : (s.slot k).isSome) : (emitted S s k).length + 1 ≤ (emitted S s j).length := by
  obtain ⟨k', rfl⟩ : ∃ k', k = k' + 1 := ⟨k - 1, by omega⟩
  have h1 := emitted_len_le hi (show j ≤ k' by omega) (by omega)
  have h2 := hi.chain k' (by omega)
  simp only [occ, hocc] at h2
  simp at h2
  omega

theorem emitted_zero_len (hi : Inv S s) : (emitted S s 0).length = s.fed := by
  simp [emitted, Nat.min_eq_left hi.fed_le]

theorem emitted_len_le_items (hi : Inv S s) (hk : k ≤ S.n) :
    (emitted S s k).length ≤ S.items.length := by
  have := emitted_len_le hi (Nat.zero_le k) hk
  rw [emitted_zero_len hi] at this
  have := hi.fed_le
  omega

theorem exists_max (P : Nat → Prop) (n : Nat) (h : ∃ k, k ≤ n ∧ P k) :
    ∃ k, k ≤ n ∧ P k ∧ ∀ j, k < j → j ≤ n → ¬ P j := by
  induction n with
  | zero =>
    obtain ⟨k, hk, hp⟩ := h
    obtain rfl := Nat.le_zero.mp hk
    exact ⟨0, Nat.le_refl _, hp, fun j h1 h2 => absurd h1 (Nat.not_lt.mpr h2)⟩
  | succ n ih =>
    by_cases hp : P (n + 1)
    · exact ⟨n + 1, Nat.le_refl _, hp, fun j h1 h2 => absurd h1 (Nat.not_lt.mpr h2)⟩
    · obtain ⟨k, hk, hpk⟩ := h
      have hkn : k ≤ n := by
        rcases Nat.lt_or_eq_of_le hk with x | rfl
        · exact Nat.le_of_lt_succ x
        · exact absurd hpk hp
      obtain ⟨k, hk, hpk, hmax⟩ := ih ⟨k, hkn, hpk⟩
      refine ⟨k, Nat.le_succ_of_le hk, hpk, fun j h1 h2 => ?_⟩
      rcases Nat.lt_or_eq_of_le h2 with x | rfl
      · exact hmax j h1 (Nat.le_of_lt_succ x)
      · exact hp

theorem can_work_or_fail {a : α} (h1 : 1 ≤ k) (hn : k ≤ S.n)
    (hs : s.slot k = some (a, false)) (he : s.err k = none) : ∃ l s', step? S s l = some s' := by
  cases hf : S.f k (s.st k) a with
  | ok r => exact ⟨_, _, (Step.work h1 hn he hs hf).run⟩
  | error e => exact ⟨_, _, (Step.fail h1 hn he hs hf).run⟩

theorem slot_range (hi : Inv S s) (h : (s.slot k).isSome) : 1 ≤ k ∧ k ≤ S.n := by
  refine ⟨Nat.pos_of_ne_zero fun h0 => ?_, Nat.le_of_not_lt fun hlt => ?_⟩
  · rw [hi.outside k (.inl h0)] at h; cases h
  · rw [hi.outside k (.inr hlt)] at h; cases h

theorem progress {S : Sys σ α ε} {s : St σ α ε} (hi : Inv S s) (hd : ¬ s.done S) (hs : ¬ s.stopped) :
    ∃ l s', step? S s l = some s' := by
  cases hc : s.cancelled with
  | true =>
    -- some stage function is still running
    obtain ⟨k, a, hk, he⟩ : ∃ k a, s.slot k = some (a, false) ∧ s.err k = none :=
      Classical.byContradiction fun hne => hs ⟨hc, fun k a hk he => hne ⟨k, a, hk, he⟩⟩
    have ⟨h1, hn⟩ := slot_range hi (k := k) (by rw [hk]; rfl)
    exact can_work_or_fail h1 hn hk he
  | false =>
    by_cases herr : ∃ k e, s.err k = some e
    · obtain ⟨k, e, he⟩ := herr
      exact ⟨_, _, (Step.cancel hc he).run⟩
    · have hnoerr : ∀ k, s.err k = none := fun k => Option.eq_none_iff_forall_ne_some.mpr fun e he => herr ⟨k, e, he⟩
      have hlen : s.out.length ≠ S.items.length := fun h => hd ⟨hc, hnoerr, h⟩
      by_cases hocc : ∃ k, k ≤ S.n ∧ (s.slot k).isSome
      · -- the last occupied stage can work, or hand its item on
        obtain ⟨k, hkn, hk, hmax⟩ := exists_max (fun k => (s.slot k).isSome = true) S.n hocc
        have ⟨h1, _⟩ := slot_range hi hk
        obtain ⟨⟨a, d⟩, hsk⟩ := Option.isSome_iff_exists.mp hk
        cases d with
        | false => exact can_work_or_fail h1 hkn hsk (hnoerr k)
        | true =>
          by_cases hlast : k = S.n
          · subst hlast
            exact ⟨_, _, (Step.sink hc h1 hsk).run⟩
          · have hlt : k < S.n := Nat.lt_of_le_of_ne hkn hlast
            exact ⟨_, _, (Step.pass hc h1 hlt
              (Option.not_isSome_iff_eq_none.mp (hmax (k + 1) (Nat.lt_succ_self k) hlt)) hsk).run⟩
      · -- the pipeline is empty: everything fed has been delivered
        have hnone : ∀ k, s.slot k = none := fun k =>
          Option.not_isSome_iff_eq_none.mp fun hk => hocc ⟨k, (slot_range hi hk).2, hk⟩
        have hall : ∀ k, k ≤ S.n → (emitted S s k).length = s.fed := by
          intro k
          induction k with
          | zero => intro _; exact emitted_zero_len hi
          | succ k ih => intro hk; rw [emitted_succ, hi.idle_len hk (hnone _)]; exact ih (Nat.le_of_lt hk)
        have hfed : s.fed < S.items.length := by
          have := hi.fed_le
          have := hall S.n (Nat.le_refl _)
          rw [← hi.out_eq] at this
          omega
        have hget : S.items[s.fed]? = some (S.items[s.fed]'hfed) := List.getElem?_eq_getElem hfed
        by_cases hn : S.n = 0
        · exact ⟨_, _, (Step.direct hc hn hget).run⟩
        · exact ⟨_, _, (Step.feed hc (Nat.pos_of_ne_zero hn) (hnone 1) hget).run⟩

theorem done_all (hi : Inv S s) (hd : s.done S) :
    s.fed = S.items.length ∧ (∀ k, k ≤ S.n → (emitted S s k).length = S.items.length) ∧ ∀ k, s.slot k = none := by
  obtain ⟨_, _, hlen⟩ := hd
  have hn : (emitted S s S.n).length = S.items.length := by rw [← hi.out_eq]; exact hlen
  have hall : ∀ k, k ≤ S.n → (emitted S s k).length = S.items.length := by
    intro k hk
    have h1 := emitted_len_le hi hk (Nat.le_refl _)
    have h2 := emitted_len_le_items hi hk
    omega
  have hfed : s.fed = S.items.length := by
    have := hall 0 (Nat.zero_le _)
    rwa [emitted_zero_len hi] at this
  refine ⟨hfed, hall, fun k => Option.not_isSome_iff_eq_none.mp fun hk => ?_⟩
  have ⟨h1, h2⟩ := slot_range hi hk
  have := emitted_len_lt hi h1 h2 hk
  rw [hall k h2, hall 0 (Nat.zero_le _)] at this
  omega

theorem done_seq (hi : Inv S s) (hd : s.done S) :
    ∀ k, k ≤ S.n → seqUpTo S k = some (emitted S s k) := by
  obtain ⟨hfed, hall, hnone⟩ := done_all hi hd
  intro k
  induction k with
  | zero =>
    intro _
    simp [seqUpTo, emitted, hfed]
  | succ k ih =>
    intro hk
    have hd := hi.data_idle k (by omega) (hnone (k + 1))
    have h1 := hall (k + 1) hk
    have h0 := hall k (by omega)
    rw [emitted_succ] at h1
    simp only [seqUpTo, ih (by omega), Option.bind_some, seqStage]
    rw [h0, ← h1, hd, emitted_succ]
    rfl

/-- what the commands take over from the pipeline: a run that ended successfully has delivered the sequential result -/
theorem done_seqRun (hi : Inv S s) (hd : s.done S) : seqRun S = some s.out :=
  hi.out_eq ▸ done_seq hi hd S.n (Nat.le_refl _)

theorem run_reach {S : Sys σ α ε} {s s' : St σ α ε} {ls : List Label} (h : Run S s ls s') (hr : Reach S s) : Reach S s' := by
  induction h with
  | nil => exact hr
  | cons l hs _ ih => exact ih (Reach.step l hr hs)

theorem step_frame {l : Label} (h : step? S s l = some s') :
    (∀ k e, s.err k = some e → s'.err k = some e) ∧
    (s.cancelled = true → (∃ k, l = .work k ∨ l = .fail k) ∧ s'.cancelled = true) := by
  cases Step.of h with
  | work => exact ⟨fun _ _ he => he, fun hc => ⟨⟨_, .inl rfl⟩, hc⟩⟩
  | @fail j _ _ _ _ hej =>
    refine ⟨fun k e he => ?_, fun hc => ⟨⟨_, .inr rfl⟩, hc⟩⟩
    have hjk : k ≠ j := by rintro rfl; rw [hej] at he; cases he
    exact (upd_other _ _ hjk).trans he
  | feed hx | direct hx | pass hx | sink hx | cancel hx => exact ⟨fun _ _ he => he, fun hc => nomatch hx.symm.trans hc⟩

theorem run_err_persist {ls : List Label} (h : Run S s ls s') {e : ε}
    (he : s.err k = some e) : s'.err k = some e := by
  induction h with
  | nil => exact he
  | cons l hs _ ih => exact ih ((step_frame hs).1 k e he)

end Knut.Pipeline
