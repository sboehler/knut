import Knut.Proofs.PipelineProgress
import Knut.Proofs.PipelineTrace
import Knut.Proofs.PipelineInv
/-!
# Every run of the `cpr.Seq` transition system is logged as a trace the relaxed acceptor accepts

Since the acceptor counts every event and its counters are bounded, this also bounds the length of a run.
-/
namespace Knut.Pipeline

variable {σ α ε : Type}
variable {S : Sys σ α ε} {s s' : St σ α ε} {k : Nat}

def doneBit (s : St σ α ε) (k : Nat) : Nat :=
  match s.slot k with
  | some (_, true) => 1
  | _ => 0

/-- the acceptor state a pipeline state is logged as: stage `k` has begun what it has handed on plus the item it holds, and
ended what it has handed on plus a held item whose function has returned (`doneBit`) -/
def accOf (S : Sys σ α ε) (s : St σ α ε) : Acc :=
  { begun := fun k => if 1 ≤ k ∧ k ≤ S.n then (s.hist k).length + occ s k else 0,
    ended := fun k => if 1 ≤ k ∧ k ≤ S.n then (s.hist k).length + doneBit s k else 0,
    dead := fun k => (s.err k).isSome,
    sunk := s.out.length }

theorem accOf_initial (S : Sys σ α ε) : accOf S (St.initial S) = Acc.initial := by
  simp only [accOf, Acc.initial, St.initial, occ, doneBit]
  congr 1 <;> funext k <;> simp

/-! The two counters of a stage are the number of items it has handed on, plus one each for an item received and an
item finished: they depend on its history and slot only. -/

theorem accOf_stage (S : Sys σ α ε) (s : St σ α ε) (h1 : 1 ≤ k) (hn : k ≤ S.n) :
    (accOf S s).begun k = (s.hist k).length + occ s k ∧ (accOf S s).ended k = (s.hist k).length + doneBit s k :=
  ⟨if_pos ⟨h1, hn⟩, if_pos ⟨h1, hn⟩⟩

theorem accOf_slot (S : Sys σ α ε) (s : St σ α ε) (h1 : 1 ≤ k) (hn : k ≤ S.n) {sl : Option (α × Bool)} (hs : s.slot k = sl) :
    (accOf S s).begun k = (s.hist k).length + (if sl.isSome then 1 else 0) ∧
    (accOf S s).ended k = (s.hist k).length + (if sl.any (·.2) then 1 else 0) := by
  have h := accOf_stage S s h1 hn
  rw [occ, doneBit, hs] at h
  obtain _ | ⟨a, _ | _⟩ := sl <;> exact h

theorem accOf_same (S : Sys σ α ε) {s s' : St σ α ε} (hh : s'.hist k = s.hist k) (hs : s'.slot k = s.slot k) :
    (accOf S s').begun k = (accOf S s).begun k ∧ (accOf S s').ended k = (accOf S s).ended k := by
  simp only [accOf, occ, doneBit, hh, hs]
  exact ⟨trivial, trivial⟩

theorem accOf_emit (S : Sys σ α ε) {s s' : St σ α ε} {a : α} (h1 : 1 ≤ k) (hn : k ≤ S.n)
    (hs : s.slot k = some (a, true)) (hs' : s'.slot k = none) (hh : s'.hist k = s.hist k ++ [a]) :
    (accOf S s').begun k = (accOf S s).begun k ∧ (accOf S s').ended k = (accOf S s).ended k := by
  have h := accOf_slot S s h1 hn hs
  have h' := accOf_slot S s' h1 hn hs'
  rw [hh, List.length_append] at h'
  exact ⟨h'.1.trans h.1.symm, h'.2.trans h.2.symm⟩

theorem err_none_of_slot_none (hi : Inv S s) (h : s.slot k = none) : s.err k = none := by
  cases he : s.err k with
  | none => rfl
  | some e =>
    obtain ⟨_, _, a, hs, _⟩ := hi.err_ok k e he
    rw [h] at hs; cases hs

/-- **simulation**: every step is logged as one event the acceptor takes, from the acceptor state of the
state before to that of the state after; the cancellation is not logged and happens once -/
theorem sim_step {l : Label} (hi : Inv S s) (h : step? S s l = some s') :
    match l.event with
    | some e => accStep S.n S.items.length (accOf S s) e = some (accOf S s') ∧ s'.cancelled = s.cancelled
    | none => accOf S s' = accOf S s ∧ s.cancelled = false ∧ s'.cancelled = true := by
  cases Step.of h with
  | @feed a hc hn hs1 ha =>
    -- stage 1, idle, receives item number `fed`
    have hb := accOf_slot S s (Nat.le_refl 1) hn hs1
    have hb' := accOf_slot S { s with fed := s.fed + 1, slot := upd s.slot 1 (some (a, false)) } (Nat.le_refl 1) hn (upd_same s.slot 1 _)
    refine ⟨accStep_begin_of ⟨Nat.le_refl 1, hn, congrArg Option.isSome (err_none_of_slot_none hi hs1), hb.1.trans hb.2.symm, ?_⟩
      ⟨hb'.1.trans (congrArg (· + 1) hb.1.symm), hb'.2.trans hb.2.symm⟩
      (fun j hj => accOf_same S rfl (upd_other _ _ hj)) (fun _ => rfl) rfl, rfl⟩
    rw [upstream, if_pos rfl, hb.1, hi.idle_len hn hs1, emitted_zero_len hi]
    exact lt_of_get ha
  | @direct a hc hn ha =>
    -- no stage: the source hands item number `fed` to the sink, whose limit is then the number of items
    refine ⟨accStep_sink_of ?_ (fun _ => ⟨rfl, rfl⟩) (fun _ => rfl) List.length_append, rfl⟩
    show s.out.length < _
    rw [sinkLimit, if_pos hn, hi.out_eq, hn, emitted_zero_len hi]
    exact lt_of_get ha
  | @work k a t a' hk1 hkn hek hsk hf =>
    -- stage `k`, busy, finishes its item: `ended k` catches up with `begun k`
    have hb := accOf_slot S s hk1 hkn hsk
    have hb' := accOf_slot S { s with st := upd s.st k t, slot := upd s.slot k (some (a', true)) } hk1 hkn (upd_same s.slot k _)
    exact ⟨accStep_done_of ⟨hk1, hkn, congrArg Option.isSome hek, hb.1.trans (congrArg (· + 1) hb.2.symm)⟩
      ⟨hb'.1.trans hb.1.symm, hb'.2.trans (congrArg (· + 1) hb.2.symm)⟩
      (fun j hj => accOf_same S rfl (upd_other _ _ hj)) (fun _ => rfl) rfl, rfl⟩
  | @fail k a e hk1 hkn hek hsk hf =>
    -- stage `k`, busy, fails: no counter moves, the stage is dead from here on
    have hb := accOf_slot S s hk1 hkn hsk
    exact ⟨accStep_fail_of ⟨hk1, hkn, congrArg Option.isSome hek, hb.1.trans (congrArg (· + 1) hb.2.symm)⟩
      (fun _ => ⟨rfl, rfl⟩) (congrArg Option.isSome (upd_same s.err k (some e)))
      (fun j hj => congrArg Option.isSome (upd_other s.err (some e) hj)) rfl, rfl⟩
  | @pass k a hc hk1 hkn hnext hsk =>
    -- stage `k` hands on what it holds (its counters stay), stage `k + 1`, idle, receives it
    have hkk : k ≠ k + 1 := Nat.ne_of_lt (Nat.lt_succ_self k)
    have h1 : 1 ≤ k + 1 := Nat.le_add_left 1 k
    have hb := accOf_slot S s h1 hkn hnext
    have hb' := accOf_slot S { s with slot := upd (upd s.slot k none) (k + 1) (some (a, false)), hist := upd s.hist k (s.hist k ++ [a]) } h1 hkn
      (upd_same (upd s.slot k none) (k + 1) _)
    dsimp only at hb'
    rw [show upd s.hist k (s.hist k ++ [a]) (k + 1) = s.hist (k + 1) from upd_other _ _ hkk.symm] at hb'
    refine ⟨accStep_begin_of ⟨h1, hkn, congrArg Option.isSome (err_none_of_slot_none hi hnext), hb.1.trans hb.2.symm, ?_⟩
      ⟨hb'.1.trans (congrArg (· + 1) hb.1.symm), hb'.2.trans hb.2.symm⟩ ?_ (fun _ => rfl) rfl, rfl⟩
    · rw [upstream, if_neg (Nat.succ_ne_succ.mpr (Nat.ne_of_gt hk1)), Nat.add_sub_cancel, hb.1,
        (accOf_slot S s hk1 (Nat.le_of_lt hkn) hsk).2, hi.idle_len hkn hnext, emitted_pos S s hk1]
      exact Nat.lt_succ_self _
    · intro j hj1
      by_cases hj : j = k
      · subst hj
        exact accOf_emit S hk1 (Nat.le_of_lt hkn) hsk ((upd_other _ _ hkk).trans (upd_same _ _ _)) (upd_same _ _ _)
      · exact accOf_same S (upd_other _ _ hj) ((upd_other _ _ hj1).trans (upd_other _ _ hj))
  | @sink a hc hn hsn =>
    -- the last stage hands on what it holds (its counters stay); `sunk` stays within what that stage has ended
    refine ⟨accStep_sink_of ?_ (forall_of_at S.n ?_ fun j hj => accOf_same S (upd_other _ _ hj) (upd_other _ _ hj))
      (fun _ => rfl) List.length_append, rfl⟩
    · show s.out.length < _
      rw [sinkLimit, if_neg (Nat.ne_of_gt hn), (accOf_slot S s hn (Nat.le_refl _) hsn).2, hi.out_eq, emitted_pos S s hn]
      exact Nat.lt_succ_self _
    · exact accOf_emit S hn (Nat.le_refl _) hsn (upd_same _ _ _) (upd_same _ _ _)
  | @cancel k e hc _ =>
    -- not logged: the acceptor state does not see `cancelled`
    exact ⟨rfl, hc, rfl⟩

def traceOf (ls : List Label) : List Ev := ls.filterMap Label.event

theorem sim_run {ls : List Label} (h : Run S s ls s') (hi : Inv S s) :
    accRun S.n S.items.length (accOf S s) (traceOf ls) = some (accOf S s') ∧
    ls.length + (if s.cancelled then 1 else 0) = (traceOf ls).length + (if s'.cancelled then 1 else 0) := by
  induction h with
  | nil => exact ⟨rfl, rfl⟩
  | cons l hs _ ih =>
    have hstep := sim_step hi hs
    obtain ⟨ih1, ih2⟩ := ih (inv_step hi hs)
    simp only [traceOf, List.filterMap_cons, List.length_cons] at ih1 ih2 ⊢
    cases he : l.event with
    | none =>
      rw [he] at hstep
      rw [hstep.1] at ih1
      rw [hstep.2.2] at ih2
      rw [hstep.2.1]
      exact ⟨ih1, by simp at ih2 ⊢; omega⟩
    | some e =>
      rw [he] at hstep
      rw [hstep.2] at ih2
      simp only [accRun, hstep.1, Option.bind_some, List.length_cons]
      exact ⟨ih1, by omega⟩

/-- **termination**: from the initial state no schedule takes more than `(2n+1)m + 1` steps — every step
but the cancellation is an event the acceptor counts, and its counters are bounded -/
theorem run_bound {ls : List Label} (h : Run S (St.initial S) ls s) :
    ls.length ≤ (2 * S.n + 1) * S.items.length + 1 := by
  obtain ⟨hacc, hlen⟩ := sim_run h (inv_initial S)
  have htot := accRun_total hacc
  have hbound := accInv_total (accInv_run (accOf_initial S ▸ accInv_initial S.n S.items.length) hacc)
  have h0 : (accOf S (St.initial S)).total S.n = 0 := by rw [accOf_initial]; exact Acc.total_initial _
  have hc : (if (St.initial S).cancelled then 1 else 0) = 0 := rfl
  have : (if s.cancelled then 1 else 0) ≤ 1 := by split <;> omega
  omega

end Knut.Pipeline
