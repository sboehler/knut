import Knut.Proofs.Pipeline
/-!
# The relaxed trace acceptor: what acceptance of a logged trace implies
-/
namespace Knut.Pipeline

variable {n m : Nat} {a a' : Acc} {k : Nat}

/-- what holds of the acceptor's counters after every accepted trace: a stage works on one item at a time (`one`), a dead
stage keeps its item (`dead`), stage `k` begins only what stage `k - 1` ended (`dep`, `src` for the source), the sink
receives only what the last stage ended (`sinkn`; `sink0` without stages) -/
structure AccInv (n m : Nat) (a : Acc) : Prop where
  one : ∀ k, a.ended k ≤ a.begun k ∧ a.begun k ≤ a.ended k + 1
  dead : ∀ k, a.dead k = true → a.begun k = a.ended k + 1
  dep : ∀ k, 2 ≤ k → k ≤ n → a.begun k ≤ a.ended (k - 1)
  src : a.begun 1 ≤ m
  sink0 : n = 0 → a.sunk ≤ m
  sinkn : 0 < n → a.sunk ≤ a.ended n
  outside : ∀ k, (k = 0 ∨ n < k) → a.begun k = 0 ∧ a.ended k = 0 ∧ a.dead k = false

theorem accInv_initial (n m : Nat) : AccInv n m Acc.initial := by
  constructor <;> simp [Acc.initial]

theorem accStep_begin (h : accStep n m a (.begin k) = some a') :
    1 ≤ k ∧ k ≤ n ∧ a.dead k = false ∧ a.begun k = a.ended k ∧ (k = 1 → a.begun 1 < m) ∧ (k ≠ 1 → a.begun k < a.ended (k - 1)) ∧
    a' = { a with begun := upd a.begun k (a.begun k + 1) } := by
  simp only [accStep] at h
  split at h
  · rename_i hc
    injection h with h
    refine ⟨hc.1, hc.2.1, hc.2.2.1, hc.2.2.2.1, ?_, ?_, h.symm⟩
    · intro h1; have := hc.2.2.2.2; subst h1; simpa [upstream] using this
    · intro h1; have := hc.2.2.2.2; simpa [upstream, h1] using this
  · cases h

theorem accStep_done (h : accStep n m a (.done k) = some a') :
    1 ≤ k ∧ k ≤ n ∧ a.dead k = false ∧ a.begun k = a.ended k + 1 ∧ a' = { a with ended := upd a.ended k (a.ended k + 1) } := by
  simp only [accStep] at h
  split at h
  · rename_i hc
    injection h with h
    exact ⟨hc.1, hc.2.1, hc.2.2.1, hc.2.2.2, h.symm⟩
  · cases h

theorem accStep_fail (h : accStep n m a (.fail k) = some a') :
    1 ≤ k ∧ k ≤ n ∧ a.dead k = false ∧ a.begun k = a.ended k + 1 ∧ a' = { a with dead := upd a.dead k true } := by
  simp only [accStep] at h
  split at h
  · rename_i hc
    injection h with h
    exact ⟨hc.1, hc.2.1, hc.2.2.1, hc.2.2.2, h.symm⟩
  · cases h

theorem accStep_sink (h : accStep n m a .sink = some a') :
    (n = 0 → a.sunk < m) ∧ (n ≠ 0 → a.sunk < a.ended n) ∧ a' = { a with sunk := a.sunk + 1 } := by
  simp only [accStep] at h
  split at h
  · rename_i hc
    injection h with h
    refine ⟨?_, ?_, h.symm⟩
    · intro h0; simpa [sinkLimit, h0] using hc
    · intro h0; simpa [sinkLimit, h0] using hc
  · cases h

theorem Acc.ext' {a b : Acc} (h1 : ∀ k, a.begun k = b.begun k) (h2 : ∀ k, a.ended k = b.ended k)
    (h3 : ∀ k, a.dead k = b.dead k) (h4 : a.sunk = b.sunk) : a = b := by
  cases a; cases b
  simp only [Acc.mk.injEq]
  exact ⟨funext h1, funext h2, funext h3, h4⟩

theorem accStep_begin_of
    (hg : 1 ≤ k ∧ k ≤ n ∧ a.dead k = false ∧ a.begun k = a.ended k ∧ a.begun k < upstream m a k)
    (hk : a'.begun k = a.begun k + 1 ∧ a'.ended k = a.ended k)
    (ho : ∀ j, j ≠ k → a'.begun j = a.begun j ∧ a'.ended j = a.ended j)
    (hd : ∀ j, a'.dead j = a.dead j) (hs : a'.sunk = a.sunk) : accStep n m a (.begin k) = some a' := by
  rw [accStep, if_pos hg]
  exact congrArg some (Acc.ext' (forall_of_at k ((upd_same _ _ _).trans hk.1.symm) fun j hj => (upd_other _ _ hj).trans (ho j hj).1.symm)
    (forall_of_at k hk.2.symm fun j hj => (ho j hj).2.symm) (fun j => (hd j).symm) hs.symm)

theorem accStep_done_of
    (hg : 1 ≤ k ∧ k ≤ n ∧ a.dead k = false ∧ a.begun k = a.ended k + 1)
    (hk : a'.begun k = a.begun k ∧ a'.ended k = a.ended k + 1)
    (ho : ∀ j, j ≠ k → a'.begun j = a.begun j ∧ a'.ended j = a.ended j)
    (hd : ∀ j, a'.dead j = a.dead j) (hs : a'.sunk = a.sunk) : accStep n m a (.done k) = some a' := by
  rw [accStep, if_pos hg]
  exact congrArg some (Acc.ext' (forall_of_at k hk.1.symm fun j hj => (ho j hj).1.symm)
    (forall_of_at k ((upd_same _ _ _).trans hk.2.symm) fun j hj => (upd_other _ _ hj).trans (ho j hj).2.symm)
    (fun j => (hd j).symm) hs.symm)

theorem accStep_fail_of
    (hg : 1 ≤ k ∧ k ≤ n ∧ a.dead k = false ∧ a.begun k = a.ended k + 1)
    (hc : ∀ j, a'.begun j = a.begun j ∧ a'.ended j = a.ended j)
    (hk : a'.dead k = true) (ho : ∀ j, j ≠ k → a'.dead j = a.dead j) (hs : a'.sunk = a.sunk) :
    accStep n m a (.fail k) = some a' := by
  rw [accStep, if_pos hg]
  exact congrArg some (Acc.ext' (fun j => (hc j).1.symm) (fun j => (hc j).2.symm)
    (forall_of_at k ((upd_same _ _ _).trans hk.symm) fun j hj => (upd_other _ _ hj).trans (ho j hj).symm) hs.symm)

theorem accStep_sink_of (hg : a.sunk < sinkLimit n m a)
    (hc : ∀ j, a'.begun j = a.begun j ∧ a'.ended j = a.ended j) (hd : ∀ j, a'.dead j = a.dead j)
    (hs : a'.sunk = a.sunk + 1) : accStep n m a .sink = some a' := by
  rw [accStep, if_pos hg]
  exact congrArg some (Acc.ext' (fun j => (hc j).1.symm) (fun j => (hc j).2.symm) (fun j => (hd j).symm) hs.symm)

theorem accInv_step {e : Ev} (hi : AccInv n m a) (h : accStep n m a e = some a') : AccInv n m a' := by
  cases e with
  | begin k =>
    -- only `begun k` moves: one up, from `ended k`, and stays below what is upstream
    obtain ⟨h1, hn, hd, hbe, hs1, hsk, rfl⟩ := accStep_begin h
    exact { hi with
      one := upd_cases (fun j b => a.ended j ≤ b ∧ b ≤ a.ended j + 1) (by omega) fun j _ => hi.one j
      dead := upd_cases (fun j b => a.dead j = true → b = a.ended j + 1) (fun hx => by rw [hd] at hx; cases hx) fun j _ => hi.dead j
      dep := upd_cases (fun j b => 2 ≤ j → j ≤ n → b ≤ a.ended (j - 1)) (fun h2 _ => hsk (by omega)) fun j _ => hi.dep j
      src := upd_cases (fun j b => j = 1 → b ≤ m) (fun hk => by subst hk; exact hs1 rfl) (fun _ _ hj => hj ▸ hi.src) 1 rfl
      outside := upd_cases (fun j b => j = 0 ∨ n < j → b = 0 ∧ a.ended j = 0 ∧ a.dead j = false) (by omega) fun j _ => hi.outside j }
  | done k =>
    -- only `ended k` moves: one up, to `begun k`
    obtain ⟨h1, hn, hd, hbe, rfl⟩ := accStep_done h
    exact { hi with
      one := upd_cases (fun j b => b ≤ a.begun j ∧ a.begun j ≤ b + 1) (by omega) fun j _ => hi.one j
      dead := upd_cases (fun j b => a.dead j = true → a.begun j = b + 1) (fun hx => by rw [hd] at hx; cases hx) fun j _ => hi.dead j
      dep := fun j h2 hjn => upd_cases (fun i b => i = j - 1 → a.begun j ≤ b)
        (fun hx => by have := hi.dep j h2 hjn; rw [← hx] at this; omega) (fun _ _ hx => hx ▸ hi.dep j h2 hjn) (j - 1) rfl
      sinkn := fun h0 => upd_cases (fun i b => i = n → a.sunk ≤ b)
        (fun hx => by have := hi.sinkn h0; rw [← hx] at this; omega) (fun _ _ hx => hx ▸ hi.sinkn h0) n rfl
      outside := upd_cases (fun j b => j = 0 ∨ n < j → a.begun j = 0 ∧ b = 0 ∧ a.dead j = false) (by omega) fun j _ => hi.outside j }
  | fail k =>
    obtain ⟨h1, hn, hd, hbe, rfl⟩ := accStep_fail h
    exact { hi with
      dead := upd_cases (fun j b => b = true → a.begun j = a.ended j + 1) (fun _ => hbe) fun j _ => hi.dead j
      outside := upd_cases (fun j b => j = 0 ∨ n < j → a.begun j = 0 ∧ a.ended j = 0 ∧ b = false) (by omega) fun j _ => hi.outside j }
  | sink =>
    obtain ⟨h0, hn, rfl⟩ := accStep_sink h
    exact { hi with sink0 := fun hz => h0 hz, sinkn := fun hz => hn (by omega) }

theorem accRun_cons {e : Ev} {es : List Ev} (h : accRun n m a (e :: es) = some a') :
    ∃ a1, accStep n m a e = some a1 ∧ accRun n m a1 es = some a' := by
  simp only [accRun] at h
  cases hs : accStep n m a e with
  | none => rw [hs] at h; cases h
  | some a1 => rw [hs] at h; exact ⟨a1, rfl, h⟩

theorem accRun_nil (h : accRun n m a [] = some a') : a' = a := (Option.some.inj h).symm

theorem accInv_run : ∀ {tr : List Ev} {a a' : Acc}, AccInv n m a → accRun n m a tr = some a' → AccInv n m a' := by
  intro tr
  induction tr with
  | nil => intro a a' hi h; exact accRun_nil h ▸ hi
  | cons e es ih =>
    intro a a' hi h
    obtain ⟨a1, hs, hr⟩ := accRun_cons h
    exact ih (accInv_step hi hs) hr

theorem accRun_append : ∀ {p q : List Ev} {a a' : Acc}, accRun n m a (p ++ q) = some a' →
    ∃ a1, accRun n m a p = some a1 ∧ accRun n m a1 q = some a' := by
  intro p
  induction p with
  | nil => intro q a a' h; exact ⟨a, rfl, h⟩
  | cons e es ih =>
    intro q a a' h
    obtain ⟨a1, hs, hr⟩ := accRun_cons h
    obtain ⟨a2, h1, h2⟩ := ih hr
    exact ⟨a2, by simp only [accRun, hs, Option.bind_some]; exact h1, h2⟩

/-- the counter an event advances; a stage's dead flag counts as 0 or 1 -/
def Acc.counter (a : Acc) : Ev → Nat
  | .begin k => a.begun k
  | .done k => a.ended k
  | .fail k => if a.dead k then 1 else 0
  | .sink => a.sunk

theorem accStep_counter {e : Ev} (h : accStep n m a e = some a') (c : Ev) :
    a'.counter c = a.counter c + (if e == c then 1 else 0) := by
  cases e with
  | begin k =>
    obtain ⟨_, _, _, _, _, _, rfl⟩ := accStep_begin h
    cases c with
    | begin j =>
      exact upd_cases (fun j b => b = a.begun j + if Ev.begin k == Ev.begin j then 1 else 0) (by simp)
        (fun j hj => by simp [Ne.symm hj]) j
    | _ => simp [Acc.counter]
  | done k =>
    obtain ⟨_, _, _, _, rfl⟩ := accStep_done h
    cases c with
    | done j =>
      exact upd_cases (fun j b => b = a.ended j + if Ev.done k == Ev.done j then 1 else 0) (by simp)
        (fun j hj => by simp [Ne.symm hj]) j
    | _ => simp [Acc.counter]
  | fail k =>
    obtain ⟨_, _, hd, _, rfl⟩ := accStep_fail h
    cases c with
    | fail j =>
      exact upd_cases (fun j (b : Bool) => (if b then 1 else 0) = (if a.dead j then 1 else 0) + if Ev.fail k == Ev.fail j then 1 else 0)
        (by simp [hd]) (fun j hj => by simp [Ne.symm hj]) j
    | _ => simp [Acc.counter]
  | sink =>
    obtain ⟨_, _, rfl⟩ := accStep_sink h
    cases c <;> simp [Acc.counter]

theorem accRun_counts : ∀ {tr : List Ev} {a a' : Acc}, accRun n m a tr = some a' →
    ∀ c, a'.counter c = a.counter c + tr.count c := by
  intro tr
  induction tr with
  | nil => intro a a' h c; rw [accRun_nil h]; rfl
  | cons e es ih =>
    intro a a' h c
    obtain ⟨a1, hs, hr⟩ := accRun_cons h
    rw [ih hr c, accStep_counter hs c, List.count_cons]; omega

def countsOf (tr : List Ev) : Acc :=
  ⟨fun k => tr.count (.begin k), fun k => tr.count (.done k), fun k => tr.contains (.fail k), tr.count .sink⟩

/-- the state after an accepted trace is its event counts: the acceptor's guards are statements about counts -/
theorem accept_eq {tr : List Ev} {a : Acc} (h : accept n m tr = some a) : a = countsOf tr := by
  have hc : ∀ c, a.counter c = tr.count c := fun c =>
    (accRun_counts h c).trans (by cases c <;> exact Nat.zero_add _)
  obtain ⟨b, e, d, s⟩ := a
  simp only [countsOf, Acc.mk.injEq]
  refine ⟨funext fun k => hc (.begin k), funext fun k => hc (.done k), funext fun k => ?_, hc .sink⟩
  have h1 : (if d k then 1 else 0) = tr.count (.fail k) := hc (.fail k)
  cases hd : d k with
  | true =>
    rw [hd, if_pos rfl] at h1
    exact (List.contains_iff_mem.mpr (List.count_pos_iff.mp (by omega))).symm
  | false =>
    rw [hd, if_neg Bool.false_ne_true] at h1
    exact (Bool.eq_false_iff.mpr fun hf => by
      have := List.count_pos_iff.mpr (List.contains_iff_mem.mp hf); omega).symm

theorem accept_inv {tr : List Ev} {a : Acc} (h : accept n m tr = some a) : AccInv n m (countsOf tr) :=
  accept_eq h ▸ accInv_run (accInv_initial n m) h

theorem acc_mono {a : Acc} (hi : AccInv n m a) {j : Nat} (hj : 1 ≤ j) :
    ∀ d, j + d ≤ n → a.begun (j + d) ≤ a.begun j ∧ a.ended (j + d) ≤ a.ended j := by
  intro d
  induction d with
  | zero => intro _; exact ⟨Nat.le_refl _, Nat.le_refl _⟩
  | succ d ih =>
    intro h
    have h1 := ih (by omega)
    have h2 := hi.dep (j + (d + 1)) (by omega) h
    have h3 := hi.one (j + (d + 1))
    have h4 := hi.one (j + d)
    rw [show j + (d + 1) - 1 = j + d by omega] at h2
    omega

theorem acc_chain {a : Acc} (hi : AccInv n m a) (k : Nat) (h1 : 1 ≤ k) (hk : k ≤ n) : a.begun k ≤ m ∧ a.ended k ≤ m := by
  have h2 := acc_mono hi (Nat.le_refl 1) (k - 1) (by omega)
  rw [show 1 + (k - 1) = k by omega] at h2
  have := hi.src
  have := hi.one k
  omega

theorem acc_sunk_all {a : Acc} (hi : AccInv n m a) (hs : a.sunk = m) (hn : 0 < n) (k : Nat) (h1 : 1 ≤ k) (hk : k ≤ n) :
    a.begun k = m ∧ a.ended k = m := by
  have h2 := acc_mono hi h1 (n - k) (by omega)
  rw [show k + (n - k) = n by omega] at h2
  have := hi.sinkn hn
  have := acc_chain hi k h1 hk
  have := hi.one k
  omega

def sumStages (g : Nat → Nat) : Nat → Nat
  | 0 => 0
  | n + 1 => sumStages g n + g (n + 1)

theorem sumStages_le {g : Nat → Nat} {c : Nat} : ∀ n, (∀ k, 1 ≤ k → k ≤ n → g k ≤ c) → sumStages g n ≤ n * c := by
  intro n
  induction n with
  | zero => intro _; simp [sumStages]
  | succ n ih =>
    intro h
    have h1 := ih (fun k h1 hk => h k h1 (by omega))
    have h2 := h (n + 1) (by omega) (Nat.le_refl _)
    simp only [sumStages, Nat.add_mul, Nat.one_mul]; omega

theorem sumStages_congr {g g' : Nat → Nat} : ∀ n, (∀ j, 1 ≤ j → j ≤ n → g' j = g j) → sumStages g' n = sumStages g n := by
  intro n
  induction n with
  | zero => intro _; rfl
  | succ n ih =>
    intro h
    simp only [sumStages]
    rw [ih (fun j h1 hj => h j h1 (by omega)), h (n + 1) (by omega) (Nat.le_refl _)]

theorem sumStages_succ_at {g g' : Nat → Nat} (hk : g' k = g k + 1) (hoth : ∀ j, j ≠ k → g' j = g j) :
    ∀ n, 1 ≤ k → k ≤ n → sumStages g' n = sumStages g n + 1 := by
  intro n
  induction n with
  | zero => intro h1 hn; omega
  | succ n ih =>
    intro h1 hn
    simp only [sumStages]
    by_cases hkn : k = n + 1
    · rw [sumStages_congr n (fun j _ hj => hoth j (by omega)), ← hkn, hk]; omega
    · rw [ih h1 (by omega), hoth (n + 1) (fun h => hkn h.symm)]; omega

/-- the number of events stage `k` has logged -/
def Acc.stage (a : Acc) (k : Nat) : Nat := a.begun k + a.ended k + (if a.dead k then 1 else 0)

/-- the number of events an acceptor state has counted -/
def Acc.total (n : Nat) (a : Acc) : Nat := sumStages a.stage n + a.sunk

theorem Acc.total_initial (n : Nat) : Acc.initial.total n = 0 :=
  Nat.add_eq_zero_iff.mpr ⟨Nat.le_zero.mp (sumStages_le (c := 0) n fun _ _ _ => Nat.le_refl 0), rfl⟩

theorem accStep_total {e : Ev} (h : accStep n m a e = some a') : a'.total n = a.total n + 1 := by
  -- an event of stage `k` adds one to that stage's summand
  have stage : ∀ {a' : Acc} {k : Nat}, 1 ≤ k → k ≤ n → a'.sunk = a.sunk → a'.stage k = a.stage k + 1 →
      (∀ j, j ≠ k → a'.stage j = a.stage j) → a'.total n = a.total n + 1 := by
    intro a' k h1 hn hs hk ho
    rw [Acc.total, Acc.total, sumStages_succ_at hk ho n h1 hn, hs]; omega
  cases e with
  | begin k =>
    obtain ⟨h1, hn, _, _, _, _, rfl⟩ := accStep_begin h
    exact stage h1 hn rfl (by simp only [Acc.stage, upd_same]; omega) fun j hj => by simp only [Acc.stage, upd_other _ _ hj]
  | done k =>
    obtain ⟨h1, hn, _, _, rfl⟩ := accStep_done h
    exact stage h1 hn rfl (by simp only [Acc.stage, upd_same]; omega) fun j hj => by simp only [Acc.stage, upd_other _ _ hj]
  | fail k =>
    obtain ⟨h1, hn, hd, _, rfl⟩ := accStep_fail h
    exact stage h1 hn rfl (by simp only [Acc.stage, upd_same, hd]; simp) fun j hj => by simp only [Acc.stage, upd_other _ _ hj]
  | sink =>
    obtain ⟨_, _, rfl⟩ := accStep_sink h
    exact (Nat.add_assoc _ _ _).symm

theorem accRun_total : ∀ {tr : List Ev} {a a' : Acc}, accRun n m a tr = some a' → a'.total n = a.total n + tr.length := by
  intro tr
  induction tr with
  | nil => intro a a' h; rw [accRun_nil h]; rfl
  | cons e es ih =>
    intro a a' h
    obtain ⟨a1, hs, hr⟩ := accRun_cons h
    rw [ih hr, accStep_total hs, List.length_cons]; omega

/-- a stage counts at most `2m` events (a failed one holds its `begun`-th item for ever), the sink at most `m` -/
theorem accInv_total {a : Acc} (hi : AccInv n m a) : a.total n ≤ (2 * n + 1) * m := by
  have hstages : sumStages a.stage n ≤ n * (2 * m) := by
    apply sumStages_le
    intro k h1 hk
    unfold Acc.stage
    have h2 := acc_chain hi k h1 hk
    have h3 := hi.one k
    cases hd : a.dead k with
    | false => simp; omega
    | true => have := hi.dead k hd; simp; omega
  have hsunk : a.sunk ≤ m := by
    rcases Nat.eq_zero_or_pos n with h0 | hn
    · exact hi.sink0 h0
    · have := hi.sinkn hn
      have := (acc_chain hi n hn (Nat.le_refl _)).2
      omega
  have e : (2 * n + 1) * m = n * (2 * m) + m := by rw [Nat.add_mul, Nat.one_mul, Nat.mul_comm 2 n, Nat.mul_assoc]
  unfold Acc.total
  omega

theorem laccRun_cons {e : LEv} {es : List LEv} (h : laccRun n m a (e :: es) = some a') :
    labelsOK a e = true ∧ ∃ a1, accStep n m a e.erase = some a1 ∧ laccRun n m a1 es = some a' := by
  simp only [laccRun] at h
  split at h
  · rename_i hl
    refine ⟨hl, ?_⟩
    cases hs : accStep n m a e.erase with
    | none => rw [hs] at h; cases h
    | some a1 => rw [hs] at h; exact ⟨a1, rfl, h⟩
  · cases h

theorem laccRun_erase : ∀ {tr : List LEv} {a a' : Acc}, laccRun n m a tr = some a' →
    accRun n m a (tr.map LEv.erase) = some a' := by
  intro tr
  induction tr with
  | nil => intro a a' h; exact h
  | cons e es ih =>
    intro a a' h
    obtain ⟨_, a1, hs, hr⟩ := laccRun_cons h
    simp only [List.map_cons, accRun, hs, Option.bind_some]
    exact ih hr

theorem laccRun_append : ∀ {p q : List LEv} {a a' : Acc}, laccRun n m a (p ++ q) = some a' →
    ∃ a1, laccRun n m a p = some a1 ∧ laccRun n m a1 q = some a' := by
  intro p
  induction p with
  | nil => intro q a a' h; exact ⟨a, rfl, h⟩
  | cons e es ih =>
    intro q a a' h
    obtain ⟨hl, a1, hs, hr⟩ := laccRun_cons h
    obtain ⟨a2, h1, h2⟩ := ih hr
    exact ⟨a2, by simp only [laccRun, hl, if_true, hs, Option.bind_some]; exact h1, h2⟩

/-- Counter `c` of the acceptor numbers the events that advance it (`hmk`: the label check lets through only `mk` of the
counter's value).  So the events of an accepted trace that erase to `c` are `mk` of the values the counter went through, in order. -/
theorem lacc_numbered {c : Ev} {mk : Nat → LEv}
    (hmk : ∀ (a : Acc) (e : LEv), e.erase = c → labelsOK a e = true → e = mk (a.counter c)) :
    ∀ {tr : List LEv} {a a' : Acc}, laccRun n m a tr = some a' →
      tr.filter (fun e => e.erase == c) = (List.range' (a.counter c) (a'.counter c - a.counter c)).map mk := by
  intro tr
  induction tr with
  | nil => intro a a' h; cases h; rw [Nat.sub_self]; rfl
  | cons e es ih =>
    intro a a' h
    obtain ⟨hl, a1, hs, hr⟩ := laccRun_cons h
    have hmono : a1.counter c ≤ a'.counter c := Nat.le.intro (accRun_counts (laccRun_erase hr) c).symm
    have hc := accStep_counter hs c
    rw [List.filter_cons, ih hr]
    by_cases he : e.erase = c
    · rw [he, beq_self_eq_true, if_pos rfl] at hc
      rw [if_pos (beq_iff_eq.mpr he), hmk a e he hl, hc, ← List.map_cons, ← List.range'_succ]
      congr 2; omega
    · rw [if_neg (by simpa using he), Nat.add_zero] at hc
      rw [if_neg (by simpa using he), hc]

theorem lacc_mem {c : Ev} {mk : Nat → LEv}
    (hmk : ∀ (a : Acc) (e : LEv), e.erase = c → labelsOK a e = true → e = mk (a.counter c))
    {tr : List LEv} (h : laccRun n m a tr = some a') (i : Nat) (h1 : a.counter c ≤ i) (h2 : i < a'.counter c) : mk i ∈ tr := by
  have : mk i ∈ tr.filter (fun e => e.erase == c) := by
    rw [lacc_numbered hmk h]
    exact List.mem_map_of_mem (List.mem_range'_1.mpr ⟨h1, by omega⟩)
  exact (List.mem_filter.mp this).1

theorem done_numbered (k : Nat) (a : Acc) (e : LEv) (he : e.erase = .done k) (hl : labelsOK a e = true) :
    e = .done k (a.counter (.done k)) := by
  cases e <;> simp_all [LEv.erase, labelsOK, Acc.counter]

theorem begin_numbered (k : Nat) (a : Acc) (e : LEv) (he : e.erase = .begin k) (hl : labelsOK a e = true) :
    e = .begin k (a.counter (.begin k)) := by
  cases e <;> simp_all [LEv.erase, labelsOK, Acc.counter]

theorem lacc_done_mem {tr : List LEv} (h : laccRun n m a tr = some a') (k i : Nat)
    (h1 : a.ended k ≤ i) (h2 : i < a'.ended k) : LEv.done k i ∈ tr :=
  lacc_mem (done_numbered k) h i h1 h2

theorem lacc_begin_mem {tr : List LEv} (h : laccRun n m a tr = some a') (k i : Nat)
    (h1 : a.begun k ≤ i) (h2 : i < a'.begun k) : LEv.begin k i ∈ tr :=
  lacc_mem (begin_numbered k) h i h1 h2

def begunItems (k : Nat) (tr : List LEv) : List Nat :=
  tr.filterMap (fun e => match e with | .begin k' i => if k' = k then some i else none | _ => none)

def LEv.label : LEv → Nat
  | .begin _ i => i | .done _ i => i | .fail _ i => i | .sink i => i

theorem begunItems_eq (k : Nat) : ∀ tr : List LEv, begunItems k tr = (tr.filter (fun e => e.erase == .begin k)).map LEv.label
  | [] => rfl
  | e :: es => by
    have ih := begunItems_eq k es
    unfold begunItems at ih ⊢
    rw [List.filterMap_cons, List.filter_cons, ih]
    cases e with
    | begin k' i => by_cases h : k' = k <;> simp [LEv.erase, LEv.label, h]
    | _ => simp [LEv.erase]

theorem lacc_begun_items (k : Nat) {tr : List LEv} (h : laccRun n m a tr = some a') :
    begunItems k tr = List.range' (a.begun k) (a'.begun k - a.begun k) := by
  rw [begunItems_eq, lacc_numbered (begin_numbered k) h, List.map_map]
  exact List.map_id'' (fun _ => rfl) _

end Knut.Pipeline
