import Knut.Model.Weights
import Knut.Proofs.Builder
import Knut.Proofs.Partition
import Knut.Proofs.Sim
import Knut.Proofs.LedgerCommand
/-! C20: `Perf` without its window test (`chunkLines`: chain the daily factors, print and reset on period end days), what it prints per
period end, the chain of factors over days without flows, and what `setup` hands to them: the days with the period ends
registered, the partition's increasing period ends, the days `Perf` looks at (`perfSpan`).  `perfFrom` as `valuedDay` day by day
followed by `perfDaysV` (`valuedDays`, `perfFrom_eq`, `perfFrom_perfDaysV`) stands, under fixed names, in
FactsAgree/TransPerformanceDay.lean; the converse (`valuedDays_of_perfFrom`, `perfFrom_ok_valued`) in Properties/C20Go2.lean. -/
namespace Knut.Performance
open Knut

theorem perfDay_ok {cfg : Cfg} {ps ps' : PState} {d : Day} {p : DayPerf} (h : perfDay cfg ps d = .ok (ps', p)) :
    ∃ txs, valuedDay cfg ps.bal d = .ok (ps'.bal, txs) ∧ ps'.values = valuesDay cfg ps.values txs ∧
      ps'.prev = ps'.values ∧
      p = { date := d.date, v0 := ps.prev, v1 := ps'.values, inflow := (dayFlows cfg txs).1,
            outflow := (dayFlows cfg txs).2.1, portfolioFlows := (dayFlows cfg txs).2.2 } := by
  obtain ⟨⟨bal, txs⟩, hv, h⟩ := bindOk_iff.mp h
  cases h
  exact ⟨txs, hv, rfl, rfl, rfl⟩

theorem perfDay_date {cfg : Cfg} {ps ps' : PState} {d : Day} {p : DayPerf} (h : perfDay cfg ps d = .ok (ps', p)) :
    p.date = d.date ∧ p.v0 = ps.prev ∧ p.v1 = ps'.prev := by
  obtain ⟨_, _, _, hprev, rfl⟩ := perfDay_ok h
  exact ⟨rfl, rfl, hprev.symm⟩

theorem perfFrom_nil {cfg : Cfg} {ps : PState} {perfs : List DayPerf} (h : perfFrom cfg ps [] = .ok perfs) :
    perfs = [] := by
  cases h; rfl

theorem perfFrom_cons {cfg : Cfg} {ps : PState} {d : Day} {rest : List Day} {perfs : List DayPerf}
    (h : perfFrom cfg ps (d :: rest) = .ok perfs) :
    ∃ ps1 p perfs', perfDay cfg ps d = .ok (ps1, p) ∧ perfFrom cfg ps1 rest = .ok perfs' ∧ perfs = p :: perfs' := by
  obtain ⟨⟨ps1, p⟩, hd, h⟩ := bindOk_iff.mp h
  obtain ⟨perfs', hr, h⟩ := bindOk_iff.mp h
  cases h
  exact ⟨ps1, p, perfs', hd, hr, rfl⟩

theorem perfFrom_dates {cfg : Cfg} : ∀ (days : List Day) (ps : PState) (perfs : List DayPerf),
    perfFrom cfg ps days = .ok perfs → perfs.map (·.date) = days.map (·.date) := by
  intro days
  induction days with
  | nil => intro ps perfs h; rw [perfFrom_nil h]; rfl
  | cons d rest ih =>
    intro ps perfs h
    obtain ⟨ps1, p, perfs', hd, hr, rfl⟩ := perfFrom_cons h
    rw [List.map_cons, List.map_cons, (perfDay_date hd).1, ih ps1 perfs' hr]

/-- `V0` of a day is `V1` of the day before (`prev` is handed on) -/
def Linked : AMap Commodity Rat → List DayPerf → Prop
  | _, [] => True
  | prev, p :: rest => p.v0 = prev ∧ Linked p.v1 rest

theorem perfFrom_linked {cfg : Cfg} : ∀ (days : List Day) (ps : PState) (perfs : List DayPerf),
    perfFrom cfg ps days = .ok perfs → Linked ps.prev perfs := by
  intro days
  induction days with
  | nil => intro ps perfs h; rw [perfFrom_nil h]; trivial
  | cons d rest ih =>
    intro ps perfs h
    obtain ⟨ps1, p, perfs', hd, hr, rfl⟩ := perfFrom_cons h
    obtain ⟨_, h0, h1⟩ := perfDay_date hd
    exact ⟨h0, h1 ▸ ih ps1 perfs' hr⟩

/-- `Perf` on the days inside the window: chain, report and reset on period end days -/
def chunkLines (ends : List Int) : Option Rat → List DayPerf → List (Int × Option Rat)
  | _, [] => []
  | running, p :: rest =>
    if ends.contains p.date then (p.date, (mulOpt running (factor p)).map (· - 1)) :: chunkLines ends (some 1) rest
    else chunkLines ends (mulOpt running (factor p)) rest

theorem chunkLines_cons (ends : List Int) (r : Option Rat) (p : DayPerf) (rest : List DayPerf) :
    chunkLines ends r (p :: rest) =
      if ends.contains p.date then (p.date, (mulOpt r (factor p)).map (· - 1)) :: chunkLines ends (some 1) rest
      else chunkLines ends (mulOpt r (factor p)) rest := rfl

theorem perfLines_eq_chunk (span : Period) (ends : List Int) : ∀ (perfs : List DayPerf) (r : Option Rat),
    perfLines span ends r perfs = chunkLines ends r (perfs.filter (fun p => span.contains p.date)) := by
  intro perfs
  induction perfs with
  | nil => intro r; rfl
  | cons p rest ih =>
    intro r
    unfold perfLines
    by_cases hc : span.contains p.date = true
    · simp only [hc, Bool.not_true, Bool.false_eq_true, if_false, List.filter_cons, if_true]
      rw [chunkLines_cons]
      split
      · rw [ih]
      · rw [ih]
    · have hc' : span.contains p.date = false := by simpa using hc
      simp only [hc', Bool.not_false, if_true, List.filter_cons, Bool.false_eq_true, if_false]
      exact ih r

theorem chunkLines_dates (ends : List Int) : ∀ (L : List DayPerf) (r : Option Rat),
    (chunkLines ends r L).map (·.1) = (L.map (·.date)).filter (fun d => ends.contains d) := by
  intro L
  induction L with
  | nil => intro r; rfl
  | cons p rest ih =>
    intro r
    rw [chunkLines_cons, List.map_cons, List.filter_cons]
    split
    · rw [List.map_cons, ih]
    · rw [ih]

theorem perfLines_dates (span : Period) (ends : List Int) (perfs : List DayPerf) (r : Option Rat) :
    (perfLines span ends r perfs).map (·.1) =
      (perfs.map (·.date)).filter (fun d => span.contains d && ends.contains d) := by
  rw [perfLines_eq_chunk, chunkLines_dates, List.filter_map, List.filter_map, List.filter_filter]
  exact congrArg _ (List.filter_congr fun p _ => Bool.and_comm _ _)

/-- **every period**: if the period end days exist in the journal (they are registered before it is built), the printed
dates are exactly the period ends inside the window, each once, in order -/
theorem perfLines_every_period (span : Period) (ends : List Int) (perfs : List DayPerf) (r : Option Rat)
    (hs : List.Pairwise (· < ·) (perfs.map (·.date))) (he : List.Pairwise (· < ·) ends)
    (hreg : ∀ e ∈ ends, e ∈ perfs.map (·.date)) :
    (perfLines span ends r perfs).map (·.1) = ends.filter (fun e => span.contains e) := by
  rw [perfLines_dates]
  apply MapSum.increasing_ext (hs.filter _) (he.filter _)
  intro x
  simp only [List.mem_filter, Bool.and_eq_true, List.contains_iff_mem]
  constructor
  · rintro ⟨_, h1, h2⟩; exact ⟨h2, h1⟩
  · rintro ⟨h1, h2⟩; exact ⟨hreg x h1, h2, h1⟩

theorem mulOpt_one (a : Option Rat) : mulOpt a (some 1) = a := by
  cases a <;> simp [mulOpt, Rat.mul_one]

theorem chunkLines_all_one (ends : List Int) : ∀ (L : List DayPerf), (∀ p ∈ L, factor p = some 1) →
    ∀ l ∈ chunkLines ends (some 1) L, l.2 = some 0 := by
  intro L
  induction L with
  | nil => intro _ l hl; cases hl
  | cons p rest ih =>
    intro h l hl
    have ih' := ih (fun q hq => h q (List.mem_cons_of_mem _ hq)) l
    rw [chunkLines_cons, h p List.mem_cons_self, mulOpt_one] at hl
    split at hl
    · rcases List.mem_cons.mp hl with rfl | hl
      · exact congrArg some Rat.sub_self
      · exact ih' hl
    · exact ih' hl

theorem factor_one_of_net_flow (p : DayPerf) (hpf : p.portfolioFlows = 0)
    (hnet : sumVals p.v1 - sumVals p.v0 = p.inflow + p.outflow) (hden : sumVals p.v0 + p.inflow ≠ 0) :
    factor p = some 1 := by
  have hnum : sumVals p.v1 - p.outflow = sumVals p.v0 + p.inflow := by grind
  simp only [factor, hpf, Rat.lt_irrefl, Rat.zero_add, hnum, if_neg hden, Rat.div_def,
    Rat.mul_inv_cancel _ hden, ite_self]

theorem factor_no_flows (p : DayPerf) (hpf : p.portfolioFlows = 0) (hi : p.inflow = 0) (ho : p.outflow = 0)
    (h0 : sumVals p.v0 ≠ 0) : factor p = some (sumVals p.v1 / sumVals p.v0) := by
  simp only [factor, hpf, hi, ho, Rat.lt_irrefl, if_false, Rat.add_zero, Rat.sub_eq_add_neg, Rat.neg_zero, and_self,
    and_true, if_neg h0]
  split
  · rename_i heq
    rw [← heq, Rat.div_def, Rat.mul_inv_cancel _ h0]
  · rfl

/-- `start` times the product of `V1 / V0` over the records: the chained growth factor of days without flows -/
def chainFactor (start : Rat) : List DayPerf → Rat
  | [] => start
  | p :: rest => chainFactor (start * (sumVals p.v1 / sumVals p.v0)) rest

/-- `V1` of the last record (`prev` if there is none) -/
def lastV1 : AMap Commodity Rat → List DayPerf → AMap Commodity Rat
  | prev, [] => prev
  | _, p :: rest => lastV1 p.v1 rest

theorem lastV1_append : ∀ (X Y : List DayPerf) (prev : AMap Commodity Rat),
    lastV1 prev (X ++ Y) = lastV1 (lastV1 prev X) Y := by
  intro X
  induction X with
  | nil => intro Y prev; rfl
  | cons x rest ih => intro Y prev; exact ih Y x.v1

theorem linked_append : ∀ (X Y : List DayPerf) (prev : AMap Commodity Rat),
    Linked prev (X ++ Y) → Linked prev X ∧ Linked (lastV1 prev X) Y := by
  intro X
  induction X with
  | nil => intro Y prev h; exact ⟨trivial, h⟩
  | cons x rest ih =>
    intro Y prev h
    obtain ⟨h0, h1⟩ := h
    obtain ⟨i1, i2⟩ := ih Y x.v1 h1
    exact ⟨⟨h0, i1⟩, i2⟩

/-- telescoping: over linked days without flows the chained factor is (last V1) / (first V0) -/
theorem chain_telescopes : ∀ (perfs : List DayPerf) (prev : AMap Commodity Rat) (acc first : Rat),
    Linked prev perfs → (∀ p ∈ perfs, sumVals p.v0 ≠ 0) → first ≠ 0 → acc = sumVals prev / first →
    chainFactor acc perfs = sumVals (lastV1 prev perfs) / first := by
  intro perfs
  induction perfs with
  | nil => intro prev acc first _ _ _ ha; simp [chainFactor, lastV1, ha]
  | cons p rest ih =>
    intro prev acc first hl hnz hf ha
    obtain ⟨h0, hl'⟩ := hl
    simp only [chainFactor]
    have hp0 := hnz p List.mem_cons_self
    have hacc : acc * (sumVals p.v1 / sumVals p.v0) = sumVals p.v1 / first := by
      rw [ha, ← h0, Rat.div_def, Rat.div_def, Rat.div_def]
      calc sumVals p.v0 * first⁻¹ * (sumVals p.v1 * (sumVals p.v0)⁻¹)
          = sumVals p.v1 * first⁻¹ * (sumVals p.v0 * (sumVals p.v0)⁻¹) := by grind
        _ = sumVals p.v1 * first⁻¹ := by rw [Rat.mul_inv_cancel _ hp0, Rat.mul_one]
    rw [ih p.v1 _ first hl' (fun q hq => hnz q (List.mem_cons_of_mem _ hq)) hf hacc]
    rfl

theorem chain_ratio (perfs : List DayPerf) (prev : AMap Commodity Rat) (hl : Linked prev perfs)
    (hnz : ∀ p ∈ perfs, sumVals p.v0 ≠ 0) (hprev : sumVals prev ≠ 0) :
    chainFactor 1 perfs = sumVals (lastV1 prev perfs) / sumVals prev :=
  chain_telescopes perfs prev 1 (sumVals prev) hl hnz hprev (by rw [Rat.div_def, Rat.mul_inv_cancel _ hprev])

/-- the chained growth factor of a list of days -/
def chain (r : Option Rat) (ps : List DayPerf) : Option Rat := ps.foldl (fun a p => mulOpt a (factor p)) r

/-- a period end day closes the block of days chained since the last one -/
theorem chunkLines_block (ends : List Int) : ∀ (M : List DayPerf) (last : DayPerf) (B : List DayPerf) (r : Option Rat),
    (∀ p ∈ M, ends.contains p.date = false) → ends.contains last.date = true →
    chunkLines ends r (M ++ last :: B) =
      (last.date, (chain r (M ++ [last])).map (· - 1)) :: chunkLines ends (some 1) B := by
  intro M
  induction M with
  | nil => intro last B r _ he; rw [List.nil_append, chunkLines_cons, if_pos he]; rfl
  | cons p M ih =>
    intro last B r hM he
    rw [List.cons_append, chunkLines_cons, if_neg (by rw [hM p List.mem_cons_self]; simp),
      ih last B _ (fun q hq => hM q (List.mem_cons_of_mem _ hq)) he]
    rfl

theorem chain_all_one : ∀ (L : List DayPerf), (∀ p ∈ L, factor p = some 1) → chain (some 1) L = some 1 := by
  intro L
  induction L with
  | nil => intro _; rfl
  | cons p rest ih =>
    intro h
    unfold chain
    rw [List.foldl_cons, h p List.mem_cons_self, mulOpt_one]
    exact ih (fun q hq => h q (List.mem_cons_of_mem _ hq))

theorem chain_no_flows : ∀ (L : List DayPerf) (r : Rat),
    (∀ p ∈ L, p.portfolioFlows = 0 ∧ p.inflow = 0 ∧ p.outflow = 0 ∧ sumVals p.v0 ≠ 0) →
    chain (some r) L = some (chainFactor r L) := by
  intro L
  induction L with
  | nil => intro r _; rfl
  | cons p rest ih =>
    intro r h
    obtain ⟨f1, f2, f3, f4⟩ := h p List.mem_cons_self
    unfold chain
    rw [List.foldl_cons, factor_no_flows p f1 f2 f3 f4]
    exact ih _ (fun q hq => h q (List.mem_cons_of_mem _ hq))

theorem setup_ok {f : Flags} {ds : List Directive} {part : Partition} {days : List Day}
    (h : setup f ds = .ok (part, days)) :
    newPartition (Period.clip ⟨f.from?.getD 0, f.to⟩ ⟨(Builder.ofList ds).min, (Builder.ofList ds).max⟩)
      f.interval f.last = .ok part ∧ days = part.endDates.foldl insertDay (Builder.ofList ds).days := by
  unfold setup at h
  simp only at h
  split at h
  · cases h
  · rename_i part' hnp
    cases h
    exact ⟨hnp, rfl⟩

theorem setup_days {f : Flags} {ds : List Directive} {part : Partition} {days : List Day}
    (h : setup f ds = .ok (part, days)) :
    List.Pairwise (· < ·) (days.map (·.date)) ∧ (∀ e ∈ part.endDates, e ∈ days.map (·.date)) ∧
    ∃ window, newPartition window f.interval f.last = .ok part := by
  obtain ⟨hnp, rfl⟩ := setup_ok h
  exact ⟨List.pairwise_map.mpr (foldl_insertDay_sorted _ _ (ofList_sorted ds)),
    fun e he => (foldl_insertDay_mem _ _ e).mpr (Or.inl he), _, hnp⟩

theorem tiles_starts_decreasing {a : Int} {iv : Interval} : ∀ {e : Int} {L : List Period}, Tiles a iv e L →
    List.Pairwise (fun p q => q.stop < p.start) L
  | _, [], _ => List.Pairwise.nil
  | e, p :: rest, h => by
    have h5 : Tiles a iv (p.start - 1) rest := h.2.2.2.2
    refine List.pairwise_cons.mpr ⟨fun q hq => ?_, tiles_starts_decreasing h5⟩
    have := (Tiles.mem_bounds h5 q hq).2.2.1
    omega

/-- the shape of the period list of `NewPartition`: the window itself (`once`), or the reversal of a newest-first list of
well-formed, separated, consecutive periods inside the window -/
theorem periods_shape {span : Period} {iv : Interval} {last : Int} {P : Partition}
    (h : newPartition span iv last = .ok P) :
    P.span = span ∧ (P.periods = [span] ∨ ∃ L : List Period, P.periods = L.reverse ∧
      List.Pairwise (fun p q => q.stop < p.start) L ∧
      (∀ p ∈ L, span.start ≤ p.start ∧ p.start ≤ p.stop ∧ p.stop ≤ span.stop) ∧ ConsecutiveRev L) := by
  obtain ⟨_, rfl⟩ := newPartition_eq_ok.mp h
  refine ⟨rfl, ?_⟩
  by_cases hiv : iv = .once
  · exact Or.inl (by show periodsOf span iv last = [span]; rw [periodsOf, if_pos hiv])
  · obtain ⟨L0, n, ht, hp, _, _⟩ := C11.periods_shape h hiv
    exact Or.inr ⟨L0.take n, hp, (tiles_starts_decreasing ht).sublist (List.take_sublist _ _),
      fun p hp => by have := ht.mem_bounds p (List.mem_of_mem_take hp); omega,
      take_consecutiveRev _ _ ht.consecutiveRev⟩

theorem newPartition_span {span : Period} {iv : Interval} {last : Int} {P : Partition}
    (h : newPartition span iv last = .ok P) : P.span = span := (periods_shape h).1

theorem endDates_increasing {span : Period} {iv : Interval} {last : Int} {P : Partition}
    (h : newPartition span iv last = .ok P) :
    List.Pairwise (· < ·) P.endDates ∧ (span.start ≤ span.stop → ∀ e ∈ P.endDates, span.contains e = true) := by
  rcases periods_chained h with ⟨hone, hinv⟩ | ⟨s, hs, hch, hin⟩
  · rw [Partition.endDates, hone]
    exact ⟨List.pairwise_singleton _ _, fun hle => by omega⟩
  · refine ⟨?_, fun _ e he => ?_⟩
    · rw [Partition.endDates, List.pairwise_map]
      exact hch.sep.imp_of_mem fun _ hq hpq => Int.lt_of_lt_of_le hpq (hch.bounds _ hq).2
    · obtain ⟨p, hp, rfl⟩ := List.mem_map.mp he
      have := hch.bounds p hp; have := hin p hp
      exact (Period.contains_iff _ _).mpr (by omega)

theorem endDates_le_stop {span : Period} {iv : Interval} {last : Int} {P : Partition}
    (h : newPartition span iv last = .ok P) : ∀ e ∈ P.endDates, e ≤ span.stop := by
  intro e he
  obtain ⟨p, hp, rfl⟩ := List.mem_map.mp he
  rcases periods_chained h with ⟨hone, _⟩ | ⟨_, _, _, hin⟩
  · rw [hone, List.mem_singleton] at hp
    rw [hp]; exact Int.le_refl _
  · exact hin p hp

/-! ### the first reported period: `Perf` looks only at the days from its start on (`perfSpan`) -/

theorem perfSpan_cons {span : Period} {iv : Interval} {last : Int} {P : Partition}
    (h : newPartition span iv last = .ok P) {o : Period} {rest : List Period} (ho : P.periods = o :: rest)
    (hle : span.start ≤ o.start) : perfSpan P = ⟨o.start, span.stop⟩ := by
  simp only [perfSpan, Partition.startDates, ho, List.map_cons, newPartition_span h]
  split
  · rfl
  · congr 1; omega

/-- the period ends `Perf` sees are the period ends inside the span -/
theorem perfSpan_filter {span : Period} {iv : Interval} {last : Int} {P : Partition}
    (h : newPartition span iv last = .ok P) :
    P.endDates.filter (fun e => (perfSpan P).contains e) = P.endDates.filter (fun e => P.span.contains e) := by
  apply List.filter_congr
  intro e he
  obtain ⟨p, hp, rfl⟩ := List.mem_map.mp he
  obtain ⟨o, rest, ho⟩ := List.exists_cons_of_ne_nil (List.ne_nil_of_mem hp)
  rw [newPartition_span h]
  rcases periods_chained h with ⟨hone, _⟩ | ⟨s, hs, hch, hin⟩
  · rw [hone] at ho; cases ho
    rw [perfSpan_cons h hone (Int.le_refl _)]
  · -- no period of the chain ends before the first one starts
    have := hch.bounds p hp; have := hin p hp
    have hos : o.start = s := (ho ▸ hch : Chained s (o :: rest)).1
    rw [perfSpan_cons h ho (hos ▸ hs), Bool.eq_iff_iff, Period.contains_iff, Period.contains_iff]
    show o.start ≤ p.stop ∧ p.stop ≤ span.stop ↔ _
    omega

end Knut.Performance
