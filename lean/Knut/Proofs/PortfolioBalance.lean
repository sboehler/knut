import Knut.Proofs.PortfolioCalm
import Knut.Proofs.PortfolioPeriods
import Knut.Proofs.BalanceClose
/-! Lemmas for C20: the values `ComputeValues` holds are the totals of the report inserts of `knut balance -v` on the
asset/liability accounts.  The two commands run different processor lists over the same days
(`ComputePrices, check, Valuate` vs `check, ComputePrices, Valuate, Filter, CloseAccounts, Query`); here they are run in
lockstep. -/
namespace Knut.Performance
open Knut Knut.MTM
open Knut.Balance (vStage cStage vOf cOf join CloseInvC)

/-- the column date of a report insert is not after `D` (`none` = aligned after the window: never shown) -/
def dateOK (o : Option Int) (D : Int) : Bool :=
  match o with
  | some x => decide (x ≤ D)
  | none => false

/-- the total of the report inserts of `knut balance` on asset/liability accounts, commodity `c`, in the columns up to
`D`: what the (cumulative) balance report shows for `c` on the date `D`, summed over the asset/liability accounts -/
def balanceValue (es : List Entry) (c : Commodity) (D : Int) : Rat :=
  ((es.filter (fun e => e.account.isAL && decide (e.commodity = c) && dateOK e.date D)).map (·.amount)).sum

theorem balanceValue_append (xs ys : List Entry) (c : Commodity) (D : Int) :
    balanceValue (xs ++ ys) c D = balanceValue xs c D + balanceValue ys c D := by
  unfold balanceValue
  rw [List.filter_append, List.map_append, List.sum_append]

/-- the flags of the two commands agree: same valuation commodity and filters; the balance has no `-m`, no `--remap` -/
structure Matches (cfg : Cfg) (b : BalCfg) (v : Commodity) : Prop where
  val : cfg.valuation = some v
  bval : b.valuation = some v
  acc : b.accountFilter = cfg.accountFilter
  com : b.commodityFilter = cfg.commodityFilter
  mapping : b.mapping = []
  remap : ∀ s, b.remap s = false

/-- what a list of valued transactions adds to the value `ComputeValues` holds for `c` -/
def alVal (cfg : Cfg) (c : Commodity) (T : List Transaction) : Rat := sumOver (inVc cfg c) (T.flatMap (·.postings))

theorem alVal_nil (cfg : Cfg) (c : Commodity) : alVal cfg c [] = 0 := rfl

theorem alVal_append (cfg : Cfg) (c : Commodity) (X Y : List Transaction) :
    alVal cfg c (X ++ Y) = alVal cfg c X + alVal cfg c Y := by
  unfold alVal
  rw [List.flatMap_append, sumOver_append]

theorem queryPosting_matches {cfg : Cfg} {b : BalCfg} {v : Commodity} (hm : Matches cfg b v) (t : Transaction)
    (p : Posting) :
    Balance.queryPosting b t p =
      if (cfg.accountFilter p.account.name && cfg.commodityFilter p.commodity) = true then
        some ⟨alignIn b.periods t.date, p.account, p.commodity, p.value⟩
      else none := by
  rw [queryPosting_eq_entryOf, entryOf_unmapped hm.mapping hm.remap, hm.acc, hm.com,
    Posting.amountIn_valued (by rw [hm.bval]; rfl)]

/-- the two commands select the same postings: a matter of five conditions, in two arrangements -/
theorem select_eq (a m l k q : Bool) (x : Rat) :
    (if (a && m) = true then (if (l && q && k) = true then x else 0) else 0) =
      if k = true then (if m = true ∧ (l && a) = true ∧ q = true then x else 0) else 0 := by
  cases a <;> cases m <;> cases l <;> cases k <;> cases q <;> rfl

theorem bv_posting {cfg : Cfg} {b : BalCfg} {v : Commodity} (hm : Matches cfg b v) (t : Transaction) (c : Commodity)
    (D : Int) (p : Posting) :
    balanceValue (Balance.queryPosting b t p).toList c D =
      if dateOK (alignIn b.periods t.date) D = true then inVc cfg c p else 0 := by
  have h := select_eq (cfg.accountFilter p.account.name) (cfg.commodityFilter p.commodity) p.account.isAL
    (dateOK (alignIn b.periods t.date) D) (decide (p.commodity = c)) p.value
  simp only [decide_eq_true_eq] at h
  rw [queryPosting_matches hm, inVc, isPortfolio, ← h]
  split
  · simp only [Option.toList_some, balanceValue, List.filter_cons, List.filter_nil]
    split <;> simp [Rat.add_zero]
  · rfl

theorem bv_postings {cfg : Cfg} {b : BalCfg} {v : Commodity} (hm : Matches cfg b v) (t : Transaction) (c : Commodity)
    (D : Int) : ∀ ps : List Posting,
    balanceValue (ps.filterMap (Balance.queryPosting b t)) c D =
      if dateOK (alignIn b.periods t.date) D = true then sumOver (inVc cfg c) ps else 0 := by
  intro ps
  induction ps with
  | nil => split <;> rfl
  | cons p rest ih =>
    have hcons : (p :: rest).filterMap (Balance.queryPosting b t) =
        (Balance.queryPosting b t p).toList ++ rest.filterMap (Balance.queryPosting b t) := by
      rw [List.filterMap_cons]; cases Balance.queryPosting b t p <;> rfl
    rw [hcons, balanceValue_append, bv_posting hm, ih, sumOver_cons]
    split
    · rfl
    · exact Rat.add_zero 0

theorem bv_queryTx {cfg : Cfg} {b : BalCfg} {v : Commodity} (hm : Matches cfg b v) (t : Transaction) (c : Commodity)
    (D : Int) :
    balanceValue (Balance.queryTx b t) c D =
      if dateOK (alignIn b.periods t.date) D = true then sumOver (inVc cfg c) t.postings else 0 :=
  bv_postings hm t c D t.postings

theorem bv_flatMap {cfg : Cfg} {b : BalCfg} {v : Commodity} (hm : Matches cfg b v) (c : Commodity) (D dd : Int) :
    ∀ (T : List Transaction), (∀ t ∈ T, t.date = dd) →
    balanceValue (T.flatMap (Balance.queryTx b)) c D =
      if dateOK (alignIn b.periods dd) D = true then alVal cfg c T else 0 := by
  intro T
  induction T with
  | nil => intro _; simp [balanceValue, alVal, sumOver]
  | cons t rest ih =>
    intro hd
    rw [List.flatMap_cons, balanceValue_append, bv_queryTx hm, ih (fun x hx => hd x (List.mem_cons_of_mem _ hx)),
      hd t List.mem_cons_self]
    have : alVal cfg c (t :: rest) = sumOver (inVc cfg c) t.postings + alVal cfg c rest := by
      unfold alVal; rw [List.flatMap_cons, sumOver_append]
    rw [this]
    split <;> simp [Rat.add_zero]

theorem sumOver_zero (f : Posting → Rat) (ps : List Posting) (h : ∀ p ∈ ps, f p = 0) : sumOver f ps = 0 := by
  rw [sumOver, List.map_congr_left h]
  exact MapSum.sum_map_zero ps

/-- closing transactions move income/expense/equity balances to `Equity:Equity`: nothing on asset/liability accounts -/
theorem closings_facts (cfg : Cfg) (c : Commodity) (date : Int) (cQty cVal : AMap Position Rat)
    (hk : ∀ k ∈ cQty.map (·.1), k.1.isAL = false) :
    alVal cfg c (Balance.closings date cQty cVal) = 0 ∧ ∀ t ∈ Balance.closings date cQty cVal, t.date = date := by
  constructor
  · refine sumOver_zero _ _ fun p hp => ?_
    obtain ⟨t, ht, hpt⟩ := List.mem_flatMap.mp hp
    obtain ⟨e, he, _, rfl⟩ := Balance.mem_closings_iff.mp ht
    have : p.account.isAL = false := by
      rcases mem_postingBuild hpt with rfl | rfl
      · exact hk e.1 (List.mem_map_of_mem he)
      · rfl
    simp [inVc, isPortfolio, this]
  · intro t ht
    obtain ⟨_, _, _, rfl⟩ := Balance.mem_closings_iff.mp ht
    rfl

theorem valueTx_date {v : Commodity} {cur : Option Prices.NPrices} {t t' : Transaction}
    (h : Balance.valueTx v cur t = .ok t') : t'.date = t.date := by
  obtain ⟨_, _, h⟩ := bindOk_iff.mp h
  cases h; rfl

theorem valuedDay_dates {cfg : Cfg} {v : Commodity} {st st' : BalState} {d : Day} {txs : List Transaction}
    (hv : cfg.valuation = some v) (hd : ∀ t ∈ d.transactions, t.date = d.date)
    (h : valuedDay cfg st d = .ok (st', txs)) : ∀ t ∈ txs, t.date = d.date := by
  obtain ⟨g, c, adj, _, _, ha, hm, _⟩ := (valuedDay_some_iff hv).mp h
  intro t' ht'
  obtain ⟨t, ht, hvt⟩ := mapM_ok_mem _ _ _ hm t' ht'
  rw [valueTx_date hvt]
  rcases List.mem_append.mp ht with ht | ht
  · exact hd t ht
  · obtain ⟨_, _, _, _, _, _, _, _, _, _, _, _, rfl⟩ := adjustments_mem ha t ht
    rfl

/-- the part of the state that `check`, `ComputePrices` and `Valuate` own is the same -/
structure SameSt (p s : BalState) : Prop where
  chk : s.chk = p.chk
  graph : s.graph = p.graph
  norm : s.norm = p.norm
  vPrev : s.vPrev = p.vPrev
  vQty : s.vQty = p.vQty

theorem sameSt_iff {p s : BalState} : SameSt p s ↔ s.chk = p.chk ∧ vOf s = vOf p :=
  ⟨fun h => ⟨h.chk, by unfold vOf; rw [h.graph, h.norm, h.vPrev, h.vQty]⟩,
   fun ⟨h1, h2⟩ => by
     have := Balance.VSt.mk.inj h2
     exact ⟨h1, this.1, this.2.1, this.2.2.1, this.2.2.2⟩⟩

theorem Matches.valuation {cfg : Cfg} {b : BalCfg} {v : Commodity} (hm : Matches cfg b v) : b.valuation = cfg.valuation :=
  hm.bval.trans hm.val.symm

/-- `ComputePrices, check, Valuate` (portfolio) and `check, ComputePrices, Valuate` (balance) on one day, from states
that agree: the same valued transactions, states that agree; the balance's closing/report state is not touched -/
theorem stages_lockstep {cfg : Cfg} {b : BalCfg} {v : Commodity} (hm : Matches cfg b v) {pb pb' st : BalState} {d : Day}
    {txs : List Transaction} (hs : SameSt pb st) (hv : valuedDay cfg pb d = .ok (pb', txs)) :
    ∃ c1 st1, Balance.checkStage st d = .ok c1 ∧ Balance.valuationStage b c1 d = .ok (st1, txs) ∧ SameSt pb' st1 ∧
      st1.cQty = st.cQty ∧ st1.cVal = st.cVal ∧ st1.entries = st.entries := by
  obtain ⟨hc, hval, _, _⟩ := (valuedDay_ok_iff hm.valuation).mp hv
  obtain ⟨h1, h2⟩ := sameSt_iff.mp hs
  exact ⟨_, join pb'.chk (vOf pb') (cOf st) st.entries, Balance.checkStage_ok.mpr ⟨_, h1 ▸ hc, rfl⟩,
    Balance.valuationStage_ok_iff.mpr ⟨(show vOf { st with chk := pb'.chk } = vOf pb from h2) ▸ hval, rfl, rfl, rfl⟩,
    sameSt_iff.mpr ⟨rfl, rfl⟩, rfl, rfl, rfl⟩

theorem bv_no_AL {cfg : Cfg} {b : BalCfg} {v : Commodity} (hm : Matches cfg b v) (c : Commodity) (D : Int) :
    ∀ (T : List Transaction), (∀ t ∈ T, ∀ p ∈ t.postings, p.account.isAL = false) →
      balanceValue (T.flatMap (Balance.queryTx b)) c D = 0
  | [], _ => rfl
  | t :: rest, h => by
    rw [List.flatMap_cons, balanceValue_append, bv_no_AL hm c D rest fun t ht => h t (List.mem_cons_of_mem _ ht), bv_queryTx hm,
      sumOver_zero _ _ fun p hp => by simp [inVc, isPortfolio, h t List.mem_cons_self p hp], ite_self, Rat.add_zero]

/-- what CloseAccounts hands to Query adds, on asset/liability accounts, what its input adds: the closing transactions
book between income/expense/equity accounts and `Equity:Equity` -/
theorem cStage_al {cfg : Cfg} {b : BalCfg} {v : Commodity} (hm : Matches cfg b v) {cs : Balance.CSt} (hinv : CloseInvC cs)
    (d : Day) (txs : List Transaction) (c : Commodity) (D : Int) :
    balanceValue ((cStage b cs d txs).2.flatMap (Balance.queryTx b)) c D =
      balanceValue (txs.flatMap (Balance.queryTx b)) c D := by
  obtain ⟨cl, hcl, hno⟩ := Balance.cStage_AL (cfg := b) hinv d txs
  rw [hcl, List.flatMap_append, balanceValue_append, bv_no_AL hm c D cl hno, Rat.add_zero]

/-- **one day of `knut balance -v`** next to one day of the portfolio pipeline: the report grows by inserts whose
asset/liability total for `c` up to `D` is what `ComputeValues` adds for `c` — if the day's column is not after `D` and
the day lies inside the balance's window (`Filter`), nothing otherwise -/
theorem balance_day {cfg : Cfg} {b : BalCfg} {v : Commodity} (hm : Matches cfg b v) {pb pb' st : BalState} {d : Day}
    {txs : List Transaction} (hs : SameSt pb st) (hinv : CloseInv st) (hd : ∀ t ∈ d.transactions, t.date = d.date)
    (hv : valuedDay cfg pb d = .ok (pb', txs)) :
    ∃ st' E, Balance.day b st d = .ok st' ∧ SameSt pb' st' ∧ CloseInv st' ∧ st'.entries = st.entries ++ E ∧
      ∀ c D, balanceValue E c D =
        if (dateOK (alignIn b.periods d.date) D && b.span.contains d.date) = true then alVal cfg c txs else 0 := by
  obtain ⟨hc, hval, _, _⟩ := (valuedDay_ok_iff hm.valuation).mp hv
  obtain ⟨h1, h2⟩ := sameSt_iff.mp hs
  -- the day of `knut balance`: the same checker and valuation, then Filter, CloseAccounts, Query
  refine ⟨join pb'.chk (vOf pb') (cStage b (cOf st) d (Balance.filterStage b d txs)).1
      (st.entries ++ (cStage b (cOf st) d (Balance.filterStage b d txs)).2.flatMap (Balance.queryTx b)), _,
    Balance.day_ok_iff.mpr ⟨txs, _, h1 ▸ hc, h2 ▸ hval, rfl, rfl⟩, sameSt_iff.mpr ⟨rfl, rfl⟩,
    Balance.cStage_closeInv (c := cOf st) hinv d _, rfl, fun c D => ?_⟩
  -- `Filter` lets the day's transactions through inside the window only
  rw [cStage_al hm (cs := cOf st) hinv, Balance.filterStage]
  cases hsp : b.span.contains d.date with
  | true => rw [if_pos rfl, Bool.and_true]; exact bv_flatMap hm c D d.date txs (valuedDay_dates hm.val hd hv)
  | false => rw [Bool.and_false]; rfl

/-- what a day adds to the value of commodity `c` -/
def gain (c : Commodity) (p : DayPerf) : Rat := p.v1.get c 0 - p.v0.get c 0

theorem valuedDay_idle {cfg : Cfg} {v : Commodity} {pb pb' : BalState} {d : Day} {txs : List Transaction}
    (hv : cfg.valuation = some v) (hq : pb.vQty = []) (ht : d.transactions = [])
    (h : valuedDay cfg pb d = .ok (pb', txs)) : txs = [] ∧ pb'.vQty = [] := by
  obtain ⟨g, c, adj, _, _, ha, hm, rfl⟩ := (valuedDay_some_iff hv).mp h
  rw [hq] at ha
  cases ha
  rw [ht] at hm
  exact ⟨mapM_nil_ok.mp hm, by show Balance.addQty pb.vQty (d.transactions ++ []) = []; rw [ht, hq]; rfl⟩

/-- **the run**: `knut balance -v` over the same days accepts what the portfolio pipeline accepts, and its report grows,
for commodity `c` on asset/liability accounts in the columns up to `D`, by what the days up to `D` add to the value of
`c` — provided every day up to `D` lies inside the balance's window or nothing has been booked up to it -/
theorem balance_run {cfg : Cfg} {b : BalCfg} {v : Commodity} (hm : Matches cfg b v) (c : Commodity) (D : Int)
    (hal : ∀ x, dateOK (alignIn b.periods x) D = decide (x ≤ D)) :
    ∀ (days : List Day) (ps : PState) (st : BalState) (perfs : List DayPerf),
      SameSt ps.bal st → CloseInv st → ps.prev = ps.values →
      (∀ d ∈ days, ∀ t ∈ d.transactions, t.date = d.date) →
      (∀ pre d post, days = pre ++ d :: post → d.date ≤ D →
        b.span.contains d.date = true ∨ (st.vQty = [] ∧ ∀ x ∈ pre ++ [d], x.transactions = [])) →
      perfFrom cfg ps days = .ok perfs →
      ∃ stF, days.foldlM (Balance.day b) st = .ok stF ∧
        balanceValue stF.entries c D = balanceValue st.entries c D +
          ((perfs.filter (fun p => decide (p.date ≤ D))).map (gain c)).sum := by
  intro days
  induction days with
  | nil =>
    intro ps st perfs _ _ _ _ _ h
    rw [perfFrom_nil h]
    exact ⟨st, rfl, (Rat.add_zero _).symm⟩
  | cons d rest ih =>
    intro ps st perfs hs hinv hprev hdates hwin h
    obtain ⟨ps1, p, perfs', hd0, hrr, rfl⟩ := perfFrom_cons h
    obtain ⟨txs, hv, hvals, hprev1, rfl⟩ := perfDay_ok hd0
    obtain ⟨st', E, hday, hs', hinv', hent, hE⟩ := balance_day hm hs hinv (hdates d List.mem_cons_self) hv
    -- a day before the window on which nothing is held and nothing is booked adds nothing
    have hidle : ∀ pre, (st.vQty = [] ∧ ∀ x ∈ pre ++ [d], x.transactions = []) → txs = [] ∧ st'.vQty = [] :=
      fun pre ⟨hq, hno⟩ => by
        have := valuedDay_idle hm.val (hs.vQty ▸ hq) (hno d (by simp)) hv
        exact ⟨this.1, hs'.vQty ▸ this.2⟩
    have hgain : gain c ⟨d.date, ps.prev, ps1.values, (dayFlows cfg txs).1, (dayFlows cfg txs).2.1,
        (dayFlows cfg txs).2.2⟩ = alVal cfg c txs := by
      simp only [gain, alVal, hvals, valuesDay_get, hprev]
      exact add_sub_cancel_left_rat _ _
    have hwin' : ∀ pre d' post, rest = pre ++ d' :: post → d'.date ≤ D →
        b.span.contains d'.date = true ∨ (st'.vQty = [] ∧ ∀ x ∈ pre ++ [d'], x.transactions = []) := by
      intro pre d' post hsplit hle
      refine (hwin (d :: pre) d' post (by rw [hsplit]; rfl) hle).imp id fun h => ⟨(hidle [] ⟨h.1, ?_⟩).2, ?_⟩
      · intro x hx
        exact h.2 x (by rw [List.mem_singleton.mp hx]; simp)
      · exact fun x hx => h.2 x (List.mem_cons_of_mem _ hx)
    obtain ⟨stF, hfold, hsum⟩ := ih ps1 st' perfs' hs' hinv' hprev1
      (fun d' hd' => hdates d' (List.mem_cons_of_mem _ hd')) hwin' hrr
    refine ⟨stF, by rw [List.foldlM_cons, hday]; exact hfold, ?_⟩
    rw [hsum, hent, balanceValue_append, hE, hal, List.filter_cons]
    by_cases hle : d.date ≤ D
    · simp only [hle, decide_true, Bool.true_and, if_true, List.map_cons, List.sum_cons, hgain]
      rcases hwin [] d rest rfl hle with hin | hq
      · simp only [hin, if_true, Rat.add_assoc]
      · rw [(hidle [] hq).1, alVal_nil, ite_self, Rat.add_assoc]
    · simp only [hle, decide_false, Bool.false_and, Bool.false_eq_true, if_false, Rat.add_zero]

theorem sub_add_sub_rat (a b c : Rat) : b - a + (c - b) = c - a := by grind

theorem gain_telescopes (c : Commodity) : ∀ (L : List DayPerf) (prev : AMap Commodity Rat), Linked prev L →
    (L.map (gain c)).sum = (lastV1 prev L).get c 0 - prev.get c 0 := by
  intro L
  induction L with
  | nil => intro prev _; exact Rat.sub_self.symm
  | cons p rest ih =>
    intro prev hl
    rw [List.map_cons, List.sum_cons, ih p.v1 hl.2, gain, hl.1]
    exact sub_add_sub_rat _ _ _

/-- the value at the end of day `D` is the sum of the gains of the days up to `D` -/
theorem valueAt_eq_gains (perfs : List DayPerf) (hl : Linked [] perfs) (hs : DSorted perfs) (c : Commodity) (D : Int) :
    (valueAt perfs D).get c 0 = ((perfs.filter (fun p => decide (p.date ≤ D))).map (gain c)).sum := by
  rw [split_after perfs hs D] at hl
  rw [gain_telescopes c _ [] (linked_append _ _ [] hl).1]
  exact (sub_zero_rat _).symm

/-- **Align and the columns**: if the period ends increase and `D` is one of them, a transaction dated `x` lands in a
column up to `D` exactly when `x ≤ D` -/
theorem dateOK_align (D x : Int) : ∀ (ps : List Period), List.Pairwise (· < ·) (ps.map (·.stop)) →
    D ∈ ps.map (·.stop) → dateOK (alignIn ps x) D = decide (x ≤ D) := by
  intro ps hp hD
  by_cases hx : x ≤ D
  · -- `Align` is the least period end not before `x`
    obtain ⟨D', h, hle⟩ := alignIn_least hp hD hx
    rw [h, decide_eq_true hx]; exact decide_eq_true hle
  · rw [decide_eq_false hx]
    cases h : alignIn ps x with
    | none => rfl
    | some y => have := (alignIn_some h).2; exact decide_eq_false (by omega)

theorem perfFrom_v1_nodup {cfg : Cfg} (rest pre : List Day) (ps : PState) (perfs : List DayPerf)
    (hr : Reach cfg pre ps) (h : perfFrom cfg ps rest = .ok perfs) : ∀ p ∈ perfs, AMap.NodupKeys p.v1 := by
  intro p hp
  obtain ⟨_, _, _, ps0, ps1, _, hr0, hd⟩ := perfFrom_record rest pre ps perfs hr h p hp
  have := (perfDay_reach hr0 hd).nodup_values
  obtain ⟨_, _, _, _, rfl⟩ := perfDay_ok hd
  exact this

end Knut.Performance
