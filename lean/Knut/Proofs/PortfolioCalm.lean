import Knut.Proofs.PortfolioFlows
import Knut.Proofs.MTMDay
import Knut.Spec.PortfolioPeriodSpec
/-! Lemmas for C20: the day equation `V1 − V0 = inflow + outflow` for ONE day of an arbitrary journal, under hypotheses
about that day only (its transactions are plain, the prices of the commodities held rest), and "no flows" for a day whose
transactions stay inside the portfolio.  The hypotheses are stated on the journal (`heldQty`, `priceAfter`), not on the
state of the processors; the invariant `Reach` ties the two. -/
namespace Knut.Performance
open Knut Knut.MTM
open Knut.Balance (dayGraph dayNorm)

theorem heldQty_eq (a : Account) (c : Commodity) (days : List Day) :
    heldQty a c days = (qtysOn a c (days.flatMap (·.transactions))).sum := rfl

/-- a day without price directives lets the prices rest -/
theorem pricesRest_of_no_prices (v : Commodity) (pre : List Day) (d : Day) (h : d.prices = []) :
    PricesRestOn v pre d := by
  intro a c _ _ _
  unfold priceAfter normAfter
  cases hp : pre.foldlM (Balance.pricesDay v) {} with
  | error e =>
    rw [List.foldlM_append, hp]; rfl
  | ok st =>
    have hg : dayGraph d st.graph = .ok st.graph := by rw [dayGraph, h]; rfl
    rw [foldlM_snoc_ok hp (pricesDay_ok.mpr ⟨_, hg, rfl⟩), dayNorm_of_no_prices v h]

theorem lookupPrice_eq (np : Option Prices.NPrices) (c : Commodity) :
    Balance.lookupPrice np c = match np.bind (Prices.find c) with
      | some p => .ok p
      | none => .error (.noPrice c) := by
  unfold Balance.lookupPrice
  cases np with
  | none => rfl
  | some m =>
    simp only [Option.bind_some]
    cases Prices.find c m <;> rfl

/-- without `-v` nothing is valued and the valuation state does not move -/
theorem valuedDay_none {cfg : Cfg} {st st' : BalState} {d : Day} {txs : List Transaction}
    (hv : cfg.valuation = none) (h : valuedDay cfg st d = .ok (st', txs)) :
    txs = d.transactions ∧ st'.vQty = st.vQty ∧ st'.vPrev = st.vPrev ∧ st'.norm = st.norm ∧ st'.graph = st.graph := by
  obtain ⟨c, _, rfl, rfl⟩ := (valuedDay_none_iff hv).mp h
  exact ⟨rfl, rfl, rfl, rfl, rfl⟩

/-- what holds of the state `ps` reached from the empty state by processing the days `pre` -/
structure Reach (cfg : Cfg) (pre : List Day) (ps : PState) : Prop where
  prev_values : ps.prev = ps.values
  nodup_values : AMap.NodupKeys ps.values
  nodup_qty : AMap.NodupKeys ps.bal.vQty
  vprev : ps.bal.vPrev = ps.bal.norm
  norm : ∀ v, cfg.valuation = some v →
    ∃ st, pre.foldlM (Balance.pricesDay v) {} = .ok st ∧ st.graph = ps.bal.graph ∧ st.norm = ps.bal.norm
  qty : ∀ v, cfg.valuation = some v → ∀ a c, a.isAL = true → ps.bal.vQty.get (a, c) 0 = heldQty a c pre
  qty_none : cfg.valuation = none → ps.bal.vQty = []

theorem reach_empty (cfg : Cfg) : Reach cfg [] {} :=
  ⟨rfl, List.nodup_nil, List.nodup_nil, rfl, fun _ _ => ⟨{}, rfl, rfl, rfl⟩, fun _ _ _ _ _ => rfl, fun _ => rfl⟩

theorem heldQty_append (a : Account) (c : Commodity) (pre : List Day) (d : Day) :
    heldQty a c (pre ++ [d]) = heldQty a c pre + (qtysOn a c d.transactions).sum := by
  rw [heldQty_eq, heldQty_eq, List.flatMap_append, qtysOn_append, List.sum_append]
  simp

theorem reach_prices {cfg : Cfg} {v : Commodity} {pre : List Day} {ps : PState} (hr : Reach cfg pre ps)
    (hv : cfg.valuation = some v) {d : Day} {g : Prices.Prices} (hg : dayGraph d ps.bal.graph = .ok g) :
    ∃ st, (pre ++ [d]).foldlM (Balance.pricesDay v) {} = .ok st ∧ st.graph = g ∧
      st.norm = dayNorm v d g ps.bal.norm := by
  obtain ⟨st, hst, hgr, hn⟩ := hr.norm v hv
  exact ⟨_, foldlM_snoc_ok hst (pricesDay_ok.mpr ⟨g, hgr ▸ hg, rfl⟩), rfl, by rw [hn]⟩

theorem perfDay_reach {cfg : Cfg} {pre : List Day} {ps ps' : PState} {d : Day} {p : DayPerf}
    (hr : Reach cfg pre ps) (h : perfDay cfg ps d = .ok (ps', p)) : Reach cfg (pre ++ [d]) ps' := by
  obtain ⟨txs, hvd, hvals, hprev, _⟩ := perfDay_ok h
  have hnv : AMap.NodupKeys ps'.values := hvals ▸ (valuesDay_sum cfg txs ps.values hr.nodup_values).1
  cases hv : cfg.valuation with
  | none =>
    obtain ⟨c, _, hbal, _⟩ := (valuedDay_none_iff hv).mp hvd
    refine ⟨hprev, hnv, ?_, ?_, fun _ hv' => ?_, fun _ hv' => ?_, fun _ => ?_⟩
    · rw [hbal]; exact hr.nodup_qty
    · rw [hbal]; exact hr.vprev
    · rw [hv] at hv'; cases hv'
    · rw [hv] at hv'; cases hv'
    · rw [hbal]; exact hr.qty_none hv
  | some v =>
    obtain ⟨g, c, adj, hg, _, ha, _, hbal⟩ := (valuedDay_some_iff hv).mp hvd
    refine ⟨hprev, hnv, ?_, ?_, fun v' hv' => ?_, fun v' hv' a c hal => ?_, fun hn => by rw [hv] at hn; cases hn⟩
    · rw [hbal]; exact addQty_nodup _ _ hr.nodup_qty
    · rw [hbal]
    · rw [hv] at hv'; cases hv'
      rw [hbal]
      exact reach_prices hr hv hg
    · rw [hv] at hv'; cases hv'
      rw [hbal]
      show (Balance.addQty ps.bal.vQty (d.transactions ++ adj)).get (a, c) 0 = _
      rw [addQty_get _ _ _ _ hal, hr.qty v hv a c hal, heldQty_append, qtysOn_append, List.sum_append,
        qtysOn_qtyZero a c adj (adjustments_qtyZero v d.date _ _ _ adj ha), Rat.add_zero]

/-- prices rest on `d` ⇒ `Valuate` books no adjustment on `d` -/
theorem no_adjustment_of_rest {cfg : Cfg} {v : Commodity} {pre : List Day} {ps : PState} {d : Day} {s1 : BalState}
    {adj : List Transaction} (hv : cfg.valuation = some v) (hr : Reach cfg pre ps) (hrest : PricesRestOn v pre d)
    (hp : Balance.pricesDay v ps.bal d = .ok s1)
    (ha : Balance.adjustments v d.date ps.bal.vPrev s1.norm ps.bal.vQty = .ok adj) : adj = [] := by
  apply adjustments_rest v d.date _ _ _ adj ?_ ha
  intro e he hal hc hq
  obtain ⟨g, hg, rfl⟩ := pricesDay_ok.mp hp
  obtain ⟨st, hst, _, hn⟩ := hr.norm v hv
  obtain ⟨st1, hst1, _, hn1⟩ := reach_prices hr hv hg
  have hget : ps.bal.vQty.get e.1 0 = e.2 := AMap.get_of_mem hr.nodup_qty (k := e.1) (v := e.2) he 0
  have hheld : heldQty e.1.1 e.1.2 pre ≠ 0 := by
    rw [← hr.qty v hv e.1.1 e.1.2 hal, hget]; exact hq
  have := hrest e.1.1 e.1.2 hal hc hheld
  simp only [priceAfter, normAfter, hst, hst1, hn, hn1] at this
  rw [lookupPrice_eq, lookupPrice_eq, hr.vprev, this]

/-- **the day equation for one day of an arbitrary journal**: the day follows the days `pre`; its transactions are plain
and the prices of the commodities held rest on it (no commodity filter) -/
theorem perfDay_local_net_flow {cfg : Cfg} (hf : ∀ c, cfg.commodityFilter c = true) {pre : List Day} {ps ps' : PState}
    {d : Day} {p : DayPerf} (hr : Reach cfg pre ps) (hplain : ∀ t ∈ d.transactions, Plain t)
    (hrest : ∀ v, cfg.valuation = some v → PricesRestOn v pre d)
    (h : perfDay cfg ps d = .ok (ps', p)) :
    p.portfolioFlows = 0 ∧ sumVals p.v1 - sumVals p.v0 = p.inflow + p.outflow := by
  obtain ⟨txs, hvd, hvals, _, rfl⟩ := perfDay_ok h
  have hpl : ∀ t ∈ txs, Plain t := by
    cases hv : cfg.valuation with
    | none => exact (valuedDay_none hv hvd).1 ▸ hplain
    | some v =>
      obtain ⟨g, c, adj, hg, _, ha, hm, _⟩ := (valuedDay_some_iff hv).mp hvd
      have := no_adjustment_of_rest hv hr (hrest v hv) (pricesDay_ok.mpr ⟨g, hg, rfl⟩) ha
      subst this
      rw [List.append_nil] at hm
      exact plain_mapM _ _ hplain hm
  obtain ⟨e1, e2⟩ := dayFlows_eq_value hf hpl hr.nodup_values
  exact ⟨e1, by rw [hr.prev_values]; exact hvals ▸ e2⟩

/-- the run: the record of every day whose hypotheses hold satisfies the day equation, whatever the other days are -/
theorem perfFrom_local_net_flow {cfg : Cfg} (hf : ∀ c, cfg.commodityFilter c = true) :
    ∀ (rest pre : List Day) (ps : PState) (perfs : List DayPerf), Reach cfg pre ps → perfFrom cfg ps rest = .ok perfs →
    ∀ (i : Nat) (d : Day) (p : DayPerf), rest[i]? = some d → perfs[i]? = some p →
      (∀ t ∈ d.transactions, Plain t) → (∀ v, cfg.valuation = some v → PricesRestOn v (pre ++ rest.take i) d) →
      p.portfolioFlows = 0 ∧ sumVals p.v1 - sumVals p.v0 = p.inflow + p.outflow := by
  intro rest
  induction rest with
  | nil => intro pre ps perfs _ _ i d p hd; simp at hd
  | cons d0 rest ih =>
    intro pre ps perfs hr h i d p hd hp hplain hrest
    obtain ⟨ps1, p0, perfs', hd0, hrr, rfl⟩ := perfFrom_cons h
    cases i with
    | zero =>
      simp only [List.getElem?_cons_zero, Option.some.injEq] at hd hp
      subst hd; subst hp
      simp only [List.take_zero, List.append_nil] at hrest
      exact perfDay_local_net_flow hf hr hplain hrest hd0
    | succ j =>
      simp only [List.getElem?_cons_succ] at hd hp
      apply ih (pre ++ [d0]) ps1 perfs' (perfDay_reach hr hd0) hrr j d p hd hp hplain
      intro v hv
      have := hrest v hv
      simpa [List.take_succ_cons, List.append_assoc] using this

/-- a transaction that does not cross the portfolio's boundary: every posting on a portfolio account has a portfolio
account on the other side (a transfer inside the portfolio, or a transaction that does not touch it) -/
def Internal (cfg : Cfg) (t : Transaction) : Prop :=
  ∀ p ∈ t.postings, isPortfolio cfg p.account = true → isPortfolio cfg p.other = true

/-- … or whose effect is attributed to the posting's own commodity (what a value adjustment is) -/
def Neutral (cfg : Cfg) (t : Transaction) : Prop :=
  ∀ p ∈ t.postings, (isPortfolio cfg p.account = true → isPortfolio cfg p.other = true) ∨ t.targets = some [p.commodity]

theorem txFlowStep_neutral (cfg : Cfg) (tg : Option (List Commodity)) (acc : AMap Commodity Rat × Rat) (p : Posting)
    (h : (isPortfolio cfg p.account = true → isPortfolio cfg p.other = true) ∨ tg = some [p.commodity]) :
    txFlowStep cfg tg acc p = acc := by
  unfold txFlowStep
  by_cases hp : isPortfolio cfg p.account = true
  · by_cases ho : isPortfolio cfg p.other = true
    · simp [hp, ho]
    · rcases h with h | h
      · exact absurd (h hp) ho
      · have ho' : isPortfolio cfg p.other = false := by simpa using ho
        simp [hp, ho', h]
  · have hp' : isPortfolio cfg p.account = false := by simpa using hp
    simp [hp']

theorem txFlows_neutral (cfg : Cfg) (t : Transaction) (h : Neutral cfg t) : txFlows cfg t = ([], 0) := by
  unfold txFlows pickTargets
  exact foldl_inv (· = _) t.postings _ (fun _ p hp hs => (txFlowStep_neutral cfg _ _ p (h p hp)).trans hs) rfl

theorem dayFlows_neutral (cfg : Cfg) (txs : List Transaction) (h : ∀ t ∈ txs, Neutral cfg t) :
    dayFlows cfg txs = (0, 0, 0) := by
  unfold dayFlows
  refine foldl_inv (· = _) txs _ (fun acc t ht hs => ?_) rfl
  simp only [txFlows_neutral cfg t (h t ht)]
  have e1 : posPart ([] : AMap Commodity Rat) = 0 := rfl
  have e2 : negPart ([] : AMap Commodity Rat) = 0 := rfl
  rw [e1, e2, Rat.add_zero, Rat.add_zero, Rat.add_zero]
  exact hs

theorem neutral_valueTx {cfg : Cfg} {v : Commodity} {cur : Option Prices.NPrices} {t t' : Transaction}
    (h : Neutral cfg t) (hv : Balance.valueTx v cur t = .ok t') : Neutral cfg t' := by
  obtain ⟨ps, hm, hv⟩ := bindOk_iff.mp hv
  cases hv
  intro q hq
  obtain ⟨p, hp, hpq⟩ := mapM_ok_mem _ _ _ hm q hq
  obtain ⟨x, rfl, _⟩ := valuePosting_ok hpq
  exact h p hp

theorem neutral_adjustmentTx (cfg : Cfg) (date : Int) (a : Account) (c : Commodity) (g : Rat) :
    Neutral cfg (adjustmentTx date a c g) := fun p hp => by
  right
  rcases mem_postingBuild hp with rfl | rfl <;> rfl

/-- **a day whose transactions stay inside the portfolio has no flows** (whatever the prices do: value adjustments are
attributed to their own commodity) -/
theorem perfDay_no_flows {cfg : Cfg} {ps ps' : PState} {d : Day} {p : DayPerf}
    (hint : ∀ t ∈ d.transactions, Internal cfg t) (h : perfDay cfg ps d = .ok (ps', p)) :
    p.portfolioFlows = 0 ∧ p.inflow = 0 ∧ p.outflow = 0 := by
  obtain ⟨txs, hvd, _, _, rfl⟩ := perfDay_ok h
  have huser : ∀ t ∈ d.transactions, Neutral cfg t := fun t ht q hq => Or.inl (hint t ht q hq)
  have hn : ∀ t ∈ txs, Neutral cfg t := by
    cases hv : cfg.valuation with
    | none => exact (valuedDay_none hv hvd).1 ▸ huser
    | some v =>
      obtain ⟨g, c, adj, _, _, ha, hm, _⟩ := (valuedDay_some_iff hv).mp hvd
      intro t' ht'
      obtain ⟨t, ht, hvt⟩ := mapM_ok_mem _ _ _ hm t' ht'
      refine neutral_valueTx ?_ hvt
      rcases List.mem_append.mp ht with ht | ht
      · exact huser t ht
      · obtain ⟨a, c, _, _, _, _, _, _, _, _, _, _, rfl⟩ := adjustments_mem ha t ht
        exact neutral_adjustmentTx cfg _ a c _
  simp [dayFlows_neutral cfg txs hn]

/-- every record of a run is the record `perfDay` writes for one of its days, from a state reached by the days before it -/
theorem perfFrom_record {cfg : Cfg} : ∀ (rest pre : List Day) (ps : PState) (perfs : List DayPerf),
    Reach cfg pre ps → perfFrom cfg ps rest = .ok perfs → ∀ p ∈ perfs,
    ∃ pre' d post ps0 ps1, rest = pre' ++ d :: post ∧ Reach cfg (pre ++ pre') ps0 ∧ perfDay cfg ps0 d = .ok (ps1, p) := by
  intro rest
  induction rest with
  | nil => intro pre ps perfs _ h p hp; rw [perfFrom_nil h] at hp; cases hp
  | cons d rest ih =>
    intro pre ps perfs hr h p hp
    obtain ⟨ps1, p0, perfs', hd, hrr, rfl⟩ := perfFrom_cons h
    rcases List.mem_cons.mp hp with rfl | hp
    · exact ⟨[], d, rest, ps, ps1, rfl, by rwa [List.append_nil], hd⟩
    · obtain ⟨pre', d', post, ps0, ps2, rfl, hr', hd'⟩ := ih (pre ++ [d]) ps1 perfs' (perfDay_reach hr hd) hrr p hp
      exact ⟨d :: pre', d', post, ps0, ps2, rfl, by rwa [List.append_assoc] at hr', hd'⟩

theorem mirroredB_sound : ∀ (ps : List Posting), mirroredB ps = true → Paired ps ∧ AccMirror (ps.map accPair)
  | [], _ => ⟨Paired.nil, AccMirror.nil⟩
  | [_], h => by simp [mirroredB] at h
  | a :: b :: rest, h => by
    simp only [mirroredB, Bool.and_eq_true, decide_eq_true_eq] at h
    obtain ⟨⟨⟨⟨⟨h1, h2⟩, h3⟩, h4⟩, h5⟩, h6⟩ := h
    obtain ⟨i1, i2⟩ := mirroredB_sound rest h6
    exact ⟨Paired.cons a b rest h1 h2 h3 i1, AccMirror.cons (accPair a) (accPair b) _ h4 h5 i2⟩

theorem plainB_sound {t : Transaction} (h : plainB t = true) : Plain t := by
  unfold plainB at h
  simp only [Bool.and_eq_true, Option.isNone_iff_eq_none] at h
  obtain ⟨i1, i2⟩ := mirroredB_sound t.postings h.2
  exact ⟨h.1, i1, i2⟩

theorem mirroredB_build (cr dr : Account) (c : Commodity) (q v : Rat) (rest : List Posting) :
    mirroredB (postingBuild cr dr c q v ++ rest) = mirroredB rest := by
  obtain ⟨a, b, e, rfl, _⟩ := postingBuild_pair cr dr c q v
  rw [e]
  simp only [List.cons_append, List.nil_append, mirroredB, decide_true, Bool.true_and]

/-- what the loader builds without annotation passes the executable test -/
theorem plainB_ofBookings (date : Int) (desc : String) (bks : List Booking) :
    plainB (Transaction.ofBookings date desc none bks) = true := by
  unfold plainB Transaction.ofBookings
  simp only [Option.isNone_none, Bool.true_and]
  induction bks with
  | nil => rfl
  | cons b rest ih => rw [List.flatMap_cons, mirroredB_build]; exact ih

theorem heldQty_zero_of_not_position (a : Account) (c : Commodity) (days : List Day)
    (h : (a, c) ∉ positionsOf days) : heldQty a c days = 0 := by
  unfold heldQty
  have : ((days.flatMap (·.transactions)).flatMap (·.postings)).filter
      (fun p => decide (p.account = a) && decide (p.commodity = c)) = [] := by
    rw [List.filter_eq_nil_iff]
    intro p hp hpc
    simp only [Bool.and_eq_true, decide_eq_true_eq] at hpc
    apply h
    unfold positionsOf
    exact List.mem_map.mpr ⟨p, hp, by rw [hpc.1, hpc.2]⟩
  rw [this]
  rfl

theorem pricesRestB_sound {v : Commodity} {pre : List Day} {d : Day} (h : pricesRestB v pre d = true) :
    PricesRestOn v pre d := by
  intro a c hal hc hheld
  by_cases hpos : (a, c) ∈ positionsOf pre
  · unfold pricesRestB at h
    simp only [List.all_eq_true] at h
    have := h (a, c) hpos
    simp only [hal, Bool.not_true, Bool.false_or, Bool.or_eq_true, decide_eq_true_eq] at this
    rcases this with (h1 | h1) | h1
    · exact absurd h1 hc
    · exact absurd h1 hheld
    · exact h1
  · exact absurd (heldQty_zero_of_not_position a c pre hpos) hheld

theorem mem_splits : ∀ (days acc : List Day) (pre : List Day) (d : Day) (post : List Day),
    days = pre ++ d :: post → (acc ++ pre, d) ∈ splits acc days := by
  intro days
  induction days with
  | nil => intro acc pre d post h; simp at h
  | cons x rest ih =>
    intro acc pre d post h
    cases pre with
    | nil =>
      simp only [List.nil_append, List.cons.injEq] at h
      obtain ⟨rfl, _⟩ := h
      simp [splits]
    | cons y pre' =>
      simp only [List.cons_append, List.cons.injEq] at h
      obtain ⟨rfl, h⟩ := h
      have := ih (acc ++ [x]) pre' d post h
      simp only [splits, List.mem_cons]
      right
      simpa [List.append_assoc] using this

/-- **the monitor's predicate implies the hypotheses of the 0 %-theorem** for the period -/
theorem calmPeriodB_sound {f : Flags} {days : List Day} {p : Period} (h : calmPeriodB f days p = true) :
    ∀ pre d post, days = pre ++ d :: post → p.start ≤ d.date → d.date ≤ p.stop →
      (∀ t ∈ d.transactions, Plain t) ∧ (∀ v, f.valuation = some v → PricesRestOn v pre d) := by
  intro pre d post hsplit h1 h2
  unfold calmPeriodB at h
  simp only [List.all_eq_true] at h
  have hm := mem_splits days [] pre d post hsplit
  simp only [List.nil_append] at hm
  have := h (pre, d) hm
  simp only [h1, h2, decide_true, Bool.and_self, Bool.not_true, Bool.false_or] at this
  unfold calmDayB at this
  simp only [Bool.and_eq_true, List.all_eq_true] at this
  refine ⟨fun t ht => plainB_sound (this.1 t ht), ?_⟩
  intro v hv
  rw [hv] at this
  exact pricesRestB_sound this.2

end Knut.Performance
