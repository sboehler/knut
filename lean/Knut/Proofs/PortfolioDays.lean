import Knut.Proofs.PortfolioBalance
/-! Lemmas for C20: the two commands build their day lists from the same journal but register different additional
(empty) days before `Build` — `portfolio` the period ends, `balance` (with closing) the period starts.  An empty day
changes nothing the portfolio pipeline records, so the values at a date do not depend on which empty days exist. -/
namespace Knut.Performance
open Knut Knut.MTM
open Knut.Balance (dayGraph dayNorm vStage cStage vOf cOf join)

/-- the day `Builder.Days` creates for a date that has none -/
def emptyDay (x : Int) : Day := { date := x }

theorem checkDay_empty (st : CheckState) (x : Int) : Check.day st (emptyDay x) = .ok st := rfl

theorem addQty_nil (q : AMap Position Rat) : Balance.addQty q [] = q := rfl

/-- `ComputePrices, check, Valuate` on an empty day, from a state at a day boundary (`vPrev = norm`): if they succeed,
nothing is booked and the state is the same -/
theorem valuedDay_empty {cfg : Cfg} {st st' : BalState} {txs : List Transaction} (x : Int)
    (hb : st.vPrev = st.norm) (h : valuedDay cfg st (emptyDay x) = .ok (st', txs)) : st' = st ∧ txs = [] := by
  cases hv : cfg.valuation with
  | none =>
    obtain ⟨c, hc, rfl, rfl⟩ := (valuedDay_none_iff hv).mp h
    cases hc
    exact ⟨rfl, rfl⟩
  | some v =>
    obtain ⟨g, c, adj, hg, hc, ha, hm, rfl⟩ := (valuedDay_some_iff hv).mp h
    cases hg; cases hc
    -- no price is declared: the normalised prices stay, and with `vPrev = norm` nothing is adjusted
    have hn : dayNorm v (emptyDay x) st.graph st.norm = st.norm := dayNorm_of_no_prices v rfl _ _
    rw [hn, hb] at ha
    cases adjustments_same_prices v _ _ _ adj ha
    cases hm
    rw [hn]
    obtain ⟨_, _, norm, vPrev, _, _, _, _⟩ := st
    cases (hb : vPrev = norm)
    exact ⟨rfl, rfl⟩

/-- the part of `Reach` an empty day needs -/
structure Boundary (ps : PState) : Prop where
  prev_values : ps.prev = ps.values
  vprev : ps.bal.vPrev = ps.bal.norm

theorem perfDay_boundary {cfg : Cfg} {ps ps' : PState} {d : Day} {p : DayPerf}
    (h : perfDay cfg ps d = .ok (ps', p)) (hb : Boundary ps) : Boundary ps' := by
  obtain ⟨txs, hv, _, hprev, _⟩ := perfDay_ok h
  refine ⟨hprev, ?_⟩
  cases hval : cfg.valuation with
  | none =>
    obtain ⟨_, _, g3, g4, _⟩ := valuedDay_none hval hv
    rw [g3, g4]; exact hb.vprev
  | some v =>
    obtain ⟨g, c, adj, _, _, _, _, hbal⟩ := (valuedDay_some_iff hval).mp hv
    rw [hbal]

theorem perfDay_empty {cfg : Cfg} {ps ps' : PState} {p : DayPerf} (x : Int) (hb : Boundary ps)
    (h : perfDay cfg ps (emptyDay x) = .ok (ps', p)) : ps' = ps ∧ p.v1 = ps.values ∧ p.date = x := by
  obtain ⟨txs, hv, hvals, hprev, rfl⟩ := perfDay_ok h
  obtain ⟨e1, rfl⟩ := valuedDay_empty x hb.vprev hv
  have hvals' : ps'.values = ps.values := hvals
  refine ⟨?_, hvals', rfl⟩
  obtain ⟨bal', values', prev'⟩ := ps'
  obtain ⟨bal, values, prev⟩ := ps
  have := hb.prev_values
  simp only at e1 hvals' hprev this
  subst e1; subst hvals'; subst hprev; subst this
  rfl

/-- two day lists with the same non-empty days in the same order, each with additional empty days -/
inductive EmptyExt : List Day → List Day → Prop
  | nil : EmptyExt [] []
  | both (d : Day) {l1 l2 : List Day} : EmptyExt l1 l2 → EmptyExt (d :: l1) (d :: l2)
  | left (x : Int) {l1 l2 : List Day} : EmptyExt l1 l2 → EmptyExt (emptyDay x :: l1) l2
  | right (x : Int) {l1 l2 : List Day} : EmptyExt l1 l2 → EmptyExt l1 (emptyDay x :: l2)

theorem EmptyExt.refl : ∀ (l : List Day), EmptyExt l l
  | [] => .nil
  | d :: rest => .both d (EmptyExt.refl rest)

theorem EmptyExt.insert_left {l1 l2 : List Day} (h : EmptyExt l1 l2) (x : Int) : EmptyExt (insertDay l1 x) l2 := by
  induction h with
  | nil => exact .left x .nil
  | both d h' ih =>
    unfold insertDay
    split
    · exact .left x (.both d h')
    · split
      · exact .both d h'
      · exact .both d ih
  | left y h' ih =>
    unfold insertDay
    split
    · exact .left x (.left y h')
    · split
      · exact .left y h'
      · exact .left y ih
  | right y h' ih => exact .right y ih

theorem EmptyExt.symm {l1 l2 : List Day} (h : EmptyExt l1 l2) : EmptyExt l2 l1 := by
  induction h with
  | nil => exact .nil
  | both d _ ih => exact .both d ih
  | left x _ ih => exact .right x ih
  | right x _ ih => exact .left x ih

/-- registering dates on either side of the same base -/
theorem emptyExt_ensure (base : List Day) : ∀ (xs ys : List Int),
    EmptyExt (xs.foldl insertDay base) (ys.foldl insertDay base) := by
  have hl : ∀ (xs : List Int) (l1 l2 : List Day), EmptyExt l1 l2 → EmptyExt (xs.foldl insertDay l1) l2 :=
    fun xs l1 l2 h => foldl_inv (EmptyExt · l2) xs l1 (fun _ x _ h => h.insert_left x) h
  intro xs ys
  exact hl xs _ _ (hl ys _ _ (EmptyExt.refl base)).symm

theorem lastV1_filter_skip {prev : AMap Commodity Rat} {p : DayPerf} (hp : p.v1 = prev) (r : List DayPerf)
    (f : DayPerf → Bool) : lastV1 prev ((p :: r).filter f) = lastV1 prev (r.filter f) := by
  rw [List.filter_cons]
  split
  · rw [← hp]; rfl
  · rfl

/-- **the values at a date do not depend on which empty days the list holds** -/
theorem perf_emptyExt {cfg : Cfg} {l1 l2 : List Day} (h : EmptyExt l1 l2) :
    ∀ (ps : PState) (perfs1 perfs2 : List DayPerf), Boundary ps →
      perfFrom cfg ps l1 = .ok perfs1 → perfFrom cfg ps l2 = .ok perfs2 → DSorted perfs1 → DSorted perfs2 →
      ∀ D, lastV1 ps.values (perfs1.filter (fun q => decide (q.date ≤ D))) =
        lastV1 ps.values (perfs2.filter (fun q => decide (q.date ≤ D))) := by
  induction h with
  | nil =>
    intro ps perfs1 perfs2 _ h1 h2 _ _ D
    rw [perfFrom_nil h1, perfFrom_nil h2]
  | both d h' ih =>
    intro ps perfs1 perfs2 hb h1 h2 s1 s2 D
    obtain ⟨ps1, p, r1, hd1, hr1, rfl⟩ := perfFrom_cons h1
    obtain ⟨ps2, p2, r2, hd2, hr2, rfl⟩ := perfFrom_cons h2
    rw [hd1] at hd2
    cases hd2
    have hv1 : p.v1 = ps1.values := by
      obtain ⟨_, _, _, _, rfl⟩ := perfDay_ok hd1
      rfl
    have t1 : DSorted r1 := (List.pairwise_cons.mp s1).2
    have t2 : DSorted r2 := (List.pairwise_cons.mp s2).2
    by_cases hle : p.date ≤ D
    · simp only [List.filter_cons, hle, decide_true, if_true, lastV1]
      rw [hv1]
      exact ih ps1 r1 r2 (perfDay_boundary hd1 hb) hr1 hr2 t1 t2 D
    · simp only [List.filter_cons, hle, decide_false, Bool.false_eq_true, if_false]
      rw [filter_le_nil_of_sorted p r1 s1 D hle, filter_le_nil_of_sorted p r2 s2 D hle]
  | left x h' ih =>
    intro ps perfs1 perfs2 hb h1 h2 s1 s2 D
    obtain ⟨ps1, p, r1, hd1, hr1, rfl⟩ := perfFrom_cons h1
    obtain ⟨rfl, e2, _⟩ := perfDay_empty x hb hd1
    rw [lastV1_filter_skip e2]
    exact ih ps1 r1 perfs2 hb hr1 h2 (List.pairwise_cons.mp s1).2 s2 D
  | right x h' ih =>
    intro ps perfs1 perfs2 hb h1 h2 s1 s2 D
    obtain ⟨ps1, p, r2, hd2, hr2, rfl⟩ := perfFrom_cons h2
    obtain ⟨rfl, e2, _⟩ := perfDay_empty x hb hd2
    rw [lastV1_filter_skip e2]
    exact ih ps1 perfs1 r2 hb h1 hr2 s1 (List.pairwise_cons.mp s2).2 D

theorem perfDay_of_valuedDay {cfg : Cfg} {ps : PState} {d : Day} {pb' : BalState} {txs : List Transaction}
    (hv : valuedDay cfg ps.bal d = .ok (pb', txs)) : ∃ ps1 p, perfDay cfg ps d = .ok (ps1, p) ∧ ps1.bal = pb' := by
  unfold perfDay
  simp only [bind, Except.bind, hv]
  exact ⟨_, _, rfl, rfl⟩

/-- **if `knut balance -v` accepts the days, so does the portfolio pipeline** -/
theorem balance_run_rev {cfg : Cfg} {b : BalCfg} {v : Commodity} (hm : Matches cfg b v) :
    ∀ (days : List Day) (ps : PState) (st stF : BalState), SameSt ps.bal st → CloseInv st →
      (∀ d ∈ days, ∀ t ∈ d.transactions, t.date = d.date) →
      days.foldlM (Balance.day b) st = .ok stF → ∃ perfs, perfFrom cfg ps days = .ok perfs := by
  intro days
  induction days with
  | nil => intro ps st stF _ _ _ _; exact ⟨[], rfl⟩
  | cons d rest ih =>
    intro ps st stF hs hinv hdates h
    obtain ⟨st', hday, h⟩ := foldlM_cons_ok.mp h
    obtain ⟨raw, q, hk, hval, hcl, _⟩ := Balance.day_ok_iff.mp hday
    obtain ⟨h1, h2⟩ := sameSt_iff.mp hs
    -- the checker and the valuation stage accept the day from the state that agrees with `st`
    have hvd : valuedDay cfg ps.bal d = .ok (join st'.chk (vOf st') (cOf ps.bal) ps.bal.entries, raw) :=
      (valuedDay_ok_iff hm.valuation).mpr ⟨h1 ▸ hk, h2 ▸ hval, rfl, rfl⟩
    obtain ⟨ps1, p, hpd, hbal⟩ := perfDay_of_valuedDay hvd
    obtain ⟨perfs', hrest⟩ := ih ps1 st' stF (hbal ▸ sameSt_iff.mpr ⟨rfl, rfl⟩)
      (by have := Balance.cStage_closeInv (cfg := b) (c := cOf st) hinv d (Balance.filterStage b d raw)
          rw [hcl] at this; exact this)
      (fun d' hd' => hdates d' (List.mem_cons_of_mem _ hd')) h
    exact ⟨p :: perfs', by simp only [perfFrom, bind, Except.bind, hpd, hrest]⟩

theorem add_min_le (b : Builder) (x : Directive) : (b.add x).min ≤ b.min := by
  unfold Builder.add
  cases x <;> simp only [Int.le_refl]
  split <;> omega

theorem add_min_tx (b : Builder) (t : Transaction) : (b.add (.tx t)).min ≤ t.date := by
  unfold Builder.add
  simp only
  split <;> omega

/-- the builder's `min` is not after any transaction -/
theorem ofList_min_le (ds : List Directive) (t : Transaction) (ht : Directive.tx t ∈ ds) :
    (Builder.ofList ds).min ≤ t.date := by
  refine ofList_induction (P := fun pre b => Directive.tx t ∈ pre → b.min ≤ t.date) (fun h => nomatch h)
    (fun pre x ih h => ?_) ds ht
  -- `min` only falls, and the transaction itself brings it down to its date
  rcases List.mem_append.mp h with h | h
  · exact Int.le_trans (add_min_le _ x) (ih h)
  · rw [← List.mem_singleton.mp h]; exact add_min_tx _ t

/-- the days of the journal, with additional registered dates: every transaction is dated with its day, and no day
before the builder's `min` holds one -/
theorem ensure_day_txs (ds : List Directive) (dates : List Int) (d : Day)
    (hd : d ∈ dates.foldl insertDay (Builder.ofList ds).days) :
    (∀ t ∈ d.transactions, t.date = d.date) ∧ (d.date < (Builder.ofList ds).min → d.transactions = []) := by
  have hall := foldl_insertDay_all (fun y t => t.date = y ∧ (Builder.ofList ds).min ≤ t.date) dates _
    (ofList_all _ ds fun t ht => ⟨rfl, ofList_min_le ds t ht⟩) d hd
  refine ⟨fun t ht => (hall t ht).1, fun hlt => ?_⟩
  cases htx : d.transactions with
  | nil => rfl
  | cons t rest =>
    have := hall t (htx ▸ List.mem_cons_self)
    omega

end Knut.Performance
