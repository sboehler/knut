import Knut.Proofs.Portfolio
/-! Lemmas for C20: with unchanged prices and un-annotated transactions the change of the portfolio value on a day
equals the day's net external flow; and the bridge to the day of `knut balance` (`valuedDay_ok_iff`: the portfolio's
`ComputePrices, check, Valuate` are the checker and `Balance.vStage`), on which PortfolioBalance and PortfolioDays stand. -/
namespace Knut.Performance
open Knut
open Knut.Balance (dayGraph dayNorm vStage vOf cOf)

theorem get_of_not_mem (m : AMap Commodity Rat) (k : Commodity) (h : k ∉ m.map (·.1)) : m.get k 0 = 0 :=
  AMap.get_of_not_key h 0

theorem sumVals_erase (m : AMap Commodity Rat) (hn : AMap.NodupKeys m) (k : Commodity) :
    sumVals (m.erase k) = sumVals m - m.get k 0 := by
  cases h : AMap.find? m k with
  | none =>
    have hk := AMap.find?_eq_none_iff.mp h
    rw [AMap.erase_of_not_key hk, AMap.get_of_not_key hk, sub_zero_rat]
  | some v =>
    have : sumVals m = v + sumVals (m.erase k) := MapSum.msum_erase (fun x => x) hn h
    rw [AMap.get_of_find? h, this, add_sub_cancel_left_rat]

theorem valuesStep_counted {cfg : Cfg} {p : Posting}
    (h : cfg.commodityFilter p.commodity = true ∧ isPortfolio cfg p.account = true) (vals : AMap Commodity Rat) :
    valuesStep cfg vals p = if vals.get p.commodity 0 + p.value = 0 then vals.erase p.commodity
      else vals.set p.commodity (vals.get p.commodity 0 + p.value) := by
  simp only [valuesStep, h.1, h.2, Bool.not_true, Bool.false_eq_true, if_false]

theorem valuesStep_not_counted {cfg : Cfg} {p : Posting}
    (h : ¬ (cfg.commodityFilter p.commodity = true ∧ isPortfolio cfg p.account = true)) (vals : AMap Commodity Rat) :
    valuesStep cfg vals p = vals := by
  unfold valuesStep
  by_cases hc : cfg.commodityFilter p.commodity = true
  · have hp : isPortfolio cfg p.account = false := by simpa using fun hp => h ⟨hc, hp⟩
    simp only [hc, hp, Bool.not_true, Bool.not_false, Bool.false_eq_true, if_false, if_true]
  · simp only [hc, Bool.not_false, if_true]

/-- what a posting adds to the portfolio value -/
def inV (cfg : Cfg) (p : Posting) : Rat :=
  if cfg.commodityFilter p.commodity = true ∧ isPortfolio cfg p.account = true then p.value else 0

theorem valuesStep_sum (cfg : Cfg) (vals : AMap Commodity Rat) (hn : AMap.NodupKeys vals) (p : Posting) :
    AMap.NodupKeys (valuesStep cfg vals p) ∧ sumVals (valuesStep cfg vals p) = sumVals vals + inV cfg p := by
  unfold inV
  by_cases h : cfg.commodityFilter p.commodity = true ∧ isPortfolio cfg p.account = true
  · rw [valuesStep_counted h, if_pos h]
    split
    · exact ⟨AMap.nodupKeys_erase hn _, by rw [sumVals_erase _ hn]; grind⟩
    · exact ⟨AMap.nodupKeys_set hn _ _, MapSum.total_set_add _ _ _⟩
  · rw [valuesStep_not_counted h, if_neg h, Rat.add_zero]
    exact ⟨hn, rfl⟩

def sumOver (f : Posting → Rat) (ps : List Posting) : Rat := (ps.map f).sum

theorem sumOver_cons (f : Posting → Rat) (p : Posting) (ps : List Posting) : sumOver f (p :: ps) = f p + sumOver f ps :=
  rfl

theorem sumOver_append (f : Posting → Rat) (a b : List Posting) : sumOver f (a ++ b) = sumOver f a + sumOver f b := by
  simp [sumOver, List.sum_append]

theorem sumOver_flatMap (f : Posting → Rat) : ∀ (txs : List Transaction),
    sumOver f (txs.flatMap (·.postings)) = (txs.map (fun t => sumOver f t.postings)).sum := by
  intro txs
  induction txs with
  | nil => rfl
  | cons t rest ih => rw [List.flatMap_cons, sumOver_append, ih]; rfl

theorem valuesPostings_sum (cfg : Cfg) (ps : List Posting) (vals : AMap Commodity Rat) (hn : AMap.NodupKeys vals) :
    AMap.NodupKeys (ps.foldl (valuesStep cfg) vals) ∧
    sumVals (ps.foldl (valuesStep cfg) vals) = sumVals vals + sumOver (inV cfg) ps :=
  foldl_add AMap.NodupKeys sumVals (inV cfg) (valuesStep cfg) ps vals (fun s p _ hs => valuesStep_sum cfg s hs p) hn

theorem valuesDay_sum (cfg : Cfg) (txs : List Transaction) (vals : AMap Commodity Rat) (hn : AMap.NodupKeys vals) :
    AMap.NodupKeys (valuesDay cfg vals txs) ∧
    sumVals (valuesDay cfg vals txs) = sumVals vals + sumOver (inV cfg) (txs.flatMap (·.postings)) := by
  rw [sumOver_flatMap]
  exact foldl_add AMap.NodupKeys sumVals (fun t => sumOver (inV cfg) t.postings)
    (fun v t => t.postings.foldl (valuesStep cfg) v) txs vals
    (fun s t _ hs => valuesPostings_sum cfg t.postings s hs) hn

/-- what a posting adds to the value recorded for commodity `c` -/
def inVc (cfg : Cfg) (c : Commodity) (p : Posting) : Rat :=
  if cfg.commodityFilter p.commodity = true ∧ isPortfolio cfg p.account = true ∧ p.commodity = c then p.value else 0

theorem valuesStep_get (cfg : Cfg) (vals : AMap Commodity Rat) (p : Posting) (c : Commodity) :
    (valuesStep cfg vals p).get c 0 = vals.get c 0 + inVc cfg c p := by
  unfold inVc
  by_cases h : cfg.commodityFilter p.commodity = true ∧ isPortfolio cfg p.account = true
  · rw [valuesStep_counted h]
    simp only [h.1, h.2, true_and]
    -- both branches leave `get + value` under `p.commodity` (0 after `erase`) and nothing else changed
    split
    · rename_i hz
      rw [AMap.get_erase]
      split
      · rename_i hk; subst hk; exact hz.symm
      · exact (Rat.add_zero _).symm
    · rw [AMap.get_set]
      split
      · rename_i hk; subst hk; rfl
      · exact (Rat.add_zero _).symm
  · rw [valuesStep_not_counted h, if_neg (fun hc => h ⟨hc.1, hc.2.1⟩), Rat.add_zero]

/-- **values are sums of posting values**: the value `ComputeValues` holds for commodity `c` is the sum of the values of
the portfolio accounts' postings in `c` -/
theorem valuesDay_get (cfg : Cfg) (c : Commodity) (txs : List Transaction) (vals : AMap Commodity Rat) :
    (valuesDay cfg vals txs).get c 0 = vals.get c 0 + sumOver (inVc cfg c) (txs.flatMap (·.postings)) := by
  rw [sumOver_flatMap]
  exact (foldl_add (fun _ => True) (·.get c 0) (fun t => sumOver (inVc cfg c) t.postings)
    (fun v t => t.postings.foldl (valuesStep cfg) v) txs vals
    (fun s t _ _ => ⟨trivial, (foldl_add (fun _ => True) (·.get c 0) (inVc cfg c) (valuesStep cfg) t.postings s
      (fun s p _ _ => ⟨trivial, valuesStep_get cfg s p c⟩) trivial).2⟩) trivial).2

/-- what a posting of an un-annotated transaction contributes to the flows -/
def flowV (cfg : Cfg) (p : Posting) : Rat :=
  if isPortfolio cfg p.account = true ∧ isPortfolio cfg p.other = false then p.value else 0

theorem txFlowStep_none (cfg : Cfg) (acc : AMap Commodity Rat × Rat) (p : Posting) :
    sumVals (txFlowStep cfg none acc p).1 = sumVals acc.1 + flowV cfg p ∧ (txFlowStep cfg none acc p).2 = acc.2 := by
  unfold txFlowStep flowV
  by_cases hp : isPortfolio cfg p.account = true
  · by_cases ho : isPortfolio cfg p.other = true
    · simp [hp, ho, Rat.add_zero]
    · have ho' : isPortfolio cfg p.other = false := by simpa using ho
      simp only [hp, ho', Bool.not_true, Bool.false_eq_true, if_false, and_self, if_true]
      have : ¬ (none : Option (List Commodity)) = some [p.commodity] := by simp
      simp only [this, if_false]
      exact ⟨MapSum.total_set_add _ _ _, trivial⟩
  · have hp' : isPortfolio cfg p.account = false := by simpa using hp
    simp [hp', Rat.add_zero]

theorem txFlows_none (cfg : Cfg) (t : Transaction) (ht : t.targets = none) :
    sumVals (txFlows cfg t).1 = sumOver (flowV cfg) t.postings ∧ (txFlows cfg t).2 = 0 := by
  unfold txFlows pickTargets
  rw [ht]
  obtain ⟨h2, h1⟩ := foldl_add (fun acc : AMap Commodity Rat × Rat => acc.2 = 0) (fun acc => sumVals acc.1) (flowV cfg)
    (txFlowStep cfg none) t.postings ([], 0)
    (fun acc p _ hacc => ⟨((txFlowStep_none cfg acc p).2).trans hacc, (txFlowStep_none cfg acc p).1⟩) rfl
  exact ⟨h1.trans (Rat.zero_add _), h2⟩

theorem pos_neg_sum : ∀ (l : List Rat),
    (l.filter (fun f => decide (0 < f))).sum + (l.filter (fun f => decide (f < 0))).sum = l.sum := by
  intro l
  induction l with
  | nil => exact Rat.add_zero 0
  | cons x xs ih =>
    rw [List.sum_cons, ← ih]
    by_cases h1 : 0 < x
    · have h2 : ¬ x < 0 := Rat.not_lt.mpr (Rat.le_of_lt h1)
      rw [List.filter_cons_of_pos (by simpa using h1), List.filter_cons_of_neg (by simpa using h2), List.sum_cons,
        Rat.add_assoc]
    · by_cases h2 : x < 0
      · rw [List.filter_cons_of_neg (by simpa using h1), List.filter_cons_of_pos (by simpa using h2), List.sum_cons,
          Rat.add_left_comm]
      · have : x = 0 := Rat.le_antisymm (Rat.not_lt.mp h1) (Rat.not_lt.mp h2)
        rw [List.filter_cons_of_neg (by simpa using h1), List.filter_cons_of_neg (by simpa using h2), this, Rat.zero_add]

theorem posPart_negPart (m : AMap Commodity Rat) : posPart m + negPart m = sumVals m := pos_neg_sum _

theorem dayFlows_plain (cfg : Cfg) (txs : List Transaction) (hplain : ∀ t ∈ txs, t.targets = none) :
    (dayFlows cfg txs).1 + (dayFlows cfg txs).2.1 = sumOver (flowV cfg) (txs.flatMap (·.postings)) ∧
      (dayFlows cfg txs).2.2 = 0 := by
  rw [sumOver_flatMap]
  obtain ⟨h2, h1⟩ := foldl_add (fun acc : Rat × Rat × Rat => acc.2.2 = 0) (fun acc => acc.1 + acc.2.1)
    (fun t => sumOver (flowV cfg) t.postings)
    (fun acc t => (acc.1 + posPart (txFlows cfg t).1, acc.2.1 + negPart (txFlows cfg t).1, acc.2.2 + (txFlows cfg t).2))
    txs (0, 0, 0)
    (fun acc t ht hacc => by
      obtain ⟨e1, e2⟩ := txFlows_none cfg t (hplain t ht)
      exact ⟨by show acc.2.2 + (txFlows cfg t).2 = 0; rw [hacc, e2]; exact Rat.add_zero 0,
        by show (acc.1 + posPart _) + (acc.2.1 + negPart _) = _
           rw [add_add_add_comm_rat, posPart_negPart, e1]⟩) rfl
  exact ⟨h1.trans (by rw [Rat.add_zero 0, Rat.zero_add]), h2⟩

/-- a list of posting pairs as `posting.Builder.Build` makes them: opposite values, mirrored account/other, same commodity -/
inductive Mirrored : List Posting → Prop
  | nil : Mirrored []
  | cons (a b : Posting) (rest : List Posting) (hc : b.commodity = a.commodity) (hv : b.value = -a.value)
      (h1 : b.account = a.other) (h2 : b.other = a.account) (h : Mirrored rest) : Mirrored (a :: b :: rest)

theorem Mirrored.append {xs ys : List Posting} (hx : Mirrored xs) (hy : Mirrored ys) : Mirrored (xs ++ ys) := by
  induction hx with
  | nil => simpa using hy
  | cons a b rest hc hv h1 h2 _ ih => exact Mirrored.cons a b _ hc hv h1 h2 ih

theorem mirrored_in_eq_flow (cfg : Cfg) (hf : ∀ c, cfg.commodityFilter c = true) {ps : List Posting} (h : Mirrored ps) :
    sumOver (inV cfg) ps = sumOver (flowV cfg) ps := by
  induction h with
  | nil => rfl
  | cons a b rest hc hv h1 h2 _ ih =>
    -- a pair inside or outside the portfolio adds `v − v` resp. nothing on both sides; a pair across its boundary
    -- has one posting on each side
    have e : inV cfg a + inV cfg b = flowV cfg a + flowV cfg b := by
      unfold inV flowV
      simp only [hf, true_and, h1, h2, hv]
      cases isPortfolio cfg a.account <;> cases isPortfolio cfg a.other <;>
        simp [Rat.add_neg_cancel, Rat.add_zero, Rat.zero_add]
    rw [sumOver_cons, sumOver_cons, sumOver_cons, sumOver_cons, ← Rat.add_assoc, ← Rat.add_assoc, e, ih]

/-- account/other of consecutive postings mirror each other -/
inductive AccMirror : List (Account × Account) → Prop
  | nil : AccMirror []
  | cons (a b : Account × Account) (rest : List (Account × Account)) (h1 : b.1 = a.2) (h2 : b.2 = a.1)
      (h : AccMirror rest) : AccMirror (a :: b :: rest)

def accPair (p : Posting) : Account × Account := (p.account, p.other)

theorem AccMirror.append {xs ys : List (Account × Account)} (hx : AccMirror xs) (hy : AccMirror ys) : AccMirror (xs ++ ys) := by
  induction hx with
  | nil => simpa using hy
  | cons a b rest h1 h2 _ ih => exact AccMirror.cons a b _ h1 h2 ih

theorem mirrored_of_paired : ∀ {ps : List Posting}, Paired ps → AccMirror (ps.map accPair) → Mirrored ps := by
  intro ps hp
  induction hp with
  | nil => intro _; exact Mirrored.nil
  | cons a b rest hc hq hv _ ih =>
    intro hm
    simp only [List.map_cons] at hm
    cases hm with
    | cons _ _ _ h1 h2 h => exact Mirrored.cons a b rest hc hv h1 h2 (ih h)

theorem accMirror_postingBuild (cr dr : Account) (c : Commodity) (q v : Rat) :
    AccMirror ((postingBuild cr dr c q v).map accPair) := by
  obtain ⟨a, b, e, rfl, _⟩ := postingBuild_pair cr dr c q v
  rw [e]
  exact AccMirror.cons _ _ [] rfl rfl AccMirror.nil

/-- an un-annotated transaction made of mirrored posting pairs -/
structure Plain (t : Transaction) : Prop where
  targets : t.targets = none
  paired : Paired t.postings
  mirror : AccMirror (t.postings.map accPair)

theorem pairsHave_accMirror : PairsHave (fun ps => AccMirror (ps.map accPair)) :=
  ⟨AccMirror.nil, fun _ _ _ _ => accMirror_postingBuild _ _ _ _ _,
    fun ha hb => by rw [List.map_append]; exact ha.append hb⟩

theorem plain_ofBookings (date : Int) (desc : String) (bks : List Booking) :
    Plain (Transaction.ofBookings date desc none bks) :=
  ⟨rfl, PairsHave.flatMap pairsHave_paired _ (fun _ => paired_postingBuild _ _ _ _ _) bks,
    PairsHave.flatMap pairsHave_accMirror _ (fun _ => accMirror_postingBuild _ _ _ _ _) bks⟩

theorem plain_valueTx {v : Commodity} {cur : Option Prices.NPrices} {t t' : Transaction} (h : Plain t)
    (hv : Balance.valueTx v cur t = .ok t') : Plain t' := by
  have hp := paired_valueTx h.paired hv
  obtain ⟨ps, hm, hv⟩ := bindOk_iff.mp hv
  cases hv
  exact ⟨h.targets, hp, (mapM_ok_map (g := accPair) (g' := accPair)
    (fun _ _ hp => by obtain ⟨x, rfl, _⟩ := valuePosting_ok hp; rfl) hm).symm ▸ h.mirror⟩

theorem plain_mapM {v : Commodity} {cur : Option Prices.NPrices} (ts ts' : List Transaction)
    (hall : ∀ t ∈ ts, Plain t) (h : ts.mapM (Balance.valueTx v cur) = .ok ts') : ∀ t ∈ ts', Plain t := by
  intro t' ht'
  obtain ⟨t, ht, hv⟩ := mapM_ok_mem _ _ _ h t' ht'
  exact plain_valueTx (hall t ht) hv

/-- **no adjustment while the prices of the held commodities rest** -/
theorem adjustments_rest (v : Commodity) (date : Int) (prev cur : Option Prices.NPrices) (qty : AMap Position Rat)
    (adj : List Transaction)
    (hrest : ∀ e ∈ qty, e.1.1.isAL = true → e.1.2 ≠ v → e.2 ≠ 0 →
      Balance.lookupPrice prev e.1.2 = Balance.lookupPrice cur e.1.2)
    (h : Balance.adjustments v date prev cur qty = .ok adj) : adj = [] := by
  refine List.eq_nil_iff_forall_not_mem.mpr fun t ht => ?_
  -- an adjustment is booked only for an open foreign asset/liability position whose two prices differ
  obtain ⟨a, c, q, pp, cp, he, hc, hal, hq, hpp, hcp, hd, _⟩ := adjustments_mem h t ht
  rw [hrest _ he hal hc hq, hcp] at hpp; cases hpp
  exact hd Rat.sub_self

theorem adjustments_same_prices (v : Commodity) (date : Int) (np : Option Prices.NPrices) (qty : AMap Position Rat)
    (adj : List Transaction) (h : Balance.adjustments v date np np qty = .ok adj) : adj = [] :=
  adjustments_rest v date np np qty adj (fun _ _ _ _ _ => rfl) h

/-- the state `Valuate` needs for producing no adjustment on the next day -/
def Calm (st : BalState) : Prop := st.vQty = [] ∨ st.vPrev = st.norm

theorem pricesDay_ok {v : Commodity} {s s1 : BalState} {d : Day} :
    Balance.pricesDay v s d = .ok s1 ↔
      ∃ g, dayGraph d s.graph = .ok g ∧ s1 = { s with graph := g, norm := dayNorm v d g s.norm } :=
  Balance.pricesDay_ok

/-- **`ComputePrices, check, Valuate` of the portfolio commands** are the checker and the valuation stage of `knut balance`
with the same `-v` (`Balance.vStage`), each on its own part of the state: the order of the two does not matter for success
(it decides only which error is reported), and the closing maps and the report are not touched -/
theorem valuedDay_ok_iff {cfg : Cfg} {b : BalCfg} (hv : b.valuation = cfg.valuation) {s s' : BalState} {d : Day}
    {txs : List Transaction} :
    valuedDay cfg s d = .ok (s', txs) ↔
      Check.day s.chk d = .ok s'.chk ∧ vStage b (vOf s) d = .ok (vOf s', txs) ∧ cOf s' = cOf s ∧ s'.entries = s.entries := by
  -- `check` first, as `Balance.dayTxs` runs them: the two record updates commute
  have key : valuedDay cfg s d = .ok (s', txs) ↔
      ∃ c, Check.day s.chk d = .ok c ∧ Balance.valuationStage b { s with chk := c } d = .ok (s', txs) := by
    unfold valuedDay Balance.valuationStage
    rw [hv]
    cases cfg.valuation with
    | none =>
      simp only [bindOk_iff, Balance.checkStage_ok]
      exact ⟨fun ⟨_, ⟨c, hc, rfl⟩, h⟩ => ⟨c, hc, h⟩, fun ⟨c, hc, h⟩ => ⟨_, ⟨c, hc, rfl⟩, h⟩⟩
    | some v =>
      simp only [bindOk_iff, Balance.checkStage_ok, Balance.pricesDay_ok]
      constructor
      · rintro ⟨_, ⟨g, hg, rfl⟩, _, ⟨c, hc, rfl⟩, h⟩
        exact ⟨c, hc, _, ⟨g, hg, rfl⟩, h⟩
      · rintro ⟨c, hc, _, ⟨g, hg, rfl⟩, h⟩
        exact ⟨_, ⟨g, hg, rfl⟩, _, ⟨c, hc, rfl⟩, h⟩
  rw [key]
  simp only [Balance.valuationStage_ok_iff]
  constructor
  · rintro ⟨c, hc, h1, rfl, h3, h4⟩; exact ⟨hc, h1, h3, h4⟩
  · rintro ⟨hc, h1, h3, h4⟩; exact ⟨_, hc, h1, rfl, h3, h4⟩

/-- the flags of `knut balance` that `Balance.vStage` reads, from those of the portfolio commands -/
def Cfg.val (cfg : Cfg) : BalCfg := { valuation := cfg.valuation, span := ⟨0, 0⟩, periods := [] }

theorem valuedDay_some_iff {cfg : Cfg} {v : Commodity} (hv : cfg.valuation = some v) {s s' : BalState} {d : Day}
    {txs : List Transaction} :
    valuedDay cfg s d = .ok (s', txs) ↔
      ∃ g c adj, dayGraph d s.graph = .ok g ∧ Check.day s.chk d = .ok c ∧
        Balance.adjustments v d.date s.vPrev (dayNorm v d g s.norm) s.vQty = .ok adj ∧
        (d.transactions ++ adj).mapM (Balance.valueTx v (dayNorm v d g s.norm)) = .ok txs ∧
        s' = { s with chk := c, graph := g, norm := dayNorm v d g s.norm, vPrev := dayNorm v d g s.norm,
                      vQty := Balance.addQty s.vQty (d.transactions ++ adj) } := by
  rw [valuedDay_ok_iff (b := cfg.val) rfl, Balance.vStage_some_iff (cfg := cfg.val) hv]
  constructor
  · rintro ⟨hc, ⟨g, adj, hg, ha, hm, hv'⟩, h3, h4⟩
    exact ⟨g, _, adj, hg, hc, ha, hm, Balance.eq_join.mpr ⟨rfl, hv', h3, h4⟩⟩
  · rintro ⟨g, c, adj, hg, hc, ha, hm, rfl⟩
    exact ⟨hc, ⟨g, adj, hg, ha, hm, rfl⟩, rfl, rfl⟩

theorem valuedDay_none_iff {cfg : Cfg} (hv : cfg.valuation = none) {s s' : BalState} {d : Day}
    {txs : List Transaction} :
    valuedDay cfg s d = .ok (s', txs) ↔ ∃ c, Check.day s.chk d = .ok c ∧ s' = { s with chk := c } ∧ txs = d.transactions := by
  rw [valuedDay_ok_iff (b := cfg.val) rfl, Balance.vStage_none (cfg := cfg.val) hv]
  constructor
  · rintro ⟨hc, hval, h3, h4⟩
    obtain ⟨h1, h2⟩ := Prod.mk.inj (Except.ok.inj hval)
    exact ⟨_, hc, Balance.eq_join.mpr ⟨rfl, h1.symm, h3, h4⟩, h2.symm⟩
  · rintro ⟨c, hc, rfl, rfl⟩
    exact ⟨hc, rfl, rfl, rfl⟩

theorem dayNorm_of_no_prices (v : Commodity) {d : Day} (h : d.prices = []) (g : Prices.Prices)
    (n : Option Prices.NPrices) : dayNorm v d g n = n := by
  simp [dayNorm, h]

/-- **a calm day**: no price is declared (or nothing is held yet), so the day's valued transactions are the user's -/
theorem valuedDay_calm {cfg : Cfg} {st st' : BalState} {d : Day} {txs : List Transaction}
    (hc : st.vQty = [] ∨ (st.vPrev = st.norm ∧ d.prices = [])) (hplain : ∀ t ∈ d.transactions, Plain t)
    (h : valuedDay cfg st d = .ok (st', txs)) : (∀ t ∈ txs, Plain t) ∧ Calm st' := by
  cases hv : cfg.valuation with
  | none =>
    obtain ⟨c, _, rfl, rfl⟩ := (valuedDay_none_iff hv).mp h
    exact ⟨hplain, hc.imp id And.left⟩
  | some v =>
    obtain ⟨g, c, adj, _, _, ha, hm, rfl⟩ := (valuedDay_some_iff hv).mp h
    have hadj : adj = [] := by
      rcases hc with hq | ⟨hp, hpr⟩
      · rw [hq] at ha; cases ha; rfl
      · rw [dayNorm_of_no_prices v hpr, hp] at ha
        exact adjustments_same_prices v d.date _ _ adj ha
    subst hadj
    rw [List.append_nil] at hm
    exact ⟨plain_mapM _ _ hplain hm, Or.inr rfl⟩

/-- **the day equation, from the day's valued transactions**: if they are plain (and there is no commodity filter), what
they add to the portfolio value is the net external flow, and nothing is booked as an unallocated portfolio effect -/
theorem dayFlows_eq_value {cfg : Cfg} (hf : ∀ c, cfg.commodityFilter c = true) {txs : List Transaction}
    (hpl : ∀ t ∈ txs, Plain t) {vals : AMap Commodity Rat} (hn : AMap.NodupKeys vals) :
    (dayFlows cfg txs).2.2 = 0 ∧
      sumVals (valuesDay cfg vals txs) - sumVals vals = (dayFlows cfg txs).1 + (dayFlows cfg txs).2.1 := by
  obtain ⟨fl1, fl2⟩ := dayFlows_plain cfg txs (fun t ht => (hpl t ht).targets)
  -- internal transfers cancel, transaction by transaction
  have hcancel : sumOver (inV cfg) (txs.flatMap (·.postings)) = sumOver (flowV cfg) (txs.flatMap (·.postings)) := by
    rw [sumOver_flatMap, sumOver_flatMap]
    exact congrArg List.sum (List.map_congr_left fun t ht =>
      mirrored_in_eq_flow cfg hf (mirrored_of_paired (hpl t ht).paired (hpl t ht).mirror))
  exact ⟨fl2, by rw [(valuesDay_sum cfg txs vals hn).2, hcancel, fl1, add_sub_cancel_left_rat]⟩

/-- **the day equation**: on a calm day of plain transactions (and without commodity filter) the change of the portfolio
value equals the net external flow, and nothing is booked as an unallocated portfolio effect -/
theorem perfDay_net_flow {cfg : Cfg} (hf : ∀ c, cfg.commodityFilter c = true) {ps ps' : PState} {d : Day} {p : DayPerf}
    (hc : ps.bal.vQty = [] ∨ (ps.bal.vPrev = ps.bal.norm ∧ d.prices = [])) (hplain : ∀ t ∈ d.transactions, Plain t)
    (hprev : ps.prev = ps.values) (hn : AMap.NodupKeys ps.values)
    (h : perfDay cfg ps d = .ok (ps', p)) :
    p.portfolioFlows = 0 ∧ sumVals p.v1 - sumVals p.v0 = p.inflow + p.outflow ∧
    Calm ps'.bal ∧ ps'.prev = ps'.values ∧ AMap.NodupKeys ps'.values := by
  obtain ⟨txs, hv, hvals, hprev', rfl⟩ := perfDay_ok h
  obtain ⟨hpl, hcalm⟩ := valuedDay_calm hc hplain hv
  obtain ⟨e1, e2⟩ := dayFlows_eq_value hf hpl hn
  exact ⟨e1, by rw [hprev]; exact hvals ▸ e2, hcalm, hprev', hvals ▸ (valuesDay_sum cfg txs ps.values hn).1⟩

/-- the whole run: every day satisfies the day equation when prices are declared on the first day only -/
theorem perfFrom_net_flow {cfg : Cfg} (hf : ∀ c, cfg.commodityFilter c = true) : ∀ (days : List Day) (ps : PState)
    (perfs : List DayPerf), perfFrom cfg ps days = .ok perfs →
    (∀ d ∈ days, ∀ t ∈ d.transactions, Plain t) →
    (ps.bal.vQty = [] ∨ ps.bal.vPrev = ps.bal.norm) → (ps.bal.vQty ≠ [] → ∀ d ∈ days, d.prices = []) →
    (∀ d ∈ days.tail, d.prices = []) →
    ps.prev = ps.values → AMap.NodupKeys ps.values →
    ∀ p ∈ perfs, p.portfolioFlows = 0 ∧ sumVals p.v1 - sumVals p.v0 = p.inflow + p.outflow := by
  intro days
  induction days with
  | nil => intro ps perfs h _ _ _ _ _ _ p hp; rw [perfFrom_nil h] at hp; cases hp
  | cons d rest ih =>
    intro ps perfs h hplain hcalm hheld htail hprev hn q hq
    obtain ⟨ps1, p, perfs', hd, hr, rfl⟩ := perfFrom_cons h
    have hc : ps.bal.vQty = [] ∨ (ps.bal.vPrev = ps.bal.norm ∧ d.prices = []) := by
      by_cases hq : ps.bal.vQty = []
      · exact Or.inl hq
      · exact Or.inr ⟨hcalm.resolve_left hq, hheld hq d List.mem_cons_self⟩
    obtain ⟨e1, e2, e3, e4, e5⟩ := perfDay_net_flow hf hc (hplain d List.mem_cons_self) hprev hn hd
    rcases List.mem_cons.mp hq with rfl | hq
    · exact ⟨e1, e2⟩
    · exact ih ps1 perfs' hr (fun d' hd' => hplain d' (List.mem_cons_of_mem _ hd')) e3
        (fun _ d' hd' => htail d' hd') (fun d' hd' => htail d' (List.mem_of_mem_tail hd')) e4 e5 q hq

end Knut.Performance
