import Knut.Proofs.Partition
import Knut.Proofs.Portfolio
/-! Lemmas for C20: what `Perf` prints for ONE period of the partition is the chained growth factor of the days of that
period (and of no other day), whatever happens in the other periods. -/
namespace Knut.Performance
open Knut


/-- the running product `Perf` holds after a list of days -/
def runningAfter (ends : List Int) : Option Rat → List DayPerf → Option Rat
  | r, [] => r
  | r, p :: rest =>
    if ends.contains p.date then runningAfter ends (some 1) rest else runningAfter ends (mulOpt r (factor p)) rest

theorem runningAfter_cons (ends : List Int) (r : Option Rat) (p : DayPerf) (rest : List DayPerf) :
    runningAfter ends r (p :: rest) =
      if ends.contains p.date then runningAfter ends (some 1) rest else runningAfter ends (mulOpt r (factor p)) rest := rfl

theorem chunkLines_append (ends : List Int) : ∀ (A B : List DayPerf) (r : Option Rat),
    chunkLines ends r (A ++ B) = chunkLines ends r A ++ chunkLines ends (runningAfter ends r A) B := by
  intro A
  induction A with
  | nil => intro B r; rfl
  | cons p rest ih =>
    intro B r
    simp only [List.cons_append, chunkLines_cons, runningAfter_cons]
    split
    · rw [ih]; rfl
    · rw [ih]

def DSorted (L : List DayPerf) : Prop := List.Pairwise (fun a b => a.date < b.date) L

theorem DSorted.filter {L : List DayPerf} (h : DSorted L) (f : DayPerf → Bool) : DSorted (L.filter f) :=
  List.Pairwise.sublist List.filter_sublist h

theorem dsorted_of_dates {L : List DayPerf} (h : List.Pairwise (· < ·) (L.map (·.date))) : DSorted L :=
  List.pairwise_map.mp h

theorem perfFrom_dsorted {cfg : Cfg} {days : List Day} {ps : PState} {perfs : List DayPerf} (hp : perfFrom cfg ps days = .ok perfs)
    (hs : List.Pairwise (· < ·) (days.map (·.date))) : DSorted perfs :=
  dsorted_of_dates ((perfFrom_dates days ps perfs hp).symm ▸ hs)

theorem split_lt : ∀ (L : List DayPerf), DSorted L → ∀ s : Int,
    L = L.filter (fun p => decide (p.date < s)) ++ L.filter (fun p => decide (s ≤ p.date)) := by
  intro L
  induction L with
  | nil => intro _ s; rfl
  | cons p rest ih =>
    intro hs s
    obtain ⟨h1, h2⟩ := List.pairwise_cons.mp hs
    by_cases hp : p.date < s
    · rw [List.filter_cons_of_pos (by simpa using hp), List.filter_cons_of_neg (by simpa using hp), List.cons_append,
        ← ih h2 s]
    · -- the days after `p` are not before `s` either
      have e1 : rest.filter (fun p => decide (p.date < s)) = [] :=
        List.filter_eq_nil_iff.mpr fun q hq => by have := h1 q hq; simp; omega
      have e2 : rest.filter (fun p => decide (s ≤ p.date)) = rest :=
        List.filter_eq_self.mpr fun q hq => by have := h1 q hq; simp; omega
      rw [List.filter_cons_of_neg (by simpa using hp), List.filter_cons_of_pos (by simpa using hp), e1, e2,
        List.nil_append]

theorem split_after (L : List DayPerf) (hs : DSorted L) (D : Int) :
    L = L.filter (fun p => decide (p.date ≤ D)) ++ L.filter (fun p => decide (D + 1 ≤ p.date)) := by
  have e : L.filter (fun p => decide (p.date < D + 1)) = L.filter (fun p => decide (p.date ≤ D)) :=
    List.filter_congr fun p _ => by by_cases a : p.date ≤ D <;> simp [a] <;> omega
  exact e ▸ split_lt L hs (D + 1)

/-- the days of the period `[s, e]` -/
def periodDays (perfs : List DayPerf) (s e : Int) : List DayPerf :=
  perfs.filter (fun p => decide (s ≤ p.date) && decide (p.date ≤ e))

/-- the chained growth factor of the period `[s, e]` -/
def periodFactor (perfs : List DayPerf) (s e : Int) : Option Rat := chain (some 1) (periodDays perfs s e)

theorem periodDays_cons (p : DayPerf) (rest : List DayPerf) (s e : Int) :
    periodDays (p :: rest) s e = if s ≤ p.date ∧ p.date ≤ e then p :: periodDays rest s e else periodDays rest s e := by
  simp only [periodDays, List.filter_cons, Bool.and_eq_true, decide_eq_true_eq]

theorem periodDays_eq_nil {L : List DayPerf} {s e : Int} (h : ∀ p ∈ L, e < p.date) : periodDays L s e = [] := by
  rw [periodDays, List.filter_eq_nil_iff]
  intro p hp
  have := h p hp
  simp only [Bool.and_eq_true, decide_eq_true_eq]; omega

/-- from the first day of the period on: the days up to `e` are chained onto `r` and reported on `e` -/
theorem chunk_line_from (ends : List Int) (s e : Int) (he : ends.contains e = true)
    (hno : ∀ x ∈ ends, ¬ (s ≤ x ∧ x < e)) : ∀ (L : List DayPerf) (r : Option Rat), DSorted L →
    (∀ p ∈ L, s ≤ p.date) → (∃ q ∈ L, q.date = e) →
    (e, (chain r (periodDays L s e)).map (· - 1)) ∈ chunkLines ends r L := by
  intro L
  induction L with
  | nil => intro _ _ _ hq; obtain ⟨q, hq, _⟩ := hq; cases hq
  | cons p rest ih =>
    intro r hs hge hq
    obtain ⟨q, hq, hqe⟩ := hq
    obtain ⟨hlt, hs'⟩ := List.pairwise_cons.mp hs
    have hsp := hge p List.mem_cons_self
    rw [chunkLines_cons, periodDays_cons]
    by_cases hpe : p.date = e
    · rw [if_pos (hpe ▸ he), if_pos ⟨hsp, by omega⟩, periodDays_eq_nil (fun x hx => hpe ▸ hlt x hx), hpe]
      exact List.mem_cons_self
    · have hqr : q ∈ rest := by
        rcases List.mem_cons.mp hq with rfl | h
        · exact absurd hqe hpe
        · exact h
      have hpl : p.date < e := hqe ▸ hlt q hqr
      have hnend : ¬ ends.contains p.date = true := fun hc => hno p.date (by simpa using hc) ⟨hsp, hpl⟩
      rw [if_neg hnend, if_pos ⟨hsp, by omega⟩]
      exact ih _ hs' (fun x hx => hge x (List.mem_cons_of_mem _ hx)) ⟨q, hqr, hqe⟩

/-- **one period**: the line for `e` is the chained factor of the days in `[s, e]` minus one — whatever the other days are -/
theorem chunk_line_of_period (ends : List Int) (L : List DayPerf) (hs : DSorted L) (s e : Int)
    (last : DayPerf) (hl : last ∈ L) (hle : last.date = e) (hse : s ≤ e) (he : ends.contains e = true)
    (hno : ∀ x ∈ ends, ¬ (s ≤ x ∧ x < e))
    (hprev : (∀ p ∈ L, s ≤ p.date) ∨ (∃ q ∈ L, q.date = s - 1 ∧ ends.contains (s - 1) = true)) :
    (e, (periodFactor L s e).map (· - 1)) ∈ chunkLines ends (some 1) L := by
  -- skip the days before `s`: the running product is 1 when the first day of the period is reached
  suffices skip : ∀ (L : List DayPerf) (r : Option Rat), DSorted L → last ∈ L →
      ((r = some 1 ∧ ∀ p ∈ L, s ≤ p.date) ∨ (∃ q ∈ L, q.date = s - 1 ∧ ends.contains (s - 1) = true)) →
      (e, (chain (some 1) (periodDays L s e)).map (· - 1)) ∈ chunkLines ends r L from
    skip L (some 1) hs hl (hprev.imp (fun h => ⟨rfl, h⟩) id)
  intro L
  induction L with
  | nil => intro _ _ hl; cases hl
  | cons p rest ih =>
    intro r hs hl hprev
    obtain ⟨hlt, hs'⟩ := List.pairwise_cons.mp hs
    by_cases hps : p.date < s
    · have hlr : last ∈ rest := by
        rcases List.mem_cons.mp hl with rfl | h
        · omega
        · exact h
      have hrest : ∀ r', (ends.contains p.date = true → r' = some 1) →
          (e, (chain (some 1) (periodDays rest s e)).map (· - 1)) ∈ chunkLines ends r' rest := by
        intro r' hr'
        apply ih r' hs' hlr
        rcases hprev with ⟨_, hall⟩ | ⟨q, hq, hqd, hqe⟩
        · have := hall p List.mem_cons_self; omega
        · rcases List.mem_cons.mp hq with rfl | hq
          · exact Or.inl ⟨hr' (hqd ▸ hqe), fun x hx => by have := hlt x hx; omega⟩
          · exact Or.inr ⟨q, hq, hqd, hqe⟩
      rw [chunkLines_cons, periodDays_cons, if_neg (show ¬ (s ≤ p.date ∧ p.date ≤ e) by omega)]
      split
      · exact List.mem_cons_of_mem _ (hrest _ fun _ => rfl)
      · rename_i hc; exact hrest _ fun h => absurd h hc
    · have hall : ∀ x ∈ p :: rest, s ≤ x.date := by
        intro x hx
        rcases List.mem_cons.mp hx with rfl | hx
        · omega
        · have := hlt x hx; omega
      rcases hprev with ⟨rfl, _⟩ | ⟨q, hq, hqd, _⟩
      · exact chunk_line_from ends s e he hno _ _ hs hall ⟨last, hl, hle⟩
      · have := hall q hq; omega

/-- the value per commodity of the portfolio at the end of day `D`: what `ComputeValues` recorded on the last day not
after `D` (nothing before the first day) -/
def valueAt (perfs : List DayPerf) (D : Int) : AMap Commodity Rat :=
  lastV1 [] (perfs.filter (fun p => decide (p.date ≤ D)))

theorem filter_le_nil_of_sorted (p : DayPerf) (rest : List DayPerf) (hs : DSorted (p :: rest)) (D : Int)
    (h : ¬ p.date ≤ D) : rest.filter (fun q => decide (q.date ≤ D)) = [] :=
  List.filter_eq_nil_iff.mpr fun q hq => by have := (List.pairwise_cons.mp hs).1 q hq; simp; omega

theorem valueAt_record {L : List DayPerf} (hs : DSorted L) {p : DayPerf} (hp : p ∈ L) : valueAt L p.date = p.v1 := by
  suffices h : ∀ (L : List DayPerf) (prev : AMap Commodity Rat), DSorted L → p ∈ L →
      lastV1 prev (L.filter (fun q => decide (q.date ≤ p.date))) = p.v1 from h L [] hs hp
  intro L
  induction L with
  | nil => intro _ _ hp; cases hp
  | cons x rest ih =>
    intro prev hs hp
    have hlt := (List.pairwise_cons.mp hs).1
    rcases List.mem_cons.mp hp with rfl | hp
    · rw [List.filter_cons_of_pos (by simp), List.filter_eq_nil_iff.mpr fun q hq => by have := hlt q hq; simp; omega]
      rfl
    · rw [List.filter_cons_of_pos (by have := hlt p hp; simp; omega)]
      exact ih x.v1 (List.pairwise_cons.mp hs).2 hp

theorem filter_le_period {L : List DayPerf} (hs : DSorted L) (s e : Int) (hse : s ≤ e + 1) :
    L.filter (fun p => decide (p.date ≤ e)) = L.filter (fun p => decide (p.date ≤ s - 1)) ++ periodDays L s e := by
  have h := split_lt _ (hs.filter (fun p => decide (p.date ≤ e))) s
  rw [List.filter_filter, List.filter_filter] at h
  rw [h, periodDays]
  congr 1 <;> apply List.filter_congr <;> intro p _
  · by_cases a : p.date < s <;> by_cases b : p.date ≤ e <;> simp [a, b] <;> omega

theorem linked_period {perfs : List DayPerf} (hl : Linked [] perfs) (hs : DSorted perfs) (s e : Int) (hse : s ≤ e + 1) :
    Linked (valueAt perfs (s - 1)) (periodDays perfs s e) ∧
      valueAt perfs e = lastV1 (valueAt perfs (s - 1)) (periodDays perfs s e) := by
  have h1 := split_after perfs hs e
  rw [filter_le_period hs s e hse, List.append_assoc] at h1
  rw [h1] at hl
  refine ⟨(linked_append _ _ _ (linked_append _ _ _ hl).2).1, ?_⟩
  unfold valueAt
  rw [filter_le_period hs s e hse, lastV1_append]

/-- **a period without flows**: over the days of `[s, e]` (at least the day `e`), if no day has flows and every day starts
with a non-zero value, the chained factor is the value at the end of `e` over the value at the end of `s − 1` -/
theorem periodFactor_ratio (perfs : List DayPerf) (hl : Linked [] perfs) (hs : DSorted perfs) (s e : Int) (hse : s ≤ e)
    (hrec : ∃ q ∈ perfs, q.date = e)
    (hnf : ∀ p ∈ perfs, s ≤ p.date → p.date ≤ e →
      p.portfolioFlows = 0 ∧ p.inflow = 0 ∧ p.outflow = 0 ∧ sumVals p.v0 ≠ 0) :
    periodFactor perfs s e = some (sumVals (valueAt perfs e) / sumVals (valueAt perfs (s - 1))) := by
  obtain ⟨hlM, hv1⟩ := linked_period hl hs s e (by omega)
  have hmem : ∀ p, p ∈ periodDays perfs s e ↔ p ∈ perfs ∧ s ≤ p.date ∧ p.date ≤ e := fun p => by
    simp only [periodDays, List.mem_filter, Bool.and_eq_true, decide_eq_true_eq]
  have hnfM : ∀ p ∈ periodDays perfs s e, p.portfolioFlows = 0 ∧ p.inflow = 0 ∧ p.outflow = 0 ∧ sumVals p.v0 ≠ 0 :=
    fun p hp => hnf p ((hmem p).mp hp).1 ((hmem p).mp hp).2.1 ((hmem p).mp hp).2.2
  -- the period holds the day `e`, so the value before it is the `V0` of a day of the period
  obtain ⟨q, hq, hqe⟩ := hrec
  have hqM : q ∈ periodDays perfs s e := (hmem q).mpr ⟨hq, by omega, by omega⟩
  have hprev : sumVals (valueAt perfs (s - 1)) ≠ 0 := by
    cases hM : periodDays perfs s e with
    | nil => rw [hM] at hqM; cases hqM
    | cons x xs =>
      rw [hM] at hlM hnfM
      exact hlM.1 ▸ (hnfM x List.mem_cons_self).2.2.2
  rw [periodFactor, chain_no_flows _ 1 hnfM, hv1, chain_ratio _ _ hlM (fun p hp => (hnfM p hp).2.2.2) hprev]

/-- what the per-period statements need of the partition: for a non-empty period `p` of the partition — its end is a
period end inside the days `Perf` looks at, no period end lies in `[p.start, p.stop)`, and either `p` is the first
period, starting where `Perf` starts, or the day before `p.start` is a period end `Perf` looks at -/
theorem period_facts {span : Period} {iv : Interval} {last : Int} {P : Partition}
    (h : newPartition span iv last = .ok P) (p : Period) (hp : p ∈ P.periods) (hne : p.start ≤ p.stop) :
    (perfSpan P).start ≤ p.start ∧ p.stop ≤ (perfSpan P).stop ∧
    (∀ x ∈ P.endDates, ¬ (p.start ≤ x ∧ x < p.stop)) ∧
    ((perfSpan P).start = p.start ∨
      (p.start - 1 ∈ P.endDates ∧ (perfSpan P).start ≤ p.start - 1)) := by
  rcases periods_chained h with ⟨hone, hinv⟩ | ⟨s, hs, hch, hin⟩
  · rw [hone, List.mem_singleton] at hp; subst hp; omega
  · obtain ⟨o, rest, ho⟩ := List.exists_cons_of_ne_nil (List.ne_nil_of_mem hp)
    have hos : o.start = s := (ho ▸ hch : Chained s (o :: rest)).1
    obtain ⟨hsep, hpred⟩ := hch.mem_cases p hp
    have hb := hch.bounds
    rw [perfSpan_cons h ho (hos ▸ hs), hos]
    refine ⟨(hb p hp).1, hin p hp, fun x hx => ?_, hpred.imp Eq.symm fun ⟨q, hq, e⟩ => ?_⟩
    · -- every other period lies wholly before or wholly after `p`
      obtain ⟨q, hq, rfl⟩ := List.mem_map.mp hx
      have := hb q hq
      rcases hsep q hq with e | rfl | e <;> omega
    · exact ⟨List.mem_map.mpr ⟨q, hq, by omega⟩, by have := hb q hq; show s ≤ p.start - 1; omega⟩

theorem periodDays_filter (L : List DayPerf) (f : DayPerf → Bool) (s e : Int)
    (hf : ∀ q ∈ L, s ≤ q.date → q.date ≤ e → f q = true) : periodDays (L.filter f) s e = periodDays L s e := by
  unfold periodDays
  rw [List.filter_filter]
  apply List.filter_congr
  intro q hq
  by_cases h : s ≤ q.date ∧ q.date ≤ e
  · simp [h.1, h.2, hf q hq h.1 h.2]
  · have : (decide (s ≤ q.date) && decide (q.date ≤ e)) = false := by simpa using h
    rw [this, Bool.false_and]

/-- **the line of a period**: for every non-empty period of the command's partition, `Perf` prints the chained growth
factor of the days of that period, minus one, under the period's end date -/
theorem perfLines_period_line {f : Flags} {ds : List Directive} {part : Partition} {days : List Day} {perfs : List DayPerf}
    (hs : setup f ds = .ok (part, days)) (hp : perfFrom f.cfg {} days = .ok perfs)
    (p : Period) (hpp : p ∈ part.periods) (hne : p.start ≤ p.stop) :
    (p.stop, (periodFactor perfs p.start p.stop).map (· - 1)) ∈
      perfLines (perfSpan part) part.endDates (some 1) perfs := by
  obtain ⟨hsorted, hreg, window, hnp⟩ := setup_days hs
  rw [← perfFrom_dates days {} perfs hp] at hsorted hreg
  obtain ⟨f1, f2, f3, f4⟩ := period_facts hnp p hpp hne
  -- every registered period end has a record; the one inside the days `Perf` looks at is in `L`
  have hrec : ∀ e ∈ part.endDates, (perfSpan part).start ≤ e → e ≤ (perfSpan part).stop →
      ∃ q ∈ perfs.filter (fun q => (perfSpan part).contains q.date), q.date = e := by
    intro e he h1 h2
    obtain ⟨q, hq, hqe⟩ := List.mem_map.mp (hreg e he)
    exact ⟨q, List.mem_filter.mpr ⟨hq, (Period.contains_iff _ _).mpr (by rw [hqe]; exact ⟨h1, h2⟩)⟩, hqe⟩
  have hpe : p.stop ∈ part.endDates := List.mem_map.mpr ⟨p, hpp, rfl⟩
  obtain ⟨lastR, hlast, hlastd⟩ := hrec p.stop hpe (Int.le_trans f1 hne) f2
  rw [perfLines_eq_chunk, periodFactor, ← periodDays_filter perfs (fun q => (perfSpan part).contains q.date) p.start p.stop
    (fun q _ h1 h2 => (Period.contains_iff _ _).mpr ⟨Int.le_trans f1 h1, Int.le_trans h2 f2⟩)]
  apply chunk_line_of_period part.endDates _ ((dsorted_of_dates hsorted).filter _) p.start p.stop lastR hlast hlastd hne
    (by simpa using hpe) f3
  rcases f4 with h4 | ⟨h4, h5⟩
  · left
    intro q hq
    exact h4 ▸ ((Period.contains_iff _ _).mp (List.mem_filter.mp hq).2).1
  · right
    obtain ⟨q, hq, hqd⟩ := hrec (p.start - 1) h4 h5 (by omega)
    exact ⟨q, hq, hqd, by simpa using h4⟩

end Knut.Performance
