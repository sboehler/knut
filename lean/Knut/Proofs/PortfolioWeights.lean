import Knut.Spec.PortfolioSpec
import Knut.Proofs.MapSum
/-! Lemmas for C20: the weights report (exact arithmetic).  Further facts about the model alone stand, under fixed names, in the
modules of the Go side that use them: `queryDay` as a fold that also returns the universe (`dayAdds`, `queryDay_eq`,
FactsAgree/TransWeightsQuery.lean), re-listing `v1` permutes the adds (`queryDay_perm`, `queryFrom_perm`,
FactsAgree/TransWeightsQueryOrder.lean), the report as a function of the multiset of adds (`nodeWeight_perm`, Properties/C20Go6.lean;
`report_perm`, Properties/C20Go6Report.lean), `queryFrom_shares` (Properties/C20Go4.lean). -/
namespace Knut.Weights
open Knut Knut.Performance Knut.PortfolioSpec

theorem sum_map_div (l : List Rat) (t : Rat) : (l.map (· / t)).sum = l.sum / t := by
  induction l with
  | nil => simp [Rat.div_def]
  | cons x xs ih =>
    simp only [List.map_cons, List.sum_cons, ih]
    simp only [Rat.div_def, Rat.add_mul]

theorem mem_dedup (l : List String) (a : String) : a ∈ dedup l ↔ a ∈ l := by
  induction l with
  | nil => simp [dedup]
  | cons x xs ih =>
    simp only [dedup, List.mem_cons, List.mem_filter, decide_eq_true_eq, ih]
    constructor
    · rintro (h | ⟨h, _⟩)
      · exact Or.inl h
      · exact Or.inr h
    · rintro (h | h)
      · exact Or.inl h
      · by_cases e : a = x
        · exact Or.inl e
        · exact Or.inr ⟨h, e⟩

theorem nodup_dedup (l : List String) : (dedup l).Nodup := by
  induction l with
  | nil => simp [dedup]
  | cons x xs ih =>
    simp only [dedup, List.nodup_cons, List.mem_filter, decide_eq_true_eq]
    refine ⟨fun h => h.2 rfl, ?_⟩
    exact ih.sublist List.filter_sublist

theorem isPrefixOf_snoc (π : List String) (s : String) : ∀ (l : List String),
    (π ++ [s]).isPrefixOf l = (π.isPrefixOf l && decide ((l.drop π.length).head? = some s)) := by
  induction π with
  | nil =>
    intro l
    cases l with
    | nil => simp [List.isPrefixOf]
    | cons x xs =>
      simp only [List.nil_append, List.isPrefixOf, List.length_nil, List.drop_zero, List.head?_cons, Bool.true_and]
      by_cases h : s = x
      · subst h; simp
      · have : ¬ x = s := fun e => h e.symm
        simp [h, this]
  | cons a rest ih =>
    intro l
    cases l with
    | nil => simp [List.isPrefixOf]
    | cons x xs =>
      simp only [List.cons_append, List.isPrefixOf, List.length_cons, List.drop_succ_cons, ih xs, Bool.and_assoc]

theorem isPrefixOf_none (π : List String) : ∀ (l : List String),
    (π.isPrefixOf l && decide ((l.drop π.length).head? = none)) = decide (l = π) := by
  induction π with
  | nil => intro l; cases l <;> simp [List.isPrefixOf]
  | cons a rest ih =>
    intro l
    cases l with
    | nil => simp [List.isPrefixOf]
    | cons x xs =>
      simp only [List.isPrefixOf, List.length_cons, List.drop_succ_cons, Bool.and_assoc, ih xs, List.cons.injEq,
        Bool.decide_and]
      by_cases h : x = a
      · subst h; simp
      · have : ¬ a = x := fun e => h e.symm
        simp [h, this]

theorem and_rotate (n d p : Bool) : (n && d && p) = (p && n && d) := by cases n <;> cases d <;> cases p <;> rfl

theorem and_rotate' (n d p : Bool) : (n && d && p) = (d && (p && n)) := by cases n <;> cases d <;> cases p <;> rfl

theorem group_sum (adds : List Add) (π : List String) (D : Int) :
    wsum adds π D = ownSum adds π D + ((childSegs adds π).map (fun s => wsum adds (π ++ [s]) D)).sum := by
  have hkeys : ∀ x ∈ (below adds π).filter (fun a => a.date = D), ∀ s, nextSeg π x = some s → s ∈ childSegs adds π := by
    intro x hx s hs
    unfold childSegs
    rw [mem_dedup]
    exact List.mem_filterMap.mpr ⟨x, (List.mem_filter.mp hx).1, hs⟩
  -- split the adds below `π` by their next path segment: none (the adds at `π`) or a child
  have h := MapSum.sum_by_key (nextSeg π) (·.weight) (childSegs adds π) (nodup_dedup _) _ hkeys
  unfold wsum
  rw [h]
  congr 1
  · unfold ownSum below
    rw [List.filter_filter, List.filter_filter]
    congr 2
    apply List.filter_congr
    intro a _
    rw [← isPrefixOf_none]
    exact and_rotate _ _ _
  · congr 1
    apply List.map_congr_left
    intro s _
    unfold below
    rw [List.filter_filter, List.filter_filter, List.filter_filter]
    congr 2
    apply List.filter_congr
    intro a _
    rw [isPrefixOf_snoc]
    exact and_rotate' _ _ _

theorem queryFold (mapping : List MapRule) (date : Int) (total : Rat) : ∀ (l : List (Commodity × Rat))
    (acc : List Add × Universe),
    let r := l.foldl (fun (acc : List Add × Universe) e =>
      let r := shortenPath mapping acc.2 e.1
      (acc.1 ++ [{ path := r.1, date := date, weight := e.2 / total }], r.2)) acc
    r.1.map (·.weight) = acc.1.map (·.weight) ++ l.map (fun e => e.2 / total) ∧
      ((∀ a ∈ acc.1, a.date = date) → ∀ a ∈ r.1, a.date = date) := by
  intro l
  induction l with
  | nil => intro acc; exact ⟨(List.append_nil _).symm, fun h => h⟩
  | cons e rest ih =>
    intro acc
    obtain ⟨i1, i2⟩ := ih (acc.1 ++ [{ path := (shortenPath mapping acc.2 e.1).1, date := date, weight := e.2 / total }],
      (shortenPath mapping acc.2 e.1).2)
    refine ⟨?_, fun hacc => i2 fun a ha => ?_⟩
    · rw [List.foldl_cons, i1, List.map_append, List.append_assoc]; rfl
    · rcases List.mem_append.mp ha with ha | ha
      · exact hacc a ha
      · rw [List.mem_singleton.mp ha]

theorem queryDay_weights (mapping : List MapRule) (u : Universe) (date : Int) (v1 : AMap Commodity Rat)
    (adds : List Add) (u' : Universe) (h : queryDay mapping u date v1 = some (adds, u')) :
    adds.map (·.weight) = v1.map (fun e => e.2 / sumVals v1) ∧ (∀ a ∈ adds, a.date = date) ∧
    (v1 ≠ [] → sumVals v1 ≠ 0) := by
  unfold queryDay at h
  simp only at h
  split at h
  · rename_i he
    cases h
    cases List.isEmpty_iff.mp he
    exact ⟨rfl, fun a ha => (by cases ha), fun hne => absurd rfl hne⟩
  · split at h
    · cases h
    · rename_i ht
      obtain ⟨h1, h2⟩ := queryFold mapping date (sumVals v1) v1 ([], u)
      injection h with h
      rw [h] at h1 h2
      exact ⟨h1, h2 fun a ha => (by cases ha), fun _ => ht⟩

theorem queryDay_sum_one (mapping : List MapRule) (u : Universe) (date : Int) (v1 : AMap Commodity Rat)
    (adds : List Add) (u' : Universe) (h : queryDay mapping u date v1 = some (adds, u')) (hne : v1 ≠ []) :
    (adds.map (·.weight)).sum = 1 := by
  obtain ⟨hw, _, ht⟩ := queryDay_weights mapping u date v1 adds u' h
  rw [hw]
  have : v1.map (fun e => e.2 / sumVals v1) = (v1.map (·.2)).map (· / sumVals v1) := by simp [List.map_map]
  rw [this, sum_map_div]
  have := ht hne
  unfold sumVals at this ⊢
  rw [Rat.div_def, Rat.mul_inv_cancel _ this]

theorem queryFrom_cons {mapping : List MapRule} {ends : List Int} {u : Universe} {p : DayPerf} {rest : List DayPerf}
    {adds : List Add} (h : queryFrom mapping ends u (p :: rest) = some adds) :
    (∃ dayAdds u' restAdds, queryDay mapping u p.date p.v1 = some (dayAdds, u') ∧
      queryFrom mapping ends u' rest = some restAdds ∧ adds = dayAdds ++ restAdds) ∨
    queryFrom mapping ends u rest = some adds := by
  unfold queryFrom at h
  split at h
  · split at h
    · cases h
    · rename_i dayAdds u' hq
      obtain ⟨restAdds, hr, rfl⟩ := Option.map_eq_some_iff.mp h
      exact Or.inl ⟨dayAdds, u', restAdds, hq, hr, rfl⟩
  · exact Or.inr h

theorem queryFrom_dates (mapping : List MapRule) (ends : List Int) : ∀ (perfs : List DayPerf) (u : Universe) (adds : List Add),
    queryFrom mapping ends u perfs = some adds → ∀ a ∈ adds, a.date ∈ perfs.map (·.date) := by
  intro perfs
  induction perfs with
  | nil => intro u adds h a ha; cases h; cases ha
  | cons p rest ih =>
    intro u adds h a ha
    rcases queryFrom_cons h with ⟨dayAdds, u', restAdds, hq, hr, rfl⟩ | hr
    · rcases List.mem_append.mp ha with ha | ha
      · rw [(queryDay_weights mapping u p.date p.v1 dayAdds u' hq).2.1 a ha]
        exact List.mem_cons_self
      · exact List.mem_cons_of_mem _ (ih u' restAdds hr a ha)
    · exact List.mem_cons_of_mem _ (ih u adds hr a ha)

theorem queryFrom_sum_one (mapping : List MapRule) (ends : List Int) : ∀ (perfs : List DayPerf) (u : Universe) (adds : List Add),
    queryFrom mapping ends u perfs = some adds → List.Pairwise (· < ·) (perfs.map (·.date)) →
    ∀ D, D ∈ adds.map (·.date) → ((adds.filter (fun a => a.date = D)).map (·.weight)).sum = 1 := by
  intro perfs
  induction perfs with
  | nil => intro u adds h _ D hD; cases h; cases hD
  | cons p rest ih =>
    intro u adds h hs D hD
    simp only [List.map_cons, List.pairwise_cons] at hs
    rcases queryFrom_cons h with ⟨dayAdds, u', restAdds, hq, hr, rfl⟩ | hr
    · -- the day's adds carry the day's date, the later ones later dates
      have hday := (queryDay_weights mapping u p.date p.v1 dayAdds u' hq).2.1
      have hrest : ∀ a ∈ restAdds, p.date < a.date := fun a ha =>
        hs.1 a.date (queryFrom_dates mapping ends rest u' restAdds hr a ha)
      rw [List.filter_append, List.map_append, List.sum_append]
      rw [List.map_append, List.mem_append] at hD
      by_cases hDp : D = p.date
      · subst hDp
        have e1 : dayAdds.filter (fun a => a.date = p.date) = dayAdds :=
          List.filter_eq_self.mpr fun a ha => by simp [hday a ha]
        have e2 : restAdds.filter (fun a => a.date = p.date) = [] :=
          List.filter_eq_nil_iff.mpr fun a ha => by have := hrest a ha; simp; omega
        rw [e1, e2, List.map_nil, List.sum_nil, Rat.add_zero]
        apply queryDay_sum_one mapping u p.date p.v1 dayAdds u' hq
        intro hv
        rcases hD with hD | hD
        · have hw := (queryDay_weights mapping u p.date p.v1 dayAdds u' hq).1
          rw [hv] at hw
          have : dayAdds = [] := by simpa using hw
          rw [this] at hD; cases hD
        · obtain ⟨a, ha, hda⟩ := List.mem_map.mp hD
          have := hrest a ha
          omega
      · have e1 : dayAdds.filter (fun a => a.date = D) = [] :=
          List.filter_eq_nil_iff.mpr fun a ha => by simp [hday a ha]; exact fun e => hDp e.symm
        rw [e1, List.map_nil, List.sum_nil, Rat.zero_add]
        apply ih u' restAdds hr hs.2 D
        rcases hD with hD | hD
        · obtain ⟨a, ha, hda⟩ := List.mem_map.mp hD
          exact absurd (hda ▸ hday a ha) hDp
        · exact hD
    · exact ih u adds hr hs.2 D hD

theorem below_nil (adds : List Add) : below adds [] = adds := by
  unfold below
  rw [List.filter_eq_self]
  intro a _
  simp [List.isPrefixOf]

/-- **the top level sums to 100 %** when no weight is put on the (unrendered) root -/
theorem top_level_sum (adds : List Add) (hr : rooted adds = true) (D : Int)
    (h1 : ((adds.filter (fun a => a.date = D)).map (·.weight)).sum = 1) :
    ((childSegs adds []).map (fun s => wsum adds [s] D)).sum = 1 := by
  have hg := group_sum adds [] D
  have hown : ownSum adds [] D = 0 := by
    unfold ownSum
    have : adds.filter (fun a => a.path = [] && a.date = D) = [] := by
      rw [List.filter_eq_nil_iff]
      intro a ha
      unfold rooted at hr
      rw [List.all_eq_true] at hr
      have := hr a ha
      cases hp : a.path with
      | nil => simp [hp] at this
      | cons x xs => simp
    rw [this]; rfl
  rw [hown, Rat.zero_add] at hg
  simp only [List.nil_append] at hg
  rw [← hg]
  unfold wsum
  rw [below_nil]
  exact h1

end Knut.Weights
