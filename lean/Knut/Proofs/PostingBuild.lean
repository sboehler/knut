import Knut.Model.Core
/-!
# `posting.Builder.Build`: the credit/debit pair of a booking

`postingBuild` puts the two postings in one of two orders (a negative booking is normalised by swapping the accounts).
Whatever is said about the pair — its members, its accounts, a sum over it, its being a mirrored pair — is read off
`postingBuild_cases` here, so that no proof elsewhere looks at the order.
-/
namespace Knut

/-- whichever way round `posting.Builder.Build` puts the two postings: `credit` gets `-quantity`, `debit` gets `quantity` -/
theorem postingBuild_cases (cr dr : Account) (c : Commodity) (q v : Rat) :
    postingBuild cr dr c q v = [⟨cr, dr, c, -q, -v⟩, ⟨dr, cr, c, q, v⟩] ∨
    postingBuild cr dr c q v = [⟨dr, cr, c, q, v⟩, ⟨cr, dr, c, -q, -v⟩] := by
  unfold postingBuild
  cases (decide (q < 0) || (decide (q = 0) && decide (v < 0)))
  · exact Or.inl rfl
  · exact Or.inr (by simp only [if_true, Rat.neg_neg])

theorem mem_postingBuild {cr dr : Account} {c : Commodity} {q v : Rat} {p : Posting} (h : p ∈ postingBuild cr dr c q v) :
    p = ⟨cr, dr, c, -q, -v⟩ ∨ p = ⟨dr, cr, c, q, v⟩ := by
  rcases postingBuild_cases cr dr c q v with e | e <;> rw [e] at h <;>
    simp only [List.mem_cons, List.not_mem_nil, or_false] at h
  · exact h
  · exact h.symm

theorem mem_postingBuild_iff {cr dr : Account} {c : Commodity} {q v : Rat} {p : Posting} :
    p ∈ postingBuild cr dr c q v ↔ p = ⟨cr, dr, c, -q, -v⟩ ∨ p = ⟨dr, cr, c, q, v⟩ := by
  rcases postingBuild_cases cr dr c q v with e | e <;> rw [e] <;>
    simp only [List.mem_cons, List.not_mem_nil, or_false]
  exact or_comm

theorem postingBuild_pair (cr dr : Account) (c : Commodity) (q v : Rat) :
    ∃ a b, postingBuild cr dr c q v = [a, b] ∧ b = ⟨a.other, a.account, a.commodity, -a.quantity, -a.value⟩ ∧
      (a = ⟨cr, dr, c, -q, -v⟩ ∨ a = ⟨dr, cr, c, q, v⟩) := by
  rcases postingBuild_cases cr dr c q v with e | e
  · exact ⟨_, _, e, by simp only [Rat.neg_neg], Or.inl rfl⟩
  · exact ⟨_, _, e, rfl, Or.inr rfl⟩

theorem sum_postingBuild (f : Posting → Rat) (cr dr : Account) (c : Commodity) (q v : Rat) :
    ((postingBuild cr dr c q v).map f).sum = f ⟨cr, dr, c, -q, -v⟩ + f ⟨dr, cr, c, q, v⟩ := by
  rcases postingBuild_cases cr dr c q v with e | e <;> rw [e] <;>
    simp only [List.map_cons, List.map_nil, List.sum_cons, List.sum_nil, Rat.add_zero]
  exact Rat.add_comm _ _

theorem postingBuild_zero_quantity (cr dr : Account) (c : Commodity) (g : Rat) :
    ∀ p ∈ postingBuild cr dr c 0 g, p.quantity = 0 := by
  intro p hp
  rcases mem_postingBuild hp with rfl | rfl
  · exact Rat.neg_zero
  · rfl

theorem postingBuild_account (a b : Account) (c : Commodity) (q v : Rat) : ∀ p ∈ postingBuild a b c q v, p.account = a ∨ p.account = b := by
  intro p hp
  rcases mem_postingBuild hp with rfl | rfl
  · exact Or.inl rfl
  · exact Or.inr rfl

theorem postingBuild_commodity (cr dr : Account) (c : Commodity) (q g : Rat) :
    ∀ p ∈ postingBuild cr dr c q g, p.commodity = c := by
  intro p hp
  rcases mem_postingBuild hp with rfl | rfl <;> rfl

theorem postingBuild_value_zero (a b : Account) (c : Commodity) (q : Rat) : ∀ p ∈ postingBuild a b c q 0, p.value = 0 := by
  intro p hp
  rcases mem_postingBuild hp with rfl | rfl
  · exact Rat.neg_zero
  · rfl

/-- a property of posting lists that every concatenation of (unvalued) `postingBuild` pairs has -/
structure PairsHave (R : List Posting → Prop) : Prop where
  nil : R []
  pair : ∀ cr dr c q, R (postingBuild cr dr c q)
  append : ∀ {a b}, R a → R b → R (a ++ b)

theorem PairsHave.flatMap {R : List Posting → Prop} (hR : PairsHave R) {α : Type} (f : α → List Posting)
    (hf : ∀ a, R (f a)) : ∀ l : List α, R (l.flatMap f)
  | [] => hR.nil
  | a :: l => hR.append (hf a) (PairsHave.flatMap hR f hf l)

end Knut
