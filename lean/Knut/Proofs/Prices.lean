import Knut.Model.Prices
import Knut.Spec.PriceSpec
import Knut.Proofs.Sim
/-!
# The traversal of `Normalize`

One pass over the sorted neighbours of a commodity (`visit`), the loop (`normLoop`) with its invariant — every price in the result
is the fold of `Multiply` along a simple chain of stored prices from `v` (`Inv`, `LoopInv`) —, what follows for `normalize` (the
price of `v`, of a direct neighbour, chains, connectedness), and that the result depends on the price map only through lookups and
sorted keys (`normLoop_congr`).
-/
namespace Knut.Prices
open Knut Knut.Dec Knut.Spec


theorem find_set {β : Type} (m : AMap β) (k d : Commodity) (v : β) :
    find d (set m k v) = if d = k then some v else find d m := by
  by_cases h : d = k
  · subst h; simp [find_set_self]
  · simp [h, find_set_ne m k d v h]

theorem del_eq_of_find_none {β : Type} (m : AMap β) (k : Commodity) (h : find k m = none) : del k m = m := by
  rw [del_eq]; exact Knut.AMap.erase_of_not_key (Knut.AMap.find?_eq_none_iff.mp (find_eq k m ▸ h))

theorem length_set_of_none {β : Type} (m : AMap β) (k : Commodity) (v : β) (h : find k m = none) :
    (set m k v).length = m.length + 1 := by
  simp [set, del_eq_of_find_none m k h]

theorem isSome_iff_mem_keys {β : Type} (m : AMap β) (k : Commodity) : (find k m).isSome ↔ k ∈ keys m := by
  constructor
  · intro h
    cases hf : find k m with
    | none => simp [hf] at h
    | some v => exact mem_keys_of_find hf
  · exact find_isSome_of_mem_keys


theorem mem_neighbors_iff (ps : Prices) (c n : Commodity) : n ∈ neighbors ps c ↔ (edge ps c n).isSome := by
  unfold neighbors edge
  rw [mem_sortNames]
  cases hf : find c ps with
  | none => simp [keys]
  | some m => simp [← isSome_iff_mem_keys]

theorem price_of_edge {ps : Prices} {c n : Commodity} {p : Rat} (h : edge ps c n = some p) : price ps c n = p := by
  simp [price, h]

/-! ## one pass over the neighbours of `c` -/

theorem visit_mono (ps : Prices) (c n : Commodity) (st : List Commodity × NPrices) (k : Commodity) (x : Rat)
    (h : find k st.2 = some x) : find k (visit ps c st n).2 = some x := by
  unfold visit
  split
  · exact h
  · rename_i hn
    have : k ≠ n := by
      intro e; subst e; simp [h] at hn
    simp [find_set_ne _ _ _ _ this, h]

theorem visitAll_mono (ps : Prices) (c : Commodity) (ns : List Commodity) (st : List Commodity × NPrices)
    (k : Commodity) (x : Rat) (h : find k st.2 = some x) : find k (ns.foldl (visit ps c) st).2 = some x :=
  foldl_inv (f := visit ps c) (fun s => find k s.2 = some x) ns st (fun s n _ hs => visit_mono ps c n s k x hs) h

theorem visitAll_mono_isSome (ps : Prices) (c : Commodity) (ns : List Commodity) (st : List Commodity × NPrices)
    (k : Commodity) (h : (find k st.2).isSome) : (find k (ns.foldl (visit ps c) st).2).isSome := by
  cases hf : find k st.2 with
  | none => simp [hf] at h
  | some x => simp [visitAll_mono ps c ns st k x hf]

theorem visit_covers (ps : Prices) (c n : Commodity) (st : List Commodity × NPrices) :
    (find n (visit ps c st n).2).isSome := by
  unfold visit
  split
  · assumption
  · simp [find_set_self]

theorem visitAll_covers (ps : Prices) (c : Commodity) (ns : List Commodity) (st : List Commodity × NPrices)
    (n : Commodity) (hn : n ∈ ns) : (find n (ns.foldl (visit ps c) st).2).isSome := by
  induction ns generalizing st with
  | nil => simp at hn
  | cons m rest ih =>
    simp only [List.foldl_cons]
    rcases List.mem_cons.mp hn with rfl | h
    · exact visitAll_mono_isSome ps c rest _ n (visit_covers ps c n st)
    · exact ih _ h

/-- a neighbour that had no price gets `Multiply(ps[c][n], res[c])` -/
theorem visitAll_new (ps : Prices) (c : Commodity) (rc : Rat) (ns : List Commodity) (st : List Commodity × NPrices)
    (n : Commodity) (hn : n ∈ ns) (hnone : find n st.2 = none) (hc : find c st.2 = some rc) :
    find n (ns.foldl (visit ps c) st).2 = some (multiply (price ps c n) rc) := by
  induction ns generalizing st with
  | nil => simp at hn
  | cons m rest ih =>
    simp only [List.foldl_cons]
    by_cases hmn : m = n
    · subst hmn
      apply visitAll_mono
      unfold visit
      simp [hnone, hc, find_set_self]
    · have hn' : n ∈ rest := by
        rcases List.mem_cons.mp hn with h | h
        · exact absurd h.symm hmn
        · exact h
      apply ih _ hn'
      · unfold visit
        split
        · exact hnone
        · have : n ≠ m := fun e => hmn e.symm
          simp [find_set_ne _ _ _ _ this, hnone]
      · exact visit_mono ps c m st c rc hc

theorem visit_queue_sub (ps : Prices) (c n : Commodity) (st : List Commodity × NPrices) (k : Commodity)
    (h : k ∈ st.1) : k ∈ (visit ps c st n).1 := by
  unfold visit
  split
  · exact h
  · simp [h]

theorem visitAll_queue_sub (ps : Prices) (c : Commodity) (ns : List Commodity) (st : List Commodity × NPrices)
    (k : Commodity) (h : k ∈ st.1) : k ∈ (ns.foldl (visit ps c) st).1 :=
  foldl_inv (f := visit ps c) (fun s => k ∈ s.1) ns st (fun s n _ hs => visit_queue_sub ps c n s k hs) h

theorem visitAll_queued (ps : Prices) (c : Commodity) (ns : List Commodity) (st : List Commodity × NPrices)
    (h : ∀ k ∈ st.1, (find k st.2).isSome) :
    ∀ k ∈ (ns.foldl (visit ps c) st).1, (find k (ns.foldl (visit ps c) st).2).isSome := by
  refine foldl_inv (f := visit ps c) (fun s => ∀ k ∈ s.1, (find k s.2).isSome) ns st ?_ h
  intro s n _ hs k hk
  unfold visit at hk ⊢
  split
  · rename_i hn
    simp only [hn, if_true] at hk
    exact hs k hk
  · rename_i hn
    simp only [hn] at hk
    simp only [Bool.false_eq_true, if_false, List.mem_append, List.mem_singleton] at hk
    by_cases hkn : k = n
    · subst hkn; simp [find_set_self]
    · rcases hk with hk | hk
      · rw [find_set_ne _ _ _ _ hkn]; exact hs k hk
      · exact absurd hk hkn

theorem visitAll_fresh_queued (ps : Prices) (c : Commodity) (ns : List Commodity) (st : List Commodity × NPrices) :
    ∀ k, (find k (ns.foldl (visit ps c) st).2).isSome → (find k st.2).isSome ∨ k ∈ (ns.foldl (visit ps c) st).1 := by
  refine foldl_inv (f := visit ps c) (fun s => ∀ k, (find k s.2).isSome → (find k st.2).isSome ∨ k ∈ s.1) ns st ?_ ?_
  · intro s n _ hs k hk
    unfold visit at hk ⊢
    split
    · rename_i hn
      simp only [hn, if_true] at hk
      exact hs k hk
    · rename_i hn
      simp only [hn] at hk
      simp only [Bool.false_eq_true, if_false] at hk
      by_cases hkn : k = n
      · right; simp [hkn]
      · rw [find_set_ne _ _ _ _ hkn] at hk
        rcases hs k hk with h | h
        · exact Or.inl h
        · right; simp [h]
  · intro k hk; exact Or.inl hk

/-! ## the invariant: every price in the table is derived along a simple chain from `v` -/

theorem chainFrom_append (e : Commodity → Commodity → Option Rat) (cur : Commodity) (x : Rat)
    (path : List Commodity) (n : Commodity) :
    chainFrom e cur x (path ++ [n]) =
      match chainFrom e cur x path with
      | some (c, y) => (match e c n with | some q => some (n, multiply q y) | none => none)
      | none => none := by
  induction path generalizing cur x with
  | nil =>
    simp only [List.nil_append, chainFrom]
    cases e cur n <;> rfl
  | cons m rest ih =>
    simp only [List.cons_append, chainFrom]
    cases e cur m with
    | none => rfl
    | some p => exact ih m (multiply p x)

/-- the result map of `Normalize`, at any moment: `v` has price 1, every price is the fold of `Multiply` along a simple chain of stored
prices from `v`, through commodities that have a price already -/
structure Inv (ps : Prices) (v : Commodity) (res : NPrices) : Prop where
  self : find v res = some 1
  chain : ∀ c x, find c res = some x →
    ∃ path, chainFrom (edge ps) v 1 path = some (c, x) ∧ (v :: path).Nodup ∧
      path.length + 1 ≤ res.length ∧ ∀ d ∈ path, (find d res).isSome

theorem inv_set (ps : Prices) (v c n : Commodity) (rc p : Rat) (res : NPrices)
    (hI : Inv ps v res) (hc : find c res = some rc) (he : edge ps c n = some p) (hnone : find n res = none) :
    Inv ps v (set res n (multiply p rc)) := by
  have hlen := length_set_of_none res n (multiply p rc) hnone
  have hvn : v ≠ n := by
    intro e; subst e; rw [hI.self] at hnone; cases hnone
  constructor
  · rw [find_set_ne _ _ _ _ hvn]; exact hI.self
  · intro c' x hx
    rw [hlen]
    by_cases hcn : c' = n
    · subst hcn
      simp only [find_set_self, Option.some.injEq] at hx
      obtain ⟨pc, h1, h2, h3, h4⟩ := hI.chain c rc hc
      refine ⟨pc ++ [c'], ?_, ?_, ?_, ?_⟩
      · rw [chainFrom_append, h1]; simp [he, hx]
      · have hnotin : c' ∉ pc := by
          intro hm
          have := h4 c' hm
          simp [hnone] at this
        have : (v :: (pc ++ [c'])) = (v :: pc) ++ [c'] := rfl
        rw [this, List.nodup_append]
        refine ⟨h2, by simp, ?_⟩
        intro a ha b hb
        simp only [List.mem_singleton] at hb
        subst hb
        rcases List.mem_cons.mp ha with rfl | ha'
        · exact hvn
        · intro e; subst e; exact hnotin ha'
      · simp only [List.length_append, List.length_cons, List.length_nil]; omega
      · intro d hd
        rcases List.mem_append.mp hd with hd1 | hd2
        · have hdn : d ≠ c' := by
            intro e
            have := h4 d hd1
            rw [e, hnone] at this
            simp at this
          rw [find_set_ne _ _ _ _ hdn]; exact h4 d hd1
        · simp only [List.mem_singleton] at hd2
          subst hd2; simp [find_set_self]
    · rw [find_set_ne _ _ _ _ hcn] at hx
      obtain ⟨path, h1, h2, h3, h4⟩ := hI.chain c' x hx
      refine ⟨path, h1, h2, by omega, ?_⟩
      intro d hd
      have hdn : d ≠ n := by
        intro e; subst e
        have := h4 d hd
        simp [hnone] at this
      rw [find_set_ne _ _ _ _ hdn]; exact h4 d hd

theorem visit_inv (ps : Prices) (v c n : Commodity) (rc p : Rat) (st : List Commodity × NPrices)
    (hI : Inv ps v st.2) (hc : find c st.2 = some rc) (he : edge ps c n = some p) :
    Inv ps v (visit ps c st n).2 := by
  unfold visit
  split
  · exact hI
  · rename_i hn
    have hnone : find n st.2 = none := by
      cases hf : find n st.2 with
      | none => rfl
      | some y => simp [hf] at hn
    simpa [price_of_edge he, hc] using inv_set ps v c n rc p st.2 hI hc he hnone

theorem visitAll_inv (ps : Prices) (v c : Commodity) (rc : Rat) (ns : List Commodity) (st : List Commodity × NPrices)
    (hns : ∀ n ∈ ns, (edge ps c n).isSome) (hI : Inv ps v st.2) (hc : find c st.2 = some rc) :
    Inv ps v (ns.foldl (visit ps c) st).2 := by
  have := foldl_inv (f := visit ps c) (fun s => Inv ps v s.2 ∧ find c s.2 = some rc) ns st ?_ ⟨hI, hc⟩
  · exact this.1
  · intro s n hn hs
    cases he : edge ps c n with
    | none => have := hns n hn; simp [he] at this
    | some p => exact ⟨visit_inv ps v c n rc p s hs.1 hs.2 he, visit_mono ps c n s c rc hs.2⟩


theorem normLoop_nil (ps : Prices) (res : NPrices) : normLoop ps [] res = res := by
  rw [normLoop]

theorem normLoop_cons (ps : Prices) (c : Commodity) (rest : List Commodity) (res : NPrices) :
    normLoop ps (c :: rest) res =
      normLoop ps ((neighbors ps c).foldl (visit ps c) (rest, res)).1
        ((neighbors ps c).foldl (visit ps c) (rest, res)).2 := by
  rw [normLoop]

theorem normLoop_induction (ps : Prices) (I : List Commodity → NPrices → Prop)
    (step : ∀ c rest res, I (c :: rest) res →
      I ((neighbors ps c).foldl (visit ps c) (rest, res)).1 ((neighbors ps c).foldl (visit ps c) (rest, res)).2)
    (queue : List Commodity) (res : NPrices) (h : I queue res) : I [] (normLoop ps queue res) := by
  fun_induction normLoop ps queue res with
  | case1 res => exact h
  | case2 res c rest ih => exact ih (step c rest res h)

theorem normLoop_mono (ps : Prices) (queue : List Commodity) (res : NPrices) (k : Commodity) (x : Rat)
    (h : find k res = some x) : find k (normLoop ps queue res) = some x :=
  normLoop_induction ps (fun _ r => find k r = some x)
    (fun c rest r hr => visitAll_mono ps c _ (rest, r) k x hr) queue res h

/-- … with the queue: what is queued has a price, and a priced commodity is still queued or all its neighbours are priced -/
structure LoopInv (ps : Prices) (v : Commodity) (queue : List Commodity) (res : NPrices) : Prop where
  inv : Inv ps v res
  queued : ∀ c ∈ queue, (find c res).isSome
  closed : ∀ k, (find k res).isSome → k ∈ queue ∨ ∀ n, (edge ps k n).isSome → (find n res).isSome

theorem loopInv_step (ps : Prices) (v c : Commodity) (rest : List Commodity) (res : NPrices)
    (h : LoopInv ps v (c :: rest) res) :
    LoopInv ps v ((neighbors ps c).foldl (visit ps c) (rest, res)).1
      ((neighbors ps c).foldl (visit ps c) (rest, res)).2 := by
  have hcq := h.queued c List.mem_cons_self
  cases hc : find c res with
  | none => simp [hc] at hcq
  | some rc =>
    constructor
    · exact visitAll_inv ps v c rc _ (rest, res) (fun n hn => (mem_neighbors_iff ps c n).mp hn) h.inv hc
    · exact visitAll_queued ps c _ (rest, res) (fun k hk => h.queued k (List.mem_cons_of_mem _ hk))
    · intro k hk
      rcases visitAll_fresh_queued ps c (neighbors ps c) (rest, res) k hk with hold | hq
      · rcases h.closed k hold with hmem | hcl
        · rcases List.mem_cons.mp hmem with rfl | hr
          · right
            intro n hn
            exact visitAll_covers ps k _ _ n ((mem_neighbors_iff ps k n).mpr hn)
          · left; exact visitAll_queue_sub ps c _ (rest, res) k hr
        · right
          intro n hn
          exact visitAll_mono_isSome ps c _ (rest, res) n (hcl n hn)
      · exact Or.inl hq

theorem loopInv_init (ps : Prices) (v : Commodity) : LoopInv ps v [v] [(v, 1)] := by
  constructor
  · constructor
    · simp [find]
    · intro c x hx
      by_cases hcv : v = c
      · simp only [find, hcv, if_true, Option.some.injEq] at hx
        subst hcv; subst hx
        exact ⟨[], rfl, by simp, by simp, by simp⟩
      · simp [find, hcv] at hx
  · intro c hc
    simp only [List.mem_singleton] at hc
    subst hc; simp [find]
  · intro k hk
    by_cases hkv : v = k
    · left; simp [hkv]
    · simp [find, hkv] at hk

theorem normalize_loopInv (ps : Prices) (v : Commodity) : LoopInv ps v [] (normalize ps v) :=
  normLoop_induction ps (LoopInv ps v) (loopInv_step ps v) [v] [(v, 1)] (loopInv_init ps v)


theorem normalize_self (ps : Prices) (v : Commodity) : find v (normalize ps v) = some 1 :=
  (normalize_loopInv ps v).inv.self

/-- a stored price of `c` in `v` is used as it is (times the price 1 of `v`) -/
theorem normalize_direct (ps : Prices) (v c : Commodity) (p : Rat) (hcv : c ≠ v) (he : edge ps v c = some p) :
    find c (normalize ps v) = some (multiply p 1) := by
  unfold normalize
  rw [normLoop_cons]
  apply normLoop_mono
  have hn : c ∈ neighbors ps v := (mem_neighbors_iff ps v c).mpr (by simp [he])
  have := visitAll_new ps v 1 (neighbors ps v) ([], [(v, 1)]) c hn
    (by have : v ≠ c := fun e => hcv e.symm
        simp [find, this])
    (by simp [find])
  rw [price_of_edge he] at this
  exact this

theorem chainFrom_connected (e : Commodity → Commodity → Option Rat) (v cur : Commodity) (x : Rat)
    (path : List Commodity) (c : Commodity) (y : Rat) (h : chainFrom e cur x path = some (c, y))
    (hcur : Connected e v cur) : Connected e v c := by
  induction path generalizing cur x with
  | nil =>
    simp only [chainFrom, Option.some.injEq, Prod.mk.injEq] at h
    rw [← h.1]; exact hcur
  | cons n rest ih =>
    simp only [chainFrom] at h
    cases he : e cur n with
    | none => simp [he] at h
    | some p =>
      simp only [he] at h
      exact ih n (multiply p x) h (Connected.step hcur (by simp [he]))

theorem normalize_chain (ps : Prices) (v c : Commodity) (x : Rat) (h : find c (normalize ps v) = some x) :
    ∃ path, chainFrom (edge ps) v 1 path = some (c, x) ∧ (v :: path).Nodup ∧
      path.length + 1 ≤ (normalize ps v).length :=
  let ⟨path, h1, h2, h3, _⟩ := (normalize_loopInv ps v).inv.chain c x h
  ⟨path, h1, h2, h3⟩

theorem normalize_isSome_iff (ps : Prices) (v c : Commodity) :
    (find c (normalize ps v)).isSome ↔ Connected (edge ps) v c := by
  constructor
  · intro h
    cases hf : find c (normalize ps v) with
    | none => simp [hf] at h
    | some x =>
      obtain ⟨path, h1, _⟩ := normalize_chain ps v c x hf
      exact chainFrom_connected (edge ps) v v 1 path c x h1 Connected.refl
  · intro h
    induction h with
    | refl => simp [normalize_self]
    | step _ hab ih =>
      rcases (normalize_loopInv ps v).closed _ ih with hq | hcl
      · simp at hq
      · exact hcl _ hab

/-! ## the result depends on the price map only through lookups and sorted keys -/

theorem visit_congr (ps ps' : Prices) (hp : ∀ c n, price ps c n = price ps' c n) (c : Commodity) :
    visit ps c = visit ps' c := by
  funext st n
  simp [visit, hp]

theorem normLoop_congr (ps ps' : Prices) (hn : ∀ c, neighbors ps c = neighbors ps' c)
    (hp : ∀ c n, price ps c n = price ps' c n) (queue : List Commodity) (res : NPrices) :
    normLoop ps queue res = normLoop ps' queue res := by
  fun_induction normLoop ps queue res with
  | case1 res => rw [normLoop_nil]
  | case2 res c rest ih =>
    rw [normLoop_cons ps', ← hn c, ← visit_congr ps ps' hp c]
    exact ih

end Knut.Prices
