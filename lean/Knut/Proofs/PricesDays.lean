import Knut.Spec.PriceSpec
import Knut.Proofs.ListSorted
/-!
# `journal.ComputePrices`: what `Day.Normalized` is on every day
-/
namespace Knut.Prices
open Knut Knut.Dec Knut.Spec

/-- the declarations of the days `0 … i`, in journal order -/
def declsUpTo (days : List Day) (i : Nat) : List Decl := (days.take (i + 1)).flatMap (·.prices)

theorem insertAll_eq_foldlM (ps : Prices) (ds : List Decl) : insertAll ps ds = ds.foldlM insert ps := by
  induction ds generalizing ps with
  | nil => rfl
  | cons d ds ih => rw [insertAll, List.foldlM_cons]; cases insert ps d with | none => rfl | some p => exact ih p

theorem insertAll_append (ps : Prices) (a b : List Decl) :
    insertAll ps (a ++ b) = (insertAll ps a).bind (fun ps' => insertAll ps' b) := by
  simp only [insertAll_eq_foldlM, List.foldlM_append]; rfl

theorem declsUpTo_zero (d : Day) (ds : List Day) : declsUpTo (d :: ds) 0 = d.prices := by
  simp [declsUpTo]

theorem declsUpTo_succ (d : Day) (ds : List Day) (i : Nat) :
    declsUpTo (d :: ds) (i + 1) = d.prices ++ declsUpTo ds i := by
  simp [declsUpTo]

/-- `Day.Normalized` of day `i` is `Normalize(v)` of the price map holding every declaration of the days
`0 … i` (inserted in journal order), or nil if there is none yet.  `pre` are the declarations already
in the processor's map. -/
theorem computePrices_spec (v : Commodity) (days : List Day) :
    ∀ (st : CPState) (pre : List Decl) (out : List (Int × Option NPrices)),
    insertAll [] pre = some st.prc →
    st.previous = (if pre = [] then none else some (normalize st.prc v)) →
    computePrices v st days = some out →
    out.length = days.length ∧
    ∀ i (hi : i < days.length), ∃ ps, insertAll [] (pre ++ declsUpTo days i) = some ps ∧
      out[i]? = some (days[i].date, if pre ++ declsUpTo days i = [] then none else some (normalize ps v)) := by
  induction days with
  | nil =>
    intro st pre out _ _ h
    simp only [computePrices, Option.some.injEq] at h
    subst h
    exact ⟨rfl, fun i hi => absurd hi (Nat.not_lt_zero i)⟩
  | cons d ds ih =>
    intro st pre out hst hprev h
    simp only [computePrices, cpDay] at h
    cases hins : insertAll st.prc d.prices with
    | none => simp [hins] at h
    | some prc =>
      simp only [hins] at h
      have hpre' : insertAll [] (pre ++ d.prices) = some prc := by
        rw [insertAll_append, hst]; exact hins
      have hprev' : (if d.prices.length > 0 then some (normalize prc v) else st.previous) =
          (if pre ++ d.prices = [] then none else some (normalize prc v)) := by
        by_cases hd : d.prices = []
        · have hprc : prc = st.prc := by
            rw [hd] at hins; simp only [insertAll, Option.some.injEq] at hins; exact hins.symm
          simp [hd, hprev, hprc]
        · have : d.prices.length > 0 := List.length_pos_iff.mpr hd
          simp [this, hd]
      cases hrest : computePrices v { prc := prc, previous := if d.prices.length > 0 then some (normalize prc v) else st.previous } ds with
      | none => simp [hrest] at h
      | some rest =>
        simp only [hrest, Option.some.injEq] at h
        subst h
        have := ih { prc := prc, previous := if d.prices.length > 0 then some (normalize prc v) else st.previous }
          (pre ++ d.prices) rest hpre' hprev' hrest
        refine ⟨by simp [this.1], ?_⟩
        intro i hi
        cases i with
        | zero =>
          refine ⟨prc, by rw [declsUpTo_zero]; exact hpre', ?_⟩
          simp only [List.getElem?_cons_zero, List.getElem_cons_zero, declsUpTo_zero, hprev']
        | succ j =>
          have hj : j < ds.length := by simpa using hi
          obtain ⟨ps, h1, h2⟩ := this.2 j hj
          refine ⟨ps, by rw [declsUpTo_succ, ← List.append_assoc]; exact h1, ?_⟩
          simp only [List.getElem?_cons_succ, List.getElem_cons_succ, declsUpTo_succ, ← List.append_assoc]
          exact h2

/-! ## `journal.Builder`: days sorted by date, file order within a day -/

/-- the price declarations of the directives dated `date`, in file order -/
def pricesOn (ds : List (Int × Option Decl)) (date : Int) : List Decl :=
  ds.filterMap (fun e => if e.1 = date then e.2 else none)

theorem pricesOn_append (ds : List (Int × Option Decl)) (date : Int) (x : Option Decl) (d : Int) :
    pricesOn (ds ++ [(date, x)]) d = pricesOn ds d ++ (if date = d then x.toList else []) := by
  unfold pricesOn
  rw [List.filterMap_append]
  by_cases h : date = d
  · cases x <;> simp [h]
  · simp [h]

theorem pricesOn_eq_nil (ds : List (Int × Option Decl)) (d : Int) (h : ∀ e ∈ ds, e.1 ≠ d) : pricesOn ds d = [] := by
  unfold pricesOn
  apply List.filterMap_eq_nil_iff.mpr
  intro e he
  simp [h e he]

def dayDates (days : List Day) : List Int := days.map (·.date)

/-- `Builder.Add` of a dated directive is the sorted insert by date: a new day with the declaration, or the declaration
appended to the day that has the date -/
theorem insertDay_eq_upsertBy (date : Int) (x : Option Decl) : ∀ days : List Day,
    insertDay days date x = upsertBy (·.date) date { date := date, prices := x.toList }
      (fun y => { y with prices := y.prices ++ x.toList }) days
  | [] => rfl
  | d :: rest => by rw [insertDay, upsertBy, insertDay_eq_upsertBy date x rest]

theorem mem_dates_insertDay (days : List Day) (date : Int) (x : Option Decl) (d : Int) :
    d ∈ dayDates (insertDay days date x) ↔ d = date ∨ d ∈ dayDates days := by
  rw [insertDay_eq_upsertBy]
  exact map_key_upsertBy (by rfl) (by intro _; rfl) days d

theorem sorted_insertDay (days : List Day) (date : Int) (x : Option Decl)
    (h : (dayDates days).Pairwise (· < ·)) : (dayDates (insertDay days date x)).Pairwise (· < ·) := by
  rw [insertDay_eq_upsertBy]
  exact pairwise_upsertBy (by rfl) (by intro _; rfl) h

/-- the invariant of `Builder.Add`: dates strictly ascending, exactly the dates that occur, and every
day holds the declarations of its date in file order -/
structure DaysInv (days : List Day) (ds : List (Int × Option Decl)) : Prop where
  sorted : (dayDates days).Pairwise (· < ·)
  dates : ∀ d, d ∈ dayDates days ↔ ∃ e ∈ ds, e.1 = d
  prices : ∀ day ∈ days, day.prices = pricesOn ds day.date

theorem prices_insertDay (days : List Day) (date : Int) (x : Option Decl) (ds : List (Int × Option Decl))
    (h : DaysInv days ds) : ∀ day ∈ insertDay days date x, day.prices = pricesOn (ds ++ [(date, x)]) day.date := by
  intro day hday
  rw [insertDay_eq_upsertBy] at hday
  rw [pricesOn_append]
  rcases mem_upsertBy h.sorted hday with ⟨rfl, hn⟩ | ⟨y, hy, hk, rfl⟩ | ⟨hd, hne⟩
  · -- a new day: no earlier directive has its date
    rw [pricesOn_eq_nil ds date fun e he heq => hn ((h.dates date).mpr ⟨e, he, heq⟩), if_pos rfl]; rfl
  · rw [h.prices y hy, if_pos hk.symm]
  · rw [h.prices day hd, if_neg (Ne.symm hne), List.append_nil]

theorem daysInv_insertDay (days : List Day) (date : Int) (x : Option Decl) (ds : List (Int × Option Decl))
    (h : DaysInv days ds) : DaysInv (insertDay days date x) (ds ++ [(date, x)]) := by
  refine ⟨sorted_insertDay days date x h.sorted, ?_, prices_insertDay days date x ds h⟩
  intro d
  rw [mem_dates_insertDay, h.dates d]
  constructor
  · intro hd
    rcases hd with rfl | ⟨e, he, heq⟩
    · exact ⟨(d, x), by simp, rfl⟩
    · exact ⟨e, by simp [he], heq⟩
  · intro ⟨e, he, heq⟩
    rcases List.mem_append.mp he with he | he
    · exact Or.inr ⟨e, he, heq⟩
    · simp only [List.mem_singleton] at he
      subst he
      exact Or.inl heq.symm

theorem daysInv_foldl (ds pre : List (Int × Option Decl)) (days : List Day) (h : DaysInv days pre) :
    DaysInv (ds.foldl (fun acc e => insertDay acc e.1 e.2) days) (pre ++ ds) := by
  induction ds generalizing days pre with
  | nil => simpa using h
  | cons e rest ih =>
    simp only [List.foldl_cons]
    have := ih (pre ++ [(e.1, e.2)]) (insertDay days e.1 e.2) (daysInv_insertDay days e.1 e.2 pre h)
    simpa using this

theorem buildDays_inv (ds : List (Int × Option Decl)) : DaysInv (buildDays ds) ds := by
  have := daysInv_foldl ds [] [] ⟨by simp [dayDates], by simp [dayDates], by simp⟩
  simpa [buildDays] using this

end Knut.Prices
