import Knut.Proofs.Prices
import Knut.Proofs.MapSum
/-!
# Lemmas tying the price map to the declarations (`latest`), the executable search `reach`,
and the map-order independence of `Normalize`

The last part (`namespace Knut.C12Go`) bounds the measure of the traversal by the number of declarations: the fuel the translated
`Normalize` needs (`Properties/C12Go.lean`).
-/
namespace Knut.Prices
open Knut Knut.Dec Knut.Spec

/-! ## truncation is idempotent: a price with at most `n` decimals is not changed by `Truncate(n)` -/

theorem mkRat_num_den (k : Int) (D : Nat) (hD : D ≠ 0) : (mkRat k D).num * D = k * (mkRat k D).den := by
  have h := Rat.mkRat_self (mkRat k D)
  exact (Rat.mkRat_eq_iff (mkRat k D).den_nz hD).mp h

theorem trunc_mkRat (n : Nat) (k : Int) : trunc n (mkRat k (10 ^ n)) = mkRat k (10 ^ n) := by
  have hD : (10 : Nat) ^ n ≠ 0 := Nat.ne_of_gt (Nat.pow_pos (by decide))
  unfold trunc scaledTrunc pow10
  have h := mkRat_num_den k (10 ^ n) hD
  have hc : ((10 : Int) ^ n) = (((10 : Nat) ^ n : Nat) : Int) := by simp
  rw [hc, h]
  have hden : ((mkRat k (10 ^ n)).den : Int) ≠ 0 := by
    have := (mkRat k (10 ^ n)).den_nz; omega
  rw [Int.mul_tdiv_cancel _ hden]

theorem trunc_idem (n : Nat) (x : Rat) : trunc n (trunc n x) = trunc n x := by
  unfold trunc
  exact trunc_mkRat n _

theorem multiply_one (x : Rat) : multiply x 1 = trunc 8 x := by
  simp [multiply, multiplyPlaces, Rat.mul_one]

/-- the stored reciprocal already has 8 decimals: multiplying it by the price 1 changes nothing -/
theorem multiply_recip_one (p : Rat) : multiply (recip p) 1 = recip p := by
  rw [multiply_one]
  unfold recip insertPlaces
  exact trunc_idem 8 _


theorem edge_addPrice (ps : Prices) (t c : Commodity) (p : Rat) (a b : Commodity) :
    edge (addPrice ps t c p) a b = if a = t ∧ b = c then some p else edge ps a b := by
  unfold edge addPrice
  rw [find_set]
  by_cases hat : a = t
  · subst hat
    simp only [if_true, Option.bind_some, find_set, true_and]
    by_cases hbc : b = c
    · simp [hbc]
    · simp only [hbc, if_false]
      cases find a ps with
      | none => simp [find]
      | some m => simp
  · simp [hat]

theorem insert_eq_some_iff {ps ps' : Prices} {d : Decl} : insert ps d = some ps' ↔
    d.price ≠ 0 ∧ ps' = addPrice (addPrice ps d.target d.commodity d.price) d.commodity d.target (recip d.price) := by
  unfold insert
  by_cases h : d.price = 0
  · rw [if_pos h]; exact ⟨fun e => (nomatch e), fun h' => absurd h h'.1⟩
  · rw [if_neg h]; exact ⟨fun e => ⟨h, (Option.some.inj e).symm⟩, fun e => e.2 ▸ rfl⟩

theorem edge_insert (ps ps' : Prices) (d : Decl) (h : insert ps d = some ps') (a b : Commodity) :
    edge ps' a b =
      if a = d.commodity ∧ b = d.target then some (recip d.price)
      else if a = d.target ∧ b = d.commodity then some d.price
      else edge ps a b := by
  obtain ⟨_, rfl⟩ := insert_eq_some_iff.mp h
  rw [edge_addPrice, edge_addPrice]

theorem insert_eq_none_iff (ps : Prices) (d : Decl) : insert ps d = none ↔ d.price = 0 := by
  unfold insert
  split <;> simp_all

/-- what every successful `insert` keeps (`n` counts the declarations inserted) holds after a successful `insertAll` -/
theorem insertAll_inv (P : Nat → Prices → Prop) (step : ∀ n ps d ps', P n ps → insert ps d = some ps' → P (n + 1) ps') :
    ∀ (ds : List Decl) {n : Nat} {ps ps' : Prices}, P n ps → insertAll ps ds = some ps' → P (n + ds.length) ps'
  | [], _, _, _, hp, h => Option.some.inj h ▸ hp
  | d :: ds, n, ps, _, hp, h => by
    rw [insertAll] at h
    cases hi : insert ps d with
    | none => rw [hi] at h; cases h
    | some p =>
      rw [hi] at h
      exact Nat.add_right_comm n 1 ds.length ▸ insertAll_inv P step ds (step n ps d p hp hi) h

/-- the fold of `insert` with an error value for an invalid price (as `ComputePrices` runs it over a day's price directives) is `insertAll` -/
theorem foldlM_insert_eq_insertAll {α ε : Type} (e : ε) (f : α → Decl) : ∀ (xs : List α) (g : Prices),
    xs.foldlM (fun g x => match insert g (f x) with | some g' => Except.ok g' | none => .error e) g =
      match insertAll g (xs.map f) with | some g' => .ok g' | none => .error e
  | [], _ => rfl
  | x :: rest, g => by
    simp only [List.foldlM_cons, List.map_cons, insertAll]
    cases insert g (f x) with
    | none => rfl
    | some g' => exact foldlM_insert_eq_insertAll e f rest g'

theorem edge_insertAll (ds : List Decl) (ps ps' : Prices) (h : insertAll ps ds = some ps') (a b : Commodity) :
    edge ps' a b = (match latest ds a b with | some x => some x | none => edge ps a b) := by
  induction ds generalizing ps with
  | nil =>
    simp only [insertAll, Option.some.injEq] at h
    subst h; simp [latest]
  | cons d rest ih =>
    simp only [insertAll] at h
    cases hi : insert ps d with
    | none => simp [hi] at h
    | some ps1 =>
      simp only [hi] at h
      rw [ih ps1 h, edge_insert ps ps1 d hi]
      simp only [latest]
      cases latest rest a b with
      | some x => rfl
      | none =>
        by_cases h1 : a = d.commodity ∧ b = d.target
        · simp only [if_pos h1]
        · simp only [if_neg h1]
          by_cases h2 : a = d.target ∧ b = d.commodity
          · simp only [if_pos h2]
          · simp only [if_neg h2]

/-- after inserting the declarations into the empty map, `ps[a][b]` is the latest declared price of `b` in `a` -/
theorem edge_eq_latest (ds : List Decl) (ps : Prices) (h : insertAll [] ds = some ps) :
    edge ps = latest ds := by
  funext a b
  rw [edge_insertAll ds [] ps h a b]
  cases latest ds a b <;> simp [edge, find]

theorem insertAll_eq_none_iff (ds : List Decl) (ps : Prices) :
    insertAll ps ds = none ↔ ∃ d ∈ ds, d.price = 0 := by
  induction ds generalizing ps with
  | nil => simp [insertAll]
  | cons d rest ih =>
    simp only [insertAll]
    cases hi : insert ps d with
    | none =>
      have := (insert_eq_none_iff ps d).mp hi
      simp [this]
    | some ps1 =>
      have hne : d.price ≠ 0 := by
        intro h0
        have := (insert_eq_none_iff ps d).mpr h0
        simp [hi] at this
      simp [ih ps1, hne]

theorem latest_mem_names (ds : List Decl) (a b : Commodity) (x : Rat) (h : latest ds a b = some x) :
    a ∈ declNames ds ∧ b ∈ declNames ds := by
  unfold declNames
  rw [List.mem_eraseDups, List.mem_eraseDups]
  induction ds generalizing x with
  | nil => simp [latest] at h
  | cons d rest ih =>
    simp only [latest] at h
    cases hl : latest rest a b with
    | some y =>
      have := ih y hl
      simp only [List.flatMap_cons, List.mem_append]
      exact ⟨Or.inr this.1, Or.inr this.2⟩
    | none =>
      simp only [hl] at h
      simp only [List.flatMap_cons, List.mem_append, List.mem_cons]
      by_cases h1 : a = d.commodity ∧ b = d.target
      · exact ⟨Or.inl (Or.inl h1.1), Or.inl (Or.inr (Or.inl h1.2))⟩
      · by_cases h2 : a = d.target ∧ b = d.commodity
        · exact ⟨Or.inl (Or.inr (Or.inl h2.1)), Or.inl (Or.inl h2.2)⟩
        · simp [h1, h2] at h

def mentions (d : Decl) (a b : Commodity) : Prop :=
  (a = d.commodity ∧ b = d.target) ∨ (a = d.target ∧ b = d.commodity)

theorem latest_none_of_not_mentions (ds : List Decl) (a b : Commodity) (h : ∀ d ∈ ds, ¬ mentions d a b) :
    latest ds a b = none := by
  induction ds with
  | nil => rfl
  | cons d rest ih =>
    have hd := h d List.mem_cons_self
    have h1 : ¬ (a = d.commodity ∧ b = d.target) := fun x => hd (Or.inl x)
    have h2 : ¬ (a = d.target ∧ b = d.commodity) := fun x => hd (Or.inr x)
    simp only [latest, ih (fun d' hd' => h d' (List.mem_cons_of_mem _ hd')), if_neg h1, if_neg h2]

theorem latest_prefix (pre rest : List Decl) (a b : Commodity) (x : Rat) (h : latest rest a b = some x) :
    latest (pre ++ rest) a b = some x := by
  induction pre with
  | nil => exact h
  | cons d pre ih => simp only [List.cons_append, latest, ih]

theorem latest_of_last (pre post : List Decl) (d : Decl) (a b : Commodity) (hd : a = d.target ∧ b = d.commodity)
    (hab : a ≠ b) (hpost : ∀ d' ∈ post, ¬ mentions d' a b) : latest (pre ++ d :: post) a b = some d.price := by
  apply latest_prefix
  have h1 : ¬ (a = d.commodity ∧ b = d.target) := by
    intro x; exact hab (x.1.trans hd.2.symm)
  simp only [latest, latest_none_of_not_mentions post a b hpost, if_neg h1, if_pos hd]

theorem latest_of_last_rev (pre post : List Decl) (d : Decl) (a b : Commodity) (hd : a = d.commodity ∧ b = d.target)
    (hpost : ∀ d' ∈ post, ¬ mentions d' a b) : latest (pre ++ d :: post) a b = some (recip d.price) := by
  apply latest_prefix
  simp only [latest, latest_none_of_not_mentions post a b hpost, if_pos hd]

/-! ## the bounded chain search is sound and complete for simple chains -/

theorem reach_sound (e : Commodity → Commodity → Option Rat) (univ : List Commodity) (tgt : Commodity) (y : Rat)
    (fuel : Nat) (vis : List Commodity) (cur : Commodity) (x : Rat)
    (h : reach e univ tgt y fuel vis cur x = true) : ∃ path, chainFrom e cur x path = some (tgt, y) := by
  induction fuel generalizing vis cur x with
  | zero =>
    simp only [reach, Bool.and_eq_true, decide_eq_true_eq] at h
    exact ⟨[], by simp [chainFrom, h.1, h.2]⟩
  | succ f ih =>
    simp only [reach, Bool.or_eq_true, Bool.and_eq_true, decide_eq_true_eq, List.any_eq_true] at h
    rcases h with h | ⟨n, _, _, hn⟩
    · exact ⟨[], by simp [chainFrom, h.1, h.2]⟩
    · cases he : e cur n with
      | none => simp [he] at hn
      | some p =>
        simp only [he] at hn
        obtain ⟨path, hp⟩ := ih (n :: vis) n (multiply p x) hn
        exact ⟨n :: path, by simp [chainFrom, he, hp]⟩

theorem reach_complete (e : Commodity → Commodity → Option Rat) (univ : List Commodity) (tgt : Commodity) (y : Rat)
    (path : List Commodity) (fuel : Nat) (vis : List Commodity) (cur : Commodity) (x : Rat)
    (hc : chainFrom e cur x path = some (tgt, y)) (hlen : path.length ≤ fuel)
    (huniv : ∀ d ∈ path, d ∈ univ) (hnd : path.Nodup) (hvis : ∀ d ∈ path, d ∉ vis) :
    reach e univ tgt y fuel vis cur x = true := by
  induction path generalizing fuel vis cur x with
  | nil =>
    simp only [chainFrom, Option.some.injEq, Prod.mk.injEq] at hc
    cases fuel <;> simp [reach, hc.1, hc.2]
  | cons n rest ih =>
    cases fuel with
    | zero => simp at hlen
    | succ f =>
      simp only [chainFrom] at hc
      cases he : e cur n with
      | none => simp [he] at hc
      | some p =>
        simp only [he] at hc
        simp only [reach, Bool.or_eq_true, List.any_eq_true]
        right
        refine ⟨n, huniv n List.mem_cons_self, ?_⟩
        have hnv : n ∉ vis := hvis n List.mem_cons_self
        simp only [he, Bool.and_eq_true, Bool.not_eq_true', List.contains_eq_mem, decide_eq_false_iff_not]
        refine ⟨hnv, ?_⟩
        have hnd' := List.nodup_cons.mp hnd
        apply ih f (n :: vis) n (multiply p x) hc (by simpa using hlen)
          (fun d hd => huniv d (List.mem_cons_of_mem _ hd)) hnd'.2
        intro d hd hmem
        rcases List.mem_cons.mp hmem with rfl | hm
        · exact hnd'.1 hd
        · exact hvis d (List.mem_cons_of_mem _ hd) hm

theorem chainFrom_nodes (e : Commodity → Commodity → Option Rat) (cur : Commodity) (x : Rat)
    (path : List Commodity) (r : Commodity × Rat) (h : chainFrom e cur x path = some r) :
    ∀ d ∈ path, ∃ a, (e a d).isSome := by
  induction path generalizing cur x with
  | nil => intro d hd; simp at hd
  | cons n rest ih =>
    simp only [chainFrom] at h
    cases he : e cur n with
    | none => simp [he] at h
    | some p =>
      simp only [he] at h
      intro d hd
      rcases List.mem_cons.mp hd with rfl | hd'
      · exact ⟨cur, by simp [he]⟩
      · exact ih n (multiply p x) h d hd'


/-- the four conjuncts of `priceOK` give the four clauses for any table `N`: a chain found by the bounded search is a chain (`reach_sound`);
`closedOK` (a priced commodity's declared neighbours are priced) makes the priced set closed under `Connected`, a chain (clause 3) makes a
priced commodity connected -/
theorem priceOK_sound (decls : List Decl) (v : Commodity) (N : NPrices) (h : priceOK decls v N = true) :
    find v N = some 1 ∧
    (∀ c p, c ≠ v → latest decls v c = some p → find c N = some (multiply p 1)) ∧
    (∀ c x, find c N = some x → ∃ path, chainFrom (latest decls) v 1 path = some (c, x)) ∧
    (∀ c, find c N = none ↔ ¬ Connected (latest decls) v c) := by
  simp only [priceOK, Bool.and_eq_true] at h
  obtain ⟨⟨⟨hself, hdirect⟩, hchain⟩, hclosed⟩ := h
  have h1 : find v N = some 1 := by simpa [selfOK] using hself
  have h3 : ∀ c x, find c N = some x → ∃ path, chainFrom (latest decls) v 1 path = some (c, x) := by
    intro c x hx
    simp only [chainOK, List.all_eq_true] at hchain
    have := hchain c (mem_keys_of_find hx)
    simp only [hx] at this
    exact reach_sound _ _ _ _ _ _ _ _ this
  refine ⟨h1, ?_, h3, ?_⟩
  · intro c p hcv hl
    simp only [directOK, List.all_eq_true, Bool.or_eq_true, decide_eq_true_eq] at hdirect
    have hmem : c ∈ v :: declNames decls := List.mem_cons_of_mem _ (latest_mem_names decls v c p hl).2
    rcases hdirect c hmem with h | h
    · exact absurd h hcv
    · simpa [hl] using h
  · intro c
    constructor
    · intro hnone hconn
      have : (find c N).isSome := by
        clear hnone
        induction hconn with
        | refl => simp [h1]
        | @step a b _ hab ih =>
          simp only [closedOK, List.all_eq_true, Bool.or_eq_true, Bool.not_eq_true'] at hclosed
          have ha : a ∈ keys N := (isSome_iff_mem_keys N a).mp ih
          cases hl : latest decls a b with
          | none => simp [hl] at hab
          | some q =>
            have hb : b ∈ v :: declNames decls := List.mem_cons_of_mem _ (latest_mem_names decls a b q hl).2
            rcases hclosed a ha b hb with h | h
            · simp [hl] at h
            · exact h
      simp [hnone] at this
    · intro hnc
      cases hf : find c N with
      | none => rfl
      | some x =>
        obtain ⟨path, hp⟩ := h3 c x hf
        exact absurd (chainFrom_connected _ v v 1 path c x hp Connected.refl) hnc


theorem find_perm {β : Type} {m m' : AMap β} (hp : m.Perm m') (hnd : (keys m).Nodup) (k : Commodity) :
    find k m = find k m' := by
  rw [find_eq, find_eq]; exact Knut.AMap.find?_perm hp hnd k

theorem sortNames_perm_eq {ks ks' : List Commodity} (hp : ks.Perm ks') : sortNames ks = sortNames ks' :=
  MapSum.mergeSort_perm_eq (fun a b : Commodity => decide (a ≤ b)) (fun _ _ _ h1 h2 => decide_eq_true (String.le_trans (of_decide_eq_true h1) (of_decide_eq_true h2)))
    (fun a b => by simp only [Bool.or_eq_true, decide_eq_true_eq]; exact String.le_total a b) ks ks'
    (fun _ _ _ _ h1 h2 => String.le_antisymm (of_decide_eq_true h1) (of_decide_eq_true h2)) hp

def InnerNodup (ps : Prices) : Prop := ∀ c m, find c ps = some m → (keys m).Nodup

theorem InnerNodup.neighbors {g : Prices} (h : InnerNodup g) (c : Commodity) : (keys ((find c g).getD [])).Nodup := by
  cases hf : find c g with
  | none => exact List.nodup_nil
  | some m => exact h c m hf

/-- **`Normalize` depends on the price map only through the stored prices**: the traversal looks prices up, and sorts the
neighbours it ranges over -/
theorem normalize_ext {g g' : Prices} (hn : InnerNodup g) (hn' : InnerNodup g') (he : ∀ a b, edge g a b = edge g' a b)
    (v : Commodity) : normalize g v = normalize g' v := by
  refine normLoop_congr g g' (fun c => ?_) (fun c n => by unfold price; rw [he c n]) [v] [(v, 1)]
  have hm : ∀ n, n ∈ keys ((find c g).getD []) ↔ n ∈ keys ((find c g').getD []) := fun n => by
    have h1 := mem_neighbors_iff g c n
    have h2 := mem_neighbors_iff g' c n
    unfold neighbors at h1 h2
    rw [mem_sortNames] at h1 h2
    rw [h1, h2, he c n]
  unfold neighbors
  exact sortNames_perm_eq ((List.perm_ext_iff_of_nodup (hn.neighbors c) (hn'.neighbors c)).2 hm)

/-! ## the maps built by `Insert` have distinct keys (so `normalize_ext` applies to them) -/

theorem not_mem_keys_del {β : Type} (m : AMap β) (k : Commodity) : k ∉ keys (del k m) := by
  intro h
  have := find_isSome_of_mem_keys h
  simp [find_del_self] at this

theorem nodup_keys_del {β : Type} (m : AMap β) (k : Commodity) (h : (keys m).Nodup) : (keys (del k m)).Nodup := by
  rw [del_eq]; exact Knut.AMap.nodupKeys_erase h k

theorem nodup_keys_set {β : Type} (m : AMap β) (k : Commodity) (v : β) (h : (keys m).Nodup) :
    (keys (set m k v)).Nodup := by
  simp only [set, keys, List.map_cons, List.nodup_cons]
  exact ⟨not_mem_keys_del m k, nodup_keys_del m k h⟩

def WF (ps : Prices) : Prop := (keys ps).Nodup ∧ ∀ c m, find c ps = some m → (keys m).Nodup

theorem wf_addPrice (ps : Prices) (t c : Commodity) (p : Rat) (h : WF ps) : WF (addPrice ps t c p) := by
  unfold addPrice
  refine ⟨nodup_keys_set _ _ _ h.1, ?_⟩
  intro a m hm
  rw [find_set] at hm
  by_cases hat : a = t
  · simp only [hat, if_true, Option.some.injEq] at hm
    subst hm
    apply nodup_keys_set
    cases hf : find t ps with
    | none => simp [keys]
    | some m0 => exact h.2 t m0 hf
  · simp only [hat, if_false] at hm
    exact h.2 a m hm

theorem wf_insertAll (ds : List Decl) (ps ps' : Prices) (h : WF ps) (hi : insertAll ps ds = some ps') : WF ps' :=
  insertAll_inv (fun _ => WF) (fun _ _ _ _ h hi => (insert_eq_some_iff.mp hi).2 ▸ wf_addPrice _ _ _ _ (wf_addPrice _ _ _ _ h)) ds (n := 0) h hi

theorem wf_nil : WF ([] : Prices) := ⟨by simp [keys], by intro c m h; simp [find] at h⟩

/-- `ps'` lists the same outer keys in the same order, each inner list reordered -/
inductive InnerPerm : Prices → Prices → Prop
  | nil : InnerPerm [] []
  | cons {a : Commodity} {m m' : NPrices} {l l' : Prices} :
      m.Perm m' → InnerPerm l l' → InnerPerm ((a, m) :: l) ((a, m') :: l')

theorem edge_perm {ps ps' : Prices} (hwf : WF ps) (hp : ps.Perm ps') :
    InnerNodup ps' ∧ ∀ a b, edge ps a b = edge ps' a b :=
  ⟨fun c m hm => hwf.2 c m (by rw [find_perm hp hwf.1 c]; exact hm), fun a b => by unfold edge; rw [find_perm hp hwf.1 a]⟩

theorem InnerPerm.forall₂ {ps ps' : Prices} (h : InnerPerm ps ps') :
    List.Forall₂ (fun e e' => e.1 = e'.1 ∧ e.2.Perm e'.2) ps ps' := by
  induction h with
  | nil => exact .nil
  | cons hp _ ih => exact .cons ⟨rfl, hp⟩ ih

theorem find_innerPerm {ps ps' : Prices} (hp : InnerPerm ps ps') (c : Commodity) :
    (find c ps = none ∧ find c ps' = none) ∨ ∃ m m', find c ps = some m ∧ find c ps' = some m' ∧ m.Perm m' := by
  rw [find_eq, find_eq]; exact Knut.AMap.find?_forall₂ hp.forall₂ c

theorem edge_innerPerm {ps ps' : Prices} (hp : InnerPerm ps ps') (hn : InnerNodup ps) :
    InnerNodup ps' ∧ ∀ a b, edge ps a b = edge ps' a b := by
  refine ⟨fun c m' hm' => ?_, fun a b => ?_⟩
  · rcases find_innerPerm hp c with ⟨_, h2⟩ | ⟨m, m2, h1, h2, hperm⟩
    · rw [h2] at hm'; cases hm'
    · rw [h2] at hm'; cases hm'
      exact (List.Perm.nodup_iff (hperm.map (fun e : Commodity × Rat => e.1))).mp (hn c m h1)
  · unfold edge
    rcases find_innerPerm hp a with ⟨h1, h2⟩ | ⟨m, m2, h1, h2, hperm⟩ <;> rw [h1, h2]
    exact find_perm hperm (hn a m h1) b

end Knut.Prices

namespace Knut.C12Go
open Knut Knut.Dec Knut.Prices Knut.Spec

/-! ### the fuel: `2·|decls| + 1` covers the model's termination measure -/

theorem keys_del_length {β : Type} (m : Prices.AMap β) (k : Commodity) : (keys (del k m)).length ≤ (keys m).length := by
  rw [del_eq]; exact (Knut.AMap.keys_erase m k ▸ List.length_filter_le _ _ : (Knut.AMap.keys (Knut.AMap.erase m k)).length ≤ _)

theorem allNames_del_length (ps : Prices) (t : Commodity) :
    (allNames (del t ps)).length + (keys ((find t ps).getD [])).length ≤ (allNames ps).length := by
  induction ps with
  | nil => simp [del, allNames, find, keys]
  | cons e rest ih =>
    obtain ⟨a, b⟩ := e
    by_cases hak : a = t
    · subst hak
      have hd : (allNames (del a rest)).length ≤ (allNames rest).length := by omega
      simp [del, allNames, find] at hd ⊢
      omega
    · simp [del, allNames, find, hak] at ih ⊢
      omega

theorem allNames_addPrice_length (ps : Prices) (t c : Commodity) (p : Rat) :
    (allNames (addPrice ps t c p)).length ≤ (allNames ps).length + 1 := by
  have h1 := allNames_del_length ps t
  have h2 := keys_del_length ((find t ps).getD []) c
  simp [addPrice, Prices.set, allNames, keys] at h1 h2 ⊢
  omega

theorem allNames_insertAll_length : ∀ (ds : List Decl) (m m' : Prices), insertAll m ds = some m' →
    (allNames m').length ≤ (allNames m).length + 2 * ds.length := by
  intro ds m m' h
  have := insertAll_inv (fun n p => (allNames p).length ≤ (allNames m).length + 2 * n) (fun n ps d ps' hp hi => by
    have a1 := allNames_addPrice_length ps d.target d.commodity d.price
    have a2 := allNames_addPrice_length (addPrice ps d.target d.commodity d.price) d.commodity d.target (recip d.price)
    rw [← (insert_eq_some_iff.mp hi).2] at a2
    omega) ds (n := 0) (Nat.le_refl _) h
  rwa [Nat.zero_add] at this

theorem unvisited_le (ps : Prices) (res : NPrices) : unvisited ps res ≤ (allNames ps).length := by
  unfold unvisited; exact List.length_filter_le _ _

theorem fuel_of_decls {decls : List Decl} {ps : Prices} (hps : insertAll [] decls = some ps) (v : Commodity) {fuel : Nat}
    (hf : 2 * decls.length + 1 ≤ fuel) : unvisited ps [(v, 1)] + 1 ≤ fuel := by
  have hb : (allNames ps).length ≤ 0 + 2 * decls.length := allNames_insertAll_length decls [] ps hps
  have hu := unvisited_le ps [(v, 1)]
  omega

end Knut.C12Go
