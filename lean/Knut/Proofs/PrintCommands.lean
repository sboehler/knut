import Knut.Proofs.PrintRebuild
import Knut.Properties.C05Inserts
import Knut.Properties.C04
import Knut.Proofs.PrintJournal
/-!
# `knut print`, `check` and `balance` on a printed journal (C09, command level)

`printFile` is `printRunner.execute` for a journal that is one file: load (parser model, elaboration), build, check,
print. The reloaded journal differs from the original only in the order of the transactions within a day
(`rebuild`), so the checker's verdict (C05 machinery: `verdict_perm`) and every balance report, valued or not
(`output_perm_of`), are the same; the price directives of a day keep their order, hence no restriction on prices.
-/
namespace Knut.FromSyntax
open Knut Knut.JournalPrinter Knut.Utf8 Knut.Spec Knut.InsertsPerm Knut.InsertsPermValued Knut.C05

/-- `knut print` on a journal consisting of one file (no includes) -/
def printFile (path : String) (text : List UInt8) : CmdOutcome :=
  match loadText path text with
  | .error => .error "loading"
  | .panic s => .panic s
  | .ok ds =>
    match Check.run (Builder.ofList ds).build with
    | .error _ => .error "processing"
    | .ok _ => .ok (print (Builder.ofList ds).build)

theorem dayEquiv_normDay (d : Day) : DayEquiv d (normDay d) :=
  ⟨rfl, List.Perm.refl _, (List.mergeSort_perm d.transactions _).symm, List.Perm.refl _, List.Perm.refl _⟩

theorem check_normDays (j : List Day) : (Check.run (j.map normDay)).isOk = (Check.run j).isOk := by
  rw [C04.C04_accept_iff_strict, C04.C04_accept_iff_strict]
  exact (verdict_perm true _ _ (forall₂_map_self fun d _ => dayEquiv_normDay d)).symm

theorem printFile_print (path : String) (j : List Day) (hp : PrintableJournal j) :
    printFile path (strBytes (print j)) = if (Check.run j).isOk then .ok (print j) else .error "processing" := by
  unfold printFile
  rw [load_print path j hp.dirs]
  simp only
  rw [rebuild j hp.shape, print_normDays, ← check_normDays j]
  cases Check.run (j.map normDay) <;> rfl

theorem printFile_fixpoint (path : String) (j : List Day) (hp : PrintableJournal j) (hacc : (Check.run j).isOk = true) :
    printFile path (strBytes (print j)) = .ok (print j) := by
  rw [printFile_print path j hp, if_pos hacc]

theorem dirsWF_of_printable (ds : List Directive) (h : ∀ x ∈ ds, PrintableDir x) : DirsWF ds := by
  intro t ht p hp
  obtain ⟨_, _, _, hps, hnf, _⟩ := h _ ht
  rw [hnf] at hp
  obtain ⟨q, hq, hp⟩ := List.mem_flatMap.mp hp
  rcases mem_postingBuild hp with rfl | rfl <;> simp [(hps q hq).wf]

theorem balance_equiv (f : BalanceFlags) (ds ds' : List Directive) (hp : ds.Perm ds') (hwf : DirsWF ds)
    (hdays : List.Forall₂ DayEquivP (Builder.ofList ds).build (Builder.ofList ds').build) :
    BalanceCmd.run f ds = BalanceCmd.run f ds' :=
  output_perm_of (fun h => h.1.1) (fun _ => dayEquivP_refl _) f hp hwf hdays fun cfg _ _ _ h => run_sim cfg h {} {} relV_init

/-- the directives `journal.Print` writes for the journal built from `ds` -/
def printedDirs (ds : List Directive) : List Directive := journalDirs (Builder.ofList ds).build

theorem balance_printed (f : BalanceFlags) (ds : List Directive) (h : ∀ x ∈ ds, PrintableDir x) :
    BalanceCmd.run f (printedDirs ds) = BalanceCmd.run f ds := by
  have hsh := built_shape ds
  apply (balance_equiv f ds (printedDirs ds) (journalDirs_built_perm ds).symm (dirsWF_of_printable ds h) ?_).symm
  unfold printedDirs
  rw [rebuild _ hsh]
  exact forall₂_map_self fun d _ => dayEquivP_of_eq (dayEquiv_normDay d) rfl

end Knut.FromSyntax
