import Knut.Proofs.PrintedFields
import Knut.Proofs.SyntaxItems
/-!
# A parsed file as its field views: one field, one directive, the whole file

`FileViews path text f vs` (the text parses to `f`, whose directives have the field views `vs`) and `loadViews` (the byte-based
loader as a function of `vs`) are the notions C09, the C05 layout construction and `Cmd.run`'s elaboration run on; every parse
gives such views (`fileViews_of_parse`). Below them, what both elaborations (`Model/FromSyntax.lean` on bytes, `Model/Commands.lean` on strings) and the converse direction of
C09 (`Proofs/PrintSound.lean`) need of a single field: a field that decodes as strict UTF-8 is the string of its canonical
tokens (`toks_of_utf8`), so the lexical class of the tokens is a fact about the characters of the string; and the parser's
soundness in the form the elaboration uses it (`parse_views`).
-/
namespace Knut.FromSyntax
open Knut Knut.Syntax Knut.Utf8

theorem bytes_of_utf8 {bs : List UInt8} {s : String} (h : utf8 bs = some s) : bs = strBytes s := by
  unfold utf8 String.fromUTF8? at h
  split at h
  · rename_i hv
    simp only [Option.some.injEq] at h
    subst h
    rw [← strBytes_toUTF8]
    have : (String.fromUTF8 ⟨bs.toArray⟩ hv).toByteArray = ⟨bs.toArray⟩ := ByteArray.ext rfl
    show bs = (String.fromUTF8 ⟨bs.toArray⟩ hv).toByteArray.data.toList
    rw [this]
  · cases h

theorem toks_of_utf8 {c : List Tok} {s : String} (hc : Canon c) (h : utf8 (flat c) = some s) : c = strToks s := by
  have e := bytes_of_utf8 h
  have d1 := decodeAll_flat c hc
  rw [e, decodeAll_strBytes] at d1
  exact d1.symm

theorem charTok_r (ch : Char) : (charTok ch).r = ch.toNat := rfl

theorem all_chars_of_toks {p : Nat → Bool} {s : String} (h : All p (strToks s)) : ∀ ch ∈ s.toList, p ch.toNat = true := by
  intro ch hch
  exact h (charTok ch) (List.mem_map.mpr ⟨ch, hch, rfl⟩)

theorem okName_of_commodityOK {c : List Tok} {s : String} (hok : CommodityOK c) (hc : Canon c)
    (h : utf8 (flat c) = some s) : okName s = true := by
  have e := toks_of_utf8 hc h
  subst e
  obtain ⟨⟨hne, hall⟩, _⟩ := hok
  simp only [okName, Bool.and_eq_true, Bool.not_eq_true', List.isEmpty_eq_false_iff, List.all_eq_true]
  refine ⟨?_, all_chars_of_toks hall⟩
  intro e
  apply hne
  simp [strToks, charsToks, e]

theorem noQuote_of_contentOK {c : List Tok} {s : String} (hok : ContentOK c) (hc : Canon c)
    (h : utf8 (flat c) = some s) : '"' ∉ s.toList := by
  have e := toks_of_utf8 hc h
  subst e
  intro hm
  have := all_chars_of_toks hok.1 '"' hm
  simp at this

theorem char_of_toNat {ch : Char} {c : Char} (h : ch.toNat = c.toNat) : ch = c := by
  apply Char.ext
  apply UInt32.toNat_inj.mp
  exact h

theorem parse_views {path : String} {text : Bytes} {f : Syntax.File} (h : parseText path text = .ok f) :
    ∃ vs : List DirT, (∀ v ∈ vs, v.ok ∧ v.canon) ∧ f.directives.mapM (viewDirective text) = some (vs.map DirT.bytes) := by
  obtain ⟨items, _, i2, i3⟩ := parse_items h
  exact ⟨viewsOf items, viewsOf_ok i3, by rw [i2]; exact items_views i3⟩

/-! ### a parsed file is its list of field views

`FileViews path text f vs`: the text parses to `f`, and the directives of `f` have the field views `vs`, each of the right
lexical classes and canonically encoded. Every successful parse gives such views, the rendering of items gives the items'
own; what the elaborations (byte-based and command model) make of the file is a function of `vs` alone. -/

structure FileViews (path : String) (text : List UInt8) (f : Syntax.File) (vs : List DirT) : Prop where
  parse : parseText path text = .ok f
  views : f.directives.mapM (viewDirective text) = some (vs.map DirT.bytes)
  ok : ∀ v ∈ vs, v.ok ∧ v.canon

theorem fileViews_of_parse {path : String} {text : Bytes} {f : Syntax.File} (h : parseText path text = .ok f) :
    ∃ vs, FileViews path text f vs := by
  obtain ⟨vs, h1, h2⟩ := parse_views h
  exact ⟨vs, h, h2, h1⟩

/-- the byte-based loader as a function of the field views -/
def loadViews (vs : List DirT) : Loaded :=
  match vs.mapM (fun v => itemV v.bytes) with
  | none => loadFailed (okPrefix (fun v => itemV v.bytes) vs)
  | some its => loadItems its

theorem FileViews.loadText {path : String} {text : Bytes} {f : Syntax.File} {vs : List DirT} (h : FileViews path text f vs) :
    loadText path text = loadViews vs := by
  unfold FromSyntax.loadText loadViews
  rw [h.parse]
  simp only
  rw [mapM_congr_view h.views (fun d w hw => item_of_view hw), okPrefix_congr_view h.views (fun d w hw => item_of_view hw),
    List.mapM_map, okPrefix_map]
  rfl

end Knut.FromSyntax
