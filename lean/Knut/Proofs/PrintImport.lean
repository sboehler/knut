import Knut.Proofs.PrintLoaded
import Knut.Proofs.PrintedFields
import Knut.Proofs.ImportWF
/-!
# The directives an importer builds are printable (C13, text level)

Valid names (what `wellFormed` asks for), dates in the range of `time.Parse`, decimal amounts and transactions built by
`transaction.Builder.Build` give `PrintableDir`, the hypothesis of the print-then-parse round trip of C09.  Before that, what the
library models the importers call yield: `time.Parse` the years 0000..9999, `decimal.NewFromString` decimal rationals, closed under
the arithmetic the importers do.
-/
namespace Knut.Proofs.Import
open Knut Knut.Import Knut.Spec.Import Knut.FromSyntax Knut.JournalPrinter

def IsDec (q : Rat) : Prop := ∃ k, q.den ∣ 10 ^ k

theorem IsDec.printable {q : Rat} (h : IsDec q) : PrintableQty q := by
  obtain ⟨k, hk⟩ := h
  exact Dec.dvd_pow10_self _ k hk

theorem isDec_neg {q : Rat} (h : IsDec q) : IsDec (-q) := by
  obtain ⟨k, hk⟩ := h
  exact ⟨k, by rw [Rat.neg_den]; exact hk⟩

theorem isDec_add {a b : Rat} (ha : IsDec a) (hb : IsDec b) : IsDec (a + b) := by
  obtain ⟨i, hi⟩ := ha
  obtain ⟨j, hj⟩ := hb
  exact ⟨i + j, Dec.dec_add a b i j hi hj⟩

theorem isDec_sub {a b : Rat} (ha : IsDec a) (hb : IsDec b) : IsDec (a - b) := by
  rw [Rat.sub_eq_add_neg]; exact isDec_add ha (isDec_neg hb)

theorem isDec_mul {a b : Rat} (ha : IsDec a) (hb : IsDec b) : IsDec (a * b) := by
  obtain ⟨i, hi⟩ := ha
  obtain ⟨j, hj⟩ := hb
  exact ⟨i + j, Dec.dec_mul a b i j hi hj⟩

theorem isDec_int (n : Int) : IsDec (n : Rat) := ⟨0, by simp⟩
theorem isDec_zero : IsDec 0 := ⟨0, by simp⟩

theorem isDec_mkRat (m : Int) (k : Nat) : IsDec (mkRat m (10 ^ k)) := ⟨k, Dec.den_mkRat_pow10_dvd m k⟩

theorem isDec_round (n : Nat) (r : Rat) : IsDec (Dec.roundHalfAway n r) := isDec_mkRat _ n

theorem isDec_scale10 (v e : Int) : IsDec (scale10 v e) := by
  unfold scale10
  split
  · exact isDec_int _
  · exact isDec_mkRat _ _

/-- `decimal.NewFromString` yields a decimal rational -/
theorem isDec_newFromString {s : String} {q : Rat} (h : newFromString s = some q) : IsDec q := by
  unfold newFromString at h
  simp only at h
  repeat' (split at h)
  all_goals first | (cases h; done) | (simp only [Option.some.injEq] at h; subst h; exact isDec_scale10 _ _)

/-! ### `time.Parse` -/

theorem daysIn_cumDays (y m : Int) (hm0 : 1 ≤ m) (hm1 : m ≤ 12) :
    Knut.Import.daysIn y m = Date.cumDays (Date.isLeap y) (m + 1) - Date.cumDays (Date.isLeap y) m := by
  rw [Date.daysIn_table _ m hm0 hm1]
  unfold Knut.Import.daysIn
  simp only [Bool.or_eq_true, decide_eq_true_eq, or_assoc]

theorem ofCivil_range (y m d : Int) (hy0 : 0 ≤ y) (hy1 : y ≤ 9999) (hm0 : 1 ≤ m) (hm1 : m ≤ 12) (hd0 : 1 ≤ d)
    (hd1 : d ≤ Knut.Import.daysIn y m) : PrintableDate (Date.ofCivil y m d) :=
  Date.ofCivil_bounds y m d hy0 hy1 hm0 hm1 hd0 (daysIn_cumDays y m hm0 hm1 ▸ hd1)

theorem lookupName_go_lt (v : List Char) (tab : List String) (i : Nat) (j : Nat) (rest : List Char)
    (h : lookupName.go v i tab = some (j, rest)) : j < i + tab.length := by
  induction tab generalizing i with
  | nil => simp [lookupName.go] at h
  | cons n tl ih =>
    simp only [lookupName.go] at h
    split at h
    · simp only [Option.some.injEq, Prod.mk.injEq] at h
      simp only [List.length_cons]; omega
    · have := ih (i + 1) h
      simp only [List.length_cons]; omega

theorem charVal_le {c : Char} (h : isDig c = true) : charVal c ≤ 9 := Dec.digit_le h

def setsMonth : List LEl → Bool
  | [] => false
  | .mon2 :: _ => true
  | .monShort :: _ => true
  | .monLong :: _ => true
  | _ :: els => setsMonth els

def setsYear : List LEl → Bool
  | [] => false
  | .year4 :: _ => true
  | _ :: els => setsYear els

theorem parseEls_inv (els : List LEl) (acc : YMD) (v : List Char) (r : YMD) (h : parseEls els acc v = some r) :
    ((0 ≤ acc.y ∧ acc.y ≤ 9999) ∨ setsYear els = true → 0 ≤ r.y ∧ r.y ≤ 9999) ∧
    ((1 ≤ acc.m ∧ acc.m ≤ 12) ∨ setsMonth els = true → 1 ≤ r.m ∧ r.m ≤ 12) := by
  induction els generalizing acc v with
  | nil =>
    simp only [parseEls] at h
    split at h
    · simp only [Option.some.injEq] at h; subst h
      simp [setsYear, setsMonth]
    · cases h
  | cons e els ih =>
    cases e with
    | lit p =>
      obtain ⟨v', _, h⟩ := Option.bind_eq_some_iff.mp h
      exact ih acc v' h
    | day2 =>
      obtain ⟨⟨n, v'⟩, _, h⟩ := Option.bind_eq_some_iff.mp h
      have := ih _ v' h
      exact this
    | day =>
      obtain ⟨⟨n, v'⟩, _, h⟩ := Option.bind_eq_some_iff.mp h
      have := ih _ v' h
      exact this
    | mon2 =>
      obtain ⟨⟨n, v'⟩, _, h⟩ := Option.bind_eq_some_iff.mp h
      replace h : (if (n = 0 || 12 < n) = true then none else parseEls els { acc with m := n } v') = some r := h
      by_cases hn : (n = 0 || 12 < n) = true
      · rw [if_pos hn] at h; cases h
      · rw [if_neg hn] at h
        simp only [Bool.or_eq_true, decide_eq_true_eq, not_or, Nat.not_lt] at hn
        have hm : (1 : Int) ≤ n ∧ (n : Int) ≤ 12 := by omega
        exact ⟨(ih _ v' h).1, fun _ => (ih _ v' h).2 (Or.inl hm)⟩
    | monShort =>
      obtain ⟨⟨i, v'⟩, hl, h⟩ := Option.bind_eq_some_iff.mp h
      have hi := lookupName_go_lt _ _ _ _ _ hl
      simp only [shortMonths, List.length_cons, List.length_nil] at hi
      have hm : (1 : Int) ≤ i + 1 ∧ (i : Int) + 1 ≤ 12 := by omega
      exact ⟨(ih _ v' h).1, fun _ => (ih _ v' h).2 (Or.inl hm)⟩
    | monLong =>
      obtain ⟨⟨i, v'⟩, hl, h⟩ := Option.bind_eq_some_iff.mp h
      have hi := lookupName_go_lt _ _ _ _ _ hl
      simp only [longMonths, List.length_cons, List.length_nil] at hi
      have hm : (1 : Int) ≤ i + 1 ∧ (i : Int) + 1 ≤ 12 := by omega
      exact ⟨(ih _ v' h).1, fun _ => (ih _ v' h).2 (Or.inl hm)⟩
    | year4 =>
      rcases v with _ | ⟨a, _ | ⟨b, _ | ⟨c, _ | ⟨d, v'⟩⟩⟩⟩
      case cons.cons.cons.cons =>
        replace h : (if (isDig a && isDig b && isDig c && isDig d) = true then
            parseEls els { acc with y := (charVal a * 1000 + charVal b * 100 + charVal c * 10 + charVal d : Nat) } v'
          else none) = some r := h
        by_cases hd : (isDig a && isDig b && isDig c && isDig d) = true
        · rw [if_pos hd] at h
          simp only [Bool.and_eq_true] at hd
          have ha := charVal_le hd.1.1.1
          have hb := charVal_le hd.1.1.2
          have hc := charVal_le hd.1.2
          have hd' := charVal_le hd.2
          have hy : ((charVal a * 1000 + charVal b * 100 + charVal c * 10 + charVal d : Nat) : Int) ≤ 9999 := by omega
          exact ⟨fun _ => (ih _ v' h).1 (Or.inl ⟨Int.natCast_nonneg _, hy⟩), (ih _ v' h).2⟩
        · rw [if_neg hd] at h; cases h
      all_goals cases h

/-- `time.Parse` with a layout that has a year and a month yields a date of the years 0000..9999 -/
theorem parseDate_printable {layout : List LEl} {s : String} {z : Int} (hy : setsYear layout = true)
    (hm : setsMonth layout = true) (h : Knut.Import.parseDate layout s = some z) : PrintableDate z := by
  unfold Knut.Import.parseDate at h
  simp only [Option.bind_eq_some_iff] at h
  obtain ⟨r, hr, h⟩ := h
  split at h
  · cases h
  · rename_i hd
    simp only [Bool.or_eq_true, decide_eq_true_eq, not_or, Int.not_lt] at hd
    simp only [Option.some.injEq] at h
    subst h
    obtain ⟨h1, h2⟩ := parseEls_inv _ _ _ _ hr
    have y := h1 (Or.inr hy)
    have m := h2 (Or.inr hm)
    exact ofCivil_range _ _ _ y.1 y.2 m.1 m.2 hd.1 hd.2

theorem printable_DMYdash {s : String} {z : Int} (h : Knut.Import.parseDate layoutDMYdash s = some z) : PrintableDate z :=
  parseDate_printable rfl rfl h

theorem ensures_prefix10 {layout : List LEl} (hy : setsYear layout = true) (hm : setsMonth layout = true) (s : String) :
    Ensures (parseDatePrefix10 layout s) PrintableDate :=
  .ite (fun _ => .panic) fun _ => .ite (fun _ => .ofOption fun _ => parseDate_printable hy hm) fun _ => .error

theorem okName_of_validName {s : String} (h : validName s alnum = true) : okName s = true := by
  simp only [validName, Bool.and_eq_true, Bool.not_eq_true', List.all_eq_true] at h
  simp only [okName, Bool.and_eq_true, Bool.not_eq_true', List.isEmpty_eq_false_iff, List.all_eq_true]
  refine ⟨?_, h.2⟩
  intro e
  have : s = "" := String.toList_eq_nil_iff.mp e
  subst this
  simp at h

theorem typeName_mem {t : String} (h : (AccountType.ofName t).isSome = true) :
    t ∈ ["Assets", "Liabilities", "Equity", "Income", "Expenses"] := by
  refine Decidable.byContradiction fun hn => ?_
  simp only [List.mem_cons, List.not_mem_nil, or_false, not_or] at hn
  unfold AccountType.ofName at h
  rw [if_neg hn.1, if_neg hn.2.1, if_neg hn.2.2.1, if_neg hn.2.2.2.1, if_neg hn.2.2.2.2] at h
  cases h

theorem okName_typeName {t : String} (h : (AccountType.ofName t).isSome = true) : okName t = true :=
  (by decide +kernel : ∀ s ∈ ["Assets", "Liabilities", "Equity", "Income", "Expenses"], okName s = true) t (typeName_mem h)

theorem printableAccount_of_valid {a : Account} (h : Spec.Import.validAccount alnum a = true) : PrintableAccount a = true := by
  unfold Spec.Import.validAccount at h
  cases hs : a.segments with
  | nil => simp [hs] at h
  | cons t rest =>
    simp only [hs, Bool.and_eq_true, List.all_eq_true] at h
    simp only [PrintableAccount, Account.wf, Account.type?, hs, Bool.and_eq_true, List.all_eq_true, List.mem_cons]
    refine ⟨h.1, ?_⟩
    rintro x (rfl | hx)
    · exact okName_typeName h.1
    · exact okName_of_validName (h.2 x hx)

theorem nf_buildPostings (bs : List PB) : BookingNF (buildPostings bs) := by
  unfold buildPostings
  induction bs with
  | nil => exact nf_nil
  | cons b rest ih => rw [List.flatMap_cons]; exact nf_build_append _ _ _ _ _ ih

/-- the printed (debit-side) postings of built bookings: one per booking, with its amount up to the sign -/
theorem everyOther_buildPostings (bs : List PB) :
    (bs ≠ [] → everyOther (buildPostings bs) ≠ []) ∧
    ∀ p ∈ everyOther (buildPostings bs), p ∈ buildPostings bs ∧ ∃ b ∈ bs, p.quantity = b.quantity ∨ p.quantity = -b.quantity := by
  induction bs with
  | nil => exact ⟨fun h => absurd rfl h, fun p hp => by cases hp⟩
  | cons b rest ih =>
    have e : buildPostings (b :: rest) = postingBuild b.credit b.debit b.commodity b.quantity ++ buildPostings rest :=
      List.flatMap_cons ..
    obtain ⟨p0, e0, hp0⟩ := everyOther_postingBuild_append b.credit b.debit b.commodity b.quantity 0 (buildPostings rest)
    rw [e, e0]
    refine ⟨fun _ => List.cons_ne_nil _ _, fun p hp => ?_⟩
    rcases List.mem_cons.mp hp with rfl | hp
    · exact ⟨List.mem_append_left _ (mem_postingBuild_iff.mpr hp0), b, List.mem_cons_self,
        hp0.elim (fun h => Or.inr (h ▸ rfl)) (fun h => Or.inl (h ▸ rfl))⟩
    · obtain ⟨h1, b', hb', h2⟩ := ih.2 p hp
      exact ⟨List.mem_append_right _ h1, b', List.mem_cons_of_mem _ hb', h2⟩

/-- **a transaction built by `mkTx` is printable**; the description is free text (`replaceQuotes` takes care of it) -/
theorem mkTx_printable {d : Int} {desc : String} {bs : List PB} {tg : Option (List Commodity)} (hd : PrintableDate d) (hne : bs ≠ [])
    (hq : ∀ b ∈ bs, IsDec b.quantity) (hb : ∀ b ∈ bs, PBOK b) (htg : ∀ t ∈ tg.getD [], ComOK t) :
    PrintableDir (mkTx d desc bs tg) := by
  obtain ⟨e1, e2⟩ := everyOther_buildPostings bs
  refine ⟨hd, fun hm => ?_, e1 hne, fun p hp => ?_, nf_buildPostings bs, fun c hc => okName_of_validName (htg c hc)⟩
  · have := List.all_eq_true.mp (replaceQuotes_no_quote desc) _ hm
    simp at this
  · obtain ⟨hmem, b, hbm, hqq⟩ := e2 p hp
    obtain ⟨h1, h2, h3⟩ := (buildPostings_ok bs hb).2 p hmem
    refine ⟨printableAccount_of_valid h2, printableAccount_of_valid h1, ?_, okName_of_validName h3⟩
    rcases hqq with h | h
    · rw [h]; exact (hq b hbm).printable
    · rw [h]; exact (isDec_neg (hq b hbm)).printable

theorem assertion_printable {d : Int} {a : Account} {q : Rat} {c : Commodity} (hd : PrintableDate d) (ha : AccOK a) (hq : IsDec q)
    (hc : ComOK c) : PrintableDir (.assertion { date := d, balances := [⟨a, q, c⟩] }) :=
  ⟨hd, List.cons_ne_nil _ _, fun b hb => by
    cases List.mem_singleton.mp hb
    exact ⟨printableAccount_of_valid ha, hq.printable, okName_of_validName hc⟩⟩

theorem price_printable {d : Int} {c tg : Commodity} {p : Rat} (hd : PrintableDate d) (hc : ComOK c) (hp : IsDec p) (ht : ComOK tg) :
    PrintableDir (.price { date := d, commodity := c, price := p, target := tg }) :=
  ⟨hd, okName_of_validName hc, hp.printable, okName_of_validName ht⟩

end Knut.Proofs.Import
