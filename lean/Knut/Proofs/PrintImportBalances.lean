import Knut.Proofs.PrintImportText
import Knut.Proofs.RatLemmas
import Knut.Proofs.MapSum
/-!
# C13, text level: when the statement's own balance assertions are accepted

`revolut2`, `revolut` and `us.interactivebrokers` emit the balances the statement carries as assertions on the import
account. Whether the checker accepts them is a property of the statement: `Consistent items` — every carried balance equals
the sum, from a zero opening balance, of the amounts of the booking rows up to and including its day (`balanceAt`).  The checker
accepts opens + output iff the statement is consistent, because the builder's days are sorted and hold the directives of their date,
so the quantity reached on a day is the sum over the transactions dated up to it, which a faithful import turns into `balanceAt`.
-/
namespace Knut.Proofs.Import
open Knut Knut.Import Knut.Spec.Import Knut.FromSyntax Knut.JournalPrinter Knut.Utf8

/-- the balance of the import account in commodity `c` at the end of day `d` that the booking rows of the statement
imply, starting from zero -/
def balanceAt : List Spec.Import.Item → Int → Commodity → Rat
  | [], _, _ => 0
  | .booking date effs :: rest, d, c => (if date ≤ d then expected effs c else 0) + balanceAt rest d c
  | _ :: rest, d, c => balanceAt rest d c

/-- a balance the statement carries equals the sum of its amounts up to and including that day -/
def ItemConsistent (items : List Spec.Import.Item) : Spec.Import.Item → Prop
  | .assertion d q c => q = balanceAt items d c
  | _ => True

instance (items : List Spec.Import.Item) (i : Spec.Import.Item) : Decidable (ItemConsistent items i) := by
  cases i <;> unfold ItemConsistent <;> exact inferInstance

/-- **the statement's balance column is consistent with its amounts** (zero opening balance) -/
def Consistent (items : List Spec.Import.Item) : Prop := ∀ i ∈ items, ItemConsistent items i

instance (items : List Spec.Import.Item) : Decidable (Consistent items) := by unfold Consistent; exact inferInstance

/-- the change of `(acct, c)` by the transactions whose date satisfies `P` -/
def txSum (acct : Account) (c : Commodity) (P : Int → Bool) : List Directive → Rat
  | [] => 0
  | .tx t :: rest => (if P t.date then effectOn acct c t.postings else 0) + txSum acct c P rest
  | _ :: rest => txSum acct c P rest

def daySum (acct : Account) (c : Commodity) : List Transaction → Rat
  | [] => 0
  | t :: rest => effectOn acct c t.postings + daySum acct c rest

theorem txSum_eq (acct : Account) (c : Commodity) (P : Int → Bool) (ds : List Directive) :
    txSum acct c P ds = ((txsIn ds).map fun t => if P t.date then effectOn acct c t.postings else 0).sum := by
  induction ds with
  | nil => rfl
  | cons x rest ih => cases x <;> simp only [txSum, ih] <;> rfl

theorem daySum_eq (acct : Account) (c : Commodity) : ∀ ts : List Transaction,
    daySum acct c ts = (ts.map fun t => effectOn acct c t.postings).sum
  | [] => rfl
  | t :: ts => by rw [daySum, daySum_eq acct c ts]; rfl

theorem txSum_congr (acct : Account) (c : Commodity) (P Q : Int → Bool) (ds : List Directive)
    (h : ∀ x ∈ ds, P x.date = Q x.date) : txSum acct c P ds = txSum acct c Q ds := by
  rw [txSum_eq, txSum_eq]
  exact congrArg List.sum (List.map_congr_left fun t ht => by rw [show P t.date = Q t.date from h _ (mem_txsIn.mp ht)])

theorem ite_or_add (q r : Bool) (h : ¬ (q = true ∧ r = true)) (e : Rat) :
    (if (q || r) = true then e else 0) = (if q = true then e else 0) + (if r = true then e else 0) := by
  cases q <;> cases r
  · exact (Rat.add_zero 0).symm
  · exact (Rat.zero_add e).symm
  · exact (Rat.add_zero e).symm
  · exact absurd ⟨rfl, rfl⟩ h

theorem txSum_split (acct : Account) (c : Commodity) (P Q R : Int → Bool) (ds : List Directive)
    (h : ∀ x ∈ ds, P x.date = (Q x.date || R x.date)) (hd : ∀ x ∈ ds, ¬ (Q x.date = true ∧ R x.date = true)) :
    txSum acct c P ds = txSum acct c Q ds + txSum acct c R ds := by
  rw [txSum_eq, txSum_eq, txSum_eq, ← MapSum.sum_map_add]
  exact congrArg List.sum (List.map_congr_left fun t ht => by
    rw [show P t.date = _ from h _ (mem_txsIn.mp ht)]; exact ite_or_add _ _ (hd _ (mem_txsIn.mp ht)) _)

theorem daySum_collect (acct : Account) (c : Commodity) (ds : List Directive) (y : Int) :
    daySum acct c (collect txKind ds y) = txSum acct c (fun z => decide (z = y)) ds := by
  rw [daySum_eq, collect_tx, MapSum.sum_map_filter, txSum_eq]

abbrev qty (st : CheckState) (a : Account) (c : Commodity) : Rat := st.quantities.get (a, c) 0

theorem contribSum_daySum {acct : Account} (hal : acct.isAL = true) (c : Commodity) (ts : List Transaction) :
    Beancount.contribSum (ts.flatMap (·.postings)) (acct, c) = daySum acct c ts := by
  rw [Beancount.contribSum, MapSum.sum_flatMap, daySum_eq]
  refine congrArg List.sum (List.map_congr_left fun t _ => ?_)
  rw [effectOn_eq_sum]
  refine congrArg List.sum (List.map_congr_left fun p _ => ?_)
  by_cases hp : p.account = acct <;> simp [Beancount.contrib, hp, hal]

theorem txs_qty (ts : List Transaction) (st : CheckState) (h : ∀ t ∈ ts, ∀ p ∈ t.postings, p.account ∈ st.accounts) :
    ∃ st', ts.foldlM (fun st t => t.postings.foldlM (fun st p => Check.posting st t p) st) st = .ok st' ∧
      st'.accounts = st.accounts ∧ ∀ acct : Account, acct.isAL = true → ∀ c, qty st' acct c = qty st acct c + daySum acct c ts := by
  obtain ⟨st', h', ha⟩ := Beancount.txs_run ts st h
  exact ⟨st', h', ha, fun acct hal c => by rw [qty, (Beancount.txs_fold _ _ _ h').2.2, contribSum_daySum hal]⟩

def AssertsOK (st : CheckState) (as : List Assertion) : Prop :=
  ∀ a ∈ as, ∀ b ∈ a.balances, b.account ∈ st.accounts ∧ qty st b.account b.commodity = b.quantity

theorem balances_fold (st : CheckState) (a : Assertion) (bs : List Balance) :
    Decides (bs.foldlM (fun st b => Check.balance st a b) st) st
      (∀ b ∈ bs, b.account ∈ st.accounts ∧ qty st b.account b.commodity = b.quantity) :=
  foldlM_decides (fun _ => decides_of_iff fun _ => Check.balance_ok_iff) bs

theorem asserts_fold (st : CheckState) (as : List Assertion) :
    Decides (as.foldlM (fun st (a : Assertion) => a.balances.foldlM (fun st b => Check.balance st a b) st) st) st (AssertsOK st as) :=
  foldlM_decides (fun a => balances_fold st a a.balances) as

def TADay (d : Day) : Prop := d.openings = [] ∧ d.closings = []

theorem day_qty (d : Day) (st : CheckState) (hd : TADay d)
    (h : ∀ t ∈ d.transactions, ∀ p ∈ t.postings, p.account ∈ st.accounts) :
    ∃ st1, st1.accounts = st.accounts ∧
      (∀ acct : Account, acct.isAL = true → ∀ c, qty st1 acct c = qty st acct c + daySum acct c d.transactions) ∧
      Decides (Check.day st d) st1 (AssertsOK st1 d.assertions) := by
  obtain ⟨st1, h1, e1, q1⟩ := txs_qty d.transactions st h
  refine ⟨st1, e1, q1, ?_⟩
  have hday : Check.day st d = d.assertions.foldlM (fun st (a : Assertion) => a.balances.foldlM (fun st b => Check.balance st a b) st) st1 := by
    unfold Check.day
    rw [hd.1, hd.2]
    simp only [List.foldlM_nil, pure_bind, bind_pure]
    rw [h1]; rfl
  rw [hday]
  exact asserts_fold st1 d.assertions

theorem day_ok (d : Day) (st : CheckState) (hd : TxDay d) (h : ∀ t ∈ d.transactions, ∀ p ∈ t.postings, p.account ∈ st.accounts) :
    ∃ st', Check.day st d = .ok st' ∧ st'.accounts = st.accounts := by
  obtain ⟨st1, e1, _, hcase⟩ := day_qty d st ⟨hd.1, hd.2.2⟩ h
  rcases hcase with ⟨c1, _⟩ | ⟨_, c2⟩
  · exact ⟨st1, c1, e1⟩
  · exact absurd (fun a ha => by rw [hd.2.1] at ha; cases ha) c2

theorem days_ok (j : List Day) (st : CheckState) (hd : ∀ d ∈ j, TxDay d)
    (h : ∀ d ∈ j, ∀ t ∈ d.transactions, ∀ p ∈ t.postings, p.account ∈ st.accounts) :
    ∃ st', j.foldlM Check.day st = .ok st' :=
  (foldlM_ok_of (I := fun s => s.accounts = st.accounts)
    (P := fun d => TxDay d ∧ ∀ t ∈ d.transactions, ∀ p ∈ t.postings, p.account ∈ st.accounts)
    (fun s d hs hx => (day_ok d s hx.1 (hs ▸ hx.2)).imp fun _ h1 => ⟨h1.1, h1.2.trans hs⟩) j st rfl
    fun d hj => ⟨hd d hj, h d hj⟩).imp fun _ h1 => h1.1

section checker
variable (acct : Account)

/-- what acceptance of a list of such days means: every assertion states the quantity reached -/
def DaysOK (base : Commodity → Rat) : List Day → Prop
  | [] => True
  | d :: rest =>
    (∀ a ∈ d.assertions, ∀ b ∈ a.balances, b.quantity = base b.commodity + daySum acct b.commodity d.transactions) ∧
      DaysOK (fun c => base c + daySum acct c d.transactions) rest

theorem daysOK_congr (b1 b2 : Commodity → Rat) (h : ∀ c, b1 c = b2 c) (j : List Day) : DaysOK acct b1 j ↔ DaysOK acct b2 j := by
  have : b1 = b2 := funext h
  rw [this]

theorem days_qty (hal : acct.isAL = true) (j : List Day) (st : CheckState) (hin : acct ∈ st.accounts) (hd : ∀ d ∈ j, TADay d)
    (h : ∀ d ∈ j, ∀ t ∈ d.transactions, ∀ p ∈ t.postings, p.account ∈ st.accounts)
    (hb : ∀ d ∈ j, ∀ a ∈ d.assertions, ∀ b ∈ a.balances, b.account = acct) :
    (j.foldlM Check.day st).isOk = true ↔ DaysOK acct (fun c => qty st acct c) j := by
  induction j generalizing st with
  | nil => simp [DaysOK]; rfl
  | cons d rest ih =>
    obtain ⟨st1, e1, q1, hcase⟩ := day_qty d st (hd d List.mem_cons_self) (h d List.mem_cons_self)
    replace q1 := q1 acct hal
    have hok : AssertsOK st1 d.assertions ↔
        ∀ a ∈ d.assertions, ∀ b ∈ a.balances, b.quantity = qty st acct b.commodity + daySum acct b.commodity d.transactions := by
      constructor
      · intro hA a ha b hb'
        have := (hA a ha b hb').2
        rw [hb d List.mem_cons_self a ha b hb', q1] at this
        exact this.symm
      · intro hA a ha b hb'
        have e := hb d List.mem_cons_self a ha b hb'
        refine ⟨by rw [e, e1]; exact hin, ?_⟩
        rw [e, q1]
        exact (hA a ha b hb').symm
    simp only [List.foldlM_cons, DaysOK]
    rcases hcase with ⟨c1, c2⟩ | ⟨c1, c2⟩
    · rw [c1]
      have := ih st1 (by rw [e1]; exact hin) (fun x hx => hd x (List.mem_cons_of_mem _ hx))
        (fun x hx t ht p hp => by rw [e1]; exact h x (List.mem_cons_of_mem _ hx) t ht p hp)
        (fun x hx => hb x (List.mem_cons_of_mem _ hx))
      show (List.foldlM Check.day st1 rest).isOk = true ↔ _
      rw [this, daysOK_congr acct _ _ q1]
      exact ⟨fun hr => ⟨hok.mp c2, hr⟩, fun hr => hr.2⟩
    · constructor
      · intro hacc
        exfalso
        cases hf : Check.day st d with
        | error e => rw [hf] at hacc; cases hacc
        | ok s => rw [hf] at c1; cases c1
      · intro hr
        exact absurd (hok.mpr hr.1) c2

end checker

theorem faithful_balanceAt (acct : Account) {items : List Spec.Import.Item} {ds : List Directive} (hf : Faithful acct items ds)
    (D : Int) (c : Commodity) : balanceAt items D c = txSum acct c (fun y => decide (y ≤ D)) ds := by
  induction hf with
  | nil => rfl
  | @cons i x is xs hm _ ih =>
    cases i with
    | booking date effs =>
      cases x with
      | tx t =>
        obtain ⟨h1, h2, _⟩ := hm
        simp only [balanceAt, txSum, ih, h1, h2 c]
        by_cases hd : date ≤ D <;> simp [hd]
      | _ => exact hm.elim
    | assertion d q c' =>
      cases x with
      | assertion a => simp only [balanceAt, txSum, ih]
      | _ => exact hm.elim
    | price d c' p tg =>
      cases x with
      | price a => simp only [balanceAt, txSum, ih]
      | _ => exact hm.elim

theorem faithful_kinds (acct : Account) {items : List Spec.Import.Item} {ds : List Directive} (hf : Faithful acct items ds) :
    ∀ x ∈ ds, openKind.pick x = none ∧ closeKind.pick x = none := fun x hx => by
  obtain ⟨i, _, hm⟩ := forall₂_mem_right (all2_iff.mp hf) x hx
  cases i <;> cases x <;> first | exact hm.elim | exact ⟨rfl, rfl⟩

theorem faithful_assert_of_item (acct : Account) {items : List Spec.Import.Item} {ds : List Directive}
    (hf : Faithful acct items ds) (d : Int) (q : Rat) (c : Commodity) (h : Spec.Import.Item.assertion d q c ∈ items) :
    Directive.assertion ⟨d, [⟨acct, q, c⟩]⟩ ∈ ds := by
  obtain ⟨x, hx, hm⟩ := forall₂_mem_left (all2_iff.mp hf) _ h
  cases x with
  | assertion a => exact (show a = ⟨d, [⟨acct, q, c⟩]⟩ from hm) ▸ hx
  | _ => exact hm.elim

theorem faithful_item_of_assert (acct : Account) {items : List Spec.Import.Item} {ds : List Directive}
    (hf : Faithful acct items ds) (a : Assertion) (h : Directive.assertion a ∈ ds) :
    ∃ q c, a = ⟨a.date, [⟨acct, q, c⟩]⟩ ∧ Spec.Import.Item.assertion a.date q c ∈ items := by
  obtain ⟨i, hi, hm⟩ := forall₂_mem_right (all2_iff.mp hf) _ h
  cases i with
  | assertion d q c => cases (show a = ⟨d, [⟨acct, q, c⟩]⟩ from hm); exact ⟨q, c, rfl, hi⟩
  | _ => exact hm.elim

theorem txSum_none (acct : Account) (c : Commodity) (P : Int → Bool) (ds : List Directive) (h : ∀ x ∈ ds, P x.date = false) :
    txSum acct c P ds = 0 := by
  rw [txSum_eq]
  exact MapSum.sum_map_eq_zero _ _ fun t ht => by rw [show P t.date = false from h _ (mem_txsIn.mp ht)]; rfl

theorem daysOK_sorted (acct : Account) (ds : List Directive) (j : List Day) (hs : Sorted j)
    (htx : ∀ d ∈ j, d.transactions = collect txKind ds d.date) (D0 : Int) (hlt : ∀ d ∈ j, D0 < d.date)
    (hcov : ∀ x ∈ ds, x.date ≤ D0 ∨ ∃ d ∈ j, x.date = d.date) :
    DaysOK acct (fun c => txSum acct c (fun y => decide (y ≤ D0)) ds) j ↔
      ∀ d ∈ j, ∀ a ∈ d.assertions, ∀ b ∈ a.balances,
        b.quantity = txSum acct b.commodity (fun y => decide (y ≤ d.date)) ds := by
  induction j generalizing D0 with
  | nil => simp [DaysOK]
  | cons d rest ih =>
    unfold Sorted at hs
    rw [List.pairwise_cons] at hs
    have hd0 := hlt d List.mem_cons_self
    have key : ∀ c, txSum acct c (fun y => decide (y ≤ D0)) ds + daySum acct c d.transactions =
        txSum acct c (fun y => decide (y ≤ d.date)) ds := by
      intro c
      rw [htx d List.mem_cons_self, daySum_collect]
      symm
      apply txSum_split
      · intro x hx
        have hx' : x.date ≤ D0 ∨ x.date = d.date ∨ d.date < x.date := by
          rcases hcov x hx with h | ⟨d', hd', h⟩
          · exact Or.inl h
          · rcases List.mem_cons.mp hd' with rfl | hd'
            · exact Or.inr (Or.inl h)
            · exact Or.inr (Or.inr (h ▸ hs.1 d' hd'))
        rw [Bool.eq_iff_iff]
        simp only [Bool.or_eq_true, decide_eq_true_eq]
        omega
      · intro x hx hh
        simp only [decide_eq_true_eq] at hh
        omega
    simp only [DaysOK]
    rw [daysOK_congr acct _ _ key rest, ih hs.2 (fun x hx => htx x (List.mem_cons_of_mem _ hx)) d.date hs.1 (by
      intro x hx
      rcases hcov x hx with h | ⟨d', hd', h⟩
      · left; omega
      · rcases List.mem_cons.mp hd' with rfl | hd'
        · left; omega
        · right; exact ⟨d', hd', h⟩)]
    constructor
    · rintro ⟨h1, h2⟩ d' hd' a ha b hb
      rcases List.mem_cons.mp hd' with rfl | hd'
      · rw [h1 a ha b hb, key]
      · exact h2 d' hd' a ha b hb
    · intro hall
      refine ⟨?_, fun d' hd' => hall d' (List.mem_cons_of_mem _ hd')⟩
      intro a ha b hb
      rw [key]
      exact hall d List.mem_cons_self a ha b hb

/-- **opens + output is accepted** when the importer emitted transactions and prices only and every account booked on
is opened exactly once -/
theorem withOpens_accepted (o : Int) (accts : List Account) (ds : List Directive) (hnd : accts.Nodup)
    (hna : ∀ d ∈ ds, TxOrPrice d) (hacc : ∀ t, Directive.tx t ∈ ds → ∀ p ∈ t.postings, p.account ∈ accts) :
    (Check.run (openDay o accts :: (Builder.ofList ds).build)).isOk = true := by
  unfold Check.run
  rw [List.foldlM_cons]
  obtain ⟨st0, hday, e0, _⟩ := check_openDay o accts hnd
  rw [hday]
  obtain ⟨st', h'⟩ := days_ok (Builder.ofList ds).build st0 (built_txDays ds hna)
    (fun d hd t ht p hp => (e0 _).mpr (hacc t (built_tx_mem ds d hd t ht) p hp))
  show (List.foldlM Check.day st0 (Builder.ofList ds).build).isOk = true
  rw [h']; rfl

/-- **opens + output is accepted iff the statement's balances are consistent with its amounts**: for a faithful import
(booking rows ↦ transactions with the row's effect on the import account, carried balances ↦ assertions on it), an
asset or liability import account, every account booked on opened exactly once on a day before the first directive -/
theorem withOpens_accepted_iff (o : Int) (accts : List Account) (acct : Account) (items : List Spec.Import.Item)
    (ds : List Directive) (hf : Faithful acct items ds) (hal : acct.isAL = true) (hnd : accts.Nodup) (hin : acct ∈ accts)
    (hacc : ∀ t, Directive.tx t ∈ ds → ∀ p ∈ t.postings, p.account ∈ accts) (hlt : ∀ x ∈ ds, o < x.date) :
    (Check.run (openDay o accts :: (Builder.ofList ds).build)).isOk = true ↔ Consistent items := by
  unfold Check.run
  rw [List.foldlM_cons]
  obtain ⟨st0, hday, e0, hq0⟩ := check_openDay o accts hnd
  rw [hday]
  show (List.foldlM Check.day st0 (Builder.ofList ds).build).isOk = true ↔ _
  have hkinds := faithful_kinds acct hf
  have hta : ∀ d ∈ (Builder.ofList ds).build, TADay d := fun d hd =>
    ⟨built_proj_nil openKind ds d hd fun x hx => (hkinds x hx).1, built_proj_nil closeKind ds d hd fun x hx => (hkinds x hx).2⟩
  have hassert : ∀ d ∈ (Builder.ofList ds).build, ∀ a ∈ d.assertions, Directive.assertion a ∈ ds ∧ a.date = d.date :=
    fun d hd a => (mem_built_assertion ds d hd a).mp
  rw [days_qty acct hal _ st0 ((e0 acct).mpr hin) hta
      (fun d hd t ht p hp => (e0 _).mpr (hacc t (built_tx_mem ds d hd t ht) p hp)) (by
      intro d hd a ha b hb
      obtain ⟨q, c, e, _⟩ := faithful_item_of_assert acct hf a (hassert d hd a ha).1
      rw [e] at hb
      simp only [List.mem_cons, List.not_mem_nil, or_false] at hb
      rw [hb])]
  have hbase : ∀ c, qty st0 acct c = txSum acct c (fun y => decide (y ≤ o)) ds := by
    intro c
    rw [txSum_none acct c _ ds (fun x hx => by have := hlt x hx; simp; omega)]
    simp [qty, hq0, AMap.get]
  rw [daysOK_congr acct _ _ hbase, daysOK_sorted acct ds (Builder.ofList ds).build (ofList_sorted ds)
    (fun d hd => built_proj txKind ds d hd) o (built_after ds o hlt)
    (fun x hx => Or.inr ((date_built ds x hx).imp fun d h => ⟨h.1, h.2.symm⟩))]
  constructor
  · intro hall i hi
    cases i with
    | assertion d q c =>
      have hmem := faithful_assert_of_item acct hf d q c hi
      obtain ⟨dy, hdy, (e : dy.date = d)⟩ := date_built ds _ hmem
      have ha : (⟨d, [⟨acct, q, c⟩]⟩ : Assertion) ∈ dy.assertions := (mem_built_assertion ds dy hdy _).mpr ⟨hmem, e.symm⟩
      have := hall dy hdy _ ha ⟨acct, q, c⟩ List.mem_cons_self
      simp only at this
      show q = balanceAt items d c
      rw [faithful_balanceAt acct hf, this, e]
    | booking _ _ => trivial
    | price _ _ _ _ => trivial
  · intro hcons d hd a ha b hb
    obtain ⟨hmem, hdate⟩ := hassert d hd a ha
    obtain ⟨q, c, e, hi⟩ := faithful_item_of_assert acct hf a hmem
    rw [e] at hb
    simp only [List.mem_cons, List.not_mem_nil, or_false] at hb
    subst hb
    have := hcons _ hi
    simp only [ItemConsistent] at this
    rw [← hdate, ← faithful_balanceAt acct hf]
    exact this

/-- **`knut print` on opens + output fails in processing** whenever the checker rejects it (the text itself always loads) -/
theorem withOpens_rejected (path : String) (o : Int) (accts : List Account) (ds : List Directive)
    (h : ∀ d ∈ ds, PrintableDir d) (hne : accts ≠ []) (ho : PrintableDate o)
    (ha : ∀ a ∈ accts, PrintableAccount a = true) (hlt : ∀ d ∈ ds, o < d.date)
    (hrej : (Check.run (openDay o accts :: (Builder.ofList ds).build)).isOk = false) :
    printFile path (strBytes (opensText o accts ++ render ds)) = .error "processing" := by
  rw [render, ← print_withOpens, printFile_print _ _ (printable_withOpens o accts _ (printable_built ds h) hne ho ha (built_after ds o hlt)), hrej]
  rfl

end Knut.Proofs.Import
