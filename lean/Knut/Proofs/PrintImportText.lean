import Knut.Proofs.ImportCards
import Knut.Proofs.PrintCommands
import Knut.Proofs.CheckDay
/-!
# C13, text level: the importer's text parses to its directives; with the accounts opened it is accepted and reprinted

The file the harness feeds to `knut print` is one `open` per account dated before every directive, a blank line, then the importer's
text: the printed form of the journal `openDay :: built days`.  `knut print` reproduces it whenever the checker accepts it
(`withOpens_reprinted`); the day of opens alone passes the checker (`check_openDay`).  When the checker accepts the whole file is
`Proofs/PrintImportBalances.lean`.
-/
namespace Knut.Proofs.Import
open Knut Knut.Import Knut.Spec.Import Knut.FromSyntax Knut.JournalPrinter Knut.Utf8

/-- **the importer's text parses to exactly the directives it built** (in the order `journal.Print` writes them) -/
theorem render_loads (path : String) (ds : List Directive) (h : ∀ d ∈ ds, PrintableDir d) :
    loadText path (strBytes (render ds)) = .ok (printedDirs ds) ∧ (printedDirs ds).Perm ds :=
  ⟨load_print path _ (printable_built ds h).dirs, journalDirs_built_perm ds⟩

def openDay (o : Int) (accts : List Account) : Day := { date := o, openings := accts.map (fun a => ⟨o, a⟩) }

/-- `<date> open <account>` per account and a blank line -/
def opensText (o : Int) (accts : List Account) : String :=
  String.join (accts.map (fun a => printOpen ⟨o, a⟩ ++ "\n")) ++ (if accts.isEmpty then "" else "\n")

theorem padding_openDay (o : Int) (accts : List Account) (j : List Day) : padding (openDay o accts :: j) = padding j := by
  simp [padding, openDay]

theorem printDay_openDay (pad : Nat) (o : Int) (accts : List Account) : printDay pad (openDay o accts) = opensText o accts := by
  simp [printDay, openDay, opensText, sortTxs, printAssertions, List.map_map, Function.comp_def]

/-- the harness' file is the printed form of the journal with the day of opens in front -/
theorem print_withOpens (o : Int) (accts : List Account) (j : List Day) :
    print (openDay o accts :: j) = opensText o accts ++ print j := by
  unfold print
  rw [padding_openDay, List.map_cons, String.join_cons, printDay_openDay]

theorem printable_withOpens (o : Int) (accts : List Account) (j : List Day) (hj : PrintableJournal j) (hne : accts ≠ [])
    (ho : PrintableDate o) (ha : ∀ a ∈ accts, PrintableAccount a = true) (hlt : ∀ d ∈ j, o < d.date) :
    PrintableJournal (openDay o accts :: j) := by
  refine ⟨List.pairwise_cons.mpr ⟨fun d hd => hlt d hd, hj.1⟩, ?_⟩
  intro d hd
  rcases List.mem_cons.mp hd with rfl | hd
  · refine ⟨?_, ?_⟩
    · cases accts with
      | nil => exact absurd rfl hne
      | cons a rest => simp [rawDirs, openDay]
    · intro x hx
      simp only [rawDirs, openDay, List.map_nil, List.nil_append, List.append_nil, List.map_map, List.mem_map,
        Function.comp_def] at hx
      obtain ⟨a, ha', rfl⟩ := hx
      exact ⟨rfl, ho, ha a ha'⟩
  · exact hj.2 d hd

theorem built_proj_nil {α : Type} (k : Kind α) (ds : List Directive) (d : Day) (hd : d ∈ (Builder.ofList ds).build)
    (hk : ∀ x ∈ ds, k.pick x = none) : k.proj d = [] := by
  rw [built_proj k ds d hd]
  apply List.filterMap_eq_nil_iff.mpr
  intro x hx
  split
  · exact hk x hx
  · rfl

theorem built_date (ds : List Directive) (d : Day) (hd : d ∈ (Builder.ofList ds).build) : ∃ x ∈ ds, x.date = d.date :=
  List.mem_map.mp ((ofList_dates ds d.date).mp (List.mem_map.mpr ⟨d, hd, rfl⟩))

theorem date_built (ds : List Directive) (x : Directive) (hx : x ∈ ds) : ∃ d ∈ (Builder.ofList ds).build, d.date = x.date :=
  List.mem_map.mp ((ofList_dates ds x.date).mpr (List.mem_map.mpr ⟨x, hx, rfl⟩))

theorem built_after (ds : List Directive) (o : Int) (hlt : ∀ x ∈ ds, o < x.date) : ∀ d ∈ (Builder.ofList ds).build, o < d.date := by
  intro d hd
  obtain ⟨x, hx, e⟩ := built_date ds d hd
  exact e ▸ hlt x hx

/-- **`knut print` reproduces opens + output** whenever the checker accepts it -/
theorem withOpens_reprinted (path : String) (o : Int) (accts : List Account) (ds : List Directive)
    (h : ∀ d ∈ ds, PrintableDir d) (hne : accts ≠ []) (ho : PrintableDate o)
    (ha : ∀ a ∈ accts, PrintableAccount a = true) (hlt : ∀ d ∈ ds, o < d.date)
    (hacc : (Check.run (openDay o accts :: (Builder.ofList ds).build)).isOk = true) :
    printFile path (strBytes (opensText o accts ++ render ds)) = .ok (opensText o accts ++ render ds) := by
  have := printFile_fixpoint path _ (printable_withOpens o accts _ (printable_built ds h) hne ho ha (built_after ds o hlt)) hacc
  rw [print_withOpens] at this
  exact this

theorem contains_iff {a : Account} {l : List Account} : l.contains a = true ↔ a ∈ l := by simp

theorem openAll (accts : List Account) (st : CheckState) (hnd : accts.Nodup) (hnew : ∀ a ∈ accts, a ∉ st.accounts) (o : Int) :
    ∃ st', (accts.map (fun a => (⟨o, a⟩ : Open))).foldlM Check.openAcc st = .ok st' ∧
      ∀ a, a ∈ st'.accounts ↔ a ∈ accts ∨ a ∈ st.accounts := by
  suffices hrun : ∃ st', (accts.map (fun a => (⟨o, a⟩ : Open))).foldlM Check.openAcc st = .ok st' by
    obtain ⟨st', h1⟩ := hrun
    refine ⟨st', h1, fun a => ((Beancount.opens_fold _ _ _ h1).1 a).trans ⟨?_, ?_⟩⟩
    · rintro (h | ⟨_, ho, rfl⟩)
      · exact .inr h
      · obtain ⟨b, hb, rfl⟩ := List.mem_map.mp ho
        exact .inl hb
    · rintro (h | h)
      · exact .inr ⟨_, List.mem_map_of_mem h, rfl⟩
      · exact .inl h
  induction accts generalizing st with
  | nil => exact ⟨st, rfl⟩
  | cons a rest ih =>
    rw [List.nodup_cons] at hnd
    obtain ⟨st', h1⟩ := ih { st with accounts := a :: st.accounts } hnd.2 (by
      intro b hb hmem
      rcases List.mem_cons.mp hmem with rfl | hmem
      · exact hnd.1 hb
      · exact hnew b (List.mem_cons_of_mem _ hb) hmem)
    exact ⟨st', foldlM_cons_ok.mpr ⟨_, Check.openAcc_ok_iff.mpr ⟨hnew a List.mem_cons_self, rfl⟩, h1⟩⟩

theorem check_openDay (o : Int) (accts : List Account) (hnd : accts.Nodup) :
    ∃ st0, Check.day {} (openDay o accts) = .ok st0 ∧ (∀ a, a ∈ st0.accounts ↔ a ∈ accts) ∧ st0.quantities = [] := by
  obtain ⟨st0, h0, e0⟩ := openAll accts {} hnd (fun a _ hm => nomatch hm) o
  refine ⟨st0, ?_, fun a => (e0 a).trans (or_iff_left (fun hm => nomatch hm)), (Beancount.opens_fold _ _ _ h0).2⟩
  unfold Check.day openDay
  simp only [List.foldlM_nil, pure_bind]
  rw [h0]; rfl

def TxDay (d : Day) : Prop := d.openings = [] ∧ d.assertions = [] ∧ d.closings = []

theorem built_txDays (ds : List Directive) (h : ∀ d ∈ ds, TxOrPrice d) : ∀ d ∈ (Builder.ofList ds).build, TxDay d := by
  intro d hd
  refine ⟨built_proj_nil openKind ds d hd ?_, built_proj_nil assertKind ds d hd ?_, built_proj_nil closeKind ds d hd ?_⟩ <;>
  · intro x hx
    have := h x hx
    cases x <;> first | rfl | exact this.elim

theorem built_tx_mem (ds : List Directive) (d : Day) (hd : d ∈ (Builder.ofList ds).build) (t : Transaction)
    (ht : t ∈ d.transactions) : Directive.tx t ∈ ds := ((mem_built_tx ds d hd t).mp ht).1

end Knut.Proofs.Import
