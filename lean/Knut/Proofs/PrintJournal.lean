import Knut.Proofs.PrintedText
import Knut.Proofs.SyntaxRoundTrip
/-!
# A printed journal parses and loads back to its directives (C09)

The one place where the printer's side meets the parser's completeness (`rendered_parses`): a rendering of items parses, to a
file with the items' field views (`ItemsShape`, `fileViews_rendered`), so a text that is a `Rend` is read with the views it was
written from (`Rend.fileViews`) and the loader returns the directives in print order (`load_print`, `load_dir`).
-/
namespace Knut.Syntax
open Knut.Utf8 Knut.Spec.Syntax

/-- the text-free part of `ItemsOK`: shapes of the gaps, well-formed canonical fields of the directives -/
def ItemsShape : List Item → Prop
  | [] => True
  | .gap c w nl :: rest =>
    (c = [] ∨ CommentToks c) ∧ (c ≠ [] → w = []) ∧ All isWhitespace w ∧ NlOK nl ∧ Valid (c ++ (w ++ nl)) ∧
      Canon (c ++ (w ++ nl)) ∧ c ++ (w ++ nl) ≠ [] ∧ (nl = [] → rest = []) ∧ ItemsShape rest
  | .dir _ _ v w nl :: rest =>
    v.ok ∧ v.canon ∧ All isWhitespace w ∧ NlOK nl ∧ Valid (w ++ nl) ∧ Canon (w ++ nl) ∧ (nl = [] → rest = []) ∧
      ItemsShape rest

theorem itemsShape_iff : ∀ items : List Item, ItemsShape items ↔ ItemsR items
  | [] => Iff.rfl
  | .gap c w nl :: rest => by unfold ItemsShape ItemsR; rw [itemsShape_iff rest]
  | .dir D d v w nl :: rest => by unfold ItemsShape ItemsR; rw [itemsShape_iff rest]

theorem ItemsShape.toR {items : List Item} (h : ItemsShape items) : ItemsR items := (itemsShape_iff items).mp h

theorem parse_rendered_items (padding : Nat) (path : String) (items : List Item) (h : ItemsShape items) :
    ∃ f2, parseText path (flat (outToks padding items)) = .ok f2 ∧
      f2.directives.mapM (viewDirective (flat (outToks padding items))) = some ((viewsOf items).map DirT.bytes) :=
  let ⟨f, hp, hv, _⟩ := rendered_parses padding path items h.toR; ⟨f, hp, hv⟩

end Knut.Syntax

namespace Knut.FromSyntax
open Knut Knut.Syntax Knut.Utf8

theorem viewsOf_shape_ok : ∀ {items : List Syntax.Item}, ItemsShape items → ∀ v ∈ viewsOf items, v.ok ∧ v.canon
  | [], _, v, hv => nomatch hv
  | .gap c w nl :: rest, h, v, hv => by
    unfold ItemsShape at h
    exact viewsOf_shape_ok h.2.2.2.2.2.2.2.2 v hv
  | .dir D d v' w nl :: rest, h, v, hv => by
    unfold ItemsShape at h
    rcases List.mem_cons.mp hv with rfl | hv
    · exact ⟨h.1, h.2.1⟩
    · exact viewsOf_shape_ok h.2.2.2.2.2.2.2 v hv

theorem fileViews_rendered (pad : Nat) (path : String) (items : List Syntax.Item) (h : ItemsShape items) :
    ∃ f, FileViews path (flat (outToks pad items)) f (viewsOf items) := by
  obtain ⟨f, hp, hv⟩ := parse_rendered_items pad path items h
  exact ⟨f, hp, hv, viewsOf_shape_ok h⟩

theorem loadText_rendered (padding : Nat) (path : String) (items : List Syntax.Item) (h : ItemsShape items) :
    loadText path (flat (outToks padding items)) =
      (match (viewsOf items).mapM (fun v => itemV v.bytes) with
       | none => loadFailed (okPrefix (fun v => itemV v.bytes) (viewsOf items))
       | some its => loadItems its) := by
  obtain ⟨f, hf⟩ := fileViews_rendered padding path items h
  exact hf.loadText

open Knut.Dec Knut.JournalPrinter

theorem itemsShape_of_good : ∀ (items : List Syntax.Item), (∀ i ∈ items, GoodItem i) → ItemsShape items
  | [], _ => by unfold ItemsShape; trivial
  | .gap c w nl :: rest, h => by
    obtain ⟨rfl, rfl, rfl⟩ := h _ List.mem_cons_self
    unfold ItemsShape
    exact ⟨Or.inl rfl, fun _ => rfl, All.nil, Or.inr ⟨tk 10, rfl, rfl⟩, Valid.cons (tk_valid (by decide)) Valid.nil,
      Canon.cons c10 Canon.nil, by simp, (fun e => by cases e),
      itemsShape_of_good rest (fun i hi => h i (List.mem_cons_of_mem _ hi))⟩
  | .dir D d v w nl :: rest, h => by
    obtain ⟨hok, hcan, rfl, rfl⟩ := h _ List.mem_cons_self
    unfold ItemsShape
    exact ⟨hok, hcan, All.nil, Or.inr ⟨tk 10, rfl, rfl⟩, Valid.cons (tk_valid (by decide)) Valid.nil,
      Canon.cons c10 Canon.nil, (fun e => by cases e),
      itemsShape_of_good rest (fun i hi => h i (List.mem_cons_of_mem _ hi))⟩

/-- the printer's side meets the parser's: a rendering is read, with the views it was rendered from -/
theorem Rend.fileViews {pad : Nat} {s : String} {items : List Syntax.Item} {vs : List DirT} (h : Rend pad s items vs)
    (path : String) : ∃ f, FileViews path (strBytes s) f vs := by
  obtain ⟨f, hf⟩ := fileViews_rendered pad path items (itemsShape_of_good _ h.good)
  rw [← h.toks, ← strBytes_eq_flat, h.views] at hf
  exact ⟨f, hf⟩

theorem load_dir (path : String) (pad : Nat) (x : Directive) (h : PrintableDir x) {s : String} {nl : List Tok}
    (hnl : nl = [] ∨ nl = [tk 10]) (hs : strToks s = renderT pad (dirView x) ++ nl) :
    loadText path (strBytes s) = .ok [x] := by
  have hshape : ItemsShape [Syntax.Item.dir [] default (dirView x) [] nl] := by
    obtain ⟨hok, hcan⟩ := dirView_ok x h
    unfold ItemsShape
    rcases hnl with rfl | rfl
    · exact ⟨hok, hcan, All.nil, Or.inl rfl, Valid.nil, Canon.nil, fun _ => rfl, by unfold ItemsShape; trivial⟩
    · exact ⟨hok, hcan, All.nil, Or.inr ⟨tk 10, rfl, rfl⟩, Valid.cons (tk_valid (by decide)) Valid.nil,
        Canon.cons c10 Canon.nil, fun _ => rfl, by unfold ItemsShape; trivial⟩
  obtain ⟨f, hf⟩ := fileViews_rendered pad path _ hshape
  have := hf.loadText.trans (loadViews_dirViews [x] fun y hy => by rw [List.mem_singleton.mp hy]; exact h)
  rw [strBytes_eq_flat, hs]
  simpa only [outToks, Item.out, List.nil_append, List.append_nil] using this

theorem load_print (path : String) (j : List Day) (h : ∀ x ∈ journalDirs j, PrintableDir x) :
    loadText path (strBytes (print j)) = .ok (journalDirs j) := by
  obtain ⟨f, hf⟩ := (rend_print j h).fileViews path
  rw [hf.loadText, loadViews_dirViews _ h]

end Knut.FromSyntax
