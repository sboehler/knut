import Knut.Model.FromSyntax
import Knut.Model.JournalPrinter
import Knut.Proofs.Accrual
/-!
# What `transaction.Create` builds is in the booking normal form the printer needs (C09)

`PrintableTx` asks that the posting list of a transaction is what its printed bookings rebuild
(`t.postings = (everyOther t.postings).flatMap (postingBuild …)`). Every transaction `transaction.Create` returns - plain
or expanded by `@accrue` - has that form, because all its postings come from `posting.Builder.Build`.

Also the inversion of the byte-based loader: every directive of `loadText … = .ok ds` is yielded by an item of the file
(`Yields`, `loadItems_go_inv`, `loadText_ok_inv`). The module stands on the models and `Proofs/Accrual.lean` only, so that the
importers' printability (`Proofs/PrintImport.lean`) can read it without the printed fields above it.
-/
namespace Knut.FromSyntax
open Knut Knut.JournalPrinter

def BookingNF (ps : List Posting) : Prop :=
  ps = (everyOther ps).flatMap (fun p => postingBuild p.other p.account p.commodity p.quantity)

/-- the printer shows the second posting of each pair -/
theorem everyOther_postingBuild_append (cr dr : Account) (c : Commodity) (q v : Rat) (rest : List Posting) :
    ∃ p, everyOther (postingBuild cr dr c q v ++ rest) = p :: everyOther rest ∧
      (p = ⟨cr, dr, c, -q, -v⟩ ∨ p = ⟨dr, cr, c, q, v⟩) := by
  rcases postingBuild_cases cr dr c q v with e | e <;> rw [e]
  · exact ⟨_, rfl, Or.inr rfl⟩
  · exact ⟨_, rfl, Or.inl rfl⟩

theorem nf_nil : BookingNF [] := rfl

theorem nf_build_append (cr dr : Account) (c : Commodity) (q : Rat) (rest : List Posting) (h : BookingNF rest) :
    BookingNF (postingBuild cr dr c q ++ rest) := by
  obtain ⟨p1, p2, e, e2⟩ := Accrual.postingBuild_shape cr dr c q
  unfold BookingNF at *
  rw [e]
  simp only [List.cons_append, List.nil_append, everyOther, List.flatMap_cons, e2]
  rw [← h]

theorem nf_build (cr dr : Account) (c : Commodity) (q : Rat) : BookingNF (postingBuild cr dr c q) := by
  have := nf_build_append cr dr c q [] nf_nil
  rwa [List.append_nil] at this

theorem nf_postingsOf (bs : List Accrual.Booking) : BookingNF (Accrual.postingsOf bs) := by
  unfold Accrual.postingsOf
  induction bs with
  | nil => exact nf_nil
  | cons b rest ih => rw [List.flatMap_cons]; exact nf_build_append _ _ _ _ _ ih

/-- `x` is among the directives the loader makes of the item -/
def Yields : Item → Directive → Prop
  | .price p, x => x = .price p
  | .opening o, x => x = .opening o
  | .closing c, x => x = .closing c
  | .assertion a, x => x = .assertion a
  | .includeFile _, _ => False
  | .tx ti, x => ∃ txs u, Accrual.create ti = .ok txs ∧ u ∈ txs ∧ x = .tx u

theorem loadItems_go_inv {items : List Item} {acc ds : List Directive} (h : loadItems.go items acc = .ok ds)
    {x : Directive} (hx : x ∈ ds) : x ∈ acc ∨ ∃ it ∈ items, Yields it x := by
  induction items generalizing acc with
  | nil =>
    cases Loaded.ok.inj h
    exact Or.inl (List.mem_reverse.mp hx)
  | cons it rest ih =>
    have step : ∀ acc', loadItems.go rest acc' = .ok ds → (x ∈ acc' → x ∈ acc ∨ Yields it x) →
        x ∈ acc ∨ ∃ it' ∈ it :: rest, Yields it' x := fun acc' h' hacc' => by
      rcases ih h' with hm | ⟨it', hm, hy⟩
      · exact (hacc' hm).imp_right fun hy => ⟨it, List.mem_cons_self, hy⟩
      · exact Or.inr ⟨it', List.mem_cons_of_mem _ hm, hy⟩
    cases it with
    | tx ti =>
      simp only [loadItems.go] at h
      split at h
      · rename_i txs hc
        refine step _ h fun hm => ?_
        rcases List.mem_append.mp hm with hm | hm
        · obtain ⟨u, hu, rfl⟩ := List.mem_map.mp (List.mem_reverse.mp hm)
          exact Or.inr ⟨txs, u, hc, hu, rfl⟩
        · exact Or.inl hm
      · cases h
      · cases h
    | includeFile p => exact step _ h Or.inl
    | _ => exact step _ h fun hm => (List.mem_cons.mp hm).symm

theorem loadText_ok_inv {path : String} {text : List UInt8} {ds : List Directive} (h : loadText path text = .ok ds) :
    ∃ f items, Syntax.parseText path text = .ok f ∧ f.directives.mapM (item text) = some items ∧
      loadItems.go items [] = .ok ds := by
  unfold loadText at h
  split at h
  · cases h
  · rename_i f hp
    split at h
    · unfold loadFailed at h
      split at h <;> cases h
    · rename_i items hitems
      exact ⟨f, items, hp, hitems, h⟩

theorem create_nf (ti : Accrual.TxInput) (txs : List Transaction) (h : Accrual.create ti = .ok txs) :
    ∀ u ∈ txs, BookingNF u.postings := by
  intro u hu
  cases (Accrual.create_made h).2.2 u hu with
  | plain => exact nf_postingsOf _
  | moved | part => exact nf_build _ _ _ _

end Knut.FromSyntax
