import Knut.Proofs.PrintedFields
import Knut.Proofs.PrintSort
import Knut.Proofs.LifecyclePerm
import Knut.Proofs.Builder
/-!
# The builder rebuilds the printed journal from its directives (C09)

`journalDirs j` are the directives of `j` day by day in print order. Feeding them to `journal.Builder` gives the days of
`j` again, each with its transactions sorted (`normDay`), provided `j` is what a builder produces: days in strictly
increasing date order, none empty, every directive filed under its own date (`JournalShape`). `journal.Print` does not
distinguish `j` from the rebuilt journal (`print_normDays`): sorting is idempotent and the padding is a maximum.
`PrintableDay`, `PrintableJournal` (the hypothesis of the C09 theorems: the builder's shape and every directive a
`PrintableDir`) are defined at the end, where both halves are at hand.
-/
namespace Knut.FromSyntax
open Knut Knut.JournalPrinter

/-- a day with its transactions in `journal.Sort` order -/
def normDay (d : Day) : Day := { d with transactions := sortTxs d.transactions }

/-- what the builder guarantees about a day: it is not empty and holds directives of its own date only -/
def DayShape (d : Day) : Prop := dayDirs d ≠ [] ∧ ∀ x ∈ dayDirs d, x.date = d.date

instance (d : Day) : Decidable (DayShape d) := by unfold DayShape; exact inferInstance

/-- what the builder guarantees about the list of days -/
def JournalShape (j : List Day) : Prop := Sorted j ∧ ∀ d ∈ j, DayShape d

instance (j : List Day) : Decidable (JournalShape j) := by unfold JournalShape Sorted; exact inferInstance

theorem fm_none {α β : Type} (l : List α) : l.filterMap (fun _ => (none : Option β)) = [] := by
  induction l with
  | nil => rfl
  | cons x rest ih => simp

/-- a kind whose part of a printed day is what the sorted day stores -/
def KindOK {α : Type} (k : Kind α) : Prop := ∀ d, (dayDirs d).filterMap k.pick = k.proj (normDay d)

theorem kindOK_tx : KindOK txKind := fun d => by
  simp [dayDirs, normDay, txKind, List.filterMap_append, List.filterMap_map, Function.comp_def, fm_none]
theorem kindOK_open : KindOK openKind := fun d => by
  simp [dayDirs, normDay, openKind, List.filterMap_append, List.filterMap_map, Function.comp_def, fm_none]
theorem kindOK_close : KindOK closeKind := fun d => by
  simp [dayDirs, normDay, closeKind, List.filterMap_append, List.filterMap_map, Function.comp_def, fm_none]
theorem kindOK_price : KindOK priceKind := fun d => by
  simp [dayDirs, normDay, priceKind, List.filterMap_append, List.filterMap_map, Function.comp_def, fm_none]
theorem kindOK_assert : KindOK assertKind := fun d => by
  simp [dayDirs, normDay, assertKind, List.filterMap_append, List.filterMap_map, Function.comp_def, fm_none]

theorem contentOn_cons {α : Type} (k : Kind α) (d : Day) (rest : List Day) (y : Int) :
    contentOn k (d :: rest) y = if d.date = y then k.proj d else contentOn k rest y := by
  unfold contentOn findDay
  rw [List.find?_cons]
  by_cases h : d.date = y <;> simp [h]

theorem contentOn_none {α : Type} (k : Kind α) (days : List Day) (y : Int) (h : ∀ d ∈ days, d.date ≠ y) :
    contentOn k days y = [] := by
  unfold contentOn findDay
  have : days.find? (fun d => decide (d.date = y)) = none := List.find?_eq_none.mpr (fun d hd => by simp [h d hd])
  rw [this]; rfl

theorem collect_journalDirs {α : Type} (k : Kind α) (hk : KindOK k) (j : List Day) (h : JournalShape j) (y : Int) :
    collect k (journalDirs j) y = contentOn k (j.map normDay) y := by
  induction j with
  | nil => rfl
  | cons d rest ih =>
    obtain ⟨hs, hd⟩ := h
    unfold Sorted at hs
    rw [List.pairwise_cons] at hs
    have hrest : JournalShape rest := ⟨hs.2, fun x hx => hd x (List.mem_cons_of_mem _ hx)⟩
    have hdd := (hd d List.mem_cons_self).2
    simp only [journalDirs, List.flatMap_cons, List.map_cons] at ih ⊢
    rw [collect_append, contentOn_cons]
    have hnd : (normDay d).date = d.date := rfl
    rw [hnd]
    by_cases hy : d.date = y
    · subst hy
      rw [if_pos rfl, collect_same k _ _ hdd, hk d, collect_nil_of_ne, List.append_nil]
      intro x hx
      obtain ⟨d', hd', hx⟩ := List.mem_flatMap.mp hx
      have := (hd d' (List.mem_cons_of_mem _ hd')).2 x hx
      have := hs.1 d' hd'
      omega
    · rw [if_neg hy, collect_nil_of_ne k _ _ (fun x hx => by rw [hdd x hx]; exact hy), List.nil_append]
      exact ih hrest

theorem journalDirs_dates (j : List Day) (h : ∀ d ∈ j, DayShape d) (y : Int) :
    y ∈ (journalDirs j).map (·.date) ↔ y ∈ j.map (·.date) := by
  simp only [journalDirs, List.mem_map, List.mem_flatMap]
  constructor
  · rintro ⟨x, ⟨d, hd, hx⟩, rfl⟩
    exact ⟨d, hd, ((h d hd).2 x hx).symm⟩
  · rintro ⟨d, hd, rfl⟩
    obtain ⟨x, hx⟩ := List.exists_mem_of_ne_nil _ (h d hd).1
    exact ⟨x, ⟨d, hd, hx⟩, (h d hd).2 x hx⟩

theorem day_ext (d d' : Day) (h0 : d.date = d'.date) (h1 : txKind.proj d = txKind.proj d') (h2 : openKind.proj d = openKind.proj d')
    (h3 : closeKind.proj d = closeKind.proj d') (h4 : priceKind.proj d = priceKind.proj d')
    (h5 : assertKind.proj d = assertKind.proj d') : d = d' := by
  cases d; cases d'
  simp only [txKind, openKind, closeKind, priceKind, assertKind] at *
  simp [*]

theorem days_ext (a b : List Day) (ha : Sorted a) (hb : Sorted b) (hd : ∀ y, y ∈ a.map (·.date) ↔ y ∈ b.map (·.date))
    (hc : ∀ y, contentOn txKind a y = contentOn txKind b y ∧ contentOn openKind a y = contentOn openKind b y ∧
      contentOn closeKind a y = contentOn closeKind b y ∧ contentOn priceKind a y = contentOn priceKind b y ∧
      contentOn assertKind a y = contentOn assertKind b y) : a = b := by
  apply eq_of_forall₂_eq
  apply forall₂_of_map_eq (MapSum.increasing_ext (sorted_dates a ha) (sorted_dates b hb) hd)
  intro d hda d' hdb hdate
  have key : ∀ {α : Type} (k : Kind α), contentOn k a d.date = contentOn k b d.date → k.proj d = k.proj d' := by
    intro α k hk
    rw [contentOn_self k a ha d hda, hdate, contentOn_self k b hb d' hdb] at hk
    exact hk
  obtain ⟨c1, c2, c3, c4, c5⟩ := hc d.date
  exact day_ext d d' hdate (key _ c1) (key _ c2) (key _ c3) (key _ c4) (key _ c5)

theorem rebuild (j : List Day) (h : JournalShape j) : (Builder.ofList (journalDirs j)).build = j.map normDay := by
  unfold Builder.build
  have hs := ofList_sorted (journalDirs j)
  have hsn : Sorted (j.map normDay) := map_sorted j normDay (fun _ => rfl) h.1
  apply days_ext _ _ hs hsn
  · intro y
    rw [ofList_dates, journalDirs_dates j h.2, List.map_map]
    rfl
  · have key : ∀ {α : Type} (k : Kind α), KindOK k → ∀ y,
        contentOn k (Builder.ofList (journalDirs j)).days y = contentOn k (j.map normDay) y :=
      fun k hk y => by rw [(ofList_spec k _).2, collect_journalDirs k hk j h]
    exact fun y => ⟨key _ kindOK_tx y, key _ kindOK_open y, key _ kindOK_close y, key _ kindOK_price y, key _ kindOK_assert y⟩

theorem padding_normDays (j : List Day) : padding (j.map normDay) = padding j := by
  unfold padding
  rw [List.foldl_map]
  congr 1
  funext m d
  exact ((List.mergeSort_perm d.transactions _).foldl_eq' (f := txWidth) (fun x _ y _ z => txWidth_comm z x y) m)

theorem printDay_normDay (pad : Nat) (d : Day) : printDay pad (normDay d) = printDay pad d := by
  unfold printDay normDay
  simp only [sortTxs_idem]

theorem print_normDays (j : List Day) : print (j.map normDay) = print j := by
  rw [print, print, padding_normDays, List.map_map]
  refine congrArg String.join (List.map_congr_left fun d _ => ?_)
  -- without this step the unifier unfolds `printDay` to see through the composition
  rw [Function.comp_apply]
  exact printDay_normDay _ d

theorem dayDirs_perm_raw (d : Day) : (dayDirs d).Perm (rawDirs d) := by
  unfold dayDirs rawDirs
  simp only [List.append_assoc]
  exact (List.Perm.refl _).append ((List.Perm.refl _).append
    ((((List.mergeSort_perm d.transactions _).map _)).append (List.Perm.refl _)))

theorem journalDirs_built_perm (ds : List Directive) : (journalDirs (Builder.ofList ds).build).Perm ds :=
  (MapSum.flatMap_perm_left _ (fun d _ => dayDirs_perm_raw d)).trans (ofList_perm_raw ds)

theorem dayShape_of_raw {d : Day} (h1 : rawDirs d ≠ []) (h2 : ∀ x ∈ rawDirs d, x.date = d.date) : DayShape d := by
  have hp := dayDirs_perm_raw d
  refine ⟨fun e => h1 ?_, fun x hx => h2 x (hp.mem_iff.mp hx)⟩
  rw [e] at hp
  exact hp.nil_eq.symm

theorem built_shape (ds : List Directive) : JournalShape (Builder.ofList ds).build :=
  ⟨ofList_sorted ds, fun d hd => dayShape_of_raw (ofList_shape ds d hd).1 (ofList_shape ds d hd).2⟩

/-- a day `journal.Print` writes such that the loader and the builder give it back: the builder's shape (not empty,
directives of its own date), every directive printable (`PrintableDir`: dates 0000..9999, names of letters and digits,
decimal amounts, assertions with at least one balance, transactions with a quote-free description and postings in the
booking normal form `transaction.Create` builds) -/
def PrintableDay (d : Day) : Prop := rawDirs d ≠ [] ∧ ∀ x ∈ rawDirs d, x.date = d.date ∧ PrintableDir x

instance (d : Day) : Decidable (PrintableDay d) := by unfold PrintableDay; exact inferInstance

/-- days in strictly increasing date order, each printable -/
def PrintableJournal (j : List Day) : Prop := Sorted j ∧ ∀ d ∈ j, PrintableDay d

instance (j : List Day) : Decidable (PrintableJournal j) := by unfold PrintableJournal Sorted; exact inferInstance

theorem PrintableDay.shape {d : Day} (h : PrintableDay d) : DayShape d :=
  dayShape_of_raw h.1 fun x hx => (h.2 x hx).1

theorem PrintableDay.dirs {d : Day} (h : PrintableDay d) : ∀ x ∈ dayDirs d, PrintableDir x :=
  fun x hx => (h.2 x ((dayDirs_perm_raw d).mem_iff.mp hx)).2

theorem PrintableJournal.shape {j : List Day} (h : PrintableJournal j) : JournalShape j :=
  ⟨h.1, fun d hd => (h.2 d hd).shape⟩

theorem PrintableJournal.dirs {j : List Day} (h : PrintableJournal j) : ∀ x ∈ journalDirs j, PrintableDir x := by
  intro x hx
  obtain ⟨d, hd, hx⟩ := List.mem_flatMap.mp hx
  exact (h.2 d hd).dirs x hx

theorem printable_built (ds : List Directive) (h : ∀ x ∈ ds, PrintableDir x) : PrintableJournal (Builder.ofList ds).build :=
  ⟨ofList_sorted ds, fun d hd => ⟨(ofList_shape ds d hd).1, fun x hx => ⟨(ofList_shape ds d hd).2 x hx,
    h x ((ofList_perm_raw ds).mem_iff.mp (List.mem_flatMap.mpr ⟨d, hd, hx⟩))⟩⟩⟩

end Knut.FromSyntax
