import Knut.Proofs.PrintImport
import Knut.Proofs.PrintFields
import Knut.Proofs.Partition
import Knut.Proofs.ListMapM
/-!
# What the loader returns is printable (C09, converse direction)

`PrintableDir` is stated on model directives. Here: every directive `loadText` returns, from ANY text, satisfies it.
The parser's soundness (`fileViews_of_parse`, from C07/C08) gives, for every directive of a parsed file, token lists of the right
lexical classes (`DirT.ok`) whose bytes are the fields the elaboration reads; the elaboration's own checks (`time.Parse`,
`decimal.NewFromString`, the account registry) and `transaction.Create` (with `@accrue` expansion) give the rest.
-/
namespace Knut.FromSyntax
open Knut Knut.Syntax Knut.Utf8 Knut.Dec Knut.JournalPrinter Knut.Proofs.Import

theorem isDec_parseDec {s : String} {q : Rat} (h : parseDec s = some q) : IsDec q := by
  -- whatever the sign and the digits are, the value is an integer or an integer over a power of ten
  obtain ⟨neg, cs, e, _⟩ := parseDec_cases s
  obtain ⟨ip, fp, _, _, _, ⟨_, rfl⟩ | ⟨_, _, rfl⟩⟩ := parseUnsigned_inv (e ▸ h)
  · exact isDec_int _
  · exact isDec_mkRat _ _

theorem isDec_decimalV {bs : List UInt8} {q : Rat} (h : decimalV bs = some q) : IsDec q := by
  unfold decimalV at h
  split at h
  · simp only [Option.bind_eq_some_iff] at h
    obtain ⟨s, _, h⟩ := h
    exact isDec_parseDec h
  · cases h

theorem asciiDigit_le {b : UInt8} (h : asciiDigit b = true) : b.toNat - 48 ≤ 9 := by
  simp only [asciiDigit, Bool.and_eq_true, decide_eq_true_eq] at h
  omega

theorem printable_parseDate {bs : List UInt8} {z : Int} (h : FromSyntax.parseDate bs = some z) : PrintableDate z := by
  unfold FromSyntax.parseDate at h
  split at h
  · rename_i y1 y2 y3 y4 d1 m1 m2 d2 a1 a2
    split at h
    · rename_i hd
      simp only [List.all_cons, List.all_nil, Bool.and_true, Bool.and_eq_true] at hd
      obtain ⟨_, _, h1, h2, h3, h4, _, _, _, _⟩ := hd
      have b1 := asciiDigit_le h1; have b2 := asciiDigit_le h2; have b3 := asciiDigit_le h3; have b4 := asciiDigit_le h4
      simp only at h
      split at h
      · rename_i hr
        simp only [Option.some.injEq] at h
        subst h
        refine Date.ofCivil_bounds _ _ _ ?_ ?_ hr.1 hr.2.1 hr.2.2.1 (by rw [cumDays_diff _ _ _ rfl hr.1 hr.2.1]; exact hr.2.2.2)
        · simp only [digitsVal, List.foldl_cons, List.foldl_nil]; omega
        · simp only [digitsVal, List.foldl_cons, List.foldl_nil]; omega
      · cases h
    · cases h
  · cases h

theorem segTail_chars : ∀ (tl : List Tok), SegTail tl → ∀ (l : List Char), l.map charTok = tl →
    ∃ segs : List (List Char), (∀ seg ∈ segs, seg ≠ [] ∧ ∀ ch ∈ seg, isAlphanumeric ch.toNat = true) ∧
      l = (segs.map (fun seg => ':' :: seg)).flatten := by
  intro tl h
  induction h with
  | nil =>
    intro l hl
    have : l = [] := by simpa using hl
    exact ⟨[], by simp, by simp [this]⟩
  | cons colon seg rest hc hne hall _ ih =>
    intro l hl
    cases l with
    | nil => simp at hl
    | cons ch l' =>
      simp only [List.map_cons, List.cons_append, List.cons.injEq] at hl
      obtain ⟨h1, h2⟩ := hl
      obtain ⟨ls, lr, e, hs, hr⟩ := List.map_eq_append_iff.mp h2
      obtain ⟨segs, hsegs, hflat⟩ := ih lr hr
      have hch : ch = ':' := by
        apply char_of_toNat
        rw [← charTok_r ch, h1, hc]; rfl
      refine ⟨ls :: segs, ?_, ?_⟩
      · intro sg hsg
        rcases List.mem_cons.mp hsg with rfl | hsg
        · refine ⟨?_, ?_⟩
          · intro e0; subst e0; exact hne (by simpa using hs.symm)
          · intro x hx
            exact hall (charTok x) (by rw [← hs]; exact List.mem_map.mpr ⟨x, hx, rfl⟩)
        · exact hsegs sg hsg
      · rw [hch, e, hflat]; simp

theorem letter_not_colon {r : Nat} (h : isLetter r = true) : r ≠ 58 := by
  intro e; subst e
  have := alnum_of_letter h
  rw [alnum_colon] at this; cases this

theorem printableAccount_of_accountOK {c : List Tok} {a : Account} (hok : AccountOK c) (hc : Canon c)
    (h : accountV (flat c) = some a) : PrintableAccount a = true := by
  -- the registry accepted the name, so its first segment is a type name: a macro `$…` is none; otherwise the account is
  -- rebuilt from the segments of the token shape and is the one `ofName` returns (`ofName_name`)
  unfold accountV at h
  simp only [Option.bind_eq_bind, Option.bind_eq_some_iff] at h
  obtain ⟨s, hs, h⟩ := h
  split at h
  · rename_i hwf
    simp only [Option.some.injEq] at h
    subst h
    have e := toks_of_utf8 hc hs
    obtain ⟨⟨m, hm⟩, _⟩ := hok
    unfold IsAccount at hm
    split at hm
    · -- a macro `$letters` has no account type
      exfalso
      obtain ⟨d, ls, e1, hd, _, hls⟩ := hm
      rw [e] at e1
      unfold strToks charsToks at e1
      cases hl : s.toList with
      | nil => rw [hl] at e1; cases e1
      | cons ch l' =>
        rw [hl] at e1
        simp only [List.map_cons, List.cons.injEq] at e1
        have hch : ch = '$' := by
          apply char_of_toNat
          rw [← charTok_r ch, e1.1, hd]; rfl
        have hcol : ':' ∉ s.toList := by
          rw [hl, hch]
          intro hm
          rcases List.mem_cons.mp hm with h0 | h0
          · cases h0
          · have := hls (charTok ':') (by rw [← e1.2]; exact List.mem_map.mpr ⟨':', h0, rfl⟩)
            exact letter_not_colon this rfl
        have hof : Account.ofName s = ⟨[s]⟩ := by
          have := ofName_name ⟨[s]⟩ (by simp) (by simpa using hcol)
          simpa [Account.name] using this
        rw [hof] at hwf
        simp only [Account.wf, Account.type?] at hwf
        have := (okName_spec (okName_typeName hwf)).2 '$' (by rw [hl, hch]; exact List.mem_cons_self)
        rw [show ('$' : Char).toNat = 36 from rfl, alnum_dollar] at this
        cases this
    · obtain ⟨a0, tl, e1, ha0, hall, htl⟩ := hm
      rw [e] at e1
      obtain ⟨la, ltl, el, hla, hltl⟩ := List.map_eq_append_iff.mp e1
      obtain ⟨segs, hsegs, hflat⟩ := segTail_chars tl htl ltl hltl
      have hla_ne : la ≠ [] := by intro e0; subst e0; exact ha0 (by simpa using hla.symm)
      have hla_all : ∀ ch ∈ la, isAlphanumeric ch.toNat = true := fun x hx =>
        hall (charTok x) (by rw [← hla]; exact List.mem_map.mpr ⟨x, hx, rfl⟩)
      let a' : Account := ⟨String.ofList la :: segs.map String.ofList⟩
      have hname : s = a'.name := by
        apply String.ext
        rw [name_toList, el, hflat]
        simp [List.map_map, Function.comp_def, String.toList_ofList]
      have hok' : ∀ sg ∈ a'.segments, okName sg = true := by
        have ok : ∀ l : List Char, (l ≠ [] ∧ ∀ ch ∈ l, isAlphanumeric ch.toNat = true) → okName (String.ofList l) = true := by
          intro l hl
          simpa only [okName, String.toList_ofList, Bool.and_eq_true, Bool.not_eq_true', List.isEmpty_eq_false_iff,
            List.all_eq_true] using hl
        intro sg hsg
        simp only [a', List.mem_cons, List.mem_map] at hsg
        rcases hsg with rfl | ⟨x, hx, rfl⟩
        · exact ok la ⟨hla_ne, hla_all⟩
        · exact ok x (hsegs x hx)
      have hof : Account.ofName s = a' := by
        rw [hname]
        apply ofName_name a' (by simp [a'])
        exact fun sg hsg hm => alnum_not_colon ((okName_spec (hok' sg hsg)).2 ':' hm) rfl
      rw [hof] at hwf ⊢
      simp only [PrintableAccount, Bool.and_eq_true, List.all_eq_true]
      exact ⟨hwf, hok'⟩
  · cases h

def BookingOK (b : Accrual.Booking) : Prop :=
  PrintableAccount b.credit = true ∧ PrintableAccount b.debit = true ∧ IsDec b.quantity ∧ okName b.commodity = true

def AddonOK (a : Accrual.Addon) : Prop := PrintableDate a.start ∧ PrintableDate a.stop ∧ PrintableAccount a.account = true

def TxInputOK (t : Accrual.TxInput) : Prop :=
  PrintableDate t.date ∧ '"' ∉ t.description.toList ∧ t.bookings ≠ [] ∧ (∀ b ∈ t.bookings, BookingOK b) ∧
  (∀ c ∈ t.targets.getD [], okName c = true) ∧ (∀ a, t.accrual = some a → AddonOK a)

def ItemOK : Item → Prop
  | .price p => PrintableDir (.price p)
  | .opening o => PrintableDir (.opening o)
  | .closing c => PrintableDir (.closing c)
  | .assertion a => PrintableDir (.assertion a)
  | .tx t => TxInputOK t
  | .includeFile _ => True

theorem mapM_some_nil {α β : Type} {f : α → Option β} {l : List α} (h : l.mapM f = some []) : l = [] :=
  List.eq_nil_of_length_eq_zero (mapM_some_length h).symm

theorem bookingOK_of (b : BookingT) (hok : b.ok) (hc : b.canon) (x : Accrual.Booking) (h : bookingV b.bytes = some x) :
    BookingOK x := by
  simp only [bookingV, BookingT.bytes, Option.bind_eq_bind, Option.bind_eq_some_iff, Option.pure_def, Option.some.injEq] at h
  obtain ⟨cr, h1, dr, h2, q, h3, c, h4, rfl⟩ := h
  exact ⟨printableAccount_of_accountOK hok.1 hc.1 h1, printableAccount_of_accountOK hok.2.1 hc.2.1 h2, isDec_decimalV h3,
    okName_of_commodityOK hok.2.2.2 hc.2.2.2 h4⟩

theorem balanceOK_of (b : BalanceT) (hok : b.ok) (hc : b.canon) (x : Balance) (h : balanceV b.bytes = some x) :
    PrintableBalance x := by
  simp only [balanceV, BalanceT.bytes, Option.bind_eq_bind, Option.bind_eq_some_iff, Option.pure_def, Option.some.injEq] at h
  obtain ⟨acc, h1, q, h2, c, h3, rfl⟩ := h
  exact ⟨printableAccount_of_accountOK hok.1 hc.1 h1, (isDec_decimalV h2).printable, okName_of_commodityOK hok.2.2 hc.2.2 h3⟩

theorem itemOK_of_view (v : DirT) (hok : v.ok) (hc : v.canon) (it : Item) (h : itemV v.bytes = some it) : ItemOK it := by
  cases v <;>
    simp only [itemV, DirT.bytes, Option.bind_eq_bind, Option.bind_eq_some_iff, Option.pure_def, Option.some.injEq] at h
  case «open» d a | close d a =>
    obtain ⟨acc, h1, dt, h2, rfl⟩ := h
    exact ⟨printable_parseDate h2, printableAccount_of_accountOK hok.2 hc.2 h1⟩
  case price d c p t =>
    obtain ⟨dt, h1, c', h2, pr, h3, t', h4, rfl⟩ := h
    exact ⟨printable_parseDate h1, okName_of_commodityOK hok.2.1 hc.2.1 h2, (isDec_decimalV h3).printable,
      okName_of_commodityOK hok.2.2.2 hc.2.2.2 h4⟩
  case «include» p =>
    obtain ⟨_, _, rfl⟩ := h
    trivial
  case assertion d bs =>
    obtain ⟨dt, h1, bals, h2, rfl⟩ := h
    rw [List.mapM_map] at h2
    refine ⟨printable_parseDate h1, fun e => hok.2.1 (mapM_some_nil ((show bals = [] from e) ▸ h2)), fun x hx => ?_⟩
    obtain ⟨b, hb, e⟩ := mapM_some_mem h2 x hx
    exact balanceOK_of b (hok.2.2 b hb) (hc.2 b hb) x e
  case transaction accr perf d desc bks =>
    obtain ⟨dt, h1, ds, h2, bs, h3, tg, h4, ac, h5, rfl⟩ := h
    rw [List.mapM_map] at h3
    refine ⟨printable_parseDate h1, noQuote_of_contentOK hok.2.2.2.1 hc.2.2.2.1 h2,
      fun e => hok.2.2.2.2.1 (mapM_some_nil ((show bs = [] from e) ▸ h3)), fun x hx => ?_, ?_, ?_⟩
    · obtain ⟨b, hb, e⟩ := mapM_some_mem h3 x hx
      exact bookingOK_of b (hok.2.2.2.2.2 b hb) (hc.2.2.2.2 b hb) x e
    · intro c hcm
      cases perf with
      | none => simp at h4; subst h4; cases hcm
      | some ts =>
        simp only [Option.map_some, Option.map_eq_some_iff] at h4
        obtain ⟨l, hl, rfl⟩ := h4
        rw [List.mapM_map] at hl
        obtain ⟨t, ht, e⟩ := mapM_some_mem hl c (by simpa using hcm)
        exact okName_of_commodityOK (hok.2.1 ts rfl t ht) (hc.2.1 ts rfl t ht) e
    · intro a ha
      cases accr with
      | none => simp at h5; subst h5; cases ha
      | some at' =>
        simp only [Option.map_some, Option.map_eq_some_iff] at h5
        obtain ⟨ad, had, rfl⟩ := h5
        simp only [Option.some.injEq] at ha
        subst ha
        simp only [accrualV, AccrualT.bytes, Option.bind_eq_bind, Option.bind_eq_some_iff, Option.pure_def,
          Option.some.injEq] at had
        obtain ⟨ivs, _, iv, _, st, g1, en, g2, acc, g3, rfl⟩ := had
        have aok := hok.1 at' rfl
        have acan := hc.1 at' rfl
        exact ⟨printable_parseDate g1, printable_parseDate g2, printableAccount_of_accountOK aok.2.2.2 acan.2.2.2 g3⟩

/-! ### `transaction.Create` -/

theorem mem_everyOther : ∀ (l : List Posting) (p : Posting), p ∈ everyOther l → p ∈ l
  | [], _, h => by cases h
  | [_], _, h => by cases h
  | a :: b :: rest, p, h => by
    simp only [everyOther, List.mem_cons] at h
    rcases h with rfl | h
    · simp
    · exact List.mem_cons_of_mem _ (List.mem_cons_of_mem _ (mem_everyOther rest p h))

theorem everyOther_postingsOf_ne (bks : List Accrual.Booking) (h : bks ≠ []) : everyOther (Accrual.postingsOf bks) ≠ [] := by
  cases bks with
  | nil => exact absurd rfl h
  | cons b rest =>
    obtain ⟨p, e, _⟩ := everyOther_postingBuild_append b.credit b.debit b.commodity b.quantity 0 (Accrual.postingsOf rest)
    show everyOther (postingBuild _ _ _ _ ++ Accrual.postingsOf rest) ≠ []
    rw [e]; exact List.cons_ne_nil _ _

theorem postingsOf_fine (bks : List Accrual.Booking) (h : ∀ b ∈ bks, BookingOK b) :
    ∀ p ∈ Accrual.postingsOf bks, PrintableAccount p.account = true ∧ PrintableAccount p.other = true ∧ IsDec p.quantity ∧
      okName p.commodity = true := by
  intro p hp
  obtain ⟨b, hb, hp⟩ := List.mem_flatMap.mp hp
  obtain ⟨b1, b2, b3, b4⟩ := h b hb
  -- the credit posting carries `-q`, the debit posting `q`
  rcases mem_postingBuild hp with rfl | rfl
  · exact ⟨b1, b2, isDec_neg b3, b4⟩
  · exact ⟨b2, b1, b3, b4⟩

theorem printableTx_of_bookings (date : Int) (desc : String) (targets : Option (List Commodity)) (bks : List Accrual.Booking)
    (hd : PrintableDate date) (hq : '"' ∉ desc.toList) (hne : bks ≠ []) (hb : ∀ b ∈ bks, BookingOK b)
    (ht : ∀ c ∈ targets.getD [], okName c = true) :
    PrintableTx { date := date, description := desc, postings := Accrual.postingsOf bks, targets := targets } := by
  refine ⟨hd, hq, everyOther_postingsOf_ne bks hne, ?_, nf_postingsOf bks, ht⟩
  intro p hp
  obtain ⟨h1, h2, h3, h4⟩ := postingsOf_fine bks hb p (mem_everyOther _ p hp)
  exact ⟨h2, h1, h3.printable, h4⟩

theorem toString_nat_noQuote : ∀ k : Nat, '"' ∉ (toString k).toList := by
  intro k hk
  rw [Nat.toString_eq_ofList_toDigits, String.toList_ofList] at hk
  have := Nat.isDigit_of_mem_toDigits (by decide) (by decide) hk
  revert this
  decide

theorem partDesc_noQuote (desc : String) (i n : Nat) (h : '"' ∉ desc.toList) : '"' ∉ (Accrual.partDesc desc i n).toList := by
  unfold Accrual.partDesc
  have ts : ∀ s : String, toString s = s := fun _ => rfl
  rw [ts, ts, ts, ts]
  simp only [String.toList_append, List.mem_append, not_or]
  have h1 : '"' ∉ (" (accrual " : String).toList := by rw [String.toList_ofList]; decide
  have h2 : '"' ∉ ("/" : String).toList := by decide +kernel
  have h3 : '"' ∉ (")" : String).toList := by decide +kernel
  exact ⟨⟨⟨⟨⟨h, h1⟩, toString_nat_noQuote _⟩, h2⟩, toString_nat_noQuote _⟩, h3⟩

/-! ### `@accrue` -/

theorem rebook_printable (t : Transaction) (date : Int) (desc : String) (acc : Account) (p : Posting) (q : Rat)
    (hd : PrintableDate date) (hq : '"' ∉ desc.toList) (hacc : PrintableAccount acc = true)
    (hpa : PrintableAccount p.account = true) (hpc : okName p.commodity = true) (hdec : IsDec q)
    (ht : ∀ c ∈ t.targets.getD [], okName c = true) : PrintableTx (Accrual.rebook t date desc acc p q) := by
  have := printableTx_of_bookings date desc t.targets [⟨acc, p.account, q, p.commodity⟩] hd hq (by simp)
    (by
      intro b hb
      simp only [List.mem_cons, List.not_mem_nil, or_false] at hb
      subst hb
      exact ⟨hacc, hpa, hdec, hpc⟩) ht
  simpa [Accrual.postingsOf, Accrual.rebook] using this

theorem endDates_bounds {start stop : Int} {iv : Interval} {part : Partition}
    (h : newPartition ⟨start, stop⟩ iv 0 = .ok part) : ∀ dt ∈ part.endDates, (start ≤ dt ∧ dt ≤ stop) ∨ dt = stop := by
  intro dt hdt
  obtain ⟨p, hp, rfl⟩ := List.mem_map.mp hdt
  rcases periods_chained h with ⟨hone, _⟩ | ⟨s, hs, hch, hin⟩
  · rw [hone, List.mem_singleton] at hp
    rw [hp]; exact Or.inr rfl
  · have := hch.bounds p hp
    exact Or.inl ⟨by show start ≤ p.stop; have : start ≤ s := hs; omega, hin p hp⟩

theorem isDec_quoRem {a : Rat} {n : Int} {amount rem : Rat} (ha : IsDec a) (h : Dec.quoRem a (n : Rat) 1 = some (amount, rem)) :
    IsDec amount ∧ IsDec rem := by
  unfold Dec.quoRem at h
  split at h
  · cases h
  · simp only [Option.some.injEq, Prod.mk.injEq] at h
    obtain ⟨h1, h2⟩ := h
    subst h1 h2
    have hq : IsDec (Dec.trunc 1 (a / (n : Rat))) := isDec_mkRat _ 1
    exact ⟨hq, isDec_sub ha (isDec_mul hq (isDec_int n))⟩

theorem create_printable (ti : Accrual.TxInput) (hok : TxInputOK ti) (txs : List Transaction)
    (h : Accrual.create ti = .ok txs) : ∀ u ∈ txs, PrintableTx u := by
  obtain ⟨hd, hq, hne, hb, ht, ha⟩ := hok
  intro u hu
  have fine := postingsOf_fine ti.bookings hb
  cases (Accrual.create_made h).2.2 u hu with
  | plain => exact printableTx_of_bookings ti.date ti.description ti.targets ti.bookings hd hq hne hb ht
  | moved e hp =>
    obtain ⟨hpa, _, hpq, hpc⟩ := fine _ hp
    exact rebook_printable (Accrual.created ti) _ _ _ _ _ hd hq (ha _ e).2.2 hpa hpc hpq ht
  | part e hp hpart hqr hdt =>
    obtain ⟨hpa, _, hpq, hpc⟩ := fine _ hp
    obtain ⟨hs, he, haa⟩ := ha _ e
    obtain ⟨d1, d2⟩ := isDec_quoRem hpq hqr
    refine rebook_printable (Accrual.created ti) _ _ _ _ _ ?_ (partDesc_noQuote _ _ _ hq) haa hpa hpc ?_ ht
    · -- a period end lies inside the accrual window, whose ends `time.Parse` produced
      rcases endDates_bounds hpart _ hdt with hb | hb
      · exact ⟨Int.le_trans hs.1 hb.1, Int.le_trans hb.2 he.2⟩
      · rw [hb]; exact he
    · split
      · exact isDec_add d1 d2
      · exact d1

theorem loadText_printable (path : String) (text : List UInt8) (ds : List Directive) (h : loadText path text = .ok ds) :
    ∀ x ∈ ds, PrintableDir x := by
  intro x hx
  obtain ⟨f, _, hp, _, _⟩ := loadText_ok_inv h
  obtain ⟨vs, hf⟩ := fileViews_of_parse hp
  -- the loader on the field views of the file, which are of the right lexical classes and canonical
  rw [hf.loadText] at h
  unfold loadViews at h
  split at h
  · unfold loadFailed at h
    split at h <;> cases h
  · rename_i items hitems
    have hok : ∀ it ∈ items, ItemOK it := fun it hit => by
      obtain ⟨v, hv, e⟩ := mapM_some_mem hitems it hit
      exact itemOK_of_view v (hf.ok v hv).1 (hf.ok v hv).2 it e
    rcases loadItems_go_inv h hx with hm | ⟨it, hit, hy⟩
    · cases hm
    · have hi := hok it hit
      cases it with
      | tx ti =>
        obtain ⟨txs, u, hc, hu, rfl⟩ := hy
        exact create_printable ti hi txs hc u hu
      | includeFile p => exact hy.elim
      | _ => cases hy; exact hi

end Knut.FromSyntax
