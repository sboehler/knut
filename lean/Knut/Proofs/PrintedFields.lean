import Knut.Proofs.LoadViews
import Knut.Proofs.Utf8Bridge
import Knut.Proofs.DecRoundTrip
import Knut.Proofs.SyntaxRender
import Knut.Model.JournalPrinter
/-!
# A value the journal printer writes is a field the parser reads, and reads back to the value

For dates, amounts, accounts, names and, built from them, balances, postings and whole directives: the printed characters as
scanner tokens are of the lexical class the grammar asks for (`dateOK`, `accountOK_name`, `decimalOK_showDec`, … `dirView_ok`),
and the byte-based elaboration of these fields returns the value (`parseDate_fmtDate`, `accountV_name`, `decimalV_showDec`, …
`itemV_dirView`). `PrintableDir` says for which directives. Nothing here runs the parser.
-/
namespace Knut.FromSyntax
open Knut Knut.Utf8 Knut.Dec

theorem cumDays_diff (leap : Bool) (y m : Int) (hl : Date.isLeap y = leap) (h1 : 1 ≤ m) (h12 : m ≤ 12) :
    Date.cumDays leap (m + 1) - Date.cumDays leap m = daysIn y m := by
  unfold daysIn
  rw [hl]
  exact Date.daysIn_table leap m h1 h12

theorem day_le_daysIn (z : Int) : Date.day z ≤ daysIn (Date.year z) (Date.month z) := by
  have ⟨a, b⟩ := Date.dayOfYear_bounds z
  have hl : Date.cumDays (Date.isLeap (Date.year z)) 13 = Date.yearLen (Date.year z) := by
    unfold Date.yearLen Date.cumDays; cases Date.isLeap (Date.year z) <;> simp
  have sp := Date.monthOfDoy_spec (Date.isLeap (Date.year z)) (Date.dayOfYear z) a (by omega)
  have ⟨m1, m12⟩ := Date.month_bounds z
  have := cumDays_diff (Date.isLeap (Date.year z)) (Date.year z) (Date.month z) rfl m1 m12
  unfold Date.day Date.month at *
  omega

/-- the first day of the year 0000 (`time.Parse` accepts the years 0000..9999) -/
def minDate : Int := -366

theorem year_bounds (z : Int) (h0 : minDate ≤ z) (h1 : z ≤ maxDate) : 0 ≤ Date.year z ∧ Date.year z ≤ 9999 := by
  have ⟨a, b⟩ := Date.year_spec z
  constructor
  · by_cases h : 0 ≤ Date.year z
    · exact h
    · exfalso
      have : Date.yearStart (Date.year z + 1) ≤ Date.yearStart 0 := Date.yearStart_mono (by omega)
      have e := Date.yearStart_0
      simp only [minDate] at h0
      omega
  · by_cases h : Date.year z ≤ 9999
    · exact h
    · exfalso
      have : Date.yearStart 10000 ≤ Date.yearStart (Date.year z) := Date.yearStart_mono (by omega)
      have e := Date.yearStart_10000
      simp only [maxDate] at h1
      omega

def dateChars (z : Int) : List Char :=
  fracDigits 4 (Date.year z).toNat ++ '-' :: (fracDigits 2 (Date.month z).toNat ++ '-' :: fracDigits 2 (Date.day z).toNat)

theorem fmtDate_toList (z : Int) : (JournalPrinter.fmtDate z).toList = dateChars z := by
  have ts : ∀ s : String, toString s = s := fun _ => rfl
  simp [JournalPrinter.fmtDate, BalanceReport.fmtDate, BalanceReport.pad, dateChars, fracDigits, String.toList_append,
    Nat.toString_eq_repr, Nat.repr_eq_ofList_toDigits, String.length_ofList, ts]

theorem flat_ascii (cs : List Char) (h : ∀ c ∈ cs, c.toNat < 128) :
    flat (charsToks cs) = cs.map (fun c => UInt8.ofNat c.toNat) := by
  induction cs with
  | nil => rfl
  | cons c cs ih =>
    have hc := h c List.mem_cons_self
    simp only [charsToks, List.map_cons, flat_cons, charTok_ascii c hc, tk] at ih ⊢
    rw [ih (fun x hx => h x (List.mem_cons_of_mem _ hx))]
    rfl

theorem digitsToNat_zeros (j : Nat) (cs : List Char) : digitsToNat (List.replicate j '0' ++ cs) = digitsToNat cs := by
  unfold digitsToNat
  induction j with
  | zero => rfl
  | succ j ih => simp [List.replicate_succ, List.foldl_cons] at ih ⊢; exact ih

theorem digitsToNat_fracDigits (k n : Nat) : digitsToNat (fracDigits k n) = n := by
  unfold fracDigits
  rw [digitsToNat_zeros, digitsToNat_digitsOf]

theorem byte_of_digit {c : Char} (h : Dec.isDigit c = true) :
    asciiDigit (UInt8.ofNat c.toNat) = true ∧ (UInt8.ofNat c.toNat).toNat - 48 = c.toNat - '0'.toNat := by
  have ⟨a, b⟩ := (Dec.isDigit_iff _).mp h
  have e : (UInt8.ofNat c.toNat).toNat = c.toNat := by simp [UInt8.toNat_ofNat']; omega
  simp [asciiDigit, e, a, b]

theorem digitsVal_bytes (cs : List Char) (h : ∀ c ∈ cs, Dec.isDigit c = true) :
    digitsVal (cs.map (fun c => UInt8.ofNat c.toNat)) = digitsToNat cs ∧
      (cs.map (fun c => UInt8.ofNat c.toNat)).all asciiDigit = true := by
  unfold digitsVal digitsToNat
  generalize (0 : Nat) = acc
  induction cs generalizing acc with
  | nil => exact ⟨rfl, rfl⟩
  | cons c cs ih =>
    obtain ⟨b1, b2⟩ := byte_of_digit (h c List.mem_cons_self)
    obtain ⟨i1, i2⟩ := ih (fun x hx => h x (List.mem_cons_of_mem _ hx)) (acc * 10 + (c.toNat - '0'.toNat))
    exact ⟨by rw [List.map_cons, List.foldl_cons, List.foldl_cons, b2, i1], by rw [List.map_cons, List.all_cons, b1, i2]; rfl⟩

theorem length_two {α : Type} {l : List α} (h : l.length = 2) : ∃ a b, l = [a, b] :=
  match l, h with
  | [a, b], _ => ⟨a, b, rfl⟩

theorem length_four {α : Type} {l : List α} (h : l.length = 4) : ∃ a b c d, l = [a, b, c, d] :=
  match l, h with
  | [a, b, c, d], _ => ⟨a, b, c, d, rfl⟩

theorem dateChars_shape (z : Int) (h0 : minDate ≤ z) (h1 : z ≤ maxDate) :
    ∃ a1 a2 a3 a4 b1 b2 c1 c2 : Char, dateChars z = [a1, a2, a3, a4, '-', b1, b2, '-', c1, c2] ∧
      (∀ c ∈ [a1, a2, a3, a4], Dec.isDigit c = true) ∧ (∀ c ∈ [b1, b2], Dec.isDigit c = true) ∧
      (∀ c ∈ [c1, c2], Dec.isDigit c = true) ∧
      (digitsToNat [a1, a2, a3, a4] : Int) = Date.year z ∧ (digitsToNat [b1, b2] : Int) = Date.month z ∧
      (digitsToNat [c1, c2] : Int) = Date.day z := by
  have ⟨y1, y2⟩ := year_bounds z h0 h1
  have ⟨m1, m2⟩ := Date.month_bounds z
  have d1 := Date.day_pos z
  have d2 := day_le_daysIn z
  have d3 : daysIn (Date.year z) (Date.month z) ≤ 31 := by unfold daysIn; split <;> (try split) <;> (try split) <;> omega
  obtain ⟨a1, a2, a3, a4, hy⟩ := length_four (fracDigits_length (k := 4) (fp := (Date.year z).toNat) (by decide) (by simp; omega))
  obtain ⟨b1, b2, hm⟩ := length_two (fracDigits_length (k := 2) (fp := (Date.month z).toNat) (by decide) (by simp; omega))
  obtain ⟨c1, c2, hd⟩ := length_two (fracDigits_length (k := 2) (fp := (Date.day z).toNat) (by decide) (by simp; omega))
  refine ⟨a1, a2, a3, a4, b1, b2, c1, c2, by rw [dateChars, hy, hm, hd]; rfl, fun c hc => fracDigits_isDigit (hy ▸ hc),
    fun c hc => fracDigits_isDigit (hm ▸ hc), fun c hc => fracDigits_isDigit (hd ▸ hc), ?_, ?_, ?_⟩
  · rw [← hy, digitsToNat_fracDigits]; exact Int.toNat_of_nonneg y1
  · rw [← hm, digitsToNat_fracDigits]; exact Int.toNat_of_nonneg (by omega)
  · rw [← hd, digitsToNat_fracDigits]; exact Int.toNat_of_nonneg (by omega)

/-- **dates re-read**: a printed date of the years 0000..9999 parses back to the same day -/
theorem parseDate_fmtDate (z : Int) (h0 : minDate ≤ z) (h1 : z ≤ maxDate) :
    parseDate (flat (charsToks (dateChars z))) = some z := by
  obtain ⟨a1, a2, a3, a4, b1, b2, c1, c2, e, dy, dm, dd, ey, em, ed⟩ := dateChars_shape z h0 h1
  have ⟨m1, m2⟩ := Date.month_bounds z
  have asc : ∀ c ∈ dateChars z, c.toNat < 128 := by
    intro c hc
    have dig : Dec.isDigit c = true → c.toNat < 128 := fun h => by have := (Dec.isDigit_iff _).mp h; omega
    rw [e, show [a1, a2, a3, a4, '-', b1, b2, '-', c1, c2] = [a1, a2, a3, a4] ++ '-' :: ([b1, b2] ++ '-' :: [c1, c2]) from rfl] at hc
    simp only [List.mem_append, List.mem_cons (a := c) (b := '-')] at hc
    rcases hc with h | rfl | h | rfl | h
    · exact dig (dy c h)
    · decide
    · exact dig (dm c h)
    · decide
    · exact dig (dd c h)
  obtain ⟨vy, ay⟩ := digitsVal_bytes [a1, a2, a3, a4] dy
  obtain ⟨vm, am⟩ := digitsVal_bytes [b1, b2] dm
  obtain ⟨vd, ad⟩ := digitsVal_bytes [c1, c2] dd
  simp only [List.map_cons, List.map_nil, List.all_cons, List.all_nil, Bool.and_true, Bool.and_eq_true] at vy vm vd ay am ad
  have hdash : UInt8.ofNat '-'.toNat = 45 := by decide
  rw [flat_ascii _ asc, e]
  simp only [List.map_cons, List.map_nil, parseDate, hdash, true_and, List.all_cons, List.all_nil, ay, am, ad,
    Bool.and_self, if_true, vy, vm, vd, ey, em, ed]
  rw [if_pos ⟨m1, m2, Date.day_pos z, day_le_daysIn z⟩, Date.ofCivil_toCivil]

open Knut.Syntax

/-- non-empty, letters and digits only (what the scanner reads as one account segment / commodity) -/
def okName (s : String) : Bool := !s.toList.isEmpty && s.toList.all (fun c => isAlphanumeric c.toNat)

theorem all_strToks {p : Nat → Bool} {cs : List Char} (h : ∀ c ∈ cs, p c.toNat = true) : All p (charsToks cs) := by
  intro t ht
  simp only [charsToks, List.mem_map] at ht
  obtain ⟨c, hc, rfl⟩ := ht
  exact h c hc

theorem okName_spec {s : String} (h : okName s = true) :
    s.toList ≠ [] ∧ ∀ c ∈ s.toList, isAlphanumeric c.toNat = true := by
  simp only [okName, Bool.and_eq_true, Bool.not_eq_true', List.isEmpty_eq_false_iff, List.all_eq_true] at h
  exact h

theorem commodityOK_of_okName {s : String} (h : okName s = true) : CommodityOK (strToks s) := by
  obtain ⟨h1, h2⟩ := okName_spec h
  exact ⟨⟨by simp [strToks, charsToks, h1], all_strToks h2⟩, valid_charsToks _⟩

theorem digit_table {c : Char} (h : Dec.isDigit c = true) : Syntax.isDigit c.toNat = true := by
  have ⟨a, b⟩ := (Dec.isDigit_iff _).mp h
  -- the ten ASCII digits, looked up in the scanner's table
  have tbl : ∀ k : Fin 10, Syntax.isDigit (48 + k.val) = true := by decide +kernel
  have := tbl ⟨c.toNat - 48, by omega⟩
  rwa [show 48 + (c.toNat - 48) = c.toNat by omega] at this

theorem dateOK (z : Int) (h0 : minDate ≤ z) (h1 : z ≤ maxDate) : DateOK (charsToks (dateChars z)) := by
  obtain ⟨a1, a2, a3, a4, b1, b2, c1, c2, e, dy, dm, dd, _⟩ := dateChars_shape z h0 h1
  refine ⟨?_, valid_charsToks _⟩
  rw [e]
  exact ⟨charTok a1, charTok a2, charTok a3, charTok a4, charTok '-', charTok b1, charTok b2, charTok '-', charTok c1,
    charTok c2, rfl, digit_table (dy a1 (by simp)), digit_table (dy a2 (by simp)), digit_table (dy a3 (by simp)),
    digit_table (dy a4 (by simp)), rfl, digit_table (dm b1 (by simp)), digit_table (dm b2 (by simp)), rfl,
    digit_table (dd c1 (by simp)), digit_table (dd c2 (by simp))⟩

/-- an account the printer writes and the parser reads back: a type name first, every segment non-empty and
made of letters and digits -/
def PrintableAccount (a : Account) : Bool := a.wf && a.segments.all okName

theorem alnum_not_colon {c : Char} (h : isAlphanumeric c.toNat = true) : c ≠ ':' := by
  intro e; subst e
  have : isAlphanumeric (':' : Char).toNat = false := alnum_colon
  rw [this] at h; cases h

theorem ofName_name (a : Account) (hne : a.segments ≠ []) (hcol : ∀ s ∈ a.segments, ':' ∉ s.toList) :
    Account.ofName a.name = a := by
  cases a with
  | mk segs =>
    unfold Account.ofName Account.name
    congr 1
    have e1 : ∀ sl : String.Slice, sl.toString = sl.copy := fun _ => rfl
    simp only [e1]
    rw [String.toList_split_bool]
    simp only [String.toList_intercalate]
    have : (":" : String).toList = [':'] := rfl
    rw [this]
    have key := List.splitOn_intercalate (ls := segs.map String.toList) ':' (by simpa using hcol) (by simpa using hne)
    unfold List.splitOn at key
    rw [key]
    simp

theorem accountV_name (a : Account) (h : PrintableAccount a = true) : accountV (flat (strToks a.name)) = some a := by
  simp only [PrintableAccount, Bool.and_eq_true, List.all_eq_true] at h
  obtain ⟨hwf, hs⟩ := h
  have hne : a.segments ≠ [] := by
    intro e
    simp [Account.wf, Account.type?, e] at hwf
  have hof : Account.ofName a.name = a :=
    ofName_name a hne fun s hs' hm => alnum_not_colon ((okName_spec (hs s hs')).2 ':' hm) rfl
  simp [accountV, utf8_str, hof, hwf]

theorem segTail_of (segs : List String) (hs : ∀ s ∈ segs, okName s = true) :
    SegTail (charsToks ((segs.map (fun s => ':' :: s.toList)).flatten)) := by
  induction segs with
  | nil => exact SegTail.nil
  | cons s rest ih =>
    have ⟨h1, h2⟩ := okName_spec (hs s List.mem_cons_self)
    simp only [List.map_cons, List.flatten_cons, List.cons_append, charsToks, List.map_append] at ih ⊢
    exact SegTail.cons (charTok ':') (s.toList.map charTok) _ rfl (by simp [h1]) (all_strToks h2)
      (ih (fun x hx => hs x (List.mem_cons_of_mem _ hx)))

theorem name_toList (segs : List String) (s : String) :
    (Account.name ⟨s :: segs⟩).toList = s.toList ++ (segs.map (fun x => ':' :: x.toList)).flatten := by
  unfold Account.name
  simp only [String.toList_intercalate]
  have : (":" : String).toList = [':'] := rfl
  rw [this]
  induction segs generalizing s with
  | nil => simp
  | cons t rest ih =>
    simp only [List.map_cons, List.flatten_cons]
    rw [List.intercalate_cons_cons]
    have := ih t
    simp only [List.map_cons] at this
    rw [this]
    simp

theorem accountOK_name (a : Account) (h : PrintableAccount a = true) : AccountOK (strToks a.name) := by
  simp only [PrintableAccount, Bool.and_eq_true, List.all_eq_true] at h
  obtain ⟨hwf, hs⟩ := h
  cases a with
  | mk segs =>
    cases segs with
    | nil => simp [Account.wf, Account.type?] at hwf
    | cons s rest =>
      have ⟨h1, h2⟩ := okName_spec (hs s List.mem_cons_self)
      refine ⟨⟨false, ?_⟩, valid_charsToks _⟩
      simp only [IsAccount, Bool.false_eq_true, if_false, strToks, name_toList, charsToks_append]
      exact ⟨charsToks s.toList, _, rfl, by simp [charsToks, h1], all_strToks h2,
        segTail_of rest (fun x hx => hs x (List.mem_cons_of_mem _ hx))⟩

theorem showDec_chars (q : Rat) : ∃ (m : Int) (k : Nat), (showDec q).toList =
    signPart m ++ digitsOf (m.natAbs / 10 ^ k) ++ fracPart k (m.natAbs % 10 ^ k) :=
  ⟨_, _, showScaled_toList _ _⟩

theorem decChar_cases {m : Int} {k : Nat} {c : Char}
    (h : c ∈ signPart m ++ digitsOf (m.natAbs / 10 ^ k) ++ fracPart k (m.natAbs % 10 ^ k)) :
    Dec.isDigit c = true ∨ c = '-' ∨ c = '.' := by
  simp only [List.mem_append] at h
  rcases h with (h | h) | h
  · unfold signPart at h
    split at h
    · simp at h; exact Or.inr (Or.inl h)
    · cases h
  · exact Or.inl (digitsOf_isDigit h)
  · rw [fracPart_eq] at h
    split at h
    · cases h
    · rcases List.mem_cons.mp h with h | h
      · exact Or.inr (Or.inr h)
      · exact Or.inl (fracDigits_isDigit h)

theorem decimalV_showDec (q : Rat) (K : Nat) (hq : q.den ∣ 10 ^ K) : decimalV (flat (strToks (showDec q))) = some q := by
  obtain ⟨m, k, hc⟩ := showDec_chars q
  have asc : ∀ c ∈ (showDec q).toList, c.toNat < 128 := by
    intro c hcm
    rw [hc] at hcm
    rcases decChar_cases hcm with h | h | h
    · have := (Dec.isDigit_iff _).mp h; omega
    · subst h; decide
    · subst h; decide
  have hall : (flat (strToks (showDec q))).all (fun b => asciiDigit b || b = 45 || b = 46) = true := by
    unfold strToks
    rw [flat_ascii _ asc, List.all_eq_true]
    intro b hb
    simp only [List.mem_map] at hb
    obtain ⟨c, hcm, rfl⟩ := hb
    rw [hc] at hcm
    rcases decChar_cases hcm with h | h | h
    · simp [(byte_of_digit h).1]
    · subst h; decide
    · subst h; decide
  unfold decimalV
  rw [hall]
  simp only [if_true, utf8_str, Option.bind_some]
  exact parseDec_showDec q K hq

theorem decimalOK_showDec (q : Rat) : DecimalOK (strToks (showDec q)) := by
  obtain ⟨m, k, hc⟩ := showDec_chars q
  refine ⟨?_, valid_charsToks _⟩
  unfold strToks
  rw [hc, charsToks_append, charsToks_append]
  refine ⟨_, _, _, rfl, ?_, ?_, ?_, ?_⟩
  · unfold signPart
    split
    · exact Or.inr ⟨charTok '-', rfl, rfl⟩
    · exact Or.inl rfl
  · simp [charsToks]
  · exact all_strToks (fun c hcm => digit_table (digitsOf_isDigit hcm))
  · rw [fracPart_eq]
    split
    · exact Or.inl rfl
    · rename_i hk
      refine Or.inr ⟨charTok '.', charsToks (fracDigits k (m.natAbs % 10 ^ k)), rfl, rfl, ?_,
        all_strToks (fun c hcm => digit_table (fracDigits_isDigit hcm))⟩
      have := fracDigits_length (k := k) (fp := m.natAbs % 10 ^ k) (by omega) (Nat.mod_lt _ (Nat.pow_pos (by decide)))
      intro e
      simp only [charsToks, List.map_eq_nil_iff] at e
      rw [e] at this
      simp at this
      omega

open Knut.JournalPrinter

theorem strToks_lit (s : String) (h : ∀ c ∈ s.toList, c.toNat < 128) : strToks s = lits s := by
  unfold strToks charsToks lits
  apply List.map_congr_left
  intro c hc
  exact charTok_ascii c (h c hc)

theorem nl_toks : strToks "\n" = [tk 10] := strToks_lit "\n" (by decide)
theorem sp_toks : strToks " " = [tk 32] := strToks_lit " " (by decide)

/-- 0000-01-01 … 9999-12-31: the dates `time.Parse("2006-01-02")` accepts -/
def PrintableDate (z : Int) : Prop := minDate ≤ z ∧ z ≤ maxDate
instance (z : Int) : Decidable (PrintableDate z) := by unfold PrintableDate; exact inferInstance

/-- an amount `String()` prints exactly: a decimal rational -/
def PrintableQty (q : Rat) : Prop := q.den ∣ 10 ^ q.den
instance (q : Rat) : Decidable (PrintableQty q) := by unfold PrintableQty; exact inferInstance

def dateT (z : Int) : List Tok := charsToks (dateChars z)

theorem strToks_fmtDate (z : Int) : strToks (fmtDate z) = dateT z := by
  unfold strToks dateT; rw [fmtDate_toList]

theorem flat_dateT (z : Int) : flat (dateT z) = flat (charsToks (dateChars z)) := rfl

theorem strBytes_eq_flat (s : String) : strBytes s = flat (strToks s) := (flat_strToks s).symm

def PrintableBalance (b : Balance) : Prop :=
  PrintableAccount b.account = true ∧ PrintableQty b.quantity ∧ okName b.commodity = true
instance (b : Balance) : Decidable (PrintableBalance b) := by unfold PrintableBalance; exact inferInstance

def balanceT (b : Balance) : BalanceT := ⟨strToks b.account.name, strToks (showDec b.quantity), strToks b.commodity⟩

theorem balanceT_ok (b : Balance) (h : PrintableBalance b) : (balanceT b).ok ∧ (balanceT b).canon := by
  -- the projections are reduced first: the unifier would unfold `showDec` before it unfolds `balanceT`
  simp only [BalanceT.ok, BalanceT.canon, balanceT]
  exact ⟨⟨accountOK_name b.account h.1, decimalOK_showDec b.quantity, commodityOK_of_okName h.2.2⟩,
    ⟨canon_charsToks _, canon_charsToks _, canon_charsToks _⟩⟩

theorem balanceV_balanceT (b : Balance) (h : PrintableBalance b) : balanceV (balanceT b).bytes = some b := by
  simp [balanceV, balanceT, BalanceT.bytes, accountV_name _ h.1, decimalV_showDec _ _ h.2.1, utf8_str]

theorem mapM_balanceV (bs : List Balance) (h : ∀ b ∈ bs, PrintableBalance b) :
    (bs.map (fun b => (balanceT b).bytes)).mapM balanceV = some bs :=
  mapM_eq_some_iff.mpr (forall₂_map_left.mpr (forall₂_same fun b hb => balanceV_balanceT b (h b hb)))

theorem strToks_balanceLine (b : Balance) :
    strToks (b.account.name ++ " " ++ showDec b.quantity ++ " " ++ b.commodity) = renderBalanceT (balanceT b) := by
  simp only [strToks_append, sp_toks, renderBalanceT, balanceT, List.append_assoc, List.cons_append, List.nil_append]

theorem strToks_join_balances (bs : List Balance) :
    strToks (String.join (bs.map (fun b => "\n" ++ b.account.name ++ " " ++ showDec b.quantity ++ " " ++ b.commodity)) ++ "\n") =
      tk 10 :: renderBalancesT (bs.map balanceT) := by
  induction bs with
  | nil => rw [List.map_nil, strToks_append, nl_toks]; rfl
  | cons b rest ih =>
    rw [List.map_cons, String.join_cons, String.append_assoc (s₃ := "\n"), strToks_append _ (_ ++ "\n"), ih]
    simp only [String.append_assoc, strToks_append, nl_toks, List.map_cons, renderBalancesT, ← strToks_balanceLine,
      List.append_assoc, List.cons_append, List.nil_append]

def PrintableAssertion (a : Assertion) : Prop :=
  PrintableDate a.date ∧ a.balances ≠ [] ∧ ∀ b ∈ a.balances, PrintableBalance b
instance (a : Assertion) : Decidable (PrintableAssertion a) := by unfold PrintableAssertion; exact inferInstance

def bookingT (p : Posting) : BookingT :=
  ⟨strToks p.other.name, strToks p.account.name, strToks (showDec p.quantity), strToks p.commodity⟩

def PrintablePosting (p : Posting) : Prop :=
  PrintableAccount p.other = true ∧ PrintableAccount p.account = true ∧ PrintableQty p.quantity ∧ okName p.commodity = true
instance (p : Posting) : Decidable (PrintablePosting p) := by unfold PrintablePosting; exact inferInstance

theorem PrintablePosting.wf {p : Posting} (h : PrintablePosting p) : p.other.wf = true ∧ p.account.wf = true := by
  have h1 := h.1
  have h2 := h.2.1
  simp only [PrintableAccount, Bool.and_eq_true] at h1 h2
  exact ⟨h1.1, h2.1⟩

/-- the printer's quote replacement changes nothing on a description without a double quote -/
theorem descText_id (s : String) (h : '"' ∉ s.toList) : descText s = s := by
  unfold descText
  have : s.toList.map (fun c => if c == '"' then '\'' else c) = s.toList := by
    conv => rhs; rw [← List.map_id s.toList]
    apply List.map_congr_left
    intro c hc
    have : c ≠ '"' := fun e => h (e ▸ hc)
    simp [this]
  rw [this, String.ofList_toList]

/-- a transaction `printTx` writes and the loader reads back as the same transaction: no double quote in the
description (the printer's `"`→`'` replacement then changes nothing, `descText_id`), bookings in the normal form of
`C09_booking_normal_form` (the posting list is what the printed bookings rebuild), printable fields -/
def PrintableTx (t : Transaction) : Prop :=
  PrintableDate t.date ∧ '"' ∉ t.description.toList ∧
  everyOther t.postings ≠ [] ∧ (∀ p ∈ everyOther t.postings, PrintablePosting p) ∧
  t.postings = (everyOther t.postings).flatMap (fun p => postingBuild p.other p.account p.commodity p.quantity) ∧
  (∀ c ∈ t.targets.getD [], okName c = true)
instance (t : Transaction) : Decidable (PrintableTx t) := by unfold PrintableTx; exact inferInstance

theorem strToks_ofList_spaces (n : Nat) : strToks (String.ofList (List.replicate n ' ')) = spacesT n := by
  unfold strToks spacesT charsToks
  rw [String.toList_ofList, List.map_replicate]
  congr 1

theorem strToks_length (s : String) : (strToks s).length = s.length := by
  simp [strToks, charsToks, String.length_toList]

theorem spacesT_add (a b : Nat) : spacesT a ++ spacesT b = spacesT (a + b) := by
  simp [spacesT, List.replicate_append_replicate]

theorem strToks_posting (pad : Nat) (p : Posting) :
    strToks (printPosting pad p ++ "\n") = renderBookingT pad (bookingT p) ++ [tk 10] := by
  have l3 : ∀ x : List Tok, tk 32 :: x = spacesT 1 ++ x := fun _ => rfl
  simp only [printPosting, JournalPrinter.padRight, JournalPrinter.padLeft, strToks_append, strToks_ofList_spaces,
    renderBookingT, bookingT, runeLen, strToks_length, sp_toks, nl_toks, List.append_assoc, List.nil_append, l3]
  simp only [← List.append_assoc (spacesT _) (spacesT _), spacesT_add, Nat.add_assoc]

theorem strToks_postings (pad : Nat) (ps : List Posting) :
    strToks (String.join (ps.map (fun p => printPosting pad p ++ "\n"))) = renderBookingsT pad (ps.map bookingT) := by
  induction ps with
  | nil => rfl
  | cons p rest ih =>
    rw [List.map_cons, String.join_cons, strToks_append, ih, strToks_posting]
    simp [renderBookingsT]

theorem strToks_targets (tg : List String) : strToks (String.intercalate "," tg) = joinCommaT (tg.map strToks) := by
  unfold strToks
  rw [String.toList_intercalate]
  have : (",":String).toList = [','] := rfl
  rw [this]
  match tg with
  | [] => rfl
  | [a] => simp [joinCommaT]
  | a :: b :: rest =>
    have ih := strToks_targets (b :: rest)
    unfold strToks at ih
    rw [String.toList_intercalate, this] at ih
    simp only [List.map_cons] at ih ⊢
    rw [List.intercalate_cons_cons, charsToks_append, charsToks_append, ih]
    simp only [joinCommaT]
    have c : charsToks [','] = [tk 44] := by
      simp only [charsToks, List.map_cons, List.map_nil]
      rw [charTok_ascii ',' (by decide)]; rfl
    rw [c]
    simp

theorem bookingT_ok (p : Posting) (h : PrintablePosting p) : (bookingT p).ok ∧ (bookingT p).canon := by
  simp only [BookingT.ok, BookingT.canon, bookingT]
  exact ⟨⟨accountOK_name p.other h.1, accountOK_name p.account h.2.1, decimalOK_showDec p.quantity,
      commodityOK_of_okName h.2.2.2⟩,
    ⟨canon_charsToks _, canon_charsToks _, canon_charsToks _, canon_charsToks _⟩⟩

def bookingOf (p : Posting) : Accrual.Booking := ⟨p.other, p.account, p.quantity, p.commodity⟩

theorem bookingV_bookingT (p : Posting) (h : PrintablePosting p) : bookingV (bookingT p).bytes = some (bookingOf p) := by
  simp [bookingV, bookingT, BookingT.bytes, accountV_name _ h.1, accountV_name _ h.2.1, decimalV_showDec _ _ h.2.2.1, utf8_str,
    bookingOf]

theorem mapM_bookingV (ps : List Posting) (h : ∀ p ∈ ps, PrintablePosting p) :
    (ps.map (fun p => (bookingT p).bytes)).mapM bookingV = some (ps.map bookingOf) :=
  mapM_eq_some_iff.mpr (forall₂_map_left.mpr (forall₂_map_self fun p hp => bookingV_bookingT p (h p hp)))

theorem mapM_utf8_strToks (tg : List String) : (tg.map (fun s => flat (strToks s))).mapM utf8 = some tg :=
  mapM_eq_some_iff.mpr (forall₂_map_left.mpr (forall₂_same fun s _ => utf8_str s))

theorem contentOK_desc (s : String) (h : '"' ∉ s.toList) : ContentOK (strToks s) := by
  refine ⟨?_, valid_charsToks _⟩
  apply all_strToks
  intro c hc
  simp only [bne_iff_ne, ne_eq]
  intro e
  have : c = '"' := by
    apply Char.ext
    apply UInt32.toNat_inj.mp
    exact e
  exact h (this ▸ hc)

def txInput (t : Transaction) : Accrual.TxInput :=
  { date := t.date, description := t.description, bookings := (everyOther t.postings).map bookingOf,
    targets := t.targets, accrual := none }

/-- a directive `journal.Print` writes such that the loader reads it back unchanged -/
def PrintableDir : Directive → Prop
  | .price p => PrintableDate p.date ∧ okName p.commodity = true ∧ PrintableQty p.price ∧ okName p.target = true
  | .opening o => PrintableDate o.date ∧ PrintableAccount o.account = true
  | .closing c => PrintableDate c.date ∧ PrintableAccount c.account = true
  | .assertion a => PrintableAssertion a
  | .tx t => PrintableTx t

instance (x : Directive) : Decidable (PrintableDir x) := by
  cases x <;> unfold PrintableDir <;> exact inferInstance

/-- the directives of a day in the order `journal.Print` writes them -/
def dayDirs (d : Day) : List Directive :=
  d.prices.map .price ++ d.openings.map .opening ++ (sortTxs d.transactions).map .tx ++
    d.assertions.map .assertion ++ d.closings.map .closing

theorem mem_dayDirs (d : Day) (x : Directive) : x ∈ dayDirs d ↔
    (∃ p ∈ d.prices, x = .price p) ∨ (∃ o ∈ d.openings, x = .opening o) ∨ (∃ t ∈ d.transactions, x = .tx t) ∨
    (∃ a ∈ d.assertions, x = .assertion a) ∨ (∃ c ∈ d.closings, x = .closing c) := by
  simp only [dayDirs, List.mem_append, List.mem_map, sortTxs, List.mem_mergeSort, or_assoc, eq_comm]

/-- the directives `journal.Print` writes, in its order -/
def journalDirs (j : List Day) : List Directive := j.flatMap dayDirs

/-- the field view of a printed directive -/
def dirView : Directive → DirT
  | .price p => .price (dateT p.date) (strToks p.commodity) (strToks (showDec p.price)) (strToks p.target)
  | .opening o => .open (dateT o.date) (strToks o.account.name)
  | .closing c => .close (dateT c.date) (strToks c.account.name)
  | .assertion a => .assertion (dateT a.date) (a.balances.map balanceT)
  | .tx t => .transaction none (t.targets.map (·.map strToks)) (dateT t.date) (strToks t.description)
      ((everyOther t.postings).map bookingT)

/-- what the elaboration makes of the field view -/
def itemOf : Directive → Item
  | .price p => .price p
  | .opening o => .opening o
  | .closing c => .closing c
  | .assertion a => .assertion a
  | .tx t => .tx (txInput t)

theorem dirView_ok (x : Directive) (h : PrintableDir x) : (dirView x).ok ∧ (dirView x).canon := by
  cases x with
  | price p =>
    obtain ⟨hd, hc, hq, ht⟩ := h
    exact ⟨⟨dateOK _ hd.1 hd.2, commodityOK_of_okName hc, decimalOK_showDec _, commodityOK_of_okName ht⟩,
      ⟨canon_charsToks _, canon_charsToks _, canon_charsToks _, canon_charsToks _⟩⟩
  | opening o | closing o =>
    obtain ⟨hd, ha⟩ := h
    exact ⟨⟨dateOK _ hd.1 hd.2, accountOK_name _ ha⟩, ⟨canon_charsToks _, canon_charsToks _⟩⟩
  | assertion a =>
    obtain ⟨hd, hne, hb⟩ := h
    have hbs : ∀ x ∈ a.balances.map balanceT, x.ok ∧ x.canon := fun x hx => by
      obtain ⟨b, hbm, rfl⟩ := List.mem_map.mp hx
      exact balanceT_ok b (hb b hbm)
    exact ⟨⟨dateOK _ hd.1 hd.2, by simpa using hne, fun x hx => (hbs x hx).1⟩,
      ⟨canon_charsToks _, fun x hx => (hbs x hx).2⟩⟩
  | tx t =>
    obtain ⟨hd, hq, hne, hps, hnf, htg⟩ := h
    have hbs : ∀ x ∈ (everyOther t.postings).map bookingT, x.ok ∧ x.canon := fun x hx => by
      obtain ⟨p, hp, rfl⟩ := List.mem_map.mp hx
      exact bookingT_ok p (hps p hp)
    have hts : ∀ ts, t.targets.map (·.map strToks) = some ts → ∀ x ∈ ts, CommodityOK x ∧ Canon x :=
      fun ts hts x hx => by
        obtain ⟨tg, htar, rfl⟩ := Option.map_eq_some_iff.mp hts
        obtain ⟨c, hc, rfl⟩ := List.mem_map.mp hx
        exact ⟨commodityOK_of_okName (htg c (by rw [htar]; exact hc)), canon_charsToks _⟩
    exact ⟨⟨(by intro a ha; cases ha), fun ts e x hx => (hts ts e x hx).1, dateOK _ hd.1 hd.2, contentOK_desc _ hq,
        (by simpa using hne), fun x hx => (hbs x hx).1⟩,
      ⟨(by intro a ha; cases ha), fun ts e x hx => (hts ts e x hx).2, canon_charsToks _, canon_charsToks _,
        fun x hx => (hbs x hx).2⟩⟩

theorem itemV_dirView (x : Directive) (h : PrintableDir x) : itemV (dirView x).bytes = some (itemOf x) := by
  cases x with
  | price p =>
    obtain ⟨hd, hc, hq, ht⟩ := h
    simp [dirView, itemOf, itemV, DirT.bytes, dateT, parseDate_fmtDate _ hd.1 hd.2, utf8_str, decimalV_showDec _ _ hq]
  | opening o | closing o =>
    obtain ⟨hd, ha⟩ := h
    simp [dirView, itemOf, itemV, DirT.bytes, accountV_name _ ha, dateT, parseDate_fmtDate _ hd.1 hd.2]
  | assertion a =>
    obtain ⟨hd, hne, hb⟩ := h
    simp only [dirView, itemOf, itemV, DirT.bytes, dateT, parseDate_fmtDate _ hd.1 hd.2, Option.bind_eq_bind, Option.bind_some,
      List.map_map]
    have := mapM_balanceV a.balances hb
    simp only [Function.comp_def] at this ⊢
    rw [this]
    rfl
  | tx t =>
    obtain ⟨hd, hq, hne, hps, hnf, htg'⟩ := h
    simp only [dirView, itemOf, txInput, itemV, DirT.bytes, dateT, parseDate_fmtDate _ hd.1 hd.2, utf8_str, Option.bind_eq_bind,
      Option.bind_some, List.map_map, Option.map_none]
    have hb := mapM_bookingV (everyOther t.postings) hps
    simp only [Function.comp_def] at hb ⊢
    rw [hb]
    cases htar : t.targets with
    | none => rfl
    | some tg =>
      simp only [Option.map_some, List.map_map, Function.comp_def, mapM_utf8_strToks tg, Option.bind_some]
      rfl

end Knut.FromSyntax
