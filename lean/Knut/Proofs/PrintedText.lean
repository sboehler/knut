import Knut.Proofs.LoadViewsPrinted
/-!
# The text `journal.Print` writes is a rendering of items

`strToks (printX x) = renderT pad (dirView x)` for every kind of directive: the printer's text, as scanner tokens, is the
token-level rendering that `format` writes and the parser's completeness speaks of. `Rend pad s items vs` collects such texts
(closed under concatenation), so that a day and a journal are read off `printDay` and `print` part by part (`rend_print`);
`FItem.toks` is the same for a file of directives and `include` lines. Nothing here runs the parser.
-/
namespace Knut.FromSyntax
open Knut Knut.Syntax Knut.Utf8 Knut.Dec Knut.JournalPrinter

def dirToks (pad : Nat) (x : Directive) : List Tok := renderT pad (dirView x) ++ [tk 10]

theorem toks_line {s : String} {ts : List Tok} (h : strToks s = ts) : strToks (s ++ "\n") = ts ++ [tk 10] := by
  rw [strToks_append, nl_toks, h]

theorem text_price (pad : Nat) (p : Price) : strToks (printPrice p) = renderT pad (dirView (.price p)) := by
  simp only [printPrice, strToks_append, strToks_fmtDate, renderT, dirView, sp_toks, strToks_lit " price " (by decide +kernel),
    List.append_assoc, List.cons_append, List.nil_append]

theorem text_open (pad : Nat) (o : Open) : strToks (printOpen o) = renderT pad (dirView (.opening o)) := by
  simp only [printOpen, strToks_append, strToks_fmtDate, renderT, dirView, strToks_lit " open " (by decide +kernel)]

theorem text_close (pad : Nat) (c : Close) : strToks (printClose c) = renderT pad (dirView (.closing c)) := by
  simp only [printClose, strToks_append, strToks_fmtDate, renderT, dirView, strToks_lit " close " (by decide +kernel)]

theorem text_tx (pad : Nat) (t : Transaction) (hq : '"' ∉ t.description.toList) :
    strToks (printTx pad t) = renderT pad (dirView (.tx t)) := by
  have q1 : strToks " \"" = [tk 32, tk 34] := by decide +kernel
  have q2 : strToks "\"\n" = [tk 34, tk 10] := by decide +kernel
  rw [printTx, descText_id _ hq]
  simp only [strToks_append, strToks_fmtDate, strToks_postings, renderT, dirView, q1, q2, List.append_assoc,
    List.cons_append, List.nil_append]
  cases t.targets with
  | none => rfl
  | some tg =>
    -- literals as `String.ofList` of their characters, so that nothing decodes UTF-8
    have p1 : strToks "@performance(" = lits "@performance" ++ [tk 40] := by
      rw [strToks_lit _ (by rw [String.toList_ofList]; decide), lits_ofList, lits_ofList]; rfl
    have p2 : strToks ")\n" = [tk 41, tk 10] := by decide +kernel
    simp only [Option.map_some, strToks_append, strToks_targets, renderPerformanceT, p1, p2, List.append_assoc,
      List.cons_append, List.nil_append]

theorem toks_price (pad : Nat) (p : Price) : strToks (printPrice p ++ "\n") = dirToks pad (.price p) :=
  toks_line (text_price pad p)

theorem toks_open (pad : Nat) (o : Open) : strToks (printOpen o ++ "\n") = dirToks pad (.opening o) :=
  toks_line (text_open pad o)

theorem toks_close (pad : Nat) (o : Close) : strToks (printClose o ++ "\n") = dirToks pad (.closing o) :=
  toks_line (text_close pad o)

theorem toks_tx (pad : Nat) (t : Transaction) (hq : '"' ∉ t.description.toList) :
    strToks (printTx pad t ++ "\n") = dirToks pad (.tx t) :=
  toks_line (text_tx pad t hq)

/-- a single-balance assertion ends its line; a multi-balance assertion already ends with the line break of its last
balance -/
theorem toks_assertion (pad : Nat) (a : Assertion) (hne : a.balances ≠ []) :
    strToks (printAssertion a ++ "\n") =
      renderT pad (dirView (.assertion a)) ++ (if a.balances.length = 1 then [tk 10] else []) := by
  have lb : strToks " balance" = lits " balance" := strToks_lit _ (by rw [String.toList_ofList]; decide)
  simp only [printAssertion, dirView]
  match hbs : a.balances, hne with
  | [b], _ =>
    simp only [String.append_assoc, strToks_append, strToks_fmtDate, nl_toks, sp_toks, lb,
      show lits " balance " = lits " balance" ++ [tk 32] by rw [lits_ofList, lits_ofList]; rfl, renderT, List.map_cons,
      List.map_nil, ← strToks_balanceLine, List.length_cons, List.length_nil, if_true, List.append_assoc, List.cons_append,
      List.nil_append]
  | b1 :: b2 :: rest, _ =>
    have hl : ¬ ((b1 :: b2 :: rest).length = 1) := by simp
    rw [if_neg hl, List.append_nil, String.append_assoc, strToks_append, strToks_join_balances, strToks_append,
      strToks_fmtDate, lb]
    simp [renderT]

/-- a printed directive as an item of the main loop: its field view, no trailing blanks, one line break -/
def dirItem (x : Directive) : Syntax.Item := .dir [] default (dirView x) [] [tk 10]
def blankItem : Syntax.Item := .gap [] [] [tk 10]

/-- the items the journal printer produces -/
def GoodItem : Syntax.Item → Prop
  | .gap c w nl => c = [] ∧ w = [] ∧ nl = [tk 10]
  | .dir _ _ v w nl => v.ok ∧ v.canon ∧ w = [] ∧ nl = [tk 10]

theorem good_dirItem (x : Directive) (h : PrintableDir x) : GoodItem (dirItem x) :=
  ⟨(dirView_ok x h).1, (dirView_ok x h).2, rfl, rfl⟩

theorem good_blank : GoodItem blankItem := ⟨rfl, rfl, rfl⟩

theorem outToks_append (pad : Nat) (a b : List Syntax.Item) : outToks pad (a ++ b) = outToks pad a ++ outToks pad b := by
  induction a with
  | nil => rfl
  | cons i rest ih => simp [outToks, ih, List.append_assoc]

theorem viewsOf_append (a b : List Syntax.Item) : viewsOf (a ++ b) = viewsOf a ++ viewsOf b := by
  induction a with
  | nil => rfl
  | cons i rest ih => cases i <;> simp [viewsOf, ih]

theorem outToks_dirItems (pad : Nat) (xs : List Directive) : outToks pad (xs.map dirItem) = xs.flatMap (dirToks pad) := by
  induction xs with
  | nil => rfl
  | cons x rest ih => simp [outToks, Item.out, dirItem, dirToks, ih]

theorem viewsOf_dirItems (xs : List Directive) : viewsOf (xs.map dirItem) = xs.map dirView := by
  induction xs with
  | nil => rfl
  | cons x rest ih => rw [List.map_cons, List.map_cons, ← ih]; rfl

theorem outToks_blank (pad : Nat) : outToks pad [blankItem] = [tk 10] := by simp [outToks, Item.out, blankItem]
theorem viewsOf_blank : viewsOf [blankItem] = [] := rfl

/-! ### a text as a rendering of items

`Rend pad s items vs`: the tokens of `s` are `outToks pad items`, the items are what the journal printer produces
(`GoodItem`) and their field views are `vs`. The relation is closed under concatenation; a printed directive with its line
break and a blank line are the base cases. By these rules the text of a day and of a journal is read off `printDay` and
`print`, part by part. -/

structure Rend (pad : Nat) (s : String) (items : List Syntax.Item) (vs : List DirT) : Prop where
  toks : strToks s = outToks pad items
  views : viewsOf items = vs
  good : ∀ i ∈ items, GoodItem i

namespace Rend
variable {pad : Nat}

theorem nil : Rend pad "" [] [] := ⟨rfl, rfl, fun _ h => nomatch h⟩

theorem append {s₁ s₂ : String} {i₁ i₂ : List Syntax.Item} {v₁ v₂ : List DirT} (h₁ : Rend pad s₁ i₁ v₁)
    (h₂ : Rend pad s₂ i₂ v₂) : Rend pad (s₁ ++ s₂) (i₁ ++ i₂) (v₁ ++ v₂) :=
  ⟨by rw [strToks_append, outToks_append, h₁.toks, h₂.toks], by rw [viewsOf_append, h₁.views, h₂.views],
    fun i hi => (List.mem_append.mp hi).elim (h₁.good i) (h₂.good i)⟩

theorem item {s : String} {D : List Tok} {d : Syntax.Directive} {v : DirT} (hs : strToks s = renderT pad v ++ [tk 10])
    (hg : GoodItem (.dir D d v [] [tk 10])) : Rend pad s [.dir D d v [] [tk 10]] [v] :=
  ⟨by rw [hs]; simp [outToks, Item.out], rfl, fun i hi => by rw [List.mem_singleton.mp hi]; exact hg⟩

theorem line {s : String} {x : Directive} (h : PrintableDir x) (hs : strToks s = dirToks pad x) :
    Rend pad s [dirItem x] [dirView x] := item hs (good_dirItem x h)

theorem blank : Rend pad "\n" [blankItem] [] :=
  ⟨by rw [nl_toks, outToks_blank], rfl, fun i hi => by rw [List.mem_singleton.mp hi]; exact good_blank⟩

theorem views_eq {s : String} {items : List Syntax.Item} {vs vs' : List DirT} (h : Rend pad s items vs) (e : vs = vs') :
    Rend pad s items vs' := e ▸ h

theorem str_eq {s s' : String} {items : List Syntax.Item} {vs : List DirT} (h : Rend pad s items vs) (e : s = s') :
    Rend pad s' items vs := e ▸ h

theorem lines {α : Type} (f : α → String) (it : α → Syntax.Item) (v : α → DirT) : ∀ (l : List α),
    (∀ a ∈ l, Rend pad (f a) [it a] [v a]) → Rend pad (String.join (l.map f)) (l.map it) (l.map v)
  | [], _ => nil
  | a :: l, h => by
    rw [List.map_cons, String.join_cons]
    exact (h a List.mem_cons_self).append (lines f it v l fun b hb => h b (List.mem_cons_of_mem _ hb))

theorem join {α : Type} (f : α → String) (g : α → List Syntax.Item) (v : α → List DirT) : ∀ (l : List α),
    (∀ a ∈ l, Rend pad (f a) (g a) (v a)) → Rend pad (String.join (l.map f)) (l.flatMap g) (l.flatMap v)
  | [], _ => nil
  | a :: l, h => by
    rw [List.map_cons, String.join_cons, List.flatMap_cons, List.flatMap_cons]
    exact (h a List.mem_cons_self).append (join f g v l fun b hb => h b (List.mem_cons_of_mem _ hb))

end Rend

/-- the blank line after a non-empty group -/
def sepItems {α : Type} (l : List α) : List Syntax.Item := if l.isEmpty then [] else [blankItem]

theorem rend_sep {α : Type} (pad : Nat) (l : List α) : Rend pad (if l.isEmpty then "" else "\n") (sepItems l) [] := by
  unfold sepItems
  split
  · exact .nil
  · exact .blank

/-- the assertions of a day and the blank line that follows them: a multi-balance assertion is closed by the blank
line, a single-balance assertion by its own line break -/
def assertItems : List Assertion → List Syntax.Item
  | [] => []
  | [a] => if a.balances.length = 1 then [dirItem (.assertion a), blankItem] else [dirItem (.assertion a)]
  | a :: b :: rest => dirItem (.assertion a) :: assertItems (b :: rest)

/-- an assertion that another follows: its line break, and a blank line if it has several balances -/
theorem text_assertion_sep (pad : Nat) (a : Assertion) (hne : a.balances ≠ []) :
    strToks (printAssertion a ++ "\n" ++ (if a.balances.length != 1 then "\n" else "")) = dirToks pad (.assertion a) := by
  rw [strToks_append, toks_assertion pad a hne, dirToks]
  by_cases h1 : a.balances.length = 1
  · simp [h1, strToks, charsToks]
  · simp [h1, nl_toks]

theorem rend_assertions (pad : Nat) : ∀ (l : List Assertion), (∀ a ∈ l, PrintableDir (.assertion a)) →
    Rend pad (printAssertions l ++ (if l.isEmpty then "" else "\n")) (assertItems l) (l.map fun a => dirView (.assertion a))
  | [], _ => .nil
  | [a], h => by
    have ha := h a List.mem_cons_self
    have ht := toks_assertion pad a ha.2.1
    simp only [printAssertions, List.isEmpty_cons, Bool.false_eq_true, if_false, assertItems]
    split
    · -- a single balance: the assertion ends its own line, the blank line follows
      rename_i h1
      rw [if_pos h1] at ht
      exact (Rend.line ha ht).append .blank
    · -- several balances: the blank line is what closes the assertion
      rename_i h1
      rw [if_neg h1, List.append_nil] at ht
      exact Rend.line ha (by rw [strToks_append, ht, nl_toks, dirToks])
  | a :: b :: rest, h => by
    have ha := h a List.mem_cons_self
    have ih := rend_assertions pad (b :: rest) fun x hx => h x (List.mem_cons_of_mem _ hx)
    exact ((Rend.line ha (text_assertion_sep pad a ha.2.1)).append ih).str_eq
      (by simp only [printAssertions, String.append_assoc, List.isEmpty_cons])

def dayItems (d : Day) : List Syntax.Item :=
  d.prices.map (fun p => dirItem (.price p)) ++ (sepItems d.prices ++
  (d.openings.map (fun o => dirItem (.opening o)) ++ (sepItems d.openings ++
  ((sortTxs d.transactions).map (fun t => dirItem (.tx t)) ++
  (assertItems d.assertions ++
  (d.closings.map (fun c => dirItem (.closing c)) ++ sepItems d.closings))))))

theorem rend_day (pad : Nat) (d : Day) (h : ∀ x ∈ dayDirs d, PrintableDir x) :
    Rend pad (printDay pad d) (dayItems d) ((dayDirs d).map dirView) := by
  have hm := fun x => (mem_dayDirs d x).mpr
  have hp : ∀ p ∈ d.prices, PrintableDir (.price p) := fun p hp => h _ (hm _ (Or.inl ⟨p, hp, rfl⟩))
  have ho : ∀ o ∈ d.openings, PrintableDir (.opening o) := fun o ho => h _ (hm _ (Or.inr (Or.inl ⟨o, ho, rfl⟩)))
  have ht : ∀ t ∈ sortTxs d.transactions, PrintableDir (.tx t) := fun t ht =>
    h _ (hm _ (Or.inr (Or.inr (Or.inl ⟨t, by simpa [sortTxs] using ht, rfl⟩))))
  have ha : ∀ a ∈ d.assertions, PrintableDir (.assertion a) := fun a ha =>
    h _ (hm _ (Or.inr (Or.inr (Or.inr (Or.inl ⟨a, ha, rfl⟩)))))
  have hc : ∀ c ∈ d.closings, PrintableDir (.closing c) := fun c hc =>
    h _ (hm _ (Or.inr (Or.inr (Or.inr (Or.inr ⟨c, hc, rfl⟩)))))
  -- the seven parts of `printDay`, in its order; the string is re-associated to the right as `dayItems` is
  refine (((Rend.lines _ _ _ d.prices fun p hp' => Rend.line (hp p hp') (toks_price pad p)).append <|
    (rend_sep pad d.prices).append <|
    (Rend.lines _ _ _ d.openings fun o ho' => Rend.line (ho o ho') (toks_open pad o)).append <|
    (rend_sep pad d.openings).append <|
    (Rend.lines _ _ _ (sortTxs d.transactions) fun t ht' => Rend.line (ht t ht') (toks_tx pad t (ht t ht').2.1)).append <|
    (rend_assertions pad d.assertions ha).append <|
    (Rend.lines _ _ _ d.closings fun c hc' => Rend.line (hc c hc') (toks_close pad c)).append
    (rend_sep pad d.closings)).views_eq ?_).str_eq (by simp only [printDay, String.append_assoc])
  simp only [dayDirs, List.map_append, List.map_map, List.append_nil, List.nil_append, List.append_assoc, Function.comp_def]

theorem rend_print (j : List Day) (h : ∀ x ∈ journalDirs j, PrintableDir x) :
    Rend (padding j) (print j) (j.flatMap dayItems) ((journalDirs j).map dirView) := by
  rw [print, journalDirs, List.map_flatMap]
  exact Rend.join _ _ _ j fun d hd => rend_day _ d fun x hx => h x (List.mem_flatMap.mpr ⟨d, hd, hx⟩)

theorem toks_print (j : List Day) (h : ∀ x ∈ journalDirs j, PrintableDir x) :
    strToks (print j) = outToks (padding j) (j.flatMap dayItems) := (rend_print j h).toks

end Knut.FromSyntax

namespace Knut.Layout
open Knut Knut.Syntax Knut.Utf8 Knut.Commands Knut.FromSyntax Knut.JournalPrinter Knut.Dec

theorem FItem.toks (pad : Nat) (i : FItem) (h : i.Good) : strToks (i.text pad) = renderT pad i.view ++ [tk 10] := by
  cases i with
  | inl x =>
    cases x with
    | price p => exact toks_price pad p
    | opening o => exact toks_open pad o
    | closing c => exact toks_close pad c
    | tx t => exact toks_tx pad t h.2.1
    | assertion a =>
      have hl : (if a.balances.length = 1 then "" else "\n") = (if a.balances.length != 1 then "\n" else "") := by
        by_cases h1 : a.balances.length = 1 <;> simp [h1]
      rw [FItem.text, dirText, hl]
      exact text_assertion_sep pad a h.2.1
  | inr sp =>
    simp only [FItem.text, incText, FItem.view, renderT, strToks_append]
    rw [strToks_lit "include \"" (by decide), strToks_lit "\"\n" (by decide)]
    have : lits "\"\n" = [tk 34, tk 10] := by decide
    rw [this]
    simp

theorem FItem.good_item (i : FItem) (h : i.Good) : GoodItem i.item := by
  cases i with
  | inl x => exact good_dirItem x h
  | inr sp => exact ⟨contentOK_desc sp h, canon_charsToks _, rfl, rfl⟩

end Knut.Layout
