/-!
# A few identities of rational arithmetic, stated once

The proofs about amounts (mark-to-market, imports) rearrange sums of four terms and cancel zeros; core has the
ring axioms of `Rat` one by one, these are the combinations that recur.  `sum_rec_append` stands here and not with the list sums of
`Proofs/MapSum.lean` because its users (`Proofs/Accrual.lean`, `Proofs/ImportEffects.lean`) sit below the map layer: this module imports nothing.
-/
namespace Knut

theorem sub_zero_rat (x : Rat) : x - 0 = x := by rw [Rat.sub_eq_add_neg, Rat.neg_zero, Rat.add_zero]

theorem add_sub_cancel_left_rat (x y : Rat) : x + y - x = y := by grind

theorem add_add_add_comm_rat (a b c d : Rat) : (a + b) + (c + d) = (a + c) + (b + d) := by
  rw [Rat.add_assoc, Rat.add_assoc, ← Rat.add_assoc b, Rat.add_comm b c, Rat.add_assoc]

/-- for the sums that the specifications define by recursion over the postings (`Spec.booked`, `Spec.Import.effectOn`, …) -/
theorem sum_rec_append {α : Type} {F : List α → Rat} {g : α → Rat} (h0 : F [] = 0) (hc : ∀ x xs, F (x :: xs) = g x + F xs)
    (l1 l2 : List α) : F (l1 ++ l2) = F l1 + F l2 := by
  induction l1 with
  | nil => rw [List.nil_append, h0, Rat.zero_add]
  | cons x xs ih => rw [List.cons_append, hc, hc, ih, Rat.add_assoc]

end Knut
