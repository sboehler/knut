import Knut.Model.Registry
/-!
# The shared registries: what a stretch of a schedule may do to the registry

`Keeps valid r r' es` is closed under doing nothing and under concatenation, and a call of `Get` is one of three atoms: it returns
what the registry holds (`found`: section 1, and the re-check of section 2), it rejects an invalid name (`invalid`), it allocates
(`alloc`).  The clauses of `Properties/C19Registry.lean` read the `Keeps` of a whole schedule from the start (`start_keeps`).
-/
namespace Knut.C19
open Knut.Registry

/-- registry invariant: identities are below the allocation counter and pairwise different -/
def RegInv (r : Reg) : Prop :=
  (∀ e ∈ r.index, e.2 < r.next) ∧ r.index.Pairwise (fun a b => a.2 ≠ b.2)

def RegValid (valid : String → Bool) (r : Reg) : Prop := ∀ m i, r.lookup m = some i → valid m = true

/-- what an event may say: the error only for an invalid name, an object only for a valid one -/
def EventOK (valid : String → Bool) (ev : Event) : Prop :=
  (ev.ret = .err → valid ev.name = false) ∧ (∀ i, ev.ret = .obj i → valid ev.name = true)

theorem lookup_mem {r : Reg} {n : String} {i : Nat} (h : r.lookup n = some i) : (n, i) ∈ r.index := by
  obtain ⟨e, hf, rfl⟩ := Option.map_eq_some_iff.mp h
  have hb := List.find?_some hf
  exact (eq_of_beq hb : e.1 = n) ▸ List.mem_of_find?_eq_some hf

theorem lookup_inj {r : Reg} (hi : RegInv r) {n m : String} {i : Nat}
    (hn : r.lookup n = some i) (hm : r.lookup m = some i) : n = m := by
  have h1 := lookup_mem hn
  have h2 := lookup_mem hm
  have hp := hi.2
  generalize r.index = l at h1 h2 hp
  induction l with
  | nil => cases h1
  | cons e l ih =>
    rw [List.pairwise_cons] at hp
    rcases List.mem_cons.1 h1 with a | a <;> rcases List.mem_cons.1 h2 with b | b
    · have h3 := a.trans b.symm; injection h3
    · subst a; exact absurd rfl (hp.1 (m, i) b)
    · subst b; exact absurd rfl (hp.1 (n, i) a)
    · exact ih a b hp.2

theorem lookup_insert (n m : String) (k : Nat) (r : Reg) :
    Reg.lookup { index := (n, k) :: r.index, next := r.next + 1 } m = if n = m then some k else r.lookup m := by
  unfold Reg.lookup
  by_cases h : n = m
  · simp [h]
  · have : (n == m) = false := by simpa using h
    simp only [List.find?_cons, this, if_neg h]

/-- what a stretch of a schedule that reports the events `es` may do to the registry -/
structure Keeps (valid : String → Bool) (r r' : Reg) (es : List Event) : Prop where
  inv : RegInv r'
  mono : ∀ m i, r.lookup m = some i → r'.lookup m = some i
  ret : ∀ ev ∈ es, ∀ i, ev.ret = .obj i → r'.lookup ev.name = some i
  valid : RegValid valid r → RegValid valid r' ∧ ∀ ev ∈ es, EventOK valid ev

variable {valid : String → Bool} {r : Reg}

theorem Keeps.refl (hi : RegInv r) : Keeps valid r r [] :=
  ⟨hi, fun _ _ h => h, nofun, fun hv => ⟨hv, nofun⟩⟩

theorem Keeps.trans {r1 r2 : Reg} {es1 es2 : List Event} (h1 : Keeps valid r r1 es1)
    (h2 : Keeps valid r1 r2 es2) : Keeps valid r r2 (es1 ++ es2) where
  inv := h2.inv
  mono m i h := h2.mono m i (h1.mono m i h)
  -- an object reported in the first stretch is still the binding of its name after the second
  ret ev hev i hr := (List.mem_append.1 hev).elim (fun he => h2.mono _ _ (h1.ret ev he i hr)) fun he => h2.ret ev he i hr
  valid hv := ⟨(h2.valid (h1.valid hv).1).1, fun ev hev =>
    (List.mem_append.1 hev).elim ((h1.valid hv).2 ev) ((h2.valid (h1.valid hv).1).2 ev)⟩

theorem Keeps.one (hi : RegInv r) (ev : Event) (hret : ∀ i, ev.ret = .obj i → r.lookup ev.name = some i)
    (hok : RegValid valid r → EventOK valid ev) : Keeps valid r r [ev] :=
  ⟨hi, fun _ _ h => h, fun _ he => List.mem_singleton.1 he ▸ hret,
    fun hv => ⟨hv, fun _ he => List.mem_singleton.1 he ▸ hok hv⟩⟩

theorem Keeps.found (hi : RegInv r) (t : Nat) {n : String} {i : Nat} (hl : r.lookup n = some i) :
    Keeps valid r r [⟨t, n, .obj i⟩] :=
  .one hi _ (fun _ hj => Ret.obj.inj hj ▸ hl) fun hv => ⟨nofun, fun _ _ => hv n i hl⟩

theorem Keeps.invalid (hi : RegInv r) (t : Nat) {n : String} (hv : valid n = false) : Keeps valid r r [⟨t, n, .err⟩] :=
  .one hi _ nofun fun _ => ⟨fun _ => hv, nofun⟩

/-- the fresh identity is above all others, the new binding shadows nothing (`hl`) -/
theorem Keeps.alloc (hi : RegInv r) (t : Nat) {n : String} (hl : r.lookup n = none) (hv : valid n = true) :
    Keeps valid r { index := (n, r.next) :: r.index, next := r.next + 1 } [⟨t, n, .obj r.next⟩] where
  inv := ⟨fun e he => (List.mem_cons.1 he).elim (fun h => by subst h; exact Nat.lt_succ_self _) fun h => Nat.lt_succ_of_lt (hi.1 e h),
    List.pairwise_cons.2 ⟨fun e he => Nat.ne_of_gt (hi.1 e he), hi.2⟩⟩
  mono m i hm := by
    have : n ≠ m := by rintro rfl; rw [hl] at hm; cases hm
    rw [lookup_insert, if_neg this]; exact hm
  ret _ he i hr := by cases List.mem_singleton.1 he; rw [lookup_insert, if_pos rfl, Ret.obj.inj hr]
  valid hr := by
    refine ⟨fun m i hm => ?_, fun _ he => List.mem_singleton.1 he ▸ ⟨nofun, fun _ _ => hv⟩⟩
    rw [lookup_insert] at hm
    split at hm
    · rename_i hnm; exact hnm ▸ hv
    · exact hr m i hm

theorem slow_keeps {r' : Reg} {n : String} {ret : Ret} (t : Nat)
    (hi : RegInv r) (h : slow true valid r n = (r', ret)) : Keeps valid r r' [⟨t, n, ret⟩] := by
  unfold slow at h
  rw [if_pos rfl] at h
  cases hl : r.lookup n with
  | some i => rw [hl] at h; cases h; exact .found hi t hl
  | none =>
    rw [hl] at h
    cases hv : valid n with
    | false => rw [hv] at h; cases h; exact .invalid hi t hv
    | true => rw [hv] at h; cases h; exact .alloc hi t hl hv

theorem step_keeps {s s' : Sys} {t : Nat} {e : Option Event}
    (hi : RegInv s.reg) (h : step true valid s t = (s', e)) : Keeps valid s.reg s'.reg e.toList := by
  unfold step at h
  split at h
  · cases h; exact .refl hi
  · split at h
    · rename_i n _
      cases hs : slow true valid s.reg n with
      | mk r' ret => rw [hs] at h; cases h; exact slow_keeps t hi hs
    · split at h
      · cases h; exact .refl hi
      · split at h
        · rename_i hl; cases h; exact .found hi t hl
        · cases h; exact .refl hi

theorem run_keeps : ∀ (ts : List Nat) {s s' : Sys} {es : List Event},
    RegInv s.reg → run true valid s ts = (s', es) → Keeps valid s.reg s'.reg es
  | [], s, s', es, hi, h => by cases h; exact .refl hi
  | t :: ts, s, s', es, hi, h => by
    unfold run at h
    cases h1 : step true valid s t with
    | mk s1 e =>
      cases h2 : run true valid s1 ts with
      | mk s2 es2 =>
        simp only [h1, h2] at h
        cases h
        have k1 := step_keeps hi h1
        exact k1.trans (run_keeps ts k1.inv h2)

theorem regInv_start (programs : List (List String)) : RegInv (start programs).reg :=
  ⟨fun _ h => (by cases h), List.Pairwise.nil⟩

theorem start_keeps (valid : String → Bool) (programs : List (List String)) (schedule : List Nat) :
    Keeps valid {} (run true valid (start programs) schedule).1.reg (run true valid (start programs) schedule).2 :=
  run_keeps schedule (regInv_start programs) rfl

end Knut.C19
