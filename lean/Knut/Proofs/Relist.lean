import Knut.Proofs.BalanceMaps
/-! A map re-listed: a list that answers every lookup alike is what a Go `range` over the map may visit.  The runs `RunOrd`, `ValuedOrd` of the
composition modules (`FactsAgree/TransProcessAll*.lean`) and `ProcOrd` (`Proofs/BeancountRun.lean`) re-list `vQty`, `cQty` before each day. -/
namespace Knut.FactsAgree.TransProcessAll
open Knut

def Relist (q q' : Knut.AMap Position Rat) : Prop := ∀ p, Knut.AMap.find? q' p = Knut.AMap.find? q p

theorem Relist.refl (q : Knut.AMap Position Rat) : Relist q q := fun _ => rfl

theorem Relist.get {q q' : Knut.AMap Position Rat} (h : Relist q q') (k : Position) (d : Rat) : q'.get k d = q.get k d :=
  AMap.get_congr (h k) d

end Knut.FactsAgree.TransProcessAll
