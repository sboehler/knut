import Knut.Model.BalanceReport
import Knut.Proofs.MapSum
import Knut.Proofs.RatLemmas
/-! `BalanceReport.renderVals` folds over the column dates with a running total.  `numCells` names that fold (`model_nums`: the fold of the renderer is `numCells`), `numCells_getElem` and `numCells_spec` give
what column `k` shows in closed form, for `--diff` and cumulative reports alike, `renderVals_eq` is the row function with the fold named: what C01 (the Delta row), C03 (the cells of an
account row) and C14 (the width of the table) read of the renderer. -/
namespace Knut.FactsAgree.TransRender
open Knut
open Knut.Table (Cell)

/-- the number cells of a row (model side) -/
def numCells (diff neg : Bool) (cell : Int → Rat) : List Int → Rat → List Cell
  | [], _ => []
  | d :: rest, total =>
    Cell.num (if neg then -(if diff then cell d else total + cell d) else (if diff then cell d else total + cell d)) ::
      numCells diff neg cell rest (if diff then total else total + cell d)

theorem fold_nums (diff neg : Bool) (cell : Int → Rat) (f : List Cell × Rat → Int → List Cell × Rat)
    (hstep : ∀ (acc : List Cell) (total : Rat) (d : Int), f (acc, total) d =
      (acc ++ [Cell.num (if neg then -(if diff then cell d else total + cell d) else (if diff then cell d else total + cell d))],
        if diff then total else total + cell d))
    (ds : List Int) (acc : List Cell) (total : Rat) : (ds.foldl f (acc, total)).1 = acc ++ numCells diff neg cell ds total := by
  induction ds generalizing acc total with
  | nil => simp [numCells]
  | cons d rest ih =>
    rw [List.foldl_cons, hstep, ih]
    simp [numCells, List.append_assoc]

/-- the number cells of `BalanceReport.renderVals` -/
theorem model_nums (diff neg : Bool) (cell : Int → Rat) (ds : List Int) (acc : List Cell) (total : Rat) :
    (ds.foldl (fun (acc : List Cell × Rat) d =>
        let v := cell d
        let (shown, total) := if diff then (v, acc.2) else (acc.2 + v, acc.2 + v)
        (acc.1 ++ [Cell.num (if neg then -shown else shown)], total)) (acc, total)).1 = acc ++ numCells diff neg cell ds total := by
  exact fold_nums diff neg cell _ (by intro acc total d; cases diff <;> rfl) ds acc total

end Knut.FactsAgree.TransRender

namespace Knut.MTM
open Knut
open Knut.Table (Cell)
open Knut.BalanceReport
open Knut.FactsAgree.TransRender (numCells model_nums)

/-- the number a cell shows; an empty cell stands for 0 -/
def cellVal : Cell → Rat
  | .num x => x
  | _ => 0

/-- what column `k` of a value line shows -/
def shownAt (diff : Bool) (ends : List Int) (f : Int → Rat) (k : Nat) : Rat :=
  if diff then f (ends.getD k 0) else ((ends.take (k + 1)).map f).sum

theorem shownAt_zero (diff : Bool) (ends : List Int) (f : Int → Rat) (hz : ∀ d, f d = 0) (k : Nat) :
    shownAt diff ends f k = 0 := by
  unfold shownAt
  split
  · exact hz _
  · exact MapSum.sum_map_eq_zero _ _ (fun d _ => hz d)

theorem numCells_length (diff neg : Bool) (f : Int → Rat) : ∀ (ds : List Int) (tot : Rat),
    (numCells diff neg f ds tot).length = ds.length
  | [], _ => rfl
  | _ :: ds, _ => congrArg (· + 1) (numCells_length diff neg f ds _)

/-- column `k` shows its own sum in a `--diff` report, the running total otherwise -/
theorem numCells_getElem (diff neg : Bool) (f : Int → Rat) : ∀ (ds : List Int) (tot : Rat) (k : Nat) (hk : k < ds.length),
    cellVal ((numCells diff neg f ds tot)[k]'(by rw [numCells_length]; exact hk)) =
      (if neg then -(if diff then f ds[k] else tot + ((ds.take (k + 1)).map f).sum)
       else (if diff then f ds[k] else tot + ((ds.take (k + 1)).map f).sum))
  | d :: ds, tot, 0, _ => by
    simp only [numCells, List.getElem_cons_zero, List.take_succ_cons, List.take_zero, List.map_cons,
      List.map_nil, List.sum_cons, List.sum_nil, Rat.add_zero]
    cases neg <;> rfl
  | d :: ds, tot, k + 1, hk => by
    simp only [numCells, List.getElem_cons_succ, List.take_succ_cons, List.map_cons, List.sum_cons]
    rw [numCells_getElem diff neg f ds _ k (by simpa using hk)]
    cases diff
    · simp only [Bool.false_eq_true, if_false, Rat.add_assoc]
    · rfl

theorem numCells_spec (diff neg : Bool) (ends : List Int) (f : Int → Rat) :
    (numCells diff neg f ends 0).length = ends.length ∧
    ∀ (k : Nat) (hk : k < ends.length) (hk' : k < (numCells diff neg f ends 0).length),
      cellVal (numCells diff neg f ends 0)[k] = (if neg then -(shownAt diff ends f k) else shownAt diff ends f k) := by
  refine ⟨numCells_length diff neg f ends 0, fun k hk _ => ?_⟩
  rw [numCells_getElem diff neg f ends 0 k hk]
  unfold shownAt
  simp only [List.getD_eq_getElem?_getD, List.getElem?_eq_getElem hk, Option.getD_some, Rat.zero_add]

/-- the commodity cell of a value line: the line's commodity, or the valuation commodity for the one line of a valued row -/
def commCellOf (rc : RenderCfg) (c : Option Commodity) : Cell :=
  match c with
  | some x => Cell.text x.toList .left 0
  | none => match rc.valuation with
    | some v => Cell.text v.toList .left 0
    | none => Cell.empty

theorem renderVals_eq (rc : RenderCfg) (dc : Bool) (indent : Nat) (name : String) (neg : Bool)
    (coms : List (Option Commodity)) (cell : Option Commodity → Int → Rat) :
    renderVals rc dc indent name neg coms cell =
      if coms.isEmpty then
        [Cell.text name.toList .left indent :: List.replicate ((if dc then 1 else 0) + rc.endDates.length) .empty]
      else
        coms.zipIdx.map (fun (c, i) =>
          (if i = 0 then Cell.text name.toList .left indent else Cell.empty) ::
            (if dc then [commCellOf rc c] else []) ++ numCells rc.diff neg (cell c) rc.endDates 0) := by
  unfold renderVals
  simp only
  split
  · have : 1 + (if dc = true then 1 else 0) + rc.endDates.length - 1 = (if dc = true then 1 else 0) + rc.endDates.length := by
      omega
    rw [this]
  · simp only [model_nums, List.nil_append]; rfl

theorem numCells_zero (diff neg : Bool) (ends : List Int) (f : Int → Rat) (hz : ∀ d, f d = 0) :
    numCells diff neg f ends 0 = ends.map fun _ => Cell.num 0 := by
  induction ends with
  | nil => rfl
  | cons d ds ih =>
    rw [numCells, hz d, Rat.add_zero, ite_self, ih, List.map_cons]
    cases neg <;> cases diff <;> rfl

/-- the only numbers in the rows of one name are cells of its value lines -/
theorem renderVals_num {rc : RenderCfg} {dc : Bool} {indent : Nat} {name : String} {neg : Bool}
    {coms : List (Option Commodity)} {cell : Option Commodity → Int → Rat} {row : List Cell} {n : Rat}
    (hrow : row ∈ renderVals rc dc indent name neg coms cell) (hn : Cell.num n ∈ row) :
    ∃ c, Cell.num n ∈ numCells rc.diff neg (cell c) rc.endDates 0 := by
  rw [renderVals_eq] at hrow
  split at hrow
  · obtain rfl := List.mem_singleton.mp hrow
    rcases List.mem_cons.mp hn with h | h
    · cases h
    · cases (List.mem_replicate.mp h).2
  · obtain ⟨⟨c, i⟩, _, rfl⟩ := List.mem_map.mp hrow
    rcases List.mem_cons.mp hn with h | h
    · split at h <;> cases h
    · rcases List.mem_append.mp h with h | h
      · split at h
        · obtain h := List.mem_singleton.mp h
          unfold commCellOf at h
          split at h
          · cases h
          · split at h <;> cases h
        · cases h
      · exact ⟨c, h⟩

theorem renderVals_length (rc : RenderCfg) (dc : Bool) (indent : Nat) (name : String) (neg : Bool)
    (coms : List (Option Commodity)) (cell : Option Commodity → Int → Rat) :
    ∀ row ∈ renderVals rc dc indent name neg coms cell, row.length = 1 + (if dc then 1 else 0) + rc.endDates.length := by
  intro row hrow
  rw [renderVals_eq] at hrow
  split at hrow
  · rw [List.mem_singleton.mp hrow, List.length_cons, List.length_replicate]; omega
  · obtain ⟨⟨c, i⟩, _, rfl⟩ := List.mem_map.mp hrow
    simp only [List.length_append, List.length_cons, (numCells_spec _ _ _ _).1]
    cases dc <;> simp <;> omega

end Knut.MTM
