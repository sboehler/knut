import Knut.Model.BalanceReport
import Knut.Proofs.MapSum
/-! Every number a balance report shows is `sumAmounts (es.filter Q)` for a selection `Q` of inserts — a cell
(`BalanceReport.cellAt`), a running total (`MTM.cumSel`), the conservation sums of C01 (`Knut.sumSel`), each by `rfl` —
so what a proof needs of such sums (`[]`, `::`, `++`, a permutation, a selection split or joined) is stated once, here. -/
namespace Knut.BalanceReport
open Knut

theorem sumAmounts_eq (es : List Entry) : sumAmounts es = (es.map (·.amount)).sum := rfl

theorem sumAmounts_nil : sumAmounts [] = 0 := rfl

theorem sumAmounts_cons (e : Entry) (es : List Entry) : sumAmounts (e :: es) = e.amount + sumAmounts es := rfl

theorem sumAmounts_append (xs ys : List Entry) : sumAmounts (xs ++ ys) = sumAmounts xs + sumAmounts ys := by
  unfold sumAmounts
  rw [List.map_append, List.sum_append]

theorem sumAmounts_perm {es es' : List Entry} (hp : es.Perm es') : sumAmounts es = sumAmounts es' :=
  MapSum.sum_perm (hp.map _)

theorem sumAmounts_map {α : Type} (f : α → Entry) (l : List α) : sumAmounts (l.map f) = (l.map (fun x => (f x).amount)).sum := by
  unfold sumAmounts
  rw [List.map_map]
  rfl

theorem sumAmounts_filter_cons (Q : Entry → Bool) (e : Entry) (es : List Entry) :
    sumAmounts ((e :: es).filter Q) = (if Q e = true then e.amount else 0) + sumAmounts (es.filter Q) := by
  rw [List.filter_cons]
  split
  · rfl
  · exact (Rat.zero_add _).symm

theorem sumAmounts_filter_congr {Q Q' : Entry → Bool} {es : List Entry} (h : ∀ e ∈ es, Q e = Q' e) :
    sumAmounts (es.filter Q) = sumAmounts (es.filter Q') := congrArg sumAmounts (List.filter_congr h)

theorem sumAmounts_filter_nil {Q : Entry → Bool} {es : List Entry} (h : ∀ e ∈ es, Q e = false) :
    sumAmounts (es.filter Q) = 0 := by
  rw [List.filter_eq_nil_iff.mpr (fun e he hq => by rw [h e he] at hq; exact Bool.false_ne_true hq)]
  rfl

theorem sumAmounts_filter_split (Q p : Entry → Bool) : ∀ (es : List Entry),
    sumAmounts (es.filter Q) = sumAmounts ((es.filter p).filter Q) + sumAmounts ((es.filter (fun e => !p e)).filter Q)
  | [] => (Rat.add_zero 0).symm
  | e :: es => by
    have ih := sumAmounts_filter_split Q p es
    rw [sumAmounts_filter_cons, ih, List.filter_cons, List.filter_cons]
    cases hp : p e
    · rw [if_neg Bool.false_ne_true, show (!false) = true from rfl, if_pos rfl, sumAmounts_filter_cons, Rat.add_left_comm]
    · rw [if_pos rfl, show (!true) = false from rfl, if_neg Bool.false_ne_true, sumAmounts_filter_cons, Rat.add_assoc]

theorem sumAmounts_filter_or (p q : Entry → Bool) : ∀ (es : List Entry), (∀ e ∈ es, ¬ (p e = true ∧ q e = true)) →
    sumAmounts (es.filter (fun e => p e || q e)) = sumAmounts (es.filter p) + sumAmounts (es.filter q)
  | [], _ => (Rat.add_zero 0).symm
  | e :: es, h => by
    have ih := sumAmounts_filter_or p q es (fun x hx => h x (List.mem_cons_of_mem _ hx))
    have he := h e List.mem_cons_self
    rw [sumAmounts_filter_cons, sumAmounts_filter_cons, sumAmounts_filter_cons, ih]
    cases hp : p e <;> cases hq : q e
    · rw [show (false || false) = false from rfl, if_neg Bool.false_ne_true, Rat.zero_add, Rat.zero_add, Rat.zero_add]
    · rw [show (false || true) = true from rfl, if_pos rfl, if_neg Bool.false_ne_true, Rat.zero_add, Rat.add_left_comm]
    · rw [show (true || false) = true from rfl, if_pos rfl, if_neg Bool.false_ne_true, Rat.zero_add, Rat.add_assoc]
    · exact absurd ⟨hp, hq⟩ he

/-- a sum of selected inserts, split by a key over a duplicate-free list `S` of keys covering the selected inserts -/
theorem sumAmounts_filter_by_key {κ : Type} [DecidableEq κ] (key : Entry → κ) (S : List κ) (hS : S.Nodup) (Q : Entry → Bool)
    (es : List Entry) (h : ∀ e ∈ es, Q e = true → key e ∈ S) :
    sumAmounts (es.filter Q) = (S.map (fun k => sumAmounts (es.filter (fun e => decide (key e = k) && Q e)))).sum := by
  rw [sumAmounts_eq, MapSum.sum_by_key_gen key (·.amount) S hS (es.filter Q)
    (fun e he => h e (List.mem_filter.mp he).1 (List.mem_filter.mp he).2)]
  simp only [List.filter_filter]
  rfl

/-- the inserts `Report.Insert` files under column date `d` and commodity key `c` (`none`: all commodities, in a valued report without `-s`) -/
def cellSel (byCommodity : Bool) (c : Option Commodity) (d : Int) (e : Entry) : Bool :=
  e.date = some d && (if byCommodity then some e.commodity else none) = c

theorem cellAt_eq (es : List Entry) (byCommodity : Bool) (c : Option Commodity) (d : Int) :
    cellAt es byCommodity c d = sumAmounts (es.filter (cellSel byCommodity c d)) := rfl

theorem cellAt_nil (byCommodity : Bool) (c : Option Commodity) (d : Int) : cellAt [] byCommodity c d = 0 := rfl

theorem cellAt_cons (x : Entry) (es : List Entry) (byC : Bool) (c : Option Commodity) (d : Int) :
    cellAt (x :: es) byC c d =
      (if (x.date = some d && (if byC then some x.commodity else none) = c) = true then x.amount else 0) + cellAt es byC c d :=
  sumAmounts_filter_cons _ x es

theorem cellAt_append (xs ys : List Entry) (byC : Bool) (c : Option Commodity) (d : Int) :
    cellAt (xs ++ ys) byC c d = cellAt xs byC c d + cellAt ys byC c d := by
  rw [cellAt_eq, List.filter_append, sumAmounts_append]
  rfl

theorem cellAt_perm {es es' : List Entry} (hp : es.Perm es') (byC : Bool) (c : Option Commodity) (d : Int) :
    cellAt es byC c d = cellAt es' byC c d := sumAmounts_perm (hp.filter _)

theorem cellAt_split (p : Entry → Bool) (es : List Entry) (byC : Bool) (c : Option Commodity) (d : Int) :
    cellAt es byC c d = cellAt (es.filter p) byC c d + cellAt (es.filter (fun e => !p e)) byC c d :=
  sumAmounts_filter_split _ p es

theorem cellAt_eq_zero {es : List Entry} {byC : Bool} {c : Option Commodity} {d : Int}
    (h : ∀ e ∈ es, cellSel byC c d e = false) : cellAt es byC c d = 0 := sumAmounts_filter_nil h

theorem valsCommodities_zero (es : List Entry) (byCom : Bool) (c : Option Commodity) (h : c ∉ valsCommodities es byCom) :
    ∀ d, cellAt es byCom c d = 0 := by
  intro d
  apply Classical.byContradiction
  intro hne
  apply h
  unfold valsCommodities
  rw [(List.mergeSort_perm _ _).mem_iff, List.mem_eraseDups]
  refine List.mem_map.mpr ⟨(some d, c), ?_, rfl⟩
  rw [List.mem_filter]
  constructor
  · rw [List.mem_eraseDups]
    -- some insert carries the key, otherwise the sum is empty
    apply Classical.byContradiction
    intro hno
    refine hne (cellAt_eq_zero fun e he => Bool.eq_false_iff.mpr fun hc => hno ?_)
    simp only [cellSel, Bool.and_eq_true, decide_eq_true_eq] at hc
    exact List.mem_map.mpr ⟨e, he, by rw [hc.1, hc.2]⟩
  · unfold cellAt at hne
    simpa using hne

end Knut.BalanceReport
