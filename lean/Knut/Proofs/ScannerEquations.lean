import Knut.Syntax.Scanner
/-!
# The scanner's loops `readWhileL` and `readUntilL` by one equation each, in `Res.bind` form

`Syntax/Scanner.lean` writes a call of `Advance` as `match advance s with | .ok … | .err e s' => .err (e ++ [frame]) s'` (or
`match advanceTok …` after a case split on the token list); each `match` is its own matcher and none unfolds to `Res.bind`.
Here the two loops that recurse over the token list get their equation with that step as `(advance s).bind (errAt msg start) …`
and with the state as argument: the form the agreement proofs of `FactsAgree/TransScanner.lean` walk through.
-/
namespace Knut.Syntax
open Knut.Utf8

/-- the decoration every scanner method puts around an error of `Advance`: `directives.Error{msg, sc.Range(), err}` -/
abbrev errAt (msg : String) (start : Nat) : Err → St → Err := fun e s' => e ++ [Frame.at msg (rng start s')]

theorem advance_ok_lt {s s' : St} (h : advance s = .ok () s') : s'.toks.length < s.toks.length := by
  cases hE : atEOF s
  · have := (advance_extS s hE).length_lt
    rw [h] at this; exact this
  · obtain ⟨off, toks⟩ := s
    cases toks with
    | nil => cases h
    | cons _ _ => cases hE

theorem readWhileL_eq (p : Nat → Bool) (start : Nat) (s : St) :
    readWhileL p start s.off s.toks =
      if (p (cur s) && !atEOF s) = true then
        (advance s).bind (errAt "reading next character" start) fun _ s' => readWhileL p start s'.off s'.toks
      else .ok ⟨start, s.off⟩ s := by
  obtain ⟨off, toks⟩ := s
  cases toks with
  | nil => rw [readWhileL, if_neg (by simp [atEOF])]
  | cons t rest =>
    rw [readWhileL]
    have hst := advanceTok_st off t rest
    show _ = if (p t.r && true) = true then (advanceTok off t rest).bind _ _ else _
    rw [Bool.and_true]
    cases h : advanceTok off t rest with
    | err e s' => rfl
    | ok u s' => rw [h] at hst; cases hst; rfl

theorem readUntilL_eq (desc : String) (p : Nat → Bool) (start : Nat) (s : St) :
    readUntilL desc p start s.off s.toks =
      if p (cur s) = true then .ok ⟨start, s.off⟩ s
      else (advance s).bind (errAt "reading next character" start) fun _ s' =>
        if atEOF s' = true then .err [Frame.at ("unexpected end of file, want " ++ desc) (rng start s')] s'
        else readUntilL desc p start s'.off s'.toks := by
  obtain ⟨off, toks⟩ := s
  cases toks with
  | nil => rw [readUntilL]; show _ = if p EOF = true then _ else _; cases p EOF <;> rfl
  | cons t rest =>
    rw [readUntilL]
    have hst := advanceTok_st off t rest
    show _ = if _ then _ else (advanceTok off t rest).bind _ _
    cases h : advanceTok off t rest with
    | err e s' => rfl
    | ok u s' => rw [h] at hst; cases hst; cases rest <;> rfl

theorem cur_cons (off : Nat) (t : Tok) (r : List Tok) : cur ⟨off, t :: r⟩ = t.r := rfl
theorem cur_nil (off : Nat) : cur ⟨off, []⟩ = EOF := rfl

theorem atEOF_cons (off : Nat) (t : Tok) (r : List Tok) : atEOF ⟨off, t :: r⟩ = false := rfl
theorem atEOF_nil (off : Nat) : atEOF ⟨off, []⟩ = true := rfl

theorem atEOF_iff {s : St} : atEOF s = true ↔ s.toks = [] := by simp [atEOF]

theorem cur_of_consumed {s : St} {t : Tok} {c : List Tok} {s' : St} (h : Consumed s (t :: c) s') : cur s = t.r := by
  unfold cur
  rw [h.1]
  rfl

end Knut.Syntax
