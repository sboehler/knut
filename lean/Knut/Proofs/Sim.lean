import Knut.Proofs.ListRel
/-!
# Folds and runs in `Except`, and two runs in simulation

What every step of a fold keeps holds of its result (`foldl_inv`, `foldlM_ok_inv`, `foldlM_ok_ind`, `foldlM_ok_hist`); a successful
`>>=`, `foldlM` or `mapM` is taken apart into its successful steps; `Sim R E x y` says that two `Except` runs both succeed in
related states or both fail with related errors, and is closed under `>>=`, `map` and `foldlM` (`ESim` is the same relation as an
inductive type, for `cases`).
-/
namespace Knut

/-! ### Plain folds -/

theorem foldl_inv {σ α : Type} {f : σ → α → σ} (P : σ → Prop) : ∀ (xs : List α) (s : σ),
    (∀ s x, x ∈ xs → P s → P (f s x)) → P s → P (xs.foldl f s)
  | [], _, _, h => h
  | x :: xs, s, step, h =>
    foldl_inv P xs (f s x) (fun s y hy => step s y (List.mem_cons_of_mem _ hy)) (step s x List.mem_cons_self h)

theorem foldl_rel {σ τ α : Type} (R : σ → τ → Prop) {f : σ → α → σ} {g : τ → α → τ}
    (h : ∀ s t x, R s t → R (f s x) (g t x)) : ∀ (xs : List α) (s : σ) (t : τ), R s t → R (xs.foldl f s) (xs.foldl g t)
  | [], _, _, r => r
  | x :: xs, s, t, r => foldl_rel R h xs _ _ (h s t x r)

/-- `for x in l { acc = acc ⊕ c x }` with `⊕` associative: what the accumulator held at the start comes out in front -/
theorem foldl_op_init {α β : Type} (op : β → β → β) (hassoc : ∀ a b c, op (op a b) c = op a (op b c)) (c : α → β)
    (l : List α) : ∀ a b : β,
    l.foldl (fun acc x => op acc (c x)) (op a b) = op a (l.foldl (fun acc x => op acc (c x)) b) := by
  induction l with
  | nil => exact fun _ _ => rfl
  | cons x l ih => intro a b; rw [List.foldl_cons, List.foldl_cons, hassoc, ih]

/-- a quantity that every step of a fold raises by the weight of the element, under an invariant of the steps -/
theorem foldl_add {σ α : Type} (P : σ → Prop) (g : σ → Rat) (w : α → Rat) (f : σ → α → σ) :
    ∀ (xs : List α) (s : σ), (∀ s, ∀ x ∈ xs, P s → P (f s x) ∧ g (f s x) = g s + w x) → P s →
      P (xs.foldl f s) ∧ g (xs.foldl f s) = g s + (xs.map w).sum := by
  intro xs
  induction xs with
  | nil => intro s _ hs; exact ⟨hs, (Rat.add_zero _).symm⟩
  | cons x rest ih =>
    intro s step hs
    obtain ⟨h1, h2⟩ := step s x List.mem_cons_self hs
    obtain ⟨i1, i2⟩ := ih (f s x) (fun s y hy => step s y (List.mem_cons_of_mem _ hy)) h1
    exact ⟨i1, by rw [List.foldl_cons, i2, h2, List.map_cons, List.sum_cons, Rat.add_assoc]⟩

/-! ### Successful binds and `Except`-valued folds -/

theorem bindOk_iff {ε α β : Type} {x : Except ε α} {f : α → Except ε β} {b : β} :
    (x >>= f) = .ok b ↔ ∃ a, x = .ok a ∧ f a = .ok b := by
  cases x <;> simp [bind, Except.bind]

theorem map_eq_ok {α β ε : Type} {m : Except ε α} {f : α → β} {y : β} : m.map f = .ok y ↔ ∃ x, m = .ok x ∧ y = f x := by
  cases m with
  | error e => exact ⟨(fun h => nomatch h), fun ⟨_, h, _⟩ => nomatch h⟩
  | ok x => exact ⟨fun h => ⟨x, rfl, by cases h; rfl⟩, fun ⟨_, h, e⟩ => by cases h; rw [e]; rfl⟩

theorem foldlM_nil_ok {ε σ α : Type} {f : σ → α → Except ε σ} {s s' : σ} :
    ([] : List α).foldlM f s = .ok s' ↔ s = s' := by
  simp [List.foldlM_nil, pure, Except.pure]

theorem foldlM_cons_ok {ε σ α : Type} {f : σ → α → Except ε σ} {x : α} {xs : List α} {s s' : σ} :
    (x :: xs).foldlM f s = .ok s' ↔ ∃ s1, f s x = .ok s1 ∧ xs.foldlM f s1 = .ok s' := by
  rw [List.foldlM_cons, bindOk_iff]

theorem foldlM_snoc_ok {ε σ α : Type} {f : σ → α → Except ε σ} {xs : List α} {x : α} {s s1 s2 : σ}
    (h : xs.foldlM f s = .ok s1) (h1 : f s1 x = .ok s2) : (xs ++ [x]).foldlM f s = .ok s2 := by
  rw [List.foldlM_append, h]; exact foldlM_cons_ok.mpr ⟨s2, h1, rfl⟩

theorem foldlM_ok_ind {ε α β : Type} {f : β → α → Except ε β} {R : List α → β → β → Prop} (nil : ∀ b, R [] b b)
    (cons : ∀ x xs b b' r, f b x = .ok b' → xs.foldlM f b' = .ok r → R xs b' r → R (x :: xs) b r) :
    ∀ (l : List α) (b r : β), l.foldlM f b = .ok r → R l b r
  | [], b, r, h => by
    rw [← foldlM_nil_ok.mp h]
    exact nil b
  | x :: xs, b, r, h => by
    obtain ⟨b', hb', h⟩ := foldlM_cons_ok.mp h
    exact cons x xs b b' r hb' h (foldlM_ok_ind nil cons xs b' r h)

/-- an invariant indexed by the part of the list already processed; the step is told where in the list it stands, so what
is assumed of the whole list, or of what comes before or after `x`, need not be carried along -/
theorem foldlM_ok_hist {ε σ α : Type} {f : σ → α → Except ε σ} {xs : List α} {I : List α → σ → Prop}
    (step : ∀ pre x post s s1, xs = pre ++ x :: post → I pre s → f s x = .ok s1 → I (pre ++ [x]) s1)
    {s s' : σ} (h0 : I [] s) (h : xs.foldlM f s = .ok s') : I xs s' := by
  suffices H : ∀ (post pre : List α) (s : σ), xs = pre ++ post → I pre s → post.foldlM f s = .ok s' → I xs s' from
    H xs [] s rfl h0 h
  intro post
  induction post with
  | nil => intro pre s e hi h; rw [e, List.append_nil, ← foldlM_nil_ok.mp h]; exact hi
  | cons x post ih =>
    intro pre s e hi h
    obtain ⟨s1, h1, h2⟩ := foldlM_cons_ok.mp h
    exact ih (pre ++ [x]) s1 (by rw [e, List.append_assoc]; rfl) (step pre x post s s1 e hi h1) h2

theorem foldlM_ok_inv {ε σ α : Type} {f : σ → α → Except ε σ} (P : σ → Prop) (xs : List α) {s s' : σ}
    (step : ∀ s x s', x ∈ xs → P s → f s x = .ok s' → P s') (hs : P s) (h : xs.foldlM f s = .ok s') : P s' :=
  foldlM_ok_hist (I := fun _ s => P s)
    (fun pre x post s s1 (e : xs = pre ++ x :: post) hp hf =>
      step s x s1 (by rw [e]; exact List.mem_append_right _ List.mem_cons_self) hp hf) hs h

theorem foldlM_ok_of {ε σ α : Type} {f : σ → α → Except ε σ} {I : σ → Prop} {P : α → Prop}
    (step : ∀ s x, I s → P x → ∃ s', f s x = .ok s' ∧ I s') :
    ∀ (xs : List α) (s : σ), I s → (∀ x ∈ xs, P x) → ∃ s', xs.foldlM f s = .ok s' ∧ I s'
  | [], s, hs, _ => ⟨s, rfl, hs⟩
  | x :: xs, s, hs, h => by
    obtain ⟨s1, h1, hs1⟩ := step s x hs (h x List.mem_cons_self)
    obtain ⟨s', h2, hs'⟩ := foldlM_ok_of step xs s1 hs1 (fun y hy => h y (List.mem_cons_of_mem _ hy))
    exact ⟨s', foldlM_cons_ok.mpr ⟨s1, h1, h2⟩, hs'⟩

theorem foldlM_ok_mem {α β ε : Type} (f : β → α → Except ε β) (l : List α) (b r : β) (h : l.foldlM f b = .ok r) :
    ∀ x ∈ l, ∃ b1 b2, f b1 x = .ok b2 :=
  foldlM_ok_ind (R := fun l _ _ => ∀ x ∈ l, ∃ b1 b2, f b1 x = .ok b2) (fun _ x hx => by cases hx)
    (fun y _ b b' _ hy _ ih x hx => by
      rcases List.mem_cons.mp hx with rfl | hx
      · exact ⟨b, b', hy⟩
      · exact ih x hx) l b r h

theorem foldlM_ok_mono {α σ ε : Type} (f g : σ → α → Except ε σ) (xs : List α)
    (h : ∀ s s' x, x ∈ xs → f s x = .ok s' → g s x = .ok s') (s s' : σ) (hs : xs.foldlM f s = .ok s') :
    xs.foldlM g s = .ok s' :=
  foldlM_ok_ind (R := fun l b r => (∀ s s' x, x ∈ l → f s x = .ok s' → g s x = .ok s') → l.foldlM g b = .ok r)
    (fun _ _ => rfl)
    (fun x _ b b' _ hb _ ih h => foldlM_cons_ok.mpr ⟨b', h b b' x List.mem_cons_self hb,
      ih fun s s' y hy => h s s' y (List.mem_cons_of_mem _ hy)⟩) xs s s' hs h

theorem foldlM_congr_mem {α σ ε : Type} (f g : σ → α → Except ε σ) (xs : List α)
    (h : ∀ s x, x ∈ xs → f s x = g s x) : ∀ s, xs.foldlM f s = xs.foldlM g s := by
  induction xs with
  | nil => intro s; rfl
  | cons x rest ih =>
    intro s
    simp only [List.foldlM_cons]
    rw [h s x List.mem_cons_self]
    cases g s x with
    | error e => rfl
    | ok s1 => simp only [bind, Except.bind]; exact ih (fun s y hy => h s y (List.mem_cons_of_mem _ hy)) s1

/-- `x` succeeds in `s` if `G` holds and fails otherwise: a step that only tests a condition -/
def Decides {ε σ : Type} (x : Except ε σ) (s : σ) (G : Prop) : Prop := (x = .ok s ∧ G) ∨ (x.isOk = false ∧ ¬ G)

theorem decides_of_iff {ε σ : Type} {x : Except ε σ} {s : σ} {G : Prop} (h : ∀ s', x = .ok s' ↔ G ∧ s' = s) : Decides x s G := by
  by_cases hg : G
  · exact .inl ⟨(h s).mpr ⟨hg, rfl⟩, hg⟩
  · cases hx : x with
    | ok s' => exact absurd ((h s').mp hx).1 hg
    | error e => exact .inr ⟨rfl, hg⟩

theorem foldlM_decides {ε σ α : Type} {f : σ → α → Except ε σ} {s : σ} {G : α → Prop} (step : ∀ a, Decides (f s a) s (G a)) :
    ∀ l : List α, Decides (l.foldlM f s) s (∀ a ∈ l, G a)
  | [] => .inl ⟨rfl, fun _ h => nomatch h⟩
  | a :: l => by
    rw [List.foldlM_cons]
    rcases step a with ⟨h1, g1⟩ | ⟨h1, g1⟩
    · rw [h1]
      exact (foldlM_decides step l).imp (fun h => ⟨h.1, List.forall_mem_cons.mpr ⟨g1, h.2⟩⟩)
        fun h => ⟨h.1, fun hall => h.2 (List.forall_mem_cons.mp hall).2⟩
    · refine .inr ⟨?_, fun hall => g1 (List.forall_mem_cons.mp hall).1⟩
      cases hx : f s a with
      | ok s' => rw [hx] at h1; cases h1
      | error e => rfl

/-! ### A successful `mapM` (through `mapM_eq_ok_iff`) -/

theorem mapM_nil_ok {ε α β : Type} {f : α → Except ε β} {ys : List β} :
    ([] : List α).mapM f = .ok ys ↔ ys = [] := by
  rw [mapM_eq_ok_iff]; exact ⟨fun h => by cases h; rfl, fun h => h ▸ .nil⟩

theorem mapM_cons_ok {ε α β : Type} {f : α → Except ε β} {x : α} {xs : List α} {ys : List β} :
    (x :: xs).mapM f = .ok ys ↔ ∃ y ys', f x = .ok y ∧ xs.mapM f = .ok ys' ∧ ys = y :: ys' := by
  rw [mapM_eq_ok_iff]
  exact ⟨fun h => by cases h with | cons ha t => exact ⟨_, _, ha, mapM_eq_ok_iff.mpr t, rfl⟩,
    fun ⟨_, _, ha, t, e⟩ => e ▸ .cons ha (mapM_eq_ok_iff.mp t)⟩

theorem mapM_ok_ind {ε α β : Type} {f : α → Except ε β} (P : List α → List β → Prop) (nil : P [] [])
    (cons : ∀ a b l r, f a = .ok b → l.mapM f = .ok r → P l r → P (a :: l) (b :: r))
    {l : List α} {r : List β} (h : l.mapM f = .ok r) : P l r := by
  replace h := mapM_eq_ok_iff.mp h
  induction h with
  | nil => exact nil
  | cons hb t ih => exact cons _ _ _ _ hb (mapM_eq_ok_iff.mpr t) ih

theorem mapM_ok_mem {α β ε : Type} (f : α → Except ε β) (l : List α) (r : List β) (h : l.mapM f = .ok r) :
    ∀ b ∈ r, ∃ a ∈ l, f a = .ok b := forall₂_mem_right (mapM_eq_ok_iff.mp h)

theorem mapM_ok_mem_fwd {α β ε : Type} {g : α → Except ε β} {l : List α} {ys : List β} (h : l.mapM g = .ok ys) :
    ∀ x ∈ l, ∃ y ∈ ys, g x = .ok y := forall₂_mem_left (mapM_eq_ok_iff.mp h)

theorem mapM_ok_map {ε α β γ : Type} {f : α → Except ε β} {g : β → γ} {g' : α → γ}
    (hf : ∀ a b, f a = .ok b → g b = g' a) {l : List α} {r : List β} (h : l.mapM f = .ok r) : r.map g = l.map g' :=
  (forall₂_map_eq (mapM_eq_ok_iff.mp h) fun a b _ hab => (hf a b hab).symm).symm

theorem mapM_ok_length {ε α β : Type} {f : α → Except ε β} {l : List α} {r : List β} (h : l.mapM f = .ok r) :
    r.length = l.length := (forall₂_length (mapM_eq_ok_iff.mp h)).symm

theorem mapM_ok_append_iff {ε α β : Type} {f : α → Except ε β} {xs ys : List α} {r : List β} :
    (xs ++ ys).mapM f = .ok r ↔ ∃ r1 r2, xs.mapM f = .ok r1 ∧ ys.mapM f = .ok r2 ∧ r = r1 ++ r2 := by
  simp only [mapM_eq_ok_iff, forall₂_append_left]

/-! ### Two runs in simulation -/

def Sim {σ τ ε ε' : Type} (R : σ → τ → Prop) (E : ε → ε' → Prop) : Except ε σ → Except ε' τ → Prop
  | .ok s, .ok t => R s t
  | .error e, .error e' => E e e'
  | _, _ => False

theorem Sim.ok {σ τ ε ε' : Type} {R : σ → τ → Prop} {E : ε → ε' → Prop} {s : σ} {t : τ} (h : R s t) :
    Sim R E (.ok s : Except ε σ) (.ok t : Except ε' τ) := h
theorem Sim.error {σ τ ε ε' : Type} {R : σ → τ → Prop} {E : ε → ε' → Prop} {e : ε} {e' : ε'} (h : E e e') :
    Sim R E (.error e : Except ε σ) (.error e' : Except ε' τ) := h

theorem map_sim {σ τ σ' τ' ε ε' : Type} {R : σ → τ → Prop} {R' : σ' → τ' → Prop} {E : ε → ε' → Prop}
    {x : Except ε σ} {y : Except ε' τ} {f : σ → σ'} {g : τ → τ'} (hxy : Sim R E x y)
    (hfg : ∀ s t, R s t → R' (f s) (g t)) : Sim R' E (x.map f) (y.map g) := by
  cases x <;> cases y
  · exact hxy
  · exact hxy.elim
  · exact hxy.elim
  · exact hfg _ _ hxy

theorem bind_sim {σ τ σ' τ' ε ε' : Type} {R : σ → τ → Prop} {R' : σ' → τ' → Prop} {E : ε → ε' → Prop}
    {x : Except ε σ} {y : Except ε' τ} {f : σ → Except ε σ'} {g : τ → Except ε' τ'}
    (hxy : Sim R E x y) (hfg : ∀ s t, R s t → Sim R' E (f s) (g t)) : Sim R' E (x >>= f) (y >>= g) := by
  cases x with
  | error e => cases y with
    | error e' => simpa [Sim, bind, Except.bind] using hxy
    | ok t => exact absurd hxy (by simp [Sim])
  | ok s => cases y with
    | error e' => exact absurd hxy (by simp [Sim])
    | ok t => simpa [bind, Except.bind] using hfg s t hxy

theorem foldlM_forall₂_sim {α β σ τ ε ε' : Type} {R : σ → τ → Prop} {E : ε → ε' → Prop} {D : α → β → Prop}
    {f : σ → α → Except ε σ} {g : τ → β → Except ε' τ}
    (h : ∀ s t x y, D x y → R s t → Sim R E (f s x) (g t y)) {xs : List α} {ys : List β} (hl : List.Forall₂ D xs ys) :
    ∀ s t, R s t → Sim R E (xs.foldlM f s) (ys.foldlM g t) := by
  induction hl with
  | nil => intro s t hr; exact hr
  | cons hd _ ih =>
    intro s t hr
    rw [List.foldlM_cons, List.foldlM_cons]
    have hx := h s t _ _ hd hr
    revert hx
    cases f s _ <;> cases g t _ <;> intro hx
    · exact hx
    · exact hx.elim
    · exact hx.elim
    · exact ih _ _ hx

theorem foldlM_sim {α σ τ ε ε' : Type} (R : σ → τ → Prop) (E : ε → ε' → Prop)
    (f : σ → α → Except ε σ) (g : τ → α → Except ε' τ) (xs : List α)
    (h : ∀ s t x, x ∈ xs → R s t → Sim R E (f s x) (g t x)) :
    ∀ s t, R s t → Sim R E (xs.foldlM f s) (xs.foldlM g t) :=
  foldlM_forall₂_sim (D := fun x y => x = y ∧ x ∈ xs) (fun s t x _ hd r => hd.1 ▸ h s t x hd.2 r)
    (forall₂_same fun _ hx => ⟨rfl, hx⟩)

/-! `Sim` as an inductive relation (`ESim`): what a proof takes apart with `cases` and builds with `.ok` / `.error`, closed under `>>=`
on both sides at once; through it, `Sim` composes. -/

inductive ESim {σ τ ε ε' : Type} (R : σ → τ → Prop) (E : ε → ε' → Prop) : Except ε σ → Except ε' τ → Prop
  | ok {s : σ} {t : τ} : R s t → ESim R E (.ok s) (.ok t)
  | error {e : ε} {e' : ε'} : E e e' → ESim R E (.error e) (.error e')

namespace ESim
variable {σ τ σ' τ' ε ε' : Type} {R R₁ : σ → τ → Prop} {R' : σ' → τ' → Prop} {E E₁ : ε → ε' → Prop}
  {x : Except ε σ} {y : Except ε' τ}

theorem sim (h : ESim R E x y) : Sim R E x y := by
  cases h with
  | ok h => exact h
  | error h => exact h

theorem of_sim (h : Sim R E x y) : ESim R E x y := by
  cases x with
  | ok s =>
    cases y with
    | ok t => exact .ok h
    | error _ => exact h.elim
  | error e =>
    cases y with
    | ok _ => exact h.elim
    | error e' => exact .error h

theorem imp (h : ESim R E x y) (hr : ∀ s t, R s t → R₁ s t) (he : ∀ e e', E e e' → E₁ e e') : ESim R₁ E₁ x y := by
  cases h with
  | ok h => exact .ok (hr _ _ h)
  | error h => exact .error (he _ _ h)

theorem bind {f : σ → Except ε σ'} {g : τ → Except ε' τ'} (h : ESim R E x y) (hfg : ∀ s t, R s t → ESim R' E (f s) (g t)) :
    ESim R' E (x >>= f) (y >>= g) := by
  cases h with
  | ok h => exact hfg _ _ h
  | error h => exact .error h

theorem of_ok {s : σ} (h : ESim R E (.ok s : Except ε σ) y) : ∃ t, y = .ok t ∧ R s t := by
  cases h with
  | ok h => exact ⟨_, rfl, h⟩

/-- both results may be named -/
theorem and_eq (h : ESim R E x y) : ESim (fun s t => R s t ∧ x = .ok s ∧ y = .ok t) E x y := by
  cases h with
  | ok h => exact .ok ⟨h, rfl, rfl⟩
  | error h => exact .error h

end ESim

section sim
variable {σ τ υ ε ε' ε'' : Type} {R : σ → τ → Prop} {R' : τ → υ → Prop} {E : ε → ε' → Prop} {E' : ε' → ε'' → Prop}
  {x : Except ε σ} {y : Except ε' τ} {z : Except ε'' υ}

theorem sim_trans (h1 : Sim R E x y) (h2 : Sim R' E' y z) :
    Sim (fun s u => ∃ t, R s t ∧ R' t u) (fun e e'' => ∃ e', E e e' ∧ E' e' e'') x z := by
  cases ESim.of_sim h1 with
  | ok h1 =>
    cases ESim.of_sim h2 with
    | ok h2 => exact ⟨_, h1, h2⟩
  | error h1 =>
    cases ESim.of_sim h2 with
    | error h2 => exact ⟨_, h1, h2⟩

theorem sim_symm (h : Sim R E x y) : Sim (fun t s => R s t) (fun e' e => E e e') y x := by
  cases ESim.of_sim h with
  | ok h => exact h
  | error h => exact h

theorem sim_isOk_eq (h : Sim R E x y) : x.isOk = y.isOk := by
  cases ESim.of_sim h <;> rfl

theorem sim_imp {R₁ : σ → τ → Prop} {E₁ : ε → ε' → Prop} (h : Sim R E x y) (hr : ∀ s t, R s t → R₁ s t) (he : ∀ e e', E e e' → E₁ e e') :
    Sim R₁ E₁ x y :=
  ((ESim.of_sim h).imp hr he).sim

theorem sim_of_isOk {R : σ → τ → Prop} (hok : x.isOk = y.isOk) (h : ∀ s t, x = .ok s → y = .ok t → R s t) :
    Sim R (fun (_ : ε) (_ : ε') => True) x y := by
  cases x <;> cases y
  · trivial
  · cases hok
  · cases hok
  · exact h _ _ rfl rfl

theorem sim_and_ok (h : Sim R E x y) : Sim (fun s t => R s t ∧ x = .ok s ∧ y = .ok t) E x y :=
  (ESim.of_sim h).and_eq.sim

end sim

end Knut

namespace Knut.Spec
open Knut

/-- both runs fail, or both succeed with results related by `R`: the form in which the order-independence theorems (C05) compare
two runs of the pipeline, whose error values may differ -/
abbrev PSim {σ ε : Type} (R : σ → σ → Prop) (x y : Except ε σ) : Prop := Sim R (fun _ _ => True) x y

theorem psim_trans {σ ε : Type} {R : σ → σ → Prop} (ht : ∀ a b c, R a b → R b c → R a c)
    {x y z : Except ε σ} (h1 : PSim R x y) (h2 : PSim R y z) : PSim R x z :=
  sim_imp (sim_trans h1 h2) (fun a c ⟨b, hab, hbc⟩ => ht a b c hab hbc) (fun _ _ _ => trivial)

theorem psim_isOk {σ ε : Type} {R : σ → σ → Prop} {x y : Except ε σ} (h : PSim R x y) : x.isOk = y.isOk := sim_isOk_eq h

end Knut.Spec
