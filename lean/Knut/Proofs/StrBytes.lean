/-!
# A computed text against a string literal, in the kernel

Test vectors end in `computed text = "literal"`.  Asked that way the kernel walks the literal's byte ARRAY by index (`String`'s
`DecidableEq`, `String.toList`, `String.length`, the encoder behind `String.ofList`), an array index is a list index there, and the
whole is quadratic in the length of the text.  So the comparison is turned round: a literal is `String.ofList` of its characters (the
unifier solves `"lit" =?= String.ofList ?l`), the bytes of a COMPUTED string are projections, and the bytes of the computed text are
compared with the characters of the literal, encoded one by one — two lists, one pass.  Where a statement holds `"lit".toList`, `show`
it as `(String.ofList _).toList` and rewrite with `String.toList_ofList` before the kernel sees it (`C17.demo_lines`).
-/
namespace Knut

theorem str_eq_ofList {s : String} {l : List Char} (h : s.toByteArray.data.toList = l.flatMap String.utf8EncodeChar) :
    s = String.ofList l := by
  apply String.toByteArray_inj.mp
  rw [String.toByteArray_ofList]
  apply ByteArray.ext
  apply Array.toList_inj.mp
  rw [h]
  simp [List.utf8Encode]

theorem toList_eq_ofList {s : String} {l : List Char} (h : s.toByteArray.data.toList = l.flatMap String.utf8EncodeChar) :
    s.toList = (String.ofList l).toList := by
  rw [str_eq_ofList h]

end Knut
