import Knut.Proofs.StrBytes
import Knut.GoSem.Basic
/-!
# `str_eq_ofList` under the results of translated calls

One projection per shape of result in which a test vector expects a text: the bytes of the text next to what else is compared.
-/
namespace Knut.GoSem

/-- the bytes of the text a translated call returns -/
def okBytes : Outcome String → Option (List UInt8)
  | .ok s => some s.toByteArray.data.toList
  | _ => none

theorem ok_of_bytes {x : Outcome String} {l : List Char} (h : okBytes x = some (l.flatMap String.utf8EncodeChar)) :
    x = .ok (String.ofList l) := by
  cases x with
  | ok s => exact congrArg _ (str_eq_ofList (Option.some.inj h))
  | panic m => cases h
  | outOfFuel => cases h

/-- the bytes of the text a translated call returns next to its second result (the `error`) -/
def resBytes {ε : Type} : Outcome (String × ε) → Option (List UInt8 × ε)
  | .ok (s, e) => some (s.toByteArray.data.toList, e)
  | _ => none

/-- `t` is given apart from its characters: the expected text may be a concatenation of literals (`ht` by `String.ofList_append`) -/
theorem res_of_bytes {ε : Type} {x : Outcome (String × ε)} {t : String} {l : List Char} {e : ε}
    (ht : String.ofList l = t) (h : resBytes x = some (l.flatMap String.utf8EncodeChar, e)) : x = .ok (t, e) := by
  subst ht
  match x, h with
  | .ok (s, e'), h =>
    obtain ⟨h1, h2⟩ := Prod.mk.inj (Option.some.inj h)
    rw [str_eq_ofList h1, h2]

/-- the bytes of the text a translated call returns between its first result (the receiver) and its last (the `error`) -/
def midBytes {α ε : Type} : Outcome (α × String × ε) → Option (α × List UInt8 × ε)
  | .ok (a, s, e) => some (a, s.toByteArray.data.toList, e)
  | _ => none

theorem mid_of_bytes {α ε : Type} {x : Outcome (α × String × ε)} {a : α} {l : List Char} {e : ε}
    (h : midBytes x = some (a, l.flatMap String.utf8EncodeChar, e)) : x = .ok (a, String.ofList l, e) := by
  match x, h with
  | .ok (a', s, e'), h =>
    obtain ⟨h1, h23⟩ := Prod.mk.inj (Option.some.inj h)
    obtain ⟨h2, h3⟩ := Prod.mk.inj h23
    rw [h1, str_eq_ofList h2, h3]

end Knut.GoSem
