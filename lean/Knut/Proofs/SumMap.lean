import Knut.Proofs.GoSemMap
/-!
# Maps that are only ever updated by `m[k] += x`

The checker's quantities, the Valuate stage's quantities and the two CloseAccounts accumulators are Go maps of this kind.
After any sequence of such updates the map is, as a lookup function, determined by the updates up to their order
(`find?_bumps`): a key is present iff it was present or updated, and its value is the old one plus what was added.
What the proofs need of such a map (its value at a key, its keys, no key twice, independence of the order of the
updates) follows from that one equation.  `Same` relates two association lists that stand for one Go map.
-/
namespace Knut.AMap
variable {κ : Type} [DecidableEq κ]

/-- `m[e.1] += e.2` -/
def bump (m : AMap κ Rat) (e : κ × Rat) : AMap κ Rat := m.set e.1 (m.get e.1 0 + e.2)

/-- what the updates `l` add at key `k` -/
def added (l : List (κ × Rat)) (k : κ) : Rat := (l.filterMap fun e => if e.1 = k then some e.2 else none).sum

theorem added_cons (e : κ × Rat) (l : List (κ × Rat)) (k : κ) :
    added (e :: l) k = (if e.1 = k then e.2 else 0) + added l k := by
  unfold added
  rw [List.filterMap_cons]
  by_cases h : e.1 = k
  · rw [if_pos h, if_pos h]; rfl
  · rw [if_neg h, if_neg h]; exact (Rat.zero_add _).symm

theorem added_of_not_mem {l : List (κ × Rat)} {k : κ} (h : k ∉ keys l) : added l k = 0 := by
  unfold added
  rw [List.filterMap_eq_nil_iff.mpr fun e he => if_neg fun (hk : e.1 = k) => h (hk ▸ List.mem_map_of_mem he)]
  rfl

theorem added_eq_zero {l : List (κ × Rat)} (h : ∀ e ∈ l, e.2 = 0) (k : κ) : added l k = 0 := by
  induction l with
  | nil => rfl
  | cons e l ih =>
    rw [added_cons, ih fun e he => h e (List.mem_cons_of_mem _ he), h e List.mem_cons_self, ite_self, Rat.add_zero]

theorem added_perm {l l' : List (κ × Rat)} (h : l.Perm l') (k : κ) : added l k = added l' k :=
  MapSum.sum_perm (h.filterMap _)

theorem added_filterMap_nodup {ν : Type} (g : κ × ν → Option Rat) (k : κ) : ∀ {m : AMap κ ν}, NodupKeys m →
    added (m.filterMap fun e => (g e).map fun x => (e.1, x)) k = ((find? m k).bind fun v => g (k, v)).getD 0
  | [], _ => rfl
  | (a, b) :: rest, hn => by
    rw [nodupKeys_cons] at hn
    have ih := added_filterMap_nodup g k hn.2
    -- the key of the first entry does not occur among the updates of the rest
    have hrest : a = k → added (rest.filterMap fun e => (g e).map fun x => (e.1, x)) k = 0 := fun e =>
      added_of_not_mem fun h => by
        obtain ⟨x, hx, hxk⟩ := List.mem_map.mp h
        obtain ⟨y, hy, hyx⟩ := List.mem_filterMap.mp hx
        cases hg : g y with
        | none => rw [hg] at hyx; cases hyx
        | some z => rw [hg] at hyx; cases hyx; exact hn.1 (e ▸ hxk ▸ List.mem_map_of_mem hy)
    rw [List.filterMap_cons, find?_cons]
    by_cases hak : a = k
    · subst hak
      rw [if_pos rfl, Option.bind_some]
      cases hg : g (a, b) with
      | none => exact hrest rfl
      | some x => rw [Option.map_some, added_cons, if_pos rfl, hrest rfl, Rat.add_zero]; rfl
    · rw [if_neg hak, ← ih]
      cases hg : g (a, b) with
      | none => rfl
      | some x => rw [Option.map_some, added_cons, if_neg hak, Rat.zero_add]

theorem added_of_nodup {l : AMap κ Rat} (hn : NodupKeys l) (k : κ) : added l k = (find? l k).getD 0 := by
  have := added_filterMap_nodup (fun e : κ × Rat => some e.2) k hn
  simpa using this

theorem added_visited (m : AMap κ Rat) {o : List κ} (ho : o.Nodup) (k : κ) :
    added (visited m o) k = if k ∈ o then get m k 0 else 0 := by
  rw [added_of_nodup (nodupKeys_visited m ho), find?_visited m k o]
  split <;> rfl

theorem added_map {κ' : Type} [DecidableEq κ'] (f : κ → κ') {k : κ} {k' : κ'} :
    ∀ {l : List (κ × Rat)}, (∀ e ∈ l, f e.1 = k' ↔ e.1 = k) → added (l.map fun e => (f e.1, e.2)) k' = added l k
  | [], _ => rfl
  | e :: l, h => by
    have ih := added_map f (k := k) (k' := k') (l := l) fun e he => h e (List.mem_cons_of_mem _ he)
    rw [List.map_cons, added_cons, added_cons, ih]
    by_cases he : e.1 = k
    · rw [if_pos ((h e List.mem_cons_self).2 he), if_pos he]
    · rw [if_neg (mt (h e List.mem_cons_self).1 he), if_neg he]

theorem find?_bumps (l : List (κ × Rat)) : ∀ (m : AMap κ Rat) (k : κ),
    find? (l.foldl bump m) k = if k ∈ keys l then some (m.get k 0 + added l k) else find? m k := by
  induction l with
  | nil => intro m k; rfl
  | cons e l ih =>
    intro m k
    have hg : (bump m e).get k 0 = m.get k 0 + (if e.1 = k then e.2 else 0) := by
      unfold bump; rw [get_set]
      split
      · subst ‹e.1 = k›; rfl
      · exact (Rat.add_zero _).symm
    have key : k ∈ keys (e :: l) ↔ e.1 = k ∨ k ∈ keys l := by rw [keys, List.map_cons, List.mem_cons, eq_comm]; rfl
    rw [List.foldl_cons, ih, hg, added_cons, Rat.add_assoc]
    by_cases hl : k ∈ keys l
    · rw [if_pos hl, if_pos (key.mpr (Or.inr hl))]
    · rw [if_neg hl, added_of_not_mem hl, Rat.add_zero]
      unfold bump; rw [find?_set]
      by_cases he : e.1 = k
      · rw [if_pos he, if_pos (key.mpr (Or.inl he)), if_pos he, he]
      · rw [if_neg he, if_neg (fun h => (key.mp h).elim he hl)]

theorem get_bumps (l : List (κ × Rat)) (m : AMap κ Rat) (k : κ) : (l.foldl bump m).get k 0 = m.get k 0 + added l k := by
  unfold get
  rw [find?_bumps]
  split
  · rfl
  · rename_i h; rw [added_of_not_mem h, Rat.add_zero]

theorem keys_bumps (l : List (κ × Rat)) (m : AMap κ Rat) (k : κ) :
    k ∈ keys (l.foldl bump m) ↔ k ∈ keys m ∨ k ∈ keys l :=
  mem_keys_foldl_set (fun e : κ × Rat => e.1) (fun m e => m.get e.1 0 + e.2) l m k

theorem nodupKeys_bumps (l : List (κ × Rat)) {m : AMap κ Rat} (h : NodupKeys m) : NodupKeys (l.foldl bump m) :=
  nodupKeys_foldl_set (fun e : κ × Rat => e.1) (fun m e => m.get e.1 0 + e.2) l h

theorem find?_bumps_perm {l l' : List (κ × Rat)} (hl : l.Perm l') {m m' : AMap κ Rat} (hm : ∀ k, find? m k = find? m' k)
    (k : κ) : find? (l.foldl bump m) k = find? (l'.foldl bump m') k := by
  rw [find?_bumps, find?_bumps, added_perm hl, hm, get_congr (hm k) 0]
  by_cases h : k ∈ keys l
  · rw [if_pos h, if_pos (show k ∈ keys l' from (hl.map _).mem_iff.mp h)]
  · rw [if_neg h, if_neg (show k ∉ keys l' from mt (hl.map _).mem_iff.mpr h)]

/-- no key twice in either list, every lookup alike: the two lists stand for the same Go map, enumerated in two orders -/
structure Same {ν : Type} (m m' : AMap κ ν) : Prop where
  nd : NodupKeys m
  nd' : NodupKeys m'
  eq : ∀ k, find? m k = find? m' k

theorem Same.nil {ν : Type} : Same ([] : AMap κ ν) [] := ⟨List.nodup_nil, List.nodup_nil, fun _ => rfl⟩

theorem Same.perm {ν : Type} {m m' : AMap κ ν} (h : Same m m') : m.Perm m' := by
  have nd : ∀ {m : AMap κ ν}, NodupKeys m → m.Nodup := fun hn =>
    List.Pairwise.of_map (S := (· ≠ ·)) (·.1) (fun _ _ h e => h (congrArg _ e)) hn
  rw [List.perm_ext_iff_of_nodup (nd h.nd) (nd h.nd')]
  intro ⟨k, v⟩
  exact ⟨fun hm => mem_of_find? ((h.eq k).symm.trans (find?_of_mem h.nd hm)),
    fun hm => mem_of_find? ((h.eq k).trans (find?_of_mem h.nd' hm))⟩

theorem Same.get {m m' : AMap κ Rat} (h : Same m m') (k : κ) (d : Rat) : m.get k d = m'.get k d :=
  get_congr (h.eq k) d

theorem Same.bumps {m m' : AMap κ Rat} (h : Same m m') {l l' : List (κ × Rat)} (hl : l.Perm l') :
    Same (l.foldl bump m) (l'.foldl bump m') :=
  ⟨nodupKeys_bumps _ h.nd, nodupKeys_bumps _ h.nd', find?_bumps_perm hl h.eq⟩

end Knut.AMap
