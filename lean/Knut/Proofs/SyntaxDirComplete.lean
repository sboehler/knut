import Knut.Proofs.SyntaxLayout
/-!
# Parsing a rendered directive gives its fields back (completeness half of the C08 round trip)

One `Reads` lemma per parser function, each a walk through its body by `Reads.step`: the tokens the printer writes for an
element are read to its tree (`Proofs/SyntaxLayout`). What a call needs of the tokens after it (a valid token that stops
it) comes from the first token of the next field (`StartsSolid`, `Blank1`, a literal) or of the gap after the directive
(`GapStart`).
-/
namespace Knut.Syntax
open Knut.Utf8 Knut.Spec.Syntax

def StartsSolid (c : List Tok) : Prop := ∃ t rest, c = t :: rest ∧ isWhitespaceOrNewline t.r = false

theorem StartsSolid.headNotWsNl {c r : List Tok} (h : StartsSolid c) : HeadNot isWhitespaceOrNewline (c ++ r) := by
  obtain ⟨t, rest, rfl, ht⟩ := h
  exact HeadNot.cons ht

theorem StartsSolid.cur {c r : List Tok} {off : Nat} (h : StartsSolid c) :
    isWhitespaceOrNewline (cur ⟨off, c ++ r⟩) = false ∧ atEOF ⟨off, c ++ r⟩ = false := by
  obtain ⟨t, rest, rfl, ht⟩ := h
  exact ⟨ht, rfl⟩

theorem solid_of_alnum {x : Nat} (h : isAlphanumeric x = true) : isWhitespaceOrNewline x = false := by
  cases hw : isWhitespaceOrNewline x with
  | false => rfl
  | true => rw [ws_not_alnum hw] at h; cases h

theorem DecimalOK.solid {c : List Tok} (h : DecimalOK c) : StartsSolid c := by
  obtain ⟨⟨sign, int, frac, rfl, osign, hne, pint, _⟩, _⟩ := h
  rcases osign with hs | ⟨m, hs, pm⟩
  · subst hs
    cases int with
    | nil => exact absurd rfl hne
    | cons i0 irest =>
      exact ⟨i0, irest ++ frac, by simp, solid_of_alnum (alnum_of_digit (pint i0 List.mem_cons_self))⟩
  · subst hs
    exact ⟨m, int ++ frac, by simp, by rw [pm]; decide⟩

theorem CommodityOK.solid {c : List Tok} (h : CommodityOK c) : StartsSolid c := by
  obtain ⟨⟨hne, hp⟩, _⟩ := h
  cases c with
  | nil => exact absurd rfl hne
  | cons t ts => exact ⟨t, ts, rfl, solid_of_alnum (hp t List.mem_cons_self)⟩

theorem CommodityOK.cur_alnum {c : List Tok} (h : CommodityOK c) (off : Nat) (r : List Tok) :
    isAlphanumeric (cur ⟨off, c ++ r⟩) = true := by
  obtain ⟨⟨hne, hp⟩, _⟩ := h
  cases c with
  | nil => exact absurd rfl hne
  | cons t ts => exact hp t List.mem_cons_self

theorem AccountOK.solid {c : List Tok} (h : AccountOK c) : StartsSolid c := by
  obtain ⟨⟨m, ia⟩, _⟩ := h
  cases m with
  | true =>
    simp only [IsAccount, if_true] at ia
    obtain ⟨d, ls, rfl, pd, _, _⟩ := ia
    exact ⟨d, ls, rfl, by rw [pd]; decide⟩
  | false =>
    simp only [IsAccount, Bool.false_eq_true, if_false] at ia
    obtain ⟨a, tl, rfl, hne, pa, _⟩ := ia
    cases a with
    | nil => exact absurd rfl hne
    | cons t ts => exact ⟨t, ts ++ tl, by simp, solid_of_alnum (pa t List.mem_cons_self)⟩

theorem DateOK.solid {c : List Tok} (h : DateOK c) : StartsSolid c := by
  obtain ⟨⟨d1, d2, d3, d4, h1, d5, d6, h2, d7, d8, rfl, p1, _⟩, _⟩ := h
  exact ⟨d1, _, rfl, solid_of_alnum (alnum_of_digit p1)⟩

theorem IntervalOK.solid {c : List Tok} (h : IntervalOK c) : StartsSolid c := by
  obtain ⟨⟨kw, hm, hk⟩, _⟩ := h
  have key : ∀ kw ∈ intervalKeywords, (runesOf kw).head?.map isWhitespaceOrNewline = some false := by decide
  have := key kw hm
  rw [← hk] at this
  cases c with
  | nil => cases this
  | cons t ts => exact ⟨t, ts, rfl, by simpa using this⟩

theorem hv_tk {x : Nat} {r : List Tok} (h : x < 128) : HeadValid (tk x :: r) := HeadValid.cons (tk_valid h)

theorem StartsSolid.follow {c r : List Tok} (h : StartsSolid c) (hv : Valid c) :
    HeadValid (c ++ r) ∧ HeadNot isWhitespace (c ++ r) := by
  obtain ⟨t, rest, rfl, ht⟩ := h
  simp only [isWhitespaceOrNewline, Bool.or_eq_false_iff] at ht
  exact ⟨HeadValid.cons hv.head, HeadNot.cons ht.2⟩

theorem Blank1.headValid {w r : List Tok} (h : Blank1 w) : HeadValid (w ++ r) := by
  cases w with
  | nil => exact absurd rfl h.ne
  | cons t ts => exact HeadValid.cons h.valid.head

theorem Blank1.headNot {w r : List Tok} (h : Blank1 w) {p : Nat → Bool} (hp : ∀ x, isWhitespace x = true → p x = false) :
    HeadNot p (w ++ r) := by
  cases w with
  | nil => exact absurd rfl h.ne
  | cons t ts => exact HeadNot.cons (hp _ (h.ws t List.mem_cons_self))

theorem ws_isWsNl {x : Nat} (h : isWhitespace x = true) : isWhitespaceOrNewline x = true := by
  simp [isWhitespaceOrNewline, h]

theorem ws_not_colon {x : Nat} (h : isWhitespaceOrNewline x = true) : (x == 58) = false := by
  rcases ws_cases h with rfl | rfl | rfl | rfl <;> decide

theorem Blank1.afterAccount {w r : List Tok} (h : Blank1 w) :
    HeadValid (w ++ r) ∧ HeadNot isAlphanumeric (w ++ r) ∧ HeadNot (fun y => y == 58) (w ++ r) :=
  ⟨h.headValid, h.headNot fun _ hx => ws_not_alnum (ws_isWsNl hx), h.headNot fun _ hx => ws_not_colon (ws_isWsNl hx)⟩

theorem tk_follow {x : Nat} {r : List Tok} (hx : x < 128) {p : Nat → Bool} (hp : p x = false) :
    HeadValid (tk x :: r) ∧ HeadNot p (tk x :: r) := ⟨hv_tk hx, HeadNot.cons hp⟩

theorem blanks1_reads (desc : String) {w : List Tok} (h : Blank1 w) :
    Reads (readWhile1 desc isWhitespace) w (fun r => HeadValid r ∧ HeadNot isWhitespace r) (fun off => ⟨off, off + wsum w⟩) :=
  readWhile1_reads desc h.ne h.ws h.valid

theorem blanks_reads {w : List Tok} (h : Blank w) :
    Reads (readWhile isWhitespace) w (fun r => HeadValid r ∧ HeadNot isWhitespace r) (fun off => ⟨off, off + wsum w⟩) :=
  readWhile_reads h.ws h.valid

theorem ws1_reads {w : List Tok} (h : Blank1 w) :
    Reads readWhitespace1 w (fun r => HeadValid r ∧ HeadNot isWhitespace r) (fun off => ⟨off, off + wsum w⟩) := by
  intro off r hr
  obtain ⟨t, ts, rfl⟩ := List.exists_cons_of_ne_nil h.ne
  have e : isWhitespaceOrNewline (cur ⟨off, t :: ts ++ r⟩) = true := ws_isWsNl (h.ws t List.mem_cons_self)
  unfold readWhitespace1
  rw [e]
  simp only [Bool.not_true, Bool.false_and, Bool.false_eq_true, if_false]
  exact readWhile_reads h.ws h.valid off r hr

theorem ws0_reads : Reads readWhitespace1 [] (fun r => ∃ x, r = tk 10 :: x) (fun off => ⟨off, off⟩) := by
  rintro off r ⟨x, rfl⟩
  have e : isWhitespaceOrNewline (cur ⟨off, [] ++ tk 10 :: x⟩) = true := rfl
  unfold readWhitespace1
  rw [e]
  simp only [Bool.not_true, Bool.false_and, Bool.false_eq_true, if_false]
  exact readWhile_reads All.nil Valid.nil off _ ⟨hv_tk (by decide), HeadNot.cons (by decide)⟩

theorem eol_reads {w : List Tok} (h : Blank w) {nl : Tok} (hnl : nl.r = 10) (hvn : nl.invalid = false) :
    Reads readRestOfWhitespaceLine (w ++ [nl]) HeadValid (fun off => ⟨off, off + wsum w + nl.bytes.length⟩) := by
  intro off r hr
  have e : w ++ [nl] ++ r = w ++ ([nl] ++ r) := by simp
  unfold readRestOfWhitespaceLine
  rw [e]
  refine (blanks_reads h).step (by exact ⟨HeadValid.cons hvn, HeadNot.cons (by rw [hnl]; decide)⟩) ?_
  have e2 : atEOF ⟨off + wsum w, [nl] ++ r⟩ = false := rfl
  rw [e2]
  simp only [Bool.false_eq_true, if_false]
  refine (readCharacter_reads hnl).step hr ?_
  simp [rng, Nat.add_assoc]

theorem eof_reads {w : List Tok} (h : Blank w) :
    Reads readRestOfWhitespaceLine w (fun r => r = []) (fun off => ⟨off, off + wsum w⟩) := by
  rintro off r rfl
  unfold readRestOfWhitespaceLine
  refine (blanks_reads h).step ⟨HeadValid.nil, HeadNot.nil⟩ ?_
  simp [atEOF, rng]

theorem sp_reads : Reads readWhitespace1 [tk 32] (fun r => HeadValid r ∧ HeadNot isWhitespace r) (fun off => ⟨off, off + 1⟩) :=
  ws1_reads blank1_sp

theorem nl_reads : Reads readRestOfWhitespaceLine [tk 10] HeadValid (fun off => ⟨off, off + 1⟩) :=
  eol_reads Blank.nil rfl (tk_valid (by decide))

theorem tk_reads (x : Nat) : Reads (readCharacter x) [tk x] HeadValid (fun off => ⟨off, off + 1⟩) :=
  readCharacter_reads rfl

/-- a gap (or the end of the text) follows: white space, a line break, or nothing -/
def GapStart (r : List Tok) : Prop :=
  r = [] ∨ ∃ t rest, r = t :: rest ∧ isWhitespaceOrNewline t.r = true ∧ t.invalid = false

theorem GapStart.headValid {r : List Tok} (h : GapStart r) : HeadValid r := by
  rcases h with rfl | ⟨t, rest, rfl, _, hv⟩
  · exact HeadValid.nil
  · exact HeadValid.cons hv

theorem GapStart.headNot {r : List Tok} (h : GapStart r) {p : Nat → Bool}
    (hp : ∀ x, isWhitespaceOrNewline x = true → p x = false) : HeadNot p r := by
  rcases h with rfl | ⟨t, rest, rfl, hw, _⟩
  · exact HeadNot.nil
  · exact HeadNot.cons (hp _ hw)

theorem GapStart.notAlnum {r : List Tok} (h : GapStart r) : HeadNot isAlphanumeric r := h.headNot fun _ => ws_not_alnum
theorem GapStart.notColon {r : List Tok} (h : GapStart r) : HeadNot (fun y => y == 58) r := h.headNot fun _ => ws_not_colon
theorem GapStart.notDot {r : List Tok} (h : GapStart r) : HeadNot (fun y => y == 46) r :=
  h.headNot fun x hx => by rcases ws_cases hx with rfl | rfl | rfl | rfl <;> decide
theorem GapStart.notDigit {r : List Tok} (h : GapStart r) : HeadNot isDigit r :=
  h.headNot fun _ hx => not_digit_of_not_alnum (ws_not_alnum hx)

theorem GapStart.break {r : List Tok} (h : GapStart r) (off : Nat) :
    (isWhitespaceOrNewline (cur ⟨off, r⟩) || atEOF ⟨off, r⟩) = true := by
  rcases h with rfl | ⟨t, rest, rfl, hw, _⟩
  · simp [atEOF]
  · simp [cur, hw]

theorem parseBooking_reads (padding : Nat) {b : BookingT} (hb : b.ok) :
    Reads parseBooking (renderBookingT padding b) (fun r => HeadValid r ∧ HeadNot isAlphanumeric r) (bookingTree padding b) := by
  obtain ⟨a1, a2, aq, ac⟩ := hb
  have b1 : Blank1 (bookingPad1 padding b) := blank1_spaces _ _
  have b2 : Blank1 (bookingPad2 padding b) := blank1_spaces _ _
  intro off r hr
  rw [wsum_renderBookingT, renderBookingT_fields]
  unfold parseBooking
  refine (parseAccount_reads a1.isAccount a1.2).step b1.afterAccount ?_
  refine (blanks1_reads _ b1).step (a2.solid.follow a2.2) ?_
  refine (parseAccount_reads a2.isAccount a2.2).step b2.afterAccount ?_
  refine (blanks1_reads _ b2).step (aq.solid.follow aq.2) ?_
  refine (parseDecimal_reads aq.1 aq.2).step (by exact ⟨hv_tk (by decide), HeadNot.cons digit_space, HeadNot.cons (by decide)⟩) ?_
  refine (blanks1_reads _ blank1_sp).step (ac.solid.follow ac.2) ?_
  refine (parseCommodity_reads ac.1 ac.2).step hr ?_
  rfl

theorem parseBalance_reads {b : BalanceT} (hb : b.ok) :
    Reads parseBalance (renderBalanceT b) (fun r => HeadValid r ∧ HeadNot isAlphanumeric r) (balanceTree b) := by
  obtain ⟨a1, aq, ac⟩ := hb
  intro off r hr
  rw [wsum_renderBalanceT, renderBalanceT_fields]
  unfold parseBalance
  refine (parseAccount_reads a1.isAccount a1.2).step (by exact ⟨hv_tk (by decide), HeadNot.cons alnum_space, HeadNot.cons (by decide)⟩) ?_
  refine sp_reads.step (aq.solid.follow aq.2) ?_
  refine (parseDecimal_reads aq.1 aq.2).step (by exact ⟨hv_tk (by decide), HeadNot.cons digit_space, HeadNot.cons (by decide)⟩) ?_
  refine sp_reads.step (ac.solid.follow ac.2) ?_
  refine (parseCommodity_reads ac.1 ac.2).step hr ?_
  rfl

/-- `@accrue` has been read -/
theorem parseAccrual_reads {a : AccrualT} (ha : a.ok) :
    Reads parseAccrual (accrualArgs a)
      (fun r => HeadValid r ∧ HeadNot isAlphanumeric r ∧ HeadNot (fun y => y == 58) r) (accrualTree a) := by
  obtain ⟨ai, a0, a1, aa⟩ := ha
  intro off r hr
  rw [wsum_accrualArgs]
  unfold parseAccrual
  simp only [accrualArgs, List.cons_append, List.append_assoc]
  refine sp_reads.step (ai.solid.follow ai.2) ?_
  refine (parseInterval_reads ai.1 ai.2).step (hv_tk (by decide)) ?_
  refine sp_reads.step (a0.solid.follow a0.2) ?_
  refine (parseDate_reads a0.1 a0.2).step (hv_tk (by decide)) ?_
  refine sp_reads.step (a1.solid.follow a1.2) ?_
  refine (parseDate_reads a1.1 a1.2).step (hv_tk (by decide)) ?_
  refine sp_reads.step (aa.solid.follow aa.2) ?_
  refine (parseAccount_reads aa.isAccount aa.2).step hr ?_
  rfl

/-- for `bookingsLoop` and `balancesLoop`, by their unfolding equation: after a line break the next line starts solid, so
the loop goes on; the gap after the last line stops it -/
theorem lines_reads {α X} {elem : St → Res α} {desc : String} {L : Nat → List α → St → Res (List α)}
    (hL : ∀ start acc s, L start acc s = (elem s).bind (annotate desc start) fun b s1 =>
      (readRestOfWhitespaceLine s1).bind (annotate desc start) fun _ s2 =>
      if isWhitespaceOrNewline (cur s2) || atEOF s2 then .ok (b :: acc).reverse s2 else L start (b :: acc) s2)
    {R : List X → List Tok} {toks : X → List Tok} (hR : RendersLines R toks) {tree : X → Nat → α} (start : Nat)
    {r : List Tok} (hr : GapStart r) :
    ∀ (xs : List X), xs ≠ [] →
      (∀ x ∈ xs, Reads elem (toks x) (fun r => HeadValid r ∧ HeadNot isAlphanumeric r) (tree x) ∧
        StartsSolid (toks x) ∧ HeadValid (toks x)) →
      ∀ (acc : List α) (off : Nat), L start acc ⟨off, R xs ++ r⟩ =
        .ok (acc.reverse ++ linesTrees toks tree off xs) ⟨off + wsum (R xs), r⟩
  | [], hne, _, _, _ => absurd rfl hne
  | x :: xs, _, h, acc, off => by
    obtain ⟨hx, _, _⟩ := h x List.mem_cons_self
    have e : R (x :: xs) ++ r = toks x ++ ([tk 10] ++ (R xs ++ r)) := by simp [hR.2]
    rw [hL, e]
    refine hx.step (by exact tk_follow (by decide) alnum_nl) ?_
    cases xs with
    | nil =>
      refine nl_reads.step (by rw [hR.1]; exact hr.headValid) ?_
      simp only [hR.1, List.nil_append, hr.break, if_true, linesTrees]
      simp [hR.2, hR.1, tk, Nat.add_assoc]
    | cons y ys =>
      obtain ⟨_, ys1, ys2⟩ := h y (by simp)
      have e2 : R (y :: ys) ++ r = toks y ++ (tk 10 :: R ys ++ r) := by simp [hR.2]
      have ih := lines_reads hL hR start hr (y :: ys) (by simp) (fun z hz => h z (List.mem_cons_of_mem _ hz)) (tree x off :: acc)
        (off + wsum (toks x) + 1)
      rw [e2] at ih ⊢
      refine nl_reads.step (by obtain ⟨t, rest, et, _⟩ := ys1; rw [et] at ys2 ⊢; exact HeadValid.cons (ys2 t _ rfl)) ?_
      have hgo := ys1.cur (off := off + wsum (toks x) + wsum [tk 10]) (r := tk 10 :: R ys ++ r)
      simp only [hgo.1, hgo.2, Bool.or_self, Bool.false_eq_true, if_false]
      have w1 : off + wsum (toks x) + wsum [tk 10] = off + wsum (toks x) + 1 := rfl
      rw [w1, ih]
      simp [linesTrees, hR.2, tk, Nat.add_assoc]

theorem booking_line (padding : Nat) {b : BookingT} (hb : b.ok) :
    Reads parseBooking (renderBookingT padding b) (fun r => HeadValid r ∧ HeadNot isAlphanumeric r) (bookingTree padding b) ∧
      StartsSolid (renderBookingT padding b) ∧ HeadValid (renderBookingT padding b) := by
  obtain ⟨t, ts, et, hs⟩ := hb.1.solid
  have e := renderBookingT_fields padding b []
  rw [List.append_nil] at e
  exact ⟨parseBooking_reads padding hb, ⟨t, _, by rw [e, et]; rfl, hs⟩, by rw [e]; exact (hb.1.solid.follow hb.1.2).1⟩

theorem balance_line {b : BalanceT} (hb : b.ok) :
    Reads parseBalance (renderBalanceT b) (fun r => HeadValid r ∧ HeadNot isAlphanumeric r) (balanceTree b) ∧
      StartsSolid (renderBalanceT b) ∧ HeadValid (renderBalanceT b) := by
  obtain ⟨t, ts, et, hs⟩ := hb.1.solid
  have e := renderBalanceT_fields b []
  rw [List.append_nil] at e
  exact ⟨parseBalance_reads hb, ⟨t, _, by rw [e, et]; rfl, hs⟩, by rw [e]; exact (hb.1.solid.follow hb.1.2).1⟩

theorem valid_lits (s : String) (h : ∀ c ∈ s.toList, c.toNat < 128) : Valid (lits s) := by
  intro t ht
  simp only [lits, List.mem_map] at ht
  obtain ⟨c, hc, rfl⟩ := ht
  exact tk_valid (h c hc)

theorem lits_runes (s : String) : (lits s).map (·.r) = runesOf s := by
  simp [lits, runesOf, tk]

theorem lits_reads {ss : List String}
    (hss : (ss.map runesOf).Pairwise fun a b => ¬ a <+: b ∧ ¬ b <+: a) (hne : ∀ t ∈ ss, t.toList ≠ [])
    {kw : String} (hk : kw ∈ ss) (hv : Valid (lits kw)) :
    Reads (readAlternative ss) (lits kw) HeadValid (fun off => (⟨off, off + wsum (lits kw)⟩, kw)) :=
  readAlternative_reads hss hne hk (lits_runes kw) hv

/-- the first token of a date is a digit: not `@`, not `i`, not `"`, and it is validly encoded -/
theorem DateOK.first {c : List Tok} (h : DateOK c) (off : Nat) (x : List Tok) :
    (cur ⟨off, c ++ x⟩ == 64) = false ∧ (cur ⟨off, c ++ x⟩ == 105) = false ∧ HeadValid (c ++ x) ∧
      (cur ⟨off, c ++ x⟩ != 64) = true := by
  obtain ⟨⟨d1, d2, d3, d4, h1, d5, d6, h2, d7, d8, rfl, p1, _⟩, hv⟩ := h
  have v1 : d1.invalid = false := hv d1 List.mem_cons_self
  simp only [List.cons_append, cur_cons]
  refine ⟨?_, ?_, HeadValid.cons v1, ?_⟩
  · simp only [beq_eq_false_iff_ne]; intro e; rw [e, digit_at] at p1; cases p1
  · simp only [beq_eq_false_iff_ne]; intro e; rw [e, digit_i] at p1; cases p1
  · simp only [bne_iff_ne, ne_eq]; intro e; rw [e, digit_at] at p1; cases p1

/-- the four directive keywords are words of letters, like a commodity -/
theorem keyword_word {kw : String} (hk : kw ∈ ["open", "close", "balance", "price"]) : CommodityOK (lits kw) := by
  have key : ∀ kw ∈ ["open", "close", "balance", "price"],
      lits kw ≠ [] ∧ (∀ t ∈ lits kw, isAlphanumeric t.r = true) ∧ ∀ t ∈ lits kw, t.invalid = false := by decide +kernel
  obtain ⟨h1, h2, h3⟩ := key kw hk
  exact ⟨⟨h1, h2⟩, h3⟩

theorem kw_reads {kw : String} (hk : kw ∈ ["open", "close", "balance", "price"]) :
    Reads (readAlternative ["open", "close", "balance", "price"]) (lits kw) HeadValid
      (fun off => (⟨off, off + wsum (lits kw)⟩, kw)) :=
  lits_reads (by decide) (by decide) hk (keyword_word hk).2

theorem quoted_reads {c : List Tok} (h : ContentOK c) :
    Reads parseQuotedString (tk 34 :: c ++ [tk 34]) HeadValid
      (fun off => ⟨⟨off, off + 1 + wsum c + 1⟩, ⟨off + 1, off + 1 + wsum c⟩⟩) := by
  intro off r hr
  have hv : Valid (tk 34 :: c ++ [tk 34]) :=
    Valid.cons (tk_valid (by decide)) (h.2.append (Valid.cons (tk_valid (by decide)) Valid.nil))
  have := parseQuotedString_reads h.1 (q1 := tk 34) (q2 := tk 34) rfl rfl hv off r hr
  simpa [tk, Nat.add_assoc] using this

theorem parseDirective_plain (s : St) (h : (cur s == 64) = false) :
    parseDirective s = (parseDirectiveBody s.off Addons.zero s).bind (fun e _ => e) fun body s' =>
      .ok ⟨rng s.off s', body⟩ s' := by
  unfold parseDirective
  simp only [h, Bool.false_eq_true, if_false, Res.bind]

theorem parseDirectiveBody_dated (start : Nat) (addons : Addons) (s : St) (h : (cur s == 105) = false) :
    parseDirectiveBody start addons s =
      (parseDate s).bind (annotate "parsing directive" start) fun date s =>
      (readWhitespace1 s).bind (annotate "parsing directive" start) fun _ s =>
      if cur s == 34 then
        (parseTransaction start date addons s).bind (annotate "parsing directive" start) fun t s => .ok (.transaction t) s
      else
        (readAlternative ["open", "close", "balance", "price"] s).bind (annotate "parsing directive" start) fun (_, kw) s =>
        (readWhitespace1 s).bind (annotate "parsing directive" start) fun _ s =>
        parseKeyword start date kw s := by
  unfold parseDirectiveBody
  simp only [h, Bool.false_eq_true, if_false]

theorem trx_reads (padding start : Nat) (addons : Addons) {d desc : List Tok} {bs : List BookingT} (hd : DateOK d)
    (hdesc : ContentOK desc) (hne : bs ≠ []) (hb : ∀ b ∈ bs, b.ok) :
    Reads (parseDirectiveBody start addons) (trxToks padding d desc bs) GapStart
      (fun off => .transaction (trxTree padding start addons d desc bs off)) := by
  intro off r hr
  obtain ⟨b0, brest, rfl⟩ := List.exists_cons_of_ne_nil hne
  have hstart : HeadValid (renderBookingsT padding (b0 :: brest) ++ r) := by
    obtain ⟨_, ⟨t, rest, et, _⟩, hv⟩ := booking_line padding (hb b0 List.mem_cons_self)
    rw [(bookings_lines padding).2, et]
    exact HeadValid.cons (hv t _ et)
  rw [trxToks_fields, parseDirectiveBody_dated _ _ _ (hd.first off _).2.1]
  refine (parseDate_reads hd.1 hd.2).step (hv_tk (by decide)) ?_
  refine sp_reads.step (by exact ⟨hv_tk (by decide), HeadNot.cons (by decide)⟩) ?_
  have c34 : ∀ o x, (cur ⟨o, (tk 34 :: desc ++ [tk 34]) ++ x⟩ == 34) = true := fun _ _ => rfl
  rw [if_pos (c34 _ _)]
  refine Res.bind_of_eq (a := trxTree padding start addons d desc (b0 :: brest) off)
    (s' := ⟨off + wsum (trxToks padding d desc (b0 :: brest)), r⟩) ?_ rfl
  unfold parseTransaction
  refine (quoted_reads hdesc).step (hv_tk (by decide)) ?_
  refine nl_reads.step hstart ?_
  have eo : off + wsum d + wsum [tk 32] + wsum (tk 34 :: desc ++ [tk 34]) + wsum [tk 10] = off + wsum d + 1 + 1 + wsum desc + 1 + 1 := by
    simp [tk]; omega
  have es : off + wsum d + 1 + 1 + wsum desc + 1 + 1 + wsum (renderBookingsT padding (b0 :: brest)) =
      off + wsum (trxToks padding d desc (b0 :: brest)) := by
    simp [trxToks, tk]; omega
  rw [eo]
  refine Res.bind_of_eq (lines_reads bookingsLoop_eq (bookings_lines padding) start hr _ hne
    (fun b hb' => booking_line padding (hb b hb')) [] _) ?_
  rw [es]; rfl

theorem commaTail_head (ts : List (List Tok)) (r : List Tok) :
    HeadValid (commaTail ts ++ tk 41 :: r) ∧ HeadNot isAlphanumeric (commaTail ts ++ tk 41 :: r) ∧
      HeadNot isWhitespace (commaTail ts ++ tk 41 :: r) := by
  cases ts with
  | nil => exact ⟨hv_tk (by decide), HeadNot.cons (by decide +kernel), HeadNot.cons (by decide)⟩
  | cons t ts => exact ⟨hv_tk (by decide), HeadNot.cons (by decide +kernel), HeadNot.cons (by decide)⟩

/-- no blank where the parser allows some -/
theorem none_reads : Reads (readWhile isWhitespace) [] (fun r => HeadValid r ∧ HeadNot isWhitespace r) (fun off => ⟨off, off⟩) :=
  blanks_reads Blank.nil

theorem perfLoop_reads (start : Nat) : ∀ (ts : List (List Tok)), (∀ t ∈ ts, CommodityOK t) → ∀ (acc : List Commodity),
    Reads (perfLoop start acc) (commaTail ts) (fun r => ∃ y, r = tk 41 :: y) (fun off => acc.reverse ++ perfTrees off ts)
  | [], _, acc => by
    rintro off r ⟨y, rfl⟩
    rw [perfLoop_eq]
    have : (cur ⟨off, commaTail [] ++ tk 41 :: y⟩ != 44) = true := rfl
    rw [if_pos this]; simp [commaTail, perfTrees]
  | t :: ts, h, acc => by
    rintro off r ⟨y, rfl⟩
    obtain ⟨hv1, hn1, hw1⟩ := commaTail_head ts y
    have ht := h t List.mem_cons_self
    have e : commaTail (t :: ts) ++ tk 41 :: y = [tk 44] ++ ([] ++ (t ++ ([] ++ (commaTail ts ++ tk 41 :: y)))) := by simp [commaTail]
    have hc : (cur ⟨off, [tk 44] ++ ([] ++ (t ++ ([] ++ (commaTail ts ++ tk 41 :: y))))⟩ != 44) = false := rfl
    rw [perfLoop_eq, e, if_neg (by rw [hc]; simp)]
    refine (tk_reads 44).step (ht.solid.follow ht.2).1 ?_
    refine none_reads.step (ht.solid.follow ht.2) ?_
    refine (parseCommodity_reads ht.1 ht.2).step ⟨hv1, hn1⟩ ?_
    refine none_reads.step ⟨hv1, hw1⟩ ?_
    rw [perfLoop_reads start ts (fun z hz => h z (List.mem_cons_of_mem _ hz)) _ _ _ ⟨y, rfl⟩]
    simp [perfTrees, commaTail, tk, Nat.add_assoc]

/-- `@performance` has been read -/
theorem parsePerformance_reads {ts : List (List Tok)} (h : ∀ t ∈ ts, CommodityOK t) :
    Reads parsePerformance (perfArgs ts) HeadValid (perfTree ts) := by
  intro off r hr
  unfold parsePerformance
  cases ts with
  | nil =>
    have e : perfArgs [] ++ r = [tk 40] ++ ([] ++ (tk 41 :: r)) := by simp [perfArgs, joinCommaT]
    rw [e]
    refine (tk_reads 40).step (hv_tk (by decide)) ?_
    refine none_reads.step (by exact ⟨hv_tk (by decide), HeadNot.cons (by decide)⟩) ?_
    have hc : (cur ⟨off + wsum [tk 40] + wsum ([] : List Tok), tk 41 :: r⟩ != 41) = false := rfl
    rw [if_neg (by rw [hc]; simp)]
    refine Res.bind_of_eq rfl ?_
    refine Res.bind_of_eq (perfLoop_reads off [] (by simp) [] _ _ ⟨r, rfl⟩) ?_
    refine (tk_reads 41).step hr ?_
    simp [perfTree, perfArgs, perfTrees, joinCommaT, commaTail, rng, tk, Nat.add_assoc]
  | cons t ts =>
    obtain ⟨hv1, hn1, hw1⟩ := commaTail_head ts r
    have ht := h t List.mem_cons_self
    have e : perfArgs (t :: ts) ++ r = [tk 40] ++ ([] ++ (t ++ ([] ++ (commaTail ts ++ tk 41 :: r)))) := by
      simp [perfArgs, joinCommaT_cons]
    rw [e]
    refine (tk_reads 40).step (ht.solid.follow ht.2).1 ?_
    refine none_reads.step (ht.solid.follow ht.2) ?_
    have hc : (cur ⟨off + wsum [tk 40] + wsum ([] : List Tok), t ++ ([] ++ (commaTail ts ++ tk 41 :: r))⟩ != 41) = true :=
      bne_iff_ne.mpr fun e => by
        have := ht.cur_alnum (off + wsum [tk 40] + wsum ([] : List Tok)) ([] ++ (commaTail ts ++ tk 41 :: r))
        rw [e, alnum_rparen] at this; cases this
    rw [if_pos hc]
    refine Res.bind_of_eq (a := [⟨⟨off + 1, off + 1 + wsum t⟩⟩]) (s' := ⟨off + 1 + wsum t, commaTail ts ++ tk 41 :: r⟩) ?_ ?_
    · refine (parseCommodity_reads ht.1 ht.2).step ⟨hv1, hn1⟩ ?_
      exact none_reads.step ⟨hv1, hw1⟩ rfl
    · refine Res.bind_of_eq (perfLoop_reads off ts (fun z hz => h z (List.mem_cons_of_mem _ hz)) _ _ _ ⟨r, rfl⟩) ?_
      have e2 : tk 41 :: r = [tk 41] ++ r := rfl
      rw [e2]
      refine (tk_reads 41).step hr ?_
      simp [perfTree, perfArgs, perfTrees, joinCommaT_cons, rng, tk, Nat.add_assoc]

theorem addon_kw_reads {kw : String} (hk : kw ∈ ["@performance", "@accrue"]) :
    Reads (readAlternative ["@performance", "@accrue"]) (lits kw) HeadValid (fun off => (⟨off, off + wsum (lits kw)⟩, kw)) :=
  lits_reads (by decide) (by decide) hk
    (valid_lits kw ((by decide : ∀ t ∈ ["@performance", "@accrue"], ∀ c ∈ t.toList, c.toNat < 128) kw hk))

theorem accrual_extend (a : AccrualT) (off : Nat) :
    { accrualTree a (off + wsum (lits "@accrue")) with
      range := (accrualTree a (off + wsum (lits "@accrue"))).range.extend ⟨off, off + wsum (lits "@accrue")⟩ } =
      accrualLineTree a off := by
  have e : (accrualTree a (off + wsum (lits "@accrue"))).range =
      ⟨off + wsum (lits "@accrue"), off + wsum (lits "@accrue") + wsum (accrualArgs a)⟩ := by
    rw [wsum_accrualArgs]; rfl
  rw [e, extend_kw (Nat.le_add_right _ _) (Nat.le_add_right _ _)]; rfl

theorem perf_extend (ts : List (List Tok)) (off : Nat) :
    { perfTree ts (off + wsum (lits "@performance")) with
      range := (perfTree ts (off + wsum (lits "@performance"))).range.extend ⟨off, off + wsum (lits "@performance")⟩ } =
      perfLineTree ts off := by
  simp only [perfTree, perfLineTree, extend_kw (Nat.le_add_right _ _) (Nat.le_add_right _ _)]

theorem accrual_round (start : Nat) (p0 : Performance) {accr : Accrual} (he : accr.range.empty = true) {a : AccrualT}
    (ha : a.ok) (off : Nat) {next : List Tok} (hv : HeadValid next) :
    addonsLoop start p0 accr ⟨off, renderAccrualT a ++ next⟩ =
      (if cur ⟨off + wsum (renderAccrualT a), next⟩ != 64 then
        .ok ⟨rng start ⟨off + wsum (renderAccrualT a), next⟩, p0, accrualLineTree a off⟩ ⟨off + wsum (renderAccrualT a), next⟩
       else addonsLoop start p0 (accrualLineTree a off) ⟨off + wsum (renderAccrualT a), next⟩) := by
  have eo : off + wsum (lits "@accrue") + wsum (accrualArgs a) + wsum [tk 10] = off + wsum (renderAccrualT a) := by
    have := congrArg wsum (renderAccrualT_fields a [])
    simp only [List.append_nil, wsum_append] at this
    rw [this]; simp only [Nat.add_assoc]
  rw [addonsLoop_eq, renderAccrualT_fields]
  refine (addon_kw_reads (by simp)).step (by rw [accrualArgs]; exact hv_tk (by decide)) ?_
  refine Res.bind_of_eq (a := (p0, accrualLineTree a off))
    (s' := ⟨off + wsum (lits "@accrue") + wsum (accrualArgs a), [tk 10] ++ next⟩) ?_ ?_
  · rw [addonStep_accrue, he]
    simp only [Bool.not_true, Bool.false_eq_true, if_false]
    exact (parseAccrual_reads ha).step (by exact ⟨hv_tk (by decide), HeadNot.cons alnum_nl, HeadNot.cons (by decide)⟩)
      (by rw [accrual_extend])
  · refine nl_reads.step hv ?_
    rw [eo]

theorem perf_round (start : Nat) {perf : Performance} (he : perf.range.empty = true) (a0 : Accrual) {ts : List (List Tok)}
    (hts : ∀ t ∈ ts, CommodityOK t) (off : Nat) {next : List Tok} (hv : HeadValid next) :
    addonsLoop start perf a0 ⟨off, renderPerformanceT ts ++ next⟩ =
      (if cur ⟨off + wsum (renderPerformanceT ts), next⟩ != 64 then
        .ok ⟨rng start ⟨off + wsum (renderPerformanceT ts), next⟩, perfLineTree ts off, a0⟩
          ⟨off + wsum (renderPerformanceT ts), next⟩
       else addonsLoop start (perfLineTree ts off) a0 ⟨off + wsum (renderPerformanceT ts), next⟩) := by
  have eo : off + wsum (lits "@performance") + wsum (perfArgs ts) + wsum [tk 10] = off + wsum (renderPerformanceT ts) := by
    have := congrArg wsum (renderPerformanceT_fields ts [])
    simp only [List.append_nil, wsum_append] at this
    rw [this]; simp only [Nat.add_assoc]
  rw [addonsLoop_eq, renderPerformanceT_fields]
  refine (addon_kw_reads (by simp)).step (by rw [perfArgs]; exact hv_tk (by decide)) ?_
  refine Res.bind_of_eq (a := (perfLineTree ts off, a0))
    (s' := ⟨off + wsum (lits "@performance") + wsum (perfArgs ts), [tk 10] ++ next⟩) ?_ ?_
  · rw [addonStep_performance, he]
    simp only [Bool.not_true, Bool.false_eq_true, if_false]
    exact (parsePerformance_reads hts).step (by exact hv_tk (by decide)) (by rw [perf_extend])
  · refine nl_reads.step hv ?_
    rw [eo]

theorem parseDirective_addons (s : St) (h : (cur s == 64) = true) :
    parseDirective s = (addonsLoop s.off Performance.zero Accrual.zero s).bind (annotate "parsing directive" s.off) fun a s1 =>
      (parseDirectiveBody s.off a s1).bind (fun e _ => e) fun body s' => .ok ⟨rng s.off s', body⟩ s' := by
  unfold parseDirective parseAddons
  simp only [h, if_true]
  cases addonsLoop s.off Performance.zero Accrual.zero s <;> rfl

theorem cur_renderAccrualT (a : AccrualT) (off : Nat) (x : List Tok) : cur ⟨off, renderAccrualT a ++ x⟩ = 64 := by
  rw [renderAccrualT, lits_ofList]; rfl

theorem cur_renderPerformanceT (ts : List (List Tok)) (off : Nat) (x : List Tok) :
    cur ⟨off, renderPerformanceT ts ++ x⟩ = 64 := by
  rw [renderPerformanceT, lits_ofList]; rfl

/-- the annotation lines of a rendered transaction: `parseDirective` reads them and goes on with the directive proper
(`next`, which does not start with `@`) -/
theorem addons_reads (aT : Option AccrualT) (pT : Option (List (List Tok))) (hao : ∀ a, aT = some a → a.ok)
    (hpo : ∀ ts, pT = some ts → ∀ t ∈ ts, CommodityOK t) {next : List Tok} (hv : HeadValid next)
    (h64 : ∀ o, (cur ⟨o, next⟩ == 64) = false) (off : Nat) :
    parseDirective ⟨off, addonsToks aT pT ++ next⟩ =
      (parseDirectiveBody off (addonsTree aT pT off) ⟨off + wsum (addonsToks aT pT), next⟩).bind (fun e _ => e)
        fun body s' => .ok ⟨rng off s', body⟩ s' := by
  have stop : ∀ o, (cur ⟨o, next⟩ != 64) = true := fun o => by simp [bne, h64 o]
  have z1 : Accrual.zero.range.empty = true := by decide
  have z2 : Performance.zero.range.empty = true := by decide
  match aT, pT, hao, hpo with
  | none, none, _, _ => exact parseDirective_plain _ (h64 off)
  | some a, none, hao, _ =>
    rw [addonsToks, parseDirective_addons _ (by rw [cur_renderAccrualT]; rfl), accrual_round off _ z1 (hao a rfl) off hv,
      if_pos (stop _)]
    rfl
  | none, some ts, _, hpo =>
    rw [addonsToks, parseDirective_addons _ (by rw [cur_renderPerformanceT]; rfl), perf_round off z2 _ (hpo ts rfl) off hv,
      if_pos (stop _)]
    rfl
  | some a, some ts, hao, hpo =>
    have hv1 : HeadValid (renderPerformanceT ts ++ next) := by
      rw [renderPerformanceT_fields]; exact HeadValid.append (valid_lits _ (by decide)) (by rw [perfArgs]; exact hv_tk (by decide))
    have hgo : (cur ⟨off + wsum (renderAccrualT a), renderPerformanceT ts ++ next⟩ != 64) = false := by
      rw [cur_renderPerformanceT]; rfl
    rw [addonsToks, List.append_assoc, parseDirective_addons _ (by rw [cur_renderAccrualT]; rfl),
      accrual_round off _ z1 (hao a rfl) off hv1, if_neg (by rw [hgo]; simp), perf_round off z2 _ (hpo ts rfl) _ hv,
      if_pos (stop _)]
    simp only [Res.bind, addonsTree, rng, wsum_append, Nat.add_assoc]

theorem addons_view {text : Bytes} (aT : Option AccrualT) (pT : Option (List (List Tok)))
    (hao : ∀ a, aT = some a → a.ok ∧ a.canon) (hpo : ∀ ts, pT = some ts → ∀ t ∈ ts, CommodityOK t ∧ Canon t)
    {off : Nat} {next : List Tok} (hG : Good text ⟨off, addonsToks aT pT ++ next⟩) :
    AccrRel text (addonsTree aT pT off).accrual aT ∧ PerfRel text (addonsTree aT pT off).performance pT := by
  have z1 : Accrual.zero.range.empty = true := by decide
  have z2 : Performance.zero.range.empty = true := by decide
  have na : ∀ (a : AccrualT) (o : Nat), (accrualLineTree a o).range.empty = false := fun a o => by
    simp only [accrualLineTree, wsum_accrue, Range.empty, beq_eq_false_iff_ne]; omega
  have np : ∀ (ts : List (List Tok)) (o : Nat), (perfLineTree ts o).range.empty = false := fun ts o => by
    simp only [perfLineTree, wsum_performance, Range.empty, beq_eq_false_iff_ne]; omega
  match aT, pT, hao, hpo with
  | none, none, _, _ => exact ⟨z1, z2⟩
  | some a, none, hao, _ => exact ⟨⟨na a off, accrualLine_view hG, hao a rfl⟩, z2⟩
  | none, some ts, _, hpo => exact ⟨z1, np ts off, perfLine_view hG, hpo ts rfl⟩
  | some a, some ts, hao, hpo =>
    rw [addonsToks, List.append_assoc] at hG
    exact ⟨⟨na a off, accrualLine_view hG, hao a rfl⟩, np ts _, perfLine_view hG.step.2, hpo ts rfl⟩

theorem GapStart.afterAccount {r : List Tok} (h : GapStart r) :
    HeadValid r ∧ HeadNot isAlphanumeric r ∧ HeadNot (fun y => y == 58) r := ⟨h.headValid, h.notAlnum, h.notColon⟩

/-- the frame `date kw`: `parseDirective` reads it, then `w2` (a blank, or nothing before a line break) by
`readWhitespace1`, and hands `body` to `parseKeyword` -/
theorem dated_reads {d w2 body : List Tok} {kw : String} (hd : DateOK d) (hk : kw ∈ ["open", "close", "balance", "price"])
    {F2 F : List Tok → Prop} {b : Nat → Date → Nat → Body}
    (hw2 : Reads readWhitespace1 w2 F2 (fun off => ⟨off, off + wsum w2⟩))
    (hbody : ∀ start date, Reads (parseKeyword start date kw) body F (b start date))
    (hF2 : ∀ r, F r → HeadValid (w2 ++ (body ++ r)) ∧ F2 (body ++ r)) :
    Reads parseDirective (datedToks d kw (w2 ++ body)) F
      (fun off => ⟨⟨off, off + wsum (datedToks d kw (w2 ++ body))⟩,
        b off ⟨⟨off, off + wsum d⟩⟩ (datedOff d kw off + wsum w2)⟩) := by
  intro off r hr
  have hw := keyword_word hk
  have e : datedToks d kw (w2 ++ body) ++ r = d ++ ([tk 32] ++ (lits kw ++ (w2 ++ (body ++ r)))) := by simp [datedToks]
  have eo : off + wsum (datedToks d kw (w2 ++ body)) = datedOff d kw off + wsum w2 + wsum body := by
    simp [datedToks, datedOff, tk, Nat.add_assoc]
  obtain ⟨c64, c105, _, _⟩ := hd.first off ([tk 32] ++ (lits kw ++ (w2 ++ (body ++ r))))
  show parseDirective _ = Res.ok ⟨⟨off, off + wsum (datedToks d kw (w2 ++ body))⟩,
    b off ⟨⟨off, off + wsum d⟩⟩ (datedOff d kw off + wsum w2)⟩ _
  rw [e, parseDirective_plain _ c64, eo]
  refine Res.bind_of_eq (a := b off ⟨⟨off, off + wsum d⟩⟩ (datedOff d kw off + wsum w2))
    (s' := ⟨datedOff d kw off + wsum w2 + wsum body, r⟩) ?_ rfl
  rw [parseDirectiveBody_dated _ _ _ c105]
  refine (parseDate_reads hd.1 hd.2).step (hv_tk (by decide)) ?_
  refine sp_reads.step (hw.solid.follow hw.2) ?_
  rw [if_neg (by
    have := hw.cur_alnum (off + wsum d + wsum [tk 32]) (w2 ++ (body ++ r))
    intro e; rw [beq_iff_eq.mp e] at this; cases this)]
  refine (kw_reads hk).step (hF2 r hr).1 ?_
  refine hw2.step (hF2 r hr).2 ?_
  exact hbody off _ _ r hr

theorem StartsSolid.afterSp {c : List Tok} (hs : StartsSolid c) (hv : Valid c) (x : List Tok) :
    HeadValid ([tk 32] ++ (c ++ x)) ∧ HeadValid (c ++ x) ∧ HeadNot isWhitespace (c ++ x) :=
  ⟨hv_tk (by decide), hs.follow hv⟩

theorem open_reads (start : Nat) (date : Date) {a : List Tok} (ha : AccountOK a) :
    Reads (parseKeyword start date "open") a GapStart (openBody start date a) := by
  intro off r hr
  rw [parseKeyword_open, parseOpen]
  refine Res.bind_of_eq (a := ⟨⟨start, off + wsum a⟩, date, ⟨⟨off, off + wsum a⟩, macroOf a⟩⟩) (s' := ⟨off + wsum a, r⟩) ?_ rfl
  exact (parseAccount_reads ha.isAccount ha.2).step hr.afterAccount rfl

theorem close_reads (start : Nat) (date : Date) {a : List Tok} (ha : AccountOK a) :
    Reads (parseKeyword start date "close") a GapStart (closeBody start date a) := by
  intro off r hr
  rw [parseKeyword_close, parseClose]
  refine Res.bind_of_eq (a := ⟨⟨start, off + wsum a⟩, date, ⟨⟨off, off + wsum a⟩, macroOf a⟩⟩) (s' := ⟨off + wsum a, r⟩) ?_ rfl
  exact (parseAccount_reads ha.isAccount ha.2).step hr.afterAccount rfl

theorem price_reads (start : Nat) (date : Date) {c p t : List Tok} (hc : CommodityOK c) (hp : DecimalOK p) (ht : CommodityOK t) :
    Reads (parseKeyword start date "price") (priceToks c p t) GapStart (priceBody start date c p t) := by
  intro off r hr
  have eo : off + wsum (priceToks c p t) = off + wsum c + 1 + wsum p + 1 + wsum t := by
    simp [priceToks, tk, Nat.add_assoc]
  rw [parseKeyword_price, parsePrice, eo]
  simp only [priceToks, List.cons_append, List.append_assoc]
  refine Res.bind_of_eq (s' := ⟨off + wsum c + 1 + wsum p + 1 + wsum t, r⟩) ?_ rfl
  refine (parseCommodity_reads hc.1 hc.2).step (by exact tk_follow (by decide) alnum_space) ?_
  refine sp_reads.step (hp.solid.follow hp.2) ?_
  refine (parseDecimal_reads hp.1 hp.2).step (by exact ⟨hv_tk (by decide), HeadNot.cons digit_space, HeadNot.cons (by decide)⟩) ?_
  refine sp_reads.step (ht.solid.follow ht.2) ?_
  refine (parseCommodity_reads ht.1 ht.2).step ⟨hr.headValid, hr.notAlnum⟩ ?_
  rfl

/-- one balance on the line of the keyword -/
theorem assert1_reads (start : Nat) (date : Date) {b : BalanceT} (hb : b.ok) :
    Reads (parseKeyword start date "balance") (renderBalanceT b) GapStart (assert1Body start date b) := by
  intro off r hr
  obtain ⟨_, hs, _⟩ := balance_line hb
  have hnl : isNewline (cur ⟨off, renderBalanceT b ++ r⟩) = false := by
    have := (hs.cur (off := off) (r := r)).1
    simp only [isWhitespaceOrNewline, Bool.or_eq_false_iff] at this
    exact this.1
  rw [parseKeyword_balance, parseAssertion]
  simp only [hnl, Bool.false_eq_true, if_false]
  refine Res.bind_of_eq (a := ⟨⟨start, off + wsum (renderBalanceT b)⟩, date, [balanceTree b off]⟩)
    (s' := ⟨off + wsum (renderBalanceT b), r⟩) ?_ rfl
  exact (parseBalance_reads hb).step ⟨hr.headValid, hr.notAlnum⟩ rfl

/-- the keyword closes its line, the balances stand one per line -/
theorem assertN_reads (start : Nat) (date : Date) {bs : List BalanceT} (hne : bs ≠ []) (hb : ∀ b ∈ bs, b.ok) :
    Reads (parseKeyword start date "balance") (tk 10 :: renderBalancesT bs) GapStart (assertNBody start date bs) := by
  intro off r hr
  obtain ⟨b0, brest, rfl⟩ := List.exists_cons_of_ne_nil hne
  have hstart : HeadValid (renderBalancesT (b0 :: brest) ++ r) := by
    obtain ⟨_, ⟨t, rest, et, _⟩, hv⟩ := balance_line (hb b0 List.mem_cons_self)
    rw [balances_lines.2, et]
    exact HeadValid.cons (hv t _ et)
  have e : tk 10 :: renderBalancesT (b0 :: brest) ++ r = [tk 10] ++ (renderBalancesT (b0 :: brest) ++ r) := rfl
  have hnl : isNewline (cur ⟨off, [tk 10] ++ (renderBalancesT (b0 :: brest) ++ r)⟩) = true := rfl
  rw [parseKeyword_balance, parseAssertion, e]
  simp only [hnl, if_true]
  refine Res.bind_of_eq (a := ⟨⟨start, off + wsum [tk 10] + wsum (renderBalancesT (b0 :: brest))⟩, date,
      linesTrees renderBalanceT balanceTree (off + 1) (b0 :: brest)⟩)
    (s' := ⟨off + wsum [tk 10] + wsum (renderBalancesT (b0 :: brest)), r⟩) ?_ ?_
  · refine nl_reads.step hstart ?_
    exact Res.bind_of_eq (lines_reads balancesLoop_eq balances_lines start hr _ hne (fun b hb' => balance_line (hb b hb')) [] _) rfl
  · simp [assertNBody, tk, Nat.add_assoc]

theorem include_reads {p : List Tok} (hp : ContentOK p) : Reads parseDirective (includeToks p) GapStart (includeTree p) := by
  intro off r hr
  have e : includeToks p ++ r = lits "include" ++ ([tk 32] ++ ((tk 34 :: p ++ [tk 34]) ++ r)) := by simp [includeToks]
  have c64 : (cur ⟨off, lits "include" ++ ([tk 32] ++ ((tk 34 :: p ++ [tk 34]) ++ r))⟩ == 64) = false := by rw [lits_ofList]; rfl
  have c105 : (cur ⟨off, lits "include" ++ ([tk 32] ++ ((tk 34 :: p ++ [tk 34]) ++ r))⟩ == 105) = true := by rw [lits_ofList]; rfl
  have eo : off + wsum (includeToks p) = off + wsum (lits "include") + 1 + (1 + wsum p + 1) := by
    simp [includeToks, tk, Nat.add_assoc]
  rw [e, parseDirective_plain _ c64, eo]
  refine Res.bind_of_eq (a := (includeTree p off).body) (s' := ⟨off + wsum (lits "include") + 1 + (1 + wsum p + 1), r⟩) ?_ ?_
  · unfold parseDirectiveBody
    simp only [c105, if_true]
    refine Res.bind_of_eq (s' := ⟨off + wsum (lits "include") + 1 + (1 + wsum p + 1), r⟩) ?_ rfl
    unfold parseInclude
    refine (readString_reads (lits_runes _) (valid_lits _ (by decide))).step (hv_tk (by decide)) ?_
    refine sp_reads.step (by exact ⟨hv_tk (by decide), HeadNot.cons (by decide)⟩) ?_
    refine (quoted_reads hp).step hr.headValid ?_
    simp [rng, tk, Nat.add_assoc]; omega
  · simp [includeTree, rng, Nat.add_assoc]; omega

theorem Good.prefix {text : Bytes} {off : Nat} {d : List Tok} {kw : String} {x : List Tok}
    (hG : Good text ⟨off, d ++ (tk 32 :: (lits kw ++ (tk 32 :: x)))⟩) :
    Range.extract text ⟨off, off + wsum d⟩ = some (flat d) ∧ Good text ⟨off + wsum d + 1 + wsum (lits kw) + 1, x⟩ := by
  obtain ⟨e1, G1⟩ := hG.step
  exact ⟨e1, G1.sp.step.2.sp⟩

/-- **completeness**: parsing the rendering of a well-formed directive, followed by a gap or the end of the text,
consumes exactly the rendering and yields a directive with the same fields -/
theorem parseDirective_complete (padding : Nat) (v : DirT) (hok : v.ok) (hcan : v.canon) (off : Nat) (r : List Tok)
    (hr : GapStart r) :
    ∃ d2 off', parseDirective ⟨off, renderT padding v ++ r⟩ = .ok d2 ⟨off', r⟩ ∧
      ∀ text, Good text ⟨off, renderT padding v ++ r⟩ → viewDirective text d2 = some v.bytes := by
  cases v with
  | transaction aT pT d desc bs =>
    obtain ⟨hao, hpo, hd, hdesc, hne, hb⟩ := hok
    have hfirst := fun o => hd.first o ([tk 32] ++ ((tk 34 :: desc ++ [tk 34]) ++ ([tk 10] ++ (renderBookingsT padding bs ++ r))))
    rw [renderT_transaction, List.append_assoc]
    refine ⟨⟨rng off ⟨off + wsum (addonsToks aT pT) + wsum (trxToks padding d desc bs), r⟩,
        .transaction (trxTree padding off (addonsTree aT pT off) d desc bs (off + wsum (addonsToks aT pT)))⟩,
      off + wsum (addonsToks aT pT) + wsum (trxToks padding d desc bs), ?_, fun text hG => ?_⟩
    · have hv : HeadValid (trxToks padding d desc bs ++ r) := by rw [trxToks_fields]; exact (hfirst 0).2.2.1
      have h64 : ∀ o, (cur ⟨o, trxToks padding d desc bs ++ r⟩ == 64) = false := fun o => by
        rw [trxToks_fields]; exact (hfirst o).1
      rw [addons_reads aT pT hao hpo hv h64 off, trx_reads padding off _ hd hdesc hne hb _ r hr]
      rfl
    · obtain ⟨ha, hp⟩ := addons_view aT pT (fun a ea => ⟨hao a ea, hcan.1 a ea⟩)
        (fun ts ets t ht => ⟨hpo ts ets t ht, hcan.2.1 ts ets t ht⟩) hG
      obtain ⟨v1, v2, v3⟩ := trx_view (start := off) (addons := addonsTree aT pT off) hG.step.2
      exact viewTransaction_of ha hp v1 v2 v3
  | «open» d a =>
    rw [renderT_open]
    exact ⟨_, _, dated_reads hok.1 (by simp) sp_reads (fun s dt => open_reads s dt hok.2)
      (fun x _ => hok.2.solid.afterSp hok.2.2 x) off r hr, fun text hG => open_view hG⟩
  | close d a =>
    rw [renderT_close]
    exact ⟨_, _, dated_reads hok.1 (by simp) sp_reads (fun s dt => close_reads s dt hok.2)
      (fun x _ => hok.2.solid.afterSp hok.2.2 x) off r hr, fun text hG => close_view hG⟩
  | price d c p t =>
    obtain ⟨hd, hc, hp, ht⟩ := hok
    rw [renderT_price]
    exact ⟨_, _, dated_reads hd (by simp) sp_reads (fun s dt => price_reads s dt hc hp ht)
      (fun x _ => by rw [priceToks, List.append_assoc]; exact hc.solid.afterSp hc.2 _) off r hr, fun text hG => price_view hG⟩
  | «include» p =>
    rw [renderT_include]
    exact ⟨_, _, include_reads hok off r hr, fun text hG => include_view hG⟩
  | assertion d bs =>
    obtain ⟨hd, hne, hb⟩ := hok
    match bs, hne, hb with
    | [b], _, hb =>
      have hb := hb b List.mem_cons_self
      rw [renderT_assert1]
      exact ⟨_, _, dated_reads hd (by simp) sp_reads (fun s dt => assert1_reads s dt hb)
        (fun x _ => by rw [renderBalanceT_fields]; exact hb.1.solid.afterSp hb.1.2 _) off r hr, fun text hG => assert1_view hG⟩
    | b1 :: b2 :: rest, hne, hb =>
      rw [renderT_assertN]
      exact ⟨_, _, dated_reads hd (by simp) ws0_reads (fun s dt => assertN_reads s dt hne hb)
        (fun x _ => ⟨hv_tk (by decide), _, rfl⟩) off r hr, fun text hG => assertN_view hG⟩

end Knut.Syntax
