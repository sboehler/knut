import Knut.Proofs.SyntaxGrammar
import Knut.Proofs.SyntaxFormat
import Knut.Proofs.SyntaxFile
/-!
# What a successfully parsed directive consists of (soundness half of the C08 round trip)

`DirT` is the token-level counterpart of `DirV`: the fields of a directive as token lists. Every successful call of a parser
function starts from and leaves a state of the scan with a valid head (`Inv`) and passed tokens that are validly and
canonically encoded and are the bytes between the two offsets (`Took`); a leaf parser says in addition which lexical class
they belong to (`parseDate_took` …). A composite element is gone through call by call, one line each: the fields it recorded
are token lists of the right class and `Extract()` of each recorded range is their bytes (`view… = some (….bytes)`); what the
tree records beyond the fields — the kind of an account node, `Range{}` for an absent annotation (`DirShape`, which the
monitor's `semFlat` sees) — comes out of the same walk (`parseDirective_took`).
-/
namespace Knut.Syntax
open Knut.Utf8 Knut.Spec.Syntax

structure BookingT where
  credit : List Tok
  debit : List Tok
  quantity : List Tok
  commodity : List Tok

structure BalanceT where
  account : List Tok
  quantity : List Tok
  commodity : List Tok

structure AccrualT where
  interval : List Tok
  start : List Tok
  stop : List Tok
  account : List Tok

inductive DirT where
  | transaction (accrual : Option AccrualT) (performance : Option (List (List Tok))) (date desc : List Tok)
      (bookings : List BookingT)
  | «open» (date account : List Tok)
  | close (date account : List Tok)
  | assertion (date : List Tok) (balances : List BalanceT)
  | price (date commodity price target : List Tok)
  | «include» (path : List Tok)

def BookingT.bytes (b : BookingT) : BookingV := ⟨flat b.credit, flat b.debit, flat b.quantity, flat b.commodity⟩
def BalanceT.bytes (b : BalanceT) : BalanceV := ⟨flat b.account, flat b.quantity, flat b.commodity⟩
def AccrualT.bytes (a : AccrualT) : AccrualV := ⟨flat a.interval, flat a.start, flat a.stop, flat a.account⟩

def DirT.bytes : DirT → DirV
  | .transaction accr perf date desc bs =>
    .transaction (accr.map AccrualT.bytes) (perf.map (·.map flat)) (flat date) (flat desc) (bs.map BookingT.bytes)
  | .open d a => .open (flat d) (flat a)
  | .close d a => .close (flat d) (flat a)
  | .assertion d bs => .assertion (flat d) (bs.map BalanceT.bytes)
  | .price d c p t => .price (flat d) (flat c) (flat p) (flat t)
  | .include p => .include (flat p)

def AccountOK (c : List Tok) : Prop := (∃ m, IsAccount m c) ∧ Valid c
def DateOK (c : List Tok) : Prop := IsDate c ∧ Valid c
def DecimalOK (c : List Tok) : Prop := IsDecimal c ∧ Valid c
def CommodityOK (c : List Tok) : Prop := IsCommodity c ∧ Valid c
def IntervalOK (c : List Tok) : Prop := IsInterval c ∧ Valid c
def ContentOK (c : List Tok) : Prop := IsContent c ∧ Valid c

def BookingT.ok (b : BookingT) : Prop :=
  AccountOK b.credit ∧ AccountOK b.debit ∧ DecimalOK b.quantity ∧ CommodityOK b.commodity
def BalanceT.ok (b : BalanceT) : Prop := AccountOK b.account ∧ DecimalOK b.quantity ∧ CommodityOK b.commodity
def AccrualT.ok (a : AccrualT) : Prop := IntervalOK a.interval ∧ DateOK a.start ∧ DateOK a.stop ∧ AccountOK a.account

def DirT.ok : DirT → Prop
  | .transaction accr perf date desc bs =>
    (∀ a, accr = some a → a.ok) ∧ (∀ ts, perf = some ts → ∀ t ∈ ts, CommodityOK t) ∧ DateOK date ∧ ContentOK desc ∧
      bs ≠ [] ∧ ∀ b ∈ bs, b.ok
  | .open d a => DateOK d ∧ AccountOK a
  | .close d a => DateOK d ∧ AccountOK a
  | .assertion d bs => DateOK d ∧ bs ≠ [] ∧ ∀ b ∈ bs, b.ok
  | .price d c p t => DateOK d ∧ CommodityOK c ∧ DecimalOK p ∧ CommodityOK t
  | .include p => ContentOK p

def Canon (c : List Tok) : Prop := ∀ t ∈ c, t.canon

def BookingT.canon (b : BookingT) : Prop := Canon b.credit ∧ Canon b.debit ∧ Canon b.quantity ∧ Canon b.commodity
def BalanceT.canon (b : BalanceT) : Prop := Canon b.account ∧ Canon b.quantity ∧ Canon b.commodity
def AccrualT.canon (a : AccrualT) : Prop := Canon a.interval ∧ Canon a.start ∧ Canon a.stop ∧ Canon a.account

def DirT.canon : DirT → Prop
  | .transaction accr perf date desc bs =>
    (∀ a, accr = some a → a.canon) ∧ (∀ ts, perf = some ts → ∀ t ∈ ts, Canon t) ∧ Canon date ∧ Canon desc ∧ ∀ b ∈ bs, b.canon
  | .open d a => Canon d ∧ Canon a
  | .close d a => Canon d ∧ Canon a
  | .assertion d bs => Canon d ∧ ∀ b ∈ bs, b.canon
  | .price d c p t => Canon d ∧ Canon c ∧ Canon p ∧ Canon t
  | .include p => Canon p

theorem Good.canonOf {text : Bytes} {s s' : St} {c : List Tok} (hG : Good text s) (hc : Consumed s c s') (hv : Valid c) :
    Canon c := fun t ht => hG.canon t (by rw [hc.1]; exact List.mem_append_left _ ht) (hv t ht)

theorem Good.extract {text : Bytes} {s s' : St} {c : List Tok} (hG : Good text s) (hc : Consumed s c s') :
    Range.extract text ⟨s.off, s'.off⟩ = some (flat c) ∧ Good text s' := by
  obtain ⟨G', sl⟩ := hG.consumed hc
  refine ⟨?_, G'⟩
  rw [extract_some (r := ⟨s.off, s'.off⟩) hc.ext.off_le G'.le, sl]

theorem Good.step {text : Bytes} {off : Nat} {c r : List Tok} (hG : Good text ⟨off, c ++ r⟩) :
    Range.extract text ⟨off, off + wsum c⟩ = some (flat c) ∧ Good text ⟨off + wsum c, r⟩ :=
  hG.extract (consumed_mk off c r)

theorem Good.sp {text : Bytes} {off x : Nat} {r : List Tok} (hG : Good text ⟨off, tk x :: r⟩) : Good text ⟨off + 1, r⟩ :=
  (hG.step (c := [tk x])).2

/-! ### what the tree records beyond the fields (`semFlat`, C08 monitor): the kind of an account node, empty annotations -/

/-- the text starts with `$` -/
def isDollar (bs : Bytes) : Bool := bs.head? == some 36

/-- the kind of the account node is decided by the first byte of its text -/
def AccShape (text : Bytes) (a : Account) : Prop :=
  ∀ bs, a.range.extract text = some bs → a.isMacro = isDollar bs

theorem tok_dollar {t : Tok} (hw : t.wf) (hp : 1 ≤ t.bytes.length) : (t.r == 36) = (t.bytes.head? == some 36) := by
  by_cases h : t.r < 128
  · have e := hw.1 h
    rw [e]
    simp only [List.head?_cons]
    by_cases h2 : t.r = 36
    · rw [h2]; decide
    · have : UInt8.ofNat t.r ≠ 36 := by
        intro e2
        have := congrArg UInt8.toNat e2
        simp [UInt8.toNat_ofNat'] at this
        omega
      rw [show (t.r == 36) = false from by simpa using h2, show (some (UInt8.ofNat t.r) == some 36) = false from by simpa using this]
  · have hb := hw.2 (by omega)
    have h2 : t.r ≠ 36 := by omega
    cases hbs : t.bytes with
    | nil => rw [hbs] at hp; simp at hp
    | cons b rest =>
      have := hb b (by rw [hbs]; simp)
      have hb36 : b ≠ 36 := by
        intro e; rw [e] at this; simp at this
      simp only [List.head?_cons]
      rw [show (t.r == 36) = false from by simpa using h2, show (some b == some 36) = false from by simpa using hb36]

theorem parseAccount_cur {s : St} {a : Account} {s' : St} (h : parseAccount s = .ok a s') : a.isMacro = (cur s == 36) := by
  unfold parseAccount at h
  simp only at h
  split at h
  · rename_i hc
    simp only [Res.bind_eq_ok] at h
    obtain ⟨_, s1, g1, _, s2, g2, h⟩ := h
    injection h with h1 _
    rw [← h1, hc]
  · rename_i hc
    simp only [Res.bind_eq_ok] at h
    obtain ⟨_, s1, g1, h⟩ := h
    rw [(accountLoop_runs _ _ ((readWhile1_fwd _ _ _).le g1)).val h]
    simpa using hc

theorem parseAccount_shape {text : Bytes} {s : St} {a : Account} {s' : St} (h : parseAccount s = .ok a s')
    (hG : Good text s) : AccShape text a := by
  intro bs hbs
  obtain ⟨m, hm⟩ := (parseAccount_runs _).val h
  have hmac := parseAccount_cur h
  obtain ⟨c, hne, hc⟩ := (parseAccount_prog s).of_ok h
  obtain ⟨e, _⟩ := hG.extract hc
  have hr : a.range = ⟨s.off, s'.off⟩ := by rw [hm]
  rw [hr, e] at hbs
  injection hbs with hbs
  subst hbs
  cases c with
  | nil => exact absurd rfl hne
  | cons t c' =>
    have hmem : t ∈ s.toks := by rw [hc.1]; simp
    have hcur : cur s = t.r := by simp [cur, hc.1]
    have hp := hG.pos t hmem
    rw [hmac, hcur, tok_dollar (hG.wf t hmem) hp]
    cases hb : t.bytes with
    | nil => rw [hb] at hp; simp at hp
    | cons b rest => simp [isDollar, flat, hb]

theorem AccShape.zero (text : Bytes) : AccShape text ⟨Range.zero, false⟩ := by
  intro bs hbs
  simp [Range.extract, Range.zero] at hbs
  subst hbs
  rfl

def BookingShape (text : Bytes) (b : Booking) : Prop := AccShape text b.credit ∧ AccShape text b.debit

/-- what the loop of `parseAddons` maintains: an annotation's range is `Range{}` or not empty, and the accrual's account
node has the kind its text implies -/
def AddInv (text : Bytes) (perf : Performance) (accr : Accrual) : Prop :=
  (perf.range.empty = true → perf.range = Range.zero) ∧ (accr.range.empty = true → accr.range = Range.zero) ∧
    AccShape text accr.account

theorem AddInv.zero (text : Bytes) : AddInv text Performance.zero Accrual.zero :=
  ⟨fun _ => rfl, fun _ => rfl, AccShape.zero text⟩

/-- the annotations of a parsed transaction: the `addons` node exists iff one of the two annotations does, an
annotation exists (`Range ≠ Range{}`) iff its range is not empty, and the accrual's account has the kind of its text -/
def AddonsShape (text : Bytes) (a : Addons) : Prop :=
  (a.range = Range.zero → a.performance.range.empty = true ∧ a.accrual.range.empty = true) ∧
  (a.range ≠ Range.zero → a.performance.range.empty = false ∨ a.accrual.range.empty = false) ∧
  AddInv text a.performance a.accrual

theorem AddonsShape.zero (text : Bytes) : AddonsShape text Addons.zero :=
  ⟨fun _ => ⟨rfl, rfl⟩, fun h => absurd rfl h, AddInv.zero text⟩

/-- what `semFlat` sees of a parsed directive beyond its fields -/
def DirShape (text : Bytes) (d : Directive) : Prop :=
  match d.body with
  | .transaction t => AddonsShape text t.addons ∧ ∀ b ∈ t.bookings, BookingShape text b
  | .open o => AccShape text o.account
  | .close c => AccShape text c.account
  | .assertion a => ∀ b ∈ a.balances, AccShape text b.account
  | .price _ => True
  | .include _ => True


/-- a state of the scan of `text` onto whose head `Advance` did not fail: what every successful call of a parser function
starts from and leaves -/
structure Inv (text : Bytes) (s : St) : Prop where
  good : Good text s
  head : HeadValid s.toks

/-- a successful call between two states of the scan passed the tokens `c`: validly and canonically encoded, the bytes
between the two offsets -/
structure Took (text : Bytes) (s s' : St) (c : List Tok) : Prop where
  consumed : Consumed s c s'
  valid : Valid c
  canon : Canon c
  extract : Range.extract text ⟨s.off, s'.off⟩ = some (flat c)
  inv : Inv text s'

theorem Inv.took {text : Bytes} {s s' : St} {c : List Tok} (I : Inv text s) (p : Pass s c s') : Took text s s' c :=
  ⟨p.consumed, (p.valid I.head).1, I.good.canonOf p.consumed (p.valid I.head).1, (I.good.extract p.consumed).1,
    (I.good.extract p.consumed).2, (p.valid I.head).2⟩

theorem Inv.pass {text : Bytes} {s s' : St} {c : List Tok} (I : Inv text s) (p : Pass s c s') : Inv text s' := (I.took p).inv

section
variable {text : Bytes} {s s' : St}

theorem parseDate_took {d : Date} (h : parseDate s = .ok d s') (I : Inv text s) :
    ∃ c, Took text s s' c ∧ IsDate c ∧ d.range = ⟨s.off, s'.off⟩ := by
  obtain ⟨c, p, a, rfl⟩ := parseDate_pass h
  exact ⟨c, I.took p, a, rfl⟩

theorem parseAccount_took {a : Account} (h : parseAccount s = .ok a s') (I : Inv text s) :
    ∃ c, Took text s s' c ∧ IsAccount a.isMacro c ∧ a.range = ⟨s.off, s'.off⟩ ∧ AccShape text a := by
  obtain ⟨c, p, i, r⟩ := parseAccount_pass h
  exact ⟨c, I.took p, i, r, parseAccount_shape h I.good⟩

theorem parseDecimal_took {x : Decimal} (h : parseDecimal s = .ok x s') (I : Inv text s) :
    ∃ c, Took text s s' c ∧ IsDecimal c ∧ x.range = ⟨s.off, s'.off⟩ := by
  obtain ⟨c, p, a, rfl⟩ := parseDecimal_pass h
  exact ⟨c, I.took p, a, rfl⟩

theorem parseCommodity_took {x : Commodity} (h : parseCommodity s = .ok x s') (I : Inv text s) :
    ∃ c, Took text s s' c ∧ IsCommodity c ∧ x.range = ⟨s.off, s'.off⟩ := by
  obtain ⟨c, p, a, rfl, _⟩ := parseCommodity_pass h
  exact ⟨c, I.took p, a, rfl⟩

theorem parseInterval_took {x : Interval} (h : parseInterval s = .ok x s') (I : Inv text s) :
    ∃ c, Took text s s' c ∧ IsInterval c ∧ x.range = ⟨s.off, s'.off⟩ := by
  obtain ⟨c, p, a, rfl⟩ := parseInterval_pass h
  exact ⟨c, I.took p, a, rfl⟩

/-- the content of a quoted string is a field of its own, between the quotes -/
theorem parseQuotedString_took {q : QuotedString} (h : parseQuotedString s = .ok q s') (I : Inv text s) :
    ∃ c, q.content.extract text = some (flat c) ∧ ContentOK c ∧ Canon c ∧ Inv text s' := by
  obtain ⟨q1, c, q2, pq, p1, p2, ic, qr, qc⟩ := parseQuotedString_pass h
  have t := I.took pq
  have kq := pq.consumed
  have vc : Valid c := (t.valid.tail).left
  have k1 : Consumed s [q1] ⟨s.off + q1.bytes.length, c ++ [q2] ++ s'.toks⟩ := ⟨by simpa using kq.1, by simp⟩
  have k2 : Consumed ⟨s.off + q1.bytes.length, c ++ [q2] ++ s'.toks⟩ c ⟨s.off + q1.bytes.length + wsum c, [q2] ++ s'.toks⟩ :=
    ⟨by simp, rfl⟩
  refine ⟨c, ?_, ⟨ic, vc⟩, fun x hx => t.canon x (by simp [hx]), t.inv⟩
  rw [qc]; exact ((I.good.extract k1).2.extract k2).1

theorem readWhile1_inv {desc : String} {p : Nat → Bool} {r : Range} (h : readWhile1 desc p s = .ok r s') (I : Inv text s) : Inv text s' := by
  obtain ⟨c, _, p, _⟩ := readWhile1_pass h
  exact I.pass p

theorem readWhile_inv {p : Nat → Bool} {r : Range} (h : readWhile p s = .ok r s') (I : Inv text s) : Inv text s' := by
  obtain ⟨c, k, _⟩ := readWhile_pass h
  exact I.pass k

theorem readCharacter_inv {x : Nat} {r : Range} (h : readCharacter x s = .ok r s') (I : Inv text s) : Inv text s' := by
  obtain ⟨t, k, _⟩ := readCharacter_pass h
  exact I.pass k

theorem readWhitespace1_inv {r : Range} (h : readWhitespace1 s = .ok r s') (I : Inv text s) : Inv text s' := by
  unfold readWhitespace1 at h
  split at h
  · cases h
  · exact readWhile_inv h I

theorem readRestOfWhitespaceLine_inv {r : Range} (h : readRestOfWhitespaceLine s = .ok r s') (I : Inv text s) : Inv text s' := by
  unfold readRestOfWhitespaceLine at h
  simp only [Res.bind_eq_ok] at h
  obtain ⟨_, s1, g1, h⟩ := h
  have I1 := readWhile_inv g1 I
  split at h
  · injection h with _ h2; subst h2; exact I1
  · simp only [Res.bind_eq_ok] at h
    obtain ⟨_, s2, g2, h⟩ := h
    injection h with _ h2; subst h2
    exact readCharacter_inv g2 I1

theorem readAlternative_inv {ss : List String} {x : Range} {kw : String} (h : readAlternative ss s = .ok (x, kw) s')
    (I : Inv text s) : kw ∈ ss ∧ x = ⟨s.off, s'.off⟩ ∧ Inv text s' ∧ (runesOf kw ≠ [] → s.off < s'.off) := by
  obtain ⟨hm, c, k, hr, hx⟩ := readAlternative_pass h
  refine ⟨hm, hx, I.pass k, fun hne => ?_⟩
  have := I.good.wsum_pos k.consumed (by intro e; subst e; exact hne hr.symm)
  have := k.consumed.2
  omega

theorem parseBooking_sound {b : Booking} (h : parseBooking s = .ok b s') (I : Inv text s) :
    ∃ bT : BookingT, (bT.ok ∧ bT.canon) ∧ viewBooking text b = some bT.bytes ∧ BookingShape text b ∧ Inv text s' := by
  unfold parseBooking at h
  simp only [Res.bind_eq_ok] at h
  obtain ⟨cr, s1, h1, _, s2, h2, db, s3, h3, _, s4, h4, q, s5, h5, _, s6, h6, cm, s7, h7, h⟩ := h
  injection h with hb hs
  subst hs hb
  obtain ⟨c1, t1, a1, r1, x1⟩ := parseAccount_took h1 I
  obtain ⟨c3, t3, a3, r3, x3⟩ := parseAccount_took h3 (readWhile1_inv h2 t1.inv)
  obtain ⟨c5, t5, a5, r5⟩ := parseDecimal_took h5 (readWhile1_inv h4 t3.inv)
  obtain ⟨c7, t7, a7, r7⟩ := parseCommodity_took h7 (readWhile1_inv h6 t5.inv)
  exact ⟨⟨c1, c3, c5, c7⟩, ⟨⟨⟨⟨_, a1⟩, t1.valid⟩, ⟨⟨_, a3⟩, t3.valid⟩, ⟨a5, t5.valid⟩, ⟨a7, t7.valid⟩⟩,
      ⟨t1.canon, t3.canon, t5.canon, t7.canon⟩⟩,
    by simp [viewBooking, r1, r3, r5, r7, t1.extract, t3.extract, t5.extract, t7.extract, BookingT.bytes], ⟨x1, x3⟩, t7.inv⟩

theorem parseBalance_sound {b : Balance} (h : parseBalance s = .ok b s') (I : Inv text s) :
    ∃ bT : BalanceT, (bT.ok ∧ bT.canon) ∧ viewBalance text b = some bT.bytes ∧ AccShape text b.account ∧ Inv text s' := by
  unfold parseBalance at h
  simp only [Res.bind_eq_ok] at h
  obtain ⟨ac, s1, h1, _, s2, h2, q, s3, h3, _, s4, h4, cm, s5, h5, h⟩ := h
  injection h with hb hs
  subst hs hb
  obtain ⟨c1, t1, a1, r1, x1⟩ := parseAccount_took h1 I
  obtain ⟨c3, t3, a3, r3⟩ := parseDecimal_took h3 (readWhitespace1_inv h2 t1.inv)
  obtain ⟨c5, t5, a5, r5⟩ := parseCommodity_took h5 (readWhitespace1_inv h4 t3.inv)
  exact ⟨⟨c1, c3, c5⟩, ⟨⟨⟨⟨_, a1⟩, t1.valid⟩, ⟨a3, t3.valid⟩, ⟨a5, t5.valid⟩⟩, ⟨t1.canon, t3.canon, t5.canon⟩⟩,
    by simp [viewBalance, r1, r3, r5, t1.extract, t3.extract, t5.extract, BalanceT.bytes], x1, t5.inv⟩

theorem parseAccrual_sound {a : Accrual} (h : parseAccrual s = .ok a s') (I : Inv text s) :
    ∃ aT : AccrualT, (aT.ok ∧ aT.canon) ∧ viewAccrual text a = some aT.bytes ∧ AccShape text a.account ∧ Inv text s' := by
  unfold parseAccrual at h
  simp only [Res.bind_eq_ok] at h
  obtain ⟨_, s1, h1, iv, s2, h2, _, s3, h3, d0, s4, h4, _, s5, h5, d1, s6, h6, _, s7, h7, ac, s8, h8, h⟩ := h
  injection h with hb hs
  subst hs hb
  obtain ⟨c2, t2, a2, r2⟩ := parseInterval_took h2 (readWhitespace1_inv h1 I)
  obtain ⟨c4, t4, a4, r4⟩ := parseDate_took h4 (readWhitespace1_inv h3 t2.inv)
  obtain ⟨c6, t6, a6, r6⟩ := parseDate_took h6 (readWhitespace1_inv h5 t4.inv)
  obtain ⟨c8, t8, a8, r8, x8⟩ := parseAccount_took h8 (readWhitespace1_inv h7 t6.inv)
  exact ⟨⟨c2, c4, c6, c8⟩, ⟨⟨⟨a2, t2.valid⟩, ⟨a4, t4.valid⟩, ⟨a6, t6.valid⟩, ⟨⟨_, a8⟩, t8.valid⟩⟩,
      ⟨t2.canon, t4.canon, t6.canon, t8.canon⟩⟩,
    by simp [viewAccrual, r2, r4, r6, r8, t2.extract, t4.extract, t6.extract, t8.extract, AccrualT.bytes], x8, t8.inv⟩

def Targets (text : Bytes) (cs : List Commodity) (ts : List (List Tok)) : Prop :=
  cs.mapM (fun (c : Commodity) => c.range.extract text) = some (ts.map flat) ∧ ∀ t ∈ ts, CommodityOK t ∧ Canon t

theorem Targets.snoc {cs : List Commodity} {ts : List (List Tok)} {x : Commodity} {c : List Tok} {s1 s2 : St}
    (h : Targets text cs.reverse ts) (t : Took text s1 s2 c) (a : IsCommodity c) (r : x.range = ⟨s1.off, s2.off⟩) :
    Targets text (x :: cs).reverse (ts ++ [c]) := by
  refine ⟨?_, fun y hy => (List.mem_append.mp hy).elim (h.2 y) fun e => ?_⟩
  · simp only [List.reverse_cons, List.mapM_append, h.1, List.mapM_cons, r, t.extract, List.mapM_nil, List.map_append,
      List.map_cons, List.map_nil]
    rfl
  · rw [List.mem_singleton.mp e]; exact ⟨⟨a, t.valid⟩, t.canon⟩

theorem perfLoop_sound {start : Nat} {acc : List Commodity} {ts : List Commodity}
    (h : perfLoop start acc s = .ok ts s') (I : Inv text s) (accT : List (List Tok)) (hacc : Targets text acc.reverse accT) :
    ∃ tsT, Targets text ts tsT ∧ Inv text s' := by
  fun_induction perfLoop start acc s generalizing accT with
  | case1 acc s hc =>
    injection h with h1 h2
    subst h1 h2
    exact ⟨accT, hacc, I⟩
  | case2 acc s hc e s1 h1 => cases h
  | case3 acc s hc x s1 h1 e s2 h2 => cases h
  | case4 acc s hc x s1 h1 y s2 h2 e s3 h3 => cases h
  | case5 acc s hc x s1 h1 y s2 h2 c s3 h3 e s4 h4 => cases h
  | case6 acc s hc x s1 h1 y s2 h2 c s3 h3 z s4 h4 ih =>
    obtain ⟨c3, t3, a3, r3⟩ := parseCommodity_took h3 (readWhile_inv h2 (readCharacter_inv h1 I))
    exact ih h (readWhile_inv h4 t3.inv) (accT ++ [c3]) (hacc.snoc t3 a3 r3)

theorem parsePerformance_sound {p : Performance} (h : parsePerformance s = .ok p s') (I : Inv text s) :
    ∃ tsT, Targets text p.targets tsT ∧ Inv text s' := by
  unfold parsePerformance at h
  simp only [Res.bind_eq_ok] at h
  obtain ⟨_, s1, h1, _, s2, h2, first, s3, h3, ts, s4, h4, _, s5, h5, h⟩ := h
  injection h with hp hs
  subst hs hp
  have I2 := readWhile_inv h2 (readCharacter_inv h1 I)
  have hfirst : ∃ fT, Targets text first.reverse fT ∧ Inv text s3 := by
    split at h3
    · simp only [Res.bind_eq_ok] at h3
      obtain ⟨c, t1, g1, _, t2, g2, g3⟩ := h3
      injection g3 with ga gb
      subst ga gb
      obtain ⟨c3, t3, a3, r3⟩ := parseCommodity_took g1 I2
      exact ⟨[] ++ [c3], Targets.snoc (cs := []) ⟨rfl, by simp⟩ t3 a3 r3, readWhile_inv g2 t3.inv⟩
    · injection h3 with ga gb
      subst ga gb
      exact ⟨[], ⟨rfl, by simp⟩, I2⟩
  obtain ⟨fT, f1, I3⟩ := hfirst
  obtain ⟨tsT, t1, I4⟩ := perfLoop_sound h4 I3 fT f1
  exact ⟨tsT, t1, readCharacter_inv h5 I4⟩

def PerfRel (text : Bytes) (perf : Performance) : Option (List (List Tok)) → Prop
  | none => perf.range.empty = true
  | some ts => perf.range.empty = false ∧
      perf.targets.mapM (fun (c : Commodity) => c.range.extract text) = some (ts.map flat) ∧ ∀ t ∈ ts, CommodityOK t ∧ Canon t

def AccrRel (text : Bytes) (accr : Accrual) : Option AccrualT → Prop
  | none => accr.range.empty = true
  | some a => accr.range.empty = false ∧ viewAccrual text accr = some a.bytes ∧ a.ok ∧ a.canon

theorem extend_nonempty {r0 a b : Nat} {r : Range} (hr : r = ⟨a, b⟩) (h0 : r0 < a) (hab : a ≤ b) :
    (r.extend ⟨r0, a⟩).empty = false := by
  simp only [hr, extend_kw (Nat.le_of_lt h0) hab, Range.empty, beq_eq_false_iff_ne]
  omega

theorem addon_kw_ne {kw : String} (hm : kw ∈ ["@performance", "@accrue"]) : runesOf kw ≠ [] := by
  simp only [List.mem_cons, List.not_mem_nil, or_false] at hm
  rcases hm with rfl | rfl <;> simp [runesOf]

theorem addonStep_sound {start : Nat} {perf : Performance} {accr : Accrual} {r0 : Nat} {kw : String}
    {p' : Performance} {a' : Accrual} {pT : Option (List (List Tok))} {aT : Option AccrualT}
    (h : addonStep start perf accr ⟨r0, s.off⟩ kw s = .ok (p', a') s') (I : Inv text s) (hr0 : r0 < s.off)
    (hkw : kw ∈ ["@performance", "@accrue"]) (hp : PerfRel text perf pT) (ha : AccrRel text accr aT) (hI : AddInv text perf accr) :
    ∃ pT' aT', PerfRel text p' pT' ∧ AccrRel text a' aT' ∧ AddInv text p' a' ∧
      (p'.range.empty = false ∨ a'.range.empty = false) ∧ Inv text s' := by
  rcases addonStep_cases h with ⟨p, g1, rfl, rfl⟩ | ⟨a, g1, rfl, rfl⟩ | ⟨k1, k2, _⟩
  · obtain ⟨tsT, t1, I1⟩ := parsePerformance_sound g1 I
    have hne := extend_nonempty ((parsePerformance_runs _).val g1).1 hr0 ((parsePerformance_runs _).le g1)
    exact ⟨some tsT, aT, ⟨hne, t1.1, t1.2⟩, ha, ⟨fun e => Bool.noConfusion (hne.symm.trans e), hI.2.1, hI.2.2⟩, Or.inl hne, I1⟩
  · obtain ⟨aT', ok', view', x, I1⟩ := parseAccrual_sound g1 I
    have hne := extend_nonempty ((parseAccrual_runs _).val g1).1 hr0 ((parseAccrual_runs _).le g1)
    exact ⟨pT, some aT', hp, ⟨hne, by simpa [viewAccrual] using view', ok'⟩,
      ⟨hI.1, fun e => Bool.noConfusion (hne.symm.trans e), x⟩, Or.inr hne, I1⟩
  · simp only [List.mem_cons, List.not_mem_nil, or_false] at hkw
    exact (hkw.elim k1 k2).elim

theorem addonsLoop_sound {start : Nat} {perf : Performance} {accr : Accrual} {a : Addons}
    {pT : Option (List (List Tok))} {aT : Option AccrualT}
    (h : addonsLoop start perf accr s = .ok a s') (I : Inv text s) (hp : PerfRel text perf pT) (ha : AccrRel text accr aT)
    (hI : AddInv text perf accr) :
    ∃ pT' aT', PerfRel text a.performance pT' ∧ AccrRel text a.accrual aT' ∧ AddonsShape text a ∧ Inv text s' := by
  fun_induction addonsLoop start perf accr s generalizing pT aT with
  | case1 perf accr s e s1 h1 => cases h
  | case2 perf accr s r kw s1 h1 e s2 h2 => cases h
  | case3 perf accr s r kw s1 h1 perf' accr' s2 h2 e s3 h3 => cases h
  | case4 perf accr s r kw s1 h1 perf' accr' s2 h2 x s3 h3 hc =>
    obtain ⟨hm, rfl, I1, hlt⟩ := readAlternative_inv h1 I
    obtain ⟨pT', aT', hp', ha', hI', ne, I2⟩ := addonStep_sound h2 I1 (hlt (addon_kw_ne hm)) hm hp ha hI
    have o2 := (ext_of_ok (addonStep_ext _ _ _ _ _ _) h2).off_le
    have o3 := (ext_of_ok (readRestOfWhitespaceLine_ext _) h3).off_le
    injection h with h1' h2'
    subst h2' h1'
    refine ⟨pT', aT', hp', ha', ⟨fun e => absurd e ?_, fun _ => ne, hI'⟩, readRestOfWhitespaceLine_inv h3 I2⟩
    have := hlt (addon_kw_ne hm)
    simp only [rng, Range.zero, Range.mk.injEq, not_and]
    intro _
    omega
  | case5 perf accr s r kw s1 h1 perf' accr' s2 h2 x s3 h3 hc ih =>
    obtain ⟨hm, rfl, I1, hlt⟩ := readAlternative_inv h1 I
    obtain ⟨pT', aT', hp', ha', hI', _, I2⟩ := addonStep_sound h2 I1 (hlt (addon_kw_ne hm)) hm hp ha hI
    exact ih h (readRestOfWhitespaceLine_inv h3 I2) hp' ha' hI'

theorem lines_sound {α αT β} {elem : St → Res α} {view : α → Option β} {bytes : αT → β} {P : αT → Prop} {S : α → Prop}
    (helem : ∀ {s b s'}, elem s = .ok b s' → Inv text s → ∃ bT, P bT ∧ view b = some (bytes bT) ∧ S b ∧ Inv text s')
    {bs : List α} (h : Lines elem s bs s') (I : Inv text s) :
    ∃ bsT : List αT, bsT ≠ [] ∧ bs.mapM view = some (bsT.map bytes) ∧ (∀ b ∈ bsT, P b) ∧ (∀ b ∈ bs, S b) ∧ Inv text s' := by
  induction h with
  | last h1 h2 =>
    obtain ⟨bT, ok1, view1, x1, I1⟩ := helem h1 I
    exact ⟨[bT], by simp, by simp [view1], by simpa using ok1, by simpa using x1, readRestOfWhitespaceLine_inv h2 I1⟩
  | cons h1 h2 _ ih =>
    obtain ⟨bT, ok1, view1, x1, I1⟩ := helem h1 I
    obtain ⟨bsT, _, views, oks, xs, I'⟩ := ih (readRestOfWhitespaceLine_inv h2 I1)
    exact ⟨bT :: bsT, by simp, by simp [view1, views], by simpa using ⟨ok1, oks⟩, by simpa using ⟨x1, xs⟩, I'⟩

theorem viewTransaction_of {t : Transaction} {aT : Option AccrualT} {pT : Option (List (List Tok))}
    {d desc : List Tok} {bsT : List BookingT}
    (ha : AccrRel text t.addons.accrual aT) (hp : PerfRel text t.addons.performance pT)
    (hd : t.date.range.extract text = some (flat d)) (hc : t.description.content.extract text = some (flat desc))
    (hb : t.bookings.mapM (viewBooking text) = some (bsT.map BookingT.bytes)) :
    viewTransaction text t = some (DirT.transaction aT pT d desc bsT).bytes := by
  simp only [viewTransaction, DirT.bytes]
  cases aT with
  | none =>
    simp only [AccrRel] at ha
    cases pT with
    | none => simp only [PerfRel] at hp; simp [ha, hp, hd, hc, hb]
    | some ts => simp only [PerfRel] at hp; simp [ha, hp.1, hp.2.1, hd, hc, hb]
  | some a =>
    simp only [AccrRel] at ha
    cases pT with
    | none => simp only [PerfRel] at hp; simp [ha.1, ha.2.1, hp, hd, hc, hb]
    | some ts => simp only [PerfRel] at hp; simp [ha.1, ha.2.1, hp.1, hp.2.1, hd, hc, hb]

theorem transactionT_ok {aT : Option AccrualT} {pT : Option (List (List Tok))} {dT c : List Tok} {bsT : List BookingT}
    {perf : Performance} {accr : Accrual} (hp : PerfRel text perf pT) (ha : AccrRel text accr aT)
    (hd : DateOK dT ∧ Canon dT) (hc : ContentOK c ∧ Canon c) (hne : bsT ≠ []) (hb : ∀ b ∈ bsT, b.ok ∧ b.canon) :
    (DirT.transaction aT pT dT c bsT).ok ∧ (DirT.transaction aT pT dT c bsT).canon := by
  refine ⟨⟨?_, ?_, hd.1, hc.1, hne, fun b hb' => (hb b hb').1⟩, ⟨?_, ?_, hd.2, hc.2, fun b hb' => (hb b hb').2⟩⟩
  · intro a ea; subst ea; exact ha.2.2.1
  · intro ts ets; subst ets; exact fun t ht => (hp.2.2 t ht).1
  · intro a ea; subst ea; exact ha.2.2.2
  · intro ts ets; subst ets; exact fun t ht => (hp.2.2 t ht).2

/-- **what a successfully parsed directive consists of**: a token view of the right lexical classes whose bytes are the
extracted fields, the shape its text implies, and the scan goes on -/
theorem parseDirective_took {d : Directive} (h : parseDirective s = .ok d s') (I : Inv text s) :
    ∃ v : DirT, (v.ok ∧ v.canon) ∧ viewDirective text d = some v.bytes ∧ DirShape text d ∧ Inv text s' := by
  obtain ⟨addons, s1, body, h1, h2, rfl⟩ := parseDirective_cases h
  -- the optional annotations
  have hA : ∃ pT aT, PerfRel text addons.performance pT ∧ AccrRel text addons.accrual aT ∧ AddonsShape text addons ∧ Inv text s1 := by
    rcases h1 with ⟨_, g1⟩ | ⟨_, rfl, rfl⟩
    · exact addonsLoop_sound (pT := none) (aT := none) g1 I rfl rfl (AddInv.zero text)
    · exact ⟨none, none, rfl, rfl, AddonsShape.zero text, I⟩
  obtain ⟨pT, aT, hp, ha, hAS, I1⟩ := hA
  rcases parseDirectiveBody_cases h2 with ⟨i, rfl, g1⟩ | ⟨date, t1, _, t2, g1, g2, h2⟩
  · unfold parseInclude at g1
    simp only [Res.bind_eq_ok] at g1
    obtain ⟨_, u1, k1, _, u2, k2, q, u3, k3, g1⟩ := g1
    injection g1 with ga gb
    subst ga gb
    obtain ⟨_, c1, _⟩ := readString_pass k1
    obtain ⟨c, hcontent, okc, canc, I3⟩ := parseQuotedString_took k3 (readWhitespace1_inv k2 (I1.pass c1))
    exact ⟨.include c, ⟨okc, canc⟩, by simp [viewDirective, hcontent, DirT.bytes], trivial, I3⟩
  · obtain ⟨dT, td, idate, rd⟩ := parseDate_took g1 I1
    have hde : date.range.extract text = some (flat dT) := by rw [rd]; exact td.extract
    have hD : DateOK dT ∧ Canon dT := ⟨⟨idate, td.valid⟩, td.canon⟩
    have I2 := readWhitespace1_inv g2 td.inv
    rcases h2 with ⟨t, rfl, g3⟩ | ⟨r, kw', t3, _, t4, g3, g4, h2⟩
    · obtain ⟨q, u1, _, u2, bs, k1, k2, k3, rfl⟩ := parseTransaction_inv g3
      obtain ⟨c, hcontent, okc, canc, I3⟩ := parseQuotedString_took k1 I2
      obtain ⟨bsT, hne, hb, hbo, hbs, I4⟩ := lines_sound parseBooking_sound k3 (readRestOfWhitespaceLine_inv k2 I3)
      exact ⟨.transaction aT pT dT c bsT, transactionT_ok hp ha hD ⟨okc, canc⟩ hne hbo,
        by simpa [viewDirective] using viewTransaction_of (t := ⟨_, date, q, bs, addons⟩) ha hp hde hcontent hb, ⟨hAS, hbs⟩, I4⟩
    · have I4 := readWhitespace1_inv g4 (readAlternative_inv g3 I2).2.2.1
      rcases parseKeyword_cases h2 with ⟨o, rfl, g5⟩ | ⟨o, rfl, g5⟩ | ⟨a, rfl, g5⟩ | ⟨p, rfl, g5⟩
      · obtain ⟨acc, g6, rfl⟩ := parseOpen_inv g5
        obtain ⟨cA, tA, iA, rA, xA⟩ := parseAccount_took g6 I4
        exact ⟨.open dT cA, ⟨⟨hD.1, ⟨⟨_, iA⟩, tA.valid⟩⟩, ⟨hD.2, tA.canon⟩⟩,
          by simp [viewDirective, hde, rA, tA.extract, DirT.bytes], xA, tA.inv⟩
      · obtain ⟨acc, g6, rfl⟩ := parseClose_inv g5
        obtain ⟨cA, tA, iA, rA, xA⟩ := parseAccount_took g6 I4
        exact ⟨.close dT cA, ⟨⟨hD.1, ⟨⟨_, iA⟩, tA.valid⟩⟩, ⟨hD.2, tA.canon⟩⟩,
          by simp [viewDirective, hde, rA, tA.extract, DirT.bytes], xA, tA.inv⟩
      · rcases parseAssertion_cases g5 with ⟨_, t6, bs, g6, g7, rfl⟩ | ⟨b, g6, rfl⟩
        · obtain ⟨bsT, hne, hb, hbo, hbs, I6⟩ := lines_sound parseBalance_sound g7 (readRestOfWhitespaceLine_inv g6 I4)
          exact ⟨.assertion dT bsT, ⟨⟨hD.1, hne, fun b hb' => (hbo b hb').1⟩, ⟨hD.2, fun b hb' => (hbo b hb').2⟩⟩,
            by simp [viewDirective, hde, hb, DirT.bytes], hbs, I6⟩
        · obtain ⟨bT, bok, bview, xb, I6⟩ := parseBalance_sound g6 I4
          exact ⟨.assertion dT [bT], ⟨⟨hD.1, by simp, by simpa using bok.1⟩, ⟨hD.2, by simpa using bok.2⟩⟩,
            by simp [viewDirective, hde, bview, DirT.bytes], by simpa [DirShape] using xb, I6⟩
      · unfold parsePrice at g5
        simp only [Res.bind_eq_ok] at g5
        obtain ⟨c, u1, k1, _, u2, k2, pr, u3, k3, _, u4, k4, tg, u5, k5, g5⟩ := g5
        injection g5 with ga gb
        subst ga gb
        obtain ⟨cC, tC, iC, rC⟩ := parseCommodity_took k1 I4
        obtain ⟨cP, tP, iP, rP⟩ := parseDecimal_took k3 (readWhitespace1_inv k2 tC.inv)
        obtain ⟨cT, tT, iT, rT⟩ := parseCommodity_took k5 (readWhitespace1_inv k4 tP.inv)
        exact ⟨.price dT cC cP cT, ⟨⟨hD.1, ⟨iC, tC.valid⟩, ⟨iP, tP.valid⟩, ⟨iT, tT.valid⟩⟩, ⟨hD.2, tC.canon, tP.canon, tT.canon⟩⟩,
          by simp [viewDirective, hde, rC, rP, rT, tC.extract, tP.extract, tT.extract, DirT.bytes], trivial, tT.inv⟩

end

theorem parseDirective_sound {text : Bytes} {s : St} {d : Directive} {s' : St} (h : parseDirective s = .ok d s')
    (hG : Good text s) (hv : HeadValid s.toks) :
    ∃ v : DirT, (v.ok ∧ v.canon) ∧ viewDirective text d = some v.bytes ∧ HeadValid s'.toks ∧ Good text s' := by
  obtain ⟨v, hok, hview, _, I'⟩ := parseDirective_took h ⟨hG, hv⟩
  exact ⟨v, hok, hview, I'.head, I'.good⟩

end Knut.Syntax
