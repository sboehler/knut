import Knut.Proofs.SyntaxScan
import Knut.Spec.SyntaxTree
/-!
# Errors point into the text (helper lemmas for C07)

`Runs lo r Q`: the call with result `r` ended at an offset `≥ lo`; if it failed, every link of the error chain carries a
range `start ≤ stop ≤` that final offset; if it succeeded, the value satisfies `Q` at the final state. `Fwd lo r` is `Runs`
without a condition on the value. Each scanner and parser function is walked once, by the same chain of `Runs.bind` steps
as its definition: here the scanner and the small readers, in `SyntaxWF.lean` the parsers, whose `Q` says that the ranges
of the returned element are nested.
-/
namespace Knut.Syntax
open Knut.Utf8 Knut.Spec.Syntax

theorem within_iff {lo hi : Nat} {r : Range} : within lo hi r = true ↔ lo ≤ r.start ∧ r.start ≤ r.stop ∧ r.stop ≤ hi := by
  simp [within, and_assoc]

theorem errOK_nil (hi : Nat) : errOK hi [] = true := rfl

theorem errOK_append {hi : Nat} {e1 e2 : Err} : errOK hi (e1 ++ e2) = true ↔ errOK hi e1 = true ∧ errOK hi e2 = true := by
  simp [errOK, List.all_append]

theorem errOK_single_at {hi : Nat} {m : String} {r : Range} :
    errOK hi [Frame.at m r] = true ↔ r.start ≤ r.stop ∧ r.stop ≤ hi := by
  simp [errOK, frameOK, within_iff]

theorem errOK_cons_at {hi : Nat} {m : String} {r : Range} {e : Err} :
    errOK hi (Frame.at m r :: e) = true ↔ (r.start ≤ r.stop ∧ r.stop ≤ hi) ∧ errOK hi e = true := by
  simp [errOK, frameOK, within_iff]

theorem errOK_mono {hi hi' : Nat} {e : Err} (h : errOK hi e = true) (hle : hi ≤ hi') : errOK hi' e = true := by
  simp only [errOK, List.all_eq_true] at h ⊢
  intro f hf
  have := h f hf
  cases f with
  | «at» m r => simp only [frameOK, within_iff] at this ⊢; omega
  | zero => rfl
  | eof => rfl

/-- what a call does whatever it returns: it ends at or after `lo`; a failure carries only ranges inside the text read so far
(C07's error clause), a success a value with `Q` (C07's nesting of ranges); `Runs.bind` takes a parser body through its calls -/
structure Runs {α} (lo : Nat) (r : Res α) (Q : α → St → Prop) : Prop where
  err : ∀ e s', r = .err e s' → lo ≤ s'.off ∧ errOK s'.off e = true
  ok : ∀ a s', r = .ok a s' → lo ≤ s'.off ∧ Q a s'

abbrev Fwd {α} (lo : Nat) (r : Res α) : Prop := Runs lo r fun _ _ => True

theorem Runs.le {α} {lo : Nat} {r : Res α} {Q : α → St → Prop} {a : α} {s' : St} (h : Runs lo r Q) (ha : r = .ok a s') :
    lo ≤ s'.off := (h.ok a s' ha).1

theorem Runs.val {α} {lo : Nat} {r : Res α} {Q : α → St → Prop} {a : α} {s' : St} (h : Runs lo r Q) (ha : r = .ok a s') :
    Q a s' := (h.ok a s' ha).2

theorem Runs.pure {α} {lo : Nat} {a : α} {s : St} {Q : α → St → Prop} (h : lo ≤ s.off) (q : Q a s) : Runs lo (.ok a s) Q :=
  ⟨fun _ _ he => (by cases he), fun _ _ ha => (by cases ha; exact ⟨h, q⟩)⟩

theorem Runs.fail {α} {lo : Nat} {e : Err} {s : St} {Q : α → St → Prop} (h : lo ≤ s.off) (he : errOK s.off e = true) :
    Runs lo (.err e s) Q :=
  ⟨fun _ _ h' => (by cases h'; exact ⟨h, he⟩), fun _ _ ha => (by cases ha)⟩

theorem Runs.imp {α} {lo : Nat} {r : Res α} {Q Q' : α → St → Prop} (h : Runs lo r Q)
    (hq : ∀ a s', lo ≤ s'.off → Q a s' → Q' a s') : Runs lo r Q' :=
  ⟨h.err, fun a s' ha => ⟨(h.ok a s' ha).1, hq a s' (h.ok a s' ha).1 (h.ok a s' ha).2⟩⟩

theorem Runs.fwd {α} {lo : Nat} {r : Res α} {Q : α → St → Prop} (h : Runs lo r Q) : Fwd lo r := h.imp fun _ _ _ _ => trivial

theorem Runs.weaken {α} {lo lo' : Nat} {r : Res α} {Q : α → St → Prop} (h : Runs lo r Q) (hle : lo' ≤ lo) : Runs lo' r Q :=
  ⟨fun e s' he => ⟨Nat.le_trans hle (h.err e s' he).1, (h.err e s' he).2⟩,
    fun a s' ha => ⟨Nat.le_trans hle (h.ok a s' ha).1, (h.ok a s' ha).2⟩⟩

/-- the continuation runs from where the first call ended (`lo ≤ s1.off`), knowing what it returned; `b` is where the scope
of the error decoration was opened, at or before every call of the chain -/
theorem Runs.bind {α β} {b lo : Nat} {r : Res α} {onErr : Err → St → Err} {f : α → St → Res β} {Q : α → St → Prop}
    {R : β → St → Prop} (hb : b ≤ lo) (h1 : Runs lo r Q)
    (h2 : ∀ e s', b ≤ s'.off → errOK s'.off e = true → errOK s'.off (onErr e s') = true)
    (h3 : ∀ a s1, b ≤ s1.off → lo ≤ s1.off → Q a s1 → Runs s1.off (f a s1) R) : Runs lo (r.bind onErr f) R := by
  cases r with
  | ok a s1 =>
    obtain ⟨o, q⟩ := h1.ok a s1 rfl
    exact (h3 a s1 (Nat.le_trans hb o) o q).weaken o
  | err e s1 =>
    have := h1.err e s1 rfl
    exact Runs.fail this.1 (h2 e s1 (Nat.le_trans hb this.1) this.2)

theorem annotate_ok {desc : String} {start lo : Nat} (hs : start ≤ lo) :
    ∀ e s', lo ≤ s'.off → errOK s'.off e = true → errOK s'.off (annotate desc start e s') = true := by
  intro e s' hlo he
  simp only [annotate, errOK_append, errOK_single_at, rng]
  exact ⟨he, by omega, Nat.le_refl _⟩

theorem id_ok {lo : Nat} : ∀ e (s' : St), lo ≤ s'.off → errOK s'.off e = true → errOK s'.off ((fun e _ => e) e s') = true :=
  fun _ _ _ h => h

theorem Runs.err_frame {α β} {lo start : Nat} {m : String} {r : Res α} {Q : α → St → Prop} {R : β → St → Prop} {e : Err}
    {s1 : St} (h : Runs lo r Q) (he : r = .err e s1) (hs : start ≤ lo) :
    Runs lo (Res.err (e ++ [Frame.at m (rng start s1)]) s1 : Res β) R := by
  have := h.err e s1 he
  refine Runs.fail this.1 ?_
  simp only [errOK_append, errOK_single_at, rng]
  exact ⟨this.2, by omega, Nat.le_refl _⟩

/-- an explicit `match` on a sub-call inside a loop: the failing branch with the scope's decoration -/
theorem Runs.err_annot {α β} {lo start : Nat} {desc : String} {r : Res α} {Q : α → St → Prop} {R : β → St → Prop} {e : Err}
    {s1 : St} (h : Runs lo r Q) (he : r = .err e s1) (hs : start ≤ lo) :
    Runs lo (Res.err (annotate desc start e s1) s1 : Res β) R :=
  h.err_frame he hs

theorem advanceTok_fwd (off : Nat) (t : Tok) (rest : List Tok) : Fwd off (advanceTok off t rest) := by
  unfold advanceTok
  cases rest with
  | nil => exact Runs.pure (by simp) trivial
  | cons u r =>
    simp only
    split
    · exact Runs.fail (by simp) (by simp [errOK_single_at])
    · exact Runs.pure (by simp) trivial

theorem advance_fwd (s : St) : Fwd s.off (advance s) := by
  unfold advance
  split
  · exact Runs.fail (Nat.le_refl _) (by simp [errOK_single_at])
  · exact advanceTok_fwd _ _ _

theorem readWhileL_fwd (p : Nat → Bool) (start off : Nat) (toks : List Tok) (hs : start ≤ off) :
    Fwd off (readWhileL p start off toks) := by
  induction toks generalizing off with
  | nil => exact Runs.pure (Nat.le_refl _) trivial
  | cons t rest ih =>
    rw [readWhileL]
    split
    · have ha := advanceTok_fwd off t rest
      split
      · exact (ih (off + t.bytes.length) (by omega)).weaken (by omega)
      · rename_i e s' heq
        exact ha.err_frame heq hs
    · exact Runs.pure (Nat.le_refl _) trivial

theorem readWhile_runs (p : Nat → Bool) (s : St) : Runs s.off (readWhile p s) fun r s' => r = ⟨s.off, s'.off⟩ :=
  have h := readWhileL_fwd p s.off s.off s.toks (Nat.le_refl _)
  ⟨h.err, fun _ _ ha => ⟨h.le ha, (readWhile_pass ha).choose_spec.2.2.1⟩⟩

theorem err_here {α} (m : String) (s : St) {Q : α → St → Prop} : Runs s.off (Res.err [Frame.at m (rng s.off s)] s : Res α) Q :=
  Runs.fail (Nat.le_refl _) (by simp [errOK_single_at, rng])

theorem readWhile1_fwd (desc : String) (p : Nat → Bool) (s : St) : Fwd s.off (readWhile1 desc p s) := by
  unfold readWhile1
  split
  · exact err_here _ _
  · split
    · exact err_here _ _
    · exact readWhileL_fwd p s.off s.off s.toks (Nat.le_refl _)

theorem advance_wrap_fwd (s : St) (m : String) :
    Fwd s.off (match advance s with
      | .ok _ s' => Res.ok (rng s.off s') s'
      | .err e s' => .err (e ++ [Frame.at m (rng s.off s')]) s') := by
  have ha := advance_fwd s
  split
  · rename_i u s' heq
    exact Runs.pure (ha.le heq) trivial
  · rename_i e s' heq
    exact ha.err_frame heq (Nat.le_refl _)

theorem readCharacter_fwd (r : Nat) (s : St) : Fwd s.off (readCharacter r s) := by
  unfold readCharacter
  split
  · exact err_here _ _
  · split
    · exact err_here _ _
    · exact advance_wrap_fwd s _

theorem readCharacterWith_fwd (desc : String) (p : Nat → Bool) (s : St) : Fwd s.off (readCharacterWith desc p s) := by
  unfold readCharacterWith
  split
  · exact err_here _ _
  · split
    · exact err_here _ _
    · exact advance_wrap_fwd s _

theorem readStringL_fwd (str : String) (start : Nat) (chs : List Nat) (s : St) (hs : start ≤ s.off) :
    Fwd s.off (readStringL str start chs s) := by
  induction chs generalizing s with
  | nil => exact Runs.pure (Nat.le_refl _) trivial
  | cons ch chs ih =>
    simp only [readStringL]
    split
    · refine Runs.fail (Nat.le_refl _) ?_
      simp only [errOK_single_at, rng]
      exact ⟨hs, Nat.le_refl _⟩
    · have ha := advance_fwd s
      split
      · rename_i u s' heq
        have := ha.le heq
        exact (ih s' (by omega)).weaken this
      · rename_i e s' heq
        exact ha.err_frame heq hs

theorem readString_fwd (str : String) (s : St) : Fwd s.off (readString str s) :=
  readStringL_fwd str s.off _ s (Nat.le_refl _)

theorem readAltL_fwd (all : List String) (s : St) (ss : List String) : Fwd s.off (readAltL all s ss) := by
  induction ss with
  | nil => exact err_here _ _
  | cons t ts ih =>
    unfold readAltL
    split
    · rename_i r s' heq
      exact Runs.pure ((readString_fwd t s).le heq) trivial
    · exact ih

theorem readAlternative_fwd (ss : List String) (s : St) : Fwd s.off (readAlternative ss s) := by
  unfold readAlternative
  split
  · exact err_here _ _
  · exact readAltL_fwd ss s ss

theorem readComment_fwd (s : St) : Fwd s.off (readComment s) := by
  unfold readComment
  refine Runs.bind (Nat.le_refl _) (readAlternative_fwd _ _) (annotate_ok (Nat.le_refl _)) fun _ s1 k1 h1 _ => ?_
  refine Runs.bind k1 (readWhile_runs _ s1) (annotate_ok (Nat.le_refl _)) fun _ s2 k2 h2 _ => ?_
  exact Runs.pure (Nat.le_refl _) trivial

theorem readWhitespace1_fwd (s : St) : Fwd s.off (readWhitespace1 s) := by
  unfold readWhitespace1
  split
  · exact err_here _ _
  · exact (readWhile_runs _ _).fwd

theorem readRestOfWhitespaceLine_fwd (s : St) : Fwd s.off (readRestOfWhitespaceLine s) := by
  unfold readRestOfWhitespaceLine
  refine Runs.bind (Nat.le_refl _) (readWhile_runs _ _) (annotate_ok (Nat.le_refl _)) fun _ s1 k1 h1 _ => ?_
  split
  · exact Runs.pure (Nat.le_refl _) trivial
  · refine Runs.bind k1 (readCharacter_fwd _ s1) (annotate_ok (Nat.le_refl _)) fun _ s2 k2 h2 _ => ?_
    exact Runs.pure (Nat.le_refl _) trivial

end Knut.Syntax
