import Knut.Proofs.SyntaxErr
/-!
# Evaluating the parser model on concrete ASCII texts (for the non-vacuity examples)

The loops are defined by well-founded recursion, which the kernel does not unfold; concrete runs are
therefore assembled from `rfl`-checked calls of the non-recursive pieces and the `…_eq` unfolding equations.
-/
namespace Knut.Syntax
open Knut.Utf8

/-- bytes of an ASCII string -/
def bytesOf (s : String) : List UInt8 := s.toList.map (fun c => UInt8.ofNat c.toNat)

/-- the bytes' counterpart of `lits_ofList` -/
theorem bytesOf_ofList (l : List Char) : bytesOf (String.ofList l) = l.map (fun c => UInt8.ofNat c.toNat) := by
  rw [bytesOf, String.toList_ofList]

theorem decodeAll_ascii (bs : List UInt8) (h : ∀ b ∈ bs, b.toNat < 128) :
    decodeAll bs = bs.map (fun b => ⟨b.toNat, [b]⟩) := by
  induction bs with
  | nil => simp
  | cons b rest ih =>
    have hb := h b List.mem_cons_self
    rw [decodeAll_cons]
    have : decodeRune (b :: rest) = ⟨b.toNat, [b]⟩ := by simp [decodeRune, hb]
    rw [this]
    simp [ih (fun x hx => h x (List.mem_cons_of_mem _ hx))]

/-- the text of the worked example: a comment line and an `open` directive -/
def exText : String := "#c\n2020-01-01 open A:B\n"

theorem ex_decode : decodeAll (bytesOf exText) = lits exText := by
  rw [exText, bytesOf_ofList, lits_ofList, decodeAll_ascii _ (by decide)]
  rfl

theorem ex_account : parseAccount ⟨19, lits "A:B\n"⟩ = .ok ⟨⟨19, 22⟩, false⟩ ⟨22, lits "\n"⟩ := by
  have h1 : readWhile1 "a letter or a digit" isAlphanumeric ⟨19, lits "A:B\n"⟩ = .ok ⟨19, 20⟩ ⟨20, lits ":B\n"⟩ := by rw [lits_ofList, lits_ofList]; rfl
  have h2 : readCharacter 58 ⟨20, lits ":B\n"⟩ = .ok ⟨20, 21⟩ ⟨21, lits "B\n"⟩ := by rw [lits_ofList, lits_ofList]; rfl
  have h3 : readWhile1 "a letter or a digit" isAlphanumeric ⟨21, lits "B\n"⟩ = .ok ⟨21, 22⟩ ⟨22, lits "\n"⟩ := by rw [lits_ofList, lits_ofList]; rfl
  have c0 : (cur ⟨19, lits "A:B\n"⟩ == 36) = false := by rw [lits_ofList]; rfl
  have c1 : (cur ⟨20, lits ":B\n"⟩ != 58) = false := by rw [lits_ofList]; rfl
  have c2 : (cur ⟨22, lits "\n"⟩ != 58) = true := by rw [lits_ofList]; rfl
  rw [parseAccount]
  simp only [c0, h1, Res.bind]
  rw [accountLoop_eq]
  simp only [c1, h2, h3, Res.bind]
  rw [accountLoop_eq]
  simp only [c2]
  rfl

theorem ex_open : parseOpen 3 ⟨⟨3, 13⟩⟩ ⟨19, lits "A:B\n"⟩ =
    .ok ⟨⟨3, 22⟩, ⟨⟨3, 13⟩⟩, ⟨⟨19, 22⟩, false⟩⟩ ⟨22, lits "\n"⟩ := by
  simp [parseOpen, ex_account, Res.bind, rng]

theorem ex_keyword : parseKeyword 3 ⟨⟨3, 13⟩⟩ "open" ⟨19, lits "A:B\n"⟩ =
    .ok (.open ⟨⟨3, 22⟩, ⟨⟨3, 13⟩⟩, ⟨⟨19, 22⟩, false⟩⟩) ⟨22, lits "\n"⟩ := by
  simp [parseKeyword, ex_open, Res.bind]

theorem ex_body : parseDirectiveBody 3 Addons.zero ⟨3, lits "2020-01-01 open A:B\n"⟩ =
    .ok (.open ⟨⟨3, 22⟩, ⟨⟨3, 13⟩⟩, ⟨⟨19, 22⟩, false⟩⟩) ⟨22, lits "\n"⟩ := by
  have c1 : (cur ⟨3, lits "2020-01-01 open A:B\n"⟩ == 105) = false := by rw [lits_ofList]; rfl
  have h1 : parseDate ⟨3, lits "2020-01-01 open A:B\n"⟩ = .ok ⟨⟨3, 13⟩⟩ ⟨13, lits " open A:B\n"⟩ := by rw [lits_ofList, lits_ofList]; rfl
  have h2 : readWhitespace1 ⟨13, lits " open A:B\n"⟩ = .ok ⟨13, 14⟩ ⟨14, lits "open A:B\n"⟩ := by rw [lits_ofList, lits_ofList]; rfl
  have c2 : (cur ⟨14, lits "open A:B\n"⟩ == 34) = false := by rw [lits_ofList]; rfl
  have h3 : readAlternative ["open", "close", "balance", "price"] ⟨14, lits "open A:B\n"⟩ =
      .ok (⟨14, 18⟩, "open") ⟨18, lits " A:B\n"⟩ := by rw [lits_ofList, lits_ofList]; rfl
  have h4 : readWhitespace1 ⟨18, lits " A:B\n"⟩ = .ok ⟨18, 19⟩ ⟨19, lits "A:B\n"⟩ := by rw [lits_ofList, lits_ofList]; rfl
  unfold parseDirectiveBody
  simp only [c1, Bool.false_eq_true, if_false, h1, Res.bind, h2, c2, h3, h4, ex_keyword]

theorem ex_directive : parseDirective ⟨3, lits "2020-01-01 open A:B\n"⟩ =
    .ok ⟨⟨3, 22⟩, .open ⟨⟨3, 22⟩, ⟨⟨3, 13⟩⟩, ⟨⟨19, 22⟩, false⟩⟩⟩ ⟨22, lits "\n"⟩ := by
  have c0 : (cur ⟨3, lits "2020-01-01 open A:B\n"⟩ == 64) = false := by rw [lits_ofList]; rfl
  unfold parseDirective
  simp only [c0, Bool.false_eq_true, if_false, Res.bind, ex_body, rng]

theorem ex_parse : parseText "j.knut" (bytesOf exText) =
    .ok ⟨⟨0, 23⟩, [⟨⟨3, 22⟩, .open ⟨⟨3, 22⟩, ⟨⟨3, 13⟩⟩, ⟨⟨19, 22⟩, false⟩⟩⟩]⟩ := by
  have hs : start (lits exText) = .ok () ⟨0, lits exText⟩ := by rw [exText, lits_ofList]; rfl
  have i1 : fileItem ⟨0, lits exText⟩ = .ok none ⟨2, lits "\n2020-01-01 open A:B\n"⟩ := by rw [exText, lits_ofList, lits_ofList]; rfl
  have r1 : readRestOfWhitespaceLine ⟨2, lits "\n2020-01-01 open A:B\n"⟩ = .ok ⟨2, 3⟩ ⟨3, lits "2020-01-01 open A:B\n"⟩ := by rw [lits_ofList, lits_ofList]; rfl
  have i2 : fileItem ⟨3, lits "2020-01-01 open A:B\n"⟩ =
      .ok (some ⟨⟨3, 22⟩, .open ⟨⟨3, 22⟩, ⟨⟨3, 13⟩⟩, ⟨⟨19, 22⟩, false⟩⟩⟩) ⟨22, lits "\n"⟩ := by
    have c : (cur ⟨3, lits "2020-01-01 open A:B\n"⟩ == 42 || cur ⟨3, lits "2020-01-01 open A:B\n"⟩ == 35 ||
        cur ⟨3, lits "2020-01-01 open A:B\n"⟩ == 47) = false := by rw [lits_ofList]; rfl
    have d : (isAlphanumeric (cur ⟨3, lits "2020-01-01 open A:B\n"⟩) || cur ⟨3, lits "2020-01-01 open A:B\n"⟩ == 64) = true := by
      decide +kernel
    unfold fileItem
    simp only [c, d, Bool.false_eq_true, if_false, if_true, ex_directive, Res.bind]
  have r2 : readRestOfWhitespaceLine ⟨22, lits "\n"⟩ = .ok ⟨22, 23⟩ ⟨23, []⟩ := by rw [lits_ofList]; rfl
  have e0 : atEOF ⟨0, lits exText⟩ = false := by rw [exText, lits_ofList]; rfl
  have e1 : atEOF ⟨2, lits "\n2020-01-01 open A:B\n"⟩ = false := by rw [lits_ofList]; rfl
  have e2 : atEOF ⟨3, lits "2020-01-01 open A:B\n"⟩ = false := by rw [lits_ofList]; rfl
  have e3 : atEOF ⟨22, lits "\n"⟩ = false := by rw [lits_ofList]; rfl
  have e4 : atEOF ⟨23, []⟩ = true := by rfl
  simp only [parseText, ex_decode, hs, parseFile]
  rw [fileLoop_eq]
  simp only [e0, Bool.false_eq_true, if_false, i1, Res.bind, e1, r1, pushOpt]
  rw [fileLoop_eq]
  simp only [e2, Bool.false_eq_true, if_false, i2, Res.bind, e3, r2, pushOpt]
  rw [fileLoop_eq]
  simp only [e4, if_true]
  rfl

theorem ex_invalid : parseText "j.knut" [0x32, 0xff] =
    .error [Frame.at "invalid unicode character" ⟨1, 1⟩, Frame.at "reading next character" ⟨0, 1⟩,
      Frame.at "while parsing the date" ⟨0, 1⟩, Frame.at "while parsing directive" ⟨0, 1⟩,
      Frame.at "while parsing file `j.knut`" ⟨0, 1⟩] := by
  have hd : decodeAll [0x32, 0xff] = [⟨0x32, [0x32]⟩, ⟨runeError, [0xff]⟩] := by
    simp [decodeAll_cons, decodeRune]
  have hs : start [⟨0x32, [0x32]⟩, ⟨runeError, [0xff]⟩] = .ok () ⟨0, [⟨0x32, [0x32]⟩, ⟨runeError, [0xff]⟩]⟩ := by rfl
  have e0 : atEOF ⟨0, [⟨0x32, [0x32]⟩, ⟨runeError, [0xff]⟩]⟩ = false := by rfl
  have i1 : fileItem ⟨0, [⟨0x32, [0x32]⟩, ⟨runeError, [0xff]⟩]⟩ =
      .err [Frame.at "invalid unicode character" ⟨1, 1⟩, Frame.at "reading next character" ⟨0, 1⟩,
        Frame.at "while parsing the date" ⟨0, 1⟩, Frame.at "while parsing directive" ⟨0, 1⟩] ⟨1, [⟨runeError, [0xff]⟩]⟩ := by
    have c : (cur ⟨0, [⟨0x32, [0x32]⟩, ⟨runeError, [0xff]⟩]⟩ == 42 || cur ⟨0, [⟨0x32, [0x32]⟩, ⟨runeError, [0xff]⟩]⟩ == 35 ||
        cur ⟨0, [⟨0x32, [0x32]⟩, ⟨runeError, [0xff]⟩]⟩ == 47) = false := by rfl
    have d : (isAlphanumeric (cur ⟨0, [⟨0x32, [0x32]⟩, ⟨runeError, [0xff]⟩]⟩) ||
        cur ⟨0, [⟨0x32, [0x32]⟩, ⟨runeError, [0xff]⟩]⟩ == 64) = true := by decide +kernel
    have p : parseDirective ⟨0, [⟨0x32, [0x32]⟩, ⟨runeError, [0xff]⟩]⟩ =
      .err [Frame.at "invalid unicode character" ⟨1, 1⟩, Frame.at "reading next character" ⟨0, 1⟩,
        Frame.at "while parsing the date" ⟨0, 1⟩, Frame.at "while parsing directive" ⟨0, 1⟩] ⟨1, [⟨runeError, [0xff]⟩]⟩ := by rfl
    unfold fileItem
    simp only [c, d, Bool.false_eq_true, if_false, if_true, p, Res.bind]
  simp only [parseText, hd, hs, parseFile]
  rw [fileLoop_eq]
  simp only [e0, Bool.false_eq_true, if_false, i1, Res.bind]
  rfl

end Knut.Syntax
