import Knut.Proofs.SyntaxWF
/-!
# A state of the scan of a text (`Good`), gaps on bytes, the lossless cover (helper lemmas for C07)

What C07 says of a parsed file (`parseText_ok`) is read off its run as items, in `Proofs/SyntaxItems.lean`; here are the
byte-level notions it is stated in (`gapOK` line by line, `interleave_cover`), the invariant `Good` that ties scanner states
to the text, and `parseText` by when it succeeds (`parseText_eq_ok`).
-/
namespace Knut.Syntax
open Knut.Utf8 Knut.Spec.Syntax

theorem slice_self (text : List UInt8) (a : Nat) : slice text a a = [] := by simp [slice]

theorem slice_append (text : List UInt8) {a b c : Nat} (h1 : a ≤ b) (h2 : b ≤ c) :
    slice text a c = slice text a b ++ slice text b c := by
  unfold slice
  have e : text.drop b = (text.drop a).drop (b - a) := by rw [List.drop_drop]; congr 1; omega
  rw [e]
  have : c - a = (b - a) + (c - b) := by omega
  rw [this, List.take_add]

theorem slice_to_end (text : List UInt8) (a : Nat) : slice text a text.length = text.drop a := by
  unfold slice
  rw [List.take_of_length_le]
  simp

theorem splitLines_ne_nil (g : List UInt8) : splitLines g ≠ [] := by
  induction g with
  | nil => simp [splitLines]
  | cons b bs ih =>
    unfold splitLines
    split
    · simp
    · split <;> simp

theorem splitLines_nl (a b : List UInt8) : splitLines (a ++ 10 :: b) = splitLines a ++ splitLines b := by
  induction a with
  | nil => simp [splitLines]
  | cons x xs ih =>
    simp only [List.cons_append]
    by_cases hx : x = 10
    · subst hx
      simp [splitLines, ih]
    · rw [splitLines, splitLines]
      simp only [hx, if_false]
      rw [ih]
      cases h : splitLines xs with
      | nil => exact absurd h (splitLines_ne_nil xs)
      | cons l ls => simp

theorem splitLines_no_nl {x : List UInt8} (h : (10 : UInt8) ∉ x) : splitLines x = [x] := by
  induction x with
  | nil => simp [splitLines]
  | cons b bs ih =>
    simp only [List.mem_cons, not_or] at h
    rw [splitLines]
    have : b ≠ 10 := fun e => h.1 e.symm
    simp only [this, if_false]
    rw [ih h.2]

theorem gapOK_nl (a b : List UInt8) : gapOK (a ++ 10 :: b) = (gapOK a && gapOK b) := by
  simp [gapOK, splitLines_nl, List.all_append]

theorem gapOK_nil : gapOK [] = true := by simp [gapOK, splitLines, lineOK]

theorem gapOK_line {x : List UInt8} (h : (10 : UInt8) ∉ x) : gapOK x = lineOK x := by
  simp [gapOK, splitLines_no_nl h]

def NL (g : List UInt8) : Prop := g = [] ∨ ∃ a, g = a ++ [10]

theorem gapOK_snoc_line {g x : List UInt8} (hg : gapOK g = true) (hn : NL g) (hx : lineOK x = true) (h10 : (10 : UInt8) ∉ x) :
    gapOK (g ++ x) = true ∧ gapOK (g ++ x ++ [10]) = true := by
  have h1 : gapOK (g ++ x) = true := by
    rcases hn with hn | ⟨a, hn⟩
    · subst hn; simpa [gapOK_line h10] using hx
    · subst hn
      have : gapOK a = true := by
        have := hg
        rw [gapOK_nl] at this
        simp only [Bool.and_eq_true] at this
        exact this.1
      rw [List.append_assoc, List.singleton_append, gapOK_nl, this, gapOK_line h10, hx]
      rfl
  refine ⟨h1, ?_⟩
  rw [gapOK_nl, h1, gapOK_nil]
  rfl

theorem NL_snoc (g : List UInt8) : NL (g ++ [10]) := Or.inr ⟨g, rfl⟩

theorem lineOK_blank {w : List UInt8} (h : ∀ b ∈ w, isBlankByte b = true) : lineOK w = true ∧ (10 : UInt8) ∉ w := by
  constructor
  · simp only [lineOK, Bool.or_eq_true, List.all_eq_true]
    exact Or.inl h
  · intro hm
    have := h 10 hm
    simp [isBlankByte] at this

/-- the state `s` belongs to a scan of `text`: the unread tokens spell the rest of the text. It is what turns a fact about
consumed tokens into one about the bytes of `text` (`Good.consumed`, `Good.extract`) -/
structure Good (text : List UInt8) (s : St) : Prop where
  drop : text.drop s.off = flat s.toks
  le : s.off ≤ text.length
  wf : ∀ t ∈ s.toks, t.wf
  pos : ∀ t ∈ s.toks, 1 ≤ t.bytes.length
  canon : ∀ t ∈ s.toks, t.invalid = false → t.canon

theorem Good.consumed {text : List UInt8} {s s' : St} {c : List Tok} (hG : Good text s) (hc : Consumed s c s') :
    Good text s' ∧ slice text s.off s'.off = flat c := by
  obtain ⟨h1, h2⟩ := hc
  have hd := hG.drop
  rw [h1, flat_append] at hd
  have hl : (text.drop s.off).length = wsum c + wsum s'.toks := by rw [hd]; simp
  simp only [List.length_drop] at hl
  refine ⟨⟨?_, by have := hG.le; omega, fun t ht => hG.wf t (by rw [h1]; exact List.mem_append_right _ ht),
    fun t ht => hG.pos t (by rw [h1]; exact List.mem_append_right _ ht),
    fun t ht => hG.canon t (by rw [h1]; exact List.mem_append_right _ ht)⟩, ?_⟩
  · have : text.drop s'.off = (text.drop s.off).drop (wsum c) := by rw [List.drop_drop, h2]
    rw [this, hd]
    simp
  · unfold slice
    rw [hd, h2]
    simp

theorem Good.ext {text : List UInt8} {s s' : St} (hG : Good text s) (h : Ext s s') : Good text s' := by
  obtain ⟨c, hc⟩ := h
  exact (hG.consumed hc).1

theorem Good.eof {text : List UInt8} {s : St} (hG : Good text s) (hE : atEOF s = true) : s.off = text.length := by
  have hd := hG.drop
  have hl := hG.le
  simp only [atEOF, List.isEmpty_iff] at hE
  rw [hE] at hd
  simp only [flat_nil, List.drop_eq_nil_iff] at hd
  omega

theorem wf_ascii_bytes {t : Tok} (h : t.wf) (hr : t.r < 128) : t.bytes = [UInt8.ofNat t.r] := h.1 hr

theorem wf_no_nl {t : Tok} (h : t.wf) (hr : t.r ≠ 10) : (10 : UInt8) ∉ t.bytes := by
  intro hm
  by_cases h128 : t.r < 128
  · rw [h.1 h128] at hm
    simp only [List.mem_cons, List.not_mem_nil, or_false] at hm
    have : (10 : UInt8).toNat = (UInt8.ofNat t.r).toNat := by rw [← hm]
    simp at this
    omega
  · have := h.2 (by omega) 10 hm
    simp at this

theorem flat_blank {c : List Tok} (hw : ∀ t ∈ c, t.wf) (hp : ∀ t ∈ c, isWhitespace t.r = true) :
    ∀ b ∈ flat c, isBlankByte b = true := by
  induction c with
  | nil => simp
  | cons t ts ih =>
    intro b hb
    simp only [flat_cons, List.mem_append] at hb
    rcases hb with hb | hb
    · have hr := hp t List.mem_cons_self
      have hwf := hw t List.mem_cons_self
      simp only [isWhitespace, Bool.or_eq_true, beq_iff_eq] at hr
      have : t.r < 128 := by omega
      rw [hwf.1 this] at hb
      simp only [List.mem_cons, List.not_mem_nil, or_false] at hb
      subst hb
      rcases hr with (hr | hr) | hr <;> rw [hr] <;> rfl
    · exact ih (fun t ht => hw t (List.mem_cons_of_mem _ ht)) (fun t ht => hp t (List.mem_cons_of_mem _ ht)) b hb

theorem flat_no_nl {c : List Tok} (hw : ∀ t ∈ c, t.wf) (hp : ∀ t ∈ c, t.r ≠ 10) : (10 : UInt8) ∉ flat c := by
  induction c with
  | nil => simp
  | cons t ts ih =>
    simp only [flat_cons, List.mem_append, not_or]
    exact ⟨wf_no_nl (hw t List.mem_cons_self) (hp t List.mem_cons_self),
      ih (fun t ht => hw t (List.mem_cons_of_mem _ ht)) (fun t ht => hp t (List.mem_cons_of_mem _ ht))⟩

theorem toks_of_runes1 {c : List Tok} {a : Nat} (h : c.map (·.r) = [a]) : ∃ t, c = [t] ∧ t.r = a := by
  cases c with
  | nil => simp at h
  | cons t ts =>
    cases ts with
    | nil => simp at h; exact ⟨t, rfl, h⟩
    | cons _ _ => simp at h

theorem toks_of_runes2 {c : List Tok} {a b : Nat} (h : c.map (·.r) = [a, b]) : ∃ t u, c = [t, u] ∧ t.r = a ∧ u.r = b := by
  cases c with
  | nil => simp at h
  | cons t ts =>
    cases ts with
    | nil => simp at h
    | cons u us =>
      cases us with
      | nil => simp at h; exact ⟨t, u, rfl, h.1, h.2⟩
      | cons _ _ => simp at h

theorem Good.wsum_pos {text : List UInt8} {s s' : St} {c : List Tok} (hG : Good text s) (hc : Consumed s c s')
    (hne : c ≠ []) : 0 < wsum c := by
  cases c with
  | nil => exact absurd rfl hne
  | cons t ts =>
    have := hG.pos t (by rw [hc.1]; simp)
    simp only [wsum_cons]; omega

theorem runesOf_star : runesOf "*" = [42] := by decide
theorem runesOf_hash : runesOf "#" = [35] := by decide
theorem runesOf_slashes : runesOf "//" = [47, 47] := by decide

theorem fileLoop_ext (path : String) (start : Nat) (acc : List Directive) (s : St) :
    Ext s (fileLoop path start acc s).st := by
  fun_induction fileLoop path start acc s with
  | case1 acc s hE => exact Ext.refl _
  | case2 acc s hE e s1 h1 => exact ext_of_err (fileItem_ext _) h1
  | case3 acc s hE d s1 h1 hE1 => exact ext_of_ok (fileItem_ext _) h1
  | case4 acc s hE d s1 h1 hE1 e s2 h2 =>
    exact (ext_of_ok (fileItem_ext _) h1).trans (ext_of_err (readRestOfWhitespaceLine_ext _) h2)
  | case5 acc s hE d s1 h1 hE1 x s2 h2 ih =>
    exact ((ext_of_ok (fileItem_ext _) h1).trans (ext_of_ok (readRestOfWhitespaceLine_ext _) h2)).trans ih

theorem fileLoop_end (path : String) (start : Nat) (acc : List Directive) (s : St) :
    ∀ f s', fileLoop path start acc s = .ok f s' → f.range = rng start s' ∧ atEOF s' = true := by
  fun_induction fileLoop path start acc s with
  | case1 acc s hE => intro f s' h; injection h with h1 h2; subst h1 h2; exact ⟨rfl, hE⟩
  | case2 acc s hE e s1 h1 => intro f s' h; cases h
  | case3 acc s hE d s1 h1 hE1 => intro f s' h; injection h with h1 h2; subst h1 h2; exact ⟨rfl, hE1⟩
  | case4 acc s hE d s1 h1 hE1 e s2 h2 => intro f s' h; cases h
  | case5 acc s hE d s1 h1 hE1 x s2 h2 ih => exact ih

theorem interleave_cover (text : List UInt8) (pos : Nat) (rs : List Range)
    (hs : sortedDisjoint pos rs = true) (hb : ∀ r ∈ rs, r.stop ≤ text.length) (hp : pos ≤ text.length) :
    interleave (gapsOf text pos rs) (rs.map fun r => slice text r.start r.stop) = text.drop pos := by
  induction rs generalizing pos with
  | nil => simp [gapsOf, interleave, slice_to_end]
  | cons r rs ih =>
    simp only [sortedDisjoint, Bool.and_eq_true, decide_eq_true_eq] at hs
    have hr := hb r List.mem_cons_self
    simp only [gapsOf, List.map_cons, interleave]
    rw [ih r.stop hs.2 (fun r' hr' => hb r' (List.mem_cons_of_mem _ hr')) hr]
    rw [← slice_to_end, ← slice_to_end]
    rw [slice_append text hs.1.1 (by omega : r.start ≤ text.length), slice_append text (Nat.le_of_lt hs.1.2) hr]
    simp

theorem good_start (text : List UInt8) : Good text ⟨0, decodeAll text⟩ :=
  ⟨by simp [flat_decodeAll], Nat.zero_le _, decodeAll_wf text, decodeAll_width_pos text, decodeAll_canon text⟩

theorem start_complete (toks : List Tok) (h : HeadValid toks) : start toks = .ok () ⟨0, toks⟩ := by
  unfold start
  cases toks with
  | nil => rfl
  | cons u r => simp [h u r rfl]

theorem start_invalid {toks : List Tok} (h : ¬ HeadValid toks) :
    start toks = .err [Frame.at "invalid unicode character" ⟨0, 0⟩] ⟨0, toks⟩ := by
  unfold start
  cases toks with
  | nil => exact absurd HeadValid.nil h
  | cons u r =>
    have : u.invalid = true := by
      cases hu : u.invalid
      · exact absurd (HeadValid.cons hu) h
      · rfl
    simp [this]

/-- the first `Advance` succeeds iff the first token is validly encoded; then the answer is that of the main loop -/
theorem parseText_valid (path : String) {text : List UInt8} (hv : HeadValid (decodeAll text)) : parseText path text =
    match fileLoop path 0 [] ⟨0, decodeAll text⟩ with
    | .ok f _ => .ok f
    | .err e _ => .error e := by
  unfold parseText
  rw [start_complete _ hv]
  rfl

theorem parseText_invalid (path : String) {text : List UInt8} (hv : ¬ HeadValid (decodeAll text)) :
    parseText path text = .error [Frame.at "invalid unicode character" ⟨0, 0⟩] := by
  unfold parseText
  rw [start_invalid hv]

theorem parseText_eq_ok {path : String} {text : List UInt8} {f : File} :
    parseText path text = .ok f ↔
      HeadValid (decodeAll text) ∧ ∃ s', fileLoop path 0 [] ⟨0, decodeAll text⟩ = .ok f s' := by
  by_cases hv : HeadValid (decodeAll text)
  · rw [parseText_valid path hv]
    cases fileLoop path 0 [] ⟨0, decodeAll text⟩ <;> simp [hv]
  · simp [parseText_invalid path hv, hv]

theorem parseText_eq_error {path : String} {text : List UInt8} {e : Err} :
    parseText path text = .error e ↔
      (¬ HeadValid (decodeAll text) ∧ e = [Frame.at "invalid unicode character" ⟨0, 0⟩]) ∨
      (HeadValid (decodeAll text) ∧ ∃ s', fileLoop path 0 [] ⟨0, decodeAll text⟩ = .err e s') := by
  by_cases hv : HeadValid (decodeAll text)
  · rw [parseText_valid path hv]
    cases fileLoop path 0 [] ⟨0, decodeAll text⟩ <;> simp [hv]
  · simp [parseText_invalid path hv, hv, eq_comm]

theorem toNode_ranges (f : File) : f.toNode.children.map Node.range = f.directives.map (·.range) := by
  simp [File.toNode, Node.children, Directive.toNode, Node.range, List.map_map, Function.comp_def]

theorem locationL_pos (stop : Nat) (pos line col : Nat) (toks : List Tok) (hl : 1 ≤ line) (hc : 1 ≤ col) :
    1 ≤ (locationL stop pos line col toks).1 ∧ 1 ≤ (locationL stop pos line col toks).2 := by
  induction toks generalizing pos line col with
  | nil => exact ⟨hl, hc⟩
  | cons t rest ih =>
    unfold locationL
    split
    · exact ⟨hl, hc⟩
    · split
      · exact ih _ _ _ (by omega) (Nat.le_refl _)
      · exact ih _ _ _ hl (by omega)

mutual
theorem nodeAll_of_wf (text : List UInt8) : ∀ (n : Node) (lo hi : Nat), nodeWF lo hi n = true → hi ≤ text.length →
    nodeAll (extractOK text) n = true
  | .mk k r cs, lo, hi, h, hh => by
    rw [nodeWF_mk] at h
    simp only [nodeAll, Bool.and_eq_true]
    refine ⟨?_, nodesAll_of_wf text cs r.start r.stop h.2 (by omega)⟩
    have hr : r.start ≤ r.stop ∧ r.stop ≤ text.length := ⟨by omega, by omega⟩
    show (Range.extract text r == some (slice text r.start r.stop)) = true
    simp [Range.extract, hr, slice]
theorem nodesAll_of_wf (text : List UInt8) : ∀ (cs : List Node) (lo hi : Nat), nodesWF lo hi cs = true → hi ≤ text.length →
    nodesAll (extractOK text) cs = true
  | [], _, _, _, _ => by simp [nodesAll]
  | c :: cs, lo, hi, h, hh => by
    rw [nodesWF_cons] at h
    simp only [nodesAll, Bool.and_eq_true]
    exact ⟨nodeAll_of_wf text c lo hi h.1 hh, nodesAll_of_wf text cs lo hi h.2 hh⟩
end

end Knut.Syntax
