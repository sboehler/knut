import Knut.Spec.SyntaxFormat
/-!
# `format`: no slice out of range, gaps copied verbatim (helper lemmas for C08)
-/
namespace Knut.Syntax
open Knut.Utf8 Knut.Spec.Syntax

theorem extract_some {text : Bytes} {r : Range} (h1 : r.start ≤ r.stop) (h2 : r.stop ≤ text.length) :
    r.extract text = some (slice text r.start r.stop) := by
  simp [Range.extract, h1, h2, slice]

theorem sliceChecked_some {text : Bytes} {a b : Nat} (h1 : a ≤ b) (h2 : b ≤ text.length) :
    sliceChecked text a b = some (slice text a b) := by
  simp [sliceChecked, h1, h2, slice]

theorem sliceChecked_eq {text : Bytes} {a b : Nat} {x : Bytes} (h : sliceChecked text a b = some x) :
    x = slice text a b ∧ a ≤ b ∧ b ≤ text.length := by
  unfold sliceChecked at h
  split at h
  · rename_i hc
    injection h with h
    exact ⟨h.symm, hc.1, hc.2⟩
  · cases h

/-- **gaps verbatim**, for the loop of `Printer.Format` -/
theorem formatLoop_shape {text : Bytes} {padding : Nat} {pos : Nat} {ds : List Directive} {out : Bytes}
    (h : formatLoop text padding pos ds = some out) :
    ∃ rs, ds.mapM (printDirective text padding) = some rs ∧
      out = interleave (gapsOf text pos (ds.map (·.range))) rs := by
  induction ds generalizing pos out with
  | nil =>
    simp only [formatLoop] at h
    have := (sliceChecked_eq h).1
    exact ⟨[], by simp, by simp [gapsOf, interleave, this]⟩
  | cons d ds ih =>
    simp only [formatLoop, Option.bind_eq_bind, Option.bind_eq_some_iff, Option.pure_def, Option.some.injEq] at h
    obtain ⟨gap, hg, r, hr, rest, hrest, hout⟩ := h
    obtain ⟨rs, hrs, hrest'⟩ := ih hrest
    refine ⟨r :: rs, by simp [List.mapM_cons, hr, hrs], ?_⟩
    rw [← hout, hrest', (sliceChecked_eq hg).1]
    simp [gapsOf, interleave]

/-- **gaps verbatim**: whenever `format` produces output, it is the original gaps interleaved with the rendered
directives, all rendered with one padding -/
theorem format_shape {text : Bytes} {f : File} {out : Bytes} (h : format text f = some out) :
    ∃ padding rs, initPadding text f.directives = some padding ∧
      f.directives.mapM (printDirective text padding) = some rs ∧
      out = interleave (gapsOf text 0 (f.directives.map (·.range))) rs := by
  simp only [format, Option.bind_eq_bind, Option.bind_eq_some_iff] at h
  obtain ⟨padding, hp, h⟩ := h
  obtain ⟨rs, h1, h2⟩ := formatLoop_shape h
  exact ⟨padding, rs, hp, h1, h2⟩

end Knut.Syntax
