import Knut.Proofs.SyntaxLex
import Knut.Proofs.SyntaxWF
/-!
# The lexical classes of the fields, both directions (helper lemmas for C08)

For each leaf parser (`parseDate`, `parseCommodity`, `parseDecimal`, `parseAccount`, `parseInterval`, the content
of a quoted string): a predicate on token lists, *soundness* (what a successful call consumed is in the class) and
*completeness* (`Reads`: on `c ++ r` with `c` in the class and a harmless first token of `r` the call consumes exactly `c`).
-/
namespace Knut.Syntax
open Knut.Utf8

/-! The character classes on the ASCII characters the grammar sets them against, by kernel evaluation on the regenerated tables
(`Knut/Generated/Unicode.lean`). -/

theorem alnum_colon : isAlphanumeric 58 = false := by decide +kernel
theorem alnum_space : isAlphanumeric 32 = false := by decide +kernel
theorem alnum_tab : isAlphanumeric 9 = false := by decide +kernel
theorem alnum_cr : isAlphanumeric 13 = false := by decide +kernel
theorem alnum_nl : isAlphanumeric 10 = false := by decide +kernel
theorem alnum_comma : isAlphanumeric 44 = false := by decide +kernel
theorem alnum_rparen : isAlphanumeric 41 = false := by decide +kernel
theorem alnum_dollar : isAlphanumeric 36 = false := by decide +kernel
theorem alnum_at : isAlphanumeric 64 = false := by decide +kernel
theorem digit_minus : isDigit 45 = false := by decide +kernel
theorem digit_dot : isDigit 46 = false := by decide +kernel
theorem digit_space : isDigit 32 = false := by decide +kernel
theorem alnum_star : isAlphanumeric 42 = false := by decide +kernel
theorem alnum_hash : isAlphanumeric 35 = false := by decide +kernel
theorem alnum_slash : isAlphanumeric 47 = false := by decide +kernel
theorem digit_i : isDigit 105 = false := by decide +kernel
theorem digit_at : isDigit 64 = false := by decide +kernel
theorem digit_quote : isDigit 34 = false := by decide +kernel

theorem ws_cases {x : Nat} (h : isWhitespaceOrNewline x = true) : x = 10 ∨ x = 32 ∨ x = 9 ∨ x = 13 := by
  simp only [isWhitespaceOrNewline, isNewline, isWhitespace, Bool.or_eq_true, beq_iff_eq] at h
  omega

theorem ws_not_alnum {x : Nat} (h : isWhitespaceOrNewline x = true) : isAlphanumeric x = false := by
  rcases ws_cases h with h | h | h | h <;> subst h
  · exact alnum_nl
  · exact alnum_space
  · exact alnum_tab
  · exact alnum_cr

theorem alnum_of_digit {x : Nat} (h : isDigit x = true) : isAlphanumeric x = true := by simp [isAlphanumeric, h]
theorem alnum_of_letter {x : Nat} (h : isLetter x = true) : isAlphanumeric x = true := by simp [isAlphanumeric, h]
theorem not_digit_of_not_alnum {x : Nat} (h : isAlphanumeric x = false) : isDigit x = false := by
  simp only [isAlphanumeric, Bool.or_eq_false_iff] at h; exact h.2
theorem not_letter_of_not_alnum {x : Nat} (h : isAlphanumeric x = false) : isLetter x = false := by
  simp only [isAlphanumeric, Bool.or_eq_false_iff] at h; exact h.1

theorem HeadNot.cons {p : Nat → Bool} {t : Tok} {r : List Tok} (h : p t.r = false) : HeadNot p (t :: r) := by
  intro x rest e; simp only [List.cons.injEq] at e; rw [← e.1]; exact h

theorem HeadNot.mono {p q : Nat → Bool} {r : List Tok} (h : HeadNot p r) (hpq : ∀ x, p x = false → q x = false) :
    HeadNot q r := fun t rest e => hpq _ (h t rest e)

theorem consumed_mk (off : Nat) (c r : List Tok) : Consumed ⟨off, c ++ r⟩ c ⟨off + wsum c, r⟩ := ⟨rfl, rfl⟩

theorem st_eq_of_consumed {s s' : St} {c : List Tok} (h : Consumed s c s') : s = ⟨s.off, c ++ s'.toks⟩ := by
  cases s with
  | mk off toks => simp only [St.mk.injEq, true_and]; exact h.1

/-- `dddd-dd-dd` -/
def IsDate (c : List Tok) : Prop :=
  ∃ d1 d2 d3 d4 h1 d5 d6 h2 d7 d8, c = [d1, d2, d3, d4, h1, d5, d6, h2, d7, d8] ∧
    isDigit d1.r = true ∧ isDigit d2.r = true ∧ isDigit d3.r = true ∧ isDigit d4.r = true ∧ h1.r = 45 ∧
    isDigit d5.r = true ∧ isDigit d6.r = true ∧ h2.r = 45 ∧ isDigit d7.r = true ∧ isDigit d8.r = true

theorem parseDate_pass {s : St} {d : Date} {s' : St} (h : parseDate s = .ok d s') :
    ∃ c, Pass s c s' ∧ IsDate c ∧ d = ⟨⟨s.off, s'.off⟩⟩ := by
  have hd := (parseDate_runs _).val h
  unfold parseDate at h
  simp only [Res.bind_eq_ok] at h
  obtain ⟨_, s1, g1, _, s2, g2, _, s3, g3, _, s4, g4, _, s5, g5, _, s6, g6, _, s7, g7, _, s8, g8, _, s9, g9, _, s10, g10, h⟩ := h
  injection h with _ hs
  subst hs
  obtain ⟨t1, c1, p1⟩ := readCharacterWith_pass g1
  obtain ⟨t2, c2, p2⟩ := readCharacterWith_pass g2
  obtain ⟨t3, c3, p3⟩ := readCharacterWith_pass g3
  obtain ⟨t4, c4, p4⟩ := readCharacterWith_pass g4
  obtain ⟨t5, c5, p5⟩ := readCharacter_pass g5
  obtain ⟨t6, c6, p6⟩ := readCharacterWith_pass g6
  obtain ⟨t7, c7, p7⟩ := readCharacterWith_pass g7
  obtain ⟨t8, c8, p8⟩ := readCharacter_pass g8
  obtain ⟨t9, c9, p9⟩ := readCharacterWith_pass g9
  obtain ⟨t10, c10, p10⟩ := readCharacterWith_pass g10
  exact ⟨_, c1.trans (c2.trans (c3.trans (c4.trans (c5.trans (c6.trans (c7.trans (c8.trans (c9.trans c10)))))))),
    ⟨t1, t2, t3, t4, t5, t6, t7, t8, t9, t10, rfl, p1, p2, p3, p4, p5, p6, p7, p8, p9, p10⟩, hd⟩

theorem parseDate_reads {c : List Tok} (hc : IsDate c) (hv : Valid c) :
    Reads parseDate c HeadValid (fun off => ⟨⟨off, off + wsum c⟩⟩) := by
  obtain ⟨d1, d2, d3, d4, h1, d5, d6, h2, d7, d8, rfl, p1, p2, p3, p4, p5, p6, p7, p8, p9, p10⟩ := hc
  have w : ∀ t ∈ [d1, d2, d3, d4, h1, d5, d6, h2, d7, d8], t.invalid = false := hv
  simp only [List.mem_cons, List.not_mem_nil, or_false, forall_eq_or_imp, forall_eq] at w
  obtain ⟨w1, w2, w3, w4, w5, w6, w7, w8, w9, w10⟩ := w
  intro off r hr
  unfold parseDate
  show ((readCharacterWith "a digit" isDigit
    ⟨off, [d1] ++ ([d2] ++ ([d3] ++ ([d4] ++ ([h1] ++ ([d5] ++ ([d6] ++ ([h2] ++ ([d7] ++ ([d8] ++ r)))))))))⟩).bind _ _) = _
  refine (readCharacterWith_reads _ p1).step (HeadValid.cons w2) ?_
  refine (readCharacterWith_reads _ p2).step (HeadValid.cons w3) ?_
  refine (readCharacterWith_reads _ p3).step (HeadValid.cons w4) ?_
  refine (readCharacterWith_reads _ p4).step (HeadValid.cons w5) ?_
  refine (readCharacter_reads p5).step (HeadValid.cons w6) ?_
  refine (readCharacterWith_reads _ p6).step (HeadValid.cons w7) ?_
  refine (readCharacterWith_reads _ p7).step (HeadValid.cons w8) ?_
  refine (readCharacter_reads p8).step (HeadValid.cons w9) ?_
  refine (readCharacterWith_reads _ p9).step (HeadValid.cons w10) ?_
  refine (readCharacterWith_reads _ p10).step hr ?_
  simp [rng, wsum, Nat.add_assoc]

def IsCommodity (c : List Tok) : Prop := c ≠ [] ∧ All isAlphanumeric c

theorem parseCommodity_pass {s : St} {x : Commodity} {s' : St} (h : parseCommodity s = .ok x s') :
    ∃ c, Pass s c s' ∧ IsCommodity c ∧ x = ⟨⟨s.off, s'.off⟩⟩ ∧ HeadNot isAlphanumeric s'.toks := by
  have hd := (parseCommodity_runs _).val h
  unfold parseCommodity at h
  simp only [Res.bind_eq_ok] at h
  obtain ⟨_, s1, g1, h⟩ := h
  injection h with _ hs
  subst hs
  obtain ⟨c, hne, hc, hp, _, hn⟩ := readWhile1_pass g1
  exact ⟨c, hc, ⟨hne, hp⟩, hd, hn⟩

theorem parseCommodity_reads {c : List Tok} (hc : IsCommodity c) (hv : Valid c) :
    Reads parseCommodity c (fun r => HeadValid r ∧ HeadNot isAlphanumeric r) (fun off => ⟨⟨off, off + wsum c⟩⟩) := by
  intro off r hr
  unfold parseCommodity
  exact (readWhile1_reads _ hc.1 hc.2 hv).step hr rfl

theorem cur_ne_of_headNot {x off : Nat} {r : List Tok} (hx : x ≠ EOF) (h : HeadNot (fun y => y == x) r) :
    (cur ⟨off, r⟩ == x) = false := by
  cases r with
  | nil => simp only [cur_nil, beq_eq_false_iff_ne]; exact fun e => hx e.symm
  | cons t rest => simpa [cur_cons] using h t rest rfl

def SignOK (sign : List Tok) : Prop := sign = [] ∨ ∃ m, sign = [m] ∧ m.r = 45
def FracOK (frac : List Tok) : Prop := frac = [] ∨ ∃ dot fr, frac = dot :: fr ∧ dot.r = 46 ∧ fr ≠ [] ∧ All isDigit fr

/-- `-?d+(.d+)?` -/
def IsDecimal (c : List Tok) : Prop :=
  ∃ sign int frac, c = sign ++ int ++ frac ∧ SignOK sign ∧ int ≠ [] ∧ All isDigit int ∧ FracOK frac

theorem parseDecimal_pass {s : St} {x : Decimal} {s' : St} (h : parseDecimal s = .ok x s') :
    ∃ c, Pass s c s' ∧ IsDecimal c ∧ x = ⟨⟨s.off, s'.off⟩⟩ := by
  have hd := (parseDecimal_runs _).val h
  unfold parseDecimal at h
  simp only [Res.bind_eq_ok] at h
  obtain ⟨_, s1, g1, _, s2, g2, h⟩ := h
  have hsign : ∃ sign, Pass s sign s1 ∧ SignOK sign := by
    split at g1
    · simp only [Res.bind_eq_ok] at g1
      obtain ⟨_, t1, k1, k2⟩ := g1
      injection k2 with _ k2
      subst k2
      obtain ⟨m, cm, pm⟩ := readCharacter_pass k1
      exact ⟨[m], cm, Or.inr ⟨m, rfl, pm⟩⟩
    · injection g1 with _ k2
      subst k2
      exact ⟨[], Pass.refl _, Or.inl rfl⟩
  obtain ⟨sign, csign, osign⟩ := hsign
  obtain ⟨int, hne, cint, pint, _, _⟩ := readWhile1_pass g2
  split at h
  · injection h with _ hs
    subst hs
    exact ⟨sign ++ int ++ [], by simpa using csign.trans cint, ⟨sign, int, [], rfl, osign, hne, pint, Or.inl rfl⟩, hd⟩
  · simp only [Res.bind_eq_ok] at h
    obtain ⟨_, s3, g3, _, s4, g4, h⟩ := h
    injection h with _ hs
    subst hs
    obtain ⟨dot, cdot, pdot⟩ := readCharacter_pass g3
    obtain ⟨fr, hne4, cfr, pfr, _, _⟩ := readWhile1_pass g4
    exact ⟨sign ++ int ++ (dot :: fr), by simpa using (csign.trans cint).trans (cdot.trans cfr),
      ⟨sign, int, dot :: fr, rfl, osign, hne, pint, Or.inr ⟨dot, fr, rfl, pdot, hne4, pfr⟩⟩, hd⟩

theorem parseDecimal_reads {c : List Tok} (hc : IsDecimal c) (hv : Valid c) :
    Reads parseDecimal c (fun r => HeadValid r ∧ HeadNot isDigit r ∧ HeadNot (fun y => y == 46) r)
      (fun off => ⟨⟨off, off + wsum c⟩⟩) := by
  obtain ⟨sign, int, frac, rfl, osign, hne, pint, ofrac⟩ := hc
  have vint : Valid int := hv.left.right
  have vfrac : Valid frac := hv.right
  obtain ⟨i0, irest, hint⟩ := List.exists_cons_of_ne_nil hne
  have hi0 : isDigit i0.r = true := pint i0 (by rw [hint]; exact List.mem_cons_self)
  intro off r ⟨hr, hn, hdot⟩
  have tail : ∀ off1, ((readWhile1 "a digit" isDigit ⟨off1, int ++ (frac ++ r)⟩).bind (annotate "parsing decimal" off) fun _ s =>
      if cur s != 46 then Res.ok (Decimal.mk (rng off s)) s
      else (readCharacter 46 s).bind (annotate "parsing decimal" off) fun _ s =>
        (readWhile1 "a digit" isDigit s).bind (annotate "parsing decimal" off) fun _ s => .ok ⟨rng off s⟩ s) =
      .ok ⟨⟨off, off1 + wsum int + wsum frac⟩⟩ ⟨off1 + wsum int + wsum frac, r⟩ := by
    intro off1
    rcases ofrac with rfl | ⟨dot, fr, rfl, pdot, hnefr, pfr⟩
    · simp only [List.nil_append, wsum_nil, Nat.add_zero]
      refine (readWhile1_reads _ hne pint vint).step ⟨hr, hn⟩ ?_
      have : (cur ⟨off1 + wsum int, r⟩ != 46) = true := by
        simp only [bne, cur_ne_of_headNot (off := off1 + wsum int) (by decide : (46 : Nat) ≠ EOF) hdot, Bool.not_false]
      rw [if_pos this]; rfl
    · have vdot : dot.invalid = false := vfrac.head
      have vfr : Valid fr := vfrac.tail
      refine (readWhile1_reads _ hne pint vint).step
        (by exact ⟨HeadValid.cons vdot, HeadNot.cons (by rw [pdot]; exact digit_dot)⟩) ?_
      have : (cur ⟨off1 + wsum int, dot :: fr ++ r⟩ != 46) = false := by simp [cur_cons, pdot]
      rw [if_neg (by rw [this]; simp)]
      show ((readCharacter 46 ⟨off1 + wsum int, [dot] ++ (fr ++ r)⟩).bind _ _) = _
      refine (readCharacter_reads pdot).step (HeadValid.append vfr hr) ?_
      refine (readWhile1_reads _ hnefr pfr vfr).step ⟨hr, hn⟩ ?_
      simp [rng, wsum, Nat.add_assoc]
  unfold parseDecimal
  rcases osign with rfl | ⟨m, rfl, pm⟩
  · simp only [List.nil_append, List.append_assoc]
    have hcur : (cur ⟨off, int ++ (frac ++ r)⟩ == 45) = false := by
      rw [hint]
      simp only [List.cons_append, cur_cons, beq_eq_false_iff_ne]
      intro e; rw [e, digit_minus] at hi0; cases hi0
    simp only [hcur, Bool.false_eq_true, if_false]
    refine Res.bind_of_eq rfl ?_
    rw [tail off]
    simp [wsum_append, Nat.add_assoc]
  · have hcur : (cur ⟨off, [m] ++ int ++ frac ++ r⟩ == 45) = true := by simp [cur_cons, pm]
    simp only [hcur, if_true]
    have e : [m] ++ int ++ frac ++ r = [m] ++ (int ++ (frac ++ r)) := by simp
    rw [e]
    refine Res.bind_of_eq (a := ()) (s' := ⟨off + m.bytes.length, int ++ (frac ++ r)⟩) ?_ ?_
    · exact (readCharacter_reads pm).step (HeadValid.append vint (HeadValid.append vfrac hr)) rfl
    · rw [tail (off + m.bytes.length)]
      simp [wsum_append, Nat.add_assoc]

/-- `(:segment)*` -/
inductive SegTail : List Tok → Prop where
  | nil : SegTail []
  | cons (colon : Tok) (seg rest : List Tok) : colon.r = 58 → seg ≠ [] → All isAlphanumeric seg → SegTail rest →
      SegTail (colon :: seg ++ rest)

/-- `$letters` (a macro) or `segment(:segment)*` -/
def IsAccount (isMacro : Bool) (c : List Tok) : Prop :=
  if isMacro then ∃ d ls, c = d :: ls ∧ d.r = 36 ∧ ls ≠ [] ∧ All isLetter ls
  else ∃ a tl, c = a ++ tl ∧ a ≠ [] ∧ All isAlphanumeric a ∧ SegTail tl

theorem SegTail.headNot {tl r : List Tok} (h : SegTail tl) (hr : HeadNot isAlphanumeric r) :
    HeadNot isAlphanumeric (tl ++ r) := by
  cases h with
  | nil => simpa using hr
  | cons colon seg rest hc _ _ _ => exact HeadNot.cons (by rw [hc]; exact alnum_colon)

theorem accountLoop_pass {start : Nat} {s : St} {a : Account} {s' : St} (h : accountLoop start s = .ok a s')
    (hna : HeadNot isAlphanumeric s.toks) :
    ∃ tl, Pass s tl s' ∧ SegTail tl ∧ HeadNot isAlphanumeric s'.toks ∧ HeadNot (fun y => y == 58) s'.toks := by
  fun_induction accountLoop start s with
  | case1 s hc =>
    injection h with _ h2
    subst h2
    refine ⟨[], Pass.refl _, SegTail.nil, hna, ?_⟩
    intro t rest e
    simp only [cur, e, bne_iff_ne, ne_eq] at hc
    simpa using hc
  | case2 s hc e s1 h1 => cases h
  | case3 s hc x s1 h1 e s2 h2 => cases h
  | case4 s hc x s1 h1 y s2 h2 ih =>
    obtain ⟨colon, cc, pc⟩ := readCharacter_pass h1
    obtain ⟨seg, hne, cs, ps, _, hn2⟩ := readWhile1_pass h2
    obtain ⟨tl, ct, st, hn3, h58⟩ := ih h hn2
    exact ⟨colon :: seg ++ tl, by simpa using cc.trans (cs.trans ct), SegTail.cons colon seg tl pc hne ps st, hn3, h58⟩

theorem parseAccount_pass {s : St} {a : Account} {s' : St} (h : parseAccount s = .ok a s') :
    ∃ c, Pass s c s' ∧ IsAccount a.isMacro c ∧ a.range = ⟨s.off, s'.off⟩ := by
  obtain ⟨m, hm⟩ := (parseAccount_runs _).val h
  unfold parseAccount at h
  simp only at h
  split at h
  · simp only [Res.bind_eq_ok] at h
    obtain ⟨_, s1, g1, _, s2, g2, h⟩ := h
    injection h with h1 h2
    subst h2
    obtain ⟨d, cd, pd⟩ := readCharacter_pass g1
    obtain ⟨ls, hne, cl, pl, _, _⟩ := readWhile1_pass g2
    refine ⟨d :: ls, by simpa using cd.trans cl, ?_, by rw [hm]⟩
    rw [← h1]
    simp only [IsAccount, if_true]
    exact ⟨d, ls, rfl, pd, hne, pl⟩
  · simp only [Res.bind_eq_ok] at h
    obtain ⟨_, s1, g1, h⟩ := h
    obtain ⟨a0, hne, ca, pa, _, hn1⟩ := readWhile1_pass g1
    obtain ⟨tl, ct, st, _, _⟩ := accountLoop_pass h hn1
    have hmac := (accountLoop_runs _ _ ((readWhile1_fwd _ _ _).le g1)).val h
    refine ⟨a0 ++ tl, ca.trans ct, ?_, by rw [hm]⟩
    rw [hmac]
    simp only [IsAccount, Bool.false_eq_true, if_false]
    exact ⟨a0, tl, rfl, hne, pa, st⟩

theorem accountLoop_reads (start : Nat) {tl : List Tok} (ht : SegTail tl) (hv : Valid tl) :
    Reads (accountLoop start) tl (fun r => HeadValid r ∧ HeadNot isAlphanumeric r ∧ HeadNot (fun y => y == 58) r)
      (fun off => ⟨⟨start, off + wsum tl⟩, false⟩) := by
  intro off r ⟨hr, hn, h58⟩
  induction ht generalizing off with
  | nil =>
    rw [accountLoop_eq]
    have := cur_ne_of_headNot (off := off) (by decide : (58 : Nat) ≠ EOF) h58
    simp only [List.nil_append, bne, this, Bool.not_false, if_true, wsum_nil, Nat.add_zero, rng]
  | cons colon seg rest pc hne ps st ih =>
    have vseg : Valid seg := (hv.tail).left
    have vrest : Valid rest := (hv.tail).right
    have e : colon :: seg ++ rest ++ r = [colon] ++ (seg ++ (rest ++ r)) := by simp
    have hc : (cur ⟨off, [colon] ++ (seg ++ (rest ++ r))⟩ != 58) = false := by simp [cur_cons, pc]
    rw [accountLoop_eq, e, if_neg (by rw [hc]; simp)]
    refine (readCharacter_reads pc).step (HeadValid.append vseg (HeadValid.append vrest hr)) ?_
    refine (readWhile1_reads _ hne ps vseg).step ⟨HeadValid.append vrest hr, st.headNot hn⟩ ?_
    rw [ih vrest]
    simp [wsum_append, Nat.add_assoc]

theorem parseAccount_reads {isMacro : Bool} {c : List Tok} (hc : IsAccount isMacro c) (hv : Valid c) :
    Reads parseAccount c (fun r => HeadValid r ∧ HeadNot isAlphanumeric r ∧ HeadNot (fun y => y == 58) r)
      (fun off => ⟨⟨off, off + wsum c⟩, isMacro⟩) := by
  intro off r ⟨hr, hn, h58⟩
  unfold parseAccount
  cases isMacro with
  | true =>
    simp only [IsAccount, if_true] at hc
    obtain ⟨d, ls, rfl, pd, hne, pl⟩ := hc
    have hcur : (cur ⟨off, d :: ls ++ r⟩ == 36) = true := by simp [cur_cons, pd]
    simp only [hcur, if_true]
    show ((readCharacter 36 ⟨off, [d] ++ (ls ++ r)⟩).bind _ _) = _
    refine (readCharacter_reads pd).step (HeadValid.append hv.tail hr) ?_
    refine (readWhile1_reads _ hne pl hv.tail).step ⟨hr, hn.mono fun x => not_letter_of_not_alnum⟩ ?_
    simp [rng, wsum, Nat.add_assoc]
  | false =>
    simp only [IsAccount, Bool.false_eq_true, if_false] at hc
    obtain ⟨a, tl, rfl, hne, pa, st⟩ := hc
    obtain ⟨a0, arest, ha⟩ := List.exists_cons_of_ne_nil hne
    have ha0 : isAlphanumeric a0.r = true := pa a0 (by rw [ha]; exact List.mem_cons_self)
    have hcur : (cur ⟨off, a ++ (tl ++ r)⟩ == 36) = false := by
      rw [ha]
      simp only [List.cons_append, cur_cons, beq_eq_false_iff_ne]
      intro e; rw [e, alnum_dollar] at ha0; cases ha0
    simp only [List.append_assoc, hcur, Bool.false_eq_true, if_false]
    refine (readWhile1_reads _ hne pa hv.left).step ⟨HeadValid.append hv.right hr, st.headNot hn⟩ ?_
    rw [accountLoop_reads off st hv.right (off + wsum a) r ⟨hr, hn, h58⟩]
    simp [wsum_append, Nat.add_assoc]

def intervalKeywords : List String := ["daily", "weekly", "monthly", "quarterly"]

def IsInterval (c : List Tok) : Prop := ∃ kw ∈ intervalKeywords, c.map (·.r) = runesOf kw

theorem parseInterval_pass {s : St} {x : Interval} {s' : St} (h : parseInterval s = .ok x s') :
    ∃ c, Pass s c s' ∧ IsInterval c ∧ x = ⟨⟨s.off, s'.off⟩⟩ := by
  have hd := (parseInterval_runs _).val h
  unfold parseInterval at h
  simp only [Res.bind_eq_ok] at h
  obtain ⟨⟨r, kw⟩, s1, g1, h⟩ := h
  injection h with _ hs
  subst hs
  obtain ⟨hm, c, hc, hr, _⟩ := readAlternative_pass g1
  exact ⟨c, hc, ⟨kw, hm, hr⟩, hd⟩

theorem parseInterval_reads {c : List Tok} (hc : IsInterval c) (hv : Valid c) :
    Reads parseInterval c HeadValid (fun off => ⟨⟨off, off + wsum c⟩⟩) := by
  obtain ⟨kw, hm, hk⟩ := hc
  intro off r hr
  unfold parseInterval
  exact (readAlternative_reads (ss := ["daily", "weekly", "monthly", "quarterly"]) (by decide) (by decide) hm hk hv).step hr rfl

/-- the content of a quoted string: anything but a double quote -/
def IsContent (c : List Tok) : Prop := All (fun r => r != 34) c

theorem parseQuotedString_pass {s : St} {q : QuotedString} {s' : St} (h : parseQuotedString s = .ok q s') :
    ∃ q1 c q2, Pass s (q1 :: c ++ [q2]) s' ∧ q1.r = 34 ∧ q2.r = 34 ∧ IsContent c ∧ q.range = ⟨s.off, s'.off⟩ ∧
      q.content = ⟨s.off + q1.bytes.length, s.off + q1.bytes.length + wsum c⟩ := by
  unfold parseQuotedString at h
  simp only [Res.bind_eq_ok] at h
  obtain ⟨_, s1, g1, content, s2, g2, _, s3, g3, h⟩ := h
  injection h with h1 h2
  subst h2
  obtain ⟨q1, c1, p1⟩ := readCharacter_pass g1
  obtain ⟨c, c2, p2, hr2, _⟩ := readWhile_pass g2
  obtain ⟨q2, c3, p3⟩ := readCharacter_pass g3
  refine ⟨q1, c, q2, by simpa using c1.trans (c2.trans c3), p1, p3, p2, by rw [← h1]; rfl, ?_⟩
  rw [← h1]
  simp only
  rw [hr2, c2.consumed.2, c1.consumed.2]
  simp

theorem parseQuotedString_reads {c : List Tok} (hc : IsContent c) {q1 q2 : Tok} (h1 : q1.r = 34) (h2 : q2.r = 34)
    (hv : Valid (q1 :: c ++ [q2])) :
    Reads parseQuotedString (q1 :: c ++ [q2]) HeadValid
      (fun off => ⟨⟨off, off + q1.bytes.length + wsum c + q2.bytes.length⟩,
        ⟨off + q1.bytes.length, off + q1.bytes.length + wsum c⟩⟩) := by
  have vc : Valid c := (hv.tail).left
  have vq2 : q2.invalid = false := ((hv.tail).right).head
  intro off r hr
  have e : q1 :: c ++ [q2] ++ r = [q1] ++ (c ++ ([q2] ++ r)) := by simp
  unfold parseQuotedString
  rw [e]
  refine (readCharacter_reads h1).step (HeadValid.append vc (HeadValid.cons vq2)) ?_
  refine (readWhile_reads hc vc).step ⟨HeadValid.cons vq2, HeadNot.cons (by simp [h2])⟩ ?_
  refine (readCharacter_reads h2).step hr ?_
  simp [rng, wsum, Nat.add_assoc]

end Knut.Syntax
