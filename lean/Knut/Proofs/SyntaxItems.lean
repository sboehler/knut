import Knut.Proofs.SyntaxRender
/-!
# The whole file: what the main loop did, as a list of items

A successful run of the loop of `ParseFile` is a list of `Item`s — a comment or blank round, or a directive with its
token-level fields, each followed by the rest of its line (`ItemsOK`; `fileLoop_run`, which also keeps the call of
`parseDirective` behind every directive). Everything about a parsed file is read off that list: what the formatter writes
and the gaps it copies (`items_format`, `parse_format`: the first half of the C08 round trip), and C07's facts about the
order of the directives and the text between them (`items_gaps`, `parseText_ok`). `ItemsR` is what is left of `ItemsOK`
without the text, for the replay in `SyntaxRoundTrip`; the bytes and the canonicity of the token-level renderings
(`flat_renderT`, `canon_renderT`) stand here because they need `Canon`.
-/
namespace Knut.Syntax
open Knut.Utf8 Knut.Spec.Syntax

/-- a comment: one of the leaders `*`, `//`, `#` and the rest of the line -/
def CommentToks (c : List Tok) : Prop :=
  ∃ lead body kw, c = lead ++ body ∧ kw ∈ ["*", "//", "#"] ∧ lead.map (·.r) = runesOf kw ∧
    All (fun r => !isNewlineOrEOF r) body

theorem readComment_sound {s : St} {x : Range} {s' : St} (h : readComment s = .ok x s') :
    ∃ c, Pass s c s' ∧ CommentToks c ∧ HeadNot (fun r => !isNewlineOrEOF r) s'.toks := by
  unfold readComment at h
  simp only [Res.bind_eq_ok] at h
  obtain ⟨⟨r, kw⟩, s1, h1, _, s2, h2, h⟩ := h
  injection h with _ hs
  subst hs
  obtain ⟨hm, lead, kl, hr, _⟩ := readAlternative_pass h1
  obtain ⟨body, kb, pb, _, hn⟩ := readWhile_pass h2
  exact ⟨lead ++ body, kl.trans kb, ⟨lead, body, kw, rfl, hm, hr, pb⟩, hn⟩

theorem readComment_reads {c : List Tok} (hc : CommentToks c) (hv : Valid c) :
    Reads readComment c (fun x => HeadValid x ∧ HeadNot (fun r => !isNewlineOrEOF r) x) (fun off => ⟨off, off + wsum c⟩) := by
  obtain ⟨lead, body, kw, rfl, hk, hl, pb⟩ := hc
  intro off x hx
  unfold readComment
  rw [List.append_assoc]
  refine (readAlternative_reads (ss := ["*", "//", "#"]) (by decide) (by decide) hk hl hv.left).step
    (HeadValid.append hv.right hx.1) ?_
  refine (readWhile_reads pb hv.right).step hx ?_
  simp [rng, wsum_append, Nat.add_assoc]

theorem CommentToks.first {c : List Tok} (h : CommentToks c) (off : Nat) (x : List Tok) :
    (cur ⟨off, c ++ x⟩ == 42 || cur ⟨off, c ++ x⟩ == 35 || cur ⟨off, c ++ x⟩ == 47) = true ∧ c ≠ [] := by
  obtain ⟨lead, body, kw, rfl, hk, hl, _⟩ := h
  have key : ∀ kw ∈ ["*", "//", "#"], (runesOf kw).head?.map (fun ch => ch == 42 || ch == 35 || ch == 47) = some true := by
    decide
  have := key kw hk
  rw [← hl] at this
  cases lead with
  | nil => cases this
  | cons t ts => exact ⟨by simpa [cur] using this, by simp⟩

/-- one round of the main loop: a comment or nothing (`c`), or a directive (`D` parsed to `d` with fields `v`),
then the rest of the line: blanks `w` and the line break `nl` (`[]` at the end of the text) -/
inductive Item where
  | gap (c w nl : List Tok)
  | dir (D : List Tok) (d : Directive) (v : DirT) (w nl : List Tok)

def NlOK (nl : List Tok) : Prop := nl = [] ∨ ∃ t, nl = [t] ∧ t.r = 10

def Item.orig : Item → List Tok
  | .gap c w nl => c ++ (w ++ nl)
  | .dir D _ _ w nl => D ++ (w ++ nl)

def Item.out (padding : Nat) : Item → List Tok
  | .gap c w nl => c ++ (w ++ nl)
  | .dir _ _ v w nl => renderT padding v ++ (w ++ nl)

def origToks : List Item → List Tok
  | [] => []
  | i :: is => i.orig ++ origToks is

def outToks (padding : Nat) : List Item → List Tok
  | [] => []
  | i :: is => i.out padding ++ outToks padding is

def dirsOf : List Item → List Directive
  | [] => []
  | .gap _ _ _ :: is => dirsOf is
  | .dir _ d _ _ _ :: is => d :: dirsOf is

def viewsOf : List Item → List DirT
  | [] => []
  | .gap _ _ _ :: is => viewsOf is
  | .dir _ _ v _ _ :: is => v :: viewsOf is

/-- the items describe a run of the main loop over `text` from offset `off` -/
def ItemsOK (text : Bytes) : Nat → List Item → Prop
  | _, [] => True
  | off, .gap c w nl :: rest =>
    (c = [] ∨ CommentToks c) ∧ (c ≠ [] → w = []) ∧ All isWhitespace w ∧ NlOK nl ∧ Valid (c ++ (w ++ nl)) ∧
      Canon (c ++ (w ++ nl)) ∧ c ++ (w ++ nl) ≠ [] ∧ (nl = [] → rest = []) ∧ ItemsOK text (off + wsum (c ++ (w ++ nl))) rest
  | off, .dir D d v w nl :: rest =>
    d.range = ⟨off, off + wsum D⟩ ∧ D ≠ [] ∧ v.ok ∧ v.canon ∧ viewDirective text d = some v.bytes ∧
      All isWhitespace w ∧ NlOK nl ∧ Valid (w ++ nl) ∧ Canon (w ++ nl) ∧ (nl = [] → rest = []) ∧
      ItemsOK text (off + wsum D + wsum (w ++ nl)) rest

theorem readRestOfWhitespaceLine_sound {s : St} {x : Range} {s' : St} (h : readRestOfWhitespaceLine s = .ok x s') :
    ∃ w nl, Pass s (w ++ nl) s' ∧ All isWhitespace w ∧ NlOK nl ∧ (nl = [] → atEOF s' = true) := by
  unfold readRestOfWhitespaceLine at h
  simp only [Res.bind_eq_ok] at h
  obtain ⟨_, s1, g1, h⟩ := h
  obtain ⟨w, kw, pw, _, _⟩ := readWhile_pass g1
  split at h
  · rename_i hE
    injection h with _ h2; subst h2
    exact ⟨w, [], kw.trans (Pass.refl _), pw, Or.inl rfl, fun _ => hE⟩
  · simp only [Res.bind_eq_ok] at h
    obtain ⟨_, s2, g2, h⟩ := h
    injection h with _ h2; subst h2
    obtain ⟨t, kt, pt⟩ := readCharacter_pass g2
    exact ⟨w, [t], kw.trans kt, pw, Or.inr ⟨t, rfl, pt⟩, fun e => by cases e⟩

theorem fileItem_sound {text : Bytes} {s : St} {d : Option Directive} {s' : St} (h : fileItem s = .ok d s') (I : Inv text s) :
    (d = none ∧ s' = s ∧ (cur s == 42 || cur s == 35 || cur s == 47) = false ∧ (isAlphanumeric (cur s) || cur s == 64) = false) ∨
    (d = none ∧ ∃ c, Pass s c s' ∧ CommentToks c ∧ HeadNot (fun r => !isNewlineOrEOF r) s'.toks) ∨
    (∃ (dir : Directive) (D : List Tok) (v : DirT), d = some dir ∧ Consumed s D s' ∧ D ≠ [] ∧ v.ok ∧ v.canon ∧ viewDirective text dir = some v.bytes ∧
      dir.range = ⟨s.off, s'.off⟩ ∧ parseDirective s = .ok dir s' ∧ Inv text s') := by
  unfold fileItem at h
  split at h
  · simp only [Res.bind_eq_ok] at h
    obtain ⟨x, s1, h1, h⟩ := h
    injection h with ha hb
    subst ha hb
    exact Or.inr (Or.inl ⟨rfl, readComment_sound h1⟩)
  · rename_i hc1
    split at h
    · simp only [Res.bind_eq_ok] at h
      obtain ⟨dir, s1, h1, h⟩ := h
      injection h with ha hb
      subst ha hb
      obtain ⟨v, ⟨vok, vcan⟩, vview, _, I1⟩ := parseDirective_took h1 I
      obtain ⟨D, hne, kD⟩ := (parseDirective_prog s).of_ok h1
      exact Or.inr (Or.inr ⟨dir, D, v, rfl, kD, hne, vok, vcan, vview, ((parseDirective_runs _).val h1).1, h1, I1⟩)
    · rename_i hc2
      injection h with ha hb
      subst ha hb
      exact Or.inl ⟨rfl, rfl, by simpa using hc1, by simpa using hc2⟩

theorem origToks_nil_of_ok {text : Bytes} {off : Nat} {items : List Item} (h : ItemsOK text off items)
    (he : origToks items = []) : items = [] := by
  cases items with
  | nil => rfl
  | cons i rest =>
    exfalso
    cases i with
    | gap c w nl =>
      simp only [ItemsOK] at h
      simp only [origToks, Item.orig, List.append_eq_nil_iff] at he
      exact h.2.2.2.2.2.2.1 (by simp [he.1.1, he.1.2.1, he.1.2.2])
    | dir D d v w nl =>
      simp only [ItemsOK] at h
      simp only [origToks, Item.orig, List.append_eq_nil_iff] at he
      exact h.2.1 he.1.1

/-- `d` was returned by a call of `parseDirective` in a state of the scan of `text`: what holds of every such call holds of
every directive of a parsed file -/
def Parsed (text : Bytes) (d : Directive) : Prop := ∃ s s', parseDirective s = .ok d s' ∧ Inv text s

/-- soundness of the main loop at token level: a successful run from `s` is a sequence of items, each directive of which
came from a call of `parseDirective` -/
theorem fileLoop_run {text : Bytes} {path : String} {start : Nat} {acc : List Directive} {s : St} {f : File} {s' : St}
    (h : fileLoop path start acc s = .ok f s') (I : Inv text s) :
    ∃ items, s.toks = origToks items ∧ f.directives = acc.reverse ++ dirsOf items ∧ ItemsOK text s.off items ∧
      ∀ d ∈ dirsOf items, Parsed text d := by
  fun_induction fileLoop path start acc s with
  | case1 acc s hE =>
    injection h with ha hb
    subst hb
    exact ⟨[], by simpa [origToks] using atEOF_iff.mp hE, by rw [← ha]; simp [dirsOf], trivial, fun _ hd => nomatch hd⟩
  | case2 acc s hE e s1 h1 => cases h
  | case3 acc s hE d s1 h1 hE1 =>
    injection h with ha hb
    subst hb
    have e1 := atEOF_iff.mp hE1
    rcases fileItem_sound h1 I with ⟨_, hs, _, _⟩ | ⟨hd, c, pc, cc, hn⟩ | ⟨dir, D, v, hd, kD, hne, vok, vcan, vview, hr, xD, I1⟩
    · rw [hs] at hE1; exact absurd hE1 hE
    · subst hd
      have tc := I.took pc
      refine ⟨[.gap c [] []], ?_, by rw [← ha]; simp [dirsOf, pushOpt], ?_, fun _ hd => nomatch hd⟩
      · rw [pc.consumed.1, e1]; simp [origToks, Item.orig]
      · unfold ItemsOK
        exact ⟨Or.inr cc, fun _ => rfl, All.nil, Or.inl rfl, by simpa using tc.valid, by simpa using tc.canon,
          by simpa using (cc.first 0 []).2, fun _ => rfl, (by unfold ItemsOK; trivial)⟩
    · subst hd
      refine ⟨[.dir D dir v [] []], ?_, by rw [← ha]; simp [dirsOf, pushOpt], ?_, fun _ hd => List.mem_singleton.mp hd ▸ ⟨_, _, xD, I⟩⟩
      · rw [kD.1, e1]; simp [origToks, Item.orig]
      · unfold ItemsOK
        refine ⟨?_, hne, vok, vcan, vview, All.nil, Or.inl rfl, Valid.nil, (by intro t ht; cases ht), fun _ => rfl, (by unfold ItemsOK; trivial)⟩
        rw [hr, kD.2]
  | case4 acc s hE d s1 h1 hE1 e s2 h2 => cases h
  | case5 acc s hE d s1 h1 hE1 x s2 h2 ih =>
    have hE' : atEOF s = false := by simpa using hE
    rcases fileItem_sound h1 I with ⟨hd, hs, hc1, hc2⟩ | ⟨hd, c, pc, cc, hn⟩ | ⟨dir, D, v, hd, kD, hne, vok, vcan, vview, hr, xD, I1⟩
    · -- a blank line
      subst hd
      rw [hs] at h2
      obtain ⟨w, nl, pr, pw, onl, heof⟩ := readRestOfWhitespaceLine_sound h2
      have tr := I.took pr
      obtain ⟨items, i1, i2, i3, i4⟩ := ih h tr.inv
      have hne : w ++ nl ≠ [] := by
        intro e
        have := (readRestOfWhitespaceLine_extS s s2 x hE' h2).length_lt
        rw [pr.consumed.1, e] at this
        simp at this
      refine ⟨.gap [] w nl :: items, ?_, by rw [i2]; simp [dirsOf, pushOpt], ?_, i4⟩
      · rw [pr.consumed.1, i1]; simp [origToks, Item.orig]
      · unfold ItemsOK
        refine ⟨Or.inl rfl, fun h => absurd rfl h, pw, onl, by simpa using tr.valid, by simpa using tr.canon,
          by simpa using hne, ?_, ?_⟩
        · intro e
          exact origToks_nil_of_ok i3 (by rw [← i1]; exact atEOF_iff.mp (heof e))
        · have : s2.off = s.off + wsum ([] ++ (w ++ nl)) := by simpa using pr.consumed.2
          rw [← this]; exact i3
    · subst hd
      obtain ⟨w, nl, pr, pw, onl, heof⟩ := readRestOfWhitespaceLine_sound h2
      have tall := I.took (pc.trans pr)
      obtain ⟨items, i1, i2, i3, i4⟩ := ih h tall.inv
      have hw : w = [] := by
        cases w with
        | nil => rfl
        | cons t ts =>
          exfalso
          have h1' := hn t (ts ++ nl ++ s2.toks) (by rw [pr.consumed.1]; simp)
          have h2' := pw t List.mem_cons_self
          simp only [isWhitespace, Bool.or_eq_true, beq_iff_eq] at h2'
          simp only [isNewlineOrEOF, EOF, Bool.not_eq_eq_eq_not, Bool.not_false, Bool.or_eq_true, beq_iff_eq] at h1'
          omega
      subst hw
      refine ⟨.gap c [] nl :: items, ?_, by rw [i2]; simp [dirsOf, pushOpt], ?_, i4⟩
      · rw [tall.consumed.1, i1]; simp [origToks, Item.orig]
      · unfold ItemsOK
        refine ⟨Or.inr cc, fun _ => rfl, All.nil, onl, tall.valid, tall.canon, ?_, ?_, ?_⟩
        · intro e; exact (cc.first 0 []).2 (List.append_eq_nil_iff.mp e).1
        · intro e
          exact origToks_nil_of_ok i3 (by rw [← i1]; exact atEOF_iff.mp (heof e))
        · rw [← tall.consumed.2]; exact i3
    · subst hd
      obtain ⟨w, nl, pr, pw, onl, heof⟩ := readRestOfWhitespaceLine_sound h2
      have tr := I1.took pr
      obtain ⟨items, i1, i2, i3, i4⟩ := ih h tr.inv
      refine ⟨.dir D dir v w nl :: items, ?_, by rw [i2]; simp [dirsOf, pushOpt], ?_, List.forall_mem_cons.mpr ⟨⟨_, _, xD, I⟩, i4⟩⟩
      · rw [kD.1, pr.consumed.1, i1]; simp [origToks, Item.orig]
      · unfold ItemsOK
        refine ⟨by rw [hr, kD.2], hne, vok, vcan, vview, pw, onl, tr.valid, tr.canon, ?_, ?_⟩
        · intro e
          exact origToks_nil_of_ok i3 (by rw [← i1]; exact atEOF_iff.mp (heof e))
        · have : s2.off = s.off + wsum D + wsum (w ++ nl) := by
            have a := kD.2; have b := pr.consumed.2; omega
          rw [← this]; exact i3

theorem fileLoop_items {text : Bytes} {path : String} {start : Nat} {acc : List Directive} {s : St} {f : File} {s' : St}
    (h : fileLoop path start acc s = .ok f s') (hG : Good text s) (hv : HeadValid s.toks) :
    ∃ items, s.toks = origToks items ∧ f.directives = acc.reverse ++ dirsOf items ∧ ItemsOK text s.off items := by
  obtain ⟨items, i1, i2, i3, _⟩ := fileLoop_run h ⟨hG, hv⟩
  exact ⟨items, i1, i2, i3⟩

/-- what the main loop sees at the start of a directive: a letter, a digit or `@`, none of the comment leaders -/
def DirStart (t : Tok) : Prop :=
  t.invalid = false ∧ (isAlphanumeric t.r || t.r == 64) = true ∧ (t.r == 42 || t.r == 35 || t.r == 47) = false

theorem dirStart_of_alnum {t : Tok} (hv : t.invalid = false) (h : isAlphanumeric t.r = true) : DirStart t := by
  refine ⟨hv, by simp [h], ?_⟩
  simp only [Bool.or_eq_false_iff, beq_eq_false_iff_ne]
  refine ⟨⟨?_, ?_⟩, ?_⟩ <;> intro e <;> rw [e] at h
  · rw [alnum_star] at h; cases h
  · rw [alnum_hash] at h; cases h
  · rw [alnum_slash] at h; cases h

theorem DateOK.dirStart {d : List Tok} (h : DateOK d) : ∃ t rest, d = t :: rest ∧ DirStart t := by
  obtain ⟨⟨d1, d2, d3, d4, h1, d5, d6, h2, d7, d8, rfl, p1, _⟩, hv⟩ := h
  exact ⟨d1, _, rfl, dirStart_of_alnum (hv d1 List.mem_cons_self) (alnum_of_digit p1)⟩

theorem renderT_head (padding : Nat) (v : DirT) (hok : v.ok) : ∃ t, (renderT padding v).head? = some t ∧ DirStart t := by
  have hat : DirStart (tk 64) := ⟨tk_valid (by decide), by decide, by decide⟩
  cases v with
  | transaction aT pT d desc bs =>
    obtain ⟨_, _, hd, _⟩ := hok
    cases aT with
    | some a => exact ⟨tk 64, by simp only [renderT, renderAccrualT]; rw [lits_ofList]; rfl, hat⟩
    | none =>
      cases pT with
      | some ts => exact ⟨tk 64, by simp only [renderT, renderPerformanceT]; rw [lits_ofList]; rfl, hat⟩
      | none =>
        obtain ⟨t, rest, e, ht⟩ := hd.dirStart
        exact ⟨t, by simp [renderT, e], ht⟩
  | «open» d a => obtain ⟨t, rest, e, ht⟩ := hok.1.dirStart; exact ⟨t, by simp [renderT, e], ht⟩
  | close d a => obtain ⟨t, rest, e, ht⟩ := hok.1.dirStart; exact ⟨t, by simp [renderT, e], ht⟩
  | price d c p t' => obtain ⟨t, rest, e, ht⟩ := hok.1.dirStart; exact ⟨t, by simp [renderT, e], ht⟩
  | «include» p => exact ⟨tk 105, by simp only [renderT]; rw [lits_ofList]; rfl, tk_valid (by decide), by decide +kernel, by decide⟩
  | assertion d bs =>
    obtain ⟨t, rest, e, ht⟩ := hok.1.dirStart
    match bs with
    | [] => exact ⟨t, by simp [renderT, e], ht⟩
    | [b] => exact ⟨t, by simp [renderT, e], ht⟩
    | b1 :: b2 :: bs' => exact ⟨t, by simp [renderT, e], ht⟩

theorem renderT_first (padding : Nat) (v : DirT) (hok : v.ok) : ∃ t rest, renderT padding v = t :: rest ∧ DirStart t := by
  obtain ⟨t, h, ht⟩ := renderT_head padding v hok
  cases hr : renderT padding v with
  | nil => rw [hr] at h; simp at h
  | cons a rest =>
    rw [hr] at h
    simp only [List.head?_cons, Option.some.injEq] at h
    exact ⟨a, rest, rfl, by rw [h]; exact ht⟩

set_option linter.unusedVariables false in
/-- what the replay needs of a run: `ItemsOK` without the range of the directive and without
`viewDirective text d = some v.bytes` -/
def ItemsR : List Item → Prop
  | [] => True
  | .gap c w nl :: rest =>
    (c = [] ∨ CommentToks c) ∧ (c ≠ [] → w = []) ∧ All isWhitespace w ∧ NlOK nl ∧ Valid (c ++ (w ++ nl)) ∧
      Canon (c ++ (w ++ nl)) ∧ c ++ (w ++ nl) ≠ [] ∧ (nl = [] → rest = []) ∧ ItemsR rest
  | .dir D d v w nl :: rest =>
    v.ok ∧ v.canon ∧ All isWhitespace w ∧ NlOK nl ∧ Valid (w ++ nl) ∧ Canon (w ++ nl) ∧ (nl = [] → rest = []) ∧
      ItemsR rest

theorem ItemsOK.toR {text : Bytes} : ∀ {items : List Item} {off : Nat}, ItemsOK text off items → ItemsR items
  | [], _, _ => trivial
  | .gap c w nl :: rest, off, h => by
    unfold ItemsOK at h
    obtain ⟨h1, h2, h3, h4, h5, h6, h7, h8, h9⟩ := h
    unfold ItemsR
    exact ⟨h1, h2, h3, h4, h5, h6, h7, h8, h9.toR⟩
  | .dir D d v w nl :: rest, off, h => by
    unfold ItemsOK at h
    obtain ⟨_, _, vok, vcan, _, pw, onl, vr, cr, hlast, hrest⟩ := h
    unfold ItemsR
    exact ⟨vok, vcan, pw, onl, vr, cr, hlast, hrest.toR⟩

theorem outToks_headValidR {items : List Item} (padding : Nat) (h : ItemsR items) :
    HeadValid (outToks padding items) := by
  cases items with
  | nil => exact HeadValid.nil
  | cons i rest =>
    cases i with
    | gap c w nl =>
      unfold ItemsR at h
      obtain ⟨_, _, _, _, hv, _, hne, _, _⟩ := h
      simp only [outToks, Item.out]
      cases hc : c ++ (w ++ nl) with
      | nil => exact absurd hc hne
      | cons t ts =>
        rw [hc] at hv
        exact HeadValid.cons hv.head
    | dir D d v w nl =>
      unfold ItemsR at h
      obtain ⟨vok, _⟩ := h
      obtain ⟨t, r, e, ht⟩ := renderT_first padding v vok
      simp only [outToks, Item.out, e, List.cons_append]
      exact HeadValid.cons ht.1

theorem fileItem_blank (off : Nat) (t : Tok) (x : List Tok) (h : isWhitespaceOrNewline t.r = true) :
    fileItem ⟨off, t :: x⟩ = .ok none ⟨off, t :: x⟩ := by
  unfold fileItem
  have c1 : (cur ⟨off, t :: x⟩ == 42 || cur ⟨off, t :: x⟩ == 35 || cur ⟨off, t :: x⟩ == 47) = false := by
    simp only [cur_cons]
    rcases ws_cases h with e | e | e | e <;> rw [e] <;> decide
  have c2 : (isAlphanumeric (cur ⟨off, t :: x⟩) || cur ⟨off, t :: x⟩ == 64) = false := by
    simp only [cur_cons, ws_not_alnum h, Bool.false_or]
    rcases ws_cases h with e | e | e | e <;> rw [e] <;> decide
  simp only [c1, c2, Bool.false_eq_true, if_false]

theorem fileItem_comment {c : List Tok} (hc : CommentToks c) (hv : Valid c) (off : Nat) (x : List Tok) (hx : HeadValid x)
    (hn : HeadNot (fun r => !isNewlineOrEOF r) x) :
    fileItem ⟨off, c ++ x⟩ = .ok none ⟨off + wsum c, x⟩ := by
  unfold fileItem
  simp only [(hc.first off x).1, if_true, Res.bind, readComment_reads hc hv off x ⟨hx, hn⟩]

theorem fileItem_dir (off : Nat) (t : Tok) (x : List Tok) (ht : DirStart t) :
    fileItem ⟨off, t :: x⟩ = (parseDirective ⟨off, t :: x⟩).bind (fun e _ => e) fun d s => .ok (some d) s := by
  unfold fileItem
  simp only [cur_cons, ht.2.2, ht.2.1, Bool.false_eq_true, if_false, if_true]

/-- the same run with every directive replaced by its rendering (and whatever directive value the parser builds for it) -/
inductive Rendered (padding : Nat) : List Item → List Item → Prop where
  | nil : Rendered padding [] []
  | gap (c w nl : List Tok) {is js : List Item} : Rendered padding is js →
      Rendered padding (.gap c w nl :: is) (.gap c w nl :: js)
  | dir (D : List Tok) (d : Directive) (v : DirT) (w nl : List Tok) (d2 : Directive) {is js : List Item} :
      Rendered padding is js → Rendered padding (.dir D d v w nl :: is) (.dir (renderT padding v) d2 v w nl :: js)

theorem Res.bind_ok {α β} (a : α) (s : St) (onErr : Err → St → Err) (f : α → St → Res β) :
    (Res.ok a s).bind onErr f = f a s := rfl

theorem lit_append_flat (s : String) : lit s = flat (lits s) := (flat_lits s).symm

theorem flat_renderAccrualT (a : AccrualT) : flat (renderAccrualT a) = renderAccrual a.bytes := by
  have e : lit "@accrue " = flat (lits "@accrue") ++ [32] := by rw [lit_ofList, lits_ofList]; rfl
  simp only [renderAccrualT, renderAccrual, AccrualT.bytes, flat_append, flat_cons, flat_nil, e, lit_space, lit_nl]
  simp [tk]

theorem flat_renderPerformanceT (ts : List (List Tok)) : flat (renderPerformanceT ts) = renderPerformance (ts.map flat) := by
  have e : lit "@performance(" = flat (lits "@performance") ++ [40] := by rw [lit_ofList, lits_ofList]; rfl
  have e2 : lit ")\n" = [41, 10] := by decide
  simp only [renderPerformanceT, renderPerformance, flat_append, flat_cons, flat_nil, e, e2, flat_joinCommaT]
  simp [tk]

theorem flat_renderBookingsT (padding : Nat) (bs : List BookingT) (hc : ∀ b ∈ bs, b.canon) :
    flat (renderBookingsT padding bs) = ((bs.map BookingT.bytes).map (renderBooking padding)).flatten := by
  induction bs with
  | nil => rfl
  | cons b rest ih =>
    have hb := hc b List.mem_cons_self
    have := flat_renderBookingT padding b hb.1 hb.2.1 hb.2.2.1
    simp only [renderBookingsT, flat_append, flat_cons, List.map_cons, List.flatten_cons] at this ⊢
    rw [ih (fun x hx => hc x (List.mem_cons_of_mem _ hx)), ← this]
    simp

theorem flat_renderBalanceT (b : BalanceT) : flat (renderBalanceT b) = renderBalance b.bytes := by
  simp only [renderBalanceT, renderBalance, BalanceT.bytes, flat_append, flat_cons, lit_space]
  simp [tk]

theorem flat_renderBalancesT (bs : List BalanceT) :
    flat (renderBalancesT bs) = ((bs.map BalanceT.bytes).map fun b => renderBalance b ++ lit "\n").flatten := by
  induction bs with
  | nil => rfl
  | cons b rest ih =>
    simp only [renderBalancesT, flat_append, flat_cons, List.map_cons, List.flatten_cons, flat_renderBalanceT, ih, lit_nl]
    simp [tk]

theorem flat_renderT (padding : Nat) (v : DirT) (hc : v.canon) : flat (renderT padding v) = renderDir padding v.bytes := by
  cases v with
  | transaction aT pT d desc bs =>
    obtain ⟨_, _, _, _, hb⟩ := hc
    have e1 : lit " \"" = [32, 34] := by decide
    have e2 : lit "\"" = [34] := by decide
    simp only [renderT, renderDir, DirT.bytes, flat_append, flat_cons, flat_renderBookingsT padding bs hb, e1, e2, lit_nl]
    cases aT <;> cases pT <;> simp [flat_renderAccrualT, flat_renderPerformanceT, tk]
  | «open» d a => simp [renderT, renderDir, DirT.bytes, flat_lits]
  | close d a => simp [renderT, renderDir, DirT.bytes, flat_lits]
  | price d c p t => simp [renderT, renderDir, DirT.bytes, flat_lits, lit_space, tk]
  | «include» p =>
    have e2 : lit "\"" = [34] := by decide
    simp [renderT, renderDir, DirT.bytes, flat_lits, e2, tk]
  | assertion d bs =>
    match bs with
    | [] => simp [renderT, renderDir, DirT.bytes, flat_lits, renderBalancesT, lit_nl, tk]
    | [b] =>
      have e : lit " balance " = lit " balance" ++ [32] := by decide
      simp [renderT, renderDir, DirT.bytes, flat_lits, flat_renderBalanceT, lit_space, e]
    | b1 :: b2 :: rest =>
      simp only [renderT, renderDir, DirT.bytes, flat_append, flat_cons, flat_lits, flat_renderBalancesT, lit_nl, List.map_cons]
      simp [tk]

theorem Canon.nil : Canon [] := List.forall_mem_nil _
theorem Canon.append {a b : List Tok} (h1 : Canon a) (h2 : Canon b) : Canon (a ++ b) := List.forall_mem_append.mpr ⟨h1, h2⟩
theorem Canon.cons {t : Tok} {c : List Tok} (h1 : t.canon) (h2 : Canon c) : Canon (t :: c) := List.forall_mem_cons.mpr ⟨h1, h2⟩
theorem Canon.left {a b : List Tok} (h : Canon (a ++ b)) : Canon a := fun t ht => h t (List.mem_append_left _ ht)
theorem Canon.right {a b : List Tok} (h : Canon (a ++ b)) : Canon b := fun t ht => h t (List.mem_append_right _ ht)

theorem canon_lits (s : String) (h : ∀ c ∈ s.toList, c.toNat < 128) : Canon (lits s) := by
  intro t ht
  simp only [lits, List.mem_map] at ht
  obtain ⟨c, hc, rfl⟩ := ht
  exact tk_canon (h c hc)

theorem canon_spacesT (n : Nat) : Canon (spacesT n) := by
  intro t ht
  simp only [spacesT, List.mem_replicate] at ht
  rw [ht.2]; exact tk_canon (by decide)

theorem c32 : (tk 32).canon := tk_canon (by decide)
theorem c10 : (tk 10).canon := tk_canon (by decide)
theorem c34 : (tk 34).canon := tk_canon (by decide)
theorem c40 : (tk 40).canon := tk_canon (by decide)
theorem c41 : (tk 41).canon := tk_canon (by decide)
theorem c44 : (tk 44).canon := tk_canon (by decide)

theorem canon_append_iff {a b : List Tok} : Canon (a ++ b) ↔ Canon a ∧ Canon b :=
  ⟨fun h => ⟨h.left, h.right⟩, fun h => h.1.append h.2⟩
theorem canon_cons_iff {t : Tok} {c : List Tok} : Canon (t :: c) ↔ t.canon ∧ Canon c :=
  ⟨fun h => ⟨h t List.mem_cons_self, fun x hx => h x (List.mem_cons_of_mem _ hx)⟩, fun h => Canon.cons h.1 h.2⟩
theorem canon_nil_iff : Canon [] ↔ True := ⟨fun _ => trivial, fun _ => Canon.nil⟩

theorem canon_joinCommaT (ts : List (List Tok)) (h : ∀ t ∈ ts, Canon t) : Canon (joinCommaT ts) := by
  match ts with
  | [] => exact Canon.nil
  | [a] => simpa [joinCommaT] using h a (by simp)
  | a :: b :: rest =>
    have ih := canon_joinCommaT (b :: rest) (fun t ht => h t (by simp [ht]))
    simp only [joinCommaT, canon_append_iff, canon_cons_iff]
    exact ⟨h a (by simp), c44, ih⟩

theorem canon_renderBookingsT (padding : Nat) (bs : List BookingT) (h : ∀ b ∈ bs, b.canon) : Canon (renderBookingsT padding bs) := by
  induction bs with
  | nil => exact Canon.nil
  | cons b rest ih =>
    obtain ⟨h1, h2, h3, h4⟩ := h b List.mem_cons_self
    have ih' := ih (fun x hx => h x (List.mem_cons_of_mem _ hx))
    simp only [renderBookingsT, renderBookingT, canon_append_iff, canon_cons_iff]
    simp [h1, h2, h3, h4, c32, c10, ih', canon_spacesT]

theorem canon_renderBalanceT (b : BalanceT) (h : b.canon) : Canon (renderBalanceT b) := by
  obtain ⟨h1, h2, h3⟩ := h
  simp only [renderBalanceT, canon_append_iff, canon_cons_iff]
  simp [h1, h2, h3, c32]

theorem canon_renderBalancesT (bs : List BalanceT) (h : ∀ b ∈ bs, b.canon) : Canon (renderBalancesT bs) := by
  induction bs with
  | nil => exact Canon.nil
  | cons b rest ih =>
    simp only [renderBalancesT, canon_append_iff, canon_cons_iff]
    exact ⟨canon_renderBalanceT b (h b List.mem_cons_self), c10, ih (fun x hx => h x (List.mem_cons_of_mem _ hx))⟩

theorem canon_renderAccrualT (a : AccrualT) (h : a.canon) : Canon (renderAccrualT a) := by
  obtain ⟨a1, a2, a3, a4⟩ := h
  simp only [renderAccrualT, canon_append_iff, canon_cons_iff, canon_nil_iff]
  exact ⟨⟨⟨⟨⟨canon_lits _ (by decide), c32, a1⟩, c32, a2⟩, c32, a3⟩, c32, a4⟩, c10, trivial⟩

theorem canon_renderPerformanceT (ts : List (List Tok)) (h : ∀ t ∈ ts, Canon t) : Canon (renderPerformanceT ts) := by
  simp only [renderPerformanceT, canon_append_iff, canon_cons_iff, canon_nil_iff]
  exact ⟨⟨canon_lits _ (by decide), c40, canon_joinCommaT ts h⟩, c41, c10, trivial⟩

theorem canon_renderT (padding : Nat) (v : DirT) (hc : v.canon) : Canon (renderT padding v) := by
  cases v with
  | transaction aT pT d desc bs =>
    obtain ⟨ha, hp, hd, hdesc, hb⟩ := hc
    simp only [renderT, canon_append_iff, canon_cons_iff]
    refine ⟨⟨⟨⟨?_, ?_⟩, hd⟩, c32, c34, hdesc⟩, c34, c10, canon_renderBookingsT padding bs hb⟩
    · cases aT with
      | none => exact Canon.nil
      | some a => exact canon_renderAccrualT a (ha a rfl)
    · cases pT with
      | none => exact Canon.nil
      | some ts => exact canon_renderPerformanceT ts (hp ts rfl)
  | «open» d a => simp [renderT, canon_append_iff, hc.1, hc.2, canon_lits " open " (by decide)]
  | close d a => simp [renderT, canon_append_iff, hc.1, hc.2, canon_lits " close " (by decide)]
  | price d c p t =>
    obtain ⟨h1, h2, h3, h4⟩ := hc
    simp [renderT, canon_append_iff, canon_cons_iff, h1, h2, h3, h4, c32, canon_lits " price " (by decide)]
  | «include» p =>
    have : Canon p := hc
    simp [renderT, canon_append_iff, canon_cons_iff, this, c34, canon_lits "include \"" (by decide), canon_nil_iff]
  | assertion d bs =>
    obtain ⟨hd, hb⟩ := hc
    match bs with
    | [] => simp [renderT, renderBalancesT, canon_append_iff, canon_cons_iff, hd, c10, canon_lits " balance" (by decide), canon_nil_iff]
    | [b] =>
      have := canon_renderBalanceT b (hb b (by simp))
      simp [renderT, canon_append_iff, hd, this, canon_lits " balance " (by decide)]
    | b1 :: b2 :: rest =>
      have := canon_renderBalancesT (b1 :: b2 :: rest) hb
      simp [renderT, canon_append_iff, canon_cons_iff, hd, this, c10, canon_lits " balance" (by decide)]

theorem items_canonR {items : List Item} (padding : Nat) (h : ItemsR items) : Canon (outToks padding items) := by
  induction items with
  | nil => exact Canon.nil
  | cons i rest ih =>
    cases i with
    | gap c w nl =>
      unfold ItemsR at h
      obtain ⟨_, _, _, _, _, hc, _, _, hrest⟩ := h
      simp only [outToks, Item.out]
      exact hc.append (ih hrest)
    | dir D d v w nl =>
      unfold ItemsR at h
      obtain ⟨_, vcan, _, _, _, cr, _, hrest⟩ := h
      simp only [outToks, Item.out]
      exact ((canon_renderT padding v vcan).append cr).append (ih hrest)

theorem items_views {text : Bytes} {off : Nat} {items : List Item} (h : ItemsOK text off items) :
    (dirsOf items).mapM (viewDirective text) = some ((viewsOf items).map DirT.bytes) := by
  induction items generalizing off with
  | nil => rfl
  | cons i rest ih =>
    cases i with
    | gap c w nl =>
      unfold ItemsOK at h
      exact ih h.2.2.2.2.2.2.2.2
    | dir D d v w nl =>
      unfold ItemsOK at h
      obtain ⟨_, _, _, _, vview, _, _, _, _, _, hrest⟩ := h
      simp [dirsOf, viewsOf, List.mapM_cons, vview, ih hrest]

/-- the padding `Printer.Initialize` computes, from the views -/
def padOf (vs : List DirV) : Nat := vs.foldl (fun m v => max m (paddingV v)) 0

theorem items_padding {text : Bytes} {off : Nat} {items : List Item} (h : ItemsOK text off items) :
    initPadding text (dirsOf items) = some (padOf ((viewsOf items).map DirT.bytes)) := by
  simp [initPadding, items_views h, padOf]

/-- the gaps of a run: the text between its directives, starting with the pending piece `pre` -/
def gapBytes : List UInt8 → List Item → List (List UInt8)
  | pre, [] => [pre]
  | pre, .gap c w nl :: rest => gapBytes (pre ++ flat (c ++ (w ++ nl))) rest
  | pre, .dir _ _ _ w nl :: rest => pre :: gapBytes (flat (w ++ nl)) rest

/-- the formatter on a run: `pos` is the end of the last directive, so `slice text pos off` is the part of the pending
gap already passed; a gap item extends it, a directive item closes it and is printed from its view -/
theorem items_format {text : Bytes} {padding : Nat} {items : List Item} {off : Nat}
    (hG : Good text ⟨off, origToks items⟩) (h : ItemsOK text off items) (pos : Nat) (hpos : pos ≤ off) :
    formatLoop text padding pos (dirsOf items) = some (slice text pos off ++ flat (outToks padding items)) ∧
    gapsOf text pos ((dirsOf items).map (·.range)) = gapBytes (slice text pos off) items := by
  induction items generalizing off pos with
  | nil =>
    have e := hG.eof (by simp [atEOF, origToks])
    simp only at e
    simp [dirsOf, formatLoop, outToks, sliceChecked_some (Nat.le_trans hpos hG.le) (Nat.le_refl _), gapsOf, gapBytes, e]
  | cons i rest ih =>
    cases i with
    | gap c w nl =>
      unfold ItemsOK at h
      obtain ⟨_, _, _, _, _, _, _, _, hrest⟩ := h
      have e : origToks (.gap c w nl :: rest) = (c ++ (w ++ nl)) ++ origToks rest := by simp [origToks, Item.orig]
      rw [e] at hG
      obtain ⟨ex, G2⟩ := hG.step
      have hs : slice text off (off + wsum (c ++ (w ++ nl))) = flat (c ++ (w ++ nl)) := by
        have := (hG.consumed (consumed_mk off (c ++ (w ++ nl)) (origToks rest))).2
        simpa using this
      -- the pending gap grows by the bytes of this item
      have := ih G2 hrest pos (by omega)
      rw [slice_append text hpos (Nat.le_add_right off _), hs] at this
      constructor
      · simp only [dirsOf, outToks, Item.out, flat_append]
        rw [this.1]
        simp [flat_append]
      · simp only [dirsOf, gapBytes]
        rw [this.2]
    | dir D d v w nl =>
      unfold ItemsOK at h
      obtain ⟨hrange, hDne, vok, vcan, vview, _, _, _, _, _, hrest⟩ := h
      have e : origToks (.dir D d v w nl :: rest) = D ++ ((w ++ nl) ++ origToks rest) := by simp [origToks, Item.orig]
      rw [e] at hG
      obtain ⟨_, G1⟩ := hG.step
      obtain ⟨_, G2⟩ := G1.step
      have hs : slice text (off + wsum D) (off + wsum D + wsum (w ++ nl)) = flat (w ++ nl) := by
        have := (G1.consumed (consumed_mk (off + wsum D) (w ++ nl) (origToks rest))).2
        simpa using this
      -- a new gap starts behind the directive with the rest of its line
      have := ih G2 hrest (off + wsum D) (Nat.le_add_right _ _)
      rw [hs] at this
      have hprint : printDirective text padding d = some (flat (renderT padding v)) := by
        simp [printDirective, vview, flat_renderT padding v vcan]
      constructor
      · simp only [dirsOf, formatLoop, hrange, Option.bind_eq_bind]
        rw [sliceChecked_some hpos hG.le, hprint, this.1]
        simp [outToks, Item.out, flat_append]
      · simp only [dirsOf, List.map_cons, gapsOf, hrange, gapBytes]
        rw [this.2]

theorem Rendered.facts {padding : Nat} {items items2 : List Item} (h : Rendered padding items items2) :
    origToks items2 = outToks padding items ∧ outToks padding items2 = outToks padding items ∧
    viewsOf items2 = viewsOf items ∧ ∀ pre, gapBytes pre items2 = gapBytes pre items := by
  induction h with
  | nil => exact ⟨rfl, rfl, rfl, fun _ => rfl⟩
  | gap c w nl hr ih =>
    obtain ⟨i1, i2, i3, i4⟩ := ih
    exact ⟨by simp [origToks, outToks, Item.orig, Item.out, i1], by simp [outToks, i2], by simp [viewsOf, i3],
      fun pre => by simp [gapBytes, i4]⟩
  | dir D d v w nl d2 hr ih =>
    obtain ⟨i1, i2, i3, i4⟩ := ih
    exact ⟨by simp [origToks, outToks, Item.orig, Item.out, i1], by simp [outToks, Item.out, i2], by simp [viewsOf, i3],
      fun pre => by simp [gapBytes, i4]⟩

theorem viewsOf_ok {text : Bytes} : ∀ {items : List Item} {off : Nat}, ItemsOK text off items →
    ∀ v ∈ viewsOf items, v.ok ∧ v.canon
  | [], _, _, v, hv => by cases hv
  | .gap c w nl :: rest, off, h, v, hv => by
    unfold ItemsOK at h
    exact viewsOf_ok h.2.2.2.2.2.2.2.2 v (by simpa [viewsOf] using hv)
  | .dir D d v' w nl :: rest, off, h, v, hv => by
    unfold ItemsOK at h
    obtain ⟨_, _, vok, vcan, _, _, _, _, _, _, hrest⟩ := h
    simp only [viewsOf, List.mem_cons] at hv
    rcases hv with rfl | hv
    · exact ⟨vok, vcan⟩
    · exact viewsOf_ok hrest v hv

/-- a file that parses is a run of the main loop over its tokens -/
theorem parse_items {path : String} {text : Bytes} {f : File} (h : parseText path text = .ok f) :
    ∃ items, decodeAll text = origToks items ∧ f.directives = dirsOf items ∧ ItemsOK text 0 items := by
  obtain ⟨hv, s', hp⟩ := parseText_eq_ok.mp h
  obtain ⟨items, i1, i2, i3⟩ := fileLoop_items hp (good_start text) hv
  exact ⟨items, i1, by simpa using i2, i3⟩

/-- **a file that parses is formatted** (no `Extract()` and no gap slice is out of range): the output is the rendering of
the items of the parse, with the padding of their views, and the gaps are theirs. The parser's soundness suffices. -/
theorem parse_format {path : String} {text : Bytes} {f : File} (h : parseText path text = .ok f) :
    ∃ items, decodeAll text = origToks items ∧ f.directives = dirsOf items ∧ ItemsOK text 0 items ∧
      format text f = some (flat (outToks (padOf ((viewsOf items).map DirT.bytes)) items)) ∧
      gapsOf text 0 ((dirsOf items).map (·.range)) = gapBytes [] items := by
  obtain ⟨items, i1, i2, i3⟩ := parse_items h
  have hG0 : Good text ⟨0, origToks items⟩ := by rw [← i1]; exact good_start text
  obtain ⟨hfmt, hgaps⟩ := items_format (padding := padOf ((viewsOf items).map DirT.bytes)) hG0 i3 0 (Nat.le_refl _)
  simp only [slice_self, List.nil_append] at hfmt hgaps
  refine ⟨items, i1, i2, i3, ?_, hgaps⟩
  simp only [format, i2, items_padding i3, Option.bind_eq_bind, Option.bind_some]
  exact hfmt

/-! ### what C07 says of a parsed file, read off its run -/

theorem CommentToks.line {c : List Tok} (h : CommentToks c) (hw : ∀ t ∈ c, t.wf) :
    lineOK (flat c) = true ∧ (10 : UInt8) ∉ flat c := by
  obtain ⟨lead, body, kw, rfl, hm, hr1, pb⟩ := h
  have w1 : ∀ t ∈ lead, t.wf := fun t ht => hw t (List.mem_append_left _ ht)
  have n2 : (10 : UInt8) ∉ flat body := flat_no_nl (fun t ht => hw t (List.mem_append_right _ ht)) (by
    intro t ht
    have := pb t ht
    simp only [isNewlineOrEOF, Bool.not_eq_true', Bool.or_eq_false_iff, beq_eq_false_iff_ne] at this
    exact this.1)
  have lead : (flat lead = [42] ∨ flat lead = [35] ∨ flat lead = [47, 47]) := by
    simp only [List.mem_cons, List.not_mem_nil, or_false] at hm
    rcases hm with hm | hm | hm
    · subst hm
      rw [runesOf_star] at hr1
      obtain ⟨t, rfl, hr⟩ := toks_of_runes1 hr1
      have := (w1 t List.mem_cons_self).1 (by omega)
      left; simp [this, hr]
    · subst hm
      rw [runesOf_slashes] at hr1
      obtain ⟨t, u, rfl, hr, hu⟩ := toks_of_runes2 hr1
      have a := (w1 t List.mem_cons_self).1 (by omega)
      have b := (w1 u (by simp)).1 (by omega)
      right; right; simp [a, b, hr, hu]
    · subst hm
      rw [runesOf_hash] at hr1
      obtain ⟨t, rfl, hr⟩ := toks_of_runes1 hr1
      have := (w1 t List.mem_cons_self).1 (by omega)
      right; left; simp [this, hr]
  rw [flat_append]
  rcases lead with l | l | l <;> rw [l]
  · exact ⟨by simp [lineOK], by simpa using n2⟩
  · exact ⟨by simp [lineOK], by simpa using n2⟩
  · exact ⟨by simp [lineOK], by simpa using n2⟩

theorem NlOK.bytes {nl : List Tok} (h : NlOK nl) (hw : ∀ t ∈ nl, t.wf) : flat nl = [] ∨ flat nl = [10] := by
  rcases h with rfl | ⟨t, rfl, hr⟩
  · exact Or.inl rfl
  · have := (hw t List.mem_cons_self).1 (by omega)
    exact Or.inr (by simp [this, hr])

theorem gap_line {pre x e : List UInt8} (hg : gapOK pre = true) (hn : NL pre) (hx : lineOK x = true) (h10 : (10 : UInt8) ∉ x)
    (he : e = [] ∨ e = [10]) : gapOK (pre ++ (x ++ e)) = true ∧ (e ≠ [] → NL (pre ++ (x ++ e))) := by
  have := gapOK_snoc_line hg hn hx h10
  rcases he with rfl | rfl
  · exact ⟨by simpa using this.1, fun h => absurd rfl h⟩
  · exact ⟨by simpa [List.append_assoc] using this.2, fun _ => by rw [← List.append_assoc]; exact NL_snoc _⟩

theorem Good.toks_wf {text : Bytes} {off : Nat} {c r : List Tok} (hG : Good text ⟨off, c ++ r⟩) : ∀ t ∈ c, t.wf :=
  fun t ht => hG.wf t (List.mem_append_left _ ht)

theorem flat_ne_nil {text : Bytes} {off : Nat} {nl r : List Tok} (hG : Good text ⟨off, nl ++ r⟩) (h : nl ≠ []) : flat nl ≠ [] := by
  cases nl with
  | nil => exact absurd rfl h
  | cons t ts =>
    have := hG.pos t (by simp)
    intro e
    simp only [flat_cons, List.append_eq_nil_iff] at e
    rw [e.1] at this
    simp at this

/-- **the gaps of a run are blank or comment lines, its directives are in order** -/
theorem items_gaps {text : Bytes} : ∀ {items : List Item} {off : Nat}, Good text ⟨off, origToks items⟩ → ItemsOK text off items →
    ∀ (pre : List UInt8) (pos : Nat), gapOK pre = true → NL pre → pos ≤ off →
      (gapBytes pre items).all gapOK = true ∧ sortedDisjoint pos ((dirsOf items).map (·.range)) = true
  | [], _, _, _, pre, _, hg, _, _ => by simp [gapBytes, hg, dirsOf, sortedDisjoint]
  | .gap c w nl :: rest, off, hG, h, pre, pos, hg, hn, hp => by
    unfold ItemsOK at h
    obtain ⟨hc, hcw, pw, onl, _, _, _, hlast, hrest⟩ := h
    simp only [origToks, Item.orig] at hG
    have wf := hG.toks_wf
    have wfc : ∀ t ∈ c, t.wf := fun t ht => wf t (List.mem_append_left _ ht)
    have wfw : ∀ t ∈ w, t.wf := fun t ht => wf t (List.mem_append_right _ (List.mem_append_left _ ht))
    have wfn : ∀ t ∈ nl, t.wf := fun t ht => wf t (List.mem_append_right _ (List.mem_append_right _ ht))
    obtain ⟨_, G'⟩ := hG.step
    have Gn : Good text ⟨off + wsum (c ++ w), nl ++ origToks rest⟩ := by
      have : c ++ (w ++ nl) ++ origToks rest = (c ++ w) ++ (nl ++ origToks rest) := by simp
      rw [this] at hG; exact hG.step.2
    -- the line: a comment, or blanks
    have hline : lineOK (flat c ++ flat w) = true ∧ (10 : UInt8) ∉ flat c ++ flat w := by
      by_cases hce : c = []
      · subst hce; simpa using lineOK_blank (flat_blank wfw pw)
      · rw [hcw hce]; simpa using (hc.resolve_left hce).line wfc
    obtain ⟨g1, g2⟩ := gap_line hg hn hline.1 hline.2 (onl.bytes wfn)
    have e : flat (c ++ (w ++ nl)) = flat c ++ flat w ++ flat nl := by simp [flat_append]
    simp only [gapBytes, dirsOf, e]
    by_cases hnl : nl = []
    · subst hnl; rw [hlast rfl]; simp [gapBytes, dirsOf, sortedDisjoint] at g1 ⊢; exact g1
    · exact items_gaps G' hrest _ pos g1 (g2 (flat_ne_nil Gn hnl)) (by omega)
  | .dir D d v w nl :: rest, off, hG, h, pre, pos, hg, hn, hp => by
    unfold ItemsOK at h
    obtain ⟨hr, hne, _, _, _, pw, onl, _, _, hlast, hrest⟩ := h
    simp only [origToks, Item.orig] at hG
    have hG' : Good text ⟨off, D ++ ((w ++ nl) ++ origToks rest)⟩ := by simpa using hG
    obtain ⟨_, G1⟩ := hG'.step
    have wf := G1.toks_wf
    have wfw : ∀ t ∈ w, t.wf := fun t ht => wf t (List.mem_append_left _ ht)
    have wfn : ∀ t ∈ nl, t.wf := fun t ht => wf t (List.mem_append_right _ ht)
    obtain ⟨_, G'⟩ := G1.step
    have Gn : Good text ⟨off + wsum D + wsum w, nl ++ origToks rest⟩ := by
      have : (w ++ nl) ++ origToks rest = w ++ (nl ++ origToks rest) := by simp
      rw [this] at G1; exact G1.step.2
    have hpos : 0 < wsum D := hG'.wsum_pos (consumed_mk off D _) hne
    have hb := lineOK_blank (flat_blank wfw pw)
    obtain ⟨g1, g2⟩ := gap_line (pre := []) gapOK_nil (Or.inl rfl) hb.1 hb.2 (onl.bytes wfn)
    simp only [List.nil_append] at g1 g2
    simp only [gapBytes, dirsOf, List.map_cons, sortedDisjoint, List.all_cons, hg, hr, Bool.true_and, Bool.and_eq_true,
      decide_eq_true_eq, flat_append]
    by_cases hnl : nl = []
    · subst hnl; rw [hlast rfl]
      simp [gapBytes, dirsOf, sortedDisjoint] at g1 ⊢
      exact ⟨g1, hp, hpos⟩
    · have := items_gaps G' hrest _ (off + wsum D) g1 (g2 (flat_ne_nil Gn hnl)) (by omega)
      exact ⟨this.1, ⟨hp, by omega⟩, this.2⟩

/-- everything C07 says about a returned tree, for the model -/
theorem parseText_ok {path : String} {text : List UInt8} {f : File} (h : parseText path text = .ok f) :
    f.range = ⟨0, text.length⟩ ∧
    sortedDisjoint 0 (f.directives.map (·.range)) = true ∧
    (∀ d ∈ f.directives, nodeWF 0 text.length d.toNode = true) ∧
    (gapsOf text 0 (f.directives.map (·.range))).all gapOK = true := by
  obtain ⟨hv, s', hp⟩ := parseText_eq_ok.mp h
  obtain ⟨items, i1, i2, i3, i4⟩ := fileLoop_run hp ⟨good_start text, hv⟩
  simp only [List.reverse_nil, List.nil_append] at i2
  have hG0 : Good text ⟨0, origToks items⟩ := by rw [← i1]; exact good_start text
  obtain ⟨g1, g2⟩ := items_gaps hG0 i3 [] 0 gapOK_nil (Or.inl rfl) (Nat.le_refl _)
  have hgaps := (items_format (padding := 0) hG0 i3 0 (Nat.le_refl _)).2
  simp only [slice_self] at hgaps
  refine ⟨?_, by rw [i2]; exact g2, fun d hd => ?_, by rw [i2, hgaps]; exact g1⟩
  · obtain ⟨e1, e2⟩ := fileLoop_end _ _ _ _ f s' hp
    have G' : Good text s' := by
      have := (good_start text).ext (fileLoop_ext path 0 [] ⟨0, decodeAll text⟩)
      rwa [hp] at this
    rw [e1, rng, G'.eof e2]
  · obtain ⟨s, s1, h1, I⟩ := i4 d (by rw [← i2]; exact hd)
    exact nodeWF_mono ((parseDirective_runs _).val h1).2 (Nat.zero_le _) (I.good.ext (ext_of_ok (parseDirective_prog _).ext h1)).le

end Knut.Syntax
