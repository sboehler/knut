import Knut.Proofs.SyntaxViews
import Knut.Proofs.SyntaxRender
/-!
# The trees of rendered text (helper definitions for C08)

For every element the printer writes (`renderBookingT`, `renderBalanceT`, …, `renderT`): the tree the parser builds
when it reads those tokens at a given offset, as a function (`bookingTree`, …: ranges are running sums of widths), and
its view lemma: in any text in which the tokens stand, the fields of the tree are the fields of the element.
`Proofs/SyntaxDirComplete` shows that the parser does build these trees.
-/
namespace Knut.Syntax
open Knut.Utf8 Knut.Spec.Syntax

structure Blank1 (w : List Tok) : Prop where
  ne : w ≠ []
  ws : All isWhitespace w
  valid : Valid w

structure Blank (w : List Tok) : Prop where
  ws : All isWhitespace w
  valid : Valid w

theorem Blank.nil : Blank [] := ⟨All.nil, Valid.nil⟩

theorem spacesT_valid (n : Nat) : Valid (spacesT n) := by
  intro t ht
  simp only [spacesT, List.mem_replicate] at ht
  rw [ht.2]; exact tk_valid (by decide)

theorem spacesT_ws (n : Nat) : All isWhitespace (spacesT n) := by
  intro t ht
  simp only [spacesT, List.mem_replicate] at ht
  rw [ht.2]; decide

/-- the printer's runs: `n + 1` blanks, possibly followed by more -/
theorem blank1_spaces (n m : Nat) : Blank1 (spacesT (n + 1) ++ spacesT m) :=
  ⟨by simp [spacesT, List.replicate_succ], All.append (spacesT_ws _) (spacesT_ws _), (spacesT_valid _).append (spacesT_valid _)⟩

theorem blank1_sp : Blank1 [tk 32] := blank1_spaces 0 0

/-- `$` opens a macro -/
def macroOf : List Tok → Bool
  | t :: _ => t.r == 36
  | [] => false

theorem IsAccount.macroOf {m : Bool} {c : List Tok} (h : IsAccount m c) : m = macroOf c := by
  cases m with
  | true =>
    simp only [IsAccount, if_true] at h
    obtain ⟨d, ls, rfl, pd, _, _⟩ := h
    simp [Knut.Syntax.macroOf, pd]
  | false =>
    simp only [IsAccount, Bool.false_eq_true, if_false] at h
    obtain ⟨a, tl, rfl, hne, pa, _⟩ := h
    cases a with
    | nil => exact absurd rfl hne
    | cons t ts =>
      have := pa t List.mem_cons_self
      simp only [List.cons_append, Knut.Syntax.macroOf]
      symm; simp only [beq_eq_false_iff_ne]
      intro e; rw [e, alnum_dollar] at this; cases this

theorem AccountOK.isAccount {c : List Tok} (h : AccountOK c) : IsAccount (macroOf c) c := by
  obtain ⟨⟨m, i⟩, _⟩ := h
  rw [← i.macroOf]; exact i

/-- the two runs of blanks `padRight` and `%10s` put between the first three fields -/
def bookingPad1 (padding : Nat) (b : BookingT) : List Tok := spacesT (padding - b.credit.length + 1) ++ spacesT 0
def bookingPad2 (padding : Nat) (b : BookingT) : List Tok :=
  spacesT (padding - b.debit.length + 1) ++ spacesT (10 - b.quantity.length)

theorem renderBookingT_fields (padding : Nat) (b : BookingT) (r : List Tok) : renderBookingT padding b ++ r =
    b.credit ++ (bookingPad1 padding b ++ (b.debit ++ (bookingPad2 padding b ++ (b.quantity ++ (tk 32 :: (b.commodity ++ r)))))) := by
  simp [renderBookingT, bookingPad1, bookingPad2, spacesT]

def bookingTree (padding : Nat) (b : BookingT) (off : Nat) : Booking :=
  let o1 := off + wsum b.credit
  let o2 := o1 + wsum (bookingPad1 padding b)
  let o3 := o2 + wsum b.debit
  let o4 := o3 + wsum (bookingPad2 padding b)
  let o5 := o4 + wsum b.quantity
  let o6 := o5 + 1
  ⟨⟨off, o6 + wsum b.commodity⟩, ⟨⟨off, o1⟩, macroOf b.credit⟩, ⟨⟨o2, o3⟩, macroOf b.debit⟩, ⟨⟨o4, o5⟩⟩,
    ⟨⟨o6, o6 + wsum b.commodity⟩⟩⟩

theorem wsum_renderBookingT (padding : Nat) (b : BookingT) (off : Nat) : off + wsum (renderBookingT padding b) =
    off + wsum b.credit + wsum (bookingPad1 padding b) + wsum b.debit + wsum (bookingPad2 padding b) + wsum b.quantity +
      1 + wsum b.commodity := by
  have := congrArg wsum (renderBookingT_fields padding b [])
  simp only [List.append_nil, wsum_append, wsum_cons] at this
  rw [this]; simp [tk, Nat.add_assoc]

theorem booking_view {text : Bytes} {padding : Nat} {b : BookingT} {off : Nat} {r : List Tok}
    (hG : Good text ⟨off, renderBookingT padding b ++ r⟩) : viewBooking text (bookingTree padding b off) = some b.bytes := by
  rw [renderBookingT_fields] at hG
  obtain ⟨e1, G1⟩ := hG.step
  obtain ⟨e3, G3⟩ := G1.step.2.step
  obtain ⟨e5, G5⟩ := G3.step.2.step
  obtain ⟨e7, _⟩ := G5.sp.step
  simp [viewBooking, bookingTree, e1, e3, e5, e7, BookingT.bytes]

theorem renderBalanceT_fields (b : BalanceT) (r : List Tok) :
    renderBalanceT b ++ r = b.account ++ (tk 32 :: (b.quantity ++ (tk 32 :: (b.commodity ++ r)))) := by
  simp [renderBalanceT]

def balanceTree (b : BalanceT) (off : Nat) : Balance :=
  let o1 := off + wsum b.account
  let o2 := o1 + 1
  let o3 := o2 + wsum b.quantity
  let o4 := o3 + 1
  ⟨⟨off, o4 + wsum b.commodity⟩, ⟨⟨off, o1⟩, macroOf b.account⟩, ⟨⟨o2, o3⟩⟩, ⟨⟨o4, o4 + wsum b.commodity⟩⟩⟩

theorem wsum_renderBalanceT (b : BalanceT) (off : Nat) : off + wsum (renderBalanceT b) =
    off + wsum b.account + 1 + wsum b.quantity + 1 + wsum b.commodity := by
  simp [renderBalanceT, tk, Nat.add_assoc]

theorem balance_view {text : Bytes} {b : BalanceT} {off : Nat} {r : List Tok}
    (hG : Good text ⟨off, renderBalanceT b ++ r⟩) : viewBalance text (balanceTree b off) = some b.bytes := by
  rw [renderBalanceT_fields] at hG
  obtain ⟨e1, G1⟩ := hG.step
  obtain ⟨e3, G3⟩ := G1.sp.step
  obtain ⟨e5, _⟩ := G3.sp.step
  simp [viewBalance, balanceTree, e1, e3, e5, BalanceT.bytes]

/-- the trees a line loop builds from `off` on for elements `toks x`, each closed by a line break -/
def linesTrees {X α} (toks : X → List Tok) (tree : X → Nat → α) : Nat → List X → List α
  | _, [] => []
  | off, x :: xs => tree x off :: linesTrees toks tree (off + wsum (toks x) + 1) xs

/-- `R` renders lines of elements `toks x` (as `renderBookingsT padding`, `renderBalancesT` do) -/
def RendersLines {X} (R : List X → List Tok) (toks : X → List Tok) : Prop :=
  R [] = [] ∧ ∀ x xs, R (x :: xs) = toks x ++ tk 10 :: R xs

theorem bookings_lines (padding : Nat) : RendersLines (renderBookingsT padding) (renderBookingT padding) := ⟨rfl, fun _ _ => rfl⟩
theorem balances_lines : RendersLines renderBalancesT renderBalanceT := ⟨rfl, fun _ _ => rfl⟩

theorem lines_view {X α β} {text : Bytes} {R : List X → List Tok} {toks : X → List Tok} (hR : RendersLines R toks)
    {tree : X → Nat → α} {view : α → Option β} {bytes : X → β}
    (h1 : ∀ x off r, Good text ⟨off, toks x ++ r⟩ → view (tree x off) = some (bytes x)) :
    ∀ (xs : List X) (off : Nat) (r : List Tok), Good text ⟨off, R xs ++ r⟩ →
      (linesTrees toks tree off xs).mapM view = some (xs.map bytes)
  | [], _, _, _ => rfl
  | x :: xs, off, r, hG => by
    have e : R (x :: xs) ++ r = toks x ++ (tk 10 :: (R xs ++ r)) := by simp [hR.2]
    rw [e] at hG
    have G2 := hG.step.2.sp
    simp [linesTrees, h1 x off _ hG, lines_view hR h1 xs _ r G2]

/-- `date "description"` and the booking lines -/
def trxToks (padding : Nat) (d desc : List Tok) (bs : List BookingT) : List Tok :=
  d ++ (tk 32 :: tk 34 :: desc ++ tk 34 :: tk 10 :: renderBookingsT padding bs)

/-- what `parseDirectiveBody` builds for them at `off`, in a directive that began at `start` with `addons` -/
def trxTree (padding start : Nat) (addons : Addons) (d desc : List Tok) (bs : List BookingT) (off : Nat) : Transaction :=
  let o1 := off + wsum d + 1
  ⟨⟨start, off + wsum (trxToks padding d desc bs)⟩, ⟨⟨off, off + wsum d⟩⟩,
    ⟨⟨o1, o1 + 1 + wsum desc + 1⟩, ⟨o1 + 1, o1 + 1 + wsum desc⟩⟩,
    linesTrees (renderBookingT padding) (bookingTree padding) (o1 + 1 + wsum desc + 1 + 1) bs, addons⟩

theorem trxToks_fields (padding : Nat) (d desc : List Tok) (bs : List BookingT) (r : List Tok) : trxToks padding d desc bs ++ r =
    d ++ ([tk 32] ++ ((tk 34 :: desc ++ [tk 34]) ++ ([tk 10] ++ (renderBookingsT padding bs ++ r)))) := by
  simp [trxToks]

theorem trx_view {text : Bytes} {padding start : Nat} {addons : Addons} {d desc : List Tok} {bs : List BookingT} {off : Nat}
    {r : List Tok} (hG : Good text ⟨off, trxToks padding d desc bs ++ r⟩) :
    (trxTree padding start addons d desc bs off).date.range.extract text = some (flat d) ∧
    (trxTree padding start addons d desc bs off).description.content.extract text = some (flat desc) ∧
    (trxTree padding start addons d desc bs off).bookings.mapM (viewBooking text) = some (bs.map BookingT.bytes) := by
  have e : trxToks padding d desc bs ++ r =
      d ++ (tk 32 :: tk 34 :: (desc ++ (tk 34 :: tk 10 :: (renderBookingsT padding bs ++ r)))) := by
    simp [trxToks]
  rw [e] at hG
  obtain ⟨e1, G1⟩ := hG.step
  obtain ⟨e4, G4⟩ := G1.sp.sp.step
  -- arguments by position: with named arguments (`lines_view (tree := …) …`) unification is much dearer here
  exact ⟨e1, e4, @lines_view BookingT Booking BookingV text _ _ (bookings_lines padding) (bookingTree padding) (viewBooking text)
    BookingT.bytes (fun b o x hG' => booking_view hG') bs _ r G4.sp.sp⟩

/-- `,a,b,c` -/
def commaTail : List (List Tok) → List Tok
  | [] => []
  | t :: ts => tk 44 :: (t ++ commaTail ts)

theorem joinCommaT_cons (t : List Tok) (ts : List (List Tok)) : joinCommaT (t :: ts) = t ++ commaTail ts := by
  induction ts generalizing t with
  | nil => simp [joinCommaT, commaTail]
  | cons u us ih => simp [joinCommaT, commaTail, ih]

/-- the commodities `perfLoop` builds for `commaTail ts` at `off`; the same for `(a,b,c`, a parenthesis being as wide as
a comma -/
def perfTrees : Nat → List (List Tok) → List Commodity
  | _, [] => []
  | off, t :: ts => ⟨⟨off + 1, off + 1 + wsum t⟩⟩ :: perfTrees (off + 1 + wsum t) ts

/-- `(a,b,c)`: what follows the keyword `@performance` -/
def perfArgs (ts : List (List Tok)) : List Tok := tk 40 :: joinCommaT ts ++ [tk 41]

def perfTree (ts : List (List Tok)) (off : Nat) : Performance := ⟨⟨off, off + wsum (perfArgs ts)⟩, perfTrees off ts⟩

theorem commaTail_view {text : Bytes} : ∀ (ts : List (List Tok)) (off : Nat) (r : List Tok),
    Good text ⟨off, commaTail ts ++ r⟩ →
      (perfTrees off ts).mapM (fun (c : Commodity) => c.range.extract text) = some (ts.map flat)
  | [], _, _, _ => rfl
  | t :: ts, off, r, hG => by
    have e : commaTail (t :: ts) ++ r = tk 44 :: (t ++ (commaTail ts ++ r)) := by simp [commaTail]
    rw [e] at hG
    obtain ⟨e2, G2⟩ := hG.sp.step
    simp [perfTrees, e2, commaTail_view ts _ r G2]

theorem perf_view {text : Bytes} {ts : List (List Tok)} {off : Nat} {r : List Tok} (hG : Good text ⟨off, perfArgs ts ++ r⟩) :
    (perfTree ts off).targets.mapM (fun (c : Commodity) => c.range.extract text) = some (ts.map flat) := by
  cases ts with
  | nil => rfl
  | cons t ts =>
    have e : perfArgs (t :: ts) ++ r = tk 40 :: (t ++ (commaTail ts ++ ([tk 41] ++ r))) := by
      simp [perfArgs, joinCommaT_cons]
    rw [e] at hG
    obtain ⟨e2, G2⟩ := hG.sp.step
    simp [perfTree, perfTrees, e2, commaTail_view ts _ _ G2]

/-- ` interval date date account`: what follows the keyword `@accrue` -/
def accrualArgs (a : AccrualT) : List Tok :=
  tk 32 :: (a.interval ++ (tk 32 :: (a.start ++ (tk 32 :: (a.stop ++ (tk 32 :: a.account))))))

def accrualTree (a : AccrualT) (off : Nat) : Accrual :=
  let o1 := off + 1
  let o2 := o1 + wsum a.interval
  let o3 := o2 + 1
  let o4 := o3 + wsum a.start
  let o5 := o4 + 1
  let o6 := o5 + wsum a.stop
  let o7 := o6 + 1
  ⟨⟨off, o7 + wsum a.account⟩, ⟨⟨o1, o2⟩⟩, ⟨⟨o3, o4⟩⟩, ⟨⟨o5, o6⟩⟩, ⟨⟨o7, o7 + wsum a.account⟩, macroOf a.account⟩⟩

theorem wsum_accrualArgs (a : AccrualT) (off : Nat) : off + wsum (accrualArgs a) =
    off + 1 + wsum a.interval + 1 + wsum a.start + 1 + wsum a.stop + 1 + wsum a.account := by
  simp [accrualArgs, tk, Nat.add_assoc]

theorem accrual_view {text : Bytes} {a : AccrualT} {off : Nat} {r : List Tok} (hG : Good text ⟨off, accrualArgs a ++ r⟩) :
    viewAccrual text (accrualTree a off) = some a.bytes := by
  simp only [accrualArgs, List.cons_append, List.append_assoc] at hG
  obtain ⟨e2, G2⟩ := hG.sp.step
  obtain ⟨e4, G4⟩ := G2.sp.step
  obtain ⟨e6, G6⟩ := G4.sp.step
  obtain ⟨e8, _⟩ := G6.sp.step
  simp [viewAccrual, accrualTree, e2, e4, e6, e8, AccrualT.bytes]

theorem renderAccrualT_fields (a : AccrualT) (r : List Tok) :
    renderAccrualT a ++ r = lits "@accrue" ++ (accrualArgs a ++ ([tk 10] ++ r)) := by
  simp [renderAccrualT, accrualArgs]

theorem renderPerformanceT_fields (ts : List (List Tok)) (r : List Tok) :
    renderPerformanceT ts ++ r = lits "@performance" ++ (perfArgs ts ++ ([tk 10] ++ r)) := by
  simp [renderPerformanceT, perfArgs]

theorem wsum_accrue : wsum (lits "@accrue") = 7 := by rw [lits_ofList]; rfl
theorem wsum_performance : wsum (lits "@performance") = 12 := by rw [lits_ofList]; rfl

/-- the accrual `parseAddons` records for the line `renderAccrualT a` at `off`: its range begins with the keyword -/
def accrualLineTree (a : AccrualT) (off : Nat) : Accrual :=
  { accrualTree a (off + wsum (lits "@accrue")) with range := ⟨off, off + wsum (lits "@accrue") + wsum (accrualArgs a)⟩ }

def perfLineTree (ts : List (List Tok)) (off : Nat) : Performance :=
  { perfTree ts (off + wsum (lits "@performance")) with range := ⟨off, off + wsum (lits "@performance") + wsum (perfArgs ts)⟩ }

theorem accrualLine_view {text : Bytes} {a : AccrualT} {off : Nat} {r : List Tok} (hG : Good text ⟨off, renderAccrualT a ++ r⟩) :
    viewAccrual text (accrualLineTree a off) = some a.bytes := by
  rw [renderAccrualT_fields] at hG
  exact (viewAccrual_range ..).trans (accrual_view hG.step.2)

theorem perfLine_view {text : Bytes} {ts : List (List Tok)} {off : Nat} {r : List Tok}
    (hG : Good text ⟨off, renderPerformanceT ts ++ r⟩) :
    (perfLineTree ts off).targets.mapM (fun (c : Commodity) => c.range.extract text) = some (ts.map flat) := by
  rw [renderPerformanceT_fields] at hG
  exact perf_view hG.step.2

/-- the annotation lines of a rendered transaction: `@accrue` first -/
def addonsToks : Option AccrualT → Option (List (List Tok)) → List Tok
  | none, none => []
  | some a, none => renderAccrualT a
  | none, some ts => renderPerformanceT ts
  | some a, some ts => renderAccrualT a ++ renderPerformanceT ts

/-- the `Addons` that `parseDirective` hands to `parseDirectiveBody` after them -/
def addonsTree : Option AccrualT → Option (List (List Tok)) → Nat → Addons
  | none, none, _ => Addons.zero
  | some a, none, off => ⟨⟨off, off + wsum (renderAccrualT a)⟩, Performance.zero, accrualLineTree a off⟩
  | none, some ts, off => ⟨⟨off, off + wsum (renderPerformanceT ts)⟩, perfLineTree ts off, Accrual.zero⟩
  | some a, some ts, off => ⟨⟨off, off + wsum (renderAccrualT a) + wsum (renderPerformanceT ts)⟩,
      perfLineTree ts (off + wsum (renderAccrualT a)), accrualLineTree a off⟩

theorem renderT_transaction (padding : Nat) (aT : Option AccrualT) (pT : Option (List (List Tok))) (d desc : List Tok)
    (bs : List BookingT) : renderT padding (.transaction aT pT d desc bs) = addonsToks aT pT ++ trxToks padding d desc bs := by
  cases aT <;> cases pT <;> simp [renderT, addonsToks, trxToks]

/-- `date kw` and what follows the keyword -/
def datedToks (d : List Tok) (kw : String) (rest : List Tok) : List Tok := d ++ (tk 32 :: (lits kw ++ rest))

/-- where `rest` begins -/
def datedOff (d : List Tok) (kw : String) (off : Nat) : Nat := off + wsum d + 1 + wsum (lits kw)

theorem dated_view {text : Bytes} {d : List Tok} {kw : String} {w2 body r : List Tok} {off : Nat}
    (hG : Good text ⟨off, datedToks d kw (w2 ++ body) ++ r⟩) :
    Range.extract text ⟨off, off + wsum d⟩ = some (flat d) ∧ Good text ⟨datedOff d kw off + wsum w2, body ++ r⟩ := by
  have e : datedToks d kw (w2 ++ body) ++ r = d ++ (tk 32 :: (lits kw ++ (w2 ++ (body ++ r)))) := by simp [datedToks]
  rw [e] at hG
  obtain ⟨e1, G1⟩ := hG.step
  exact ⟨e1, G1.sp.step.2.step.2⟩

/-- what `parseKeyword` builds for an account at `off`, the directive having begun at `start` with `date` -/
def openBody (start : Nat) (date : Date) (a : List Tok) (off : Nat) : Body :=
  .open ⟨⟨start, off + wsum a⟩, date, ⟨⟨off, off + wsum a⟩, macroOf a⟩⟩
def closeBody (start : Nat) (date : Date) (a : List Tok) (off : Nat) : Body :=
  .close ⟨⟨start, off + wsum a⟩, date, ⟨⟨off, off + wsum a⟩, macroOf a⟩⟩

/-- `commodity price target` -/
def priceToks (c p t : List Tok) : List Tok := c ++ (tk 32 :: (p ++ (tk 32 :: t)))

def priceBody (start : Nat) (date : Date) (c p t : List Tok) (off : Nat) : Body :=
  let o2 := off + wsum c + 1
  let o3 := o2 + wsum p + 1
  .price ⟨⟨start, o3 + wsum t⟩, date, ⟨⟨off, off + wsum c⟩⟩, ⟨⟨o3, o3 + wsum t⟩⟩, ⟨⟨o2, o2 + wsum p⟩⟩⟩

def assert1Body (start : Nat) (date : Date) (b : BalanceT) (off : Nat) : Body :=
  .assertion ⟨⟨start, off + wsum (renderBalanceT b)⟩, date, [balanceTree b off]⟩

/-- balances one per line: `off` is where the line break after the keyword stands -/
def assertNBody (start : Nat) (date : Date) (bs : List BalanceT) (off : Nat) : Body :=
  .assertion ⟨⟨start, off + wsum (tk 10 :: renderBalancesT bs)⟩, date, linesTrees renderBalanceT balanceTree (off + 1) bs⟩

theorem open_view {text : Bytes} {d a r : List Tok} {off : Nat} {rg : Range}
    (hG : Good text ⟨off, datedToks d "open" ([tk 32] ++ a) ++ r⟩) :
    viewDirective text ⟨rg, openBody off ⟨⟨off, off + wsum d⟩⟩ a (datedOff d "open" off + wsum [tk 32])⟩ =
      some (DirT.open d a).bytes := by
  obtain ⟨e1, G1⟩ := dated_view hG
  simp [-wsum_cons, viewDirective, openBody, e1, G1.step.1, DirT.bytes]

theorem close_view {text : Bytes} {d a r : List Tok} {off : Nat} {rg : Range}
    (hG : Good text ⟨off, datedToks d "close" ([tk 32] ++ a) ++ r⟩) :
    viewDirective text ⟨rg, closeBody off ⟨⟨off, off + wsum d⟩⟩ a (datedOff d "close" off + wsum [tk 32])⟩ =
      some (DirT.close d a).bytes := by
  obtain ⟨e1, G1⟩ := dated_view hG
  simp [-wsum_cons, viewDirective, closeBody, e1, G1.step.1, DirT.bytes]

theorem price_view {text : Bytes} {d c p t r : List Tok} {off : Nat} {rg : Range}
    (hG : Good text ⟨off, datedToks d "price" ([tk 32] ++ priceToks c p t) ++ r⟩) :
    viewDirective text ⟨rg, priceBody off ⟨⟨off, off + wsum d⟩⟩ c p t (datedOff d "price" off + wsum [tk 32])⟩ =
      some (DirT.price d c p t).bytes := by
  obtain ⟨e1, G1⟩ := dated_view hG
  simp only [priceToks, List.append_assoc, List.cons_append] at G1
  obtain ⟨e2, G2⟩ := G1.step
  obtain ⟨e3, G3⟩ := G2.sp.step
  obtain ⟨e4, _⟩ := G3.sp.step
  simp [-wsum_cons, viewDirective, priceBody, e1, e2, e3, e4, DirT.bytes]

theorem assert1_view {text : Bytes} {d r : List Tok} {b : BalanceT} {off : Nat} {rg : Range}
    (hG : Good text ⟨off, datedToks d "balance" ([tk 32] ++ renderBalanceT b) ++ r⟩) :
    viewDirective text ⟨rg, assert1Body off ⟨⟨off, off + wsum d⟩⟩ b (datedOff d "balance" off + wsum [tk 32])⟩ =
      some (DirT.assertion d [b]).bytes := by
  obtain ⟨e1, G1⟩ := dated_view hG
  simp [-wsum_cons, viewDirective, assert1Body, e1, balance_view G1, DirT.bytes]

theorem assertN_view {text : Bytes} {d r : List Tok} {bs : List BalanceT} {off : Nat} {rg : Range}
    (hG : Good text ⟨off, datedToks d "balance" ([] ++ tk 10 :: renderBalancesT bs) ++ r⟩) :
    viewDirective text ⟨rg, assertNBody off ⟨⟨off, off + wsum d⟩⟩ bs (datedOff d "balance" off + wsum [])⟩ =
      some (DirT.assertion d bs).bytes := by
  obtain ⟨e1, G1⟩ := dated_view hG
  have G2 : Good text ⟨datedOff d "balance" off + wsum [] + 1, renderBalancesT bs ++ r⟩ := G1.sp
  simp [-wsum_nil, viewDirective, assertNBody, e1, @lines_view BalanceT Balance BalanceV text _ _ balances_lines balanceTree
    (viewBalance text) BalanceT.bytes (fun b o x hG' => balance_view hG') bs _ r G2, DirT.bytes]

def includeToks (p : List Tok) : List Tok := lits "include" ++ (tk 32 :: tk 34 :: p ++ [tk 34])

def includeTree (p : List Tok) (off : Nat) : Directive :=
  let o1 := off + wsum (lits "include") + 1
  ⟨⟨off, o1 + 1 + wsum p + 1⟩, .include ⟨⟨off, o1 + 1 + wsum p + 1⟩, ⟨⟨o1, o1 + 1 + wsum p + 1⟩, ⟨o1 + 1, o1 + 1 + wsum p⟩⟩⟩⟩

theorem include_view {text : Bytes} {p r : List Tok} {off : Nat} (hG : Good text ⟨off, includeToks p ++ r⟩) :
    viewDirective text (includeTree p off) = some (DirT.include p).bytes := by
  have e : includeToks p ++ r = lits "include" ++ (tk 32 :: tk 34 :: (p ++ ([tk 34] ++ r))) := by simp [includeToks]
  rw [e] at hG
  obtain ⟨e4, _⟩ := hG.step.2.sp.sp.step
  simp [viewDirective, includeTree, e4, DirT.bytes]

theorem renderT_open (padding : Nat) (d a : List Tok) : renderT padding (.open d a) = datedToks d "open" ([tk 32] ++ a) := by
  have : lits " open " = tk 32 :: (lits "open" ++ [tk 32]) := by rw [lits_ofList, lits_ofList]; rfl
  simp [renderT, datedToks, this]
theorem renderT_close (padding : Nat) (d a : List Tok) : renderT padding (.close d a) = datedToks d "close" ([tk 32] ++ a) := by
  have : lits " close " = tk 32 :: (lits "close" ++ [tk 32]) := by rw [lits_ofList, lits_ofList]; rfl
  simp [renderT, datedToks, this]
theorem renderT_price (padding : Nat) (d c p t : List Tok) :
    renderT padding (.price d c p t) = datedToks d "price" ([tk 32] ++ priceToks c p t) := by
  have : lits " price " = tk 32 :: (lits "price" ++ [tk 32]) := by rw [lits_ofList, lits_ofList]; rfl
  simp [renderT, datedToks, priceToks, this]
theorem renderT_assert1 (padding : Nat) (d : List Tok) (b : BalanceT) :
    renderT padding (.assertion d [b]) = datedToks d "balance" ([tk 32] ++ renderBalanceT b) := by
  have : lits " balance " = tk 32 :: (lits "balance" ++ [tk 32]) := by rw [lits_ofList, lits_ofList]; rfl
  simp [renderT, datedToks, this]
theorem renderT_assertN (padding : Nat) (d : List Tok) (b1 b2 : BalanceT) (bs : List BalanceT) :
    renderT padding (.assertion d (b1 :: b2 :: bs)) = datedToks d "balance" ([] ++ tk 10 :: renderBalancesT (b1 :: b2 :: bs)) := by
  have : lits " balance" = tk 32 :: lits "balance" := by rw [lits_ofList, lits_ofList]; rfl
  simp [renderT, datedToks, this]
theorem renderT_include (padding : Nat) (p : List Tok) : renderT padding (.include p) = includeToks p := by
  have : lits "include \"" = lits "include" ++ [tk 32, tk 34] := by rw [lits_ofList, lits_ofList]; rfl
  simp [renderT, includeToks, this]

end Knut.Syntax
