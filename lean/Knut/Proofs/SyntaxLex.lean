import Knut.Proofs.SyntaxErr
/-!
# Scanner primitives, the converse of `Proofs/SyntaxScan.lean` (helper lemmas for C08)

On an input `c ++ r` of the right shape, with a suitable first token of `r`, the call succeeds, consumes exactly `c`, and
returns the range `[off, off + width c)`. This is the notion `Reads`; a parser body is gone through by `Reads.step`, one step
per call.
-/
namespace Knut.Syntax
open Knut.Utf8

theorem Valid.left {a b : List Tok} (h : Valid (a ++ b)) : Valid a := fun t ht => h t (List.mem_append_left _ ht)
theorem Valid.right {a b : List Tok} (h : Valid (a ++ b)) : Valid b := fun t ht => h t (List.mem_append_right _ ht)
theorem Valid.head {t : Tok} {c : List Tok} (h : Valid (t :: c)) : t.invalid = false := h t List.mem_cons_self
theorem Valid.tail {t : Tok} {c : List Tok} (h : Valid (t :: c)) : Valid c := fun x hx => h x (List.mem_cons_of_mem _ hx)
theorem Valid.headValid {c : List Tok} (h : Valid c) : HeadValid c := by
  intro t rest e; subst e; exact h.head
theorem All.nil {p : Nat → Bool} : All p [] := List.forall_mem_nil _
theorem All.append {p : Nat → Bool} {a b : List Tok} (h1 : All p a) (h2 : All p b) : All p (a ++ b) :=
  List.forall_mem_append.mpr ⟨h1, h2⟩

theorem HeadNot.nil {p : Nat → Bool} : HeadNot p [] := by intro t r h; cases h

theorem HeadValid.append {c r : List Tok} (hc : Valid c) (hr : HeadValid r) : HeadValid (c ++ r) := by
  cases c with
  | nil => simpa using hr
  | cons t ts => intro x rest e; simp only [List.cons_append, List.cons.injEq] at e; rw [← e.1]; exact hc.head

/-- completeness, one call at a time: on every input `c ++ r` whose rest satisfies `F`, `p` consumes exactly `c` and returns
`a off`; `Reads.step` takes a parser body through its calls in order -/
def Reads {α} (p : St → Res α) (c : List Tok) (F : List Tok → Prop) (a : Nat → α) : Prop :=
  ∀ off r, F r → p ⟨off, c ++ r⟩ = .ok (a off) ⟨off + wsum c, r⟩

theorem Reads.step {α β} {p : St → Res α} {c : List Tok} {F : List Tok → Prop} {a : Nat → α} (h : Reads p c F a)
    {off : Nat} {r : List Tok} (hF : F r) {e : Err → St → Err} {k : α → St → Res β} {res : Res β}
    (hk : k (a off) ⟨off + wsum c, r⟩ = res) : (p ⟨off, c ++ r⟩).bind e k = res := by
  rw [h off r hF]; exact hk

/-- a call whose result is known otherwise (a loop, a callee with its own lemma) -/
theorem Res.bind_of_eq {α β} {x : Res α} {a : α} {s' : St} (h : x = .ok a s') {e : Err → St → Err} {k : α → St → Res β}
    {res : Res β} (hk : k a s' = res) : x.bind e k = res := by
  rw [h]; exact hk

theorem advanceTok_complete (off : Nat) (t : Tok) (rest : List Tok) (h : HeadValid rest) :
    advanceTok off t rest = .ok () ⟨off + t.bytes.length, rest⟩ := by
  unfold advanceTok
  cases rest with
  | nil => rfl
  | cons u r =>
    have := h u r rfl
    simp [this]

theorem advance_complete (off : Nat) (t : Tok) (rest : List Tok) (h : HeadValid rest) :
    advance ⟨off, t :: rest⟩ = .ok () ⟨off + t.bytes.length, rest⟩ := by
  simp only [advance]
  exact advanceTok_complete off t rest h

theorem readWhileL_complete (p : Nat → Bool) (start off : Nat) (c r : List Tok)
    (hp : All p c) (hv : Valid c) (hr : HeadValid r) (hn : HeadNot p r) :
    readWhileL p start off (c ++ r) = .ok ⟨start, off + wsum c⟩ ⟨off + wsum c, r⟩ := by
  induction c generalizing off with
  | nil =>
    simp only [List.nil_append, wsum_nil, Nat.add_zero]
    cases r with
    | nil => rfl
    | cons t rest =>
      rw [readWhileL]
      simp [hn t rest rfl]
  | cons t ts ih =>
    simp only [List.cons_append]
    rw [readWhileL]
    have h1 : p t.r = true := hp t List.mem_cons_self
    simp only [h1, if_true]
    rw [advanceTok_complete off t (ts ++ r) (HeadValid.append hv.tail hr)]
    simp only
    rw [ih (off + t.bytes.length) (fun x hx => hp x (List.mem_cons_of_mem _ hx)) hv.tail]
    simp [Nat.add_assoc]

theorem readWhile_reads {p : Nat → Bool} {c : List Tok} (hp : All p c) (hv : Valid c) :
    Reads (readWhile p) c (fun r => HeadValid r ∧ HeadNot p r) (fun off => ⟨off, off + wsum c⟩) :=
  fun off r hr => readWhileL_complete p off off c r hp hv hr.1 hr.2

theorem readWhile1_reads (desc : String) {p : Nat → Bool} {c : List Tok} (hne : c ≠ []) (hp : All p c) (hv : Valid c) :
    Reads (readWhile1 desc p) c (fun r => HeadValid r ∧ HeadNot p r) (fun off => ⟨off, off + wsum c⟩) := by
  intro off r hr
  cases c with
  | nil => exact absurd rfl hne
  | cons t ts =>
    have h1 : p t.r = true := hp t List.mem_cons_self
    unfold readWhile1
    rw [List.cons_append, atEOF_cons, cur_cons, h1]
    simp only [Bool.false_eq_true, if_false, Bool.not_true]
    exact readWhileL_complete p off off (t :: ts) r hp hv hr.1 hr.2

theorem readCharacter_reads {x : Nat} {t : Tok} (ht : t.r = x) :
    Reads (readCharacter x) [t] HeadValid (fun off => ⟨off, off + t.bytes.length⟩) := by
  intro off r hr
  show readCharacter x ⟨off, t :: r⟩ = _
  unfold readCharacter
  rw [atEOF_cons, cur_cons, ht, advance_complete off t r hr]
  simp [rng]

theorem readCharacterWith_reads (desc : String) {p : Nat → Bool} {t : Tok} (ht : p t.r = true) :
    Reads (readCharacterWith desc p) [t] HeadValid (fun off => ⟨off, off + t.bytes.length⟩) := by
  intro off r hr
  show readCharacterWith desc p ⟨off, t :: r⟩ = _
  unfold readCharacterWith
  rw [atEOF_cons, cur_cons, ht, advance_complete off t r hr]
  simp [rng]

theorem readStringL_complete (str : String) (start off : Nat) (c r : List Tok)
    (hv : Valid c) (hr : HeadValid r) :
    readStringL str start (c.map (·.r)) ⟨off, c ++ r⟩ = .ok ⟨start, off + wsum c⟩ ⟨off + wsum c, r⟩ := by
  induction c generalizing off with
  | nil => simp [readStringL, rng]
  | cons t ts ih =>
    simp only [List.map_cons, List.cons_append, readStringL]
    rw [cur_cons, advance_complete off t (ts ++ r) (HeadValid.append hv.tail hr)]
    simp only [bne_self_eq_false, Bool.false_eq_true, if_false]
    rw [ih (off + t.bytes.length) hv.tail]
    simp [Nat.add_assoc]

theorem readString_reads {str : String} {c : List Tok} (hs : c.map (·.r) = runesOf str) (hv : Valid c) :
    Reads (readString str) c HeadValid (fun off => ⟨off, off + wsum c⟩) := by
  intro off r hr
  unfold readString
  rw [← hs]
  exact readStringL_complete str off off c r hv hr

theorem readString_err_of_not_prefix {str : String} {s : St} (h : ¬ runesOf str <+: s.toks.map (·.r)) :
    ∃ e s', readString str s = .err e s' := by
  cases hr : readString str s with
  | err e s' => exact ⟨e, s', rfl⟩
  | ok x s' =>
    obtain ⟨c, hc, hm, _⟩ := readString_ok hr
    exact absurd (by rw [hc.1, List.map_append, hm]; exact List.prefix_append _ _) h

theorem readAltL_complete (all : List String) {pre post : List String} {kw : String} {c : List Tok}
    (hpre : ∀ t ∈ pre, ¬ runesOf t <+: runesOf kw ∧ ¬ runesOf kw <+: runesOf t)
    (hc : c.map (·.r) = runesOf kw) (hv : Valid c) (off : Nat) (x : List Tok) (hx : HeadValid x) :
    readAltL all ⟨off, c ++ x⟩ (pre ++ kw :: post) = .ok (⟨off, off + wsum c⟩, kw) ⟨off + wsum c, x⟩ := by
  induction pre with
  | nil => simp only [List.nil_append, readAltL, readString_reads hc hv off x hx]
  | cons t ts ih =>
    -- `t` and `kw` both prefixes of the text would make one a prefix of the other
    obtain ⟨e, s', he⟩ := readString_err_of_not_prefix (str := t) (s := ⟨off, c ++ x⟩) (by
      intro hp
      have hk : runesOf kw <+: (c ++ x).map (·.r) := by rw [List.map_append, hc]; exact List.prefix_append _ _
      have := hpre t List.mem_cons_self
      exact (List.prefix_or_prefix_of_prefix hp hk).elim this.1 this.2)
    simp only [List.cons_append, readAltL, he]
    exact ih fun u hu => hpre u (List.mem_cons_of_mem _ hu)

/-- `ReadAlternative` returns the first alternative that matches. When no alternative is a prefix of another
one, that is the keyword standing in the text (as the tokens `c`), wherever it is in the list. -/
theorem readAlternative_reads {ss : List String}
    (hss : (ss.map runesOf).Pairwise fun a b => ¬ a <+: b ∧ ¬ b <+: a) (hne : ∀ t ∈ ss, t.toList ≠ [])
    {kw : String} (hk : kw ∈ ss) {c : List Tok} (hc : c.map (·.r) = runesOf kw) (hv : Valid c) :
    Reads (readAlternative ss) c HeadValid (fun off => (⟨off, off + wsum c⟩, kw)) := by
  intro off x hx
  have hE : atEOF ⟨off, c ++ x⟩ = false := by
    cases c with
    | nil => exact absurd (by simpa [runesOf] using hc.symm) (hne kw hk)
    | cons _ _ => rfl
  obtain ⟨pre, post, rfl⟩ := List.append_of_mem hk
  rw [List.map_append, List.pairwise_append] at hss
  unfold readAlternative
  simp only [hE, Bool.false_eq_true, if_false]
  exact readAltL_complete _ (fun t ht => hss.2.2 _ (List.mem_map_of_mem ht) _ (List.mem_map_of_mem List.mem_cons_self))
    hc hv off x hx

end Knut.Syntax
