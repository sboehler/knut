import Knut.Proofs.SyntaxDirSound
/-!
# Token-level rendering of a directive and its relation to `renderDir` (helper definitions for C08)
-/
namespace Knut.Syntax
open Knut.Utf8 Knut.Spec.Syntax

def spacesT (n : Nat) : List Tok := List.replicate n (tk 32)

theorem lit_ofList (l : List Char) : lit (String.ofList l) = l.map fun c => UInt8.ofNat c.toNat := by
  rw [lit, String.toList_ofList]

def joinCommaT : List (List Tok) → List Tok
  | [] => []
  | [a] => a
  | a :: b :: rest => a ++ tk 44 :: joinCommaT (b :: rest)

def renderAccrualT (a : AccrualT) : List Tok :=
  lits "@accrue" ++ tk 32 :: a.interval ++ tk 32 :: a.start ++ tk 32 :: a.stop ++ tk 32 :: a.account ++ [tk 10]

def renderPerformanceT (ts : List (List Tok)) : List Tok := lits "@performance" ++ tk 40 :: joinCommaT ts ++ [tk 41, tk 10]

/-- one booking line without its line break: `%s %s %10s %s`, the accounts padded by `padRight` -/
def renderBookingT (padding : Nat) (b : BookingT) : List Tok :=
  b.credit ++ spacesT (padding - b.credit.length + 1) ++ b.debit ++ spacesT (padding - b.debit.length + 1) ++
    spacesT (10 - b.quantity.length) ++ b.quantity ++ tk 32 :: b.commodity

def renderBalanceT (b : BalanceT) : List Tok := b.account ++ tk 32 :: b.quantity ++ tk 32 :: b.commodity

def renderBookingsT (padding : Nat) : List BookingT → List Tok
  | [] => []
  | b :: bs => renderBookingT padding b ++ tk 10 :: renderBookingsT padding bs

def renderBalancesT : List BalanceT → List Tok
  | [] => []
  | b :: bs => renderBalanceT b ++ tk 10 :: renderBalancesT bs

def renderT (padding : Nat) : DirT → List Tok
  | .transaction accr perf date desc bs =>
    (match accr with | some a => renderAccrualT a | none => []) ++
    (match perf with | some ts => renderPerformanceT ts | none => []) ++
    date ++ tk 32 :: tk 34 :: desc ++ tk 34 :: tk 10 :: renderBookingsT padding bs
  | .open d a => d ++ lits " open " ++ a
  | .close d a => d ++ lits " close " ++ a
  | .price d c p t => d ++ lits " price " ++ c ++ tk 32 :: p ++ tk 32 :: t
  | .include p => lits "include \"" ++ p ++ [tk 34]
  | .assertion d bs =>
    match bs with
    | [b] => d ++ lits " balance " ++ renderBalanceT b
    | bs => d ++ lits " balance" ++ tk 10 :: renderBalancesT bs

theorem flat_tk (r : Nat) : flat [tk r] = [UInt8.ofNat r] := by simp [tk]

theorem flat_lits (s : String) : flat (lits s) = lit s := by
  unfold lits lit
  induction s.toList with
  | nil => rfl
  | cons c cs ih =>
    simp only [List.map_cons, flat_cons, ih]
    simp [tk]

theorem flat_spacesT (n : Nat) : flat (spacesT n) = spaces n := by
  unfold spacesT spaces
  induction n with
  | zero => rfl
  | succ n ih =>
    simp only [List.replicate_succ, flat_cons, ih]
    simp [tk]

theorem spaces_add (a b : Nat) : spaces (a + b) = spaces a ++ spaces b := by
  simp [spaces, List.replicate_append_replicate]

theorem runeCount_flat {c : List Tok} (h : Canon c) : runeCount (flat c) = c.length := by
  simp [runeCount, decodeAll_flat c h]

theorem lit_space : lit " " = [32] := by decide
theorem lit_nl : lit "\n" = [10] := by decide
theorem lit_comma : lit "," = [44] := by decide

theorem flat_joinCommaT (ts : List (List Tok)) : flat (joinCommaT ts) = joinComma (ts.map flat) := by
  match ts with
  | [] => rfl
  | [a] => simp [joinCommaT, joinComma]
  | a :: b :: rest =>
    have ih := flat_joinCommaT (b :: rest)
    simp only [joinCommaT, flat_append, flat_cons, List.map_cons, joinComma, lit_comma] at ih ⊢
    rw [ih]
    simp [tk]

theorem flat_renderBookingT (padding : Nat) (b : BookingT) (h1 : Canon b.credit) (h2 : Canon b.debit) (h3 : Canon b.quantity) :
    flat (renderBookingT padding b ++ [tk 10]) = renderBooking padding b.bytes := by
  simp only [renderBookingT, renderBooking, BookingT.bytes, padRight, padLeft, runeCount_flat h1, runeCount_flat h2,
    runeCount_flat h3, flat_append, flat_cons, flat_spacesT, spaces_add, lit_space, lit_nl, flat_nil]
  simp [tk, spaces]

end Knut.Syntax
