import Knut.Proofs.SyntaxItems
import Knut.Proofs.SyntaxDirComplete
/-!
# The whole file once more: the main loop on the formatted text (C08 round trip)

`Proofs/SyntaxItems` says what a run of the main loop over a text is (a list of items); here the loop is run again on the
rendering of such a run, item by item, with `parseDirective_complete` for the directives.
-/
namespace Knut.Syntax
open Knut.Utf8 Knut.Spec.Syntax

/-- the rest of a line and what follows, for the replay: the state after the item proper is `⟨o, w ++ nl ++ X⟩` -/
theorem rest_replay (path : String) (start : Nat) (acc : List Directive) (o : Nat) (w nl X : List Tok)
    (pw : All isWhitespace w) (onl : NlOK nl) (vr : Valid (w ++ nl)) (hX : HeadValid X) (hlast : nl = [] → X = []) :
    (if atEOF ⟨o, w ++ (nl ++ X)⟩ then Res.ok ⟨rng start ⟨o, w ++ (nl ++ X)⟩, acc.reverse⟩ ⟨o, w ++ (nl ++ X)⟩
     else (readRestOfWhitespaceLine ⟨o, w ++ (nl ++ X)⟩).bind (annotate (fileDesc path) start) fun _ s2 =>
       fileLoop path start acc s2) = fileLoop path start acc ⟨o + wsum (w ++ nl), X⟩ := by
  rcases onl with rfl | ⟨t, rfl, ht⟩
  · have hx := hlast rfl
    subst hx
    simp only [List.append_nil]
    cases w with
    | nil =>
      simp only [atEOF, List.isEmpty_nil, if_true, wsum_nil, Nat.add_zero]
      rw [fileLoop_eq]
      simp [atEOF]
    | cons a as =>
      have : atEOF ⟨o, a :: as⟩ = false := rfl
      rw [this]
      simp only [Bool.false_eq_true, if_false]
      have := eof_reads (w := a :: as) ⟨pw, by simpa using vr⟩ o [] rfl
      rw [List.append_nil] at this
      rw [this]
      simp only [Res.bind]
  · have hE : atEOF ⟨o, w ++ ([t] ++ X)⟩ = false := by
      cases w <;> rfl
    rw [hE]
    simp only [Bool.false_eq_true, if_false, List.singleton_append]
    have := eol_reads ⟨pw, vr.left⟩ ht vr.right.head o X hX
    rw [List.append_assoc, List.singleton_append] at this
    rw [this]
    simp only [Res.bind, wsum_append, wsum_cons, wsum_nil, Nat.add_zero]

theorem gapStart_of_rest (w nl X : List Tok) (pw : All isWhitespace w) (onl : NlOK nl) (vr : Valid (w ++ nl))
    (hlast : nl = [] → X = []) : GapStart (w ++ (nl ++ X)) := by
  cases w with
  | cons a as =>
    right
    refine ⟨a, as ++ (nl ++ X), rfl, ?_, vr.head⟩
    have := pw a List.mem_cons_self
    simp [isWhitespaceOrNewline, this]
  | nil =>
    rcases onl with rfl | ⟨t, rfl, ht⟩
    · left; simp [hlast rfl]
    · right
      exact ⟨t, X, rfl, by rw [ht]; decide, by simpa using vr.head⟩

/-- replaying the main loop on the rendering of any well-formed run: item by item, `fileItem_blank`/`fileItem_comment`/
`fileItem_dir` give the round's first half and `rest_replay` the rest of the line -/
theorem fileLoop_replayR (padding : Nat) (path : String) (items : List Item)
    (hok : ItemsR items) (start2 : Nat) (acc2 : List Directive) (o2 : Nat) :
    ∃ items2 f2 s2', Rendered padding items items2 ∧
      fileLoop path start2 acc2 ⟨o2, outToks padding items⟩ = .ok f2 s2' ∧
      f2.directives = acc2.reverse ++ dirsOf items2 ∧
      ∀ text2, Good text2 ⟨o2, outToks padding items⟩ → ItemsOK text2 o2 items2 := by
  induction items generalizing acc2 o2 with
  | nil =>
    refine ⟨[], ⟨rng start2 ⟨o2, []⟩, acc2.reverse⟩, ⟨o2, []⟩, Rendered.nil, ?_, by simp [dirsOf], fun _ _ => by unfold ItemsOK; trivial⟩
    rw [fileLoop_eq]
    simp [outToks, atEOF]
  | cons i rest ih =>
    cases i with
    | gap c w nl =>
      unfold ItemsR at hok
      obtain ⟨hc, hcw, pw, onl, vall, call, hne, hlast, hrest⟩ := hok
      have hXv : HeadValid (outToks padding rest) := outToks_headValidR padding hrest
      have hlastX : nl = [] → outToks padding rest = [] := fun e => by rw [hlast e]; rfl
      obtain ⟨items2, f2, s2', hr, hrun, hdirs, hview⟩ := ih hrest acc2 (o2 + wsum c + wsum (w ++ nl))
      refine ⟨.gap c w nl :: items2, f2, s2', Rendered.gap c w nl hr, ?_, by simpa [dirsOf] using hdirs, ?_⟩
      · -- the run: a gap is printed as it stands, so the loop reads `c`, then `w ++ nl`, then goes on as in `hrun`
        have e : outToks padding (.gap c w nl :: rest) = c ++ (w ++ (nl ++ outToks padding rest)) := by
          simp [outToks, Item.out]
        rw [e, fileLoop_eq]
        have hE : atEOF ⟨o2, c ++ (w ++ (nl ++ outToks padding rest))⟩ = false := by
          cases hcc : c ++ (w ++ nl) with
          | nil => exact absurd hcc hne
          | cons t ts =>
            have : c ++ (w ++ (nl ++ outToks padding rest)) = t :: (ts ++ outToks padding rest) := by
              have := congrArg (· ++ outToks padding rest) hcc
              simpa using this
            rw [this]; rfl
        rw [hE]
        simp only [Bool.false_eq_true, if_false]
        rcases hc with hc | hc
        · subst hc
          have hfirst : ∃ t x, w ++ (nl ++ outToks padding rest) = t :: x ∧ isWhitespaceOrNewline t.r = true := by
            cases w with
            | cons a as =>
              exact ⟨a, _, rfl, by have := pw a List.mem_cons_self; simp [isWhitespaceOrNewline, this]⟩
            | nil =>
              rcases onl with rfl | ⟨t, rfl, ht⟩
              · exact absurd rfl hne
              · exact ⟨t, _, rfl, by rw [ht]; decide⟩
          obtain ⟨t, x, ex, ht⟩ := hfirst
          simp only [List.nil_append]
          rw [ex, fileItem_blank o2 t x ht, ← ex]
          simp only [Res.bind_ok, pushOpt]
          rw [rest_replay path start2 acc2 o2 w nl _ pw onl (by simpa using vall) hXv hlastX]
          simpa using hrun
        · have hw := hcw (hc.first 0 []).2
          subst hw
          simp only [List.nil_append] at vall ⊢
          have hn : HeadNot (fun r => !isNewlineOrEOF r) (nl ++ outToks padding rest) := by
            rcases onl with rfl | ⟨t, rfl, ht⟩
            · rw [hlastX rfl]; exact HeadNot.nil
            · exact HeadNot.cons (by rw [ht]; decide)
          have hvx : HeadValid (nl ++ outToks padding rest) := HeadValid.append vall.right hXv
          rw [fileItem_comment hc vall.left o2 _ hvx hn]
          simp only [Res.bind_ok, pushOpt]
          have := rest_replay path start2 acc2 (o2 + wsum c) [] nl _ All.nil onl (by simpa using vall.right) hXv hlastX
          simp only [List.nil_append] at this
          rw [this]
          simpa using hrun
      · -- the items describe that run over any text whose tokens these are
        intro text2 hG
        have e : outToks padding (.gap c w nl :: rest) = (c ++ (w ++ nl)) ++ outToks padding rest := by
          simp [outToks, Item.out]
        rw [e] at hG
        have G2 := hG.step.2
        unfold ItemsOK
        refine ⟨hc, hcw, pw, onl, vall, call, hne, ?_, ?_⟩
        · intro e2
          have := hlast e2
          subst this
          cases hr
          rfl
        · have := hview text2 (by simpa [wsum_append, Nat.add_assoc] using G2)
          simpa [wsum_append, Nat.add_assoc] using this
    | dir D d v w nl =>
      unfold ItemsR at hok
      obtain ⟨vok, vcan, pw, onl, vr, cr, hlast, hrest⟩ := hok
      have hXv : HeadValid (outToks padding rest) := outToks_headValidR padding hrest
      have hlastX : nl = [] → outToks padding rest = [] := fun e => by rw [hlast e]; rfl
      -- the rendering of `v` parses back to a directive `d2` with the same view, whatever gap follows
      have hgap := gapStart_of_rest w nl (outToks padding rest) pw onl vr hlastX
      obtain ⟨d2, off', hparse, hview2⟩ := parseDirective_complete padding v vok vcan o2 (w ++ (nl ++ outToks padding rest)) hgap
      have hoff : off' = o2 + wsum (renderT padding v) := by
        obtain ⟨cc, hc1, hc2⟩ := ext_of_ok (parseDirective_prog _).ext hparse
        simp only at hc1 hc2
        have := List.append_cancel_right hc1
        rw [hc2, ← this]
      subst hoff
      obtain ⟨items2, f2, s2', hr, hrun, hdirs, hview⟩ := ih hrest (d2 :: acc2) (o2 + wsum (renderT padding v) + wsum (w ++ nl))
      obtain ⟨t, rt, ert, hds⟩ := renderT_first padding v vok
      refine ⟨.dir (renderT padding v) d2 v w nl :: items2, f2, s2', Rendered.dir D d v w nl d2 hr, ?_,
        by rw [hdirs]; simp [dirsOf], ?_⟩
      · -- the run: the rendering starts a directive (`renderT_first`), `parseDirective` consumes exactly it
        have e : outToks padding (.dir D d v w nl :: rest) = renderT padding v ++ (w ++ (nl ++ outToks padding rest)) := by
          simp [outToks, Item.out]
        rw [e, fileLoop_eq]
        have hE : atEOF ⟨o2, renderT padding v ++ (w ++ (nl ++ outToks padding rest))⟩ = false := by rw [ert]; rfl
        rw [hE]
        simp only [Bool.false_eq_true, if_false]
        have hfi : fileItem ⟨o2, renderT padding v ++ (w ++ (nl ++ outToks padding rest))⟩ =
            .ok (some d2) ⟨o2 + wsum (renderT padding v), w ++ (nl ++ outToks padding rest)⟩ := by
          have := fileItem_dir o2 t (rt ++ (w ++ (nl ++ outToks padding rest))) hds
          rw [ert] at hparse ⊢
          simp only [List.cons_append] at hparse ⊢
          rw [this, hparse]
          rfl
        rw [hfi]
        simp only [Res.bind_ok, pushOpt]
        rw [rest_replay path start2 (d2 :: acc2) _ w nl _ pw onl vr hXv hlastX]
        exact hrun
      · intro text2 hG
        have e : outToks padding (.dir D d v w nl :: rest) = renderT padding v ++ ((w ++ nl) ++ outToks padding rest) := by
          simp [outToks, Item.out]
        have hG' := hG
        rw [e] at hG'
        have G1 := hG'.step.2
        have G2 := G1.step.2
        unfold ItemsOK
        have e2 : outToks padding (.dir D d v w nl :: rest) = renderT padding v ++ (w ++ (nl ++ outToks padding rest)) := by
          simp [outToks, Item.out]
        refine ⟨?_, by rw [ert]; simp, vok, vcan, hview2 text2 (by rw [← e2]; exact hG), pw, onl, vr, cr, ?_, hview text2 G2⟩
        · have := ((parseDirective_runs _).val hparse).1
          simpa using this
        · intro e3
          have := hlast e3
          subst this
          cases hr
          rfl

theorem fileLoop_replay (padding : Nat) (path : String) (text : Bytes) (items : List Item) (off : Nat)
    (hok : ItemsOK text off items) (start2 : Nat) (acc2 : List Directive) (o2 : Nat) :
    ∃ items2 f2 s2', Rendered padding items items2 ∧
      fileLoop path start2 acc2 ⟨o2, outToks padding items⟩ = .ok f2 s2' ∧
      f2.directives = acc2.reverse ++ dirsOf items2 ∧
      ∀ text2, Good text2 ⟨o2, outToks padding items⟩ → ItemsOK text2 o2 items2 :=
  fileLoop_replayR padding path items hok.toR start2 acc2 o2

/-- **the rendering of a well-formed run parses back**, to directives with the views and the gaps of the run; and the
formatter leaves it as it is when the padding is the one its views ask for -/
theorem rendered_parses (padding : Nat) (path : String) (items : List Item) (hR : ItemsR items) :
    ∃ f, parseText path (flat (outToks padding items)) = .ok f ∧
      f.directives.mapM (viewDirective (flat (outToks padding items))) = some ((viewsOf items).map DirT.bytes) ∧
      gapsOf (flat (outToks padding items)) 0 (f.directives.map (·.range)) = gapBytes [] items ∧
      (padOf ((viewsOf items).map DirT.bytes) = padding →
        format (flat (outToks padding items)) f = some (flat (outToks padding items))) := by
  have hdec : decodeAll (flat (outToks padding items)) = outToks padding items :=
    decodeAll_flat _ (items_canonR padding hR)
  obtain ⟨items2, f, s2', hr, hrun, hdirs, hitems2⟩ := fileLoop_replayR padding path items hR 0 [] 0
  obtain ⟨r1, r2, r3, r4⟩ := hr.facts
  have hG0 : Good (flat (outToks padding items)) ⟨0, outToks padding items⟩ := by
    have := good_start (flat (outToks padding items))
    rwa [hdec] at this
  have hG : Good (flat (outToks padding items)) ⟨0, origToks items2⟩ := by rw [r1]; exact hG0
  have hdirs : f.directives = dirsOf items2 := by simpa using hdirs
  have i3 := hitems2 _ hG0
  obtain ⟨hfmt, hgaps⟩ := items_format (padding := padding) hG i3 0 (Nat.le_refl _)
  simp only [slice_self, List.nil_append] at hfmt hgaps
  refine ⟨f, parseText_eq_ok.mpr (by rw [hdec]; exact ⟨outToks_headValidR padding hR, _, hrun⟩),
    by rw [hdirs, items_views i3, r3], by rw [hdirs, hgaps, r4], fun hpad => ?_⟩
  simp only [format, hdirs, items_padding i3, r3, hpad, Option.bind_eq_bind, Option.bind_some]
  rw [hfmt, r2]

/-- the print-then-parse round trip: formatting a file that parses never hits a slice bound; the result parses
again to directives with exactly the same fields; the text between the directives is the same; and formatting
the result once more reproduces it. -/
theorem roundtrip {path : String} {text : Bytes} {f : File} (h : parseText path text = .ok f) :
    ∃ out f2, format text f = some out ∧ parseText path out = .ok f2 ∧
      f2.directives.mapM (viewDirective out) = f.directives.mapM (viewDirective text) ∧
      (f.directives.mapM (viewDirective text)).isSome = true ∧
      gapsOf out 0 (f2.directives.map (·.range)) = gapsOf text 0 (f.directives.map (·.range)) ∧
      format out f2 = some out := by
  obtain ⟨items, _, i2, i3, hformat, hgaps⟩ := parse_format h
  obtain ⟨f2, hp2, hv2, hg2, hf2⟩ := rendered_parses (padOf ((viewsOf items).map DirT.bytes)) path items i3.toR
  exact ⟨_, f2, hformat, hp2, by rw [hv2, i2, items_views i3], by rw [i2, items_views i3]; rfl, by rw [hg2, i2, hgaps], hf2 rfl⟩

end Knut.Syntax
