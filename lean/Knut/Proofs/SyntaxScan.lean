import Knut.Syntax.Parser
import Knut.Proofs.ScannerEquations
/-!
# What the scanner primitives consume (helper lemmas for C07/C08)

For each primitive: if it succeeds, which tokens it passed (`Pass s c s'`: consumed, and all validly encoded if the current
token was; closed under sequencing, so a parser body is one chain of `Pass.trans`), what is known about them, the range it
returns, and where it stopped. The last section gives the successful runs of the two line loops as chains (`Lines`) and the
ways `parseTransaction` and `parseAssertion` succeed.
-/
namespace Knut.Syntax
open Knut.Utf8

def StopsAt (p : Nat → Bool) (s : St) : Prop := ∀ t rest, s.toks = t :: rest → p t.r = false

def Valid (c : List Tok) : Prop := ∀ t ∈ c, t.invalid = false
/-- the first token, if any, validly encoded (`Advance` onto it does not fail) -/
def HeadValid (r : List Tok) : Prop := ∀ t rest, r = t :: rest → t.invalid = false

/-- tokens of an ASCII literal -/
def lits (s : String) : List Tok := s.toList.map (fun c => tk c.toNat)

/-- For the kernel a string literal is `String.ofList` of its characters, whereas `String.toList` of a literal
decodes its UTF-8 bytes again: evaluations on the tokens or bytes of a keyword first rewrite with these equations. -/
theorem lits_ofList (l : List Char) : lits (String.ofList l) = l.map fun c => tk c.toNat := by
  rw [lits, String.toList_ofList]

theorem Valid.nil : Valid [] := List.forall_mem_nil _
theorem Valid.cons {t : Tok} {c : List Tok} (h1 : t.invalid = false) (h2 : Valid c) : Valid (t :: c) :=
  List.forall_mem_cons.mpr ⟨h1, h2⟩
theorem HeadValid.nil : HeadValid [] := by intro t r h; cases h

theorem HeadValid.cons {t : Tok} {r : List Tok} (h : t.invalid = false) : HeadValid (t :: r) := by
  intro x rest e; simp only [List.cons.injEq] at e; rw [← e.1]; exact h

theorem advanceTok_ok {off : Nat} {t : Tok} {rest : List Tok} {u : Unit} {s' : St}
    (h : advanceTok off t rest = .ok u s') : s' = ⟨off + t.bytes.length, rest⟩ := by
  have := advanceTok_st off t rest
  rw [h] at this
  exact this

theorem advanceTok_ok_valid {off : Nat} {t : Tok} {rest : List Tok} {u : Unit} {s' : St}
    (h : advanceTok off t rest = .ok u s') : HeadValid rest := by
  unfold advanceTok at h
  cases rest with
  | nil => exact HeadValid.nil
  | cons x r =>
    simp only at h
    split at h
    · cases h
    · rename_i hx
      intro t' r' e
      simp only [List.cons.injEq] at e
      rw [← e.1]
      simpa using hx

def HeadNot (p : Nat → Bool) (r : List Tok) : Prop := ∀ t rest, r = t :: rest → p t.r = false
def All (p : Nat → Bool) (c : List Tok) : Prop := ∀ t ∈ c, p t.r = true

theorem Valid.append {a b : List Tok} (h1 : Valid a) (h2 : Valid b) : Valid (a ++ b) := List.forall_mem_append.mpr ⟨h1, h2⟩

theorem Consumed.ext {s : St} {c : List Tok} {s' : St} (h : Consumed s c s') : Ext s s' := ⟨c, h⟩

theorem Consumed.trans {a b d : St} {c1 c2 : List Tok} (h1 : Consumed a c1 b) (h2 : Consumed b c2 d) :
    Consumed a (c1 ++ c2) d := by
  obtain ⟨a1, a2⟩ := h1
  obtain ⟨b1, b2⟩ := h2
  exact ⟨by simp [a1, b1], by simp [a2, b2]; omega⟩

theorem Consumed.refl (s : St) : Consumed s [] s := by simp [Consumed]

/-- a successful call passed the tokens `c`; if `Advance` onto the first did not fail, none of them is invalidly encoded
and `Advance` onto the next did not fail either -/
structure Pass (s : St) (c : List Tok) (s' : St) : Prop where
  consumed : Consumed s c s'
  valid : HeadValid s.toks → Valid c ∧ HeadValid s'.toks

theorem Pass.refl (s : St) : Pass s [] s := ⟨Consumed.refl s, fun hv => ⟨Valid.nil, hv⟩⟩

theorem Pass.trans {s s1 s2 : St} {c1 c2 : List Tok} (h1 : Pass s c1 s1) (h2 : Pass s1 c2 s2) : Pass s (c1 ++ c2) s2 :=
  ⟨h1.consumed.trans h2.consumed, fun hv =>
    ⟨(h1.valid hv).1.append (h2.valid (h1.valid hv).2).1, (h2.valid (h1.valid hv).2).2⟩⟩

theorem Pass.one {s s' : St} {t : Tok} (k : Consumed s [t] s') (v : HeadValid s'.toks) : Pass s [t] s' :=
  ⟨k, fun hv => ⟨Valid.cons (hv t _ k.1) Valid.nil, v⟩⟩

theorem readWhileL_ok (p : Nat → Bool) (start off : Nat) (toks : List Tok) (r : Range) (s' : St)
    (h : readWhileL p start off toks = .ok r s') :
    ∃ c, toks = c ++ s'.toks ∧ s'.off = off + wsum c ∧ (∀ t ∈ c, p t.r = true) ∧ r = ⟨start, s'.off⟩ ∧ StopsAt p s' ∧
      (HeadValid toks → Valid c ∧ HeadValid s'.toks) := by
  induction toks generalizing off with
  | nil =>
    simp only [readWhileL] at h
    injection h with h1 h2
    subst h1 h2
    exact ⟨[], by simp, by simp, by simp, rfl, by intro t rest h; simp at h, fun _ => ⟨Valid.nil, HeadValid.nil⟩⟩
  | cons t rest ih =>
    rw [readWhileL] at h
    split at h
    · rename_i hp
      split at h
      · rename_i u s1 ha
        obtain ⟨c, h1, h2, h3, h4, h5, h6⟩ := ih _ h
        have hr := h6 (advanceTok_ok_valid ha)
        exact ⟨t :: c, by simp [h1], by simp [h2]; omega, List.forall_mem_cons.mpr ⟨hp, h3⟩, h4, h5,
          fun hv => ⟨Valid.cons (hv t rest rfl) hr.1, hr.2⟩⟩
      · cases h
    · rename_i hp
      injection h with h1 h2
      subst h1 h2
      refine ⟨[], by simp, by simp, by simp, rfl, ?_, fun hv => ⟨Valid.nil, hv⟩⟩
      intro t' rest' heq
      simp only [List.cons.injEq] at heq
      rw [← heq.1]
      simpa using hp

theorem readWhile_pass {p : Nat → Bool} {s : St} {r : Range} {s' : St} (h : readWhile p s = .ok r s') :
    ∃ c, Pass s c s' ∧ All p c ∧ r = ⟨s.off, s'.off⟩ ∧ HeadNot p s'.toks := by
  obtain ⟨c, h1, h2, h3, h4, h5, h6⟩ := readWhileL_ok p s.off s.off s.toks r s' h
  exact ⟨c, ⟨⟨h1, h2⟩, h6⟩, h3, h4, h5⟩

theorem readWhile1_pass {desc : String} {p : Nat → Bool} {s : St} {r : Range} {s' : St}
    (h : readWhile1 desc p s = .ok r s') :
    ∃ c, c ≠ [] ∧ Pass s c s' ∧ All p c ∧ r = ⟨s.off, s'.off⟩ ∧ HeadNot p s'.toks := by
  have hS := readWhile1_extS desc p s s' r h
  unfold readWhile1 at h
  split at h
  · cases h
  · split at h
    · cases h
    · obtain ⟨c, h1, h2, h3, h4, h5, h6⟩ := readWhileL_ok p s.off s.off s.toks r s' h
      refine ⟨c, ?_, ⟨⟨h1, h2⟩, h6⟩, h3, h4, h5⟩
      intro hc
      subst hc
      have := hS.length_lt
      simp only [List.nil_append] at h1
      rw [h1] at this
      omega

theorem readWhile1_ok {desc : String} {p : Nat → Bool} {s : St} {r : Range} {s' : St}
    (h : readWhile1 desc p s = .ok r s') :
    ∃ c, c ≠ [] ∧ Consumed s c s' ∧ (∀ t ∈ c, p t.r = true) ∧ r = ⟨s.off, s'.off⟩ ∧ StopsAt p s' := by
  obtain ⟨c, h1, h2, h3, h4, h5⟩ := readWhile1_pass h
  exact ⟨c, h1, h2.consumed, h3, h4, h5⟩

theorem advance_ok {s : St} {u : Unit} {s' : St} (h : advance s = .ok u s') :
    ∃ t, Consumed s [t] s' ∧ HeadValid s'.toks := by
  unfold advance at h
  split at h
  · cases h
  · rename_i t rest heq
    have := advanceTok_ok h
    subst this
    exact ⟨t, by simp [Consumed, heq], advanceTok_ok_valid h⟩

theorem readCharacter_pass {r : Nat} {s : St} {x : Range} {s' : St} (h : readCharacter r s = .ok x s') :
    ∃ t, Pass s [t] s' ∧ t.r = r := by
  unfold readCharacter at h
  split at h
  · cases h
  · split at h
    · cases h
    · rename_i hE hc
      split at h
      · rename_i u s1 ha
        injection h with h1 h2
        subst h2
        obtain ⟨t, ht, hv⟩ := advance_ok ha
        refine ⟨t, .one ht hv, ?_⟩
        have := cur_of_consumed ht
        simp only [bne_iff_ne, ne_eq, Decidable.not_not] at hc
        omega
      · cases h

theorem readCharacterWith_pass {desc : String} {p : Nat → Bool} {s : St} {x : Range} {s' : St}
    (h : readCharacterWith desc p s = .ok x s') : ∃ t, Pass s [t] s' ∧ p t.r = true := by
  unfold readCharacterWith at h
  split at h
  · cases h
  · split at h
    · cases h
    · rename_i hE hc
      split at h
      · rename_i u s1 ha
        injection h with h1 h2
        subst h2
        obtain ⟨t, ht, hv⟩ := advance_ok ha
        refine ⟨t, .one ht hv, ?_⟩
        have := cur_of_consumed ht
        rw [this] at hc
        simpa using hc
      · cases h

theorem readStringL_ok (str : String) (start : Nat) (chs : List Nat) (s : St) (x : Range) (s' : St)
    (h : readStringL str start chs s = .ok x s') :
    ∃ c, Consumed s c s' ∧ c.map (·.r) = chs ∧ x = ⟨start, s'.off⟩ ∧ (HeadValid s.toks → Valid c ∧ HeadValid s'.toks) := by
  induction chs generalizing s with
  | nil =>
    simp only [readStringL] at h
    injection h with h1 h2
    subst h2
    exact ⟨[], by simp [Consumed], rfl, by rw [← h1]; rfl, fun hv => ⟨Valid.nil, hv⟩⟩
  | cons ch chs ih =>
    simp only [readStringL] at h
    split at h
    · cases h
    · rename_i hc
      split at h
      · rename_i u s1 ha
        obtain ⟨t, ht, hv1⟩ := advance_ok ha
        obtain ⟨c, hc1, hc2, hc3, hc4⟩ := ih s1 h
        have hr := hc4 hv1
        refine ⟨t :: c, ?_, ?_, hc3, fun hv => ⟨Valid.cons (hv t _ ht.1) hr.1, hr.2⟩⟩
        · obtain ⟨a1, a2⟩ := ht
          obtain ⟨b1, b2⟩ := hc1
          exact ⟨by simp [a1, b1], by simp [a2, b2]; omega⟩
        · have := cur_of_consumed ht
          simp only [bne_iff_ne, ne_eq, Decidable.not_not] at hc
          simp [hc2, hc, this]
      · cases h

theorem readString_pass {str : String} {s : St} {x : Range} {s' : St} (h : readString str s = .ok x s') :
    ∃ c, Pass s c s' ∧ c.map (·.r) = runesOf str ∧ x = ⟨s.off, s'.off⟩ := by
  obtain ⟨c, h1, h2, h3, h4⟩ := readStringL_ok str s.off (runesOf str) s x s' h
  exact ⟨c, ⟨h1, h4⟩, h2, h3⟩

theorem readString_ok {str : String} {s : St} {x : Range} {s' : St} (h : readString str s = .ok x s') :
    ∃ c, Consumed s c s' ∧ c.map (·.r) = runesOf str ∧ x = ⟨s.off, s'.off⟩ := by
  obtain ⟨c, h1, h2, h3⟩ := readString_pass h
  exact ⟨c, h1.consumed, h2, h3⟩

theorem readAlternative_pass {ss : List String} {s : St} {x : Range} {t : String} {s' : St}
    (h : readAlternative ss s = .ok (x, t) s') :
    t ∈ ss ∧ ∃ c, Pass s c s' ∧ c.map (·.r) = runesOf t ∧ x = ⟨s.off, s'.off⟩ := by
  have ⟨hm, hr⟩ := readAlternative_ok ss s x t s' h
  exact ⟨hm, readString_pass hr⟩

/-! ### The two line loops as chains

`bookingsLoop` and `balancesLoop` are one loop over two element parsers. A successful run is a chain of elements,
each followed by the rest of its line; what the callers prove about the parsed list goes by induction on the chain,
with no accumulator. -/

inductive Lines {α} (elem : St → Res α) : St → List α → St → Prop
  | last {s s1 s2 : St} {b : α} {x : Range} : elem s = .ok b s1 → readRestOfWhitespaceLine s1 = .ok x s2 →
      Lines elem s [b] s2
  | cons {s s1 s2 s' : St} {b : α} {x : Range} {bs : List α} : elem s = .ok b s1 →
      readRestOfWhitespaceLine s1 = .ok x s2 → Lines elem s2 bs s' → Lines elem s (b :: bs) s'

/-- for `bookingsLoop` and `balancesLoop`, by their unfolding equation -/
theorem lines_of_loop {α} {elem : St → Res α} {desc : String} {L : Nat → List α → St → Res (List α)}
    (hL : ∀ start acc s, L start acc s = (elem s).bind (annotate desc start) fun b s1 =>
      (readRestOfWhitespaceLine s1).bind (annotate desc start) fun _ s2 =>
      if isWhitespaceOrNewline (cur s2) || atEOF s2 then .ok (b :: acc).reverse s2 else L start (b :: acc) s2)
    (hp : ∀ s, Prog s (elem s)) {start : Nat} {out : List α} {s' : St} :
    ∀ {acc : List α} {s : St}, L start acc s = .ok out s' → ∃ bs, out = acc.reverse ++ bs ∧ Lines elem s bs s' := by
  suffices ∀ n acc s, s.toks.length = n → L start acc s = .ok out s' → ∃ bs, out = acc.reverse ++ bs ∧ Lines elem s bs s' from
    @fun acc s h => this _ acc s rfl h
  intro n
  induction n using Nat.strongRecOn with
  | ind n ih =>
    intro acc s hn h
    rw [hL] at h
    obtain ⟨b, s1, h1, h⟩ := Res.bind_eq_ok.mp h
    obtain ⟨x, s2, h2, h⟩ := Res.bind_eq_ok.mp h
    by_cases hc : (isWhitespaceOrNewline (cur s2) || atEOF s2) = true
    · rw [if_pos hc] at h
      cases h
      exact ⟨[b], by simp, .last h1 h2⟩
    · rw [if_neg hc] at h
      have hlt := (((hp s).of_ok h1).trans_ext (ext_of_ok (readRestOfWhitespaceLine_ext _) h2)).length_lt
      obtain ⟨bs, e, r⟩ := ih _ (hn ▸ hlt) (b :: acc) s2 rfl h
      exact ⟨b :: bs, by simp [e], .cons h1 h2 r⟩

theorem bookingsLoop_lines {start : Nat} {bs : List Booking} {s s' : St} (h : bookingsLoop start [] s = .ok bs s') :
    Lines parseBooking s bs s' := by
  obtain ⟨_, rfl, r⟩ := lines_of_loop bookingsLoop_eq parseBooking_prog h
  exact r

theorem balancesLoop_lines {start : Nat} {bs : List Balance} {s s' : St} (h : balancesLoop start [] s = .ok bs s') :
    Lines parseBalance s bs s' := by
  obtain ⟨_, rfl, r⟩ := lines_of_loop balancesLoop_eq parseBalance_prog h
  exact r

theorem parseTransaction_inv {start : Nat} {date : Date} {addons : Addons} {s : St} {t : Transaction} {s' : St}
    (h : parseTransaction start date addons s = .ok t s') :
    ∃ q s1 x s2 bs, parseQuotedString s = .ok q s1 ∧ readRestOfWhitespaceLine s1 = .ok x s2 ∧
      Lines parseBooking s2 bs s' ∧ t = ⟨rng start s', date, q, bs, addons⟩ := by
  obtain ⟨q, s1, h1, h⟩ := Res.bind_eq_ok.mp h
  obtain ⟨x, s2, h2, h⟩ := Res.bind_eq_ok.mp h
  obtain ⟨bs, s3, h3, h⟩ := Res.bind_eq_ok.mp h
  cases h
  exact ⟨q, s1, x, s2, bs, h1, h2, bookingsLoop_lines h3, rfl⟩

theorem parseAssertion_cases {start : Nat} {date : Date} {s : St} {a : Assertion} {s' : St}
    (h : parseAssertion start date s = .ok a s') :
    (∃ x s1 bs, readRestOfWhitespaceLine s = .ok x s1 ∧ Lines parseBalance s1 bs s' ∧ a = ⟨rng start s', date, bs⟩) ∨
    ∃ b, parseBalance s = .ok b s' ∧ a = ⟨rng start s', date, [b]⟩ := by
  unfold parseAssertion at h
  simp only at h
  split at h
  · obtain ⟨x, s1, h1, h⟩ := Res.bind_eq_ok.mp h
    obtain ⟨bs, s2, h2, h⟩ := Res.bind_eq_ok.mp h
    cases h
    exact Or.inl ⟨x, s1, bs, h1, balancesLoop_lines h2, rfl⟩
  · obtain ⟨b, s1, h1, h⟩ := Res.bind_eq_ok.mp h
    cases h
    exact Or.inr ⟨b, h1, rfl⟩

theorem parseText_nil (path : String) : parseText path [] = .ok ⟨⟨0, 0⟩, []⟩ := by
  simp [parseText, start, parseFile, fileLoop_eq, atEOF, rng]

end Knut.Syntax
