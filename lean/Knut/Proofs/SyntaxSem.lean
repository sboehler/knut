import Knut.Proofs.SyntaxDirSound
import Knut.Proofs.SyntaxItems
/-!
# The two formalisations of "same fields": typed views (`viewDirective`) and `semFlat` of the untyped tree (C08 glue)

The theorems of C08 speak about the typed field views `viewDirective`; the monitor compares the untyped `semFlat` of
the dumped trees. `semFlat` sees two things a view does not contain: the *kind* of an account node (`account` or
`macroAccount`, from the flag `Account.isMacro`) and whether a transaction has an `addons` node (from
`Range = Range{}` tests, where the view uses `Range.Empty()`).

For a tree the parser returned both are functions of the text (`parseText_shape`: an account node is a macro iff its text
starts with `$`, an annotation's range is `Range{}` iff it is empty), so the monitor's view is determined by the typed views
(`semFlat_file`); `semFileV` is injective (`semFileV_inj`), so it determines them.
-/
namespace Knut.Syntax
open Knut.Utf8 Knut.Spec.Syntax

/-! ## What the parser decides from the text

`DirShape` (with `AccShape`, `AddonsShape`; `Proofs/SyntaxDirSound.lean`) is part of what the walk through a successful
`parseDirective` establishes (`parseDirective_took`), and `fileLoop_run` carries it to every directive of the file. -/

/-- **every directive of a parsed file has the shape its text implies** -/
theorem parseText_shape {path : String} {text : Bytes} {f : File} (h : parseText path text = .ok f) :
    ∀ d ∈ f.directives, DirShape text d := by
  obtain ⟨hv, s', hp⟩ := parseText_eq_ok.mp h
  obtain ⟨items, _, i2, _, i4⟩ := fileLoop_run hp ⟨good_start text, hv⟩
  intro d hd
  obtain ⟨s, s1, h1, I⟩ := i4 d (by simpa [i2] using hd)
  obtain ⟨_, _, _, x, _⟩ := parseDirective_took h1 I
  exact x

/-! ## `semFlat` of a parsed tree from the typed views -/

def accKind (bs : Bytes) : Nat := if isDollar bs then Kind.macroAccount else Kind.account
def semAcc (bs : Bytes) : SemTok := .field (accKind bs) bs

def semBookingV (b : BookingV) : List SemTok :=
  [.open Kind.booking, semAcc b.credit, semAcc b.debit, .field Kind.decimal b.quantity, .field Kind.commodity b.commodity, .close]

def semBalanceV (b : BalanceV) : List SemTok :=
  [.open Kind.balance, semAcc b.account, .field Kind.decimal b.quantity, .field Kind.commodity b.commodity, .close]

def semAccrualV (a : AccrualV) : List SemTok :=
  [.open Kind.accrual, .field Kind.interval a.interval, .field Kind.date a.start, .field Kind.date a.stop, semAcc a.account, .close]

def semPerfV (ts : List Bytes) : List SemTok := .open Kind.performance :: ts.map (SemTok.field Kind.commodity) ++ [.close]

/-- the `addons` node: present iff one of the annotations is; performance before accrual -/
def semAddonsV : Option AccrualV → Option (List Bytes) → List SemTok
  | none, none => []
  | none, some ts => .open Kind.addons :: semPerfV ts ++ [.close]
  | some a, none => .open Kind.addons :: semAccrualV a ++ [.close]
  | some a, some ts => .open Kind.addons :: (semPerfV ts ++ semAccrualV a) ++ [.close]

def semBodyV : DirV → List SemTok
  | .transaction accr perf date desc bs =>
    .open Kind.transaction :: (semAddonsV accr perf ++
      ([.field Kind.date date, .open Kind.quotedString, .field Kind.content desc, .close] ++ bs.flatMap semBookingV)) ++ [.close]
  | .open date acc => [.open Kind.open, .field Kind.date date, semAcc acc, .close]
  | .close date acc => [.open Kind.close, .field Kind.date date, semAcc acc, .close]
  | .assertion date bs => .open Kind.assertion :: (.field Kind.date date :: bs.flatMap semBalanceV) ++ [.close]
  | .price date c p t =>
    [.open Kind.price, .field Kind.date date, .field Kind.commodity c, .field Kind.decimal p, .field Kind.commodity t, .close]
  | .include p => [.open Kind.include, .open Kind.quotedString, .field Kind.content p, .close, .close]

/-- what `semFlat` makes of a directive with fields `v` -/
def semDirV (v : DirV) : List SemTok := .open Kind.directive :: semBodyV v ++ [.close]

/-- what `semFlat` makes of a file whose directives have the fields `vs` -/
def semFileV (vs : List DirV) : List SemTok := .open Kind.file :: vs.flatMap semDirV ++ [.close]

theorem semFlat_field (text : Bytes) (k : Nat) (r : Range) (cs : List Node) (hk : isFieldKind k = true) :
    semFlat text (.mk k r cs) = (r.extract text).map fun b => [SemTok.field k b] := by
  simp [semFlat, hk]

theorem semFlat_inner (text : Bytes) (k : Nat) (r : Range) (cs : List Node) (hk : isFieldKind k = false) :
    semFlat text (.mk k r cs) = (semsFlat text cs).map fun l => SemTok.open k :: l ++ [SemTok.close] := by
  simp [semFlat, hk]

theorem semsFlat_nil (text : Bytes) : semsFlat text [] = some [] := by simp [semsFlat]

theorem semsFlat_cons (text : Bytes) (c : Node) (cs : List Node) :
    semsFlat text (c :: cs) = (semFlat text c).bind fun a => (semsFlat text cs).map fun b => a ++ b := by
  rw [semsFlat]
  cases semFlat text c <;> cases semsFlat text cs <;> rfl

theorem semsFlat_append (text : Bytes) (l1 l2 : List Node) :
    semsFlat text (l1 ++ l2) = (semsFlat text l1).bind fun a => (semsFlat text l2).map fun b => a ++ b := by
  induction l1 with
  | nil => simp [semsFlat_nil]
  | cons c cs ih =>
    rw [List.cons_append, semsFlat_cons, semsFlat_cons, ih]
    cases semFlat text c <;> cases semsFlat text cs <;> cases semsFlat text l2 <;> simp

theorem semsFlat_map {α β : Type} (text : Bytes) (toNode : α → Node) (view : α → Option β) (sem : β → List SemTok) :
    ∀ l : List α, (∀ x ∈ l, semFlat text (toNode x) = (view x).map sem) →
      semsFlat text (l.map toNode) = (l.mapM view).map fun ys => ys.flatMap sem
  | [], _ => by simp [semsFlat_nil]
  | x :: l, h => by
    rw [List.map_cons, semsFlat_cons, h x (by simp), semsFlat_map text toNode view sem l (fun y hy => h y (List.mem_cons_of_mem _ hy)),
      List.mapM_cons]
    cases view x <;> cases l.mapM view <;> simp

theorem semFlat_account {text : Bytes} {a : Account} (h : AccShape text a) :
    semFlat text a.toNode = (a.range.extract text).map fun b => [semAcc b] := by
  unfold Account.toNode leaf
  cases he : a.range.extract text with
  | none =>
    cases hm : a.isMacro <;> simp [semFlat_field, isFieldKind, Kind.macroAccount, Kind.account, Kind.date, Kind.commodity, Kind.decimal, Kind.content, Kind.interval, he]
  | some b =>
    have := h b he
    cases hm : a.isMacro <;> rw [hm] at this <;>
      simp [semFlat_field, isFieldKind, Kind.macroAccount, Kind.account, Kind.date, Kind.commodity, Kind.decimal, Kind.content, Kind.interval, he, semAcc, accKind, ← this]

theorem semFlat_dateN (text : Bytes) (d : Date) :
    semFlat text d.toNode = (d.range.extract text).map fun b => [SemTok.field Kind.date b] :=
  semFlat_field text _ _ _ (by decide)
theorem semFlat_decimal (text : Bytes) (d : Decimal) :
    semFlat text d.toNode = (d.range.extract text).map fun b => [SemTok.field Kind.decimal b] :=
  semFlat_field text _ _ _ (by decide)
theorem semFlat_commodity (text : Bytes) (d : Commodity) :
    semFlat text d.toNode = (d.range.extract text).map fun b => [SemTok.field Kind.commodity b] :=
  semFlat_field text _ _ _ (by decide)
theorem semFlat_interval (text : Bytes) (d : Interval) :
    semFlat text d.toNode = (d.range.extract text).map fun b => [SemTok.field Kind.interval b] :=
  semFlat_field text _ _ _ (by decide)
theorem semFlat_quoted (text : Bytes) (q : QuotedString) :
    semFlat text q.toNode =
      (q.content.extract text).map fun b => [SemTok.open Kind.quotedString, SemTok.field Kind.content b, SemTok.close] := by
  unfold QuotedString.toNode leaf
  rw [semFlat_inner _ _ _ _ (by decide), semsFlat_cons, semsFlat_nil, semFlat_field _ _ _ _ (by decide)]
  cases q.content.extract text <;> simp

theorem semFlat_booking {text : Bytes} {b : Booking} (h : BookingShape text b) :
    semFlat text b.toNode = (viewBooking text b).map semBookingV := by
  unfold Booking.toNode
  rw [semFlat_inner _ _ _ _ (by decide)]
  simp only [semsFlat_cons, semsFlat_nil, semFlat_account h.1, semFlat_account h.2, semFlat_decimal, semFlat_commodity,
    viewBooking]
  cases b.credit.range.extract text <;> cases b.debit.range.extract text <;> cases b.quantity.range.extract text <;>
    cases b.commodity.range.extract text <;> rfl

theorem semFlat_balance {text : Bytes} {b : Balance} (h : AccShape text b.account) :
    semFlat text b.toNode = (viewBalance text b).map semBalanceV := by
  unfold Balance.toNode
  rw [semFlat_inner _ _ _ _ (by decide)]
  simp only [semsFlat_cons, semsFlat_nil, semFlat_account h, semFlat_decimal, semFlat_commodity, viewBalance]
  cases b.account.range.extract text <;> cases b.quantity.range.extract text <;>
    cases b.commodity.range.extract text <;> rfl

theorem semFlat_accrual {text : Bytes} {a : Accrual} (h : AccShape text a.account) :
    semFlat text a.toNode = (viewAccrual text a).map semAccrualV := by
  unfold Accrual.toNode
  rw [semFlat_inner _ _ _ _ (by decide)]
  simp only [semsFlat_cons, semsFlat_nil, semFlat_account h, semFlat_interval, semFlat_dateN, viewAccrual]
  cases a.interval.range.extract text <;> cases a.start.range.extract text <;> cases a.stop.range.extract text <;>
    cases a.account.range.extract text <;> rfl

theorem semFlat_performance (text : Bytes) (p : Performance) :
    semFlat text p.toNode = (p.targets.mapM fun (c : Commodity) => c.range.extract text).map semPerfV := by
  unfold Performance.toNode
  rw [semFlat_inner _ _ _ _ (by decide),
    semsFlat_map text Commodity.toNode (fun (c : Commodity) => c.range.extract text) (fun b => [SemTok.field Kind.commodity b])
      p.targets (fun c _ => semFlat_commodity text c)]
  cases p.targets.mapM (fun (c : Commodity) => c.range.extract text) with
  | none => rfl
  | some ts =>
    simp only [Option.map_some, semPerfV, Option.some.injEq, List.cons.injEq, true_and, List.append_cancel_right_eq]
    induction ts with
    | nil => rfl
    | cons t ts ih => simp [List.flatMap_cons, ih]

/-- the two annotations as `printTransaction` extracts them (`!Range.Empty()`) -/
def viewAddons (text : Bytes) (a : Addons) : Option (Option AccrualV × Option (List Bytes)) := do
  let accr ← if !a.accrual.range.empty then (viewAccrual text a.accrual).map some else pure none
  let perf ← if !a.performance.range.empty then
      (a.performance.targets.mapM (fun (c : Commodity) => c.range.extract text)).map some
    else pure none
  pure (accr, perf)

theorem viewTransaction_eq (text : Bytes) (t : Transaction) :
    viewTransaction text t = (viewAddons text t.addons).bind fun p =>
      (t.date.range.extract text).bind fun date =>
      (t.description.content.extract text).bind fun desc =>
      (t.bookings.mapM (viewBooking text)).bind fun bookings =>
      some (.transaction p.1 p.2 date desc bookings) := by
  unfold viewTransaction viewAddons
  cases t.addons.accrual.range.empty <;> cases t.addons.performance.range.empty <;>
    cases viewAccrual text t.addons.accrual <;>
    cases t.addons.performance.targets.mapM (fun (c : Commodity) => c.range.extract text) <;> rfl

theorem ne_zero_of_not_empty {r : Range} (h : r.empty = false) : r ≠ Range.zero := by
  intro e; rw [e] at h; simp [Range.empty, Range.zero] at h

theorem optNode_zero {r : Range} (n : Node) (h : r = Range.zero) : optNode r n = [] := by simp [optNode, h]
theorem optNode_ne {r : Range} (n : Node) (h : r ≠ Range.zero) : optNode r n = [n] := by simp [optNode, h]

theorem semsFlat_addons {text : Bytes} {a : Addons} (h : AddonsShape text a) :
    semsFlat text (optNode a.range a.toNode) = (viewAddons text a).map fun p => semAddonsV p.1 p.2 := by
  obtain ⟨h0, hnz, hp, ha, hacc⟩ := h
  cases hpe : a.performance.range.empty <;> cases hae : a.accrual.range.empty
  · have hr : a.range ≠ Range.zero := fun e => by have := (h0 e).1; rw [hpe] at this; cases this
    rw [optNode_ne _ hr, semsFlat_cons, semsFlat_nil]
    unfold Addons.toNode
    rw [semFlat_inner _ _ _ _ (by decide), optNode_ne _ (ne_zero_of_not_empty hpe), optNode_ne _ (ne_zero_of_not_empty hae)]
    simp only [List.cons_append, List.nil_append, semsFlat_cons, semsFlat_nil, semFlat_performance, semFlat_accrual hacc,
      viewAddons, hpe, hae]
    cases a.performance.targets.mapM (fun (c : Commodity) => c.range.extract text) <;> cases viewAccrual text a.accrual <;>
      simp [semAddonsV]
  · have hr : a.range ≠ Range.zero := fun e => by have := (h0 e).1; rw [hpe] at this; cases this
    rw [optNode_ne _ hr, semsFlat_cons, semsFlat_nil]
    unfold Addons.toNode
    rw [semFlat_inner _ _ _ _ (by decide), optNode_ne _ (ne_zero_of_not_empty hpe), optNode_zero _ (ha hae)]
    simp only [List.append_nil, semsFlat_cons, semsFlat_nil, semFlat_performance, viewAddons, hpe, hae]
    cases a.performance.targets.mapM (fun (c : Commodity) => c.range.extract text) <;> simp [semAddonsV]
  · have hr : a.range ≠ Range.zero := fun e => by have := (h0 e).2; rw [hae] at this; cases this
    rw [optNode_ne _ hr, semsFlat_cons, semsFlat_nil]
    unfold Addons.toNode
    rw [semFlat_inner _ _ _ _ (by decide), optNode_zero _ (hp hpe), optNode_ne _ (ne_zero_of_not_empty hae)]
    simp only [List.nil_append, semsFlat_cons, semsFlat_nil, semFlat_accrual hacc, viewAddons, hpe, hae]
    cases viewAccrual text a.accrual <;> simp [semAddonsV]
  · have hr : a.range = Range.zero := by
      apply Classical.byContradiction
      intro hne
      rcases hnz hne with e | e
      · rw [hpe] at e; cases e
      · rw [hae] at e; cases e
    rw [optNode_zero _ hr, semsFlat_nil]
    simp [viewAddons, hpe, hae, semAddonsV]

theorem semFlat_transaction {text : Bytes} {t : Transaction} (hA : AddonsShape text t.addons)
    (hB : ∀ b ∈ t.bookings, BookingShape text b) :
    semFlat text t.toNode = (viewTransaction text t).map semBodyV := by
  unfold Transaction.toNode
  rw [semFlat_inner _ _ _ _ (by decide), viewTransaction_eq, List.append_assoc, semsFlat_append, semsFlat_addons hA]
  simp only [List.cons_append, List.nil_append, semsFlat_cons, semFlat_dateN, semFlat_quoted,
    semsFlat_map text Booking.toNode (viewBooking text) semBookingV t.bookings (fun b hb => semFlat_booking (hB b hb))]
  cases viewAddons text t.addons <;> cases t.date.range.extract text <;> cases t.description.content.extract text <;>
    cases t.bookings.mapM (viewBooking text) <;> rfl

/-- **the monitor's view of a directive is determined by its typed view** (for a directive of the shape the parser
produces) -/
theorem semFlat_directive {text : Bytes} {d : Directive} (h : DirShape text d) :
    semFlat text d.toNode = (viewDirective text d).map semDirV := by
  unfold Directive.toNode
  rw [semFlat_inner _ _ _ _ (by decide), semsFlat_cons, semsFlat_nil]
  unfold DirShape at h
  unfold viewDirective
  cases hb : d.body with
  | transaction t =>
    rw [hb] at h
    simp only [Body.toNode, semFlat_transaction h.1 h.2]
    cases viewTransaction text t <;> simp [semDirV]
  | «open» o =>
    rw [hb] at h
    simp only [Body.toNode, Open.toNode]
    rw [semFlat_inner _ _ _ _ (by decide)]
    simp only [semsFlat_cons, semsFlat_nil, semFlat_dateN, semFlat_account h]
    cases o.date.range.extract text <;> cases o.account.range.extract text <;> rfl
  | close o =>
    rw [hb] at h
    simp only [Body.toNode, Close.toNode]
    rw [semFlat_inner _ _ _ _ (by decide)]
    simp only [semsFlat_cons, semsFlat_nil, semFlat_dateN, semFlat_account h]
    cases o.date.range.extract text <;> cases o.account.range.extract text <;> rfl
  | assertion a =>
    rw [hb] at h
    simp only [Body.toNode, Assertion.toNode]
    rw [semFlat_inner _ _ _ _ (by decide)]
    simp only [semsFlat_cons, semFlat_dateN,
      semsFlat_map text Balance.toNode (viewBalance text) semBalanceV a.balances (fun b hb' => semFlat_balance (h b hb'))]
    cases a.date.range.extract text <;> cases a.balances.mapM (viewBalance text) <;> simp [semDirV, semBodyV]
  | price p =>
    simp only [Body.toNode, Price.toNode]
    rw [semFlat_inner _ _ _ _ (by decide)]
    simp only [semsFlat_cons, semsFlat_nil, semFlat_dateN, semFlat_commodity, semFlat_decimal]
    cases p.date.range.extract text <;> cases p.commodity.range.extract text <;> cases p.price.range.extract text <;>
      cases p.target.range.extract text <;> rfl
  | «include» i =>
    simp only [Body.toNode, Include.toNode]
    rw [semFlat_inner _ _ _ _ (by decide)]
    simp only [semsFlat_cons, semsFlat_nil, semFlat_quoted]
    cases i.includePath.content.extract text <;> rfl

/-- **the monitor's view of a parsed file is determined by the typed views of its directives** -/
theorem semFlat_file {path : String} {text : Bytes} {f : File} (h : parseText path text = .ok f) :
    semFlat text f.toNode = (f.directives.mapM (viewDirective text)).map semFileV := by
  unfold File.toNode
  rw [semFlat_inner _ _ _ _ (by decide),
    semsFlat_map text Directive.toNode (viewDirective text) semDirV f.directives
      (fun d hd => semFlat_directive (parseText_shape h d hd))]
  cases f.directives.mapM (viewDirective text) <;> simp [semFileV]

/-! ## The monitor's view determines the typed views -/

inductive Bal : List SemTok → Prop
  | nil : Bal []
  | field (k : Nat) (b : List UInt8) {l : List SemTok} : Bal l → Bal (SemTok.field k b :: l)
  | block (k : Nat) {b l : List SemTok} : Bal b → Bal l → Bal (SemTok.open k :: b ++ SemTok.close :: l)

/-- a well-bracketed sequence ends at the first unmatched `close` -/
theorem Bal.split {b1 : List SemTok} (h1 : Bal b1) : ∀ {b2 r1 r2 : List SemTok}, Bal b2 →
    b1 ++ SemTok.close :: r1 = b2 ++ SemTok.close :: r2 → b1 = b2 ∧ r1 = r2 := by
  induction h1 with
  | nil =>
    intro b2 r1 r2 h2 e
    cases h2 with
    | nil => simpa using e
    | field k b hl => simp at e
    | block k hb hl => simp at e
  | field k b hl ih =>
    intro b2 r1 r2 h2 e
    cases h2 with
    | nil => simp at e
    | field k' b' hl' =>
      simp only [List.cons_append, List.cons.injEq] at e
      obtain ⟨e1, e2⟩ := e
      obtain ⟨i1, i2⟩ := ih hl' e2
      exact ⟨by rw [e1, i1], i2⟩
    | block k' hb' hl' => simp at e
  | block k hb hl ihb ihl =>
    intro b2 r1 r2 h2 e
    cases h2 with
    | nil => simp at e
    | field k' b' hl' => simp at e
    | block k' hb' hl' =>
      simp only [List.cons_append, List.append_assoc, List.cons.injEq] at e
      obtain ⟨e1, e2⟩ := e
      obtain ⟨i1, i2⟩ := ihb hb' e2
      obtain ⟨j1, j2⟩ := ihl hl' i2
      exact ⟨by rw [SemTok.open.inj e1, i1, j1], j2⟩

theorem Bal.append {a b : List SemTok} (ha : Bal a) (hb : Bal b) : Bal (a ++ b) := by
  induction ha with
  | nil => simpa using hb
  | field k x hl ih => exact Bal.field k x ih
  | block k hx hl ihx ihl =>
    have := Bal.block k hx ihl
    simpa using this

theorem Bal.block1 (k : Nat) {b : List SemTok} (hb : Bal b) : Bal (SemTok.open k :: b ++ [SemTok.close]) :=
  Bal.block k hb Bal.nil

theorem Bal.fields (k : Nat) : ∀ ts : List (List UInt8), Bal (ts.map (SemTok.field k))
  | [] => Bal.nil
  | t :: ts => Bal.field k t (Bal.fields k ts)

theorem Bal.flatMap {α : Type} (f : α → List SemTok) (hf : ∀ x, Bal (f x)) : ∀ l : List α, Bal (l.flatMap f)
  | [] => Bal.nil
  | x :: l => by rw [List.flatMap_cons]; exact (hf x).append (Bal.flatMap f hf l)

/-- blocks of one kind with well-bracketed bodies: the sequence of bodies is determined -/
theorem blocks_inj {α : Type} (k : Nat) (body : α → List SemTok) (hB : ∀ x, Bal (body x))
    (hinj : ∀ x y, body x = body y → x = y) : ∀ l l' : List α,
    l.flatMap (fun x => SemTok.open k :: body x ++ [SemTok.close]) = l'.flatMap (fun x => SemTok.open k :: body x ++ [SemTok.close]) →
    l = l'
  | [], [], _ => rfl
  | [], y :: l', e => by simp at e
  | x :: l, [], e => by simp at e
  | x :: l, y :: l', e => by
    simp only [List.flatMap_cons, List.cons_append, List.append_assoc, List.cons.injEq, true_and, List.nil_append] at e
    obtain ⟨e1, e2⟩ := (hB x).split (hB y) e
    rw [hinj x y e1, blocks_inj k body hB hinj l l' e2]

theorem semAcc_inj {a b : Bytes} (h : semAcc a = semAcc b) : a = b := by
  simp only [semAcc, SemTok.field.injEq] at h
  exact h.2

def bookingBody (b : BookingV) : List SemTok :=
  [semAcc b.credit, semAcc b.debit, .field Kind.decimal b.quantity, .field Kind.commodity b.commodity]
def balanceBody (b : BalanceV) : List SemTok :=
  [semAcc b.account, .field Kind.decimal b.quantity, .field Kind.commodity b.commodity]

theorem semBookingV_eq : semBookingV = fun b => SemTok.open Kind.booking :: bookingBody b ++ [SemTok.close] := rfl
theorem semBalanceV_eq : semBalanceV = fun b => SemTok.open Kind.balance :: balanceBody b ++ [SemTok.close] := rfl

theorem bal_bookingBody (b : BookingV) : Bal (bookingBody b) :=
  Bal.field _ _ (Bal.field _ _ (Bal.field _ _ (Bal.field _ _ Bal.nil)))
theorem bal_balanceBody (b : BalanceV) : Bal (balanceBody b) :=
  Bal.field _ _ (Bal.field _ _ (Bal.field _ _ Bal.nil))

theorem bookingBody_inj (x y : BookingV) (h : bookingBody x = bookingBody y) : x = y := by
  simp only [bookingBody, List.cons.injEq, SemTok.field.injEq, true_and, and_true] at h
  obtain ⟨h1, h2, h3, h4⟩ := h
  cases x; cases y
  simp only [BookingV.mk.injEq]
  exact ⟨semAcc_inj h1, semAcc_inj h2, h3, h4⟩

theorem balanceBody_inj (x y : BalanceV) (h : balanceBody x = balanceBody y) : x = y := by
  simp only [balanceBody, List.cons.injEq, SemTok.field.injEq, true_and, and_true] at h
  obtain ⟨h1, h2, h3⟩ := h
  cases x; cases y
  simp only [BalanceV.mk.injEq]
  exact ⟨semAcc_inj h1, h2, h3⟩

theorem bal_bookings (bs : List BookingV) : Bal (bs.flatMap semBookingV) :=
  Bal.flatMap _ (fun b => Bal.block1 _ (bal_bookingBody b)) bs
theorem bal_balances (bs : List BalanceV) : Bal (bs.flatMap semBalanceV) :=
  Bal.flatMap _ (fun b => Bal.block1 _ (bal_balanceBody b)) bs

theorem bookings_inj (l l' : List BookingV) (h : l.flatMap semBookingV = l'.flatMap semBookingV) : l = l' := by
  rw [semBookingV_eq] at h
  exact blocks_inj _ bookingBody bal_bookingBody bookingBody_inj l l' h

theorem balances_inj (l l' : List BalanceV) (h : l.flatMap semBalanceV = l'.flatMap semBalanceV) : l = l' := by
  rw [semBalanceV_eq] at h
  exact blocks_inj _ balanceBody bal_balanceBody balanceBody_inj l l' h

def perfPart : Option (List Bytes) → List SemTok
  | none => []
  | some ts => semPerfV ts
def accrPart : Option AccrualV → List SemTok
  | none => []
  | some a => semAccrualV a

theorem semAddonsV_eq (a : Option AccrualV) (p : Option (List Bytes)) :
    semAddonsV a p = if a = none ∧ p = none then [] else SemTok.open Kind.addons :: (perfPart p ++ accrPart a) ++ [SemTok.close] := by
  cases a <;> cases p <;> simp [semAddonsV, perfPart, accrPart]

theorem bal_semPerfV (ts : List Bytes) : Bal (semPerfV ts) := Bal.block1 _ (Bal.fields _ ts)
theorem bal_semAccrualV (a : AccrualV) : Bal (semAccrualV a) :=
  Bal.block1 _ (Bal.field _ _ (Bal.field _ _ (Bal.field _ _ (Bal.field _ _ Bal.nil))))
theorem bal_perfPart (p : Option (List Bytes)) : Bal (perfPart p) := by
  cases p with
  | none => exact Bal.nil
  | some ts => exact bal_semPerfV ts
theorem bal_accrPart (a : Option AccrualV) : Bal (accrPart a) := by
  cases a with
  | none => exact Bal.nil
  | some a => exact bal_semAccrualV a

theorem bal_semAddonsV (a : Option AccrualV) (p : Option (List Bytes)) : Bal (semAddonsV a p) := by
  rw [semAddonsV_eq]
  split
  · exact Bal.nil
  · exact Bal.block1 _ ((bal_perfPart p).append (bal_accrPart a))

theorem accrPart_inj {a a' : Option AccrualV} (h : accrPart a = accrPart a') : a = a' := by
  cases a with
  | none =>
    cases a' with
    | none => rfl
    | some y => simp [accrPart, semAccrualV] at h
  | some x =>
    cases a' with
    | none => simp [accrPart, semAccrualV] at h
    | some y =>
      simp only [accrPart, semAccrualV, List.cons.injEq, SemTok.field.injEq, true_and, and_true] at h
      obtain ⟨h1, h2, h3, h4⟩ := h
      cases x; cases y
      simp only [Option.some.injEq, AccrualV.mk.injEq]
      exact ⟨h1, h2, h3, semAcc_inj h4⟩

theorem map_field_inj (k : Nat) : ∀ ts ts' : List Bytes, ts.map (SemTok.field k) = ts'.map (SemTok.field k) → ts = ts'
  | [], [], _ => rfl
  | [], _ :: _, e => by simp at e
  | _ :: _, [], e => by simp at e
  | t :: ts, t' :: ts', e => by
    simp only [List.map_cons, List.cons.injEq, SemTok.field.injEq, true_and] at e
    rw [e.1, map_field_inj k ts ts' e.2]

theorem parts_inj {p p' : Option (List Bytes)} {a a' : Option AccrualV}
    (h : perfPart p ++ accrPart a = perfPart p' ++ accrPart a') : p = p' ∧ a = a' := by
  cases p with
  | none =>
    cases p' with
    | none => exact ⟨rfl, accrPart_inj (by simpa [perfPart] using h)⟩
    | some ts' =>
      exfalso
      cases a <;> simp [perfPart, accrPart, semPerfV, semAccrualV, Kind.performance, Kind.accrual] at h
  | some ts =>
    cases p' with
    | none =>
      exfalso
      cases a' <;> simp [perfPart, accrPart, semPerfV, semAccrualV, Kind.performance, Kind.accrual] at h
    | some ts' =>
      simp only [perfPart, semPerfV, List.cons_append, List.append_assoc, List.cons.injEq, true_and, List.nil_append] at h
      obtain ⟨e1, e2⟩ := (Bal.fields _ ts).split (Bal.fields _ ts') h
      exact ⟨by rw [map_field_inj _ _ _ e1], accrPart_inj e2⟩

/-- the `addons` node followed by the date field: the annotations and the rest are determined -/
theorem addons_split {a a' : Option AccrualV} {p p' : Option (List Bytes)} {k k' : Nat} {x x' : List UInt8} {R R' : List SemTok}
    (h : semAddonsV a p ++ (SemTok.field k x :: R) = semAddonsV a' p' ++ (SemTok.field k' x' :: R')) :
    a = a' ∧ p = p' ∧ SemTok.field k x :: R = SemTok.field k' x' :: R' := by
  rw [semAddonsV_eq, semAddonsV_eq] at h
  split at h <;> split at h
  · rename_i h1 h2
    exact ⟨by rw [h1.1, h2.1], by rw [h1.2, h2.2], by simpa using h⟩
  · simp at h
  · simp at h
  · simp only [List.cons_append, List.append_assoc, List.cons.injEq, true_and, List.nil_append] at h
    obtain ⟨e1, e2⟩ := ((bal_perfPart p).append (bal_accrPart a)).split ((bal_perfPart p').append (bal_accrPart a'))
      (by simpa using h)
    obtain ⟨i1, i2⟩ := parts_inj e1
    exact ⟨i2, i1, e2⟩

theorem bal_semBodyV (v : DirV) : Bal (semBodyV v) := by
  cases v with
  | transaction accr perf date desc bs =>
    exact Bal.block1 _ ((bal_semAddonsV accr perf).append
      (Bal.field _ _ (Bal.block _ (Bal.field _ _ Bal.nil) (bal_bookings bs))))
  | «open» d a => exact Bal.block1 _ (Bal.field _ _ (Bal.field _ _ Bal.nil))
  | close d a => exact Bal.block1 _ (Bal.field _ _ (Bal.field _ _ Bal.nil))
  | assertion d bs => exact Bal.block1 _ (Bal.field _ _ (bal_balances bs))
  | price d c p t => exact Bal.block1 _ (Bal.field _ _ (Bal.field _ _ (Bal.field _ _ (Bal.field _ _ Bal.nil))))
  | «include» p => exact Bal.block1 _ (Bal.block1 _ (Bal.field _ _ Bal.nil))

theorem semBodyV_inj (v w : DirV) (h : semBodyV v = semBodyV w) : v = w := by
  -- the opening token names the constructor: only the six pairs of equal constructors remain
  have hk := congrArg List.head? h
  cases v <;> cases w <;>
    simp only [semBodyV, List.head?_cons, List.cons_append, Option.some.injEq, SemTok.open.injEq, Kind.transaction, Kind.open,
      Kind.close, Kind.assertion, Kind.price, Kind.include, Nat.reduceEqDiff] at hk
  · rename_i accr perf date desc bs accr' perf' date' desc' bs'
    simp only [semBodyV, List.cons.injEq, true_and, List.append_cancel_right_eq, List.cons_append, List.nil_append] at h
    obtain ⟨e1, e2, e3⟩ := addons_split h
    simp only [List.cons.injEq, SemTok.field.injEq, true_and] at e3
    obtain ⟨d1, d2, d3⟩ := e3
    rw [e1, e2, d1, d2, bookings_inj bs bs' d3]
  · simp only [semBodyV, List.cons.injEq, SemTok.field.injEq, true_and, and_true] at h
    rw [h.1, semAcc_inj h.2]
  · simp only [semBodyV, List.cons.injEq, SemTok.field.injEq, true_and, and_true] at h
    rw [h.1, semAcc_inj h.2]
  · simp only [semBodyV, List.cons.injEq, SemTok.field.injEq, true_and, List.append_cancel_right_eq, List.cons_append] at h
    rw [h.1, balances_inj _ _ h.2]
  · simp only [semBodyV, List.cons.injEq, SemTok.field.injEq, true_and, and_true] at h
    obtain ⟨h1, h2, h3, h4⟩ := h
    rw [h1, h2, h3, h4]
  · simp only [semBodyV, List.cons.injEq, SemTok.field.injEq, true_and, and_true] at h
    rw [h]

/-- **the monitor's view determines the typed views** -/
theorem semFileV_inj {vs ws : List DirV} (h : semFileV vs = semFileV ws) : vs = ws := by
  simp only [semFileV, List.cons.injEq, true_and, List.append_cancel_right_eq] at h
  exact blocks_inj Kind.directive semBodyV bal_semBodyV semBodyV_inj vs ws h

/-- **on two parsed files the monitor's predicate says exactly what the theorems say**: `formatOK` on the two trees
holds iff the typed field views of the directives agree (same number, kinds and field bytes) and the gaps agree -/
theorem formatOK_iff {path path' : String} {text out : Bytes} {f f2 : File}
    (h : parseText path text = .ok f) (h2 : parseText path' out = .ok f2) :
    formatOK text f.toNode out f2.toNode = true ↔
      (f2.directives.mapM (viewDirective out) = f.directives.mapM (viewDirective text) ∧
       gapsOf out 0 (f2.directives.map (·.range)) = gapsOf text 0 (f.directives.map (·.range))) := by
  -- the views of a parsed file exist (the parser's soundness)
  have total : ∀ {p : String} {t : Bytes} {g : File}, parseText p t = .ok g → (g.directives.mapM (viewDirective t)).isSome = true :=
    fun hp => by obtain ⟨items, _, i2, i3⟩ := parse_items hp; rw [i2, items_views i3]; rfl
  have s1 := total h
  have s2 := total h2
  obtain ⟨vs, hvs⟩ := Option.isSome_iff_exists.mp s1
  obtain ⟨ws, hws⟩ := Option.isSome_iff_exists.mp s2
  unfold formatOK
  rw [semFlat_file h, semFlat_file h2, toNode_ranges, toNode_ranges, hvs, hws]
  simp only [Option.map_some, Bool.and_eq_true, beq_iff_eq, Option.some.injEq]
  constructor
  · rintro ⟨e1, e2⟩
    exact ⟨(semFileV_inj e1).symm, e2.symm⟩
  · rintro ⟨e1, e2⟩
    exact ⟨by rw [e1], e2.symm⟩

end Knut.Syntax
