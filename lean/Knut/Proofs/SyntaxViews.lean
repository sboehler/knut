import Knut.Syntax.Printer
/-!
# The field views of `Syntax/Printer.lean`, by when they succeed

`viewBooking`, `viewBalance`, `viewAccrual` succeed exactly when every field extracts (`…_eq_some_iff`, stated with the
projections of the view, so that they apply to `some bT.bytes` as they stand); `viewTransaction` with its two tests as terms
(`viewTransaction_def`) and what its success read (`viewTransaction_inv`); `viewDirective d = some w` is the relation
`BodyView text d.body w` between the body and its view, one constructor per kind of directive.
-/
namespace Knut.Syntax

variable {text : Bytes}

theorem viewBooking_eq_some_iff {b : Booking} {v : BookingV} : viewBooking text b = some v ↔
    b.credit.range.extract text = some v.credit ∧ b.debit.range.extract text = some v.debit ∧
      b.quantity.range.extract text = some v.quantity ∧ b.commodity.range.extract text = some v.commodity := by
  obtain ⟨c, d, q, m⟩ := v
  simp only [viewBooking, Option.bind_eq_bind, Option.bind_eq_some_iff, Option.pure_def, Option.some.injEq, BookingV.mk.injEq]
  constructor
  · rintro ⟨_, h1, _, h2, _, h3, _, h4, rfl, rfl, rfl, rfl⟩; exact ⟨h1, h2, h3, h4⟩
  · rintro ⟨h1, h2, h3, h4⟩; exact ⟨_, h1, _, h2, _, h3, _, h4, rfl, rfl, rfl, rfl⟩

theorem viewBalance_eq_some_iff {b : Balance} {v : BalanceV} : viewBalance text b = some v ↔
    b.account.range.extract text = some v.account ∧ b.quantity.range.extract text = some v.quantity ∧
      b.commodity.range.extract text = some v.commodity := by
  obtain ⟨a, q, m⟩ := v
  simp only [viewBalance, Option.bind_eq_bind, Option.bind_eq_some_iff, Option.pure_def, Option.some.injEq, BalanceV.mk.injEq]
  constructor
  · rintro ⟨_, h1, _, h2, _, h3, rfl, rfl, rfl⟩; exact ⟨h1, h2, h3⟩
  · rintro ⟨h1, h2, h3⟩; exact ⟨_, h1, _, h2, _, h3, rfl, rfl, rfl⟩

theorem viewAccrual_eq_some_iff {a : Accrual} {v : AccrualV} : viewAccrual text a = some v ↔
    a.interval.range.extract text = some v.interval ∧ a.start.range.extract text = some v.start ∧
      a.stop.range.extract text = some v.stop ∧ a.account.range.extract text = some v.account := by
  obtain ⟨i, s, e, c⟩ := v
  simp only [viewAccrual, Option.bind_eq_bind, Option.bind_eq_some_iff, Option.pure_def, Option.some.injEq, AccrualV.mk.injEq]
  constructor
  · rintro ⟨_, h1, _, h2, _, h3, _, h4, rfl, rfl, rfl, rfl⟩; exact ⟨h1, h2, h3, h4⟩
  · rintro ⟨h1, h2, h3, h4⟩; exact ⟨_, h1, _, h2, _, h3, _, h4, rfl, rfl, rfl, rfl⟩

/-- the accrual view does not read the accrual's own range (`parseAddons` extends it over the keyword) -/
theorem viewAccrual_range (text : Bytes) (a : Accrual) (r : Range) : viewAccrual text { a with range := r } = viewAccrual text a := rfl

/-- `viewTransaction` with the two tests as terms (the `do` block repeats its continuation in both branches of each) -/
theorem viewTransaction_def (text : Bytes) (t : Transaction) :
    viewTransaction text t =
      (if !t.addons.accrual.range.empty then (viewAccrual text t.addons.accrual).map some else pure none).bind fun accr =>
      (if !t.addons.performance.range.empty then
        (t.addons.performance.targets.mapM (fun (c : Commodity) => c.range.extract text)).map some
       else pure none).bind fun perf =>
      (t.date.range.extract text).bind fun date => (t.description.content.extract text).bind fun desc =>
      (t.bookings.mapM (viewBooking text)).bind fun bookings => some (.transaction accr perf date desc bookings) := by
  unfold viewTransaction
  cases t.addons.accrual.range.empty <;> cases t.addons.performance.range.empty <;> rfl

theorem viewTransaction_inv {text : Bytes} {t : Transaction} {w : DirV} (h : viewTransaction text t = some w) :
    ∃ accr perf date desc bks, w = .transaction accr perf date desc bks ∧
      (if !t.addons.accrual.range.empty then (viewAccrual text t.addons.accrual).map some else pure none) = some accr ∧
      (if !t.addons.performance.range.empty then
        (t.addons.performance.targets.mapM (fun (c : Commodity) => c.range.extract text)).map some
       else pure none) = some perf ∧
      t.date.range.extract text = some date ∧ t.description.content.extract text = some desc ∧
      t.bookings.mapM (viewBooking text) = some bks := by
  rw [viewTransaction_def] at h
  simp only [Option.bind_eq_some_iff, Option.some.injEq] at h
  obtain ⟨accr, ha, perf, hp, date, hd, desc, hc, bks, hb, rfl⟩ := h
  exact ⟨accr, perf, date, desc, bks, rfl, ha, hp, hd, hc, hb⟩

inductive BodyView (text : Bytes) : Body → DirV → Prop
  | transaction {t accr perf date desc bks} :
      viewTransaction text t = some (.transaction accr perf date desc bks) →
      BodyView text (.transaction t) (.transaction accr perf date desc bks)
  | «open» {o : Open} {dt ac} : o.date.range.extract text = some dt → o.account.range.extract text = some ac →
      BodyView text (.open o) (.open dt ac)
  | close {c : Close} {dt ac} : c.date.range.extract text = some dt → c.account.range.extract text = some ac →
      BodyView text (.close c) (.close dt ac)
  | assertion {a : Assertion} {dt bs} : a.date.range.extract text = some dt → a.balances.mapM (viewBalance text) = some bs →
      BodyView text (.assertion a) (.assertion dt bs)
  | price {p : Price} {dt c pr tg} : p.date.range.extract text = some dt → p.commodity.range.extract text = some c →
      p.price.range.extract text = some pr → p.target.range.extract text = some tg →
      BodyView text (.price p) (.price dt c pr tg)
  | «include» {i : Include} {p} : i.includePath.content.extract text = some p → BodyView text (.include i) (.include p)

theorem viewDirective_transaction {d : Directive} {t : Transaction} (hb : d.body = .transaction t) :
    viewDirective text d = viewTransaction text t := by
  unfold viewDirective; rw [hb]

theorem viewDirective_eq_some_iff {d : Directive} {w : DirV} : viewDirective text d = some w ↔ BodyView text d.body w := by
  unfold viewDirective
  constructor
  · intro h
    cases hb : d.body <;> rw [hb] at h
    case transaction t =>
      obtain ⟨_, _, _, _, _, rfl, _⟩ := viewTransaction_inv h
      exact .transaction h
    all_goals
      simp only [Option.bind_eq_bind, Option.bind_eq_some_iff, Option.pure_def, Option.some.injEq] at h
    · obtain ⟨_, h1, _, h2, rfl⟩ := h; exact .open h1 h2
    · obtain ⟨_, h1, _, h2, rfl⟩ := h; exact .close h1 h2
    · obtain ⟨_, h1, _, h2, rfl⟩ := h; exact .assertion h1 h2
    · obtain ⟨_, h1, _, h2, _, h3, _, h4, rfl⟩ := h; exact .price h1 h2 h3 h4
    · obtain ⟨_, h1, rfl⟩ := h; exact .include h1
  · intro h
    obtain ⟨r, body⟩ := d
    cases h with
    | transaction h => exact h
    | «open» h1 h2 => simp only [h1, h2, Option.bind_eq_bind, Option.bind_some, Option.pure_def]
    | close h1 h2 => simp only [h1, h2, Option.bind_eq_bind, Option.bind_some, Option.pure_def]
    | assertion h1 h2 => simp only [h1, h2, Option.bind_eq_bind, Option.bind_some, Option.pure_def]
    | price h1 h2 h3 h4 => simp only [h1, h2, h3, h4, Option.bind_eq_bind, Option.bind_some, Option.pure_def]
    | «include» h1 => simp only [h1, Option.bind_eq_bind, Option.bind_some, Option.pure_def]

end Knut.Syntax
