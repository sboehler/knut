import Knut.Proofs.SyntaxErr
/-!
# Ranges of a parsed tree are nested (helper lemmas for C07)

Each parser function is walked once (`…_runs`, by the `Runs.bind` chain of `SyntaxErr.lean`): a failure carries only ranges
inside the text read so far; the element a success returns spans exactly the consumed input `[s.off, s'.off)`, and all
ranges below it are nested (`nodeWF`). The last section draws the error half alone (`…_fwd`) for `fileItem`, `fileLoop`
and `parseFile`.
-/
namespace Knut.Syntax
open Knut.Utf8 Knut.Spec.Syntax

theorem nodeWF_mk {lo hi k : Nat} {r : Range} {cs : List Node} :
    nodeWF lo hi (.mk k r cs) = true ↔ (lo ≤ r.start ∧ r.start ≤ r.stop ∧ r.stop ≤ hi) ∧ nodesWF r.start r.stop cs = true := by
  simp [nodeWF, within_iff]

theorem nodeWF_leaf {lo hi k : Nat} {r : Range} :
    nodeWF lo hi (leaf k r) = true ↔ lo ≤ r.start ∧ r.start ≤ r.stop ∧ r.stop ≤ hi := by
  simp [leaf, nodeWF_mk, nodesWF]

@[simp] theorem nodesWF_nil (lo hi : Nat) : nodesWF lo hi [] = true := by simp [nodesWF]

theorem nodesWF_cons {lo hi : Nat} {c : Node} {cs : List Node} :
    nodesWF lo hi (c :: cs) = true ↔ nodeWF lo hi c = true ∧ nodesWF lo hi cs = true := by
  simp [nodesWF]

theorem nodesWF_iff {lo hi : Nat} {cs : List Node} : nodesWF lo hi cs = true ↔ ∀ c ∈ cs, nodeWF lo hi c = true := by
  induction cs with
  | nil => simp
  | cons c cs ih => simp [nodesWF_cons, ih]

theorem nodesWF_append {lo hi : Nat} {a b : List Node} :
    nodesWF lo hi (a ++ b) = true ↔ nodesWF lo hi a = true ∧ nodesWF lo hi b = true := by
  simp only [nodesWF_iff, List.mem_append]
  constructor
  · intro h; exact ⟨fun c hc => h c (Or.inl hc), fun c hc => h c (Or.inr hc)⟩
  · rintro ⟨h1, h2⟩ c (hc | hc)
    · exact h1 c hc
    · exact h2 c hc

theorem nodesWF_map {α} {lo hi : Nat} {l : List α} {f : α → Node} :
    nodesWF lo hi (l.map f) = true ↔ ∀ x ∈ l, nodeWF lo hi (f x) = true := by
  simp [nodesWF_iff]

theorem nodeWF_mono {lo hi lo' hi' : Nat} {n : Node} (h : nodeWF lo hi n = true) (h1 : lo' ≤ lo) (h2 : hi ≤ hi') :
    nodeWF lo' hi' n = true := by
  cases n with
  | mk k r cs =>
    rw [nodeWF_mk] at h ⊢
    exact ⟨by omega, h.2⟩

theorem parseDate_runs (s : St) : Runs s.off (parseDate s) fun d s' => d = ⟨⟨s.off, s'.off⟩⟩ := by
  unfold parseDate
  simp only
  refine Runs.bind (Nat.le_refl _) (readCharacterWith_fwd _ _ _) (annotate_ok (Nat.le_refl _)) fun _ s1 k1 h1 _ => ?_
  refine Runs.bind k1 (readCharacterWith_fwd _ _ s1) (annotate_ok (Nat.le_refl _)) fun _ s2 k2 h2 _ => ?_
  refine Runs.bind k2 (readCharacterWith_fwd _ _ s2) (annotate_ok (Nat.le_refl _)) fun _ s3 k3 h3 _ => ?_
  refine Runs.bind k3 (readCharacterWith_fwd _ _ s3) (annotate_ok (Nat.le_refl _)) fun _ s4 k4 h4 _ => ?_
  refine Runs.bind k4 (readCharacter_fwd _ s4) (annotate_ok (Nat.le_refl _)) fun _ s5 k5 h5 _ => ?_
  refine Runs.bind k5 (readCharacterWith_fwd _ _ s5) (annotate_ok (Nat.le_refl _)) fun _ s6 k6 h6 _ => ?_
  refine Runs.bind k6 (readCharacterWith_fwd _ _ s6) (annotate_ok (Nat.le_refl _)) fun _ s7 k7 h7 _ => ?_
  refine Runs.bind k7 (readCharacter_fwd _ s7) (annotate_ok (Nat.le_refl _)) fun _ s8 k8 h8 _ => ?_
  refine Runs.bind k8 (readCharacterWith_fwd _ _ s8) (annotate_ok (Nat.le_refl _)) fun _ s9 k9 h9 _ => ?_
  refine Runs.bind k9 (readCharacterWith_fwd _ _ s9) (annotate_ok (Nat.le_refl _)) fun _ s10 k10 h10 _ => ?_
  exact Runs.pure (Nat.le_refl _) rfl

theorem parseCommodity_runs (s : St) : Runs s.off (parseCommodity s) fun c s' => c = ⟨⟨s.off, s'.off⟩⟩ := by
  unfold parseCommodity
  refine Runs.bind (Nat.le_refl _) (readWhile1_fwd _ _ _) (annotate_ok (Nat.le_refl _)) fun _ s1 k1 h1 _ => ?_
  exact Runs.pure (Nat.le_refl _) rfl

theorem parseInterval_runs (s : St) : Runs s.off (parseInterval s) fun c s' => c = ⟨⟨s.off, s'.off⟩⟩ := by
  unfold parseInterval
  refine Runs.bind (Nat.le_refl _) (readAlternative_fwd _ _) (annotate_ok (Nat.le_refl _)) fun _ s1 k1 h1 _ => ?_
  exact Runs.pure (Nat.le_refl _) rfl

theorem parseDecimal_runs (s : St) : Runs s.off (parseDecimal s) fun c s' => c = ⟨⟨s.off, s'.off⟩⟩ := by
  unfold parseDecimal
  refine Runs.bind (Q := fun _ _ => True) (Nat.le_refl _) ?_ id_ok fun _ s1 k1 h1 _ => ?_
  · split
    · refine Runs.bind (Nat.le_refl _) (readCharacter_fwd _ _) (annotate_ok (Nat.le_refl _)) fun _ s1 k1 h1 _ => ?_
      exact Runs.pure (Nat.le_refl _) trivial
    · exact Runs.pure (Nat.le_refl _) trivial
  · refine Runs.bind k1 (readWhile1_fwd _ _ s1) (annotate_ok (Nat.le_refl _)) fun _ s2 k2 h2 _ => ?_
    split
    · exact Runs.pure (Nat.le_refl _) rfl
    · refine Runs.bind k2 (readCharacter_fwd _ s2) (annotate_ok (Nat.le_refl _)) fun _ s3 k3 h3 _ => ?_
      refine Runs.bind k3 (readWhile1_fwd _ _ s3) (annotate_ok (Nat.le_refl _)) fun _ s4 k4 h4 _ => ?_
      exact Runs.pure (Nat.le_refl _) rfl

theorem accountLoop_runs (start : Nat) (s : St) (hs : start ≤ s.off) :
    Runs s.off (accountLoop start s) fun a s' => a = ⟨⟨start, s'.off⟩, false⟩ := by
  fun_induction accountLoop start s with
  | case1 s h => exact Runs.pure (Nat.le_refl _) rfl
  | case2 s h e s1 h1 => exact (readCharacter_fwd _ _).err_annot h1 hs
  | case3 s h x s1 h1 e s2 h2 =>
    have o1 := (readCharacter_fwd 58 s).le h1
    exact ((readWhile1_fwd _ _ s1).weaken o1).err_annot h2 hs
  | case4 s h x s1 h1 y s2 h2 ih =>
    have o1 := (readCharacter_fwd 58 s).le h1
    have o2 := (readWhile1_fwd _ _ s1).le h2
    exact (ih (by omega)).weaken (by omega)

theorem parseAccount_runs (s : St) : Runs s.off (parseAccount s) fun a s' => ∃ m, a = ⟨⟨s.off, s'.off⟩, m⟩ := by
  unfold parseAccount
  simp only
  split
  · refine Runs.bind (Nat.le_refl _) (readCharacter_fwd _ _) (annotate_ok (Nat.le_refl _)) fun _ s1 k1 h1 _ => ?_
    refine Runs.bind k1 (readWhile1_fwd _ _ s1) (annotate_ok (Nat.le_refl _)) fun _ s2 k2 h2 _ => ?_
    exact Runs.pure (Nat.le_refl _) ⟨true, rfl⟩
  · refine Runs.bind (Nat.le_refl _) (readWhile1_fwd _ _ _) (annotate_ok (Nat.le_refl _)) fun _ s1 k1 h1 _ => ?_
    exact (accountLoop_runs _ s1 h1).imp fun _ _ _ e => ⟨false, e⟩

theorem parseQuotedString_runs (s : St) : Runs s.off (parseQuotedString s) fun q s' =>
    q.range = ⟨s.off, s'.off⟩ ∧ s.off ≤ q.content.start ∧ q.content.start ≤ q.content.stop ∧ q.content.stop ≤ s'.off := by
  unfold parseQuotedString
  refine Runs.bind (Nat.le_refl _) (readCharacter_fwd _ _) (annotate_ok (Nat.le_refl _)) fun _ s1 k1 h1 _ => ?_
  refine Runs.bind k1 (readWhile_runs _ s1) (annotate_ok (Nat.le_refl _)) fun c s2 k2 h2 hc => ?_
  refine Runs.bind k2 (readCharacter_fwd _ s2) (annotate_ok (Nat.le_refl _)) fun _ s3 k3 h3 _ => ?_
  refine Runs.pure (Nat.le_refl _) ⟨rfl, ?_⟩
  simp only [hc]
  omega

theorem quoted_wf {lo hi a b : Nat} {q : QuotedString} (hq : q.range = ⟨a, b⟩) (h1 : lo ≤ a) (h2 : b ≤ hi)
    (h3 : a ≤ q.content.start) (h4 : q.content.start ≤ q.content.stop) (h5 : q.content.stop ≤ b) :
    nodeWF lo hi q.toNode = true := by
  simp only [QuotedString.toNode, nodeWF_mk, nodesWF_cons, nodeWF_leaf, nodesWF_nil, and_true, hq]
  omega

theorem parseBooking_runs (s : St) :
    Runs s.off (parseBooking s) fun b s' => b.range = ⟨s.off, s'.off⟩ ∧ nodeWF s.off s'.off b.toNode = true := by
  unfold parseBooking
  refine Runs.bind (Nat.le_refl _) (parseAccount_runs _) (annotate_ok (Nat.le_refl _)) fun _ s1 k1 h1 ⟨m1, e1⟩ => ?_
  refine Runs.bind k1 (readWhile1_fwd _ _ s1) (annotate_ok (Nat.le_refl _)) fun _ s2 k2 h2 _ => ?_
  refine Runs.bind k2 (parseAccount_runs s2) (annotate_ok (Nat.le_refl _)) fun _ s3 k3 h3 ⟨m3, e3⟩ => ?_
  refine Runs.bind k3 (readWhile1_fwd _ _ s3) (annotate_ok (Nat.le_refl _)) fun _ s4 k4 h4 _ => ?_
  refine Runs.bind k4 (parseDecimal_runs s4) (annotate_ok (Nat.le_refl _)) fun _ s5 k5 h5 e5 => ?_
  refine Runs.bind k5 (readWhile1_fwd _ _ s5) (annotate_ok (Nat.le_refl _)) fun _ s6 k6 h6 _ => ?_
  refine Runs.bind k6 (parseCommodity_runs s6) (annotate_ok (Nat.le_refl _)) fun _ s7 k7 h7 e7 => ?_
  refine Runs.pure (Nat.le_refl _) ⟨rfl, ?_⟩
  subst e1 e3 e5 e7
  simp only [Booking.toNode, Account.toNode, Decimal.toNode, Commodity.toNode, nodeWF_mk, nodesWF_cons, nodeWF_leaf,
    nodesWF_nil, rng, and_true]
  omega

theorem parseBalance_runs (s : St) :
    Runs s.off (parseBalance s) fun b s' => b.range = ⟨s.off, s'.off⟩ ∧ nodeWF s.off s'.off b.toNode = true := by
  unfold parseBalance
  refine Runs.bind (Nat.le_refl _) (parseAccount_runs _) (annotate_ok (Nat.le_refl _)) fun _ s1 k1 h1 ⟨m1, e1⟩ => ?_
  refine Runs.bind k1 (readWhitespace1_fwd s1) (annotate_ok (Nat.le_refl _)) fun _ s2 k2 h2 _ => ?_
  refine Runs.bind k2 (parseDecimal_runs s2) (annotate_ok (Nat.le_refl _)) fun _ s3 k3 h3 e3 => ?_
  refine Runs.bind k3 (readWhitespace1_fwd s3) (annotate_ok (Nat.le_refl _)) fun _ s4 k4 h4 _ => ?_
  refine Runs.bind k4 (parseCommodity_runs s4) (annotate_ok (Nat.le_refl _)) fun _ s5 k5 h5 e5 => ?_
  refine Runs.pure (Nat.le_refl _) ⟨rfl, ?_⟩
  subst e1 e3 e5
  simp only [Balance.toNode, Account.toNode, Decimal.toNode, Commodity.toNode, nodeWF_mk, nodesWF_cons, nodeWF_leaf,
    nodesWF_nil, rng, and_true]
  omega

theorem parseAccrual_runs (s : St) : Runs s.off (parseAccrual s) fun a s' =>
    a.range = ⟨s.off, s'.off⟩ ∧ nodesWF s.off s'.off a.toNode.children = true := by
  unfold parseAccrual
  refine Runs.bind (Nat.le_refl _) (readWhitespace1_fwd _) (annotate_ok (Nat.le_refl _)) fun _ s1 k1 h1 _ => ?_
  refine Runs.bind k1 (parseInterval_runs s1) (annotate_ok (Nat.le_refl _)) fun _ s2 k2 h2 e2 => ?_
  refine Runs.bind k2 (readWhitespace1_fwd s2) (annotate_ok (Nat.le_refl _)) fun _ s3 k3 h3 _ => ?_
  refine Runs.bind k3 (parseDate_runs s3) (annotate_ok (Nat.le_refl _)) fun _ s4 k4 h4 e4 => ?_
  refine Runs.bind k4 (readWhitespace1_fwd s4) (annotate_ok (Nat.le_refl _)) fun _ s5 k5 h5 _ => ?_
  refine Runs.bind k5 (parseDate_runs s5) (annotate_ok (Nat.le_refl _)) fun _ s6 k6 h6 e6 => ?_
  refine Runs.bind k6 (readWhitespace1_fwd s6) (annotate_ok (Nat.le_refl _)) fun _ s7 k7 h7 _ => ?_
  refine Runs.bind k7 (parseAccount_runs s7) (annotate_ok (Nat.le_refl _)) fun _ s8 k8 h8 ⟨m, e8⟩ => ?_
  refine Runs.pure (Nat.le_refl _) ⟨rfl, ?_⟩
  subst e2 e4 e6 e8
  simp only [Accrual.toNode, Node.children, Account.toNode, Date.toNode, Interval.toNode, nodesWF_cons, nodeWF_leaf,
    nodesWF_nil, rng, and_true]
  omega

theorem perfLoop_runs (start : Nat) (acc : List Commodity) (s : St) (hs : start ≤ s.off) {lo : Nat} (hlo : lo ≤ s.off)
    (hacc : ∀ c ∈ acc, nodeWF lo s.off c.toNode = true) :
    Runs s.off (perfLoop start acc s) fun ts s' => ∀ c ∈ ts, nodeWF lo s'.off c.toNode = true := by
  fun_induction perfLoop start acc s with
  | case1 acc s h => exact Runs.pure (Nat.le_refl _) (by simpa using hacc)
  | case2 acc s h e s1 h1 => exact (readCharacter_fwd _ _).err_annot h1 hs
  | case3 acc s h x s1 h1 e s2 h2 =>
    have o1 := (readCharacter_fwd 44 s).le h1
    exact ((readWhile_runs _ s1).weaken o1).err_annot h2 hs
  | case4 acc s h x s1 h1 y s2 h2 e s3 h3 =>
    have o1 := (readCharacter_fwd 44 s).le h1
    have o2 := (readWhile_runs _ s1).le h2
    exact ((parseCommodity_runs s2).weaken (Nat.le_trans o1 o2)).err_annot h3 hs
  | case5 acc s h x s1 h1 y s2 h2 c s3 h3 e s4 h4 =>
    have o1 := (readCharacter_fwd 44 s).le h1
    have o2 := (readWhile_runs _ s1).le h2
    have o3 := (parseCommodity_runs s2).le h3
    exact ((readWhile_runs _ s3).weaken (by omega)).err_annot h4 hs
  | case6 acc s h x s1 h1 y s2 h2 c s3 h3 z s4 h4 ih =>
    have o1 := (readCharacter_fwd 44 s).le h1
    have o2 := (readWhile_runs _ s1).le h2
    obtain ⟨o3, e3⟩ := (parseCommodity_runs s2).ok _ _ h3
    have o4 := (readWhile_runs _ s3).le h4
    refine (ih (by omega) (by omega) (List.forall_mem_cons.mpr ⟨?_, fun c' hc' => ?_⟩)).weaken (by omega)
    · subst e3
      simp only [Commodity.toNode, nodeWF_leaf]; omega
    · exact nodeWF_mono (hacc c' hc') (Nat.le_refl _) (by omega)

theorem parsePerformance_runs (s : St) : Runs s.off (parsePerformance s) fun p s' =>
    p.range = ⟨s.off, s'.off⟩ ∧ nodesWF s.off s'.off p.toNode.children = true := by
  unfold parsePerformance
  refine Runs.bind (Nat.le_refl _) (readCharacter_fwd _ _) (annotate_ok (Nat.le_refl _)) fun _ s1 k1 h1 _ => ?_
  refine Runs.bind k1 (readWhile_runs _ s1) (annotate_ok (Nat.le_refl _)) fun _ s2 k2 h2 _ => ?_
  refine Runs.bind (Q := fun first s3 => ∀ c ∈ first, nodeWF s.off s3.off c.toNode = true) k2 ?_ id_ok fun first s3 k3 h3 wf => ?_
  · split
    · refine Runs.bind k2 (parseCommodity_runs s2) (annotate_ok (Nat.le_refl _)) fun c t1 j1 g1 e1 => ?_
      refine Runs.bind j1 (readWhile_runs _ t1) (annotate_ok (Nat.le_refl _)) fun _ t2 j2 g2 _ => ?_
      refine Runs.pure (Nat.le_refl _) (List.forall_mem_singleton.mpr ?_)
      subst e1
      simp only [Commodity.toNode, nodeWF_leaf]; omega
    · exact Runs.pure (Nat.le_refl _) (by simp)
  · refine Runs.bind k3 (perfLoop_runs s.off first s3 k3 k3 wf) id_ok fun ts s4 k4 h4 wts => ?_
    refine Runs.bind k4 (readCharacter_fwd _ s4) (annotate_ok (Nat.le_refl _)) fun _ s5 k5 h5 _ => ?_
    refine Runs.pure (Nat.le_refl _) ⟨rfl, ?_⟩
    simp only [Performance.toNode, Node.children, nodesWF_map, rng]
    exact fun c hc => nodeWF_mono (wts c hc) (Nat.le_refl _) h5

theorem nodesWF_optNode {lo hi : Nat} {r : Range} {n : Node} (h : nodeWF lo hi n = true) :
    nodesWF lo hi (optNode r n) = true := by
  unfold optNode
  split
  · simp
  · simp [nodesWF_cons, h]

def AddOK (lo hi : Nat) (perf : Performance) (accr : Accrual) : Prop :=
  nodesWF lo hi (optNode perf.range perf.toNode ++ optNode accr.range accr.toNode) = true

theorem AddOK.mono {lo hi hi' : Nat} {perf : Performance} {accr : Accrual} (h : AddOK lo hi perf accr) (hle : hi ≤ hi') :
    AddOK lo hi' perf accr := by
  unfold AddOK at h ⊢
  rw [nodesWF_iff] at h ⊢
  intro c hc
  exact nodeWF_mono (h c hc) (Nat.le_refl _) hle

theorem AddOK.zero (lo hi : Nat) : AddOK lo hi Performance.zero Accrual.zero := by
  simp [AddOK, optNode, Performance.zero, Accrual.zero]

theorem extend_kw {a b c : Nat} (h1 : a ≤ b) (h2 : b ≤ c) : (Range.mk b c).extend ⟨a, b⟩ = ⟨a, c⟩ := by
  simp only [Range.extend, Range.mk.injEq]
  constructor
  · split <;> omega
  · split <;> omega

theorem addonStep_runs (start : Nat) (perf : Performance) (accr : Accrual) (r0 : Nat) (kw : String) (s : St) {lo : Nat}
    (hs : start ≤ s.off) (h1 : lo ≤ r0) (h2 : r0 ≤ s.off) (hA : AddOK lo s.off perf accr) :
    Runs s.off (addonStep start perf accr ⟨r0, s.off⟩ kw s) fun pa s' => AddOK lo s'.off pa.1 pa.2 := by
  unfold addonStep
  simp only
  have hA1 := nodesWF_append.mp hA
  have dup : ∀ m, Runs s.off (Res.err (annotate "parsing addons" start [Frame.at m ⟨r0, s.off⟩] s) s : Res (Performance × Accrual))
      fun pa s' => AddOK lo s'.off pa.1 pa.2 := fun m =>
    Runs.fail (Nat.le_refl _) (annotate_ok hs _ _ (Nat.le_refl _) (errOK_single_at.mpr ⟨h2, Nat.le_refl _⟩))
  split
  · split
    · exact dup _
    · refine Runs.bind (Nat.le_refl _) (parsePerformance_runs _) (annotate_ok hs) fun p s1 k1 o1 ⟨e1, w1⟩ => ?_
      refine Runs.pure (Nat.le_refl _) (nodesWF_append.mpr ⟨nodesWF_optNode ?_, ?_⟩)
      · simp only [Performance.toNode, e1, extend_kw h2 o1, nodeWF_mk]
        refine ⟨by omega, ?_⟩
        simp only [Performance.toNode, Node.children] at w1
        rw [nodesWF_iff] at w1 ⊢
        exact fun c hc => nodeWF_mono (w1 c hc) h2 (Nat.le_refl _)
      · rw [nodesWF_iff]
        exact fun c hc => nodeWF_mono (nodesWF_iff.mp hA1.2 c hc) (Nat.le_refl _) o1
  · split
    · split
      · exact dup _
      · refine Runs.bind (Nat.le_refl _) (parseAccrual_runs _) (annotate_ok hs) fun a s1 k1 o1 ⟨e1, w1⟩ => ?_
        refine Runs.pure (Nat.le_refl _) (nodesWF_append.mpr ⟨?_, nodesWF_optNode ?_⟩)
        · rw [nodesWF_iff]
          exact fun c hc => nodeWF_mono (nodesWF_iff.mp hA1.1 c hc) (Nat.le_refl _) o1
        · simp only [Accrual.toNode, e1, extend_kw h2 o1, nodeWF_mk]
          refine ⟨by omega, ?_⟩
          simp only [Accrual.toNode, Node.children] at w1
          rw [nodesWF_iff] at w1 ⊢
          exact fun c hc => nodeWF_mono (w1 c hc) h2 (Nat.le_refl _)
    · exact Runs.pure (Nat.le_refl _) hA

theorem addonsLoop_runs (start : Nat) (perf : Performance) (accr : Accrual) (s : St) (hs : start ≤ s.off)
    (hA : AddOK start s.off perf accr) :
    Runs s.off (addonsLoop start perf accr s) fun a s' => a.range = ⟨start, s'.off⟩ ∧ nodeWF start s'.off a.toNode = true := by
  fun_induction addonsLoop start perf accr s with
  | case1 perf accr s e s1 h1 => exact (readAlternative_fwd _ _).err_annot h1 hs
  | case2 perf accr s r kw s1 h1 e s2 h2 =>
    have o1 := (readAlternative_fwd _ s).le h1
    obtain ⟨_, c, hcs, _, rfl⟩ := readAlternative_pass h1
    have := (addonStep_runs start perf accr s.off kw s1 (by omega) hs o1 (hA.mono o1)).err e s2 h2
    exact Runs.fail (by omega) this.2
  | case3 perf accr s r kw s1 h1 perf' accr' s2 h2 e s3 h3 =>
    have o1 := (readAlternative_fwd _ s).le h1
    obtain ⟨_, c, hcs, _, rfl⟩ := readAlternative_pass h1
    have o2 := (addonStep_runs start perf accr s.off kw s1 (by omega) hs o1 (hA.mono o1)).le h2
    have o3 := ((readRestOfWhitespaceLine_fwd s2).err _ _ h3).1
    exact Runs.fail (by omega) (annotate_ok (lo := s.off) hs _ _ (by omega) rfl)
  | case4 perf accr s r kw s1 h1 perf' accr' s2 h2 x s3 h3 hc =>
    have o1 := (readAlternative_fwd _ s).le h1
    obtain ⟨_, c, hcs, _, rfl⟩ := readAlternative_pass h1
    obtain ⟨o2, A2⟩ := (addonStep_runs start perf accr s.off kw s1 (by omega) hs o1 (hA.mono o1)).ok _ _ h2
    have o3 := (readRestOfWhitespaceLine_fwd s2).le h3
    refine Runs.pure (by omega) ⟨rfl, ?_⟩
    simp only [Addons.toNode, rng, nodeWF_mk]
    exact ⟨by omega, A2.mono o3⟩
  | case5 perf accr s r kw s1 h1 perf' accr' s2 h2 x s3 h3 hc ih =>
    have o1 := (readAlternative_fwd _ s).le h1
    obtain ⟨_, c, hcs, _, rfl⟩ := readAlternative_pass h1
    obtain ⟨o2, A2⟩ := (addonStep_runs start perf accr s.off kw s1 (by omega) hs o1 (hA.mono o1)).ok _ _ h2
    have o3 := (readRestOfWhitespaceLine_fwd s2).le h3
    exact (ih (by omega) (A2.mono o3)).weaken (by omega)

theorem parseAddons_runs (s : St) :
    Runs s.off (parseAddons s) fun a s' => a.range = ⟨s.off, s'.off⟩ ∧ nodeWF s.off s'.off a.toNode = true :=
  addonsLoop_runs _ _ _ _ (Nat.le_refl _) (AddOK.zero _ _)

/-- for `bookingsLoop` and `balancesLoop`, by their unfolding equation -/
theorem linesLoop_runs {α} {elem : St → Res α} {toNode : α → Node} {desc : String} {L : Nat → List α → St → Res (List α)}
    (hL : ∀ start acc s, L start acc s = (elem s).bind (annotate desc start) fun b s1 =>
      (readRestOfWhitespaceLine s1).bind (annotate desc start) fun _ s2 =>
      if isWhitespaceOrNewline (cur s2) || atEOF s2 then .ok (b :: acc).reverse s2 else L start (b :: acc) s2)
    (hp : ∀ s, Prog s (elem s)) (he : ∀ s, Runs s.off (elem s) fun b s' => nodeWF s.off s'.off (toNode b) = true)
    (start : Nat) : ∀ (acc : List α) (s : St), start ≤ s.off → (∀ b ∈ acc, nodeWF start s.off (toNode b) = true) →
      Runs s.off (L start acc s) fun bs s' => ∀ b ∈ bs, nodeWF start s'.off (toNode b) = true := by
  suffices ∀ n acc s, s.toks.length = n → start ≤ s.off → (∀ b ∈ acc, nodeWF start s.off (toNode b) = true) →
      Runs s.off (L start acc s) fun bs s' => ∀ b ∈ bs, nodeWF start s'.off (toNode b) = true from
    fun acc s => this _ acc s rfl
  intro n
  induction n using Nat.strongRecOn with
  | ind n ih =>
    intro acc s hn hs hacc
    rw [hL]
    cases h1 : elem s with
    | err e s1 => exact (he s).err_annot h1 hs
    | ok b s1 =>
      obtain ⟨o1, w1⟩ := (he s).ok _ _ h1
      change Runs _ ((readRestOfWhitespaceLine s1).bind _ _) _
      cases h2 : readRestOfWhitespaceLine s1 with
      | err e s2 => exact ((readRestOfWhitespaceLine_fwd s1).weaken o1).err_annot h2 hs
      | ok x s2 =>
        have o2 := (readRestOfWhitespaceLine_fwd s1).le h2
        have hacc' : ∀ b' ∈ b :: acc, nodeWF start s2.off (toNode b') = true :=
          List.forall_mem_cons.mpr ⟨nodeWF_mono w1 hs o2, fun b' hb' => nodeWF_mono (hacc b' hb') (Nat.le_refl _) (by omega)⟩
        change Runs _ (if _ then _ else _) _
        split
        · exact Runs.pure (by omega) fun b' hb' => hacc' b' (List.mem_reverse.mp hb')
        · have hlt := (((hp s).of_ok h1).trans_ext (ext_of_ok (readRestOfWhitespaceLine_ext _) h2)).length_lt
          exact (ih _ (hn ▸ hlt) (b :: acc) s2 rfl (by omega) hacc').weaken (by omega)

theorem parseTransaction_runs (start : Nat) (date : Date) (addons : Addons) (s : St) (hs : start ≤ s.off)
    (hd : nodeWF start s.off date.toNode = true) (ha : nodesWF start s.off (optNode addons.range addons.toNode) = true) :
    Runs s.off (parseTransaction start date addons s) fun t s' =>
      t.range = ⟨start, s'.off⟩ ∧ nodeWF start s'.off t.toNode = true := by
  unfold parseTransaction
  refine Runs.bind (Nat.le_refl _) (parseQuotedString_runs _) (annotate_ok hs) fun q s1 k1 h1 ⟨q1, q2, q3, q4⟩ => ?_
  refine Runs.bind k1 (readRestOfWhitespaceLine_fwd s1) (annotate_ok hs) fun _ s2 k2 h2 _ => ?_
  refine Runs.bind k2 (linesLoop_runs bookingsLoop_eq parseBooking_prog (fun s => (parseBooking_runs s).imp fun _ _ _ q => q.2)
    start [] s2 (Nat.le_trans hs k2) (by simp)) id_ok fun bs s3 k3 h3 wb => ?_
  refine Runs.pure (Nat.le_refl _) ⟨rfl, ?_⟩
  simp only [Transaction.toNode, rng, nodeWF_mk]
  refine ⟨by omega, ?_⟩
  rw [nodesWF_append, nodesWF_append]
  refine ⟨⟨?_, ?_⟩, nodesWF_map.mpr wb⟩
  · rw [nodesWF_iff] at ha ⊢
    exact fun c hc => nodeWF_mono (ha c hc) (Nat.le_refl _) k3
  · simp only [nodesWF_cons, nodesWF_nil, and_true]
    exact ⟨nodeWF_mono hd (Nat.le_refl _) k3, quoted_wf q1 (by omega) (by omega) q2 q3 q4⟩

theorem parseOpen_runs (start : Nat) (date : Date) (s : St) (hs : start ≤ s.off) (hd : nodeWF start s.off date.toNode = true) :
    Runs s.off (parseOpen start date s) fun o s' => o.range = ⟨start, s'.off⟩ ∧ nodeWF start s'.off o.toNode = true := by
  unfold parseOpen
  refine Runs.bind (Nat.le_refl _) (parseAccount_runs _) (annotate_ok hs) fun _ s1 k1 h1 ⟨m, e1⟩ => ?_
  refine Runs.pure (Nat.le_refl _) ⟨rfl, ?_⟩
  subst e1
  simp only [Open.toNode, rng, nodeWF_mk, nodesWF_cons, nodesWF_nil, and_true, Account.toNode, nodeWF_leaf]
  exact ⟨by omega, nodeWF_mono hd (Nat.le_refl _) h1, by omega⟩

theorem parseClose_runs (start : Nat) (date : Date) (s : St) (hs : start ≤ s.off) (hd : nodeWF start s.off date.toNode = true) :
    Runs s.off (parseClose start date s) fun o s' => o.range = ⟨start, s'.off⟩ ∧ nodeWF start s'.off o.toNode = true := by
  unfold parseClose
  refine Runs.bind (Nat.le_refl _) (parseAccount_runs _) (annotate_ok hs) fun _ s1 k1 h1 ⟨m, e1⟩ => ?_
  refine Runs.pure (Nat.le_refl _) ⟨rfl, ?_⟩
  subst e1
  simp only [Close.toNode, rng, nodeWF_mk, nodesWF_cons, nodesWF_nil, and_true, Account.toNode, nodeWF_leaf]
  exact ⟨by omega, nodeWF_mono hd (Nat.le_refl _) h1, by omega⟩

theorem parseAssertion_runs (start : Nat) (date : Date) (s : St) (hs : start ≤ s.off) (hd : nodeWF start s.off date.toNode = true) :
    Runs s.off (parseAssertion start date s) fun a s' => a.range = ⟨start, s'.off⟩ ∧ nodeWF start s'.off a.toNode = true := by
  unfold parseAssertion
  simp only
  split
  · refine Runs.bind (Nat.le_refl _) (readRestOfWhitespaceLine_fwd _) (annotate_ok hs) fun _ s1 k1 h1 _ => ?_
    refine Runs.bind k1 (linesLoop_runs balancesLoop_eq parseBalance_prog (fun s => (parseBalance_runs s).imp fun _ _ _ q => q.2)
      start [] s1 (Nat.le_trans hs k1) (by simp)) id_ok fun bs s2 k2 h2 wb => ?_
    refine Runs.pure (Nat.le_refl _) ⟨rfl, ?_⟩
    simp only [Assertion.toNode, rng, nodeWF_mk, nodesWF_cons, nodesWF_map]
    exact ⟨by omega, nodeWF_mono hd (Nat.le_refl _) (by omega), wb⟩
  · refine Runs.bind (Nat.le_refl _) (parseBalance_runs _) (annotate_ok hs) fun b s1 k1 h1 ⟨_, w⟩ => ?_
    refine Runs.pure (Nat.le_refl _) ⟨rfl, ?_⟩
    simp only [Assertion.toNode, rng, nodeWF_mk, nodesWF_cons, List.map_cons, List.map_nil, nodesWF_nil, and_true]
    exact ⟨by omega, nodeWF_mono hd (Nat.le_refl _) h1, nodeWF_mono w hs (Nat.le_refl _)⟩

theorem parsePrice_runs (start : Nat) (date : Date) (s : St) (hs : start ≤ s.off) (hd : nodeWF start s.off date.toNode = true) :
    Runs s.off (parsePrice start date s) fun p s' => p.range = ⟨start, s'.off⟩ ∧ nodeWF start s'.off p.toNode = true := by
  unfold parsePrice
  refine Runs.bind (Nat.le_refl _) (parseCommodity_runs _) (annotate_ok hs) fun _ s1 k1 h1 e1 => ?_
  refine Runs.bind k1 (readWhitespace1_fwd s1) (annotate_ok hs) fun _ s2 k2 h2 _ => ?_
  refine Runs.bind k2 (parseDecimal_runs s2) (annotate_ok hs) fun _ s3 k3 h3 e3 => ?_
  refine Runs.bind k3 (readWhitespace1_fwd s3) (annotate_ok hs) fun _ s4 k4 h4 _ => ?_
  refine Runs.bind k4 (parseCommodity_runs s4) id_ok fun _ s5 k5 h5 e5 => ?_
  refine Runs.pure (Nat.le_refl _) ⟨rfl, ?_⟩
  subst e1 e3 e5
  simp only [Price.toNode, rng, nodeWF_mk, nodesWF_cons, nodesWF_nil, and_true, Commodity.toNode, Decimal.toNode, nodeWF_leaf]
  exact ⟨by omega, nodeWF_mono hd (Nat.le_refl _) (by omega), by omega, by omega, by omega⟩

theorem parseInclude_runs (s : St) :
    Runs s.off (parseInclude s) fun i s' => i.range = ⟨s.off, s'.off⟩ ∧ nodeWF s.off s'.off i.toNode = true := by
  unfold parseInclude
  refine Runs.bind (Nat.le_refl _) (readString_fwd _ _) (annotate_ok (Nat.le_refl _)) fun _ s1 k1 h1 _ => ?_
  refine Runs.bind k1 (readWhitespace1_fwd s1) (annotate_ok (Nat.le_refl _)) fun _ s2 k2 h2 _ => ?_
  refine Runs.bind k2 (parseQuotedString_runs s2) (annotate_ok (Nat.le_refl _)) fun q s3 k3 h3 ⟨q1, q2, q3, q4⟩ => ?_
  refine Runs.pure (Nat.le_refl _) ⟨rfl, ?_⟩
  simp only [Include.toNode, rng, nodeWF_mk, nodesWF_cons, nodesWF_nil, and_true]
  exact ⟨by omega, quoted_wf q1 (by omega) (by omega) q2 q3 q4⟩

theorem parseKeyword_runs (start : Nat) (date : Date) (kw : String) (s : St) (hs : start ≤ s.off)
    (hd : nodeWF start s.off date.toNode = true) :
    Runs s.off (parseKeyword start date kw s) fun b s' => b.range = ⟨start, s'.off⟩ ∧ nodeWF start s'.off b.toNode = true := by
  unfold parseKeyword
  simp only
  split
  · exact Runs.bind (Nat.le_refl _) (parseOpen_runs _ _ _ hs hd) (annotate_ok hs) fun _ _ _ _ q => Runs.pure (Nat.le_refl _) q
  · split
    · exact Runs.bind (Nat.le_refl _) (parseClose_runs _ _ _ hs hd) (annotate_ok hs) fun _ _ _ _ q => Runs.pure (Nat.le_refl _) q
    · split
      · exact Runs.bind (Nat.le_refl _) (parseAssertion_runs _ _ _ hs hd) (annotate_ok hs) fun _ _ _ _ q => Runs.pure (Nat.le_refl _) q
      · exact Runs.bind (Nat.le_refl _) (parsePrice_runs _ _ _ hs hd) (annotate_ok hs) fun _ _ _ _ q => Runs.pure (Nat.le_refl _) q

theorem parseDirectiveBody_runs (start : Nat) (addons : Addons) (s : St) (hs : start ≤ s.off)
    (ha : nodesWF start s.off (optNode addons.range addons.toNode) = true) :
    Runs s.off (parseDirectiveBody start addons s) fun b s' =>
      b.range.stop = s'.off ∧ start ≤ b.range.start ∧ nodeWF start s'.off b.toNode = true := by
  unfold parseDirectiveBody
  simp only
  split
  · refine Runs.bind (Nat.le_refl _) (parseInclude_runs _) (annotate_ok hs) fun i s1 k1 h1 ⟨e1, w1⟩ => ?_
    refine Runs.pure (Nat.le_refl _) ?_
    simp only [Body.range, Body.toNode, e1]
    exact ⟨trivial, hs, nodeWF_mono w1 hs (Nat.le_refl _)⟩
  · refine Runs.bind (Nat.le_refl _) (parseDate_runs _) (annotate_ok hs) fun d s1 k1 h1 e1 => ?_
    refine Runs.bind k1 (readWhitespace1_fwd s1) (annotate_ok hs) fun _ s2 k2 h2 _ => ?_
    subst e1
    have hd : nodeWF start s2.off (Date.toNode ⟨⟨s.off, s1.off⟩⟩) = true := by
      simp only [Date.toNode, nodeWF_leaf]; omega
    split
    · refine Runs.bind k2 (parseTransaction_runs _ _ _ s2 (Nat.le_trans hs k2) hd ?_) (annotate_ok hs) fun t s3 k3 h3 ⟨e3, w3⟩ => ?_
      · rw [nodesWF_iff] at ha ⊢
        exact fun c hc => nodeWF_mono (ha c hc) (Nat.le_refl _) k2
      · refine Runs.pure (Nat.le_refl _) ?_
        simp only [Body.range, Body.toNode, e3]
        exact ⟨trivial, Nat.le_refl _, w3⟩
    · refine Runs.bind k2 (readAlternative_fwd _ s2) (annotate_ok hs) fun x s3 k3 h3 _ => ?_
      refine Runs.bind k3 (readWhitespace1_fwd s3) (annotate_ok hs) fun _ s4 k4 h4 _ => ?_
      exact (parseKeyword_runs _ _ _ s4 (Nat.le_trans hs k4) (nodeWF_mono hd (Nat.le_refl _) (Nat.le_trans h3 h4))).imp
        fun b s' _ q => by rw [q.1]; exact ⟨rfl, Nat.le_refl _, q.2⟩

theorem parseDirective_runs (s : St) :
    Runs s.off (parseDirective s) fun d s' => d.range = ⟨s.off, s'.off⟩ ∧ nodeWF s.off s'.off d.toNode = true := by
  unfold parseDirective
  refine Runs.bind (Q := fun a s1 => nodesWF s.off s1.off (optNode a.range a.toNode) = true) (Nat.le_refl _) ?_ id_ok fun addons s1 k1 h1 wa => ?_
  · split
    · refine Runs.bind (Nat.le_refl _) (parseAddons_runs _) (annotate_ok (Nat.le_refl _)) fun a s1 k1 h1 ⟨_, w⟩ => ?_
      exact Runs.pure (Nat.le_refl _) (nodesWF_optNode w)
    · exact Runs.pure (Nat.le_refl _) (by simp [optNode, Addons.zero])
  · refine Runs.bind k1 (parseDirectiveBody_runs _ _ s1 h1 wa) id_ok fun body s2 k2 h2 ⟨_, b2, b3⟩ => ?_
    refine Runs.pure (Nat.le_refl _) ⟨rfl, ?_⟩
    simp only [Directive.toNode, rng, nodeWF_mk, nodesWF_cons, nodesWF_nil, and_true]
    exact ⟨by omega, b3⟩

/-! ### the file: errors only (what `fileLoop` returns: `fileLoop_end` in `SyntaxFile.lean`, `fileLoop_run` in `SyntaxItems.lean`) -/

theorem fileItem_fwd (s : St) : Fwd s.off (fileItem s) := by
  unfold fileItem
  split
  · exact Runs.bind (Nat.le_refl _) (readComment_fwd _) id_ok fun _ s1 k1 h1 _ => Runs.pure (Nat.le_refl _) trivial
  · split
    · exact Runs.bind (Nat.le_refl _) (parseDirective_runs _) id_ok fun _ s1 k1 h1 _ => Runs.pure (Nat.le_refl _) trivial
    · exact Runs.pure (Nat.le_refl _) trivial

theorem fileLoop_fwd (path : String) (start : Nat) (acc : List Directive) (s : St) (hs : start ≤ s.off) :
    Fwd s.off (fileLoop path start acc s) := by
  fun_induction fileLoop path start acc s with
  | case1 acc s hE => exact Runs.pure (Nat.le_refl _) trivial
  | case2 acc s hE e s1 h1 => exact (fileItem_fwd _).err_annot h1 hs
  | case3 acc s hE d s1 h1 hE1 => exact Runs.pure ((fileItem_fwd s).le h1) trivial
  | case4 acc s hE d s1 h1 hE1 e s2 h2 =>
    have o1 := (fileItem_fwd s).le h1
    exact ((readRestOfWhitespaceLine_fwd s1).weaken o1).err_annot h2 hs
  | case5 acc s hE d s1 h1 hE1 x s2 h2 ih =>
    have o1 := (fileItem_fwd s).le h1
    have o2 := (readRestOfWhitespaceLine_fwd s1).le h2
    exact (ih (by omega)).weaken (by omega)

theorem parseFile_fwd (path : String) (s : St) : Fwd s.off (parseFile path s) :=
  fileLoop_fwd path s.off [] s (Nat.le_refl _)

end Knut.Syntax
