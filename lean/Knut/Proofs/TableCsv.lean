import Knut.Spec.TableSpec
import Knut.Proofs.DecRoundTrip
/-!
# Helper lemmas for C17: CSV

`String()` of a decimal amount reads back as the amount itself; the records written are the non-blank
rows; what `encoding/csv.Writer` emits parses back (`parseCSV`) to exactly those records.
-/
open Knut.Dec Knut.Table Knut.Table.Spec
namespace Knut.Table

/-- the amount is a decimal fraction whose scale `showDec` finds (every `decimal.Decimal` is) -/
def isDecimal (d : Rat) : Bool := (10 ^ scaleOf d) % d.den == 0

theorem isDecimal_dvd {d : Rat} (h : isDecimal d = true) : d.den ∣ 10 ^ scaleOf d :=
  Nat.dvd_of_mod_eq_zero (by simpa [isDecimal] using h)

def cellDecimal : Cell → Prop
  | .num d => isDecimal d = true
  | _ => True

theorem showDec_ne_nil (d : Rat) : (showDec d).toList ≠ [] := by
  unfold showDec
  rw [showScaled_toList]
  intro h
  simp only [List.append_eq_nil_iff] at h
  exact digitsOf_ne_nil _ h.1.2

theorem csvFieldShows_csvCell (c : Cell) (h : cellDecimal c) : csvFieldShows c (csvCell c) = true := by
  cases c with
  | empty => rfl
  | sep => rfl
  | text s a i => simp [csvFieldShows, csvCell]
  | num d =>
    simp only [csvFieldShows, csvCell, String.ofList_toList]
    rw [parseDec_showDec d _ (isDecimal_dvd h)]
    simp

theorem recordShows_map : ∀ (row : List Cell), (∀ c ∈ row, cellDecimal c) → recordShows row (row.map csvCell) = true
  | [], _ => rfl
  | c :: cs, h => by
    simp only [List.map_cons, recordShows, Bool.and_eq_true]
    exact ⟨csvFieldShows_csvCell c (h c (by simp)), recordShows_map cs (fun x hx => h x (by simp [hx]))⟩

theorem rowBlank_iff (row : List Cell) :
    rowBlank row = !((row.map csvCell).any (fun f => !f.isEmpty)) := by
  induction row with
  | nil => rfl
  | cons c cs ih =>
    simp only [rowBlank, List.all_cons, List.map_cons, List.any_cons, Bool.not_or] at ih ⊢
    rw [ih]
    congr 1
    cases c with
    | empty => rfl
    | sep => rfl
    | text s a i => simp [csvCell]
    | num d =>
      simp only [csvCell]
      have := showDec_ne_nil d
      cases h : (showDec d).toList with
      | nil => exact absurd h this
      | cons _ _ => rfl

theorem csvOK_records : ∀ (rows : List (List Cell)), (∀ row ∈ rows, ∀ c ∈ row, cellDecimal c) →
    csvOK rows ((rows.map (fun row => row.map csvCell)).filter (fun rec => rec.any (fun f => !f.isEmpty))) = true
  | [], _ => rfl
  | row :: rows, h => by
    have ih := csvOK_records rows (fun x hx => h x (by simp [hx]))
    simp only [List.map_cons, List.filter_cons]
    by_cases hb : rowBlank row = true
    · have : (row.map csvCell).any (fun f => !f.isEmpty) = false := by
        rw [rowBlank_iff] at hb; simpa using hb
      simp only [this, Bool.false_eq_true, if_false, csvOK, hb, if_true]
      exact ih
    · have hb' : rowBlank row = false := by simpa using hb
      have : (row.map csvCell).any (fun f => !f.isEmpty) = true := by
        rw [rowBlank_iff] at hb'; simpa using hb'
      simp only [this, if_true, csvOK, hb', Bool.false_eq_true, if_false, Bool.and_eq_true]
      exact ⟨recordShows_map row (h row (by simp)), ih⟩

def isSpecial (c : Char) : Bool := c == '\n' || c == '\r' || c == '"' || c == ','

theorem unquoted_run (term : Char) (rest : List Char)
    (rec : List (List Char)) (recs : List (List (List Char))) :
    ∀ (f acc : List Char), (∀ c ∈ f, isSpecial c = false) →
      parseCSVGo (f ++ term :: rest) .unquoted acc rec recs =
        parseCSVGo (term :: rest) .unquoted (f.reverse ++ acc) rec recs := by
  intro f
  induction f with
  | nil => intro acc _; rfl
  | cons c f ih =>
    intro acc h
    have hc := h c (by simp)
    simp only [isSpecial, Bool.or_eq_false_iff, beq_eq_false_iff_ne] at hc
    rw [List.cons_append, parseCSVGo]
    simp only [hc.1.2, hc.2, hc.1.1.1, if_false]
    rw [ih (c :: acc) (fun x hx => h x (by simp [hx]))]
    simp

def esc (c : Char) : List Char := if c = '"' then ['"', '"'] else [c]

theorem quoted_run (tail : List Char) (rec : List (List Char)) (recs : List (List (List Char))) :
    ∀ (f acc : List Char),
      parseCSVGo (f.flatMap esc ++ '"' :: tail) .quoted acc rec recs =
        parseCSVGo tail .quoteSeen (f.reverse ++ acc) rec recs := by
  intro f
  induction f with
  | nil => intro acc; simp [parseCSVGo]
  | cons c f ih =>
    intro acc
    by_cases hc : c = '"'
    · subst hc
      simp only [List.flatMap_cons, esc, if_true, List.cons_append, List.nil_append]
      rw [parseCSVGo]; simp only [if_true]
      rw [parseCSVGo]; simp only [if_true]
      rw [ih]; simp
    · simp only [List.flatMap_cons, esc, hc, if_false, List.cons_append, List.nil_append]
      rw [parseCSVGo]; simp only [hc, if_false]
      rw [ih]; simp

theorem csvField_eq (f : List Char) : csvField f = if fieldNeedsQuotes f then '"' :: f.flatMap esc ++ ['"'] else f := rfl

theorem noSpecial_of_unquoted {f : List Char} (h : fieldNeedsQuotes f = false) : ∀ c ∈ f, isSpecial c = false := by
  unfold fieldNeedsQuotes at h
  intro c hc
  cases f with
  | nil => simp at hc
  | cons a f' =>
    simp only [List.isEmpty_cons, Bool.false_eq_true, if_false] at h
    split at h
    · simp at h
    · split at h
      · simp at h
      · rename_i hany
        have : ¬ ((c == '\n' || c == '\r' || c == '"' || c == ',') = true) :=
          fun hx => hany (List.any_eq_true.mpr ⟨c, hc, hx⟩)
        unfold isSpecial
        simpa using this

theorem field_term (term : Char) (hterm : term = ',' ∨ term = '\n') (f rest x : List Char)
    (rec : List (List Char)) (recs : List (List (List Char))) :
    parseCSVGo (csvField f ++ term :: rest) .fieldStart x rec recs
      = parseCSVGo (term :: rest) .unquoted f.reverse rec recs := by
  rw [csvField_eq]
  by_cases hq : fieldNeedsQuotes f = true
  · simp only [hq, if_true, List.cons_append, List.append_assoc, List.singleton_append, List.nil_append]
    rw [parseCSVGo]; simp only [if_true]
    rw [quoted_run]
    rcases hterm with rfl | rfl <;> simp [parseCSVGo]
  · have hq' : fieldNeedsQuotes f = false := by simpa using hq
    have hns := noSpecial_of_unquoted hq'
    simp only [hq', Bool.false_eq_true, if_false]
    cases f with
    | nil => rcases hterm with rfl | rfl <;> simp [parseCSVGo]
    | cons c f' =>
      have hc := hns c (by simp)
      simp only [isSpecial, Bool.or_eq_false_iff, beq_eq_false_iff_ne] at hc
      rw [List.cons_append, parseCSVGo]
      simp only [hc.1.2, hc.2, hc.1.1.1, if_false]
      rw [unquoted_run term rest rec recs f' [c] (fun y hy => hns y (by simp [hy]))]
      simp

theorem record_parse (rest : List Char) (recs : List (List (List Char))) :
    ∀ (fs : List (List Char)) (racc : List (List Char)) (x : List Char), fs ≠ [] →
      parseCSVGo (joinFields (fs.map csvField) ++ '\n' :: rest) .fieldStart x racc recs =
        parseCSVGo rest .fieldStart [] [] ((racc.reverse ++ fs) :: recs)
  | [], _, _, h => absurd rfl h
  | [f], racc, x, _ => by
    simp only [List.map_cons, List.map_nil, joinFields]
    rw [field_term '\n' (Or.inr rfl), parseCSVGo]; simp
  | f :: g :: fs, racc, x, _ => by
    simp only [List.map_cons, joinFields, List.append_assoc, List.cons_append]
    rw [field_term ',' (Or.inl rfl), parseCSVGo]
    simp only [Char.reduceEq, if_false, if_true, List.reverse_reverse]
    have := record_parse rest recs (g :: fs) (f :: racc) [] (by simp)
    simp only [List.map_cons] at this
    rw [this]; simp

theorem records_parse : ∀ (rs : List (List (List Char))) (acc : List (List (List Char))),
    (∀ rec ∈ rs, rec ≠ []) → parseCSVGo (rs.flatMap csvLine) .fieldStart [] [] acc = some (acc.reverse ++ rs)
  | [], acc, _ => by simp [parseCSVGo]
  | rec :: rs, acc, h => by
    simp only [List.flatMap_cons, csvLine, List.append_assoc, List.singleton_append]
    rw [record_parse _ _ rec [] [] (h rec (by simp))]
    simp only [List.reverse_nil, List.nil_append]
    rw [records_parse rs (rec :: acc) (fun x hx => h x (by simp [hx]))]
    simp

/-- the scale search of `showDec`, which has `den` as fuel, succeeds on every decimal fraction -/
theorem dvd_pow10_self : ∀ (n : Nat), (∃ k, n ∣ 10 ^ k) → n ∣ 10 ^ n :=
  fun n ⟨k, hk⟩ => Dec.dvd_pow10_self n k hk

/-- every decimal fraction `a / 10^k` is an amount `showDec` handles -/
theorem isDecimal_mkRat (a : Int) (k : Nat) : isDecimal (mkRat a (10 ^ k)) = true := by
  simp [isDecimal, Nat.mod_eq_zero_of_dvd (den_dvd_scaleOf _ k (den_mkRat_pow10_dvd a k))]

end Knut.Table
