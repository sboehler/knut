import Knut.Proofs.TableNum
import Knut.Proofs.ListMapM
/-!
# Helper lemmas for C17: column widths, cells, lines

The width passes of `Render` leave every cell a column at least as wide as `minLengthCell`; a cell
rendered into such a column fills it exactly and shows its content; a row is lead, slots, separators
and trail.
-/
open Knut.Dec Knut.Table Knut.Table.Spec
namespace Knut.Table

def fits (r : Renderer) : List Nat → List Cell → Prop
  | _, [] => True
  | [], _ :: _ => False
  | w :: ws, c :: cs => minLengthCell r c ≤ (w : Int) ∧ fits r ws cs

abbrev le2 (a b : List Nat) : Prop := List.Forall₂ (· ≤ ·) a b

theorem le2_refl (ws : List Nat) : le2 ws ws := forall₂_same fun w _ => Nat.le_refl w

theorem le2_trans {a b c : List Nat} : le2 a b → le2 b c → le2 a c := forall₂_trans (R := (· ≤ ·)) fun _ _ _ => Nat.le_trans

theorem le2_length {a b : List Nat} (h : le2 a b) : a.length = b.length := forall₂_length h

theorem fits_mono (r : Renderer) : ∀ {ws ws' : List Nat} {row : List Cell}, le2 ws ws' → fits r ws row → fits r ws' row
  | _, _, [], _, _ => by simp [fits]
  | _, _, _ :: _, .nil, h => nomatch h
  | _, _, c :: cs, .cons hw hl, h => ⟨Int.le_trans h.1 (Int.ofNat_le.mpr hw), fits_mono r hl h.2⟩

theorem updWidths_spec (r : Renderer) : ∀ (ws : List Nat) (row : List Cell) (ws' : List Nat),
    updWidths r ws row = some ws' → le2 ws ws' ∧ fits r ws' row
  | ws, [], ws', h => by
    simp only [updWidths] at h; cases h; exact ⟨le2_refl _, by simp [fits]⟩
  | [], _ :: _, _, h => by simp [updWidths] at h
  | w :: ws, c :: cs, ws', h => by
    simp only [updWidths] at h
    cases hrec : updWidths r ws cs with
    | none => simp [hrec] at h
    | some t =>
      simp only [hrec] at h
      cases h
      have ⟨h1, h2⟩ := updWidths_spec r ws cs t hrec
      refine ⟨.cons ?_ h1, ?_, h2⟩
      · split <;> omega
      · split <;> omega

theorem widthsPass1_spec (r : Renderer) : ∀ (rows : List (List Cell)) (ws ws' : List Nat),
    widthsPass1 r ws rows = some ws' → le2 ws ws' ∧ ∀ row ∈ rows, fits r ws' row
  | [], ws, ws', h => by
    simp only [widthsPass1] at h; cases h; exact ⟨le2_refl _, by simp⟩
  | row :: rows, ws, ws', h => by
    simp only [widthsPass1] at h
    cases hu : updWidths r ws row with
    | none => simp [hu] at h
    | some w1 =>
      simp only [hu] at h
      have ⟨h1, h2⟩ := updWidths_spec r ws row w1 hu
      have ⟨h3, h4⟩ := widthsPass1_spec r rows w1 ws' h
      refine ⟨le2_trans h1 h3, ?_⟩
      intro x hx
      rcases List.mem_cons.mp hx with rfl | hx
      · exact fits_mono r h3 h2
      · exact h4 x hx

theorem le2_zipIdx_map (g : Nat → Nat) : ∀ (ws : List Nat) (n : Nat),
    le2 ws ((ws.zipIdx n).map (fun wi => if wi.1 < g wi.2 then g wi.2 else wi.1))
  | [], _ => .nil
  | w :: ws, n => by
    simp only [List.zipIdx_cons, List.map_cons]
    exact .cons (by split <;> omega) (le2_zipIdx_map g ws (n + 1))

theorem widthsPass2_le (cols ws : List Nat) : le2 ws (widthsPass2 cols ws) :=
  le2_zipIdx_map (groupWidth cols ws) ws 0

theorem spaces_length (n : Int) : (spaces n).length = n.toNat := by simp [spaces]
theorem dashes_length (n : Int) : (dashes n).length = n.toNat := by simp [dashes]

theorem tdiv2_bounds (x : Int) (h : 0 ≤ x) : 0 ≤ Int.tdiv x 2 ∧ Int.tdiv x 2 ≤ x := by
  rw [Int.tdiv_eq_ediv_of_nonneg h]
  omega

theorem pad_length (s : List Char) (b : Int) (w : Nat) (h0 : 0 ≤ b) (h1 : b + s.length ≤ w) :
    (spaces b ++ s ++ spaces (w - b - s.length)).length = w := by
  simp only [List.length_append, spaces_length]
  omega

theorem renderCell_length (r : Renderer) (c : Cell) (w : Nat)
    (hfit : minLengthCell r c ≤ (w : Int)) (hp : cellPlain c = true) : (renderCell r c w).length = w := by
  cases c with
  | empty => simp [renderCell, spaces]
  | sep => simp [renderCell, dashes]
  | text s a ind =>
    have hind : 0 ≤ ind := by simp [cellPlain] at hp; exact hp.1
    cases a with
    | left => exact pad_length s ind w hind (by simpa [minLengthCell] using hfit)
    | right =>
      have hs : (s.length : Int) ≤ w := by simpa [minLengthCell] using hfit
      exact pad_length s (w - s.length) w (by omega) (by omega)
    | center =>
      have hs : (s.length : Int) ≤ w := by simpa [minLengthCell] using hfit
      have hb := tdiv2_bounds (w - s.length) (by omega)
      exact pad_length s (Int.tdiv (w - s.length) 2) w hb.1 (by omega)
  | num n =>
    simp only [minLengthCell] at hfit
    simp only [renderCell, padLeft]
    split
    · simp
    · simp only [List.length_append, List.length_replicate]
      omega

/-- the condition of the property's sentence: `--thousands` off or at most 13 decimal places.  The code divides by `Shift(-3)`, which is
exact (/repo 93a24c8), so nothing depends on it (`target_eq'`); the statements that carry it keep it as the sentence has it -/
def cellExact (r : Renderer) : Cell → Prop
  | .num d => r.thousands = false ∨ thousandsExact d = true
  | _ => True

/-- the code's target is the property's target, for every amount -/
theorem target_eq' (r : Renderer) (d : Rat) : exactTarget r d = codeTarget r d := rfl

theorem target_eq (r : Renderer) (d : Rat) (_h : r.thousands = false ∨ thousandsExact d = true) :
    exactTarget r d = codeTarget r d := target_eq' r d

theorem numToString_head (r : Renderer) (d : Rat) : ∃ c rest, numToString r d = c :: rest ∧ c ≠ ' ' := by
  rw [numToString_shape]
  generalize fixedInt r.round (scaled r d) = m
  generalize fixedScale r.round = k
  unfold signPart
  by_cases hm : m < 0
  · exact ⟨'-', groupLeft (intDigits m k) ++ fracPart k (m.natAbs % 10 ^ k), by simp [hm], by decide⟩
  · cases h : intDigits m k with
    | nil => exact absurd h (digitsOf_ne_nil _)
    | cons c cs =>
      have hd : isDigit c = true := digitsOf_isDigit (h ▸ List.mem_cons_self)
      refine ⟨c, _, by simp only [hm, if_false, List.nil_append]; rw [groupLeft_cons]; rfl, ?_⟩
      exact isDigit_ne hd rfl

theorem paddedText_intro (content : List Char) (a b : Nat) :
    paddedText content (List.replicate a ' ' ++ content ++ List.replicate b ' ') = true := by
  unfold paddedText
  rw [List.any_eq_true]
  refine ⟨a, by simp; omega, ?_⟩
  have : (List.replicate a ' ' ++ content ++ List.replicate b ' ').length - a - content.length = b := by
    simp
  rw [this]
  simp

theorem cellShows_renderCell (exact : Bool) (r : Renderer) (c : Cell) (w : Nat)
    (hfit : minLengthCell r c ≤ (w : Int)) (hp : cellPlain c = true) :
    cellShows exact r c (renderCell r c w) = true := by
  cases c with
  | empty => simp [cellShows, renderCell, spaces, allSpaces]
  | sep => simp [cellShows, renderCell, dashes]
  | text s a ind =>
    simp only [cellShows, renderCell, spaces]
    exact paddedText_intro _ _ _
  | num n =>
    simp only [cellShows, renderCell]
    by_cases hn : n = 0
    · simp [hn, padLeft, allSpaces]
    · simp only [hn, if_false, padLeft]
      obtain ⟨c, rest, hcr, hc⟩ := numToString_head r n
      have hdrop : List.dropWhile (fun c => c == ' ') (List.replicate (w - (numToString r n).length) ' ' ++ numToString r n)
          = numToString r n := by
        rw [List.dropWhile_append_of_pos (by intro a ha; simp [List.mem_replicate] at ha; simp [ha.2])]
        rw [hcr, List.dropWhile_cons]
        simp [hc]
      rw [hdrop]
      have hne : (numToString r n).isEmpty = false := by rw [hcr]; rfl
      simp only [hne, Bool.not_false, Bool.true_and]
      -- `exactTarget` is `codeTarget` (`target_eq'`): the choice of the value compared with is immaterial
      rw [target_eq', ite_self]
      exact numShownAs_numToString r n

/-- the eight lead, separator and trail texts as lists of characters: rewriting with them first lets every `decide` below
run on characters (decoding a string literal is dear in the kernel, and is paid again at every occurrence) -/
theorem sepLits :
    "| ".toList = ['|', ' '] ∧ "+-".toList = ['+', '-'] ∧ " |".toList = [' ', '|'] ∧ "-+".toList = ['-', '+'] ∧
    " | ".toList = [' ', '|', ' '] ∧ "-+-".toList = ['-', '+', '-'] ∧ "-+ ".toList = ['-', '+', ' '] ∧ " +-".toList = [' ', '+', '-'] := by
  decide +kernel

theorem midOK_createSep (c c' : Cell) : midOK (createSep c c') = true := by
  unfold createSep midOK
  simp only [sepLits]
  cases c.isSep <;> cases c'.isSep <;> decide

theorem midOK_spec {s : List Char} (h : midOK s = true) :
    s.length = 3 ∧ sepAt s 1 = true ∧ ∀ x ∈ s, x ≠ '\n' := by
  unfold midOK at h
  simp only [sepLits, Bool.or_eq_true, beq_iff_eq] at h
  rcases h with ((h | h) | h) | h <;> rw [h] <;> decide

theorem createSep_length (c c' : Cell) : (createSep c c').length = 3 := (midOK_spec (midOK_createSep c c')).1

theorem leadOK_spec {s : List Char} (h : leadOK s = true) :
    s.length = 2 ∧ sepAt s 0 = true ∧ ∀ x ∈ s, x ≠ '\n' := by
  unfold leadOK at h
  simp only [sepLits, Bool.or_eq_true, beq_iff_eq] at h
  rcases h with h | h <;> rw [h] <;> decide

theorem trailOK_spec {s : List Char} (h : trailOK s = true) :
    s.length = 2 ∧ sepAt s 1 = true ∧ ∀ x ∈ s, x ≠ '\n' := by
  unfold trailOK at h
  simp only [sepLits, Bool.or_eq_true, beq_iff_eq] at h
  rcases h with h | h <;> rw [h] <;> decide

theorem leadOK_lead (b : Bool) : leadOK (if b then "+-".toList else "| ".toList) = true ∧
    (if b then "+-".toList else "| ".toList).length = 2 := by
  unfold leadOK
  simp only [sepLits]
  cases b <;> exact ⟨by decide, rfl⟩

theorem trailOK_trail (b : Bool) : trailOK (if b then "-+".toList else " |".toList) = true := by
  unfold trailOK
  simp only [sepLits]
  cases b <;> decide

/-! ### a line as a total function

`renderCells`, `renderRow`, `renderRows` return `none` only for the two index panics; `cellsT` and `lineT` are what they
return otherwise (`renderCells_eq`, `renderRow_eq`, `renderRows_eq`).  The layout facts below are about these. -/

def cellsT (r : Renderer) : List Cell → List Nat → List Char
  | [], _ => []
  | _ :: _, [] => []
  | [c], w :: _ => renderCell r c w
  | c :: c' :: cs, w :: ws => renderCell r c w ++ createSep c c' ++ cellsT r (c' :: cs) ws

theorem renderCells_eq (r : Renderer) : ∀ (row : List Cell) (W : List Nat) {body : List Char},
    renderCells r row W = some body ↔ row.length ≤ W.length ∧ body = cellsT r row W
  | [], _, _ => by simp [renderCells, cellsT, eq_comm]
  | _ :: _, [], _ => by simp [renderCells]
  | [_], _ :: _, _ => by simp [renderCells, cellsT, eq_comm]
  | c :: c' :: cs, w :: ws, body => by
    have ih := fun t => renderCells_eq r (c' :: cs) ws (body := t)
    simp only [renderCells, cellsT, List.length_cons, Nat.add_le_add_iff_right] at ih ⊢
    cases h : renderCells r (c' :: cs) ws with
    | none =>
      refine ⟨nofun, fun ⟨hl, _⟩ => ?_⟩
      have := (ih _).mpr ⟨hl, rfl⟩
      rw [h] at this; cases this
    | some t =>
      obtain ⟨hl, rfl⟩ := (ih t).mp h
      exact ⟨fun e => ⟨hl, (Option.some.inj e).symm⟩, fun e => congrArg some e.2.symm⟩

def lineT (r : Renderer) (W : List Nat) : List Cell → List Char
  | [] => []
  | c0 :: rest => (if c0.isSep then "+-".toList else "| ".toList) ++ cellsT r (c0 :: rest) W ++
      (if ((c0 :: rest).getLast?.getD c0).isSep then "-+".toList else " |".toList)

theorem renderRow_eq (r : Renderer) (W : List Nat) {row : List Cell} {line : List Char} :
    renderRow r W row = some line ↔ (row ≠ [] ∧ row.length ≤ W.length) ∧ line = lineT r W row := by
  cases row with
  | nil => exact ⟨nofun, fun h => absurd rfl h.1.1⟩
  | cons c0 rest =>
    have hc := fun b => renderCells_eq r (c0 :: rest) W (body := b)
    rw [renderRow, lineT]
    cases h : renderCells r (c0 :: rest) W with
    | none =>
      refine ⟨nofun, fun ⟨⟨_, hl⟩, _⟩ => ?_⟩
      have := (hc _).mpr ⟨hl, rfl⟩
      rw [h] at this; cases this
    | some body =>
      obtain ⟨hl, rfl⟩ := (hc body).mp h
      exact ⟨fun e => ⟨⟨List.cons_ne_nil _ _, hl⟩, (Option.some.inj e).symm⟩, fun e => congrArg some e.2.symm⟩

theorem renderRows_eq_mapM (r : Renderer) (W : List Nat) : ∀ rows, renderRows r W rows = rows.mapM (renderRow r W)
  | [] => rfl
  | row :: rows => by
    rw [renderRows, renderRows_eq_mapM r W rows, List.mapM_cons]
    cases renderRow r W row <;> cases rows.mapM (renderRow r W) <;> rfl

theorem renderRows_eq (r : Renderer) (W : List Nat) {rows : List (List Cell)} {ls : List (List Char)} :
    renderRows r W rows = some ls ↔ (∀ row ∈ rows, row ≠ [] ∧ row.length ≤ W.length) ∧ ls = rows.map (lineT r W) := by
  have ok : (∀ row ∈ rows, row ≠ [] ∧ row.length ≤ W.length) → rows.mapM (renderRow r W) = some (rows.map (lineT r W)) :=
    fun h => mapM_some_of_forall fun row hr => (renderRow_eq r W).mpr ⟨h row hr, rfl⟩
  rw [renderRows_eq_mapM]
  refine ⟨fun hm => ?_, fun ⟨h, e⟩ => e ▸ ok h⟩
  have h : ∀ row ∈ rows, row ≠ [] ∧ row.length ≤ W.length := fun row hr => by
    obtain ⟨l, _, hl⟩ := mapM_some_mem_fwd hm row hr
    exact ((renderRow_eq r W).mp hl).1
  exact ⟨h, Option.some.inj (hm.symm.trans (ok h))⟩

theorem cellsT_conforms (exact : Bool) (r : Renderer) (trail : List Char) (htrail : trailOK trail = true) :
    ∀ (row : List Cell) (W : List Nat), row ≠ [] → fits r W row → (∀ c ∈ row, cellPlain c = true) →
      conformsCells exact r row W (cellsT r row W ++ trail) = true
  | [], _, h, _, _ => absurd rfl h
  | _ :: _, [], _, hf, _ => nomatch hf
  | [c], w :: ws, _, hf, hp => by
    have hpc := hp c List.mem_cons_self
    have hl := renderCell_length r c w hf.1 hpc
    rw [cellsT, conformsCells, List.take_left' hl, List.drop_left' hl, htrail, cellShows_renderCell exact r c w hf.1 hpc]
    rfl
  | c :: c' :: cs, w :: ws, _, hf, hp => by
    have hpc := hp c List.mem_cons_self
    have hl := renderCell_length r c w hf.1 hpc
    have hc := cellsT_conforms exact r trail htrail (c' :: cs) ws (List.cons_ne_nil _ _) hf.2 fun x hx => hp x (List.mem_cons_of_mem _ hx)
    rw [cellsT, conformsCells, List.append_assoc, List.append_assoc, List.take_left' hl, List.drop_left' hl,
      List.take_left' (createSep_length c c'), List.drop_left' (createSep_length c c'), midOK_createSep, hc,
      cellShows_renderCell exact r c w hf.1 hpc]
    rfl

theorem lineT_conforms (exact : Bool) (r : Renderer) (W : List Nat) (row : List Cell) (hne : row ≠ [])
    (hf : fits r W row) (hp : ∀ c ∈ row, cellPlain c = true) : conformsRow exact r W row (lineT r W row) = true := by
  cases row with
  | nil => exact absurd rfl hne
  | cons c0 rest =>
    have ⟨hlead, hlen⟩ := leadOK_lead c0.isSep
    rw [conformsRow, lineT, List.append_assoc, List.take_left' hlen, List.drop_left' hlen,
      cellsT_conforms exact r _ (trailOK_trail _) (c0 :: rest) W hne hf hp, hlead]
    rfl

theorem conformsAll_map (exact : Bool) (r : Renderer) (W : List Nat) (g : List Cell → List Char) :
    ∀ rows : List (List Cell), (∀ row ∈ rows, conformsRow exact r W row (g row) = true) → conformsAll exact r W rows (rows.map g) = true
  | [], _ => rfl
  | row :: rows, h => by
    rw [List.map_cons, conformsAll, h row List.mem_cons_self, conformsAll_map exact r W g rows fun x hx => h x (List.mem_cons_of_mem _ hx)]
    rfl

/-- length of `n` slots with their separators and the trail -/
def slotsLen : Nat → List Nat → Nat
  | 0, _ => 0
  | _ + 1, [] => 0
  | 1, w :: _ => w + 2
  | n + 2, w :: ws => w + 3 + slotsLen (n + 1) ws

theorem conformsAll_mem (e : Bool) (r : Renderer) (W : List Nat) :
    ∀ (rows : List (List Cell)) (ls : List (List Char)), conformsAll e r W rows ls = true →
      ∀ l ∈ ls, ∃ row ∈ rows, conformsRow e r W row l = true
  | _, [], _, _, hl => by simp at hl
  | [], _ :: _, h, _, _ => by simp [conformsAll] at h
  | row :: rows, l' :: ls, h, l, hl => by
    simp only [conformsAll, Bool.and_eq_true] at h
    rcases List.mem_cons.mp hl with rfl | hl
    · exact ⟨row, by simp, h.1⟩
    · obtain ⟨x, hx, hc⟩ := conformsAll_mem e r W rows ls h.2 l hl
      exact ⟨x, by simp [hx], hc⟩

/-- positions (relative to `off`, the start of the first slot) of the separator characters after each of `n` slots -/
def bounds : Nat → List Nat → Nat → List Nat
  | 0, _, _ => []
  | _ + 1, [], _ => []
  | n + 1, w :: ws, off => (off + w + 1) :: bounds n ws (off + w + 3)

theorem bounds_shift : ∀ (n : Nat) (W : List Nat) (off a : Nat),
    bounds n W (off + a) = (bounds n W off).map (· + a)
  | 0, _, _, _ => rfl
  | _ + 1, [], _, _ => rfl
  | n + 1, w :: ws, off, a => by
    simp only [bounds, List.map_cons]
    rw [show off + a + w + 3 = (off + w + 3) + a by omega, bounds_shift n ws (off + w + 3) a]
    congr 1; omega

theorem bounds_gt : ∀ (n : Nat) (W : List Nat) (off : Nat), ∀ p ∈ bounds n W off, off < p
  | 0, _, _, p, h => by simp [bounds] at h
  | _ + 1, [], _, p, h => by simp [bounds] at h
  | n + 1, w :: ws, off, p, h => by
    simp only [bounds, List.mem_cons] at h
    rcases h with rfl | h
    · omega
    · have := bounds_gt n ws (off + w + 3) p h; omega

theorem bounds_nodup : ∀ (n : Nat) (W : List Nat) (off : Nat), (bounds n W off).Nodup
  | 0, _, _ => by simp [bounds]
  | _ + 1, [], _ => by simp [bounds]
  | n + 1, w :: ws, off => by
    simp only [bounds, List.nodup_cons]
    refine ⟨?_, bounds_nodup n ws _⟩
    intro h
    have := bounds_gt n ws (off + w + 3) _ h
    omega

theorem sepAt_drop (s : List Char) (k p : Nat) : sepAt (s.drop k) p = sepAt s (k + p) := by
  simp [sepAt, List.getElem?_drop]

theorem sepAt_take (s : List Char) (k p : Nat) (h : p < k) : sepAt (s.take k) p = sepAt s p := by
  simp [sepAt, List.getElem?_take, h]

theorem sepAt_bounds_drop (n : Nat) (W : List Nat) (a : Nat) (s : List Char)
    (h : ∀ q ∈ bounds n W 0, sepAt (s.drop a) q = true) : ∀ p ∈ bounds n W a, sepAt s p = true := by
  intro p hp
  have hs := bounds_shift n W 0 a
  rw [Nat.zero_add] at hs
  rw [hs, List.mem_map] at hp
  obtain ⟨q, hq, rfl⟩ := hp
  have := h q hq
  rwa [sepAt_drop, Nat.add_comm] at this

theorem bounds_length (n : Nat) (W : List Nat) (off a : Nat) : (bounds n W off).length = (bounds n W a).length := by
  rw [← Nat.zero_add off, ← Nat.zero_add a, bounds_shift, bounds_shift, List.length_map, List.length_map]

theorem conformsCells_shape (e : Bool) (r : Renderer) : ∀ (row : List Cell) (W : List Nat) (s : List Char),
    conformsCells e r row W s = true →
      s.length = slotsLen row.length W ∧ (bounds row.length W 0).length = row.length ∧
      ∀ p ∈ bounds row.length W 0, sepAt s p = true
  | [], _, _, h => by simp [conformsCells] at h
  | _ :: _, [], _, h => by simp [conformsCells] at h
  | [c], w :: ws, s, h => by
    simp only [conformsCells, Bool.and_eq_true] at h
    have ⟨hl, hs, _⟩ := trailOK_spec h.2
    rw [sepAt_drop] at hs
    rw [List.length_drop] at hl
    exact ⟨by simp only [List.length_cons, List.length_nil, slotsLen]; omega, rfl,
      fun p hp => by rw [List.mem_singleton.mp hp, Nat.zero_add]; exact hs⟩
  | c :: c' :: cs, w :: ws, s, h => by
    simp only [conformsCells, Bool.and_eq_true] at h
    have ⟨hl, hs, _⟩ := midOK_spec h.1.2
    rw [sepAt_take _ _ _ (by omega), sepAt_drop] at hs
    have ⟨h1, h2, h3⟩ := conformsCells_shape e r (c' :: cs) ws _ h.2
    rw [List.drop_drop] at h3
    simp only [List.length_drop, List.length_take] at hl h1
    simp only [List.length_cons, slotsLen, bounds, Nat.zero_add, List.mem_cons] at h1 h2 ⊢
    refine ⟨by omega, by rw [bounds_length _ ws (w + 3) 0, h2], ?_⟩
    rintro p (rfl | hp)
    · exact hs
    · exact sepAt_bounds_drop _ ws (w + 3) s h3 p hp

/-- the separator columns of a line: column 0 and the one after each slot -/
def lineBounds (n : Nat) (W : List Nat) : List Nat := 0 :: bounds n W 2

theorem conformsRow_shape (e : Bool) (r : Renderer) (W : List Nat) (row : List Cell) (line : List Char)
    (h : conformsRow e r W row line = true) :
    line.length = 2 + slotsLen row.length W ∧
    (lineBounds row.length W).length = row.length + 1 ∧ ∀ p ∈ lineBounds row.length W, sepAt line p = true := by
  unfold conformsRow at h
  simp only [Bool.and_eq_true] at h
  have ⟨hl, h0, _⟩ := leadOK_spec h.1
  rw [sepAt_take _ _ _ (by omega)] at h0
  have ⟨h1, h2, h3⟩ := conformsCells_shape e r row W _ h.2
  simp only [List.length_drop, List.length_take] at hl h1
  simp only [lineBounds, List.length_cons, List.mem_cons]
  refine ⟨by omega, by rw [bounds_length _ W 2 0, h2], ?_⟩
  rintro p (rfl | hp)
  · exact h0
  · exact sepAt_bounds_drop _ W 2 line h3 p hp

theorem conformsAll_shape (e : Bool) (r : Renderer) (W : List Nat) (n : Nat)
    (rows : List (List Cell)) (ls : List (List Char)) (h : conformsAll e r W rows ls = true)
    (hn : ∀ row ∈ rows, row.length = n) (l : List Char) (hl : l ∈ ls) :
    l.length = 2 + slotsLen n W ∧ (lineBounds n W).length = n + 1 ∧ ∀ p ∈ lineBounds n W, sepAt l p = true := by
  obtain ⟨row, hr, hc⟩ := conformsAll_mem e r W rows ls h l hl
  have := conformsRow_shape e r W row l hc
  rwa [hn row hr] at this

theorem rectLines_of_conformsAll (e : Bool) (r : Renderer) (W : List Nat) (n : Nat)
    (rows : List (List Cell)) (ls : List (List Char)) (h : conformsAll e r W rows ls = true)
    (hn : ∀ row ∈ rows, row.length = n) : rectLines ls = true := by
  have hl := fun x hx => (conformsAll_shape e r W n rows ls h hn x hx).1
  cases ls with
  | nil => rfl
  | cons l rest =>
    unfold rectLines
    rw [List.all_eq_true]
    intro x hx
    rw [hl x (by simp [hx]), hl l (by simp)]
    simp

theorem lineBounds_nodup (n : Nat) (W : List Nat) : (lineBounds n W).Nodup := by
  unfold lineBounds
  rw [List.nodup_cons]
  refine ⟨fun h => ?_, bounds_nodup _ _ _⟩
  have := bounds_gt n W 2 0 h
  omega

theorem alignedOK_of (n : Nat) (ls : List (List Char)) (B : List Nat) (hB : B.Nodup) (hlen : B.length = n + 1)
    (h : ∀ l ∈ ls, ∀ p ∈ B, sepAt l p = true) : alignedOK n ls = true := by
  unfold alignedOK
  cases ls with
  | nil => rfl
  | cons l rest =>
    simp only [List.isEmpty_cons, Bool.false_or, decide_eq_true_eq]
    rw [← hlen]
    apply List.Nodup.length_le_of_subset hB
    intro p hp
    unfold commonSep
    rw [List.mem_filter, List.mem_range, List.all_eq_true]
    refine ⟨?_, fun x hx => h x hx p hp⟩
    have := h l (by simp) p hp
    unfold sepAt at this
    by_cases hlt : p < l.length
    · exact hlt
    · rw [List.getElem?_eq_none (by omega)] at this
      simp at this

theorem alignedOK_of_conformsAll (e : Bool) (r : Renderer) (W : List Nat) (n : Nat)
    (rows : List (List Cell)) (ls : List (List Char)) (h : conformsAll e r W rows ls = true)
    (hn : ∀ row ∈ rows, row.length = n) : alignedOK n ls = true := by
  cases hls : ls with
  | nil => rfl
  | cons l0 rest =>
    rw [← hls]
    have hall := fun l hl => (conformsAll_shape e r W n rows ls h hn l hl).2
    exact alignedOK_of n ls (lineBounds n W) (lineBounds_nodup n W) (hall l0 (by rw [hls]; simp)).1
      (fun l hl => (hall l hl).2)

/-- the first width pass fails exactly at `widths[i]` for a row longer than the table is wide -/
theorem updWidths_isSome (r : Renderer) : ∀ (ws : List Nat) (row : List Cell),
    (updWidths r ws row).isSome = true ↔ row.length ≤ ws.length
  | ws, [] => by simp [updWidths]
  | [], _ :: _ => by simp [updWidths]
  | w :: ws, c :: cs => by
    simp only [updWidths, List.length_cons, Nat.add_le_add_iff_right, ← updWidths_isSome r ws cs]
    cases updWidths r ws cs <;> rfl

theorem widthsPass1_isSome (r : Renderer) : ∀ (rows : List (List Cell)) (ws : List Nat),
    (widthsPass1 r ws rows).isSome = true ↔ ∀ row ∈ rows, row.length ≤ ws.length
  | [], ws => by simp [widthsPass1]
  | row :: rows, ws => by
    simp only [widthsPass1, List.forall_mem_cons, ← updWidths_isSome r ws row]
    cases hu : updWidths r ws row with
    | none => simp
    | some w1 =>
      have hl := le2_length (updWidths_spec r ws row w1 hu).1
      simp only [Option.isSome_some, true_and, widthsPass1_isSome r rows w1, ← hl]

def tableExact (r : Renderer) (t : Table) : Prop := ∀ row ∈ t.rows, ∀ c ∈ row, cellExact r c

theorem uniform_spec {n : Nat} {t : Table} (h : uniform n t = true) :
    1 ≤ n ∧ n ≤ t.width ∧ ∀ row ∈ t.rows, row.length = n := by
  unfold uniform at h
  simp only [Bool.and_eq_true, decide_eq_true_eq, List.all_eq_true, beq_iff_eq] at h
  exact ⟨h.1.1, h.1.2, h.2⟩

theorem plain_spec {t : Table} (h : plain t = true) : ∀ row ∈ t.rows, ∀ c ∈ row, cellPlain c = true := by
  unfold plain at h
  simp only [List.all_eq_true] at h
  exact h

theorem splitOnNL_cons_ne (c : Char) (cs : List Char) (hc : c ≠ '\n') (l : List Char) (ls : List (List Char))
    (h : splitOnNL cs = l :: ls) : splitOnNL (c :: cs) = (c :: l) :: ls := by
  rw [splitOnNL, h]; simp [hc]

theorem splitOnNL_ne_nil : ∀ cs, splitOnNL cs ≠ []
  | [] => by simp [splitOnNL]
  | c :: cs => by
    rw [splitOnNL]
    split
    · simp
    · split <;> simp

theorem splitOnNL_nl (cs : List Char) : splitOnNL ('\n' :: cs) = [] :: splitOnNL cs := by
  rw [splitOnNL]
  split
  · rename_i h; exact absurd h (splitOnNL_ne_nil cs)
  · rename_i l ls h; simp [h]

theorem splitOnNL_line : ∀ (l : List Char) (rest : List Char), (∀ c ∈ l, c ≠ '\n') →
    splitOnNL (l ++ '\n' :: rest) = l :: splitOnNL rest
  | [], rest, _ => by simp [splitOnNL_nl]
  | c :: l, rest, h => by
    have ih := splitOnNL_line l rest (fun x hx => h x (by simp [hx]))
    rw [List.cons_append]
    exact splitOnNL_cons_ne c _ (h c (by simp)) l _ ih

theorem splitOnNL_joinLines : ∀ (ls : List (List Char)), (∀ l ∈ ls, ∀ c ∈ l, c ≠ '\n') →
    splitOnNL (joinLines ls) = ls ++ [[], []]
  | [], _ => by
    show splitOnNL ['\n'] = _
    rw [splitOnNL_nl]; rfl
  | l :: ls, h => by
    have ih := splitOnNL_joinLines ls (fun x hx => h x (by simp [hx]))
    have : joinLines (l :: ls) = l ++ '\n' :: joinLines ls := by simp [joinLines]
    rw [this, splitOnNL_line l _ (h l (by simp)), ih]; rfl

theorem tableLines_joinLines (ls : List (List Char)) (h : ∀ l ∈ ls, ∀ c ∈ l, c ≠ '\n') :
    tableLines (joinLines ls) = some ls := by
  unfold tableLines
  rw [splitOnNL_joinLines ls h]
  have e1 : (ls ++ [[], []] : List (List Char)).dropLast = ls ++ [[]] := by
    rw [show (ls ++ [[], []] : List (List Char)) = (ls ++ [[]]) ++ [[]] by simp, List.dropLast_concat]
  have e2 : (ls ++ [[]] : List (List Char)).dropLast = ls := List.dropLast_concat
  simp only [e1, e2]
  simp

theorem numToString_noNL (r : Renderer) (d : Rat) : ∀ c ∈ numToString r d, c ≠ '\n' := by
  rw [numToString_shape]
  intro c hc
  simp only [List.mem_append] at hc
  rcases hc with (hc | hc) | hc
  · unfold signPart at hc
    split at hc
    · simp at hc; rw [hc]; decide
    · simp at hc
  · rcases mem_groupLeft _ c hc with h | h
    · exact isDigit_ne (digitsOf_isDigit h) rfl
    · rw [h]; decide
  · rw [fracPart_eq] at hc
    split at hc
    · simp at hc
    · rcases List.mem_cons.mp hc with h | h
      · rw [h]; decide
      · exact isDigit_ne (fracDigits_isDigit h) rfl

theorem renderCell_noNL (r : Renderer) (c : Cell) (w : Nat) (hp : cellPlain c = true) :
    ∀ x ∈ renderCell r c w, x ≠ '\n' := by
  intro x hx
  cases c with
  | empty => simp [renderCell, spaces] at hx; rw [hx.2]; decide
  | sep => simp [renderCell, dashes] at hx; rw [hx.2]; decide
  | text s a ind =>
    simp only [renderCell, spaces, List.mem_append, List.mem_replicate] at hx
    rcases hx with (hx | hx) | hx
    · rw [hx.2]; decide
    · intro h
      subst h
      simp only [cellPlain, Bool.and_eq_true, Bool.not_eq_eq_eq_not, Bool.not_true] at hp
      have := hp.2
      simp at this
      exact this hx
    · rw [hx.2]; decide
  | num n =>
    simp only [renderCell, padLeft] at hx
    split at hx
    · simp at hx; rw [hx.2]; decide
    · simp only [List.mem_append, List.mem_replicate] at hx
      rcases hx with hx | hx
      · rw [hx.2]; decide
      · exact numToString_noNL r n x hx

theorem createSep_noNL (c c' : Cell) : ∀ x ∈ createSep c c', x ≠ '\n' := (midOK_spec (midOK_createSep c c')).2.2

theorem cellsT_noNL (r : Renderer) : ∀ (row : List Cell) (W : List Nat), (∀ c ∈ row, cellPlain c = true) →
    ∀ x ∈ cellsT r row W, x ≠ '\n'
  | [], _, _, _, hx => nomatch hx
  | _ :: _, [], _, _, hx => nomatch hx
  | [c], w :: _, hp, x, hx => renderCell_noNL r c w (hp c List.mem_cons_self) x hx
  | c :: c' :: cs, w :: ws, hp, x, hx => by
    rw [cellsT, List.mem_append, List.mem_append] at hx
    rcases hx with (hx | hx) | hx
    · exact renderCell_noNL r c w (hp c List.mem_cons_self) x hx
    · exact createSep_noNL c c' x hx
    · exact cellsT_noNL r (c' :: cs) ws (fun y hy => hp y (List.mem_cons_of_mem _ hy)) x hx

theorem lineT_noNL (r : Renderer) (W : List Nat) (row : List Cell) (hp : ∀ c ∈ row, cellPlain c = true) :
    ∀ x ∈ lineT r W row, x ≠ '\n' := by
  cases row with
  | nil => exact nofun
  | cons c0 rest =>
    intro x hx
    rw [lineT, List.mem_append, List.mem_append] at hx
    rcases hx with (hx | hx) | hx
    · exact (leadOK_spec (leadOK_lead c0.isSep).1).2.2 x hx
    · exact cellsT_noNL r _ W hp x hx
    · exact (trailOK_spec (trailOK_trail _)).2.2 x hx

theorem widthsPass1_length (r : Renderer) (rows : List (List Cell)) (ws ws' : List Nat)
    (h : widthsPass1 r ws rows = some ws') : ws'.length = ws.length :=
  (le2_length (widthsPass1_spec r rows ws ws' h).1).symm

theorem finalWidths_isSome (r : Renderer) (t : Table) :
    (finalWidths r t).isSome = true ↔ ∀ row ∈ t.rows, row.length ≤ t.width := by
  have h := widthsPass1_isSome r t.rows (List.replicate t.width 0)
  rw [List.length_replicate] at h
  rw [← h, finalWidths]
  cases widthsPass1 r (List.replicate t.width 0) t.rows <;> rfl

theorem finalWidths_length (r : Renderer) (t : Table) (W : List Nat) (h : finalWidths r t = some W) :
    W.length = t.width := by
  unfold finalWidths at h
  cases hw : widthsPass1 r (List.replicate t.width 0) t.rows with
  | none => simp [hw] at h
  | some w1 =>
    simp only [hw, Option.some.injEq] at h
    rw [← h, ← le2_length (widthsPass2_le t.columns w1), widthsPass1_length r _ _ _ hw, List.length_replicate]

/-- **`Render` is a total function behind its two index guards**: the lines are the lines of the rows in the final
widths, unless a row is longer than the table is wide (`widths[i]`) or has no cell (`row.cells[0]`) -/
theorem renderLines_eq (r : Renderer) (t : Table) {ls : List (List Char)} :
    renderLines r t = .ok ls ↔ ∃ W, finalWidths r t = some W ∧
      (∀ row ∈ t.rows, row ≠ [] ∧ row.length ≤ t.width) ∧ ls = t.rows.map (lineT r W) := by
  unfold renderLines
  cases hW : finalWidths r t with
  | none => exact ⟨nofun, fun ⟨_, h, _⟩ => nomatch h⟩
  | some W =>
    have hWl := finalWidths_length r t W hW
    have hr := fun ls' => renderRows_eq r W (rows := t.rows) (ls := ls')
    rw [hWl] at hr
    dsimp only
    cases hrr : renderRows r W t.rows with
    | none =>
      refine ⟨nofun, fun ⟨W', hW', h, _⟩ => ?_⟩
      have := (hr _).mpr ⟨h, rfl⟩
      rw [hrr] at this; cases this
    | some ls' =>
      obtain ⟨h, rfl⟩ := (hr ls').mp hrr
      exact ⟨fun e => ⟨W, rfl, h, (Outcome.ok.inj e).symm⟩,
        fun ⟨W', hW', _, e⟩ => by cases hW'; exact congrArg Outcome.ok e.symm⟩

/-- **the panic outcomes, under exactly the guards the code has**: `Render` completes iff every row
has at least one cell (`row.cells[0]`) and at most as many as the table has columns (`widths[i]`). -/
theorem renderLines_ok_iff (r : Renderer) (t : Table) :
    (∃ ls, renderLines r t = .ok ls) ↔ ∀ row ∈ t.rows, row ≠ [] ∧ row.length ≤ t.width := by
  refine ⟨fun ⟨ls, h⟩ => ?_, fun h => ?_⟩
  · obtain ⟨_, _, h, _⟩ := (renderLines_eq r t).mp h
    exact h
  · obtain ⟨W, hW⟩ := Option.isSome_iff_exists.mp ((finalWidths_isSome r t).mpr fun row hr => (h row hr).2)
    exact ⟨_, (renderLines_eq r t).mpr ⟨W, hW, h, rfl⟩⟩

theorem renderLines_noNL (r : Renderer) (t : Table) (ls : List (List Char)) (hp : plain t = true)
    (h : renderLines r t = .ok ls) : ∀ l ∈ ls, ∀ x ∈ l, x ≠ '\n' := by
  obtain ⟨W, _, _, rfl⟩ := (renderLines_eq r t).mp h
  intro l hl
  obtain ⟨row, hr, rfl⟩ := List.mem_map.mp hl
  exact lineT_noNL r W row (plain_spec hp row hr)

/-- **the model's text conforms**: with rows of `n ≥ 1` cells and plain texts, `Render` does not panic
and every line decomposes into the slots of the final widths, each slot showing its cell -/
theorem renderLines_conforms (exact : Bool) (r : Renderer) (t : Table) (n : Nat)
    (hu : uniform n t = true) (hp : plain t = true) :
    ∃ W ls, finalWidths r t = some W ∧ renderLines r t = .ok ls ∧ conformsAll exact r W t.rows ls = true := by
  obtain ⟨h1, h2, h3⟩ := uniform_spec hu
  have hok : ∀ row ∈ t.rows, row ≠ [] ∧ row.length ≤ t.width := fun row hrow =>
    ⟨fun h => by have := h3 row hrow; rw [h] at this; exact absurd h1 (this ▸ Nat.not_succ_le_zero 0), (h3 row hrow).symm ▸ h2⟩
  obtain ⟨w1, hw1⟩ := Option.isSome_iff_exists.mp ((widthsPass1_isSome r t.rows (List.replicate t.width 0)).mpr
    fun row hrow => (List.length_replicate (n := t.width) (a := 0)).symm ▸ (hok row hrow).2)
  have hW : finalWidths r t = some (widthsPass2 t.columns w1) := by rw [finalWidths, hw1]
  exact ⟨_, _, hW, (renderLines_eq r t).mpr ⟨_, hW, hok, rfl⟩,
    conformsAll_map exact r _ _ _ fun row hrow => lineT_conforms exact r _ row (hok row hrow).1
      (fits_mono r (widthsPass2_le _ _) ((widthsPass1_spec r t.rows _ w1 hw1).2 row hrow)) (plain_spec hp row hrow)⟩

end Knut.Table
