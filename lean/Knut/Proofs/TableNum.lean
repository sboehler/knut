import Knut.Spec.TableSpec
import Knut.Proofs.DecRoundTrip
/-!
# Helper lemmas for C17: the text of a number

`showScaled` (the body of `StringFixed`) has the shape `-? digits (. digits{k})?` and reads back with
`parseDec` to the scaled integer (`Proofs/DecRoundTrip.lean`); `addThousandsSep` inserts commas only, and exactly where the
independent grouper `groupLeft` puts them.
-/
open Knut.Dec Knut.Table Knut.Table.Spec

namespace Knut.Table

theorem signSplit (cs : List Char) :
    cs.head? ≠ some '-' → (match cs with | '-' :: rest => (true, rest) | _ => (false, cs)) = (false, cs) := by
  intro h
  split
  · simp at h
  · rfl

theorem parseDec_showFixed (p : Int) (x : Rat) : parseDec (showFixed p x) = some (roundPlaces p x) := by
  unfold showFixed
  by_cases hp : 0 ≤ p
  · simp only [hp, if_true, parseDec_showScaled]
    simp [roundPlaces, hp, roundHalfAway]
  · simp only [hp, if_false, parseDec_showScaled, Nat.pow_zero, Rat.mkRat_one]
    unfold roundPlaces
    simp only [hp, if_false, Rat.num_intCast]

def PointTail (T : List Char) : Prop := T = [] ∨ ∃ F, T = '.' :: F

def commaIf (D : List Char) : List Char := if D.length % 3 = 0 ∧ D ≠ [] then [','] else []

theorem groupLeft_cons (d : Char) (D : List Char) : groupLeft (d :: D) = d :: (commaIf D ++ groupLeft D) := by
  unfold commaIf
  rw [groupLeft]
  split <;> simp

theorem sepLoop_digits (idx : Int) (T : List Char) (hT : PointTail T) :
    ∀ (D : List Char) (i : Int), (∀ c ∈ D, isDigit c = true) → idx - i = D.length →
      sepLoop idx i true (D ++ T) = commaIf D ++ groupLeft D ++ T := by
  intro D
  induction D with
  | nil =>
    intro i _ hi
    simp only [List.nil_append, commaIf, groupLeft, List.length_nil]
    rcases hT with rfl | ⟨F, rfl⟩
    · simp [sepLoop]
    · unfold sepLoop
      have : i ≥ idx := by simp at hi; omega
      simp [this]
  | cons d D ih =>
    intro i hD hi
    have hd : isDigit d = true := hD d (by simp)
    have hD' : ∀ c ∈ D, isDigit c = true := fun c hc => hD c (by simp [hc])
    have hlen : idx - i = (D.length : Int) + 1 := by simpa using hi
    have hnb : ¬ (i ≥ idx ∧ d ≠ '-') := by omega
    rw [List.cons_append, sepLoop]
    simp only [hnb, if_false, Bool.true_or]
    rw [ih (i + 1) hD' (by omega), groupLeft_cons]
    have htm : Int.tmod (idx - i) 3 = 0 ↔ (D.length + 1) % 3 = 0 := by
      rw [hlen, Int.tmod_eq_emod_of_nonneg (by omega)]
      omega
    by_cases h3 : (D.length + 1) % 3 = 0
    · have : Int.tmod (idx - i) 3 = 0 := htm.mpr h3
      simp [this, commaIf, h3]
    · have : ¬ Int.tmod (idx - i) 3 = 0 := fun h => h3 (htm.mp h)
      simp [this, commaIf, h3]

theorem idxOf_point (S D T : List Char) (hS : '.' ∉ S) (hD : ∀ c ∈ D, isDigit c = true) (hT : PointTail T) :
    (S ++ D ++ T).idxOf '.' = S.length + D.length := by
  have hD' : '.' ∉ D := fun h => isDigit_ne (hD _ h) rfl rfl
  rw [List.append_assoc, List.idxOf_append, if_neg hS, List.idxOf_append, if_neg hD']
  rcases hT with rfl | ⟨F, rfl⟩ <;> simp <;> omega

theorem addThousandsSep_shape (m : Int) (D T : List Char) (hD : ∀ c ∈ D, isDigit c = true) (hne : D ≠ [])
    (hT : PointTail T) :
    addThousandsSep (signPart m ++ D ++ T) = signPart m ++ groupLeft D ++ T := by
  unfold addThousandsSep
  rw [idxOf_point _ _ _ (by unfold signPart; split <;> simp) hD hT]
  cases D with
  | nil => exact absurd rfl hne
  | cons d D =>
    have hd : isDigit d = true := hD d (by simp)
    have hdm : d ≠ '-' := isDigit_ne hd rfl
    have hD' : ∀ c ∈ D, isDigit c = true := fun c hc => hD c (by simp [hc])
    rw [groupLeft_cons]
    unfold signPart
    by_cases hm : m < 0
    · simp only [hm, if_true, List.cons_append, List.nil_append, List.length_cons, List.length_nil]
      rw [sepLoop]
      have h1 : ¬ ((0 : Int) ≥ ((0 + 1 + (D.length + 1) : Nat) : Int) ∧ '-' ≠ '-') := by simp
      simp only [h1, if_false, Bool.false_or]
      have h2 : isDigit '-' = false := by decide
      simp only [h2, Bool.false_eq_true, and_false, if_false]
      rw [sepLoop]
      have h3 : ¬ ((0 + 1 : Int) ≥ ((0 + 1 + (D.length + 1) : Nat) : Int) ∧ d ≠ '-') := by
        intro h; have := h.1; simp at this; omega
      simp only [h3, if_false, Bool.false_or, hd, Bool.false_eq_true, and_false]
      rw [sepLoop_digits _ T hT D _ hD' (by simp; omega)]
    · simp only [hm, if_false, List.nil_append, List.cons_append, List.length_nil, List.length_cons]
      rw [sepLoop]
      have h3 : ¬ ((0 : Int) ≥ ((0 + (D.length + 1) : Nat) : Int) ∧ d ≠ '-') := by
        intro h; have := h.1; simp at this; omega
      simp only [h3, if_false, Bool.false_or, hd, Bool.false_eq_true, and_false]
      rw [sepLoop_digits _ T hT D _ hD' (by simp)]

/-- the scaled integer `StringFixed(p)` prints … -/
def fixedInt (p : Int) (x : Rat) : Int := if 0 ≤ p then scaledRound p.toNat x else (roundPlaces p x).num
/-- … and its number of fractional digits -/
def fixedScale (p : Int) : Nat := if 0 ≤ p then p.toNat else 0

theorem showFixed_eq (p : Int) (x : Rat) : showFixed p x = showScaled (fixedInt p x) (fixedScale p) := by
  unfold showFixed fixedInt fixedScale
  split <;> rfl

theorem roundPlaces_eq (p : Int) (x : Rat) : roundPlaces p x = mkRat (fixedInt p x) (10 ^ fixedScale p) := by
  have h1 := parseDec_showFixed p x
  rw [showFixed_eq, parseDec_showScaled] at h1
  exact (Option.some.inj h1).symm

theorem pointTail_fracPart (k fp : Nat) : PointTail (fracPart k fp) := by
  unfold fracPart PointTail
  split
  · exact Or.inl rfl
  · exact Or.inr ⟨_, rfl⟩

abbrev intDigits (m : Int) (k : Nat) : List Char := digitsOf (m.natAbs / 10 ^ k)

/-- the text of a number: sign, grouped integer digits, fraction -/
theorem numToString_shape (r : Renderer) (d : Rat) :
    numToString r d =
      signPart (fixedInt r.round (scaled r d)) ++
        groupLeft (intDigits (fixedInt r.round (scaled r d)) (fixedScale r.round)) ++
        fracPart (fixedScale r.round) ((fixedInt r.round (scaled r d)).natAbs % 10 ^ fixedScale r.round) := by
  unfold numToString
  rw [showFixed_eq, showScaled_toList]
  exact addThousandsSep_shape _ _ _ (fun c hc => digitsOf_isDigit hc) (digitsOf_ne_nil _) (pointTail_fracPart _ _)

theorem stripCommas_groupLeft : ∀ (D : List Char), (∀ c ∈ D, c ≠ ',') → stripCommas (groupLeft D) = D := by
  intro D
  induction D with
  | nil => intro _; rfl
  | cons d D ih =>
    intro h
    have hd : d ≠ ',' := h d (by simp)
    have ih' := ih (fun c hc => h c (by simp [hc]))
    rw [groupLeft]
    unfold stripCommas at ih' ⊢
    split <;> simp [List.filter_cons, hd, ih']

theorem stripCommas_append (a b : List Char) : stripCommas (a ++ b) = stripCommas a ++ stripCommas b := by
  simp [stripCommas]

theorem stripCommas_signPart (m : Int) : stripCommas (signPart m) = signPart m := by
  unfold signPart stripCommas; split <;> simp

theorem stripCommas_fracPart (k fp : Nat) : stripCommas (fracPart k fp) = fracPart k fp := by
  unfold stripCommas
  rw [List.filter_eq_self]
  intro c hc
  rw [fracPart_eq] at hc
  split at hc
  · simp at hc
  · rcases List.mem_cons.mp hc with rfl | hc
    · decide
    · have := isDigit_ne (fracDigits_isDigit hc) (x := ',') rfl; simpa using this

theorem stripCommas_numToString (r : Renderer) (d : Rat) :
    String.ofList (stripCommas (numToString r d)) = showFixed r.round (scaled r d) := by
  rw [numToString_shape, stripCommas_append, stripCommas_append, stripCommas_signPart, stripCommas_fracPart,
    stripCommas_groupLeft _ (fun c hc => isDigit_ne (digitsOf_isDigit hc) rfl), showFixed_eq,
    ← showScaled_toList, String.ofList_toList]

theorem mkRat_nonneg_iff (m : Int) (k : Nat) : 0 ≤ mkRat m (10 ^ k) ↔ 0 ≤ m := by
  have hpos : (0 : Int) < ((10 ^ k : Nat) : Int) := by
    have : 0 < 10 ^ k := Nat.pow_pos (by decide)
    omega
  rw [← Rat.divInt_ofNat, Rat.divInt_nonneg_iff_of_pos_right hpos]

theorem mkRat_neg_iff (m : Int) (k : Nat) : mkRat m (10 ^ k) < 0 ↔ m < 0 := by
  rw [← Rat.not_le, mkRat_nonneg_iff, Int.not_le]

theorem head_groupLeft (D : List Char) : (groupLeft D).head? = D.head? := by
  cases D with
  | nil => rfl
  | cons d D => rw [groupLeft]; split <;> rfl

theorem head_grouped_ne_minus (m : Int) (k : Nat) (T : List Char) :
    (groupLeft (intDigits m k) ++ T).head? ≠ some '-' := by
  rw [List.head?_append, head_groupLeft, ← List.head?_append]
  exact head_digitsOf_ne_minus _ T

theorem head_numToString (r : Renderer) (d : Rat) :
    ((numToString r d).head? = some '-') ↔ codeTarget r d < 0 := by
  rw [numToString_shape, codeTarget, roundPlaces_eq, mkRat_neg_iff]
  generalize fixedInt r.round (scaled r d) = m
  generalize fixedScale r.round = k
  unfold signPart
  by_cases hm : m < 0
  · simp [hm]
  · simp only [hm, if_false, List.nil_append, iff_false]
    exact head_grouped_ne_minus m k _

theorem mem_groupLeft : ∀ (D : List Char) (c : Char), c ∈ groupLeft D → c ∈ D ∨ c = ','
  | [], c, h => by simp [groupLeft] at h
  | d :: D, c, h => by
    rw [groupLeft_cons] at h
    simp only [List.mem_cons, List.mem_append] at h ⊢
    rcases h with h | h | h
    · exact Or.inl (Or.inl h)
    · unfold commaIf at h
      split at h
      · simp at h; exact Or.inr h
      · simp at h
    · rcases mem_groupLeft D c h with h | h
      · exact Or.inl (Or.inr h)
      · exact Or.inr h

theorem groupLeft_no_point (D : List Char) (h : ∀ c ∈ D, isDigit c = true) : ∀ c ∈ groupLeft D, (c != '.') = true := by
  intro c hc
  rcases mem_groupLeft D c hc with hd | rfl
  · simpa using isDigit_ne (h c hd) (x := '.') rfl
  · decide

theorem takeWhile_point (G T : List Char) (hG : ∀ c ∈ G, (c != '.') = true) (hT : PointTail T) :
    (G ++ T).takeWhile (fun c => c != '.') = G ∧ (G ++ T).dropWhile (fun c => c != '.') = T := by
  rw [List.takeWhile_append_of_pos hG, List.dropWhile_append_of_pos hG]
  rcases hT with rfl | ⟨F, rfl⟩ <;> simp

theorem unsigned_shape (m : Int) (X : List Char) (hX : X.head? ≠ some '-') : unsigned (signPart m ++ X) = X := by
  unfold signPart
  split
  · rfl
  · simp only [List.nil_append]
    unfold unsigned
    split
    · simp at hX
    · rfl

theorem groupedOK_numToString (r : Renderer) (d : Rat) : groupedOK (numToString r d) = true := by
  rw [numToString_shape]
  generalize fixedInt r.round (scaled r d) = m
  generalize hk : fixedScale r.round = k
  have hD : ∀ c ∈ intDigits m k, isDigit c = true := fun c hc => digitsOf_isDigit hc
  have hne : intDigits m k ≠ [] := digitsOf_ne_nil _
  have hhead := head_grouped_ne_minus m k (fracPart k (m.natAbs % 10 ^ k))
  unfold groupedOK
  rw [List.append_assoc, unsigned_shape _ _ hhead]
  have ⟨h1, h2⟩ := takeWhile_point _ _ (groupLeft_no_point _ hD) (pointTail_fracPart k (m.natAbs % 10 ^ k))
  simp only [h1, h2, stripCommas_groupLeft _ (fun c hc => isDigit_ne (hD c hc) rfl)]
  have e1 : (intDigits m k).isEmpty = false := List.isEmpty_eq_false_iff.mpr hne
  have e2 : (intDigits m k).all isDigit = true := List.all_eq_true.mpr hD
  simp only [e1, e2, Bool.not_false, Bool.true_and, beq_self_eq_true]
  rw [fracPart_eq]
  by_cases hk0 : k = 0
  · simp [hk0]
  · have hk' : 0 < k := Nat.pos_of_ne_zero hk0
    have hfp : m.natAbs % 10 ^ k < 10 ^ k := Nat.mod_lt _ (Nat.pow_pos (by decide))
    have hl := fracDigits_length hk' hfp
    have e3 : (fracDigits k (m.natAbs % 10 ^ k)).isEmpty = false :=
      List.isEmpty_eq_false_iff.mpr (List.ne_nil_of_length_pos (by omega))
    have e4 : (fracDigits k (m.natAbs % 10 ^ k)).all isDigit = true :=
      List.all_eq_true.mpr (fun c hc => fracDigits_isDigit hc)
    simp only [hk0, if_false, e3, e4, Bool.not_false, Bool.and_self]

theorem fracOK_numToString (r : Renderer) (d : Rat) : fracOK r.round (numToString r d) = true := by
  rw [numToString_shape]
  generalize fixedInt r.round (scaled r d) = m
  have hD : ∀ c ∈ intDigits m (fixedScale r.round), isDigit c = true := fun c hc => digitsOf_isDigit hc
  have hS : ∀ c ∈ signPart m, (c != '.') = true := by
    unfold signPart; split <;> simp
  have hG : ∀ c ∈ signPart m ++ groupLeft (intDigits m (fixedScale r.round)), (c != '.') = true := by
    intro c hc
    rcases List.mem_append.mp hc with h | h
    · exact hS c h
    · exact groupLeft_no_point _ hD c h
  have ⟨_, h2⟩ := takeWhile_point _ _ hG (pointTail_fracPart (fixedScale r.round) (m.natAbs % 10 ^ fixedScale r.round))
  unfold fracOK
  simp only [h2]
  rw [fracPart_eq]
  unfold fixedScale
  by_cases hp : 0 < r.round
  · have hp0 : 0 ≤ r.round := by omega
    have hk0 : ¬ r.round.toNat = 0 := by omega
    simp only [hp, hp0, if_true, hk0, if_false, List.length_cons]
    have hfp : m.natAbs % 10 ^ r.round.toNat < 10 ^ r.round.toNat := Nat.mod_lt _ (Nat.pow_pos (by decide))
    rw [fracDigits_length (by omega) hfp]
    simp
  · simp only [hp, if_false]
    by_cases hp0 : 0 ≤ r.round
    · have : r.round.toNat = 0 := by omega
      simp [hp0, this]
    · simp [hp0]

/-- **the text of an amount shows what the code computes**: read without separators it is the
rounded value, it is signed like that value, grouped in threes, with the requested fraction length -/
theorem numShownAs_numToString (r : Renderer) (d : Rat) :
    numShownAs r.round (codeTarget r d) (numToString r d) = true := by
  unfold numShownAs
  rw [stripCommas_numToString, parseDec_showFixed]
  have hs := head_numToString r d
  simp only [groupedOK_numToString, fracOK_numToString, Bool.and_true]
  have e0 : roundPlaces r.round (scaled r d) = codeTarget r d := rfl
  rw [e0]
  simp only [decide_true, Bool.true_and]
  by_cases hneg : codeTarget r d < 0
  · have := hs.mpr hneg
    simp [this, hneg]
  · have : ¬ (numToString r d).head? = some '-' := fun h => hneg (hs.mp h)
    simp [this, hneg]

theorem roundHalfAway_of_eq (n : Nat) (x : Rat) (z : Int) (h : x = mkRat z (10 ^ n)) : roundHalfAway n x = x := by
  have hx : mkRat x.num x.den = mkRat z (10 ^ n) := by rw [Rat.mkRat_self]; exact h
  have hpow : (10 ^ n : Nat) ≠ 0 := Nat.ne_of_gt (Nat.pow_pos (by decide))
  have e := (Rat.mkRat_eq_iff x.den_nz hpow).mp hx
  have hden : (0 : Int) < x.den := by have := x.den_pos; omega
  unfold roundHalfAway scaledRound
  have e' : x.num * pow10 n = z * x.den := by
    unfold pow10; rw [← e]; simp
  simp only [e']
  rw [Int.mul_tdiv_cancel _ (by omega)]
  have : ¬ (2 * (z * (x.den : Int) - z * x.den).natAbs ≥ x.den) := by
    simp; exact x.den_nz
  simp only [this, if_false]
  exact h.symm

/-- with at most 13 decimal places, `Div(1000)` is the exact quotient -/
theorem div16_thousand_exact (d : Rat) (h : thousandsExact d = true) : div16 d 1000 = d / 1000 := by
  unfold thousandsExact at h
  have hden : (d * 10 ^ 13).den = 1 := by simpa using h
  have hy : d * 10 ^ 13 = ((d * 10 ^ 13).num : Rat) := Rat.ext rfl hden
  unfold div16
  apply roundHalfAway_of_eq 16 _ (d * 10 ^ 13).num
  rw [Rat.mkRat_eq_div, ← hy]
  have : ((10 ^ 16 : Nat) : Rat) = 10 ^ 16 := by grind
  rw [this]
  grind

end Knut.Table
