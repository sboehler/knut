import Knut.Proofs.TableNum
/-!
# Helper lemmas for C17: what "rounded half away from zero" means

`scaledRound` (the integer `StringFixed`/`Round`/`Div` print) is a nearest integer to the scaled
amount, the farther one at a tie, and never crosses zero; hence a negative amount is displayed
negative or as zero.
-/
open Knut.Dec Knut.Table Knut.Table.Spec
namespace Knut.Table

theorem pow10_pos (n : Nat) : 0 < pow10 n := by
  unfold pow10; exact Int.pow_pos (by decide)

theorem halfUp_spec {q m k : Int} {d : Nat} (hq : 0 ≤ q) (hm : 0 ≤ m) (hmd : m < d)
    (hk : k = if 2 * m.natAbs ≥ d then q + 1 else q) :
    2 * (q * d + m - k * d).natAbs ≤ d ∧
    (2 * (q * d + m - k * d).natAbs = d → (q * d + m).natAbs < (k * d).natAbs) ∧
    0 ≤ k ∧ (q = 0 → m = 0 → k = 0) := by
  have hT : 0 ≤ q * d := Int.mul_nonneg hq (by omega)
  split at hk <;> subst hk
  · rw [Int.add_mul, Int.one_mul]; omega
  · omega

/-- **half away from zero**: `scaledRound n r` is an integer nearest to `r·10ⁿ` (distance at most
one half); at a tie it is the one farther from zero; it never crosses zero. Stated on integers with
`num = r.num·10ⁿ`, `den = r.den`: `|num − m·den| ≤ den/2`. -/
theorem scaledRound_spec (n : Nat) (r : Rat) :
    2 * (r.num * pow10 n - scaledRound n r * r.den).natAbs ≤ r.den ∧
    (2 * (r.num * pow10 n - scaledRound n r * r.den).natAbs = r.den →
      (r.num * pow10 n).natAbs < (scaledRound n r * r.den).natAbs) ∧
    (0 ≤ r.num → 0 ≤ scaledRound n r) ∧ (r.num ≤ 0 → scaledRound n r ≤ 0) := by
  have hden : (0 : Int) < r.den := by have := r.den_pos; omega
  have hp := pow10_pos n
  unfold scaledRound
  generalize hnum : r.num * pow10 n = num
  simp only []
  -- either way `|num| = q·den + m` by Euclidean division, and `halfUp_spec` speaks of `q`, `m`
  by_cases hs : r.num < 0
  · -- `tdiv` truncates toward zero: divide `-num > 0` and mirror the result
    have hpos : 0 ≤ -num := by rw [← hnum]; have := Int.mul_neg_of_neg_of_pos hs hp; omega
    have e : Int.tdiv num r.den = -((-num) / r.den) := by
      rw [← Int.tdiv_eq_ediv_of_nonneg hpos, Int.neg_tdiv, Int.neg_neg]
    have hq := Int.ediv_nonneg hpos (Int.le_of_lt hden)
    have hm := Int.emod_nonneg (-num) (Int.ne_of_gt hden)
    have hmd := Int.emod_lt_of_pos (-num) hden
    have hdm := Int.ediv_mul_add_emod (-num) r.den
    rw [e, if_pos hs]
    generalize -num / r.den = q at *
    generalize -num % r.den = m at *
    have hk : (if 2 * m.natAbs ≥ r.den then -q - 1 else -q)
        = -(if 2 * m.natAbs ≥ r.den then q + 1 else q) := by split <;> omega
    have := halfUp_spec hq hm hmd rfl
    rw [show num - -q * r.den = -m by rw [Int.neg_mul]; omega, Int.natAbs_neg, hk]
    generalize (if 2 * m.natAbs ≥ r.den then q + 1 else q) = k at *
    have e : num - -k * r.den = -(q * r.den + m - k * r.den) := by rw [Int.neg_mul]; omega
    rw [e, Int.neg_mul, Int.natAbs_neg, Int.natAbs_neg, ← Int.natAbs_neg num, ← hdm]
    exact ⟨this.1, this.2.1, fun h => by omega, fun _ => by omega⟩
  · have hnn : 0 ≤ num := by rw [← hnum]; exact Int.mul_nonneg (by omega) (Int.le_of_lt hp)
    have hz : r.num = 0 → num / r.den = 0 ∧ num % r.den = 0 := by
      intro h; rw [← hnum, h, Int.zero_mul, Int.zero_ediv, Int.zero_emod]; exact ⟨rfl, rfl⟩
    have hq := Int.ediv_nonneg hnn (Int.le_of_lt hden)
    have hm := Int.emod_nonneg num (Int.ne_of_gt hden)
    have hmd := Int.emod_lt_of_pos num hden
    have hdm := Int.ediv_mul_add_emod num r.den
    rw [Int.tdiv_eq_ediv_of_nonneg hnn, if_neg hs]
    generalize num / r.den = q at *
    generalize num % r.den = m at *
    have := halfUp_spec hq hm hmd rfl
    rw [hdm] at this
    rw [show num - q * r.den = m by omega]
    exact ⟨this.1, this.2.1, fun _ => this.2.2.1,
      fun h => Int.le_of_eq (this.2.2.2 (hz (by omega)).1 (hz (by omega)).2)⟩

theorem rat_nonpos_iff_neg_nonneg (q : Rat) : q ≤ 0 ↔ 0 ≤ -q := by
  have := @Rat.neg_le_neg_iff 0 q
  rw [Rat.neg_zero] at this
  exact this.symm

theorem num_nonpos_iff (q : Rat) : q.num ≤ 0 ↔ q ≤ 0 := by
  rw [rat_nonpos_iff_neg_nonneg, ← Rat.num_nonneg, Rat.neg_num]
  omega

theorem mkRat_nonpos_iff (m : Int) (k : Nat) : mkRat m (10 ^ k) ≤ 0 ↔ m ≤ 0 := by
  rw [rat_nonpos_iff_neg_nonneg, Rat.neg_mkRat, mkRat_nonneg_iff]
  omega

theorem div_nonpos_of_nonpos_of_pos {x c : Rat} (hx : x ≤ 0) (hc : 0 < c) : x / c ≤ 0 := by
  rw [Rat.div_def, rat_nonpos_iff_neg_nonneg, ← Rat.neg_mul]
  exact Rat.mul_nonneg ((rat_nonpos_iff_neg_nonneg x).mp hx) (Rat.le_of_lt (Rat.inv_pos.mpr hc))

theorem roundHalfAway_nonpos (n : Nat) (x : Rat) (h : x ≤ 0) : roundHalfAway n x ≤ 0 := by
  unfold roundHalfAway
  rw [mkRat_nonpos_iff]
  exact (scaledRound_spec n x).2.2.2 ((num_nonpos_iff x).mpr h)

theorem roundPlaces_nonpos (p : Int) (x : Rat) (h : x ≤ 0) : roundPlaces p x ≤ 0 := by
  unfold roundPlaces
  split
  · exact roundHalfAway_nonpos _ x h
  · simp only []
    rw [Rat.intCast_nonpos]
    have hm := (scaledRound_spec 0 (x / ((pow10 (-p).toNat : Int) : Rat))).2.2.2
      ((num_nonpos_iff _).mpr (div_nonpos_of_nonpos_of_pos h (Rat.intCast_pos.2 (pow10_pos _))))
    exact Int.mul_nonpos_of_nonpos_of_nonneg hm (Int.le_of_lt (pow10_pos _))

theorem scaled_nonpos (r : Renderer) (d : Rat) (h : d ≤ 0) : scaled r d ≤ 0 := by
  unfold scaled
  split
  · apply div_nonpos_of_nonpos_of_pos h
    decide
  · exact h

theorem negative_minus_or_zero (r : Renderer) (d : Rat) (h : d < 0) :
    (numToString r d).head? = some '-' ∨ codeTarget r d = 0 := by
  have h1 : codeTarget r d ≤ 0 := roundPlaces_nonpos _ _ (scaled_nonpos r d (Rat.le_of_lt h))
  by_cases h2 : codeTarget r d < 0
  · exact Or.inl ((head_numToString r d).mpr h2)
  · exact Or.inr (Rat.le_antisymm h1 (Rat.not_lt.mp h2))

end Knut.Table
