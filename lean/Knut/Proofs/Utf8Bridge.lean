import Knut.Model.FromSyntax
import Knut.GoSem.Syntax
/-!
# Lean `String`s, bytes and scanner tokens: the two ways back

The scanner's view of a `String` (`strBytes`, `strToks`, `decodeAll_strBytes`) is in `Knut/GoSem/Syntax.lean`; here the two converses.
The bytes of a string are read as that string by the parser model's strict UTF-8 decoding (`utf8_str`), which the journal printer
round trip (C09) needs.  And whatever `utf8.DecodeRuneInString` returns other than `(RuneError, 1)` is a Unicode scalar value together
with its UTF-8 encoding (`char_of_canon`), so that validly encoded tokens are the tokens of a Lean string (`toks_are_string`), which the
agreement of the two elaboration models needs.
-/
namespace Knut.FromSyntax
open Knut.Utf8

theorem fromUTF8?_toByteArray (s : String) : String.fromUTF8? s.toByteArray = some s := by
  unfold String.fromUTF8?
  have h : s.toByteArray.IsValidUTF8 := s.isValidUTF8
  rw [dif_pos h]
  rfl

theorem utf8_chars (cs : List Char) : utf8 (flat (charsToks cs)) = some (String.ofList cs) := by
  rw [flat_charsToks]
  unfold utf8
  have : (⟨(cs.flatMap String.utf8EncodeChar).toArray⟩ : ByteArray) = (String.ofList cs).toByteArray := by
    rw [String.toByteArray_ofList]
    apply ByteArray.ext
    simp [List.utf8Encode]
  rw [this]
  exact fromUTF8?_toByteArray _

theorem utf8_str (s : String) : utf8 (flat (strToks s)) = some s := by
  have := utf8_chars s.toList
  rwa [String.ofList_toList] at this

end Knut.FromSyntax

namespace Knut.Utf8
open Knut.GoSem

theorem toNat_ofNat_valid (n : Nat) (h : n.isValidChar) : (Char.ofNat n).toNat = n := by
  simp [Char.ofNat, h, Char.ofNatAux, Char.toNat]

theorem char_of_canon {t : Tok} (hc : t.canon) (hv : t.invalid = false) : ∃ c : Char, t = charTok c := by
  have hd : Decoded t.bytes t := by
    have := decodeRune_decoded t.bytes
    rwa [← List.append_nil t.bytes, hc.1 [], List.append_nil] at this
  have hne : t.bytes ≠ [] := fun h => by have := hc.2; rw [h] at this; exact absurd this (by decide)
  obtain ⟨hr, he⟩ := Syn.encodeRune_decoded hd hne hv
  have hn := toNat_ofNat_valid t.r (by unfold Syn.validRune at hr; unfold Nat.isValidChar; omega)
  exact ⟨Char.ofNat t.r, by rw [charTok, utf8EncodeChar_eq, hn, he]⟩

theorem toks_are_string : ∀ (c : List Tok), (∀ t ∈ c, t.canon) → (∀ t ∈ c, t.invalid = false) → ∃ s : String, c = strToks s
  | [], _, _ => ⟨"", rfl⟩
  | t :: ts, hc, hv => by
    obtain ⟨ch, hch⟩ := char_of_canon (hc t List.mem_cons_self) (hv t List.mem_cons_self)
    obtain ⟨s, hs⟩ := toks_are_string ts (fun x hx => hc x (List.mem_cons_of_mem _ hx)) (fun x hx => hv x (List.mem_cons_of_mem _ hx))
    refine ⟨String.ofList (ch :: s.toList), ?_⟩
    simp [strToks, charsToks, hch, hs]

end Knut.Utf8
