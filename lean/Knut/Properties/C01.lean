import Knut.Proofs.BalanceInv
import Knut.Proofs.ReportRender
/-!
# C01 — Double-entry conservation: every complete report nets to zero

`Balance.run` is the model of the balance command's processor pipeline (check, prices, valuation with
daily value adjustments, window filter, period closing, query); its result is the log of report
inserts `(column date, mapped account, commodity, amount)`.  `BalanceReport.table` renders the log.

For **every** journal whose transactions consist of posting pairs (everything the loader produces:
`Transaction.ofBookings`, and the accrual expansion of C10), **every** flag combination
(window, interval, `--last`, `--diff`, `--close`, `--remap`, `-m` with level ≥ 1, valued or not) without
account/commodity filter and without hidden accounts:

* `C01_entries_cancel`  – the amounts of the inserts selected by any predicate on (column, commodity) sum to 0;
* `C01_delta_cells_zero` – hence every value the Delta row is computed from is 0, for the per-commodity
  and for the valued (commodity-less) rendering;
* `C01_delta_row_zero` – and every numeric cell of the rendered Delta row(s) is `0`, cumulative or `--diff`.
-/
namespace Knut.C01
open Knut

/-- what the loader produces is paired -/
theorem ofBookings_paired (date : Int) (desc : String) (tg : Option (List Commodity)) (bks : List Booking) :
    TxPaired (Transaction.ofBookings date desc tg bks) :=
  PairsHave.flatMap pairsHave_paired _ (fun _ => paired_postingBuild _ _ _ _ _) bks

def PairedDays (days : List Day) : Prop := ∀ d ∈ days, ∀ t ∈ d.transactions, TxPaired t

/-- **conservation on the report inserts** -/
theorem C01_entries_cancel (cfg : BalCfg) (hu : Unfiltered cfg) (days : List Day) (hp : PairedDays days)
    (st : BalState) (h : Balance.run cfg days = .ok st) (κ : Option Int → Commodity → Bool) :
    sumSel κ st.entries = 0 := by
  obtain ⟨_, txs, ht, he⟩ := Balance.run_inv txInv_paired hp ⟨fun _ _ => trivial, fun _ _ => trivial⟩ h
  rw [he]; exact sumSel_flatMap_queryTx cfg hu κ txs ht

/-- **every value behind the Delta row is zero** (per commodity: `byCom = true`; valued: `byCom = false`) -/
theorem C01_delta_cells_zero (cfg : BalCfg) (hu : Unfiltered cfg) (days : List Day) (hp : PairedDays days)
    (st : BalState) (h : Balance.run cfg days = .ok st) (byCom : Bool) (c : Option Commodity) (d : Int) :
    BalanceReport.cellAt st.entries byCom c d = 0 :=
  C01_entries_cancel cfg hu days hp st h
    (fun date com => date = some d && (if byCom then some com else none) = c)

theorem renderVals_zero (rc : RenderCfg) (drawComm : Bool) (indent : Nat) (name : String) (neg : Bool)
    (coms : List (Option Commodity)) (cell : Option Commodity → Int → Rat) (hz : ∀ c d, cell c d = 0) :
    ∀ row ∈ BalanceReport.renderVals rc drawComm indent name neg coms cell, ∀ x ∈ row, ∀ n, x = Table.Cell.num n → n = 0 := by
  rintro row hrow x hx n rfl
  obtain ⟨c, h⟩ := MTM.renderVals_num hrow hx
  rw [MTM.numCells_zero _ _ _ _ (hz c)] at h
  obtain ⟨_, _, e⟩ := List.mem_map.mp h
  exact (Table.Cell.num.inj e).symm

/-- **the rendered Delta row(s)**: every numeric cell is `0`. -/
theorem C01_delta_row_zero (cfg : BalCfg) (hu : Unfiltered cfg) (days : List Day) (hp : PairedDays days)
    (st : BalState) (h : Balance.run cfg days = .ok st) (rc : RenderCfg) (drawComm : Bool)
    (coms : List (Option Commodity)) (byCom : Bool) :
    ∀ row ∈ BalanceReport.renderVals rc drawComm 0 "Delta" false coms (BalanceReport.cellAt st.entries byCom),
      ∀ x ∈ row, ∀ n, x = Table.Cell.num n → n = 0 :=
  renderVals_zero rc drawComm 0 "Delta" false coms _ (fun c d => C01_delta_cells_zero cfg hu days hp st h byCom c d)

/-- a mapping whose rules all have level ≥ 1 (and any `--remap`) hides no account -/
theorem visible_of_levels (cfg : BalCfg) (hl : ∀ r ∈ cfg.mapping, 1 ≤ r.level) (a : Account) :
    (mapAccount cfg a).isSome = true := by
  exact mapAccount_isSome_of_levels hl a

/-! Non-vacuity: a configuration without filters and mappings is `Unfiltered`, a journal of bookings is `PairedDays`. -/
example : Unfiltered { span := ⟨1, 10⟩, periods := [⟨1, 10⟩] } :=
  ⟨fun _ => rfl, fun _ => rfl, fun a => by rw [mapAccount_plain rfl (fun _ => rfl)]; rfl⟩

example : PairedDays [{ date := 3, transactions := [Transaction.ofBookings 3 "x" none [⟨⟨["Equity", "E"]⟩, ⟨["Assets", "A"]⟩, 5, "CHF"⟩]] }] := by
  intro d hd t ht
  simp at hd; subst hd; simp at ht; subst ht
  exact ofBookings_paired _ _ _ _

end Knut.C01
