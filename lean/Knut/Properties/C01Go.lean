import Knut.Properties.C01
import Knut.Proofs.BalanceMaps
import Knut.FactsAgree.TransReportTotals
import Knut.FactsAgree.TransQuery
/-!
# C01 (the Delta clause) on the generated definitions

`Properties/C01.lean` proves that every value behind the `Delta` row of the balance report is zero (`C01_delta_cells_zero`) about the
model's entry list.  In Go the row is computed by `Renderer.Render` as

  `totalAL, totalEIE := r.Totals(KeyMapper{Date: Identity, Commodity: IdentityIf(valuation == nil)}.Build()); totalAL.Plus(totalEIE)`

`Report.Insert`, `Report.Totals` and `Amounts.Plus` are translated, and `FactsAgree/TransReport*.lean`, `TransAmountsSum.lean` prove them
equal to the model (`Totals_agrees`, `logSum_cellAt`, `Plus_agrees`) for EVERY iteration order of the maps involved.  This module
composes them, on the report that ANY log of `Insert` calls leaves.

**Partial** in that last hypothesis `hlog : esOf log = st.entries`: the log of `Insert` calls that the translated `Query.Into` makes
(per posting proved equal to the model's `queryPosting`: `TransQuery.Query_Posting_model`) over a journal processed by the translated stages
is not composed over the whole journal here.  Hypotheses on the log that stay: commodities interned with non-empty names (`hcom`).
-/
namespace Knut.C01Go
open Knut Knut.GoSem Knut.Balance
open Knut.Generated.Go
open Knut.FactsAgree.TransAmountsSum Knut.FactsAgree.TransReport
open Knut.FactsAgree.TransQuery (entryOf)

/-- the report after a log of `Insert` calls on a new report -/
def reportOf (part : date.Partition) (log : Log) : balance.Report :=
  log.foldl (fun r e => balance.Report.Insert r e.1 e.2) (balance.NewReport part)

/-- the cells of the two sections add up to the cell of all kept inserts -/
theorem cellAt_sec_split (log : Log) (byC : Bool) (c : Option Knut.Commodity) (d : Int) :
    BalanceReport.cellAt (esOf (sec true log)) byC c d + BalanceReport.cellAt (esOf (sec false log)) byC c d
      = BalanceReport.cellAt (esOf log) byC c d := by
  induction log with
  | nil => simp [sec, esOf, BalanceReport.cellAt_nil, Rat.add_zero]
  | cons e rest ih =>
    by_cases hz : e.1.Account = GoZero.zero
    · have h1 : sec true (e :: rest) = sec true rest := by simp [sec, hz]
      have h2 : sec false (e :: rest) = sec false rest := by simp [sec, hz]
      have h3 : esOf (e :: rest) = esOf rest := by simp [esOf, entryOf, hz]
      rw [h1, h2, h3, ih]
    · obtain ⟨x, hx⟩ : ∃ x, entryOf e = some x := by simp [entryOf, hz]
      have h3 : esOf (e :: rest) = x :: esOf rest := by simp [esOf, hx]
      by_cases hal : account.Account.IsAL e.1.Account = true
      · have h1 : sec true (e :: rest) = e :: sec true rest := by simp [sec, hz, hal]
        have h2 : sec false (e :: rest) = sec false rest := by simp [sec, hz, hal]
        have h4 : esOf (e :: sec true rest) = x :: esOf (sec true rest) := by simp [esOf, hx]
        rw [h1, h2, h3, h4, BalanceReport.cellAt_cons, BalanceReport.cellAt_cons, ← ih, Rat.add_assoc]
      · have hal' : account.Account.IsAL e.1.Account = false := by simpa using hal
        have h1 : sec true (e :: rest) = sec true rest := by simp [sec, hz, hal']
        have h2 : sec false (e :: rest) = e :: sec false rest := by simp [sec, hz, hal']
        have h4 : esOf (e :: sec false rest) = x :: esOf (sec false rest) := by simp [esOf, hx]
        rw [h1, h2, h3, h4, BalanceReport.cellAt_cons, BalanceReport.cellAt_cons, ← ih, Rat.add_left_comm]

/-- **the amounts behind the Delta row**: on the report any log of `Insert` calls leaves, `Totals` with the renderer's mapper never
panics, leaves the report unchanged, and `totalAL.Plus(totalEIE)` holds at every column date and commodity the model's cell of the
entries of the log — for EVERY admissible family of iteration orders (of `Totals`: `Orders`; of `Plus`: a permutation of the keys) -/
theorem C01_delta_cells_go (cur : String → Bool) (part : date.Partition) (log : Log) (byCommodity : Bool)
    (hcom : ∀ e ∈ log, e.1.Commodity = Knut.FactsAgree.TransPosting.commodityGo cur e.1.Commodity.name ∧ e.1.Commodity.name ≠ "")
    (o1 o2 o4 o5 : List String → List amounts.Key) (ord3 ord6 : List String → List String)
    (h1 : Orders (sec true log) [] (mfR byCommodity) [] (reportOf part log).AL o1 o2 ord3)
    (h2 : Orders (sec false log) [] (mfR byCommodity) [] (reportOf part log).EIE o4 o5 ord6) :
    ∃ al eie, balance.Report.Totals (reportOf part log) (pureFn (mfR byCommodity)) o1 o2 ord3 o4 o5 ord6 =
        GoSem.Outcome.ok (reportOf part log, al, eie) ∧
      ∀ op : List amounts.Key, op.Perm (AMap.keys eie) →
        ∀ (c : Option Knut.Commodity), (∀ s, c = some s → s ≠ "") → ∀ d : Int, d ≠ 0 →
          AMap.get (amounts.Amounts.Plus al eie op) (amounts.DateCommodityKey d (comGo cur c)) 0 =
            BalanceReport.cellAt (esOf log) byCommodity c d := by
  obtain ⟨al, eie, hT, wa, _, va, we, _, ve⟩ := Totals_agrees part log (mfR byCommodity) o1 o2 o4 o5 ord3 ord6 h1 h2
  refine ⟨al, eie, hT, ?_⟩
  intro op hop c hc d hd
  obtain ⟨_, hplus, _⟩ := Plus_agrees wa we hop
  rw [hplus, va, ve]
  rw [logSum_cellAt cur (sec true log) (fun e he => (mem_sec he).2) (fun e he => hcom e (mem_sec he).1) byCommodity c hc d hd,
    logSum_cellAt cur (sec false log) (fun e he => (mem_sec he).2) (fun e he => hcom e (mem_sec he).1) byCommodity c hc d hd]
  exact cellAt_sec_split log byCommodity c d

/-- **every value behind the Delta row is zero** on the translated code, when the entries of the log of inserts are those of a run
of the model's balance pipeline on a journal of paired transactions, unfiltered -/
theorem C01_delta_zero_go_partial (cur : String → Bool) (part : date.Partition) (log : Log) (byCommodity : Bool)
    (hcom : ∀ e ∈ log, e.1.Commodity = Knut.FactsAgree.TransPosting.commodityGo cur e.1.Commodity.name ∧ e.1.Commodity.name ≠ "")
    (o1 o2 o4 o5 : List String → List amounts.Key) (ord3 ord6 : List String → List String)
    (h1 : Orders (sec true log) [] (mfR byCommodity) [] (reportOf part log).AL o1 o2 ord3)
    (h2 : Orders (sec false log) [] (mfR byCommodity) [] (reportOf part log).EIE o4 o5 ord6)
    (cfg : BalCfg) (hu : Unfiltered cfg) (days : List Day) (hp : C01.PairedDays days) (st : BalState)
    (hrun : Balance.run cfg days = .ok st) (hlog : esOf log = st.entries) :
    ∃ al eie, balance.Report.Totals (reportOf part log) (pureFn (mfR byCommodity)) o1 o2 ord3 o4 o5 ord6 =
        GoSem.Outcome.ok (reportOf part log, al, eie) ∧
      ∀ op : List amounts.Key, op.Perm (AMap.keys eie) →
        ∀ (c : Option Knut.Commodity), (∀ s, c = some s → s ≠ "") → ∀ d : Int, d ≠ 0 →
          AMap.get (amounts.Amounts.Plus al eie op) (amounts.DateCommodityKey d (comGo cur c)) 0 = 0 := by
  obtain ⟨al, eie, hT, hcells⟩ := C01_delta_cells_go cur part log byCommodity hcom o1 o2 o4 o5 ord3 ord6 h1 h2
  refine ⟨al, eie, hT, ?_⟩
  intro op hop c hc d hd
  rw [hcells op hop c hc d hd, hlog]
  exact C01.C01_delta_cells_zero cfg hu days hp st hrun byCommodity c d

/-! ## the log of `Query.Into`

`Processor.Process` calls the `Posting` closure of `Query.Into(report)` for every posting of every transaction that reaches the query
stage; the closure's calls `report.Insert(k, v)` are the LOG the theorems above start from.  `queryAllGo` folds the translated closure
over a list of Go transactions; `queryAll_model` composes `TransQuery.Query_Posting_model` over it: the entries of the log are the model's
`queryTx` of the transactions, in order.  With it the hypothesis `hlog` of `C01_delta_zero_go_partial` is reduced to: the Go transactions
that reach the query stage stand for the model's (`TRel`: dates, postings; `Src` pointers and descriptions arbitrary). -/

/-- the `Posting` closure over the postings of one transaction (the first error or panic ends the run) -/
def queryPostings (tg : transaction.Transaction) :
    journal.Query.Into.State → List posting.Posting → GoSem.Outcome (journal.Query.Into.State × Option GoSem.Error)
  | st, [] => .ok (st, none)
  | st, b :: bs =>
    (journal.Query.Into.Posting st tg b).bind fun r =>
      match r.2 with
      | none => queryPostings tg r.1 bs
      | some e => .ok (r.1, some e)

/-- … over the transactions that reach the query stage, in order -/
def queryAllGo : journal.Query.Into.State → List transaction.Transaction →
    GoSem.Outcome (journal.Query.Into.State × Option GoSem.Error)
  | st, [] => .ok (st, none)
  | st, tg :: tgs =>
    (queryPostings tg st tg.Postings).bind fun r =>
      match r.2 with
      | none => queryAllGo r.1 tgs
      | some e => .ok (r.1, some e)

/-- how `cmd/commands/balance.go` sets up `Where` and `Select` for a model configuration (a hypothesis here; proved of the translated
`journal.Query{…}` literal of `execute` by `TransBalanceCmdGo.balance_QueryFor`): `Where` computes the two
filters, `Select` the account mapping and the column; both look at a transaction through its date only -/
structure QueryFor (cur : String → Bool) (cfg : BalCfg) (q : journal.Query) (w : amounts.Key → Bool) (s : amounts.Key → amounts.Key) :
    Prop where
  where_ : q.Where = some (fun k => GoSem.Outcome.ok (w k))
  select : q.Select = some (fun k => GoSem.Outcome.ok (s k))
  val : (q.Valuation = GoZero.zero) ↔ cfg.valuation = none
  hw : ∀ (tg : transaction.Transaction) (src : GoSem.Ref) (p : Knut.Posting),
    w (Knut.FactsAgree.TransQuery.keyOf q.Valuation tg (Knut.FactsAgree.TransPosting.postingGo cur src p)) =
      (cfg.accountFilter p.account.name && cfg.commodityFilter p.commodity)
  hs : ∀ (tg : transaction.Transaction) (t : Knut.Transaction) (src : GoSem.Ref) (p : Knut.Posting) (amt : Rat), tg.Date = t.date →
    entryOf (s (Knut.FactsAgree.TransQuery.keyOf q.Valuation tg (Knut.FactsAgree.TransPosting.postingGo cur src p)), amt) =
      (mapAccount cfg p.account).map fun a =>
        { date := alignIn cfg.periods t.date, account := a, commodity := p.commodity, amount := amt }

open Knut.FactsAgree.TransProcess (AllRel PRel TRel) in
theorem queryPostings_model {cur : String → Bool} {cfg : BalCfg} {w : amounts.Key → Bool} {s : amounts.Key → amounts.Key}
    (tg : transaction.Transaction) (t : Knut.Transaction) (hdate : tg.Date = t.date) :
    ∀ (bs : List posting.Posting) (ps : List Knut.Posting), AllRel (PRel cur) bs ps →
      ∀ (st : journal.Query.Into.State), QueryFor cur cfg st.query w s →
      ∃ st', queryPostings tg st bs = .ok (st', none) ∧ st'.query = st.query ∧
        esOf st'.c = esOf st.c ++ ps.filterMap (Balance.queryPosting cfg t) := by
  intro bs ps hrel
  induction hrel with
  | nil => intro st _; exact ⟨st, rfl, rfl, by simp⟩
  | @cons b p bs ps hb _ ih =>
    intro st hq
    have hb' : b = Knut.FactsAgree.TransPosting.postingGo cur b.Src p := hb
    obtain ⟨st1, h1, hq1, he1⟩ := Knut.FactsAgree.TransQuery.Query_Posting_model cur cfg st w s hq.where_ hq.select hq.val tg t b.Src p
      (hq.hw tg b.Src p) (fun amt => hq.hs tg t b.Src p amt hdate)
    rw [← hb'] at h1
    obtain ⟨st2, h2, hq2, he2⟩ := ih st1 (by rw [hq1]; exact hq)
    refine ⟨st2, ?_, by rw [hq2, hq1], ?_⟩
    · simp only [queryPostings, h1, GoSem.Outcome.bind]
      exact h2
    · unfold esOf at he2 ⊢
      rw [he2, he1, List.filterMap_cons]
      cases Balance.queryPosting cfg t p <;> simp

open Knut.FactsAgree.TransProcess (AllRel PRel TRel) in
/-- **the log of `Query.Into` over the transactions that reach it**: no error, no panic (`Where`/`Select` are set), the query is
unchanged, and the entries `Report.Insert` keeps of the log grow by exactly the model's `queryTx` of every transaction, in order -/
theorem queryAll_model {cur : String → Bool} {cfg : BalCfg} {w : amounts.Key → Bool} {s : amounts.Key → amounts.Key} :
    ∀ (tgs : List transaction.Transaction) (ts : List Knut.Transaction), AllRel (TRel cur) tgs ts →
      ∀ (st : journal.Query.Into.State), QueryFor cur cfg st.query w s →
      ∃ st', queryAllGo st tgs = .ok (st', none) ∧ st'.query = st.query ∧
        esOf st'.c = esOf st.c ++ ts.flatMap (Balance.queryTx cfg) := by
  intro tgs ts hrel
  induction hrel with
  | nil => intro st _; exact ⟨st, rfl, rfl, by simp⟩
  | @cons tg t tgs ts ht _ ih =>
    intro st hq
    obtain ⟨st1, h1, hq1, he1⟩ := queryPostings_model (w := w) (s := s) tg t ht.1 tg.Postings t.postings ht.2.2.1 st hq
    obtain ⟨st2, h2, hq2, he2⟩ := ih st1 (by rw [hq1]; exact hq)
    refine ⟨st2, ?_, by rw [hq2, hq1], ?_⟩
    · simp only [queryAllGo, h1, GoSem.Outcome.bind]
      exact h2
    · rw [he2, he1, List.flatMap_cons, List.append_assoc]
      rfl

/-- the transactions that reach the query stage in a run of the model, all days in order (`Balance.run` with the entries left out) -/
def runTxs (cfg : BalCfg) : BalState → List Day → Except BalErr (List Knut.Transaction)
  | _, [] => .ok []
  | st, d :: ds =>
    match Balance.dayTxs cfg st d with
    | .error e => .error e
    | .ok (st1, txs) =>
      match runTxs cfg { st1 with entries := st1.entries ++ txs.flatMap (Balance.queryTx cfg) } ds with
      | .error e => .error e
      | .ok rest => .ok (txs ++ rest)

theorem runTxs_of_steps {cfg : BalCfg} {st st' : BalState} {days : List Day} {q : List Knut.Transaction}
    (h : Balance.Steps cfg st days st' q) : runTxs cfg st days = .ok q := by
  induction h with
  | nil => rfl
  | @cons st st1 st' d ds raw q qs hs _ ih =>
    have hd : Balance.dayTxs cfg st d = .ok (Balance.join st1.chk (Balance.vOf st1) (Balance.cOf st1) st.entries, q) :=
      Balance.dayTxs_ok_iff.mpr ⟨raw, hs.chk, hs.val, hs.close, rfl⟩
    have e : ({ Balance.join st1.chk (Balance.vOf st1) (Balance.cOf st1) st.entries with
        entries := st.entries ++ q.flatMap (Balance.queryTx cfg) } : BalState) = st1 :=
      (Balance.eq_join.mpr ⟨rfl, rfl, rfl, hs.entries⟩).symm
    rw [runTxs, hd]
    simp only
    rw [show (Balance.join st1.chk (Balance.vOf st1) (Balance.cOf st1) st.entries).entries = st.entries from rfl, e, ih]

theorem run_entries (cfg : BalCfg) : ∀ (days : List Day) (st0 st : BalState), days.foldlM (Balance.day cfg) st0 = .ok st →
    ∃ all, runTxs cfg st0 days = .ok all ∧ st.entries = st0.entries ++ all.flatMap (Balance.queryTx cfg) := by
  intro days st0 st h
  obtain ⟨q, hq⟩ := Balance.foldlM_day_ok_iff.mp h
  exact ⟨q, runTxs_of_steps hq, hq.entries⟩

theorem queryAll_run (cur : String → Bool) (cfg : BalCfg) (days : List Day) (st : BalState) (hrun : Balance.run cfg days = .ok st)
    (all : List Knut.Transaction) (hall : runTxs cfg {} days = .ok all)
    (q : journal.Query) (w : amounts.Key → Bool) (s : amounts.Key → amounts.Key)
    (hq : QueryFor cur cfg (journal.Query.Into.init q).query w s)
    (tgs : List transaction.Transaction) (hrel : Knut.FactsAgree.TransProcess.AllRel (Knut.FactsAgree.TransProcess.TRel cur) tgs all) :
    ∃ qs, queryAllGo (journal.Query.Into.init q) tgs = .ok (qs, none) ∧ esOf qs.c = st.entries := by
  obtain ⟨qs, h1, _, he⟩ := queryAll_model tgs all hrel (journal.Query.Into.init q) hq
  obtain ⟨all', ha', hent⟩ := run_entries cfg days {} st hrun
  rw [hall] at ha'
  cases ha'
  refine ⟨qs, h1, ?_⟩
  rw [he, hent, Knut.FactsAgree.TransQuery.Query_init_agrees]
  rfl

/-- **every value behind the Delta row is zero**, with the log produced by the translated `Query.Into`: the translated closure run
over Go transactions that stand for the transactions reaching the query stage in a run of the model (paired transactions, unfiltered), then
`Totals` and `Plus` on the report these inserts leave, for every admissible family of iteration orders.
Partial in `hrel`: that the Go transactions after the translated stages `check`/`ComputePrices`/`Valuate`/`Filter`/`CloseAccounts`
stand for the model's is a hypothesis here; `C01Go3.C01_delta_zero_balance_go` has it from the composition over the journal. -/
theorem C01_delta_zero_query_go_partial (cur : String → Bool) (part : date.Partition) (byCommodity : Bool)
    (cfg : BalCfg) (hu : Unfiltered cfg) (days : List Day) (hp : C01.PairedDays days) (st : BalState)
    (hrun : Balance.run cfg days = .ok st) (all : List Knut.Transaction) (hall : runTxs cfg {} days = .ok all)
    (q : journal.Query) (w : amounts.Key → Bool) (s : amounts.Key → amounts.Key)
    (hq : QueryFor cur cfg (journal.Query.Into.init q).query w s)
    (tgs : List transaction.Transaction) (hrel : Knut.FactsAgree.TransProcess.AllRel (Knut.FactsAgree.TransProcess.TRel cur) tgs all) :
    ∃ qs, queryAllGo (journal.Query.Into.init q) tgs = .ok (qs, none) ∧ esOf qs.c = st.entries ∧
      ((∀ e ∈ qs.c, e.1.Commodity = Knut.FactsAgree.TransPosting.commodityGo cur e.1.Commodity.name ∧ e.1.Commodity.name ≠ "") →
        ∀ (o1 o2 o4 o5 : List String → List amounts.Key) (ord3 ord6 : List String → List String),
          Orders (sec true qs.c) [] (mfR byCommodity) [] (reportOf part qs.c).AL o1 o2 ord3 →
          Orders (sec false qs.c) [] (mfR byCommodity) [] (reportOf part qs.c).EIE o4 o5 ord6 →
          ∃ al eie, balance.Report.Totals (reportOf part qs.c) (pureFn (mfR byCommodity)) o1 o2 ord3 o4 o5 ord6 =
              GoSem.Outcome.ok (reportOf part qs.c, al, eie) ∧
            ∀ op : List amounts.Key, op.Perm (AMap.keys eie) →
              ∀ (c : Option Knut.Commodity), (∀ s, c = some s → s ≠ "") → ∀ d : Int, d ≠ 0 →
                AMap.get (amounts.Amounts.Plus al eie op) (amounts.DateCommodityKey d (comGo cur c)) 0 = 0) := by
  obtain ⟨qs, h1, hlog⟩ := queryAll_run cur cfg days st hrun all hall q w s hq tgs hrel
  refine ⟨qs, h1, hlog, ?_⟩
  intro hcom o1 o2 o4 o5 ord3 ord6 h1' h2'
  exact C01_delta_zero_go_partial cur part qs.c byCommodity hcom o1 o2 o4 o5 ord3 ord6 h1' h2' cfg hu days hp st hrun hlog

/-! ### Non-vacuity of `QueryFor`: an unfiltered, unmapped report over the single period 1 … 10; `Where` accepts everything, `Select`
replaces the date by the period end `Align` gives (the zero time after the window); `cfg0.close` is the default `true`, so this is
not a configuration of the C02 clauses (`close = false`) -/

def cfg0 : BalCfg := { span := ⟨1, 10⟩, periods := [⟨1, 10⟩] }
def sel0 (k : amounts.Key) : amounts.Key := { k with Date := (alignIn [⟨1, 10⟩] k.Date).getD 0 }
def q0 : journal.Query :=
  { Select := some (fun k => GoSem.Outcome.ok (sel0 k)), Where := some (fun _ => GoSem.Outcome.ok true), Valuation := GoZero.zero }

example (cur : String → Bool) : QueryFor cur cfg0 (journal.Query.Into.init q0).query (fun _ => true) sel0 := by
  have hq : (journal.Query.Into.init q0).query = q0 := by
    rw [Knut.FactsAgree.TransQuery.Query_init_agrees]; rfl
  rw [hq]
  refine ⟨rfl, rfl, ⟨fun _ => rfl, fun _ => rfl⟩, fun _ _ _ => rfl, ?_⟩
  intro tg t src p amt hdate
  have hm : mapAccount cfg0 p.account = some p.account := by
    exact mapAccount_plain rfl (fun _ => rfl) _
  rw [hm]
  unfold entryOf
  simp only [sel0, Knut.FactsAgree.TransQuery.keyOf, Knut.FactsAgree.TransPosting.postingGo, Knut.FactsAgree.TransAccount.accountGo_ne_zero, if_false, hdate,
    Option.map_some, Option.some.injEq]
  have hal : alignIn cfg0.periods t.date = alignIn [⟨1, 10⟩] t.date := rfl
  rw [hal]
  have hd : (if (alignIn [⟨1, 10⟩] t.date).getD 0 = 0 then none else some ((alignIn [⟨1, 10⟩] t.date).getD 0))
      = alignIn [⟨1, 10⟩] t.date := by
    unfold alignIn
    by_cases h10 : (10 : Int) < t.date <;> simp [List.find?, h10]
  rw [hd]
  cases p with
  | mk acc oth com qty val =>
    cases acc
    rfl

/-! ### Non-vacuity: the empty log (a journal without bookings): every order family is admissible, both totals are empty, every Delta
cell is 0 -/
example : ∃ al eie, balance.Report.Totals (reportOf ⟨⟨1, 2⟩, 1, []⟩ []) (pureFn (mfR true)) (fun _ => []) (fun _ => []) (fun _ => [])
    (fun _ => []) (fun _ => []) (fun _ => []) = GoSem.Outcome.ok (reportOf ⟨⟨1, 2⟩, 1, []⟩ [], al, eie) ∧
    AMap.get (amounts.Amounts.Plus al eie []) (amounts.DateCommodityKey 5 (comGo (fun _ => true) (some "CHF"))) 0 = 0 := by
  have hO : ∀ n : Node, n = MNode.new "" → Orders [] [] (mfR true) [] n (fun _ => []) (fun _ => []) (fun _ => []) := by
    intro n hn
    subst hn
    refine ⟨?_, ?_, ?_⟩
    · intro q m hm
      cases q with
      | nil => simp only [MNode.nodeAt?_nil, Option.some.injEq] at hm; subst hm; simp [MNode.new, AMap.keys]; try rfl
      | cons s rest => simp [MNode.nodeAt?_cons, MNode.new, AMap.find?] at hm
    · intro q m hm
      cases q with
      | nil => simp only [MNode.nodeAt?_nil, Option.some.injEq] at hm; subst hm; simp [MNode.new, AMap.keys]
      | cons s rest => simp [MNode.nodeAt?_cons, MNode.new, AMap.find?] at hm
    · intro q x hx
      exfalso
      unfold possible at hx
      simp [AMap.keys] at hx
  obtain ⟨al, eie, hT, hcells⟩ := C01_delta_cells_go (fun _ => true) ⟨⟨1, 2⟩, 1, []⟩ [] true (by intro e he; cases he)
    (fun _ => []) (fun _ => []) (fun _ => []) (fun _ => []) (fun _ => []) (fun _ => [])
    (hO _ rfl) (hO _ rfl)
  -- the run itself, by evaluation: both totals are empty
  have h0 : balance.Report.Totals (reportOf ⟨⟨1, 2⟩, 1, []⟩ []) (pureFn (mfR true)) (fun _ => []) (fun _ => []) (fun _ => [])
      (fun _ => []) (fun _ => []) (fun _ => []) = GoSem.Outcome.ok (reportOf ⟨⟨1, 2⟩, 1, []⟩ [], [], []) := rfl
  rw [h0] at hT
  cases hT
  refine ⟨[], [], h0, ?_⟩
  rw [hcells [] (List.Perm.refl _) (some "CHF") (by intro s hs; injection hs with hs; subst hs; decide) 5 (by decide)]
  simp [esOf, BalanceReport.cellAt_nil]

end Knut.C01Go
