import Knut.Properties.C01Go
import Knut.FactsAgree.TransProcessAllBalance
/-!
# C01 (the Delta clause) on the generated definitions, over a WHOLE journal — without the relational hypothesis of `C01Go`

`Properties/C01Go.lean` leaves `hrel` / `hlog` open: that the Go transactions reaching the query stage stand for the model's.
`FactsAgree/TransProcessAllBalance.lean` composes the per-day stage theorems over a journal: `processAllBalance` — the sequential meaning
(`Pipeline.seqRun`, justified by `C19_confluent`; that `cpr.Seq` itself is not translated stays a stated modelling step) of
`j.Build().Process(check, ComputePrices, Valuate, Filter, CloseAccounts, Query.Into)` on the translated closures.  Here:

* `runOrd_sum_zero`: the conservation argument of C01 holds for every run of the model in which the association lists that
  `Valuate.DayStart` / `CloseAccounts.DayStart` range over are re-listed before each day (`RunOrd`) — i.e. for EVERY family of map
  iteration orders, not only the model's own;
* **`C01_delta_zero_process_go`**: whenever the sequential run of the six translated stages over the Go journal succeeds, `Totals` and
  `Plus` on the report that the log of the translated `Query.Into` leaves give ZERO at every column date and commodity.  Hypotheses:
  the Go days stand for the model days (`DaysRel`: what the loader builds — `FactsAgree/TransCreate3.lean` — every `Src` arbitrary), the
  parameters stand for the configuration (`ParOK`: every admissible family of iteration orders and fuels), the journal's transactions
  are paired and the report unfiltered (as in C01), accounts reaching the query start with a type word (`QueryWf`), commodities interned
  with non-empty names, and the order families of `Totals`/`Plus` admissible (as in `C01Go`).  No hypothesis relates the PROCESSED Go
  journal to the model.
-/
namespace Knut.C01Go2
open Knut Knut.GoSem Knut.Balance
open Knut.Generated.Go
open Knut.FactsAgree.TransAmountsSum Knut.FactsAgree.TransReport Knut.FactsAgree.TransProcessAll
open Knut.FactsAgree.TransQuery (entryOf)

/-- the conservation of C01 for every re-listed run of the model -/
theorem runOrd_sum_zero (cfg : BalCfg) (hu : Unfiltered cfg) (κ : Option Int → Commodity → Bool) :
    ∀ (days : List Day) (st0 st : BalState), RunOrd cfg st0 days st → C01.PairedDays days → sumSel κ st0.entries = 0 →
      sumSel κ st.entries = 0 := by
  intro days st0 st h
  induction h with
  | nil st => intro _ h0; exact h0
  | @cons st st1 st2 d ds vq cq _ _ _ _ hday _ ih =>
    intro hp h0
    have h1 := sumSel_day cfg hu κ { st with vQty := vq, cQty := cq } st1 d (hp d List.mem_cons_self) hday
    exact ih (fun d' hd' => hp d' (List.mem_cons_of_mem _ hd')) (by rw [h1]; exact h0)

theorem runOrd_cells_zero (cfg : BalCfg) (hu : Unfiltered cfg) (days : List Day) (hp : C01.PairedDays days) (st : BalState)
    (h : RunOrd cfg {} days st) (byCom : Bool) (c : Option Commodity) (d : Int) :
    BalanceReport.cellAt st.entries byCom c d = 0 :=
  runOrd_sum_zero cfg hu (fun date com => date = some d && (if byCom then some com else none) = c) days {} st h hp rfl

/-- **every value behind the Delta row is zero, on the translated pipeline over a whole journal** -/
theorem C01_delta_zero_process_go (cur : String → Bool) (cfg : BalCfg) (P : BalPar) (q : journal.Query) (hP : ParOK cur cfg P q)
    (G0 : BalGo) (hinit : BalInv cur cfg q (fusedInit G0) {}) (gdays : List journal.Day) (days : List Day)
    (hdays : DaysRel cur gdays days) (hwf : ∀ d ∈ days, QueryWf cfg d) (out : List journal.Day)
    (hgo : processAllBalance P G0 gdays = some out)
    (hu : Unfiltered cfg) (hp : C01.PairedDays days) (part : date.Partition) (byCommodity : Bool) :
    ∃ G', runDays (fusedBalance P) (fusedInit G0) gdays = .ok (G', out) ∧
      ((∀ e ∈ G'.2.c, e.1.Commodity = Knut.FactsAgree.TransPosting.commodityGo cur e.1.Commodity.name ∧ e.1.Commodity.name ≠ "") →
        ∀ (o1 o2 o4 o5 : List String → List amounts.Key) (ord3 ord6 : List String → List String),
          Orders (sec true G'.2.c) [] (mfR byCommodity) [] (C01Go.reportOf part G'.2.c).AL o1 o2 ord3 →
          Orders (sec false G'.2.c) [] (mfR byCommodity) [] (C01Go.reportOf part G'.2.c).EIE o4 o5 ord6 →
          ∃ al eie, balance.Report.Totals (C01Go.reportOf part G'.2.c) (pureFn (mfR byCommodity)) o1 o2 ord3 o4 o5 ord6 =
              GoSem.Outcome.ok (C01Go.reportOf part G'.2.c, al, eie) ∧
            ∀ op : List amounts.Key, op.Perm (AMap.keys eie) →
              ∀ (c : Option Knut.Commodity), (∀ s, c = some s → s ≠ "") → ∀ d : Int, d ≠ 0 →
                AMap.get (amounts.Amounts.Plus al eie op) (amounts.DateCommodityKey d (comGo cur c)) 0 = 0) := by
  obtain ⟨G', st, hr, hrun, _, hlog⟩ := processAllBalance_agrees_partial cur cfg P q hP G0 hinit gdays days hdays hwf out hgo
  refine ⟨G', hr, ?_⟩
  intro hcom o1 o2 o4 o5 ord3 ord6 h1 h2
  obtain ⟨al, eie, hT, hcells⟩ := C01Go.C01_delta_cells_go cur part G'.2.c byCommodity hcom o1 o2 o4 o5 ord3 ord6 h1 h2
  refine ⟨al, eie, hT, ?_⟩
  intro op hop c hc d hd
  rw [hcells op hop c hc d hd]
  have : esOf G'.2.c = st.entries := hlog
  rw [this]
  exact runOrd_cells_zero cfg hu days hp st hrun byCommodity c d

/-! ### Non-vacuity: the empty journal — the six stages succeed on no day, the initial states are related (`BalInv_init`), the log is
empty -/
example (P : BalPar) (q : journal.Query) (gf : journal.Filter.State)
    (gc : journal.CloseAccounts.State) :
    processAllBalance P ⟨checkInit, ⟨GoZero.zero, []⟩, ⟨GoZero.zero, GoZero.zero, []⟩, gf, gc, { query := q, c := [] }⟩ [] = some [] := by
  rw [processAllBalance_eq]; rfl

end Knut.C01Go2
