import Knut.FactsAgree.TransBalanceCmdGo
import Knut.Properties.C01Go2
/-!
# C01 (the Delta clause) on the generated definitions, with the query that `knut balance` builds — no hypothesis about `Where`/`Select`

`Properties/C01Go.lean` states `C01_delta_zero_query_go_partial` under `QueryFor cur cfg q w s` ("how `cmd/commands/balance.go` sets up
`Where` and `Select`"), and `Properties/C01Go2.lean` states `C01_delta_zero_process_go` under `ParOK cur cfg P q`, whose field `query`
is `PostingOK cfg cur q` (what the `Posting` closure of a query `q` does): hypotheses about an arbitrary `journal.Query`.  The
`journal.Query{…}` literal of `balanceRunner.execute` is translated (fragment `commands.balanceRunner.execute.query`), so for the query
the command builds both are THEOREMS: `TransBalanceCmdGo.balance_QueryFor` and `TransBalanceCmd.query_posting_model`.  This module
instantiates them.  The statements mention only

* the FLAGS of the command, read in the model's configuration (`TransBalanceCmd.FlagsOK`: `--remap`, `--mapping`, `--account`,
  `--commodity`, `--val`), and the partition of `cfg.periods` (ends ascending, none the zero date);
* the two registry functions the fragment calls (`reg.SwapType`, `reg.MustGetPath`): one pointer per account name;
* for the process-level theorem: the parameters of the other five processors (`StagesOK` = `ParOK` without its field `query`), and the
  states the six constructors start from (`balanceInit`: those of `TransProcessAll.BalInv_init`, the query stage started by
  `Query.Into` on the query the fragment builds).

The report is laid out over the SAME partition that `Filter` and `Select` use (`partition` of `execute`), as in the Go code.
Hypotheses that stay (all listed in `C01Go2`): `DaysRel` (the loader's output), paired transactions, unfiltered report, `QueryWf`,
interned commodities, admissible iteration orders; `seqRun` as the meaning of `Journal.Process` (C19).
-/
namespace Knut.C01Go3
open Knut Knut.GoSem Knut.Balance
open Knut.Generated.Go Knut.FactsAgree
open Knut.FactsAgree.TransAmountsSum Knut.FactsAgree.TransReport Knut.FactsAgree.TransProcessAll
open Knut.FactsAgree.TransMapping Knut.FactsAgree.TransBalanceCmd
open Knut.FactsAgree.TransAccount (accountGo)
open Knut.FactsAgree.TransPrice (cGo)
open Knut.FactsAgree.TransProcess (CEquiv)

/-- **every value behind the Delta row is zero**, with the log that the translated `Query.Into` produces for the query that
`execute` builds from the flags.  Partial in `hrel` only (see `C01Go.C01_delta_zero_query_go_partial`). -/
theorem C01_delta_zero_balance_query_go_partial (cur : String → Bool) (byCommodity : Bool)
    (cfg : BalCfg) (hu : Unfiltered cfg) (days : List Day) (hp : C01.PairedDays days) (st : BalState)
    (hrun : Balance.run cfg days = .ok st) (all : List Knut.Transaction) (hall : C01Go.runTxs cfg {} days = .ok all)
    (valuation : commodity.Commodity) (span : Knut.Period) (iv : Knut.Interval)
    (remapFs : List (String → Bool)) (swap : account.Account → account.Account)
    (m : account.Mapping) (getPath : List String → account.Account)
    (accs : Option (List (String → Bool))) (comFs : List (String → Bool))
    (hfl : FlagsOK cfg valuation remapFs m accs comFs)
    (hsorted : List.Pairwise (fun p q : Knut.Period => p.stop ≤ q.stop) cfg.periods) (hstop : ∀ p ∈ cfg.periods, p.stop ≠ 0)
    (hreg : ∀ b : Knut.Account, getPath b.segments = accountGo b)
    (hswap : ∀ b : Knut.Account, swap (accountGo b) = accountGo (swapType b))
    (tgs : List transaction.Transaction) (hrel : Knut.FactsAgree.TransProcess.AllRel (Knut.FactsAgree.TransProcess.TRel cur) tgs all) :
    ∃ q, commands.balanceRunner.execute.query valuation (TransDate.partitionGo ⟨span, iv, cfg.periods⟩) (regsGo remapFs) swap m getPath
          (accs.map regsGo) (regsGo comFs) = GoSem.Outcome.ok q ∧
      ∃ qs, C01Go.queryAllGo (journal.Query.Into.init q) tgs = .ok (qs, none) ∧ esOf qs.c = st.entries ∧
      ((∀ e ∈ qs.c, e.1.Commodity = Knut.FactsAgree.TransPosting.commodityGo cur e.1.Commodity.name ∧ e.1.Commodity.name ≠ "") →
        ∀ (o1 o2 o4 o5 : List String → List amounts.Key) (ord3 ord6 : List String → List String),
          Orders (sec true qs.c) [] (mfR byCommodity) [] (C01Go.reportOf (TransDate.partitionGo ⟨span, iv, cfg.periods⟩) qs.c).AL o1 o2 ord3 →
          Orders (sec false qs.c) [] (mfR byCommodity) [] (C01Go.reportOf (TransDate.partitionGo ⟨span, iv, cfg.periods⟩) qs.c).EIE o4 o5 ord6 →
          ∃ al eie, balance.Report.Totals (C01Go.reportOf (TransDate.partitionGo ⟨span, iv, cfg.periods⟩) qs.c) (pureFn (mfR byCommodity))
                o1 o2 ord3 o4 o5 ord6 =
              GoSem.Outcome.ok (C01Go.reportOf (TransDate.partitionGo ⟨span, iv, cfg.periods⟩) qs.c, al, eie) ∧
            ∀ op : List amounts.Key, op.Perm (AMap.keys eie) →
              ∀ (c : Option Knut.Commodity), (∀ s, c = some s → s ≠ "") → ∀ d : Int, d ≠ 0 →
                AMap.get (amounts.Amounts.Plus al eie op) (amounts.DateCommodityKey d (comGo cur c)) 0 = 0) := by
  obtain ⟨q, hq, hfor⟩ := Knut.FactsAgree.TransBalanceCmdGo.balance_QueryFor cfg cur valuation span iv remapFs swap m getPath accs comFs
    hfl hsorted hstop hreg hswap
  exact ⟨q, hq, C01Go.C01_delta_zero_query_go_partial cur _ byCommodity cfg hu days hp st hrun all hall q _ _ hfor tgs hrel⟩

/-- what relates the parameters of the five processors before the query to the model's configuration: `ParOK` without its field
`query` (which is a theorem for the command's query) and with the partition of `Filter`/`CloseAccounts` spelled out -/
structure StagesOK (cur : String → Bool) (cfg : BalCfg) (iv : Knut.Interval) (P : BalPar) : Prop where
  val : P.val = cfg.valuation.map (cGo cur)
  ext1 : ∀ a : Knut.Account, P.ext1 (accountGo a) = accountGo (valuationAccountFor a)
  part : P.part = TransDate.partitionGo ⟨cfg.span, iv, cfg.periods⟩
  close : P.closeOn = cfg.close
  ord : OrdOK P.ord
  fuel : ∀ v, cfg.valuation = some v → FuelOK cur v P.fuel
  oV : ∀ g dg k, (Knut.AMap.find? g.quantities k).isSome → k ∈ P.oV g dg
  oC : ∀ g dg k, (Knut.AMap.find? g.quantities k).isSome → k ∈ P.oC g dg

theorem ParOK_of_stages {cur : String → Bool} {cfg : BalCfg} {iv : Knut.Interval} {P : BalPar} (h : StagesOK cur cfg iv P)
    {q : journal.Query} (hq : PostingOK cfg cur q) : ParOK cur cfg P q :=
  ⟨h.val, h.ext1, ⟨⟨cfg.span, iv, cfg.periods⟩, h.part, rfl⟩, h.close, h.ord, h.fuel, h.oV, h.oC, hq⟩

/-- the captured states the six constructors of `execute` start from (those of `TransProcessAll.BalInv_init`); the query stage is
`Query.Into` of the query `q` -/
def balanceInit (gf : journal.Filter.State) (gc : journal.CloseAccounts.State) (q : journal.Query) : BalGo :=
  ⟨checkInit, ⟨GoZero.zero, []⟩, ⟨GoZero.zero, GoZero.zero, []⟩, gf, gc, journal.Query.Into.init q⟩

/-- **every value behind the Delta row is zero, on the translated pipeline of `knut balance` over a whole journal**, the query being
the one `execute` builds from the flags.  `hgc`: the state `CloseAccounts` starts from has empty accumulators and, as closing days, the partition's
start dates — what `TransProcess.CloseAccounts_init_agrees` says of the translated constructor (its untranslated calls being parameters). -/
theorem C01_delta_zero_balance_go (cur : String → Bool) (cfg : BalCfg) (iv : Knut.Interval) (P : BalPar) (hS : StagesOK cur cfg iv P)
    (valuation : commodity.Commodity) (remapFs : List (String → Bool)) (swap : account.Account → account.Account)
    (m : account.Mapping) (getPath : List String → account.Account)
    (accs : Option (List (String → Bool))) (comFs : List (String → Bool))
    (hfl : FlagsOK cfg valuation remapFs m accs comFs)
    (hsorted : List.Pairwise (fun p q : Knut.Period => p.stop ≤ q.stop) cfg.periods) (hstop : ∀ p ∈ cfg.periods, p.stop ≠ 0)
    (hreg : RegistryPath getPath) (hswap : RegistrySwap swap)
    (gf : journal.Filter.State) (gc : journal.CloseAccounts.State)
    (hgc : cfg.close = true → CEquiv cur gc (cfg.periods.map (·.start)) [] [])
    (gdays : List journal.Day) (days : List Day)
    (hdays : DaysRel cur gdays days) (hwf : ∀ d ∈ days, QueryWf cfg d) (hu : Unfiltered cfg) (hp : C01.PairedDays days)
    (byCommodity : Bool) :
    ∃ q, commands.balanceRunner.execute.query valuation P.part (regsGo remapFs) swap m getPath (accs.map regsGo) (regsGo comFs)
          = GoSem.Outcome.ok q ∧
      ∀ out : List journal.Day, processAllBalance P (balanceInit gf gc q) gdays = some out →
      ∃ G', runDays (fusedBalance P) (fusedInit (balanceInit gf gc q)) gdays = .ok (G', out) ∧
      ((∀ e ∈ G'.2.c, e.1.Commodity = Knut.FactsAgree.TransPosting.commodityGo cur e.1.Commodity.name ∧ e.1.Commodity.name ≠ "") →
        ∀ (o1 o2 o4 o5 : List String → List amounts.Key) (ord3 ord6 : List String → List String),
          Orders (sec true G'.2.c) [] (mfR byCommodity) [] (C01Go.reportOf P.part G'.2.c).AL o1 o2 ord3 →
          Orders (sec false G'.2.c) [] (mfR byCommodity) [] (C01Go.reportOf P.part G'.2.c).EIE o4 o5 ord6 →
          ∃ al eie, balance.Report.Totals (C01Go.reportOf P.part G'.2.c) (pureFn (mfR byCommodity)) o1 o2 ord3 o4 o5 ord6 =
              GoSem.Outcome.ok (C01Go.reportOf P.part G'.2.c, al, eie) ∧
            ∀ op : List amounts.Key, op.Perm (AMap.keys eie) →
              ∀ (c : Option Knut.Commodity), (∀ s, c = some s → s ≠ "") → ∀ d : Int, d ≠ 0 →
                AMap.get (amounts.Amounts.Plus al eie op) (amounts.DateCommodityKey d (comGo cur c)) 0 = 0) := by
  obtain ⟨q, hq, hinit, hpost⟩ := query_posting_model cfg cur valuation cfg.span iv remapFs swap m getPath accs comFs hfl hsorted hstop
    hreg hswap
  rw [← hS.part] at hq
  refine ⟨q, hq, fun out hgo => ?_⟩
  have hI : BalInv cur cfg q (fusedInit (balanceInit gf gc q)) {} := by
    unfold balanceInit
    rw [hinit]
    exact BalInv_init cur cfg q gf gc hgc
  exact C01Go2.C01_delta_zero_process_go cur cfg P q (ParOK_of_stages hS hpost) _ hI gdays days hdays hwf out hgo hu hp P.part byCommodity

/-! ### Non-vacuity: the flags of a plain `knut balance` (no `--remap`, `--mapping`, `--account`, `--commodity`, `--val`) are `FlagsOK`
for the configuration `C01Go.cfg0` -/
example : FlagsOK C01Go.cfg0 GoZero.zero [] [] none [] :=
  ⟨fun _ => rfl, fun _ h => (by cases h), rfl, fun _ => rfl, fun _ => rfl, ⟨fun _ => rfl, fun _ => rfl⟩⟩

/-! ### Non-vacuity: the empty journal — the six stages succeed from the command's initial states -/
example (P : BalPar) (q : journal.Query) (gf : journal.Filter.State) (gc : journal.CloseAccounts.State) :
    processAllBalance P (balanceInit gf gc q) [] = some [] := by
  rw [processAllBalance_eq]; rfl

end Knut.C01Go3
