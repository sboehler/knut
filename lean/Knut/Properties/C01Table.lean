import Knut.Properties.C01
import Knut.Proofs.LedgerCommand
/-!
# C01, continued — from the theorem about report inserts to the rendered table and the command

`C01.lean` proves conservation for `Balance.run` (the processor pipeline) and for the rows `renderVals`
makes for the name "Delta".  This file closes the remaining gaps:

* `C01_table_delta` – where those rows sit in `BalanceReport.table`: the table ends with
  `… , sep, Delta block, sep`; the block starts with the row named "Delta", its other rows are
  continuation rows (first cell empty), none of them is a separator row — so the block is exactly what
  stands between the last two separator rows of the table — and every numeric cell in it is `0`;
* `C01_command` – `BalanceCmd.entries` (builder, partition, `ensureDays`, pipeline) on directives whose
  transactions are paired, flags without account/commodity filter and mapping levels ≥ 1: every value the
  Delta row is computed from is `0`; `C01_command_table` puts the two together for the table `BalanceCmd.run` renders;
* `C01_create_paired`, `C01_loader_paired` – the hypothesis "transactions are paired" holds for everything
  `transaction.Create` returns (with or without `@accrue`) and for every directive the driver's loader
  (`Driver.C04.load`, the path of all generated journals) produces; `C01_loaded_journal` is the end-to-end statement.
-/
namespace Knut.C01
open Knut
open Knut.Table (Cell)

/-- the Comm column is drawn (`Renderer.Render`: no valuation, or `-s` given) -/
def drawComm (rc : RenderCfg) : Bool := rc.valuation.isNone || rc.hasShowCommodities

def sepRow (rc : RenderCfg) : List Cell :=
  List.replicate (1 + (if drawComm rc then 1 else 0) + rc.endDates.length) Cell.sep

theorem sepRow_head (rc : RenderCfg) : (sepRow rc).head? = some Cell.sep := by
  unfold sepRow
  have : 1 + (if drawComm rc then 1 else 0) + rc.endDates.length
      = ((if drawComm rc then 1 else 0) + rc.endDates.length) + 1 := by omega
  rw [this, List.replicate_succ, List.head?_cons]

/-- **the Delta block of the rendered table.**  For every render configuration and every list of report
inserts all of whose (column, commodity) totals vanish, the rows of the table are
`pre ++ [sep] ++ delta ++ [sep]` where `delta` is `renderVals … "Delta" …` of those totals: its first row
starts with the text "Delta", all further rows are continuation rows, no row is a separator (so `delta`
is what stands between the last two separators), and every numeric cell of `delta` is `0`. -/
theorem C01_table_delta (rc : RenderCfg) (entries : List Entry)
    (hz : ∀ byCom c d, BalanceReport.cellAt entries byCom c d = 0) :
    ∃ pre delta, (BalanceReport.table rc entries).rows = pre ++ [sepRow rc] ++ delta ++ [sepRow rc] ∧
      (∃ coms, delta = BalanceReport.renderVals rc (drawComm rc) 0 "Delta" false coms
                         (BalanceReport.cellAt entries rc.valuation.isNone)) ∧
      (∃ r rs, delta = r :: rs ∧ r.head? = some (Cell.text "Delta".toList .left 0) ∧
         ∀ r' ∈ rs, r'.head? = some Cell.empty) ∧
      (∀ row ∈ delta, row ≠ sepRow rc) ∧
      (∀ row ∈ delta, ∀ x ∈ row, ∀ n, x = Cell.num n → n = 0) := by
  have hsplit : ∃ pre coms, (BalanceReport.table rc entries).rows =
      pre ++ [sepRow rc] ++
        BalanceReport.renderVals rc (drawComm rc) 0 "Delta" false coms (BalanceReport.cellAt entries rc.valuation.isNone) ++
        [sepRow rc] := by
    unfold BalanceReport.table sepRow drawComm
    exact ⟨_, _, rfl⟩
  obtain ⟨pre, coms, hrows⟩ := hsplit
  obtain ⟨r, rs, hd, hr, hrs⟩ := renderVals_shape rc (drawComm rc) 0 "Delta" false coms
    (BalanceReport.cellAt entries rc.valuation.isNone)
  refine ⟨pre, _, hrows, ⟨coms, rfl⟩, ⟨r, rs, hd, hr, hrs⟩, ?_, ?_⟩
  · intro row hrow e
    rw [hd] at hrow
    have hs := sepRow_head rc
    rcases List.mem_cons.mp hrow with rfl | hrow
    · rw [e, hs] at hr; cases hr
    · have := hrs row hrow; rw [e, hs] at this; cases this
  · exact renderVals_zero rc (drawComm rc) 0 "Delta" false coms _ (fun c d => hz _ c d)

theorem unfiltered_of_flags (f : BalanceFlags) (span : Period) (periods : List Period)
    (hacc : f.accountFilter = fun _ => true) (hcom : f.commodityFilter = fun _ => true)
    (hlev : ∀ r ∈ f.mapping, 1 ≤ r.level) :
    Unfiltered { valuation := f.valuation, span := span, periods := periods, close := f.close,
                 mapping := f.mapping, remap := f.remap, accountFilter := f.accountFilter,
                 commodityFilter := f.commodityFilter } :=
  ⟨fun _ => by simp only [hacc], fun _ => by simp only [hcom], fun a => visible_of_levels _ hlev a⟩

/-- **conservation at the command level.**  `BalanceCmd.entries` = builder (`Builder.ofList`), partition of the
window, `ensureDays` for `--close`, then `Balance.run`.  For every list of directives whose transactions are
paired and all flags without account/commodity filter and with mapping levels ≥ 1: whenever the command
produces report entries, every (column, commodity) total — what the Delta row is made of — is `0`,
per commodity (`byCom = true`) and valued (`byCom = false`). -/
theorem C01_command (f : BalanceFlags) (ds : List Directive)
    (hpaired : ∀ t, Directive.tx t ∈ ds → TxPaired t)
    (hacc : f.accountFilter = fun _ => true) (hcom : f.commodityFilter = fun _ => true)
    (hlev : ∀ r ∈ f.mapping, 1 ≤ r.level)
    (es : List Entry) (part : Partition) (h : BalanceCmd.entries f ds = .ok (es, part)) :
    ∀ byCom c d, BalanceReport.cellAt es byCom c d = 0 := by
  intro byCom c d
  obtain ⟨_, st, hrun, rfl⟩ := LedgerCommand.entries_ok h
  exact C01_delta_cells_zero _ (unfiltered_of_flags f _ _ hacc hcom hlev) _
    (LedgerCommand.daysOf_all (fun _ t => TxPaired t) f ds part hpaired) st hrun byCom c d

/-- **the table `knut balance` renders** (`BalanceCmd.run` renders `table (renderCfg f part) es`, as text or
CSV): under the hypotheses of `C01_command` its Delta block consists of zeros. -/
theorem C01_command_table (f : BalanceFlags) (ds : List Directive)
    (hpaired : ∀ t, Directive.tx t ∈ ds → TxPaired t)
    (hacc : f.accountFilter = fun _ => true) (hcom : f.commodityFilter = fun _ => true)
    (hlev : ∀ r ∈ f.mapping, 1 ≤ r.level)
    (es : List Entry) (part : Partition) (h : BalanceCmd.entries f ds = .ok (es, part)) :
    let rc := BalanceCmd.renderCfg f part
    ∃ pre delta, (BalanceReport.table rc es).rows = pre ++ [sepRow rc] ++ delta ++ [sepRow rc] ∧
      (∃ r rs, delta = r :: rs ∧ r.head? = some (Cell.text "Delta".toList .left 0) ∧
         ∀ r' ∈ rs, r'.head? = some Cell.empty) ∧
      (∀ row ∈ delta, row ≠ sepRow rc) ∧
      (∀ row ∈ delta, ∀ x ∈ row, ∀ n, x = Cell.num n → n = 0) := by
  intro rc
  obtain ⟨pre, delta, h1, _, h3, h4, h5⟩ :=
    C01_table_delta rc es (C01_command f ds hpaired hacc hcom hlev es part h)
  exact ⟨pre, delta, h1, h3, h4, h5⟩

/-- **everything `transaction.Create` returns is paired**: the single transaction of an un-annotated input
(every booking a posting pair) and every transaction of an `@accrue` expansion (C10: each is one
`posting.Builder` pair against the accrual account). -/
theorem C01_create_paired (t : Accrual.TxInput) (gen : List Transaction) (h : Accrual.create t = .ok gen) :
    ∀ g ∈ gen, TxPaired g :=
  create_all pairsHave_paired t gen h

/-- **everything the driver's loader produces is paired**: `Driver.C04.load` turns a generated journal into
model directives (`Transaction.ofBookings` without annotation, `Accrual.create` with one). -/
theorem C01_loader_paired (raw : List Driver.RawDirective) (ids : List (Nat × Directive))
    (h : Driver.C04.load raw = .ok ids) : ∀ t, Directive.tx t ∈ ids.map (·.2) → TxPaired t :=
  load_all pairsHave_paired raw ids h

/-- **end to end**: for every journal the loader accepts and every flag vector without filters and with
mapping levels ≥ 1, the Delta block of the table the balance command renders consists of zeros. -/
theorem C01_loaded_journal (raw : List Driver.RawDirective) (ids : List (Nat × Directive))
    (hload : Driver.C04.load raw = .ok ids) (f : BalanceFlags)
    (hacc : f.accountFilter = fun _ => true) (hcom : f.commodityFilter = fun _ => true)
    (hlev : ∀ r ∈ f.mapping, 1 ≤ r.level)
    (es : List Entry) (part : Partition) (h : BalanceCmd.entries f (ids.map (·.2)) = .ok (es, part)) :
    let rc := BalanceCmd.renderCfg f part
    ∃ pre delta, (BalanceReport.table rc es).rows = pre ++ [sepRow rc] ++ delta ++ [sepRow rc] ∧
      (∃ r rs, delta = r :: rs ∧ r.head? = some (Cell.text "Delta".toList .left 0) ∧
         ∀ r' ∈ rs, r'.head? = some Cell.empty) ∧
      (∀ row ∈ delta, row ≠ sepRow rc) ∧
      (∀ row ∈ delta, ∀ x ∈ row, ∀ n, x = Cell.num n → n = 0) :=
  C01_command_table f _ (C01_loader_paired raw ids hload) hacc hcom hlev es part h

/-! Non-vacuity: a journal with an opening balance and an `@accrue`-annotated expense is loaded, the balance
command (monthly columns, `--diff`) produces entries for it, and the default flags satisfy the provisos. -/
def exRaw : List Driver.RawDirective :=
  [.opening ⟨737425, ⟨["Equity", "E"]⟩⟩, .opening ⟨737425, ⟨["Assets", "A"]⟩⟩, .opening ⟨737425, ⟨["Expenses", "T"]⟩⟩,
   .opening ⟨737425, ⟨["Assets", "P"]⟩⟩,
   .tx 737430 "open" none none [⟨⟨["Equity", "E"]⟩, ⟨["Assets", "A"]⟩, 5000, "CHF"⟩],
   .tx 737507 "tax" none (some ⟨"monthly", 737425, 737600, ⟨["Assets", "P"]⟩⟩) [⟨⟨["Assets", "A"]⟩, ⟨["Expenses", "T"]⟩, 1000, "CHF"⟩]]

def exFlags : BalanceFlags := { to := 737790, interval := .monthly, diff := true }

def isOk {ε α : Type} : Except ε α → Bool | .ok _ => true | .error _ => false

example : ∃ ids es part, Driver.C04.load exRaw = .ok ids ∧ 6 < ids.length ∧
    BalanceCmd.entries exFlags (ids.map (·.2)) = .ok (es, part) := by
  have h : (match Driver.C04.load exRaw with
      | .ok ids => decide (6 < ids.length) && isOk (BalanceCmd.entries exFlags (ids.map (·.2)))
      | _ => false) = true := by decide +kernel
  split at h
  · rename_i ids hl
    simp only [Bool.and_eq_true, decide_eq_true_eq] at h
    cases he : BalanceCmd.entries exFlags (ids.map (·.2)) with
    | error e => rw [he] at h; cases h.2
    | ok p => exact ⟨ids, p.1, p.2, hl, h.1, he⟩
  · cases h

example : exFlags.accountFilter = (fun _ => true) ∧ exFlags.commodityFilter = (fun _ => true) ∧
    ∀ r ∈ exFlags.mapping, 1 ≤ r.level := ⟨rfl, rfl, by intro r hr; cases hr⟩

end Knut.C01
