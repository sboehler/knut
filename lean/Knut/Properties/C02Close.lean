import Knut.Proofs.LedgerClose
/-!
# C02, closing clause — with period closing the report inserts are a permutation of the ledger entries

`C02_close`: for unvalued reports with period closing, the pipeline model's report inserts are, as a multiset,
exactly `Spec.ledgerEntries` (window bookings plus, at every shown period start `s` and for every
income/expense/equity position other than Equity:Equity with total `T ≠ 0` booked in `[previous closing day, s)`,
the pair `(k, −T)`, `(Equity:Equity, +T)`).  The statement is a permutation, not a list equality: the model emits
closings day by day between the bookings, iterates the positions in accumulator order, and `postingBuild` swaps
the two postings of a closing transaction when `T < 0`.  The rendered report is a function of the multiset.

Hypotheses (all hold for every journal the balance command builds without `--val`):
* `Sorted days`, `DaysConsistent days` — `Builder.ofList`/`Builder.add` (`ofList_sorted`, `ofList_all`, Proofs/Builder.lean; `LedgerCommand.daysOf_consistent`);
* every period start is the date of a day — `Builder.ensureDays` (`Builder.Days(partition.StartDates())`);
* the period starts are strictly increasing — consecutive periods of `Partition`;
* user postings carry value 0 — values are only assigned by the Valuate stage.
-/
namespace Knut.C02
open Knut Knut.Spec Knut.LedgerClose

/-- **invariant of the closing accumulators** (step 1): processing one more day keeps `LedgerClose.Inv`:
duplicate-free keys that are ledger positions, every closable position's accumulated quantity equal to the
sum booked since the latest closing day, all accumulated values zero. -/
theorem C02_close_invariant (cfg : BalCfg) (hv : cfg.valuation = none) (hc : cfg.close = true) (days r : List Day)
    (st st' : BalState) (d : Day) (hd : d ∈ days) (hz : ∀ t ∈ d.transactions, ∀ p ∈ t.postings, p.value = 0)
    (hinv : Inv cfg days r st) (h : Balance.day cfg st d = .ok st') : Inv cfg days (d :: r) st' :=
  inv_step cfg hv hc days r st st' d hd hz hinv h

/-- **a single closing day** (step 2): if the accumulators hold the ledger's totals for `[previous closing day, s)`,
the closing transactions emitted at `s` insert exactly the ledger's closing entries for `s`, up to order. -/
theorem C02_closing_day (cfg : BalCfg) (hv : cfg.valuation = none) (days : List Day) (s : Int) (st : BalState)
    (hn : AMap.NodupKeys st.cQty) (hk : ∀ k ∈ st.cQty.map (·.1), k ∈ positions days)
    (hq : ∀ k : Position, closable k.1 = true → st.cQty.get k 0 = bookedBetween cfg days k (prevClosing cfg s) s)
    (hval : ∀ k, st.cVal.get k 0 = 0) :
    ((Balance.closings s st.cQty st.cVal).flatMap (Balance.queryTx cfg)).Perm
      ((positions days).flatMap (fun k =>
        let T := bookedBetween cfg days k (prevClosing cfg s) s
        if T = 0 then []
        else (entryOf cfg s k.1 k.2 (-T)).toList ++ (entryOf cfg s equityAccount k.2 T).toList)) :=
  closing_day_perm cfg hv days s st hn hk hq hval

/-- **with period closing, the report inserts are the ledger entries as a multiset** -/
theorem C02_close (cfg : BalCfg) (hv : cfg.valuation = none) (hc : cfg.close = true)
    (days : List Day) (hs : Sorted days) (hd : DaysConsistent days)
    (hz : ∀ d ∈ days, ∀ t ∈ d.transactions, ∀ p ∈ t.postings, p.value = 0)
    (hcd : ∀ s ∈ cfg.periods.map (·.start), s ∈ days.map (·.date))
    (hper : List.Pairwise (· < ·) (cfg.periods.map (·.start)))
    (st : BalState) (h : Balance.run cfg days = .ok st) :
    st.entries.Perm (ledgerEntries cfg days) := by
  unfold Balance.run at h
  refine (run_perm cfg hv hc hper days hs hd hz hcd (inv_init cfg days) h).trans ?_
  show List.Perm ([] ++ _) _
  rw [List.nil_append]
  unfold ledgerEntries
  refine (MapSum.flatMap_append_perm (LedgerClose.dayBookings cfg)
    (fun d => if isClosing cfg d then closeAt cfg days d.date else []) days).trans ?_
  rw [flatMap_dayBookings]
  exact List.Perm.append_left _ (closing_days_perm cfg hc hper days hs hcd)

/-! Non-vacuity: a journal with two periods and an income booking in the first one satisfies every hypothesis
of `C02_close`, the run succeeds, a closing pair is emitted at day 11 (T = −5, so `postingBuild` swaps the pair),
and the inserts differ from `ledgerEntries` as lists: the permutation in the statement cannot be an equality. -/
example : Sorted exDays := by simp [Sorted, exDays]
example : DaysConsistent exDays := by
  intro d hd t ht
  simp [exDays] at hd
  rcases hd with rfl | rfl | rfl | rfl <;> simp at ht <;> subst ht <;> rfl
example : ∀ d ∈ exDays, ∀ t ∈ d.transactions, ∀ p ∈ t.postings, p.value = 0 := by
  intro d hd t ht p hp
  simp [exDays] at hd
  rcases hd with rfl | rfl | rfl | rfl <;> simp at ht <;> subst ht <;> simp [postingBuild] at hp <;>
    rcases hp with rfl | rfl <;> rfl
example : ∀ s ∈ exCfg.periods.map (·.start), s ∈ exDays.map (·.date) := by simp [exCfg, exDays]
example : List.Pairwise (· < ·) (exCfg.periods.map (·.start)) := by simp [exCfg]
example : (match Balance.run exCfg exDays with
    | .ok st => decide (st.entries.length = 6 ∧ (closingEntries exCfg exDays).length = 2 ∧
        st.entries ≠ ledgerEntries exCfg exDays)
    | .error _ => false) = true := by decide +kernel

end Knut.C02
