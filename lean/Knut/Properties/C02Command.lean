import Knut.Proofs.LedgerCommand
import Knut.Properties.C02
import Knut.Properties.C02Close
import Knut.Properties.C05Inserts
/-!
# C02 at the command level — `knut balance` refines the ledger specification

`C02_noclose` / `C02_close` are statements about `Balance.run cfg days` under hypotheses on `cfg` and `days`.
This file discharges those hypotheses for everything the command builds (`BalanceCmd.entries`: `Builder.ofList`,
window clip, `newPartition`, `ensureDays` of the period starts when closing, the `BalCfg`) and states the
refinement for the command.  `cfgOf f part` and `daysOf f ds part` (Proofs/LedgerCommand.lean) are exactly the
configuration and day list `BalanceCmd.entries` passes to the pipeline (`LedgerCommand.entries_eq`, by `rfl`).

Proved, for all flag vectors without `--val` (all windows, intervals, `--last`, `--diff`, `--close` on or off,
filters, mappings, remap) and all directive lists:

* `C02_command_hyps` – the built days are sorted and date-consistent, contain every period start when closing,
  and the period starts are strictly increasing (`C02_startDates_increasing`, all intervals, with and without `--last`);
* `C02_command` – the report inserts are a permutation of `Spec.ledgerEntries (cfgOf f part) (daysOf f ds part)`;
  `C02_command_noclose` – the same list without closing;
* `C02_create_zero`, `C02_loader_zero` – the only hypothesis of `C02_command` on the journal (postings carry
  value 0) holds for everything `transaction.Create` returns and the loader `Driver.C04.load` produces;
  `C02_loaded_journal` – hence no hypothesis is left for loaded journals;
* `C02_command_output` – the output: `BalanceCmd.run f ds = BalanceCmd.runSpec f ds` — the command prints, byte
  for byte, the rendering of the ledger specification, panics alike (zero window start) and fails alike (the only
  failure of an unvalued run is the checker's), for directives on accounts with an account type (`DirsWF`, the
  registry's invariant; needed by `C06.table_perm`, which is how the permutation is turned into equal tables).

Left open: the valued report (`--val`; the property's own exclusion); `DirsWF` for the loader's un-annotated
transactions (the wire loader does not validate account names; `account.Registry` does, in the Go code).
-/
namespace Knut.C02
open Knut Knut.Spec Knut.LedgerCommand Knut.InsertsPerm

/-- **what the command builds satisfies the hypotheses of `C02_close` / `C02_noclose`** (no assumption on
the directives): the days are sorted by date, every transaction sits in the day of its date, with closing every
period start is the date of a day, and the period starts are strictly increasing. -/
theorem C02_command_hyps (f : BalanceFlags) (ds : List Directive) (part : Partition)
    (hpart : newPartition (BalanceCmd.window f (Builder.ofList ds)) f.interval f.last = .ok part) :
    Sorted (daysOf f ds part) ∧ DaysConsistent (daysOf f ds part) ∧
    (f.close = true → ∀ s ∈ (cfgOf f part).periods.map (·.start), s ∈ (daysOf f ds part).map (·.date)) ∧
    List.Pairwise (· < ·) ((cfgOf f part).periods.map (·.start)) :=
  ⟨daysOf_sorted f ds part, daysOf_consistent f ds part, fun hc => daysOf_starts f hc ds part,
    startDates_increasing hpart⟩

/-- the period starts of every partition `NewPartition` returns are strictly increasing -/
theorem C02_startDates_increasing {span : Period} {iv : Interval} {last : Int} {P : Partition}
    (h : newPartition span iv last = .ok P) : List.Pairwise (· < ·) P.startDates :=
  startDates_increasing h

/-- **the refinement at the command level**: for every flag vector without `--val` and every directive list whose
postings carry value 0, whenever `BalanceCmd.entries` (builder, window clip, partition, closing days, pipeline)
succeeds, its report inserts are — as a multiset — the entries of the independent ledger specification on the
configuration and day list the command builds. -/
theorem C02_command (f : BalanceFlags) (hv : f.valuation = none) (ds : List Directive)
    (hz : ∀ t, Directive.tx t ∈ ds → ∀ p ∈ t.postings, p.value = 0)
    (es : List Entry) (part : Partition) (h : BalanceCmd.entries f ds = .ok (es, part)) :
    es.Perm (ledgerEntries (cfgOf f part) (daysOf f ds part)) := by
  obtain ⟨hpart, st, hrun, rfl⟩ := entries_ok h
  by_cases hc : f.close = true
  · exact C02_close (cfgOf f part) hv hc _ (daysOf_sorted f ds part) (daysOf_consistent f ds part)
      (daysOf_zero f ds part hz) (daysOf_starts f hc ds part) (startDates_increasing hpart) st hrun
  · rw [C02_noclose (cfgOf f part) hv (by simpa [cfgOf] using hc) _ (daysOf_consistent f ds part) st hrun]

/-- without `--close` the inserts are the ledger entries as a list, and no hypothesis on the values is needed -/
theorem C02_command_noclose (f : BalanceFlags) (hv : f.valuation = none) (hc : f.close = false) (ds : List Directive)
    (es : List Entry) (part : Partition) (h : BalanceCmd.entries f ds = .ok (es, part)) :
    es = ledgerEntries (cfgOf f part) (daysOf f ds part) := by
  obtain ⟨_, st, hrun, rfl⟩ := entries_ok h
  exact C02_noclose (cfgOf f part) hv hc _ (daysOf_consistent f ds part) st hrun

/-- **everything `transaction.Create` returns carries value 0** (with or without `@accrue`) -/
theorem C02_create_zero (t : Accrual.TxInput) (gen : List Transaction) (h : Accrual.create t = .ok gen) :
    ∀ g ∈ gen, ∀ p ∈ g.postings, p.value = 0 :=
  create_zero t gen h

/-- **everything the loader produces carries value 0**: `Driver.C04.load` turns a generated journal into model
directives (`Transaction.ofBookings` without annotation, `Accrual.create` with one); values are only assigned
by the Valuate stage. -/
theorem C02_loader_zero (raw : List Driver.RawDirective) (ids : List (Nat × Directive))
    (h : Driver.C04.load raw = .ok ids) :
    ∀ t, Directive.tx t ∈ ids.map (·.2) → ∀ p ∈ t.postings, p.value = 0 := by
  exact load_all pairsHave_zero raw ids h

/-- **end to end, no hypothesis left**: for every journal the loader accepts and every flag vector without `--val`,
the report inserts of the command are the ledger entries as a multiset. -/
theorem C02_loaded_journal (raw : List Driver.RawDirective) (ids : List (Nat × Directive))
    (hload : Driver.C04.load raw = .ok ids) (f : BalanceFlags) (hv : f.valuation = none)
    (es : List Entry) (part : Partition) (h : BalanceCmd.entries f (ids.map (·.2)) = .ok (es, part)) :
    es.Perm (ledgerEntries (cfgOf f part) (daysOf f (ids.map (·.2)) part)) :=
  C02_command f hv _ (C02_loader_zero raw ids hload) es part h

/-- **the output of the command is the rendering of the ledger specification**: `BalanceCmd.run` (pipeline) and
`BalanceCmd.runSpec` (`Spec.ledgerEntries` rendered by the same `BalanceReport.table` / `Table.render`; accepted
iff `Check.run` accepts) agree on every outcome — stdout byte for byte, error, panic. -/
theorem C02_command_output (f : BalanceFlags) (hv : f.valuation = none) (ds : List Directive)
    (hz : ∀ t, Directive.tx t ∈ ds → ∀ p ∈ t.postings, p.value = 0) (hwf : DirsWF ds) :
    BalanceCmd.run f ds = BalanceCmd.runSpec f ds := by
  rw [run_stages, runSpec_stages f hv]
  refine onPartition_congr rfl fun part hpart => outcomeOf_congr ?_
  exact map_sim (sim_of_isOk (run_isOk_check (cfgOf f part) hv _) fun st _ hrun _ => hrun) fun st _ hrun =>
    ⟨C02_command f hv ds hz _ part (entries_of_run hpart hrun), C05.C05_inserts_wf _ hv _ (daysOf_wf f ds part hwf) st hrun⟩

/-! ### Non-vacuity: the journal of `C05Inserts` (two monthly periods, closing on, income and expenses booked in the
first period) -/

theorem xDirs_zero : ∀ t, Directive.tx t ∈ C05.xDirs → ∀ p ∈ t.postings, p.value = 0 := by
  intro t ht p hp
  simp only [C05.xDirs, List.mem_cons, List.not_mem_nil, or_false, reduceCtorEq, false_or, Directive.tx.injEq] at ht
  rcases ht with rfl | rfl | rfl <;> exact postingBuild_value_zero _ _ _ _ p hp

/-- the command succeeds on it, with 10 inserts (6 bookings, 2 closing pairs) that are NOT the ledger's list
(the model emits the closings between the bookings of day 2 and day 40): the permutation in `C02_command`
cannot be an equality … -/
example : (match BalanceCmd.entries C05.xFlags C05.xDirs with
    | .ok (es, part) => decide (es.length = 10 ∧ es ≠ ledgerEntries (cfgOf C05.xFlags part) (daysOf C05.xFlags C05.xDirs part))
    | .error _ => false) = true := by decide +kernel

/-- … `C02_command` applies to it … -/
example (es : List Entry) (part : Partition) (h : BalanceCmd.entries C05.xFlags C05.xDirs = .ok (es, part)) :
    es.Perm (ledgerEntries (cfgOf C05.xFlags part) (daysOf C05.xFlags C05.xDirs part)) :=
  C02_command C05.xFlags rfl _ xDirs_zero es part h

/-- … and the two commands print the same (a table: the entries stage succeeds by the first example, and the
specification's checker accepts) -/
example : BalanceCmd.run C05.xFlags C05.xDirs = BalanceCmd.runSpec C05.xFlags C05.xDirs :=
  C02_command_output C05.xFlags rfl _ xDirs_zero C05.xDirs_wf
example : (match newPartition (BalanceCmd.window C05.xFlags (Builder.ofList C05.xDirs)) .monthly 0 with
    | .ok part => (Check.run (daysOf C05.xFlags C05.xDirs part)).isOk && decide (part.periods.length = 2)
    | .panic _ => false) = true := by decide +kernel

/-- a raw journal the loader accepts (one plain transaction, one `@accrue` transaction between asset accounts) -/
def xRaw : List Driver.RawDirective :=
  [.opening ⟨1, C05.xBank⟩, .opening ⟨1, C05.xSal⟩,
   .tx 2 "salary" none none [⟨C05.xSal, C05.xBank, 100, "CHF"⟩],
   .tx 3 "move" none (some ⟨"monthly", 3, 70, ⟨["Assets", "Accrued"]⟩⟩) [⟨C05.xBank, ⟨["Assets", "Cash"]⟩, 10, "CHF"⟩]]
example : ∃ ids, Driver.C04.load xRaw = .ok ids ∧ ids.length = 5 := ⟨_, rfl, rfl⟩

end Knut.C02
