import Knut.Properties.C02
import Knut.FactsAgree.TransRenderVals
import Knut.Properties.C01Go
/-!
# C02 (the ledger clause) on the generated definitions

`Properties/C02.lean` proves that, without closing, the entries behind the balance report are exactly the ledger entries of the journal
(`C02_noclose`), about the model's entry list.  In Go a row of the report is computed by `renderNode` as

  `vals := n.Value.Amounts.SumBy(nil, KeyMapper{Date: Identity, Commodity: IdentityIf(showCommodities)}.Build())`

and `render` reads `vals[DateCommodityKey(date, commodity)]`.  `Report.Insert` and `Amounts.SumBy` are translated;
`FactsAgree/TransReport.lean` (`Insert_fold_agrees`: every node of the tree holds the `Add`s of the inserts under exactly its path) and
`TransRenderVals.lean` (`SumBy_cell_model`) prove them equal to the model for EVERY iteration order.  This module composes them, on the
report ANY log of `Insert` calls leaves, for the node at ANY path of either section tree.

**Partial** in `hlog : esOf (sec al log) = st.entries.filter (section)`: the log of `Insert` calls the translated `Query.Into` makes over a
processed journal is, per posting, proved equal to the model's `queryPosting` (`TransQuery.Query_Posting_model`), but not composed over
the journal.  Hypothesis on the log that stays: commodities interned with non-empty names.
-/
namespace Knut.C02Go
open Knut Knut.GoSem Knut.Balance
open Knut.Generated.Go
open Knut.FactsAgree.TransAmountsSum Knut.FactsAgree.TransReport Knut.FactsAgree.TransRender
open Knut.FactsAgree.TransQuery (entryOf)

/-- the report after a log of `Insert` calls on a new report -/
def reportOf (part : date.Partition) (log : Log) : balance.Report :=
  log.foldl (fun r e => balance.Report.Insert r e.1 e.2) (balance.NewReport part)

def treeOf (al : Bool) (r : balance.Report) : Node := if al then r.AL else r.EIE

theorem mem_ownL {L : Log} {p : List String} {e : amounts.Key × Rat} (h : e ∈ ownL L p) : e ∈ L :=
  (List.mem_filter.mp h).1

/-- the entries of the inserts under a path are the entries whose account has that path -/
theorem esOf_ownL (L : Log) (p : List String) :
    esOf (ownL L p) = (esOf L).filter (fun x => decide (x.account.segments = p)) :=
  (own_esOf L p).symm

/-- **the cells of a row**: on the report any log of `Insert` calls leaves, at the node of any path `p` of the tree of either section,
`SumBy(nil, mapper)` over the node's amounts (what `renderNode` hands to `render`) succeeds for every admissible pair of iteration orders
and holds, at every column date and commodity, the model's cell of the entries inserted under exactly that path -/
theorem C02_node_cells_go (cur : String → Bool) (part : date.Partition) (log : Log) (al : Bool) (byCommodity : Bool)
    (hcom : ∀ e ∈ log, e.1.Commodity = Knut.FactsAgree.TransPosting.commodityGo cur e.1.Commodity.name ∧ e.1.Commodity.name ≠ "")
    (p : List String) (m : Node) (hm : MNode.nodeAt? (treeOf al (reportOf part log)) p = some m)
    {order1 order2 : List amounts.Key} (h1 : order1.Perm (AMap.keys m.Value.Amounts))
    (h2 : ∀ x, (∃ k ∈ AMap.keys m.Value.Amounts, mfR byCommodity k = x) → x ∈ order2) :
    ∃ vals, amounts.Amounts.SumBy m.Value.Amounts none (pureFn (mfR byCommodity)) order1 order2 = GoSem.Outcome.ok vals ∧
      ∀ (c : Option Knut.Commodity), (∀ s, c = some s → s ≠ "") → ∀ d : Int, d ≠ 0 →
        AMap.get vals (amounts.DateCommodityKey d (comGo cur c)) 0 =
          BalanceReport.cellAt ((esOf (sec al log)).filter (fun x => decide (x.account.segments = p))) byCommodity c d := by
  have hrep : Rep (sec al log) (treeOf al (reportOf part log)) := by
    unfold treeOf reportOf
    cases al
    · exact (Insert_fold_agrees part log).2.1
    · exact (Insert_fold_agrees part log).1
  have hloc := hrep p m hm
  rw [hloc.amounts] at h1 h2 ⊢
  obtain ⟨vals, hv, _, hcell⟩ := SumBy_cell_model cur (ownL (sec al log) p)
    (fun e he => (mem_sec (mem_ownL he)).2) (fun e he => hcom e (mem_sec (mem_ownL he)).1) byCommodity h1 h2
  refine ⟨vals, hv, fun c hc d hd => ?_⟩
  rw [hcell c hc d hd, esOf_ownL]

/-- **without closing, the cells of a row are the ledger's**: when the entries of the section's inserts are those of a run of the model's
pipeline (no valuation, no closing, consistent days), the cell is `cellAt` of the LEDGER entries of the journal in that section whose
account has the node's path -/
theorem C02_ledger_cells_go_partial (cur : String → Bool) (part : date.Partition) (log : Log) (al : Bool) (byCommodity : Bool)
    (hcom : ∀ e ∈ log, e.1.Commodity = Knut.FactsAgree.TransPosting.commodityGo cur e.1.Commodity.name ∧ e.1.Commodity.name ≠ "")
    (p : List String) (m : Node) (hm : MNode.nodeAt? (treeOf al (reportOf part log)) p = some m)
    {order1 order2 : List amounts.Key} (h1 : order1.Perm (AMap.keys m.Value.Amounts))
    (h2 : ∀ x, (∃ k ∈ AMap.keys m.Value.Amounts, mfR byCommodity k = x) → x ∈ order2)
    (cfg : BalCfg) (hv : cfg.valuation = none) (hc : cfg.close = false) (days : List Day) (hd : C02.DaysConsistent days)
    (st : BalState) (hrun : Balance.run cfg days = .ok st)
    (hlog : esOf (sec al log) = st.entries.filter (fun x => x.account.isAL == al)) :
    ∃ vals, amounts.Amounts.SumBy m.Value.Amounts none (pureFn (mfR byCommodity)) order1 order2 = GoSem.Outcome.ok vals ∧
      ∀ (c : Option Knut.Commodity), (∀ s, c = some s → s ≠ "") → ∀ d : Int, d ≠ 0 →
        AMap.get vals (amounts.DateCommodityKey d (comGo cur c)) 0 =
          BalanceReport.cellAt (((Spec.ledgerEntries cfg days).filter (fun x => x.account.isAL == al)).filter
            (fun x => decide (x.account.segments = p))) byCommodity c d := by
  obtain ⟨vals, hvals, hcell⟩ := C02_node_cells_go cur part log al byCommodity hcom p m hm h1 h2
  refine ⟨vals, hvals, fun c hcc d hdd => ?_⟩
  rw [hcell c hcc d hdd, hlog, C02.C02_noclose cfg hv hc days hd st hrun]

/-! ## with the log produced by the translated `Query.Into`

`C01Go.queryAll_model` gives the entries of the log the translated `Posting` closure produces over the transactions that reach the query
stage; `esOf_sec` splits them by section when the accounts of the keys are registry accounts (`accountGo`, or nil for a hidden one). -/

theorem esOf_sec (log : Log)
    (hacc : ∀ e ∈ log, e.1.Account = GoZero.zero ∨ ∃ a : Knut.Account, e.1.Account = Knut.FactsAgree.TransAccount.accountGo a)
    (al : Bool) : esOf (sec al log) = (esOf log).filter (fun x => x.account.isAL == al) := by
  refine esOf_filter log _ _ (fun e he x hx => ?_)
  unfold entryOf at hx
  by_cases hz : e.1.Account = GoZero.zero
  · simp [hz] at hx
  · obtain ⟨a, ha⟩ := (hacc e he).resolve_left hz
    simp only [hz, if_false, Option.some.injEq] at hx
    have hal : account.Account.IsAL e.1.Account = a.isAL := by rw [ha]; exact Knut.FactsAgree.TransAccount.IsAL_agrees a
    have hxa : x.account = a := by rw [← hx, ha]; rfl
    simp [hz, hal, hxa]

/-- **without closing, the cells of a row are the ledger's**, with the log produced by the translated `Query.Into` over Go transactions
that stand for the transactions reaching the query stage in a run of the model (no valuation, no closing).  Partial in `hrel`
(see `C01Go.C01_delta_zero_query_go_partial`; `C02Go3.C02_ledger_cells_balance_go` has it from the composition). -/
theorem C02_ledger_cells_query_go_partial (cur : String → Bool) (part : date.Partition) (al : Bool) (byCommodity : Bool)
    (cfg : BalCfg) (hv : cfg.valuation = none) (hc : cfg.close = false) (days : List Day) (hd : C02.DaysConsistent days)
    (st : BalState) (hrun : Balance.run cfg days = .ok st) (all : List Knut.Transaction) (hall : C01Go.runTxs cfg {} days = .ok all)
    (q : journal.Query) (w : amounts.Key → Bool) (s : amounts.Key → amounts.Key)
    (hq : C01Go.QueryFor cur cfg (journal.Query.Into.init q).query w s)
    (tgs : List transaction.Transaction) (hrel : Knut.FactsAgree.TransProcess.AllRel (Knut.FactsAgree.TransProcess.TRel cur) tgs all) :
    ∃ qs, C01Go.queryAllGo (journal.Query.Into.init q) tgs = .ok (qs, none) ∧
      ((∀ e ∈ qs.c, e.1.Commodity = Knut.FactsAgree.TransPosting.commodityGo cur e.1.Commodity.name ∧ e.1.Commodity.name ≠ "") →
       (∀ e ∈ qs.c, e.1.Account = GoZero.zero ∨ ∃ a : Knut.Account, e.1.Account = Knut.FactsAgree.TransAccount.accountGo a) →
        ∀ (p : List String) (m : Node), MNode.nodeAt? (treeOf al (reportOf part qs.c)) p = some m →
          ∀ (order1 order2 : List amounts.Key), order1.Perm (AMap.keys m.Value.Amounts) →
            (∀ x, (∃ k ∈ AMap.keys m.Value.Amounts, mfR byCommodity k = x) → x ∈ order2) →
            ∃ vals, amounts.Amounts.SumBy m.Value.Amounts none (pureFn (mfR byCommodity)) order1 order2 = GoSem.Outcome.ok vals ∧
              ∀ (c : Option Knut.Commodity), (∀ s, c = some s → s ≠ "") → ∀ d : Int, d ≠ 0 →
                AMap.get vals (amounts.DateCommodityKey d (comGo cur c)) 0 =
                  BalanceReport.cellAt (((Spec.ledgerEntries cfg days).filter (fun x => x.account.isAL == al)).filter
                    (fun x => decide (x.account.segments = p))) byCommodity c d) := by
  obtain ⟨qs, h1, hlog⟩ := C01Go.queryAll_run cur cfg days st hrun all hall q w s hq tgs hrel
  refine ⟨qs, h1, ?_⟩
  intro hcom hacc p m hm order1 order2 ho1 ho2
  exact C02_ledger_cells_go_partial cur part qs.c al byCommodity hcom p m hm ho1 ho2 cfg hv hc days hd st hrun
    (by rw [esOf_sec qs.c hacc al, hlog])

/-! ### Non-vacuity: the root of the A+L tree of the empty report: no amounts, every order admissible, every cell 0 -/
example : ∃ vals, amounts.Amounts.SumBy (MNode.new "" : Node).Value.Amounts none (pureFn (mfR true)) [] [] = GoSem.Outcome.ok vals ∧
    AMap.get vals (amounts.DateCommodityKey 5 (comGo (fun _ => true) (some "CHF"))) 0 = 0 := by
  have hm : MNode.nodeAt? (treeOf true (reportOf ⟨⟨1, 2⟩, 1, []⟩ [])) [] = some (MNode.new "" : Node) := rfl
  have hA : (MNode.new "" : Node).Value.Amounts = [] := rfl
  obtain ⟨vals, hv, hcell⟩ := C02_node_cells_go (fun _ => true) ⟨⟨1, 2⟩, 1, []⟩ [] true true (by intro e he; cases he) [] _ hm
    (order1 := []) (order2 := []) (by rw [hA]; exact List.Perm.refl _) (by rw [hA]; intro x ⟨k, hk, _⟩; simp [AMap.keys] at hk)
  refine ⟨vals, hv, ?_⟩
  rw [hcell (some "CHF") (by intro s hs; injection hs with hs; subst hs; decide) 5 (by decide)]
  simp [sec, esOf, BalanceReport.cellAt_nil]

end Knut.C02Go
