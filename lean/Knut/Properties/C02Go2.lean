import Knut.Properties.C02Go
import Knut.FactsAgree.TransProcessAllBalance
/-!
# C02 (the ledger clause) on the generated definitions, over a WHOLE journal — without the relational hypothesis of `C02Go`

Without valuation and closing `ComputePrices`, `Valuate` and `CloseAccounts` are nil processors and no Go map is ranged over by a
stage: the re-listed run `RunOrd` of `FactsAgree/TransProcessAllBalance.lean` IS `Balance.run` (`run_of_RunOrd`), and the accounts
that reach the query stage are those of the journal (`queryWf_plain`).  **`C02_ledger_cells_process_go`**: whenever the sequential
run (`processAllBalance`: `Pipeline.seqRun` on the translated closures, justified by `C19_confluent`) of `check`, `Filter`, `Query.Into`
over the Go journal succeeds, the cells `SumBy` computes at any node of the report that the log of the translated `Query.Into` leaves are
the LEDGER entries of the journal booked on that path.  No hypothesis relates the processed Go journal to the model.
-/
namespace Knut.C02Go2
open Knut Knut.GoSem Knut.Balance
open Knut.Generated.Go
open Knut.FactsAgree.TransAmountsSum Knut.FactsAgree.TransReport Knut.FactsAgree.TransRender Knut.FactsAgree.TransProcessAll
open Knut.FactsAgree.TransQuery (entryOf)

/-- without valuation and closing the transactions that reach the query stage are transactions of the day -/
theorem queryWf_plain (cfg : BalCfg) (hv : cfg.valuation = none) (hc : cfg.close = false) (d : Day)
    (hd : ∀ t ∈ d.transactions, ∀ p ∈ t.postings, p.account.wf = true) : QueryWf cfg d := by
  intro st0 st1 txs h
  obtain ⟨raw, _, hval, hcl, _⟩ := Balance.dayTxs_ok_iff.mp h
  obtain ⟨_, rfl⟩ := Prod.mk.inj (Except.ok.inj ((Balance.vStage_none hv _ d).symm.trans hval))
  obtain ⟨_, rfl⟩ := Prod.mk.inj ((Balance.cStage_noClose hc _ d _).symm.trans hcl)
  exact fun t ht => hd t (Balance.mem_filterStage ht)

/-- **without closing, the cells of a row are the ledger's, on the translated pipeline over a whole journal** -/
theorem C02_ledger_cells_process_go (cur : String → Bool) (cfg : BalCfg) (P : BalPar) (q : journal.Query) (hP : ParOK cur cfg P q)
    (G0 : BalGo) (hinit : BalInv cur cfg q (fusedInit G0) {}) (gdays : List journal.Day) (days : List Day)
    (hdays : DaysRel cur gdays days) (hwf : ∀ d ∈ days, ∀ t ∈ d.transactions, ∀ p ∈ t.postings, p.account.wf = true)
    (out : List journal.Day) (hgo : processAllBalance P G0 gdays = some out)
    (hv : cfg.valuation = none) (hc : cfg.close = false) (hd : C02.DaysConsistent days)
    (part : date.Partition) (al : Bool) (byCommodity : Bool) :
    ∃ G' st, runDays (fusedBalance P) (fusedInit G0) gdays = .ok (G', out) ∧ Balance.run cfg days = .ok st ∧
      ((∀ e ∈ G'.2.c, e.1.Commodity = Knut.FactsAgree.TransPosting.commodityGo cur e.1.Commodity.name ∧ e.1.Commodity.name ≠ "") →
       (∀ e ∈ G'.2.c, e.1.Account = GoZero.zero ∨ ∃ a : Knut.Account, e.1.Account = Knut.FactsAgree.TransAccount.accountGo a) →
        ∀ (p : List String) (m : Node), MNode.nodeAt? (C02Go.treeOf al (C02Go.reportOf part G'.2.c)) p = some m →
          ∀ (order1 order2 : List amounts.Key), order1.Perm (AMap.keys m.Value.Amounts) →
            (∀ x, (∃ k ∈ AMap.keys m.Value.Amounts, mfR byCommodity k = x) → x ∈ order2) →
            ∃ vals, amounts.Amounts.SumBy m.Value.Amounts none (pureFn (mfR byCommodity)) order1 order2 = GoSem.Outcome.ok vals ∧
              ∀ (c : Option Knut.Commodity), (∀ s, c = some s → s ≠ "") → ∀ d : Int, d ≠ 0 →
                AMap.get vals (amounts.DateCommodityKey d (comGo cur c)) 0 =
                  BalanceReport.cellAt (((Spec.ledgerEntries cfg days).filter (fun x => x.account.isAL == al)).filter
                    (fun x => decide (x.account.segments = p))) byCommodity c d) := by
  obtain ⟨G', st, hr, hrun, _, hlog⟩ := processAllBalance_agrees_partial cur cfg P q hP G0 hinit gdays days hdays
    (fun d hdm => queryWf_plain cfg hv hc d (hwf d hdm)) out hgo
  have hrun' : Balance.run cfg days = .ok st := run_of_RunOrd cfg hv hc days {} st hrun
  refine ⟨G', st, hr, hrun', ?_⟩
  intro hcom hacc p m hm order1 order2 ho1 ho2
  have hlog' : esOf G'.2.c = st.entries := hlog
  exact C02Go.C02_ledger_cells_go_partial cur part G'.2.c al byCommodity hcom p m hm ho1 ho2 cfg hv hc days hd st hrun'
    (by rw [C02Go.esOf_sec G'.2.c hacc al, hlog'])

end Knut.C02Go2
