import Knut.Properties.C01Go3
import Knut.Properties.C02Go2
/-!
# C02 (the ledger clause) on the generated definitions, with the query that `knut balance` builds — no hypothesis about `Where`/`Select`

`Properties/C02Go.lean` states `C02_ledger_cells_query_go_partial` under `C01Go.QueryFor cur cfg q w s` ("how `cmd/commands/balance.go`
sets up `Where` and `Select`") and `Properties/C02Go2.lean` states `C02_ledger_cells_process_go` under `ParOK cur cfg P q` with its field
`query : PostingOK cfg cur q`.  For the query the command builds (the translated fragment `commands.balanceRunner.execute.query`) both are
theorems: `TransBalanceCmdGo.balance_QueryFor`, `TransBalanceCmd.query_posting_model`.  This module instantiates them, as
`Properties/C01Go3.lean` does for C01; the statements mention only the FLAGS (`FlagsOK`), the partition of `cfg.periods`, the two
registry functions of the fragment, and — process level — the parameters of the other processors (`C01Go3.StagesOK`) and the initial
captured states (`C01Go3.balanceInit`).  The report is laid out over the same partition that `Filter` and `Select` use.
-/
namespace Knut.C02Go3
open Knut Knut.GoSem Knut.Balance
open Knut.Generated.Go Knut.FactsAgree
open Knut.FactsAgree.TransAmountsSum Knut.FactsAgree.TransReport Knut.FactsAgree.TransRender Knut.FactsAgree.TransProcessAll
open Knut.FactsAgree.TransMapping Knut.FactsAgree.TransBalanceCmd
open Knut.FactsAgree.TransAccount (accountGo)
open Knut.FactsAgree.TransProcess (CEquiv)
open Knut.C01Go3 (StagesOK ParOK_of_stages balanceInit)

/-- **without closing, the cells of a row are the ledger's**, with the log that the translated `Query.Into` produces for the query
that `execute` builds from the flags.  Partial in `hrel` only (see `C02Go.C02_ledger_cells_query_go_partial`). -/
theorem C02_ledger_cells_balance_query_go_partial (cur : String → Bool) (al : Bool) (byCommodity : Bool)
    (cfg : BalCfg) (hv : cfg.valuation = none) (hc : cfg.close = false) (days : List Day) (hd : C02.DaysConsistent days)
    (st : BalState) (hrun : Balance.run cfg days = .ok st) (all : List Knut.Transaction) (hall : C01Go.runTxs cfg {} days = .ok all)
    (valuation : commodity.Commodity) (span : Knut.Period) (iv : Knut.Interval)
    (remapFs : List (String → Bool)) (swap : account.Account → account.Account)
    (m : account.Mapping) (getPath : List String → account.Account)
    (accs : Option (List (String → Bool))) (comFs : List (String → Bool))
    (hfl : FlagsOK cfg valuation remapFs m accs comFs)
    (hsorted : List.Pairwise (fun p q : Knut.Period => p.stop ≤ q.stop) cfg.periods) (hstop : ∀ p ∈ cfg.periods, p.stop ≠ 0)
    (hreg : ∀ b : Knut.Account, getPath b.segments = accountGo b)
    (hswap : ∀ b : Knut.Account, swap (accountGo b) = accountGo (swapType b))
    (tgs : List transaction.Transaction) (hrel : Knut.FactsAgree.TransProcess.AllRel (Knut.FactsAgree.TransProcess.TRel cur) tgs all) :
    ∃ q, commands.balanceRunner.execute.query valuation (TransDate.partitionGo ⟨span, iv, cfg.periods⟩) (regsGo remapFs) swap m getPath
          (accs.map regsGo) (regsGo comFs) = GoSem.Outcome.ok q ∧
      ∃ qs, C01Go.queryAllGo (journal.Query.Into.init q) tgs = .ok (qs, none) ∧
      ((∀ e ∈ qs.c, e.1.Commodity = Knut.FactsAgree.TransPosting.commodityGo cur e.1.Commodity.name ∧ e.1.Commodity.name ≠ "") →
       (∀ e ∈ qs.c, e.1.Account = GoZero.zero ∨ ∃ a : Knut.Account, e.1.Account = Knut.FactsAgree.TransAccount.accountGo a) →
        ∀ (p : List String) (n : Node),
          MNode.nodeAt? (C02Go.treeOf al (C02Go.reportOf (TransDate.partitionGo ⟨span, iv, cfg.periods⟩) qs.c)) p = some n →
          ∀ (order1 order2 : List amounts.Key), order1.Perm (AMap.keys n.Value.Amounts) →
            (∀ x, (∃ k ∈ AMap.keys n.Value.Amounts, mfR byCommodity k = x) → x ∈ order2) →
            ∃ vals, amounts.Amounts.SumBy n.Value.Amounts none (pureFn (mfR byCommodity)) order1 order2 = GoSem.Outcome.ok vals ∧
              ∀ (c : Option Knut.Commodity), (∀ s, c = some s → s ≠ "") → ∀ d : Int, d ≠ 0 →
                AMap.get vals (amounts.DateCommodityKey d (comGo cur c)) 0 =
                  BalanceReport.cellAt (((Spec.ledgerEntries cfg days).filter (fun x => x.account.isAL == al)).filter
                    (fun x => decide (x.account.segments = p))) byCommodity c d) := by
  obtain ⟨q, hq, hfor⟩ := Knut.FactsAgree.TransBalanceCmdGo.balance_QueryFor cfg cur valuation span iv remapFs swap m getPath accs comFs
    hfl hsorted hstop hreg hswap
  exact ⟨q, hq, C02Go.C02_ledger_cells_query_go_partial cur _ al byCommodity cfg hv hc days hd st hrun all hall q _ _ hfor tgs hrel⟩

/-- **without closing, the cells of a row are the ledger's, on the translated pipeline of `knut balance` over a whole journal**, the
query being the one `execute` builds from the flags -/
theorem C02_ledger_cells_balance_go (cur : String → Bool) (cfg : BalCfg) (iv : Knut.Interval) (P : BalPar) (hS : StagesOK cur cfg iv P)
    (valuation : commodity.Commodity) (remapFs : List (String → Bool)) (swap : account.Account → account.Account)
    (m : account.Mapping) (getPath : List String → account.Account)
    (accs : Option (List (String → Bool))) (comFs : List (String → Bool))
    (hfl : FlagsOK cfg valuation remapFs m accs comFs)
    (hsorted : List.Pairwise (fun p q : Knut.Period => p.stop ≤ q.stop) cfg.periods) (hstop : ∀ p ∈ cfg.periods, p.stop ≠ 0)
    (hreg : RegistryPath getPath) (hswap : RegistrySwap swap)
    (gf : journal.Filter.State) (gc : journal.CloseAccounts.State)
    (gdays : List journal.Day) (days : List Day)
    (hdays : DaysRel cur gdays days) (hwf : ∀ d ∈ days, ∀ t ∈ d.transactions, ∀ p ∈ t.postings, p.account.wf = true)
    (hv : cfg.valuation = none) (hc : cfg.close = false) (hd : C02.DaysConsistent days) (al : Bool) (byCommodity : Bool) :
    ∃ q, commands.balanceRunner.execute.query valuation P.part (regsGo remapFs) swap m getPath (accs.map regsGo) (regsGo comFs)
          = GoSem.Outcome.ok q ∧
      ∀ out : List journal.Day, processAllBalance P (balanceInit gf gc q) gdays = some out →
      ∃ G' st, runDays (fusedBalance P) (fusedInit (balanceInit gf gc q)) gdays = .ok (G', out) ∧ Balance.run cfg days = .ok st ∧
      ((∀ e ∈ G'.2.c, e.1.Commodity = Knut.FactsAgree.TransPosting.commodityGo cur e.1.Commodity.name ∧ e.1.Commodity.name ≠ "") →
       (∀ e ∈ G'.2.c, e.1.Account = GoZero.zero ∨ ∃ a : Knut.Account, e.1.Account = Knut.FactsAgree.TransAccount.accountGo a) →
        ∀ (p : List String) (n : Node), MNode.nodeAt? (C02Go.treeOf al (C02Go.reportOf P.part G'.2.c)) p = some n →
          ∀ (order1 order2 : List amounts.Key), order1.Perm (AMap.keys n.Value.Amounts) →
            (∀ x, (∃ k ∈ AMap.keys n.Value.Amounts, mfR byCommodity k = x) → x ∈ order2) →
            ∃ vals, amounts.Amounts.SumBy n.Value.Amounts none (pureFn (mfR byCommodity)) order1 order2 = GoSem.Outcome.ok vals ∧
              ∀ (c : Option Knut.Commodity), (∀ s, c = some s → s ≠ "") → ∀ d : Int, d ≠ 0 →
                AMap.get vals (amounts.DateCommodityKey d (comGo cur c)) 0 =
                  BalanceReport.cellAt (((Spec.ledgerEntries cfg days).filter (fun x => x.account.isAL == al)).filter
                    (fun x => decide (x.account.segments = p))) byCommodity c d) := by
  obtain ⟨q, hq, hinit, hpost⟩ := query_posting_model cfg cur valuation cfg.span iv remapFs swap m getPath accs comFs hfl hsorted hstop
    hreg hswap
  rw [← hS.part] at hq
  refine ⟨q, hq, fun out hgo => ?_⟩
  have hI : BalInv cur cfg q (fusedInit (balanceInit gf gc q)) {} := by
    unfold balanceInit
    rw [hinit]
    exact BalInv_init cur cfg q gf gc (fun h => by rw [hc] at h; cases h)
  exact C02Go2.C02_ledger_cells_process_go cur cfg P q (ParOK_of_stages hS hpost) _ hI gdays days hdays hwf out hgo hv hc hd P.part al
    byCommodity

/-! ### Non-vacuity: the empty journal — the six stages succeed from the command's initial states -/
example (P : BalPar) (q : journal.Query) (gf : journal.Filter.State) (gc : journal.CloseAccounts.State) :
    processAllBalance P (balanceInit gf gc q) [] = some [] := by
  rw [processAllBalance_eq]; rfl

end Knut.C02Go3
