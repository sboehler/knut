import Knut.Proofs.ListMapM
import Knut.Proofs.MTM
/-!
# C03 — Valued balances are mark-to-market at the latest known price

Model: `Balance.pricesDay` (ComputePrices), `Balance.valuateDay` (Valuate) of Model/Balance.lean;
prices come from `Prices.normalize` (property C12).  Specification: `Spec.mtm` (Spec/MTM.lean), the exact
Σ quantity × latest price.

Here the clauses about ONE step, for all journals, valuation commodities and days: a booking is valued at the price of
its own day, a needed price that is absent is an error, a day's value adjustment of `(a, c)` is
`Truncate₈((p_d − p_{d−1}) × Q_{d−1})` booked between `a` and its `Income:` account, the exact terms telescope to `Q_d·p_d`,
and each `Truncate₈` loses less than 10⁻⁸ (stated on scaled integers, which is how the bound `steps × 10⁻⁸` arises).
The monitors evaluate `Spec.mtm`, `Spec.stepBound`, `Spec.flowAt` exactly (in Lean) and compare them with the cells of the
REAL report.  The literal reading of the property (absolute mark-to-market) fails whenever a position exists before the
window start (`--from`): the report shows the value change inside the window.  That is design behaviour of knut,
recorded as known finding `window-start-after-position`, and exactly what `C03_command_cell` states.
-/
namespace Knut.C03
open Knut Knut.Dec

theorem C03_flow_valued_at_booking_day (v : Commodity) (cur : Option Prices.NPrices) (p p' : Posting)
    (h : Balance.valuePosting v cur p = .ok p') :
    p'.account = p.account ∧ p'.quantity = p.quantity ∧ p'.commodity = p.commodity ∧
    (p.quantity = 0 → p'.value = p.value) ∧
    (p.quantity ≠ 0 → p.commodity = v → p'.value = p.quantity) ∧
    (p.quantity ≠ 0 → p.commodity ≠ v →
      ∃ np pr, cur = some np ∧ Prices.find p.commodity np = some pr ∧ p'.value = trunc 8 (p.quantity * pr)) := by
  obtain ⟨x, rfl, h0, hv, hne⟩ := valuePosting_ok h
  refine ⟨rfl, rfl, rfl, h0, hv, fun hq hc => ?_⟩
  obtain ⟨pr, hl, hx⟩ := hne hq hc
  obtain ⟨np, hnp, hf⟩ := lookupPrice_ok hl
  exact ⟨np, pr, hnp, hf, hx⟩

/-- a needed, absent price makes valuation fail -/
theorem C03_missing_price_is_error (v : Commodity) (cur : Option Prices.NPrices) (p : Posting)
    (hq : p.quantity ≠ 0) (hc : p.commodity ≠ v)
    (hmiss : ∀ np, cur = some np → Prices.find p.commodity np = none) :
    ∃ e, Balance.valuePosting v cur p = .error e := by
  rw [valuePosting_foreign hq hc]
  unfold Balance.lookupPrice
  cases hcur : cur with
  | none => exact ⟨_, rfl⟩
  | some np => simp only [hmiss np hcur]; exact ⟨_, rfl⟩

/-- … and therefore the valuation of the day fails -/
theorem C03_missing_price_fails_day (v : Commodity) (st : BalState) (d : Day) (t : Transaction) (p : Posting)
    (ht : t ∈ d.transactions) (hp : p ∈ t.postings) (hq : p.quantity ≠ 0) (hc : p.commodity ≠ v)
    (hmiss : ∀ np, st.norm = some np → Prices.find p.commodity np = none) :
    ∃ e, Balance.valuateDay v st d = .error e := by
  unfold Balance.valuateDay
  simp only [bind, Except.bind]
  cases Balance.adjustments v d.date st.vPrev st.norm st.vQty with
  | error e => exact ⟨e, rfl⟩
  | ok adj =>
    simp only
    have ht' : t ∈ d.transactions ++ adj := List.mem_append_left _ ht
    have : ∃ e, Balance.valueTx v st.norm t = .error e := by
      unfold Balance.valueTx
      obtain ⟨e0, he0⟩ := C03_missing_price_is_error v st.norm p hq hc hmiss
      obtain ⟨e, he⟩ := mapM_error_of_mem hp he0
      rw [he]; exact ⟨e, rfl⟩
    obtain ⟨e0, he0⟩ := this
    obtain ⟨e, he⟩ := mapM_error_of_mem ht' he0
    rw [he]; exact ⟨e, rfl⟩

theorem C03_adjustment_shape (v : Commodity) (date : Int) (prev cur : Option Prices.NPrices)
    (acc res : List Transaction) (a : Account) (c : Commodity) (q : Rat)
    (h : Balance.adjustStep v date prev cur acc ((a, c), q) = .ok res) :
    res = acc ∨
    ∃ pp cp, Balance.lookupPrice prev c = .ok pp ∧ Balance.lookupPrice cur c = .ok cp ∧ cp - pp ≠ 0 ∧
      c ≠ v ∧ a.isAL = true ∧ q ≠ 0 ∧
      res = acc ++ [{ date := date, description := "Adjust value of " ++ c ++ " in account " ++ a.name,
                      postings := postingBuild (valuationAccountFor a) a c 0 (trunc 8 ((cp - pp) * q)),
                      targets := some [c] }] := by
  rcases adjustStep_ok h with ⟨_, h⟩ | ⟨pp, cp, hc, hal, hq, hpp, hcp, ⟨_, h⟩ | ⟨hd, h⟩⟩
  · exact Or.inl h
  · exact Or.inl h
  · exact Or.inr ⟨pp, cp, hpp, hcp, hd, hc, hal, hq, h⟩

/-- **gain account**: the adjustment of account `a` is booked between `a` and `Income:<tail of a>` only -/
theorem C03_gain_account (a : Account) (c : Commodity) (g : Rat) :
    ∀ p ∈ postingBuild (valuationAccountFor a) a c 0 g,
      (p.account = a ∧ p.other = valuationAccountFor a) ∨ (p.account = valuationAccountFor a ∧ p.other = a) := by
  intro p hp
  rcases mem_postingBuild hp with rfl | rfl
  · exact Or.inr ⟨rfl, rfl⟩
  · exact Or.inl ⟨rfl, rfl⟩

theorem C03_gain_account_is_income (a : Account) : (valuationAccountFor a).segments.head? = some "Income" ∧
    (valuationAccountFor a).segments.drop 1 = a.segments.drop 1 := ⟨rfl, rfl⟩

/-- an open foreign position without a price yesterday or today fails the day -/
theorem C03_revaluation_error_if_price_vanished (v : Commodity) (date : Int) (prev cur : Option Prices.NPrices)
    (acc : List Transaction) (a : Account) (c : Commodity) (q : Rat) (hc : c ≠ v) (hal : a.isAL = true) (hq : q ≠ 0)
    (hmiss : (∃ e, Balance.lookupPrice prev c = .error e) ∨ (∃ e, Balance.lookupPrice cur c = .error e)) :
    ∃ e, Balance.adjustStep v date prev cur acc ((a, c), q) = .error e := by
  unfold Balance.adjustStep
  have : (decide (c = v) || !a.isAL || decide (q = 0)) = false := by simp [hc, hal, hq]
  simp only [this, Bool.false_eq_true, if_false, bind, Except.bind]
  rcases hmiss with ⟨e, he⟩ | ⟨e, he⟩
  · rw [he]; exact ⟨e, rfl⟩
  · cases Balance.lookupPrice prev c with
    | error e' => exact ⟨e', rfl⟩
    | ok pp => simp only; rw [he]; exact ⟨e, rfl⟩

/-- **telescoping identity** (exact arithmetic): yesterday's value plus the revaluation of yesterday's
quantity plus today's bookings at today's price is today's quantity at today's price. -/
theorem C03_telescope (Qprev pPrev pCur : Rat) (qs : List Rat) :
    Qprev * pPrev + (pCur - pPrev) * Qprev + (qs.map (· * pCur)).sum = (Qprev + qs.sum) * pCur :=
  MTM.telescope Qprev pPrev pCur qs

/-- `Truncate₈` on the scaled numerator: it moves toward zero by less than one unit of the 8th decimal -/
theorem C03_trunc_error (r : Rat) :
    let s := r.num * pow10 8
    (0 ≤ s → scaledTrunc 8 r * r.den ≤ s ∧ s < (scaledTrunc 8 r + 1) * r.den) ∧
    (s ≤ 0 → s ≤ scaledTrunc 8 r * r.den ∧ (scaledTrunc 8 r - 1) * r.den < s) :=
  MTM.scaledTrunc_bounds 8 r

/-! Non-vacuity: a priced booking -/
example : Balance.valuePosting "CHF" (some [("USD", 2)]) { account := ⟨["Assets", "A"]⟩, other := ⟨["Equity", "E"]⟩, commodity := "USD", quantity := 3 }
    = .ok { account := ⟨["Assets", "A"]⟩, other := ⟨["Equity", "E"]⟩, commodity := "USD", quantity := 3, value := 6 } := by
  unfold Balance.valuePosting Balance.lookupPrice Prices.find Prices.multiply
  simp [bind, Except.bind]
  decide +kernel

end Knut.C03
