import Knut.Proofs.MTM
/-!
# C03 — the quantitative mark-to-market bound

The induction over days that composes the per-step clauses of `Properties/C03.lean`, for the valuation trace of ONE
position `(a, c)`, `c ≠ V` (`Proofs/MTM.lean`: `DayStep`, `St = (W, Q, steps)`, `stepDay` updating the state exactly as
`Valuate` does): from `W = Q = 0`, `|W − Q·p| ≤ steps/10⁸`; from any state the same for the CHANGE of `W` against the change
of `Q·p` — the form the report shows with `--from`; and the terms of the trace are the terms of the model
(`Balance.adjustStep`, `Balance.valuePosting`).  The monitor `shown_equals_mark_to_market` compares `Spec.mtm` with the real
report on every run.
-/
namespace Knut.C03
open Knut Knut.Dec Knut.MTM

/-- **`Truncate(n)` is within one unit of the `n`-th decimal, toward zero** -/
theorem C03_trunc_close (n : Nat) (r : Rat) :
    (0 ≤ r → -(1 / (10 : Rat) ^ n) < trunc n r - r ∧ trunc n r - r ≤ 0) ∧
    (r ≤ 0 → 0 ≤ trunc n r - r ∧ trunc n r - r < 1 / (10 : Rat) ^ n) :=
  trunc_close n r

theorem C03_trunc_close_abs (n : Nat) (r : Rat) : (trunc n r - r).abs < 1 / (10 : Rat) ^ n :=
  abs_lt_of (trunc_close_both n r).1 (trunc_close_both n r).2

/-- **mark-to-market bound** for a position opened inside the trace, as a pair of inequalities -/
theorem C03_mtm_bound_pair (p0 : Rat) (ds : List DayStep) (hc : Consistent p0 ds) :
    -(((run {} ds).steps : Rat) / (10 : Rat) ^ 8) ≤ (run {} ds).W - (run {} ds).Q * lastPrice p0 ds ∧
    (run {} ds).W - (run {} ds).Q * lastPrice p0 ds ≤ ((run {} ds).steps : Rat) / (10 : Rat) ^ 8 := by
  have h := run_bound p0 ds {} hc
  have e : dev {} p0 = 0 := by
    show (0 : Rat) - 0 * p0 = 0
    rw [Rat.zero_mul, Rat.sub_self]
  have e0 : (({} : St).steps : Rat) = 0 := rfl
  rwa [e, e0, Rat.sub_eq_add_neg, Rat.neg_zero, Rat.add_zero, Rat.sub_eq_add_neg, Rat.neg_zero, Rat.add_zero,
    mul_ulp] at h

/-- … and as an absolute value -/
theorem C03_mtm_bound (p0 : Rat) (ds : List DayStep) (hc : Consistent p0 ds) :
    ((run {} ds).W - (run {} ds).Q * lastPrice p0 ds).abs ≤ ((run {} ds).steps : Rat) / (10 : Rat) ^ 8 :=
  abs_le_of (C03_mtm_bound_pair p0 ds hc).1 (C03_mtm_bound_pair p0 ds hc).2

/-- the step counter never decreases (so the subtraction below is an honest one) -/
theorem C03_steps_mono (s : St) (ds : List DayStep) : s.steps ≤ (run s ds).steps := by
  induction ds generalizing s with
  | nil => exact Nat.le_refl _
  | cons d ds ih =>
    have := ih (stepDay s d)
    unfold run at this ⊢
    simp only [List.foldl_cons]
    have h : s.steps ≤ (stepDay s d).steps := by unfold stepDay; simp only; omega
    omega

/-- **windowed mark-to-market bound**: from an arbitrary state `s` (the state at the window start `F`, price `p0`) -/
theorem C03_mtm_bound_window (p0 : Rat) (ds : List DayStep) (s : St) (hc : Consistent p0 ds) :
    (((run s ds).W - s.W) - ((run s ds).Q * lastPrice p0 ds - s.Q * p0)).abs
      ≤ (((run s ds).steps - s.steps : Nat) : Rat) / (10 : Rat) ^ 8 := by
  have h := run_bound p0 ds s hc
  rw [← mul_ulp, natCast_sub_of_le (C03_steps_mono s ds)]
  have e : ((run s ds).W - s.W) - ((run s ds).Q * lastPrice p0 ds - s.Q * p0) =
      dev (run s ds) (lastPrice p0 ds) - dev s p0 := by unfold dev; grind
  rw [e]
  exact abs_le_of h.1 h.2

/-- the adjustment `Balance.adjustStep` books for an asset/liability position `(a, c)`, `c ≠ V`, with both prices
known is the `adjustment` term of the trace (nothing if the position is closed or the price did not move) -/
theorem C03_adjustment_term (v : Commodity) (date : Int) (prev cur : Option Prices.NPrices)
    (acc : List Transaction) (a : Account) (c : Commodity) (q pp cp : Rat)
    (hc : c ≠ v) (hal : a.isAL = true)
    (hp : Balance.lookupPrice prev c = .ok pp) (hcur : Balance.lookupPrice cur c = .ok cp) :
    Balance.adjustStep v date prev cur acc ((a, c), q) =
      .ok (if adjSkipped q pp cp then acc else
        acc ++ [{ date := date, description := "Adjust value of " ++ c ++ " in account " ++ a.name,
                  postings := postingBuild (valuationAccountFor a) a c 0 (adjustment q pp cp),
                  targets := some [c] }]) := by
  unfold Balance.adjustStep adjustment adjSkipped
  by_cases hq : q = 0
  · simp [hq]
  · have : (decide (c = v) || !a.isAL || decide (q = 0)) = false := by simp [hc, hal, hq]
    simp only [this, Bool.false_eq_true, if_false]
    simp only [bind, Except.bind, hp, hcur, hq, false_or]
    by_cases hd : cp - pp = 0
    · simp [hd]
    · simp only [hd, if_false]; rfl

/-- … and the posting of that transaction on `a` has quantity 0 and value `g` (the other one is on `Income:…`) -/
theorem C03_adjustment_posting (a : Account) (c : Commodity) (g : Rat) (hal : a.isAL = true) :
    ∀ p ∈ postingBuild (valuationAccountFor a) a c 0 g, p.account = a →
      p.quantity = 0 ∧ p.value = g ∧ p.commodity = c := by
  intro p hp hacc
  rcases mem_postingBuild hp with rfl | rfl
  · exact absurd hacc.symm (ne_valuationAccount a hal)
  · exact ⟨rfl, rfl, rfl⟩

/-- the values `Balance.valuePosting` gives to a day's (not yet valued) bookings in commodity `c ≠ V` sum to the
`booked` term of the trace, and the quantities are unchanged -/
theorem C03_booked_term (v : Commodity) (cur : Option Prices.NPrices) (c : Commodity) (pr : Rat)
    (hc : c ≠ v) (hcur : Balance.lookupPrice cur c = .ok pr) (ps ps' : List Posting)
    (hps : ∀ p ∈ ps, p.commodity = c ∧ p.value = 0)
    (h : ps.mapM (Balance.valuePosting v cur) = .ok ps') :
    (ps'.map (·.value)).sum = booked pr (ps.map (·.quantity)) ∧ ps'.map (·.quantity) = ps.map (·.quantity) := by
  refine mapM_ok_ind (fun ps ps' => (∀ p ∈ ps, p.commodity = c ∧ p.value = 0) →
    (ps'.map (·.value)).sum = booked pr (ps.map (·.quantity)) ∧ ps'.map (·.quantity) = ps.map (·.quantity))
    (fun _ => ⟨rfl, rfl⟩) ?_ h hps
  intro p p' rest rest' hp _ ih hall
  obtain ⟨ih1, ih2⟩ := ih (fun x hx => hall x (List.mem_cons_of_mem _ hx))
  obtain ⟨hpc, hpv⟩ := hall p List.mem_cons_self
  obtain ⟨x, rfl, h0, _, hne⟩ := valuePosting_ok hp
  simp only [List.map_cons, List.sum_cons, ih1, ih2, and_true]
  by_cases hq : p.quantity = 0
  · rw [h0 hq, hpv, hq, booked_cons_zero, Rat.zero_add]
  · obtain ⟨pr', hl, hx⟩ := hne hq (hpc ▸ hc)
    rw [hpc, hcur] at hl
    cases hl
    rw [hx, booked_cons_ne pr _ _ hq]

/-! Non-vacuity: buy 1 at 1/3; the price moves to 2/3 and 2 more (and a zero booking) are booked; the price moves to
0.123456789 and 1 is sold (`MTM.exampleTrace`).  The trace is consistent, five truncations happen, the running value deviates from the
exact mark-to-market value by 2·10⁻⁹ ≠ 0, within the bound 5·10⁻⁸. -/
example : Consistent 0 exampleTrace := ⟨rfl, rfl, rfl, trivial⟩
example : run {} exampleTrace = { W := 12345679/50000000, Q := 2, steps := 5 } := by decide +kernel
example : (run {} exampleTrace).W - (run {} exampleTrace).Q * lastPrice 0 exampleTrace = 1/500000000 := by
  decide +kernel

end Knut.C03
