import Knut.Proofs.MTMRun
import Knut.Properties.C03Bound
/-!
# C03 — the balance pipeline, projected on one position, is the single-position valuation trace

`Properties/C03Bound.lean` proves `|W − Q·p| ≤ steps/10⁸` for the trace `MTM.run` of ONE position `(a, c)`, `c ≠ V`.  Here:
the projection of the FULL valuation model on `(a, c)` — `valOn a c`, the values landing on the position, and
`vQty.get (a, c)`, its quantity (`Proofs/MTMDay.lean`) — evolves by `MTM.stepDay`, first for the valuation stage alone
(`valuationRun`, `traceOf`), then for the whole pipeline (`pipelineRun`, `traceOfRun`: check, ComputePrices, Valuate,
Filter, CloseAccounts, Query) on days inside the window, and `Balance.run` is that fold; hence the bound for `Balance.run`.

Hypotheses: `a.isAL` (Valuate tracks asset/liability positions only), `c ≠ V`, distinct keys of
`vQty` (`AMap.NodupKeys`; holds for the empty state and is preserved: part of the conclusions), `Unvalued` (the
zero-quantity postings on `(a, c)` carry value 0; `Valuate` overwrites every other value, and postings built by
`postingBuild … q` have value 0 altogether: `C03_ofBookings_unvalued`), `Plain cfg` (no mapping/remap/filters, the check's
own proviso).
-/
namespace Knut.C03
open Knut Knut.Dec Knut.MTM

/-- **one day** of `Balance.valuateDay`, seen from the asset/liability position `(a, c)`, `c ≠ V`: (1) quantity,
(2) value, (3) today's prices become yesterday's; the invariant `NodupKeys` is preserved -/
theorem C03_valuateDay_position (v : Commodity) (st st' : BalState) (d : Day) (txs : List Transaction)
    (a : Account) (c : Commodity) (pp cp : Rat)
    (hc : c ≠ v) (hal : a.isAL = true) (hn : AMap.NodupKeys st.vQty) (hu : Unvalued a c d.transactions)
    (hpp : st.vQty.get (a, c) 0 = 0 ∨ Balance.lookupPrice st.vPrev c = .ok pp)
    (hcp : Balance.lookupPrice st.norm c = .ok cp)
    (h : Balance.valuateDay v st d = .ok (st', txs)) :
    st'.vQty.get (a, c) 0 = st.vQty.get (a, c) 0 + (qtysOn a c d.transactions).sum ∧
    valOn a c txs = adjustment (st.vQty.get (a, c) 0) pp cp + booked cp (qtysOn a c d.transactions) ∧
    st'.vPrev = st.norm ∧ AMap.NodupKeys st'.vQty := by
  rcases hpp with hq | hpp
  · -- a closed position is not revalued, whatever yesterday's price was
    have := valuateDay_position v st st' d txs a c (priceOr st.vPrev c pp) cp hc hal hn hu
      (priceIs_priceOr _ _ _) (priceIs_of_ok hcp) h
    rw [hq, adjustment_zero] at this
    rw [hq, adjustment_zero]
    exact this
  · exact valuateDay_position v st st' d txs a c pp cp hc hal hn hu (priceIs_of_ok hpp) (priceIs_of_ok hcp) h

/-- the same as one `MTM.stepDay` of a trace state whose `Q` is the position's quantity -/
theorem C03_valuateDay_is_stepDay (v : Commodity) (st st' : BalState) (d : Day) (txs : List Transaction)
    (a : Account) (c : Commodity) (pp cp : Rat) (s : St)
    (hc : c ≠ v) (hal : a.isAL = true) (hn : AMap.NodupKeys st.vQty) (hu : Unvalued a c d.transactions)
    (hpp : st.vQty.get (a, c) 0 = 0 ∨ Balance.lookupPrice st.vPrev c = .ok pp)
    (hcp : Balance.lookupPrice st.norm c = .ok cp)
    (hQ : s.Q = st.vQty.get (a, c) 0)
    (h : Balance.valuateDay v st d = .ok (st', txs)) :
    (stepDay s ⟨pp, cp, qtysOn a c d.transactions⟩).Q = st'.vQty.get (a, c) 0 ∧
    (stepDay s ⟨pp, cp, qtysOn a c d.transactions⟩).W = s.W + valOn a c txs ∧
    st'.vPrev = st.norm := by
  obtain ⟨h1, h2, h3, _⟩ := C03_valuateDay_position v st st' d txs a c pp cp hc hal hn hu hpp hcp h
  unfold stepDay
  simp only
  rw [hQ, h1, h2]
  exact ⟨rfl, by grind, h3⟩

/-- **the lift over the days**: the valuation stage of the pipeline (`pricesDay` then `valuateDay`, day by day, today's
normalised prices becoming tomorrow's previous prices) projected on `(a, c)` is `MTM.run` on the extracted trace:
`W` grows by the values landing on `(a, c)`, `Q` is the position's quantity, the trace is consistent and its last price
is the price of `c` in the final `vPrev` (the last day's normalised prices) if `c` has one there -/
theorem C03_valuationRun_is_trace_run (cfg : BalCfg) (v : Commodity) (a : Account) (c : Commodity)
    (days : List Day) (st st' : BalState) (txs : List Transaction) (p0 : Rat) (s : St)
    (hv : cfg.valuation = some v) (hc : c ≠ v) (hal : a.isAL = true)
    (hn : AMap.NodupKeys st.vQty) (hu : ∀ d ∈ days, Unvalued a c d.transactions)
    (hp0 : PriceIs st.vPrev c p0) (hQ : s.Q = st.vQty.get (a, c) 0)
    (h : valuationRun cfg st days = .ok (st', txs)) :
    (run s (traceOf cfg a c p0 st days)).W = s.W + valOn a c txs ∧
    (run s (traceOf cfg a c p0 st days)).Q = st'.vQty.get (a, c) 0 ∧
    Consistent p0 (traceOf cfg a c p0 st days) ∧
    PriceIs st'.vPrev c (lastPrice p0 (traceOf cfg a c p0 st days)) ∧
    AMap.NodupKeys st'.vQty := by
  obtain ⟨h1, h2, h3, h4⟩ := valuationRun_trace cfg v a c hv hc hal days st st' txs h p0 s hn hu hp0 hQ
  exact ⟨h1, h2, consistent_traceOf cfg a c days p0 st, h3, h4⟩

/-- **mark-to-market bound on the pipeline model**: for a position `(a, c)` that is closed in the start state (in
particular from the empty state `{}`), after any list of days the values the valuation stage has put on `(a, c)` differ
from `quantity × last price` by at most one unit of the 8th decimal per truncation (`steps` of the extracted trace:
one per value adjustment, one per non-zero booking) -/
theorem C03_pipeline_mtm_bound (cfg : BalCfg) (v : Commodity) (a : Account) (c : Commodity)
    (days : List Day) (st st' : BalState) (txs : List Transaction) (p0 : Rat)
    (hv : cfg.valuation = some v) (hc : c ≠ v) (hal : a.isAL = true)
    (hn : AMap.NodupKeys st.vQty) (hu : ∀ d ∈ days, Unvalued a c d.transactions)
    (hp0 : PriceIs st.vPrev c p0) (hQ : st.vQty.get (a, c) 0 = 0)
    (h : valuationRun cfg st days = .ok (st', txs)) :
    (valOn a c txs - st'.vQty.get (a, c) 0 * lastPrice p0 (traceOf cfg a c p0 st days)).abs
      ≤ ((run {} (traceOf cfg a c p0 st days)).steps : Rat) / (10 : Rat) ^ 8 ∧
    PriceIs st'.vPrev c (lastPrice p0 (traceOf cfg a c p0 st days)) := by
  obtain ⟨h1, h2, h3, h4, _⟩ := C03_valuationRun_is_trace_run cfg v a c days st st' txs p0 {} hv hc hal hn hu hp0
    hQ.symm h
  have hb := C03_mtm_bound p0 (traceOf cfg a c p0 st days) h3
  rw [h1, h2] at hb
  have e1 : ({} : St).W = 0 := rfl
  rw [e1, Rat.zero_add] at hb
  exact ⟨hb, h4⟩

/-- the same with the last price named: if `c` is priced `pl` in the last day's normalised prices -/
theorem C03_pipeline_mtm_bound_priced (cfg : BalCfg) (v : Commodity) (a : Account) (c : Commodity)
    (days : List Day) (st st' : BalState) (txs : List Transaction) (pl : Rat)
    (hv : cfg.valuation = some v) (hc : c ≠ v) (hal : a.isAL = true)
    (hn : AMap.NodupKeys st.vQty) (hu : ∀ d ∈ days, Unvalued a c d.transactions)
    (hQ : st.vQty.get (a, c) 0 = 0)
    (h : valuationRun cfg st days = .ok (st', txs))
    (hl : Balance.lookupPrice st'.vPrev c = .ok pl) :
    (valOn a c txs - st'.vQty.get (a, c) 0 * pl).abs
      ≤ ((run {} (traceOf cfg a c (priceOr st.vPrev c 0) st days)).steps : Rat) / (10 : Rat) ^ 8 := by
  obtain ⟨hb, hp⟩ := C03_pipeline_mtm_bound cfg v a c days st st' txs (priceOr st.vPrev c 0) hv hc hal hn hu
    (priceIs_priceOr _ _ _) hQ h
  rw [← hp pl hl] at hb
  exact hb

/-- **windowed form**: from ANY state (position open, previous price `p0`), the values put on `(a, c)` during the days
differ from the change of `quantity × price` by at most one unit of the 8th decimal per truncation -/
theorem C03_pipeline_mtm_bound_window (cfg : BalCfg) (v : Commodity) (a : Account) (c : Commodity)
    (days : List Day) (st st' : BalState) (txs : List Transaction) (p0 : Rat)
    (hv : cfg.valuation = some v) (hc : c ≠ v) (hal : a.isAL = true)
    (hn : AMap.NodupKeys st.vQty) (hu : ∀ d ∈ days, Unvalued a c d.transactions)
    (hp0 : PriceIs st.vPrev c p0)
    (h : valuationRun cfg st days = .ok (st', txs)) :
    (valOn a c txs - (st'.vQty.get (a, c) 0 * lastPrice p0 (traceOf cfg a c p0 st days) - st.vQty.get (a, c) 0 * p0)).abs
      ≤ ((run ⟨0, st.vQty.get (a, c) 0, 0⟩ (traceOf cfg a c p0 st days)).steps : Rat) / (10 : Rat) ^ 8 := by
  obtain ⟨h1, h2, h3, _, _⟩ := C03_valuationRun_is_trace_run cfg v a c days st st' txs p0 ⟨0, st.vQty.get (a, c) 0, 0⟩
    hv hc hal hn hu hp0 rfl h
  have hb := C03_mtm_bound_window p0 (traceOf cfg a c p0 st days) ⟨0, st.vQty.get (a, c) 0, 0⟩ h3
  rw [h1, h2] at hb
  simp only [Rat.zero_add, Nat.sub_zero] at hb
  rwa [sub_zero_rat] at hb

/-- the hypotheses on the start state hold for the empty state -/
theorem C03_empty_state_ok (a : Account) (c : Commodity) (p0 : Rat) :
    AMap.NodupKeys ({} : BalState).vQty ∧ PriceIs ({} : BalState).vPrev c p0 ∧ ({} : BalState).vQty.get (a, c) 0 = 0 := by
  refine ⟨AMap.nodupKeys_nil, ?_, rfl⟩
  intro x hx
  cases hx

/-- postings the journal builds from bookings carry value 0, hence are `Unvalued` on every position -/
theorem C03_ofBookings_unvalued (a : Account) (c : Commodity) (date : Int) (desc : String)
    (tg : Option (List Commodity)) (bks : List Booking) :
    Unvalued a c [Transaction.ofBookings date desc tg bks] := by
  intro t ht p hp _ _ _
  simp only [List.mem_cons, List.not_mem_nil, or_false] at ht
  subst ht
  unfold Transaction.ofBookings at hp
  simp only [List.mem_flatMap] at hp
  obtain ⟨b, _, hp⟩ := hp
  rcases mem_postingBuild hp with rfl | rfl
  · exact Rat.neg_zero
  · rfl

/-- `Balance.run` is `pipelineRun` from the empty state with the transactions forgotten, and its report inserts are the
Query stage applied to the transactions collected -/
theorem C03_run_is_pipelineRun (cfg : BalCfg) (days : List Day) (stF : BalState)
    (h : Balance.run cfg days = .ok stF) :
    ∃ txs, pipelineRun cfg {} days = .ok (stF, txs) ∧ stF.entries = txs.flatMap (Balance.queryTx cfg) :=
  run_pipelineRun cfg days stF h

/-- **`Balance.run`, projected on `(a, c)`, is `MTM.run` on the extracted trace**: plain valued report, all days inside
the window -/
theorem C03_run_is_trace_run (cfg : BalCfg) (v : Commodity) (a : Account) (c : Commodity)
    (days : List Day) (stF : BalState) (p0 : Rat)
    (hv : cfg.valuation = some v) (hc : c ≠ v) (hal : a.isAL = true) (hpl : Plain cfg)
    (hsp : ∀ d ∈ days, cfg.span.contains d.date = true)
    (hu : ∀ d ∈ days, Unvalued a c d.transactions)
    (h : Balance.run cfg days = .ok stF) :
    (run {} (traceOfRun cfg a c p0 {} days)).W = entryVal a c stF.entries ∧
    (run {} (traceOfRun cfg a c p0 {} days)).Q = stF.vQty.get (a, c) 0 ∧
    Consistent p0 (traceOfRun cfg a c p0 {} days) ∧
    PriceIs stF.vPrev c (lastPrice p0 (traceOfRun cfg a c p0 {} days)) := by
  obtain ⟨txs, hp, he⟩ := run_pipelineRun cfg days stF h
  obtain ⟨e1, e2, e3⟩ := C03_empty_state_ok a c p0
  have hinv : CloseInv {} := by intro k hk; cases hk
  obtain ⟨h1, h2, h3, _, _⟩ := pipelineRun_trace cfg v a c hv hc hal days {} stF txs hp p0 {} e1 hinv hsp hu e2 e3.symm
  have hvs : cfg.valuation.isSome = true := by rw [hv]; rfl
  refine ⟨?_, h2, consistent_traceOfRun cfg a c days p0 {}, h3⟩
  rw [h1, he, entryVal_flatMap cfg hpl hvs]
  exact Rat.zero_add _

/-- **mark-to-market bound for `Balance.run`**: in a plain valued report whose days all lie inside the window, the
report inserts on an asset/liability position `(a, c)`, `c ≠ V`, total `quantity × last price` up to one unit of the 8th
decimal per truncation -/
theorem C03_run_mtm_bound (cfg : BalCfg) (v : Commodity) (a : Account) (c : Commodity)
    (days : List Day) (stF : BalState) (p0 : Rat)
    (hv : cfg.valuation = some v) (hc : c ≠ v) (hal : a.isAL = true) (hpl : Plain cfg)
    (hsp : ∀ d ∈ days, cfg.span.contains d.date = true)
    (hu : ∀ d ∈ days, Unvalued a c d.transactions)
    (h : Balance.run cfg days = .ok stF) :
    (entryVal a c stF.entries - stF.vQty.get (a, c) 0 * lastPrice p0 (traceOfRun cfg a c p0 {} days)).abs
      ≤ ((run {} (traceOfRun cfg a c p0 {} days)).steps : Rat) / (10 : Rat) ^ 8 ∧
    PriceIs stF.vPrev c (lastPrice p0 (traceOfRun cfg a c p0 {} days)) := by
  obtain ⟨h1, h2, h3, h4⟩ := C03_run_is_trace_run cfg v a c days stF p0 hv hc hal hpl hsp hu h
  have hb := C03_mtm_bound p0 (traceOfRun cfg a c p0 {} days) h3
  rw [h1, h2] at hb
  exact ⟨hb, h4⟩

/-- … with the last price named -/
theorem C03_run_mtm_bound_priced (cfg : BalCfg) (v : Commodity) (a : Account) (c : Commodity)
    (days : List Day) (stF : BalState) (pl : Rat)
    (hv : cfg.valuation = some v) (hc : c ≠ v) (hal : a.isAL = true) (hpl : Plain cfg)
    (hsp : ∀ d ∈ days, cfg.span.contains d.date = true)
    (hu : ∀ d ∈ days, Unvalued a c d.transactions)
    (h : Balance.run cfg days = .ok stF)
    (hl : Balance.lookupPrice stF.vPrev c = .ok pl) :
    (entryVal a c stF.entries - stF.vQty.get (a, c) 0 * pl).abs
      ≤ ((run {} (traceOfRun cfg a c 0 {} days)).steps : Rat) / (10 : Rat) ^ 8 := by
  obtain ⟨hb, hp⟩ := C03_run_mtm_bound cfg v a c days stF 0 hv hc hal hpl hsp hu h
  rw [← hp pl hl] at hb
  exact hb

/-! ### Non-vacuity

A four-day journal valued in CHF, position `(Assets:A, USD)`:
day 1 the accounts are opened and only cash is booked (USD has no price yet: the trace carries the start price);
day 2 USD is priced 0.5, 3.5 USD are bought and 1 USD is booked from `Assets:A` to itself (two postings on the position);
day 3 USD is priced 1.333333333 (stored as 1.33333333): the adjustment `Truncate₈(0.83333333 × 3.5)` loses 5·10⁻⁹;
day 4 (no new price) 1 USD is sold. -/

def exA : Account := ⟨["Assets", "A"]⟩
def exE : Account := ⟨["Equity", "E"]⟩
def exDays : List Day :=
  [ { date := 1, openings := [⟨1, exA⟩, ⟨1, exE⟩],
      transactions := [Transaction.ofBookings 1 "cash" none [⟨exE, exA, 100, "CHF"⟩]] },
    { date := 2, prices := [⟨2, "USD", 1/2, "CHF"⟩],
      transactions := [Transaction.ofBookings 2 "buy" none [⟨exE, exA, 7/2, "USD"⟩, ⟨exA, exA, 1, "USD"⟩]] },
    { date := 3, prices := [⟨3, "USD", 1333333333/1000000000, "CHF"⟩] },
    { date := 4, transactions := [Transaction.ofBookings 4 "sell" none [⟨exA, exE, 1, "USD"⟩]] } ]
def exCfg : BalCfg := { valuation := some "CHF", span := ⟨1, 4⟩, periods := [⟨1, 4⟩] }

/-- the pipeline accepts the journal; quantity 2.5, value 3.33333332 ≠ 2.5 × 1.33333333 = 3.333333325 -/
example : (match valuationRun exCfg {} exDays with
    | .ok (st, txs) => decide (st.vQty.get (exA, "USD") 0 = 5/2 ∧ valOn exA "USD" txs = 333333332/100000000 ∧
        (match Balance.lookupPrice st.vPrev "USD" with | .ok p => decide (p = 133333333/100000000) | .error _ => false) = true)
    | .error _ => false) = true := by decide +kernel

theorem ex_trace : traceOf exCfg exA "USD" 0 {} exDays =
    [⟨0, 0, []⟩, ⟨0, 1/2, [7/2, -1, 1]⟩, ⟨1/2, 133333333/100000000, []⟩, ⟨133333333/100000000, 133333333/100000000, [-1]⟩] := by
  -- `DayStep` has no decidable equality: compare the triples of the fields
  have hinj : ∀ x y : DayStep, (x.pPrev, x.pCur, x.qs) = (y.pPrev, y.pCur, y.qs) → x = y := fun ⟨_, _, _⟩ ⟨_, _, _⟩ h => by cases h; rfl
  exact (List.map_inj_right hinj).mp (by decide +kernel)

/-- the extracted trace: five steps (four non-zero bookings, one adjustment) -/
example : (traceOf exCfg exA "USD" 0 {} exDays).map (fun d => (d.pPrev, d.pCur, d.qs)) =
    [(0, 0, []), (0, 1/2, [7/2, -1, 1]), (1/2, 133333333/100000000, []), (133333333/100000000, 133333333/100000000, [-1])] := by
  rw [ex_trace]; rfl

example : run {} (traceOf exCfg exA "USD" 0 {} exDays) = { W := 333333332/100000000, Q := 5/2, steps := 5 } := by
  rw [ex_trace]; decide +kernel

example : ∀ d ∈ exDays, Unvalued exA "USD" d.transactions := by
  intro d hd
  simp only [exDays, List.mem_cons, List.not_mem_nil, or_false] at hd
  rcases hd with rfl | rfl | rfl | rfl
  · exact C03_ofBookings_unvalued _ _ _ _ _ _
  · exact C03_ofBookings_unvalued _ _ _ _ _ _
  · intro t ht; cases ht
  · exact C03_ofBookings_unvalued _ _ _ _ _ _

/-- the same journal through the WHOLE pipeline (`Balance.run`: the check accepts it, all days are inside the window):
the report inserts on the position total 3.33333332 -/
example : (match Balance.run exCfg exDays with
    | .ok st => decide (st.vQty.get (exA, "USD") 0 = 5/2 ∧ entryVal exA "USD" st.entries = 333333332/100000000 ∧
        st.entries.length = 10)
    | .error _ => false) = true := by decide +kernel

example : (traceOfRun exCfg exA "USD" 0 {} exDays).map (fun d => (d.pPrev, d.pCur, d.qs)) =
    (traceOf exCfg exA "USD" 0 {} exDays).map (fun d => (d.pPrev, d.pCur, d.qs)) := by rw [ex_trace]; decide +kernel

example : Plain exCfg := ⟨rfl, fun _ => rfl, fun _ => rfl, fun _ => rfl⟩

example : ∀ d ∈ exDays, exCfg.span.contains d.date = true := by decide +kernel

end Knut.C03
