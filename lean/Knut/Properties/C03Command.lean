import Knut.Properties.C03
import Knut.Properties.C03Report
import Knut.Proofs.MTMFlows
/-!
# C03 — the remaining clauses of the property at command level

Missing price ⇒ no number (the run fails, the command prints nothing); the gain account mirrors the adjustments (among
the transactions handed to Query the zero-quantity postings on `Income:<path of a>` against `a` total minus the
adjustments of `(a, c)`, exactly); flows at booking-day prices without closing for an account that is neither
asset/liability nor below `Income` (`C03_command_flow_cell` in `Properties/C03Flows.lean` has closing and the `Income`
accounts as well).  The cell theorems of this file, `C03Report`, `C03Modes` and `C03Flows` all start from `command_cells`
(the rendered row of an account shows the inserts on it aligned into the column) and `command_col` (`Proofs/MTMCommand.lean`).
-/
namespace Knut.C03
open Knut Knut.Dec Knut.MTM Knut.LedgerCommand
open Knut.Table (Cell)

/-- **pipeline level**: on a date-sorted day list, a booking with non-zero quantity in a commodity `≠ V` for which the
declarations dated up to its day yield no normalised price makes the run fail — whatever the window, with or without
closing -/
theorem C03_run_missing_price_fails (cfg : BalCfg) (v : Commodity) (hv : cfg.valuation = some v)
    (days : List Day) (hs : Sorted days) (d : Day) (hd : d ∈ days) (t : Transaction) (ht : t ∈ d.transactions)
    (p : Posting) (hp : p ∈ t.postings) (hq : p.quantity ≠ 0) (hc : p.commodity ≠ v)
    (hmiss : ∀ np, Spec.pricesAt v days d.date = some np → Prices.find p.commodity np = none) :
    ∃ e, Balance.run cfg days = .error e := by
  cases hrun : Balance.run cfg days with
  | error e => exact ⟨e, rfl⟩
  | ok stF =>
    exfalso
    obtain ⟨L1, L2, hsplit⟩ := List.append_of_mem hd
    obtain ⟨txs, hpr, _⟩ := run_pipelineRun cfg days stF hrun
    rw [hsplit] at hpr
    obtain ⟨s1, t1, t2, h1, h2, _⟩ := pipelineRun_append.mp hpr
    obtain ⟨sd, td, _, hq', _, _⟩ := pipelineRun_cons.mp h2
    have hpre : pipelineRun cfg {} (L1 ++ [d]) = .ok (sd, t1 ++ (td ++ [])) :=
      pipelineRun_append.mpr ⟨s1, t1, _, h1, pipelineRun_cons.mpr ⟨sd, td, [], hq', rfl, rfl⟩, rfl⟩
    have R : Reached v (days.filter (fun x => x.date ≤ d.date)) sd := by
      rw [hsplit, sorted_prefix_at L1 L2 d (by rw [← hsplit]; exact hs)]
      exact Reached.of_run hv hpre
    have hnorm : sd.norm = Spec.pricesAt v days d.date := R.price.2.1
    obtain ⟨stp, r, hval, hn⟩ := dayQ_valuate cfg v s1 sd d td hv hq'
    obtain ⟨e, he⟩ := C03_missing_price_fails_day v stp d t p ht hp hq hc (by
      intro np hnp
      apply hmiss
      rw [← hnorm, ← hn]; exact hnp)
    rw [he] at hval
    cases hval

/-- **the command prints no number**: if some transaction of the journal books a non-zero quantity in a commodity other
than `V` for which no price exists on or before the day of the transaction (`Spec.pricesAt` over the journal's own
days has no entry for it), `knut balance -v V` does not succeed: it ends with the processing error, or with the panic of
`NewPartition` (zero window start) which precedes all processing.  For all flags. -/
theorem C03_command_missing_price (f : BalanceFlags) (v : Commodity) (hv : f.valuation = some v)
    (ds : List Directive) (t : Transaction) (ht : Directive.tx t ∈ ds)
    (p : Posting) (hp : p ∈ t.postings) (hq : p.quantity ≠ 0) (hc : p.commodity ≠ v)
    (hmiss : ∀ np, Spec.pricesAt v (Builder.ofList ds).build t.date = some np → Prices.find p.commodity np = none) :
    BalanceCmd.run f ds = .error "processing" ∨ ∃ s, BalanceCmd.run f ds = .panic s := by
  rw [run_eq, entries_eq]
  cases hpart : newPartition (BalanceCmd.window f (Builder.ofList ds)) f.interval f.last with
  | panic s => exact Or.inr ⟨s, rfl⟩
  | ok part =>
    left
    simp only
    obtain ⟨d, hd, hdate, htd⟩ := mem_daysOf_tx f ds part t ht
    obtain ⟨e, he⟩ := C03_run_missing_price_fails (cfgOf f part) v hv (daysOf f ds part) (daysOf_sorted f ds part)
      d hd t htd p hp hq hc (by
        intro np hnp
        apply hmiss
        rw [← pricesAt_daysOf f ds part, ← hdate]; exact hnp)
    rw [he]

/-- … in particular nothing is written to standard output -/
theorem C03_command_missing_price_no_output (f : BalanceFlags) (v : Commodity) (hv : f.valuation = some v)
    (ds : List Directive) (t : Transaction) (ht : Directive.tx t ∈ ds)
    (p : Posting) (hp : p ∈ t.postings) (hq : p.quantity ≠ 0) (hc : p.commodity ≠ v)
    (hmiss : ∀ np, Spec.pricesAt v (Builder.ofList ds).build t.date = some np → Prices.find p.commodity np = none) :
    ∀ out, BalanceCmd.run f ds ≠ .ok out := by
  intro out h
  rcases C03_command_missing_price f v hv ds t ht p hp hq hc hmiss with h1 | ⟨s, h1⟩ <;> rw [h1] at h <;> cases h

/-- in a plain valued report every posting handed to the Query stage becomes exactly one insert: same account, same
commodity, amount = the posting's value, column = `Align` of the transaction date -/
theorem C03_inserts_are_postings (cfg : BalCfg) (hp : Plain cfg) (hv : cfg.valuation.isSome = true) (t : Transaction) :
    Balance.queryTx cfg t = t.postings.map (fun p => ⟨alignIn cfg.periods t.date, p.account, p.commodity, p.value⟩) :=
  queryTx_valued cfg hp hv t

/-- the value on a position is the sum of its booked values (non-zero postings, each `Truncate₈(quantity × price of its
day)`: `C03_flow_valued_at_booking_day`) and of its value adjustments (zero-quantity postings) -/
theorem C03_value_is_booked_plus_adjustments (a : Account) (c : Commodity) (txs : List Transaction) :
    valOn a c txs = sumVal (isBookedOn a c) txs + sumVal (isAdjOn a c) txs := by
  unfold valOn posOn sumVal isBookedOn isAdjOn
  generalize txs.flatMap (·.postings) = ps
  induction ps with
  | nil => simp [Rat.add_zero]
  | cons p rest ih =>
    simp only [List.filter_cons]
    by_cases ho : onPos a c p = true <;> by_cases hq : p.quantity = 0
    · simp only [ho, hq, decide_true, Bool.not_true, Bool.and_false, Bool.and_self, Bool.false_eq_true, if_false, if_true,
        List.map_cons, List.sum_cons, ih]; grind
    · simp only [ho, hq, decide_false, Bool.not_false, Bool.and_true, Bool.and_false, Bool.false_eq_true, if_false, if_true,
        List.map_cons, List.sum_cons, ih]; grind
    · simp only [ho, Bool.false_and, Bool.false_eq_true, if_false, ih]
    · simp only [ho, Bool.false_and, Bool.false_eq_true, if_false, ih]

/-- **the accumulated revaluation gain is booked on the income account that mirrors the account's path**: for every
valued run (any window, closing on or off) on unvalued journal postings, among the transactions handed to the Query
stage the postings on `Income:<path of a>` against `a` (zero quantity, commodity `c`) total
`−(value on (a, c) − Σ booked values on (a, c))` — exactly, no rounding. -/
theorem C03_gain_mirrors_adjustments (cfg : BalCfg) (v : Commodity) (hv : cfg.valuation = some v)
    (days : List Day) (hz : ∀ d ∈ days, ∀ t ∈ d.transactions, ∀ p ∈ t.postings, p.value = 0)
    (a : Account) (c : Commodity) (hal : a.isAL = true)
    (stF : BalState) (txs : List Transaction) (h : pipelineRun cfg {} days = .ok (stF, txs)) :
    sumVal (isGainOf a c) txs = -(valOn a c txs - sumVal (isBookedOn a c) txs) := by
  have hinv0 : CloseInv {} := closeInv_init
  have hsh := pipelineRun_shape cfg v hv days {} stF txs hinv0 hz h
  rw [gain_mirrors a c hal txs hsh, C03_value_is_booked_plus_adjustments a c txs]
  grind

/-- the counter-postings sit on `Income:` + the account's path without its first segment, and nowhere else -/
theorem C03_gain_account_path (a : Account) (c : Commodity) (p : Posting) (h : isGainOf a c p = true) :
    p.account.segments = "Income" :: a.segments.drop 1 ∧ p.other = a ∧ p.commodity = c ∧ p.quantity = 0 := by
  unfold isGainOf at h
  simp only [Bool.and_eq_true, decide_eq_true_eq] at h
  obtain ⟨⟨⟨h1, h2⟩, h3⟩, h4⟩ := h
  exact ⟨by rw [h1]; rfl, h2, h3, h4⟩


/-- **pipeline level, closing off**: for an account that is neither asset/liability nor below `Income` (no value
adjustment is ever booked on it), the inserts aligned to column dates `≤ D` total exactly `Spec.flowAt`: the journal's
bookings on the account dated inside the window up to `D`, each valued `Truncate₈(quantity × normalised price of the
declarations up to ITS OWN day)` (the quantity itself in `V`) -/
theorem C03_flow_window_noclose (cfg : BalCfg) (v : Commodity) (b : Account) (days : List Day) (stF : BalState) (D : Int)
    (hv : cfg.valuation = some v) (hcl : cfg.close = false) (hpl : Plain cfg)
    (hb1 : b.isAL = false) (hb2 : b.segments.head? ≠ some "Income") (hs : Sorted days)
    (hcons : ∀ d ∈ days, ∀ t ∈ d.transactions, t.date = d.date)
    (hz : ∀ d ∈ days, ∀ t ∈ d.transactions, ∀ p ∈ t.postings, p.value = 0)
    (hinc : List.Pairwise (· < ·) (cfg.periods.map (·.stop))) (hD : D ∈ cfg.periods.map (·.stop))
    (hDin : cfg.span.contains D = true)
    (h : Balance.run cfg days = .ok stF) :
    ∃ fl, Spec.flowAt v days b (cfg.span.start - 1) D = some fl ∧ accCum b stF.entries D = fl := by
  obtain ⟨fl, flS, f1, f2, f3⟩ := run_gain_delta_by_account ⟨hs, hcons, hz, hinc, hD, Or.inl rfl, hDin, h⟩ v b hv hcl hpl hb1
  -- no account is mirrored to `b`, and nothing is aligned before the window
  rw [mirrored_nil days b hb2] at f2 f3
  have e : flS = 0 := by cases f2; rfl
  have h0 : accCum b stF.entries (cfg.span.start - 1) = 0 := cumSel_window_eve cfg days stF hs hcons h _
  rw [h0, sub_zero_rat, e] at f3
  exact ⟨fl, f1, f3.trans (by show fl - (0 - 0) = fl; rw [Rat.sub_self, sub_zero_rat])⟩

/-- **the cells of an expense/equity row, `--close=false`**: in a cumulative valued report with per-account rows the
row of an account `b` that is neither asset/liability nor below `Income` shows, in the column of the period end `D`,
exactly `−Spec.flowAt V days b (window start − 1) D` (the income/expense/equity section flips the sign): every booking
valued at the price of its own day, no revaluation afterwards.  Partial in two directions, both stated: closing must be
off, and the account must not be below `Income`.  The full statement (closing on or off, every account other than
`Equity:Equity`, accounts below `Income` with the mirrored adjustments) is `C03_command_flow_cell`
(`Properties/C03Flows.lean`). -/
theorem C03_command_flow_cell_noclose_partial (f : BalanceFlags) (v : Commodity) (hf : PlainFlags f v)
    (hcl : f.close = false) (ds : List Directive)
    (hz : ∀ t, Directive.tx t ∈ ds → ∀ p ∈ t.postings, p.value = 0)
    (es : List Entry) (part : Partition) (h : BalanceCmd.entries f ds = .ok (es, part))
    (b : Account) (hb1 : b.isAL = false) (hb2 : b.segments.head? ≠ some "Income") (hb3 : b.segments ≠ [])
    (hmem : ∃ e ∈ es, e.account = b) :
    ∃ pre post cells,
      (BalanceReport.table (BalanceCmd.renderCfg f part) es).rows =
        pre ++ [Cell.text (b.segments.getLast?.getD "").toList .left ((2 * (b.segments.length - 1) : Nat) : Int) :: cells] ++ post ∧
      cells.length = part.endDates.length ∧
      ∀ (k : Nat) (hk : k < part.endDates.length) (hk' : k < cells.length),
        ∃ fl, Spec.flowAt v (Builder.ofList ds).build b (part.span.start - 1) part.endDates[k] = some fl ∧
          cellVal cells[k] = -fl := by
  obtain ⟨e, he, rfl⟩ := hmem
  obtain ⟨pre, post, cells, hrows, hlen, hcell⟩ := command_cells_plain f v hf.valuation hf.show_ ds es part h e he hb3
  refine ⟨pre, post, cells, hrows, hlen, fun k hk hk' => ?_⟩
  obtain ⟨hpart, st, hrun, rfl⟩ := entries_ok h
  have K := command_col f ds hz part st hpart hrun (List.ne_nil_of_mem he) f.diff k hk
  obtain ⟨fl, h1, h2⟩ := C03_flow_window_noclose (cfgOf f part) v e.account (daysOf f ds part) st part.endDates[k]
    hf.valuation hcl (plain_cfgOf hf part) hb1 hb2 K.sorted K.dated K.unvalued K.inc K.hD K.inside hrun
  rw [flowAt_daysOf] at h1
  refine ⟨fl, h1, ?_⟩
  -- nothing is aligned before the window
  have hz0 : accCum e.account st.entries (part.span.start - 1) = 0 := command_eve_zero f ds part st hrun _
  rw [hcell k hk hk', hb1, if_neg Bool.false_ne_true, h2, hf.diff]
  simp only [eveOf, Bool.false_eq_true, if_false]
  rw [hz0, sub_zero_rat]

theorem ok_of_decide {α β ε : Type} (r : Except ε (α × β)) (P : α → β → Prop) [∀ a b, Decidable (P a b)]
    (h : (match r with | .ok (a, b) => decide (P a b) | .error _ => false) = true) : ∃ a b, r = .ok (a, b) ∧ P a b := by
  cases r with
  | error e => cases h
  | ok ab => exact ⟨ab.1, ab.2, rfl, of_decide_eq_true h⟩

/-- the journal of `C03Report` without the price declaration of day 2: USD is bought on a day on or before which no USD
price exists -/
def exBad : List Directive :=
  [.opening ⟨1, exA⟩, .opening ⟨1, exE⟩,
   .tx (Transaction.ofBookings 1 "cash" none [⟨exE, exA, 100, "CHF"⟩]),
   .tx (Transaction.ofBookings 2 "buy" none [⟨exE, exA, 7/2, "USD"⟩]),
   .price ⟨3, "USD", 1333333333/1000000000, "CHF"⟩]

example : Spec.pricesAt "CHF" (Builder.ofList exBad).build 2 = none := by decide +kernel

/-- … the command fails (although a price is declared the day after) -/
example : BalanceCmd.run { valuation := some "CHF", to := 4 } exBad = .error "processing" := by decide +kernel

/-- the gain account on the journal of `C03Report`, window `[3, 4]`: the adjustment of day 3 (+2.91666665 on
`Assets:A`) is mirrored by −2.91666665 on `Income:A`; value on the position 1.58333332 = booked −1.33333333 + adjustment -/
example : (match pipelineRun exCfgW {} exDays with
    | .ok (_, txs) => decide (sumVal (isGainOf exA "USD") txs = -(291666665/100000000) ∧
        valOn exA "USD" txs = 158333332/100000000 ∧ sumVal (isBookedOn exA "USD") txs = -(133333333/100000000) ∧
        sumVal (isAdjOn exA "USD") txs = 291666665/100000000)
    | .error _ => false) = true := by decide +kernel

example : (valuationAccountFor exA).name = "Income:A" := by decide +kernel

/-- an expense of 1 USD booked on day 2 at 0.5 CHF stays at 0.5 CHF in the column of day 3 although USD is priced
1.33333333 on day 3 (`--close=false`; the section shows it with flipped sign) -/
def exX : Account := ⟨["Expenses", "X"]⟩
def exDirsX : List Directive :=
  [.opening ⟨1, exA⟩, .opening ⟨1, exE⟩, .opening ⟨1, exX⟩,
   .tx (Transaction.ofBookings 1 "cash" none [⟨exE, exA, 100, "CHF"⟩]),
   .price ⟨2, "USD", 1/2, "CHF"⟩,
   .tx (Transaction.ofBookings 2 "buy" none [⟨exE, exA, 1, "USD"⟩]),
   .tx (Transaction.ofBookings 2 "fee" none [⟨exA, exX, 1, "USD"⟩]),
   .price ⟨3, "USD", 1333333333/1000000000, "CHF"⟩]
def exFlagsX : BalanceFlags := { valuation := some "CHF", to := 4, close := false }

example : PlainFlags exFlagsX "CHF" ∧ exFlagsX.close = false ∧ exX.isAL = false ∧ exX.segments.head? ≠ some "Income" :=
  ⟨⟨rfl, rfl, rfl, rfl, fun _ => rfl, fun _ => rfl, fun _ => rfl⟩, rfl, by decide, by decide⟩

theorem exDirsX_zero : ∀ t, Directive.tx t ∈ exDirsX → ∀ p ∈ t.postings, p.value = 0 := by
  intro t ht
  simp only [exDirsX, List.mem_cons, List.not_mem_nil, or_false, reduceCtorEq, false_or, Directive.tx.injEq] at ht
  rcases ht with rfl | rfl | rfl <;> exact ofBookings_zero _ _ _ _

theorem exX_flow : Spec.flowAt "CHF" (Builder.ofList exDirsX).build exX 0 3 = some (1/2) := by decide +kernel

example : Spec.flowAt "CHF" (Builder.ofList exDirsX).build exX 0 3 = some (1/2) := exX_flow

/-- the command produces the report (one column, period end day 3, window start day 1, an insert on `Expenses:X`), so
`C03_command_flow_cell_noclose_partial` applies: the row of `X` exists and its cell shows −0.5.  (The table itself is not
evaluated here: the kernel cannot unfold `List.mergeSort` on the two top-level accounts of the second section.) -/
example : ∃ es part, BalanceCmd.entries exFlagsX exDirsX = .ok (es, part) ∧ part.endDates = [3] ∧ part.span.start = 1 ∧
    ∃ e ∈ es, e.account = exX :=
  ok_of_decide _ _ (by decide +kernel)

open Knut.Table (Cell) in
example (es : List Entry) (part : Partition) (h : BalanceCmd.entries exFlagsX exDirsX = .ok (es, part))
    (h1 : part.endDates = [3]) (h2 : part.span.start = 1) (h3 : ∃ e ∈ es, e.account = exX) :
    ∃ pre post cells,
      (BalanceReport.table (BalanceCmd.renderCfg exFlagsX part) es).rows =
        pre ++ [Cell.text "X".toList .left 2 :: cells] ++ post ∧
      ∃ (hk : 0 < cells.length), cellVal cells[0] = -(1/2) := by
  obtain ⟨pre, post, cells, r1, r2, r3⟩ := C03_command_flow_cell_noclose_partial exFlagsX "CHF"
    ⟨rfl, rfl, rfl, rfl, fun _ => rfl, fun _ => rfl, fun _ => rfl⟩ rfl exDirsX exDirsX_zero es part h exX
    (by decide) (by decide) (by decide) h3
  refine ⟨pre, post, cells, r1, ?_⟩
  have hlen : cells.length = 1 := by rw [r2, h1]; rfl
  have hk : 0 < part.endDates.length := by rw [h1]; decide
  obtain ⟨fl, f1, f2⟩ := r3 0 hk (by omega)
  have e0 : part.endDates[0] = 3 := by simp only [h1, List.getElem_cons_zero]
  rw [e0, h2] at f1
  have : Spec.flowAt "CHF" (Builder.ofList exDirsX).build exX (1 - 1) 3 = some (1/2) := exX_flow
  rw [this] at f1
  injection f1 with f1
  exact ⟨by omega, by rw [f2, ← f1]⟩

end Knut.C03
