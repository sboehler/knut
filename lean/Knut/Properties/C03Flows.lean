import Knut.Proofs.MTMPeriods
import Knut.Proofs.MTMClose
import Knut.Properties.C03Modes
import Knut.Properties.C03Command
import Knut.Properties.C01
/-!
# C03 — the flow clause at cell level: every income/expense/equity account, closing on or off

Without closing the row of ANY account `b` that is not asset/liability changes over `(F, D]` by
`Spec.flowAt b − (Σ_{a ∈ S} Δ(a) − Spec.flowOver S)`, `S = Spec.mirrored days b` the journal's asset/liability accounts whose
value adjustments are booked on `b` (`Income:<path>`; empty for every other account): its own bookings at the price of
their booking day, minus the value adjustments of the mirrored accounts, exactly — the formula the monitor
`gain_on_mirror_account` evaluates.  With closing the valued transfer at a period start removes everything booked on a
closable account before it, so a column shows the flows and gains of its own period (`C03_close_period`);
`C03_command_flow_cell` is both at cell level.
-/
namespace Knut.C03
open Knut Knut.Dec Knut.MTM Knut.LedgerCommand
open Knut.Table (Cell)

theorem cancel_arith (x y : Rat) : x + (y + -(0 + x)) = y := by grind

/-- **pipeline level, closing off: the row of any non-A/L account `b` over `(F, D]`.**  With `S = Spec.mirrored days b` the journal's
asset/liability accounts whose value adjustments are booked on `b` (none unless `b` is below `Income`):
`Δ(b) = flow(b) − (Σ_{a ∈ S} Δ(a) − Σ_{a ∈ S} flow(a))` — the bookings on `b` at booking-day prices, minus the value
adjustments (change of value minus booked value) of the mirrored accounts.  Exact. -/
theorem C03_gain_delta_noclose (cfg : BalCfg) (v : Commodity) (b : Account) (days : List Day) (stF : BalState) (F D : Int)
    (hv : cfg.valuation = some v) (hcl : cfg.close = false) (hpl : Plain cfg) (hb : b.isAL = false) (hs : Sorted days)
    (hcons : ∀ d ∈ days, ∀ t ∈ d.transactions, t.date = d.date)
    (hz : ∀ d ∈ days, ∀ t ∈ d.transactions, ∀ p ∈ t.postings, p.value = 0)
    (hinc : List.Pairwise (· < ·) (cfg.periods.map (·.stop))) (hD : D ∈ cfg.periods.map (·.stop))
    (hF : IsEve cfg F D) (hDin : cfg.span.contains D = true)
    (h : Balance.run cfg days = .ok stF) :
    ∃ fl flS, Spec.flowAt v days b F D = some fl ∧ Spec.flowOver v days (Spec.mirrored days b) F D = some flS ∧
      accCum b stF.entries D - accCum b stF.entries F =
        fl - (((Spec.mirrored days b).map (fun a => accCum a stF.entries D - accCum a stF.entries F)).sum - flS) :=
  run_gain_delta_by_account ⟨hs, hcons, hz, hinc, hD, hF, hDin, h⟩ v b hv hcl hpl hb

/-- an account that is not below `Income` mirrors no asset/liability account: its row shows exactly its flow -/
theorem C03_mirrored_nil (days : List Day) (b : Account) (hb : b.segments.head? ≠ some "Income") :
    Spec.mirrored days b = [] :=
  mirrored_nil days b hb

/-- **pipeline level, closing on: the closing run against the run without closing.**  For a plain valued configuration with closing, a date-sorted
day list and a period `[s, D]` of the partition whose start `s` is the date of a day (the command adds such days) and
such that no other period starts inside `(s, D]`: the run without closing succeeds on the same days, has the same
inserts on asset/liability accounts, and the cumulative value of a closable account `b` (income, expenses, equity
other than `Equity:Equity`) in the column of `D` is, in terms of the run WITHOUT closing, its cumulative value at `D`
minus its cumulative value at `s − 1`: the closing transfer on day `s` removes everything booked before `s`. -/
theorem C03_close_period (cfg : BalCfg) (v : Commodity) (hv : cfg.valuation = some v) (hcl : cfg.close = true)
    (hpl : Plain cfg) (days : List Day) (hs : Sorted days)
    (hcons : ∀ d ∈ days, ∀ t ∈ d.transactions, t.date = d.date)
    (hinc : List.Pairwise (· < ·) (cfg.periods.map (·.stop)))
    (st : BalState) (h : Balance.run cfg days = .ok st) :
    ∃ stN, Balance.run (noClose cfg) days = .ok stN ∧
      (∀ (sel : Entry → Bool), (∀ e, sel e = true → e.account.isAL = true) → st.entries.filter sel = stN.entries.filter sel) ∧
      ∀ (s D : Int), D ∈ cfg.periods.map (·.stop) → s ≤ D → s ∈ days.map (·.date) →
        (cfg.periods.map (·.start)).contains s = true →
        (∀ x ∈ cfg.periods.map (·.start), x ≤ s ∨ D < x) → IsEve cfg (s - 1) D → cfg.span.contains D = true →
        ∀ (b : Account), Spec.closable b = true →
          accCum b st.entries D = accCum b stN.entries D - accCum b stN.entries (s - 1) := by
  have hvs : cfg.valuation.isSome = true := by rw [hv]; rfl
  obtain ⟨txs, hp, he⟩ := run_pipelineRun cfg days st h
  obtain ⟨stN, raw, hpN, _, _, hAL, _⟩ :=
    pipelineRun_parallel cfg v hv hcl hpl days {} st {} txs (cEq_refl _) closeInv_init hp
  have hrunN : Balance.run (noClose cfg) days = .ok stN := run_of_pipelineRun (noClose cfg) days stN raw hpN
  have heN : stN.entries = raw.flatMap (Balance.queryTx cfg) := by
    have := pipelineRun_entries (noClose cfg) days {} stN raw hpN
    rw [this]; rfl
  refine ⟨stN, hrunN, fun sel hsel => by rw [he, heN]; exact hAL sel hsel, ?_⟩
  intro s D hD hsD hsday hstart hnostart hF hDin b hb
  have hplN : Plain (noClose cfg) := plain_noClose hpl
  obtain ⟨_, hFD, _⟩ := hF.le hDin
  have hs1 : s - 1 + 1 = s := by omega
  -- both runs cut at the eve and the end of the period: the same days
  obtain ⟨A, B, C, stA, stB, tA, tB, tC, S⟩ := run_splitAt cfg days st (s - 1) D hFD hs h
  obtain ⟨A', B', C', stAN, stBN, rawA, rawB, rawC, SN⟩ := run_splitAt (noClose cfg) days stN (s - 1) D hFD hs hrunN
  obtain rfl : A = A' := S.upToF.symm.trans SN.upToF
  obtain rfl : B = B' := S.between.symm.trans SN.between
  -- the period is the day of `s` followed by days on which no period starts
  obtain ⟨d, Q, rfl, hds, hQ⟩ := S.head_start hs (by rw [hs1]; exact hsday) (by omega)
  rw [hs1] at hds hQ
  obtain ⟨std, td, tQ, hd1, hQ1, rfl⟩ := pipelineRun_cons.mp S.runB
  obtain ⟨sdN, rawd, rawQ, hdN, hQN, rfl⟩ := pipelineRun_cons.mp SN.runB
  -- the run without closing is the closing run without the closing transactions, part by part
  obtain ⟨_, _, hAN, cA, iA, _, _⟩ :=
    pipelineRun_parallel cfg v hv hcl hpl A {} stA {} tA (cEq_refl _) closeInv_init S.runA
  rw [SN.runA] at hAN
  injection hAN with hAN; injection hAN with e1 e2; subst e1; subst e2
  obtain ⟨_, _, hqN, cd, htd⟩ := dayQ_parallel cfg hcl stA std stAN d td cA hd1
  rw [hdN] at hqN
  injection hqN with hqN; injection hqN with e1 e2; subst e1; subst e2
  obtain ⟨_, _, hQN', _, _, _, sQ⟩ :=
    pipelineRun_parallel cfg v hv hcl hpl Q std stB sdN tQ cd (dayQ_closeInv iA hd1) hQ1
  rw [hQN] at hQN'
  injection hQN' with hQN'; injection hQN' with _ e2; subst e2
  have hQsame : rawQ = tQ := by
    apply sQ
    intro x hx
    have q1 := hQ x hx
    have q2 := (S.memB x (List.mem_cons_of_mem _ hx)).2.2
    cases hc : (cfg.periods.map (·.start)).contains x.date with
    | false => rfl
    | true =>
      exfalso
      have hm : x.date ∈ cfg.periods.map (·.start) := by simpa using hc
      rcases hnostart _ hm with h1 | h1 <;> omega
  -- the closing transfer of day `s` takes off `b` what was booked on it before
  obtain ⟨kA, vA⟩ := run_cval cfg hcl A {} stA tA keyInv_init S.runA
  have hpos : ∀ c, valOn b c (tA ++ td) = valOn b c rawd := by
    intro c
    rw [valOn_append, htd, valOn_append, closingsOf_valOn cfg stA d kA (by rw [hds]; exact hstart) b c hb, vA b c hb]
    exact cancel_arith _ _
  have hsum := sumVal_congr_positions b (tA ++ td) rawd hpos
  -- the column of `D`: everything inserted up to `D` with closing; the inserts of the period without
  have c1 : accCum b st.entries D = sumVal (accSel b) (tA ++ td) + sumVal (accSel b) tQ := by
    rw [accCum_eq_cumSel, S.cum_at_end hFD hcons hinc hD, total_flatMap_acc cfg hpl hvs (fun a => decide (a = b)),
      total_flatMap_acc cfg hpl hvs (fun a => decide (a = b)), sumVal_append, sumVal_append]
    exact (Rat.add_assoc _ _ _).symm
  have c2 := SN.plain_delta hplN hvs hcons hinc hD hF hDin (fun a => decide (a = b))
  rw [sumVal_append] at c2
  rw [accCum_eq_qCum b stN.entries, accCum_eq_qCum b stN.entries, c2, c1, hsum, hQsame]
  rfl

/-- the running total subtracted in column `k`: the previous column's in a `--diff` report, nothing otherwise -/
def prevCum (diff : Bool) (a : Account) (es : List Entry) (ends : List Int) (k : Nat) : Rat :=
  if diff then (match k with | 0 => 0 | j + 1 => accCum a es (ends.getD j 0)) else 0

/-- nothing being aligned before the window, the running total at the eve of a column is what is subtracted in it -/
theorem accCum_eveOf (a : Account) (es : List Entry) (ends : List Int) (start : Int) (hz : accCum a es (start - 1) = 0)
    (diff : Bool) (k : Nat) : accCum a es (eveOf diff start ends k) = prevCum diff a es ends k := by
  unfold eveOf prevCum
  cases diff with
  | false => exact hz
  | true => cases k with
    | zero => exact hz
    | succ j => rfl

/-- **what the cells of a per-account row show.**  In every valued report with per-account rows (cumulative or
`--diff`, closing on or off) the row of an account `a` with an insert exists — in the asset/liability section as it is,
in the income/expense/equity section with the sign flipped — and its cell in column `k` is the sum of the inserts on `a`
aligned to column dates `≤ D_k` (`accCum`), minus, in a `--diff` report, the same for the previous column. -/
theorem C03_command_row_shows (f : BalanceFlags) (v : Commodity) (hf : RowFlags f v)
    (ds : List Directive) (es : List Entry) (part : Partition) (h : BalanceCmd.entries f ds = .ok (es, part))
    (a : Account) (hne : a.segments ≠ []) (hmem : ∃ e ∈ es, e.account = a) :
    ∃ pre post cells,
      (BalanceReport.table (BalanceCmd.renderCfg f part) es).rows =
        pre ++ [Cell.text (a.segments.getLast?.getD "").toList .left ((2 * (a.segments.length - 1) : Nat) : Int) :: cells] ++ post ∧
      cells.length = part.endDates.length ∧
      ∀ (k : Nat) (hk : k < part.endDates.length) (hk' : k < cells.length),
        cellVal cells[k] = (if a.isAL then (accCum a es part.endDates[k] - prevCum f.diff a es part.endDates k)
          else -(accCum a es part.endDates[k] - prevCum f.diff a es part.endDates k)) := by
  obtain ⟨e, he, rfl⟩ := hmem
  obtain ⟨pre, post, cells, hrows, hlen, hcell⟩ := command_cells_plain f v hf.valuation hf.show_ ds es part h e he hne
  refine ⟨pre, post, cells, hrows, hlen, fun k hk hk' => ?_⟩
  obtain ⟨hpart, st, hrun, rfl⟩ := entries_ok h
  rw [hcell k hk hk', accCum_eveOf e.account st.entries part.endDates part.span.start (command_eve_zero f ds part st hrun _)]

/-- the eve of the flows shown in column `k` of a cumulative report: the day before the window start without closing;
with closing the eve of the period (the previous period end, or the day before the window start for the first column) -/
def flowEve (f : BalanceFlags) (part : Partition) (k : Nat) : Int :=
  if f.close then colEve part k else part.span.start - 1

/-- **the cells of an income/expense/equity row, closing on or off.**  In a cumulative valued report with per-account
rows, for every directive list whose postings arrive unvalued: the row of an account `b` that is not asset/liability —
and, with closing, is not `Equity:Equity` — exists whenever `b` has an insert, and its cell in column `k` is

`−(flow(b) − (Σ_{a ∈ S} (shown(a, D_k) − shown(a, F_k)) − flow(S)))`,

all flows over `(F_k, D_k]` at booking-day prices (`Spec.flowAt`, `Spec.flowOver`), `S = Spec.mirrored days b` the
journal's asset/liability accounts whose value adjustments are booked on `b` (empty unless `b` is `Income:<path>`:
`C03_mirrored_nil`), `shown(a, X) = accCum a es X` the value the row of `a` shows in the column of `X`
(`C03_command_row_shows`; 0 for `X` before the window).  `F_k` is the eve of the window without closing; WITH closing it
is the eve of period `k`: the valued closing transfers to `Equity:Equity` at every period start have removed the
earlier periods, the column shows the flows and the gains of its own period only.  With closing and `--last n` the
first column is excluded (its period does not start at the window start, the transfer on its first day has no column
to be read against).  `b.segments ≠ []`: the account without a segment is the root of the report tree and has no row of its own
(`table_has_row`); an asset/liability account has a segment by its type (`isAL_segments_ne`), here it is assumed. -/
theorem C03_command_flow_cell (f : BalanceFlags) (v : Commodity) (hf : PlainFlags f v) (ds : List Directive)
    (hz : ∀ t, Directive.tx t ∈ ds → ∀ p ∈ t.postings, p.value = 0)
    (es : List Entry) (part : Partition) (h : BalanceCmd.entries f ds = .ok (es, part))
    (b : Account) (hb1 : b.isAL = false) (hb3 : b.segments ≠ []) (hbe : f.close = true → b ≠ equityAccount)
    (hmem : ∃ e ∈ es, e.account = b) :
    ∃ pre post cells,
      (BalanceReport.table (BalanceCmd.renderCfg f part) es).rows =
        pre ++ [Cell.text (b.segments.getLast?.getD "").toList .left ((2 * (b.segments.length - 1) : Nat) : Int) :: cells] ++ post ∧
      cells.length = part.endDates.length ∧
      ∀ (k : Nat) (hk : k < part.endDates.length) (hk' : k < cells.length), (f.close = true → k = 0 → f.last ≤ 0) →
        ∃ fl flS, Spec.flowAt v (Builder.ofList ds).build b (flowEve f part k) part.endDates[k] = some fl ∧
          Spec.flowOver v (Builder.ofList ds).build (Spec.mirrored (Builder.ofList ds).build b)
            (flowEve f part k) part.endDates[k] = some flS ∧
          cellVal cells[k] = -(fl - (((Spec.mirrored (Builder.ofList ds).build b).map (fun a =>
            accCum a es part.endDates[k] - accCum a es (flowEve f part k))).sum - flS)) := by
  obtain ⟨hpart, st, hrun, rfl⟩ := entries_ok h
  obtain ⟨e, he, rfl⟩ := hmem
  have hcv : (cfgOf f part).valuation = some v := hf.valuation
  have hpl := plain_cfgOf hf part
  obtain ⟨hinc, hin', _⟩ := command_setup f ds part st hpart hrun (List.ne_nil_of_mem he)
  obtain ⟨pre, post, cells, hrows, hlen, hcell⟩ :=
    command_cells_plain f v hf.valuation hf.show_ ds st.entries part h e he hb3
  refine ⟨pre, post, cells, hrows, hlen, ?_⟩
  intro k hk hk' hk0
  have hDmem : part.endDates[k] ∈ part.endDates := List.getElem_mem hk
  have hDin := hin' _ hDmem
  have hsorted := daysOf_sorted f ds part
  have hcons := daysOf_consistent f ds part
  have hzero := daysOf_zero f ds part hz
  -- the cell is minus the running total: nothing is aligned before the window
  have hz0 : accCum e.account st.entries (part.span.start - 1) = 0 := command_eve_zero f ds part st hrun _
  rw [hcell k hk hk', hb1, if_neg Bool.false_ne_true, hf.diff]
  simp only [eveOf, Bool.false_eq_true, if_false]
  rw [hz0, sub_zero_rat]
  -- the specification's terms on the days the command runs on
  simp only [← flowAt_daysOf f ds part, ← mirrored_daysOf f ds part, ← flowOver_daysOf f ds part]
  cases hcl : f.close with
  | false =>
    have hccl : (cfgOf f part).close = false := hcl
    have hev : flowEve f part k = part.span.start - 1 := by unfold flowEve; rw [hcl]; rfl
    rw [hev]
    obtain ⟨fl, flS, g1, g2, g3⟩ := C03_gain_delta_noclose (cfgOf f part) v e.account (daysOf f ds part) st
      (part.span.start - 1) part.endDates[k] hcv hccl hpl hb1 hsorted hcons hzero hinc hDmem (Or.inl rfl) hDin hrun
    refine ⟨fl, flS, g1, g2, ?_⟩
    rw [hz0, sub_zero_rat] at g3
    rw [g3]
  | true =>
    have hccl : (cfgOf f part).close = true := hcl
    have hev : flowEve f part k = colEve part k := by unfold flowEve; rw [hcl]; rfl
    rw [hev]
    have hclosable : Spec.closable e.account = true := by
      rw [LedgerClose.closable_iff]
      exact ⟨by rw [hb1]; simp, hbe hcl⟩
    obtain ⟨stN, hrunN, hAL, hper⟩ := C03_close_period (cfgOf f part) v hcv hccl hpl (daysOf f ds part) hsorted hcons hinc st hrun
    obtain ⟨p1, p2, p3⟩ := period_facts hpart k hk
    -- the period start and its eve
    have hsE : periodStart part k - 1 = colEve part k := by
      cases k with
      | zero =>
        have := first_start hpart (hk0 hcl rfl) hk
        rw [this]; rfl
      | succ j =>
        rw [p3 j rfl]
        unfold colEve
        simp only
        omega
    have hFeve : IsEve (cfgOf f part) (periodStart part k - 1) part.endDates[k] := by
      rw [hsE]
      have := eveOf_isEve (cfgOf f part) part.endDates rfl hinc hin' true k hk
      unfold eveOf at this
      simp only [if_true] at this
      unfold colEve
      exact this
    have hsD : periodStart part k ≤ part.endDates[k] := by
      rcases hFeve with e1 | ⟨_, e2, _⟩
      · unfold Period.contains at hDin
        have : ¬ (part.endDates[k] < (cfgOf f part).span.start) ∧ ¬ (part.endDates[k] > (cfgOf f part).span.stop) := by
          simpa using hDin
        omega
      · omega
    have hsday : periodStart part k ∈ (daysOf f ds part).map (·.date) := by
      apply daysOf_starts f hcl ds part
      have : periodStart part k ∈ part.periods.map (·.start) := by simpa using p1
      exact this
    have hcell2 := hper (periodStart part k) part.endDates[k] hDmem hsD hsday p1 p2 hFeve hDin e.account hclosable
    obtain ⟨fl, flS, g1, g2, g3⟩ := C03_gain_delta_noclose (noClose (cfgOf f part)) v e.account (daysOf f ds part) stN
      (periodStart part k - 1) part.endDates[k] hcv rfl (plain_noClose hpl) hb1 hsorted hcons hzero hinc hDmem hFeve hDin hrunN
    rw [hsE] at g1 g2 g3 hcell2
    refine ⟨fl, flS, g1, g2, ?_⟩
    rw [hcell2, g3]
    -- the asset/liability rows are the same in both runs
    have hsame : ∀ a ∈ Spec.mirrored (daysOf f ds part) e.account, ∀ X, accCum a stN.entries X = accCum a st.entries X := by
      intro a ha X
      rw [accCum_def, accCum_def, hAL (fun e => decide (e.account = a) && dateLe X e) (fun e he => by
        simp only [Bool.and_eq_true, decide_eq_true_eq] at he
        rw [he.1]; exact mirror_isAL (mem_mirrored.mp ha).2)]
    rw [List.map_congr_left (fun a ha => by rw [hsame a ha, hsame a ha])]

/-- **`Equity:Equity` is the residual.**  The closing transfers are booked inside the income/expense/equity section
(`−value` on the closed account, `+value` on `Equity:Equity`), so they do not change the section's total; by double-entry
conservation (C01) all inserts aligned to column dates `≤ D` sum to 0, hence the running total of `Equity:Equity` is
minus the running total of all other accounts: with closing it carries, besides its own bookings, exactly what the
closing transfers took off the other income/expense/equity rows. -/
theorem C03_equity_equity_residual (cfg : BalCfg) (hu : Unfiltered cfg) (days : List Day) (hp : C01.PairedDays days)
    (st : BalState) (h : Balance.run cfg days = .ok st) (D : Int) :
    accCum equityAccount st.entries D = -(qCum (fun a => !decide (a = equityAccount)) st.entries D) := by
  have h0 := C01.C01_entries_cancel cfg hu days hp st h (fun date _ => match date with | some D' => decide (D' ≤ D) | none => false)
  have hsplit : sumSel (fun date _ => match date with | some D' => decide (D' ≤ D) | none => false) st.entries =
      accCum equityAccount st.entries D + qCum (fun a => !decide (a = equityAccount)) st.entries D := by
    rw [accCum_def]
    unfold qCum sumSel
    generalize st.entries = es
    have := BalanceReport.sumAmounts_filter_or (fun e => decide (e.account = equityAccount) && dateLe D e)
      (fun e => !decide (e.account = equityAccount) && dateLe D e) es (fun e _ hc => by
        obtain ⟨h1, h2⟩ := hc
        simp only [Bool.and_eq_true, decide_eq_true_eq, Bool.not_eq_true', decide_eq_false_iff_not] at h1 h2
        exact h2.1 h1.1)
    rw [← this]
    refine BalanceReport.sumAmounts_filter_congr (fun e _ => ?_)
    unfold dateLe
    by_cases he : e.account = equityAccount <;> simp [he] <;> rfl
  rw [hsplit] at h0
  grind

/-! ### Non-vacuity

The journal of `Properties/C03Report.lean`, daily columns from day 2 to day 4, valued in CHF.  `Income:A` has no booking
of its own; it mirrors `Assets:A`, whose row shows 1.75, 4.66666665, 3.33333332 and whose bookings at booking-day prices
are 1.75 (3.5 USD at 0.5 on day 2) and −1.33333333 (1 USD at 1.33333333 on day 4).

* `--close=false`: `Income:A` shows 0, 2.91666665, 2.91666665 = `(4.66666665 − 0) − 1.75`, `(3.33333332 − 0) − 0.41666667`.
* with closing: 0, 2.91666665, 0 — the gain of day 3 `(4.66666665 − 1.75) − 0` is transferred to `Equity:Equity` on day 4,
  whose own period has `(3.33333332 − 4.66666665) − (−1.33333333) = 0`.  `Equity:E` shows 1.75, 0, −1.33333333: the
  bookings of each period only. -/

def exI : Account := ⟨["Income", "A"]⟩
def exFlagsN : BalanceFlags := { valuation := some "CHF", from? := some 2, to := 4, interval := .daily, close := false }
def exFlagsC : BalanceFlags := { valuation := some "CHF", from? := some 2, to := 4, interval := .daily, close := true }

example : PlainFlags exFlagsN "CHF" ∧ PlainFlags exFlagsC "CHF" ∧ exI.isAL = false ∧ exI ≠ equityAccount ∧ exI.segments ≠ [] :=
  ⟨⟨rfl, rfl, rfl, rfl, fun _ => rfl, fun _ => rfl, fun _ => rfl⟩, ⟨rfl, rfl, rfl, rfl, fun _ => rfl, fun _ => rfl, fun _ => rfl⟩,
    by decide, by decide, by decide⟩

/-- the facts about a flag vector and the example journal that the kernel evaluates (everything except the table: it
cannot unfold `List.mergeSort` on the two top-level accounts of the second section) -/
def exFacts (f : BalanceFlags) (eves : List Int) (flS : List (Option Rat)) (flE : List (Option Rat)) : Prop :=
  ∃ es part, BalanceCmd.entries f exDirs = .ok (es, part) ∧ part.endDates = [2, 3, 4] ∧
    (∃ e ∈ es, e.account = exI) ∧ (∃ e ∈ es, e.account = exE) ∧
    Spec.mirrored (Builder.ofList exDirs).build exI = [exA] ∧
    [0, 1, 2].map (flowEve f part) = eves ∧
    (eves.zip [2, 3, 4]).map (fun x => Spec.flowAt "CHF" (Builder.ofList exDirs).build exI x.1 x.2) = [some 0, some 0, some 0] ∧
    (eves.zip [2, 3, 4]).map (fun x => Spec.flowOver "CHF" (Builder.ofList exDirs).build [exA] x.1 x.2) = flS ∧
    (eves.zip [2, 3, 4]).map (fun x => Spec.flowAt "CHF" (Builder.ofList exDirs).build exE x.1 x.2) = flE ∧
    [1, 2, 3, 4].map (accCum exA es) = [0, 7/4, 466666665/100000000, 333333332/100000000]

/-- `--close=false`: flows over `(1, D]`; the bookings on `Assets:A` at booking-day prices total 1.75, 1.75, 0.41666667 -/
theorem exFactsN : exFacts exFlagsN [1, 1, 1] [some (7/4), some (7/4), some (41666667/100000000)]
    [some (-(7/4)), some (-(7/4)), some (-(41666667/100000000))] :=
  ok_of_decide _ _ (by decide +kernel)

/-- with closing: flows over `(1, 2]`, `(2, 3]`, `(3, 4]` -/
theorem exFactsC : exFacts exFlagsC [1, 2, 3] [some (7/4), some 0, some (-(133333333/100000000))]
    [some (-(7/4)), some 0, some (133333333/100000000)] :=
  ok_of_decide _ _ (by decide +kernel)

theorem exDirs_zero : ∀ t, Directive.tx t ∈ exDirs → ∀ p ∈ t.postings, p.value = 0 := by
  intro t ht
  simp only [exDirs, List.mem_cons, List.not_mem_nil, or_false, reduceCtorEq, false_or, Directive.tx.injEq] at ht
  rcases ht with rfl | rfl | rfl <;> exact ofBookings_zero _ _ _ _

/-- the row of `Income:A` on the example journal, from the evaluated facts: `Income:A` has no booking of its own, so
its cell in column `k` is the change of the row of `Assets:A` over `(e_k, D_k]` minus the flow `s_k` of `Assets:A` -/
theorem exRow (f : BalanceFlags) (hf : PlainFlags f "CHF") (hl : f.close = true → f.last ≤ 0)
    (e0 e1 e2 : Int) (s0 s1 s2 : Rat) (flE : List (Option Rat))
    (hfacts : exFacts f [e0, e1, e2] [some s0, some s1, some s2] flE) :
    ∃ es part pre post cells, BalanceCmd.entries f exDirs = .ok (es, part) ∧
      (BalanceReport.table (BalanceCmd.renderCfg f part) es).rows =
        pre ++ [Cell.text "A".toList .left 2 :: cells] ++ post ∧
      cells.map cellVal = [-(0 - ((accCum exA es 2 - accCum exA es e0 + 0) - s0)),
        -(0 - ((accCum exA es 3 - accCum exA es e1 + 0) - s1)), -(0 - ((accCum exA es 4 - accCum exA es e2 + 0) - s2))] ∧
      [1, 2, 3, 4].map (accCum exA es) = [0, 7/4, 466666665/100000000, 333333332/100000000] := by
  obtain ⟨es, part, he, hends, hI, _, hmir, heve, hfI, hfS, _, hacc⟩ := hfacts
  obtain ⟨pre, post, cells, r1, r2, r3⟩ := C03_command_flow_cell f "CHF" hf exDirs exDirs_zero es part he exI (by decide)
    (by decide) (fun _ => by decide) hI
  have hlen : cells.length = 3 := by rw [r2, hends]; rfl
  simp only [List.map_cons, List.map_nil, List.cons.injEq, and_true] at heve
  obtain ⟨v0, v1, v2⟩ := heve
  simp only [List.zip_cons_cons, List.zip_nil_right, List.map_cons, List.map_nil, List.cons.injEq, and_true] at hfI hfS
  obtain ⟨i0, i1, i2⟩ := hfI
  obtain ⟨t0, t1, t2⟩ := hfS
  -- column `k`: the two flows are the evaluated ones
  have col : ∀ (k : Nat) (hk3 : k < 3) (ev D : Int) (sk : Rat),
      flowEve f part k = ev → part.endDates[k]'(hends ▸ hk3) = D →
      Spec.flowAt "CHF" (Builder.ofList exDirs).build exI ev D = some 0 →
      Spec.flowOver "CHF" (Builder.ofList exDirs).build [exA] ev D = some sk →
      cellVal (cells[k]'(hlen ▸ hk3)) = -(0 - ((accCum exA es D - accCum exA es ev + 0) - sk)) := by
    intro k hk3 ev D sk hev hD hfl hflS
    obtain ⟨fl, flS, g1, g2, g3⟩ := r3 k (hends ▸ hk3) (hlen ▸ hk3) (fun hc _ => hl hc)
    rw [hmir] at g2 g3
    rw [hev, hD] at g1 g2 g3
    rw [hfl] at g1; rw [hflS] at g2
    injection g1 with g1; injection g2 with g2; subst g1; subst g2
    exact g3
  have h0 := col 0 (by decide) e0 2 s0 v0 (by simp only [hends, List.getElem_cons_zero]) i0 t0
  have h1 := col 1 (by decide) e1 3 s1 v1 (by simp only [hends, List.getElem_cons_succ, List.getElem_cons_zero]) i1 t1
  have h2 := col 2 (by decide) e2 4 s2 v2 (by simp only [hends, List.getElem_cons_succ, List.getElem_cons_zero]) i2 t2
  clear r3 col
  match cells, hlen, r1, h0, h1, h2 with
  | [c0, c1, c2], _, r1, h0, h1, h2 =>
    refine ⟨es, part, pre, post, [c0, c1, c2], he, r1, ?_, hacc⟩
    rw [← h0, ← h1, ← h2]
    rfl

/-- the row of `Income:A` without closing: 0, 2.91666665, 2.91666665 -/
example : ∃ es part pre post cells, BalanceCmd.entries exFlagsN exDirs = .ok (es, part) ∧
    (BalanceReport.table (BalanceCmd.renderCfg exFlagsN part) es).rows =
      pre ++ [Cell.text "A".toList .left 2 :: cells] ++ post ∧
    cells.map cellVal = [0, 291666665/100000000, 291666665/100000000] := by
  obtain ⟨es, part, pre, post, cells, he, r1, r2, hacc⟩ := exRow exFlagsN
    ⟨rfl, rfl, rfl, rfl, fun _ => rfl, fun _ => rfl, fun _ => rfl⟩ (fun h => by cases h) _ _ _ _ _ _ _ exFactsN
  refine ⟨es, part, pre, post, cells, he, r1, ?_⟩
  simp only [List.map_cons, List.map_nil, List.cons.injEq, and_true] at hacc
  obtain ⟨a1, a2, a3, a4⟩ := hacc
  rw [r2, a1, a2, a3, a4]
  decide +kernel

/-- the row of `Income:A` WITH closing: 0, 2.91666665, 0 — every column shows the gain of its own period -/
example : ∃ es part pre post cells, BalanceCmd.entries exFlagsC exDirs = .ok (es, part) ∧
    (BalanceReport.table (BalanceCmd.renderCfg exFlagsC part) es).rows =
      pre ++ [Cell.text "A".toList .left 2 :: cells] ++ post ∧
    cells.map cellVal = [0, 291666665/100000000, 0] := by
  obtain ⟨es, part, pre, post, cells, he, r1, r2, hacc⟩ := exRow exFlagsC
    ⟨rfl, rfl, rfl, rfl, fun _ => rfl, fun _ => rfl, fun _ => rfl⟩ (fun _ => by decide) _ _ _ _ _ _ _ exFactsC
  refine ⟨es, part, pre, post, cells, he, r1, ?_⟩
  simp only [List.map_cons, List.map_nil, List.cons.injEq, and_true] at hacc
  obtain ⟨a1, a2, a3, a4⟩ := hacc
  rw [r2, a1, a2, a3, a4]
  decide +kernel

/-- `Equity:Equity` with closing on the same report: it carries −1.75 in the column of day 3 (the transfer of day 3 took
1.75 off `Equity:E`) and −4.66666665 in the column of day 4; the other accounts carry the opposite -/
example : (match BalanceCmd.entries exFlagsC exDirs with
    | .ok (es, _) => decide (accCum equityAccount es 3 = -(7/4) ∧ qCum (fun a => !decide (a = equityAccount)) es 3 = 7/4 ∧
        accCum equityAccount es 4 = -(466666665/100000000) ∧
        qCum (fun a => !decide (a = equityAccount)) es 4 = 466666665/100000000)
    | .error _ => false) = true := by decide +kernel

end Knut.C03
