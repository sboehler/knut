import Knut.Properties.C03
import Knut.FactsAgree.TransProcess
/-!
# C03 (per-step valuation clauses) on the generated definitions

`C03_flow_valued_at_booking_day`, `C03_missing_price_is_error`, `C03_missing_price_fails_day`, `C03_adjustment_shape`,
`C03_gain_account` and `C03_revaluation_error_if_price_vanished` are about the model (`Balance.valuePosting`, `adjustStep`,
`valuateDay`); `FactsAgree/TransProcess.lean` proves the closures of `journal.Valuate` translated from `/repo`'s
`lib/journal/process.go` (`Valuate.DayStart` with its loop over the map `quantities`, `Valuate.Posting`, `Valuate.DayEnd`) equal to
them, `FactsAgree/TransPrice.lean` the price functions (`NormalizedPrices.Price`, `Valuate`, `price.Multiply`).  This module composes
them: the clauses are stated about the values the GENERATED `Go.journal.Valuate.*` return, the prices are read through the GENERATED
`Go.price.NormalizedPrices.Price` on the Go maps the closures hold.

Standing hypotheses (the invariants of the agreement theorems, stated, not discharged here):
* `VEquiv cur g prev now q` — the captured state of the closures stands for a model state (established by `Valuate_day_agrees` day
  after day from the initial state; `NPEquivO`: every lookup of the Go price map is the model's);
* `hext`: `ext1`, the result of the UNTRANSLATED registry call `reg.Accounts().ValuationAccountFor(pos.Account)` as a function of the
  account, returns the account `Income:<rest of the path>` (`valuationAccountFor`) — the clause "the gain account is an Income
  account" rests on it; what IS derived from the translated code is that an adjustment is booked between the position's account and
  `ext1` of it and nowhere else;
* the Go postings are `postingGo cur src p` (interned accounts and commodities, any `Src` pointer).
The iteration order `o` of the Go map `quantities` is arbitrary.
-/
namespace Knut.C03Go
open Knut Knut.Dec Knut.GoSem
open Knut.Generated.Go
open Knut.FactsAgree.TransAccount Knut.FactsAgree.TransPosting Knut.FactsAgree.TransTransaction
open Knut.FactsAgree.TransProcess
open Knut.FactsAgree.TransPrice (cGo)
open Knut.FactsAgree.TransCheck (keyGo)

/-- the error value of a missing price (`fmt.Errorf("no price found for %v in %v", …)`: the message class) -/
def noPrice : Error := ⟨"no price found for %v in %v"⟩

/-! ## prices: the translated lookup against the model's -/

/-- the translated `NormalizedPrices.Price` finds the price `pr` iff the model's lookup does -/
theorem price_ok_iff (cur : String → Bool) {g : price.NormalizedPrices} {m : Option Prices.NPrices} (h : NPEquivO cur g m)
    (c : Commodity) (pr : Rat) :
    price.NormalizedPrices.Price g (cGo cur c) = (pr, none) ↔ Balance.lookupPrice m c = .ok pr := by
  rw [Price_lookup cur h]
  cases Balance.lookupPrice m c with
  | ok p => simp
  | error e => simp

/-- … and answers the error iff the Go map has no entry for the commodity -/
theorem price_missing_iff (cur : String → Bool) {g : price.NormalizedPrices} {m : Option Prices.NPrices} (h : NPEquivO cur g m)
    (c : Commodity) :
    Knut.AMap.find? g (cGo cur c) = none ↔ ∃ e, Balance.lookupPrice m c = .error e := by
  rw [h c]
  unfold Balance.lookupPrice
  cases m with
  | none => simp
  | some np => cases hf : Prices.find c np <;> simp [hf]

theorem price_missing_error (cur : String → Bool) {g : price.NormalizedPrices} {m : Option Prices.NPrices} (h : NPEquivO cur g m)
    (c : Commodity) (hm : Knut.AMap.find? g (cGo cur c) = none) :
    price.NormalizedPrices.Price g (cGo cur c) = (0, some noPrice) := by
  obtain ⟨e, he⟩ := (price_missing_iff cur h c).mp hm
  rw [Price_lookup cur h, he]
  rfl

/-! ## `Valuate.Posting`: every booking is valued at the price of its own day -/

section posting
variable (cur : String → Bool) (v : Commodity) {g g' : journal.Valuate.State} {prev now : Option Prices.NPrices}
  {q : Knut.AMap Position Rat} (tg : transaction.Transaction) (src : Ref) (p : Posting) {p' : posting.Posting}

/-- **the bridge**: a nil error of the translated `Valuate.Posting` is an `ok` of the model's `valuePosting`, the posting returned is
the Go value of the model's -/
theorem Posting_ok (h : VEquiv cur g prev now q)
    (hrun : journal.Valuate.Posting (cGo cur v) g tg (postingGo cur src p) = (g', p', none)) :
    ∃ mp, Balance.valuePosting v now p = .ok mp ∧ p' = postingGo cur src mp ∧ VEquiv cur g' prev now (addQty1 q p) := by
  obtain ⟨mp, hm, hq⟩ := (hrun ▸ Valuate_Posting_agree cur v h tg src p).of_ok
  exact ⟨mp, hm, hq.2, hq.1⟩

/-- **every booking is valued at the price of its own day**: the posting the translated `Valuate.Posting` returns has the old source
pointer, accounts, quantity and commodity; its value is the old one for a zero quantity (the value adjustments), the quantity itself
in the valuation commodity, and otherwise `Truncate₈(quantity × price)` with the price the translated `NormalizedPrices.Price` reads from
the closure's map `prices` — which `DayStart` set to the day's `Normalized` prices (`C03_daystart_prices_go`) -/
theorem C03_flow_valued_at_booking_day_go (h : VEquiv cur g prev now q)
    (hrun : journal.Valuate.Posting (cGo cur v) g tg (postingGo cur src p) = (g', p', none)) :
    p'.Src = src ∧ p'.Account = accountGo p.account ∧ p'.Other = accountGo p.other ∧ p'.Quantity = p.quantity ∧
    p'.Commodity = commodityGo cur p.commodity ∧
    (p.quantity = 0 → p'.Value = p.value) ∧
    (p.quantity ≠ 0 → p.commodity = v → p'.Value = p.quantity) ∧
    (p.quantity ≠ 0 → p.commodity ≠ v →
      ∃ pr, price.NormalizedPrices.Price g.prices (cGo cur p.commodity) = (pr, none) ∧ p'.Value = trunc 8 (p.quantity * pr)) := by
  obtain ⟨mp, hm, hp', _⟩ := Posting_ok cur v tg src p h hrun
  obtain ⟨x, rfl, h0, hv, hne⟩ := valuePosting_ok hm
  subst hp'
  refine ⟨rfl, rfl, rfl, rfl, rfl, h0, hv, fun hz hc => ?_⟩
  obtain ⟨pr, hl, hx⟩ := hne hz hc
  exact ⟨pr, (price_ok_iff cur h.now p.commodity pr).mpr hl, hx⟩

/-- the quantities the closure keeps grow by the quantity of every asset/liability posting with a non-zero quantity, and by nothing else
(`addQty1`) — also when the price is missing -/
theorem C03_posting_quantities_go (h : VEquiv cur g prev now q) :
    VEquiv cur (journal.Valuate.Posting (cGo cur v) g tg (postingGo cur src p)).1 prev now (addQty1 q p) := by
  exact (Valuate_Posting_agree cur v h tg src p).either (fun _ hq => hq.1) (fun _ _ he => he.1)

/-- **a needed, absent price is an error**: for a booking with a non-zero quantity in a commodity other than the valuation commodity
for which the closure's price map has no entry, the translated `Valuate.Posting` returns the error `no price found…` and the posting
as it was — no number is produced -/
theorem C03_missing_price_is_error_go (h : VEquiv cur g prev now q) (hq : p.quantity ≠ 0) (hc : p.commodity ≠ v)
    (hmiss : Knut.AMap.find? g.prices (cGo cur p.commodity) = none) :
    ∃ g', journal.Valuate.Posting (cGo cur v) g tg (postingGo cur src p) = (g', postingGo cur src p, some noPrice) := by
  have hm : ∀ np, now = some np → Prices.find p.commodity np = none := by
    intro np hnp
    have := h.now p.commodity
    rw [hmiss, hnp] at this
    simpa using this.symm
  obtain ⟨e, he⟩ := C03.C03_missing_price_is_error v now p hq hc hm
  obtain ⟨g1, _, _, hr, _, rfl, rfl⟩ := (he ▸ Valuate_Posting_agree cur v h tg src p).of_model_error
  exact ⟨g1, GoSem.Outcome.ok.inj hr⟩

end posting

/-! ## `Valuate.DayStart`: the value adjustments -/

section daystart
variable (cur : String → Bool) (v : Commodity) (ext1 : account.Account → account.Account)
  (hext : ∀ a : Account, ext1 (accountGo a) = accountGo (valuationAccountFor a))
  {g g' : journal.Valuate.State} {prev old now : Option Prices.NPrices} {q : Knut.AMap Position Rat}
  (dg : journal.Day) {dg' : journal.Day} (o : List amounts.Key)
include hext

/-- `DayStart` makes the day's `Normalized` prices the prices that `Posting` values with (also when it fails) -/
theorem C03_daystart_prices_go (h : VEquiv cur g prev old q) (hn : NPEquivO cur dg.Normalized now) :
    (journal.Valuate.DayStart (cGo cur v) g dg ext1 o).1 = { g with prices := dg.Normalized } := by
  exact (Valuate_DayStart_agree cur v ext1 hext h dg hn o).either (fun _ hq => hq.1) (fun _ _ he => he.1)

/-- **the shape of a day's value adjustments**, for EVERY iteration order `o` of the Go map `quantities`: a nil error of the translated
`DayStart` appends to the day's transactions, through `transaction.Builder.Build`, one transaction per listed position `(a, c)` whose
commodity is not the valuation commodity, whose account is an asset or liability account, whose quantity `Q` (read from the Go map) is
not zero and whose price changed — `Truncate₈((p_today − p_yesterday) × Q)` with both prices read by the translated
`NormalizedPrices.Price` (yesterday's from the closure's `prevPrices`, today's from the day's `Normalized`), dated on the day, with the
`@performance` target `c` — and nothing else -/
theorem C03_adjustment_shape_go (h : VEquiv cur g prev old q) (hn : NPEquivO cur dg.Normalized now)
    (hrun : journal.Valuate.DayStart (cGo cur v) g dg ext1 o = (g', dg', none)) :
    ∃ adj : List Transaction, dg' = { dg with Transactions := dg.Transactions ++ adj.map (builtGo cur) } ∧
      ∀ t ∈ adj, ∃ a c qv pp cp, keyGo cur (a, c) ∈ o ∧ Knut.AMap.find? g.quantities (keyGo cur (a, c)) = some qv ∧
        price.NormalizedPrices.Price g.prevPrices (cGo cur c) = (pp, none) ∧
        price.NormalizedPrices.Price dg.Normalized (cGo cur c) = (cp, none) ∧
        cp - pp ≠ 0 ∧ c ≠ v ∧ a.isAL = true ∧ qv ≠ 0 ∧ t = adjTx dg.Date (a, c) (trunc 8 ((cp - pp) * qv)) := by
  obtain ⟨adj, hadj, hq⟩ := (hrun ▸ Valuate_DayStart_agree cur v ext1 hext h dg hn o).of_ok
  refine ⟨adj, hq.2, ?_⟩
  intro t ht
  obtain ⟨a, c, qv, pp, cp, hm, h4, h5, h6, h1, h2, h3, h7⟩ := Knut.adjustments_mem hadj t ht
  obtain ⟨hk, hf⟩ := mem_qtyIn cur h.qty.keys hm
  exact ⟨a, c, qv, pp, cp, hk, hf, (price_ok_iff cur h.prev c pp).mpr h1, (price_ok_iff cur hn c cp).mpr h2, h3, h4, h5, h6, h7⟩

/-- **gain account**: the Go transaction of an adjustment of position `(a, c)` has two postings, both with quantity zero in the
commodity `c`, booked between the account `a` and `ext1 a` — the account the registry's `ValuationAccountFor` returned for `a` — and
nowhere else; under `hext` that account is `Income:<path of a without its first segment>` -/
theorem C03_gain_account_go (date : Int) (a : Account) (c : Commodity) (gain : Rat) :
    ∀ pG ∈ (builtGo cur (adjTx date (a, c) gain)).Postings,
      pG.Quantity = 0 ∧ pG.Commodity = commodityGo cur c ∧ (pG.Value = gain ∨ pG.Value = -gain) ∧
      ((pG.Account = accountGo a ∧ pG.Other = ext1 (accountGo a)) ∨ (pG.Account = ext1 (accountGo a) ∧ pG.Other = accountGo a)) := by
  intro pG hp
  simp only [builtGo, txGo, adjTx, List.mem_map] at hp
  obtain ⟨p, hp, rfl⟩ := hp
  rw [hext]
  rcases mem_postingBuild hp with rfl | rfl <;> simp [postingGo]

/-- … and that account is an Income account with the rest of the path of `a` -/
theorem C03_gain_account_is_income_go (a : Account) :
    ∃ b : Account, ext1 (accountGo a) = accountGo b ∧ b.segments.head? = some "Income" ∧ b.segments.drop 1 = a.segments.drop 1 :=
  ⟨valuationAccountFor a, hext a, C03.C03_gain_account_is_income a⟩

/-- **an open position whose price vanished fails the day**: when a listed asset/liability position with a non-zero quantity in a
commodity other than the valuation commodity has no entry in yesterday's or today's Go price map, the translated `DayStart` returns the
error.  Stated for the order `o = [k]` that lists this one position only (a longer order would need the positions listed before it to have
their prices) -/
theorem C03_revaluation_error_if_price_vanished_go (h : VEquiv cur g prev old q) (hn : NPEquivO cur dg.Normalized now)
    (a : Account) (c : Commodity) (qv : Rat) (hc : c ≠ v) (hal : a.isAL = true) (hq : qv ≠ 0)
    (hf : Knut.AMap.find? g.quantities (keyGo cur (a, c)) = some qv)
    (hmiss : Knut.AMap.find? g.prevPrices (cGo cur c) = none ∨ Knut.AMap.find? dg.Normalized (cGo cur c) = none) :
    ∃ d', journal.Valuate.DayStart (cGo cur v) g dg ext1 [keyGo cur (a, c)] = ({ g with prices := dg.Normalized }, d', some noPrice) := by
  have hq1 : qtyIn g.quantities [keyGo cur (a, c)] = [((a, c), qv)] := by simp [qtyIn, hf, posOf_keyGo]
  have hmiss' : (∃ e, Balance.lookupPrice prev c = .error e) ∨ (∃ e, Balance.lookupPrice now c = .error e) := by
    rcases hmiss with hm | hm
    · exact Or.inl ((price_missing_iff cur h.prev c).mp hm)
    · exact Or.inr ((price_missing_iff cur hn c).mp hm)
  obtain ⟨e, he⟩ := C03.C03_revaluation_error_if_price_vanished v dg.Date prev now [] a c qv hc hal hq hmiss'
  have hadj : ∃ e, Balance.adjustments v dg.Date prev now [((a, c), qv)] = .error e := by
    rw [adjustments_cons, he]; exact ⟨e, rfl⟩
  obtain ⟨e', he'⟩ := hadj
  have key := Valuate_DayStart_agree cur v ext1 hext h dg hn [keyGo cur (a, c)]
  rw [hq1, he'] at key
  obtain ⟨_, d1, _, hr, rfl, rfl⟩ := key.of_model_error
  exact ⟨d1, GoSem.Outcome.ok.inj hr⟩

end daystart

/-! ## a whole day in the callback order of `Processor.Process` -/

/-- **a missing price fails the day**: `processDay` (the hand-written callback order of `Processor.Process`: C19 is about the
pipeline) with the three translated closures of `Valuate`, on a Go day that stands for the model day `d`: when a booking of the day with a
non-zero quantity in a commodity other than the valuation commodity has no entry in the day's `Normalized` prices, the day ends with
the error `no price found…` — for every iteration order `o` that reaches all keys of `quantities` -/
theorem C03_missing_price_fails_day_go (cur : String → Bool) (v : Commodity) (ext1 : account.Account → account.Account)
    (hext : ∀ a : Account, ext1 (accountGo a) = accountGo (valuationAccountFor a))
    {g : journal.Valuate.State} (st : BalState) {old : Option Prices.NPrices} {q : Knut.AMap Position Rat}
    (h : VEquiv cur g st.vPrev old q) (o : List amounts.Key) (hcov : ∀ k, (Knut.AMap.find? g.quantities k).isSome → k ∈ o)
    (dg : journal.Day) (d : Day) (hd : dg.Date = d.date) (hn : NPEquivO cur dg.Normalized st.norm)
    (htx : AllRel (TRel cur) dg.Transactions d.transactions)
    (t : Transaction) (p : Posting) (ht : t ∈ d.transactions) (hp : p ∈ t.postings) (hq : p.quantity ≠ 0) (hc : p.commodity ≠ v)
    (hmiss : Knut.AMap.find? dg.Normalized (cGo cur p.commodity) = none) :
    ∃ g' dg', processDay (valuateProc (cGo cur v) ext1 o) g dg = .ok (g', dg', some noPrice) := by
  have hm : ∀ np, st.norm = some np → Prices.find p.commodity np = none := by
    intro np hnp
    have := hn p.commodity
    rw [hmiss, hnp] at this
    simpa using this.symm
  obtain ⟨e, he⟩ := C03.C03_missing_price_fails_day v { st with vQty := qtyIn g.quantities o } d t p ht hp hq hc hm
  obtain ⟨g1, d1, _, hr, rfl⟩ := (he ▸ Valuate_day_agree cur v ext1 hext st h o hcov dg d hd hn htx).of_model_error
  exact ⟨g1, d1, hr⟩

/-! ## Non-vacuity: the translated `Valuate.Posting` evaluated on a priced posting; the error clause instantiated on the empty price map -/

/-- 10 USD at the day's price 2, evaluated on the translated `Valuate.Posting` itself: no error and the value `Truncate₈(10 × 2) = 20`,
as `C03_flow_valued_at_booking_day_go` says (the clause and its hypothesis `VEquiv` are not instantiated here) -/
example : ∃ g' p', journal.Valuate.Posting ⟨"CHF", false⟩ ⟨[], [(⟨"USD", false⟩, 2)], []⟩ GoZero.zero
      (postingGo (fun _ => false) ⟨0⟩ ⟨⟨["Assets", "A"]⟩, ⟨["Income", "B"]⟩, "USD", 10, 0⟩) = (g', p', none) ∧ p'.Value = 20 := by
  refine ⟨_, _, rfl, ?_⟩
  decide +kernel

/-- the empty price map: the error -/
example : ∃ g', journal.Valuate.Posting (cGo (fun _ => false) "CHF") ⟨[], [], []⟩ GoZero.zero
      (postingGo (fun _ => false) ⟨0⟩ ⟨⟨["Assets", "A"]⟩, ⟨["Income", "B"]⟩, "USD", 10, 0⟩) =
      (g', postingGo (fun _ => false) ⟨0⟩ ⟨⟨["Assets", "A"]⟩, ⟨["Income", "B"]⟩, "USD", 10, 0⟩, some noPrice) :=
  C03_missing_price_is_error_go (fun _ => false) "CHF" (prev := none) (now := none) (q := []) GoZero.zero ⟨0⟩ _
    ⟨NPEquivO_nil _, NPEquivO_nil _, QEquiv_nil _⟩ (by decide) (by decide) rfl

end Knut.C03Go
