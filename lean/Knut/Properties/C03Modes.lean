import Knut.Proofs.MTMRender
import Knut.Proofs.MTMSums
import Knut.Driver.Balance
import Knut.Properties.C03Report
/-!
# C03 — the report modes beyond cumulative per-account rows

`--diff` (a column is charged with the valuation steps inside its own period only), mapped / collapsed rows
(`-m level[:suffix][,regex]`, `--remap`, `--account`: the cell of an asset/liability ROW `r` tracks the sum of the exact
values of `S = Spec.sourceAccounts (rowSel f r) days`, the journal's accounts that pass `--account` and that `--remap` +
`-m` turn into `r`, bounds summed) and `-s regex` (a row the regex does not match keeps one value line and gains a
commodity cell; a row it matches shows one line per commodity, each tracking `Spec.mtmPosOver … S c`).  The stages before
Query do not look at the mapping, a mapped row is a sum of plain rows (`Proofs/MTMSums.lean`).
-/
namespace Knut.C03
open Knut Knut.Dec Knut.MTM Knut.LedgerCommand
open Knut.Table (Cell)

/-- **pipeline level, two period ends `F < D` inside the window** (see `MTM.run_account_delta`): the inserts on an
asset/liability account aligned to column dates in `(F, D]` total `Spec.mtm … D − Spec.mtm … F` up to
`Spec.stepBound … F D` units of the 8th decimal -/
theorem C03_account_between (cfg : BalCfg) (v : Commodity) (a : Account) (days : List Day) (stF : BalState) (F D : Int)
    (hv : cfg.valuation = some v) (hal : a.isAL = true) (hpl : Plain cfg) (hs : Sorted days)
    (hcons : ∀ d ∈ days, ∀ t ∈ d.transactions, t.date = d.date)
    (hz : ∀ d ∈ days, ∀ t ∈ d.transactions, ∀ p ∈ t.postings, p.value = 0)
    (hinc : List.Pairwise (· < ·) (cfg.periods.map (·.stop))) (hD : D ∈ cfg.periods.map (·.stop))
    (hF : F ∈ cfg.periods.map (·.stop)) (hFD : F < D)
    (hFin : cfg.span.contains F = true) (hDin : cfg.span.contains D = true)
    (h : Balance.run cfg days = .ok stF) :
    ∃ mD mF, Spec.mtm v days a D = some mD ∧ Spec.mtm v days a F = some mF ∧
      ((accCum a stF.entries D - accCum a stF.entries F) - (mD - mF)).abs ≤
        (Spec.stepBound v days a F D : Rat) / (10 : Rat) ^ 8 :=
  (run_account_delta ⟨hs, hcons, hz, hinc, hD, Or.inr ⟨hF, hFD, hFin⟩, hDin, h⟩ v a hv hal hpl).abs

/-- the flags of a valued report with per-account rows (cumulative or `--diff`) -/
structure RowFlags (f : BalanceFlags) (v : Commodity) : Prop where
  valuation : f.valuation = some v
  show_ : f.showCommodities = none
  mapping : f.mapping = []
  remap : ∀ s, f.remap s = false
  acc : ∀ s, f.accountFilter s = true
  com : ∀ s, f.commodityFilter s = true

theorem RowFlags.plain {f : BalanceFlags} {v : Commodity} (hf : RowFlags f v) (part : Partition) : Plain (cfgOf f part) :=
  ⟨hf.mapping, hf.remap, hf.acc, hf.com⟩

/-- the eve of column `k`: the previous period end, or the day before the window start for the first column -/
def colEve (part : Partition) (k : Nat) : Int :=
  match k with
  | 0 => part.span.start - 1
  | j + 1 => part.endDates.getD j 0

/-- **the cells of a `--diff` report.**  For every valued `--diff` report with per-account rows and every directive list
whose postings arrive unvalued: whenever the command produces a report and the asset/liability account `a` has an
insert, the rendered table has the row of `a`, and for every column `k` (period end `D_k`, eve `F_k` = the previous
period end, or the day before the window start for `k = 0`) the exact mark-to-market values at `D_k` and `F_k` exist
and the cell shows their difference up to `Spec.stepBound V days a F_k D_k` units of the 8th decimal — the valuation
steps inside the period only. -/
theorem C03_command_cell_diff (f : BalanceFlags) (v : Commodity) (hf : RowFlags f v) (hdf : f.diff = true)
    (ds : List Directive) (hz : ∀ t, Directive.tx t ∈ ds → ∀ p ∈ t.postings, p.value = 0)
    (es : List Entry) (part : Partition) (h : BalanceCmd.entries f ds = .ok (es, part))
    (a : Account) (hal : a.isAL = true) (hmem : ∃ e ∈ es, e.account = a) :
    ∃ pre post cells,
      (BalanceReport.table (BalanceCmd.renderCfg f part) es).rows =
        pre ++ [Cell.text (a.segments.getLast?.getD "").toList .left ((2 * (a.segments.length - 1) : Nat) : Int) :: cells] ++ post ∧
      cells.length = part.endDates.length ∧
      ∀ (k : Nat) (hk : k < part.endDates.length) (hk' : k < cells.length),
        ∃ mD mF, Spec.mtm v (Builder.ofList ds).build a part.endDates[k] = some mD ∧
          Spec.mtm v (Builder.ofList ds).build a (colEve part k) = some mF ∧
          (cellVal cells[k] - (mD - mF)).abs ≤
            (Spec.stepBound v (Builder.ofList ds).build a (colEve part k) part.endDates[k] : Rat) / (10 : Rat) ^ 8 := by
  have hev : ∀ k, colEve part k = eveOf f.diff part.span.start part.endDates k := fun k => by
    rw [hdf]; unfold colEve eveOf; cases k <;> rfl
  have h := account_cells f v hf.valuation hf.show_ hf.plain ds hz es part h a hal hmem
  simp only [mtm_daysOf, stepBound_daysOf, ← hev] at h
  exact h

/-! ### Non-vacuity (`--diff`)

The journal of `Properties/C03Report.lean`, reported daily from day 2 to day 4 with `--diff`, valued in CHF.  The row of
`Assets:A` shows 1.75, 2.91666665, −1.33333333; `Spec.mtm` is 100 on the eve (day 1), then 101.75, 104.666666655,
103.333333325: the differences are 1.75, 2.916666655 (deviation 5·10⁻⁹, bound 1·10⁻⁸: one price day, no booking in the
period) and −1.33333333 (bound 1·10⁻⁸: one non-zero USD booking). -/

def exFlagsD : BalanceFlags := { valuation := some "CHF", from? := some 2, to := 4, interval := .daily, diff := true }

example : RowFlags exFlagsD "CHF" ∧ exFlagsD.diff = true := ⟨⟨rfl, rfl, rfl, fun _ => rfl, fun _ => rfl, fun _ => rfl⟩, rfl⟩

example : (match BalanceCmd.entries exFlagsD exDirs with
    | .ok (es, part) =>
      decide (part.span = ⟨2, 4⟩ ∧ part.endDates = [2, 3, 4] ∧ (∃ e ∈ es, e.account = exA) ∧
        [Cell.text "A".toList .left 2, Cell.num (7/4), Cell.num (291666665/100000000), Cell.num (-(133333333/100000000))] ∈
          (BalanceReport.table (BalanceCmd.renderCfg exFlagsD part) es).rows ∧
        colEve part 0 = 1 ∧ colEve part 1 = 2 ∧ colEve part 2 = 3 ∧
        Spec.mtm "CHF" (Builder.ofList exDirs).build exA 1 = some 100 ∧
        Spec.mtm "CHF" (Builder.ofList exDirs).build exA 2 = some (10175/100) ∧
        Spec.mtm "CHF" (Builder.ofList exDirs).build exA 3 = some (104666666655/1000000000) ∧
        Spec.mtm "CHF" (Builder.ofList exDirs).build exA 4 = some (103333333325/1000000000) ∧
        Spec.stepBound "CHF" (Builder.ofList exDirs).build exA 2 3 = 1 ∧
        Spec.stepBound "CHF" (Builder.ofList exDirs).build exA 3 4 = 1)
    | .error _ => false) = true := by decide +kernel

/-- the flags of a valued report whose rows are accounts or collapsed accounts: any `-m`, `--remap`, `--account`,
cumulative or `--diff`; no `-s`, no `--commodity` -/
structure MappedFlags (f : BalanceFlags) (v : Commodity) : Prop where
  valuation : f.valuation = some v
  show_ : f.showCommodities = none
  com : ∀ s, f.commodityFilter s = true

/-- the accounts a report row `r` collects: they pass `--account`, and `--remap` followed by `-m` turns them into `r` -/
def rowSel (f : BalanceFlags) (r a : Account) : Bool :=
  f.accountFilter a.name && decide (shorten f.mapping (if f.remap a.name then swapType a else a) = some r)

/-- the driver (op `c03rows`, the monitor's side) selects the accounts of a row and the eve of a column by these very definitions -/
theorem rowSel_eq_driver : rowSel = Knut.Driver.Balance.c03RowSel := rfl

theorem srcSel_cfgOf (f : BalanceFlags) (part : Partition) (r : Account) : srcSel (cfgOf f part) r = rowSel f r := rfl

/-- the eve of column `k` of the report: the previous period end in a `--diff` report (the day before the window start
for the first column), the day before the window start in a cumulative report -/
def cellEve (f : BalanceFlags) (part : Partition) (k : Nat) : Int :=
  if f.diff then colEve part k else part.span.start - 1

theorem cellEve_eq_driver (f : BalanceFlags) (part : Partition) (k : Nat) :
    cellEve f part k = Knut.Driver.Balance.c03Eve f part k := by
  unfold cellEve colEve Knut.Driver.Balance.c03Eve
  cases f.diff <;> cases k <;> rfl

theorem cellEve_eq (f : BalanceFlags) (part : Partition) (k : Nat) :
    cellEve f part k = eveOf f.diff part.span.start part.endDates k := by
  unfold cellEve eveOf colEve
  cases f.diff <;> cases k <;> rfl

theorem rat_sub_zero (x : Rat) : x - 0 = x := sub_zero_rat x

/-- **pipeline level, mapped row** (see `MTM.run_row_mapped`) -/
theorem C03_row_mapped (cfg : BalCfg) (v : Commodity) (r : Account) (days : List Day) (stF : BalState) (F D : Int)
    (hv : cfg.valuation = some v) (hcom : ∀ s, cfg.commodityFilter s = true) (hal : r.isAL = true) (hs : Sorted days)
    (hcons : ∀ d ∈ days, ∀ t ∈ d.transactions, t.date = d.date)
    (hz : ∀ d ∈ days, ∀ t ∈ d.transactions, ∀ p ∈ t.postings, p.value = 0)
    (hinc : List.Pairwise (· < ·) (cfg.periods.map (·.stop))) (hD : D ∈ cfg.periods.map (·.stop))
    (hF : IsEve cfg F D) (hDin : cfg.span.contains D = true)
    (h : Balance.run cfg days = .ok stF) :
    ∃ mD mF, Spec.mtmOver v days (Spec.sourceAccounts (srcSel cfg r) days) D = some mD ∧
      Spec.mtmOver v days (Spec.sourceAccounts (srcSel cfg r) days) F = some mF ∧
      ((accCum r stF.entries D - accCum r stF.entries F) - (mD - mF)).abs ≤
        (Spec.stepBoundOver v days (Spec.sourceAccounts (srcSel cfg r) days) F D : Rat) / (10 : Rat) ^ 8 :=
  (run_row_mapped ⟨hs, hcons, hz, hinc, hD, hF, hDin, h⟩ v r hv hcom hal).abs

/-- **a column of an asset/liability row under any mapping**: the inserts on the row account aligned into `(F_k, D_k]` are
within `Spec.stepBoundOver … S F_k D_k / 10⁸` of `Spec.mtmOver … S D_k − Spec.mtmOver … S F_k`, `S` the journal's accounts
collected in the row; over the journal's own days -/
theorem mapped_col (f : BalanceFlags) (v : Commodity) (hv : f.valuation = some v) (hcom : ∀ s, f.commodityFilter s = true)
    (ds : List Directive) (part : Partition) (st : BalState) (r : Account) (hal : r.isAL = true) (k : Nat)
    (hk : k < part.endDates.length)
    (K : Col (cfgOf f part) (daysOf f ds part) st (eveOf f.diff part.span.start part.endDates k) part.endDates[k]) :
    ∃ mD mF,
      Spec.mtmOver v (Builder.ofList ds).build (Spec.sourceAccounts (rowSel f r) (Builder.ofList ds).build)
        part.endDates[k] = some mD ∧
      Spec.mtmOver v (Builder.ofList ds).build (Spec.sourceAccounts (rowSel f r) (Builder.ofList ds).build)
        (cellEve f part k) = some mF ∧
      ((accCum r st.entries part.endDates[k] - accCum r st.entries (eveOf f.diff part.span.start part.endDates k)) -
          (mD - mF)).abs ≤
        (Spec.stepBoundOver v (Builder.ofList ds).build (Spec.sourceAccounts (rowSel f r) (Builder.ofList ds).build)
          (cellEve f part k) part.endDates[k] : Rat) / (10 : Rat) ^ 8 := by
  have hrow := C03_row_mapped (cfgOf f part) v r _ st _ _ hv hcom hal K.sorted K.dated K.unvalued K.inc K.hD K.eve K.inside K.run
  rw [srcSel_cfgOf, sourceAccounts_daysOf, mtmOver_daysOf, mtmOver_daysOf, stepBoundOver_daysOf, ← cellEve_eq] at hrow
  exact hrow

/-- **the cells of a mapped / collapsed row.**  For every valued report without `-s` and `--commodity` — any
`-m level[:suffix][,regex]`, `--remap`, `--account`, cumulative or `--diff`, every interval and window, closing on or
off — and every directive list whose postings arrive unvalued: whenever the command produces a report and the
asset/liability row account `r` has an insert, the rendered table has the row of `r`, and for every column `k` (period
end `D_k`, eve `F_k` = `cellEve`) the cell is within `Spec.stepBoundOver … S F_k D_k / 10⁸` of
`Spec.mtmOver … S D_k − Spec.mtmOver … S F_k`, where `S = Spec.sourceAccounts (rowSel f r) days` are the journal's
accounts collected in the row: the sum of the exact mark-to-market values of the accounts mapped onto the row, with the
bounds summed.  Both values exist. -/
theorem C03_command_cell_mapped (f : BalanceFlags) (v : Commodity) (hf : MappedFlags f v)
    (ds : List Directive) (hz : ∀ t, Directive.tx t ∈ ds → ∀ p ∈ t.postings, p.value = 0)
    (es : List Entry) (part : Partition) (h : BalanceCmd.entries f ds = .ok (es, part))
    (r : Account) (hal : r.isAL = true) (hmem : ∃ e ∈ es, e.account = r) :
    ∃ pre post cells,
      (BalanceReport.table (BalanceCmd.renderCfg f part) es).rows =
        pre ++ [Cell.text (r.segments.getLast?.getD "").toList .left ((2 * (r.segments.length - 1) : Nat) : Int) :: cells] ++ post ∧
      cells.length = part.endDates.length ∧
      ∀ (k : Nat) (hk : k < part.endDates.length) (hk' : k < cells.length),
        ∃ mD mF,
          Spec.mtmOver v (Builder.ofList ds).build (Spec.sourceAccounts (rowSel f r) (Builder.ofList ds).build)
            part.endDates[k] = some mD ∧
          Spec.mtmOver v (Builder.ofList ds).build (Spec.sourceAccounts (rowSel f r) (Builder.ofList ds).build)
            (cellEve f part k) = some mF ∧
          (cellVal cells[k] - (mD - mF)).abs ≤
            (Spec.stepBoundOver v (Builder.ofList ds).build (Spec.sourceAccounts (rowSel f r) (Builder.ofList ds).build)
              (cellEve f part k) part.endDates[k] : Rat) / (10 : Rat) ^ 8 := by
  obtain ⟨e, he, rfl⟩ := hmem
  obtain ⟨pre, post, cells, hrows, hlen, hcell⟩ :=
    command_cells_plain f v hf.valuation hf.show_ ds es part h e he (isAL_segments_ne hal)
  refine ⟨pre, post, cells, hrows, hlen, fun k hk hk' => ?_⟩
  obtain ⟨hpart, st, hrun, rfl⟩ := entries_ok h
  rw [hcell k hk hk', hal, if_pos rfl]
  exact mapped_col f v hf.valuation hf.com ds part st e.account hal k hk
    (command_col f ds hz part st hpart hrun (List.ne_nil_of_mem he) f.diff k hk)

/-! ### Non-vacuity (mapped rows)

Two accounts `Assets:B:X` (100 CHF; −1 USD on day 2, −1 USD more on day 4) and `Assets:B:Y` (4.5 USD bought on day 2,
1 sold on day 4), USD priced 0.5 on day 2 and 1.333333333 on day 3; report `-m 2` (every account collapsed to two
segments), window days 3–4, valued in CHF.  The single row `Assets:B` shows 0.24999999; the journal's accounts collected
in it are `X` and `Y`; `Spec.mtmOver` of the two is 101.999999995 on day 4 and 101.75 on the eve (day 2): difference
0.249999995, deviation 5·10⁻⁹, bound 4·10⁻⁸ (per account: one price day and one non-zero USD booking in the window). -/

def exBX : Account := ⟨["Assets", "B", "X"]⟩
def exBY : Account := ⟨["Assets", "B", "Y"]⟩
def exB : Account := ⟨["Assets", "B"]⟩
def exDirsM : List Directive :=
  [.opening ⟨1, exBX⟩, .opening ⟨1, exBY⟩, .opening ⟨1, exE⟩,
   .tx (Transaction.ofBookings 1 "cash" none [⟨exE, exBX, 100, "CHF"⟩]),
   .price ⟨2, "USD", 1/2, "CHF"⟩,
   .tx (Transaction.ofBookings 2 "buy" none [⟨exE, exBY, 7/2, "USD"⟩, ⟨exBX, exBY, 1, "USD"⟩]),
   .price ⟨3, "USD", 1333333333/1000000000, "CHF"⟩,
   .tx (Transaction.ofBookings 4 "sell" none [⟨exBY, exE, 1, "USD"⟩, ⟨exBX, exE, 1, "USD"⟩])]
def exFlagsM : BalanceFlags :=
  { valuation := some "CHF", from? := some 3, to := 4, mapping := [{ level := 2, suffix := 0, test := fun _ => true }] }

example : MappedFlags exFlagsM "CHF" := ⟨rfl, rfl, fun _ => rfl⟩

example : ∀ t, Directive.tx t ∈ exDirsM → ∀ p ∈ t.postings, p.value = 0 := by
  intro t ht
  simp only [exDirsM, List.mem_cons, List.not_mem_nil, or_false, reduceCtorEq, false_or, Directive.tx.injEq] at ht
  rcases ht with rfl | rfl | rfl <;> exact ofBookings_zero _ _ _ _

example : (match BalanceCmd.entries exFlagsM exDirsM with
    | .ok (es, part) =>
      decide (part.span = ⟨3, 4⟩ ∧ part.endDates = [4] ∧ (∃ e ∈ es, e.account = exB) ∧
        [Cell.text "B".toList .left 2, Cell.num (24999999/100000000)] ∈
          (BalanceReport.table (BalanceCmd.renderCfg exFlagsM part) es).rows ∧
        cellEve exFlagsM part 0 = 2 ∧
        Spec.sourceAccounts (rowSel exFlagsM exB) (Builder.ofList exDirsM).build = [exBX, exBY] ∧
        Spec.mtmOver "CHF" (Builder.ofList exDirsM).build [exBX, exBY] 4 = some (101999999995/1000000000) ∧
        Spec.mtmOver "CHF" (Builder.ofList exDirsM).build [exBX, exBY] 2 = some (10175/100) ∧
        Spec.stepBoundOver "CHF" (Builder.ofList exDirsM).build [exBX, exBY] 2 4 = 4)
    | .error _ => false) = true := by decide +kernel

/-- the flags of a valued report with `-s`: any `-m`, `--remap`, `--account`, cumulative or `--diff`; no `--commodity` -/
structure ShowFlags (f : BalanceFlags) (v : Commodity) (sh : String → Bool) : Prop where
  valuation : f.valuation = some v
  show_ : f.showCommodities = some sh
  com : ∀ s, f.commodityFilter s = true

/-- **`-s`, a row whose name the regex does not match**: the row has the name cell, ONE commodity cell, then the value
cells, and these are as in `C03_command_cell_mapped`: within `Spec.stepBoundOver/10⁸` of
`Spec.mtmOver … D_k − Spec.mtmOver … F_k` over the journal's accounts collected in the row -/
theorem C03_command_cell_show_other (f : BalanceFlags) (v : Commodity) (sh : String → Bool) (hf : ShowFlags f v sh)
    (ds : List Directive) (hz : ∀ t, Directive.tx t ∈ ds → ∀ p ∈ t.postings, p.value = 0)
    (es : List Entry) (part : Partition) (h : BalanceCmd.entries f ds = .ok (es, part))
    (r : Account) (hal : r.isAL = true) (hmem : ∃ e ∈ es, e.account = r) (hsh : sh r.name = false) :
    ∃ pre post comm cells,
      (BalanceReport.table (BalanceCmd.renderCfg f part) es).rows =
        pre ++ [Cell.text (r.segments.getLast?.getD "").toList .left ((2 * (r.segments.length - 1) : Nat) : Int) ::
          comm :: cells] ++ post ∧
      cells.length = part.endDates.length ∧
      ∀ (k : Nat) (hk : k < part.endDates.length) (hk' : k < cells.length),
        ∃ mD mF,
          Spec.mtmOver v (Builder.ofList ds).build (Spec.sourceAccounts (rowSel f r) (Builder.ofList ds).build)
            part.endDates[k] = some mD ∧
          Spec.mtmOver v (Builder.ofList ds).build (Spec.sourceAccounts (rowSel f r) (Builder.ofList ds).build)
            (cellEve f part k) = some mF ∧
          (cellVal cells[k] - (mD - mF)).abs ≤
            (Spec.stepBoundOver v (Builder.ofList ds).build (Spec.sourceAccounts (rowSel f r) (Builder.ofList ds).build)
              (cellEve f part k) part.endDates[k] : Rat) / (10 : Rat) ^ 8 := by
  obtain ⟨e, he, rfl⟩ := hmem
  obtain ⟨pre, post, cc, cells, hrows, hcc, hlen, hcell⟩ :=
    command_cells f v hf.valuation ds es part h e he (isAL_segments_ne hal) (by rw [hf.show_]; exact hsh)
  rw [hf.show_] at hcc
  obtain ⟨comm, rfl⟩ : ∃ comm, cc = [comm] := by
    cases cc with
    | nil => cases hcc
    | cons x rest =>
      cases rest with
      | nil => exact ⟨x, rfl⟩
      | cons y rest2 => simp at hcc
  refine ⟨pre, post, comm, cells, hrows, hlen, fun k hk hk' => ?_⟩
  obtain ⟨hpart, st, hrun, rfl⟩ := entries_ok h
  rw [hcell k hk hk', hal, if_pos rfl]
  exact mapped_col f v hf.valuation hf.com ds part st e.account hal k hk
    (command_col f ds hz part st hpart hrun (List.ne_nil_of_mem he) f.diff k hk)

/-- **`-s`, a row whose name the regex matches: one line per commodity.**  The rows of the asset/liability row account
`r` form a block of the table that starts with the name cell of `r`.  For every commodity `c` (with `S` the journal's
accounts collected in the row, `D_k` the period end and `F_k` the eve of column `k`): every line of the block that
carries `c` in the commodity column has one value cell per column, and the cell of column `k` is within
`Spec.stepCountOver … S F_k D_k c / 10⁸` of `Spec.mtmPosOver … S c D_k − Spec.mtmPosOver … S c F_k` — summed quantity ×
normalised price of the position, at the period end minus at the eve; and if the block has no line for `c`, that
difference is itself within the bound of 0. -/
theorem C03_command_cell_show (f : BalanceFlags) (v : Commodity) (sh : String → Bool) (hf : ShowFlags f v sh)
    (ds : List Directive) (hz : ∀ t, Directive.tx t ∈ ds → ∀ p ∈ t.postings, p.value = 0)
    (es : List Entry) (part : Partition) (h : BalanceCmd.entries f ds = .ok (es, part))
    (r : Account) (hal : r.isAL = true) (hmem : ∃ e ∈ es, e.account = r) (hsh : sh r.name = true) :
    ∃ pre block post rest tail,
      (BalanceReport.table (BalanceCmd.renderCfg f part) es).rows = pre ++ block ++ post ∧
      block = (Cell.text (r.segments.getLast?.getD "").toList .left ((2 * (r.segments.length - 1) : Nat) : Int) :: rest) :: tail ∧
      ∀ (c : Commodity),
        (∀ (first : Cell) (cells : List Cell), (first :: Cell.text c.toList .left 0 :: cells) ∈ block →
          cells.length = part.endDates.length ∧
          ∀ (k : Nat) (hk : k < part.endDates.length) (hk' : k < cells.length),
            ∃ mD mF,
              Spec.mtmPosOver v (Builder.ofList ds).build (Spec.sourceAccounts (rowSel f r) (Builder.ofList ds).build) c
                part.endDates[k] = some mD ∧
              Spec.mtmPosOver v (Builder.ofList ds).build (Spec.sourceAccounts (rowSel f r) (Builder.ofList ds).build) c
                (cellEve f part k) = some mF ∧
              (cellVal cells[k] - (mD - mF)).abs ≤
                (Spec.stepCountOver v (Builder.ofList ds).build (Spec.sourceAccounts (rowSel f r) (Builder.ofList ds).build)
                  (cellEve f part k) part.endDates[k] c : Rat) / (10 : Rat) ^ 8) ∧
        ((∀ (first : Cell) (cells : List Cell), (first :: Cell.text c.toList .left 0 :: cells) ∉ block) →
          ∀ (k : Nat) (hk : k < part.endDates.length),
            ∃ mD mF,
              Spec.mtmPosOver v (Builder.ofList ds).build (Spec.sourceAccounts (rowSel f r) (Builder.ofList ds).build) c
                part.endDates[k] = some mD ∧
              Spec.mtmPosOver v (Builder.ofList ds).build (Spec.sourceAccounts (rowSel f r) (Builder.ofList ds).build) c
                (cellEve f part k) = some mF ∧
              (0 - (mD - mF)).abs ≤
                (Spec.stepCountOver v (Builder.ofList ds).build (Spec.sourceAccounts (rowSel f r) (Builder.ofList ds).build)
                  (cellEve f part k) part.endDates[k] c : Rat) / (10 : Rat) ^ 8) := by
  obtain ⟨hpart, st, hrun, rfl⟩ := entries_ok h
  obtain ⟨e, he, rfl⟩ := hmem
  have hcv : (cfgOf f part).valuation = some v := hf.valuation
  obtain ⟨hinc, hin', hdates'⟩ := command_setup f ds part st hpart hrun (List.ne_nil_of_mem he)
  have hdates : ∀ x ∈ st.entries.filter (fun e => e.account.isAL), x.account = e.account →
      ∀ D', x.date = some D' → D' ∈ part.endDates := fun x hx _ => hdates' x (List.mem_filter.mp hx).1
  generalize hrc : BalanceCmd.renderCfg f part = rc
  have hrs : rc.showCommodities (⟨e.account.segments⟩ : Account).name = true := by
    rw [← hrc]; unfold BalanceCmd.renderCfg; rw [hf.show_]; exact hsh
  have hrd : rc.diff = f.diff := by rw [← hrc]; rfl
  have hre : rc.endDates = part.endDates := by rw [← hrc]; rfl
  have hdc : (rc.valuation.isNone || rc.hasShowCommodities) = true := by
    rw [← hrc]; unfold BalanceCmd.renderCfg; rw [hf.valuation, hf.show_]; rfl
  obtain ⟨pre, post, hrows⟩ := table_has_row rc st.entries e he (isAL_segments_ne hal)
  simp only [hdc, hal, beq_true, Bool.not_true] at hrows
  obtain ⟨⟨rest, tail, hblock⟩, hline, hnone⟩ := nodeRows_show rc (st.entries.filter (fun e => e.account.isAL)) false
    e.account.segments (2 * (e.account.segments.length - 1)) hrs
  refine ⟨pre, _, post, rest, tail, hrows, hblock, ?_⟩
  intro c
  -- the pipeline statement for column `k`
  have hcol : ∀ (k : Nat) (hk : k < part.endDates.length),
      ∃ mD mF,
        Spec.mtmPosOver v (Builder.ofList ds).build (Spec.sourceAccounts (rowSel f e.account) (Builder.ofList ds).build) c
          part.endDates[k] = some mD ∧
        Spec.mtmPosOver v (Builder.ofList ds).build (Spec.sourceAccounts (rowSel f e.account) (Builder.ofList ds).build) c
          (cellEve f part k) = some mF ∧
        ((shownAt f.diff part.endDates (BalanceReport.cellAt (BalanceReport.own (st.entries.filter (fun e => e.account.isAL))
            e.account.segments) true (some c)) k) - (mD - mF)).abs ≤
          (Spec.stepCountOver v (Builder.ofList ds).build (Spec.sourceAccounts (rowSel f e.account) (Builder.ofList ds).build)
            (cellEve f part k) part.endDates[k] c : Rat) / (10 : Rat) ^ 8 := by
    intro k hk
    have K := command_col f ds hz part st hpart hrun (List.ne_nil_of_mem he) f.diff k hk
    obtain ⟨mD, mF, h1, h2, h3, h4, _⟩ := run_posrow_mapped (cfgOf f part) v e.account c (daysOf f ds part) st _ part.endDates[k]
      hcv hf.com hal K.sorted K.dated K.unvalued K.inc K.hD K.eve K.inside hrun
    rw [srcSel_cfgOf, sourceAccounts_daysOf, mtmPosOver_daysOf] at h1 h2
    rw [srcSel_cfgOf, sourceAccounts_daysOf, stepCountOver_daysOf] at h3 h4
    rw [cellEve_eq]
    refine ⟨mD, mF, h1, h2, ?_⟩
    have hz0 : posCum e.account c (st.entries.filter (fun e => e.account.isAL)) (part.span.start - 1) = 0 := by
      rw [posCum_al e.account hal, posCum_eq_cumSel]
      exact command_eve_zero f ds part st hrun _
    have hsd := shownAt_delta_pos e.account c (st.entries.filter (fun e => e.account.isAL)) part.endDates hinc hdates f.diff
      part.span.start hz0 k hk
    rw [hsd, posCum_al e.account hal, posCum_al e.account hal, ← mul_ulp]
    exact abs_le_of h3 h4
  constructor
  · intro first cells hm
    obtain ⟨hlen, hcell⟩ := hline c first cells hm
    refine ⟨by rw [hlen, hre], ?_⟩
    intro k hk hk'
    have hk2 : k < rc.endDates.length := by rw [hre]; exact hk
    obtain ⟨mD, mF, h1, h2, h3⟩ := hcol k hk
    refine ⟨mD, mF, h1, h2, ?_⟩
    have hcv' := hcell k hk2 hk'
    simp only [Bool.false_eq_true, if_false] at hcv'
    rw [hcv', hrd]
    simp only [hre]
    exact h3
  · intro hno k hk
    obtain ⟨mD, mF, h1, h2, h3⟩ := hcol k hk
    refine ⟨mD, mF, h1, h2, ?_⟩
    rw [shownAt_zero _ _ _ (hnone c hno)] at h3
    exact h3

/-! ### Non-vacuity (`-s`)

The journal of the mapped example, daily `--diff` columns from day 2 to day 4, `-m 2`, `-s '^Assets:B$'`.  The block of
`Assets:B` has ONE line, commodity USD: 1.75, 2.91666665, −2.66666666; the USD position of the two collected accounts
is worth 0, 1.75, 4.666666655, 1.999999995 on days 1–4 (`Spec.mtmPosOver`): differences 1.75, 2.916666655, −2.66666666.
There is no CHF line: the 100 CHF were booked before the window, `Spec.mtmPosOver … "CHF"` is 100 throughout. -/

def exFlagsS : BalanceFlags :=
  { valuation := some "CHF", from? := some 2, to := 4, interval := .daily, diff := true,
    showCommodities := some (fun s => s == "Assets:B"),
    mapping := [{ level := 2, suffix := 0, test := fun _ => true }] }

example : ShowFlags exFlagsS "CHF" (fun s => s == "Assets:B") ∧ (fun s => s == "Assets:B") exB.name = true :=
  ⟨⟨rfl, rfl, fun _ => rfl⟩, by decide⟩

example : (match BalanceCmd.entries exFlagsS exDirsM with
    | .ok (es, part) =>
      decide (part.span = ⟨2, 4⟩ ∧ part.endDates = [2, 3, 4] ∧ (∃ e ∈ es, e.account = exB) ∧
        [Cell.text "B".toList .left 2, Cell.text "USD".toList .left 0, Cell.num (7/4), Cell.num (291666665/100000000),
            Cell.num (-(266666666/100000000))] ∈
          (BalanceReport.table (BalanceCmd.renderCfg exFlagsS part) es).rows ∧
        cellEve exFlagsS part 0 = 1 ∧ cellEve exFlagsS part 1 = 2 ∧ cellEve exFlagsS part 2 = 3 ∧
        Spec.sourceAccounts (rowSel exFlagsS exB) (Builder.ofList exDirsM).build = [exBX, exBY] ∧
        [1, 2, 3, 4].map (Spec.mtmPosOver "CHF" (Builder.ofList exDirsM).build [exBX, exBY] "USD") =
          [some 0, some (7/4), some (4666666655/1000000000), some (1999999995/1000000000)] ∧
        [1, 2, 3, 4].map (Spec.mtmPosOver "CHF" (Builder.ofList exDirsM).build [exBX, exBY] "CHF") =
          [some 100, some 100, some 100, some 100] ∧
        Spec.stepCountOver "CHF" (Builder.ofList exDirsM).build [exBX, exBY] 2 3 "USD" = 2 ∧
        Spec.stepCountOver "CHF" (Builder.ofList exDirsM).build [exBX, exBY] 3 4 "USD" = 2)
    | .error _ => false) = true := by decide +kernel

end Knut.C03
