import Knut.Proofs.MTMCommand
import Knut.Proofs.MTMSums
import Knut.Proofs.LedgerCommand
import Knut.Proofs.Portfolio
import Knut.Proofs.MTMEmpty
import Knut.Properties.C03Window
/-!
# C03 — the cells of the valued balance report are mark-to-market (command level)

Everything from the directives to the CELLS of the table `knut balance -v V` renders, for cumulative reports with
per-account rows (`PlainFlags`: no `-m`/`--remap`/filters/`-s`/`--diff`), every interval, every window
(`--from`/`--to`/`--last`), closing on or off: the table contains the account's row, and the cell of the column with
period end `D` is within `Spec.stepBound/10⁸` of `Spec.mtm V days a D − Spec.mtm V days a (window start − 1)`, `days` the
journal's own days; `Spec.stepBound` is an explicit function of the journal (`C03_step_bound_closed_form`).  Each cell
theorem is `command_cells` + `command_col` (`Proofs/MTMCommand.lean`) + a theorem about a column (`Proofs/MTMSums.lean`).
-/
namespace Knut.C03
open Knut Knut.Dec Knut.MTM Knut.LedgerCommand
open Knut.Table (Cell)

/-- **pipeline level, whole account, every window** (an instance of `MTM.run_account_delta`) -/
theorem C03_account_window (cfg : BalCfg) (v : Commodity) (a : Account) (days : List Day) (stF : BalState) (D : Int)
    (hv : cfg.valuation = some v) (hal : a.isAL = true) (hpl : Plain cfg) (hs : Sorted days)
    (hcons : ∀ d ∈ days, ∀ t ∈ d.transactions, t.date = d.date)
    (hz : ∀ d ∈ days, ∀ t ∈ d.transactions, ∀ p ∈ t.postings, p.value = 0)
    (hinc : List.Pairwise (· < ·) (cfg.periods.map (·.stop))) (hD : D ∈ cfg.periods.map (·.stop))
    (hDin : cfg.span.contains D = true)
    (h : Balance.run cfg days = .ok stF) :
    ∃ mD mF, Spec.mtm v days a D = some mD ∧ Spec.mtm v days a (cfg.span.start - 1) = some mF ∧
      (accCum a stF.entries D - (mD - mF)).abs ≤
        (Spec.stepBound v days a (cfg.span.start - 1) D : Rat) / (10 : Rat) ^ 8 := by
  have T := run_account_delta ⟨hs, hcons, hz, hinc, hD, Or.inl rfl, hDin, h⟩ v a hv hal hpl
  -- nothing is shown before the window
  rw [accCum_eq_cumSel a _ (cfg.span.start - 1), cumSel_window_eve cfg days stF hs hcons h, sub_zero_rat] at T
  exact T.abs

/-- the flags of a cumulative valued report with per-account rows -/
structure PlainFlags (f : BalanceFlags) (v : Commodity) : Prop where
  valuation : f.valuation = some v
  diff : f.diff = false
  show_ : f.showCommodities = none
  mapping : f.mapping = []
  remap : ∀ s, f.remap s = false
  acc : ∀ s, f.accountFilter s = true
  com : ∀ s, f.commodityFilter s = true

theorem plain_cfgOf {f : BalanceFlags} {v : Commodity} (hf : PlainFlags f v) (part : Partition) : Plain (cfgOf f part) :=
  ⟨hf.mapping, hf.remap, hf.acc, hf.com⟩

theorem window_nonempty_of_entry (cfg : BalCfg) (v : Commodity) (hv : cfg.valuation = some v) (hpl : Plain cfg)
    (days : List Day) (st : BalState) (h : Balance.run cfg days = .ok st)
    (e : Entry) (he : e ∈ st.entries) (hal : e.account.isAL = true) : cfg.span.start ≤ cfg.span.stop := by
  exact window_nonempty_any cfg days st h (List.ne_nil_of_mem he)

/-- **the cells of an asset/liability account of a per-account report, cumulative or `--diff`.**  Whenever the command
produces a report and the account `a` has an insert, the rendered table has the row of `a` — the last segment of its name
indented two blanks per level, then one cell per column — and for every column `k` (period end `D_k`, eve
`F_k = eveOf f.diff …`: the day before the window start, or the previous period end in a `--diff` report) the exact
mark-to-market values `Spec.mtm` at `D_k` and `F_k` exist and the cell shows their difference up to `Spec.stepBound … F_k D_k`
units of the 8th decimal (an empty cell — all per-column sums of the row vanish — reads as 0).  Over the day list the
command runs the pipeline on. -/
theorem account_cells (f : BalanceFlags) (v : Commodity) (hv : f.valuation = some v) (hsh : f.showCommodities = none)
    (hpl : ∀ part, Plain (cfgOf f part)) (ds : List Directive)
    (hz : ∀ t, Directive.tx t ∈ ds → ∀ p ∈ t.postings, p.value = 0)
    (es : List Entry) (part : Partition) (h : BalanceCmd.entries f ds = .ok (es, part))
    (a : Account) (hal : a.isAL = true) (hmem : ∃ e ∈ es, e.account = a) :
    ∃ pre post cells,
      (BalanceReport.table (BalanceCmd.renderCfg f part) es).rows =
        pre ++ [Cell.text (a.segments.getLast?.getD "").toList .left ((2 * (a.segments.length - 1) : Nat) : Int) :: cells] ++ post ∧
      cells.length = part.endDates.length ∧
      ∀ (k : Nat) (hk : k < part.endDates.length) (hk' : k < cells.length),
        ∃ mD mF, Spec.mtm v (daysOf f ds part) a part.endDates[k] = some mD ∧
          Spec.mtm v (daysOf f ds part) a (eveOf f.diff part.span.start part.endDates k) = some mF ∧
          (cellVal cells[k] - (mD - mF)).abs ≤
            (Spec.stepBound v (daysOf f ds part) a (eveOf f.diff part.span.start part.endDates k) part.endDates[k] : Rat) /
              (10 : Rat) ^ 8 := by
  obtain ⟨e, he, rfl⟩ := hmem
  obtain ⟨pre, post, cells, hrows, hlen, hcell⟩ := command_cells_plain f v hv hsh ds es part h e he (isAL_segments_ne hal)
  refine ⟨pre, post, cells, hrows, hlen, fun k hk hk' => ?_⟩
  obtain ⟨hpart, st, hrun, rfl⟩ := entries_ok h
  have K := command_col f ds hz part st hpart hrun (List.ne_nil_of_mem he) f.diff k hk
  rw [hcell k hk hk', hal, if_pos rfl]
  exact (run_account_delta K v e.account hv hal (hpl part)).abs

/-- a position-free eve of the window: the exact mark-to-market value on the eve is 0 -/
theorem C03_mtm_zero_of_closed (v : Commodity) (days : List Day) (a : Account) (F : Int)
    (hq : ∀ c ∈ Spec.commoditiesOf days a, Spec.qtyAt days a c F = 0) : Spec.mtm v days a F = some 0 := by
  have hpos : ∀ c ∈ Spec.commoditiesOf days a, Spec.mtmPos v days a c F = some 0 := fun c hc => by
    unfold Spec.mtmPos
    simp only [hq c hc, if_true]
  rw [mtm_eq_mtmPos, mapM_some_getD _ _ (fun c hc => ⟨0, hpos c hc⟩)]
  exact congrArg some (MapSum.sum_map_eq_zero _ _ (fun c hc => by rw [hpos c hc]; rfl))

/-- **the cells of the report.**  For every cumulative valued report with per-account rows and every directive list
whose postings arrive unvalued: whenever the command produces a report and the asset/liability account `a` has an
insert, the rendered table has the row of `a` — the last segment of its name indented two blanks per level, then one
cell per column — and for every column `k` (period end `D_k`) the exact mark-to-market values `Spec.mtm` at `D_k` and
on the eve of the window exist and the cell shows their difference up to `Spec.stepBound` units of the 8th decimal
(an empty cell — all per-column sums of the row vanish — reads as 0).  The specification is evaluated on
`(Builder.ofList ds).build` — the directives grouped by date, nothing else — not on the day list the command runs the
pipeline on (which, with `--close`, also holds an empty day per period start; the specification does not see such days:
`Proofs/MTMEmpty.lean`).  This is literally what the monitor computes (driver op `c03mtm`). -/
theorem C03_command_cell (f : BalanceFlags) (v : Commodity) (hf : PlainFlags f v) (ds : List Directive)
    (hz : ∀ t, Directive.tx t ∈ ds → ∀ p ∈ t.postings, p.value = 0)
    (es : List Entry) (part : Partition) (h : BalanceCmd.entries f ds = .ok (es, part))
    (a : Account) (hal : a.isAL = true) (hmem : ∃ e ∈ es, e.account = a) :
    ∃ pre post cells,
      (BalanceReport.table (BalanceCmd.renderCfg f part) es).rows =
        pre ++ [Cell.text (a.segments.getLast?.getD "").toList .left ((2 * (a.segments.length - 1) : Nat) : Int) :: cells] ++ post ∧
      cells.length = part.endDates.length ∧
      ∀ (k : Nat) (hk : k < part.endDates.length) (hk' : k < cells.length),
        ∃ mD mF, Spec.mtm v (Builder.ofList ds).build a part.endDates[k] = some mD ∧
          Spec.mtm v (Builder.ofList ds).build a (part.span.start - 1) = some mF ∧
          (cellVal cells[k] - (mD - mF)).abs ≤
            (Spec.stepBound v (Builder.ofList ds).build a (part.span.start - 1) part.endDates[k] : Rat) / (10 : Rat) ^ 8 := by
  have h := account_cells f v hf.valuation hf.show_ (plain_cfgOf hf) ds hz es part h a hal hmem
  simp only [hf.diff, eveOf, Bool.false_eq_true, if_false, mtm_daysOf, stepBound_daysOf] at h
  exact h

/-- **end to end, no hypothesis on the journal**: for every journal the loader (`Driver.C04.load`: the path of all generated
journals, with or without `@accrue`) accepts, the cell statement holds (postings only ever receive a value from the
Valuate stage: `LedgerCommand.load_go_zero`) -/
theorem C03_loaded_journal_cell (raw : List Driver.RawDirective) (ids : List (Nat × Directive))
    (hload : Driver.C04.load raw = .ok ids) (f : BalanceFlags) (v : Commodity) (hf : PlainFlags f v)
    (es : List Entry) (part : Partition) (h : BalanceCmd.entries f (ids.map (·.2)) = .ok (es, part))
    (a : Account) (hal : a.isAL = true) (hmem : ∃ e ∈ es, e.account = a) :
    ∃ pre post cells,
      (BalanceReport.table (BalanceCmd.renderCfg f part) es).rows =
        pre ++ [Cell.text (a.segments.getLast?.getD "").toList .left ((2 * (a.segments.length - 1) : Nat) : Int) :: cells] ++ post ∧
      cells.length = part.endDates.length ∧
      ∀ (k : Nat) (hk : k < part.endDates.length) (hk' : k < cells.length),
        ∃ mD mF, Spec.mtm v (Builder.ofList (ids.map (·.2))).build a part.endDates[k] = some mD ∧
          Spec.mtm v (Builder.ofList (ids.map (·.2))).build a (part.span.start - 1) = some mF ∧
          (cellVal cells[k] - (mD - mF)).abs ≤
            (Spec.stepBound v (Builder.ofList (ids.map (·.2))).build a (part.span.start - 1) part.endDates[k] : Rat) / (10 : Rat) ^ 8 := by
  apply C03_command_cell f v hf _ _ es part h a hal hmem
  intro t ht
  obtain ⟨p, hp, hpt⟩ := List.mem_map.mp ht
  have : IdsZero ids := load_go_zero raw 0 [] ids (by intro p hp; cases hp) hload
  exact this p hp t hpt

/-- **the property's sentence**: if the account holds nothing on the eve of the window (in particular without `--from`,
or with `--from` before the first booking on the account), every cell of its row is the exact mark-to-market value
`Spec.mtm` of its column date up to `Spec.stepBound` units of the 8th decimal -/
theorem C03_command_cell_abs (f : BalanceFlags) (v : Commodity) (hf : PlainFlags f v) (ds : List Directive)
    (hz : ∀ t, Directive.tx t ∈ ds → ∀ p ∈ t.postings, p.value = 0)
    (es : List Entry) (part : Partition) (h : BalanceCmd.entries f ds = .ok (es, part))
    (a : Account) (hal : a.isAL = true) (hmem : ∃ e ∈ es, e.account = a)
    (hclosed : ∀ c ∈ Spec.commoditiesOf (Builder.ofList ds).build a,
      Spec.qtyAt (Builder.ofList ds).build a c (part.span.start - 1) = 0) :
    ∃ pre post cells,
      (BalanceReport.table (BalanceCmd.renderCfg f part) es).rows =
        pre ++ [Cell.text (a.segments.getLast?.getD "").toList .left ((2 * (a.segments.length - 1) : Nat) : Int) :: cells] ++ post ∧
      cells.length = part.endDates.length ∧
      ∀ (k : Nat) (hk : k < part.endDates.length) (hk' : k < cells.length),
        ∃ mD, Spec.mtm v (Builder.ofList ds).build a part.endDates[k] = some mD ∧
          (cellVal cells[k] - mD).abs ≤
            (Spec.stepBound v (Builder.ofList ds).build a (part.span.start - 1) part.endDates[k] : Rat) / (10 : Rat) ^ 8 := by
  obtain ⟨pre, post, cells, h1, h2, h3⟩ := C03_command_cell f v hf ds hz es part h a hal hmem
  refine ⟨pre, post, cells, h1, h2, ?_⟩
  intro k hk hk'
  obtain ⟨mD, mF, m1, m2, m3⟩ := h3 k hk hk'
  rw [C03_mtm_zero_of_closed v _ a _ hclosed] at m2
  injection m2 with m2
  subst m2
  refine ⟨mD, m1, ?_⟩
  rwa [sub_zero_rat] at m3

/-- **closed form of the bound**: per commodity of the account other than `V`, the non-zero bookings on the position
dated in `(F, D]` plus the days in `(F, D]` that carry a price declaration (only on such a day can a price move, hence a
value adjustment be computed), summed over the commodities the account is booked in -/
theorem C03_step_bound_closed_form (v : Commodity) (days : List Day) (a : Account) (F D : Int) :
    Spec.stepBound v days a F D =
      ((Spec.commoditiesOf days a).map (fun c =>
        if c = v then 0 else
          ((Spec.userPostings days).filter (fun (d, p) => decide (F < d) && decide (d ≤ D) && decide (p.account = a) &&
              decide (p.commodity = c) && decide (p.quantity ≠ 0))).length +
          (days.filter (fun d => decide (F < d.date) && decide (d.date ≤ D) && !d.prices.isEmpty)).length)).sum := rfl

theorem midDays_eq (cfg : BalCfg) (days : List Day) :
    days.filter (fun d => decide (cfg.span.start - 1 < d.date) && decide (d.date ≤ cfg.span.stop)) = midDays cfg days := by
  unfold midDays
  apply List.filter_congr
  intro d _
  rw [Bool.eq_iff_iff, Period.contains_iff, Bool.and_eq_true, decide_eq_true_eq, decide_eq_true_eq]
  omega

/-- **the step count of the window trace is bounded by the journal**: the number of truncations `C03_run_window` charges
for the position `(a, c)` is at most `Spec.stepCount`: the non-zero bookings on it inside the window plus the days inside
the window with a price declaration -/
theorem C03_window_steps_le (cfg : BalCfg) (v : Commodity) (a : Account) (c : Commodity)
    (days : List Day) (stF : BalState)
    (hv : cfg.valuation = some v) (hc : c ≠ v) (hal : a.isAL = true) (hpl : Plain cfg) (hs : Sorted days)
    (hcons : ∀ d ∈ days, ∀ t ∈ d.transactions, t.date = d.date)
    (h : Balance.run cfg days = .ok stF) (stP : BalState) (hP : Balance.run cfg (preDays cfg days) = .ok stP) :
    (run ⟨0, stP.vQty.get (a, c) 0, 0⟩ (windowTrace cfg a c stP days)).steps ≤
      Spec.stepCount v days a (cfg.span.start - 1) cfg.span.stop c := by
  obtain ⟨stP', stM, tP, tM, tPost, h1, h2, _, r1, _⟩ := C03_run_window_split cfg v a c days stF hv hal hpl hs h
  rw [hP] at r1
  injection r1 with r1
  subst r1
  have := traceOfRun_steps_le cfg v a c hv (midDays cfg days) stP stM tM h2 (preDays cfg days) (startPrice stP c)
    ⟨0, stP.vQty.get (a, c) 0, 0⟩ (Reached.of_run hv h1).price (priceIs_priceOr _ _ _)
  unfold windowTrace
  rw [stepCount_eq v days a c _ _ hc hcons, midDays_eq]
  simp only at this
  omega

/-- **`C03_run_window` with the explicit bound** -/
theorem C03_run_window_explicit (cfg : BalCfg) (v : Commodity) (a : Account) (c : Commodity)
    (days : List Day) (stF : BalState)
    (hv : cfg.valuation = some v) (hc : c ≠ v) (hal : a.isAL = true) (hpl : Plain cfg) (hs : Sorted days)
    (hcons : ∀ d ∈ days, ∀ t ∈ d.transactions, t.date = d.date)
    (hu : ∀ d ∈ days, Unvalued a c d.transactions)
    (h : Balance.run cfg days = .ok stF) :
    ∃ stP stM, Balance.run cfg (preDays cfg days) = .ok stP ∧
      Balance.run cfg (preDays cfg days ++ midDays cfg days) = .ok stM ∧
      (entryVal a c stF.entries - (stM.vQty.get (a, c) 0 * lastPrice (startPrice stP c) (windowTrace cfg a c stP days)
          - stP.vQty.get (a, c) 0 * startPrice stP c)).abs
          ≤ (Spec.stepCount v days a (cfg.span.start - 1) cfg.span.stop c : Rat) / (10 : Rat) ^ 8 := by
  obtain ⟨stP, stM, r1, r2, hb, _, _⟩ := C03_run_window cfg v a c days stF hv hc hal hpl hs hu h
  refine ⟨stP, stM, r1, r2, ?_⟩
  have hle := C03_window_steps_le cfg v a c days stF hv hc hal hpl hs hcons h stP r1
  have hk : ((run ⟨0, stP.vQty.get (a, c) 0, 0⟩ (windowTrace cfg a c stP days)).steps : Rat) ≤
      (Spec.stepCount v days a (cfg.span.start - 1) cfg.span.stop c : Rat) := Rat.natCast_le_natCast.mpr hle
  rw [← mul_ulp] at hb ⊢
  have hm := Rat.mul_le_mul_of_nonneg_right hk (Rat.le_of_lt (ulp_pos 8))
  exact Rat.le_trans hb hm

/-! ### Non-vacuity

The journal of `Properties/C03Bridge.lean` as directives (100 CHF cash on day 1; USD priced 0.5 and 3.5 USD bought on
day 2; USD repriced 1.33333333 on day 3; 1 USD sold on day 4), reported with `--from` day 3, `--to` day 4, valued in
CHF.  The row of `Assets:A` shows 1.58333332; `Spec.mtm` is 103.333333325 on day 4 and 101.75 on the eve of the window
(day 2): difference 1.583333325, deviation 5·10⁻⁹, bound 2·10⁻⁸ (one price day, one non-zero USD booking in the window). -/

def exDirs : List Directive :=
  [.opening ⟨1, exA⟩, .opening ⟨1, exE⟩,
   .tx (Transaction.ofBookings 1 "cash" none [⟨exE, exA, 100, "CHF"⟩]),
   .price ⟨2, "USD", 1/2, "CHF"⟩,
   .tx (Transaction.ofBookings 2 "buy" none [⟨exE, exA, 7/2, "USD"⟩, ⟨exA, exA, 1, "USD"⟩]),
   .price ⟨3, "USD", 1333333333/1000000000, "CHF"⟩,
   .tx (Transaction.ofBookings 4 "sell" none [⟨exA, exE, 1, "USD"⟩])]

def exFlags : BalanceFlags := { valuation := some "CHF", from? := some 3, to := 4 }

example : PlainFlags exFlags "CHF" := ⟨rfl, rfl, rfl, rfl, fun _ => rfl, fun _ => rfl, fun _ => rfl⟩

example : ∀ t, Directive.tx t ∈ exDirs → ∀ p ∈ t.postings, p.value = 0 := by
  intro t ht
  simp only [exDirs, List.mem_cons, List.not_mem_nil, or_false, reduceCtorEq, false_or, Directive.tx.injEq] at ht
  rcases ht with rfl | rfl | rfl <;> exact ofBookings_zero _ _ _ _

example : (match BalanceCmd.entries exFlags exDirs with
    | .ok (es, part) =>
      decide (part.span = ⟨3, 4⟩ ∧ part.endDates = [4] ∧ (∃ e ∈ es, e.account = exA) ∧
        [Cell.text "A".toList .left 2, Cell.num (158333332/100000000)] ∈
          (BalanceReport.table (BalanceCmd.renderCfg exFlags part) es).rows ∧
        Spec.mtm "CHF" (Builder.ofList exDirs).build exA 4 = some (103333333325/1000000000) ∧
        Spec.mtm "CHF" (Builder.ofList exDirs).build exA 2 = some (10175/100) ∧
        Spec.stepBound "CHF" (Builder.ofList exDirs).build exA 2 4 = 2)
    | .error _ => false) = true := by decide +kernel

end Knut.C03
