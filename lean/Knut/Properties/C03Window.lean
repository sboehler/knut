import Knut.Proofs.MTMRun
import Knut.Properties.C03Bridge
/-!
# C03 — the mark-to-market bound for every window (`--from` / `--to`)

`C03_run_mtm_bound` (Properties/C03Bridge.lean) needs all days inside the window.  Here the window is arbitrary.  The
pipeline runs ComputePrices and Valuate on EVERY day of the journal, Filter then drops the transactions of the days
outside the window.  For a date-sorted day list (what the journal builder produces: `LedgerCommand.daysOf_sorted`) the
days are `pre ++ mid ++ post` = before / inside / after the window (`MTM.sorted_window_split`); the run splits there,
nothing of `pre` and `post` reaches the report on an asset/liability position, and the inserts on `(a, c)` total
`Q_D·p_D − Q_F·p_F` up to one unit of the 8th decimal per truncation inside the window (`Q_F`, `p_F` after the last day
BEFORE the window, `Q_D`, `p_D` after the last day inside it).  This is the formula of the known finding
`window-start-after-position`; with nothing before the window it is the absolute statement.
-/
namespace Knut.C03
open Knut Knut.Dec Knut.MTM

/-- **the run splits at the window borders**, and on an asset/liability position only the days inside the window
contribute report inserts -/
theorem C03_run_window_split (cfg : BalCfg) (v : Commodity) (a : Account) (c : Commodity)
    (days : List Day) (stF : BalState)
    (hv : cfg.valuation = some v) (hal : a.isAL = true) (hpl : Plain cfg) (hs : Sorted days)
    (h : Balance.run cfg days = .ok stF) :
    ∃ stP stM tP tM tPost,
      pipelineRun cfg {} (preDays cfg days) = .ok (stP, tP) ∧
      pipelineRun cfg stP (midDays cfg days) = .ok (stM, tM) ∧
      pipelineRun cfg stM (postDays cfg days) = .ok (stF, tPost) ∧
      Balance.run cfg (preDays cfg days) = .ok stP ∧
      Balance.run cfg (preDays cfg days ++ midDays cfg days) = .ok stM ∧
      AMap.NodupKeys stP.vQty ∧ CloseInv stP ∧
      entryVal a c stF.entries = valOn a c tM := by
  obtain ⟨txs, hp, he⟩ := run_pipelineRun cfg days stF h
  rw [sorted_window_split cfg.span days hs] at hp
  obtain ⟨stM, tPM, tPost, h1, h3, e1⟩ := pipelineRun_append.mp hp
  obtain ⟨stP, tP, tM, h1a, h2, e2⟩ := pipelineRun_append.mp h1
  have RP := Reached.of_run hv h1a
  refine ⟨stP, stM, tP, tM, tPost, h1a, h2, h3, run_of_pipelineRun cfg _ _ _ h1a,
    run_of_pipelineRun cfg _ _ _ (pipelineRun_append.mpr ⟨_, _, _, h1a, h2, rfl⟩), RP.nodup, RP.close, ?_⟩
  have hvs : cfg.valuation.isSome = true := by rw [hv]; rfl
  rw [he, entryVal_flatMap cfg hpl hvs, e1, e2]
  unfold valOn
  -- nothing reaches the Query stage before the window, nothing on an asset/liability position after it
  rw [posOn_append, posOn_append, (pipelineRun_outside (window_pre_out cfg.span days) rfl h1a).1,
    Reached.outside hv a c hal (RP.run hv h2) h3 (window_post_out cfg.span days), posOn_nil]
  simp

/-- **windowed mark-to-market bound for `Balance.run`, every window**: in a plain valued report over a date-sorted day
list, the report inserts on an asset/liability position `(a, c)`, `c ≠ V`, total the CHANGE of `quantity × price`
between the last day before the window and the last day inside it, up to one unit of the 8th decimal per truncation
(value adjustment or non-zero booking) inside the window. -/
theorem C03_run_window (cfg : BalCfg) (v : Commodity) (a : Account) (c : Commodity)
    (days : List Day) (stF : BalState)
    (hv : cfg.valuation = some v) (hc : c ≠ v) (hal : a.isAL = true) (hpl : Plain cfg) (hs : Sorted days)
    (hu : ∀ d ∈ days, Unvalued a c d.transactions)
    (h : Balance.run cfg days = .ok stF) :
    ∃ stP stM, Balance.run cfg (preDays cfg days) = .ok stP ∧
      Balance.run cfg (preDays cfg days ++ midDays cfg days) = .ok stM ∧
      (entryVal a c stF.entries - (stM.vQty.get (a, c) 0 * lastPrice (startPrice stP c) (windowTrace cfg a c stP days)
          - stP.vQty.get (a, c) 0 * startPrice stP c)).abs
          ≤ ((run ⟨0, stP.vQty.get (a, c) 0, 0⟩ (windowTrace cfg a c stP days)).steps : Rat) / (10 : Rat) ^ 8 ∧
      PriceIs stP.vPrev c (startPrice stP c) ∧
      PriceIs stM.vPrev c (lastPrice (startPrice stP c) (windowTrace cfg a c stP days)) := by
  obtain ⟨stP, stM, tP, tM, tPost, h1, h2, _, r1, r2, hn, hinv, he⟩ :=
    C03_run_window_split cfg v a c days stF hv hal hpl hs h
  refine ⟨stP, stM, r1, r2, ?_⟩
  unfold windowTrace startPrice
  have hpF := priceIs_priceOr stP.vPrev c 0
  obtain ⟨hb, w3⟩ := pipelineRun_bound cfg v a c hv hc hal (midDays cfg days) stP stM tM h2 (priceOr stP.vPrev c 0) hn hinv
    (window_mid_in cfg.span days) (fun d hd => hu d (List.mem_filter.mp hd).1) hpF
  rw [← he, mul_ulp] at hb
  exact ⟨abs_le_of hb.1 hb.2, hpF, w3⟩

/-- nothing before the window: the absolute statement -/
theorem C03_run_window_abs (cfg : BalCfg) (v : Commodity) (a : Account) (c : Commodity)
    (days : List Day) (stF : BalState)
    (hv : cfg.valuation = some v) (hc : c ≠ v) (hal : a.isAL = true) (hpl : Plain cfg) (hs : Sorted days)
    (hu : ∀ d ∈ days, Unvalued a c d.transactions)
    (hpre : preDays cfg days = [])
    (h : Balance.run cfg days = .ok stF) :
    ∃ stM, Balance.run cfg (midDays cfg days) = .ok stM ∧
      (entryVal a c stF.entries - stM.vQty.get (a, c) 0 * lastPrice 0 (windowTrace cfg a c {} days)).abs
          ≤ ((run {} (windowTrace cfg a c {} days)).steps : Rat) / (10 : Rat) ^ 8 ∧
      PriceIs stM.vPrev c (lastPrice 0 (windowTrace cfg a c {} days)) := by
  obtain ⟨stP, stM, r1, r2, h1, _, h3⟩ := C03_run_window cfg v a c days stF hv hc hal hpl hs hu h
  rw [hpre] at r1 r2
  have e0 : stP = {} := by
    have : Balance.run cfg [] = .ok ({} : BalState) := rfl
    rw [this] at r1; injection r1 with r1; exact r1.symm
  subst e0
  rw [List.nil_append] at r2
  refine ⟨stM, r2, ?_⟩
  have e1 : startPrice ({} : BalState) c = 0 := rfl
  have e2 : ({} : BalState).vQty.get (a, c) 0 = 0 := rfl
  rw [e1, e2] at h1
  rw [e1] at h3
  refine ⟨?_, h3⟩
  rwa [Rat.zero_mul, sub_zero_rat] at h1

/-! ### Non-vacuity

The journal `exDays` of `Properties/C03Bridge.lean` (cash on day 1; 3.5 USD bought at 0.5 on day 2; USD repriced to
1.33333333 on day 3; 1 USD sold on day 4) reported with the window `[3, 4]`: the position exists before the window. -/

def exCfgW : BalCfg := { valuation := some "CHF", span := ⟨3, 4⟩, periods := [⟨3, 4⟩] }

example : preDays exCfgW exDays = exDays.take 2 ∧ midDays exCfgW exDays = exDays.drop 2 ∧ postDays exCfgW exDays = [] := by
  decide +kernel

example : Sorted exDays := by unfold Sorted; decide +kernel

/-- before the window: 3.5 USD at 0.5; the trace inside the window has two truncations (the adjustment of day 3, the
sale of day 4) -/
example : (match Balance.run exCfgW (preDays exCfgW exDays) with
    | .ok stP => decide (stP.vQty.get (exA, "USD") 0 = 7/2 ∧ startPrice stP "USD" = 1/2 ∧
        (windowTrace exCfgW exA "USD" stP exDays).map (fun d => (d.pPrev, d.pCur, d.qs)) =
          [(1/2, 133333333/100000000, []), (133333333/100000000, 133333333/100000000, [-1])] ∧
        run ⟨0, 7/2, 0⟩ (windowTrace exCfgW exA "USD" stP exDays) = { W := 158333332/100000000, Q := 5/2, steps := 2 })
    | .error _ => false) = true := by decide +kernel

/-- the report shows 1.58333332 on the position: not the absolute value 2.5 × 1.33333333 = 3.333333325 but the change
3.333333325 − 3.5 × 0.5 = 1.583333325 inside the window, up to 5·10⁻⁹ -/
example : (match Balance.run exCfgW exDays with
    | .ok st => decide (entryVal exA "USD" st.entries = 158333332/100000000 ∧ st.vQty.get (exA, "USD") 0 = 5/2)
    | .error _ => false) = true := by decide +kernel

example : Plain exCfgW := ⟨rfl, fun _ => rfl, fun _ => rfl, fun _ => rfl⟩

end Knut.C03
