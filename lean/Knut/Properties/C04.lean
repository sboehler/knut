import Knut.Proofs.Check
import Knut.Proofs.LifecyclePerm
/-!
# C04 — check accepts exactly the well-formed journals

`Check.run` is the model of the checker processor run over the days of a journal
(`Builder.ofList ds |>.build`); `Spec.verdict strict` is the lifecycle specification.

* `C04_refines` – the checker and the *strict* specification agree on every journal: both accept, or
  both reject **naming the same directive**.
* `C04_sound` – whatever the checker accepts is well-formed in the sense of the property text.
* `C04_complete_partial` – conversely, a well-formed journal is accepted, *provided* it contains no
  non-zero assertion on an account that is not an asset/liability account.  Without that proviso the
  statement is false for the code as it is (`C04_nonAL_assertion_rejected`): the property text does not
  constrain such assertions, the code rejects them.  Recorded as a known finding.
-/
namespace Knut.C04
open Knut Knut.Spec

/-- **refinement**: checker and strict specification give the same verdict on every journal, and on
rejection they name the same directive. -/
theorem C04_refines (days : List Day) : Sim R ErrRel (Check.run days) (verdict true days) := by
  unfold Check.run verdict
  exact foldlM_sim R ErrRel _ _ _ (fun st s d _ hr => sim_day st s d hr) _ _ R_init

/-- accept ⇔ strict-well-formed -/
theorem C04_accept_iff_strict (days : List Day) :
    (Check.run days).isOk = (verdict true days).isOk :=
  sim_isOk_eq (C04_refines days)

/-- **diagnostic names the offender**: on rejection the directive in the checker's error is the first
directive the specification rejects. -/
theorem C04_names_offender (days : List Day) (e : CheckErr) (h : Check.run days = .error e) :
    verdict true days = .error e.directive := by
  have := C04_refines days
  rw [h] at this
  cases h2 : verdict true days with
  | error d => rw [h2] at this; simp only [Sim, ErrRel] at this; rw [this]
  | ok s => rw [h2] at this; exact absurd this (by simp [Sim])

/-- **soundness w.r.t. the property text**: an accepted journal is well-formed. -/
theorem C04_sound (days : List Day) (h : (Check.run days).isOk = true) : wellFormed days = true := by
  rw [C04_accept_iff_strict] at h
  unfold wellFormed
  cases hv : verdict true days with
  | error d => rw [hv] at h; simp [Except.isOk, Except.toBool] at h
  | ok s =>
    have := foldlM_ok_mono (stepDay true) (stepDay false) days (fun s s' d _ hd => stepDay_mono s s' d hd) {} s hv
    unfold verdict; rw [this]; rfl

/-- the journals on which the code and the property text cannot differ -/
def NoNonzeroNonALAssertion (days : List Day) : Prop :=
  ∀ d ∈ days, ∀ a ∈ d.assertions, ∀ b ∈ a.balances, b.account.isAL = true ∨ b.quantity = 0

/-- **completeness (partial)**: a well-formed journal without non-zero assertions on non-A/L accounts
is accepted.  The full statement (without the hypothesis) is false for the code, see below. -/
theorem C04_complete_partial (days : List Day) (hn : NoNonzeroNonALAssertion days)
    (h : wellFormed days = true) : (Check.run days).isOk = true := by
  rw [C04_accept_iff_strict]
  unfold wellFormed at h
  have : verdict false days = verdict true days := by
    unfold verdict
    apply foldlM_congr_mem
    intro s d hd
    unfold stepDay
    refine congrArg _ (funext fun s1 => congrArg _ (funext fun s2 => ?_))
    rw [foldlM_congr_mem _ _ d.assertions (fun s a ha =>
      foldlM_congr_mem _ _ a.balances (fun s b hb => stepBalance_eq s a b (hn d hd a ha b hb)) s) s2]
  rw [← this]; exact h


def acc (s : String) : Account := Account.ofName s

/-- a journal with a correct running balance on an expense account -/
def nonALJournal : List Day :=
  [{ date := 1, openings := [⟨1, ⟨["Assets", "A"]⟩⟩, ⟨1, ⟨["Expenses", "X"]⟩⟩],
     transactions := [⟨1, "t", postingBuild ⟨["Assets", "A"]⟩ ⟨["Expenses", "X"]⟩ "CHF" 5, none⟩],
     assertions := [⟨1, [⟨⟨["Expenses", "X"]⟩, 5, "CHF"⟩]⟩] }]

/-- the property text accepts it (it constrains asset/liability assertions only) … -/
theorem C04_nonAL_assertion_wellformed : wellFormed nonALJournal = true := by decide

/-- … the code rejects it: known finding `assertion-on-non-AL-account`. -/
theorem C04_nonAL_assertion_rejected : (Check.run nonALJournal).isOk = false := by decide

/-- non-vacuity: a journal with open, booking, assertion and close that both sides accept -/
def okJournal : List Day :=
  [{ date := 1, openings := [⟨1, ⟨["Assets", "A"]⟩⟩, ⟨1, ⟨["Equity", "E"]⟩⟩],
     transactions := [⟨1, "t", postingBuild ⟨["Equity", "E"]⟩ ⟨["Assets", "A"]⟩ "CHF" 5, none⟩],
     assertions := [⟨1, [⟨⟨["Assets", "A"]⟩, 5, "CHF"⟩]⟩] },
   { date := 2, transactions := [⟨2, "u", postingBuild ⟨["Assets", "A"]⟩ ⟨["Equity", "E"]⟩ "CHF" 5, none⟩],
     assertions := [⟨2, [⟨⟨["Assets", "A"]⟩, 0, "CHF"⟩]⟩], closings := [⟨2, ⟨["Assets", "A"]⟩⟩] }]

example : (Check.run okJournal).isOk = true ∧ wellFormed okJournal = true := by decide +kernel
example : NoNonzeroNonALAssertion okJournal := by
  intro d hd a ha b hb
  simp [okJournal] at hd
  rcases hd with rfl | rfl <;> simp at ha <;> subst ha <;> simp at hb <;> subst hb <;> simp [Account.isAL, Account.type?, AccountType.ofName]

end Knut.C04
