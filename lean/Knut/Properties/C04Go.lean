import Knut.Properties.C04
import Knut.FactsAgree.TransCheck
import Knut.Generated.Facts
/-!
# C04 on the generated definitions

The theorems of `Properties/C04.lean` are about the model checker `Check.run`; `FactsAgree/TransCheck.lean` proves the four methods
translated from `/repo`'s `lib/journal/check/check.go` (`Checker.open`, `posting`, `balance`, `close`) equal to the model's steps
through the state equivalence `StEquiv` — `close` **for every iteration order** of the map `ch.quantities`.  This module composes them.

The object of every statement is `runGo cur src ord days`: the GENERATED methods, started on the state `Checker.Check()` creates
(`initGo`: default options, empty map, empty set), folded over the days of a journal in the order of `Processor.Process` (`Open` for every
opening; `Posting` for every posting of every transaction; `Balance` for every balance of every assertion; `Close` for every closing;
no `DayEnd`: `Write` is false), stopping at the first error.  The translated error value keeps the message class only, so the fold
records next to it the directive of the failing call (what `check.Error` wraps in Go).

Parameters that stay: `cur` (the `IsCurrency` flag of every commodity name), `src` (the `Src` pointer given to every directive: no
translated method reads it), and `ord : Checker → Close → List Key` — **the iteration order of `range ch.quantities` in each call of
`close`**, an arbitrary function of the whole state and the directive; the only hypothesis is `OrdOK ord`: the order reaches every key
of the map (it may repeat keys and contain others).
-/
namespace Knut.C04Go
open Knut Knut.Spec
open Knut.Generated.Go
open Knut.FactsAgree.TransCheck Knut.FactsAgree.TransPosting Knut.FactsAgree.TransAccount

/-- result of a run of the translated checker: the final state, or the error value and the directive of the failing call -/
abbrev GoRes := Except (GoSem.Error × Knut.Directive) check.Checker

/-- the state `Checker.Check()` starts from (default options) -/
def initGo : check.Checker :=
  { Write := false, NoCheck := false, quantities := [], accounts := set.New, assertions := [] }

/-- the iteration order of `range ch.quantities` in a call of `close` reaches every key of the map -/
def OrdOK (ord : check.Checker → Knut.Close → List amounts.Key) : Prop :=
  ∀ g c k, (Knut.AMap.find? g.quantities k).isSome → k ∈ ord g c

def stepOpen (src : GoSem.Ref) (g : check.Checker) (o : Knut.Open) : GoRes :=
  match check.Checker.open_ g (openGo src o) with
  | (g', none) => .ok g'
  | (_, some e) => .error (e, .opening o)

def stepPosting (cur : String → Bool) (src : GoSem.Ref) (g : check.Checker) (t : Knut.Transaction) (p : Knut.Posting) : GoRes :=
  match check.Checker.posting g (Knut.FactsAgree.TransTransaction.txGo cur src src t) (postingGo cur src p) with
  | (g', none) => .ok g'
  | (_, some e) => .error (e, .tx t)

def stepBalance (cur : String → Bool) (src : GoSem.Ref) (g : check.Checker) (a : Knut.Assertion) (b : Knut.Balance) : GoRes :=
  match check.Checker.balance g ⟨src, a.date, a.balances.map (balanceGo cur src)⟩ (balanceGo cur src b) with
  | none => .ok g
  | some e => .error (e, .assertion a)

def stepClose (src : GoSem.Ref) (ord : check.Checker → Knut.Close → List amounts.Key) (g : check.Checker) (c : Knut.Close) : GoRes :=
  match check.Checker.close g (closeGo src c) (ord g c) with
  | (g', none) => .ok g'
  | (_, some e) => .error (e, .closing c)

/-- `Processor.Process(d)` with the checker's callbacks -/
def dayGo (cur : String → Bool) (src : GoSem.Ref) (ord : check.Checker → Knut.Close → List amounts.Key)
    (g : check.Checker) (d : Knut.Day) : GoRes := do
  let g ← d.openings.foldlM (stepOpen src) g
  let g ← d.transactions.foldlM (fun g t => t.postings.foldlM (fun g p => stepPosting cur src g t p) g) g
  let g ← d.assertions.foldlM (fun g a => a.balances.foldlM (fun g b => stepBalance cur src g a b) g) g
  d.closings.foldlM (stepClose src ord) g

/-- the order of the blocks of `Processor.Process`, as the fact extractor reads it from the current source: `dayGo` follows it (`Posting`
and `Balance` nest inside the `Transaction` and `Assertion` blocks; the checker sets no `DayStart`, `Price`, `Transaction`, `Assertion`
callback, and `DayEnd` only with `Write`).  A reordering of the blocks in `journal.go` breaks this example. -/
example : Knut.Generated.processorCallbackOrder = ["DayStart", "Price", "Open", "Transaction", "Assertion", "Close", "DayEnd"] := rfl

/-- the translated checker over a whole journal -/
def runGo (cur : String → Bool) (src : GoSem.Ref) (ord : check.Checker → Knut.Close → List amounts.Key) (days : List Knut.Day) : GoRes :=
  days.foldlM (dayGo cur src ord) initGo

/-- the message of the Go error is the message of the model's error kind (`Checker.posting` words "not open" with the account) -/
def MsgOK (e : GoSem.Error) (k : CheckErrKind) : Prop :=
  e.msg = msgOf k ∨ (k = .notOpen ∧ e.msg = "account %s is not open")

/-- errors correspond: the same directive, the message of the same kind -/
def ErrGo (x : GoSem.Error × Knut.Directive) (err : CheckErr) : Prop := x.2 = err.directive ∧ MsgOK x.1 err.kind

/-- a step of `dayGo` — a method's new state and error value as a `GoRes` that records the directive `d` of the call — against the
model's step, from the agreement of the method (`TransCheck.open_agree`, …) -/
theorem sim_step {cur : String → Bool} {d : Knut.Directive} {r : check.Checker × Option GoSem.Error} {res : GoRes}
    {m : Except CheckErr CheckState} (hok : ∀ g', r = (g', none) → res = .ok g') (herr : ∀ g' e, r = (g', some e) → res = .error (e, d))
    (h : FactsAgree.TransProcess.Agree (fun g' (_ : Unit) st' => StEquiv cur g' st') (fun _ _ e err => MsgOK e err.kind ∧ err.directive = d)
      (.ok (r.1, (), r.2)) m) : Sim (StEquiv cur) ErrGo res m := by
  obtain ⟨g', e⟩ := r
  cases h with
  | ok hq => rw [hok g' rfl]; exact hq
  | error he => rw [herr g' _ rfl]; exact ⟨he.2.symm, he.1⟩

theorem sim_open (cur : String → Bool) (src : GoSem.Ref) {g : check.Checker} {st : CheckState} (h : StEquiv cur g st) (o : Knut.Open) :
    Sim (StEquiv cur) ErrGo (stepOpen src g o) (Check.openAcc st o) :=
  sim_step (fun _ e => by rw [stepOpen, e]) (fun _ _ e => by rw [stepOpen, e])
    ((open_agree cur h src o ()).imp (fun _ _ _ hq => hq.1) (fun _ _ _ _ he => ⟨.inl he.2.1, he.2.2⟩))

theorem sim_posting (cur : String → Bool) (src : GoSem.Ref) {g : check.Checker} {st : CheckState} (h : StEquiv cur g st)
    (t : Knut.Transaction) (p : Knut.Posting) :
    Sim (StEquiv cur) ErrGo (stepPosting cur src g t p) (Check.posting st t p) :=
  sim_step (fun _ e => by rw [stepPosting, e]) (fun _ _ e => by rw [stepPosting, e])
    ((posting_agree cur h _ src t p ()).imp (fun _ _ _ hq => hq.1) (fun _ _ _ _ he => by obtain ⟨_, hm, rfl⟩ := he; exact ⟨.inr ⟨rfl, hm⟩, rfl⟩))

theorem sim_balance (cur : String → Bool) (src : GoSem.Ref) {g : check.Checker} {st : CheckState} (h : StEquiv cur g st)
    (a : Knut.Assertion) (b : Knut.Balance) :
    Sim (StEquiv cur) ErrGo (stepBalance cur src g a b) (Check.balance st a b) := by
  refine sim_step (r := (g, check.Checker.balance g ⟨src, a.date, a.balances.map (balanceGo cur src)⟩ (balanceGo cur src b)))
    (fun _ e => ?_) (fun _ _ e => ?_)
    ((balance_agree cur h ⟨src, a.date, a.balances.map (balanceGo cur src)⟩ src a b ()).imp (fun _ _ _ hq => hq.1.1 ▸ hq.1.2 ▸ h) (fun _ _ _ _ he => ⟨.inl he.1, he.2⟩))
  · obtain ⟨rfl, e'⟩ := Prod.mk.inj e
    rw [stepBalance, e']
  · obtain ⟨rfl, e'⟩ := Prod.mk.inj e
    rw [stepBalance, e']

theorem sim_close (cur : String → Bool) (src : GoSem.Ref) {ord : check.Checker → Knut.Close → List amounts.Key} (ho : OrdOK ord)
    {g : check.Checker} {st : CheckState} (h : StEquiv cur g st) (c : Knut.Close) :
    Sim (StEquiv cur) ErrGo (stepClose src ord g c) (Check.close st c) :=
  sim_step (fun _ e => by rw [stepClose, e]) (fun _ _ e => by rw [stepClose, e])
    ((close_agree cur h src c (ord g c) (ho g c) ()).imp (fun _ _ _ hq => hq.1) (fun _ _ _ _ he => ⟨.inl he.1, he.2⟩))

theorem sim_day (cur : String → Bool) (src : GoSem.Ref) {ord : check.Checker → Knut.Close → List amounts.Key} (ho : OrdOK ord)
    (g : check.Checker) (st : CheckState) (d : Knut.Day) (h : StEquiv cur g st) :
    Sim (StEquiv cur) ErrGo (dayGo cur src ord g d) (Check.day st d) := by
  unfold dayGo Check.day
  apply bind_sim (R := StEquiv cur)
  · exact foldlM_sim _ _ _ _ _ (fun g st o _ hr => sim_open cur src hr o) g st h
  · intro g st h
    apply bind_sim (R := StEquiv cur)
    · apply foldlM_sim _ _ _ _ _ _ g st h
      intro g st t _ hr
      exact foldlM_sim _ _ _ _ _ (fun g st p _ hr => sim_posting cur src hr t p) g st hr
    · intro g st h
      apply bind_sim (R := StEquiv cur)
      · apply foldlM_sim _ _ _ _ _ _ g st h
        intro g st a _ hr
        exact foldlM_sim _ _ _ _ _ (fun g st b _ hr => sim_balance cur src hr a b) g st hr
      · intro g st h
        exact foldlM_sim _ _ _ _ _ (fun g st c _ hr => sim_close cur src ho hr c) g st h

/-- **the bridge**: the translated checker, for every admissible family of iteration orders, simulates the model checker: both
accept (in equivalent states) or both stop at the same directive with the message of the same kind -/
theorem runGo_agrees (cur : String → Bool) (src : GoSem.Ref) {ord : check.Checker → Knut.Close → List amounts.Key} (ho : OrdOK ord)
    (days : List Knut.Day) : Sim (StEquiv cur) ErrGo (runGo cur src ord days) (Check.run days) := by
  unfold runGo Check.run
  exact foldlM_sim _ _ _ _ _ (fun g st d _ hr => sim_day cur src ho g st d hr) _ _ (FactsAgree.TransProcessAll.checkInit_equiv cur)

/-- **refinement**: the translated checker and the strict lifecycle specification give the same verdict on every journal, and on
rejection the failing call is the call on the first directive the specification rejects -/
theorem C04_refines_go (cur : String → Bool) (src : GoSem.Ref) {ord : check.Checker → Knut.Close → List amounts.Key} (ho : OrdOK ord)
    (days : List Knut.Day) :
    Sim (fun _ _ => True) (fun x d => x.2 = d) (runGo cur src ord days) (verdict true days) :=
  sim_imp (sim_trans (runGo_agrees cur src ho days) (C04.C04_refines days)) (fun _ _ _ => trivial)
    (fun _ _ ⟨_, h1, h2⟩ => by simp only [ErrGo, ErrRel] at h1 h2; rw [h1.1, h2])

/-- accept ⇔ strict-well-formed -/
theorem C04_accept_iff_strict_go (cur : String → Bool) (src : GoSem.Ref) {ord : check.Checker → Knut.Close → List amounts.Key}
    (ho : OrdOK ord) (days : List Knut.Day) : (runGo cur src ord days).isOk = (verdict true days).isOk :=
  sim_isOk_eq (C04_refines_go cur src ho days)

/-- **the verdict does not depend on the iteration orders** (nor on `cur`, `src`): any two admissible runs accept or reject together,
at the same directive -/
theorem C04_order_irrelevant_go (cur cur' : String → Bool) (src src' : GoSem.Ref)
    {ord ord' : check.Checker → Knut.Close → List amounts.Key} (ho : OrdOK ord) (ho' : OrdOK ord') (days : List Knut.Day) :
    Sim (fun _ _ => True) (fun x y => x.2 = y.2) (runGo cur src ord days) (runGo cur' src' ord' days) :=
  sim_imp (sim_trans (C04_refines_go cur src ho days) (sim_symm (C04_refines_go cur' src' ho' days))) (fun _ _ _ => trivial)
    (fun _ _ ⟨_, h1, h2⟩ => h1.trans h2.symm)

/-- **diagnostic names the offender**: when the translated checker stops, the failing call is the call on the first directive
the specification rejects, and its message is the message of the model's error -/
theorem C04_names_offender_go (cur : String → Bool) (src : GoSem.Ref) {ord : check.Checker → Knut.Close → List amounts.Key}
    (ho : OrdOK ord) (days : List Knut.Day) (e : GoSem.Error) (d : Knut.Directive)
    (h : runGo cur src ord days = .error (e, d)) :
    verdict true days = .error d ∧ ∃ err, Check.run days = .error err ∧ err.directive = d ∧ MsgOK e err.kind := by
  have h1 := runGo_agrees cur src ho days
  rw [h] at h1
  cases hm : Check.run days with
  | ok st => rw [hm] at h1; exact absurd h1 (by simp [Sim])
  | error err =>
    rw [hm] at h1
    simp only [Sim, ErrGo] at h1
    refine ⟨?_, err, rfl, h1.1.symm, h1.2⟩
    rw [h1.1]
    exact C04.C04_names_offender days err hm

/-- **soundness w.r.t. the property text**: a journal the translated checker accepts is well-formed -/
theorem C04_sound_go (cur : String → Bool) (src : GoSem.Ref) {ord : check.Checker → Knut.Close → List amounts.Key} (ho : OrdOK ord)
    (days : List Knut.Day) (h : (runGo cur src ord days).isOk = true) : wellFormed days = true := by
  apply C04.C04_sound
  rw [C04.C04_accept_iff_strict, ← C04_accept_iff_strict_go cur src ho]
  exact h

/-- **completeness (partial)**: a well-formed journal without non-zero assertions on non-A/L accounts is accepted by the translated
checker.  The full statement is false for the code (`C04_nonAL_assertion_rejected_go`; known finding `assertion-on-non-AL-account`). -/
theorem C04_complete_go_partial (cur : String → Bool) (src : GoSem.Ref) {ord : check.Checker → Knut.Close → List amounts.Key}
    (ho : OrdOK ord) (days : List Knut.Day) (hn : C04.NoNonzeroNonALAssertion days) (h : wellFormed days = true) :
    (runGo cur src ord days).isOk = true := by
  rw [C04_accept_iff_strict_go cur src ho, ← C04.C04_accept_iff_strict]
  exact C04.C04_complete_partial days hn h

/-- the witness of the finding, on the translated checker: a well-formed journal with a correct running balance asserted on an
expense account is rejected, at the assertion -/
theorem C04_nonAL_assertion_rejected_go (cur : String → Bool) (src : GoSem.Ref) {ord : check.Checker → Knut.Close → List amounts.Key}
    (ho : OrdOK ord) : (runGo cur src ord C04.nonALJournal).isOk = false := by
  rw [C04_accept_iff_strict_go cur src ho, ← C04.C04_accept_iff_strict]
  exact C04.C04_nonAL_assertion_rejected

/-! ### Non-vacuity: an admissible order exists (the keys of the map as they stand), and the translated checker runs -/

/-- the map's own key list: one admissible iteration order -/
def ordKeys : check.Checker → Knut.Close → List amounts.Key := fun g _ => g.quantities.map Prod.fst

theorem ordKeys_ok : OrdOK ordKeys := fun g _ k hk => (Knut.AMap.mem_keys_iff g.quantities k).mpr hk

/-- … and its reverse another -/
theorem ordKeys_reverse_ok : OrdOK (fun g c => (ordKeys g c).reverse) := by
  intro g c k hk
  exact List.mem_reverse.mpr (ordKeys_ok g c k hk)

example : (runGo (fun _ => false) ⟨0⟩ ordKeys C04.okJournal).isOk = true := by
  rw [C04_accept_iff_strict_go _ _ ordKeys_ok, ← C04.C04_accept_iff_strict]
  decide +kernel

example : (runGo (fun _ => false) ⟨0⟩ ordKeys C04.okJournal).isOk = true := by decide +kernel

/-- the message and the directive of a failed run -/
def errOf : GoRes → Option (String × Knut.Directive)
  | .ok _ => none
  | .error (e, d) => some (e.msg, d)

example : errOf (runGo (fun _ => false) ⟨0⟩ ordKeys C04.nonALJournal) =
    some ("failed assertion: %s has position: %s %s", .assertion ⟨1, [⟨⟨["Expenses", "X"]⟩, 5, "CHF"⟩]⟩) := by decide +kernel

end Knut.C04Go
