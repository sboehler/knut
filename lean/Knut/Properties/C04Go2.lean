import Knut.FactsAgree.TransCreate3
import Knut.Properties.C05Go
/-!
# C04 (loading) on the generated definitions: a rejected directive is an error

C04's checker clauses on the translated `check.Checker` are in `Properties/C04Go.lean`.  This module states what comes BEFORE the
checker, on the definitions translated from `/repo`'s `lib/model` (`model.ParseDirective`, the `Create` functions of every directive
kind, `directives.Date.Parse`, `Decimal.Parse`) and from the syntax layer (`syntax.ParseFile`), composed from
`TransCreate3.ParseDirective_parsed` / `text_to_directives` and (for the accepted case) `TransJournal.journal_agrees`.  A rejected
directive never reaches the journal builder, hence never the checker; an accepted file yields the days of `Builder.ofList`, the input
of `C04Go.runGo`.

No hypothesis on the fields is left (the grammar guarantees `DirectiveOK`: `parsed_directivesOK`); the registries are fixed to their
model (`regAccount`, `regCommodity cur`); texts of at most 2 GiB; every fuel above the token count.
-/
namespace Knut.C04Go2
open Knut Knut.GoSem
open Knut.Generated.Go
open Knut.FactsAgree.TransScanner Knut.FactsAgree.TransParser Knut.FactsAgree.TransCreate
open Knut.FactsAgree.TransProcess (AllRel)
open Knut.FactsAgree.TransJournal (DirRel DayRel)

/-- **a rejected directive is an error**: on a directive of a parsed file whose conversion the model rejects the translated
`model.ParseDirective` returns a non-nil error -/
theorem C04_rejected_directive_is_error_go {path : String} {text : List UInt8} {f : Syntax.File} (cur : String → Bool)
    (h : Syntax.parseText path text = .ok f) (hlen : text.length ≤ 2147483648) (d : Syntax.Directive) (hd : d ∈ f.directives)
    (hrej : FromSyntax.item text d = none ∨ ∃ it, FromSyntax.item text d = some it ∧ FromSyntax.loadItems [it] = .error) :
    ∃ v e, goParseDirectiveAt cur (goDirective text path d) = .ok (v, some e) := by
  have := ParseDirective_parsed (path := path) cur h hlen d hd
  rcases hrej with hn | ⟨it, hi, hl⟩
  · rw [hn] at this; exact this
  · rw [hi] at this
    simp only [] at this
    rw [hl] at this
    exact this

/-- … and an accepted one is converted without error to Go directives that stand for the model's, in order -/
theorem C04_accepted_directive_go {path : String} {text : List UInt8} {f : Syntax.File} (cur : String → Bool)
    (h : Syntax.parseText path text = .ok f) (hlen : text.length ≤ 2147483648) (d : Syntax.Directive) (hd : d ∈ f.directives)
    (it : FromSyntax.Item) (ds : List Directive) (hi : FromSyntax.item text d = some it) (hl : FromSyntax.loadItems [it] = .ok ds) :
    ∃ gs, goParseDirectiveAt cur (goDirective text path d) = .ok (gs, none) ∧ AllRel (DirRel cur) gs ds := by
  have := ParseDirective_parsed (path := path) cur h hlen d hd
  rw [hi] at this
  simp only [] at this
  rw [hl] at this
  exact this

/-- **a file the model's loader rejects is rejected in the translation**: the translated parser returns a non-nil error chain, or it
returns the model's tree and the translated conversion of that tree returns an error -/
theorem C04_rejected_file_is_error_go (cur : String → Bool) (text : List UInt8) (path : String) (cb : Syn.Proc) (fuel : Nat)
    (hf : (Utf8.decodeAll text).length < fuel) (hlen : text.length ≤ 2147483648) (hrej : FromSyntax.loadText path text = .error) :
    (∃ pv e, e ≠ [] ∧ goSyntaxParse fuel text path cb = .ok (pv, goErr text path e)) ∨
    (∃ f v e, goSyntaxParse fuel text path cb = .ok (goFile text path f, .nil) ∧
      goFromFile cur (goFile text path f).Directives [] = .ok (v, some e)) := by
  have := text_to_directives cur text path cb fuel hf hlen
  cases hp : Syntax.parseText path text with
  | error e =>
    rw [hp] at this
    obtain ⟨⟨pv, h1⟩, h2, _⟩ := this
    exact Or.inl ⟨pv, e, h2, h1⟩
  | ok f =>
    rw [hp] at this
    obtain ⟨h1, h2⟩ := this
    rw [hrej] at h2
    obtain ⟨v, e, he⟩ := h2
    exact Or.inr ⟨f, v, e, h1, he⟩

/-- **a file the model's loader accepts**: the translated parser returns its tree with a nil error, the translated conversion returns
Go directives that stand for the model's, and the translated journal builder makes of them — in ANY arrival order `gs'` — days that
stand for the days of the model's builder on a permutation of the model's directives: the journal the checker of `C04Go` runs over -/
theorem C04_accepted_file_go (cur : String → Bool) (text : List UInt8) (path : String) (cb : Syn.Proc) (fuel : Nat)
    (hf : (Utf8.decodeAll text).length < fuel) (hlen : text.length ≤ 2147483648) (ds : List Directive)
    (hacc : FromSyntax.loadText path text = .ok ds) :
    ∃ f gs, goSyntaxParse fuel text path cb = .ok (goFile text path f, .nil) ∧
      goFromFile cur (goFile text path f).Directives [] = .ok (gs, none) ∧ AllRel (DirRel cur) gs ds ∧
      AllRel (DayRel cur) (C05Go.journalGo gs).Days (Builder.ofList ds).days ∧
      ∀ gs', gs.Perm gs' → ∃ ds', ds.Perm ds' ∧ AllRel (DayRel cur) (C05Go.journalGo gs').Days (Builder.ofList ds').days := by
  have := text_to_directives cur text path cb fuel hf hlen
  cases hp : Syntax.parseText path text with
  | error e =>
    rw [hp] at this
    rw [this.2.2] at hacc
    cases hacc
  | ok f =>
    rw [hp] at this
    obtain ⟨h1, h2⟩ := this
    rw [hacc] at h2
    obtain ⟨gs, hg, hrel⟩ := h2
    refine ⟨f, gs, h1, hg, hrel, (C05Go.journalGo_agrees cur hrel).1, ?_⟩
    intro gs' hperm
    obtain ⟨ds', hrel', hp'⟩ := C05Go.perm_rel hperm hrel
    exact ⟨ds', hp', (C05Go.journalGo_agrees cur hrel').1⟩

/-! ## Non-vacuity: the empty file is accepted by the translated parser -/

example : ∃ f gs, goSyntaxParse 1 [] "j" ⟨false⟩ = .ok (goFile [] "j" f, .nil) ∧
    goFromFile (fun _ => false) (goFile [] "j" f).Directives [] = .ok (gs, none) := by
  have hp := Syntax.parseText_nil "j"
  have hl : FromSyntax.loadText "j" [] = .ok [] := by
    simp [FromSyntax.loadText, hp, FromSyntax.loadItems, FromSyntax.loadItems.go]
  obtain ⟨f, gs, h1, h2, _⟩ := C04_accepted_file_go (fun _ => false) [] "j" ⟨false⟩ 1 (by simp) (by simp) [] hl
  exact ⟨f, gs, h1, h2⟩

end Knut.C04Go2
