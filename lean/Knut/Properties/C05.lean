import Knut.Proofs.Builder
import Knut.Proofs.ReportSums
import Knut.Proofs.MapSum
/-!
# C05 — Directive order and file layout do not matter

The loader delivers the directives of all files as one list in an order that depends on the include tree
and on goroutine scheduling; `Builder.ofList` groups them by day.  Proved here for every pair of
directive lists that are permutations of each other (`ds.Perm ds'`):

* `C05_same_dates` – the built journals have the same days in the same (chronological) order;
* `C05_same_day_content` – and every day holds, per kind (prices, opens, transactions, assertions,
  closes), a permutation of the same directives; within a kind the input order is kept (`ofList_spec`),
  which is exactly the freedom the property grants to `print`;
* `C05_cells_perm` – every cell of a balance report (`BalanceReport.cellAt`, and hence totals and Delta) is
  invariant under permutation of the report inserts, so the order in which postings reach the report
  cannot change a number;
* `C05_journal_period_perm` – the journal period (min transaction date, max transaction/price date) that
  clips the report window is the same.

`Properties/C05Verdict.lean` proves that the checker's accept/reject verdict is invariant
(`C05_verdict_perm`).  `Properties/C05Inserts.lean` proves the same for the unvalued balance report down to the output bytes
(`C05_balance_output_perm`), `Properties/C05Valued.lean` for the valued report (`C05_balance_output_perm_valued`, for
journals without two prices for one pair of commodities on one day).  The harness compares the same on the real concurrent
loader (every generated journal in several directive orders, include-tree layouts and schedules).
-/
namespace Knut.C05
open Knut

/-- **same days, same order** -/
theorem C05_same_dates (ds ds' : List Directive) (hp : ds.Perm ds') :
    (Builder.ofList ds).days.map (·.date) = (Builder.ofList ds').days.map (·.date) := by
  apply MapSum.increasing_ext
  · exact sorted_dates _ (ofList_sorted ds)
  · exact sorted_dates _ (ofList_sorted ds')
  · intro y
    rw [ofList_dates, ofList_dates]
    exact (hp.map _).mem_iff

/-- **same content per day and kind, up to order** -/
theorem C05_same_day_content {α : Type} (k : Kind α) (ds ds' : List Directive) (hp : ds.Perm ds') (y : Int) :
    (contentOn k (Builder.ofList ds).days y).Perm (contentOn k (Builder.ofList ds').days y) := by
  rw [(ofList_spec k ds).2 y, (ofList_spec k ds').2 y]
  exact hp.filterMap _

/-- **report cells do not depend on the order of the inserts** -/
theorem C05_cells_perm (es es' : List Entry) (hp : es.Perm es') (byCom : Bool) (c : Option Commodity) (d : Int) :
    BalanceReport.cellAt es byCom c d = BalanceReport.cellAt es' byCom c d := by
  exact BalanceReport.cellAt_perm hp byCom c d

/-- min/max fold of `Builder.add` -/
def minTx (ds : List Directive) : Int := ds.foldl (fun m x => match x with | .tx t => if t.date < m then t.date else m | _ => m) maxDate
def maxTxPrice (ds : List Directive) : Int :=
  ds.foldl (fun m x => match x with | .tx t => if m < t.date then t.date else m | .price p => if m < p.date then p.date else m | _ => m) 0

theorem foldl_dates_perm (g : Directive → Option Int) (op : Int → Int → Int)
    (hop : ∀ m a b, op (op m a) b = op (op m b) a) {l l' : List Directive} (hp : l.Perm l') (m : Int) :
    l.foldl (fun m x => match g x with | some d => op m d | none => m) m =
      l'.foldl (fun m x => match g x with | some d => op m d | none => m) m := by
  refine MapSum.foldl_comm_perm _ (fun m x y => ?_) hp m
  cases g x <;> cases g y <;> simp only [hop]

theorem ite_lt_min (d m : Int) : (if d < m then d else m) = min m d := by
  rw [Int.min_def]; split <;> split <;> omega

theorem ite_lt_max (d m : Int) : (if m < d then d else m) = max m d := by
  rw [Int.max_def]; split <;> split <;> omega

/-- **the journal period is order-independent**: its start is the minimum of `maxDate` and the transaction dates,
its end the maximum of 0 and the transaction and price dates -/
theorem C05_journal_period_perm (ds ds' : List Directive) (hp : ds.Perm ds') :
    minTx ds = minTx ds' ∧ maxTxPrice ds = maxTxPrice ds' := by
  constructor
  · have h := foldl_dates_perm (fun x => match x with | .tx t => some t.date | _ => none) min
      (fun m a b => by omega) hp maxDate
    have e : (fun (m : Int) (x : Directive) => match x with | .tx t => if t.date < m then t.date else m | _ => m) =
        fun m x => match (match x with | .tx t => some t.date | _ => none : Option Int) with | some d => min m d | none => m := by
      funext m x; cases x <;> simp only [ite_lt_min]
    unfold minTx; rw [e]; exact h
  · have h := foldl_dates_perm (fun x => match x with | .tx t => some t.date | .price p => some p.date | _ => none) max
      (fun m a b => by omega) hp 0
    have e : (fun (m : Int) (x : Directive) => match x with
          | .tx t => if m < t.date then t.date else m | .price p => if m < p.date then p.date else m | _ => m) =
        fun m x => match (match x with | .tx t => some t.date | .price p => some p.date | _ => none : Option Int) with
          | some d => max m d | none => m := by
      funext m x; cases x <;> simp only [ite_lt_max]
    unfold maxTxPrice; rw [e]; exact h

theorem builder_period (ds : List Directive) :
    (Builder.ofList ds).min = minTx ds ∧ (Builder.ofList ds).max = maxTxPrice ds := by
  unfold Builder.ofList minTx maxTxPrice
  suffices h : ∀ (ds : List Directive) (b : Builder),
      (ds.foldl Builder.add b).min = ds.foldl (fun m x => match x with | .tx t => if t.date < m then t.date else m | _ => m) b.min ∧
      (ds.foldl Builder.add b).max = ds.foldl (fun m x => match x with | .tx t => if m < t.date then t.date else m | .price p => if m < p.date then p.date else m | _ => m) b.max from
    h ds {}
  intro ds
  induction ds with
  | nil => intro b; exact ⟨rfl, rfl⟩
  | cons x rest ih =>
    intro b
    simp only [List.foldl_cons]
    have := ih (b.add x)
    rw [this.1, this.2]
    cases x <;> exact ⟨rfl, rfl⟩

/-! Non-vacuity -/
example : [Directive.opening ⟨1, ⟨["Assets", "A"]⟩⟩, .closing ⟨2, ⟨["Assets", "A"]⟩⟩].Perm
    [Directive.closing ⟨2, ⟨["Assets", "A"]⟩⟩, .opening ⟨1, ⟨["Assets", "A"]⟩⟩] := List.Perm.swap _ _ _

end Knut.C05
