import Knut.Properties.C05
import Knut.FactsAgree.TransJournal
/-!
# C05 / C06 (journal builder) on the generated definitions

`C05_same_dates`, `C05_same_day_content`, `C05_journal_period_perm` and `C06_journal_deterministic` are about the model
`Builder.ofList`; `FactsAgree/TransJournal.lean` proves the functions translated from `/repo`'s `lib/journal/journal.go` (`New`,
`Builder.Day`, `Builder.Add`, `Builder.Period`, `Builder.Build` with `dict.SortedValues(j.days, CompareDays)`) equal to it
(`Add_agrees`, `Build_agrees`, `journal_agrees`).  This module composes them.  The objects of every statement are

  `builderGo gxs` = `j := journal.New(); for _, d := range gxs { j.Add(d) }`   and   `journalGo gxs` = `builderGo(gxs).Build()`

built from the GENERATED `Go.journal.*`, for two lists `gxs`, `gxs'` of Go directives that are PERMUTATIONS of each other (the loader
delivers the directives of all files in an order that depends on the include tree and on goroutine scheduling).  Hypothesis that stays:
the Go directives stand for model directives (`AllRel (DirRel cur) gxs xs`: the values the translated `model.ParseDirective` produces —
`TransCreate2.ParseDirective_agrees`, `TransCreate3.text_to_directives` — with arbitrary `Src` pointers); a permutation of such a list
stands for a permutation of the model list (`perm_rel`), so it is needed for ONE of the two orders only.

Go level (no model term in the conclusion): the dates of the days in order (`C05_same_dates_go`), the journal period
(`C05_journal_period_go`), the number of directives per day and kind (`C05_same_day_sizes_go`).  The contents per day and kind are stated
through the model days the Go days stand for (`DayRel`: field by field, `Src` pointers arbitrary — the translated values carry their
`Src` pointer, which `DayRel` does not relate across two builds): `C05_same_day_content_go`.
-/
namespace Knut.C05Go
open Knut Knut.GoSem
open Knut.Generated.Go
open Knut.FactsAgree.TransJournal
open Knut.FactsAgree.TransProcess (AllRel AllRel_length)

/-- `j := journal.New(); for _, d := range gxs { j.Add(d) }` in the translation -/
def builderGo (gxs : List model.Directive) : journal.Builder := gxs.foldl (fun j d => (journal.Builder.Add j d).1) journal.New

/-- … then `j.Build()` -/
def journalGo (gxs : List model.Directive) : journal.Journal := journal.Builder.Build (builderGo gxs)

/-- **the bridge**: the days of the translated builder, sorted by the translated `Build`, stand one by one for the days of the model's
`Builder.ofList`; the translated `Period` is the model's `min`/`max` -/
theorem journalGo_agrees (cur : String → Bool) {gxs : List model.Directive} {xs : List Directive} (hr : AllRel (DirRel cur) gxs xs) :
    AllRel (DayRel cur) (journalGo gxs).Days (Builder.ofList xs).days ∧
      journal.Builder.Period (builderGo gxs) = ⟨(Builder.ofList xs).min, (Builder.ofList xs).max⟩ :=
  journal_agrees cur xs gxs hr

/-- no `Add` of the loop returns an error: every directive of a known kind is accepted -/
theorem adds_ok (cur : String → Bool) : ∀ {gxs : List model.Directive} {xs : List Directive}, AllRel (DirRel cur) gxs xs →
    ∀ {g : journal.Builder} {b : Builder}, BEquiv cur g b →
    ∀ pre gx post, gxs = pre ++ gx :: post → (journal.Builder.Add (pre.foldl (fun j d => (journal.Builder.Add j d).1) g) gx).2 = none := by
  intro gxs xs hr
  induction hr with
  | nil => intro g b _ pre gx post h; simp at h
  | cons hx hrest ih =>
    intro g b hb pre gx post h
    obtain ⟨g1, e1, h1⟩ := Add_agrees cur hb _ _ hx
    cases pre with
    | nil =>
      simp only [List.nil_append, List.cons.injEq] at h
      rw [← h.1]
      simp [e1]
    | cons p pre =>
      simp only [List.cons_append, List.cons.injEq] at h
      rw [← h.1]
      simp only [List.foldl_cons, e1]
      exact ih h1 pre gx post h.2

theorem perm_rel {α β : Type} {R : α → β → Prop} {as as' : List α} (hp : as.Perm as') :
    ∀ {bs : List β}, AllRel R as bs → ∃ bs', AllRel R as' bs' ∧ bs.Perm bs' := fun h =>
  (FactsAgree.TransJPrinter2.AllRel_perm hp.symm h).imp fun _ h' => ⟨h'.1, h'.2.symm⟩

theorem dates_of_rel {cur : String → Bool} : ∀ {gds : List journal.Day} {ds : List Day}, AllRel (DayRel cur) gds ds →
    gds.map (·.Date) = ds.map (·.date)
  | _, _, .nil => rfl
  | _, _, .cons h rest => by simp [h.date, dates_of_rel rest]

/-! ## C05: the order of the directives does not matter -/

section
variable (cur : String → Bool) {gxs gxs' : List model.Directive} {xs : List Directive}

/-- **same days, same (chronological) order**, on the Go journals -/
theorem C05_same_dates_go (hr : AllRel (DirRel cur) gxs xs) (hp : gxs.Perm gxs') :
    (journalGo gxs).Days.map (·.Date) = (journalGo gxs').Days.map (·.Date) := by
  obtain ⟨xs', hr', hpx⟩ := perm_rel hp hr
  rw [dates_of_rel (journalGo_agrees cur hr).1, dates_of_rel (journalGo_agrees cur hr').1]
  exact C05.C05_same_dates xs xs' hpx

/-- the days come out strictly ascending by date, whatever the order of the directives, of the Go map and of `sort.Slice` -/
theorem C05_dates_ascending_go (hr : AllRel (DirRel cur) gxs xs) :
    ((journalGo gxs).Days.map (·.Date)).Pairwise (· < ·) := by
  rw [dates_of_rel (journalGo_agrees cur hr).1]
  exact sorted_dates _ (ofList_sorted xs)

/-- **the journal period is order-independent**, on the Go builders -/
theorem C05_journal_period_go (hr : AllRel (DirRel cur) gxs xs) (hp : gxs.Perm gxs') :
    journal.Builder.Period (builderGo gxs) = journal.Builder.Period (builderGo gxs') := by
  obtain ⟨xs', hr', hpx⟩ := perm_rel hp hr
  rw [(journalGo_agrees cur hr).2, (journalGo_agrees cur hr').2, (C05.builder_period xs).1, (C05.builder_period xs).2,
    (C05.builder_period xs').1, (C05.builder_period xs').2, (C05.C05_journal_period_perm xs xs' hpx).1,
    (C05.C05_journal_period_perm xs xs' hpx).2]

/-- **same content per day and kind, up to order**: the two Go journals stand (`DayRel`: field by field, `Src` pointers arbitrary) for
model journals with the same dates whose days hold, for every kind (prices, opens, transactions, assertions, closes), permutations of
the same directives — within a kind in the order of arrival (`collect`) -/
theorem C05_same_day_content_go (hr : AllRel (DirRel cur) gxs xs) (hp : gxs.Perm gxs') :
    ∃ (xs' : List Directive) (days days' : List Day), xs.Perm xs' ∧
      AllRel (DayRel cur) (journalGo gxs).Days days ∧ AllRel (DayRel cur) (journalGo gxs').Days days' ∧
      days.map (·.date) = days'.map (·.date) ∧
      ∀ (α : Type) (k : Kind α) (y : Int), contentOn k days y = collect k xs y ∧ contentOn k days' y = collect k xs' y ∧
        (contentOn k days y).Perm (contentOn k days' y) := by
  obtain ⟨xs', hr', hpx⟩ := perm_rel hp hr
  refine ⟨xs', _, _, hpx, (journalGo_agrees cur hr).1, (journalGo_agrees cur hr').1, C05.C05_same_dates xs xs' hpx, ?_⟩
  intro α k y
  exact ⟨(ofList_spec k xs).2 y, (ofList_spec k xs').2 y, C05.C05_same_day_content k xs xs' hpx y⟩

/-- what a Go journal holds on date `y`, read through `proj` -/
def contentGo {α : Type} (proj : journal.Day → List α) (gds : List journal.Day) (y : Int) : List α :=
  ((gds.find? (fun d => d.Date = y)).map proj).getD []

theorem content_sizes {α β : Type} (k : Kind β) (proj : journal.Day → List α)
    (hlen : ∀ gd d, DayRel cur gd d → (proj gd).length = (k.proj d).length) :
    ∀ {gds : List journal.Day} {ds : List Day}, AllRel (DayRel cur) gds ds → ∀ y, (contentGo proj gds y).length = (contentOn k ds y).length
  | _, _, .nil, _ => rfl
  | _, _, .cons (a := gd) (b := d) h rest, y => by
    unfold contentGo contentOn findDay
    by_cases e : gd.Date = y
    · have e' : d.date = y := by rw [← h.date]; exact e
      simp [e, e', hlen gd d h]
    · have e' : ¬ d.date = y := by rw [← h.date]; exact e
      simp only [List.find?_cons, e, e', decide_false]
      exact content_sizes k proj hlen rest y

/-- **on the Go journals: every day holds the same NUMBER of directives of every kind**, whatever the arrival order -/
theorem C05_same_day_sizes_go (hr : AllRel (DirRel cur) gxs xs) (hp : gxs.Perm gxs') (y : Int) :
    (contentGo (·.Prices) (journalGo gxs).Days y).length = (contentGo (·.Prices) (journalGo gxs').Days y).length ∧
    (contentGo (·.Assertions) (journalGo gxs).Days y).length = (contentGo (·.Assertions) (journalGo gxs').Days y).length ∧
    (contentGo (·.Openings) (journalGo gxs).Days y).length = (contentGo (·.Openings) (journalGo gxs').Days y).length ∧
    (contentGo (·.Transactions) (journalGo gxs).Days y).length = (contentGo (·.Transactions) (journalGo gxs').Days y).length ∧
    (contentGo (·.Closings) (journalGo gxs).Days y).length = (contentGo (·.Closings) (journalGo gxs').Days y).length := by
  obtain ⟨xs', days, days', _, h1, h2, _, hc⟩ := C05_same_day_content_go cur hr hp
  have sizes : ∀ {α β : Type} (k : Kind β) (proj : journal.Day → List α),
      (∀ gd d, DayRel cur gd d → (proj gd).length = (k.proj d).length) →
      (contentGo proj (journalGo gxs).Days y).length = (contentGo proj (journalGo gxs').Days y).length := fun k proj hlen => by
    rw [content_sizes cur k proj hlen h1, content_sizes cur k proj hlen h2]
    exact (hc _ k y).2.2.length_eq
  exact ⟨sizes priceKind _ fun _ _ h => AllRel_length h.prices, sizes assertKind _ fun _ _ h => AllRel_length h.assertions,
    sizes openKind _ fun _ _ h => AllRel_length h.openings, sizes txKind _ fun _ _ h => AllRel_length h.transactions,
    sizes closeKind _ fun _ _ h => AllRel_length h.closings⟩

/-! ## C06: the journal is a function of the input alone -/

/-- **journal**: any two arrival orders of the directives give — in the translation — journals with the same days in the same order,
standing for model days with the same contents per day and kind up to order, and the same journal period -/
theorem C06_journal_deterministic_go (hr : AllRel (DirRel cur) gxs xs) (hp : gxs.Perm gxs') :
    (journalGo gxs).Days.map (·.Date) = (journalGo gxs').Days.map (·.Date) ∧
    journal.Builder.Period (builderGo gxs) = journal.Builder.Period (builderGo gxs') ∧
    ∃ days days', AllRel (DayRel cur) (journalGo gxs).Days days ∧ AllRel (DayRel cur) (journalGo gxs').Days days' ∧
      ∀ y, (contentOn txKind days y).Perm (contentOn txKind days' y) := by
  obtain ⟨xs', days, days', _, h1, h2, _, hc⟩ := C05_same_day_content_go cur hr hp
  exact ⟨C05_same_dates_go cur hr hp, C05_journal_period_go cur hr hp, days, days', h1, h2, fun y => (hc _ txKind y).2.2⟩

/-- the association-list order of the Go map `j.days` (the iteration order of `dict.SortedValues`) and what `sort.Slice` does with it
cannot be observed in the dates: `Build` of ANY two Go builders that agree with the model builder lookup by lookup deliver days with
the same dates in the same order (that the days stand for the model's is `TransJournal.Build_agrees`) -/
theorem C06_map_order_irrelevant_go {g g' : journal.Builder} {b : Builder} (h : BEquiv cur g b) (h' : BEquiv cur g' b) :
    (journal.Builder.Build g).Days.map (·.Date) = (journal.Builder.Build g').Days.map (·.Date) := by
  rw [dates_of_rel (Build_agrees cur h), dates_of_rel (Build_agrees cur h')]

end

/-! ## Non-vacuity: two transactions and a price on three days in two arrival orders, through the translated builder -/

def exT (d : Int) : model.Directive := .Transaction ⟨⟨0⟩, d, "x", [], none⟩
def exP : model.Directive := .Price ⟨⟨0⟩, 30, ⟨"USD", false⟩, 2, ⟨"CHF", false⟩⟩

theorem ex_rel : AllRel (DirRel (fun _ => false)) [exT 20, exP, exT 10]
    [.tx ⟨20, "x", [], none⟩, .price ⟨30, "USD", 2, "CHF"⟩, .tx ⟨10, "x", [], none⟩] :=
  .cons ⟨rfl, Or.inl rfl, .nil, rfl⟩ (.cons rfl (.cons ⟨rfl, Or.inl rfl, .nil, rfl⟩ .nil))

/-- the builder itself evaluates (the Go map in insertion order); `Build`'s sort does not reduce in the kernel, the theorems speak for it -/
example : journal.Builder.Period (builderGo [exT 20, exP, exT 10]) = ⟨10, 30⟩ ∧
    (builderGo [exT 20, exP, exT 10]).days.map (·.1) = [20, 30, 10] ∧
    (builderGo [exT 10, exT 20, exP]).days.map (·.1) = [10, 20, 30] := by decide +kernel

example : (journalGo [exT 20, exP, exT 10]).Days.map (·.Date) = (journalGo [exT 10, exT 20, exP]).Days.map (·.Date) ∧
    ((journalGo [exT 20, exP, exT 10]).Days.map (·.Date)).Pairwise (· < ·) ∧
    journal.Builder.Period (builderGo [exT 10, exT 20, exP]) = ⟨10, 30⟩ := by
  have hp : [exT 20, exP, exT 10].Perm [exT 10, exT 20, exP] := List.perm_append_comm (l₁ := [exT 20, exP]) (l₂ := [exT 10])
  refine ⟨C05_same_dates_go _ ex_rel hp, C05_dates_ascending_go _ ex_rel, ?_⟩
  rw [← C05_journal_period_go _ ex_rel hp]
  decide +kernel

end Knut.C05Go
