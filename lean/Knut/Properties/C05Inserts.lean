import Knut.Proofs.InsertsPermValued
import Knut.Properties.C05Verdict
import Knut.Properties.C06Report
import Knut.Model.BalanceCmd
import Knut.Proofs.LedgerCommand
/-!
# C05 — the unvalued balance report does not depend on the order of the directives

For `cfg.valuation = none` (no `--val`), with or without period closing, all flags (filters, mappings, remap,
windows, intervals, `--last`, `--diff`, sorting, csv):

* `C05_inserts_perm` – two runs of the pipeline over day lists that agree day by day up to the order of the
  directives of each kind (`DayEquiv`; this is what permuting the directives of a journal produces:
  `C05_days_equiv`) insert the same MULTISET of report entries.  No further hypothesis: with closing, the closing
  transactions come from accumulators whose key order follows the posting order, so the lists do differ
  (`C05_inserts_order_differs`), the multisets do not.
* `C05_run_ok_perm` – and the one run succeeds iff the other does (the only failure of an unvalued run is the
  checker's, `C05_verdict_perm`).
* `C05_inserts_wf` – the inserted accounts keep their account type (remap swaps types, shorten keeps the first
  segment, closings book on position accounts and `Equity:Equity`), so `C06.table_perm` applies.
* `C05_report_perm` – hence the same table for every renderer configuration.
* **`C05_balance_output_perm`** – `knut balance` without `--val` (model `BalanceCmd.run`: journal period, partition,
  `ensureDays`, pipeline, report, text or csv rendering) prints byte for byte the same, or fails alike, for every
  permutation of the directives whose bookings are on accounts with an account type (`DirsWF`; the registry admits
  no others).

The valued report (`--val`) is `Properties/C05Valued.lean`: prices of a day are order-sensitive by the property's own
exclusion, and the valuation stage's adjustment transactions follow the key order of `vQty` in the same way as the closings
do here.
-/
namespace Knut.C05
open Knut Knut.Spec Knut.InsertsPerm Knut.InsertsPermValued

/-- **the multiset of report inserts is order-independent** (unvalued; closing on or off) -/
theorem C05_inserts_perm (cfg : BalCfg) (hv : cfg.valuation = none) (days days' : List Day)
    (h : List.Forall₂ DayEquiv days days') (st st' : BalState)
    (h1 : Balance.run cfg days = .ok st) (h2 : Balance.run cfg days' = .ok st') : st.entries.Perm st'.entries := by
  have := run_sim_unvalued cfg hv h {} {} relV_init
  unfold Balance.run at h1 h2
  rw [h1, h2] at this
  exact this.ent

/-- an unvalued run succeeds for both orders or for neither -/
theorem C05_run_ok_perm (cfg : BalCfg) (hv : cfg.valuation = none) (days days' : List Day)
    (h : List.Forall₂ DayEquiv days days') : (Balance.run cfg days).isOk = (Balance.run cfg days').isOk :=
  psim_isOk (run_sim_unvalued cfg hv h {} {} relV_init)

/-- the report inserts of a journal with well-formed accounts are on well-formed accounts -/
theorem C05_inserts_wf (cfg : BalCfg) (hv : cfg.valuation = none) (days : List Day)
    (hwf : ∀ d ∈ days, TxsWF d.transactions) (st : BalState) (h1 : Balance.run cfg days = .ok st) :
    ReportPerm.WF st.entries :=
  run_wf cfg days hwf st h1

/-- **same table** for every renderer configuration -/
theorem C05_report_perm (cfg : BalCfg) (hv : cfg.valuation = none) (rc : RenderCfg) (days days' : List Day)
    (h : List.Forall₂ DayEquiv days days') (hwf : ∀ d ∈ days, TxsWF d.transactions) (st st' : BalState)
    (h1 : Balance.run cfg days = .ok st) (h2 : Balance.run cfg days' = .ok st') :
    BalanceReport.table rc st.entries = BalanceReport.table rc st'.entries :=
  C06.table_perm rc _ _ (C05_inserts_perm cfg hv days days' h st st' h1 h2) (C05_inserts_wf cfg hv days hwf st h1)

theorem window_perm (f : BalanceFlags) {ds ds' : List Directive} (hp : ds.Perm ds') :
    BalanceCmd.window f (Builder.ofList ds) = BalanceCmd.window f (Builder.ofList ds') := by
  unfold BalanceCmd.window
  rw [(builder_period ds).1, (builder_period ds').1, (builder_period ds).2, (builder_period ds').2,
    (C05_journal_period_perm ds ds' hp).1, (C05_journal_period_perm ds ds' hp).2]

/-- `knut balance` for two directive orders, given a day-by-day correspondence `E` of the built days that `ensureDays` keeps and under
which the pipeline runs in simulation: the same bytes, or the same failure -/
theorem output_perm_of {E : Day → Day → Prop} (hdate : ∀ {d d'}, E d d' → d.date = d'.date)
    (hnew : ∀ date, E { date := date } { date := date }) (f : BalanceFlags) {ds ds' : List Directive} (hp : ds.Perm ds')
    (hwf : DirsWF ds) (hdays : List.Forall₂ E (Builder.ofList ds).build (Builder.ofList ds').build)
    (hsim : ∀ (cfg : BalCfg), cfg.valuation = f.valuation → ∀ days days', List.Forall₂ E days days' →
      PSim RelV (Balance.run cfg days) (Balance.run cfg days')) :
    BalanceCmd.run f ds = BalanceCmd.run f ds' := by
  rw [LedgerCommand.run_stages, LedgerCommand.run_stages]
  refine LedgerCommand.onPartition_congr (window_perm f hp) fun part _ => LedgerCommand.outcomeOf_congr ?_
  exact map_sim (sim_and_ok (hsim _ rfl _ _ (LedgerCommand.daysOf_rel hdate hnew f part hdays))) fun st st' h =>
    ⟨h.1.ent, run_wf _ _ (LedgerCommand.daysOf_wf f ds part hwf) st h.2.1⟩

/-- **permuting the directives of a journal does not change a byte of the unvalued balance report** -/
theorem C05_balance_output_perm (f : BalanceFlags) (hv : f.valuation = none) (ds ds' : List Directive) (hp : ds.Perm ds')
    (hwf : DirsWF ds) : BalanceCmd.run f ds = BalanceCmd.run f ds' :=
  output_perm_of (fun h => h.1) (fun _ => dayEquiv_refl _) f hp hwf (C05_days_equiv ds ds' hp)
    fun cfg hcv _ _ h => run_sim_unvalued cfg (hcv.trans hv) h {} {} relV_init

/-! ### Non-vacuity: a journal with two periods, closing enabled -/

def xBank : Account := ⟨["Assets", "Bank"]⟩
def xSal : Account := ⟨["Income", "Salary"]⟩
def xFood : Account := ⟨["Expenses", "Food"]⟩
def xDirs : List Directive :=
  [.opening ⟨1, xBank⟩, .opening ⟨1, xSal⟩, .opening ⟨1, xFood⟩,
   .tx ⟨2, "salary", postingBuild xSal xBank "CHF" 100, none⟩,
   .tx ⟨2, "food", postingBuild xBank xFood "CHF" 30, none⟩,
   .tx ⟨40, "food", postingBuild xBank xFood "CHF" 5, none⟩]
def xFlags : BalanceFlags := { to := 50, interval := .monthly }

theorem xDirs_wf : DirsWF xDirs := by
  intro t ht p hp
  simp only [xDirs, List.mem_cons, List.not_mem_nil, or_false, reduceCtorEq, false_or, Directive.tx.injEq] at ht
  rcases ht with rfl | rfl | rfl <;> rcases postingBuild_account _ _ _ _ _ p hp with h | h <;> rw [h] <;> rfl

/-- the theorem applies to the journal read backwards … -/
example : BalanceCmd.run xFlags xDirs = BalanceCmd.run xFlags xDirs.reverse :=
  C05_balance_output_perm xFlags rfl _ _ (List.reverse_perm _).symm xDirs_wf

/-- … both runs succeed with 10 report inserts (6 bookings, 2 closing pairs at the second period start), and the
two insert LISTS differ (the closings of Income:Salary and Expenses:Food are emitted in accumulator order, which
follows the order of the two transactions of day 2): the permutation in `C05_inserts_perm` cannot be an equality -/
theorem C05_inserts_order_differs :
    (match BalanceCmd.entries xFlags xDirs, BalanceCmd.entries xFlags xDirs.reverse with
      | .ok (es, _), .ok (es', _) => decide (es.length = 10 ∧ es ≠ es')
      | _, _ => false) = true := by decide +kernel

end Knut.C05
