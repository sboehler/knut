import Knut.Spec.LayoutSpec
import Knut.Proofs.LayoutFactor
import Knut.Proofs.LayoutPrint
import Knut.Proofs.LayoutTree
import Knut.Properties.C05Verdict
import Knut.Properties.C05Inserts
import Knut.Properties.C05Valued
/-!
# C05, end to end — the layout of the journal over files does not matter

`Layout.journalOf fs root` (`Spec/LayoutSpec.lean`) is the directive list `knut check|balance|print` work on: the files
the recursive include loader returns for the file system `fs` (`Model/Loader.lean`, parser model of C07), each
elaborated by `model.FromStream` (`Commands.elabFile`, accrual expansion included), concatenated in the loader's order.

* `C05_run_factors` – `Cmd.run c fs f = onJournal c f (journalOf fs f.path)` for `check`, `balance`, `print`: the
  commands see the file system through `journalOf` only.
* `C05_layout_verdict`, `C05_layout_balance`, `C05_layout_balance_valued`, `C05_layout_print`, `C05_layout_print_exact` –
  two file systems (any include trees, any paths) whose journals are permutations of each other give the same `check`
  verdict, byte-identical `balance` output for every flag vector (valued: under `PricesDistinct`), and printed journals
  that differ at most in the order within a (day, kind) block (`Layout.PrintEquiv`; `C05_compare_equal_prints_alike`:
  transactions that compare equal are printed alike up to their `@performance` line); if the relative order within
  every (date, kind) block is the same, the printed bytes are identical.  No well-formedness hypothesis is left:
  `C05_layout_wf` – every journal that loads satisfies `DirsWF` (the account registry's check in `transaction.Create`).
* `C05_layout_arrival` – the files may arrive from the loader goroutines in any order (C19): the journal is a
  permutation of the depth-first one, so everything above holds for every schedule.
* `C05_split` – the hypothesis made concrete (constructive side): a *layout* `t : LTree` is an include tree of files, each
  with a path and a list of items, an item being a directive or an `include` of a child file under some spelling of its
  path.  Distribute the directives of `ds` in ANY way over the files of ANY such tree (`t.reading.Perm ds`), write
  every file with the functions of `journal.Print` (`Layout.dirText`, one `include "…"` line per child): on every
  file system that holds these files under their paths (`C05_split_fs`: the one made of exactly these files does)
  `journalOf` succeeds, and yields the directives file by file, depth first — a permutation of `ds`.  Hypotheses: the directives are printable (`PrintableDir`, C09: what `journal.Print` writes
  so that the scanner reads it back), every include spelling resolves — by `path.Join(filepath.Dir(includer), spelling)`
  — to the path of the included file, and the cleaned paths of the files are pairwise different.
  `C05_split_reports`: hence two layouts of the same directives give the same verdict, the same balance bytes, and
  print-equivalent journals.  A closed instance with three files in two directories against one file in reverse order
  is in `Properties/C05LayoutEx.lean`.
-/
namespace Knut.C05
open Knut Knut.Loader Knut.Commands Knut.Layout Knut.InsertsPerm Knut.JournalPrinter Knut.FromSyntax

theorem C05_run_factors (c : Command) (hc : c = .check ∨ c = .balance ∨ c = .print) (fs : FileSys) (f : Flags) :
    Cmd.run c fs f = onJournal c f (journalOf fs f.path) := by
  rcases hc with rfl | rfl | rfl
  · exact run_check_eq fs f
  · exact run_balance_eq fs f
  · exact run_print_eq fs f

/-- `journal.FromPath` of the command model is `journalOf` -/
theorem C05_journalOf_is_fromPath (fs : FileSys) (root : Path) : fromPath fs root = journalOf fs root :=
  fromPath_eq_journalOf fs root

/-- every journal that loads books on accounts with an account type only -/
theorem C05_layout_wf (fs : FileSys) (root : Path) (ds : List Directive) (h : journalOf fs root = .ok ds) : DirsWF ds :=
  journalOf_wf fs root ds h

/-- **the verdict of `knut check` does not depend on the layout**: same outcome class with or without `--write`
(the assertions `--write` prints are not claimed), and the same outcome without it -/
theorem C05_layout_verdict (fs fs' : FileSys) (f f' : Flags) (ds ds' : List Directive)
    (h : journalOf fs f.path = .ok ds) (h' : journalOf fs' f'.path = .ok ds') (hp : ds.Perm ds') :
    (Cmd.run .check fs f).cls = (Cmd.run .check fs' f').cls ∧
    (f.write = false → f'.write = false → Cmd.run .check fs f = Cmd.run .check fs' f') := by
  rw [run_check_eq, run_check_eq, h, h']
  simp only [checkOn]
  have hv := C05_verdict_perm ds ds' hp
  rw [← checkWrite_isOk_run, ← checkWrite_isOk_run] at hv
  obtain ⟨e, e', h1, h2⟩ | ⟨as, as', h1, h2⟩ := isOk_eq_cases hv <;> rw [h1, h2]
  · exact ⟨rfl, fun _ _ => rfl⟩
  · refine ⟨?_, ?_⟩
    · cases f.write <;> cases f'.write <;> simp only [if_true, if_false, Bool.false_eq_true, CmdOutcome.cls]
    · intro hw hw'; simp only [hw, hw', if_false, Bool.false_eq_true]

/-- **not a byte of an unvalued balance report depends on the layout**, for every flag vector -/
theorem C05_layout_balance (fs fs' : FileSys) (f f' : Flags) (ds ds' : List Directive)
    (h : journalOf fs f.path = .ok ds) (h' : journalOf fs' f'.path = .ok ds') (hp : ds.Perm ds')
    (hf : f'.balance = f.balance) (hv : commodityFlag f.balance.valuation = .ok none) :
    Cmd.run .balance fs f = Cmd.run .balance fs' f' := by
  rw [run_balance_eq, run_balance_eq, h, h', hf]
  simp only [balanceOn, hv]
  exact C05_balance_output_perm _ rfl ds ds' hp (journalOf_wf fs f.path ds h)

/-- **not a byte of any balance report, valued or not, depends on the layout**, for every flag vector, provided no date
carries two price directives for one pair of commodities (`C05_two_prices_one_day_order_matters`: needed) -/
theorem C05_layout_balance_valued (fs fs' : FileSys) (f f' : Flags) (ds ds' : List Directive)
    (h : journalOf fs f.path = .ok ds) (h' : journalOf fs' f'.path = .ok ds') (hp : ds.Perm ds')
    (hf : f'.balance = f.balance) (hpr : PricesDistinct ds) :
    Cmd.run .balance fs f = Cmd.run .balance fs' f' := by
  rw [run_balance_eq, run_balance_eq, h, h', hf]
  simp only [balanceOn]
  cases commodityFlag f.balance.valuation with
  | error o => rfl
  | ok v => exact C05_balance_output_perm_valued _ ds ds' hp (journalOf_wf fs f.path ds h) hpr

/-- **`knut print` shows the same journal up to the order within a (day, kind) block**: both runs are rejected by the
checker, or both print — the journals `j`, `j'` built from the two directive lists — and `j`, `j'` have the same days,
per day the same prices, openings, assertions, closings and transactions as multisets, the same column width, and the
sorted transaction sequences agree position by position up to `transaction.Compare` (`Layout.PrintEquiv`) -/
theorem C05_layout_print (fs fs' : FileSys) (f f' : Flags) (ds ds' : List Directive)
    (h : journalOf fs f.path = .ok ds) (h' : journalOf fs' f'.path = .ok ds') (hp : ds.Perm ds') :
    (Cmd.run .print fs f = .error "processing" ∧ Cmd.run .print fs' f' = .error "processing") ∨
    (Cmd.run .print fs f = .ok (print (Builder.ofList ds).build) ∧
     Cmd.run .print fs' f' = .ok (print (Builder.ofList ds').build) ∧
     PrintEquiv (Builder.ofList ds).build (Builder.ofList ds').build) := by
  rw [run_print_eq, run_print_eq, h, h']
  simp only [printOn]
  obtain ⟨e, e', h1, h2⟩ | ⟨st, st', h1, h2⟩ := isOk_eq_cases (C05_verdict_perm ds ds' hp) <;> rw [h1, h2]
  · exact Or.inl ⟨rfl, rfl⟩
  · exact Or.inr ⟨rfl, rfl, printEquiv_of_perm ds ds' hp⟩

/-- what `PrintEquiv` leaves open for the transactions, at text level: two transactions `transaction.Compare` does
not distinguish are printed alike except for their `@performance` line (the comparison looks at date, description and
postings). So between two layouts the block of transactions of a day changes at most by exchanging `@performance` lines
among transactions that are otherwise printed identically. -/
theorem C05_compare_equal_prints_alike (t u : Transaction) (h : cmpTx t u = .eq) (pad : Nat) :
    printTx pad { t with targets := none } = printTx pad { u with targets := none } := cmpTx_eq_print h pad

/-- **if the directives of every (date, kind) block keep their relative order, `knut print` writes the same bytes**:
the printed journal is a function of the per-date, per-kind sequences — the only thing a layout can change in it is
the relative order of directives that share date and kind -/
theorem C05_layout_print_exact (fs fs' : FileSys) (f f' : Flags) (ds ds' : List Directive)
    (h : journalOf fs f.path = .ok ds) (h' : journalOf fs' f'.path = .ok ds') (hp : ds.Perm ds')
    (hord : ∀ y, collect txKind ds y = collect txKind ds' y ∧ collect openKind ds y = collect openKind ds' y ∧
      collect closeKind ds y = collect closeKind ds' y ∧ collect priceKind ds y = collect priceKind ds' y ∧
      collect assertKind ds y = collect assertKind ds' y) :
    Cmd.run .print fs f = Cmd.run .print fs' f' := by
  rw [run_print_eq, run_print_eq, h, h']
  simp only [printOn, build_eq_of_collect ds ds' hp hord]

/-- **any arrival order of the files** (the loader goroutines deliver them in schedule order, C19): elaborating the
loaded files in another order gives a permutation of the journal, so all of the above holds for every schedule -/
theorem C05_layout_arrival (files files' : List LoadedFile) (hp : files.Perm files') (ds : List Directive)
    (h : journalOfFiles files = .ok ds) : ∃ ds', journalOfFiles files' = .ok ds' ∧ ds.Perm ds' := by
  obtain ⟨xs, hm, rfl⟩ := map_eq_ok.mp h
  obtain ⟨xs', h', hperm⟩ := mapM_ok_perm hp hm
  exact ⟨xs'.flatten, map_eq_ok.mpr ⟨xs', h', rfl⟩, hperm.flatten⟩

/-- **split**: the directives of `ds` distributed in any way over the files of an include tree and written with the
printer's functions are loaded back as a permutation of `ds` — explicitly: file by file, depth first — from every
file system that holds these files under their paths (other files may lie around) -/
theorem C05_split (pad : Nat) (t : LTree) (ds : List Directive) (fs : FileSys)
    (hfs : ∀ n ∈ t.nodes, fs.read n.1 = some (fileBytes (n.2.text pad)))
    (hassign : t.reading.Perm ds) (hdirs : ∀ x ∈ ds, PrintableDir x)
    (hedges : ∀ e ∈ t.edges, '"' ∉ e.2.1.toList ∧ resolve e.1 e.2.1 = e.2.2)
    (hpaths : (t.nodes.map (fun n => pathClean n.1)).Nodup) :
    journalOf fs t.path = .ok t.journal ∧ t.journal.Perm ds := by
  have hperm : t.journal.Perm ds := (journal_perm_reading t).trans hassign
  exact ⟨journalOf_layout pad t fs hfs (fun x hx => hdirs x (hperm.mem_iff.mp hx)) hedges hpaths, hperm⟩

/-- such a file system exists: the one made of exactly the files of the layout (`LTree.fs`) -/
theorem C05_split_fs (pad : Nat) (t : LTree) (hpaths : (t.nodes.map (fun n => pathClean n.1)).Nodup) :
    ∀ n ∈ t.nodes, (t.fs pad).read n.1 = some (fileBytes (n.2.text pad)) := by
  have hnd : ((t.files pad).map (·.1)).Nodup := by
    have h1 : (t.nodes.map (·.1)).Nodup :=
      List.Pairwise.of_map (S := (· ≠ ·)) pathClean (fun _ _ hne e => hne (congrArg pathClean e))
        (by rw [List.map_map]; exact hpaths)
    simpa [LTree.files, List.map_map, Function.comp_def] using h1
  intro n hn
  show (t.files pad).lookup n.1 = _
  exact lookup_of_nodup hnd (List.mem_map.mpr ⟨n, hn, rfl⟩)

/-- the exclusion of same-day price clashes is a property of the multiset of directives -/
theorem C05_prices_distinct_perm {ds ds' : List Directive} (hp : ds.Perm ds') (h : PricesDistinct ds) : PricesDistinct ds' := by
  intro y
  exact InsertsPermValued.pairsDistinct_perm (((hp.filterMap _).map _)) (h y)

/-- **two layouts of the same directives**: whatever the two include trees, the paths, the distribution of the
directives over the files and the column widths, `check` gives the same verdict, `balance` the same bytes for every
flag vector (under `PricesDistinct`), and `print` journals that differ at most within (day, kind) blocks -/
theorem C05_split_reports (pad pad' : Nat) (t t' : LTree) (ds : List Directive)
    (hassign : t.reading.Perm ds) (hassign' : t'.reading.Perm ds) (hdirs : ∀ x ∈ ds, PrintableDir x)
    (hedges : ∀ e ∈ t.edges, '"' ∉ e.2.1.toList ∧ resolve e.1 e.2.1 = e.2.2)
    (hedges' : ∀ e ∈ t'.edges, '"' ∉ e.2.1.toList ∧ resolve e.1 e.2.1 = e.2.2)
    (hpaths : (t.nodes.map (fun n => pathClean n.1)).Nodup) (hpaths' : (t'.nodes.map (fun n => pathClean n.1)).Nodup)
    (f f' : Flags) (hf : f.path = t.path) (hf' : f'.path = t'.path) :
    (Cmd.run .check (t.fs pad) f).cls = (Cmd.run .check (t'.fs pad') f').cls ∧
    (f'.balance = f.balance → PricesDistinct ds → Cmd.run .balance (t.fs pad) f = Cmd.run .balance (t'.fs pad') f') ∧
    ((Cmd.run .print (t.fs pad) f = .error "processing" ∧ Cmd.run .print (t'.fs pad') f' = .error "processing") ∨
     (Cmd.run .print (t.fs pad) f = .ok (print (Builder.ofList t.journal).build) ∧
      Cmd.run .print (t'.fs pad') f' = .ok (print (Builder.ofList t'.journal).build) ∧
      PrintEquiv (Builder.ofList t.journal).build (Builder.ofList t'.journal).build)) := by
  obtain ⟨h, hp⟩ := C05_split pad t ds _ (C05_split_fs pad t hpaths) hassign hdirs hedges hpaths
  obtain ⟨h', hp'⟩ := C05_split pad' t' ds _ (C05_split_fs pad' t' hpaths') hassign' hdirs hedges' hpaths'
  rw [← hf] at h
  rw [← hf'] at h'
  have hpp : t.journal.Perm t'.journal := hp.trans hp'.symm
  exact ⟨(C05_layout_verdict _ _ f f' _ _ h h' hpp).1,
    fun hb hpr => C05_layout_balance_valued _ _ f f' _ _ h h' hpp hb (C05_prices_distinct_perm hp.symm hpr),
    C05_layout_print _ _ f f' _ _ h h' hpp⟩

end Knut.C05
