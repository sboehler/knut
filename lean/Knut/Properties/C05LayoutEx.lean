import Knut.Properties.C05Layout
import Knut.Proofs.StrBytes
/-!
# C05, end to end: the closed instance of the layout theorems (non-vacuity)

Three files in two directories against one file in reverse order: the hypotheses of `C05_split` and `C05_layout_*`
(`Properties/C05Layout.lean`) hold of them, and the commands give what the theorems say.
`main.knut` holds an `open`, includes `./inc/a.knut` and ends with a transaction; `inc/a.knut` holds a transaction,
includes `b.knut` — resolved relative to its own directory: `inc/b.knut` — and an `open`; `inc/b.knut` holds a
transaction and an `open`.  The directives are those of `xDirs` (`Properties/C05Inserts.lean`: three accounts, three
transactions in two months).  `all.knut` holds the same directives in reverse order.
-/
namespace Knut.C05
open Knut Knut.Loader Knut.Commands Knut.Layout Knut.InsertsPerm Knut.JournalPrinter Knut.FromSyntax

def exB : LTree := .node "inc/b.knut" (.ofList [.inl (xDirs[4]!), .inl (xDirs[0]!)])
def exA : LTree := .node "inc/a.knut" (.ofList [.inl (xDirs[5]!), .inr ("b.knut", exB), .inl (xDirs[1]!)])
def exTree : LTree := .node "main.knut" (.ofList [.inl (xDirs[2]!), .inr ("./inc/a.knut", exA), .inl (xDirs[3]!)])
def exOne : LTree := .node "all.knut" (.ofList (xDirs.reverse.map .inl))

theorem xDirs_printable : ∀ x ∈ xDirs, PrintableDir x := by decide +kernel

/-- the three files on disk, character for character what an editor shows (day number 1 is 0001-01-02) -/
example : exTree.nodes.map (fun n => (n.1, (n.2.text 14).toList)) =
    [("main.knut", "0001-01-02 open Expenses:Food\ninclude \"./inc/a.knut\"\n0001-01-03 \"salary\"\nIncome:Salary  Assets:Bank           100 CHF\n\n".toList),
     ("inc/a.knut", "0001-02-10 \"food\"\nAssets:Bank    Expenses:Food           5 CHF\n\ninclude \"b.knut\"\n0001-01-02 open Income:Salary\n".toList),
     ("inc/b.knut", "0001-01-03 \"food\"\nAssets:Bank    Expenses:Food          30 CHF\n\n0001-01-02 open Assets:Bank\n".toList)] := by
  -- string by string, each through its bytes against the characters of the literal (`Proofs/StrBytes.lean`)
  show [("main.knut", (exTree.items.text 14).toList), ("inc/a.knut", (exA.items.text 14).toList),
    ("inc/b.knut", (exB.items.text 14).toList)] = _
  simp only [List.cons.injEq, Prod.mk.injEq, true_and, and_true]
  exact ⟨toList_eq_ofList (by decide +kernel), toList_eq_ofList (by decide +kernel), toList_eq_ofList (by decide +kernel)⟩

theorem exTree_assign : exTree.reading.Perm xDirs := by decide +kernel
theorem exTree_edges : ∀ e ∈ exTree.edges, '"' ∉ e.2.1.toList ∧ resolve e.1 e.2.1 = e.2.2 := by decide +kernel
theorem exTree_paths : (exTree.nodes.map (fun n => pathClean n.1)).Nodup := by decide +kernel
theorem exOne_assign : exOne.reading.Perm xDirs := by decide +kernel
theorem exOne_edges : ∀ e ∈ exOne.edges, '"' ∉ e.2.1.toList ∧ resolve e.1 e.2.1 = e.2.2 := by decide +kernel
theorem exOne_paths : (exOne.nodes.map (fun n => pathClean n.1)).Nodup := by decide +kernel

/-- `C05_split` applies to the three-file layout: the loader follows `./inc/a.knut` and, from there, `b.knut` -/
theorem exTree_journal : journalOf (exTree.fs 14) "main.knut" = .ok exTree.journal ∧ exTree.journal.Perm xDirs :=
  C05_split 14 exTree xDirs _ (C05_split_fs 14 exTree exTree_paths) exTree_assign xDirs_printable exTree_edges exTree_paths

theorem exOne_journal : journalOf (exOne.fs 0) "all.knut" = .ok exOne.journal ∧ exOne.journal.Perm xDirs :=
  C05_split 0 exOne xDirs _ (C05_split_fs 0 exOne exOne_paths) exOne_assign xDirs_printable exOne_edges exOne_paths

theorem exTree_perm_exOne : exTree.journal.Perm exOne.journal := exTree_journal.2.trans exOne_journal.2.symm

theorem exTree_accepted : (Check.run (Builder.ofList exTree.journal).build).isOk = true := by decide +kernel

theorem xDirs_pricesDistinct : PricesDistinct xDirs := pricesDistinct_of_pairwise (by decide +kernel)

/-- the loaded order is file by file, depth first: neither the order of `xDirs` nor its reverse -/
example : exTree.journal = [xDirs[2]!, xDirs[3]!, xDirs[5]!, xDirs[1]!, xDirs[4]!, xDirs[0]!] ∧
    exTree.reading = [xDirs[2]!, xDirs[5]!, xDirs[4]!, xDirs[0]!, xDirs[1]!, xDirs[3]!] ∧
    exOne.journal = xDirs.reverse := by decide +kernel

/-- the layout theorems apply: same verdict (both accepted) … -/
example : Cmd.run .check (exTree.fs 14) { path := "main.knut" } = Cmd.run .check (exOne.fs 0) { path := "all.knut" } :=
  (C05_layout_verdict _ _ { path := "main.knut" } { path := "all.knut" } _ _ exTree_journal.1 exOne_journal.1
    exTree_perm_exOne).2 rfl rfl

example : (Cmd.run .check (exTree.fs 14) { path := "main.knut" }).cls = .ok := by
  rw [run_check_of_journal (f := { path := "main.knut" }) exTree_journal.1, checkOn_of_accepted exTree_accepted]
  rfl

/-- … the same bytes of the monthly balance report (`xFlags`) … -/
example : Cmd.run .balance (exTree.fs 14) { path := "main.knut", balance := xFlags } =
    Cmd.run .balance (exOne.fs 0) { path := "all.knut", balance := xFlags } :=
  C05_layout_balance _ _ { path := "main.knut", balance := xFlags } { path := "all.knut", balance := xFlags } _ _
    exTree_journal.1 exOne_journal.1 exTree_perm_exOne rfl rfl

/-- … and of the valued one (no price directives: `PricesDistinct` holds trivially) … -/
example : Cmd.run .balance (exTree.fs 14) { path := "main.knut", balance := { xFlags with valuation := some "CHF" } } =
    Cmd.run .balance (exOne.fs 0) { path := "all.knut", balance := { xFlags with valuation := some "CHF" } } :=
  C05_layout_balance_valued _ _ { path := "main.knut", balance := { xFlags with valuation := some "CHF" } }
    { path := "all.knut", balance := { xFlags with valuation := some "CHF" } } _ _
    exTree_journal.1 exOne_journal.1 exTree_perm_exOne rfl (C05_prices_distinct_perm exTree_journal.2.symm xDirs_pricesDistinct)

/-- … and print-equivalent journals: both runs print (the journal is accepted), and what they print differs at most
within (day, kind) blocks -/
example : Cmd.run .print (exTree.fs 14) { path := "main.knut" } = .ok (print (Builder.ofList exTree.journal).build) ∧
    Cmd.run .print (exOne.fs 0) { path := "all.knut" } = .ok (print (Builder.ofList exOne.journal).build) ∧
    PrintEquiv (Builder.ofList exTree.journal).build (Builder.ofList exOne.journal).build := by
  rcases C05_layout_print _ _ { path := "main.knut" } { path := "all.knut" } _ _ exTree_journal.1 exOne_journal.1
    exTree_perm_exOne with h | h
  · exfalso
    have h1 := h.1
    rw [run_print_eq, exTree_journal.1] at h1
    simp only [printOn] at h1
    have := exTree_accepted
    cases hc : Check.run (Builder.ofList exTree.journal).build with
    | error e => rw [hc] at this; cases this
    | ok st => rw [hc] at h1; cases h1
  · exact h

/-- the two built journals are not equal — the two transactions of day 2 arrive in different orders — so `PrintEquiv`,
not equality of the journals, is what holds in general -/
example : (Builder.ofList exTree.journal).build ≠ (Builder.ofList exOne.journal).build := by decide +kernel

/-- the same file under another name in another directory, written with another column width: the exact variant
applies, `print` writes the same bytes -/
def exOne' : LTree := .node "elsewhere/journal.knut" exOne.items

theorem exOne'_journal : journalOf (exOne'.fs 30) "elsewhere/journal.knut" = .ok exOne'.journal ∧ exOne'.journal.Perm xDirs :=
  C05_split 30 exOne' xDirs _ (C05_split_fs 30 exOne' (by decide +kernel)) (by decide +kernel) xDirs_printable (by decide +kernel)
    (by decide +kernel)

example : Cmd.run .print (exOne.fs 0) { path := "all.knut" } = Cmd.run .print (exOne'.fs 30) { path := "elsewhere/journal.knut" } :=
  C05_layout_print_exact _ _ { path := "all.knut" } { path := "elsewhere/journal.knut" } _ _ exOne_journal.1 exOne'_journal.1
    (List.Perm.refl _) (fun _ => ⟨rfl, rfl, rfl, rfl, rfl⟩)

/-- two transactions that differ in their `@performance` targets only compare equal (and are distinct) -/
example : cmpTx ⟨2, "buy", postingBuild xBank xFood "CHF" 30, some ["CHF"]⟩ ⟨2, "buy", postingBuild xBank xFood "CHF" 30, none⟩ = .eq ∧
    (⟨2, "buy", postingBuild xBank xFood "CHF" 30, some ["CHF"]⟩ : Transaction) ≠ ⟨2, "buy", postingBuild xBank xFood "CHF" 30, none⟩ := by
  decide +kernel

/-- the split theorem for two layouts at once -/
example (f f' : Flags) (hf : f.path = "main.knut") (hf' : f'.path = "all.knut") :
    (Cmd.run .check (exTree.fs 14) f).cls = (Cmd.run .check (exOne.fs 0) f').cls :=
  (C05_split_reports 14 0 exTree exOne xDirs exTree_assign exOne_assign xDirs_printable exTree_edges exOne_edges exTree_paths
    exOne_paths f f' hf hf').1

/-- files may arrive in any order: for any loaded files, the reverse arrival order still yields a permutation -/
example (files : List LoadedFile) (ds : List Directive) (h : journalOfFiles files = .ok ds) :
    ∃ ds', journalOfFiles files.reverse = .ok ds' ∧ ds.Perm ds' :=
  C05_layout_arrival files files.reverse (List.reverse_perm files).symm ds h

/-- every loaded journal is well-formed: here the three-file one -/
example : DirsWF exTree.journal := C05_layout_wf _ _ _ exTree_journal.1

/-- the factorisation, instantiated -/
example : Cmd.run .print (exTree.fs 14) { path := "main.knut" } = printOn exTree.journal := by
  rw [C05_run_factors .print (Or.inr (Or.inr rfl))]
  show onJournal .print _ (journalOf (exTree.fs 14) "main.knut") = _
  rw [exTree_journal.1]
  rfl

/-- the exclusion of price clashes transfers along permutations: here from `xDirs` to the loaded order -/
example : PricesDistinct exTree.journal :=
  C05_prices_distinct_perm exTree_journal.2.symm xDirs_pricesDistinct

end Knut.C05
