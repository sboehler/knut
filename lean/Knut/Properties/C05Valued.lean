import Knut.Proofs.InsertsPermValued
import Knut.Properties.C05Inserts
/-!
# C05/C06 — the balance report, VALUED or not, does not depend on the order of the directives

Extension of `Knut.Properties.C05Inserts` (which needs `cfg.valuation = none`) to every configuration, `--val`
included.  Two day lists correspond (`DayEquivP`) when they agree day by day up to the order of the openings,
transactions, assertions and closings, and the price declarations of each day are the same list or a permutation
in which no two declarations are about the same unordered pair of commodities.  (The property excludes journals
with two prices for one pair on one day: there the later one wins, and the order does matter —
`C05_two_prices_one_day_order_matters`.)

* `C05_inserts_perm_valued` – the two runs insert the same MULTISET of report entries.  The lists do differ
  (`C05_valued_inserts_order_differs`): the value adjustments are generated in the key order of the Valuate stage's
  quantity map, the closings in the key order of the CloseAccounts accumulators, both follow the posting order.
* `C05_run_ok_perm_valued` – one run succeeds iff the other does: checker verdict, zero price, and missing price of
  a position to adjust or a posting to value.
* `C05_inserts_wf_valued`, `C05_report_perm_valued` – well-formed accounts in, well-formed accounts out (adjustments
  book on the position's account and on `Income:…`); hence the same table for every renderer configuration.
* **`C05_balance_output_perm_valued`** – `knut balance` (model `BalanceCmd.run`, any flags) prints byte for byte the
  same, or fails alike, for every permutation of the directives, provided the bookings are on accounts with an account
  type (`DirsWF`) and no date carries two price directives for one pair of commodities (`PricesDistinct`).

Nothing is left open for C05/C06 at the level of the pipeline model; the order of the postings inside a transaction
and of the balances inside an assertion is fixed (it is part of the directive).
-/
namespace Knut.C05
open Knut Knut.Spec Knut.InsertsPerm Knut.InsertsPermValued

/-- **the multiset of report inserts is order-independent**, valued or not, closing on or off -/
theorem C05_inserts_perm_valued (cfg : BalCfg) (days days' : List Day) (h : List.Forall₂ DayEquivP days days')
    (st st' : BalState) (h1 : Balance.run cfg days = .ok st) (h2 : Balance.run cfg days' = .ok st') :
    st.entries.Perm st'.entries := by
  have := run_sim cfg h {} {} relV_init
  unfold Balance.run at h1 h2
  rw [h1, h2] at this
  exact this.ent

/-- a run succeeds for both orders or for neither (checker verdict, zero price, missing price) -/
theorem C05_run_ok_perm_valued (cfg : BalCfg) (days days' : List Day) (h : List.Forall₂ DayEquivP days days') :
    (Balance.run cfg days).isOk = (Balance.run cfg days').isOk :=
  psim_isOk (run_sim cfg h {} {} relV_init)

/-- the report inserts of a journal with well-formed accounts are on well-formed accounts -/
theorem C05_inserts_wf_valued (cfg : BalCfg) (days : List Day) (hwf : ∀ d ∈ days, TxsWF d.transactions)
    (st : BalState) (h1 : Balance.run cfg days = .ok st) : ReportPerm.WF st.entries :=
  run_wf cfg days hwf st h1

/-- **same table** for every renderer configuration -/
theorem C05_report_perm_valued (cfg : BalCfg) (rc : RenderCfg) (days days' : List Day)
    (h : List.Forall₂ DayEquivP days days') (hwf : ∀ d ∈ days, TxsWF d.transactions) (st st' : BalState)
    (h1 : Balance.run cfg days = .ok st) (h2 : Balance.run cfg days' = .ok st') :
    BalanceReport.table rc st.entries = BalanceReport.table rc st'.entries :=
  C06.table_perm rc _ _ (C05_inserts_perm_valued cfg days days' h st st' h1 h2) (C05_inserts_wf_valued cfg days hwf st h1)


instance : DecidableRel SamePair := fun p q => by unfold SamePair; exact inferInstance

/-- on every date, no two price directives of that date are about the same unordered pair of commodities -/
def PricesDistinct (ds : List Directive) : Prop := ∀ y, PairsDistinct ((collect priceKind ds y).map toDecl)

def clash (x y : Directive) : Prop :=
  match x, y with
  | .price p, .price q => p.date = q.date ∧ SamePair (toDecl p) (toDecl q)
  | _, _ => False

instance : DecidableRel clash := fun x y => by unfold clash; split <;> exact inferInstance

/-- a decidable sufficient criterion -/
theorem pricesDistinct_of_pairwise {ds : List Directive} (h : ds.Pairwise (fun x y => ¬ clash x y)) : PricesDistinct ds := by
  intro y
  unfold PairsDistinct collect
  rw [List.pairwise_map, List.pairwise_filterMap]
  refine h.imp ?_
  intro a b hab p hp q hq hs
  split at hp
  · rename_i e1
    split at hq
    · rename_i e2
      cases a <;> simp only [priceKind, Option.some.injEq, reduceCtorEq] at hp
      cases b <;> simp only [priceKind, Option.some.injEq, reduceCtorEq] at hq
      subst hp; subst hq
      exact hab ⟨e1.trans e2.symm, hs⟩
    · cases hq
  · cases hp
theorem C05_days_equivP (ds ds' : List Directive) (hp : ds.Perm ds') (hpr : PricesDistinct ds) :
    List.Forall₂ DayEquivP (Builder.ofList ds).build (Builder.ofList ds').build := by
  unfold Builder.build
  apply forall₂_of_map_eq (C05_same_dates ds ds' hp)
  intro d hd d' hd' hdate
  have key {α : Type} (k : Kind α) := built_day_perm ds ds' hp hd hd' hdate k
  refine ⟨⟨hdate, key openKind, key txKind, key assertKind, key closeKind⟩, Or.inr ⟨(key priceKind).map _, ?_⟩⟩
  show PairsDistinct (List.map toDecl (priceKind.proj d))
  rw [built_proj priceKind ds d hd]
  exact hpr d.date

theorem ensureDays_equivP (dates : List Int) : ∀ {l l' : List Day}, List.Forall₂ DayEquivP l l' →
    List.Forall₂ DayEquivP (dates.foldl insertDay l) (dates.foldl insertDay l') :=
  ensureDays_rel (fun h => h.1.1) (fun _ => dayEquivP_refl _) dates

theorem entries_core_valued (cfg : BalCfg) (days days' : List Day)
    (heq : List.Forall₂ DayEquivP days days') (hw : ∀ d ∈ days, TxsWF d.transactions) (part : Partition) :
    match (match Balance.run cfg days with
        | .error _ => .error (.error "processing")
        | .ok st => .ok (st.entries, part) : Except CmdOutcome (List Entry × Partition)),
      (match Balance.run cfg days' with
        | .error _ => .error (.error "processing")
        | .ok st => .ok (st.entries, part) : Except CmdOutcome (List Entry × Partition)) with
    | .ok (es, part), .ok (es', part') => es.Perm es' ∧ part = part' ∧ ReportPerm.WF es
    | .error o, .error o' => o = o'
    | _, _ => False := by
  have h := run_sim cfg heq {} {} relV_init
  unfold Balance.run
  cases h1 : days.foldlM (Balance.day cfg) {} with
  | error e =>
    cases h2 : days'.foldlM (Balance.day cfg) {} with
    | error e' => rfl
    | ok st' => rw [h1, h2] at h; exact h.elim
  | ok st =>
    cases h2 : days'.foldlM (Balance.day cfg) {} with
    | error e' => rw [h1, h2] at h; exact h.elim
    | ok st' => rw [h1, h2] at h; exact ⟨h.ent, rfl, run_wf cfg days hw st h1⟩

/-- **permuting the directives of a journal does not change a byte of the balance report, valued or not**, provided
no date carries two price directives for the same pair of commodities -/
theorem C05_balance_output_perm_valued (f : BalanceFlags) (ds ds' : List Directive) (hp : ds.Perm ds')
    (hwf : DirsWF ds) (hpr : PricesDistinct ds) : BalanceCmd.run f ds = BalanceCmd.run f ds' :=
  output_perm_of (fun h => h.1.1) (fun _ => dayEquivP_refl _) f hp hwf (C05_days_equivP ds ds' hp hpr)
    fun cfg _ _ _ h => run_sim cfg h {} {} relV_init

/-! ### Non-vacuity: a valued report over two periods, two prices per price day, closing enabled -/

def vPortA : Account := ⟨["Assets", "PortfolioA"]⟩
def vPortB : Account := ⟨["Assets", "PortfolioB"]⟩
def vEq : Account := ⟨["Equity", "Opening"]⟩
def vDirs : List Directive :=
  [.opening ⟨1, vPortA⟩, .opening ⟨1, vPortB⟩, .opening ⟨1, vEq⟩, .opening ⟨1, xSal⟩,
   .price ⟨1, "AAA", 2, "CHF"⟩, .price ⟨1, "BBB", 3, "USD"⟩,
   .tx ⟨2, "buy AAA", postingBuild vEq vPortA "AAA" 10, none⟩,
   .tx ⟨2, "buy AAA", postingBuild xSal vPortB "AAA" 5, none⟩,
   .price ⟨40, "AAA", 3, "CHF"⟩, .price ⟨40, "BBB", 5, "USD"⟩,
   .tx ⟨41, "buy AAA", postingBuild xSal vPortB "AAA" 1, none⟩]
def vFlags : BalanceFlags := { to := 50, interval := .monthly, valuation := some "CHF" }

theorem vDirs_distinct : PricesDistinct vDirs := pricesDistinct_of_pairwise (by decide)

theorem vDirs_wf : DirsWF vDirs := by
  intro t ht p hp
  simp only [vDirs, List.mem_cons, List.not_mem_nil, or_false, reduceCtorEq, false_or, Directive.tx.injEq] at ht
  rcases ht with rfl | rfl | rfl <;> rcases postingBuild_account _ _ _ _ _ p hp with h | h <;> rw [h] <;> rfl

/-- the theorem applies to the journal read backwards … -/
example : BalanceCmd.run vFlags vDirs = BalanceCmd.run vFlags vDirs.reverse :=
  C05_balance_output_perm_valued vFlags _ _ (List.reverse_perm _).symm vDirs_wf vDirs_distinct

/-- … both runs succeed with 14 report inserts (6 bookings, 2 value adjustment pairs on day 40, 2 closing pairs at the
second period start), and the two insert LISTS differ: the permutation in `C05_inserts_perm_valued` cannot be an
equality -/
theorem C05_valued_inserts_order_differs :
    (match BalanceCmd.entries vFlags vDirs, BalanceCmd.entries vFlags vDirs.reverse with
      | .ok (es, _), .ok (es', _) => decide (es.length = 14 ∧ es ≠ es')
      | _, _ => false) = true := by decide +kernel

/-! ### The hypothesis on the prices is needed: two prices for one pair on one day -/

def vBad : List Directive :=
  [.opening ⟨1, vPortA⟩, .opening ⟨1, vEq⟩,
   .price ⟨1, "AAA", 2, "CHF"⟩, .price ⟨1, "AAA", 3, "CHF"⟩,
   .tx ⟨2, "buy AAA", postingBuild vEq vPortA "AAA" 10, none⟩]

/-- the later declaration wins: 10 AAA are worth 30 CHF in file order, 20 CHF in reverse order (the rendered reports
differ accordingly) -/
theorem C05_two_prices_one_day_order_matters :
    (match BalanceCmd.entries vFlags vBad, BalanceCmd.entries vFlags vBad.reverse with
      | .ok (es, _), .ok (es', _) => decide (es.map (·.amount) = [-30, 30] ∧ es'.map (·.amount) = [-20, 20])
      | _, _ => false) = true := by decide +kernel

example : ¬ PricesDistinct vBad := fun h => absurd (h 1) (by unfold PairsDistinct; decide)

end Knut.C05
