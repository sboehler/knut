import Knut.Properties.C04
import Knut.Properties.C05
import Knut.Proofs.LifecyclePerm
/-!
# C05 — the checker's verdict does not depend on the order of the directives

`C05_verdict_perm`: two directive lists that are permutations of each other (any include-tree layout,
any arrival order) are both accepted or both rejected by the checker.  The directive NAMED in a rejection
may differ between the two orders (`C05_offender_may_differ`); only the accept/reject verdict is claimed.
Route: `C04_accept_iff_strict` (checker = strict lifecycle specification), `C05_same_dates` and
`C05_same_day_content` (same days, per day and kind the same directives up to order), and
`Spec.verdict_perm` (the specification's verdict is invariant under reordering within a (day, kind) block).
-/
namespace Knut.C05
open Knut Knut.Spec

/-- the days built from two permutations of a directive list correspond one to one -/
theorem C05_days_equiv (ds ds' : List Directive) (hp : ds.Perm ds') :
    List.Forall₂ DayEquiv (Builder.ofList ds).build (Builder.ofList ds').build := by
  unfold Builder.build
  apply forall₂_of_map_eq (C05_same_dates ds ds' hp)
  intro d hd d' hd' hdate
  have key {α : Type} (k : Kind α) := built_day_perm ds ds' hp hd hd' hdate k
  exact ⟨hdate, key openKind, key txKind, key assertKind, key closeKind⟩

/-- the lifecycle specification's verdict (strict or as the property text reads) is invariant under
reordering within a (day, kind) block; prices are ignored -/
theorem C05_spec_verdict_perm (strict : Bool) (days days' : List Day) (h : List.Forall₂ DayEquiv days days') :
    (Spec.verdict strict days).isOk = (Spec.verdict strict days').isOk := verdict_perm strict days days' h

/-- **check verdict is order-independent**: permuting the directives of a journal (and hence any
re-arrangement of them over files) does not change whether the checker accepts. -/
theorem C05_verdict_perm (ds ds' : List Directive) (hp : ds.Perm ds') :
    (Check.run (Builder.ofList ds).build).isOk = (Check.run (Builder.ofList ds').build).isOk := by
  rw [C04.C04_accept_iff_strict, C04.C04_accept_iff_strict]
  exact verdict_perm true _ _ (C05_days_equiv ds ds' hp)


def wA : Account := ⟨["Assets", "A"]⟩
def wE : Account := ⟨["Equity", "E"]⟩

def okDirectives : List Directive :=
  [.opening ⟨1, wA⟩, .opening ⟨1, wE⟩, .tx ⟨1, "t", postingBuild wE wA "CHF" 5, none⟩,
   .assertion ⟨1, [⟨wA, 5, "CHF"⟩]⟩, .tx ⟨2, "u", postingBuild wA wE "CHF" 5, none⟩, .closing ⟨2, wA⟩]

/-- non-vacuity: an accepted journal, delivered in file order and in reverse order -/
example : okDirectives.Perm okDirectives.reverse ∧
    (Check.run (Builder.ofList okDirectives).build).isOk = true ∧
    (Check.run (Builder.ofList okDirectives.reverse).build).isOk = true :=
  ⟨(List.reverse_perm _).symm, by decide +kernel, by decide +kernel⟩

def badT1 : Transaction := ⟨1, "first", postingBuild wE wA "CHF" 1, none⟩
def badT2 : Transaction := ⟨1, "second", postingBuild wE wA "CHF" 2, none⟩

def offender (r : Except CheckErr CheckState) : Option Directive :=
  match r with | .error e => some e.directive | .ok _ => none

/-- only the verdict is order-independent: two bookings on unopened accounts on one day are rejected in
either order, and the checker names whichever comes first. -/
theorem C05_offender_may_differ :
    [Directive.tx badT1, .tx badT2].Perm [.tx badT2, .tx badT1] ∧
    offender (Check.run (Builder.ofList [.tx badT1, .tx badT2]).build) = some (.tx badT1) ∧
    offender (Check.run (Builder.ofList [.tx badT2, .tx badT1]).build) = some (.tx badT2) :=
  ⟨List.Perm.swap _ _ _, by decide +kernel, by decide +kernel⟩

end Knut.C05
