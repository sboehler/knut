import Knut.Properties.C05
/-!
# C06 — Output is a function of the input alone

In the model every place where the Go code ranges over a map or receives from concurrent producers
takes the enumeration order as it comes (the order of an association list / of a directive list).
"Output is a function of the input" then means: *the result is the same for every permutation of those
lists*.  The code achieves this in exactly three ways, and each is a theorem here, for every input:

1. **sort before use** (`dict.SortedKeys`, `compare.Sort` with a total comparator: price normalisation,
   report rows, commodities/dates of a row, bayes candidates and tokens, revolut2 balances) —
   `C06_sort_oracle_irrelevant`, `C06_sorted_fold_oracle_irrelevant`;
2. **fold a commutative operation** (`Amounts.Add`, `SumBy`, `SumOver`, `Totals`, min/max of the journal
   period) — `C06_sum_oracle_irrelevant`, `C06_comm_fold_oracle_irrelevant`;
3. **group by a key and keep per-key order** (the journal builder: C05's `ofList_spec`).

Consequences proved: `C06_report_cells_deterministic` (any two enumerations of the report inserts give
the same cells), `C06_journal_deterministic` (any two arrival orders of the directives give the same
days, the same transactions per day up to order and the same journal period; the other kinds of directive:
`C05.C05_same_day_content`).

PARTIAL: the theorems cover the model's enumeration sites generically; that the Go code has no *other*
order leak (and float summation order in `portfolio`/`infer` scores, which the exact/abstract model
cannot exhibit) is decided by running every command repeatedly on tie-rich inputs under different
schedule seeds, GOMAXPROCS values and (by Go's per-run map randomisation) map orders, comparing stdout
bytes and exit status.
-/
namespace Knut.C06
open Knut

/-- **sorting removes the enumeration order**: for a transitive, total, antisymmetric comparator the
sorted list is the same for every permutation of the input. -/
theorem C06_sort_oracle_irrelevant {α : Type} (le : α → α → Bool)
    (trans : ∀ a b c, le a b → le b c → le a c) (total : ∀ a b, le a b || le b a)
    (antisymm : ∀ a b, le a b → le b a → a = b) (l l' : List α) (hp : l.Perm l') :
    l.mergeSort le = l'.mergeSort le :=
  MapSum.mergeSort_perm_eq le trans total l l' (fun a b _ _ => antisymm a b) hp

/-- a fold over the *sorted* keys of a map does not depend on the map's iteration order -/
theorem C06_sorted_fold_oracle_irrelevant {κ ν β : Type} (le : κ → κ → Bool)
    (trans : ∀ a b c, le a b → le b c → le a c) (total : ∀ a b, le a b || le b a)
    (antisymm : ∀ a b, le a b → le b a → a = b)
    (m m' : List (κ × ν)) (hp : m.Perm m') (f : β → κ → β) (init : β) :
    ((m.map (·.1)).mergeSort le).foldl f init = ((m'.map (·.1)).mergeSort le).foldl f init := by
  rw [C06_sort_oracle_irrelevant le trans total antisymm _ _ (hp.map _)]

/-- sums of amounts do not depend on the enumeration order -/
theorem C06_sum_oracle_irrelevant (l l' : List Rat) (hp : l.Perm l') : l.sum = l'.sum := MapSum.sum_perm hp

/-- folding an operation whose steps commute does not depend on the enumeration order -/
theorem C06_comm_fold_oracle_irrelevant {α β : Type} (f : β → α → β)
    (hcomm : ∀ b x y, f (f b x) y = f (f b y) x) (l l' : List α) (hp : l.Perm l') (init : β) :
    l.foldl f init = l'.foldl f init := MapSum.foldl_comm_perm f hcomm hp init

/-- **report cells**: any two enumerations of the report inserts give the same cells -/
theorem C06_report_cells_deterministic (es es' : List Entry) (hp : es.Perm es') (byCom : Bool)
    (c : Option Commodity) (d : Int) :
    BalanceReport.cellAt es byCom c d = BalanceReport.cellAt es' byCom c d := C05.C05_cells_perm es es' hp byCom c d

/-- **journal**: any two arrival orders of the directives give the same days, the same transactions per
day up to order, and the same journal period (the other kinds of directive: `C05.C05_same_day_content`) -/
theorem C06_journal_deterministic (ds ds' : List Directive) (hp : ds.Perm ds') :
    (Builder.ofList ds).days.map (·.date) = (Builder.ofList ds').days.map (·.date) ∧
    (∀ y, (contentOn txKind (Builder.ofList ds).days y).Perm (contentOn txKind (Builder.ofList ds').days y)) ∧
    (Builder.ofList ds).min = (Builder.ofList ds').min ∧ (Builder.ofList ds).max = (Builder.ofList ds').max := by
  refine ⟨C05.C05_same_dates ds ds' hp, fun y => C05.C05_same_day_content txKind ds ds' hp y, ?_, ?_⟩
  · rw [(C05.builder_period ds).1, (C05.builder_period ds').1, (C05.C05_journal_period_perm ds ds' hp).1]
  · rw [(C05.builder_period ds).2, (C05.builder_period ds').2, (C05.C05_journal_period_perm ds ds' hp).2]

/-! Non-vacuity: the comparator hypotheses are satisfiable (integers), and a concrete permutation. -/
example : [3, 1, 2].mergeSort (fun (a b : Int) => decide (a ≤ b)) = [2, 3, 1].mergeSort (fun a b => decide (a ≤ b)) := by
  apply C06_sort_oracle_irrelevant
  · intro a b c h1 h2; simp at *; omega
  · intro a b; simp; omega
  · intro a b h1 h2; simp at *; omega
  · decide

end Knut.C06
