import Knut.Proofs.ReportPerm
/-!
# C06/C05 — the rendered balance report does not depend on the order of the report inserts

`table_perm`: for report inserts whose accounts start with an account type (`ReportPerm.WF`; the registry's
invariant `Account.wf`, kept by remap and shorten: `Properties/C05Inserts.lean`), permuting the inserts does not
change the table: same columns, same rows in the same order, same cells.  Together with the byte-exact tie of
`BalanceReport.table` + `Table.render` to the Go renderer this says: the output of `balance` is a function of the
multiset of `Report.Insert` calls.

The hypothesis cannot be dropped (`table_perm_needs_wf`): the level-1 comparator of the Go code
(`compareAccountTypes` … `Types` order only) does not distinguish two top-level names that are not account types,
`compare.Sort` is stable, and the children are enumerated in insertion order.  `#eval` of the model on
`[Foo 1 CHF, Bar 1 CHF]` and its reverse prints the rows `Foo, Bar` resp. `Bar, Foo`.  No journal reaches that
state: `account.Registry.Get` rejects names whose first segment is not a type.
-/
namespace Knut.C06
open Knut Knut.BalanceReport Knut.ReportPerm

/-- **the balance report is a function of the multiset of report inserts** -/
theorem table_perm (rc : RenderCfg) (es es' : List Entry) (hp : es.Perm es') (hwf : WF es) :
    BalanceReport.table rc es = BalanceReport.table rc es' := table_perm_wf rc es es' hp hwf

/-- the sorted sibling lists (the row order at every node), the weights, the commodity lists of a row and the
cells, each on its own -/
theorem rows_order_perm (rc : RenderCfg) (es es' : List Entry) (hp : es.Perm es') (fuel : Nat) (path : List String)
    (h : path ≠ []) :
    sortedChildren rc es fuel path = sortedChildren rc es' fuel path ∧
    weight rc.valuation.isSome es fuel path = weight rc.valuation.isSome es' fuel path ∧
    (∀ byCom, valsCommodities (own es path) byCom = valsCommodities (own es' path) byCom) ∧
    (∀ byCom, cellAt (own es path) byCom = cellAt (own es' path) byCom) :=
  ⟨sortedChildren_perm rc hp fuel path h, weight_perm hp _ fuel path,
    fun b => valsCommodities_perm (own_perm hp path) b, fun b => cellAt_perm (own_perm hp path) b⟩

/-! ### the hypothesis is needed -/

def ceCfg : RenderCfg := { endDates := [0] }
def ceFoo : Entry := ⟨some 0, ⟨["Foo"]⟩, "CHF", 1⟩
def ceBar : Entry := ⟨some 0, ⟨["Bar"]⟩, "CHF", 1⟩

/-- without `WF` the level-1 row order follows the insertion order -/
theorem table_perm_needs_wf :
    [ceFoo, ceBar].Perm [ceBar, ceFoo] ∧
    sortedChildren ceCfg [ceFoo, ceBar] 1 [] = ["Foo", "Bar"] ∧
    sortedChildren ceCfg [ceBar, ceFoo] 1 [] = ["Bar", "Foo"] := by
  refine ⟨List.Perm.swap _ _ _, ?_, ?_⟩
  · unfold sortedChildren
    have : childSegs [ceFoo, ceBar] [] = ["Foo", "Bar"] := by decide +kernel
    rw [this]
    apply List.mergeSort_of_pairwise
    decide +kernel
  · unfold sortedChildren
    have : childSegs [ceBar, ceFoo] [] = ["Bar", "Foo"] := by decide +kernel
    rw [this]
    apply List.mergeSort_of_pairwise
    decide +kernel

/-! ### non-vacuity: real entries satisfy `WF`, and the theorem applies to a reordering -/

def exEntries : List Entry :=
  [⟨some 0, ⟨["Assets", "Bank"]⟩, "CHF", 5⟩, ⟨some 0, ⟨["Income", "Salary"]⟩, "CHF", -5⟩,
   ⟨some 0, ⟨["Expenses", "Food"]⟩, "CHF", 2⟩, ⟨some 0, ⟨["Assets", "Bank"]⟩, "CHF", -2⟩]

theorem exEntries_wf : WF exEntries := by unfold WF; decide +kernel

example : BalanceReport.table ceCfg exEntries = BalanceReport.table ceCfg exEntries.reverse :=
  table_perm ceCfg _ _ (List.reverse_perm _).symm exEntries_wf

end Knut.C06
