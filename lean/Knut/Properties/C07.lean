import Knut.Proofs.SyntaxItems
import Knut.Proofs.SyntaxExamples
/-!
# C07 — The parser is total and its tree is a lossless cover of the text

`parseText path text` is the model of `syntax.ParseFile` after reading the file
(`parser.New(text, path)`, `Advance()`, `ParseFile()`); `text` ranges over all byte strings (`List UInt8`),
valid UTF-8 or not. A result is `.ok file` or `.error chain`. Only property theorems and their non-vacuity
examples live here; the predicates are those of `Knut/Spec/SyntaxTree.lean`, which the monitor evaluates on
the Go parser's output.
-/
namespace Knut.C07
open Knut Knut.Syntax Knut.Spec.Syntax Knut.Utf8

/-- **total**: every byte string yields a tree or an error chain. (The model has no other outcome: the parser
functions are total Lean functions whose loops are defined by well-founded recursion on the number of
unconsumed tokens — `accountLoop`, `perfLoop`, `addonsLoop`, `bookingsLoop`, `balancesLoop`, `fileLoop`; the
scanner's loops are structural recursions — so "terminates" is part of the definitions being accepted.) -/
theorem C07_total (path : String) (text : List UInt8) :
    (∃ f, parseText path text = .ok f) ∨ (∃ e, parseText path text = .error e) := by
  cases h : parseText path text with
  | ok f => exact Or.inl ⟨f, rfl⟩
  | error e => exact Or.inr ⟨e, rfl⟩

/-- **no out-of-range slice while scanning**: every scanner state reachable by consuming tokens from the initial
state has its offset inside the text, and the unread tokens spell exactly the rest of the text
(so `s.text[s.offset:]` in `Advance`/`Backtrack` never panics). -/
theorem C07_offsets_in_text (text : List UInt8) (s : St) (h : Ext ⟨0, decodeAll text⟩ s) :
    s.off ≤ text.length ∧ text.drop s.off = flat s.toks :=
  let g := (good_start text).ext h
  ⟨g.le, g.drop⟩

/-- every state the parser ends in, whatever the outcome, is such a state -/
theorem C07_parse_stays_in_text (path : String) (text : List UInt8) :
    Ext ⟨0, decodeAll text⟩ (parseFile path ⟨0, decodeAll text⟩).st :=
  fileLoop_ext path 0 [] _

/-- **error position inside the input**, as the executable predicate the monitor uses -/
theorem C07_errOK {path : String} {text : List UInt8} {e : Err} (h : parseText path text = .error e) :
    errOK text.length e = true := by
  rcases parseText_eq_error.mp h with ⟨_, rfl⟩ | ⟨_, s', hp⟩
  · rfl
  · have := (parseFile_fwd path ⟨0, decodeAll text⟩).err _ _ hp
    exact errOK_mono this.2 ((good_start text).ext (ext_of_err (fileLoop_ext path 0 [] _) hp)).le

/-- **error position inside the input**: every link of a returned error chain that carries a position has
`start ≤ end ≤ len(text)` (`Error{}` and `io.EOF` carry none). -/
theorem C07_error_in_bounds {path : String} {text : List UInt8} {e : Err}
    (h : parseText path text = .error e) :
    ∀ fr ∈ e, ∀ msg r, fr = Frame.at msg r → r.start ≤ r.stop ∧ r.stop ≤ text.length := by
  have := C07_errOK h
  simp only [errOK, List.all_eq_true] at this
  intro fr hfr msg r hf
  have := this fr hfr
  subst hf
  simp only [frameOK, within_iff] at this
  omega

/-- **renderable**: `Error()` of the chain is a total function of (path, text, chain) — it indexes nothing —
and every reported location is a proper `line:col` (both ≥ 1). -/
theorem C07_error_renderable (path : String) (text : List UInt8) (e : Err) :
    (∃ s : String, renderErr path (decodeAll text) e = s) ∧
    ∀ stop, 1 ≤ (location (decodeAll text) stop).1 ∧ 1 ≤ (location (decodeAll text) stop).2 :=
  ⟨⟨_, rfl⟩, fun stop => locationL_pos stop 0 1 1 _ (Nat.le_refl _) (Nat.le_refl _)⟩

/-- **ranges in the text, children in their parents**: the whole tree is nested inside `[0, len(text)]`. -/
theorem C07_ranges_nested {path : String} {text : List UInt8} {f : File} (h : parseText path text = .ok f) :
    nodeWF 0 text.length f.toNode = true := by
  obtain ⟨h1, _, h3, _⟩ := parseText_ok h
  simp only [File.toNode, nodeWF_mk, h1, nodesWF_map]
  exact ⟨⟨Nat.le_refl _, Nat.zero_le _, Nat.le_refl _⟩, h3⟩

theorem C07_file_range {path : String} {text : List UInt8} {f : File} (h : parseText path text = .ok f) :
    f.range = ⟨0, text.length⟩ := (parseText_ok h).1

/-- **top-level directives in increasing order, disjoint** (and non-empty). -/
theorem C07_top_level_sorted_disjoint {path : String} {text : List UInt8} {f : File} (h : parseText path text = .ok f) :
    sortedDisjoint 0 (f.directives.map (·.range)) = true := (parseText_ok h).2.1

/-- **each element's text is the slice it points to**: for every element of the tree `Extract()` is defined
(no slice bound is violated) and equals `text[start:end]`. -/
theorem C07_extract_is_slice {path : String} {text : List UInt8} {f : File} (h : parseText path text = .ok f) :
    nodeAll (extractOK text) f.toNode = true :=
  nodeAll_of_wf text _ 0 text.length (C07_ranges_nested h) (Nat.le_refl _)

/-- **outside the directives only whitespace and comment lines**. -/
theorem C07_gaps_blank_or_comment {path : String} {text : List UInt8} {f : File} (h : parseText path text = .ok f) :
    ∀ g ∈ gapsOf text 0 (f.directives.map (·.range)), gapOK g = true := by
  have := (parseText_ok h).2.2.2
  simpa [List.all_eq_true] using this

/-- **gaps and directives interleave to the exact input**. -/
theorem C07_cover {path : String} {text : List UInt8} {f : File} (h : parseText path text = .ok f) :
    interleave (gapsOf text 0 (f.directives.map (·.range)))
      ((f.directives.map (·.range)).map fun r => slice text r.start r.stop) = text := by
  obtain ⟨_, h2, h3, _⟩ := parseText_ok h
  have := interleave_cover text 0 (f.directives.map (·.range)) h2 (by
    intro r hr
    obtain ⟨d, hd, rfl⟩ := List.mem_map.mp hr
    have := h3 d hd
    simp only [Directive.toNode, nodeWF_mk] at this
    exact this.1.2.2) (Nat.zero_le _)
  simpa using this

/-- all clauses about a returned tree at once: the monitor's predicate holds of the model's tree. -/
theorem C07_treeOK {path : String} {text : List UInt8} {f : File} (h : parseText path text = .ok f) :
    treeOK text f.toNode = true := by
  have hc := C07_cover h
  have hg := (parseText_ok h).2.2.2
  have hs := C07_top_level_sorted_disjoint h
  have hw := C07_ranges_nested h
  simp only [treeOK, toNode_ranges, hw, hs, hg, hc, Bool.and_self, beq_self_eq_true]

/-! ## Non-vacuity -/

/-- a text that parses: a comment line and an `open` directive … -/
example : parseText "j.knut" (bytesOf "#c\n2020-01-01 open A:B\n") =
    .ok ⟨⟨0, 23⟩, [⟨⟨3, 22⟩, .open ⟨⟨3, 22⟩, ⟨⟨3, 13⟩⟩, ⟨⟨19, 22⟩, false⟩⟩⟩]⟩ := ex_parse

/-- … whose gaps are the comment line and the final line break -/
example : gapsOf (bytesOf "#c\n2020-01-01 open A:B\n") 0 [⟨3, 22⟩] = [bytesOf "#c\n", bytesOf "\n"] := by
  rw [bytesOf_ofList, bytesOf_ofList, bytesOf_ofList]; decide

/-- a text that does not parse (invalid UTF-8 after the first digit), with its error chain -/
example : ∃ e, parseText "j.knut" [0x32, 0xff] = .error e ∧ e.length = 5 := ⟨_, ex_invalid, rfl⟩

/-- the predicates can fail: a child outside its parent, an unsorted pair, a gap with text in it -/
example : nodeWF 0 10 (.mk 1 ⟨0, 5⟩ [.mk 8 ⟨4, 6⟩ []]) = false := by decide
example : sortedDisjoint 0 [⟨5, 8⟩, ⟨7, 9⟩] = false := by decide
example : gapOK (bytesOf "\n  x\n") = false := by rw [bytesOf_ofList]; decide
example : gapOK (bytesOf " \t\r\n* heading\n// c\n#\n\n") = true := by rw [bytesOf_ofList]; decide
example : errOK 3 [Frame.at "m" ⟨2, 4⟩] = false := by decide

end Knut.C07
