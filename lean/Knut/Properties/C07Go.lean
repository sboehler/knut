import Knut.Properties.C07
import Knut.FactsAgree.TransParser4
/-!
# C07 on the generated definitions

The theorems of `Properties/C07.lean` are about the model parser `parseText`; `FactsAgree/TransParser4.lean` proves the parser translated
from `/repo`'s `lib/syntax/{scanner,parser,directives}` equal to it (`goSyntaxParse_agrees`).  This module composes the two: every
statement is about `goSyntaxParse fuel text path cb` (`parser.New(text, path)`, `Advance()`, `Callback = cb`, `ParseFile()` of the
GENERATED definitions), for every byte string `text` (valid UTF-8 or not), every path, every callback (nil or not) and every fuel above
the number of bytes of the text (`FuelOK`).  Ranges are read off the Go tree (`rangeOf`, `topRanges`); the clauses about the inner nodes
are stated on the model tree `f` of which the Go tree is the field-by-field image `goFile text path f` (bridge `parse_ok`; `goFile` and
the conversions below it are part of the statement).
-/
namespace Knut.C07Go
open Knut Knut.Spec.Syntax Knut.Utf8 Knut.GoSem
open Knut.Syntax hiding Bytes
open Knut.Generated.Go
open Knut.FactsAgree.TransScanner Knut.FactsAgree.TransParser

theorem decodeAll_length_le (bs : List UInt8) : (decodeAll bs).length ≤ bs.length := by
  induction bs using decode_induction with
  | nil => simp
  | cons b rest ih =>
    have hp := decodeRune_width_pos b rest
    rw [decodeAll_cons]
    simp only [List.length_cons, List.length_drop] at ih ⊢
    omega

/-- an adequate fuel: more than the bytes of the text (every loop of the parser consumes a token per pass) -/
def FuelOK (text : Bytes) (fuel : Nat) : Prop := text.length < fuel

theorem FuelOK.tokens {text : Bytes} {fuel : Nat} (h : FuelOK text fuel) : (decodeAll text).length < fuel :=
  Nat.lt_of_le_of_lt (decodeAll_length_le text) h

/-- the (start, end) of a Go range as the model's range -/
def rangeOf (r : directives.Range) : Syntax.Range := ⟨r.Start.toNat, r.End.toNat⟩

@[simp] theorem rangeOf_goRange (text : Bytes) (path : String) (r : Syntax.Range) : rangeOf (goRange text path r) = r := by
  simp [rangeOf, goRange]

/-- the ranges of the top-level directives of a Go file -/
def topRanges (G : directives.File) : List Syntax.Range := G.Directives.map (fun d => rangeOf d.Range)

theorem topRanges_goFile (text : Bytes) (path : String) (f : Syntax.File) :
    topRanges (goFile text path f) = f.directives.map (·.range) := by
  simp [topRanges, goFile, goDirective, Function.comp_def]

theorem parse_of_ok {text : Bytes} {path : String} {fuel : Nat} {f : Syntax.File} (cb : Syn.Proc) (hf : FuelOK text fuel)
    (hp : parseText path text = .ok f) : goSyntaxParse fuel text path cb = .ok (goFile text path f, .nil) := by
  have := goSyntaxParse_agrees text path cb fuel hf.tokens
  rw [hp] at this
  exact this

/-- `goSyntaxParse_agrees` as a case distinction on what the model parser answers -/
theorem parse_cases (text : Bytes) (path : String) (cb : Syn.Proc) (fuel : Nat) (hf : FuelOK text fuel) :
    (∃ f, parseText path text = .ok f ∧ goSyntaxParse fuel text path cb = .ok (goFile text path f, .nil)) ∨
    (∃ e pv, parseText path text = .error e ∧ e ≠ [] ∧ goSyntaxParse fuel text path cb = .ok (pv, goErr text path e)) := by
  have := goSyntaxParse_agrees text path cb fuel hf.tokens
  cases hp : parseText path text with
  | ok f => exact Or.inl ⟨f, rfl, parse_of_ok cb hf hp⟩
  | error e => rw [hp] at this; exact Or.inr ⟨e, this.2.choose, rfl, this.1, this.2.choose_spec⟩

/-- **total**: for every byte string, path, callback and adequate fuel the translated parser returns — a tree and an error
value; it never panics (no slice bound, no index, no nil callback) and never runs out of fuel. -/
theorem C07_total_go (text : Bytes) (path : String) (cb : Syn.Proc) (fuel : Nat) (hf : FuelOK text fuel) :
    ∃ G err, goSyntaxParse fuel text path cb = .ok (G, err) := by
  rcases parse_cases text path cb fuel hf with ⟨_, _, h⟩ | ⟨_, _, _, _, h⟩ <;> exact ⟨_, _, h⟩

/-- **the bridge, success**: a nil error of the translated parser means the model parsed the text, and the Go tree is the image of
the model's tree -/
theorem parse_ok {text : Bytes} {path : String} {cb : Syn.Proc} {fuel : Nat} {G : directives.File}
    (hf : FuelOK text fuel) (h : goSyntaxParse fuel text path cb = .ok (G, .nil)) :
    ∃ f, parseText path text = .ok f ∧ G = goFile text path f := by
  rcases parse_cases text path cb fuel hf with ⟨f, hp, hg⟩ | ⟨e, pv, _, hne, hg⟩
  · cases hg.symm.trans h
    exact ⟨f, hp, rfl⟩
  · have := hg.symm.trans h
    injection this with this
    exact absurd (Prod.mk.inj this).2 (goErr_ne_nil text path hne)

/-- **the bridge, failure**: a non-nil error of the translated parser is the model's error chain -/
theorem parse_error {text : Bytes} {path : String} {cb : Syn.Proc} {fuel : Nat} {G : directives.File} {err : directives.GoError}
    (hf : FuelOK text fuel) (h : goSyntaxParse fuel text path cb = .ok (G, err)) (hne : err ≠ .nil) :
    ∃ e, parseText path text = .error e ∧ e ≠ [] ∧ err = goErr text path e := by
  rcases parse_cases text path cb fuel hf with ⟨f, _, hg⟩ | ⟨e, pv, hp, hne', hg⟩
  · cases hg.symm.trans h
    exact absurd rfl hne
  · cases hg.symm.trans h
    exact ⟨e, hp, hne', rfl⟩

/-- the file's own range is the whole text, and it carries the text and the path it was parsed from -/
theorem C07_file_range_go {text : Bytes} {path : String} {cb : Syn.Proc} {fuel : Nat} {G : directives.File}
    (hf : FuelOK text fuel) (h : goSyntaxParse fuel text path cb = .ok (G, .nil)) :
    G.Range = { Start := 0, End := text.length, Path := goStr path, Text := text } := by
  obtain ⟨f, hp, rfl⟩ := parse_ok hf h
  simp [goFile, goRange, C07.C07_file_range hp]

/-- every top-level directive's range carries the text and the path, and lies in the text -/
theorem C07_top_level_in_text_go {text : Bytes} {path : String} {cb : Syn.Proc} {fuel : Nat} {G : directives.File}
    (hf : FuelOK text fuel) (h : goSyntaxParse fuel text path cb = .ok (G, .nil)) :
    ∀ d ∈ G.Directives, d.Range.Text = text ∧ d.Range.Path = goStr path ∧
      0 ≤ d.Range.Start ∧ d.Range.Start ≤ d.Range.End ∧ d.Range.End ≤ text.length := by
  obtain ⟨f, hp, rfl⟩ := parse_ok hf h
  intro d hd
  simp only [goFile, List.mem_map] at hd
  obtain ⟨m, hm, rfl⟩ := hd
  have := (parseText_ok hp).2.2.1 m hm
  simp only [Directive.toNode, nodeWF_mk] at this
  simp only [goDirective, goRange]
  refine ⟨?_, ?_, ?_, ?_, ?_⟩ <;> first | trivial | rfl | omega

/-- **top-level directives in increasing order, disjoint, non-empty** — read off the Go tree -/
theorem C07_top_level_sorted_disjoint_go {text : Bytes} {path : String} {cb : Syn.Proc} {fuel : Nat} {G : directives.File}
    (hf : FuelOK text fuel) (h : goSyntaxParse fuel text path cb = .ok (G, .nil)) :
    sortedDisjoint 0 (topRanges G) = true := by
  obtain ⟨f, hp, rfl⟩ := parse_ok hf h
  rw [topRanges_goFile]
  exact C07.C07_top_level_sorted_disjoint hp

/-- **each top-level directive's text is the slice it points to**: the generated `Range.Extract` does not panic and returns
`text[start:end]` -/
theorem C07_extract_is_slice_go {text : Bytes} {path : String} {cb : Syn.Proc} {fuel : Nat} {G : directives.File}
    (hf : FuelOK text fuel) (h : goSyntaxParse fuel text path cb = .ok (G, .nil)) :
    ∀ d ∈ G.Directives, directives.Range.Extract d.Range = .ok (Spec.Syntax.slice text (rangeOf d.Range).start (rangeOf d.Range).stop) := by
  intro d hd
  obtain ⟨ht, _, h0, h1, h2⟩ := C07_top_level_in_text_go hf h d hd
  unfold directives.Range.Extract GoSem.slice
  rw [ht]
  have : ¬ (d.Range.Start < 0 ∨ d.Range.End < d.Range.Start ∨ (text.length : Int) < d.Range.End) := by omega
  simp only [this, if_false, GoSem.Outcome.bind, rangeOf, Spec.Syntax.slice]
  congr 1
  rw [List.drop_take]

/-- **ranges in the text, children in their parents; every element's text is the slice it points to** — on the model tree of which
the Go tree is the image -/
theorem C07_ranges_nested_go {text : Bytes} {path : String} {cb : Syn.Proc} {fuel : Nat} {G : directives.File}
    (hf : FuelOK text fuel) (h : goSyntaxParse fuel text path cb = .ok (G, .nil)) :
    ∃ f, G = goFile text path f ∧ nodeWF 0 text.length f.toNode = true ∧ nodeAll (extractOK text) f.toNode = true := by
  obtain ⟨f, hp, rfl⟩ := parse_ok hf h
  exact ⟨f, rfl, C07.C07_ranges_nested hp, C07.C07_extract_is_slice hp⟩

/-- **outside the directives only whitespace and comment lines** -/
theorem C07_gaps_blank_or_comment_go {text : Bytes} {path : String} {cb : Syn.Proc} {fuel : Nat} {G : directives.File}
    (hf : FuelOK text fuel) (h : goSyntaxParse fuel text path cb = .ok (G, .nil)) :
    ∀ g ∈ gapsOf text 0 (topRanges G), gapOK g = true := by
  obtain ⟨f, hp, rfl⟩ := parse_ok hf h
  rw [topRanges_goFile]
  exact C07.C07_gaps_blank_or_comment hp

/-- **gaps and directives interleave to the exact input** -/
theorem C07_cover_go {text : Bytes} {path : String} {cb : Syn.Proc} {fuel : Nat} {G : directives.File}
    (hf : FuelOK text fuel) (h : goSyntaxParse fuel text path cb = .ok (G, .nil)) :
    interleave (gapsOf text 0 (topRanges G)) ((topRanges G).map fun r => Spec.Syntax.slice text r.start r.stop) = text := by
  obtain ⟨f, hp, rfl⟩ := parse_ok hf h
  rw [topRanges_goFile]
  exact C07.C07_cover hp

/-- all clauses about a returned tree at once: the monitor's predicate holds of the tree the Go tree is the image of -/
theorem C07_treeOK_go {text : Bytes} {path : String} {cb : Syn.Proc} {fuel : Nat} {G : directives.File}
    (hf : FuelOK text fuel) (h : goSyntaxParse fuel text path cb = .ok (G, .nil)) :
    ∃ f, G = goFile text path f ∧ treeOK text f.toNode = true := by
  obtain ⟨f, hp, rfl⟩ := parse_ok hf h
  exact ⟨f, rfl, C07.C07_treeOK hp⟩

/-- a Go error value whose every link with a position has `0 ≤ start ≤ end ≤ n` (`Error{}`, `io.EOF`, `fmt.Errorf` carry none) -/
def errInBounds (n : Nat) : directives.GoError → Prop
  | .nil => True
  | .io_EOF => True
  | .fmt_Errorf _ => True
  | .Error r _ w => 0 ≤ r.Start ∧ r.Start ≤ r.End ∧ r.End ≤ n ∧ errInBounds n w

theorem errInBounds_goErrRev (text : Bytes) (path : String) (n : Nat) : ∀ (e : List Frame), (∀ fr ∈ e, frameOK n fr = true) →
    errInBounds n (goErrRev text path e) := by
  intro e
  induction e with
  | nil => intro _; trivial
  | cons fr rest ih =>
    intro h
    have hr := ih (fun x hx => h x (List.mem_cons_of_mem _ hx))
    have hf := h fr List.mem_cons_self
    cases fr with
    | «at» msg r =>
      simp only [frameOK, within_iff] at hf
      simp only [goErrRev, goFrame, errInBounds, goRange]
      refine ⟨by omega, by omega, by omega, hr⟩
    | zero =>
      simp only [goErrRev, goFrame, errInBounds]
      exact ⟨by decide, by decide, by simp [GoZero.zero], trivial⟩
    | eof => simp only [goErrRev, goFrame, errInBounds]

/-- **error position inside the input**: every link of the error value the translated parser returns has its position inside the text -/
theorem C07_error_in_bounds_go {text : Bytes} {path : String} {cb : Syn.Proc} {fuel : Nat} {G : directives.File}
    {err : directives.GoError} (hf : FuelOK text fuel) (h : goSyntaxParse fuel text path cb = .ok (G, err)) :
    errInBounds text.length err := by
  by_cases hne : err = .nil
  · subst hne; trivial
  · obtain ⟨e, hp, _, rfl⟩ := parse_error hf h hne
    have := C07.C07_errOK hp
    simp only [errOK, List.all_eq_true] at this
    exact errInBounds_goErrRev text path _ _ (fun fr hfr => this fr (List.mem_reverse.mp hfr))

/-- the result does not depend on the fuel (above the bound) nor on the callback -/
theorem C07_fuel_callback_irrelevant_go (text : Bytes) (path : String) (cb cb' : Syn.Proc) (fuel fuel' : Nat)
    (hf : FuelOK text fuel) (hf' : FuelOK text fuel') :
    (∃ G, goSyntaxParse fuel text path cb = .ok (G, .nil) ∧ goSyntaxParse fuel' text path cb' = .ok (G, .nil)) ∨
    (∃ G G' err, err ≠ .nil ∧ goSyntaxParse fuel text path cb = .ok (G, err) ∧ goSyntaxParse fuel' text path cb' = .ok (G', err)) := by
  rcases parse_cases text path cb fuel hf with ⟨f, hp, h1⟩ | ⟨e, pv, hp, hne, h1⟩ <;>
    rcases parse_cases text path cb' fuel' hf' with ⟨f', hp', h2⟩ | ⟨e', pv', hp', _, h2⟩ <;>
    cases hp.symm.trans hp'
  · exact Or.inl ⟨_, h1, h2⟩
  · exact Or.inr ⟨pv, pv', _, goErr_ne_nil text path hne, h1, h2⟩

/-! ## Non-vacuity: the worked example of C07 (a comment line and an `open` directive, 23 bytes) through the translated parser -/

example : ∃ G, goSyntaxParse 24 (bytesOf exText) "j.knut" ⟨true⟩ = .ok (G, .nil) ∧ FuelOK (bytesOf exText) 24 ∧
    topRanges G = [⟨3, 22⟩] := by
  have hf : FuelOK (bytesOf exText) 24 := by unfold FuelOK; rw [exText, bytesOf_ofList]; decide
  have := goSyntaxParse_agrees (bytesOf exText) "j.knut" ⟨true⟩ 24 hf.tokens
  rw [ex_parse] at this
  exact ⟨_, this, hf, by rw [topRanges_goFile]; rfl⟩

/-- the error side: an invalid byte after the first digit -/
example : ∃ G err, goSyntaxParse 3 [0x32, 0xff] "j.knut" ⟨false⟩ = .ok (G, err) ∧ err ≠ .nil ∧ errInBounds 2 err := by
  have hf : FuelOK [0x32, 0xff] 3 := by unfold FuelOK; decide
  obtain ⟨G, err, h⟩ := C07_total_go [0x32, 0xff] "j.knut" ⟨false⟩ 3 hf
  refine ⟨G, err, h, ?_, C07_error_in_bounds_go hf h⟩
  intro hn
  subst hn
  obtain ⟨f, hp, _⟩ := parse_ok hf h
  rw [ex_invalid] at hp
  cases hp

end Knut.C07Go
