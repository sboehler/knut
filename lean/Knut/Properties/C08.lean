import Knut.Proofs.SyntaxRoundTrip
import Knut.Proofs.SyntaxExamples
import Knut.Proofs.SyntaxSem
/-!
# C08 — format preserves meaning and comments and is idempotent

`format text f` is the model of `printer.Format` / `syntax.FormatFile` applied to the tree `f` that the parser
returned for `text` (`none` = a slice bound was violated, i.e. Go's panic); `formatFile path text` is
`formatRunner.formatFile` (parse first, buffer the whole result, then replace the file).
"The same directives with identical fields" is equality of `viewDirective`: the kind of the directive and the
byte strings of its date, accounts, amounts, commodities, description/path, and — for transactions — of the
`@accrue` fields and the `@performance` targets, in field order (so the textual order of annotations is
normalised away, as the property allows). `text` ranges over all byte strings.
-/
namespace Knut.C08
open Knut Knut.Syntax Knut.Spec.Syntax Knut.Utf8

/-- **a file that does not parse is left exactly as it was**: the command's only write happens after a successful
parse (the write itself is `atomic.WriteFile`, C18). -/
theorem C08_unparseable_untouched {path : String} {text : Bytes} {e : Err} (h : parseText path text = .error e) :
    formatFile path text = .rejected e ∧ (formatFile path text).fileAfter text = text := by
  simp [formatFile, h, FormatOutcome.fileAfter]

/-- **formatting a file that parses never panics** (no `Extract()` and no gap slice is out of range), so the
command writes the formatted text. -/
theorem C08_format_total {path : String} {text : Bytes} {f : File} (h : parseText path text = .ok f) :
    ∃ out, format text f = some out ∧ formatFile path text = .written out := by
  obtain ⟨out, _, hf, _⟩ := roundtrip h
  exact ⟨out, hf, by simp [formatFile, h, hf]⟩

/-- **all text between directives is kept byte for byte**: the output is `gap₀ ++ r₁ ++ gap₁ ++ … ++ gapₙ` with the
input's own gap slices and `rᵢ` the rendering of directive `i` from the slices of its own fields. -/
theorem C08_gaps_verbatim {text : Bytes} {f : File} {out : Bytes} (h : format text f = some out) :
    ∃ padding rs, f.directives.mapM (printDirective text padding) = some rs ∧
      out = interleave (gapsOf text 0 (f.directives.map (·.range))) rs := by
  obtain ⟨padding, rs, _, h1, h2⟩ := format_shape h
  exact ⟨padding, rs, h1, h2⟩

/-- **the formatted text parses to the same sequence of directives with identical fields**, and the text outside
its directives is, gap by gap, the text outside the directives of the input. -/
theorem C08_reparse_same_fields {path : String} {text : Bytes} {f : File} {out : Bytes}
    (h : parseText path text = .ok f) (ho : format text f = some out) :
    ∃ f2, parseText path out = .ok f2 ∧
      f2.directives.mapM (viewDirective out) = f.directives.mapM (viewDirective text) ∧
      (f.directives.mapM (viewDirective text)).isSome = true ∧
      gapsOf out 0 (f2.directives.map (·.range)) = gapsOf text 0 (f.directives.map (·.range)) := by
  obtain ⟨out', f2, hf, hp, hv, hs, hg, _⟩ := roundtrip h
  rw [ho] at hf
  injection hf with hf
  subst hf
  exact ⟨f2, hp, hv, hs, hg⟩

/-- **formatting the result again changes nothing.** -/
theorem C08_idempotent {path : String} {text : Bytes} {f : File} {out : Bytes}
    (h : parseText path text = .ok f) (ho : format text f = some out) :
    ∃ f2, parseText path out = .ok f2 ∧ format out f2 = some out ∧ formatFile path out = .written out := by
  obtain ⟨out', f2, hf, hp, _, _, _, hi⟩ := roundtrip h
  rw [ho] at hf
  injection hf with hf
  subst hf
  exact ⟨f2, hp, hi, by simp [formatFile, hp, hi]⟩

/-- the whole property for the command: either the file parses, is replaced by a text that parses to the same
directives and fields, with the same gaps, and is a fixed point of `format`; or it does not parse and stays as it is. -/
theorem C08_command (path : String) (text : Bytes) :
    (∃ f out f2, parseText path text = .ok f ∧ formatFile path text = .written out ∧ parseText path out = .ok f2 ∧
        f2.directives.mapM (viewDirective out) = f.directives.mapM (viewDirective text) ∧
        gapsOf out 0 (f2.directives.map (·.range)) = gapsOf text 0 (f.directives.map (·.range)) ∧
        formatFile path out = .written out) ∨
    (∃ e, parseText path text = .error e ∧ (formatFile path text).fileAfter text = text) := by
  cases h : parseText path text with
  | error e => exact Or.inr ⟨e, rfl, (C08_unparseable_untouched h).2⟩
  | ok f =>
    obtain ⟨out, f2, hf, hp, hv, _, hg, hi⟩ := roundtrip h
    exact Or.inl ⟨f, out, f2, rfl, by simp [formatFile, h, hf], hp, hv, hg, by simp [formatFile, hp, hi]⟩

/-! ## The monitor

The theorems above speak about the typed field views (`viewDirective`); the monitor of the check evaluates
`formatOK` (`Spec/SyntaxFormat.lean`) on the two dumped trees: equality of the untyped `semFlat` (kinds and field
bytes in prefix order, which also shows the macro kind of an account and the `addons` node) and of the gaps. -/

/-- **the monitor's predicate and the theorems' notion of "same fields" coincide on parsed files**: for two texts
that parse, `formatOK` holds of the two trees iff the directives' field views agree and the gaps agree. (For a tree
the parser returned, the kind of an account node and the presence of the annotation nodes are functions of the field
bytes: `Proofs/SyntaxSem.lean`.) -/
theorem C08_monitor_iff {path : String} {text out : Bytes} {f f2 : File}
    (h : parseText path text = .ok f) (h2 : parseText path out = .ok f2) :
    formatOK text f.toNode out f2.toNode = true ↔
      (f2.directives.mapM (viewDirective out) = f.directives.mapM (viewDirective text) ∧
       gapsOf out 0 (f2.directives.map (·.range)) = gapsOf text 0 (f.directives.map (·.range))) :=
  formatOK_iff h h2

/-- **the monitor's predicate holds of the model**: the formatted text parses and `formatOK` holds between the tree of
the input and the tree of the output. -/
theorem C08_monitor_sound {path : String} {text : Bytes} {f : File} {out : Bytes}
    (h : parseText path text = .ok f) (ho : format text f = some out) :
    ∃ f2, parseText path out = .ok f2 ∧ formatOK text f.toNode out f2.toNode = true := by
  obtain ⟨f2, hp, hv, _, hg⟩ := C08_reparse_same_fields h ho
  exact ⟨f2, hp, (C08_monitor_iff h hp).mpr ⟨hv, hg⟩⟩

/-! ## Non-vacuity -/

theorem ex_format : format (bytesOf exText) ⟨⟨0, 23⟩, [⟨⟨3, 22⟩, .open ⟨⟨3, 22⟩, ⟨⟨3, 13⟩⟩, ⟨⟨19, 22⟩, false⟩⟩⟩]⟩ = some (bytesOf exText) := by
  rw [exText, bytesOf_ofList]; decide

/-- the monitor accepts the worked example against itself … -/
example : formatOK (bytesOf exText) (File.toNode ⟨⟨0, 23⟩, [⟨⟨3, 22⟩, .open ⟨⟨3, 22⟩, ⟨⟨3, 13⟩⟩, ⟨⟨19, 22⟩, false⟩⟩⟩]⟩)
    (bytesOf exText) (File.toNode ⟨⟨0, 23⟩, [⟨⟨3, 22⟩, .open ⟨⟨3, 22⟩, ⟨⟨3, 13⟩⟩, ⟨⟨19, 22⟩, false⟩⟩⟩]⟩) = true :=
  (C08_monitor_iff ex_parse ex_parse).mpr ⟨rfl, rfl⟩

/-- … `C08_monitor_sound` applies to it (the example is its own formatting) … -/
example : ∃ f2, parseText "j.knut" (bytesOf exText) = .ok f2 ∧
    formatOK (bytesOf exText) (File.toNode ⟨⟨0, 23⟩, [⟨⟨3, 22⟩, .open ⟨⟨3, 22⟩, ⟨⟨3, 13⟩⟩, ⟨⟨19, 22⟩, false⟩⟩⟩]⟩) (bytesOf exText) f2.toNode = true :=
  C08_monitor_sound ex_parse ex_format

/-- … and the monitor rejects a tree whose account field points to other bytes -/
example : formatOK (bytesOf exText) (File.toNode ⟨⟨0, 23⟩, [⟨⟨3, 22⟩, .open ⟨⟨3, 22⟩, ⟨⟨3, 13⟩⟩, ⟨⟨19, 22⟩, false⟩⟩⟩]⟩)
    (bytesOf exText) (File.toNode ⟨⟨0, 23⟩, [⟨⟨3, 22⟩, .open ⟨⟨3, 22⟩, ⟨⟨3, 13⟩⟩, ⟨⟨21, 22⟩, false⟩⟩⟩]⟩) = false := by
  rw [exText, bytesOf_ofList]; decide

/-- the worked example of C07 (a comment line and an `open` directive) is already formatted … -/
example : format (bytesOf "#c\n2020-01-01 open A:B\n")
    ⟨⟨0, 23⟩, [⟨⟨3, 22⟩, .open ⟨⟨3, 22⟩, ⟨⟨3, 13⟩⟩, ⟨⟨19, 22⟩, false⟩⟩⟩]⟩ = some (bytesOf "#c\n2020-01-01 open A:B\n") :=
  ex_format

/-- … and so is a fixed point of the command. -/
example : formatFile "j.knut" (bytesOf "#c\n2020-01-01 open A:B\n") = .written (bytesOf "#c\n2020-01-01 open A:B\n") := by
  obtain ⟨out, h1, h2⟩ := C08_format_total ex_parse
  obtain rfl : bytesOf exText = out := Option.some.inj (ex_format.symm.trans h1)
  exact h2

/-- the renderer normalises: one blank between the parts, accounts padded to the common width, amounts right-aligned -/
example : renderBooking 5 ⟨bytesOf "A", bytesOf "B:C", bytesOf "1.5", bytesOf "CHF"⟩ = bytesOf "A     B:C          1.5 CHF\n" := by
  decide +kernel

/-- an unparseable file is rejected and untouched -/
example : ∃ e, formatFile "j.knut" [0x32, 0xff] = .rejected e := ⟨_, (C08_unparseable_untouched ex_invalid).1⟩

/-- `viewDirective` distinguishes directives: another account is another view -/
example : viewDirective (bytesOf "2020-01-01 open A:B") ⟨⟨0, 19⟩, .open ⟨⟨0, 19⟩, ⟨⟨0, 10⟩⟩, ⟨⟨16, 19⟩, false⟩⟩⟩ ≠
    viewDirective (bytesOf "2020-01-01 open A:C") ⟨⟨0, 19⟩, .open ⟨⟨0, 19⟩, ⟨⟨0, 10⟩⟩, ⟨⟨16, 19⟩, false⟩⟩⟩ := by
  rw [bytesOf_ofList, bytesOf_ofList]; decide

end Knut.C08
