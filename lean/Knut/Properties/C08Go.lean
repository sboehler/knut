import Knut.Properties.C08
import Knut.Properties.C07Go
import Knut.FactsAgree.TransPrinter3
/-!
# C08 on the generated definitions

The theorems of `Properties/C08.lean` are about the model (`parseText`, `format`, `formatFile`); `FactsAgree/TransParser4.lean` and
`FactsAgree/TransPrinter2/3.lean` prove the translated parser and the translated format printer (`lib/syntax/printer`) equal to it.
This module composes them: every statement is about `goFormatRun fuel text path` — `syntax.ParseFile` (no callback), then
`syntax.FormatFile` into an empty `bytes.Buffer`, the body of `formatRunner.formatFile` up to the replacement of the file, built from the
GENERATED definitions — for every byte string `text` and every `fuel` above the bytes of the text (`FuelOK`).  "The same directives with
identical fields" is equality of `viewDirective` on the model trees `f`, `f2` whose images `goFile … f`, `goFile … f2` the translated
parser returns for the input and for the output.
-/
namespace Knut.C08Go
open Knut Knut.Syntax Knut.Spec.Syntax Knut.Utf8 Knut.GoSem
open Knut.Generated.Go
open Knut.FactsAgree.TransScanner Knut.FactsAgree.TransParser Knut.FactsAgree.TransPrinter
open Knut.C07Go

/-- **the bridge**: a nil error of parse + format in the translation means the model parsed the text and `format` produced exactly
the buffer -/
theorem run_ok {text : Syntax.Bytes} {path : String} {fuel : Nat} {out : Syntax.Bytes} (hf : FuelOK text fuel)
    (h : goFormatRun fuel text path = .ok (out, .nil)) :
    ∃ f, parseText path text = .ok f ∧ format text f = some out ∧
      goSyntaxParse fuel text path ⟨false⟩ = .ok (goFile text path f, .nil) := by
  rcases goFormatRun_total text path fuel hf.tokens with ⟨f, out', hp, hfm, hr⟩ | ⟨e, hp, hne, hr⟩
  · cases hr.symm.trans h
    exact ⟨f, hp, hfm, parse_of_ok _ hf hp⟩
  · have := hr.symm.trans h
    injection this with this
    exact absurd (Prod.mk.inj this).2 (goErr_ne_nil text path hne)

/-- **parse + format is total** in the translation: for every byte string and adequate fuel the outcome is `ok` — never a panic (no
`Extract()`, no gap slice out of range, no negative `strings.Repeat`), never `outOfFuel` -/
theorem C08_format_total_go (text : Syntax.Bytes) (path : String) (fuel : Nat) (hf : FuelOK text fuel) :
    ∃ out err, goFormatRun fuel text path = .ok (out, err) := by
  rcases goFormatRun_total text path fuel hf.tokens with ⟨_, _, _, _, hr⟩ | ⟨_, _, _, hr⟩ <;> exact ⟨_, _, hr⟩

/-- **a file that does not parse is left exactly as it was**: when the translated parser returns an error, parse + format returns
that error and has written NOTHING to the buffer (the command's only write to the file happens after a nil error: C18) -/
theorem C08_unparseable_untouched_go {text : Syntax.Bytes} {path : String} {fuel : Nat} {G : directives.File} {err : directives.GoError}
    (h : goSyntaxParse fuel text path ⟨false⟩ = .ok (G, err)) (hne : err ≠ .nil) :
    goFormatRun fuel text path = .ok ([], err) := by
  unfold goFormatRun
  rw [h]
  simp [GoSem.Outcome.bind, hne]

/-- … and conversely a parsed file is always formatted: a nil error of the translated parser gives a nil error of the printer -/
theorem C08_parsed_is_formatted_go {text : Syntax.Bytes} {path : String} {fuel : Nat} {G : directives.File}
    (hf : FuelOK text fuel) (h : goSyntaxParse fuel text path ⟨false⟩ = .ok (G, .nil)) :
    ∃ out, goFormatRun fuel text path = .ok (out, .nil) := by
  obtain ⟨f, hp, rfl⟩ := parse_ok hf h
  rcases goFormatRun_total text path fuel hf.tokens with ⟨f', out', hp', hfm, hr⟩ | ⟨e, hp', hne, hr⟩
  · exact ⟨out', hr⟩
  · rw [hp] at hp'; cases hp'

/-- **all text between directives is kept byte for byte**: the buffer is `gap₀ ++ r₁ ++ gap₁ ++ … ++ gapₙ` with the input's own gap
slices (between the ranges of the Go tree's top-level directives) and `rᵢ` the rendering of directive `i` from the slices of its fields -/
theorem C08_gaps_verbatim_go {text : Syntax.Bytes} {path : String} {fuel : Nat} {out : Syntax.Bytes} (hf : FuelOK text fuel)
    (h : goFormatRun fuel text path = .ok (out, .nil)) :
    ∃ f padding rs, goSyntaxParse fuel text path ⟨false⟩ = .ok (goFile text path f, .nil) ∧
      f.directives.mapM (printDirective text padding) = some rs ∧
      out = interleave (gapsOf text 0 (topRanges (goFile text path f))) rs := by
  obtain ⟨f, hp, hfm, hg⟩ := run_ok hf h
  obtain ⟨padding, rs, h1, h2⟩ := C08.C08_gaps_verbatim hfm
  exact ⟨f, padding, rs, hg, h1, by rw [topRanges_goFile]; exact h2⟩

/-- **the formatted text parses (in the translation) to the same sequence of directives with identical fields**, and the text outside
its directives is, gap by gap, the text outside the directives of the input -/
theorem C08_reparse_same_fields_go {text : Syntax.Bytes} {path : String} {fuel fuel2 : Nat} {out : Syntax.Bytes} (cb : Syn.Proc)
    (hf : FuelOK text fuel) (h : goFormatRun fuel text path = .ok (out, .nil)) (hf2 : FuelOK out fuel2) :
    ∃ f f2, goSyntaxParse fuel text path ⟨false⟩ = .ok (goFile text path f, .nil) ∧
      goSyntaxParse fuel2 out path cb = .ok (goFile out path f2, .nil) ∧
      f2.directives.mapM (viewDirective out) = f.directives.mapM (viewDirective text) ∧
      (f.directives.mapM (viewDirective text)).isSome = true ∧
      gapsOf out 0 (topRanges (goFile out path f2)) = gapsOf text 0 (topRanges (goFile text path f)) := by
  obtain ⟨f, hp, hfm, hg⟩ := run_ok hf h
  obtain ⟨f2, hp2, hv, hs, hgap⟩ := C08.C08_reparse_same_fields hp hfm
  exact ⟨f, f2, hg, parse_of_ok cb hf2 hp2, hv, hs, by rw [topRanges_goFile, topRanges_goFile]; exact hgap⟩

/-- **formatting the result again changes nothing**: parse + format in the translation, run on its own output, writes that output -/
theorem C08_idempotent_go {text : Syntax.Bytes} {path : String} {fuel fuel2 : Nat} {out : Syntax.Bytes}
    (hf : FuelOK text fuel) (h : goFormatRun fuel text path = .ok (out, .nil)) (hf2 : FuelOK out fuel2) :
    goFormatRun fuel2 out path = .ok (out, .nil) := by
  obtain ⟨f, hp, hfm, _⟩ := run_ok hf h
  obtain ⟨f2, hp2, hi, hw⟩ := C08.C08_idempotent hp hfm
  have := formatFile_agrees out path fuel2 hf2.tokens
  rw [hw] at this
  exact this

/-- the whole property for the command, on the generated definitions: either the translated parser accepts the text, parse + format
writes a text that the translated parser accepts again, with the same directive fields and the same gaps, and which is a fixed point;
or the parser returns an error and nothing is written -/
theorem C08_command_go (text : Syntax.Bytes) (path : String) (fuel : Nat) (hf : FuelOK text fuel) :
    (∃ f out f2, goSyntaxParse fuel text path ⟨false⟩ = .ok (goFile text path f, .nil) ∧
        goFormatRun fuel text path = .ok (out, .nil) ∧
        (∀ fuel2, FuelOK out fuel2 → goSyntaxParse fuel2 out path ⟨false⟩ = .ok (goFile out path f2, .nil) ∧
          goFormatRun fuel2 out path = .ok (out, .nil)) ∧
        f2.directives.mapM (viewDirective out) = f.directives.mapM (viewDirective text) ∧
        gapsOf out 0 (topRanges (goFile out path f2)) = gapsOf text 0 (topRanges (goFile text path f))) ∨
    (∃ G err, err ≠ .nil ∧ goSyntaxParse fuel text path ⟨false⟩ = .ok (G, err) ∧ goFormatRun fuel text path = .ok ([], err)) := by
  obtain ⟨G, err, hG⟩ := C07_total_go text path ⟨false⟩ fuel hf
  by_cases hne : err = .nil
  · subst hne
    left
    obtain ⟨out, ho⟩ := C08_parsed_is_formatted_go hf hG
    obtain ⟨f, hp, hfm, hg⟩ := run_ok hf ho
    obtain ⟨f2, hp2, hv, _, hgap⟩ := C08.C08_reparse_same_fields hp hfm
    refine ⟨f, out, f2, hg, ho, ?_, hv, by rw [topRanges_goFile, topRanges_goFile]; exact hgap⟩
    exact fun fuel2 hf2 => ⟨parse_of_ok _ hf2 hp2, C08_idempotent_go hf ho hf2⟩
  · exact Or.inr ⟨G, err, hne, hG, C08_unparseable_untouched_go hG hne⟩

/-! ## Non-vacuity: the worked example (a comment line and an `open` directive) is a fixed point of the translated parse + format;
an unparseable text leaves the buffer empty -/

example : goFormatRun 24 (bytesOf exText) "j.knut" = .ok (bytesOf exText, .nil) := ex_formatRun

example : ∃ err, err ≠ .nil ∧ goFormatRun 3 [0x32, 0xff] "j.knut" = .ok ([], err) := by
  have hf : FuelOK [0x32, 0xff] 3 := by unfold FuelOK; decide
  have := formatFile_agrees [0x32, 0xff] "j.knut" 3 hf.tokens
  rw [(C08.C08_unparseable_untouched ex_invalid).1] at this
  exact ⟨_, goErr_ne_nil _ _ this.1, this.2⟩

end Knut.C08Go
