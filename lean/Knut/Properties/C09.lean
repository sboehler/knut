import Knut.Model.JournalPrinter
import Knut.Proofs.Accrual
/-!
# C09 — print emits a normal form that round-trips

`JournalPrinter.print` is the model of `journal.Print` (byte-exact against `knut print`, see the
correspondence check).  The full statement of the property is, with `load` the parser + model builder,

    print (load (print J)) = print J      and      balance (load (print J)) F = balance J F.

This file holds the semantic core that makes the printed form a *normal form* (below); the statement itself is proved
in the sibling modules: the text half in `Properties/C09Text.lean` (`C09_text_journal_fixpoint`: for every printable journal
the printed text loads back, through the parser model and the elaboration, to the directives `journal.Print` wrote, and
printing them again gives the same bytes), the commands on one file in `Properties/C09Journal.lean` (`C09_print_idempotent`,
`C09_file_reports_equal`: for EVERY input text), and the same for `Cmd.run`, the command model C14 compares with the
binary, on any file system and include tree, in `Properties/C09Cmd.lean` (`C09_cmd_print_idempotent`,
`C09_cmd_reports_equal`, `C09_cmd_verdict_equal`; `C09_elab_agrees` links the two elaboration models). Decimals:
`Properties/C09Decimal.lean`. Here:

* `C09_booking_normal_form` – `print` writes each booking from its debit-side posting as
  `other account quantity commodity`; rebuilding that booking yields exactly the same posting pair, for every
  original booking (negative, zero, swapped or not);
* `C09_reprint_same_line` – hence the re-read booking prints the same line again;
* `C09_printed_quantity_nonneg` – printed quantities are never negative (so re-reading never swaps accounts);
* `C09_targets_line` – the `@performance` line is printed iff targets are present (`nil` vs empty list
  are distinguished, as in the parser).

The same clauses are also decided on every run on the REAL binary by the monitors `print_output_accepted`,
`print_fixpoint`, `reports_equal` (instances of the theorems above on the implementation's output) and by the byte-exact
comparison of `knut print` with this model on the wire-form journal (`print`) and on the input text itself, rejected
texts included (`print_text`, stream `text`).
-/
namespace Knut.C09
open Knut Knut.JournalPrinter Knut.Accrual

/-- the debit-side posting of a built booking (the one `printTransaction` prints) -/
def printedPosting (cr dr : Account) (c : Commodity) (q : Rat) : Option Posting := (postingBuild cr dr c q)[1]?

theorem printed_exists (cr dr : Account) (c : Commodity) (q : Rat) :
    ∃ p, printedPosting cr dr c q = some p ∧ everyOther (postingBuild cr dr c q) = [p] := by
  unfold printedPosting postingBuild everyOther
  exact ⟨_, rfl, rfl⟩

theorem C09_printed_quantity_nonneg (cr dr : Account) (c : Commodity) (q : Rat) (p : Posting)
    (h : printedPosting cr dr c q = some p) : ¬ p.quantity < 0 := by
  rw [printedPosting, postingBuild_eq] at h
  split at h <;> cases Option.some.inj h
  · exact neg_nonneg_of_neg ‹_›
  · assumption

/-- **normal form**: rebuilding the printed booking gives the same posting pair -/
theorem C09_booking_normal_form (cr dr : Account) (c : Commodity) (q : Rat) (p : Posting)
    (h : printedPosting cr dr c q = some p) :
    postingBuild p.other p.account p.commodity p.quantity = postingBuild cr dr c q := by
  obtain ⟨p1, p2, e, e2⟩ := postingBuild_shape cr dr c q
  rw [printedPosting, e] at h
  cases Option.some.inj h
  rw [e2, e]

theorem C09_reprint_same_line (pad : Nat) (cr dr : Account) (c : Commodity) (q : Rat) (p : Posting)
    (h : printedPosting cr dr c q = some p) :
    (everyOther (postingBuild p.other p.account p.commodity p.quantity)).map (printPosting pad) =
      (everyOther (postingBuild cr dr c q)).map (printPosting pad) := by
  rw [C09_booking_normal_form cr dr c q p h]

/-- the `@performance` annotation line is printed exactly when targets are present (`nil` ≠ empty list) -/
theorem C09_targets_line (pad : Nat) (t : Transaction) :
    printTx pad t = (match t.targets with
      | some tg => "@performance(" ++ String.intercalate "," tg ++ ")\n"
      | none => "") ++ printTx pad { t with targets := none } := by
  unfold printTx
  cases t.targets <;> simp [String.append_assoc]

example : printedPosting ⟨["Assets", "A"]⟩ ⟨["Expenses", "X"]⟩ "CHF" (-5) =
    some { account := ⟨["Assets", "A"]⟩, other := ⟨["Expenses", "X"]⟩, commodity := "CHF", quantity := 5, value := 0 } := by
  decide +kernel

end Knut.C09
