import Knut.Proofs.ElabCommands
import Knut.Properties.C05Layout
import Knut.Properties.C09Journal
/-!
# C09 for `Cmd.run` — the command model that C14 compares with the real binary

Two elaboration models of "text → directives" exist: `FromSyntax.loadText` (C04's `loadtext` correspondence; the C09/C13
text theorems, `printFile`) and `Commands.elabFile` inside `Cmd.run` (compared with the binary's exit status and output on
every C14 case, and byte for byte on every C09 case). They are the same function:

* `C09_elab_agrees` – on every parsed file `elabFile` returns the directives `loadText` returns; one reports an error iff
  the other does; one panics (in `transaction.Create`) iff the other does;
* `C09_cmd_print_is_printFile` – on a file without `include` directives `Cmd.run .print` is `printFile` of its bytes.

Hence the C09 theorems speak about `Cmd.run`, and they do so for EVERY file system, whatever the include tree of the input:

* `C09_cmd_loaded_printable` – every journal `Cmd.run` loads consists of printable directives;
* `C09_cmd_print_idempotent` – if `knut print` succeeds, then `knut print` on a file holding its output writes the same
  bytes;
* `C09_cmd_reports_equal`, `C09_cmd_verdict_equal` – `knut balance` under every flag vector and `knut check` give the same
  outcome (output bytes, or failure) on that file as on the input.
-/
namespace Knut.C09
open Knut Knut.Syntax Knut.FromSyntax Knut.JournalPrinter Knut.Utf8 Knut.Commands Knut.Loader Knut.Layout Knut.ElabAgree

/-- **one elaboration model**: on every file the parser accepts, `Commands.elabFile` (the elaboration inside `Cmd.run`)
and `FromSyntax.loadText` return the same directives, fail together, panic together -/
theorem C09_elab_agrees (path : String) (text : List UInt8) (f : Syntax.File) (hp : parseText path text = .ok f) :
    match loadText path text with
    | .ok ds => elabFile (text, f) = .ok ds
    | .error => ∃ m, elabFile (text, f) = .error (.error m)
    | .panic s => elabFile (text, f) = .error (.panic ("accrual: " ++ s)) :=
  elabFile_agree hp

/-- **`Cmd.run .print` on a file without includes is `printFile` of its bytes**: the same output; an error when the other
reports an error (the diagnostics differ); the same panic, tagged `accrual: ` by `Cmd.run`. `NoIncludes`: the tree of the
file, if it parses, has no `include` directive — no condition on the rest of the file system. -/
theorem C09_cmd_print_is_printFile (fs : FileSys) (f : Flags) (text : List UInt8) (hr : fs.read f.path = some text)
    (hn : NoIncludes f.path text) :
    match printFile f.path text with
    | .ok out => Cmd.run .print fs f = .ok out
    | .error _ => ∃ m, Cmd.run .print fs f = .error m
    | .panic s => Cmd.run .print fs f = .panic ("accrual: " ++ s) :=
  runPrint_single fs f text hr hn

/-- the printed text of printable directives has no `include` directive -/
theorem C09_printed_no_includes (path : String) (ds : List Directive) (h : ∀ x ∈ ds, PrintableDir x) :
    NoIncludes path (strBytes (print (Builder.ofList ds).build)) :=
  noIncludes_print path _ (printable_built ds h).dirs

/-- **every journal `Cmd.run` loads, from any file system and any include tree, consists of printable directives** -/
theorem C09_cmd_loaded_printable (fs : FileSys) (root : Loader.Path) (ds : List Directive) (h : fromPath fs root = .ok ds) :
    ∀ x ∈ ds, PrintableDir x :=
  journalOf_printable fs root ds h

/-- **`knut print` is idempotent on its own output, for every input**: whenever `Cmd.run .print` succeeds — on any file
system, with any include tree — `Cmd.run .print` on a file holding the output writes the same bytes -/
theorem C09_cmd_print_idempotent (fs fs' : FileSys) (f f' : Flags) (out : String) (h : Cmd.run .print fs f = .ok out)
    (hr : fs'.read f'.path = some (strBytes out)) : Cmd.run .print fs' f' = .ok out := by
  obtain ⟨ds, hj, hacc, rfl⟩ := runPrint_ok h
  have hp := journalOf_printable fs f.path ds hj
  have hfix := C09_print_fixpoint f'.path _ (printable_built ds hp) hacc
  have := runPrint_single fs' f' _ hr (noIncludes_print f'.path _ (printable_built ds hp).dirs)
  rw [hfix] at this
  exact this

/-- **every balance report of the printed journal equals the one of the input**: for every flag vector (periods, `--val`,
`--close`, mappings, filters, …) `knut balance` on a file holding the output of `knut print` has the outcome — the same
bytes, or the same failure — it has on the input, whatever the include tree of the input -/
theorem C09_cmd_reports_equal (fs fs' : FileSys) (f f' g g' : Flags) (out : String) (h : Cmd.run .print fs f = .ok out)
    (hr : fs'.read f'.path = some (strBytes out)) (hg : g.path = f.path) (hg' : g'.path = f'.path)
    (hb : g'.balance = g.balance) : Cmd.run .balance fs' g' = Cmd.run .balance fs g := by
  obtain ⟨ds, hj, hacc, rfl⟩ := runPrint_ok h
  have hp := journalOf_printable fs f.path ds hj
  have hj' := journalOf_printed fs' f'.path ds hp hr
  rw [run_balance_eq, run_balance_eq, hg, hg', hj, hj', hb]
  unfold balanceOn
  cases commodityFlag g.balance.valuation with
  | error o => rfl
  | ok v => exact balance_printed _ ds hp

/-- … and so does `knut check`: the same outcome class with or without `--write`, the same outcome without it -/
theorem C09_cmd_verdict_equal (fs fs' : FileSys) (f f' g g' : Flags) (out : String) (h : Cmd.run .print fs f = .ok out)
    (hr : fs'.read f'.path = some (strBytes out)) (hg : g.path = f.path) (hg' : g'.path = f'.path) :
    (Cmd.run .check fs' g').cls = (Cmd.run .check fs g).cls ∧
      (g.write = false → g'.write = false → Cmd.run .check fs' g' = Cmd.run .check fs g) := by
  obtain ⟨ds, hj, hacc, rfl⟩ := runPrint_ok h
  have hp := journalOf_printable fs f.path ds hj
  have hj' := journalOf_printed fs' f'.path ds hp hr
  have := Knut.C05.C05_layout_verdict fs' fs g' g (printedDirs ds) ds (by rw [hg']; exact hj') (by rw [hg]; exact hj)
    (journalDirs_built_perm ds)
  exact ⟨this.1, fun h1 h2 => this.2 h2 h1⟩

/-! ## Non-vacuity: the three-day journal of `C09Text.lean` in a one-file file system -/

def exFS : FileSys := FileSys.ofList [("j", strBytes (print exJournal))]

theorem exFS_print : Cmd.run .print exFS { path := "j" } = .ok (print exJournal) := by
  have h1 := C09_print_fixpoint "j" exJournal exJournal_printable exJournal_accepted
  have h2 := C09_cmd_print_is_printFile exFS { path := "j" } (strBytes (print exJournal)) rfl
    (noIncludes_print "j" exJournal exJournal_printable.dirs)
  rw [h1] at h2
  exact h2

/-- the hypothesis of the idempotence theorem is satisfiable, and its conclusion on this file system -/
example : Cmd.run .print exFS { path := "j" } = .ok (print exJournal) :=
  C09_cmd_print_idempotent exFS exFS { path := "j" } { path := "j" } _ exFS_print rfl

example : Cmd.run .balance exFS { path := "j", balance := exFlags } = Cmd.run .balance exFS { path := "j", balance := exFlags } :=
  C09_cmd_reports_equal exFS exFS { path := "j" } { path := "j" } _ _ _ exFS_print rfl rfl rfl rfl

/-- a transaction input on which `transaction.Create` panics: an `@accrue` window starting on 0001-01-01 over an
income/expense posting -/
def exPanicTx : Accrual.TxInput :=
  { date := 737425, description := "x", bookings := [⟨⟨["Assets", "B"]⟩, ⟨["Expenses", "C"]⟩, 10, "CHF"⟩],
    accrual := some ⟨.monthly, 0, 59, ⟨["Assets", "A"]⟩⟩ }

/-- `loadFailed` ends in a panic on it: the panic case of `C09_elab_agrees` occurs -/
example : (match loadFailed [.tx exPanicTx] with | .panic _ => true | _ => false) = true := by decide +kernel

end Knut.C09
