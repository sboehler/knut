import Knut.Proofs.DecRoundTrip
/-!
# C09 (and the decimal clause of C17) — decimals re-read to the same value

`showScaled`/`showDec` model shopspring's `StringFixed`/`String()` (what `knut print` and the table
renderer write), `parseDec` models `NewFromString` on the decimals the journal grammar admits (both are
tied to the Go code by the byte-exact `dec` correspondence streams).  Proved here, for ALL integers,
scales and decimal rationals:

* `C09_dec_scaled_roundtrip` – the text with exactly `k` fractional digits of `m / 10^k` re-reads to `m / 10^k`;
* `C09_dec_string_roundtrip` – `String()` of any rational whose denominator divides a power of ten
  re-reads to that rational; `C09_dec_string_roundtrip_mkRat` is the same for `r = m / 10^k`;
* `C09_dec_string_shortest` – `String()` prints the least number of decimals that represents `r` exactly
  (`C09_dec_scale_exact`: that number does represent it).

The digit function is core's `toString : Nat → String` itself (see `Proofs/DecRoundTrip.lean`).
The hypothesis "decimal rational" is necessary (see the `1/3` example) and is satisfied by every amount
of a journal: the parser builds amounts as `mkRat m (10^k)` and sums/negations of such.
-/
namespace Knut.C09
open Knut Knut.Dec

/-- printed with `k` fractional digits, `m / 10^k` re-reads to exactly `m / 10^k` (every integer `m`, every scale `k`) -/
theorem C09_dec_scaled_roundtrip (m : Int) (k : Nat) :
    parseDec (showScaled m k) = some (mkRat m (10 ^ k)) :=
  parseDec_showScaled m k

/-- `String()` then `NewFromString` is the identity on every decimal rational -/
theorem C09_dec_string_roundtrip (r : Rat) (k : Nat) (h : r.den ∣ 10 ^ k) :
    parseDec (showDec r) = some r :=
  parseDec_showDec r k h

theorem C09_dec_string_roundtrip_mkRat (m : Int) (k : Nat) :
    parseDec (showDec (mkRat m (10 ^ k))) = some (mkRat m (10 ^ k)) :=
  parseDec_showDec _ k (den_mkRat_pow10_dvd m k)

/-- the scale `String()` chooses represents a decimal rational exactly … -/
theorem C09_dec_scale_exact (r : Rat) (k : Nat) (h : r.den ∣ 10 ^ k) :
    mkRat (r.num * pow10 (scaleOf r) / r.den) (10 ^ scaleOf r) = r :=
  mkRat_scaled r (scaleOf r) (den_dvd_scaleOf r k h)

/-- … and no smaller scale does: `String()` is the shortest plain decimal -/
theorem C09_dec_string_shortest (r : Rat) (j : Nat) (h : j < scaleOf r) : ¬ r.den ∣ 10 ^ j :=
  findScale_min r.den r.den 0 j (Nat.zero_le _) h

/-- what the parser reads (`mkRat m (10^k)`) is a decimal rational -/
theorem C09_dec_parsed_is_decimal (m : Int) (k : Nat) : (mkRat m (10 ^ k)).den ∣ 10 ^ k :=
  den_mkRat_pow10_dvd m k

/-- sums, products and negations of decimal rationals are decimal rationals: every amount a journal can produce (quantities,
balances, quantity × price) satisfies the hypothesis of `C09_dec_string_roundtrip` -/
theorem C09_dec_closed_add (a b : Rat) (i j : Nat) (ha : a.den ∣ 10 ^ i) (hb : b.den ∣ 10 ^ j) :
    (a + b).den ∣ 10 ^ (i + j) := dec_add a b i j ha hb

theorem C09_dec_closed_mul (a b : Rat) (i j : Nat) (ha : a.den ∣ 10 ^ i) (hb : b.den ∣ 10 ^ j) :
    (a * b).den ∣ 10 ^ (i + j) := dec_mul a b i j ha hb

theorem C09_dec_closed_neg (r : Rat) (k : Nat) (h : r.den ∣ 10 ^ k) : (-r).den ∣ 10 ^ k := by
  rw [Rat.neg_den]; exact h

/-! Non-vacuity: `5/4 = 125/10^2` satisfies the hypothesis and prints as `1.25`.  `1/3` does not; the model
prints `0.333` for it and the round trip fails, so the hypothesis cannot be dropped. -/
example : (mkRat 5 4).den ∣ 10 ^ 2 := by decide
example : parseDec (showDec (mkRat 5 4)) = some (mkRat 5 4) :=
  C09_dec_string_roundtrip _ 2 (by decide)
example : showDec (mkRat 5 4) = "1.25" := by decide +kernel
example : showDec (mkRat (-5) 4) = "-1.25" := by decide +kernel
example : showScaled (-5) 3 = "-0.005" := by decide +kernel
example : showDec (mkRat 1 3) = "0.333" := by decide +kernel
example : parseDec (showDec (mkRat 1 3)) ≠ some (mkRat 1 3) := by decide +kernel

end Knut.C09
