import Knut.Properties.C09Journal
import Knut.FactsAgree.TransJPrinter2
/-!
# C09 (the print clauses) on the generated definitions

The print clauses of C09 (`Properties/C09Text.lean`, `C09Journal.lean`) are about the model `JournalPrinter.print`;
`FactsAgree/TransJPrinter.lean` and `TransJPrinter2.lean` prove that `journal.Print`, translated from `/repo`'s `lib/journal/journal.go`
(with the printer of `lib/journal/printer/printer.go`), writes exactly that text (`PrintJournal_agrees`).  This module composes the two: the clauses are stated
about the text the GENERATED `Go.journal.Print w j ext` appends to its sink.

Parameters of the translated `Print` that stay: `ext` — journal, printer and error result that the effect call
`j.Process(Sort(), paddingUpdater)` leaves; it is `processExt srt j (printer.New w)`: the translated closures (`Sort.DayEnd`,
`paddingUpdater.Transaction`) run by the hand-written `processDays` (the untranslated `Journal.Process` = `cpr.Seq`, C19), for EVERY
function `srt` the unstable `sort.Slice` may be on each day's transactions (`SortOK`: a permutation sorted by `transaction.Compare`).
`cur : String → Bool` is the `IsCurrency` flag each interned commodity name carries in the Go values (`FactsAgree/Rel.lean`); the printer does not read it, every `cur` is allowed.
Hypotheses that stay: `hr` (the Go days stand for the model days, every `Src` pointer arbitrary, descriptions exactly the model's) and
`TargetsOK` (transactions of one day that compare equal carry the same `@performance` targets — otherwise the unstable sort shows in the
output).  `DayDatesOK` (years ≥ 0) is DISCHARGED here from `PrintableJournal` (`datesOK_of_printable`).
-/
namespace Knut.C09Go
open Knut Knut.FromSyntax Knut.JournalPrinter Knut.Utf8
open Knut.Generated.Go
open Knut.FactsAgree.TransJPrinter Knut.FactsAgree.TransJPrinter2 Knut.FactsAgree.TransProcess

theorem dateOK_of_printable {z : Int} (h : PrintableDate z) : DateOK z := (year_bounds z h.1 h.2).1

/-- the date hypothesis of `PrintJournal_agrees` follows from printability -/
theorem datesOK_of_printable {d : Knut.Day} (h : PrintableDay d) : DayDatesOK d := by
  have hx : ∀ x ∈ rawDirs d, DateOK x.date := fun x hm => by
    have hp := (h.2 x hm).2
    cases x <;> exact dateOK_of_printable hp.1
  exact ⟨fun x hm => hx (.price x) (by simp [rawDirs, hm]), fun x hm => hx (.opening x) (by simp [rawDirs, hm]),
    fun x hm => hx (.tx x) (by simp [rawDirs, hm]), fun x hm => hx (.assertion x) (by simp [rawDirs, hm]),
    fun x hm => hx (.closing x) (by simp [rawDirs, hm])⟩

/-- **the bridge**: the translated `journal.Print` on a Go journal that stands for a printable journal appends exactly the model's
text to its sink, returns no error and never panics — for every admissible sort -/
theorem Print_writes_go (cur : String → Bool) (srt : List transaction.Transaction → List transaction.Transaction)
    (w : String) (gds : List journal.Day) (days : List Knut.Day) (hs : ∀ g ∈ gds, SortOK srt g.Transactions)
    (hr : AllRel (DayRelE cur) gds days) (hp : PrintableJournal days) (ht : ∀ d ∈ days, TargetsOK d) :
    ∃ e, processExt srt ⟨gds⟩ (printer.New w) = .ok e ∧ e.2.2 = none ∧
      journal.Print w ⟨gds⟩ e = .ok (w ++ print days, e.1, none) :=
  PrintJournal_agrees cur srt w gds days hs hr (fun d hd => datesOK_of_printable (hp.2 d hd)) ht

/-- **what `Print` wrote loads again to the same journal**: the text parses and elaborates to the directives of the journal, day by
day with the transactions in sort order; the rebuilt journal is the journal with sorted days, and prints to the same text -/
theorem C09_text_journal_fixpoint_go (cur : String → Bool) (srt : List transaction.Transaction → List transaction.Transaction)
    (path : String) (gds : List journal.Day) (days : List Knut.Day) (hs : ∀ g ∈ gds, SortOK srt g.Transactions)
    (hr : AllRel (DayRelE cur) gds days) (hp : PrintableJournal days) (ht : ∀ d ∈ days, TargetsOK d) :
    ∃ e T ds, journal.Print "" ⟨gds⟩ e = .ok (T, e.1, none) ∧ processExt srt ⟨gds⟩ (printer.New "") = .ok e ∧
      loadText path (strBytes T) = .ok ds ∧
      (Builder.ofList ds).build = days.map (fun d => { d with transactions := sortTxs d.transactions }) ∧
      print (Builder.ofList ds).build = T := by
  obtain ⟨e, he, _, hP⟩ := Print_writes_go cur srt "" gds days hs hr hp ht
  obtain ⟨ds, hl, _, hb, hpr⟩ := C09.C09_text_journal_fixpoint path days hp
  refine ⟨e, print days, ds, ?_, he, hl, hb, hpr⟩
  simpa using hP

/-- **the output of `Print` is accepted iff the journal is**: the text written loads, and the checker gives the same verdict on the
reloaded journal -/
theorem C09_print_accepted_go (cur : String → Bool) (srt : List transaction.Transaction → List transaction.Transaction)
    (path : String) (gds : List journal.Day) (days : List Knut.Day) (hs : ∀ g ∈ gds, SortOK srt g.Transactions)
    (hr : AllRel (DayRelE cur) gds days) (hp : PrintableJournal days) (ht : ∀ d ∈ days, TargetsOK d) :
    ∃ e T ds, journal.Print "" ⟨gds⟩ e = .ok (T, e.1, none) ∧ processExt srt ⟨gds⟩ (printer.New "") = .ok e ∧
      loadText path (strBytes T) = .ok ds ∧ (Check.run (Builder.ofList ds).build).isOk = (Check.run days).isOk := by
  obtain ⟨e, he, _, hP⟩ := Print_writes_go cur srt "" gds days hs hr hp ht
  obtain ⟨ds, hl, hc⟩ := C09.C09_print_accepted path days hp
  exact ⟨e, print days, ds, by simpa using hP, he, hl, hc⟩

/-- **`knut print` reproduces what `Print` wrote**: on the text the translated `Print` wrote for an accepted journal the command
(model `printFile`: load, build, check, print) prints that text; on a rejected one it fails in processing -/
theorem C09_print_fixpoint_go (cur : String → Bool) (srt : List transaction.Transaction → List transaction.Transaction)
    (path : String) (gds : List journal.Day) (days : List Knut.Day) (hs : ∀ g ∈ gds, SortOK srt g.Transactions)
    (hr : AllRel (DayRelE cur) gds days) (hp : PrintableJournal days) (ht : ∀ d ∈ days, TargetsOK d) :
    ∃ e T, journal.Print "" ⟨gds⟩ e = .ok (T, e.1, none) ∧ processExt srt ⟨gds⟩ (printer.New "") = .ok e ∧
      ((Check.run days).isOk = true → printFile path (strBytes T) = .ok T) ∧
      ((Check.run days).isOk = false → printFile path (strBytes T) = .error "processing") := by
  obtain ⟨e, he, _, hP⟩ := Print_writes_go cur srt "" gds days hs hr hp ht
  exact ⟨e, print days, by simpa using hP, he, C09.C09_print_fixpoint path days hp, C09.C09_print_rejected path days hp⟩

/-- **the sort cannot show**: two admissible sorts make `Print` write the same text -/
theorem C09_sort_irrelevant_go (cur : String → Bool) (srt srt' : List transaction.Transaction → List transaction.Transaction)
    (w : String) (gds : List journal.Day) (days : List Knut.Day) (hs : ∀ g ∈ gds, SortOK srt g.Transactions)
    (hs' : ∀ g ∈ gds, SortOK srt' g.Transactions)
    (hr : AllRel (DayRelE cur) gds days) (hp : PrintableJournal days) (ht : ∀ d ∈ days, TargetsOK d) :
    ∃ e e' T, processExt srt ⟨gds⟩ (printer.New w) = .ok e ∧ processExt srt' ⟨gds⟩ (printer.New w) = .ok e' ∧
      journal.Print w ⟨gds⟩ e = .ok (T, e.1, none) ∧ journal.Print w ⟨gds⟩ e' = .ok (T, e'.1, none) := by
  obtain ⟨e, he, _, hP⟩ := Print_writes_go cur srt w gds days hs hr hp ht
  obtain ⟨e', he', _, hP'⟩ := Print_writes_go cur srt' w gds days hs' hr hp ht
  exact ⟨e, e', _, he, he', hP, hP'⟩

/-! ### Non-vacuity: the empty journal satisfies every hypothesis; the translated `Print` writes nothing.
(`FactsAgree/TransJPrinter2.lean` ends with a day with a price, an opening, two transactions out of order and a two-balance assertion run through the
translated code, and discharges `SortOK` on it.) -/
example : ∃ e, processExt (fun xs => xs) ⟨[]⟩ (printer.New "") = .ok e ∧
    journal.Print "" ⟨[]⟩ e = .ok ("" ++ print [], e.1, none) :=
  let ⟨e, he, _, hP⟩ := Print_writes_go (fun _ => true) (fun xs => xs) "" [] [] (by intro g hg; cases hg) .nil
    ⟨List.Pairwise.nil, by intro d hd; cases hd⟩ (by intro d hd; cases hd)
  ⟨e, he, hP⟩

end Knut.C09Go
