import Knut.Proofs.PrintCommands
import Knut.Proofs.PrintSound
import Knut.Properties.C09Text
/-!
# C09 (command level) — `knut print` output is accepted, printed again unchanged, and reports the same

With `C09_text_journal_fixpoint` (`Properties/C09Text.lean`) the three clauses of the property hold for the commands as
modelled on a journal that is one file (`printFile`: load with the parser model and the elaboration, build, check,
print; `BalanceCmd.run`: `knut balance` with any flags):

* `C09_print_accepted` – the printed text of a printable journal loads, and the checker's verdict on the reloaded
  journal is the verdict on the original (C05 machinery: the reloaded journal has the same days, transactions in sort
  order);
* `C09_print_fixpoint` – `knut print` of the printed text of an accepted printable journal is that text;
* `C09_loaded_printable` – every directive the loader returns, from any text, is printable (`Proofs/PrintSound.lean`: the
  parser's soundness gives field tokens of the right lexical classes, the elaboration's checks and
  `transaction.Create`, `@accrue` expansion included, give the rest), hence
  `C09_print_idempotent` – for EVERY input text: if `knut print` succeeds on it, `knut print` on the output gives the output
  again, byte for byte (`C09_print_idempotent_bytes`); `C09_file_reports_equal` – and check verdict and every balance report
  of the printed file equal those of the input file;
* `C09_reports_equal` – every balance report (any flag vector, valued or not, no restriction on the price directives:
  `print` keeps their order within a day) of the reloaded journal equals the one of the original.

`printFile`'s elaboration is `FromSyntax.loadText`; `Properties/C09Cmd.lean` shows that it is the same function as the
elaboration inside `Cmd.run` (the command model C14 compares with the binary) and restates the theorems for `Cmd.run`, for
any file system and include tree.

"Printable" (`PrintableDir`, `PrintableJournal`, decidable) is what the journal syntax can carry: dates 0000..9999, names
of Unicode letters and digits, decimal amounts, assertions with at least one balance, descriptions without a double
quote, transactions as `transaction.Create` builds them.
-/
namespace Knut.C09
open Knut Knut.FromSyntax Knut.JournalPrinter Knut.Utf8

/-- **`print` output is accepted iff the journal is**: the printed text loads and the checker gives the same verdict -/
theorem C09_print_accepted (path : String) (j : List Day) (hp : PrintableJournal j) :
    ∃ ds, loadText path (strBytes (print j)) = .ok ds ∧
      (Check.run (Builder.ofList ds).build).isOk = (Check.run j).isOk := by
  refine ⟨journalDirs j, load_print path j hp.dirs, ?_⟩
  rw [rebuild j hp.shape]
  exact check_normDays j

/-- **`knut print` reproduces its own output**: on the printed text of an accepted printable journal the command prints
that text -/
theorem C09_print_fixpoint (path : String) (j : List Day) (hp : PrintableJournal j) (hacc : (Check.run j).isOk = true) :
    printFile path (strBytes (print j)) = .ok (print j) := printFile_fixpoint path j hp hacc

/-- a rejected journal stays rejected after printing (the printed text loads, the checker refuses it) -/
theorem C09_print_rejected (path : String) (j : List Day) (hp : PrintableJournal j) (hrej : (Check.run j).isOk = false) :
    printFile path (strBytes (print j)) = .error "processing" := by
  rw [printFile_print path j hp, hrej]; rfl

/-- **every directive the loader returns, from ANY text, is printable**: the hypothesis `PrintableDir` of the theorems
here is what parser, elaboration (`time.Parse`, `decimal.NewFromString`, the account registry) and `transaction.Create`
(with `@accrue` expansion) guarantee -/
theorem C09_loaded_printable (path : String) (text : List UInt8) (ds : List Directive) (h : loadText path text = .ok ds) :
    ∀ x ∈ ds, PrintableDir x := loadText_printable path text ds h

/-- hence the journal built from any loaded text is a printable journal -/
theorem C09_loaded_journal_printable (path : String) (text : List UInt8) (ds : List Directive)
    (h : loadText path text = .ok ds) : PrintableJournal (Builder.ofList ds).build :=
  printable_built ds (loadText_printable path text ds h)

/-- **`print` is idempotent on its own output, for every input**: whenever `knut print` succeeds on a text (any bytes),
`knut print` on its output gives that output again -/
theorem C09_print_idempotent (path path' : String) (text : List UInt8) (out : String)
    (h : printFile path text = .ok out) : printFile path' (strBytes out) = .ok out := by
  unfold printFile at h
  cases hl : loadText path text with
  | error => rw [hl] at h; cases h
  | panic s => rw [hl] at h; cases h
  | ok ds =>
    rw [hl] at h
    simp only at h
    cases hc : Check.run (Builder.ofList ds).build with
    | error e => rw [hc] at h; cases h
    | ok st =>
      rw [hc] at h
      simp only [CmdOutcome.ok.injEq] at h
      subst h
      exact C09_print_fixpoint path' _ (printable_built ds (loadText_printable path text ds hl)) (by rw [hc]; rfl)

/-- the same as byte strings: the second run writes the bytes of the first -/
theorem C09_print_idempotent_bytes (path path' : String) (text : List UInt8) (out : String)
    (h : printFile path text = .ok out) :
    ∃ out', printFile path' (strBytes out) = .ok out' ∧ strBytes out' = strBytes out :=
  ⟨out, C09_print_idempotent path path' text out h, rfl⟩

/-- **reports of a file and of its printed form agree, for every input**: for any text that loads, the printed journal
loads too, the checker gives the same verdict, and `knut balance` under every flag vector prints the same bytes (or fails
alike) on both -/
theorem C09_file_reports_equal (f : BalanceFlags) (path path' : String) (text : List UInt8) (ds0 : List Directive)
    (h : loadText path text = .ok ds0) :
    ∃ ds, loadText path' (strBytes (print (Builder.ofList ds0).build)) = .ok ds ∧
      BalanceCmd.run f ds = BalanceCmd.run f ds0 ∧
      (Check.run (Builder.ofList ds).build).isOk = (Check.run (Builder.ofList ds0).build).isOk := by
  have hp := loadText_printable path text ds0 h
  have hj := printable_built ds0 hp
  refine ⟨printedDirs ds0, load_print path' _ hj.dirs, balance_printed f ds0 hp, ?_⟩
  unfold printedDirs
  rw [rebuild _ hj.shape]
  exact check_normDays _

/-- **every balance report of the reloaded journal equals the one of the original**: for every flag vector (periods,
`--val`, `--close`, mappings, filters, …) `knut balance` prints the same bytes, or fails alike, on the directives
loaded from the printed text and on the directives the journal was built from -/
theorem C09_reports_equal (f : BalanceFlags) (path : String) (ds0 : List Directive) (hp : ∀ x ∈ ds0, PrintableDir x) :
    ∃ ds, loadText path (strBytes (print (Builder.ofList ds0).build)) = .ok ds ∧
      BalanceCmd.run f ds = BalanceCmd.run f ds0 :=
  ⟨printedDirs ds0, load_print path _ (printable_built ds0 hp).dirs, balance_printed f ds0 hp⟩

/-- … and so does the check verdict -/
theorem C09_verdict_equal (path : String) (ds0 : List Directive) (hp : ∀ x ∈ ds0, PrintableDir x) :
    ∃ ds, loadText path (strBytes (print (Builder.ofList ds0).build)) = .ok ds ∧
      (Check.run (Builder.ofList ds).build).isOk = (Check.run (Builder.ofList ds0).build).isOk :=
  C09_print_accepted path _ (printable_built ds0 hp)

/-! ## Non-vacuity: the three-day journal of `C09Text.lean` -/

def exDirs : List Directive := exJournal.flatMap rawDirs

theorem exDirs_printable : ∀ x ∈ exDirs, PrintableDir x := fun x hx => by
  obtain ⟨d, hd, hx⟩ := List.mem_flatMap.mp hx
  exact ((exJournal_printable.2 d hd).2 x hx).2

theorem exJournal_accepted : (Check.run exJournal).isOk = true := by decide +kernel

example : printFile "j" (strBytes (print exJournal)) = .ok (print exJournal) :=
  C09_print_fixpoint "j" exJournal exJournal_printable exJournal_accepted

/-- the hypothesis of the unconditional idempotence theorem is satisfiable: `knut print` succeeds on this text -/
example : printFile "k" (strBytes (print exJournal)) = .ok (print exJournal) :=
  C09_print_idempotent "j" "k" _ _ (C09_print_fixpoint "j" exJournal exJournal_printable exJournal_accepted)

/-- a monthly report valued in CHF with closing entries -/
def exFlags : BalanceFlags := { to := 737500, interval := .monthly, valuation := some "CHF", close := true }

/-- the builder makes the three days of them, and the (unvalued) pipeline succeeds with 8 report entries -/
example : (Builder.ofList exDirs).build = exJournal := by decide +kernel
example : (match BalanceCmd.entries { exFlags with valuation := none } exDirs with
    | .ok (es, _) => decide (es.length = 8) | _ => false) = true := by decide +kernel

example : ∃ ds, loadText "j" (strBytes (print (Builder.ofList exDirs).build)) = .ok ds ∧
    BalanceCmd.run exFlags ds = BalanceCmd.run exFlags exDirs := C09_reports_equal exFlags "j" exDirs exDirs_printable

end Knut.C09
