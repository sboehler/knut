import Knut.Proofs.PrintRebuild
import Knut.Proofs.PrintLoaded
import Knut.Proofs.PrintSound
import Knut.Proofs.PrintJournal
/-!
# C09 (text level) — what `journal.Print` writes is read back by the loader as the same directive

`loadText path bytes` (`Model/FromSyntax.lean`) is the parser model (C07) followed by the elaboration of every
directive (`time.Parse`, `decimal.NewFromString`, the account registry, `transaction.Create`);
`printOpen`/`printClose`/`printPrice`/`printAssertions` are the printer model (`Model/JournalPrinter.lean`).
`strBytes s` is the UTF-8 encoding of the Lean string `s` (`strBytes_toUTF8 : s.toUTF8.data.toList = strBytes s`).

Proved here, for EVERY printable directive (no bound on sizes, any Unicode letters/digits in names):
a printed `open`, `close`, `price`, single- or multi-balance `balance` directive loads back to exactly that
directive. `Printable…` are decidable and state what the real scanner needs:
* dates 0000-01-01 … 9999-12-31, the range of `time.Parse("2006-01-02")` (`PrintableDate`);
* accounts: first segment an account type, every segment non-empty and of `unicode.IsLetter/IsDigit` characters
  (`PrintableAccount`); commodities likewise one non-empty run (`okName`);
* amounts: decimal rationals (`PrintableQty`: the denominator divides a power of ten), as `String()` prints exactly those;
* assertions: at least one balance (the printer writes `balance` and nothing else for an empty list, which does not parse).

`C09_text_items` is the engine for whole files: a text that is a rendering of *items* (directives in canonical layout,
comment and blank lines) parses, and loads to the elaboration of the items' field views, in order.

`C09_text_transaction`: a printed transaction (any padding, with or without `@performance` targets, any Unicode
description without `"`) loads back to exactly that transaction, provided it is in the booking normal form of
`C09_booking_normal_form` (its posting list is what the printed bookings rebuild; negative bookings are thereby
covered: the printer writes the swapped accounts and the positive amount). The printer's `"`→`'` replacement
(`JournalPrinter.descText`, character-wise as Go's `strings.ReplaceAll` on one ASCII byte) is the identity on such a
description (`descText_id`); `PrintableTx` is decidable.

**Whole journals** (`C09_text_journal_fixpoint`): for every printable journal `j` (`PrintableJournal`, decidable: days in
strictly increasing date order, no day empty, every directive filed under its own date and printable) the text
`journal.Print` writes is loaded back - parser model, elaboration, `transaction.Create` - as exactly the directives of `j`,
day by day in print order; `journal.Builder` makes of them the days of `j` with the transactions in `journal.Sort` order;
and printing that journal gives the same text again. Ingredients (`Proofs/PrintedText.lean`, `PrintJournal.lean`, `PrintRebuild.lean`,
`PrintSort.lean`, `PrintLoaded.lean`): `print j` is a rendering of items (one `dir` item per directive, `gap` items for the
blank lines; a multi-balance assertion is closed by the blank line that follows it), `transaction.Compare` is a total
preorder (`Std.TransCmp`), so the stable sort is idempotent, and the padding is a maximum over all postings.
The hypothesis is what the builder produces (`C09_text_built_printable`, `C09_text_built_shape`) and what
`transaction.Create` builds (`C09_text_created_normal_form`, `C09_text_loaded_normal_form`).
-/
namespace Knut.C09
open Knut Knut.FromSyntax Knut.JournalPrinter Knut.Utf8 Knut.Syntax

theorem C09_text_open (path : String) (o : Open) (hd : PrintableDate o.date) (ha : PrintableAccount o.account = true) :
    loadText path (strBytes (printOpen o)) = .ok [.opening o] :=
  load_dir path 0 (.opening o) ⟨hd, ha⟩ (Or.inl rfl) (by rw [List.append_nil]; exact text_open 0 o)

theorem C09_text_close (path : String) (c : Close) (hd : PrintableDate c.date) (ha : PrintableAccount c.account = true) :
    loadText path (strBytes (printClose c)) = .ok [.closing c] :=
  load_dir path 0 (.closing c) ⟨hd, ha⟩ (Or.inl rfl) (by rw [List.append_nil]; exact text_close 0 c)

theorem C09_text_price (path : String) (p : Price) (hd : PrintableDate p.date) (hc : okName p.commodity = true)
    (hq : PrintableQty p.price) (ht : okName p.target = true) :
    loadText path (strBytes (printPrice p)) = .ok [.price p] :=
  load_dir path 0 (.price p) ⟨hd, hc, hq, ht⟩ (Or.inl rfl) (by rw [List.append_nil]; exact text_price 0 p)

/-- `balance`, one balance on the line or several on the following lines, as `printAssertions` writes it -/
theorem C09_text_assertion (path : String) (a : Assertion) (h : PrintableAssertion a) :
    loadText path (strBytes (printAssertions [a])) = .ok [.assertion a] :=
  load_dir path 0 (.assertion a) h (by split <;> simp) (toks_assertion 0 a h.2.1)

/-- a transaction as `printTx` writes it, for every padding -/
theorem C09_text_transaction (pad : Nat) (path : String) (t : Transaction) (h : PrintableTx t) :
    loadText path (strBytes (printTx pad t)) = .ok [.tx t] :=
  load_dir path pad (.tx t) h (Or.inl rfl) (by rw [List.append_nil]; exact text_tx pad t h.2.1)

/-- the engine for whole files: a rendering of items parses and loads to the elaboration of the items' views -/
theorem C09_text_items (padding : Nat) (path : String) (items : List Syntax.Item) (h : ItemsShape items) :
    loadText path (flat (outToks padding items)) =
      (match (viewsOf items).mapM (fun v => itemV v.bytes) with
       | none => loadFailed (okPrefix (fun v => itemV v.bytes) (viewsOf items))
       | some its => loadItems its) := loadText_rendered padding path items h

/-- the scanner sees a Lean string as its characters, for every string (UTF-8 decoding inverts `String.utf8EncodeChar`) -/
theorem C09_text_decode (s : String) : decodeAll (strBytes s) = s.toList.map charTok := decodeAll_strBytes s

/-- the bytes `loadText` gets from the driver are `strBytes` -/
theorem C09_text_bytes (s : String) : s.toUTF8.data.toList = strBytes s := strBytes_toUTF8 s

/-- **the text-level fixpoint of `knut print` for whole journals**: the printed text of a printable journal loads back to
the directives of the journal (day by day, in print order), the builder groups them into the same days with the
transactions in sort order, and printing again reproduces the text -/
theorem C09_text_journal_fixpoint (path : String) (j : List Day) (h : PrintableJournal j) :
    ∃ ds, loadText path (strBytes (print j)) = .ok ds ∧
      ds = j.flatMap (fun d => d.prices.map .price ++ d.openings.map .opening ++ (sortTxs d.transactions).map .tx ++
                              d.assertions.map .assertion ++ d.closings.map .closing) ∧
      (Builder.ofList ds).build = j.map (fun d => { d with transactions := sortTxs d.transactions }) ∧
      print (Builder.ofList ds).build = print j := by
  refine ⟨journalDirs j, load_print path j h.dirs, rfl, rebuild j h.shape, ?_⟩
  rw [rebuild j h.shape]
  exact print_normDays j

/-- `journal.Sort` is idempotent (`transaction.Compare` is a total preorder; the model sorts stably) -/
theorem C09_sort_idempotent (ts : List Transaction) : sortTxs (sortTxs ts) = sortTxs ts := sortTxs_idem ts

/-- the hypothesis is not vacuous, structural part: EVERY journal the builder produces - from any directives, in any
order - has its days in strictly increasing date order, no empty day, every directive under its own date -/
theorem C09_text_built_shape (ds : List Directive) : JournalShape (Builder.ofList ds).build := built_shape ds

/-- … and it is printable if the directives are -/
theorem C09_text_built_printable (ds : List Directive) (h : ∀ x ∈ ds, PrintableDir x) :
    PrintableJournal (Builder.ofList ds).build := printable_built ds h

/-- the directives `journal.Print` writes are a permutation of the directives the journal was built from -/
theorem C09_text_printed_perm (ds : List Directive) :
    ((Builder.ofList ds).build.flatMap (fun d => d.prices.map .price ++ d.openings.map .opening ++
      (sortTxs d.transactions).map .tx ++ d.assertions.map .assertion ++ d.closings.map .closing)).Perm ds :=
  journalDirs_built_perm ds

/-- the booking normal form `PrintableTx` asks for is what `transaction.Create` builds, with or without `@accrue` -/
theorem C09_text_created_normal_form (ti : Accrual.TxInput) (txs : List Transaction) (h : Accrual.create ti = .ok txs) :
    ∀ t ∈ txs, t.postings = (everyOther t.postings).flatMap (fun p => postingBuild p.other p.account p.commodity p.quantity) :=
  create_nf ti txs h

/-- hence every transaction the loader returns, from any text, is in booking normal form -/
theorem C09_text_loaded_normal_form (path : String) (text : List UInt8) (ds : List Directive)
    (h : loadText path text = .ok ds) (t : Transaction) (ht : Directive.tx t ∈ ds) :
    t.postings = (everyOther t.postings).flatMap (fun p => postingBuild p.other p.account p.commodity p.quantity) :=
  (loadText_printable path text ds h _ ht).2.2.2.2.1

example : PrintableAccount ⟨["Assets", "Bank", "Ünïcode7"]⟩ = true := by decide +kernel
example : PrintableAccount ⟨["Bank"]⟩ = false := by decide +kernel
example : PrintableAccount ⟨["Assets", "a b"]⟩ = false := by decide +kernel
example : PrintableQty (mkRat (-5) 4) := by decide
example : ¬ PrintableQty (mkRat 1 3) := by decide
example : PrintableDate 737424 := by decide
example : PrintableDate (-366) ∧ ¬ PrintableDate (-367) ∧ PrintableDate 3652058 ∧ ¬ PrintableDate 3652059 := by decide
example : printOpen ⟨-366, ⟨["Assets", "Bank"]⟩⟩ = "0000-01-01 open Assets:Bank" := by decide +kernel

example : printOpen ⟨737424, ⟨["Assets", "Bank"]⟩⟩ = "2020-01-01 open Assets:Bank" := by decide +kernel

example : loadText "j" (strBytes (printOpen ⟨737424, ⟨["Assets", "Bänk"]⟩⟩)) = .ok [.opening ⟨737424, ⟨["Assets", "Bänk"]⟩⟩] :=
  C09_text_open _ _ (by decide) (by decide +kernel)

example : loadText "j" (strBytes (printPrice ⟨737424, "AAPL", mkRat 12345 100, "USD"⟩)) =
    .ok [.price ⟨737424, "AAPL", mkRat 12345 100, "USD"⟩] :=
  C09_text_price _ _ (by decide) (by decide +kernel) (by decide) (by decide +kernel)

example : loadText "j" (strBytes (printAssertions [⟨737424, [⟨⟨["Assets", "A"]⟩, mkRat (-5) 2, "CHF"⟩, ⟨⟨["Liabilities", "B"]⟩, 0, "USD"⟩]⟩])) =
    .ok [.assertion ⟨737424, [⟨⟨["Assets", "A"]⟩, mkRat (-5) 2, "CHF"⟩, ⟨⟨["Liabilities", "B"]⟩, 0, "USD"⟩]⟩] :=
  C09_text_assertion _ _ (by decide +kernel)

/-- a transaction with a Unicode description, `@performance` targets and a negative booking (printed swapped, as 12.5) -/
def exTx : Transaction :=
  { date := 737424, description := "Café – Miete",
    postings := postingBuild ⟨["Assets", "Bank"]⟩ ⟨["Expenses", "Wohnen"]⟩ "CHF" (mkRat (-25) 2),
    targets := some ["USD", "CHF"] }

theorem exTx_printable : PrintableTx exTx := by decide +kernel

example : PrintableTx exTx := exTx_printable

example : loadText "j" (strBytes (printTx 14 exTx)) = .ok [.tx exTx] :=
  C09_text_transaction 14 "j" exTx exTx_printable

def aBank : Account := ⟨["Assets", "Bank"]⟩
def aDepot : Account := ⟨["Assets", "Depot", "Ünïcode7"]⟩
def aSal : Account := ⟨["Income", "Salary"]⟩
def aRent : Account := ⟨["Expenses", "Wohnen"]⟩

/-- three days, every kind of directive. 2020-01-01: a price, four openings; 2020-01-02: a price, three transactions
(stored out of sort order; one booking negative, one transaction with two bookings, a two-line description and
`@performance` targets), a single-balance and then a multi-balance assertion; 2020-02-01: a multi-balance assertion
followed by a single-balance one, a closing. `knut print` of the real binary reproduces the printed text of this
journal byte for byte. -/
def exJournal : List Day :=
  [ { date := 737424, prices := [⟨737424, "AAPL", mkRat 12345 100, "USD"⟩],
      openings := [⟨737424, aBank⟩, ⟨737424, aDepot⟩, ⟨737424, aSal⟩, ⟨737424, aRent⟩] },
    { date := 737425,
      prices := [⟨737425, "USD", mkRat 9 10, "CHF"⟩],
      transactions :=
        [ { date := 737425, description := "Miete – Januar", postings := postingBuild aRent aBank "CHF" (mkRat (-25) 2) },
          { date := 737425, description := "Lohn", postings := postingBuild aSal aBank "CHF" 5000 },
          { date := 737425, description := "Kauf\nzweite Zeile", targets := some ["AAPL", "USD"],
            postings := postingBuild aBank aDepot "AAPL" 3 ++ postingBuild aBank aDepot "USD" (mkRat 37035 100) } ],
      assertions := [⟨737425, [⟨aBank, mkRat 9975 2, "CHF"⟩]⟩,
                     ⟨737425, [⟨aDepot, 3, "AAPL"⟩, ⟨aBank, mkRat (-37035) 100, "USD"⟩]⟩] },
    { date := 737455,
      assertions := [⟨737455, [⟨aDepot, 3, "AAPL"⟩, ⟨aDepot, mkRat 37035 100, "USD"⟩]⟩, ⟨737455, [⟨aBank, mkRat 9975 2, "CHF"⟩]⟩],
      closings := [⟨737455, aSal⟩] } ]

theorem exJournal_printable : PrintableJournal exJournal := by decide +kernel

/-- the theorem applies: the printed text of `exJournal` loads, rebuilds and prints to itself -/
example : ∃ ds, loadText "j" (strBytes (print exJournal)) = .ok ds ∧ ds.length = 14 ∧ print (Builder.ofList ds).build = print exJournal := by
  obtain ⟨ds, h1, h2, _, h4⟩ := C09_text_journal_fixpoint "j" exJournal exJournal_printable
  refine ⟨ds, h1, ?_, h4⟩
  rw [h2]
  simp [exJournal, sortTxs]

/-- an empty day, a directive under a wrong date, days out of order: not printable journals -/
example : ¬ PrintableJournal [{ date := 737424 }] := by decide +kernel
example : ¬ PrintableJournal [{ date := 737424, openings := [⟨737425, aBank⟩] }] := by decide +kernel
example : ¬ PrintableJournal [{ date := 737425, openings := [⟨737425, aBank⟩] }, { date := 737424, openings := [⟨737424, aSal⟩] }] := by
  decide +kernel

end Knut.C09
