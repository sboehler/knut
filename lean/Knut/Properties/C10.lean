import Knut.Proofs.Accrual
import Knut.FactsAgree.C10
/-!
# C10 — Accruals move amounts in time without creating or losing money

Setting: `t : TxInput` is a parsed transaction carrying `@accrue <interval> <start> <end> <account>`
(`t.accrual = some ad`), `create t = .ok gen` says that `transaction.Create` returned the
transactions `gen`.  `postingsOf t.bookings` is what the original transaction books (every booking
as its credit/debit posting pair), `booked a c ps` / `bookedTxs a c gen` the total quantity booked on
account `a` in commodity `c`.  Statements hold for any number of bookings, all account types, any
quantities (negative, zero, many decimals), every interval of the model (the parser admits daily,
weekly, monthly, quarterly) and every window with `start ≤ end`, independent of the date.

The code iterates over ALL postings, i.e. both halves of every booking.  Consequently (a) a booking
between two income/expense accounts is split on both sides, one between two other accounts gives
two transactions on the original date, and (b) conservation holds for EVERY account, the accrual
account included: it ends with exactly what the original transaction books on it — zero when the
transaction does not touch it (`C10_accrual_nets_zero`), the original amount when it does.
-/
namespace Knut.C10
open Knut Knut.Dec Knut.Accrual Knut.Spec

/-- **each generated transaction balances**: it consists of two postings that are negations of each
other (same commodity, mirrored accounts, opposite quantities), one of them on the accrual account. -/
theorem C10_each_balances {t : TxInput} {ad : Addon} {gen : List Transaction}
    (ha : t.accrual = some ad) (h : create t = .ok gen) :
    ∀ g ∈ gen, balancedPair ad.account g = true :=
  (expandLoop_legs _ ad _ gen (create_ok ha h).2).balanced

/-- **conservation, every account**: for every account (the accrual account included) and every
commodity, the total booked over all generated transactions equals what the original booked. -/
theorem C10_conserves_all {t : TxInput} {ad : Addon} {gen : List Transaction}
    (ha : t.accrual = some ad) (h : create t = .ok gen) (a : Account) (c : Commodity) :
    bookedTxs a c gen = booked a c (postingsOf t.bookings) := by
  rw [(expandLoop_legs _ ad _ gen (create_ok ha h).2).booked a c, comSum_postingsOf]
  split <;> grind

/-- **conservation** as the property states it: for every account other than the accrual account. -/
theorem C10_conserves {t : TxInput} {ad : Addon} {gen : List Transaction}
    (ha : t.accrual = some ad) (h : create t = .ok gen) (a : Account) (_hne : a ≠ ad.account) (c : Commodity) :
    bookedTxs a c gen = booked a c (postingsOf t.bookings) :=
  C10_conserves_all ha h a c

/-- **the accrual account nets to zero** in every commodity, provided the original transaction does
not itself book on it … -/
theorem C10_accrual_nets_zero {t : TxInput} {ad : Addon} {gen : List Transaction}
    (ha : t.accrual = some ad) (h : create t = .ok gen)
    (huntouched : ∀ b ∈ t.bookings, b.credit ≠ ad.account ∧ b.debit ≠ ad.account) (c : Commodity) :
    bookedTxs ad.account c gen = 0 := by
  rw [C10_conserves_all ha h, booked_untouched ad.account c t.bookings huntouched]

/-- … the literal clause "the accrual account nets to zero" is false when a booking of the transaction itself is on
the accrual account (`Assets:Prepaid Expenses:Tax 100 CHF` with `@accrue … Assets:Prepaid`): the account then keeps
what the original booked (−100), which is conservation, not loss.  In general it ends with exactly what the original
transaction books on it. -/
theorem C10_accrual_nets_zero_partial {t : TxInput} {ad : Addon} {gen : List Transaction}
    (ha : t.accrual = some ad) (h : create t = .ok gen) (c : Commodity) :
    bookedTxs ad.account c gen = booked ad.account c (postingsOf t.bookings) :=
  C10_conserves_all ha h ad.account c

/-- **dates and periods**: the generated list is, posting by posting in order, what `LegShape` says: an
income/expense posting gives one transaction per period of `periodsOf [start, end] interval` (the
partition of C11), dated at the period ends in order and described `"<description> (accrual i/n)"`;
any other posting (assets, liabilities, equity) gives one transaction on the original date with the
original description.  Each books the posting's account and commodity against the accrual account,
the quantities adding up to the posting's quantity. -/
theorem C10_dates {t : TxInput} {ad : Addon} {gen : List Transaction}
    (ha : t.accrual = some ad) (h : create t = .ok gen) :
    Legs { date := t.date, description := t.description, postings := postingsOf t.bookings, targets := t.targets }
      ad (postingsOf t.bookings) gen :=
  expandLoop_legs _ ad _ gen (create_ok ha h).2

/-- the number of transactions an income/expense posting gives is the number of periods, which is
positive for `start ≤ end` -/
theorem C10_period_count (ad : Addon) (hle : ad.start ≤ ad.stop) :
    0 < (periodsOf ⟨ad.start, ad.stop⟩ ad.interval 0).length :=
  List.length_pos_iff.mpr (periodsOf_ne_nil ⟨ad.start, ad.stop⟩ ad.interval hle)

/-- **`quoRem_sum`**: the split `amount, rem := quantity.QuoRem(n, 1)` loses nothing: `n·amount + rem = quantity`
(for `n ≠ 0`, the only case in which `QuoRem` returns). -/
theorem C10_quoRem_sum (x n : Rat) (p : Nat) (q r : Rat) (h : quoRem x n p = some (q, r)) :
    n ≠ 0 ∧ q * n + r = x :=
  ⟨quoRem_ne_zero x n p (q, r) h, quoRem_sum x n p q r h⟩

/-- **a non-empty window expands**: with valid accounts, `start ≤ end` and a start other than Go's zero
time, `Create` returns transactions (no error, no panic). -/
theorem C10_expands (t : TxInput) (ad : Addon) (ha : t.accrual = some ad)
    (hwf : t.bookings.all (fun b => b.credit.wf && b.debit.wf) = true) (hacc : ad.account.wf = true)
    (hle : ad.start ≤ ad.stop) (h0 : ad.start ≠ 0) : ∃ gen, create t = .ok gen := by
  obtain ⟨txs, hx⟩ := expandLoop_ok
    { date := t.date, description := t.description, postings := postingsOf t.bookings, targets := t.targets }
    ad (postingsOf t.bookings) h0 hle
  refine ⟨txs, ?_⟩
  unfold create
  simp only [hwf, ha, expand, hacc]
  have : ¬ ad.stop < ad.start := by omega
  simp [this, hx]

/-- an empty window (`end < start`) is rejected with an error before any expansion. -/
theorem C10_inverted_rejected (t : TxInput) (ad : Addon) (ha : t.accrual = some ad) (hinv : ad.stop < ad.start) :
    create t = .error := by
  unfold create
  split
  · rfl
  · simp only [ha, expand, hinv, if_true]
    split <;> rfl

/-- the guard of the code, stated as it is: a window starting at Go's zero time (0001-01-01) panics in
`NewPartition` as soon as an income/expense posting is reached (known finding). -/
theorem C10_zero_start_panics (t : TxInput) (ad : Addon) (ha : t.accrual = some ad)
    (hwf : t.bookings.all (fun b => b.credit.wf && b.debit.wf) = true) (hacc : ad.account.wf = true)
    (h0 : ad.start = 0) (hle : ad.start ≤ ad.stop)
    (hie : ∃ p ∈ postingsOf t.bookings, p.account.isIE = true) :
    create t = .panic "can't create partition with zero time" := by
  unfold create
  simp only [hwf, ha, expand, hacc]
  have : ¬ ad.stop < ad.start := by omega
  simp [this, expandLoop_zero_panics _ ad _ h0 hie]

/-- the monitor's predicate holds of the model for every input … -/
theorem C10_accrualOK {t : TxInput} {ad : Addon} {gen : List Transaction}
    (ha : t.accrual = some ad) (h : create t = .ok gen) :
    accrualOK (postingsOf t.bookings) t.date ad gen = true := by
  simp only [accrualOK, Bool.and_eq_true]
  refine ⟨⟨?_, ?_⟩, ?_⟩
  · simp only [List.all_eq_true]
    exact C10_each_balances ha h
  · simp only [conservedB, List.all_eq_true, decide_eq_true_eq]
    intro ac _
    exact C10_conserves_all ha h ac.1 ac.2
  · exact (expandLoop_legs _ ad _ gen (create_ok ha h).2).datesB

/-- … and what it means for any observed list `gen` (in particular the real code's). -/
theorem C10_accrualOK_sound (orig : List Posting) (date : Int) (ad : Addon) (gen : List Transaction)
    (h : accrualOK orig date ad gen = true) :
    (∀ g ∈ gen, balancedPair ad.account g = true) ∧
    (∀ a c, bookedTxs a c gen = booked a c orig) ∧
    datesB date ((periodsOf ⟨ad.start, ad.stop⟩ ad.interval 0).map (·.stop)) orig gen = true := by
  simp only [accrualOK, Bool.and_eq_true] at h
  obtain ⟨⟨h1, h2⟩, h3⟩ := h
  exact ⟨by simpa [List.all_eq_true] using h1, conservedB_sound orig gen h2, h3⟩

/-! Non-vacuity: the README example (12000 USD of taxes paid 2020-03-24, accrued monthly over
2020-01-01 … 2020-12-01 on Assets:PrepaidTax; day numbers 737424 … 737759, date 737507). -/
def readme : TxInput :=
  { date := 737507, description := "2020 Taxes",
    bookings := [{ credit := ⟨["Assets", "BankAccount"]⟩, debit := ⟨["Expenses", "Taxes"]⟩, quantity := 12000, commodity := "USD" }],
    accrual := some { interval := .monthly, start := 737424, stop := 737759, account := ⟨["Assets", "PrepaidTax"]⟩ } }

theorem readme_wf : readme.bookings.all (fun b => b.credit.wf && b.debit.wf) = true := by decide +kernel
theorem prepaid_wf : (⟨["Assets", "PrepaidTax"]⟩ : Account).wf = true := by decide +kernel

example : ∃ gen, create readme = .ok gen :=
  C10_expands readme _ rfl readme_wf prepaid_wf (by decide) (by decide)
example : ∃ p ∈ postingsOf readme.bookings, p.account.isIE = true := by decide +kernel
example : ∀ b ∈ readme.bookings, b.credit ≠ ⟨["Assets", "PrepaidTax"]⟩ ∧ b.debit ≠ ⟨["Assets", "PrepaidTax"]⟩ := by decide +kernel
example : ∃ qr, quoRem 100 3 1 = some qr := quoRem_isSome 100 3 1 (by decide)

end Knut.C10
