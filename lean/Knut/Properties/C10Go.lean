import Knut.Properties.C10
import Knut.FactsAgree.TransCheck
/-!
# C10 on the generated definitions

The theorems of `Properties/C10.lean` are about the model `Accrual.create`/`expand`; `FactsAgree/TransTransaction.lean` proves the
function translated from `/repo`'s `transaction.expand` (`lib/model/transaction/transaction.go`) equal to `Accrual.expand`
(`expand_agrees`: the same transactions in order, the same error, the same panics of `NewPartition` / `QuoRem`).  This module composes
the two.  The object of every statement is the call `transaction.Create` makes for an annotated transaction,

  `expandGo cur src psrc accr ti ad` = `Go.transaction.expand (the built transaction) accr ext1 ext2 ext3 ext4`

with the EXT parameters of the translation fixed to what the untranslated callees return when they succeed: `ext1` = the accrual account
created by the registry, no error; `ext2`, `ext3` = the parsed start and end dates, no error; `ext4` = the interval text
(`expand_account_error`, `expand_start_error`, `expand_end_error` of the agreement module say that an error of one of them is returned
unchanged).  The built transaction is `txGo … (inputTx ti)`: date, description, the posting pair of every booking, the targets; `Src`
pointers arbitrary.  Go values out: a list of `transaction.Transaction` and an error; quantities are summed on the Go values
(`bookedGo`).  Hypotheses that stay: `hwf` (the booking accounts are valid: `posting.Create`, which runs before `expand`, succeeded)
and `hacc` (the accrual account is valid: `ext1` carries no error).
-/
namespace Knut.C10Go
open Knut Knut.Dec Knut.Accrual Knut.Spec
open Knut.Generated.Go
open Knut.FactsAgree.TransTransaction Knut.FactsAgree.TransPosting Knut.FactsAgree.TransAccount Knut.FactsAgree.TransDate
open Knut.FactsAgree.TransCheck (accountGo_inj commodityGo_inj)

/-- the transaction `transaction.Create` has built when it calls `expand` -/
def inputTx (ti : TxInput) : Knut.Transaction :=
  { date := ti.date, description := ti.description, postings := postingsOf ti.bookings, targets := ti.targets }

/-- the call of the translated `expand` (successful registry and date parsing as ext parameters) -/
def expandGo (cur : String → Bool) (src psrc accr : GoSem.Ref) (ti : TxInput) (ad : Addon) :
    GoSem.Outcome (List transaction.Transaction × Option GoSem.Error) :=
  transaction.expand (txGo cur src psrc (inputTx ti)) accr (accountGo ad.account, none) (ad.start, none) (ad.stop, none)
    (ivName ad.interval)

theorem create_eq_expand {ti : TxInput} {ad : Addon} (ha : ti.accrual = some ad)
    (hwf : ti.bookings.all (fun b => b.credit.wf && b.debit.wf) = true) : create ti = Accrual.expand (inputTx ti) ad := by
  unfold create
  simp only [hwf, ha, inputTx]
  rfl

theorem expandGo_eq_create (cur : String → Bool) (src psrc accr : GoSem.Ref) {ti : TxInput} {ad : Addon}
    (ha : ti.accrual = some ad) (hwf : ti.bookings.all (fun b => b.credit.wf && b.debit.wf) = true)
    (hacc : ad.account.wf = true) :
    expandGo cur src psrc accr ti ad =
      match create ti with
      | .ok txs => GoSem.Outcome.ok (txs.map (txGoD cur src ⟨0⟩), none)
      | .error => GoSem.Outcome.ok ([], some ⟨"accrual period ends before it starts"⟩)
      | .panic s => GoSem.Outcome.panic s := by
  rw [create_eq_expand ha hwf]
  exact expand_agrees cur src psrc accr (inputTx ti) ad hacc

/-- **the bridge**: a successful run of the translated `expand` is a successful run of the model's `create`, and the transactions
returned are the model's, converted field by field (descriptions as `Builder.Build` leaves them) -/
theorem expand_ok {cur : String → Bool} {src psrc accr : GoSem.Ref} {ti : TxInput} {ad : Addon}
    {G : List transaction.Transaction} (ha : ti.accrual = some ad)
    (hwf : ti.bookings.all (fun b => b.credit.wf && b.debit.wf) = true) (hacc : ad.account.wf = true)
    (h : expandGo cur src psrc accr ti ad = .ok (G, none)) :
    ∃ gen, create ti = .ok gen ∧ G = gen.map (txGoD cur src ⟨0⟩) := by
  rw [expandGo_eq_create cur src psrc accr ha hwf hacc] at h
  cases he : create ti with
  | ok txs => rw [he] at h; simp at h; exact ⟨txs, rfl, h.symm⟩
  | error => rw [he] at h; simp at h
  | panic s => rw [he] at h; simp at h

/-- the translated `expand` never runs out of fuel and never fails on an index: it returns the transactions, or the error of an
inverted window, or panics with one of the model's two panics -/
theorem expand_total (cur : String → Bool) (src psrc accr : GoSem.Ref) (ti : TxInput) (ad : Addon) (hacc : ad.account.wf = true) :
    (∃ G, expandGo cur src psrc accr ti ad = .ok (G, none)) ∨
    expandGo cur src psrc accr ti ad = .ok ([], some ⟨"accrual period ends before it starts"⟩) ∨
    (∃ s, expandGo cur src psrc accr ti ad = .panic s ∧ Accrual.expand (inputTx ti) ad = .panic s) := by
  unfold expandGo
  rw [expand_agrees cur src psrc accr (inputTx ti) ad hacc]
  cases Accrual.expand (inputTx ti) ad with
  | ok txs => exact Or.inl ⟨_, rfl⟩
  | error => exact Or.inr (Or.inl rfl)
  | panic s => exact Or.inr (Or.inr ⟨s, rfl, rfl⟩)

/-! ### the predicates on Go values -/

/-- total quantity booked on an account in a commodity by Go postings -/
def bookedGo (a : account.Account) (c : commodity.Commodity) : List posting.Posting → Rat
  | [] => 0
  | p :: ps => (if p.Account = a ∧ p.Commodity = c then p.Quantity else 0) + bookedGo a c ps

/-- … by Go transactions -/
def bookedTxsGo (a : account.Account) (c : commodity.Commodity) : List transaction.Transaction → Rat
  | [] => 0
  | t :: ts => bookedGo a c t.Postings + bookedTxsGo a c ts

theorem bookedGo_map (cur : String → Bool) (src : GoSem.Ref) (a : Knut.Account) (c : Knut.Commodity) (ps : List Knut.Posting) :
    bookedGo (accountGo a) (commodityGo cur c) (ps.map (postingGo cur src)) = booked a c ps := by
  induction ps with
  | nil => rfl
  | cons p rest ih =>
    simp only [List.map_cons, bookedGo, booked, ih]
    congr 1
    by_cases h : p.account = a ∧ p.commodity = c
    · obtain ⟨h1, h2⟩ := h
      subst h1; subst h2
      simp [postingGo]
    · have : ¬ ((postingGo cur src p).Account = accountGo a ∧ (postingGo cur src p).Commodity = commodityGo cur c) := by
        intro ⟨x, y⟩
        exact h ⟨accountGo_inj x, commodityGo_inj cur y⟩
      simp only [h, this, if_false]

theorem bookedTxsGo_map (cur : String → Bool) (src psrc : GoSem.Ref) (a : Knut.Account) (c : Knut.Commodity)
    (ts : List Knut.Transaction) :
    bookedTxsGo (accountGo a) (commodityGo cur c) (ts.map (txGoD cur src psrc)) = bookedTxs a c ts := by
  induction ts with
  | nil => rfl
  | cons t rest ih =>
    simp only [List.map_cons, bookedTxsGo, bookedTxs, ih]
    congr 1
    exact bookedGo_map cur psrc a c t.postings

/-- a Go transaction of exactly two postings that are negations of each other, one of them on `acc` -/
def balancedPairGo (acc : account.Account) (g : transaction.Transaction) : Prop :=
  ∃ p q, g.Postings = [p, q] ∧ p.Commodity = q.Commodity ∧ p.Quantity = -q.Quantity ∧ p.Account = q.Other ∧
    q.Account = p.Other ∧ (p.Account = acc ∨ q.Account = acc)

theorem balancedPairGo_of (cur : String → Bool) (src psrc : GoSem.Ref) (acc : Knut.Account) (t : Knut.Transaction)
    (h : balancedPair acc t = true) : balancedPairGo (accountGo acc) (txGoD cur src psrc t) := by
  unfold balancedPair at h
  split at h
  · rename_i p q hpq
    simp only [Bool.and_eq_true, Bool.or_eq_true, decide_eq_true_eq] at h
    obtain ⟨⟨⟨⟨h1, h2⟩, h3⟩, h4⟩, h5⟩ := h
    refine ⟨postingGo cur psrc p, postingGo cur psrc q, by simp [txGoD, txGo, hpq], ?_, ?_, ?_, ?_, ?_⟩
    · simp [postingGo, h1]
    · simp [postingGo, h2]
    · simp [postingGo, h3]
    · simp [postingGo, h4]
    · rcases h5 with h5 | h5
      · exact Or.inl (by simp [postingGo, h5])
      · exact Or.inr (by simp [postingGo, h5])
  · cases h

/-- **each generated transaction balances**: every transaction the translated `expand` returns consists of two postings that are
negations of each other, one of them on the accrual account -/
theorem C10_each_balances_go {cur : String → Bool} {src psrc accr : GoSem.Ref} {ti : TxInput} {ad : Addon}
    {G : List transaction.Transaction} (ha : ti.accrual = some ad)
    (hwf : ti.bookings.all (fun b => b.credit.wf && b.debit.wf) = true) (hacc : ad.account.wf = true)
    (h : expandGo cur src psrc accr ti ad = .ok (G, none)) :
    ∀ g ∈ G, balancedPairGo (accountGo ad.account) g := by
  obtain ⟨gen, hc, rfl⟩ := expand_ok ha hwf hacc h
  intro g hg
  obtain ⟨t, ht, rfl⟩ := List.mem_map.mp hg
  exact balancedPairGo_of cur src ⟨0⟩ ad.account t (C10.C10_each_balances ha hc t ht)

/-- **conservation, every account**: for every account (the accrual account included) and every commodity, the total booked over all
returned Go transactions equals what the input Go transaction books -/
theorem C10_conserves_all_go {cur : String → Bool} {src psrc accr : GoSem.Ref} {ti : TxInput} {ad : Addon}
    {G : List transaction.Transaction} (ha : ti.accrual = some ad)
    (hwf : ti.bookings.all (fun b => b.credit.wf && b.debit.wf) = true) (hacc : ad.account.wf = true)
    (h : expandGo cur src psrc accr ti ad = .ok (G, none)) (a : Knut.Account) (c : Knut.Commodity) :
    bookedTxsGo (accountGo a) (commodityGo cur c) G
      = bookedGo (accountGo a) (commodityGo cur c) (txGo cur src psrc (inputTx ti)).Postings := by
  obtain ⟨gen, hc, rfl⟩ := expand_ok ha hwf hacc h
  rw [bookedTxsGo_map]
  simp only [txGo, inputTx]
  rw [bookedGo_map]
  exact C10.C10_conserves_all ha hc a c

/-- **the accrual account nets to zero** in every commodity when the original transaction does not itself book on it -/
theorem C10_accrual_nets_zero_go {cur : String → Bool} {src psrc accr : GoSem.Ref} {ti : TxInput} {ad : Addon}
    {G : List transaction.Transaction} (ha : ti.accrual = some ad)
    (hwf : ti.bookings.all (fun b => b.credit.wf && b.debit.wf) = true) (hacc : ad.account.wf = true)
    (h : expandGo cur src psrc accr ti ad = .ok (G, none))
    (huntouched : ∀ b ∈ ti.bookings, b.credit ≠ ad.account ∧ b.debit ≠ ad.account) (c : Knut.Commodity) :
    bookedTxsGo (accountGo ad.account) (commodityGo cur c) G = 0 := by
  obtain ⟨gen, hc, rfl⟩ := expand_ok ha hwf hacc h
  rw [bookedTxsGo_map]
  exact C10.C10_accrual_nets_zero ha hc huntouched c

/-- **dates and periods**: the returned list is, posting by posting in order, what `Legs` says (an income/expense posting gives one
transaction per period of the C11 partition of the window, dated at the period ends and described `"<description> (accrual i/n)"`;
any other posting one transaction on the original date), and the dates of the Go transactions are those of the monitor's predicate -/
theorem C10_dates_go {cur : String → Bool} {src psrc accr : GoSem.Ref} {ti : TxInput} {ad : Addon}
    {G : List transaction.Transaction} (ha : ti.accrual = some ad)
    (hwf : ti.bookings.all (fun b => b.credit.wf && b.debit.wf) = true) (hacc : ad.account.wf = true)
    (h : expandGo cur src psrc accr ti ad = .ok (G, none)) :
    ∃ gen, G = gen.map (txGoD cur src ⟨0⟩) ∧ G.map (·.Date) = gen.map (·.date) ∧
      Legs (inputTx ti) ad (postingsOf ti.bookings) gen ∧
      accrualOK (postingsOf ti.bookings) ti.date ad gen = true := by
  obtain ⟨gen, hc, rfl⟩ := expand_ok ha hwf hacc h
  refine ⟨gen, rfl, ?_, C10.C10_dates ha hc, C10.C10_accrualOK ha hc⟩
  simp [txGoD, txGo, Function.comp_def]

/-- **a non-empty window expands**: with `start ≤ end` and a start other than Go's zero time the translated `expand` returns
transactions (no error, no panic, not out of fuel) -/
theorem C10_expands_go (cur : String → Bool) (src psrc accr : GoSem.Ref) (ti : TxInput) (ad : Addon) (ha : ti.accrual = some ad)
    (hwf : ti.bookings.all (fun b => b.credit.wf && b.debit.wf) = true) (hacc : ad.account.wf = true)
    (hle : ad.start ≤ ad.stop) (h0 : ad.start ≠ 0) : ∃ G, expandGo cur src psrc accr ti ad = .ok (G, none) := by
  obtain ⟨gen, hg⟩ := C10.C10_expands ti ad ha hwf hacc hle h0
  rw [expandGo_eq_create cur src psrc accr ha hwf hacc, hg]
  exact ⟨_, rfl⟩

/-- an empty window (`end < start`) is rejected with the error before any expansion -/
theorem C10_inverted_rejected_go (cur : String → Bool) (src psrc accr : GoSem.Ref) (ti : TxInput) (ad : Addon)
    (ha : ti.accrual = some ad) (hwf : ti.bookings.all (fun b => b.credit.wf && b.debit.wf) = true) (hacc : ad.account.wf = true)
    (hinv : ad.stop < ad.start) :
    expandGo cur src psrc accr ti ad = .ok ([], some ⟨"accrual period ends before it starts"⟩) := by
  rw [expandGo_eq_create cur src psrc accr ha hwf hacc, C10.C10_inverted_rejected ti ad ha hinv]

/-- the guard of the code, stated as it is: a window starting at Go's zero time panics in the translated `NewPartition` as soon as an
income/expense posting is reached (known finding `transaction-dated-0001-01-01`, design/09-defects.md) -/
theorem C10_zero_start_panics_go (cur : String → Bool) (src psrc accr : GoSem.Ref) (ti : TxInput) (ad : Addon)
    (ha : ti.accrual = some ad) (hwf : ti.bookings.all (fun b => b.credit.wf && b.debit.wf) = true) (hacc : ad.account.wf = true)
    (h0 : ad.start = 0) (hle : ad.start ≤ ad.stop) (hie : ∃ p ∈ postingsOf ti.bookings, p.account.isIE = true) :
    expandGo cur src psrc accr ti ad = .panic "can't create partition with zero time" := by
  rw [expandGo_eq_create cur src psrc accr ha hwf hacc, C10.C10_zero_start_panics ti ad ha hwf hacc h0 hle hie]

/-- number of transactions of a successful result -/
def lenOf : Result → Nat
  | .ok l => l.length
  | _ => 0

/-! ### Non-vacuity: the README example (12000 USD of taxes accrued monthly over 2020) through the translated `expand` -/
theorem readme_go : ∃ G, expandGo (fun _ => true) ⟨1⟩ ⟨2⟩ ⟨3⟩ C10.readme
    { interval := .monthly, start := 737424, stop := 737759, account := ⟨["Assets", "PrepaidTax"]⟩ } = .ok (G, none) ∧
    G.length = 13 ∧ bookedTxsGo (accountGo ⟨["Assets", "PrepaidTax"]⟩) (commodityGo (fun _ => true) "USD") G = 0 := by
  obtain ⟨G, hG⟩ := C10_expands_go (fun _ => true) ⟨1⟩ ⟨2⟩ ⟨3⟩ C10.readme
    { interval := .monthly, start := 737424, stop := 737759, account := ⟨["Assets", "PrepaidTax"]⟩ } rfl C10.readme_wf C10.prepaid_wf
    (by decide) (by decide)
  refine ⟨G, hG, ?_, C10_accrual_nets_zero_go rfl C10.readme_wf C10.prepaid_wf hG (by decide +kernel) "USD"⟩
  obtain ⟨gen, hc, rfl⟩ := expand_ok (ti := C10.readme) rfl C10.readme_wf C10.prepaid_wf hG
  rw [List.length_map]
  have h13 : lenOf (create C10.readme) = 13 := by decide +kernel
  rw [hc] at h13
  exact h13

example : ∃ G, expandGo (fun _ => true) ⟨1⟩ ⟨2⟩ ⟨3⟩ C10.readme
    { interval := .monthly, start := 737424, stop := 737759, account := ⟨["Assets", "PrepaidTax"]⟩ } = .ok (G, none) :=
  let ⟨G, h, _⟩ := readme_go; ⟨G, h⟩

example : ∃ G, expandGo (fun _ => true) ⟨1⟩ ⟨2⟩ ⟨3⟩ C10.readme
    { interval := .monthly, start := 737424, stop := 737759, account := ⟨["Assets", "PrepaidTax"]⟩ } = .ok (G, none) ∧
    G.length = 13 ∧ bookedTxsGo (accountGo ⟨["Assets", "PrepaidTax"]⟩) (commodityGo (fun _ => true) "USD") G = 0 :=
  readme_go

end Knut.C10Go
