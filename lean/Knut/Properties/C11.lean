import Knut.Proofs.Partition
/-!
# C11 — Reporting periods partition the requested window

Statements about `newPartition` (the model of `date.NewPartition`) and `alignIn`
(`Partition.Align`), for all windows `span`, all six intervals and all `last : Int`.
-/
namespace Knut.C11
open Knut Knut.Date

def inP (p : Period) (d : Int) : Prop := p.start ≤ d ∧ d ≤ p.stop

/-- **consecutive**: each period starts the day after the previous one ends. -/
theorem C11_consecutive {span : Period} {iv : Interval} {last : Int} {P : Partition}
    (h : newPartition span iv last = .ok P) : Consecutive P.periods :=
  consecutive_of_ok h

/-- **cover**: without `--last`, a day is in the window iff it is in some period. -/
theorem C11_cover {span : Period} {iv : Interval} {last : Int} {P : Partition}
    (h : newPartition span iv last = .ok P) (hl : last ≤ 0) (d : Int) :
    inP span d ↔ ∃ p ∈ P.periods, inP p d := by
  by_cases hiv : iv = .once
  · subst hiv; rw [periods_once h]; simp
  · simpa only [inP, List.mem_reverse] using (tiles_of_ok h hiv hl).cover d

/-- **non-overlapping**: a day lies in at most one period. -/
theorem C11_disjoint {span : Period} {iv : Interval} {last : Int} {P : Partition}
    (h : newPartition span iv last = .ok P) (hl : last ≤ 0) (d : Int)
    (p q : Period) (hp : p ∈ P.periods) (hq : q ∈ P.periods) (h1 : inP p d) (h2 : inP q d) : p = q := by
  by_cases hiv : iv = .once
  · subst hiv
    rw [periods_once h] at hp hq
    rw [List.mem_singleton.mp hp, List.mem_singleton.mp hq]
  · have ht := tiles_of_ok h hiv hl
    exact ht.disjoint d p (List.mem_reverse.mpr hp) q (List.mem_reverse.mpr hq) h1.1 h1.2 h2.1 h2.2

/-- **never straddles a boundary**: all days of a period lie in the calendar unit
(day / Mon–Sun week / month / quarter / year) of the period's last day. -/
theorem C11_within_unit {span : Period} {iv : Interval} {last : Int} {P : Partition}
    (h : newPartition span iv last = .ok P) (hl : last ≤ 0) (hiv : iv ≠ .once)
    (p : Period) (hp : p ∈ P.periods) (d : Int) (hd : inP p d) :
    startOf d iv = startOf p.stop iv := by
  have ⟨_, _, _, hs⟩ := (shown_periods h hiv).2.1 p hp
  apply startOf_same
  · exact Int.le_trans (hs ▸ le_clampStart _ _) hd.1
  · exact hd.2

/-- **maximal**: a period starts at the window start or at the start of a calendar unit. -/
theorem C11_maximal_start {span : Period} {iv : Interval} {last : Int} {P : Partition}
    (h : newPartition span iv last = .ok P) (hl : last ≤ 0) (hiv : iv ≠ .once)
    (p : Period) (hp : p ∈ P.periods) :
    p.start = span.start ∨ (p.start = startOf p.stop iv ∧ startOf p.start iv = p.start) := by
  have ⟨_, _, _, hs⟩ := (shown_periods h hiv).2.1 p hp
  rcases clampStart_eq_or (startOf p.stop iv) span.start with e | e
  · exact Or.inl (hs.trans e)
  · exact Or.inr ⟨hs.trans e, by rw [hs.trans e]; exact startOf_idem _ _⟩

/-- the newest period ends at the window end, the oldest starts at the window start. -/
theorem C11_ends {span : Period} {iv : Interval} {last : Int} {P : Partition}
    (h : newPartition span iv last = .ok P) (hl : last ≤ 0) (hiv : iv ≠ .once) :
    (∀ p, P.periods.head? = some p → p.start = span.start) ∧
    (∀ p, P.periods.getLast? = some p → p.stop = span.stop) := by
  have ht := tiles_of_ok h hiv hl
  constructor
  · intro p hp
    apply ht.getLast_start p
    simpa using hp
  · intro p hp
    apply ht.head_stop p
    simpa using hp

/-- **`--last n`** keeps exactly the `n` most recent periods of the full partition. -/
theorem C11_last {span : Period} {iv : Interval} {last : Int} {P P0 : Partition}
    (h : newPartition span iv last = .ok P) (h0 : newPartition span iv 0 = .ok P0)
    (hl : 0 < last) (hiv : iv ≠ .once) :
    P.periods = P0.periods.drop (P0.periods.length - last.toNat) := by
  have ⟨_, hp⟩ := periods_eq h
  have ⟨_, hp0⟩ := periods_eq h0
  rw [hp, hp0]
  simp only [periodsOf, hiv, if_false]
  rw [partLoop_last _ _ _ _ _ hl (Int.le_refl _) (by omega), List.reverse_take]
  simp

/-- **Align**: a day inside a shown period is attributed to that period's end date. -/
theorem C11_align_inside {span : Period} {iv : Interval} {last : Int} {P : Partition}
    (h : newPartition span iv last = .ok P) (hl : last ≤ 0) (hiv : iv ≠ .once)
    (p : Period) (hp : p ∈ P.periods) (d : Int) (hd : inP p d) :
    P.align d = some p.stop := by
  obtain ⟨_, _, hch, _⟩ := shown_chained h hiv
  exact hch.alignIn_of_mem hp hd.1 hd.2

/-- **Align**: a day after the window end belongs to no column. -/
theorem C11_align_after {span : Period} {iv : Interval} {last : Int} {P : Partition}
    (h : newPartition span iv last = .ok P) (hl : last ≤ 0) (hiv : iv ≠ .once)
    (d : Int) (hd : span.stop < d) : P.align d = none := by
  refine alignIn_eq_none_iff.mpr fun p hp => ?_
  have := (shown_periods h hiv).2.1 p hp
  omega

/-- **Align**: a day before the first shown period is attributed to the first period. -/
theorem C11_align_before {span : Period} {iv : Interval} {last : Int} {P : Partition}
    (_h : newPartition span iv last = .ok P)
    (p : Period) (rest : List Period) (hp : P.periods = p :: rest) (d : Int) (hd : d ≤ p.stop) :
    P.align d = some p.stop := by
  unfold Partition.align
  rw [hp, alignIn_cons_of_le hd]

/-- **inverted window** (`start > end`): no period at all … -/
theorem C11_inverted {span : Period} {iv : Interval} {last : Int} {P : Partition}
    (h : newPartition span iv last = .ok P) (hiv : iv ≠ .once) (hinv : span.stop < span.start) :
    P.periods = [] := by
  have ⟨_, hp⟩ := periods_eq h
  rw [hp]
  simp only [periodsOf, hiv, if_false]
  rw [partLoop_exit (Or.inl hinv)]; rfl

/-- … or, for `once`, the single empty period that contains no date. -/
theorem C11_inverted_once {span : Period} {last : Int} {P : Partition}
    (h : newPartition span .once last = .ok P) (hinv : span.stop < span.start) :
    P.periods = [span] ∧ ∀ d, ¬ inP span d := by
  refine ⟨periods_once h, ?_⟩
  intro d hd; unfold inP at hd; omega

/-- **which days enter a report**: `Partition.Contains` is membership in the requested window, whatever
`--last` and the interval are (so days before the first shown period are kept and, by `C11_align_before`,
attributed to the first period). -/
theorem C11_contains_iff_window {span : Period} {iv : Interval} {last : Int} {P : Partition}
    (h : newPartition span iv last = .ok P) (d : Int) :
    P.contains d = true ↔ inP span d := by
  obtain ⟨_, rfl⟩ := newPartition_eq_ok.mp h
  exact span.contains_iff d

/-- the guard of the code, stated as it is: a window starting at Go's zero time panics. -/
theorem C11_zero_start_panics (span : Period) (iv : Interval) (last : Int) (h : span.start = 0) :
    newPartition span iv last = .panic "can't create partition with zero time" := by
  unfold newPartition; simp [h]

/-- the loop terminates for every input: `partLoop` is defined by well-founded recursion on
`end - start + 1`, using `startOf_le`; recorded here as the fact that justifies it. -/
theorem C11_loop_measure (e : Int) (iv : Interval) : startOf e iv - 1 < e := by
  have := startOf_le e iv; omega

/-! Non-vacuity: the hypotheses are satisfiable for a concrete window
(2020-01-15 … 2020-03-10 as day numbers 737438 … 737493). -/
example : ∃ P, newPartition ⟨737438, 737493⟩ .monthly 0 = .ok P := by
  unfold newPartition; simp
example : ∃ P, newPartition ⟨737438, 737493⟩ .monthly 2 = .ok P := by
  unfold newPartition; simp

end Knut.C11
