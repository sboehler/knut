import Knut.Properties.C11
import Knut.FactsAgree.TransDate
/-!
# C11 on the generated definitions

The theorems of `Properties/C11.lean` are about the hand-written model (`newPartition`, `alignIn`); the agreement
theorems of `FactsAgree/TransDate.lean` prove the definitions generated from `/repo`'s `lib/common/date/date.go`
(`Knut.Generated.Go.date.*`) equal to that model.  This module COMPOSES the two: every main clause of C11 is stated
here about `Go.date.NewPartition` (with the fuel its two loops are called with in the generated text: `fuelGe end
period.Start`, `fuelLt 0 (len-1)`), `Go.date.Partition.Align` (Go's binary search), `Partition.Contains` and
`StartOf`, on Go values (`date.Period`, `date.Partition`; a `time.Time` is its day number, an `Interval` an `int`).

Hypotheses that stay: `IvOK interval` (`Once … Yearly`, the six constants; for every other `int` see
`NewPartition_other`: the code then behaves as for `Daily`), and the hypothesis of the model theorem itself.
Nothing about fuel is assumed: `NewPartition_total` shows the generated definition never answers `outOfFuel`.
-/
namespace Knut.C11Go
open Knut Knut.Date
open Knut.Generated.Go
open Knut.FactsAgree.TransDate

/-- the values of `date.Interval` that knut builds (`Once … Yearly`) -/
def IvOK (i : Int) : Prop := 0 ≤ i ∧ i ≤ 5

/-- inverse of `ivGo` on `IvOK` -/
def ivOf (i : Int) : Knut.Interval :=
  if i = 0 then .once else if i = 1 then .daily else if i = 2 then .weekly else if i = 3 then .monthly
  else if i = 4 then .quarterly else .yearly

theorem ivGo_ivOf {i : Int} (h : IvOK i) : ivGo (ivOf i) = i := by
  unfold IvOK at h
  have : i = 0 ∨ i = 1 ∨ i = 2 ∨ i = 3 ∨ i = 4 ∨ i = 5 := by omega
  rcases this with h | h | h | h | h | h <;> subst h <;> rfl

theorem ivOf_ivGo (iv : Knut.Interval) : ivOf (ivGo iv) = iv := by cases iv <;> rfl

theorem ivOf_ne_once {i : Int} (h : IvOK i) (hne : i ≠ date.Once) : ivOf i ≠ .once := fun e =>
  hne (by have := ivGo_ivOf h; rw [e] at this; exact this.symm)

/-- membership of a day in a Go period: `Period.Contains` -/
def inP (p : date.Period) (d : Int) : Prop := p.Start ≤ d ∧ d ≤ p.End

theorem inP_iff_Contains (p : date.Period) (d : Int) : inP p d ↔ date.Period.Contains p d = true := by
  have := Period_Contains_agrees (periodOfGo p) d
  rw [periodGo_periodOfGo] at this
  rw [this]
  exact ((periodOfGo p).contains_iff d).symm

theorem inP_periodGo (p : Knut.Period) (d : Int) : inP (periodGo p) d ↔ C11.inP p d := Iff.rfl

/-- each period starts the day after the previous one ends (Go values) -/
def Consecutive : List date.Period → Prop
  | [] => True
  | [_] => True
  | p :: q :: rest => p.End + 1 = q.Start ∧ Consecutive (q :: rest)

theorem consecutive_map : ∀ L : List Knut.Period, Knut.Consecutive L → Consecutive (L.map periodGo)
  | [], _ => trivial
  | [_], _ => trivial
  | _ :: q :: rest, h => ⟨h.1, consecutive_map (q :: rest) h.2⟩

/-- **the bridge**: a successful run of the generated `NewPartition` IS a successful run of the model on the same window,
and its result is the model's partition field by field. -/
theorem NewPartition_ok {period : date.Period} {interval : Int} {last : Int} {G : date.Partition}
    (hiv : IvOK interval) (h : date.NewPartition period interval last = GoSem.Outcome.ok G) :
    ∃ P, newPartition (periodOfGo period) (ivOf interval) last = Knut.Outcome.ok P ∧ G = partitionGo P := by
  have ha := NewPartition_agrees (periodOfGo period) (ivOf interval) last
  rw [periodGo_periodOfGo, ivGo_ivOf hiv, h] at ha
  cases hm : newPartition (periodOfGo period) (ivOf interval) last with
  | ok P => rw [hm] at ha; simp only [outcomeGo] at ha; injection ha with ha; exact ⟨P, rfl, ha⟩
  | panic m => rw [hm] at ha; simp only [outcomeGo] at ha; cases ha

/-- the generated `NewPartition` never runs out of the fuel its loops are called with, and panics exactly on a window
that starts at Go's zero time -/
theorem NewPartition_total (period : date.Period) (interval : Int) (last : Int) (hiv : IvOK interval) :
    (period.Start = 0 ∧
        date.NewPartition period interval last = GoSem.Outcome.panic "can't create partition with zero time") ∨
    (period.Start ≠ 0 ∧ ∃ G, date.NewPartition period interval last = GoSem.Outcome.ok G) := by
  have ha := NewPartition_agrees (periodOfGo period) (ivOf interval) last
  rw [periodGo_periodOfGo, ivGo_ivOf hiv] at ha
  by_cases hz : period.Start = 0
  · left
    refine ⟨hz, ?_⟩
    rw [ha, C11.C11_zero_start_panics _ _ _ (by simpa [periodOfGo] using hz)]; rfl
  · right
    refine ⟨hz, ?_⟩
    rw [ha, newPartition_eq_ok.mpr ⟨hz, rfl⟩]
    exact ⟨_, rfl⟩

theorem mem_periods {P : Knut.Partition} {p : date.Period} (hp : p ∈ (partitionGo P).periods) :
    periodOfGo p ∈ P.periods ∧ periodGo (periodOfGo p) = p := by
  simp only [partitionGo, List.mem_map] at hp
  obtain ⟨q, hq, rfl⟩ := hp
  exact ⟨by simpa using hq, rfl⟩

/-- **consecutive**: each period starts the day after the previous one ends -/
theorem C11_consecutive_go {period : date.Period} {interval : Int} {last : Int} {G : date.Partition}
    (hiv : IvOK interval) (h : date.NewPartition period interval last = GoSem.Outcome.ok G) :
    Consecutive G.periods := by
  obtain ⟨P, hm, rfl⟩ := NewPartition_ok hiv h
  exact consecutive_map _ (C11.C11_consecutive hm)

/-- **cover**: without `--last`, a day is in the window iff it is in some period -/
theorem C11_cover_go {period : date.Period} {interval : Int} {last : Int} {G : date.Partition}
    (hiv : IvOK interval) (h : date.NewPartition period interval last = GoSem.Outcome.ok G) (hl : last ≤ 0) (d : Int) :
    inP period d ↔ ∃ p ∈ G.periods, inP p d := by
  obtain ⟨P, hm, rfl⟩ := NewPartition_ok hiv h
  have := C11.C11_cover hm hl d
  show C11.inP (periodOfGo period) d ↔ _
  rw [this]
  constructor
  · intro ⟨p, hp, x⟩; exact ⟨periodGo p, by simp only [partitionGo]; exact List.mem_map_of_mem hp, x⟩
  · intro ⟨p, hp, x⟩; exact ⟨periodOfGo p, (mem_periods hp).1, x⟩

/-- **non-overlapping**: a day lies in at most one period -/
theorem C11_disjoint_go {period : date.Period} {interval : Int} {last : Int} {G : date.Partition}
    (hiv : IvOK interval) (h : date.NewPartition period interval last = GoSem.Outcome.ok G) (hl : last ≤ 0) (d : Int)
    (p q : date.Period) (hp : p ∈ G.periods) (hq : q ∈ G.periods) (h1 : inP p d) (h2 : inP q d) : p = q := by
  obtain ⟨P, hm, rfl⟩ := NewPartition_ok hiv h
  have := C11.C11_disjoint hm hl d _ _ (mem_periods hp).1 (mem_periods hq).1 h1 h2
  rw [← (mem_periods hp).2, ← (mem_periods hq).2, this]

/-- **never straddles a boundary**: all days of a period lie in the calendar unit of the period's last day, the unit
being what the generated `StartOf` computes -/
theorem C11_within_unit_go {period : date.Period} {interval : Int} {last : Int} {G : date.Partition}
    (hiv : IvOK interval) (h : date.NewPartition period interval last = GoSem.Outcome.ok G) (hl : last ≤ 0)
    (hne : interval ≠ date.Once) (p : date.Period) (hp : p ∈ G.periods) (d : Int) (hd : inP p d) :
    date.StartOf d interval = date.StartOf p.End interval := by
  obtain ⟨P, hm, rfl⟩ := NewPartition_ok hiv h
  have := C11.C11_within_unit hm hl (ivOf_ne_once hiv hne) _ (mem_periods hp).1 d hd
  rw [← ivGo_ivOf hiv, StartOf_agrees, StartOf_agrees]
  exact this

/-- **maximal**: a period starts at the window start or at the start of a calendar unit -/
theorem C11_maximal_start_go {period : date.Period} {interval : Int} {last : Int} {G : date.Partition}
    (hiv : IvOK interval) (h : date.NewPartition period interval last = GoSem.Outcome.ok G) (hl : last ≤ 0)
    (hne : interval ≠ date.Once) (p : date.Period) (hp : p ∈ G.periods) :
    p.Start = period.Start ∨
      (p.Start = date.StartOf p.End interval ∧ date.StartOf p.Start interval = p.Start) := by
  obtain ⟨P, hm, rfl⟩ := NewPartition_ok hiv h
  have := C11.C11_maximal_start hm hl (ivOf_ne_once hiv hne) _ (mem_periods hp).1
  rw [← ivGo_ivOf hiv, StartOf_agrees, StartOf_agrees]
  exact this

theorem map_periodGo_eq_some {o : Option Knut.Period} {p : date.Period} (h : o.map periodGo = some p) :
    o = some (periodOfGo p) := by
  cases o with
  | none => cases h
  | some a => simp only [Option.map_some, Option.some.injEq] at h; rw [← h]; rfl

/-- the oldest period starts at the window start, the newest ends at the window end -/
theorem C11_ends_go {period : date.Period} {interval : Int} {last : Int} {G : date.Partition}
    (hiv : IvOK interval) (h : date.NewPartition period interval last = GoSem.Outcome.ok G) (hl : last ≤ 0)
    (hne : interval ≠ date.Once) :
    (∀ p, G.periods.head? = some p → p.Start = period.Start) ∧
    (∀ p, G.periods.getLast? = some p → p.End = period.End) := by
  obtain ⟨P, hm, rfl⟩ := NewPartition_ok hiv h
  have ⟨a, b⟩ := C11.C11_ends hm hl (ivOf_ne_once hiv hne)
  exact ⟨fun p hp => a _ (map_periodGo_eq_some (List.head?_map ▸ hp)),
    fun p hp => b _ (map_periodGo_eq_some (List.getLast?_map ▸ hp))⟩

/-- **`--last n`** keeps exactly the `n` most recent periods of the full partition -/
theorem C11_last_go {period : date.Period} {interval : Int} {last : Int} {G G0 : date.Partition}
    (hiv : IvOK interval) (h : date.NewPartition period interval last = GoSem.Outcome.ok G)
    (h0 : date.NewPartition period interval 0 = GoSem.Outcome.ok G0) (hl : 0 < last) (hne : interval ≠ date.Once) :
    G.periods = G0.periods.drop (G0.periods.length - last.toNat) := by
  obtain ⟨P, hm, rfl⟩ := NewPartition_ok hiv h
  obtain ⟨P0, hm0, rfl⟩ := NewPartition_ok hiv h0
  have := C11.C11_last hm hm0 hl (ivOf_ne_once hiv hne)
  simp only [partitionGo, List.length_map, this, List.map_drop]

/-- **Align** (the generated binary search): a day inside a shown period is attributed to that period's end date -/
theorem C11_align_inside_go {period : date.Period} {interval : Int} {last : Int} {G : date.Partition}
    (hiv : IvOK interval) (h : date.NewPartition period interval last = GoSem.Outcome.ok G) (hl : last ≤ 0)
    (hne : interval ≠ date.Once) (p : date.Period) (hp : p ∈ G.periods) (d : Int) (hd : inP p d) :
    date.Partition.Align G d = GoSem.Outcome.ok p.End := by
  obtain ⟨P, hm, rfl⟩ := NewPartition_ok hiv h
  rw [Align_agrees hm, C11.C11_align_inside hm hl (ivOf_ne_once hiv hne) _ (mem_periods hp).1 d hd]
  rfl

/-- **Align**: a day after the window end belongs to no column — Go's zero `time.Time` (day 0) -/
theorem C11_align_after_go {period : date.Period} {interval : Int} {last : Int} {G : date.Partition}
    (hiv : IvOK interval) (h : date.NewPartition period interval last = GoSem.Outcome.ok G) (hl : last ≤ 0)
    (hne : interval ≠ date.Once) (d : Int) (hd : period.End < d) :
    date.Partition.Align G d = GoSem.Outcome.ok 0 := by
  obtain ⟨P, hm, rfl⟩ := NewPartition_ok hiv h
  rw [Align_agrees hm, C11.C11_align_after hm hl (ivOf_ne_once hiv hne) d hd]
  rfl

/-- **Align**: a day before the first shown period is attributed to the first period (for every `--last`) -/
theorem C11_align_before_go {period : date.Period} {interval : Int} {last : Int} {G : date.Partition}
    (hiv : IvOK interval) (h : date.NewPartition period interval last = GoSem.Outcome.ok G)
    (p : date.Period) (rest : List date.Period) (hp : G.periods = p :: rest) (d : Int) (hd : d ≤ p.End) :
    date.Partition.Align G d = GoSem.Outcome.ok p.End := by
  obtain ⟨P, hm, rfl⟩ := NewPartition_ok hiv h
  obtain ⟨a, L, hP, rfl, rfl⟩ := List.map_eq_cons_iff.mp hp
  rw [Align_agrees hm, C11.C11_align_before hm a L hP d hd]
  rfl

/-- the generated `Align` never panics and never runs out of fuel on a partition that `NewPartition` built -/
theorem C11_align_total_go {period : date.Period} {interval : Int} {last : Int} {G : date.Partition}
    (hiv : IvOK interval) (h : date.NewPartition period interval last = GoSem.Outcome.ok G) (d : Int) :
    ∃ e, date.Partition.Align G d = GoSem.Outcome.ok e ∧ (e = 0 ∨ ∃ p ∈ G.periods, e = p.End ∧ d ≤ e) := by
  obtain ⟨P, hm, rfl⟩ := NewPartition_ok hiv h
  refine ⟨_, Align_agrees hm d, ?_⟩
  unfold Knut.Partition.align alignIn
  cases hf : P.periods.find? (fun p => !(p.stop < d)) with
  | none => left; rfl
  | some q =>
    right
    refine ⟨periodGo q, by simp only [partitionGo]; exact List.mem_map_of_mem (List.mem_of_find?_eq_some hf), rfl, ?_⟩
    have := List.find?_some hf
    simp at this ⊢; omega

/-- **inverted window** (`start > end`): no period at all … -/
theorem C11_inverted_go {period : date.Period} {interval : Int} {last : Int} {G : date.Partition}
    (hiv : IvOK interval) (h : date.NewPartition period interval last = GoSem.Outcome.ok G)
    (hne : interval ≠ date.Once) (hinv : period.End < period.Start) : G.periods = [] := by
  obtain ⟨P, hm, rfl⟩ := NewPartition_ok hiv h
  simp only [partitionGo, C11.C11_inverted hm (ivOf_ne_once hiv hne) hinv, List.map_nil]

/-- … or, for `Once`, the single empty period that contains no date -/
theorem C11_inverted_once_go {period : date.Period} {last : Int} {G : date.Partition}
    (h : date.NewPartition period date.Once last = GoSem.Outcome.ok G) (hinv : period.End < period.Start) :
    G.periods = [period] ∧ ∀ d, ¬ inP period d := by
  obtain ⟨P, hm, rfl⟩ := NewPartition_ok (interval := date.Once) ⟨by decide, by decide⟩ h
  have ⟨a, b⟩ := C11.C11_inverted_once (span := periodOfGo period) hm hinv
  exact ⟨by simp only [partitionGo, a]; rfl, b⟩

/-- **which days enter a report**: the generated `Partition.Contains` is membership in the requested window -/
theorem C11_contains_iff_window_go {period : date.Period} {interval : Int} {last : Int} {G : date.Partition}
    (hiv : IvOK interval) (h : date.NewPartition period interval last = GoSem.Outcome.ok G) (d : Int) :
    date.Partition.Contains G d = true ↔ inP period d := by
  obtain ⟨P, hm, rfl⟩ := NewPartition_ok hiv h
  rw [Partition_Contains_agrees]
  exact C11.C11_contains_iff_window hm d

/-- what the partition records: the window and the interval it was asked for -/
theorem C11_fields_go {period : date.Period} {interval : Int} {last : Int} {G : date.Partition}
    (hiv : IvOK interval) (h : date.NewPartition period interval last = GoSem.Outcome.ok G) :
    G.span = period ∧ G.interval = interval := by
  obtain ⟨P, hm, rfl⟩ := NewPartition_ok hiv h
  obtain ⟨_, rfl⟩ := newPartition_eq_ok.mp hm
  exact ⟨rfl, ivGo_ivOf hiv⟩

/-! ### `int` values outside `Once … Yearly`

`date.Interval` is an `int`; no code of knut builds a value outside the six constants (`ParseInterval` returns one of
them), but the generated definitions are total on `Int`: there `StartOf` is the identity (`StartOf_other`), so
`NewPartition` builds the `Daily` periods. -/

theorem loop1_other (period : date.Period) (p last : Int) (hp : p < 0 ∨ 5 < p) :
    ∀ (fuel : Nat) (periods : List date.Period) (start counter e : Int),
      date.NewPartition.loop1 period p last fuel periods start counter e
        = date.NewPartition.loop1 period date.Daily last fuel periods start counter e := by
  intro fuel
  induction fuel with
  | zero => intro periods start counter e; unfold date.NewPartition.loop1; rfl
  | succ n ih =>
    intro periods start counter e
    have hd : date.StartOf e date.Daily = e := by
      have := StartOf_agrees e .daily; simpa [ivGo, startOf, date.Daily] using this
    rw [date.NewPartition.loop1, date.NewPartition.loop1]
    simp only [StartOf_other e p hp, hd, ih]

/-- for an `int` that is none of the six constants `NewPartition` is `NewPartition … Daily` with that `int` recorded -/
theorem NewPartition_other (period : date.Period) (p last : Int) (hp : p < 0 ∨ 5 < p) :
    date.NewPartition period p last
      = GoSem.Outcome.bind (date.NewPartition period date.Daily last)
          (fun G => GoSem.Outcome.ok { G with interval := p }) := by
  have h1 : p ≠ date.Once := by unfold date.Once; omega
  have h2 : date.Daily ≠ date.Once := by decide
  unfold date.NewPartition
  split
  · rfl
  · simp only [h1, h2, decide_false, Bool.false_eq_true, if_false, loop1_other period p last hp]
    cases date.NewPartition.loop1 period date.Daily last (GoSem.fuelGe period.End period.Start) GoSem.GoZero.zero
      GoSem.GoZero.zero GoSem.GoZero.zero period.End with
    | ok st =>
      simp only [GoSem.Outcome.bind]
      cases date.NewPartition.loop2 (GoSem.fuelLt 0 (GoSem.len st.1 - 1)) st.1 0 (GoSem.len st.1 - 1) <;> rfl
    | panic m => rfl
    | outOfFuel => rfl

/-! ### Non-vacuity: the hypotheses are satisfiable on the generated definition itself
(2024-02-01 … 2024-02-29 as day numbers 738916 … 738944). -/
example : date.NewPartition ⟨738916, 738944⟩ date.Weekly 0 = GoSem.Outcome.ok ⟨⟨738916, 738944⟩, 2,
      [⟨738916, 738919⟩, ⟨738920, 738926⟩, ⟨738927, 738933⟩, ⟨738934, 738940⟩, ⟨738941, 738944⟩]⟩ ∧
    IvOK date.Weekly ∧ date.Weekly ≠ date.Once := ⟨by decide +kernel, ⟨by decide, by decide⟩, by decide⟩
example : date.NewPartition ⟨738916, 738944⟩ date.Weekly 2 =
    GoSem.Outcome.ok ⟨⟨738916, 738944⟩, 2, [⟨738934, 738940⟩, ⟨738941, 738944⟩]⟩ := by decide +kernel
example : date.Partition.Align ⟨⟨738916, 738944⟩, 2, [⟨738934, 738940⟩, ⟨738941, 738944⟩]⟩ 738935
    = GoSem.Outcome.ok 738940 := by decide +kernel
example : date.NewPartition ⟨738916, 738944⟩ 17 0 =
    GoSem.Outcome.bind (date.NewPartition ⟨738916, 738944⟩ date.Daily 0) (fun G => GoSem.Outcome.ok { G with interval := 17 }) :=
  NewPartition_other _ _ _ (by omega)

end Knut.C11Go
