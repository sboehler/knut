import Knut.Proofs.PartitionMonitor
import Knut.Properties.C11
/-!
# C11 — monitor soundness

The harness evaluates the executable predicates `Spec.partitionOK` / `Spec.alignSpec` on the output of the
REAL `date.NewPartition` / `Partition.Align`.  Here they are proved to hold of the model's output for every
window, every interval and every `last` (positive or not).  Hence a monitor alarm on the real code is a
genuine deviation from the proved behaviour (the model satisfies the predicate, so either the code differs
from the model or it violates the property), never an artefact of the predicate.
-/
namespace Knut.C11
open Knut Knut.Date Knut.Spec

/-- **monitor soundness (partition)**: the executable predicate the monitor evaluates on the real
output accepts the model's output, for every window, interval and `last`. -/
theorem partitionOK_of_model (span : Period) (iv : Interval) (last : Int) (P : Partition)
    (h : newPartition span iv last = .ok P) :
    Spec.partitionOK span.start span.stop iv last P.periods = true := by
  by_cases hiv : iv = .once
  · subst hiv; rw [periods_once h]; simp [partitionOK]
  · by_cases hinv : span.stop < span.start
    · rw [C11_inverted h hiv hinv]
      simp [partitionOK, hiv, hinv]
    · obtain ⟨L0, n, ht, hp, h0, h1⟩ := periods_shape h hiv
      rw [hp]
      exact partitionOK_of_tiles hiv (by omega) ht h0 h1

/-- **monitor soundness (Align)**: for every window, interval, `last` and probe day `d` the model's
`Align` returns exactly what `alignSpec` computes from the shown periods. -/
theorem alignSpec_of_model (span : Period) (iv : Interval) (last : Int) (P : Partition)
    (h : newPartition span iv last = .ok P) (d : Int) :
    P.align d = Spec.alignSpec span.stop P.periods d := by
  unfold Partition.align
  by_cases hiv : iv = .once
  · subst hiv
    rw [periods_once h]
    unfold alignIn alignSpec
    by_cases hbd : span.stop < d
    · simp [hbd]
    · by_cases hs : span.start ≤ d
      · have : d ≤ span.stop := by omega
        simp [hbd, hs, this]
      · have h1 : d < span.start := by omega
        simp [hbd, hs, h1]
  · obtain ⟨_, _, hch, hb⟩ := shown_chained h hiv
    exact alignIn_eq_alignSpec _ _ _ hch hb (shown_periods h hiv).2.2

/-! Non-vacuity: the hypothesis is satisfiable (2020-01-15 … 2020-03-10, with and without `--last`),
and the predicates are not trivially true: they reject a list that does not reach the window end, and
`alignSpec` disagrees with a wrong answer. -/
example : ∃ P, newPartition ⟨737438, 737493⟩ .monthly 0 = .ok P := by
  unfold newPartition; simp
example : ∃ P, newPartition ⟨737438, 737493⟩ .monthly 2 = .ok P := by
  unfold newPartition; simp
example : Spec.partitionOK 1 10 .daily 0 [⟨1, 1⟩, ⟨2, 2⟩] = false := by decide
example : Spec.partitionOK 1 2 .daily 0 [⟨1, 1⟩, ⟨2, 2⟩] = true := by decide
example : Spec.partitionOK 1 2 .daily 0 [⟨1, 2⟩] = false := by decide
example : Spec.alignSpec 2 [⟨1, 1⟩, ⟨2, 2⟩] 2 = some 2 := by decide

end Knut.C11
