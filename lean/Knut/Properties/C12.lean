import Knut.Proofs.PricesDays
import Knut.FactsAgree.C12
import Knut.Proofs.PricesSpec
/-!
# C12 — Derived prices are consistent with declared prices

Setting: `decls` are the price declarations in journal order (day by day, file order within a
day), `insertAll [] decls = some ps` says that `Prices.Insert` accepted all of them and built
the price map `ps`, `normalize ps v` is `ps.Normalize(v)`, and `find c (normalize ps v)` is
`NormalizedPrices.Price(c)` (`none` = the "no price found" error).  `latest decls a b` is the
most recent declaration of the unordered pair `{a, b}` read as the price of `b` in `a`
(`Spec/PriceSpec.lean`).  `multiply x y = Truncate(8)(x · y)`, `recip p = Truncate(8)(Div(1, p))`.

All statements hold for every list of declarations (any graph: trees, alternative paths, cycles,
disconnected parts, self-priced commodities), every order, every redeclaration, every `v`.
-/
namespace Knut.C12
open Knut Knut.Dec Knut.Prices Knut.Spec

/-- **self**: the valuation commodity has price 1. -/
theorem C12_self (decls : List Decl) (ps : Prices) (v : Commodity) (_h : insertAll [] decls = some ps) :
    find v (normalize ps v) = some 1 :=
  normalize_self ps v

/-- **direct**: a commodity whose pair with `v` is declared gets the latest declared price of the
pair — as `Multiply(latest, 1)`, i.e. cut to 8 decimals (see `C12_direct_exact_partial`). -/
theorem C12_direct (decls : List Decl) (ps : Prices) (v c : Commodity) (p : Rat)
    (h : insertAll [] decls = some ps) (hcv : c ≠ v) (hl : latest decls v c = some p) :
    find c (normalize ps v) = some (multiply p 1) :=
  normalize_direct ps v c p hcv (by rw [edge_eq_latest decls ps h]; exact hl)

/-- "latest" spelled out: `price c p v`, not followed by another declaration of the pair, gives `c`
the price `Truncate(8)(p)` in `v` — whatever else is declared, in particular whatever indirect
chains from `c` to `v` exist (a traversal that follows the first chain it finds answers with one of them).
`hne`: a declaration `price c p c` is about no pair, and `C12_self` gives `c` the price 1 in itself. -/
theorem C12_direct_declared (pre post : List Decl) (d : Decl) (ps : Prices)
    (h : insertAll [] (pre ++ d :: post) = some ps) (hne : d.commodity ≠ d.target)
    (hpost : ∀ d' ∈ post, ¬ mentions d' d.target d.commodity) :
    find d.commodity (normalize ps d.target) = some (multiply d.price 1) :=
  C12_direct _ ps d.target d.commodity d.price h hne
    (latest_of_last pre post d d.target d.commodity ⟨rfl, rfl⟩ (fun e => hne e.symm) hpost)

/-- … and declared the other way round (`price v p c`), `c` gets exactly the reciprocal
`Truncate(8)(Div(1, p))`. -/
theorem C12_direct_reciprocal (pre post : List Decl) (d : Decl) (ps : Prices)
    (h : insertAll [] (pre ++ d :: post) = some ps) (hne : d.commodity ≠ d.target)
    (hpost : ∀ d' ∈ post, ¬ mentions d' d.commodity d.target) :
    find d.target (normalize ps d.commodity) = some (recip d.price) := by
  rw [← multiply_recip_one]
  exact C12_direct _ ps d.commodity d.target (recip d.price) h (fun e => hne e.symm)
    (latest_of_last_rev pre post d d.commodity d.target ⟨rfl, rfl⟩ hpost)

/-- Full statement of the property's second clause: "the price is the most recent declared price
when the pair is declared directly", i.e. `find c (normalize ps v) = some p`.  This is FALSE for
the code as it stands when `p` has more than 8 decimals (`price AAA 1.123456789 CHF` gives
1.12345678): `Normalize` multiplies every stored price by the price of the commodity it was
reached from, and `Multiply` truncates.  Recorded as known finding
`direct-price-cut-to-8-decimals`.  What is proved: the declared price exactly, whenever cutting it
to 8 decimals does not change it. -/
theorem C12_direct_exact_partial (decls : List Decl) (ps : Prices) (v c : Commodity) (p : Rat)
    (h : insertAll [] decls = some ps) (hcv : c ≠ v) (hl : latest decls v c = some p)
    (h8 : trunc 8 p = p) : find c (normalize ps v) = some p := by
  rw [C12_direct decls ps v c p h hcv hl]
  simp [multiply, multiplyPlaces, Rat.mul_one, h8]

/-- in particular for every declared price with at most 8 decimals (`p = k / 10^8`). -/
theorem C12_direct_exact_8_decimals_partial (decls : List Decl) (ps : Prices) (v c : Commodity) (k : Int)
    (h : insertAll [] decls = some ps) (hcv : c ≠ v) (hl : latest decls v c = some (mkRat k (10 ^ 8))) :
    find c (normalize ps v) = some (mkRat k (10 ^ 8)) :=
  C12_direct_exact_partial decls ps v c _ h hcv hl (trunc_mkRat 8 k)

/-- **chain**: any price returned is the fold of `Multiply` along a chain of latest declared prices
starting at `v` (price 1); the chain is simple (no commodity twice). -/
theorem C12_chain (decls : List Decl) (ps : Prices) (v c : Commodity) (x : Rat)
    (h : insertAll [] decls = some ps) (hx : find c (normalize ps v) = some x) :
    ∃ path, chainFrom (latest decls) v 1 path = some (c, x) ∧ (v :: path).Nodup := by
  obtain ⟨path, h1, h2, _⟩ := normalize_chain ps v c x hx
  rw [edge_eq_latest decls ps h] at h1
  exact ⟨path, h1, h2⟩

/-- **unreachable**: a commodity has no price exactly if no chain of declarations connects it to `v`. -/
theorem C12_unreachable (decls : List Decl) (ps : Prices) (v c : Commodity)
    (h : insertAll [] decls = some ps) :
    find c (normalize ps v) = none ↔ ¬ Connected (latest decls) v c := by
  rw [← edge_eq_latest decls ps h, ← normalize_isSome_iff]
  cases find c (normalize ps v) <;> simp

/-- … so valuing it fails, and valuing a connected commodity is `Multiply(amount, price)`. -/
theorem C12_valuate_missing_is_error (np : NPrices) (c : Commodity) (a : Rat) :
    (npValuate np c a = none ↔ npPrice np c = none) ∧
    (∀ p, npPrice np c = some p → npValuate np c a = some (multiply a p)) := by
  unfold npValuate npPrice
  cases find c np <;> simp

/-- **zero rejected**: `Insert` fails exactly for a zero price … -/
theorem C12_zero_rejected (ps : Prices) (d : Decl) : insert ps d = none ↔ d.price = 0 :=
  insert_eq_none_iff ps d

/-- … hence a list of declarations is accepted exactly if none has a zero price. -/
theorem C12_zero_rejected_all (decls : List Decl) :
    insertAll [] decls = none ↔ ∃ d ∈ decls, d.price = 0 :=
  insertAll_eq_none_iff decls []

/-- **map order**: the result does not depend on the order in which Go enumerates the keys of the
price maps.  Any reordering of the outer association list, followed by any reordering of every
inner one, gives the same table (the traversal sorts the keys it ranges over, and looks up the rest). -/
theorem C12_order_irrelevant (decls : List Decl) (ps ps1 ps2 : Prices) (v : Commodity)
    (h : insertAll [] decls = some ps) (houter : ps.Perm ps1) (hinner : InnerPerm ps1 ps2) :
    normalize ps2 v = normalize ps v := by
  have hwf := wf_insertAll decls [] ps wf_nil h
  obtain ⟨h1, e1⟩ := edge_perm hwf houter
  obtain ⟨h2, e2⟩ := edge_innerPerm hinner h1
  exact (normalize_ext hwf.2 h2 (fun a b => (e1 a b).trans (e2 a b)) v).symm

/-- the monitor's predicate holds of the model for every input … -/
theorem C12_priceOK (decls : List Decl) (ps : Prices) (v : Commodity) (h : insertAll [] decls = some ps) :
    priceOK decls v (normalize ps v) = true := by
  have he := edge_eq_latest decls ps h
  have hL := normalize_loopInv ps v
  simp only [priceOK, Bool.and_eq_true]
  refine ⟨⟨⟨?_, ?_⟩, ?_⟩, ?_⟩
  · simp [selfOK, normalize_self]
  · simp only [directOK, List.all_eq_true, Bool.or_eq_true, decide_eq_true_eq]
    intro c _
    by_cases hcv : c = v
    · exact Or.inl hcv
    · right
      cases hl : latest decls v c with
      | none => rfl
      | some p => simp [C12_direct decls ps v c p h hcv hl]
  · simp only [chainOK, List.all_eq_true]
    intro c hc
    have hs := (isSome_iff_mem_keys _ c).mpr hc
    cases hf : find c (normalize ps v) with
    | none => simp [hf] at hs
    | some x =>
      obtain ⟨path, h1, h2, h3⟩ := normalize_chain ps v c x hf
      rw [he] at h1
      have hnd := List.nodup_cons.mp h2
      apply reach_complete (latest decls) _ c x path _ [v] v 1 h1 (by omega) _ hnd.2
      · intro d hd hm
        simp only [List.mem_singleton] at hm
        subst hm; exact hnd.1 hd
      · intro d hd
        obtain ⟨a, ha⟩ := chainFrom_nodes _ _ _ _ _ h1 d hd
        cases hl : latest decls a d with
        | none => simp [hl] at ha
        | some q => exact List.mem_cons_of_mem _ (latest_mem_names decls a d q hl).2
  · simp only [closedOK, List.all_eq_true, Bool.or_eq_true, Bool.not_eq_true']
    intro c hc n _
    have hs := (isSome_iff_mem_keys _ c).mpr hc
    cases hl : latest decls c n with
    | none => left; rfl
    | some q =>
      right
      rcases hL.closed c hs with hq | hcl
      · simp at hq
      · exact hcl n (by rw [he, hl]; rfl)

/-- … and what the predicate means for any observed table `N` (in particular the real code's):
the four clauses of the property. -/
theorem C12_priceOK_sound (decls : List Decl) (v : Commodity) (N : NPrices) (h : priceOK decls v N = true) :
    find v N = some 1 ∧
    (∀ c p, c ≠ v → latest decls v c = some p → find c N = some (multiply p 1)) ∧
    (∀ c x, find c N = some x → ∃ path, chainFrom (latest decls) v 1 path = some (c, x)) ∧
    (∀ c, find c N = none ↔ ¬ Connected (latest decls) v c) :=
  priceOK_sound decls v N h

/-- **on a given day**: `journal.ComputePrices(v)` leaves in `Day.Normalized` of day `i` the table
`Normalize(v)` of the map holding all declarations of days `0 … i`, in journal order — carried over
unchanged on days without prices — and nil (no price for anything) before the first declaration. -/
theorem C12_day (v : Commodity) (days : List Day) (out : List (Int × Option NPrices))
    (h : computePrices v {} days = some out) (i : Nat) (hi : i < days.length) :
    ∃ ps, insertAll [] (declsUpTo days i) = some ps ∧
      out[i]? = some (days[i].date, if declsUpTo days i = [] then none else some (normalize ps v)) := by
  have := (computePrices_spec v days {} [] out rfl rfl h).2 i hi
  simpa using this

/-- **journal order**: `journal.Builder` turns the dated directives of a journal (in file order) into days
with strictly ascending dates, one for every date that occurs, each holding the price declarations
of its date in file order.  Together with `C12_day`: the table of a day is `Normalize` of all
declarations dated up to that day, inserted day by day, in file order within a day — so "latest"
is the last declaration of the pair in that order. -/
theorem C12_journal_order (ds : List (Int × Option Decl)) :
    (dayDates (buildDays ds)).Pairwise (· < ·) ∧
    (∀ d, d ∈ dayDates (buildDays ds) ↔ ∃ e ∈ ds, e.1 = d) ∧
    (∀ day ∈ buildDays ds, day.prices = pricesOn ds day.date) :=
  let h := buildDays_inv ds
  ⟨h.sorted, h.dates, h.prices⟩

/-- the traversal terminates for every price map: the loop is a well-founded recursion on
`unvisited + queue length`, which every pass decreases (recorded here as the fact that justifies it). -/
theorem C12_loop_measure (ps : Prices) (c : Commodity) (rest : List Commodity) (res : NPrices) :
    unvisited ps ((neighbors ps c).foldl (visit ps c) (rest, res)).2
        + ((neighbors ps c).foldl (visit ps c) (rest, res)).1.length
      < unvisited ps res + (c :: rest).length := by
  have := visitAll_measure ps c (neighbors ps c) (rest, res) (neighbors_sub_universe ps c)
  simp only [List.length_cons] at this ⊢
  omega

/-! Non-vacuity: `AAA 2 CHF`, `BBB 3 CHF`, `AAA 5 BBB`, on which a depth-first traversal can answer 15 for AAA (the defect
repaired in /repo).  The declarations are accepted, AAA is declared
directly against CHF, and the theorems give it the price `Multiply(2, 1)`. -/
def witness : List Decl := [⟨"AAA", 2, "CHF"⟩, ⟨"BBB", 3, "CHF"⟩, ⟨"AAA", 5, "BBB"⟩]

example : ∃ ps, insertAll [] witness = some ps := ⟨_, rfl⟩
example : latest witness "CHF" "AAA" = some 2 := by decide
example : ∀ ps, insertAll [] witness = some ps → find "AAA" (normalize ps "CHF") = some (multiply 2 1) :=
  fun ps h => C12_direct witness ps "CHF" "AAA" 2 h (by decide) (by decide)
example : Connected (latest witness) "CHF" "BBB" := Connected.step Connected.refl (by decide)
example : insertAll [] [⟨"AAA", 0, "CHF"⟩] = none := by decide

end Knut.C12
