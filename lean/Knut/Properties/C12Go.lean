import Knut.Properties.C12
import Knut.FactsAgree.TransPrice
/-!
# C12 on the generated definitions

The theorems of `Properties/C12.lean` are about the hand-written model (`insertAll`, `normalize`, `find`); the agreement
theorems of `FactsAgree/TransPrice.lean` prove the definitions generated from `/repo`'s `lib/model/price/prices.go`
equal to it up to lookup equivalence.  This module composes the two: the clauses of C12 are stated about

* `insertAllGo`: `Go.price.Prices.Insert` called once per declaration from the empty map, stopping at the first error
  (what the `Price` callback of `journal.ComputePrices` does),
* `Go.price.Prices.Normalize g v fuel` on the map `g` these calls built — the translated breadth-first search, whose
  `for len(queue) > 0` loop takes its fuel as an explicit parameter: every `fuel ≥ 2·|decls| + 1` is adequate
  (`Normalize_ok`; in the model's terms every `fuel ≥ unvisited + 1`),
* `Go.price.NormalizedPrices.Price` / `Valuate` on the table that comes back.

Go values: a commodity is the interned pointer `cGo cur name` (`cur` = the `IsCurrency` flag every name carries: all
statements hold for every `cur`).  The Go maps are association lists in SOME order of their entries; `normalize` ranges over
`dict.SortedKeys`, so no iteration order is a parameter of the generated definition — `C12_order_irrelevant_go` says that the
order of the entries of the Go maps (outer and inner) cannot show.
-/
namespace Knut.C12Go
open Knut Knut.Dec Knut.Prices Knut.Spec
open Knut.Generated.Go
open Knut.FactsAgree.TransPrice

/-- `Prices.Insert` for every declaration in order, stopping at the first error -/
def insertAllGo (cur : String → Bool) (g : price.Prices) : List Decl → GoSem.Outcome (price.Prices × Option GoSem.Error)
  | [] => .ok (g, none)
  | d :: ds =>
    GoSem.Outcome.bind (price.Prices.Insert g (cGo cur d.commodity) d.price (cGo cur d.target)) (fun r =>
      match r.2 with
      | none => insertAllGo cur r.1 ds
      | some e => .ok (r.1, some e))

theorem insertAllGo_cases (cur : String → Bool) : ∀ (ds : List Decl) (g : price.Prices) (m : Prices), PEquivS cur g m →
    (∃ g' m', insertAllGo cur g ds = .ok (g', none) ∧ insertAll m ds = some m' ∧ PEquivS cur g' m') ∨
    (∃ g', insertAllGo cur g ds = .ok (g', some ⟨"invalid price %s for commodity %s in %s"⟩) ∧ insertAll m ds = none)
  | [], g, m, h => .inl ⟨g, m, rfl, rfl, h⟩
  | d :: ds, g, m, h => by
    rcases Insert_cases cur h d with ⟨g', m', hI, hm, h'⟩ | ⟨hI, hm⟩
    · simpa only [insertAllGo, insertAll, hI, hm, GoSem.Outcome.bind] using insertAllGo_cases cur ds g' m' h'
    · exact .inr ⟨g, by simp only [insertAllGo, hI, GoSem.Outcome.bind], by simp only [insertAll, hm]⟩

/-- the Go calls accept exactly the lists the model accepts, and build an equivalent map (keys included) -/
theorem insertAllGo_agrees (cur : String → Bool) : ∀ (ds : List Decl) (g : price.Prices) (m : Prices), PEquivS cur g m →
    match insertAllGo cur g ds, insertAll m ds with
    | GoSem.Outcome.ok (g', none), some m' => PEquivS cur g' m'
    | GoSem.Outcome.ok (_, some e), none => e = ⟨"invalid price %s for commodity %s in %s"⟩
    | _, _ => False := by
  intro ds g m h
  rcases insertAllGo_cases cur ds g m h with ⟨g', m', hI, hm, h'⟩ | ⟨g', hI, hm⟩
  · rw [hI, hm]; exact h'
  · rw [hI, hm]

theorem insertAllGo_ok {cur : String → Bool} {decls : List Decl} {g : price.Prices}
    (h : insertAllGo cur [] decls = GoSem.Outcome.ok (g, none)) :
    ∃ ps, insertAll [] decls = some ps ∧ PEquivS cur g ps := by
  rcases insertAllGo_cases cur decls [] [] (PEquivS_nil cur) with ⟨g', m', hI, hm, h'⟩ | ⟨g', hI, _⟩
  · rw [hI] at h; cases h; exact ⟨m', hm, h'⟩
  · rw [hI] at h; cases h

/-- **the bridge**: on the map built by the Go `Insert` calls, the translated `Normalize` with any fuel from `2·|decls| + 1`
on ends normally (never `outOfFuel`, never an index panic) in a table whose every lookup is the model's. -/
theorem Normalize_ok {cur : String → Bool} {decls : List Decl} {g : price.Prices}
    (h : insertAllGo cur [] decls = GoSem.Outcome.ok (g, none)) (v : Commodity) (fuel : Nat)
    (hf : 2 * decls.length + 1 ≤ fuel) :
    ∃ ps N, insertAll [] decls = some ps ∧ price.Prices.Normalize g (cGo cur v) fuel = GoSem.Outcome.ok N ∧
      NPEquiv cur N (normalize ps v) := by
  obtain ⟨ps, hps, he⟩ := insertAllGo_ok h
  obtain ⟨N, hN, hn⟩ := Normalize_agrees cur he v fuel (fuel_of_decls hps v hf)
  exact ⟨ps, N, hps, hN, hn⟩

theorem Normalize_model {cur : String → Bool} {decls : List Decl} {g : price.Prices} {N : price.NormalizedPrices} {v : Commodity}
    {fuel : Nat} (h : insertAllGo cur [] decls = GoSem.Outcome.ok (g, none)) (hf : 2 * decls.length + 1 ≤ fuel)
    (hN : price.Prices.Normalize g (cGo cur v) fuel = GoSem.Outcome.ok N) :
    ∃ ps, insertAll [] decls = some ps ∧ NPEquiv cur N (normalize ps v) := by
  obtain ⟨ps, N', hps, hN', hn⟩ := Normalize_ok h v fuel hf
  rw [hN] at hN'
  exact ⟨ps, hps, GoSem.Outcome.ok.inj hN' ▸ hn⟩

/-- the same for every map equivalent to a model map and every fuel above the model's measure (the general form) -/
theorem Normalize_ok_of_equiv {cur : String → Bool} {g : price.Prices} {ps : Prices} (he : PEquivS cur g ps)
    (v : Commodity) (fuel : Nat) (hf : unvisited ps [(v, 1)] + 1 ≤ fuel) :
    ∃ N, price.Prices.Normalize g (cGo cur v) fuel = GoSem.Outcome.ok N ∧ NPEquiv cur N (normalize ps v) :=
  Normalize_agrees cur he v fuel hf

/-- **self**: the valuation commodity has price 1 -/
theorem C12_self_go {cur : String → Bool} {decls : List Decl} {g : price.Prices} {N : price.NormalizedPrices}
    {v : Commodity} {fuel : Nat} (h : insertAllGo cur [] decls = GoSem.Outcome.ok (g, none))
    (hf : 2 * decls.length + 1 ≤ fuel) (hN : price.Prices.Normalize g (cGo cur v) fuel = GoSem.Outcome.ok N) :
    price.NormalizedPrices.Price N (cGo cur v) = (1, none) := by
  obtain ⟨ps, hps, hn⟩ := Normalize_model h hf hN
  exact (Price_some hn v 1).mpr (C12.C12_self decls ps v hps)

/-- **direct**: a commodity whose pair with `v` is declared gets the latest declared price of the pair, as the generated
`Multiply(latest, 1)` -/
theorem C12_direct_go {cur : String → Bool} {decls : List Decl} {g : price.Prices} {N : price.NormalizedPrices}
    {v : Commodity} {fuel : Nat} (h : insertAllGo cur [] decls = GoSem.Outcome.ok (g, none))
    (hf : 2 * decls.length + 1 ≤ fuel) (hN : price.Prices.Normalize g (cGo cur v) fuel = GoSem.Outcome.ok N)
    (c : Commodity) (p : Rat) (hcv : c ≠ v) (hl : latest decls v c = some p) :
    price.NormalizedPrices.Price N (cGo cur c) = (price.Multiply p 1, none) := by
  obtain ⟨ps, hps, hn⟩ := Normalize_model h hf hN
  rw [Multiply_agrees]
  exact (Price_some hn c _).mpr (C12.C12_direct decls ps v c p hps hcv hl)

/-- … the declared price exactly whenever cutting it to 8 decimals does not change it (the full clause is false for the
code as it stands: known finding `direct-price-cut-to-8-decimals`) -/
theorem C12_direct_exact_go_partial {cur : String → Bool} {decls : List Decl} {g : price.Prices}
    {N : price.NormalizedPrices} {v : Commodity} {fuel : Nat}
    (h : insertAllGo cur [] decls = GoSem.Outcome.ok (g, none))
    (hf : 2 * decls.length + 1 ≤ fuel) (hN : price.Prices.Normalize g (cGo cur v) fuel = GoSem.Outcome.ok N)
    (c : Commodity) (p : Rat) (hcv : c ≠ v) (hl : latest decls v c = some p) (h8 : trunc 8 p = p) :
    price.NormalizedPrices.Price N (cGo cur c) = (p, none) := by
  obtain ⟨ps, hps, hn⟩ := Normalize_model h hf hN
  exact (Price_some hn c _).mpr (C12.C12_direct_exact_partial decls ps v c p hps hcv hl h8)

/-- declared the other way round (`price v p c`, not redeclared), `c` gets the stored reciprocal `Truncate(8)(Div(1, p))` -/
theorem C12_direct_reciprocal_go {cur : String → Bool} (pre post : List Decl) (d : Decl) {g : price.Prices}
    {N : price.NormalizedPrices} {fuel : Nat}
    (h : insertAllGo cur [] (pre ++ d :: post) = GoSem.Outcome.ok (g, none))
    (hf : 2 * (pre ++ d :: post).length + 1 ≤ fuel)
    (hN : price.Prices.Normalize g (cGo cur d.commodity) fuel = GoSem.Outcome.ok N)
    (hne : d.commodity ≠ d.target) (hpost : ∀ d' ∈ post, ¬ mentions d' d.commodity d.target) :
    price.NormalizedPrices.Price N (cGo cur d.target) = (recip d.price, none) := by
  obtain ⟨ps, hps, hn⟩ := Normalize_model h hf hN
  exact (Price_some hn _ _).mpr (C12.C12_direct_reciprocal pre post d ps hps hne hpost)

/-- **chain**: any price the generated `Price` returns is the fold of `Multiply` along a simple chain of latest declared
prices starting at `v` (`chainFrom` folds the model's `multiply`, which is the generated `Multiply`: `Multiply_agrees`) -/
theorem C12_chain_go {cur : String → Bool} {decls : List Decl} {g : price.Prices} {N : price.NormalizedPrices}
    {v : Commodity} {fuel : Nat} (h : insertAllGo cur [] decls = GoSem.Outcome.ok (g, none))
    (hf : 2 * decls.length + 1 ≤ fuel) (hN : price.Prices.Normalize g (cGo cur v) fuel = GoSem.Outcome.ok N)
    (c : Commodity) (x : Rat) (hx : price.NormalizedPrices.Price N (cGo cur c) = (x, none)) :
    ∃ path, chainFrom (latest decls) v 1 path = some (c, x) ∧ (v :: path).Nodup := by
  obtain ⟨ps, hps, hn⟩ := Normalize_model h hf hN
  exact C12.C12_chain decls ps v c x hps ((Price_some hn c x).mp hx)

/-- **unreachable**: `Price` answers "no price found" exactly for the commodities that no chain of declarations connects
to `v` … -/
theorem C12_unreachable_go {cur : String → Bool} {decls : List Decl} {g : price.Prices} {N : price.NormalizedPrices}
    {v : Commodity} {fuel : Nat} (h : insertAllGo cur [] decls = GoSem.Outcome.ok (g, none))
    (hf : 2 * decls.length + 1 ≤ fuel) (hN : price.Prices.Normalize g (cGo cur v) fuel = GoSem.Outcome.ok N)
    (c : Commodity) :
    price.NormalizedPrices.Price N (cGo cur c) = (0, some ⟨"no price found for %v in %v"⟩)
      ↔ ¬ Connected (latest decls) v c := by
  obtain ⟨ps, hps, hn⟩ := Normalize_model h hf hN
  rw [Price_error hn c]
  exact C12.C12_unreachable decls ps v c hps

/-- … and `Valuate` fails exactly then; otherwise it is `Multiply(amount, price)` -/
theorem C12_valuate_go {cur : String → Bool} {decls : List Decl} {g : price.Prices} {N : price.NormalizedPrices}
    {v : Commodity} {fuel : Nat} (h : insertAllGo cur [] decls = GoSem.Outcome.ok (g, none))
    (hf : 2 * decls.length + 1 ≤ fuel) (hN : price.Prices.Normalize g (cGo cur v) fuel = GoSem.Outcome.ok N)
    (c : Commodity) (a : Rat) :
    (¬ Connected (latest decls) v c →
      price.NormalizedPrices.Valuate N (cGo cur c) a = (0, some ⟨"no price found for %v in %v"⟩)) ∧
    (∀ p, price.NormalizedPrices.Price N (cGo cur c) = (p, none) →
      price.NormalizedPrices.Valuate N (cGo cur c) a = (price.Multiply a p, none)) := by
  obtain ⟨ps, hps, hn⟩ := Normalize_model h hf hN
  have hv := Valuate_agrees cur N _ hn c a
  constructor
  · intro hc
    have := (C12.C12_unreachable decls ps v c hps).mpr hc
    rw [hv]; unfold npValuate; rw [this]
  · intro p hp
    have := (Price_some hn c p).mp hp
    rw [hv, Multiply_agrees]; unfold npValuate; rw [this]

/-- **zero rejected**: the Go `Insert` calls fail — with the "invalid price" error, never a panic — exactly when some
declaration has a zero price; otherwise they all succeed -/
theorem C12_zero_rejected_go (cur : String → Bool) (decls : List Decl) :
    ((∃ d ∈ decls, d.price = 0) ∧
      ∃ g, insertAllGo cur [] decls = GoSem.Outcome.ok (g, some ⟨"invalid price %s for commodity %s in %s"⟩)) ∨
    ((∀ d ∈ decls, d.price ≠ 0) ∧ ∃ g, insertAllGo cur [] decls = GoSem.Outcome.ok (g, none)) := by
  have hz := C12.C12_zero_rejected_all decls
  rcases insertAllGo_cases cur decls [] [] (PEquivS_nil cur) with ⟨g, ps, hI, hm, _⟩ | ⟨g, hI, hm⟩
  · refine .inr ⟨fun d hd h0 => ?_, g, hI⟩
    have := hz.mpr ⟨d, hd, h0⟩
    rw [hm] at this; cases this
  · exact .inl ⟨hz.mp hm, g, hI⟩

/-! ### map order

The entries of a Go map have no order; an association list has one.  `GoSame g g'`: `g'` holds the entries of `g` in another
order, outer and inner (`GoWF`: no key twice — what `m[k] = v` maintains).  Every such `g'` is equivalent to the same model map,
so the translated `Normalize` gives the same prices on it. -/

def GoWF (g : price.Prices) : Prop := (g.map Prod.fst).Nodup ∧ ∀ e ∈ g, (e.2.map Prod.fst).Nodup

inductive InnerSame : price.Prices → price.Prices → Prop
  | nil : InnerSame [] []
  | cons {k : commodity.Commodity} {i i' : price.NormalizedPrices} {l l' : price.Prices} :
      i.Perm i' → InnerSame l l' → InnerSame ((k, i) :: l) ((k, i') :: l')

def GoSame (g g' : price.Prices) : Prop := ∃ g1 : price.Prices, g.Perm g1 ∧ InnerSame g1 g'

theorem InnerSame.forall₂ {g g' : price.Prices} (h : InnerSame g g') :
    List.Forall₂ (fun e e' => e.1 = e'.1 ∧ e.2.Perm e'.2) g g' := by
  induction h with
  | nil => exact .nil
  | cons hp _ ih => exact .cons ⟨rfl, hp⟩ ih

theorem PEquivS_of_same {cur : String → Bool} {g g' : price.Prices} {m : Prices} (h : PEquivS cur g m) (hw : GoWF g)
    (hs : GoSame g g') : PEquivS cur g' m := by
  obtain ⟨g1, hp, hf⟩ := hs
  intro a
  have h3 := h a
  rw [Knut.AMap.find?_perm hp hw.1 (cGo cur a)] at h3
  rcases Knut.AMap.find?_forall₂ hf.forall₂ (cGo cur a) with ⟨h1, h2⟩ | ⟨i, i', h1, h2, hperm⟩
  · rw [h1] at h3; rw [h2]; exact h3
  · rw [h1] at h3; rw [h2]
    cases hm : find a m with
    | none => rw [hm] at h3; exact h3
    | some mi =>
      rw [hm] at h3
      have hin : (i.map Prod.fst).Nodup := hw.2 _ (hp.mem_iff.mpr (Knut.AMap.mem_of_find? h1))
      exact ⟨fun c => by rw [← Knut.AMap.find?_perm hperm hin]; exact h3.lookup c, ((hperm.map Prod.fst).symm).trans h3.keys, h3.nodup⟩

theorem GoWF_addPrice (g : price.Prices) (t c : commodity.Commodity) (p : Rat) (h : GoWF g) :
    GoWF (price.Prices.addPrice g t c p) := by
  unfold price.Prices.addPrice
  refine ⟨Knut.AMap.nodupKeys_set h.1 _ _, ?_⟩
  intro e he
  rcases Knut.AMap.mem_set _ _ _ e he with he | he
  · subst he
    apply Knut.AMap.nodupKeys_set
    unfold GoSem.getDefault
    cases hf : Knut.AMap.find? g t with
    | none => simp [price.newNormalizedPrices, Knut.AMap.NodupKeys]
    | some i => exact h.2 _ (Knut.AMap.mem_of_find? hf)
  · exact h.2 e he

theorem GoWF_Insert {g g' : price.Prices} {c t : commodity.Commodity} {p : Rat} {e : Option GoSem.Error} (h : GoWF g)
    (hi : price.Prices.Insert g c p t = GoSem.Outcome.ok (g', e)) : GoWF g' := by
  unfold price.Prices.Insert at hi
  split at hi
  · injection hi with hi; injection hi with h1 _; subst h1; exact h
  · cases hd : GoSem.Decimal.Div price.one p with
    | ok q =>
      simp only [hd, GoSem.Outcome.bind] at hi
      injection hi with hi; injection hi with h1 _; subst h1
      exact GoWF_addPrice _ _ _ _ (GoWF_addPrice _ _ _ _ h)
    | panic m => simp [hd, GoSem.Outcome.bind] at hi
    | outOfFuel => simp [hd, GoSem.Outcome.bind] at hi

/-- the maps built by `Insert` calls have no key twice -/
theorem GoWF_insertAllGo (cur : String → Bool) : ∀ (ds : List Decl) (g g' : price.Prices) (e : Option GoSem.Error),
    GoWF g → insertAllGo cur g ds = GoSem.Outcome.ok (g', e) → GoWF g' := by
  intro ds
  induction ds with
  | nil => intro g g' e h hi; simp [insertAllGo] at hi; rw [← hi.1]; exact h
  | cons d ds ih =>
    intro g g' e h hi
    simp only [insertAllGo] at hi
    cases hI : price.Prices.Insert g (cGo cur d.commodity) d.price (cGo cur d.target) with
    | ok r =>
      obtain ⟨g1, e1⟩ := r
      rw [hI] at hi
      simp only [GoSem.Outcome.bind] at hi
      have hw := GoWF_Insert h hI
      cases e1 with
      | none => exact ih g1 g' e hw hi
      | some e1 => simp at hi; rw [← hi.1]; exact hw
    | panic m => rw [hI] at hi; simp [GoSem.Outcome.bind] at hi
    | outOfFuel => rw [hI] at hi; simp [GoSem.Outcome.bind] at hi

/-- **map order**: whatever order the entries of the Go maps are enumerated in (any reordering `g'` of the map `g` the
`Insert` calls built, outer and inner), the translated `Normalize` ends normally and `Price` answers the same for every
commodity. -/
theorem C12_order_irrelevant_go {cur : String → Bool} {decls : List Decl} {g g' : price.Prices}
    {N : price.NormalizedPrices} {v : Commodity} {fuel : Nat}
    (h : insertAllGo cur [] decls = GoSem.Outcome.ok (g, none)) (hs : GoSame g g')
    (hf : 2 * decls.length + 1 ≤ fuel) (hN : price.Prices.Normalize g (cGo cur v) fuel = GoSem.Outcome.ok N) :
    ∃ N', price.Prices.Normalize g' (cGo cur v) fuel = GoSem.Outcome.ok N' ∧
      ∀ c, price.NormalizedPrices.Price N' (cGo cur c) = price.NormalizedPrices.Price N (cGo cur c) := by
  obtain ⟨ps, hps, he⟩ := insertAllGo_ok h
  have hw : GoWF g := GoWF_insertAllGo cur decls [] g none ⟨by simp, by simp⟩ h
  have he' := PEquivS_of_same he hw hs
  obtain ⟨N1, hN1, hn1⟩ := Normalize_agrees cur he v fuel (fuel_of_decls hps v hf)
  obtain ⟨N2, hN2, hn2⟩ := Normalize_agrees cur he' v fuel (fuel_of_decls hps v hf)
  rw [hN] at hN1; injection hN1 with e; subst e
  refine ⟨N2, hN2, ?_⟩
  intro c
  rw [Price_agrees cur _ _ hn1 c, Price_agrees cur _ _ hn2 c]

/-- the fuel does not show either: two adequate fuels give the same prices -/
theorem C12_fuel_irrelevant_go {cur : String → Bool} {decls : List Decl} {g : price.Prices} {v : Commodity}
    {f1 f2 : Nat} (h : insertAllGo cur [] decls = GoSem.Outcome.ok (g, none))
    (h1 : 2 * decls.length + 1 ≤ f1) (h2 : 2 * decls.length + 1 ≤ f2) :
    ∃ N1 N2, price.Prices.Normalize g (cGo cur v) f1 = GoSem.Outcome.ok N1 ∧
      price.Prices.Normalize g (cGo cur v) f2 = GoSem.Outcome.ok N2 ∧
      ∀ c, price.NormalizedPrices.Price N1 (cGo cur c) = price.NormalizedPrices.Price N2 (cGo cur c) := by
  obtain ⟨ps, N1, hps, hN1, hn1⟩ := Normalize_ok h v f1 h1
  obtain ⟨ps', N2, hps', hN2, hn2⟩ := Normalize_ok h v f2 h2
  rw [hps] at hps'; injection hps' with e; subst e
  refine ⟨N1, N2, hN1, hN2, ?_⟩
  intro c
  rw [Price_agrees cur _ _ hn1 c, Price_agrees cur _ _ hn2 c]

/-! ### Non-vacuity: `C12.witness` (`AAA 2 CHF`, `BBB 3 CHF`, `AAA 5 BBB`: a depth-first traversal could answer 15 for AAA) run through the
generated definitions: the three `Insert` calls succeed, `Normalize` with fuel 7 = 2·3 + 1 ends, and `Price` answers
`Multiply(2, 1)` = 2 for AAA (not 15). -/
def cur0 : String → Bool := fun _ => false

example : ∃ g N, insertAllGo cur0 [] C12.witness = GoSem.Outcome.ok (g, none) ∧
    price.Prices.Normalize g (cGo cur0 "CHF") 7 = GoSem.Outcome.ok N ∧
    price.NormalizedPrices.Price N (cGo cur0 "AAA") = (price.Multiply 2 1, none) ∧
    price.NormalizedPrices.Price N (cGo cur0 "CHF") = (1, none) := by
  rcases C12_zero_rejected_go cur0 C12.witness with ⟨⟨d, hd, h0⟩, _⟩ | ⟨_, g, hg⟩
  · exfalso; revert d; decide
  · obtain ⟨ps, N, hps, hN, hn⟩ := Normalize_ok hg "CHF" 7 (by decide)
    exact ⟨g, N, hg, hN, C12_direct_go hg (by decide) hN "AAA" 2 (by decide) (by decide),
      C12_self_go hg (by decide) hN⟩
example : price.Multiply 2 1 = 2 := by decide +kernel
example : insertAllGo cur0 [] [⟨"AAA", 0, "CHF"⟩] =
    GoSem.Outcome.ok ([], some ⟨"invalid price %s for commodity %s in %s"⟩) := by decide +kernel

end Knut.C12Go
