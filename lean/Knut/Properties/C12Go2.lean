import Knut.Properties.C12
import Knut.FactsAgree.TransProcessAllBalance
/-!
# C12 over the days of a journal, on the generated definitions

`Properties/C12.lean` `C12_day`: `journal.ComputePrices(v)` leaves in `Day.Normalized` of day `i` the table `Normalize(v)` of the map
holding all declarations of days `0 … i` (nil before the first declaration) — about the model `Prices.computePrices`.
`Properties/C12Go.lean` ties the clauses about ONE table to the translated `Prices.Insert`/`Normalize`/`Price`.  This module ties the
clause over the DAYS: `FactsAgree/TransProcess.lean` proves the translated closures of `ComputePrices` (`Price`, `DayEnd`), run over a
day by `Processor.Process` (`processDay (computePricesProc …)`), equal to the model's day step (`ComputePrices_day_agrees`); here they are
folded over the days of a journal from the constructor's initial state (`cpDaysGo`, the sequential meaning of `Journal.Process` for this
one processor — goroutines and channels are not translated, see C19).

The Go days stand for the model days through their price directives only (`DayPricesRel`: dates and `Src` pointers arbitrary).
The fuel family is a hypothesis (`FuelOK`: on every day at least the model's termination measure `unvisited + 1` of the search on the
map after the day's inserts; `C12Go.Normalize_ok` bounds that measure by `2·|declarations| + 1`).  An explicit family in terms of
the Go state (`|keys of g.prc| + 2·|dg.Prices| + 2` would do) is not exhibited here, so the non-vacuity example is the empty journal only.
-/
namespace Knut.C12Go2
open Knut Knut.GoSem Knut.Prices
open Knut.Generated.Go
open Knut.FactsAgree.TransProcess Knut.FactsAgree.TransProcessAll
open Knut.FactsAgree.TransPrice (cGo)

/-- a declaration as a price directive of the journal (the date plays no role for `ComputePrices`) -/
def priceOf (date : Int) (x : Decl) : Knut.Price := ⟨date, x.commodity, x.price, x.target⟩

def DayPricesRel (cur : String → Bool) (dg : journal.Day) (d : Prices.Day) : Prop :=
  AllRel (PriceRel cur) dg.Prices (d.prices.map (priceOf d.date))

theorem insertPrices_map (date : Int) : ∀ (decls : List Decl) (graph : Prices.Prices),
    insertPrices graph (decls.map (priceOf date)) =
      match insertAll graph decls with
      | some g => .ok g
      | none => .error BalErr.zeroPrice := fun decls graph =>
  (Prices.foldlM_insert_eq_insertAll BalErr.zeroPrice (fun p : Knut.Price => (⟨p.commodity, p.price, p.target⟩ : Decl)) _ graph).trans
    (by rw [List.map_map, show ((fun p : Knut.Price => (⟨p.commodity, p.price, p.target⟩ : Decl)) ∘ priceOf date) = id from rfl, List.map_id]; rfl)

/-- `ComputePrices(v)` over the days in order (each day through `Processor.Process`, the captured state going from day to day); the
first error ends the run -/
def cpDaysGo (vG : commodity.Commodity) (fuel : journal.ComputePrices.State → journal.Day → Nat) :
    journal.ComputePrices.State → List journal.Day → GoSem.Outcome (List journal.Day × Option GoSem.Error)
  | _, [] => .ok ([], none)
  | g, dg :: rest =>
    (processDay (computePricesProc vG (fuel g dg)) g dg).bind fun r =>
      match r.2.2 with
      | some e => .ok ([], some e)
      | none => (cpDaysGo vG fuel r.1 rest).bind fun r2 => .ok (r.2.1 :: r2.1, r2.2)

theorem cpDay_go (cur : String → Bool) (v : Knut.Commodity) (fuel : Nat) {g : journal.ComputePrices.State} (st : CPState)
    (h : CPEquiv cur g st.prc st.previous) (dg : journal.Day) (d : Prices.Day) (hps : DayPricesRel cur dg d)
    (hfuel : ∀ graph', insertPrices st.prc (d.prices.map (priceOf d.date)) = .ok graph' → Prices.unvisited graph' [(v, 1)] + 1 ≤ fuel)
    (st' : CPState) (n : Option NPrices) (hm : cpDay v st d = some (st', n)) :
    ∃ g', processDay (computePricesProc (cGo cur v) fuel) g dg = .ok (g', { dg with Normalized := g'.previous }, none) ∧
      CPEquiv cur g' st'.prc st'.previous ∧ n = st'.previous := by
  have h1 := ComputePrices_day_agree cur v fuel (g := g) { graph := st.prc, norm := st.previous } h dg
    { date := d.date, prices := d.prices.map (priceOf d.date) } hps hfuel
  rw [pricesDay_eq] at h1
  simp only [insertPrices_map] at h1
  unfold cpDay at hm
  cases hi : insertAll st.prc d.prices with
  | none => simp [hi] at hm
  | some prc =>
    simp only [hi, Option.some.injEq, Prod.mk.injEq] at hm h1
    obtain ⟨hst, hn⟩ := hm
    subst hst
    obtain ⟨g1, _, hr, hc, rfl, _, _⟩ := h1.of_model_ok
    refine ⟨g1, hr, ?_, hn.symm⟩
    have hnorm : (if (d.prices.map (priceOf d.date)).isEmpty = true then st.previous else some (normalize prc v)) =
        (if d.prices.length > 0 then some (normalize prc v) else st.previous) := by
      cases d.prices <;> simp
    simp only [hnorm] at hc
    exact hc

/-- **`ComputePrices` over all days** = the model's `computePrices` -/
theorem cpDays_agrees (cur : String → Bool) (v : Knut.Commodity) (fuel : journal.ComputePrices.State → journal.Day → Nat)
    (hfuel : FuelOK cur v fuel) :
    ∀ (days : List Prices.Day) (gdays : List journal.Day) (g : journal.ComputePrices.State) (st : CPState)
      (out : List (Int × Option NPrices)), CPEquiv cur g st.prc st.previous → AllRel (DayPricesRel cur) gdays days →
      computePrices v st days = some out →
      ∃ outG, cpDaysGo (cGo cur v) fuel g gdays = .ok (outG, none) ∧
        AllRel (fun (p : journal.Day × journal.Day) (o : Int × Option NPrices) =>
          p.2 = { p.1 with Normalized := p.2.Normalized } ∧ NPEquivO cur p.2.Normalized o.2) (gdays.zip outG) out ∧
        outG.length = gdays.length := by
  intro days
  induction days with
  | nil =>
    intro gdays g st out _ hrel hm
    cases hrel
    simp only [computePrices, Option.some.injEq] at hm
    subst hm
    exact ⟨[], rfl, .nil, rfl⟩
  | cons d rest ih =>
    intro gdays g st out hc hrel hm
    cases hrel with
    | cons hd hrest =>
      rename_i dg grest
      simp only [computePrices] at hm
      cases hcd : cpDay v st d with
      | none => simp [hcd] at hm
      | some r =>
        obtain ⟨st', n⟩ := r
        simp only [hcd] at hm
        cases hr : computePrices v st' rest with
        | none => simp [hr] at hm
        | some outr =>
          simp only [hr, Option.some.injEq] at hm
          subst hm
          obtain ⟨g', hgo, hc', hn⟩ := cpDay_go cur v (fuel g dg) st hc dg d hd
            (fun graph' hg => hfuel g dg st.prc st.previous { date := d.date, prices := d.prices.map (priceOf d.date) } hc hd graph' hg)
            st' n hcd
          obtain ⟨outG, hgo2, hall, hlen⟩ := ih grest g' st' outr hc' hrest hr
          refine ⟨{ dg with Normalized := g'.previous } :: outG, ?_, ?_, by simp [hlen]⟩
          · simp only [cpDaysGo, hgo, GoSem.Outcome.bind, hgo2]
          · simp only [List.zip_cons_cons]
            refine .cons ⟨rfl, ?_⟩ hall
            rw [hn]
            exact hc'.previous

/-- **on a given day, on the translated closures**: `Normalized` of day `i` after `ComputePrices(v)` answers every lookup as
`Normalize(v)` of the map holding all declarations of days `0 … i`, in journal order; before the first declaration it has no price
for anything (Go's nil map); the day is otherwise unchanged -/
theorem C12_day_go (cur : String → Bool) (v : Knut.Commodity) (fuel : journal.ComputePrices.State → journal.Day → Nat)
    (hfuel : FuelOK cur v fuel) (days : List Prices.Day) (gdays : List journal.Day) (hrel : AllRel (DayPricesRel cur) gdays days)
    (out : List (Int × Option NPrices)) (h : computePrices v {} days = some out) :
    ∃ outG, cpDaysGo (cGo cur v) fuel ⟨GoZero.zero, []⟩ gdays = .ok (outG, none) ∧ outG.length = gdays.length ∧
      ∀ (i : Nat) (hi : i < days.length) (h1 : i < gdays.length) (h2 : i < outG.length),
        outG[i] = { gdays[i] with Normalized := outG[i].Normalized } ∧
        ∃ ps, insertAll [] (declsUpTo days i) = some ps ∧
          ∀ c : Knut.Commodity, Knut.AMap.find? outG[i].Normalized (cGo cur c) =
            if declsUpTo days i = [] then none else Prices.find c (normalize ps v) := by
  have hinit : CPEquiv cur (⟨GoZero.zero, []⟩ : journal.ComputePrices.State) ({} : CPState).prc ({} : CPState).previous :=
    ⟨Knut.FactsAgree.TransPrice.PEquivS_nil cur, NPEquivO_nil cur⟩
  obtain ⟨outG, hgo, hall, hlen⟩ := cpDays_agrees cur v fuel hfuel days gdays _ {} out hinit hrel h
  refine ⟨outG, hgo, hlen, ?_⟩
  intro i hi h1 h2
  obtain ⟨ps, hps, hout⟩ := C12.C12_day v days out h i hi
  have hz : i < (gdays.zip outG).length := by simp [List.length_zip, hlen]; omega
  have ho : i < out.length := by
    have := AllRel_length hall
    omega
  have hrel_i := AllRel_get hall i hz ho
  have ho' : out[i] = (days[i].date, if declsUpTo days i = [] then none else some (normalize ps v)) := by
    rw [List.getElem?_eq_getElem ho] at hout
    injection hout
  rw [List.getElem_zip, ho'] at hrel_i
  obtain ⟨hday, hN⟩ := hrel_i
  refine ⟨hday, ps, hps, fun c => ?_⟩
  rw [hN c]
  by_cases he : declsUpTo days i = []
  · simp [he]
  · simp [he]

/-! ### Non-vacuity: the journal without days: the run succeeds on no day -/
example (cur : String → Bool) (fuel : journal.ComputePrices.State → journal.Day → Nat) :
    cpDaysGo (cGo cur "CHF") fuel ⟨GoZero.zero, []⟩ [] = .ok ([], none) := rfl

end Knut.C12Go2
