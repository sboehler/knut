import Knut.Proofs.ImportCards
import Knut.Proofs.ImportAccounts
import Knut.Proofs.ImportBrokers
import Knut.Proofs.ImportIB
import Knut.Proofs.ImportFaithful
/-!
# C13 — importers turn every statement row into a valid, faithful journal entry

**Property.** For each bank importer and every well-formed statement, the emitted text is valid for knut's own
parser and, once the accounts it uses are opened, is accepted and re-printed unchanged; each booking row of the
statement yields exactly one transaction on the row's date whose effect on the import account is the row's signed
amount in the row's currency, and nothing else is emitted except the balance assertions and prices the statement
itself carries.  Whatever characters occur in free-text fields, the output stays syntactically valid.

**What is modelled.**  `Model/Import/*.lean`: one executable model per importer (all eleven) from the records as
`encoding/csv` / `encoding/json` decoded them to the directives added to the `journal.Builder`, with explicit
`error` / `panic` outcomes; the output text is `JournalPrinter.print` of those directives (the model of
`journal.Print`, C09).  `Spec/ImportItems.lean` is the specification side: per format, which records are booking
rows, their date / currency / signed amount, and the balances and prices the statement carries.
`Spec/ImportSpec.lean` says what *faithful* means (`Faithful`: the directives are the statement's items one for
one, in order; a booking item is matched by a transaction on its date whose net effect on the import account is
the stated amount in *every* commodity and which has at least one booking).

**Proved here, for all record lists of any length and any field contents** (all eleven importers; the flags' accounts
and the counter account `Expenses:TBD` must differ from the import account, otherwise a posting pair cancels itself):

* `C13_<importer>` — if the importer succeeds, its directives are `Faithful` to the statement: booking row ↦ exactly
  one transaction, on the row's date, with exactly the row's effect on the import account; carried balances and
  prices verbatim; nothing else (same length, pointwise).  Readings of `Faithful`: `C13_count`,
  `C13_booking_row`, `C13_nothing_else`.
* `C13_<importer>_wellformed` — every emitted directive is `wellFormed`: transactions have at least one booking (a
  zero-amount row still yields its booking line), all account and commodity names are valid names for knut's parser,
  the stored description has no double quote, whatever the free-text fields contain.
* `C13_monitor_complete` / `C13_monitor_sound` — the executable predicate the monitor evaluates on the REAL output
  (`faithfulB`) holds of faithful directives, and whenever it holds the directives are, up to the reordering
  `journal.Print` applies, faithful.
* `C13_description_has_no_quote`, `C13_replaceQuotes_idempotent` — the description a built transaction stores contains
  no double quote (`transaction.Builder.Build` replaces `"` by `'`, /repo 7934e0c), and replacing again, as the printer does,
  changes nothing: the day's transactions are sorted by the very text that is printed.
* witnesses of the places where a format is *not* one-row-one-transaction
  (`wise_conversion_two_transactions`, `swissquote_forex_pair_one_transaction`), and
  `swissquote_sale_without_proceeds_is_a_sale`: the share sign follows the row type (/repo c9fcfe1).

**The text-level clause** (the emitted text is valid for knut's parser and, once the accounts are opened, accepted and
re-printed unchanged) is `Properties/C13Text.lean`, on top of C09's print-then-parse theorems: `C13_text_valid` for the eight
importers that emit transactions and prices only; for `revolut2`, `revolut`, `us.interactivebrokers`, whose output carries the
statement's balances, `C13_text_valid_iff_consistent` (accepted iff the balance column is consistent with the amounts).  What it
needs from here are the eleven `<importer>_yields` behind the theorems of this file.
-/
namespace Knut.C13
open Knut Knut.Import Knut.Spec.Import Knut.Proofs.Import

/-- `ch.swisscard2`: every record after the header ↦ one transaction on `Transaktionsdatum` lowering the card account by `Betrag` `Währung`.
`hacct` (here and below): every booking's counter account is `Expenses:TBD`; booked against itself the posting pair cancels and the
row has no effect. -/
theorem C13_swisscard2 (acct : Account) (hacct : acct ≠ tbd) (recs : List Rec) (ds : List Directive)
    (h : Swisscard2.run acct recs = .ok ds) : Faithful acct (swisscard2 recs) ds :=
  (swisscard2_yields true acct recs ds h).faithful hacct

/-- `ch.swisscard`: every record whose first two fields hold dates ↦ one transaction lowering the card account by the billing amount in CHF -/
theorem C13_swisscard (acct : Account) (hacct : acct ≠ tbd) (recs : List Rec) (ds : List Directive)
    (h : Swisscard.run acct recs = .ok ds) : Faithful acct (swisscard recs) ds :=
  (swisscard_yields true acct recs ds h).faithful hacct

/-- `ch.supercard`: every booking record ↦ one transaction: `Gutschrift` raises, `Belastung` lowers the account -/
theorem C13_supercard (acct : Account) (hacct : acct ≠ tbd) (recs : List Rec) (ds : List Directive)
    (h : Supercard.run acct recs = .ok ds) : Faithful acct (supercard recs) ds :=
  (supercard_yields true acct recs ds h).faithful hacct

/-- `ch.cumulus`: booking and rounding lines ↦ one transaction each; FX comment lines change descriptions only -/
theorem C13_cumulus (acct : Account) (hacct : acct ≠ tbd) (recs : List Rec) (ds : List Directive)
    (h : Cumulus.run acct recs = .ok ds) : Faithful acct (cumulus recs) ds :=
  (cumulus_yields true acct recs ds h).faithful hacct

/-- `ch.postfinance`: the records of the booking block ↦ one transaction each in the statement's currency -/
theorem C13_postfinance (acct : Account) (hacct : acct ≠ tbd) (recs : List Rec) (ds : List Directive)
    (h : Postfinance.run acct recs = .ok ds) : Faithful acct (postfinance recs) ds :=
  (postfinance_yields true acct recs ds h).faithful hacct

/-- `revolut2`: completed rows ↦ one transaction each (amount minus fee); then one balance per (day, currency): the last row's -/
theorem C13_revolut2 (acct fee : Account) (hacct : acct ≠ tbd) (hfee : acct ≠ fee) (recs : List Rec) (ds : List Directive)
    (h : Revolut2.run acct fee recs = .ok ds) : Faithful acct (revolut2 recs) ds :=
  (revolut2_yields acct fee recs ds h).faithful ⟨hacct, hfee⟩

/-- `revolut`: every row ↦ one transaction (exchange rows move both currencies), preceded by the day's balance at each change of date.
`hval`: an exchange row (`Sold … to …`, `Bought … from …`) is booked against `ValuationAccountFor(account)`, not `Expenses:TBD`;
that counter account must differ from the import account for the same reason. -/
theorem C13_revolut (acct : Account) (hacct : acct ≠ tbd) (hval : acct ≠ valuationAccountFor acct) (recs : List Rec)
    (ds : List Directive) (h : Revolut.run acct recs = .ok ds) : Faithful acct (revolut recs) ds :=
  (revolut_yields acct recs ds h).faithful ⟨hacct, hval⟩

/-- `com.wise`: rows that are not cancelled ↦ their transaction(s): one, or conversion + payment (see `wise_conversion_two_transactions`) -/
theorem C13_wise (acct feeAcct trading : Account) (hacct : acct ≠ tbd) (hfee : acct ≠ feeAcct) (htr : acct ≠ trading)
    (recs : List Rec) (ds : List Directive) (h : Wise.run acct feeAcct trading recs = .ok ds) :
    Faithful acct (wise recs) ds :=
  (wise_yields true acct feeAcct trading recs ds h).faithful ⟨hacct, hfee, htr⟩

/-- `ch.viac`: every non-zero daily value on or after `--from` ↦ one price (rounded to cents); no transactions at all -/
theorem C13_viac (a : Account) (com : Commodity) (fromDay : Int) (es : List (String × String)) (ds : List Directive)
    (h : Viac.run com fromDay es = .ok ds) : Faithful a (viac com fromDay es) ds :=
  (viac_yields true a com fromDay es ds h).faithful trivial

/-- `ch.swissquote`: every row ↦ one transaction changing the cash account by `Nettobetrag` (trades also move the
shares; dividends are gross minus tax); a forex pair ↦ one transaction (see `swissquote_forex_pair_one_transaction`) -/
theorem C13_swissquote (a : Swissquote.Accts) (ok : AcctsOK a) (recs : List Rec) (ds : List Directive)
    (h : Swissquote.run a recs = .ok ds) : Faithful a.account (swissquote recs) ds :=
  (swissquote_yields true a recs ds h).faithful ok

/-- `us.interactivebrokers`: trades, deposits / withdrawals, dividends, interest and withholding tax rows ↦ one transaction
each (amounts as the importer rounds them, see `C13-interactivebrokers-rounds-to-cents`); open positions and forex balances ↦
balances on the last day of the statement period; every other record ↦ nothing -/
theorem C13_interactivebrokers (a : Swissquote.Accts) (ok : AcctsOK a) (recs : List Rec) (ds : List Directive)
    (h : IB.run a recs = .ok ds) : Faithful a.account (interactivebrokers recs) ds :=
  (interactivebrokers_yields a recs ds h).faithful ok

/-! ## Every emitted directive is well-formed (the hypothesis of the print-then-parse round trip)

`wellFormed`: a transaction's stored description contains no double quote, it has at least one booking and its postings
come in pairs; every account is a valid account
name (a type and non-empty alphanumeric segments), every commodity (also the `@performance` targets) a non-empty
alphanumeric name — for the character class of knut's registry **and** parser (`unicode.IsLetter/IsDigit`, regenerated
tables).  Hypothesis: the flags' accounts are ones the registry accepted (`AccOK`, implied by `accountFlag s = .ok a`:
`accOK_of_flag`).  Free-text fields only reach descriptions, where `transaction.Builder.Build` neutralises the one
character the syntax cannot carry. -/

theorem C13_swisscard2_wellformed (acct : Account) (ha : AccOK acct) (recs : List Rec) (ds : List Directive)
    (h : Swisscard2.run acct recs = .ok ds) : ∀ d ∈ ds, wellFormed alnum d = true := (swisscard2_yields true acct recs ds h).wf ha
theorem C13_swisscard_wellformed (acct : Account) (ha : AccOK acct) (recs : List Rec) (ds : List Directive)
    (h : Swisscard.run acct recs = .ok ds) : ∀ d ∈ ds, wellFormed alnum d = true := (swisscard_yields true acct recs ds h).wf ha
theorem C13_supercard_wellformed (acct : Account) (ha : AccOK acct) (recs : List Rec) (ds : List Directive)
    (h : Supercard.run acct recs = .ok ds) : ∀ d ∈ ds, wellFormed alnum d = true := (supercard_yields true acct recs ds h).wf ha
theorem C13_cumulus_wellformed (acct : Account) (ha : AccOK acct) (recs : List Rec) (ds : List Directive)
    (h : Cumulus.run acct recs = .ok ds) : ∀ d ∈ ds, wellFormed alnum d = true := (cumulus_yields true acct recs ds h).wf ha
theorem C13_postfinance_wellformed (acct : Account) (ha : AccOK acct) (recs : List Rec) (ds : List Directive)
    (h : Postfinance.run acct recs = .ok ds) : ∀ d ∈ ds, wellFormed alnum d = true :=
  (postfinance_yields true acct recs ds h).wf ha
theorem C13_revolut2_wellformed (acct fee : Account) (ha : AccOK acct) (hf : AccOK fee) (recs : List Rec) (ds : List Directive)
    (h : Revolut2.run acct fee recs = .ok ds) : ∀ d ∈ ds, wellFormed alnum d = true := (revolut2_yields acct fee recs ds h).wf ⟨ha, hf⟩
theorem C13_revolut_wellformed (acct : Account) (ha : AccOK acct) (recs : List Rec) (ds : List Directive)
    (h : Revolut.run acct recs = .ok ds) : ∀ d ∈ ds, wellFormed alnum d = true := (revolut_yields acct recs ds h).wf ha
theorem C13_wise_wellformed (acct feeAcct trading : Account) (ha : AccOK acct) (hf : AccOK feeAcct) (ht : AccOK trading)
    (recs : List Rec) (ds : List Directive) (h : Wise.run acct feeAcct trading recs = .ok ds) :
    ∀ d ∈ ds, wellFormed alnum d = true := (wise_yields true acct feeAcct trading recs ds h).wf ⟨ha, hf, ht⟩
theorem C13_viac_wellformed (com : Commodity) (hcom : ComOK com) (fromDay : Int) (es : List (String × String))
    (ds : List Directive) (h : Viac.run com fromDay es = .ok ds) : ∀ d ∈ ds, wellFormed alnum d = true :=
  (viac_yields true tbd com fromDay es ds h).wf hcom
theorem C13_swissquote_wellformed (a : Swissquote.Accts) (v : AcctsValid a) (recs : List Rec) (ds : List Directive)
    (h : Swissquote.run a recs = .ok ds) : ∀ d ∈ ds, wellFormed alnum d = true := (swissquote_yields true a recs ds h).wf v
theorem C13_interactivebrokers_wellformed (a : Swissquote.Accts) (v : AcctsValid a) (recs : List Rec) (ds : List Directive)
    (h : IB.run a recs = .ok ds) : ∀ d ∈ ds, wellFormed alnum d = true := (interactivebrokers_yields a recs ds h).wf v

/-- **the stored description of every emitted transaction has no double quote** (it is what `journal.Sort` compares and,
up to the printer's idempotent replacement, what is printed) -/
theorem C13_description_has_no_quote (t : Transaction) (h : wellFormed alnum (.tx t) = true) :
    ∀ c ∈ t.description.toList, c ≠ '"' := by
  unfold wellFormed at h
  simp only [Bool.and_eq_true, List.all_eq_true] at h
  intro c hc
  have := h.1.1.1.1 c hc
  simpa using this

/-- replacing the quotes of a built description again changes nothing: the printer's own replacement is idle -/
theorem C13_replaceQuotes_idempotent (s : String) : replaceQuotes (replaceQuotes s) = replaceQuotes s :=
  FromSyntax.descText_id _ fun h => by simpa using List.all_eq_true.mp (replaceQuotes_no_quote s) _ h

/-- the accounts the driver (like the registry) accepts as flags are `AccOK` -/
theorem C13_flag_accounts_ok (s : String) (a : Account) (h : accountFlag s = .ok a) : AccOK a := accOK_of_flag h

/-- no row dropped or doubled: as many directives as items -/
theorem C13_count (a : Account) (items : List Item) (ds : List Directive) (h : Faithful a items ds) :
    ds.length = items.length := (forall₂_zip (all2_iff.mp h)).1.symm

/-- **each booking row yields exactly one transaction on the row's date whose effect on the import account is the row's
signed amount in the row's currency** (and zero in every other commodity): the `i`-th item, if a booking row, is matched by
the `i`-th directive, a transaction with that date and that effect, with at least one booking -/
theorem C13_booking_row (a : Account) (items : List Item) (ds : List Directive) (h : Faithful a items ds)
    (i : Nat) (date : Int) (effs : List (Commodity × Rat)) (hi : items[i]? = some (.booking date effs)) :
    ∃ t, ds[i]? = some (.tx t) ∧ t.date = date ∧ (∀ c, effectOn a c t.postings = expected effs c) ∧ t.postings ≠ [] := by
  obtain ⟨d, hd, hm⟩ := forall₂_get (all2_iff.mp h) i _ hi
  cases d with
  | tx t => exact ⟨t, hd, hm⟩
  | price _ => exact absurd hm (by simp [Matches])
  | opening _ => exact absurd hm (by simp [Matches])
  | assertion _ => exact absurd hm (by simp [Matches])
  | closing _ => exact absurd hm (by simp [Matches])

/-- **nothing else is emitted**: every directive is the one an item of the statement asks for (a booking row's transaction,
a carried balance on the import account, a carried price) -/
theorem C13_nothing_else (a : Account) (items : List Item) (ds : List Directive) (h : Faithful a items ds)
    (i : Nat) (d : Directive) (hd : ds[i]? = some d) : ∃ it, items[i]? = some it ∧ Matches a it d :=
  forall₂_get (forall₂_flip (all2_iff.mp h)) i d hd

/-- in particular no `open`/`close` directive is ever emitted -/
theorem C13_no_open_close (a : Account) (items : List Item) (ds : List Directive) (h : Faithful a items ds) (d : Directive)
    (hd : d ∈ ds) : (∀ o, d ≠ .opening o) ∧ (∀ c, d ≠ .closing c) := by
  obtain ⟨i, hi⟩ := List.getElem?_of_mem hd
  obtain ⟨it, _, hm⟩ := C13_nothing_else a items ds h i d hi
  refine ⟨fun o ho => ?_, fun c hc => ?_⟩
  · subst ho; cases it <;> simp [Matches] at hm
  · subst hc; cases it <;> simp [Matches] at hm

/-- `ch.swisscard2`: exactly one transaction per record after the header, and nothing else -/
theorem C13_swisscard2_one_tx_per_row (acct : Account) (hacct : acct ≠ tbd) (recs : List Rec) (ds : List Directive)
    (h : Swisscard2.run acct recs = .ok ds) : ds.length = recs.length - 1 ∧ ∀ d ∈ ds, ∃ t, d = .tx t := by
  have hf := C13_swisscard2 acct hacct recs ds h
  refine ⟨?_, ?_⟩
  · rw [C13_count acct _ ds hf]
    unfold swisscard2
    have : ∀ l : List Rec, (l.flatMap swisscard2Row).length = l.length := by
      intro l; induction l with
      | nil => rfl
      | cons r l ih => simp [List.flatMap_cons, swisscard2Row, ih]
    rw [this, List.length_drop]
  · intro d hd
    obtain ⟨i, hi⟩ := List.getElem?_of_mem hd
    obtain ⟨it, hit, hm⟩ := C13_nothing_else acct _ ds hf i d hi
    have : ∃ date effs, it = .booking date effs := by
      have hmem := List.mem_of_getElem? hit
      unfold swisscard2 at hmem
      simp only [List.mem_flatMap] at hmem
      obtain ⟨r, _, hr⟩ := hmem
      simp [swisscard2Row] at hr
      exact ⟨_, _, hr⟩
    obtain ⟨date, effs, hb⟩ := this
    subst hb
    cases d with
    | tx t => exact ⟨t, rfl⟩
    | price _ => exact absurd hm (by simp [Matches])
    | opening _ => exact absurd hm (by simp [Matches])
    | assertion _ => exact absurd hm (by simp [Matches])
    | closing _ => exact absurd hm (by simp [Matches])

/-- the executable predicate holds of the model's output (all inputs): `P x (M x)` -/
theorem C13_monitor_complete (a : Account) (items : List Item) (ds : List Directive) (h : Faithful a items ds) :
    faithfulB a items ds = true := by
  induction h with
  | nil => rfl
  | cons hab _ ih =>
    unfold faithfulB
    rw [removeFirst_head _ _ _ ((matchesB_iff a _ _).mpr hab)]
    exact ih

/-- whenever the executable predicate accepts directives read back from an output, they are — up to the order in which
`journal.Print` lists them — faithful to the items -/
theorem C13_monitor_sound (a : Account) (items : List Item) (ds : List Directive) (h : faithfulB a items ds = true) :
    ∃ ds', ds'.Perm ds ∧ Faithful a items ds' := by
  induction items generalizing ds with
  | nil =>
    simp [faithfulB] at h
    subst h
    exact ⟨[], List.Perm.refl _, All2.nil⟩
  | cons i is ih =>
    unfold faithfulB at h
    split at h
    · cases h
    · rename_i ds1 hrm
      obtain ⟨d, hd, hperm⟩ := removeFirst_perm _ _ _ hrm
      obtain ⟨ds2, hp2, hf⟩ := ih ds1 h
      exact ⟨d :: ds2, (List.Perm.cons d hp2).trans hperm.symm, All2.cons ((matchesB_iff a i d).mp hd) hf⟩

theorem C13_matchesB_iff (a : Account) (i : Item) (d : Directive) : matchesB a i d = true ↔ Matches a i d :=
  matchesB_iff a i d

/-! ## Non-vacuity, and the places where a format or the code deviates (kernel-checked witnesses) -/

def card : Account := ⟨["Liabilities", "Card"]⟩
def bank : Account := ⟨["Assets", "Bank"]⟩
def hdr12 : Rec := ["Transaktionsdatum", "Beschreibung", "Händler", "Kartennummer", "Währung", "Betrag", "Fremdwährung",
  "Betrag in Fremdwährung", "Debit/Kredit", "Status", "Händlerkategorie", "Registrierte Kategorie"]
def row1 : Rec := ["06.07.2024", "say \"hi\"; x", "aa", "11", "CHF", "72.60", "", "", "Belastung", "Gebucht", "Familie", "STORES"]
def row0 : Rec := ["07.07.2024", "zero", "aa", "11", "EUR", "0.00", "", "", "Belastung", "Gebucht", "Familie", "STORES"]

theorem swisscard2_row_ok (acct : Account) (r : Rec) (d : Int) (q : Rat) (desc : String) (hl : r.length = 12)
    (hd : parseDate layoutDMYdot (fldD r 0) = some d) (hc : validCommodity (fldD r 4) = true)
    (hq : newFromString (fldD r 5) = some q)
    (hdesc : joinWith " / " [fldD r 1, fldD r 2, fldD r 10, fldD r 3, fldD r 11, fldD r 8] = desc) :
    Swisscard2.row acct r = .ok [mkTx d desc [⟨acct, tbd, fldD r 4, q⟩]] := by
  unfold Swisscard2.row mustCommodity
  rw [if_neg (by omega), hd, hq, if_pos hc, hdesc]
  rfl

-- row by row: evaluating both sides whole would run `replaceQuotes` on either description, which is slow in the kernel
theorem witness_run : Swisscard2.run card [hdr12, row1, row0] =
    .ok [mkTx 739072 "say \"hi\"; x / aa / Familie / 11 / STORES / Belastung" [⟨card, tbd, "CHF", 363/5⟩],
         mkTx 739073 "zero / aa / Familie / 11 / STORES / Belastung" [⟨card, tbd, "EUR", 0⟩]] := by
  have r1 : Swisscard2.row card row1 =
      .ok [mkTx 739072 "say \"hi\"; x / aa / Familie / 11 / STORES / Belastung" [⟨card, tbd, "CHF", 363/5⟩]] :=
    swisscard2_row_ok card row1 _ _ _ rfl (by decide +kernel) (by decide +kernel) (by decide +kernel) (by decide +kernel)
  have r0 : Swisscard2.row card row0 = .ok [mkTx 739073 "zero / aa / Familie / 11 / STORES / Belastung" [⟨card, tbd, "EUR", 0⟩]] :=
    swisscard2_row_ok card row0 _ _ _ rfl (by decide +kernel) (by decide +kernel) (by decide +kernel) (by decide +kernel)
  show mapRows (Swisscard2.row card) [row1, row0] = _
  simp only [mapRows, r1, r0]
  rfl

/-- the hypothesis of `C13_swisscard2` is satisfiable: the model imports a statement (with a quote and a separator in the
free text, and a zero amount) … -/
example : Swisscard2.run card [hdr12, row1, row0] =
    .ok [mkTx 739072 "say \"hi\"; x / aa / Familie / 11 / STORES / Belastung" [⟨card, tbd, "CHF", 363/5⟩],
         mkTx 739073 "zero / aa / Familie / 11 / STORES / Belastung" [⟨card, tbd, "EUR", 0⟩]] := witness_run

/-- … and the specification reads two booking rows from it: 72.60 CHF off the card on 2024-07-06, 0 EUR on 2024-07-07 -/
example : swisscard2 [hdr12, row1, row0] = [.booking 739072 [("CHF", -(363/5 : Rat))], .booking 739073 [("EUR", -0)]] := by
  decide +kernel

/-- the predicate is not trivially true: the sign-flipped transaction is rejected -/
example : matchesB card (.booking 5 [("CHF", -3)]) (mkTx 5 "x" [⟨card, tbd, "CHF", 3⟩]) = true ∧
    matchesB card (.booking 5 [("CHF", 3)]) (mkTx 5 "x" [⟨card, tbd, "CHF", 3⟩]) = false ∧
    matchesB card (.booking 6 [("CHF", -3)]) (mkTx 5 "x" [⟨card, tbd, "CHF", 3⟩]) = false ∧
    faithfulB card [.booking 5 [("CHF", -3)]] [mkTx 5 "x" [⟨card, tbd, "CHF", 3⟩], mkTx 5 "x" [⟨card, tbd, "CHF", 3⟩]] = false ∧
    faithfulB card [.booking 5 [("CHF", -3)], .booking 5 [("CHF", -3)]] [mkTx 5 "x" [⟨card, tbd, "CHF", 3⟩]] = false := by
  decide +kernel

def wiseRow1 : Rec := ["CARD_TRANSACTION-12", "COMPLETED", "OUT", "2024-01-11 15:20:30", "2024-01-11 15:20:30", "0.06", "CHF", "", "",
  "Rocky", "12.25", "CHF", "Linkt", "21.53", "AUD", "1.75685000", "", ""]

/-- number of directives and number of transactions among them of a successful run -/
def counts : Res (List Directive) → Option (Nat × Nat)
  | .ok ds => some (ds.length, (ds.filter (fun d => match d with | .tx _ => true | _ => false)).length)
  | _ => none

/-- `com.wise` books a card payment in a foreign currency as TWO transactions (conversion, then payment): the literal
"exactly one transaction per row" does not hold for this format (recorded as `C13-wise-conversion-two-transactions`) -/
theorem wise_conversion_two_transactions :
    (wiseRow wiseRow1).length = 2 ∧
    counts (Wise.row bank ⟨["Expenses", "Fees"]⟩ ⟨["Expenses", "Trading"]⟩ wiseRow1) = some (2, 2) := by
  decide +kernel

def sqAccts : Swissquote.Accts := ⟨bank, ⟨["Income", "Dividends"]⟩, ⟨["Expenses", "Tax"]⟩, ⟨["Expenses", "Fees"]⟩,
  ⟨["Income", "Interest"]⟩, ⟨["Expenses", "Trading"]⟩⟩
def sqHdr : Rec := ["Datum", "Auftrag #", "Transaktionen", "Symbol", "Name", "ISIN", "Anzahl", "Stückpreis", "Kosten",
  "Aufgelaufene Zinsen", "Nettobetrag", "Saldo", "Währung"]
def sqFx1 : Rec := ["09-10-2020 12:13:40", "0", "Forex-Gutschrift", "", "", "", "1.0", "830.07", "0.00", "0.00", "830.07", "798.82", "CHF"]
def sqFx2 : Rec := ["09-10-2020 12:13:40", "0", "Forex-Belastung", "", "", "", "1.0", "918.00", "0.00", "0.00", "-918.00", "0.80", "USD"]
def sqSale : Rec := ["09-10-2020 12:17:42", "7", "Verkauf", "VWRL", "Vanguard", "IE00", "8.0", "0.00", "12.90", "0.00", "-12.90", "85.12", "CHF"]

/-- `ch.swissquote` books the two rows of a forex pair as ONE transaction (recorded as `C13-swissquote-forex-pair-one-transaction`) -/
theorem swissquote_forex_pair_one_transaction :
    (swissquote [sqHdr, sqFx1, sqFx2]).length = 1 ∧ counts (Swissquote.run sqAccts [sqHdr, sqFx1, sqFx2]) = some (1, 1) := by
  decide +kernel

/-- `ch.swissquote` tells a sale from a purchase by the row type, not by the sign of `Nettobetrag` (/repo c9fcfe1): a sale
(`Verkauf`) of 8 shares without proceeds takes 8 shares out of the account -/
theorem swissquote_sale_without_proceeds_is_a_sale :
    (match Swissquote.run sqAccts [sqHdr, sqSale] with
     | .ok [.tx t] => some (effectOn bank "VWRL" t.postings)
     | _ => none) = some (-8) := by
  decide +kernel

end Knut.C13
