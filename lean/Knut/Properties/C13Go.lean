import Knut.Properties.C13Text
import Knut.Properties.C09Go
/-!
# C13 (the text clause) on the generated definitions

Every importer ends with `journal.Print(w, builder.Build())`.  `Properties/C13Text.lean` states the text-level clause of C13 about the
model of that call, `render ds = JournalPrinter.print (Builder.ofList ds).build`; `FactsAgree/TransJPrinter2.lean` proves that the
translated `journal.Print` writes exactly `JournalPrinter.print` (`PrintJournal_agrees`).  This module composes them: the clause is
stated about the text the GENERATED `Go.journal.Print` writes for a Go journal that stands for the journal the importer's builder holds.

What stays a hypothesis (besides those of `C09Go.Print_writes_go`: `SortOK` for the unstable sort, `TargetsOK` — importers write no
`@performance` annotation): `hr`, that the Go journal `gds` stands for `(Builder.ofList ds).build`.  For `ch.swisscard2`, `ch.supercard`
and `ch.swisscard` the per-record functions are translated and `Properties/C13Go2..4.lean` show that the parser's `journal.Builder` stands
for `Builder.ofList ds` (`BEquiv`; `journal.Builder` itself: `FactsAgree/TransJournal.lean`); no theorem carries that to `hr`, and the
other eight importers (CSV readers, regular expressions) are not translated: their models are tied by the differential runs of C13.
`ds` is the importer's directive list; `PrintableDir` is proved of it for all eleven importers (`C13_<importer>_printable`).
-/
namespace Knut.C13Go
open Knut Knut.Import Knut.Spec.Import Knut.Proofs.Import Knut.FromSyntax Knut.JournalPrinter Knut.Utf8
open Knut.Generated.Go
open Knut.FactsAgree.TransJPrinter Knut.FactsAgree.TransJPrinter2 Knut.FactsAgree.TransProcess

/-- **the bridge**: for the directives `ds` an importer added to its builder, the translated `journal.Print` writes the model's
`render ds` -/
theorem Print_writes_render_go (cur : String → Bool) (srt : List transaction.Transaction → List transaction.Transaction)
    (gds : List journal.Day) (ds : List Directive) (hs : ∀ g ∈ gds, SortOK srt g.Transactions)
    (hr : AllRel (DayRelE cur) gds (Builder.ofList ds).build) (h : ∀ d ∈ ds, PrintableDir d)
    (ht : ∀ d ∈ (Builder.ofList ds).build, TargetsOK d) :
    ∃ e, processExt srt ⟨gds⟩ (printer.New "") = .ok e ∧ journal.Print "" ⟨gds⟩ e = .ok (render ds, e.1, none) := by
  obtain ⟨e, he, _, hP⟩ := C09Go.Print_writes_go cur srt "" gds _ hs hr (printable_built ds h) ht
  exact ⟨e, he, by simpa [render] using hP⟩

/-- **the text the translated `Print` emits parses to exactly the directives the importer built** (in the order `Print` writes them, a
permutation of the order in which they were added), and printing the reloaded journal gives the same text again -/
theorem C13_text_parses_go (cur : String → Bool) (srt : List transaction.Transaction → List transaction.Transaction)
    (path : String) (gds : List journal.Day) (ds : List Directive) (hs : ∀ g ∈ gds, SortOK srt g.Transactions)
    (hr : AllRel (DayRelE cur) gds (Builder.ofList ds).build) (h : ∀ d ∈ ds, PrintableDir d)
    (ht : ∀ d ∈ (Builder.ofList ds).build, TargetsOK d) :
    ∃ e T ds', processExt srt ⟨gds⟩ (printer.New "") = .ok e ∧ journal.Print "" ⟨gds⟩ e = .ok (T, e.1, none) ∧
      loadText path (strBytes T) = .ok ds' ∧ ds'.Perm ds ∧ print (Builder.ofList ds').build = T := by
  obtain ⟨e, he, hP⟩ := Print_writes_render_go cur srt gds ds hs hr h ht
  obtain ⟨ds', hl, hperm, _, hpr⟩ := C13.C13_text_parses path ds h
  exact ⟨e, render ds, ds', he, hP, hl, hperm, hpr⟩

/-- in particular the text is valid for knut's parser -/
theorem C13_text_parser_accepts_go (cur : String → Bool) (srt : List transaction.Transaction → List transaction.Transaction)
    (path : String) (gds : List journal.Day) (ds : List Directive) (hs : ∀ g ∈ gds, SortOK srt g.Transactions)
    (hr : AllRel (DayRelE cur) gds (Builder.ofList ds).build) (h : ∀ d ∈ ds, PrintableDir d)
    (ht : ∀ d ∈ (Builder.ofList ds).build, TargetsOK d) :
    ∃ e T f, processExt srt ⟨gds⟩ (printer.New "") = .ok e ∧ journal.Print "" ⟨gds⟩ e = .ok (T, e.1, none) ∧
      Syntax.parseText path (strBytes T) = .ok f := by
  obtain ⟨e, he, hP⟩ := Print_writes_render_go cur srt gds ds hs hr h ht
  obtain ⟨f, hf⟩ := C13.C13_text_parser_accepts path ds h
  exact ⟨e, render ds, f, he, hP, hf⟩

/-- **the text-level clause**, for output without assertions: with every account booked on opened once on a day before the first
directive, `knut print` accepts "opens, blank line, what the translated `Print` wrote" and reproduces it byte for byte -/
theorem C13_text_valid_go (cur : String → Bool) (srt : List transaction.Transaction → List transaction.Transaction)
    (path : String) (gds : List journal.Day) (o : Int) (accts : List Account) (ds : List Directive)
    (hs : ∀ g ∈ gds, SortOK srt g.Transactions) (hr : AllRel (DayRelE cur) gds (Builder.ofList ds).build)
    (ht : ∀ d ∈ (Builder.ofList ds).build, TargetsOK d)
    (h : ∀ d ∈ ds, PrintableDir d) (hna : ∀ d ∈ ds, TxOrPrice d) (hne : accts ≠ []) (hnd : accts.Nodup) (ho : PrintableDate o)
    (ha : ∀ a ∈ accts, PrintableAccount a = true) (hlt : ∀ d ∈ ds, o < d.date)
    (hacc : ∀ t, Directive.tx t ∈ ds → ∀ p ∈ t.postings, p.account ∈ accts) :
    ∃ e T, processExt srt ⟨gds⟩ (printer.New "") = .ok e ∧ journal.Print "" ⟨gds⟩ e = .ok (T, e.1, none) ∧
      printFile path (strBytes (opensText o accts ++ T)) = .ok (opensText o accts ++ T) := by
  obtain ⟨e, he, hP⟩ := Print_writes_render_go cur srt gds ds hs hr h ht
  exact ⟨e, render ds, he, hP, C13.C13_text_valid path o accts ds h hna hne hnd ho ha hlt hacc⟩

/-! ### Non-vacuity: an importer that emitted nothing (an empty statement): every hypothesis holds -/
example : ∃ e, processExt (fun xs => xs) ⟨[]⟩ (printer.New "") = .ok e ∧ journal.Print "" ⟨[]⟩ e = .ok (render [], e.1, none) :=
  Print_writes_render_go (fun _ => true) (fun xs => xs) [] [] (by intro g hg; cases hg) .nil (by intro d hd; cases hd)
    (by intro d hd; cases hd)

end Knut.C13Go
