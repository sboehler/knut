import Knut.Properties.C13
import Knut.FactsAgree.TransImportSwisscard2Run
/-!
# C13 (the row clauses) on the generated per-record function of `ch.swisscard2`

`Properties/C13.lean` states the row clauses about the hand model `Import.Swisscard2.run`; `FactsAgree/TransImportSwisscard2Run.lean`
proves that `parse` — the TRANSLATED `swisscard2.parser.readBooking` (regenerated from /repo on every run) folded over the results of
the `encoding/csv.Reader` as the loop of the Go `parser.parse` folds it — computes that model (`run_agrees`).  This module composes
them: the clauses are stated about what the fold of the generated function leaves in the parser's `journal.Builder`.

Hypotheses, all about what stays outside the translation: the reader delivers the records `recs` of the file (`deliveries`: a record of
another length than twelve comes with `csv.ErrFieldCount`, `io.EOF` after the last); `ext2` = `Commodities().MustGet` as a function of
the name (the interned commodity of every VALID name) and `hval`: no booking record carries an invalid commodity name (then `MustGet`
panics inside the untranslated call — the model's `panic` —, and nothing is claimed); `ext3` = the interned `Expenses:TBD`; the parser
starts with the fresh builder (`journal.New`, `New_agrees`) and the account of the `--account` flag.  `hne : acct ≠ tbd` and `ha : AccOK acct`
are the hypotheses of `C13_swisscard2` and `C13_swisscard2_wellformed`, carried over unchanged.
-/
namespace Knut.C13Go2
open Knut Knut.Import Knut.Spec.Import Knut.Proofs.Import
open Knut.GoSem Knut.Generated.Go
open Knut.FactsAgree.TransAccount Knut.FactsAgree.TransPosting Knut.FactsAgree.TransJournal
open Knut.FactsAgree.TransImportSwisscard2Run

/-- where the fold of the translated `readBooking` returns nil, the model run succeeded and the Go builder stands for the model's -/
theorem parse_ok_run (cur : String → Bool) (acct : Account) (ext2 : String → commodity.Commodity) (ext3 : account.Account)
    (h2 : ∀ s, validCommodity s = true → ext2 s = commodityGo cur s) (h3 : ext3 = accountGo tbd)
    (recs : List Rec) (hval : ∀ r ∈ recs.tail, r.length = 12 → validCommodity (fldD r 4) = true)
    (p p' : swisscard2.parser) (hb : BEquiv cur p.builder {}) (hacct : p.account = accountGo acct)
    (h : parse ext2 ext3 p (deliveries recs) = .ok (p', none)) :
    ∃ ds, Swisscard2.run acct recs = .ok ds ∧ BEquiv cur p'.builder (Builder.ofList ds) := by
  obtain ⟨ds, hrun, _, hbq⟩ := Proofs.GoImport.ok_of_agrees (run_agrees cur acct ext2 ext3 h2 h3 recs p {} hb hacct)
    (by rintro ⟨r, hr, h12, hv⟩; rw [hval r hr h12] at hv; cases hv) h
  exact ⟨ds, hrun, hbq⟩

/-- **`C13_swisscard2` on the generated function**: when the fold of the translated `readBooking` over the file's records returns nil,
the builder it leaves stands for `Builder.ofList ds` of directives `ds` that are `Faithful` to the statement's items — every record
after the header ↦ exactly one transaction on `Transaktionsdatum` lowering the card account by `Betrag` `Währung`, nothing else -/
theorem C13_swisscard2_go (cur : String → Bool) (acct : Account) (hne : acct ≠ tbd) (ext2 : String → commodity.Commodity)
    (ext3 : account.Account) (h2 : ∀ s, validCommodity s = true → ext2 s = commodityGo cur s) (h3 : ext3 = accountGo tbd)
    (recs : List Rec) (hval : ∀ r ∈ recs.tail, r.length = 12 → validCommodity (fldD r 4) = true)
    (p p' : swisscard2.parser) (hb : BEquiv cur p.builder {}) (hacct : p.account = accountGo acct)
    (h : parse ext2 ext3 p (deliveries recs) = .ok (p', none)) :
    ∃ ds, BEquiv cur p'.builder (Builder.ofList ds) ∧ Faithful acct (swisscard2 recs) ds := by
  obtain ⟨ds, hrun, hbq⟩ := parse_ok_run cur acct ext2 ext3 h2 h3 recs hval p p' hb hacct h
  exact ⟨ds, hbq, C13.C13_swisscard2 acct hne recs ds hrun⟩

/-- **`C13_swisscard2_wellformed` on the generated function**: every directive the fold added is well-formed -/
theorem C13_swisscard2_wellformed_go (cur : String → Bool) (acct : Account) (ha : AccOK acct) (ext2 : String → commodity.Commodity)
    (ext3 : account.Account) (h2 : ∀ s, validCommodity s = true → ext2 s = commodityGo cur s) (h3 : ext3 = accountGo tbd)
    (recs : List Rec) (hval : ∀ r ∈ recs.tail, r.length = 12 → validCommodity (fldD r 4) = true)
    (p p' : swisscard2.parser) (hb : BEquiv cur p.builder {}) (hacct : p.account = accountGo acct)
    (h : parse ext2 ext3 p (deliveries recs) = .ok (p', none)) :
    ∃ ds, BEquiv cur p'.builder (Builder.ofList ds) ∧ ∀ d ∈ ds, wellFormed alnum d = true := by
  obtain ⟨ds, hrun, hbq⟩ := parse_ok_run cur acct ext2 ext3 h2 h3 recs hval p p' hb hacct h
  exact ⟨ds, hbq, C13.C13_swisscard2_wellformed acct ha recs ds hrun⟩

/-- both clauses about ONE directive list, with the count reading: one transaction per record after the header -/
theorem C13_swisscard2_go_all (cur : String → Bool) (acct : Account) (hne : acct ≠ tbd) (ha : AccOK acct)
    (ext2 : String → commodity.Commodity) (ext3 : account.Account)
    (h2 : ∀ s, validCommodity s = true → ext2 s = commodityGo cur s) (h3 : ext3 = accountGo tbd)
    (recs : List Rec) (hval : ∀ r ∈ recs.tail, r.length = 12 → validCommodity (fldD r 4) = true)
    (p p' : swisscard2.parser) (hb : BEquiv cur p.builder {}) (hacct : p.account = accountGo acct)
    (h : parse ext2 ext3 p (deliveries recs) = .ok (p', none)) :
    ∃ ds, BEquiv cur p'.builder (Builder.ofList ds) ∧ Faithful acct (swisscard2 recs) ds ∧
      (∀ d ∈ ds, wellFormed alnum d = true) ∧ ds.length = (swisscard2 recs).length := by
  obtain ⟨ds, hrun, hbq⟩ := parse_ok_run cur acct ext2 ext3 h2 h3 recs hval p p' hb hacct h
  have hf := C13.C13_swisscard2 acct hne recs ds hrun
  exact ⟨ds, hbq, hf, C13.C13_swisscard2_wellformed acct ha recs ds hrun, (C13.C13_count acct _ ds hf)⟩

/-- conversely the fold succeeds wherever the model run does (no hypothesis on the commodity names needed) -/
theorem parse_succeeds_of_run (cur : String → Bool) (acct : Account) (ext2 : String → commodity.Commodity) (ext3 : account.Account)
    (h2 : ∀ s, validCommodity s = true → ext2 s = commodityGo cur s) (h3 : ext3 = accountGo tbd)
    (recs : List Rec) (ds : List Directive) (hrun : Swisscard2.run acct recs = .ok ds)
    (p : swisscard2.parser) (hb : BEquiv cur p.builder {}) (hacct : p.account = accountGo acct) :
    ∃ p', parse ext2 ext3 p (deliveries recs) = .ok (p', none) ∧ BEquiv cur p'.builder (Builder.ofList ds) := by
  have ha := run_agrees cur acct ext2 ext3 h2 h3 recs p {} hb hacct
  rw [hrun] at ha
  obtain ⟨q, hq, _, hbq⟩ := ha
  exact ⟨q, hq, hbq⟩

/-! ### Non-vacuity: the statement of `C13.lean`'s witness (a quote and a separator in the free text, a zero amount) -/
example : ∃ p', parse (commodityGo (fun _ => true)) (accountGo tbd) ⟨accountGo C13.card, journal.New⟩
    (deliveries [C13.hdr12, C13.row1, C13.row0]) = .ok (p', none) := by
  obtain ⟨p', hp, _⟩ := parse_succeeds_of_run (fun _ => true) C13.card (commodityGo (fun _ => true)) (accountGo tbd)
    (fun _ _ => rfl) rfl _ _ C13.witness_run ⟨accountGo C13.card, journal.New⟩ (New_agrees _) rfl
  exact ⟨p', hp⟩

end Knut.C13Go2
