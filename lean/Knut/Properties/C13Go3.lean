import Knut.Properties.C13
import Knut.FactsAgree.TransImportSupercardRun
/-!
# C13 (the row clauses) on the generated per-record function of `ch.supercard`

`Properties/C13.lean` states the row clauses about the hand model `Import.Supercard.run`; `FactsAgree/TransImportSupercardRun.lean`
proves that `parse` — the TRANSLATED `supercard.parser.readLine` (regenerated from /repo on every run) folded over the results of the
`encoding/csv.Reader` as the Go `parser.parse` (`checkFirstLine`, `skipHeader`, the loop) folds it — computes that model
(`run_agrees`, index panic included).  This module composes them: the clauses are stated about what the fold of the generated function
leaves in the parser's `journal.Builder`.

Hypotheses, all about what stays outside the translation: the reader delivers the records `recs` of the file (`deliveries`: the first
record is read with `FieldsPerRecord = 2`, the second with 13 — another length comes with `csv.ErrFieldCount` —, the rest unchecked;
`io.EOF` after the last); `ext2` = `Commodities().Get` as a function of the name (`h2v`: the interned commodity of every VALID name;
`h2e`: an error other than `io.EOF` for an invalid one); `ext3` = the interned `Expenses:TBD`; the parser starts with the fresh builder
(`journal.New`, `New_agrees`) and the account of the `--account` flag.  Unlike `ch.swisscard2` no hypothesis on the records is needed:
where the model panics (a record of fewer than five fields) the fold panics too, so it does not return nil.  `hne : acct ≠ tbd` and
`ha : AccOK acct` are the hypotheses of `C13_supercard` and `C13_supercard_wellformed`, carried over unchanged.
-/
namespace Knut.C13Go3
open Knut Knut.Import Knut.Spec.Import Knut.Proofs.Import
open Knut.GoSem Knut.Generated.Go
open Knut.FactsAgree.TransAccount Knut.FactsAgree.TransPosting Knut.FactsAgree.TransJournal
open Knut.FactsAgree.TransImportSupercardRun

/-- where the fold of the translated `readLine` returns nil, the model run succeeded and the Go builder stands for the model's -/
theorem parse_ok_run (cur : String → Bool) (acct : Account) (ext2 : String → commodity.Commodity × Option Error)
    (ext3 : account.Account)
    (h2v : ∀ s, validCommodity s = true → ext2 s = (commodityGo cur s, none))
    (h2e : ∀ s, validCommodity s = false → ∃ e, (ext2 s).2 = some e ∧ e ≠ eof) (h3 : ext3 = accountGo tbd)
    (recs : List Rec) (p p' : supercard.parser) (hb : BEquiv cur p.builder {}) (hacct : p.account = accountGo acct)
    (h : parse ext2 ext3 p (deliveries recs) = .ok (p', none)) :
    ∃ ds, Supercard.run acct recs = .ok ds ∧ BEquiv cur p'.builder (Builder.ofList ds) := by
  obtain ⟨ds, hrun, _, hbq⟩ := Proofs.GoImport.ok_of_agrees (run_agrees cur acct ext2 ext3 h2v h2e h3 recs p {} hb hacct)
    (by rintro ⟨m, hm⟩; rw [h] at hm; cases hm) h
  exact ⟨ds, hrun, hbq⟩

/-- **`C13_supercard` on the generated function**: when the fold of the translated `readLine` over the file's records returns nil, the
builder it leaves stands for `Builder.ofList ds` of directives `ds` that are `Faithful` to the statement's items — every booking record
after `sep=` and the header (an account number, not `Saldovortrag`, not eleven fields) ↦ exactly one transaction on `Einkaufsdatum`
raising the card account by `Gutschrift` resp. lowering it by `Belastung` in `Währung`, nothing else -/
theorem C13_supercard_go (cur : String → Bool) (acct : Account) (hne : acct ≠ tbd)
    (ext2 : String → commodity.Commodity × Option Error) (ext3 : account.Account)
    (h2v : ∀ s, validCommodity s = true → ext2 s = (commodityGo cur s, none))
    (h2e : ∀ s, validCommodity s = false → ∃ e, (ext2 s).2 = some e ∧ e ≠ eof) (h3 : ext3 = accountGo tbd)
    (recs : List Rec) (p p' : supercard.parser) (hb : BEquiv cur p.builder {}) (hacct : p.account = accountGo acct)
    (h : parse ext2 ext3 p (deliveries recs) = .ok (p', none)) :
    ∃ ds, BEquiv cur p'.builder (Builder.ofList ds) ∧ Faithful acct (supercard recs) ds := by
  obtain ⟨ds, hrun, hbq⟩ := parse_ok_run cur acct ext2 ext3 h2v h2e h3 recs p p' hb hacct h
  exact ⟨ds, hbq, C13.C13_supercard acct hne recs ds hrun⟩

/-- **`C13_supercard_wellformed` on the generated function**: every directive the fold added is well-formed -/
theorem C13_supercard_wellformed_go (cur : String → Bool) (acct : Account) (ha : AccOK acct)
    (ext2 : String → commodity.Commodity × Option Error) (ext3 : account.Account)
    (h2v : ∀ s, validCommodity s = true → ext2 s = (commodityGo cur s, none))
    (h2e : ∀ s, validCommodity s = false → ∃ e, (ext2 s).2 = some e ∧ e ≠ eof) (h3 : ext3 = accountGo tbd)
    (recs : List Rec) (p p' : supercard.parser) (hb : BEquiv cur p.builder {}) (hacct : p.account = accountGo acct)
    (h : parse ext2 ext3 p (deliveries recs) = .ok (p', none)) :
    ∃ ds, BEquiv cur p'.builder (Builder.ofList ds) ∧ ∀ d ∈ ds, wellFormed alnum d = true := by
  obtain ⟨ds, hrun, hbq⟩ := parse_ok_run cur acct ext2 ext3 h2v h2e h3 recs p p' hb hacct h
  exact ⟨ds, hbq, C13.C13_supercard_wellformed acct ha recs ds hrun⟩

/-- both clauses about ONE directive list, with the count reading: one transaction per booking record -/
theorem C13_supercard_go_all (cur : String → Bool) (acct : Account) (hne : acct ≠ tbd) (ha : AccOK acct)
    (ext2 : String → commodity.Commodity × Option Error) (ext3 : account.Account)
    (h2v : ∀ s, validCommodity s = true → ext2 s = (commodityGo cur s, none))
    (h2e : ∀ s, validCommodity s = false → ∃ e, (ext2 s).2 = some e ∧ e ≠ eof) (h3 : ext3 = accountGo tbd)
    (recs : List Rec) (p p' : supercard.parser) (hb : BEquiv cur p.builder {}) (hacct : p.account = accountGo acct)
    (h : parse ext2 ext3 p (deliveries recs) = .ok (p', none)) :
    ∃ ds, BEquiv cur p'.builder (Builder.ofList ds) ∧ Faithful acct (supercard recs) ds ∧
      (∀ d ∈ ds, wellFormed alnum d = true) ∧ ds.length = (supercard recs).length := by
  obtain ⟨ds, hrun, hbq⟩ := parse_ok_run cur acct ext2 ext3 h2v h2e h3 recs p p' hb hacct h
  have hf := C13.C13_supercard acct hne recs ds hrun
  exact ⟨ds, hbq, hf, C13.C13_supercard_wellformed acct ha recs ds hrun, (C13.C13_count acct _ ds hf)⟩

/-- conversely the fold succeeds wherever the model run does -/
theorem parse_succeeds_of_run (cur : String → Bool) (acct : Account) (ext2 : String → commodity.Commodity × Option Error)
    (ext3 : account.Account)
    (h2v : ∀ s, validCommodity s = true → ext2 s = (commodityGo cur s, none))
    (h2e : ∀ s, validCommodity s = false → ∃ e, (ext2 s).2 = some e ∧ e ≠ eof) (h3 : ext3 = accountGo tbd)
    (recs : List Rec) (ds : List Directive) (hrun : Supercard.run acct recs = .ok ds)
    (p : supercard.parser) (hb : BEquiv cur p.builder {}) (hacct : p.account = accountGo acct) :
    ∃ p', parse ext2 ext3 p (deliveries recs) = .ok (p', none) ∧ BEquiv cur p'.builder (Builder.ofList ds) := by
  have ha := run_agrees cur acct ext2 ext3 h2v h2e h3 recs p {} hb hacct
  rw [hrun] at ha
  obtain ⟨q, hq, _, hbq⟩ := ha
  exact ⟨q, hq, hbq⟩

/-- the fold never returns nil on a file on which the model fails or panics: `parse` rejects (or panics) exactly where the model does -/
theorem parse_nil_iff_run_ok (cur : String → Bool) (acct : Account) (ext2 : String → commodity.Commodity × Option Error)
    (ext3 : account.Account)
    (h2v : ∀ s, validCommodity s = true → ext2 s = (commodityGo cur s, none))
    (h2e : ∀ s, validCommodity s = false → ∃ e, (ext2 s).2 = some e ∧ e ≠ eof) (h3 : ext3 = accountGo tbd)
    (recs : List Rec) (p : supercard.parser) (hb : BEquiv cur p.builder {}) (hacct : p.account = accountGo acct) :
    (∃ p', parse ext2 ext3 p (deliveries recs) = .ok (p', none)) ↔ ∃ ds, Supercard.run acct recs = .ok ds := by
  constructor
  · rintro ⟨p', h⟩
    obtain ⟨ds, hrun, _⟩ := parse_ok_run cur acct ext2 ext3 h2v h2e h3 recs p p' hb hacct h
    exact ⟨ds, hrun⟩
  · rintro ⟨ds, hrun⟩
    obtain ⟨p', hp, _⟩ := parse_succeeds_of_run cur acct ext2 ext3 h2v h2e h3 recs ds hrun p hb hacct
    exact ⟨p', hp⟩

/-! ### Non-vacuity: a statement with a `Saldovortrag` record, a booking (a quote and runs of blanks in the free text), a credit, a
total line of eleven fields -/
def stmt : List Rec :=
  [["sep=", ""], ["h0", "h1", "h2", "h3", "h4", "h5", "h6", "h7", "h8", "h9", "h10", "h11", "h12"],
   ["1", "2", "N", "", "Saldovortrag"],
   ["1", "2", "N", "06.07.2024", "say \"hi\"   x", "Food", "72.60", "CHF", "", "CHF", "72.60", "", "07.07.2024"],
   ["1", "2", "N", "07.07.2024", "refund", "", "5.00", "EUR", "", "EUR", "", "5.00", "08.07.2024"],
   ["", "", "", "", "Total", "", "", "", "", "", ""]]

theorem stmt_items : supercard stmt = [.booking 739072 [("CHF", -(363/5 : Rat))], .booking 739073 [("EUR", 5)]] := by
  decide +kernel

example : supercard stmt = [.booking 739072 [("CHF", -(363/5 : Rat))], .booking 739073 [("EUR", 5)]] := stmt_items

example : ∃ p' ds, parse (getGo (fun _ => true)) (accountGo tbd) ⟨accountGo C13.card, journal.New⟩ (deliveries stmt) = .ok (p', none) ∧
    BEquiv (fun _ => true) p'.builder (Builder.ofList ds) ∧ Faithful C13.card (supercard stmt) ds ∧ ds.length = 2 := by
  have hok : (match Supercard.run C13.card stmt with | .ok _ => true | _ => false) = true := by decide +kernel
  cases hrun : Supercard.run C13.card stmt with
  | ok ds =>
    obtain ⟨p', hp, hbq⟩ := parse_succeeds_of_run (fun _ => true) C13.card (getGo (fun _ => true)) (accountGo tbd)
      (getGo_valid _) (getGo_invalid _) rfl _ ds hrun ⟨accountGo C13.card, journal.New⟩ (New_agrees _) rfl
    have hf := C13.C13_supercard C13.card (by decide) stmt ds hrun
    refine ⟨p', ds, hp, hbq, hf, ?_⟩
    rw [C13.C13_count _ _ _ hf, stmt_items]
    rfl
  | error => rw [hrun] at hok; cases hok
  | panic => rw [hrun] at hok; cases hok

end Knut.C13Go3
