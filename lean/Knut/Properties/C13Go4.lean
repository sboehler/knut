import Knut.Properties.C13
import Knut.FactsAgree.TransImportSwisscardRun
/-!
# C13 (the row clauses) on the generated per-record function of `ch.swisscard`

`Properties/C13.lean` states the row clauses about the hand model `Import.Swisscard.run`; `FactsAgree/TransImportSwisscardRun.lean`
proves that `loop` — the TRANSLATED `swisscard.parser.readLine` (regenerated from /repo on every run) folded over the results of the
`encoding/csv.Reader` as the Go `parser.parse` folds it — computes that model (`run_agrees`, index panics included).  This module
composes them: the clauses are stated about what the fold of the generated function leaves in the parser's `journal.Builder`.

Hypotheses, all about what stays outside the translation: the reader delivers the records `recs` of the file (`deliveries`:
`FieldsPerRecord = 0`, a record of another length than the first comes with `csv.ErrFieldCount`; `io.EOF` after the last); `ext2` = the
result of `Commodities().Get("CHF")` (the interned commodity, no error); `ext3` = the interned `Expenses:TBD`; the parser starts with
the fresh builder (`journal.New`, `New_agrees`) and the account of the `--account` flag.  No hypothesis on the records: where the
model panics the fold panics too, so it does not return nil.  `hne : acct ≠ tbd` and `ha : AccOK acct` are the hypotheses of
`C13_swisscard` and `C13_swisscard_wellformed`, carried over unchanged.
-/
namespace Knut.C13Go4
open Knut Knut.Import Knut.Spec.Import Knut.Proofs.Import
open Knut.GoSem Knut.Generated.Go
open Knut.FactsAgree.TransAccount Knut.FactsAgree.TransPosting Knut.FactsAgree.TransJournal
open Knut.FactsAgree.TransImportSwisscardRun

/-- where the fold of the translated `readLine` returns nil, the model run succeeded and the Go builder stands for the model's -/
theorem parse_ok_run (cur : String → Bool) (acct : Account) (ext2 : commodity.Commodity × Option Error) (ext3 : account.Account)
    (h2 : ext2 = (commodityGo cur "CHF", none)) (h3 : ext3 = accountGo tbd)
    (recs : List Rec) (p p' : swisscard.parser) (hb : BEquiv cur p.builder {}) (hacct : p.account = accountGo acct)
    (h : loop ext2 ext3 p (deliveries recs) = .ok (p', none)) :
    ∃ ds, Swisscard.run acct recs = .ok ds ∧ BEquiv cur p'.builder (Builder.ofList ds) := by
  obtain ⟨ds, hrun, _, hbq⟩ := Proofs.GoImport.ok_of_agrees (run_agrees cur acct ext2 ext3 h2 h3 recs p {} hb hacct)
    (by rintro ⟨m, hm⟩; rw [h] at hm; cases hm) h
  exact ⟨ds, hrun, hbq⟩

/-- **`C13_swisscard` on the generated function**: when the fold of the translated `readLine` over the file's records returns nil, the
builder it leaves stands for `Builder.ofList ds` of directives `ds` that are `Faithful` to the statement's items — every record whose
first two fields hold dates ↦ exactly one transaction on the first date lowering the card account by the billing amount (field 3
without `CHF` and `'`) in CHF, nothing else -/
theorem C13_swisscard_go (cur : String → Bool) (acct : Account) (hne : acct ≠ tbd)
    (ext2 : commodity.Commodity × Option Error) (ext3 : account.Account)
    (h2 : ext2 = (commodityGo cur "CHF", none)) (h3 : ext3 = accountGo tbd)
    (recs : List Rec) (p p' : swisscard.parser) (hb : BEquiv cur p.builder {}) (hacct : p.account = accountGo acct)
    (h : loop ext2 ext3 p (deliveries recs) = .ok (p', none)) :
    ∃ ds, BEquiv cur p'.builder (Builder.ofList ds) ∧ Faithful acct (swisscard recs) ds := by
  obtain ⟨ds, hrun, hbq⟩ := parse_ok_run cur acct ext2 ext3 h2 h3 recs p p' hb hacct h
  exact ⟨ds, hbq, C13.C13_swisscard acct hne recs ds hrun⟩

/-- **`C13_swisscard_wellformed` on the generated function**: every directive the fold added is well-formed -/
theorem C13_swisscard_wellformed_go (cur : String → Bool) (acct : Account) (ha : AccOK acct)
    (ext2 : commodity.Commodity × Option Error) (ext3 : account.Account)
    (h2 : ext2 = (commodityGo cur "CHF", none)) (h3 : ext3 = accountGo tbd)
    (recs : List Rec) (p p' : swisscard.parser) (hb : BEquiv cur p.builder {}) (hacct : p.account = accountGo acct)
    (h : loop ext2 ext3 p (deliveries recs) = .ok (p', none)) :
    ∃ ds, BEquiv cur p'.builder (Builder.ofList ds) ∧ ∀ d ∈ ds, wellFormed alnum d = true := by
  obtain ⟨ds, hrun, hbq⟩ := parse_ok_run cur acct ext2 ext3 h2 h3 recs p p' hb hacct h
  exact ⟨ds, hbq, C13.C13_swisscard_wellformed acct ha recs ds hrun⟩

/-- both clauses about ONE directive list, with the count reading: one transaction per booking record -/
theorem C13_swisscard_go_all (cur : String → Bool) (acct : Account) (hne : acct ≠ tbd) (ha : AccOK acct)
    (ext2 : commodity.Commodity × Option Error) (ext3 : account.Account)
    (h2 : ext2 = (commodityGo cur "CHF", none)) (h3 : ext3 = accountGo tbd)
    (recs : List Rec) (p p' : swisscard.parser) (hb : BEquiv cur p.builder {}) (hacct : p.account = accountGo acct)
    (h : loop ext2 ext3 p (deliveries recs) = .ok (p', none)) :
    ∃ ds, BEquiv cur p'.builder (Builder.ofList ds) ∧ Faithful acct (swisscard recs) ds ∧
      (∀ d ∈ ds, wellFormed alnum d = true) ∧ ds.length = (swisscard recs).length := by
  obtain ⟨ds, hrun, hbq⟩ := parse_ok_run cur acct ext2 ext3 h2 h3 recs p p' hb hacct h
  have hf := C13.C13_swisscard acct hne recs ds hrun
  exact ⟨ds, hbq, hf, C13.C13_swisscard_wellformed acct ha recs ds hrun, (C13.C13_count acct _ ds hf)⟩

/-- conversely the fold succeeds wherever the model run does -/
theorem parse_succeeds_of_run (cur : String → Bool) (acct : Account) (ext2 : commodity.Commodity × Option Error)
    (ext3 : account.Account) (h2 : ext2 = (commodityGo cur "CHF", none)) (h3 : ext3 = accountGo tbd)
    (recs : List Rec) (ds : List Directive) (hrun : Swisscard.run acct recs = .ok ds)
    (p : swisscard.parser) (hb : BEquiv cur p.builder {}) (hacct : p.account = accountGo acct) :
    ∃ p', loop ext2 ext3 p (deliveries recs) = .ok (p', none) ∧ BEquiv cur p'.builder (Builder.ofList ds) := by
  have ha := run_agrees cur acct ext2 ext3 h2 h3 recs p {} hb hacct
  rw [hrun] at ha
  obtain ⟨q, hq, _, hbq⟩ := ha
  exact ⟨q, hq, hbq⟩

/-- the fold never returns nil on a file on which the model fails or panics: `parse` rejects (or panics) exactly where the model does -/
theorem parse_nil_iff_run_ok (cur : String → Bool) (acct : Account) (ext2 : commodity.Commodity × Option Error)
    (ext3 : account.Account) (h2 : ext2 = (commodityGo cur "CHF", none)) (h3 : ext3 = accountGo tbd)
    (recs : List Rec) (p : swisscard.parser) (hb : BEquiv cur p.builder {}) (hacct : p.account = accountGo acct) :
    (∃ p', loop ext2 ext3 p (deliveries recs) = .ok (p', none)) ↔ ∃ ds, Swisscard.run acct recs = .ok ds := by
  constructor
  · rintro ⟨p', h⟩
    obtain ⟨ds, hrun, _⟩ := parse_ok_run cur acct ext2 ext3 h2 h3 recs p p' hb hacct h
    exact ⟨ds, hrun⟩
  · rintro ⟨ds, hrun⟩
    obtain ⟨p', hp, _⟩ := parse_succeeds_of_run cur acct ext2 ext3 h2 h3 recs ds hrun p hb hacct
    exact ⟨p', hp⟩

/-! ### Non-vacuity: a statement with a title line, two bookings (a quote and blanks around the free text, an apostrophe and `CHF` in
the amount), a line without a second date -/
def stmt : List Rec :=
  [["Transaction date", "Booking date", "Text", "Amount", "a", "b", "c", "d", "e", "f", "g"],
   ["06.07.2024", "07.07.2024", " say \"hi\" ", "CHF1'072.60", "", "Food", "", "", "", "x", "y"],
   ["07.07.2024", "08.07.2024", "refund", "-5.00", "", "", "", "", "", "", ""],
   ["07.07.2024", "", "Total", "", "", "", "", "", "", "", ""]]

theorem stmt_items : swisscard stmt = [.booking 739072 [("CHF", -(5363/5 : Rat))], .booking 739073 [("CHF", 5)]] := by
  decide +kernel

example : swisscard stmt = [.booking 739072 [("CHF", -(5363/5 : Rat))], .booking 739073 [("CHF", 5)]] := stmt_items

example : ∃ p' ds, loop (commodityGo (fun _ => true) "CHF", none) (accountGo tbd) ⟨accountGo C13.card, journal.New⟩ (deliveries stmt)
      = .ok (p', none) ∧
    BEquiv (fun _ => true) p'.builder (Builder.ofList ds) ∧ Faithful C13.card (swisscard stmt) ds ∧ ds.length = 2 := by
  have hok : (match Swisscard.run C13.card stmt with | .ok _ => true | _ => false) = true := by decide +kernel
  cases hrun : Swisscard.run C13.card stmt with
  | ok ds =>
    obtain ⟨p', hp, hbq⟩ := parse_succeeds_of_run (fun _ => true) C13.card (commodityGo (fun _ => true) "CHF", none) (accountGo tbd)
      rfl rfl _ ds hrun ⟨accountGo C13.card, journal.New⟩ (New_agrees _) rfl
    have hf := C13.C13_swisscard C13.card (by decide) stmt ds hrun
    refine ⟨p', ds, hp, hbq, hf, ?_⟩
    rw [C13.C13_count _ _ _ hf, stmt_items]
    rfl
  | error => rw [hrun] at hok; cases hok
  | panic => rw [hrun] at hok; cases hok

end Knut.C13Go4
