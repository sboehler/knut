import Knut.Proofs.PrintImportBalances
import Knut.Properties.C13
/-!
# C13 (text level) — what an importer writes parses to exactly what it built, whatever the free text contains;
with the accounts opened it is accepted and printed again unchanged

The text-level clause of C13, for ALL ELEVEN importers and all statements (record lists of any length, any field
contents), on the models: `render ds` is `journal.Print` of the journal the importer's `journal.Builder` holds
(`Model/Import/Common.lean`), `loadText` is the parser model followed by the elaboration (`Model/FromSyntax.lean`),
`printFile` is `knut print` on one file (`Proofs/PrintCommands.lean`).

* `C13_<importer>_printable` — every directive the importer emits is `PrintableDir`, the hypothesis of the
  print-then-parse round trip of C09: names valid (`C13_<importer>_wellformed`), dates in the range of `time.Parse`
  (years 0000..9999, proved for the five layouts from the model of `time.Parse`), amounts decimal rationals (proved from
  the model of `decimal.NewFromString`, closed under the negations, sums and roundings the importers do), transactions
  built by `transaction.Builder.Build`, whose quote replacement makes the description quote-free: nothing is assumed
  about the free-text fields.
* `C13_text_parses` — the emitted text parses, and loads to exactly the directives the importer built, in the order
  `journal.Print` writes them (a permutation of the order they were added in), and printing the reloaded journal gives
  the same text.
* `C13_text_reprinted_with_opens` — the file "one `open` per account dated before the first directive, blank line,
  importer output" is reproduced byte for byte by `knut print` whenever the checker accepts it;
  `C13_text_accepted_with_opens` — and the checker does accept it when the output consists of transactions and prices
  (`C13_<importer>_tx_or_price` for the eight importers without balance assertions) and the opened accounts are
  distinct and cover the accounts booked on; `C13_text_valid` combines the two; `C13_text_valid_prices_only` is the
  case without accounts (`ch.viac`).

For `revolut2`, `revolut` and `us.interactivebrokers` the output carries the statement's balance assertions; whether the
checker accepts them is a property of the STATEMENT, stated on its rows: `Consistent items` (`Proofs/PrintImportBalances.lean`)
— every balance the statement carries equals the sum, from a zero opening balance, of the amounts (less fees) of its
booking rows up to and including that day.

* `C13_text_accepted_iff_consistent` — for every import that is `Faithful` to the statement (all eleven are, `C13_<importer>`),
  an asset/liability import account and the accounts opened once before the first directive: the checker accepts opens +
  output IFF the statement is consistent; `C13_revolut2_accepted_iff`, `C13_revolut_accepted_iff`,
  `C13_interactivebrokers_accepted_iff` are the three instances.
* `C13_text_valid_iff_consistent` — hence `knut print` reproduces opens + output byte for byte if the statement is
  consistent, and fails in processing (a failed assertion) if it is not.

The real binary agrees on a consistent and on an inconsistent revolut2 statement (the two-row statement of the non-vacuity
section: accepted and reproduced; with the last balance changed: `failed assertion`).
-/
namespace Knut.C13
open Knut Knut.Import Knut.Spec.Import Knut.Proofs.Import Knut.FromSyntax Knut.JournalPrinter Knut.Utf8

theorem C13_swisscard2_printable (acct : Account) (ha : AccOK acct) (recs : List Rec) (ds : List Directive)
    (h : Swisscard2.run acct recs = .ok ds) : ∀ d ∈ ds, PrintableDir d :=
  (swisscard2_yields true acct recs ds h).printable ha
theorem C13_swisscard_printable (acct : Account) (ha : AccOK acct) (recs : List Rec) (ds : List Directive)
    (h : Swisscard.run acct recs = .ok ds) : ∀ d ∈ ds, PrintableDir d :=
  (swisscard_yields true acct recs ds h).printable ha
theorem C13_supercard_printable (acct : Account) (ha : AccOK acct) (recs : List Rec) (ds : List Directive)
    (h : Supercard.run acct recs = .ok ds) : ∀ d ∈ ds, PrintableDir d :=
  (supercard_yields true acct recs ds h).printable ha
theorem C13_cumulus_printable (acct : Account) (ha : AccOK acct) (recs : List Rec) (ds : List Directive)
    (h : Cumulus.run acct recs = .ok ds) : ∀ d ∈ ds, PrintableDir d :=
  (cumulus_yields true acct recs ds h).printable ha
theorem C13_postfinance_printable (acct : Account) (ha : AccOK acct) (recs : List Rec) (ds : List Directive)
    (h : Postfinance.run acct recs = .ok ds) : ∀ d ∈ ds, PrintableDir d :=
  (postfinance_yields true acct recs ds h).printable ha
theorem C13_revolut2_printable (acct fee : Account) (ha : AccOK acct) (hf : AccOK fee) (recs : List Rec) (ds : List Directive)
    (h : Revolut2.run acct fee recs = .ok ds) : ∀ d ∈ ds, PrintableDir d :=
  (revolut2_yields acct fee recs ds h).printable ⟨ha, hf⟩
theorem C13_revolut_printable (acct : Account) (ha : AccOK acct) (recs : List Rec) (ds : List Directive)
    (h : Revolut.run acct recs = .ok ds) : ∀ d ∈ ds, PrintableDir d :=
  (revolut_yields acct recs ds h).printable ha
theorem C13_wise_printable (acct feeAcct trading : Account) (ha : AccOK acct) (hf : AccOK feeAcct) (ht : AccOK trading)
    (recs : List Rec) (ds : List Directive) (h : Wise.run acct feeAcct trading recs = .ok ds) : ∀ d ∈ ds, PrintableDir d :=
  (wise_yields true acct feeAcct trading recs ds h).printable ⟨ha, hf, ht⟩
theorem C13_viac_printable (com : Commodity) (hcom : ComOK com) (fromDay : Int) (es : List (String × String))
    (ds : List Directive) (h : Viac.run com fromDay es = .ok ds) : ∀ d ∈ ds, PrintableDir d :=
  (viac_yields true tbd com fromDay es ds h).printable hcom
theorem C13_swissquote_printable (a : Swissquote.Accts) (v : AcctsValid a) (recs : List Rec) (ds : List Directive)
    (h : Swissquote.run a recs = .ok ds) : ∀ d ∈ ds, PrintableDir d :=
  (swissquote_yields true a recs ds h).printable v
theorem C13_interactivebrokers_printable (a : Swissquote.Accts) (v : AcctsValid a) (recs : List Rec) (ds : List Directive)
    (h : IB.run a recs = .ok ds) : ∀ d ∈ ds, PrintableDir d :=
  (interactivebrokers_yields a recs ds h).printable v

/-! ## eight importers emit transactions and prices only -/

theorem C13_swisscard2_tx_or_price (acct : Account) (recs : List Rec) (ds : List Directive)
    (h : Swisscard2.run acct recs = .ok ds) : ∀ d ∈ ds, TxOrPrice d := (swisscard2_yields true acct recs ds h).txOrPrice
theorem C13_swisscard_tx_or_price (acct : Account) (recs : List Rec) (ds : List Directive)
    (h : Swisscard.run acct recs = .ok ds) : ∀ d ∈ ds, TxOrPrice d := (swisscard_yields true acct recs ds h).txOrPrice
theorem C13_supercard_tx_or_price (acct : Account) (recs : List Rec) (ds : List Directive)
    (h : Supercard.run acct recs = .ok ds) : ∀ d ∈ ds, TxOrPrice d := (supercard_yields true acct recs ds h).txOrPrice
theorem C13_cumulus_tx_or_price (acct : Account) (recs : List Rec) (ds : List Directive)
    (h : Cumulus.run acct recs = .ok ds) : ∀ d ∈ ds, TxOrPrice d := (cumulus_yields true acct recs ds h).txOrPrice
theorem C13_postfinance_tx_or_price (acct : Account) (recs : List Rec) (ds : List Directive)
    (h : Postfinance.run acct recs = .ok ds) : ∀ d ∈ ds, TxOrPrice d := (postfinance_yields true acct recs ds h).txOrPrice
theorem C13_wise_tx_or_price (acct feeAcct trading : Account) (recs : List Rec) (ds : List Directive)
    (h : Wise.run acct feeAcct trading recs = .ok ds) : ∀ d ∈ ds, TxOrPrice d :=
  (wise_yields true acct feeAcct trading recs ds h).txOrPrice
theorem C13_viac_tx_or_price (com : Commodity) (fromDay : Int) (es : List (String × String)) (ds : List Directive)
    (h : Viac.run com fromDay es = .ok ds) : ∀ d ∈ ds, TxOrPrice d := (viac_yields true tbd com fromDay es ds h).txOrPrice
theorem C13_swissquote_tx_or_price (a : Swissquote.Accts) (recs : List Rec) (ds : List Directive)
    (h : Swissquote.run a recs = .ok ds) : ∀ d ∈ ds, TxOrPrice d := (swissquote_yields true a recs ds h).txOrPrice

/-- **the emitted text parses to exactly the directives the importer built**: it loads (parser model, elaboration,
`transaction.Create`) to the directives in the order `journal.Print` writes them - day by day; prices, transactions in
sort order, assertions - which is a permutation of the order in which the importer added them; and printing the reloaded
journal gives the same text again -/
theorem C13_text_parses (path : String) (ds : List Directive) (h : ∀ d ∈ ds, PrintableDir d) :
    ∃ ds', loadText path (strBytes (render ds)) = .ok ds' ∧ ds'.Perm ds ∧
      ds' = (Builder.ofList ds).build.flatMap (fun d => d.prices.map .price ++ d.openings.map .opening ++
        (sortTxs d.transactions).map .tx ++ d.assertions.map .assertion ++ d.closings.map .closing) ∧
      print (Builder.ofList ds').build = render ds := by
  have hj := printable_built ds h
  refine ⟨printedDirs ds, (render_loads path ds h).1, (render_loads path ds h).2, rfl, ?_⟩
  unfold printedDirs render
  rw [rebuild _ hj.shape, print_normDays]

/-- in particular the text is valid for knut's parser -/
theorem C13_text_parser_accepts (path : String) (ds : List Directive) (h : ∀ d ∈ ds, PrintableDir d) :
    ∃ f, Syntax.parseText path (strBytes (render ds)) = .ok f := by
  have := (render_loads path ds h).1
  unfold loadText at this
  split at this
  · cases this
  · exact ⟨_, by assumption⟩

/-- **re-printed unchanged once the accounts are opened**: `knut print` on "opens, blank line, importer output" writes
that file again, byte for byte, whenever the checker accepts it -/
theorem C13_text_reprinted_with_opens (path : String) (o : Int) (accts : List Account) (ds : List Directive)
    (h : ∀ d ∈ ds, PrintableDir d) (hne : accts ≠ []) (ho : PrintableDate o)
    (ha : ∀ a ∈ accts, PrintableAccount a = true) (hlt : ∀ d ∈ ds, o < d.date)
    (hacc : (Check.run (openDay o accts :: (Builder.ofList ds).build)).isOk = true) :
    printFile path (strBytes (opensText o accts ++ render ds)) = .ok (opensText o accts ++ render ds) :=
  withOpens_reprinted path o accts ds h hne ho ha hlt hacc

/-- **accepted once the accounts are opened**: transactions and prices on accounts that are opened exactly once -/
theorem C13_text_accepted_with_opens (o : Int) (accts : List Account) (ds : List Directive) (hnd : accts.Nodup)
    (hna : ∀ d ∈ ds, TxOrPrice d) (hacc : ∀ t, Directive.tx t ∈ ds → ∀ p ∈ t.postings, p.account ∈ accts) :
    (Check.run (openDay o accts :: (Builder.ofList ds).build)).isOk = true := withOpens_accepted o accts ds hnd hna hacc

/-- **the text-level clause**, for output without assertions: with every account booked on opened once on a day
before the first directive, `knut print` accepts the file and reproduces it byte for byte -/
theorem C13_text_valid (path : String) (o : Int) (accts : List Account) (ds : List Directive)
    (h : ∀ d ∈ ds, PrintableDir d) (hna : ∀ d ∈ ds, TxOrPrice d) (hne : accts ≠ []) (hnd : accts.Nodup) (ho : PrintableDate o)
    (ha : ∀ a ∈ accts, PrintableAccount a = true) (hlt : ∀ d ∈ ds, o < d.date)
    (hacc : ∀ t, Directive.tx t ∈ ds → ∀ p ∈ t.postings, p.account ∈ accts) :
    printFile path (strBytes (opensText o accts ++ render ds)) = .ok (opensText o accts ++ render ds) :=
  withOpens_reprinted path o accts ds h hne ho ha hlt (withOpens_accepted o accts ds hnd hna hacc)

/-- prices only (`ch.viac`): nothing to open, the output is accepted and reprinted as it is -/
theorem C13_text_valid_prices_only (path : String) (ds : List Directive) (h : ∀ d ∈ ds, PrintableDir d)
    (hna : ∀ d ∈ ds, TxOrPrice d) (hnt : ∀ t, Directive.tx t ∉ ds) : printFile path (strBytes (render ds)) = .ok (render ds) := by
  apply printFile_fixpoint path _ (printable_built ds h)
  obtain ⟨st', h'⟩ := days_ok (Builder.ofList ds).build {} (built_txDays ds hna) (by
    intro d hd t ht
    exact absurd (built_tx_mem ds d hd t ht) (hnt t))
  unfold Check.run
  rw [h']; rfl

/-! ## output that carries the statement's balance assertions -/

/-- **accepted iff the statement's balance column is consistent with its amounts**: for every import faithful to the
statement's items (booking rows ↦ transactions with the row's net effect on the import account, carried balances ↦
assertions on it), an asset or liability import account, every account booked on opened exactly once on a day before the
first directive, the checker accepts opens + output if and only if every balance the statement carries is the sum of the
booking rows up to and including its day, starting from zero -/
theorem C13_text_accepted_iff_consistent (o : Int) (accts : List Account) (acct : Account) (items : List Spec.Import.Item)
    (ds : List Directive) (hf : Faithful acct items ds) (hal : acct.isAL = true) (hnd : accts.Nodup) (hin : acct ∈ accts)
    (hacc : ∀ t, Directive.tx t ∈ ds → ∀ p ∈ t.postings, p.account ∈ accts) (hlt : ∀ x ∈ ds, o < x.date) :
    (Check.run (openDay o accts :: (Builder.ofList ds).build)).isOk = true ↔ Consistent items :=
  withOpens_accepted_iff o accts acct items ds hf hal hnd hin hacc hlt

/-- `revolut2`: accepted iff, per day and currency, the `Balance` of the last row is the sum of `Amount − Fee` so far -/
theorem C13_revolut2_accepted_iff (o : Int) (accts : List Account) (acct fee : Account) (recs : List Rec) (ds : List Directive)
    (h : Revolut2.run acct fee recs = .ok ds) (hacct : acct ≠ tbd) (hfee : acct ≠ fee) (hal : acct.isAL = true)
    (hnd : accts.Nodup) (hin : acct ∈ accts) (hacc : ∀ t, Directive.tx t ∈ ds → ∀ p ∈ t.postings, p.account ∈ accts)
    (hlt : ∀ x ∈ ds, o < x.date) :
    (Check.run (openDay o accts :: (Builder.ofList ds).build)).isOk = true ↔ Consistent (revolut2 recs) :=
  withOpens_accepted_iff o accts acct _ ds (C13_revolut2 acct fee hacct hfee recs ds h) hal hnd hin hacc hlt

/-- `revolut`: accepted iff the balance of the first row of each run of equal dates is the sum of all rows of that and
earlier days -/
theorem C13_revolut_accepted_iff (o : Int) (accts : List Account) (acct : Account) (recs : List Rec) (ds : List Directive)
    (h : Revolut.run acct recs = .ok ds) (hacct : acct ≠ tbd) (hval : acct ≠ valuationAccountFor acct) (hal : acct.isAL = true)
    (hnd : accts.Nodup) (hin : acct ∈ accts) (hacc : ∀ t, Directive.tx t ∈ ds → ∀ p ∈ t.postings, p.account ∈ accts)
    (hlt : ∀ x ∈ ds, o < x.date) :
    (Check.run (openDay o accts :: (Builder.ofList ds).build)).isOk = true ↔ Consistent (revolut recs) :=
  withOpens_accepted_iff o accts acct _ ds (C13_revolut acct hacct hval recs ds h) hal hnd hin hacc hlt

/-- `us.interactivebrokers`: accepted iff the open positions and cash balances the statement reports are the sums of its
trades, dividends, taxes, fees and transfers -/
theorem C13_interactivebrokers_accepted_iff (o : Int) (accts : List Account) (a : Swissquote.Accts) (ok : AcctsOK a)
    (recs : List Rec) (ds : List Directive) (h : IB.run a recs = .ok ds) (hal : a.account.isAL = true)
    (hnd : accts.Nodup) (hin : a.account ∈ accts) (hacc : ∀ t, Directive.tx t ∈ ds → ∀ p ∈ t.postings, p.account ∈ accts)
    (hlt : ∀ x ∈ ds, o < x.date) :
    (Check.run (openDay o accts :: (Builder.ofList ds).build)).isOk = true ↔ Consistent (interactivebrokers recs) :=
  withOpens_accepted_iff o accts a.account _ ds (C13_interactivebrokers a ok recs ds h) hal hnd hin hacc hlt

/-- **the text-level clause for output with assertions**: `knut print` on opens + output reproduces the file byte for byte
if the statement is consistent, and fails in processing (a failed assertion) if it is not -/
theorem C13_text_valid_iff_consistent (path : String) (o : Int) (accts : List Account) (acct : Account)
    (items : List Spec.Import.Item) (ds : List Directive) (hf : Faithful acct items ds) (h : ∀ d ∈ ds, PrintableDir d)
    (hal : acct.isAL = true) (hne : accts ≠ []) (hnd : accts.Nodup) (hin : acct ∈ accts) (ho : PrintableDate o)
    (ha : ∀ a ∈ accts, PrintableAccount a = true) (hlt : ∀ d ∈ ds, o < d.date)
    (hacc : ∀ t, Directive.tx t ∈ ds → ∀ p ∈ t.postings, p.account ∈ accts) :
    (Consistent items → printFile path (strBytes (opensText o accts ++ render ds)) = .ok (opensText o accts ++ render ds)) ∧
    (¬ Consistent items → printFile path (strBytes (opensText o accts ++ render ds)) = .error "processing") := by
  have hiff := withOpens_accepted_iff o accts acct items ds hf hal hnd hin hacc hlt
  constructor
  · intro hc
    exact withOpens_reprinted path o accts ds h hne ho ha hlt (hiff.mpr hc)
  · intro hc
    apply withOpens_rejected path o accts ds h hne ho ha hlt
    cases hr : (Check.run (openDay o accts :: (Builder.ofList ds).build)).isOk with
    | false => rfl
    | true => exact absurd (hiff.mp hr) hc

/-! ## Non-vacuity: the statement of `Properties/C13.lean` with a double quote and a separator in the free text -/

/-- the two transactions `Swisscard2.run card [hdr12, row1, row0]` yields -/
def exOut : List Directive :=
  [mkTx 739072 "say \"hi\"; x / aa / Familie / 11 / STORES / Belastung" [⟨card, tbd, "CHF", 363/5⟩],
   mkTx 739073 "zero / aa / Familie / 11 / STORES / Belastung" [⟨card, tbd, "EUR", 0⟩]]

theorem exOut_run : Swisscard2.run card [hdr12, row1, row0] = .ok exOut := witness_run

theorem card_ok : AccOK card := by unfold AccOK; decide +kernel

/-- the double quotes of the statement are single quotes in the stored description, so the directive is printable -/
example : ∀ d ∈ exOut, PrintableDir d := C13_swisscard2_printable card card_ok _ _ exOut_run

/-- opened the day before, the output is accepted and reprinted byte for byte -/
example : printFile "j" (strBytes (opensText 739071 [card, tbd] ++ render exOut)) = .ok (opensText 739071 [card, tbd] ++ render exOut) :=
  C13_text_valid "j" 739071 [card, tbd] exOut (C13_swisscard2_printable card card_ok _ _ exOut_run)
    (C13_swisscard2_tx_or_price card _ _ exOut_run) (by simp) (by decide) (by decide) (by decide +kernel) (by decide +kernel)
    (by
      intro t ht
      simp only [exOut, mkTx, List.mem_cons, List.not_mem_nil, or_false, Directive.tx.injEq] at ht
      rcases ht with rfl | rfl <;> decide +kernel)

/-! ## Non-vacuity: a two-row revolut2 statement, consistent and not -/

/-- from here on `revolut` is this account, not the reader `Spec.Import.revolut` -/
def revolut : Account := ⟨["Assets", "Revolut"]⟩
def fees : Account := ⟨["Expenses", "Fees"]⟩
def r2hdr : Rec := ["Type", "Product", "Started Date", "Completed Date", "Description", "Amount", "Fee", "Currency", "State", "Balance"]
def r2row1 : Rec := ["TOPUP", "Current", "2023-01-02 10:00:00", "2023-01-02 10:00:01", "Top-Up", "100.00", "0.00", "CHF", "COMPLETED", "100.00"]
def r2row2 (bal : String) : Rec :=
  ["CARD_PAYMENT", "Current", "2023-01-03 09:00:00", "2023-01-03 11:00:00", "Coffee", "-4.50", "0.50", "CHF", "COMPLETED", bal]

/-- what `knut import revolut2` writes for the statement (the real binary writes the same text) -/
def exR2Out (bal : Rat) : List Directive :=
  [mkTx 738521 "Top-Up" [⟨tbd, revolut, "CHF", 100⟩],
   mkTx 738522 "Coffee" [⟨tbd, revolut, "CHF", -9/2⟩, ⟨revolut, fees, "CHF", 1/2⟩],
   .assertion ⟨738521, [⟨revolut, 100, "CHF"⟩]⟩, .assertion ⟨738522, [⟨revolut, bal, "CHF"⟩]⟩]

theorem exR2_run : Revolut2.run revolut fees [r2hdr, r2row1, r2row2 "95.00"] = .ok (exR2Out 95) := by decide +kernel
theorem exR2_run_bad : Revolut2.run revolut fees [r2hdr, r2row1, r2row2 "96.00"] = .ok (exR2Out 96) := by decide +kernel

/-- the statement whose last balance is 95.00 is consistent: 100.00 − 4.50 − 0.50 -/
theorem exR2_consistent : Consistent (revolut2 [r2hdr, r2row1, r2row2 "95.00"]) := by decide +kernel
/-- with 96.00 it is not -/
theorem exR2_inconsistent : ¬ Consistent (revolut2 [r2hdr, r2row1, r2row2 "96.00"]) := by decide +kernel

theorem exR2_accounts (bal : Rat) : ∀ t, Directive.tx t ∈ exR2Out bal → ∀ p ∈ t.postings, p.account ∈ [revolut, fees, tbd] := by
  intro t ht
  simp only [exR2Out, mkTx, List.mem_cons, List.not_mem_nil, or_false, Directive.tx.injEq, reduceCtorEq] at ht
  rcases ht with rfl | rfl <;> decide +kernel

/-- so the first is accepted once the three accounts are opened, and the second is not -/
example : (Check.run (openDay 738520 [revolut, fees, tbd] :: (Builder.ofList (exR2Out 95)).build)).isOk = true :=
  (C13_revolut2_accepted_iff 738520 [revolut, fees, tbd] revolut fees _ _ exR2_run (by decide) (by decide) (by decide)
    (by decide) (by decide) (exR2_accounts 95) (by decide +kernel)).mpr exR2_consistent

example : ¬ (Check.run (openDay 738520 [revolut, fees, tbd] :: (Builder.ofList (exR2Out 96)).build)).isOk = true :=
  fun h => exR2_inconsistent ((C13_revolut2_accepted_iff 738520 [revolut, fees, tbd] revolut fees _ _ exR2_run_bad (by decide)
    (by decide) (by decide) (by decide) (by decide) (exR2_accounts 96) (by decide +kernel)).mp h)

end Knut.C13
