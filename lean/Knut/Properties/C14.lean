import Knut.Proofs.Loader
import Knut.Proofs.Commands
import Knut.Spec.LoaderSpec
import Knut.FactsAgree.C14
/-!
# C14 — Commands fail cleanly on every input

> For every input — arbitrary bytes, any include graph including missing files and files that include each other,
> and any flag values — each journal-processing command (check, balance, print, format, infer, transcode,
> portfolio) terminates, and does so either successfully or with a non-zero exit status and a diagnostic on
> standard error; it never panics, hangs, or exhausts memory. An error in any included file fails the whole
> command, and a failing report command leaves standard output empty.

Models: `Knut.Loader` (`syntax.ParseFileRecursively`/`parseRec` over a file system `Path → Option Bytes` and an
arbitrary parser), `Knut.Commands` (`Cmd.run`, the commands composed from the loader, `model.FromStream` and the
models of the processors and printers; `portfolioClass` for the two portfolio commands, outcome class only).

What the theorems say, clause by clause:

* **terminates** — the model functions are total Lean functions; the one recursion of the code that is not bounded
  by the size of a single input, the include recursion, is defined *without fuel* (`Loader.loadRec`, well-founded on
  the number of readable paths not yet in the chain) and `C14_loader_depth_bounded` states the bound: the include
  chain never gets longer than the number of readable cleaned paths plus one. What Lean cannot express — wall-clock
  hangs and memory use of the real process — is decided by the monitors on every run.
* **successfully, or non-zero status with a diagnostic, never a panic** — `C14_no_panic` (per command, under exactly
  the guards of the two recorded findings), `C14_loader_no_panic`, `C14_fails_cleanly`.
* **an error in any included file fails the whole command** — `C14_included_error_fails`, `C14_cycle_is_error`,
  `C14_load_ok_iff`, `C14_included_error_fails_command`, `C14_included_semantic_error_fails`.
* **a failing report command leaves standard output empty** — `C14_error_stdout_empty` (structural in the model; tied
  to the code by `FactsAgree/C14.lean`: the writer on standard output is created after the last fallible call).

Besides the property theorems and their non-vacuity examples only `observe` lives here: what a model outcome looks like to
the harness, through which the two monitor theorems are stated.
-/
namespace Knut.C14
open Knut Knut.Loader Knut.Spec.Clean
open Knut.Commands hiding Bytes

variable {E F : Type}

/-- **the include recursion is bounded**: run with a depth budget of (number of readable cleaned paths + 1), the
loader never asks for more, and every larger budget gives the same result — the result of the fuel-free `load`.
For every file system with finitely many readable paths, every parser, every root: no include graph (cycles,
self-includes, missing files, diamonds) makes the loader recurse forever. -/
theorem C14_loader_depth_bounded (fs : FileSys) (parse : Path → Bytes → Parsed E F) (root : Path) (n : Nat)
    (h : depthBound fs ≤ n) : loadFuel fs parse n root [] = some (load fs parse root) := by
  unfold load
  apply loadFuel_eq
  have := remaining_le_length fs []
  unfold depthBound at h
  omega

/-- **the loader has no panic outcome**: it returns the files or an error value. -/
theorem C14_loader_no_panic (fs : FileSys) (parse : Path → Bytes → Parsed E F) (root : Path) :
    (∃ files, load fs parse root = .ok files) ∨ (∃ e, load fs parse root = .error e) :=
  loadRec_ok_or_error fs parse root []

/-- **an error in any included file fails the whole load**: if following include directives from the root
(`Walk`) reaches a file that cannot be read or that the parser rejects, the load is an error — wherever in the graph
the file is, whatever the other files contain. -/
theorem C14_included_error_fails (fs : FileSys) (parse : Path → Bytes → Parsed E F) {root g : Path} {vs : List Path}
    (w : Walk fs parse root vs g)
    (hbad : fs.read g = none ∨ ∃ text e, fs.read g = some text ∧ (parse g text).result = .error e) :
    ∃ e, load fs parse root = .error e :=
  load_error_of_walk w (Or.inr hbad)

/-- **a cycle is an error**: if following include directives from the root reaches a file whose cleaned path is the
cleaned path of a file passed on the way (a self-include, a 2-cycle, any longer cycle, under any spelling of the
paths), the load is an error. -/
theorem C14_cycle_is_error (fs : FileSys) (parse : Path → Bytes → Parsed E F) {root c : Path} {vs : List Path}
    (w : Walk fs parse root vs c) (hcyc : ∃ v ∈ vs, pathClean v = pathClean c) :
    ∃ e, load fs parse root = .error e := by
  apply load_error_of_walk w
  left
  obtain ⟨v, hv, he⟩ := hcyc
  simp only [inChain, List.any_eq_true, beq_iff_eq]
  exact ⟨v, hv, he⟩

theorem C14_self_include_is_error (fs : FileSys) (parse : Path → Bytes → Parsed E F) {root : Path} {text : Bytes} {inc : String}
    (hr : fs.read root = some text) (hi : inc ∈ (parse root text).includes)
    (hself : pathClean (resolve root inc) = pathClean root) : ∃ e, load fs parse root = .error e :=
  C14_cycle_is_error fs parse (.cons ⟨text, inc, hr, hi, rfl⟩ (.nil _)) ⟨root, List.mem_cons_self, hself.symm⟩

/-- **exactly the errors of the graph**: the load succeeds iff no include walk from the root ends in a call that
fails (cycle, unreadable, rejected by the parser). In particular an error never comes from nowhere. -/
theorem C14_load_ok_iff (fs : FileSys) (parse : Path → Bytes → Parsed E F) (root : Path) :
    (∃ files, load fs parse root = .ok files) ↔ ∀ vs c, Walk fs parse root vs c → ¬ Fails fs parse c vs := by
  constructor
  · rintro ⟨files, hok⟩ vs c w hf
    obtain ⟨e, he⟩ := load_error_of_walk w hf
    rw [hok] at he; cases he
  · intro h
    apply (loadRec_ok_iff fs parse root []).mpr
    intro f' a' hc
    obtain ⟨vs, h1, h2⟩ := walk_of_calls hc
    simp only [List.nil_append] at h1
    subst h1
    exact h _ _ h2

/-- every file of a successful load was read from the file system and accepted by the parser -/
theorem C14_loaded_files_parsed (fs : FileSys) (parse : Path → Bytes → Parsed E F) (root : Path) (files : List (Path × F))
    (h : load fs parse root = .ok files) :
    ∀ pf ∈ files, ∃ text, fs.read pf.1 = some text ∧ (parse pf.1 text).result = .ok pf.2 :=
  loadRec_mem fs parse root [] files h

/-- **a failing command leaves standard output empty**: output exists only as part of a completed result. Holds for
every command of the model, in particular for balance, print, transcode, infer and check --write. -/
theorem C14_error_stdout_empty (c : Command) (fs : FileSys) (f : Flags) (h : (Cmd.run c fs f).cls ≠ .ok) :
    (Cmd.run c fs f).stdout = "" := by
  cases hr : Cmd.run c fs f with
  | ok s => rw [hr] at h; exact absurd rfl h
  | error w => rfl
  | panic s => rfl

/-- **an error in any included file fails the whole command**: if the loader fails on the journal (for `infer`: on
the training file), the command ends with an error — not a panic, not success. With `C14_included_error_fails`
and `C14_cycle_is_error`: a missing, unreadable, malformed or cyclic file anywhere in the include graph. `format`
reads the one file it is given and nothing else. -/
theorem C14_included_error_fails_command (c : Command) (fs : FileSys) (f : Flags) (hc : c ≠ .format)
    (e : LoadErr Syntax.Err)
    (h : load fs parseForLoader (if c = .infer then f.training else f.path) = .error e) :
    (Cmd.run c fs f).cls = .error := by
  by_cases hi : c = .infer
  · subst hi
    show (runInfer fs f).cls = .error
    rw [runInfer_load_error fs f (by simpa using h)]
    rfl
  · have hj : c = .check ∨ c = .balance ∨ c = .print ∨ c = .transcode := by cases c <;> simp_all
    rw [if_neg hi] at h
    rcases run_fromPath_error c hj fs f (fromPath_load_error fs f.path h) with h' | ⟨w, h'⟩ <;> rw [h'] <;> rfl

/-- **an error in any included file fails the whole command**, second half: a file of the include graph that loads
and parses but cannot be turned into model directives (impossible date, invalid account type, unparsable amount,
`@accrue` window that ends before it starts, …) makes every command that builds the journal end without success —
wherever the file is in the graph, whatever the flags. -/
theorem C14_included_semantic_error_fails (c : Command) (fs : FileSys) (f : Flags)
    (hc : c = .check ∨ c = .balance ∨ c = .print ∨ c = .transcode) :
    ∀ files, load fs parseForLoader f.path = .ok files → ∀ pf ∈ files, ∀ e, elabFile pf.2 = .error e →
      (Cmd.run c fs f).cls ≠ .ok := by
  intro files hl pf hpf e he
  obtain ⟨e', h'⟩ := fromPath_error_of_file fs f.path files hl pf hpf e he
  rcases run_fromPath_error c hc fs f h' with h'' | ⟨w, h''⟩ <;> rw [h'']
  · exact cls_ne_ok (fromPath_noOk fs f.path _ h')
  · exact fun h => nomatch h

/-- the parser the loader runs on every file is `syntax.ParseFile`'s (the C07 model `parseText`): same tree, same
error; the loader only adds the include callback -/
theorem C14_loader_parser_is_parseText (file : Path) (text : Commands.Bytes) :
    (parseForLoader file text).result =
      (match Syntax.parseText file text with | .ok f => .ok (text, f) | .error e => .error e) :=
  parseForLoader_result file text

/-- **no command panics**, under exactly the guards of the two recorded findings:

* `AccrualGuard` (commands that build the journal: check, balance, print, transcode): no `@accrue` window of a
  loaded file starts on 0001-01-01 — otherwise `transaction.Create` panics in `date.NewPartition`
  (`Knut.C10.C10_zero_start_panics`, finding `accrual-window-starting-0001-01-01`);
* `WindowGuard` (balance only): the report window clipped to the journal does not start on 0001-01-01 — otherwise
  `date.NewPartition` panics (`Knut.C11.C11_zero_start_panics`, finding `transaction-dated-0001-01-01`).

`format` and `infer` never panic. Every other panic site of the modelled code (slice bounds in `Extract`, the table
renderer's `widths[i]` and `cells[0]`, `QuoRem` by zero) is shown unreachable. -/
theorem C14_no_panic (c : Command) (fs : FileSys) (f : Flags)
    (ha : c ≠ .format → c ≠ .infer → AccrualGuard fs f.path) (hw : c = .balance → WindowGuard fs f) :
    (Cmd.run c fs f).cls ≠ .panic := by
  apply cls_ne_panic
  cases c with
  | check => exact runCheck_noPanic fs f (ha (by decide) (by decide))
  | balance => exact runBalance_noPanic fs f (ha (by decide) (by decide)) (hw rfl)
  | print => exact runPrint_noPanic fs f (ha (by decide) (by decide))
  | format => exact runFormat_noPanic fs f
  | infer => exact runInfer_noPanic fs f
  | transcode => exact runTranscode_noPanic fs f (ha (by decide) (by decide))

/-- the two portfolio commands (outcome class only): no panic under the same two guards -/
theorem C14_no_panic_portfolio (fs : FileSys) (f : Flags) (ha : AccrualGuard fs f.path) (hw : WindowGuard fs f) :
    portfolioClass fs f ≠ .panic := by
  unfold portfolioClass
  apply cls_ne_panic
  refine ofExcept_bind_notPanic (commodityFlag_errs notPanic_msg _) fun v _ =>
    ofExcept_bind_notPanic (fromPath_noPanic fs f.path ha) fun ds hds => ?_
  simp only [newPartition, hw ds hds, if_false]
  split
  · split
    · exact notPanic_msg _
    · exact notPanic_ok _
  · split
    · exact notPanic_msg _
    · exact notPanic_ok _

/-- the guards are the code's: with a transaction dated 0001-01-01 and no `--from`, `balance` does panic in the model
as it does in the binary (the recorded finding), so the guard of `C14_no_panic` cannot be dropped -/
theorem C14_zero_window_panics (f : BalanceFlags) (ds : List Directive)
    (h : (BalanceCmd.window f (Builder.ofList ds)).start = 0) :
    BalanceCmd.run f ds = .panic "can't create partition with zero time" := by
  unfold BalanceCmd.run BalanceCmd.entries
  simp [newPartition, h]

/-- what a run of the model looks like to the harness: `ok` is exit status 0, an error is exit status 1 with a
diagnostic and (structurally) nothing on standard output, a panic is Go's exit status 2 with a trace -/
def observe (o : CmdOutcome) : Observation :=
  match o with
  | .ok out => { ending := .exited 0, stdoutEmpty := out.isEmpty, stderrEmpty := true, crashTrace := false }
  | .error _ => { ending := .exited 1, stdoutEmpty := true, stderrEmpty := false, crashTrace := false }
  | .panic _ => { ending := .exited 2, stdoutEmpty := true, stderrEmpty := false, crashTrace := true }

/-- **the predicate the monitor evaluates on every real run holds of the model**, for every command, file system
and flag vector, under the guards of `C14_no_panic` — also when the command is treated as a report command. -/
theorem C14_fails_cleanly (c : Command) (fs : FileSys) (f : Flags) (report : Bool)
    (ha : c ≠ .format → c ≠ .infer → AccrualGuard fs f.path) (hw : c = .balance → WindowGuard fs f) :
    failsCleanly report (observe (Cmd.run c fs f)) = true := by
  have hp := C14_no_panic c fs f ha hw
  cases hr : Cmd.run c fs f with
  | ok out => simp [observe, failsCleanly]
  | error w => cases report <;> simp [observe, failsCleanly]
  | panic s => rw [hr] at hp; exact absurd rfl hp

/-- and the second monitor clause: a loader error is observed as a failed run -/
theorem C14_included_error_observed (c : Command) (fs : FileSys) (f : Flags) (hc : c ≠ .format) (e : LoadErr Syntax.Err)
    (h : load fs parseForLoader (if c = .infer then f.training else f.path) = .error e) :
    includedErrorFails true (observe (Cmd.run c fs f)) = true := by
  have := C14_included_error_fails_command c fs f hc e h
  cases hr : Cmd.run c fs f with
  | ok out => rw [hr] at this; cases this
  | error w => simp [observe, includedErrorFails, failed]
  | panic s => rw [hr] at this; cases this


/-- a one-file file system whose file includes itself under another spelling -/
def exFS : FileSys := FileSys.ofList [("a", [])]
def exParse : Path → Loader.Bytes → Parsed Unit Unit := fun file _ => if file = "a" then ⟨["./a"], .ok ()⟩ else ⟨[], .ok ()⟩

example : ∃ e, load exFS exParse "a" = .error e :=
  C14_self_include_is_error exFS exParse (root := "a") (text := []) (inc := "./a")
    (by decide +kernel) (by simp [exParse]) (by decide +kernel)

/-- an include of a missing file: the walk `a → b`, `b` unreadable -/
def exParse2 : Path → Loader.Bytes → Parsed Unit Unit := fun file _ => if file = "a" then ⟨["sub/../b"], .ok ()⟩ else ⟨[], .ok ()⟩

example : ∃ e, load exFS exParse2 "a" = .error e :=
  C14_included_error_fails exFS exParse2 (root := "a") (g := "b") (vs := ["a"])
    (.cons ⟨[], "sub/../b", by decide +kernel, by simp [exParse2], by decide +kernel⟩ (.nil _))
    (Or.inl (by decide +kernel))

/-- the depth bound is attained: one readable file, depth 2 (the file, then the failing call for the cycle) -/
example : loadFuel exFS exParse 1 "a" [] = none ∧ depthBound exFS = 2 := by
  constructor
  · simp [loadFuel, exFS, exParse, FileSys.ofList, inChain]
  · rfl

/-- a journal that is not there: every journal command ends with an error, nothing on standard output, and the
guards of `C14_no_panic` hold -/
def exEmpty : FileSys := FileSys.ofList []

theorem exEmpty_load (p : Path) : load exEmpty parseForLoader p = .error (.unreadable p) :=
  loadRec_unreadable _ _ _ _ rfl rfl

example : (Cmd.run .print exEmpty { path := "j.knut" }).cls = .error :=
  C14_included_error_fails_command .print exEmpty _ (by decide) _ (exEmpty_load _)

example : (Cmd.run .print exEmpty { path := "j.knut" }).stdout = "" :=
  C14_error_stdout_empty _ _ _ (by rw [C14_included_error_fails_command .print exEmpty _ (by decide) _ (exEmpty_load _)]; decide)

example : AccrualGuard exEmpty "j.knut" := by
  intro files h; rw [exEmpty_load] at h; cases h

/-- the recorded finding in the model: a transaction dated 0001-01-01 and no `--from` -/
example : BalanceCmd.run { to := 738000 } [.tx { date := 0, description := "x", postings := [] }]
    = .panic "can't create partition with zero time" :=
  C14_zero_window_panics _ _ (by decide +kernel)

end Knut.C14
