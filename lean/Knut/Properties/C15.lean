import Knut.Proofs.InferFormat
import Knut.Proofs.InferArgmax
/-!
# C15 — infer edits only the placeholder account

`knut infer -a PLACEHOLDER -t TRAINING TARGET`. Model: `Knut/Model/Infer.lean` (`train` = `inferRunner.train` +
`bayes.Model.Update`, `Model.inferBooking` = the loop body of `bayes.Model.Infer`, `inferFormat` = `parseAndInfer` +
`syntax.FormatFile`, `inferCmd` = `inferRunner.execute`). Every theorem holds **for every score function and every
comparison** (`sc : Scorer S`, any `S`): the float arithmetic of `scoreCandidate` plays no role in them.

`BookingV` are the four extracted fields of a booking, `DirV` those of a directive; `trainingAccounts placeholder txs`
lists the credit and debit accounts of the training bookings that use no macro account, have non-empty names and do not
touch the placeholder (`Spec/InferSpec.lean`), and `viewsOK` is the predicate the monitor evaluates on the real output.
-/
namespace Knut.C15
open Knut Knut.Syntax Knut.Infer Knut.Spec.Infer Knut.Spec.Syntax

variable {S : Type} (sc : Scorer S)

/-- the keys of `countByAccount` after training are the learnable accounts of the training transactions -/
theorem C15_keys_are_training_accounts (placeholder : Bytes) (txs : List TTx) (a : Bytes) :
    a ∈ (train placeholder txs).countByAccount.keys ↔ a ∈ trainingAccounts placeholder txs :=
  mem_keys_train placeholder txs a

theorem C15_no_empty_key (placeholder : Bytes) (txs : List TTx) : [] ∉ (train placeholder txs).countByAccount.keys :=
  train_no_empty_key placeholder txs

theorem C15_no_placeholder_key (placeholder : Bytes) (txs : List TTx) : placeholder ∉ (train placeholder txs).countByAccount.keys := by
  intro h
  obtain ⟨_, _, _, _, _, _, _, _, _, _, h2⟩ := trainingAccounts_spec ((mem_keys_train _ _ _).mp h)
  exact h2 rfl

/-- **only booking account fields whose text was the placeholder change**: `Infer` leaves quantity and commodity of
every booking alone, and an account field that is not the placeholder keeps its text. -/
theorem C15_only_placeholder (placeholder : Bytes) (txs : List TTx) (desc : Bytes) (b : BookingV) :
    let b' := (train placeholder txs).inferBooking sc desc b
    b'.quantity = b.quantity ∧ b'.commodity = b.commodity ∧
    (b.credit ≠ placeholder → b'.credit = b.credit) ∧ (b.debit ≠ placeholder → b'.debit = b.debit) := by
  have h := train_spec sc placeholder txs desc b
  exact ⟨h.quantity, h.commodity, h.credit_other, h.debit_other⟩

/-- **nothing but bookings of transactions is touched**: every other directive keeps all its fields; a transaction keeps
its annotations, date and description and the number of its bookings. -/
theorem C15_only_bookings (m : Model) (d : DirV) :
    (∀ accr perf date desc bs, d = .transaction accr perf date desc bs →
      m.inferDir sc d = .transaction accr perf date desc (bs.map (m.inferBooking sc desc))) ∧
    ((∀ accr perf date desc bs, d ≠ .transaction accr perf date desc bs) → m.inferDir sc d = d) := by
  constructor
  · intro accr perf date desc bs h; subst h; rfl
  · intro h
    cases d with
    | transaction accr perf date desc bs => exact absurd rfl (h accr perf date desc bs)
    | _ => rfl

/-- **each replacement occurs in the training journal**: a changed account field holds a learnable account, i.e. the
credit or debit account of a booking of a training transaction whose accounts are not macros and not the placeholder;
it is neither empty nor the placeholder. -/
theorem C15_candidate_from_training (placeholder : Bytes) (txs : List TTx) (desc : Bytes) (b : BookingV) :
    let b' := (train placeholder txs).inferBooking sc desc b
    ∀ a, (a = b'.credit ∧ b'.credit ≠ b.credit) ∨ (a = b'.debit ∧ b'.debit ≠ b.debit) →
      a ∈ trainingAccounts placeholder txs ∧
      ∃ t ∈ txs, ∃ tb ∈ t.bookings, (a = tb.v.credit ∨ a = tb.v.debit) ∧ tb.creditMacro = false ∧ tb.debitMacro = false ∧
        tb.v.credit ≠ placeholder ∧ tb.v.debit ≠ placeholder ∧ a ≠ [] ∧ a ≠ placeholder := by
  intro b' a ha
  have h := train_spec sc placeholder txs desc b
  have : a ∈ trainingAccounts placeholder txs := by
    rcases ha with ⟨rfl, hne⟩ | ⟨rfl, hne⟩
    · exact (h.credit_cases.resolve_left hne).2.1
    · exact (h.debit_cases.resolve_left hne).2.1
  exact ⟨this, trainingAccounts_spec this⟩

/-- **each replacement differs from the other account of the booking**: the new credit account differs from the debit
account it was inferred against and from the debit account of the result; the new debit account differs from the
(possibly new) credit account. A booking that was edited never has the same account on both sides. -/
theorem C15_differs_from_other (placeholder : Bytes) (txs : List TTx) (desc : Bytes) (b : BookingV) :
    let b' := (train placeholder txs).inferBooking sc desc b
    (b'.credit ≠ b.credit → b'.credit ≠ b.debit ∧ b'.credit ≠ b'.debit) ∧
    (b'.debit ≠ b.debit → b'.debit ≠ b'.credit) := by
  intro b'
  have h := train_spec sc placeholder txs desc b
  refine ⟨fun hne => ?_, fun hne => (h.debit_cases.resolve_left hne).2.2.1⟩
  have e := (h.credit_cases.resolve_left hne).2.2.1
  refine ⟨e, ?_⟩
  rcases h.debit_cases with e2 | ⟨_, _, e2, _⟩
  · show b'.credit ≠ b'.debit
    rw [e2]; exact e
  · exact fun x => e2 x.symm

/-- **no candidate ⇒ unchanged**: if the training data offers no account other than the debit account, the credit field
is left as it was; if it offers none other than the (possibly new) credit account, the debit field is left as it was.
In particular a model trained on nothing changes nothing. -/
theorem C15_no_candidate_unchanged (placeholder : Bytes) (txs : List TTx) (desc : Bytes) (b : BookingV) :
    let b' := (train placeholder txs).inferBooking sc desc b
    ((∀ a ∈ trainingAccounts placeholder txs, a = b.debit) → b'.credit = b.credit) ∧
    ((∀ a ∈ trainingAccounts placeholder txs, a = b'.credit) → b'.debit = b.debit) := by
  intro b'
  have h := train_spec sc placeholder txs desc b
  exact ⟨h.credit_kept, h.debit_kept⟩

/-- **a candidate ⇒ replaced**: a placeholder field is replaced whenever the training data offers an account other than
the other account of the booking (the first candidate always beats `-Inf`). -/
theorem C15_candidate_replaced (placeholder : Bytes) (txs : List TTx) (desc : Bytes) (b : BookingV) :
    let b' := (train placeholder txs).inferBooking sc desc b
    (b.credit = placeholder → (∃ a ∈ trainingAccounts placeholder txs, a ≠ b.debit) →
      b'.credit ∈ trainingAccounts placeholder txs ∧ b'.credit ≠ placeholder) ∧
    (b.debit = placeholder → (∃ a ∈ trainingAccounts placeholder txs, a ≠ b'.credit) →
      b'.debit ∈ trainingAccounts placeholder txs ∧ b'.debit ≠ placeholder) := by
  intro b'
  have h := train_spec sc placeholder txs desc b
  have hp : ∀ {a}, a ∈ trainingAccounts placeholder txs → a ≠ placeholder :=
    fun ha e => C15_no_placeholder_key placeholder txs ((mem_keys_train _ _ _).mpr (e ▸ ha))
  exact ⟨fun h1 hex => ⟨(h.credit_new h1 hex).1, hp (h.credit_new h1 hex).1⟩,
    fun h1 hex => ⟨(h.debit_new h1 hex).1, hp (h.debit_new h1 hex).1⟩⟩

/-- **which account is chosen**: when the comparison is the strict part of a total preorder (`>` on the finite floats the
code computes; `>` on the exact scores, `exactScorer_order`), the inferred account is a best-scoring candidate and the
one with the smallest name among the best-scoring ones. This tie-break is what makes the choice independent of the map
order. -/
theorem C15_choice_is_argmax (ho : sc.Order) (m : Model) {desc : Bytes} {b : BookingV} {other a : Bytes}
    (h : m.inferAccount sc desc b other = some a) :
    ∀ c ∈ m.countByAccount.keys, c ≠ other →
      sc.gt (m.scoreCandidate sc c (tokenize desc b.commodity b.quantity other))
            (m.scoreCandidate sc a (tokenize desc b.commodity b.quantity other)) = false ∧
      (bytesLt c a = true →
        sc.gt (m.scoreCandidate sc a (tokenize desc b.commodity b.quantity other))
              (m.scoreCandidate sc c (tokenize desc b.commodity b.quantity other)) = true) :=
  inferAccount_argmax sc m ho h

/-- **the monitor predicate holds of the model**: the fields of the output are related to the fields of the target by
`viewsOK`, the predicate evaluated on the real output of every generated case, for any enumeration of the learnable
accounts. -/
theorem C15_viewsOK (placeholder : Bytes) (txs : List TTx) (training : List Bytes)
    (ht : ∀ a, a ∈ training ↔ a ∈ trainingAccounts placeholder txs) (vs : List DirV) :
    viewsOK placeholder training vs (vs.map ((train placeholder txs).inferDir sc)) = true :=
  viewsOK_map sc (train placeholder txs) (fun desc b => (train_spec sc placeholder txs desc b).congr_keys fun a => (ht a).symm) vs

/-- **the choice is the same on every run (training order)**: the files of the training journal arrive in an order the
scheduler picks; any permutation of the training transactions gives the same inferred accounts and the same output. -/
theorem C15_deterministic (placeholder : Bytes) {txs₁ txs₂ : List TTx} (h : txs₁.Perm txs₂) (text : Bytes) (f : File) :
    inferFormat sc (train placeholder txs₁) text f = inferFormat sc (train placeholder txs₂) text f := by
  unfold inferFormat
  rw [(train_perm h).inferDir sc]

/-- **… for the whole command**: the training files in any arrival order give the same outcome (same rejection, same
bytes written). -/
theorem C15_deterministic_files (placeholder : Bytes) {training₁ training₂ : List (String × Bytes)} (h : training₁.Perm training₂)
    (path : String) (target : Bytes) :
    inferCmd sc placeholder training₁ path target = inferCmd sc placeholder training₂ path target := by
  unfold inferCmd
  rcases mapM_perm (fun pt : String × Bytes => (parseText pt.1 pt.2).toOption.map fun f => (pt.2, f)) h with
    ⟨h1, h2⟩ | ⟨fs₁, fs₂, h1, h2, hp⟩
  · rw [h1, h2]
  · rw [h1, h2]
    simp only
    rcases mapM_perm (fun tf : Bytes × File => fileTxs tf.1 tf.2) hp with ⟨h3, h4⟩ | ⟨t₁, t₂, h3, h4, hq⟩
    · rw [h3, h4]
    · rw [h3, h4]
      simp only
      cases parseText path target with
      | error e => rfl
      | ok f => simp only; rw [C15_deterministic sc placeholder hq.flatten target f]

/-- … and so does every single decision -/
theorem C15_deterministic_booking (placeholder : Bytes) {txs₁ txs₂ : List TTx} (h : txs₁.Perm txs₂) (desc : Bytes) (b : BookingV) :
    (train placeholder txs₁).inferBooking sc desc b = (train placeholder txs₂).inferBooking sc desc b :=
  (train_perm h).inferBooking sc desc b

/-- **the choice is the same on every run (map iteration order)**: `Model.update` ranges over the token *set*; walking
it in any order `walk` gives count tables inference cannot tell apart (`Model.Equiv`: same `count`, same
`countByAccount`, same `countByTokenAndAccount[t][a]` for all `t`, `a`), … -/
theorem C15_token_walk_irrelevant {m : Model} {evs : List Event} (hm : Agrees m evs) (desc : Bytes) (b : BookingV)
    (account other : Bytes) (walk : List Bytes) (hw : walk.Nodup)
    (hmem : ∀ t, t ∈ walk ↔ t ∈ tokenize desc b.commodity b.quantity other) :
    (m.updateWith account walk).Equiv (m.update desc b account other) :=
  (hm.updateWith account _ walk hw hmem).equiv (hm.update desc b account other) (List.Perm.refl _) rfl

/-- … and models that inference cannot tell apart infer the same accounts: the candidates are visited in sorted order
(`dict.SortedKeys`), so the enumeration order of `countByAccount` does not matter either. -/
theorem C15_equiv_same_choice {m₁ m₂ : Model} (h : m₁.Equiv m₂) (desc : Bytes) (b : BookingV) :
    m₁.inferBooking sc desc b = m₂.inferBooking sc desc b := h.inferBooking sc desc b

/-- the trained tables are plain counts over the multiset of `update` calls (the reason for the two theorems above) -/
theorem C15_tables_are_counts (placeholder : Bytes) (txs : List TTx) :
    Agrees (train placeholder txs) (events placeholder txs) := agrees_train placeholder txs

/-- **output = format of the input tree with those account texts replaced**: `inferFormat` is the formatter
(`formatWith`: extract the fields, compute the padding, copy the gaps, render) run on the edited fields, and the
formatter itself is `formatWith` without edit. -/
theorem C15_output_is_format_modulo_accounts (m : Model) (text : Bytes) (f : File) :
    inferFormat sc m text f = formatWith (m.inferDir sc) text f ∧ format text f = formatWith id text f :=
  ⟨rfl, (formatWith_id text f).symm⟩

/-- … spelled out: output and formatted input consist of the same gaps (the text between the directives of the input,
byte for byte); the directives in between are rendered from fields `ws` resp. `vs` that are related by `viewsOK`
(equal except placeholder account fields of bookings), each side with the padding its own account fields imply. -/
theorem C15_output_shape (placeholder : Bytes) (txs : List TTx) (text : Bytes) (f : File) (out : Bytes)
    (h : inferFormat sc (train placeholder txs) text f = some out) :
    ∃ vs ws fmt, f.directives.mapM (viewDirective text) = some vs ∧
      ws = vs.map ((train placeholder txs).inferDir sc) ∧
      viewsOK placeholder (trainingAccounts placeholder txs) vs ws = true ∧
      format text f = some fmt ∧
      fmt = interleave (gapsOf text 0 (f.directives.map (·.range))) (vs.map (renderDir (paddingOf vs))) ∧
      out = interleave (gapsOf text 0 (f.directives.map (·.range))) (ws.map (renderDir (paddingOf ws))) := by
  obtain ⟨vs, hv, hout⟩ := formatWith_shape h
  have hs : (format text f).isSome = true := by
    rw [← formatWith_isSome ((train placeholder txs).inferDir sc) text f]
    unfold inferFormat at h; rw [h]; rfl
  obtain ⟨fmt, hf⟩ := Option.isSome_iff_exists.mp hs
  have hf' := hf
  rw [← formatWith_id] at hf'
  obtain ⟨vs', hv', hfmt⟩ := formatWith_shape hf'
  rw [hv] at hv'
  injection hv' with hv'
  subst hv'
  simp only [List.map_id] at hfmt
  exact ⟨vs, _, fmt, hv, rfl, C15_viewsOK sc placeholder txs _ (fun _ => Iff.rfl) vs, hf, hfmt, hout⟩

/-- **infer adds no failure of its own**: it reaches a slice-bounds panic exactly when formatting the untouched tree
does (which C07/C08 exclude for a tree the parser returned). -/
theorem C15_no_new_panic (m : Model) (text : Bytes) (f : File) :
    (inferFormat sc m text f).isSome = (format text f).isSome := formatWith_isSome _ text f

/-! ### where the written account texts come from

That the result parses and is a fixed point of `infer` and of `format` is `Properties/C15Parse.lean`; what that argument needs
about infer itself is the following theorem: the text put into an account field is the text of an account the parser accepted
in a training file. -/

/-- every account text `infer` writes is the text (`Range.Extract`) of a non-macro credit or debit `Account` node of a
booking of a transaction in one of the parsed training files, and is not empty -/
theorem C15_written_account_is_training_node (placeholder : Bytes) (files : List (Bytes × File)) (txss : List (List TTx))
    (hfiles : files.mapM (fun tf => fileTxs tf.1 tf.2) = some txss) (desc : Bytes) (b : BookingV) :
    let b' := (train placeholder txss.flatten).inferBooking sc desc b
    ∀ a, (a = b'.credit ∧ b'.credit ≠ b.credit) ∨ (a = b'.debit ∧ b'.debit ≠ b.debit) →
      a ≠ [] ∧ ∃ tf ∈ files, ∃ d ∈ tf.2.directives, ∃ tr, d.body = .transaction tr ∧ ∃ bk ∈ tr.bookings,
        (bk.credit.range.extract tf.1 = some a ∧ bk.credit.isMacro = false) ∨
        (bk.debit.range.extract tf.1 = some a ∧ bk.debit.isMacro = false) := by
  intro b' a ha
  obtain ⟨_, t, ht, tb, htb, h1, h2, h3, _, _, h4, _⟩ := C15_candidate_from_training sc placeholder txss.flatten desc b a ha
  obtain ⟨txs, htxs, ht'⟩ := List.mem_flatten.mp ht
  obtain ⟨tf, htf, hftx⟩ := mapM_some_mem hfiles txs htxs
  obtain ⟨d, hd, tr, hbody, bk, hbk, e1, e2, m1, m2⟩ := fileTxs_mem hftx ht' htb
  refine ⟨h4, tf, htf, d, hd, tr, hbody, bk, hbk, ?_⟩
  rcases h1 with e | e
  · exact Or.inl ⟨by rw [e]; exact e1, by rw [← m1]; exact h2⟩
  · exact Or.inr ⟨by rw [e]; exact e2, by rw [← m2]; exact h3⟩

/-! ### non-vacuity -/

section Examples

def bank : Bytes := [66]   -- "B"
def food : Bytes := [70]   -- "F"
def tbd : Bytes := [84]    -- "T"
def exTx : TTx := ⟨[109], [⟨false, false, ⟨bank, food, [49], [67]⟩⟩]⟩

example : trainingAccounts tbd [exTx] = [bank, food] := by decide

/-- a placeholder on the debit side of a booking from `bank` is replaced by `food`, whatever the score function -/
theorem ex_debit_food (desc : Bytes) : ((train tbd [exTx]).inferBooking sc desc ⟨bank, tbd, [49], [67]⟩).debit = food := by
  have hta : ∀ a, a ∈ trainingAccounts tbd [exTx] ↔ a = bank ∨ a = food := by
    intro a
    rw [show trainingAccounts tbd [exTx] = [bank, food] by decide]
    simp
  rw [inferBooking_debit_two sc hta (by decide) (by decide)]

/-- with nothing learnable the booking is left alone -/
example (desc : Bytes) (b : BookingV) : (train tbd []).inferBooking sc desc b = b := by
  have h1 := C15_only_placeholder sc tbd [] desc b
  have h2 := C15_no_candidate_unchanged sc tbd [] desc b
  exact BookingV.ext_fields (h2.1 (fun a ha => nomatch ha)) (h2.2 (fun a ha => nomatch ha)) h1.1 h1.2.1

end Examples

end Knut.C15
