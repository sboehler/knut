import Knut.Properties.C15
import Knut.FactsAgree.TransBayes3
/-!
# C15 on the generated definitions

The theorems of `Properties/C15.lean` are about the model of `knut infer` (`Infer.train`, `Model.inferBooking`);
`FactsAgree/TransBayes*.lean` prove the functions translated from `/repo`'s `lib/syntax/bayes/bayes.go` (`NewModel`, `Update`, `tokenize`,
`inferAccount`, `Infer`) equal to it (`train_Infer_agrees`).  This module composes them.  The object of every statement is

  `inferGo sc account os gts gt` = `bayes.NewModel(account)`, `m.Update(t)` for every training transaction `t` of `gts` in turn,
  then `m.Infer(gt)` on the target transaction

— the composition `inferRunner.train` / `parseAndInfer` make — built from the GENERATED `Go.bayes.*`; its result is the target
transaction as `Infer` returns it.  `sc` ranges over EVERY `Scorer` (the float arithmetic of `scoreCandidate` plays no role; with the
code's own score the run is the run of the scorer `scorerOf fl`: `C15_real_go`), `os` over every family of iteration orders of the
token sets (one per `update` call site and round) that list each token once, the Go trees over ALL values that the `Extract()` calls
read as the model's fields (`Reads`: `ViewT` for the training transactions, `ViewB` for the target's bookings — in particular the Go
representation of every parsed file: `reads_parsed`).

The clauses are stated on the NODES of the Go tree: "unchanged" is equality of the node (range, path and text pointer included), a
changed account is read through the translated `Range.Extract`.
-/
namespace Knut.C15Go
open Knut Knut.GoSem Knut.Syntax Knut.Infer Knut.Spec.Infer
open Knut.Generated.Go
open Knut.FactsAgree.TransBayes hiding Bytes

variable {S : Type}

/-- training on `gts` (transaction `k` with the iteration orders `os k`), then inference on `gt` — in the translation -/
def inferGo (sc : Scorer S) (account : Bytes) (os : Nat → (Int → List Bytes) × (Int → List Bytes))
    (gts : List directives.Transaction) (gt : directives.Transaction) : Outcome directives.Transaction :=
  (trainGo gts 0 os (bayes.NewModel account)).bind (fun gm => bayes.Model.Infer gm gt (flOf sc) (extOf sc))

/-- the hypotheses of `train_Infer_agrees`: what the `Extract()` calls of `Update` and `Infer` read of the Go trees, and iteration
orders that list every token of their set once -/
structure Reads (os : Nat → (Int → List Bytes) × (Int → List Bytes)) (gts : List directives.Transaction) (txs : List TTx)
    (gt : directives.Transaction) (desc : Bytes) (vs : List BookingV) : Prop where
  training : Forall2 ViewT gts txs
  orders : TrainOrdersOK os txs 0
  desc : directives.Range.Extract gt.Description.Content = .ok desc
  bookings : Forall2 ViewB gt.Bookings vs

section
variable (sc : Scorer S) {account : Bytes} {os : Nat → (Int → List Bytes) × (Int → List Bytes)}
  {gts : List directives.Transaction} {txs : List TTx} {gt gt' : directives.Transaction} {desc : Bytes} {vs : List BookingV}

/-- **the bridge**: the translated training + inference returns — no panic, never out of fuel — the target with its bookings edited
by the MODEL's trained tables -/
theorem run_eq (hr : Reads os gts txs gt desc vs) :
    inferGo sc account os gts gt = .ok { gt with Bookings := editBs sc (train account txs) desc gt.Bookings vs } :=
  train_Infer_agrees sc account os gts txs hr.training hr.orders gt desc vs hr.desc hr.bookings

/-- the translated run is total on trees whose `Extract()` calls succeed -/
theorem C15_total_go (hr : Reads os gts txs gt desc vs) : ∃ gt', inferGo sc account os gts gt = .ok gt' := ⟨_, run_eq sc hr⟩

theorem run_ok (hr : Reads os gts txs gt desc vs) (h : inferGo sc account os gts gt = .ok gt') :
    gt' = { gt with Bookings := editBs sc (train account txs) desc gt.Bookings vs } := by
  rw [run_eq sc hr] at h
  injection h with h
  exact h.symm

/-- booking `i` of the result is the edit of booking `i` of the target, and is read as the model's `inferBooking` of its fields -/
theorem run_booking (hr : Reads os gts txs gt desc vs) (h : inferGo sc account os gts gt = .ok gt') {i : Nat}
    {gb : directives.Booking} (hi : gt.Bookings[i]? = some gb) :
    ∃ v gb', vs[i]? = some v ∧ ViewB gb v ∧ gt'.Bookings[i]? = some gb' ∧ gb' = editB sc (train account txs) desc gb v ∧
      ViewB gb' ((train account txs).inferBooking sc desc v) := by
  obtain ⟨v, hv, hview, hget⟩ := editBs_get sc (train account txs) desc hr.bookings i gb hi
  have := run_ok sc hr h
  subst this
  exact ⟨v, _, hv, hview, hget, rfl, editB_view sc _ desc gb v hview⟩

/-! ## only the placeholder account of bookings is edited -/

/-- **nothing but the bookings of the transaction is touched**: range, date, description and annotations of the target are the old
nodes, and it has as many bookings as before.  (`Infer` is called on transactions only: the type switch of `parseAndInfer` over the
directives is not translated — the other directives are not handed to package bayes at all.) -/
theorem C15_only_bookings_go (hr : Reads os gts txs gt desc vs) (h : inferGo sc account os gts gt = .ok gt') :
    gt'.Range = gt.Range ∧ gt'.Date = gt.Date ∧ gt'.Description = gt.Description ∧ gt'.Addons = gt.Addons ∧
      gt'.Bookings.length = gt.Bookings.length := by
  have := run_ok sc hr h
  subst this
  exact ⟨rfl, rfl, rfl, rfl, editBs_length sc _ desc _ _⟩

/-- **only booking account fields whose text was the placeholder change**: booking `i` of the result has the old range, quantity and
commodity NODES; an account node whose text (`Extract()`) is not the placeholder is the old node; a new account node is a synthesised
`Account{Range{0, len(a), "", a}}` -/
theorem C15_only_placeholder_go (hr : Reads os gts txs gt desc vs) (h : inferGo sc account os gts gt = .ok gt') {i : Nat}
    {gb : directives.Booking} (hi : gt.Bookings[i]? = some gb) :
    ∃ gb', gt'.Bookings[i]? = some gb' ∧ gb'.Range = gb.Range ∧ gb'.Quantity = gb.Quantity ∧ gb'.Commodity = gb.Commodity ∧
      (directives.Range.Extract gb.Credit.Range ≠ .ok account → gb'.Credit = gb.Credit) ∧
      (directives.Range.Extract gb.Debit.Range ≠ .ok account → gb'.Debit = gb.Debit) ∧
      (gb'.Credit = gb.Credit ∨ ∃ a, gb'.Credit = synth a) ∧ (gb'.Debit = gb.Debit ∨ ∃ a, gb'.Debit = synth a) := by
  obtain ⟨v, gb', hv, hview, hg, he, _⟩ := run_booking sc hr h hi
  obtain ⟨f1, f2, f3, f4, f5⟩ := editB_frame sc (train account txs) desc gb v
  refine ⟨gb', hg, by rw [he]; exact f1, by rw [he]; exact f2, by rw [he]; exact f3, ?_, ?_, by rw [he]; exact f4, by rw [he]; exact f5⟩
  · intro hne
    have hc : v.credit ≠ (train account txs).account := by
      rw [train_account]; intro e; apply hne; rw [hview.credit, e]
    rw [he]
    obtain ⟨_, _, _, d4, _⟩ := editDebit_frame sc (train account txs) desc (editCredit sc (train account txs) desc gb v).1 v
      (editCredit sc (train account txs) desc gb v).2
    unfold editB
    rw [d4]
    unfold editCredit
    rw [if_neg hc]
  · intro hne
    have hd : v.debit ≠ (train account txs).account := by
      rw [train_account]; intro e; apply hne; rw [hview.debit, e]
    rw [he]
    obtain ⟨_, _, _, c4, _⟩ := editCredit_frame sc (train account txs) desc gb v
    unfold editB editDebit
    rw [if_neg hd]
    exact c4

/-- the text of the quantity and commodity and of the account fields that were not the placeholder is what it was -/
theorem C15_only_placeholder_text_go (hr : Reads os gts txs gt desc vs) (h : inferGo sc account os gts gt = .ok gt') {i : Nat}
    {gb : directives.Booking} (hi : gt.Bookings[i]? = some gb) :
    ∃ v v' gb', ViewB gb v ∧ gt'.Bookings[i]? = some gb' ∧ ViewB gb' v' ∧
      v'.quantity = v.quantity ∧ v'.commodity = v.commodity ∧
      (v.credit ≠ account → v'.credit = v.credit) ∧ (v.debit ≠ account → v'.debit = v.debit) := by
  obtain ⟨v, gb', _, hview, hg, _, hv'⟩ := run_booking sc hr h hi
  exact ⟨v, _, gb', hview, hg, hv', C15.C15_only_placeholder sc account txs desc v⟩

/-! ## the replacement comes from the training data and differs from the other account -/

/-- **each replacement occurs in the training journal**: when an account field of booking `i` reads differently after the run, the new
text is read (`Extract()`) from the credit or debit account NODE of a booking of one of the training transactions `gts`, neither of
whose accounts is a macro or reads as the placeholder; it is neither empty nor the placeholder -/
theorem C15_candidate_from_training_go (hr : Reads os gts txs gt desc vs) (h : inferGo sc account os gts gt = .ok gt') {i : Nat}
    {gb gb' : directives.Booking} (hi : gt.Bookings[i]? = some gb) (hi' : gt'.Bookings[i]? = some gb') (a : Bytes)
    (ha : (directives.Range.Extract gb'.Credit.Range = .ok a ∧ directives.Range.Extract gb.Credit.Range ≠ .ok a) ∨
          (directives.Range.Extract gb'.Debit.Range = .ok a ∧ directives.Range.Extract gb.Debit.Range ≠ .ok a)) :
    a ∈ trainingAccounts account txs ∧ a ≠ [] ∧ a ≠ account ∧
    ∃ g ∈ gts, ∃ b ∈ g.Bookings,
      (directives.Range.Extract b.Credit.Range = .ok a ∨ directives.Range.Extract b.Debit.Range = .ok a) ∧
      b.Credit.Macro = false ∧ b.Debit.Macro = false ∧
      directives.Range.Extract b.Credit.Range ≠ .ok account ∧ directives.Range.Extract b.Debit.Range ≠ .ok account := by
  obtain ⟨v, gb'', _, hview, hg, _, hv'⟩ := run_booking sc hr h hi
  rw [hi'] at hg
  injection hg with hg
  subst hg
  have key := C15.C15_candidate_from_training sc account txs desc v a (by
    rcases ha with ⟨h1, h2⟩ | ⟨h1, h2⟩
    · rw [hv'.credit] at h1; injection h1 with h1
      rw [hview.credit] at h2
      exact Or.inl ⟨h1.symm, fun e => h2 (by rw [← h1, e])⟩
    · rw [hv'.debit] at h1; injection h1 with h1
      rw [hview.debit] at h2
      exact Or.inr ⟨h1.symm, fun e => h2 (by rw [← h1, e])⟩)
  obtain ⟨hmem, t, ht, tb, htb, hor, m1, m2, n1, n2, ne1, ne2⟩ := key
  obtain ⟨g, hgm, hvt⟩ := FactsAgree.TransProcess.AllRel_mem_right (Forall2.iff_allRel.mp hr.training) ht
  obtain ⟨b, hb, hvb, e1, e2⟩ := FactsAgree.TransProcess.AllRel_mem_right (Forall2.iff_allRel.mp hvt.bookings) htb
  refine ⟨hmem, ne1, ne2, g, hgm, b, hb, ?_, by rw [← e1]; exact m1, by rw [← e2]; exact m2, ?_, ?_⟩
  · rcases hor with e | e
    · exact Or.inl (by rw [hvb.credit, e])
    · exact Or.inr (by rw [hvb.debit, e])
  · rw [hvb.credit]; intro e; injection e with e; exact n1 e
  · rw [hvb.debit]; intro e; injection e with e; exact n2 e

/-- **each replacement differs from the other account of the booking**: a credit account that reads differently after the run differs
from the debit account it was inferred against and from the debit account of the result; a new debit account differs from the
(possibly new) credit account -/
theorem C15_differs_from_other_go (hr : Reads os gts txs gt desc vs) (h : inferGo sc account os gts gt = .ok gt') {i : Nat}
    {gb : directives.Booking} (hi : gt.Bookings[i]? = some gb) :
    ∃ v v' gb', ViewB gb v ∧ gt'.Bookings[i]? = some gb' ∧ ViewB gb' v' ∧
      (v'.credit ≠ v.credit → v'.credit ≠ v.debit ∧ v'.credit ≠ v'.debit) ∧ (v'.debit ≠ v.debit → v'.debit ≠ v'.credit) := by
  obtain ⟨v, gb', _, hview, hg, _, hv'⟩ := run_booking sc hr h hi
  exact ⟨v, _, gb', hview, hg, hv', C15.C15_differs_from_other sc account txs desc v⟩

/-- **a candidate ⇒ replaced, no candidate ⇒ unchanged**, on the texts read from the result -/
theorem C15_candidate_replaced_go (hr : Reads os gts txs gt desc vs) (h : inferGo sc account os gts gt = .ok gt') {i : Nat}
    {gb : directives.Booking} (hi : gt.Bookings[i]? = some gb) :
    ∃ v v' gb', ViewB gb v ∧ gt'.Bookings[i]? = some gb' ∧ ViewB gb' v' ∧
      (v.credit = account → (∃ a ∈ trainingAccounts account txs, a ≠ v.debit) →
        v'.credit ∈ trainingAccounts account txs ∧ v'.credit ≠ account) ∧
      (v.debit = account → (∃ a ∈ trainingAccounts account txs, a ≠ v'.credit) →
        v'.debit ∈ trainingAccounts account txs ∧ v'.debit ≠ account) ∧
      ((∀ a ∈ trainingAccounts account txs, a = v.debit) → v'.credit = v.credit) ∧
      ((∀ a ∈ trainingAccounts account txs, a = v'.credit) → v'.debit = v.debit) := by
  obtain ⟨v, gb', _, hview, hg, _, hv'⟩ := run_booking sc hr h hi
  have h1 := C15.C15_candidate_replaced sc account txs desc v
  have h2 := C15.C15_no_candidate_unchanged sc account txs desc v
  exact ⟨v, _, gb', hview, hg, hv', h1.1, h1.2, h2.1, h2.2⟩

/-- **the monitor's predicate**: the fields read from the result are related to the fields read from the target by `viewsOK` -/
theorem C15_viewsOK_go (hr : Reads os gts txs gt desc vs) (h : inferGo sc account os gts gt = .ok gt')
    (accr : Option AccrualV) (perf : Option (List Bytes)) (date : Bytes) :
    ∃ vs', Forall2 ViewB gt'.Bookings vs' ∧
      viewsOK account (trainingAccounts account txs) [.transaction accr perf date desc vs] [.transaction accr perf date desc vs'] = true := by
  have := run_ok sc hr h
  subst this
  refine ⟨_, editBs_view sc _ desc _ _ hr.bookings, ?_⟩
  exact C15.C15_viewsOK sc account txs _ (fun _ => Iff.rfl) [.transaction accr perf date desc vs]

end

/-! ## determinism -/

/-- **the choice is the same on every run**: neither the iteration orders of the token sets (every admissible family) nor the order in
which the training transactions arrive (any permutation of what is read of them — the files of the training journal arrive in an order
the scheduler picks) can be observed in the tree the translated run returns -/
theorem C15_deterministic_go (sc : Scorer S) (account : Bytes) {os₁ os₂ : Nat → (Int → List Bytes) × (Int → List Bytes)}
    {gts₁ gts₂ : List directives.Transaction} {txs₁ txs₂ : List TTx} {gt : directives.Transaction} {desc : Bytes} {vs : List BookingV}
    (h₁ : Reads os₁ gts₁ txs₁ gt desc vs) (h₂ : Reads os₂ gts₂ txs₂ gt desc vs) (hp : txs₁.Perm txs₂) :
    inferGo sc account os₁ gts₁ gt = inferGo sc account os₂ gts₂ gt := by
  rw [run_eq sc h₁, run_eq sc h₂, editBs_congr sc (train_perm hp)]

/-- … in particular the orders alone -/
theorem C15_orders_irrelevant_go (sc : Scorer S) (account : Bytes) {os₁ os₂ : Nat → (Int → List Bytes) × (Int → List Bytes)}
    {gts : List directives.Transaction} {txs : List TTx} {gt : directives.Transaction} {desc : Bytes} {vs : List BookingV}
    (h₁ : Reads os₁ gts txs gt desc vs) (h₂ : TrainOrdersOK os₂ txs 0) :
    inferGo sc account os₁ gts gt = inferGo sc account os₂ gts gt :=
  C15_deterministic_go sc account h₁ ⟨h₁.training, h₂, h₁.desc, h₁.bookings⟩ (List.Perm.refl _)

/-- **the code's own score**: with the translated `scoreCandidate` as the score function — over any interpretation `fl` of the float
operations that keeps the scores of the trained candidates above `-Inf` — the run is the run of the scorer `scorerOf fl`, so every
clause above holds of it -/
theorem C15_real_go {F : Type} (fl : Syn.F64 F) (account : Bytes) {os : Nat → (Int → List Bytes) × (Int → List Bytes)}
    {gts : List directives.Transaction} {txs : List TTx} {gt : directives.Transaction} {desc : Bytes} {vs : List BookingV}
    (hr : Reads os gts txs gt desc vs) (hf : FiniteScores fl (trainW os txs 0 (newModel account))) :
    (trainGo gts 0 os (bayes.NewModel account)).bind (fun gm => bayes.Model.Infer gm gt fl (extReal fl))
      = inferGo (scorerOf fl) account os gts gt := by
  rw [run_eq (scorerOf fl) hr]
  exact train_Infer_real fl account os gts txs hr.training hr.orders hf gt desc vs hr.desc hr.bookings

/-! ## the hypotheses on parsed trees -/

/-- the trees of parsed files meet `Reads`: training transactions `ts` of a file `text` that the model can view, and a target
transaction `t` of a file `text'` whose fields the model extracts — in Go's representation -/
theorem reads_parsed {text text' : Bytes} {path path' : String} (os : Nat → (Int → List Bytes) × (Int → List Bytes))
    (ts : List Syntax.Transaction) (txs : List TTx) (hts : ts.mapM (Infer.viewT text) = some txs) (ho : TrainOrdersOK os txs 0)
    (t : Syntax.Transaction) (accr : Option AccrualV) (perf : Option (List Bytes)) (date desc : Bytes) (bookings : List BookingV)
    (hv : viewTransaction text' t = some (.transaction accr perf date desc bookings)) :
    Reads os (ts.map (FactsAgree.TransParser.goTransaction text path)) txs (FactsAgree.TransParser.goTransaction text' path' t) desc bookings := by
  obtain ⟨accr', perf', date', desc', bookings', he, hd, hb⟩ := Infer.viewTransaction_some hv
  injection he with e1 e2 e3 e4 e5
  subst e4 e5
  refine ⟨?_, ho, ?_, viewBs_goBookings t.bookings bookings hb⟩
  · exact Forall2.of_mapM (fun _ _ => viewT_goTransaction) ts txs hts
  · simp [FactsAgree.TransParser.goTransaction, FactsAgree.TransParser.goQuoted, FactsAgree.TransPrinter.Extract_goRange, hd]

/-! ## Non-vacuity: the worked instance of `TransBayes3` (training on `B F 1 C`, target `B T 1 C`, placeholder `T`) meets `Reads`; the
translated run replaces the debit account `T` by the training account `F` -/

def exOrders : Nat → (Int → List Bytes) × (Int → List Bytes) :=
  fun _ => (fun _ => Infer.tokenize [70] [67] [49] [70], fun _ => Infer.tokenize [70] [67] [49] [66])

theorem ex_reads : Reads exOrders [exTx (exBooking (exRange 0 1) (exRange 1 2))] [⟨[70], [⟨false, false, ⟨[66], [70], [49], [67]⟩⟩]⟩]
    (exTx (exBooking (exRange 0 1) (exRange 2 3))) [70] [⟨[66], [84], [49], [67]⟩] :=
  ⟨ex_hyps.1, ex_hyps.2.1, ex_hyps.2.2.1, ex_hyps.2.2.2⟩

example (sc : Scorer S) : ∃ gt' gb', inferGo sc [84] exOrders [exTx (exBooking (exRange 0 1) (exRange 1 2))]
      (exTx (exBooking (exRange 0 1) (exRange 2 3))) = .ok gt' ∧ gt'.Bookings[0]? = some gb' ∧
    gb'.Credit = ⟨exRange 0 1, false⟩ ∧ directives.Range.Extract gb'.Debit.Range = .ok [70] := by
  obtain ⟨gt', h⟩ := C15_total_go sc (account := [84]) ex_reads
  obtain ⟨gb', hg', _, _, _, hc, _⟩ := C15_only_placeholder_go sc ex_reads h (i := 0) rfl
  obtain ⟨v, gb'', hv, _, hg, _, hview⟩ := run_booking sc ex_reads h (i := 0) rfl
  obtain rfl : gb' = gb'' := Option.some.inj (hg'.symm.trans hg)
  obtain rfl : (⟨[66], [84], [49], [67]⟩ : BookingV) = v := Option.some.inj hv
  refine ⟨gt', gb', h, hg', hc ?_, ?_⟩
  · rw [show directives.Range.Extract (exBooking (exRange 0 1) (exRange 2 3)).Credit.Range = .ok [66] from exExtract 0 1 (by omega)]
    decide
  · -- `B` and `F` are the learnable accounts, so the placeholder beside `B` becomes `F`
    have hta : ∀ a, a ∈ trainingAccounts [84] [⟨[70], [⟨false, false, ⟨[66], [70], [49], [67]⟩⟩]⟩] ↔ a = [66] ∨ a = [70] := by
      intro a
      rw [show trainingAccounts [84] [⟨[70], [⟨false, false, ⟨[66], [70], [49], [67]⟩⟩]⟩] = [[66], [70]] by decide]
      simp
    rw [Infer.inferBooking_debit_two sc hta (by decide) (by decide)] at hview
    exact hview.debit

end Knut.C15Go
