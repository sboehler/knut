import Knut.Proofs.InferReparse
import Knut.Proofs.InferExample
import Knut.Proofs.SyntaxExamples
import Knut.Properties.C15
import Knut.Properties.C08
/-!
# C15 — the text `knut infer` writes parses, and is the formatted input apart from the inferred accounts

`inferCmd sc placeholder training path target` is `inferRunner.execute` (`Model/Infer.lean`): `training` are the
(path, text) pairs of the training file and of everything it includes, `target` the text of the target file; the
outcome `.written out` carries the bytes written to stdout resp. into the target file. `trainingTxs training`
(`Proofs/InferReparse.lean`) are the transactions of all training files in arrival order, i.e. what
`inferRunner.train` feeds to `bayes.Model.Update`; `train placeholder txs` is the trained model and
`(train placeholder txs).inferDir sc` what `bayes.Model.Infer` does to the extracted fields of one directive
(`Properties/C15.lean` says which fields it can change and to what).

As in `Properties/C15.lean` every theorem holds for every score function and comparison `sc`. The parser is the
model of C07, the formatter the model of C08; the print-then-parse argument is the one of C08
(`parseDirective_complete`), run on the *edited* fields (`Proofs/InferParse.lean`): an inferred account is the text
of an account node of a parsed training file, hence a well-formed account, and the column width is a parameter of
the rendering.
-/
namespace Knut.C15
open Knut Knut.Syntax Knut.Infer Knut.Spec.Infer Knut.Spec.Syntax

variable {S : Type} (sc : Scorer S)

/-- **the result parses**: whenever `knut infer` writes a text — for all training files, every target and every
placeholder — that text parses; the directives of the result have exactly the fields of the directives of the target
with `Infer` applied (`vs.map inferDir`: same number and kinds of directives, every field byte for byte except the
placeholder account fields `Infer` replaced); the text outside the directives is the target's, gap by gap; and the
result is laid out as the formatter lays it out (`format out g = some out`). -/
theorem C15_output_parses (placeholder : Bytes) (training : List (String × Bytes)) (path : String) (target out : Bytes)
    (h : inferCmd sc placeholder training path target = .written out) :
    ∃ txs f g vs, trainingTxs training = some txs ∧ parseText path target = .ok f ∧
      f.directives.mapM (viewDirective target) = some vs ∧
      parseText path out = .ok g ∧
      g.directives.mapM (viewDirective out) = some (vs.map ((train placeholder txs).inferDir sc)) ∧
      viewsOK placeholder (trainingAccounts placeholder txs) vs (vs.map ((train placeholder txs).inferDir sc)) = true ∧
      gapsOf out 0 (g.directives.map (·.range)) = gapsOf target 0 (f.directives.map (·.range)) ∧
      format out g = some out := by
  obtain ⟨txs, f, h1, h2, h3, hacc⟩ := inferCmd_written sc h
  have hedit := inferDir_ok sc (train placeholder txs) (C15_no_empty_key placeholder txs) (trained_keys_accB hacc)
  obtain ⟨out', g, vs, r1, r2, _, r3, r4, r5, r6⟩ := formatWith_roundtrip hedit h2
  have e : out' = out := by
    unfold inferFormat at h3
    rw [r1] at h3
    exact Option.some.inj h3
  subst e
  exact ⟨txs, f, g, vs, h1, h2, r2, r3, r4, C15_viewsOK sc placeholder txs _ (fun _ => Iff.rfl) vs, r5, r6⟩

/-- **the result is the formatted input apart from the inferred accounts**: `knut format` of the target succeeds
(`fmt`), and the monitor predicate `inferOK` — evaluated on the real output of every generated case — holds of the
model: `fmt` and `out` both parse, their directives' fields are related by `viewsOK` (equal except placeholder
account fields of bookings, which hold a learnable account different from the other account, or are unchanged exactly
when there is none), the text between the directives is identical, and `out` is a fixed point of `format`. -/
theorem C15_output_is_formatted_input_modulo_accounts (placeholder : Bytes) (training : List (String × Bytes))
    (path : String) (target out : Bytes) (h : inferCmd sc placeholder training path target = .written out) :
    ∃ txs fmt, trainingTxs training = some txs ∧ formatFile path target = .written fmt ∧
      inferOK placeholder (trainingAccounts placeholder txs) path fmt out = true := by
  obtain ⟨txs, f, g, vs, h1, h2, h3, h4, h5, h6, h7, h8⟩ := C15_output_parses sc placeholder training path target out h
  obtain ⟨fmt, f2, hfmt, p2, v2, _, g2, _⟩ := roundtrip h2
  have hff : formatFile path target = .written fmt := by simp [formatFile, h2, hfmt]
  refine ⟨txs, fmt, h1, hff, ?_⟩
  rw [h3] at v2
  unfold inferOK
  simp only [p2, h4, v2, h5, h6, g2, h7, h8, beq_self_eq_true, Bool.and_self]

/-- … spelled out without the executable predicate: the formatted target `fmt` parses to directives with fields `vs`,
the result parses to directives with fields `vs.map inferDir`, gaps equal. -/
theorem C15_output_fields_vs_formatted (placeholder : Bytes) (training : List (String × Bytes))
    (path : String) (target out : Bytes) (h : inferCmd sc placeholder training path target = .written out) :
    ∃ txs fmt f' g vs, trainingTxs training = some txs ∧ formatFile path target = .written fmt ∧
      parseText path fmt = .ok f' ∧ f'.directives.mapM (viewDirective fmt) = some vs ∧
      parseText path out = .ok g ∧
      g.directives.mapM (viewDirective out) = some (vs.map ((train placeholder txs).inferDir sc)) ∧
      gapsOf out 0 (g.directives.map (·.range)) = gapsOf fmt 0 (f'.directives.map (·.range)) := by
  obtain ⟨txs, f, g, vs, h1, h2, h3, h4, h5, _, h7, _⟩ := C15_output_parses sc placeholder training path target out h
  obtain ⟨fmt, f2, hfmt, p2, v2, _, g2, _⟩ := roundtrip h2
  have hff : formatFile path target = .written fmt := by simp [formatFile, h2, hfmt]
  exact ⟨txs, fmt, f2, g, vs, h1, hff, p2, by rw [v2, h3], h4, h5, by rw [h7, g2]⟩

/-- **running `infer` again on its own output changes nothing, and neither does `format`**: with the same training
files, `knut infer` on `out` writes `out` again — whether or not a placeholder is left in it (a field that is still the
placeholder had no candidate the first time and has none the second time; every other field is not the placeholder,
which is never learnt) — and `knut format` leaves `out` as it is. -/
theorem C15_idempotent_after (placeholder : Bytes) (training : List (String × Bytes)) (path : String) (target out : Bytes)
    (h : inferCmd sc placeholder training path target = .written out) :
    inferCmd sc placeholder training path out = .written out ∧ formatFile path out = .written out := by
  obtain ⟨txs, f, g, vs, h1, h2, h3, h4, h5, _, _, h8⟩ := C15_output_parses sc placeholder training path target out h
  have hfix : (vs.map ((train placeholder txs).inferDir sc)).map ((train placeholder txs).inferDir sc) =
      vs.map ((train placeholder txs).inferDir sc) := by
    rw [List.map_map]
    apply List.map_congr_left
    intro w _
    exact inferDir_idem sc (train placeholder txs) (C15_no_empty_key placeholder txs)
      (by rw [train_account]; exact C15_no_placeholder_key placeholder txs) w
  refine ⟨inferCmd_of sc h1 h4 ?_, by simp [formatFile, h4, h8]⟩
  unfold inferFormat
  rw [formatWith_fixed h5 hfix, h8]

/-- a second `Infer` with the same model leaves every booking as the first one left it (the field-level statement
behind `C15_idempotent_after`) -/
theorem C15_infer_idempotent (placeholder : Bytes) (txs : List TTx) (desc : Bytes) (b : BookingV) :
    (train placeholder txs).inferBooking sc desc ((train placeholder txs).inferBooking sc desc b) =
      (train placeholder txs).inferBooking sc desc b :=
  inferBooking_idem sc (train placeholder txs) (C15_no_empty_key placeholder txs)
    (by rw [train_account]; exact C15_no_placeholder_key placeholder txs) desc b

/-! ### non-vacuity -/

section Examples

theorem ex_views : [(⟨⟨3, 22⟩, .open ⟨⟨3, 22⟩, ⟨⟨3, 13⟩⟩, ⟨⟨19, 22⟩, false⟩⟩⟩ : Directive)].mapM (viewDirective (bytesOf exText)) =
    some [.open (bytesOf "2020-01-01") (bytesOf "A:B")] := by
  rw [exText, bytesOf_ofList]; decide +kernel

/-- the hypothesis is satisfiable: the worked example of C07/C08 (a comment line and an `open` directive) as training
file and as target is written back unchanged … -/
theorem ex_infer : inferCmd sc tbd [("j.knut", bytesOf exText)] "j.knut" (bytesOf exText) = .written (bytesOf exText) := by
  -- no transaction to learn from, and `Infer` leaves an `open` directive alone: the output is the formatter's
  refine inferCmd_of sc (Infer.trainingTxs_single ex_parse ex_views) ex_parse ?_
  -- `f := ⟨_, _⟩`: with `f` open, `File.directives ?f =?= [_]` against `ex_views` is found the slow way
  rw [inferFormat, formatWith_fixed (f := ⟨_, _⟩) ex_views (by rfl), C08.ex_format]

/-- … and the theorems then say: it parses, and a second run and `format` reproduce it -/
example : ∃ g, parseText "j.knut" (bytesOf exText) = .ok g ∧ format (bytesOf exText) g = some (bytesOf exText) := by
  obtain ⟨_, _, g, _, _, _, _, h4, _, _, _, h8⟩ :=
    C15_output_parses exactScorer tbd [("j.knut", bytesOf exText)] "j.knut" (bytesOf exText) (bytesOf exText) (ex_infer _)
  exact ⟨g, h4, h8⟩

example : formatFile "j.knut" (bytesOf exText) = .written (bytesOf exText) :=
  (C15_idempotent_after exactScorer tbd [("j.knut", bytesOf exText)] "j.knut" (bytesOf exText) (bytesOf exText) (ex_infer _)).2

/-- the field-level idempotence on the example of `Properties/C15.lean`: after `food` has been inferred for the debit
side, a second `Infer` keeps it -/
example (desc : Bytes) :
    ((train tbd [exTx]).inferBooking sc desc ((train tbd [exTx]).inferBooking sc desc ⟨bank, tbd, [49], [67]⟩)).debit = food := by
  rw [C15_infer_idempotent]
  exact ex_debit_food sc desc

/-- the text `2020-01-02 "m"` / `B F 1 C` / `B T 1 C` (as the formatter lays it out), with placeholder `T` -/
def exT : Bytes := bytesOf "2020-01-02 \"m\"\nB F          1 C\nB T          1 C\n"
/-- … and with `F` in its place -/
def exF : Bytes := bytesOf "2020-01-02 \"m\"\nB F          1 C\nB F          1 C\n"

/-- **a run that replaces a placeholder**: with `exT` as its own training file and `T` as placeholder, `knut infer`
writes `exF` — the booking `B F 1 C` is learnable, the booking `B T 1 C` gets the only learnable account other than its
credit account — for every score function (`Proofs/InferExample.lean`) … -/
theorem ex_infer_trx : inferCmd sc (bytesOf "T") [("j.knut", exT)] "j.knut" exT = .written exF := by
  have := Ex.infer_example sc
  rw [Ex.text_T, Ex.text_F] at this
  exact this

/-- … so the theorems say: `exF` parses, is laid out as the formatter lays it out, has the gaps of `exT`, … -/
example : ∃ f g, parseText "j.knut" exT = .ok f ∧ parseText "j.knut" exF = .ok g ∧ format exF g = some exF ∧
    gapsOf exF 0 (g.directives.map (·.range)) = gapsOf exT 0 (f.directives.map (·.range)) := by
  obtain ⟨_, f, g, _, _, h2, _, h4, _, _, h7, h8⟩ :=
    C15_output_parses exactScorer (bytesOf "T") [("j.knut", exT)] "j.knut" exT exF (ex_infer_trx _)
  exact ⟨f, g, h2, h4, h8, h7⟩

/-- … and a second run (same training file) and `knut format` both leave `exF` as it is -/
example : inferCmd sc (bytesOf "T") [("j.knut", exT)] "j.knut" exF = .written exF ∧ formatFile "j.knut" exF = .written exF :=
  C15_idempotent_after sc (bytesOf "T") [("j.knut", exT)] "j.knut" exT exF (ex_infer_trx sc)

end Examples

end Knut.C15
