import Knut.Proofs.BeancountLifecycle
/-!
# C16 — transcode emits a balanced, self-consistent beancount ledger

`Beancount.transcodeEntries v days` is the entry list `knut transcode -v v` writes for the built journal `days`
(model of `Sort, ComputePrices, check, Valuate` followed by `beancount.Transcode`); `Beancount.render` is its text,
compared byte for byte with the real command on every run; the command itself is `Beancount.run`: the checks of `-v`, then
`transcodeEntries v (Builder.ofList ds).build`, then `render`.  The predicates (`BeancountSpec`) are the ones the
harness evaluates on the entries it reads from the REAL output.

All theorems hold for **every** journal and **every** valuation commodity for which the command succeeds
("accepted journals with sufficient prices"): no bound on days, transactions, accounts or amounts. Two of them ask of `days`
what the built journal of a loaded file has: `WFDays` (`C16_chronological`, `C16_open_before_use_partial`) and `PairedDays`
(`C16_balanced`).
-/
namespace Knut.C16
open Knut Knut.Beancount Knut.BeancountSpec Knut.FactsAgree.TransProcessAll Knut.C16Go2

/-- days as the journal builder produces them (`wf_ofList`): sorted by date, every directive filed under its own date -/
structure WFDays (days : List Day) : Prop where
  sorted : Sorted days
  dates : ∀ d ∈ days, DayDates d

/-- every transaction of every day is made of posting pairs (`TxPaired`); `Beancount.ofBookings_paired` says it of
`Transaction.ofBookings`, no lemma of the development says it of `(Builder.ofList ds).build` -/
def PairedDays (days : List Day) : Prop := ∀ d ∈ days, ∀ t ∈ d.transactions, TxPaired t

/-- what `journal.Builder` makes of any list of directives is well-formed in this sense -/
theorem wf_ofList (ds : List Directive) : WFDays (Builder.ofList ds).build :=
  ⟨ofList_sorted ds, ofList_dayDates ds⟩

/-- **balanced**: the postings of every emitted transaction sum to exactly zero in the valuation commodity -/
theorem C16_balanced (v : Commodity) (days : List Day) (hp : PairedDays days) (es : List BEntry)
    (h : transcodeEntries v days = .ok es) : balanced es = true := by
  obtain ⟨pds, _, hpo, rfl⟩ := entries_of_ok h
  exact balanced_entries (procOrd_paired hpo hp)

/-- **chronological**: entries appear in date order -/
theorem C16_chronological (v : Commodity) (days : List Day) (hw : WFDays days) (es : List BEntry)
    (h : transcodeEntries v days = .ok es) : chronological es = true := by
  obtain ⟨pds, _, hpo, rfl⟩ := entries_of_ok h
  exact chronological_entries (procOrd_processed hpo) hw.sorted hw.dates

/-- what `openOn` says: an open of the account on or before the day, and no close of the account from that open up to
(excluding) the day -/
theorem C16_openOn_meaning (es : List BEntry) (a : Account) (D : Int) :
    openOn es a D = true ↔
      ∃ o ∈ opensOf es, o.account = a ∧ o.date ≤ D ∧ ∀ c ∈ closesOf es, c.account = a → o.date ≤ c.date → ¬ c.date < D :=
  openOnL_iff _ _ _ _

/-- **not used after its close**: if an account open on day `D` was closed before `D`, it was opened again after that close -/
theorem C16_not_after_close (es : List BEntry) (a : Account) (D : Int) (h : openOn es a D = true)
    (c : Close) (hc : c ∈ closesOf es) (hca : c.account = a) (hcd : c.date < D) :
    ∃ o ∈ opensOf es, o.account = a ∧ c.date < o.date ∧ o.date ≤ D := by
  obtain ⟨o, ho, hoa, hod, hcl⟩ := (C16_openOn_meaning es a D).mp h
  refine ⟨o, ho, hoa, ?_, hod⟩
  apply Classical.byContradiction
  intro hn
  exact hcl c hc hca (by omega) hcd

/-- **open before use / not used after close** — PARTIAL.

Full statement of the property clause: `transcodeEntries v days = .ok es → lifecycleOK es = true`
(every account used by a posting has an open directive dated on or before its use and is not used after its close).
It is FALSE on the code: `Valuate` books value adjustments against generated `Income:<path>` accounts, while
`beancount.Transcode` synthesises opens only for account names starting with `Equity:Valuation:`
(`C16_valuation_account_not_opened` below; known finding `valuation-account-not-opened`).

Proved for all journals: every use of an account that is not open on the day of use is the generated valuation
account of a value adjustment. In particular every account the user books on, and the asset/liability side of every
value adjustment, is open on the day of use. -/
theorem C16_open_before_use_partial (v : Commodity) (days : List Day) (hw : WFDays days) (es : List BEntry)
    (h : transcodeEntries v days = .ok es) : lifecycleOKExceptValuation es = true := by
  obtain ⟨pds, _, hpo, rfl⟩ := entries_of_ok h
  exact lifecycle_of_procOrd hw.sorted hw.dates hpo

/-- **transaction bijection**: the emitted transactions are exactly the transactions of the processed journal
(`Valuate`'s output: the valued user transactions and the value adjustments), each once -/
theorem C16_tx_bijection (v : Commodity) (days : List Day) (es : List BEntry)
    (h : transcodeEntries v days = .ok es) :
    ∃ pds, process v days = .ok pds ∧ (txsOf es).Perm (pds.flatMap (·.transactions)) ∧
      sameTxs (txsOf es) (pds.flatMap (·.transactions)) = true := by
  obtain ⟨pds, hpr, _, rfl⟩ := entries_of_ok h
  exact ⟨pds, hpr, tx_bijection_entries pds⟩

/-- **the valued transactions of the journal**: each processed day holds the user's transactions of that day (sorted),
valued at the day's prices and otherwise unchanged (same date, description and posting accounts, as many as the user
wrote), followed by the value adjustments `Valuate` derives from the positions held so far -/
theorem C16_valued_transactions (v : Commodity) (days : List Day) (pds : List ProcDay) (h : process v days = .ok pds) :
    Processed v days pds ∧
    ∀ (d : Day) (pd : ProcDay) (s s' : BalState), processDay v s d = .ok (s', pd) →
      ∃ (user adjs : List Transaction), pd.transactions = user ++ adjs ∧
        user.length = d.transactions.length ∧
        (∀ t' ∈ user, ∃ t ∈ d.transactions, t'.date = t.date ∧ t'.description = t.description ∧
            t'.postings.map (·.account) = t.postings.map (·.account)) ∧
        (∀ t' ∈ adjs, ∃ t, (∃ e ∈ s.vQty, IsAdjOf d.date e t) ∧ t'.date = t.date ∧ t'.description = t.description ∧
            t'.postings.map (·.account) = t.postings.map (·.account)) := by
  exact ⟨procOrd_processed (ProcOrd_of_process v days pds h), fun _ _ _ _ hd => processDay_txs hd⟩

/-! ### The defect the partial theorem excludes, as a checked witness

The ledger `knut transcode -v CHF` writes for

```
2020-01-02 price USD 0.95 CHF
2020-01-02 open Assets:Bank
2020-01-02 open Equity:E
2020-01-02 "start"
Equity:E Assets:Bank 100 USD
2020-01-03 price USD 0.97 CHF
```

(the harness runs this journal against the real binary on every run and compares the entries read with `witness`). -/

def bank : Account := ⟨["Assets", "Bank"]⟩
def equity : Account := ⟨["Equity", "E"]⟩
def incomeBank : Account := ⟨["Income", "Bank"]⟩

def adjTx : Transaction :=
  { date := 737426, description := "Adjust value of " ++ "USD" ++ " in account " ++ bank.name,
    postings := [{ account := incomeBank, other := bank, commodity := "USD", quantity := 0, value := -2 },
                 { account := bank, other := incomeBank, commodity := "USD", quantity := 0, value := 2 }],
    targets := some ["USD"] }

def witness : List BEntry := [
  .opening ⟨737425, bank⟩,
  .opening ⟨737425, equity⟩,
  .tx { date := 737425, description := "start",
        postings := [{ account := equity, other := bank, commodity := "USD", quantity := -100, value := -95 },
                     { account := bank, other := equity, commodity := "USD", quantity := 100, value := 95 }] },
  .tx adjTx]

/-- the generated valuation account `Income:Bank` is used but never opened: the full clause fails … -/
theorem C16_valuation_account_not_opened : lifecycleOK witness = false ∧ unopenedUses witness = [(adjTx, incomeBank)] := by
  decide

/-- … while what the partial theorem claims holds, and so do the other clauses -/
theorem C16_witness_otherwise_fine :
    lifecycleOKExceptValuation witness = true ∧ balanced witness = true ∧ chronological witness = true := by
  refine ⟨?_, by decide +kernel, by decide⟩
  unfold lifecycleOKExceptValuation
  rw [C16_valuation_account_not_opened.2]
  simp only [List.all_cons, List.all_nil, Bool.and_true]
  unfold adjustmentLeg
  rw [List.any_eq_true]
  refine ⟨{ account := bank, other := incomeBank, commodity := "USD", quantity := 0, value := 2 }, by simp [adjTx], ?_⟩
  simp only [Bool.and_eq_true, decide_eq_true_eq]
  exact ⟨⟨by decide, by decide⟩, adjDesc_built "USD" bank⟩

/-! ### Non-vacuity -/

example : WFDays (Builder.ofList [.opening ⟨3, bank⟩, .tx (Transaction.ofBookings 3 "x" none [⟨equity, bank, 5, "CHF"⟩])]).build :=
  wf_ofList _

example : PairedDays [{ date := 3, transactions := [Transaction.ofBookings 3 "x" none [⟨equity, bank, 5, "CHF"⟩]] }] := by
  intro d hd t ht
  simp at hd; subst hd; simp at ht; subst ht
  exact ofBookings_paired _ _ _ _

/-- a use that IS open: the witness' asset account on the day of the adjustment -/
example : openOn witness bank 737426 = true := by decide

end Knut.C16
