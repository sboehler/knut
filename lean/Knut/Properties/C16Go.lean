import Knut.Properties.C16
import Knut.FactsAgree.TransBeancount
/-!
# C16 on the generated definitions

The theorems of `Properties/C16.lean` are about the entry list `Beancount.transcodeEntries v days` (= `Beancount.entries` of the
processed days `Beancount.process v days`); `FactsAgree/TransBeancount.lean` proves that the function translated from `/repo`'s
`lib/beancount/beancount.go` writes exactly the text of that entry list (`Transcode_agrees`), for EVERY sorting algorithm `sort1` with
the guarantee of the unstable `compare.Sort` on each day's transactions.  This module composes the two: the clauses of C16 are stated
about the text `Go.beancount.Transcode w j v sort1` returns.

**Partial** (every theorem here is named `…_go_partial`): the hypothesis `hj : AllRel (PDayRel cur) j.Days pds` — the Go journal handed
to `Transcode` stands, day by day, for the processed days `pds` of the model's pipeline — is NOT discharged.  It is what running the
translated stages `Sort`, `ComputePrices`, `check`, `Valuate` (per DAY proved equal to the model in `FactsAgree/TransProcess.lean`,
`TransCheck.lean`) over the whole journal through the untranslated `Journal.Process` (`cpr.Seq`, C19) establishes: `Properties/C16Go2.lean` states the
clauses with that composition (`FactsAgree/TransProcessAllTranscode.lean`) in place of the hypothesis.  The other hypotheses are those of `Transcode_agrees`: `DayOK` (dates from year 0 on,
one account per name among a day's postings — what the registry guarantees) and `v ≠ ""`.

The clauses speak about the entry list `es` of which the written text is the rendering `Beancount.render v es` (the harness reads the
entries back from the real output; no ledger parser exists in Lean).
-/
namespace Knut.C16Go
open Knut Knut.Beancount Knut.BeancountSpec
open Knut.Generated.Go
open Knut.FactsAgree.TransBeancount Knut.FactsAgree.TransProcess Knut.FactsAgree.TransPosting

abbrev SortAlg := (transaction.Transaction → transaction.Transaction → GoSem.Outcome Int) →
  List transaction.Transaction → List transaction.Transaction

/-- **the bridge**: what the translated `Transcode` writes is the rendering of the model's entry list, no error, no panic -/
theorem Transcode_writes_go_partial (cur : String → Bool) (w : String) (j : journal.Journal) (days : List Day)
    (pds : List ProcDay) (v : Commodity) (sort1 : SortAlg)
    (hs : ∀ g ∈ j.Days, GoSem.SortSliceOn sort1 transaction.Compare (GoSem.Outcome.ok (-1)) g.Transactions)
    (hp : process v days = .ok pds) (hj : AllRel (PDayRel cur) j.Days pds) (hok : ∀ d ∈ pds, DayOK d) (hv : v ≠ "") :
    ∃ es, transcodeEntries v days = .ok es ∧
      beancount.Transcode w j (commodityGo cur v) sort1 = .ok (w ++ render v es, none) := by
  refine ⟨entries pds, by simp [transcodeEntries, hp, Except.map], ?_⟩
  exact Transcode_agrees cur w j pds v sort1 hs hj hok hv

/-- **balanced**: the text written is the rendering of a ledger whose every transaction sums to exactly zero in the valuation commodity -/
theorem C16_balanced_go_partial (cur : String → Bool) (w : String) (j : journal.Journal) (days : List Day)
    (pds : List ProcDay) (v : Commodity) (sort1 : SortAlg)
    (hs : ∀ g ∈ j.Days, GoSem.SortSliceOn sort1 transaction.Compare (GoSem.Outcome.ok (-1)) g.Transactions)
    (hp : process v days = .ok pds) (hj : AllRel (PDayRel cur) j.Days pds) (hok : ∀ d ∈ pds, DayOK d) (hv : v ≠ "")
    (hpaired : C16.PairedDays days) :
    ∃ es, beancount.Transcode w j (commodityGo cur v) sort1 = .ok (w ++ render v es, none) ∧ balanced es = true := by
  obtain ⟨es, he, ht⟩ := Transcode_writes_go_partial cur w j days pds v sort1 hs hp hj hok hv
  exact ⟨es, ht, C16.C16_balanced v days hpaired es he⟩

/-- **chronological**: … whose entry dates never decrease -/
theorem C16_chronological_go_partial (cur : String → Bool) (w : String) (j : journal.Journal) (days : List Day)
    (pds : List ProcDay) (v : Commodity) (sort1 : SortAlg)
    (hs : ∀ g ∈ j.Days, GoSem.SortSliceOn sort1 transaction.Compare (GoSem.Outcome.ok (-1)) g.Transactions)
    (hp : process v days = .ok pds) (hj : AllRel (PDayRel cur) j.Days pds) (hok : ∀ d ∈ pds, DayOK d) (hv : v ≠ "")
    (hw : C16.WFDays days) :
    ∃ es, beancount.Transcode w j (commodityGo cur v) sort1 = .ok (w ++ render v es, none) ∧ chronological es = true := by
  obtain ⟨es, he, ht⟩ := Transcode_writes_go_partial cur w j days pds v sort1 hs hp hj hok hv
  exact ⟨es, ht, C16.C16_chronological v days hw es he⟩

/-- **open before use** (itself partial in the model: the generated valuation account of a value adjustment is excepted, known finding) -/
theorem C16_open_before_use_go_partial (cur : String → Bool) (w : String) (j : journal.Journal) (days : List Day)
    (pds : List ProcDay) (v : Commodity) (sort1 : SortAlg)
    (hs : ∀ g ∈ j.Days, GoSem.SortSliceOn sort1 transaction.Compare (GoSem.Outcome.ok (-1)) g.Transactions)
    (hp : process v days = .ok pds) (hj : AllRel (PDayRel cur) j.Days pds) (hok : ∀ d ∈ pds, DayOK d) (hv : v ≠ "")
    (hw : C16.WFDays days) :
    ∃ es, beancount.Transcode w j (commodityGo cur v) sort1 = .ok (w ++ render v es, none) ∧
      lifecycleOKExceptValuation es = true := by
  obtain ⟨es, he, ht⟩ := Transcode_writes_go_partial cur w j days pds v sort1 hs hp hj hok hv
  exact ⟨es, ht, C16.C16_open_before_use_partial v days hw es he⟩

/-- **transaction bijection**: the transactions of the ledger written are exactly the transactions of the processed journal, each once
— whatever rearrangement of tied transactions the unstable sort chose -/
theorem C16_tx_bijection_go_partial (cur : String → Bool) (w : String) (j : journal.Journal) (days : List Day)
    (pds : List ProcDay) (v : Commodity) (sort1 : SortAlg)
    (hs : ∀ g ∈ j.Days, GoSem.SortSliceOn sort1 transaction.Compare (GoSem.Outcome.ok (-1)) g.Transactions)
    (hp : process v days = .ok pds) (hj : AllRel (PDayRel cur) j.Days pds) (hok : ∀ d ∈ pds, DayOK d) (hv : v ≠ "") :
    ∃ es, beancount.Transcode w j (commodityGo cur v) sort1 = .ok (w ++ render v es, none) ∧
      (txsOf es).Perm (pds.flatMap (·.transactions)) ∧ sameTxs (txsOf es) (pds.flatMap (·.transactions)) = true := by
  obtain ⟨es, he, ht⟩ := Transcode_writes_go_partial cur w j days pds v sort1 hs hp hj hok hv
  obtain ⟨pds', hp', h1, h2⟩ := C16.C16_tx_bijection v days es he
  rw [hp] at hp'
  injection hp' with hp'
  subst hp'
  exact ⟨es, ht, h1, h2⟩

/-- **the sorting algorithm cannot show**: two algorithms with the guarantee of `sort.Slice` write the same text -/
theorem C16_sort_irrelevant_go_partial (cur : String → Bool) (w : String) (j : journal.Journal) (pds : List ProcDay)
    (v : Commodity) (sort1 sort2 : SortAlg)
    (hs1 : GoSem.SortSliceSpec sort1 transaction.Compare (GoSem.Outcome.ok (-1)))
    (hs2 : GoSem.SortSliceSpec sort2 transaction.Compare (GoSem.Outcome.ok (-1)))
    (hj : AllRel (PDayRel cur) j.Days pds) (hok : ∀ d ∈ pds, DayOK d) (hv : v ≠ "") :
    beancount.Transcode w j (commodityGo cur v) sort1 = beancount.Transcode w j (commodityGo cur v) sort2 := by
  rw [Transcode_agrees_spec cur w j pds v sort1 hs1 hj hok hv, Transcode_agrees_spec cur w j pds v sort2 hs2 hj hok hv]

/-! ### Non-vacuity: an empty journal (the command on a file without directives): every hypothesis holds, the translated `Transcode`
writes the header only.  (`FactsAgree/TransBeancount.lean` ends with an `example` that discharges `hs`, `hj`, `DayOK` on a day whose two
transactions stand out of order and the reversing "sort", which sorts them.) -/
example : ∃ es, beancount.Transcode "" ⟨[]⟩ (commodityGo (fun _ => true) "CHF") (fun _ xs => xs) =
      .ok ("" ++ render "CHF" es, none) ∧ balanced es = true ∧ chronological es = true :=
  let ⟨es, he, ht⟩ := Transcode_writes_go_partial (fun _ => true) "" ⟨[]⟩ [] [] "CHF" (fun _ xs => xs)
    (by intro g hg; cases hg) rfl .nil (by intro d hd; cases hd) (by decide)
  ⟨es, ht, C16.C16_balanced "CHF" [] (by intro d hd; cases hd) es he,
    C16.C16_chronological "CHF" [] ⟨List.Pairwise.nil, by intro d hd; cases hd⟩ es he⟩

end Knut.C16Go
