import Knut.Properties.C16Go
import Knut.FactsAgree.TransProcessAllTranscode
import Knut.Proofs.BeancountLifecycle
/-!
# C16 on the generated definitions, over a WHOLE journal — without the relational hypothesis `PDayRel` of `C16Go`

`Properties/C16Go.lean` leaves `hj : AllRel (PDayRel cur) j.Days pds` open: that the Go journal handed to `beancount.Transcode` stands for
the model's processed days.  `FactsAgree/TransProcessAllTranscode.lean` composes the per-day stage theorems over a journal:
`processAllTranscode` — the sequential meaning (`Pipeline.seqRun`, justified by `C19_confluent`; that `cpr.Seq` itself is not translated
stays a stated modelling step) of `j.Process(Sort(), ComputePrices(v), check.Check(), Valuate(reg, v))` on the translated closures —
delivers days that stand for the processed days of a run `ProcOrd` of the model (`Beancount.processFrom`, the association list that
`Valuate.DayStart` ranges over re-listed before each day in the order Go iterates).  The clauses of C16 hold of the entries of every
such run — i.e. for EVERY family of map iteration orders (`Proofs/BeancountRun.lean`, `Proofs/BeancountLifecycle.lean`) —, so here they are stated about the text
the translated `beancount.Transcode` writes for the journal `⟨out⟩` that the translated stages deliver.

Hypotheses (`Pipe`): the Go days stand for the model days, descriptions exact (`DayRelS`: what the loader builds, every `Src`
arbitrary); the parameters are admissible (`TrParOK`: every fuel that suffices, every iteration order that reaches each key once);
`srt` returns a sorted permutation of each day's transactions (`SortOK`) and `sort1` has the guarantee of `sort.Slice` on the
transactions of every day it is handed (`SortSliceOn`, a hypothesis of each theorem); per model day `TrDayOK` (`TargetsOK`, `AccountsByName`: the unstable sort cannot show; `DescOK`: no `"` in the
descriptions `Valuate` builds); `DayOK` of the model's processed days (years ≥ 0, one account per name — as in `Transcode_agrees`);
`v ≠ ""`.  No hypothesis relates the PROCESSED Go journal to the model.
-/
namespace Knut.C16Go2
open Knut Knut.Beancount Knut.BeancountSpec
open Knut.Generated.Go
open Knut.FactsAgree.TransBeancount Knut.FactsAgree.TransProcess Knut.FactsAgree.TransPosting
open Knut.FactsAgree.TransProcessAll
open Knut.C16Go (SortAlg)

theorem balanced_of_procOrd {v : Commodity} {days : List Day} {pds : List ProcDay} (h : ProcOrd v {} days pds)
    (hp : C16.PairedDays days) : balanced (entries pds) = true :=
  C16.balanced_entries (procOrd_paired h hp)

theorem chronological_of_procOrd {v : Commodity} {days : List Day} {pds : List ProcDay} (h : ProcOrd v {} days pds)
    (hw : C16.WFDays days) : chronological (entries pds) = true :=
  C16.chronological_entries (procOrd_processed h) hw.sorted hw.dates

/-- what the Go clauses of C16 presuppose of one run of `knut transcode`: admissible parameters (`TrParOK`), initial states and days that
stand for the model's, the side conditions under which the unstable sort and `Builder.Build`'s quote replacement cannot show
(`SortOK`, `TrDayOK`), well-formed processed days, a non-empty valuation commodity -/
structure Pipe (cur : String → Bool) (v : Commodity) (P : TrPar) (G0 : TrGo) (gdays : List journal.Day) (days : List Day) :
    Prop where
  par : TrParOK cur v P
  init : TrInv cur (tFusedInit G0) {}
  rel : AllRel (DayRelS cur) gdays days
  srt : ∀ g ∈ gdays, Knut.FactsAgree.TransJPrinter2.SortOK P.srt g.Transactions
  dayOK : ∀ d ∈ days, TrDayOK v d
  procOK : ∀ pds, ProcOrd v {} days pds → ∀ d ∈ pds, DayOK d
  vne : v ≠ ""

/-- **the bridge**: what the translated `Transcode` writes for the journal the translated stages deliver is the rendering of the
entry list of a (re-listed) run of the model over the journal; no error, no panic -/
theorem Transcode_writes_go (cur : String → Bool) (w : String) (v : Commodity) (P : TrPar) (G0 : TrGo) (gdays : List journal.Day)
    (days : List Day) (sort1 : SortAlg) (H : Pipe cur v P G0 gdays days) (out : List journal.Day)
    (hgo : processAllTranscode P G0 gdays = some out)
    (hs1 : ∀ g ∈ out, GoSem.SortSliceOn sort1 transaction.Compare (GoSem.Outcome.ok (-1)) g.Transactions) :
    ∃ pds, ProcOrd v {} days pds ∧
      beancount.Transcode w ⟨out⟩ (commodityGo cur v) sort1 = .ok (w ++ render v (entries pds), none) := by
  obtain ⟨pds, hpo, hrel⟩ := processAllTranscode_ok cur v P H.par G0 H.init gdays days H.rel H.srt H.dayOK out hgo
  exact ⟨pds, hpo, Transcode_agrees cur w ⟨out⟩ pds v sort1 hs1 hrel (H.procOK pds hpo) H.vne⟩

/-- when the translated stages fail, the model's (re-listed) run fails: no ledger is written on either side -/
theorem Transcode_not_reached_go (cur : String → Bool) (v : Commodity) (P : TrPar) (G0 : TrGo) (gdays : List journal.Day)
    (days : List Day) (H : Pipe cur v P G0 gdays days)
    (hgo : processAllTranscode P G0 gdays = none) : ProcFail v {} days :=
  processAllTranscode_fails cur v P H.par G0 H.init gdays days H.rel H.srt H.dayOK hgo

/-- **balanced** -/
theorem C16_balanced_go (cur : String → Bool) (w : String) (v : Commodity) (P : TrPar) (G0 : TrGo) (gdays : List journal.Day)
    (days : List Day) (sort1 : SortAlg) (H : Pipe cur v P G0 gdays days) (out : List journal.Day)
    (hgo : processAllTranscode P G0 gdays = some out)
    (hs1 : ∀ g ∈ out, GoSem.SortSliceOn sort1 transaction.Compare (GoSem.Outcome.ok (-1)) g.Transactions) (hpaired : C16.PairedDays days) :
    ∃ es, beancount.Transcode w ⟨out⟩ (commodityGo cur v) sort1 = .ok (w ++ render v es, none) ∧ balanced es = true := by
  obtain ⟨pds, hpo, ht⟩ := Transcode_writes_go cur w v P G0 gdays days sort1 H out hgo hs1
  exact ⟨_, ht, balanced_of_procOrd hpo hpaired⟩

/-- **chronological** -/
theorem C16_chronological_go (cur : String → Bool) (w : String) (v : Commodity) (P : TrPar) (G0 : TrGo) (gdays : List journal.Day)
    (days : List Day) (sort1 : SortAlg) (H : Pipe cur v P G0 gdays days) (out : List journal.Day)
    (hgo : processAllTranscode P G0 gdays = some out)
    (hs1 : ∀ g ∈ out, GoSem.SortSliceOn sort1 transaction.Compare (GoSem.Outcome.ok (-1)) g.Transactions) (hw : C16.WFDays days) :
    ∃ es, beancount.Transcode w ⟨out⟩ (commodityGo cur v) sort1 = .ok (w ++ render v es, none) ∧ chronological es = true := by
  obtain ⟨pds, hpo, ht⟩ := Transcode_writes_go cur w v P G0 gdays days sort1 H out hgo hs1
  exact ⟨_, ht, chronological_of_procOrd hpo hw⟩

/-- **open before use** (partial in the model as `C16.C16_open_before_use_partial` is: the generated valuation account of a value
adjustment is excepted, known finding `valuation-account-not-opened`; nothing is missing on the Go side) -/
theorem C16_open_before_use_go (cur : String → Bool) (w : String) (v : Commodity) (P : TrPar) (G0 : TrGo) (gdays : List journal.Day)
    (days : List Day) (sort1 : SortAlg) (H : Pipe cur v P G0 gdays days) (out : List journal.Day)
    (hgo : processAllTranscode P G0 gdays = some out)
    (hs1 : ∀ g ∈ out, GoSem.SortSliceOn sort1 transaction.Compare (GoSem.Outcome.ok (-1)) g.Transactions) (hw : C16.WFDays days) :
    ∃ es, beancount.Transcode w ⟨out⟩ (commodityGo cur v) sort1 = .ok (w ++ render v es, none) ∧
      lifecycleOKExceptValuation es = true := by
  obtain ⟨pds, hpo, ht⟩ := Transcode_writes_go cur w v P G0 gdays days sort1 H out hgo hs1
  exact ⟨_, ht, C16.lifecycle_of_procOrd hw.sorted hw.dates hpo⟩

/-- **transaction bijection**: the transactions of the ledger written are exactly the transactions of the processed journal, each once -/
theorem C16_tx_bijection_go (cur : String → Bool) (w : String) (v : Commodity) (P : TrPar) (G0 : TrGo) (gdays : List journal.Day)
    (days : List Day) (sort1 : SortAlg) (H : Pipe cur v P G0 gdays days) (out : List journal.Day)
    (hgo : processAllTranscode P G0 gdays = some out)
    (hs1 : ∀ g ∈ out, GoSem.SortSliceOn sort1 transaction.Compare (GoSem.Outcome.ok (-1)) g.Transactions) :
    ∃ es pds, ProcOrd v {} days pds ∧ beancount.Transcode w ⟨out⟩ (commodityGo cur v) sort1 = .ok (w ++ render v es, none) ∧
      (txsOf es).Perm (pds.flatMap (·.transactions)) ∧ sameTxs (txsOf es) (pds.flatMap (·.transactions)) = true := by
  obtain ⟨pds, hpo, ht⟩ := Transcode_writes_go cur w v P G0 gdays days sort1 H out hgo hs1
  exact ⟨_, pds, hpo, ht, C16.tx_bijection_entries pds⟩

/-! ### Non-vacuity: the empty journal (the command on a file without directives) — every hypothesis of `Pipe` but `TrParOK` holds (that one is assumed: no family of
fuels with `FuelOK` is exhibited), the four stages succeed on no day, the translated `Transcode` writes the header only -/
example (P : TrPar) (hP : TrParOK (fun _ => true) "CHF" P) (so : journal.Sort_.State) :
    ∃ es, beancount.Transcode "" ⟨[]⟩ (commodityGo (fun _ => true) "CHF") (fun _ xs => xs) =
      .ok ("" ++ render "CHF" es, none) ∧ balanced es = true :=
  C16_balanced_go (fun _ => true) "" "CHF" P ⟨so, ⟨GoSem.GoZero.zero, []⟩, checkInit, ⟨GoSem.GoZero.zero, GoSem.GoZero.zero, []⟩⟩ [] []
    (fun _ xs => xs)
    ⟨hP, TrInv_init _ so, .nil, (by intro g hg; cases hg), (by intro d hd; cases hd),
      (by intro pds h; cases h; intro d hd; cases hd), (by decide)⟩
    [] (by rw [processAllTranscode_eq]; rfl) (by intro g hg; cases hg) (by intro d hd; cases hd)

end Knut.C16Go2
