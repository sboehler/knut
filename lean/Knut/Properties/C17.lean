import Knut.Proofs.TableLayout
import Knut.Proofs.TableCsv
import Knut.Proofs.TableRound
/-!
# C17 — Rendered balance tables are rectangular and numerically faithful

Property: every line of a text balance report has the same width with column separators
vertically aligned; each numeric cell, after removing thousands separators, equals the underlying
amount (divided by 1000 with `--thousands`) rounded half away from zero to the requested number of
digits, negative amounts carry a minus sign and zero amounts are blank.  The CSV rendering carries
the exact unrounded amounts in the same row and column positions.

The statements are about `Knut.Table` (the model of `lib/common/table`: `TextRenderer.Render`,
`numToString`, `addThousandsSep`, `CSVRenderer.Render` with `encoding/csv.Writer`) and use the
executable predicates of `Knut.Table.Spec`, which the monitor evaluates on the real code's output.
They hold for all tables whose rows have a common number `n ≥ 1` of cells (`uniform`; the balance
report fills every row to the table width) with non-negative indents and texts without line
breaks (`plain`), for all amounts, all `--digits` values (any `Int`), `--thousands` on and off.
-/
namespace Knut.C17
open Knut Knut.Dec Knut.Table Knut.Table.Spec

/-- **rectangular**: `Render` does not panic and all lines have the same width (in runes). -/
theorem C17_rectangular (r : Renderer) (t : Table) (n : Nat) (hu : uniform n t = true) (hp : plain t = true) :
    ∃ ls, renderLines r t = .ok ls ∧ rectLines ls = true := by
  obtain ⟨W, ls, _, hl, hc⟩ := renderLines_conforms false r t n hu hp
  exact ⟨ls, hl, rectLines_of_conformsAll false r W n t.rows ls hc (uniform_spec hu).2.2⟩

/-- **column separators vertically aligned**: there are `n + 1` character columns that hold a
separator (`|` or `+`) on every line. -/
theorem C17_separators_aligned (r : Renderer) (t : Table) (n : Nat) (hu : uniform n t = true) (hp : plain t = true) :
    ∃ ls, renderLines r t = .ok ls ∧ alignedOK n ls = true := by
  obtain ⟨W, ls, _, hl, hc⟩ := renderLines_conforms false r t n hu hp
  exact ⟨ls, hl, alignedOK_of_conformsAll false r W n t.rows ls hc (uniform_spec hu).2.2⟩

/-- the same, naming the columns: with the final widths `W` the separator columns are `0` and the
column after each of the `n` slots (`lineBounds n W`: distinct positions, `n + 1` of them when there is a line), on every line. -/
theorem C17_separator_columns (r : Renderer) (t : Table) (n : Nat) (hu : uniform n t = true) (hp : plain t = true) :
    ∃ W ls, finalWidths r t = some W ∧ renderLines r t = .ok ls ∧
      (lineBounds n W).Nodup ∧ ((ls ≠ []) → (lineBounds n W).length = n + 1) ∧
      ∀ l ∈ ls, ∀ p ∈ lineBounds n W, sepAt l p = true := by
  obtain ⟨W, ls, hW, hl, hc⟩ := renderLines_conforms false r t n hu hp
  have hn := (uniform_spec hu).2.2
  have hall := fun l hl => (conformsAll_shape false r W n t.rows ls hc hn l hl).2
  refine ⟨W, ls, hW, hl, lineBounds_nodup n W, ?_, fun l hl => (hall l hl).2⟩
  intro hne
  cases ls with
  | nil => exact absurd rfl hne
  | cons l0 _ => exact (hall l0 (by simp)).1

/-- the bytes written are those lines, each ended by a line feed, and one more line feed; the
monitor's line splitter recovers exactly them. -/
theorem C17_text_bytes (r : Renderer) (t : Table) (n : Nat) (hu : uniform n t = true) (hp : plain t = true) :
    ∃ ls, renderText r t = .ok (joinLines ls) ∧ renderLines r t = .ok ls ∧ tableLines (joinLines ls) = some ls := by
  obtain ⟨_, ls, _, hl, _⟩ := renderLines_conforms false r t n hu hp
  exact ⟨ls, by simp [renderText, hl], hl, tableLines_joinLines ls (renderLines_noNL r t ls hp hl)⟩

/-- **the panic outcomes, under exactly the guards the code has**: `Render` completes iff every row
has at least one cell (`row.cells[0]`) and at most as many cells as the table has columns
(`widths[i]`); the balance report only builds such rows. -/
theorem C17_render_completes_iff (r : Renderer) (t : Table) :
    (∃ ls, renderLines r t = .ok ls) ↔ ∀ row ∈ t.rows, row ≠ [] ∧ row.length ≤ t.width :=
  renderLines_ok_iff r t

/-- the monitor's whole-text predicate holds with the final widths as witness; `e` chooses the value
a numeric cell is compared with, `codeTarget` or `exactTarget`; the two are equal (`target_eq'`), so no condition on the amounts is
needed -/
theorem text_conforms (e : Bool) (r : Renderer) (t : Table) (n : Nat) (hu : uniform n t = true) (hp : plain t = true) :
    ∃ W ls, finalWidths r t = some W ∧ renderLines r t = .ok ls ∧ textOKWith e r t n W ls = true := by
  obtain ⟨W, ls, hW, hl, hc⟩ := renderLines_conforms e r t n hu hp
  refine ⟨W, ls, hW, hl, ?_⟩
  unfold textOKWith
  rw [rectLines_of_conformsAll e r W n t.rows ls hc (uniform_spec hu).2.2,
    alignedOK_of_conformsAll e r W n t.rows ls hc (uniform_spec hu).2.2, hc]
  rfl

/-- **every line is lead, slots of the column widths, separators, trail, and every slot shows its
cell** — for numeric cells: blank for zero, otherwise the text that, without separators, reads as
the value the code computes (the amount, divided by 1000 exactly with `--thousands`, rounded half away from
zero to `--digits`), signed like that value, grouped in threes, with `--digits` fractional digits.
The whole-text predicate of the monitor with the final widths as witness. -/
theorem C17_text_conforms (r : Renderer) (t : Table) (n : Nat) (hu : uniform n t = true) (hp : plain t = true) :
    ∃ W ls, finalWidths r t = some W ∧ renderLines r t = .ok ls ∧ textOKWith false r t n W ls = true :=
  text_conforms false r t n hu hp

/-- **the property's sentence** (exact quotient by 1000): the same with `exactTarget` as the value
shown.  `hex` is the condition the property's sentence states (`--thousands` off or at most 13 decimal places); the code's
quotient is exact (`Shift(-3)`, /repo 93a24c8), so the conclusion does not depend on it. -/
theorem C17_text_conforms_exact (r : Renderer) (t : Table) (n : Nat) (hu : uniform n t = true) (hp : plain t = true)
    (hex : tableExact r t) :
    ∃ W ls, finalWidths r t = some W ∧ renderLines r t = .ok ls ∧ textOKWith true r t n W ls = true :=
  -- `hex` is the condition of the property's sentence; the proof does not use it (see `text_conforms`)
  text_conforms true r t n hu hp

/-- **numeric value**, unconditional form: without the separators the text of an amount reads as
`Round(digits)` of the amount, resp. of the amount divided by 1000. -/
theorem C17_num_value (r : Renderer) (d : Rat) :
    parseDec (String.ofList (stripCommas (numToString r d))) = some (roundPlaces r.round (scaled r d)) := by
  rw [stripCommas_numToString, parseDec_showFixed]

/-- **numeric value**, the property's sentence: the amount divided by 1000 *exactly*, for amounts
with at most 13 decimal places (every amount knut computes from valuations has at most 8); `C17_num_value_exact_all` shows
that the restriction is not needed. -/
theorem C17_num_value_exact (r : Renderer) (d : Rat) (h : r.thousands = false ∨ thousandsExact d = true) :
    parseDec (String.ofList (stripCommas (numToString r d))) = some (exactTarget r d) := by
  rw [C17_num_value, target_eq r d h]; rfl

/-- **numeric value, every amount**: the code divides by `Shift(-3)` (/repo 93a24c8), the quotient by 1000 is exact, and the
property's sentence holds without any restriction on the number of decimal places. -/
theorem C17_num_value_exact_all (r : Renderer) (d : Rat) :
    parseDec (String.ofList (stripCommas (numToString r d))) = some (exactTarget r d) :=
  C17_num_value r d

/-- one rounding, not two: 499.99999999999999999 with `-k --digits 0` prints `0`, the exact quotient rounded once; rounding a
quotient cut to 16 places first (`div16`, what `Div(1000)` would give) prints `1`. -/
theorem C17_no_double_rounding :
    numToString ⟨true, 0⟩ (mkRat 49999999999999999999 100000000000000000) = ['0'] ∧
    exactTarget ⟨true, 0⟩ (mkRat 49999999999999999999 100000000000000000) = 0 ∧
    roundPlaces 0 (div16 (mkRat 49999999999999999999 100000000000000000) 1000) = 1 := by
  refine ⟨?_, ?_, ?_⟩ <;> decide +kernel

/-- **minus sign**: the text starts with `-` exactly when the displayed (rounded) value is negative. -/
theorem C17_sign (r : Renderer) (d : Rat) :
    (numToString r d).head? = some '-' ↔ roundPlaces r.round (scaled r d) < 0 :=
  head_numToString r d

/-- **rounded half away from zero**, spelled out: for `--digits = n ≥ 0` the value shown is
`m / 10ⁿ` with `m` an integer nearest to `x·10ⁿ` (`x` the amount, resp. the amount divided by 1000):
`|x.num·10ⁿ − m·x.den| ≤ x.den / 2`, at a tie `m` is the one farther from zero, and `m` has the sign
of `x` or is zero. -/
theorem C17_round_half_away (r : Renderer) (d : Rat) (n : Nat) (hn : r.round = (n : Int)) :
    ∃ m : Int, roundPlaces r.round (scaled r d) = mkRat m (10 ^ n) ∧
      2 * ((scaled r d).num * pow10 n - m * (scaled r d).den).natAbs ≤ (scaled r d).den ∧
      (2 * ((scaled r d).num * pow10 n - m * (scaled r d).den).natAbs = (scaled r d).den →
        ((scaled r d).num * pow10 n).natAbs < (m * (scaled r d).den).natAbs) ∧
      (0 ≤ (scaled r d).num → 0 ≤ m) ∧ ((scaled r d).num ≤ 0 → m ≤ 0) := by
  refine ⟨scaledRound n (scaled r d), ?_, scaledRound_spec n (scaled r d)⟩
  simp [roundPlaces, hn, roundHalfAway]

/-- **negative amounts**: a negative amount is displayed with a minus sign, or (when it rounds to
zero) as an unsigned zero. -/
theorem C17_negative_minus_or_zero (r : Renderer) (d : Rat) (h : d < 0) :
    (numToString r d).head? = some '-' ∨ roundPlaces r.round (scaled r d) = 0 :=
  negative_minus_or_zero r d h

/-- **blank**: a numeric cell is blank exactly when the (unrounded) amount is zero … -/
theorem C17_blank (r : Renderer) (d : Rat) (w : Nat) :
    allSpaces (renderCell r (.num d) w) = true ↔ d = 0 := by
  constructor
  · intro h
    by_cases hd : d = 0
    · exact hd
    · exfalso
      obtain ⟨c, rest, hcr, hc⟩ := numToString_head r d
      simp only [renderCell, hd, if_false, padLeft, allSpaces, List.all_eq_true] at h
      have := h c (by rw [hcr]; simp)
      simp at this
      exact hc this
  · intro h
    simp [renderCell, h, padLeft, allSpaces]

/-- … so a non-zero amount that rounds to zero is shown as an unsigned zero, not blank and not
with a minus sign (`-0.4` at `--digits 0` is `0`): the property's "negative amounts carry a minus
sign" holds of the displayed value (`C17_sign`), not of the underlying amount. -/
theorem C17_negative_rounding_to_zero_witness :
    renderCell ⟨false, 0⟩ (.num (mkRat (-4) 10)) 3 = "  0".toList ∧
    renderCell ⟨false, 2⟩ (.num (mkRat (-4) 1000)) 5 = " 0.00".toList := by
  constructor <;> decide +kernel

/-- **grouping**: the integer part is the digit string with a comma before every group of three
(the independent grouper `groupLeft`), the fraction has digits only … -/
theorem C17_grouping (r : Renderer) (d : Rat) : groupedOK (numToString r d) = true :=
  groupedOK_numToString r d

/-- … and exactly `--digits` of them (none, and no point, for `--digits ≤ 0`). -/
theorem C17_fraction_digits (r : Renderer) (d : Rat) : fracOK r.round (numToString r d) = true :=
  fracOK_numToString r d

/-- the separators are commas only: removing them gives back `StringFixed` verbatim. -/
theorem C17_only_commas_inserted (r : Renderer) (d : Rat) :
    String.ofList (stripCommas (numToString r d)) = showFixed r.round (scaled r d) :=
  stripCommas_numToString r d

/-- all four number clauses as the one predicate the monitor evaluates per numeric cell. -/
theorem C17_num_shown (r : Renderer) (d : Rat) :
    numShownAs r.round (codeTarget r d) (numToString r d) = true :=
  numShownAs_numToString r d

/-- **CSV carries the exact amounts in the same positions**: the records are the non-blank rows in
order; field `j` of a record is cell `j` of its row — texts verbatim, amounts as the decimal that
reads back to the *unrounded* amount (for every decimal amount). -/
theorem C17_csv_positions (t : Table) (hd : ∀ row ∈ t.rows, ∀ c ∈ row, cellDecimal c) :
    csvOK t.rows (csvRecords t) = true :=
  csvOK_records t.rows hd

/-- the hypothesis of `C17_csv_positions` holds of every decimal fraction `a / 10^k`, i.e. of every
`decimal.Decimal`: its CSV field reads back as exactly that amount. -/
theorem C17_csv_amount_exact (a : Int) (k : Nat) :
    parseDec (String.ofList (csvCell (.num (mkRat a (10 ^ k))))) = some (mkRat a (10 ^ k)) := by
  simp only [csvCell, String.ofList_toList]
  exact parseDec_showDec _ k (den_mkRat_pow10_dvd a k)

/-- the bytes written by `encoding/csv` parse back to exactly those records (quoting of commas,
quotes, line breaks and leading blanks loses nothing). -/
theorem C17_csv_roundtrip (t : Table) : parseCSV (renderCSV t) = some (csvRecords t) := by
  unfold parseCSV renderCSV
  rw [records_parse (csvRecords t) []]
  · simp
  · intro rec hrec
    unfold csvRecords at hrec
    rw [List.mem_filter] at hrec
    intro h
    rw [h] at hrec
    simp at hrec

/-- together: the CSV text satisfies the monitor's predicate. -/
theorem C17_csv_text (t : Table) (hd : ∀ row ∈ t.rows, ∀ c ∈ row, cellDecimal c) :
    csvTextOK t (renderCSV t) = true := by
  unfold csvTextOK
  rw [C17_csv_roundtrip]
  exact C17_csv_positions t hd

/-! ## Non-vacuity: a small balance-shaped table (header, an account with a multi-byte name, amounts
that carry across a thousands group and round to zero) satisfies the hypotheses, renders, and the
predicates hold of the rendering. -/

def demo : Table :=
  { columns := [0, 1, 2, 2],
    rows := [
      [.sep, .sep, .sep, .sep],
      [.text "Account".toList .center 0, .text "Comm".toList .center 0, .text "2020-01-31".toList .center 0, .text "2020-02-29".toList .center 0],
      [.text "Bär".toList .left 2, .text "CHF".toList .left 0, .num (mkRat 9999995 10), .num (mkRat (-4) 10)],
      [.empty, .empty, .empty, .empty] ] }

theorem demo_ok : uniform 4 demo = true ∧ plain demo = true := by decide +kernel
example : uniform 4 demo = true ∧ plain demo = true := demo_ok
theorem demo_lines : renderLines ⟨false, 0⟩ demo = .ok
    ["+---------+------+------------+------------+".toList,
     "| Account | Comm | 2020-01-31 | 2020-02-29 |".toList,
     "|   Bär   | CHF  |  1,000,000 |          0 |".toList,
     "|         |      |            |            |".toList] := by
  -- the characters of the four literals, not their decoding (`Proofs/StrBytes.lean`)
  show _ = Outcome.ok [(String.ofList _).toList, (String.ofList _).toList, (String.ofList _).toList, (String.ofList _).toList]
  simp only [String.toList_ofList]
  decide +kernel
example : ∃ ls, renderLines ⟨false, 0⟩ demo = .ok ls ∧ ls.length = 4 := ⟨_, demo_lines, rfl⟩
example : numToString ⟨true, 2⟩ (mkRat (-1234567895) 1000) = "-1,234.57".toList := by decide +kernel
example : csvTextOK demo (renderCSV demo) = true := by decide +kernel

end Knut.C17
