import Knut.Properties.C17
import Knut.FactsAgree.TransTable
/-!
# C17 (numbers) on the generated definitions

The number clauses of `Properties/C17.lean` are about the model `Table.numToString`; `FactsAgree/TransTable.lean` proves the
functions translated from `/repo`'s `lib/common/table/renderer.go` — `TextRenderer.numToString` (`Shift(-3)`, `StringFixed(r.Round)`) and
`addThousandsSep` (a byte-indexed `range` over the string with `break`, `strings.Builder`, `e[i:]`, `strings.Index`,
`unicode.IsDigit`) — equal to it.  This module composes them: every clause is stated about the text `s` that
`Go.table.TextRenderer.numToString tr d` returns, for every renderer value `tr` (any `Round : int`, `Thousands` on and off; the fields
`table` and `Color` are not read) and every amount `d`.  No hypothesis stays: `numToString_total` shows that the translated function
never panics (no slice bound in `e[i:]`, no cut inside a UTF-8 sequence) and never runs out of fuel.

The layout and CSV clauses of C17 (`C17_rectangular`, `C17_separators_aligned`, …), on the translated `TextRenderer.Render` and
`CSVRenderer.Render`, are in `Properties/C17Go2.lean`.
-/
namespace Knut.C17Go
open Knut Knut.Dec Knut.Table Knut.Table.Spec
open Knut.Generated.Go
open Knut.FactsAgree.TransTable

/-- the translated `numToString` returns a text for every renderer and every amount: no panic, no `outOfFuel` -/
theorem numToString_total (tr : table.TextRenderer) (d : Rat) :
    ∃ s, table.TextRenderer.numToString tr d = GoSem.Outcome.ok s := ⟨_, numToString_agrees tr d⟩

theorem text_eq {tr : table.TextRenderer} {d : Rat} {s : String}
    (h : table.TextRenderer.numToString tr d = GoSem.Outcome.ok s) : s.toList = numToString ⟨tr.Thousands, tr.Round⟩ d := by
  rw [numToString_agrees] at h
  injection h with h
  rw [← h, String.toList_ofList]

/-- **numeric value**: without the separators the text reads as the amount — divided by 1000 EXACTLY with `--thousands` — rounded
half away from zero to `Round` digits -/
theorem C17_num_value_go {tr : table.TextRenderer} {d : Rat} {s : String}
    (h : table.TextRenderer.numToString tr d = GoSem.Outcome.ok s) :
    parseDec (String.ofList (stripCommas s.toList))
      = some (roundPlaces tr.Round (if tr.Thousands then d / 1000 else d)) := by
  rw [text_eq h]
  exact C17.C17_num_value_exact_all ⟨tr.Thousands, tr.Round⟩ d

/-- **minus sign**: the text starts with `-` exactly when the displayed (rounded) value is negative -/
theorem C17_sign_go {tr : table.TextRenderer} {d : Rat} {s : String}
    (h : table.TextRenderer.numToString tr d = GoSem.Outcome.ok s) :
    s.toList.head? = some '-' ↔ roundPlaces tr.Round (if tr.Thousands then d / 1000 else d) < 0 := by
  rw [text_eq h]
  exact C17.C17_sign ⟨tr.Thousands, tr.Round⟩ d

/-- **negative amounts**: a negative amount is displayed with a minus sign, or (when it rounds to zero) as an unsigned zero -/
theorem C17_negative_minus_or_zero_go {tr : table.TextRenderer} {d : Rat} {s : String}
    (h : table.TextRenderer.numToString tr d = GoSem.Outcome.ok s) (hd : d < 0) :
    s.toList.head? = some '-' ∨ roundPlaces tr.Round (if tr.Thousands then d / 1000 else d) = 0 := by
  rw [text_eq h]
  exact C17.C17_negative_minus_or_zero ⟨tr.Thousands, tr.Round⟩ d hd

/-- **grouping**: the integer part is the digit string with a comma before every group of three, the fraction has digits only … -/
theorem C17_grouping_go {tr : table.TextRenderer} {d : Rat} {s : String}
    (h : table.TextRenderer.numToString tr d = GoSem.Outcome.ok s) : groupedOK s.toList = true := by
  rw [text_eq h]
  exact C17.C17_grouping ⟨tr.Thousands, tr.Round⟩ d

/-- … and exactly `Round` of them (none, and no point, for `Round ≤ 0`) -/
theorem C17_fraction_digits_go {tr : table.TextRenderer} {d : Rat} {s : String}
    (h : table.TextRenderer.numToString tr d = GoSem.Outcome.ok s) : fracOK tr.Round s.toList = true := by
  rw [text_eq h]
  exact C17.C17_fraction_digits ⟨tr.Thousands, tr.Round⟩ d

/-- the separators are commas only: removing them gives back `StringFixed` verbatim -/
theorem C17_only_commas_inserted_go {tr : table.TextRenderer} {d : Rat} {s : String}
    (h : table.TextRenderer.numToString tr d = GoSem.Outcome.ok s) :
    String.ofList (stripCommas s.toList) = showFixed tr.Round (if tr.Thousands then d / 1000 else d) := by
  rw [text_eq h]
  exact C17.C17_only_commas_inserted ⟨tr.Thousands, tr.Round⟩ d

/-- all four number clauses as the one predicate the monitor evaluates per numeric cell, on the text of the translated function -/
theorem C17_num_shown_go {tr : table.TextRenderer} {d : Rat} {s : String}
    (h : table.TextRenderer.numToString tr d = GoSem.Outcome.ok s) :
    numShownAs tr.Round (roundPlaces tr.Round (if tr.Thousands then d / 1000 else d)) s.toList = true := by
  rw [text_eq h]
  exact C17.C17_num_shown ⟨tr.Thousands, tr.Round⟩ d

/-- `addThousandsSep` on its own: on every text `StringFixed` can produce it returns (no panic) a text that differs by commas only -/
theorem C17_addThousandsSep_go (p : Int) (x : Rat) :
    ∃ s, table.addThousandsSep (GoSem.Decimal.StringFixed x p) = GoSem.Outcome.ok s ∧
      String.ofList (stripCommas s.toList) = showFixed p x := by
  have := addThousandsSep_agrees (Dec.showFixed p x).toList (showFixed_ascii _ _)
  rw [String.ofList_toList] at this
  refine ⟨_, this, ?_⟩
  rw [String.toList_ofList]
  have := C17.C17_only_commas_inserted ⟨false, p⟩ x
  simpa [numToString, scaled] using this

/-! ### Non-vacuity: the translated function on −1234567.895 with two digits, and with `--thousands` -/
example : ∃ s, table.TextRenderer.numToString ⟨GoSem.GoZero.zero, false, false, 2⟩ (mkRat (-1234567895) 1000) = GoSem.Outcome.ok s ∧
    s = "-1,234,567.90" := by
  refine ⟨_, numToString_agrees _ _, ?_⟩
  decide +kernel
example : ∃ s, table.TextRenderer.numToString ⟨GoSem.GoZero.zero, false, true, 2⟩ (mkRat (-1234567895) 1000) = GoSem.Outcome.ok s ∧
    s = "-1,234.57" := by
  refine ⟨_, numToString_agrees _ _, ?_⟩
  decide +kernel

end Knut.C17Go
