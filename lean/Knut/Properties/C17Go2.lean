import Knut.Properties.C17
import Knut.FactsAgree.TransTableLog
/-!
# C17 (layout, CSV) on the generated definitions

The layout clauses of `Properties/C17.lean` (`C17_rectangular`, `C17_separators_aligned`, `C17_separator_columns`, `C17_text_conforms`,
`C17_render_completes_iff`) are about the model `Table.renderLines` / `renderText`, the CSV clauses (`C17_csv_positions`,
`C17_csv_roundtrip`, `C17_csv_text`) about `Table.renderCSV`.  `FactsAgree/TransTableRender3.lean` (`Render_agrees_rel`) and
`FactsAgree/TransTableCsv.lean` (`CSV_Render_agrees_rel`) prove the functions translated from `/repo`'s `lib/common/table`
(`TextRenderer.Render` with its three width passes, `renderCell`, `minLengthCell`, `createSep`; `CSVRenderer.Render` over
`encoding/csv`) equal to them.  This module composes them: every clause is stated about the text `out` that

  `Go.table.TextRenderer.Render tr T w cs ff`   resp.   `Go.table.CSVRenderer.Render cr T w ff`

returns on a writer that holds `w`, for every Go table `T` that stands for a model table `t` (`TableRel`: the same column groups and
cells, any capacities), every state `cs` of the package variable `color.NoColor`, every float formatter `ff` (the model has no percent
cells).  The number clauses on `numToString` are in `Properties/C17Go.lean`.  The text clauses carry the hypotheses of the model's
clauses (`Properties/C17.lean`): `uniform n t` (every row has the same number `n ≥ 1` of cells, at most the table's width: the balance
report fills every row) and `plain t` (no line break in a text, no negative indent).

The hypothesis of `Render_agrees_rel` that stays, as a STATED hypothesis of the text clauses (not dischargeable: it marks where the
model does not describe the code): `tr.Color = false` (colour on is outside the model).  There is no bound on the widths: the number
cells are padded by `table.padLeft`, not by `fmt`'s `%*s` (which refuses a width beyond 10^6: finding
`text-table-badwidth-column-above-1e6-runes`), so the clauses hold for tables of every width.
The CSV clauses have NO hypothesis beyond `TableRel` (and decimal amounts for the read-back
clause, as in the model).  The last section states the clauses end to end for a LOG of builder calls run through the translated
builder functions (`TransTableLog.exec_interp`), which is what code outside package table is translated to.
-/
namespace Knut.C17Go2
open Knut Knut.Dec Knut.Table Knut.Table.Spec
open Knut.Generated.Go
open Knut.FactsAgree.TransTableRender

/-! ## the text renderer -/

/-- **the bridge**: on a table with a common number `n ≥ 1` of cells per row and plain texts the translated `Render` returns — no
panic, never out of fuel, nil error, the field `table` reset — the writer extended by exactly the model's lines, each ended by a line
feed, and one more line feed -/
theorem Render_ok {tr : table.TextRenderer} {T : table.Table} {t : Table} (hT : TableRel T t) {n : Nat}
    (hu : uniform n t = true) (hp : plain t = true) (hc : tr.Color = false)
    (w : String) (cs : GoSem.Color.State) (ff : GoSem.Fmt.FloatFmt) :
    ∃ ls, renderLines (rendOf tr) t = .ok ls ∧
      table.TextRenderer.Render tr T w cs ff
        = GoSem.Outcome.ok ({ tr with table := GoSem.GoZero.zero }, w ++ String.ofList (joinLines ls), none) := by
  obtain ⟨ls, ht, hl, _⟩ := C17.C17_text_bytes (rendOf tr) t n hu hp
  refine ⟨ls, hl, ?_⟩
  rw [Render_agrees_rel tr T t hT w cs ff hc, ht]

/-- what an `ok` of the translated `Render` on a writer that holds `w` says in the model's terms -/
theorem Render_text {tr tr' : table.TextRenderer} {T : table.Table} {t : Table} (hT : TableRel T t)
    (hc : tr.Color = false) {w : String} {cs : GoSem.Color.State} {ff : GoSem.Fmt.FloatFmt}
    {out : String} {err : Option GoSem.Error}
    (h : table.TextRenderer.Render tr T w cs ff = GoSem.Outcome.ok (tr', out, err)) :
    ∃ s, renderText (rendOf tr) t = .ok s ∧ out = w ++ String.ofList s ∧ err = none ∧
      tr' = { tr with table := GoSem.GoZero.zero } := by
  rw [Render_agrees_rel tr T t hT w cs ff hc] at h
  cases hr : renderText (rendOf tr) t with
  | ok s =>
    rw [hr] at h
    injection h with h
    injection h with h1 h2
    injection h2 with h2 h3
    exact ⟨s, rfl, h2.symm, h3.symm, h1.symm⟩
  | panic m => rw [hr] at h; cases h

/-- the translated `Render` never runs out of fuel and has exactly two outcomes: the text with a nil error, or Go's
`index out of range` -/
theorem C17_render_total_go (tr : table.TextRenderer) (T : table.Table) (t : Table) (hT : TableRel T t)
    (hc : tr.Color = false) (w : String) (cs : GoSem.Color.State) (ff : GoSem.Fmt.FloatFmt) :
    (∃ s, table.TextRenderer.Render tr T w cs ff
        = GoSem.Outcome.ok ({ tr with table := GoSem.GoZero.zero }, w ++ String.ofList s, none)) ∨
    table.TextRenderer.Render tr T w cs ff = GoSem.Outcome.panic idxPanic := by
  rw [Render_agrees_rel tr T t hT w cs ff hc]
  cases renderText (rendOf tr) t with
  | ok s => exact Or.inl ⟨s, rfl⟩
  | panic m => exact Or.inr rfl

/-- **the panic outcomes, under exactly the guards the code has**: the translated `Render` completes iff every row has at least one
cell (`row.cells[0]`) and at most as many cells as the table has columns (`widths[i]`); otherwise it ends in `index out of range` -/
theorem C17_render_completes_iff_go (tr : table.TextRenderer) (T : table.Table) (t : Table) (hT : TableRel T t)
    (hc : tr.Color = false) (w : String) (cs : GoSem.Color.State) (ff : GoSem.Fmt.FloatFmt) :
    (∃ v, table.TextRenderer.Render tr T w cs ff = GoSem.Outcome.ok v) ↔ ∀ row ∈ t.rows, row ≠ [] ∧ row.length ≤ t.width := by
  rw [← C17.C17_render_completes_iff (rendOf tr) t, Render_agrees_rel tr T t hT w cs ff hc]
  unfold renderText
  cases renderLines (rendOf tr) t with
  | ok ls => simp
  | panic m => simp

theorem C17_render_panics_go (tr : table.TextRenderer) (T : table.Table) (t : Table) (hT : TableRel T t)
    (hc : tr.Color = false) (w : String) (cs : GoSem.Color.State) (ff : GoSem.Fmt.FloatFmt)
    (hbad : ∃ row ∈ t.rows, row = [] ∨ t.width < row.length) :
    table.TextRenderer.Render tr T w cs ff = GoSem.Outcome.panic idxPanic := by
  rcases C17_render_total_go tr T t hT hc w cs ff with ⟨s, h⟩ | h
  · have := (C17_render_completes_iff_go tr T t hT hc w cs ff).mp ⟨_, h⟩
    obtain ⟨row, hr, hb⟩ := hbad
    have := this row hr
    rcases hb with hb | hb
    · exact absurd hb this.1
    · omega
  · exact h

section clauses
variable {tr tr' : table.TextRenderer} {T : table.Table} {t : Table} {n : Nat} {cs : GoSem.Color.State} {ff : GoSem.Fmt.FloatFmt}
  {out : String} {err : Option GoSem.Error}

/-- the text the translated `Render` writes into an empty writer splits (the monitor's splitter) into exactly the model's lines -/
theorem Render_lines (hT : TableRel T t) (hu : uniform n t = true) (hp : plain t = true) (hc : tr.Color = false)
    (h : table.TextRenderer.Render tr T "" cs ff = GoSem.Outcome.ok (tr', out, err)) :
    ∃ ls, renderLines (rendOf tr) t = .ok ls ∧ tableLines out.toList = some ls ∧ err = none := by
  obtain ⟨ls, ht, hl, hs⟩ := C17.C17_text_bytes (rendOf tr) t n hu hp
  obtain ⟨s, hs', ho, he, _⟩ := Render_text hT hc h
  rw [ht] at hs'
  injection hs' with hs'
  refine ⟨ls, hl, ?_, he⟩
  rw [ho, ← hs']
  simpa using hs

/-- **rectangular**: all lines of the text the translated `Render` writes have the same width (in runes) -/
theorem C17_rectangular_go (hT : TableRel T t) (hu : uniform n t = true) (hp : plain t = true) (hc : tr.Color = false)
    (h : table.TextRenderer.Render tr T "" cs ff = GoSem.Outcome.ok (tr', out, err)) :
    ∃ ls, tableLines out.toList = some ls ∧ rectLines ls = true := by
  obtain ⟨ls, hl, hs, _⟩ := Render_lines hT hu hp hc h
  obtain ⟨ls', hl', hr⟩ := C17.C17_rectangular (rendOf tr) t n hu hp
  rw [hl] at hl'; injection hl' with hl'; subst hl'
  exact ⟨ls, hs, hr⟩

/-- **column separators vertically aligned**: `n + 1` character columns hold a separator (`|` or `+`) on every line -/
theorem C17_separators_aligned_go (hT : TableRel T t) (hu : uniform n t = true) (hp : plain t = true) (hc : tr.Color = false)
    (h : table.TextRenderer.Render tr T "" cs ff = GoSem.Outcome.ok (tr', out, err)) :
    ∃ ls, tableLines out.toList = some ls ∧ alignedOK n ls = true := by
  obtain ⟨ls, hl, hs, _⟩ := Render_lines hT hu hp hc h
  obtain ⟨ls', hl', hr⟩ := C17.C17_separators_aligned (rendOf tr) t n hu hp
  rw [hl] at hl'; injection hl' with hl'; subst hl'
  exact ⟨ls, hs, hr⟩

/-- the same, naming the columns: the separator columns are `0` and the column after each of the `n` slots of the final widths -/
theorem C17_separator_columns_go (hT : TableRel T t) (hu : uniform n t = true) (hp : plain t = true) (hc : tr.Color = false)
    (h : table.TextRenderer.Render tr T "" cs ff = GoSem.Outcome.ok (tr', out, err)) :
    ∃ W ls, finalWidths (rendOf tr) t = some W ∧ tableLines out.toList = some ls ∧
      (lineBounds n W).Nodup ∧ ((ls ≠ []) → (lineBounds n W).length = n + 1) ∧
      ∀ l ∈ ls, ∀ p ∈ lineBounds n W, sepAt l p = true := by
  obtain ⟨ls, hl, hs, _⟩ := Render_lines hT hu hp hc h
  obtain ⟨W, ls', hW, hl', hr⟩ := C17.C17_separator_columns (rendOf tr) t n hu hp
  rw [hl] at hl'; injection hl' with hl'; subst hl'
  exact ⟨W, ls, hW, hs, hr⟩

/-- **every line is lead, slots of the column widths, separators, trail, and every slot shows its cell** (numbers: blank for zero,
else the value rounded half away from zero to `Round` digits, signed, grouped): the whole-text predicate of the monitor holds of the
text the translated `Render` writes, with the model's final widths as witness -/
theorem C17_text_conforms_go (hT : TableRel T t) (hu : uniform n t = true) (hp : plain t = true) (hc : tr.Color = false)
    (h : table.TextRenderer.Render tr T "" cs ff = GoSem.Outcome.ok (tr', out, err)) :
    ∃ W ls, finalWidths (rendOf tr) t = some W ∧ tableLines out.toList = some ls ∧
      textOKWith false (rendOf tr) t n W ls = true := by
  obtain ⟨ls, hl, hs, _⟩ := Render_lines hT hu hp hc h
  obtain ⟨W, ls', hW, hl', hr⟩ := C17.C17_text_conforms (rendOf tr) t n hu hp
  rw [hl] at hl'; injection hl' with hl'; subst hl'
  exact ⟨W, ls, hW, hs, hr⟩

/-- **the property's sentence** (the value shown is the amount divided by 1000 EXACTLY, then rounded): the same with `exactTarget` -/
theorem C17_text_conforms_exact_go (hT : TableRel T t) (hu : uniform n t = true) (hp : plain t = true) (hc : tr.Color = false)
    (hex : tableExact (rendOf tr) t)
    (h : table.TextRenderer.Render tr T "" cs ff = GoSem.Outcome.ok (tr', out, err)) :
    ∃ W ls, finalWidths (rendOf tr) t = some W ∧ tableLines out.toList = some ls ∧
      textOKWith true (rendOf tr) t n W ls = true := by
  obtain ⟨ls, hl, hs, _⟩ := Render_lines hT hu hp hc h
  obtain ⟨W, ls', hW, hl', hr⟩ := C17.C17_text_conforms_exact (rendOf tr) t n hu hp hex
  rw [hl] at hl'; injection hl' with hl'; subst hl'
  exact ⟨W, ls, hW, hs, hr⟩

end clauses

/-! ## the CSV renderer: no hypothesis beyond `TableRel` -/

/-- **the bridge** (total: never a panic, never an error) -/
theorem CSV_ok (cr : table.CSVRenderer) {T : table.Table} {t : Table} (hT : TableRel T t) (w : String) (ff : GoSem.Fmt.FloatFmt) :
    table.CSVRenderer.Render cr T w ff = GoSem.Outcome.ok (w ++ String.ofList (renderCSV t), none) :=
  CSV_Render_agrees_rel cr T t hT w ff

theorem CSV_text {cr : table.CSVRenderer} {T : table.Table} {t : Table} (hT : TableRel T t) {ff : GoSem.Fmt.FloatFmt}
    {out : String} {err : Option GoSem.Error} (h : table.CSVRenderer.Render cr T "" ff = GoSem.Outcome.ok (out, err)) :
    out.toList = renderCSV t ∧ err = none := by
  rw [CSV_ok cr hT] at h
  injection h with h
  injection h with h1 h2
  exact ⟨by rw [← h1]; simp, h2.symm⟩

/-- **the bytes the translated `CSVRenderer.Render` writes parse back** (quoting of commas, quotes, line breaks and leading blanks
loses nothing) **to the non-blank rows in order, field `j` the text of cell `j`** -/
theorem C17_csv_roundtrip_go {cr : table.CSVRenderer} {T : table.Table} {t : Table} (hT : TableRel T t) {ff : GoSem.Fmt.FloatFmt}
    {out : String} {err : Option GoSem.Error} (h : table.CSVRenderer.Render cr T "" ff = GoSem.Outcome.ok (out, err)) :
    parseCSV out.toList = some (csvRecords t) := by
  rw [(CSV_text hT h).1]
  exact C17.C17_csv_roundtrip t

/-- **CSV carries the exact amounts in the same positions**: the records read off the written text show every non-blank row — texts
verbatim, amounts as the decimal that reads back to the UNROUNDED amount -/
theorem C17_csv_positions_go {cr : table.CSVRenderer} {T : table.Table} {t : Table} (hT : TableRel T t) {ff : GoSem.Fmt.FloatFmt}
    {out : String} {err : Option GoSem.Error} (hd : ∀ row ∈ t.rows, ∀ c ∈ row, cellDecimal c)
    (h : table.CSVRenderer.Render cr T "" ff = GoSem.Outcome.ok (out, err)) :
    ∃ recs, parseCSV out.toList = some recs ∧ csvOK t.rows recs = true :=
  ⟨_, C17_csv_roundtrip_go hT h, C17.C17_csv_positions t hd⟩

/-- together: the monitor's predicate on the text of the translated function -/
theorem C17_csv_text_go {cr : table.CSVRenderer} {T : table.Table} {t : Table} (hT : TableRel T t) {ff : GoSem.Fmt.FloatFmt}
    {out : String} {err : Option GoSem.Error} (hd : ∀ row ∈ t.rows, ∀ c ∈ row, cellDecimal c)
    (h : table.CSVRenderer.Render cr T "" ff = GoSem.Outcome.ok (out, err)) :
    csvTextOK t out.toList = true ∧ err = none := by
  rw [(CSV_text hT h).1]
  exact ⟨C17.C17_csv_text t hd, (CSV_text hT h).2⟩

/-- the renderer's own fields, the capacities of the Go rows and the float formatter are irrelevant to the text -/
theorem C17_csv_params_irrelevant_go (cr cr' : table.CSVRenderer) {T T' : table.Table} {t : Table} (hT : TableRel T t)
    (hT' : TableRel T' t) (ff ff' : GoSem.Fmt.FloatFmt) :
    table.CSVRenderer.Render cr T "" ff = table.CSVRenderer.Render cr' T' "" ff' := by
  rw [CSV_ok cr hT, CSV_ok cr' hT']

/-- capacities of the Go rows, the state of `color.NoColor` at entry and the float formatter are irrelevant to the text -/
theorem C17_render_params_irrelevant_go (tr : table.TextRenderer) {T T' : table.Table} {t : Table} (hT : TableRel T t)
    (hT' : TableRel T' t) (hc : tr.Color = false) (w : String) (cs cs' : GoSem.Color.State)
    (ff ff' : GoSem.Fmt.FloatFmt) :
    table.TextRenderer.Render tr T w cs ff = table.TextRenderer.Render tr T' w cs' ff' := by
  rw [Render_agrees_rel tr T t hT w cs ff hc, Render_agrees_rel tr T' t hT' w cs' ff' hc]

/-! ## end to end: a log of builder calls through the translated builder functions, then the translated renderers -/

open Knut.FactsAgree.TransTableLog in
/-- the layout clauses for the table a LOG of builder calls builds (what the balance renderer is translated to): the calls run
through the translated `table.New`, `AddRow`, `Row.AddText`, …, the result through the translated `Render` -/
theorem C17_log_text_go (log : List Knut.FactsAgree.TransRender.TC) (ha : ∀ c ∈ log, AlignOK c)
    (hok : (Knut.FactsAgree.TransRender.interp log).ok = true) (tr : table.TextRenderer) (n : Nat)
    (hu : uniform n (Knut.FactsAgree.TransRender.interp log).tbl = true) (hp : plain (Knut.FactsAgree.TransRender.interp log).tbl = true)
    (hc : tr.Color = false)
    (cs : GoSem.Color.State) (ff : GoSem.Fmt.FloatFmt) :
    ∃ W ls out, (execLog ⟨GoSem.GoZero.zero, []⟩ log).bind (fun g => table.TextRenderer.Render tr g.T "" cs ff)
        = GoSem.Outcome.ok ({ tr with table := GoSem.GoZero.zero }, out, none) ∧
      tableLines out.toList = some ls ∧
      textOKWith false (rendOf tr) (Knut.FactsAgree.TransRender.interp log).tbl n W ls = true := by
  rw [exec_interp log ha hok]
  obtain ⟨ls, hl, h⟩ := Render_ok (tableGo_rel _) hu hp hc "" cs ff
  obtain ⟨W, ls', _, hs, hr⟩ := C17_text_conforms_go (tableGo_rel _) hu hp hc h
  exact ⟨W, ls', _, h, hs, hr⟩

open Knut.FactsAgree.TransTableLog in
theorem C17_log_csv_go (log : List Knut.FactsAgree.TransRender.TC) (ha : ∀ c ∈ log, AlignOK c)
    (hok : (Knut.FactsAgree.TransRender.interp log).ok = true) (cr : table.CSVRenderer) (ff : GoSem.Fmt.FloatFmt)
    (hd : ∀ row ∈ (Knut.FactsAgree.TransRender.interp log).tbl.rows, ∀ c ∈ row, cellDecimal c) :
    ∃ out, (execLog ⟨GoSem.GoZero.zero, []⟩ log).bind (fun g => table.CSVRenderer.Render cr g.T "" ff) = GoSem.Outcome.ok (out, none) ∧
      csvTextOK (Knut.FactsAgree.TransRender.interp log).tbl out.toList = true := by
  rw [exec_interp log ha hok]
  have h := CSV_ok cr (tableGo_rel (Knut.FactsAgree.TransRender.interp log).tbl) "" ff
  exact ⟨_, h, (C17_csv_text_go (tableGo_rel _) hd h).1⟩

/-! ## Non-vacuity: the demo table of `Properties/C17.lean` through the translated renderers -/

/-- the renderer of the example: no colour, no `--thousands`, `--digits 0` -/
def demoTr : table.TextRenderer := ⟨GoSem.GoZero.zero, false, false, 0⟩

/-- the translated `Render` on the demo table writes the model's four lines (`C17.demo_lines`) -/
theorem demo_render : table.TextRenderer.Render demoTr (tableGo C17.demo) "" ⟨false, false⟩ (fun _ _ _ => "")
    = GoSem.Outcome.ok (demoTr,
        "+---------+------+------------+------------+\n| Account | Comm | 2020-01-31 | 2020-02-29 |\n|   Bär   | CHF  |  1,000,000 |          0 |\n|         |      |            |            |\n\n",
        none) := by
  obtain ⟨ls, hl, h⟩ := Render_ok (tr := demoTr) (tableGo_rel C17.demo) C17.demo_ok.1 C17.demo_ok.2 rfl
    "" ⟨false, false⟩ (fun _ _ _ => "")
  rw [show rendOf demoTr = ⟨false, 0⟩ from rfl, C17.demo_lines] at hl
  cases hl
  -- the lines stay string literals (the kernel appends byte arrays and decodes no text); the text written is compared through its bytes
  simp only [joinLines, List.flatMap_cons, List.flatMap_nil, List.append_nil, String.ofList_append, String.ofList_toList] at h
  rw [h]
  apply GoSem.mid_of_bytes
  decide +kernel

/-- every hypothesis of the layout clauses holds of it, so they apply to that text -/
example : ∃ W ls, tableLines
      "+---------+------+------------+------------+\n| Account | Comm | 2020-01-31 | 2020-02-29 |\n|   Bär   | CHF  |  1,000,000 |          0 |\n|         |      |            |            |\n\n".toList
      = some ls ∧ textOKWith false ⟨false, 0⟩ C17.demo 4 W ls = true := by
  obtain ⟨W, ls, _, h1, h2⟩ :=
    C17_text_conforms_go (tr := demoTr) (tableGo_rel C17.demo) C17.demo_ok.1 C17.demo_ok.2 rfl demo_render
  exact ⟨W, ls, h1, h2⟩

example : ∃ out, table.CSVRenderer.Render {} (tableGo C17.demo) "" (fun _ _ _ => "") = GoSem.Outcome.ok (out, none) ∧
    csvTextOK C17.demo out.toList = true := by
  have h := CSV_ok {} (tableGo_rel C17.demo) "" (fun _ _ _ => "")
  refine ⟨_, h, (C17_csv_text_go (tableGo_rel C17.demo) ?_ h).1⟩
  intro row hr c hc
  simp [C17.demo] at hr
  rcases hr with rfl | rfl | rfl | rfl <;> simp at hc <;> (try rcases hc with rfl | rfl | rfl | rfl) <;>
    simp [cellDecimal] <;> decide +kernel

end Knut.C17Go2
