import Knut.Proofs.AtomicWrite
/-!
# C18 — In-place rewrites are all-or-nothing

Statement (properties.jsonl): when `knut format` or `knut infer --inplace` rewrites a journal file and the
write fails or is cut short at any byte, the file afterwards holds either its complete previous contents or
the complete new contents, never a truncated or mixed file; when the command fails before writing (for
example on a parse error in that file) the file is bit-identical to before, and a failure on one of several
files does not prevent or corrupt the others.

Proved here for the file-system model of `formatFile` / `infer -i` / `atomic.WriteFile`
(`Knut.AtomicWrite.rewriteFile`), for every file system, every target, every renderer, every scenario
(injected error at any operation, any file-size limit, failing clean-up), with `tmp ≠ target` (the temp name is
created with `O_EXCL`, hence fresh).

PARTIAL with respect to the real system: the kernel's rename atomicity / fsync durability are assumptions of the
model (`rename` is one step), power loss is not modelled.
-/
namespace Knut.C18
open Knut.AtomicWrite

/-- **all-or-nothing at every moment**: in every intermediate state (so also after a crash at any point, and for every
length at which the write is cut short) the target is the old or the complete new file. -/
theorem C18_invariant (render : Bytes → Option Bytes) (sc : Scenario) {tmp target : Path} (fs : FS) (hne : tmp ≠ target) :
    ∀ st ∈ (rewriteFile render sc tmp target fs).states (),
      FS.get st target = FS.get fs target ∨
      ∃ f new, FS.get fs target = some f ∧ render f.content = some new ∧ FS.get st target = some ⟨new, f.mode⟩ := by
  rcases rewriteFile_cases render sc tmp target fs with ⟨op, -, e⟩ | ⟨f, new, -, hg, hrn, e⟩ <;> rw [e] <;> intro st h
  · rw [List.mem_singleton.mp h]
    exact Or.inl rfl
  · refine (writeFile_invariant sc new fs hne st h).imp id fun h => ⟨f, new, hg, hrn, ?_⟩
    rw [h, newFile, hg]

/-- the write passes through every length: for every `j` up to the number of bytes that reach the disk, the
state "temp file holds the first `j` bytes, everything else as before" is one of the states of the run. -/
theorem C18_every_prefix_is_a_state (sc : Scenario) {tmp target : Path} (new : Bytes) (fs : FS)
    (hc : sc.fault ≠ some .createTemp) (j : Nat) (hj : j ≤ written sc new) :
    FS.set fs tmp ⟨new.take j, 0o600⟩ ∈ (writeFile sc tmp target new fs).states () := by
  rw [writeFile_eq_of_stat sc tmp target new fs rfl]
  refine copyStates_subset_writeRun sc tmp target new fs _ (fun h => ?_) (copyStates_mem sc tmp new fs hj)
  exact (writeOutcome_error sc new _ h).elim (nomatch ·) hc

/-- **an error means the old file**: the target and every other path except the temp name are as before; the
temp file is gone too unless its removal failed as well. -/
theorem C18_error_means_old (render : Bytes → Option Bytes) (sc : Scenario) {tmp target : Path} (fs : FS) (hne : tmp ≠ target)
    {op : Op} (h : (rewriteFile render sc tmp target fs).outcome = .error op) :
    (∀ p, p ≠ tmp → FS.get (rewriteFile render sc tmp target fs).final p = FS.get fs p) ∧
    (sc.unlinkFails = false → FS.get fs tmp = none → FS.get (rewriteFile render sc tmp target fs).final tmp = none) := by
  rcases rewriteFile_cases render sc tmp target fs with ⟨_, -, e⟩ | ⟨f, new, -, -, -, e⟩ <;> rw [e] at h ⊢
  · exact ⟨fun _ _ => rfl, fun _ h => h⟩
  · exact (writeFile_spec sc new fs hne).2.2.2 op h

/-- **success means the new file**, complete, with the mode of the old one, and no temp file left. -/
theorem C18_ok_means_new (render : Bytes → Option Bytes) (sc : Scenario) {tmp target : Path} (fs : FS) (hne : tmp ≠ target)
    (h : (rewriteFile render sc tmp target fs).outcome = .ok) :
    ∃ f new, FS.get fs target = some f ∧ render f.content = some new ∧
      FS.get (rewriteFile render sc tmp target fs).final target = some ⟨new, f.mode⟩ ∧
      FS.get (rewriteFile render sc tmp target fs).final tmp = none := by
  rcases rewriteFile_cases render sc tmp target fs with ⟨_, -, e⟩ | ⟨f, new, -, hg, hrn, e⟩ <;> rw [e] at h ⊢
  · cases h
  · obtain ⟨h1, h2, _⟩ := (writeFile_spec sc new fs hne).2.2.1 h
    exact ⟨f, new, hg, hrn, by rw [h1, newFile, hg], h2⟩

/-- **a parse error (or an unreadable target) leaves the file system bit-identical**: no state in between at all. -/
theorem C18_parse_error_untouched (render : Bytes → Option Bytes) (sc : Scenario) (tmp target : Path) (fs : FS)
    (h : ∀ f, FS.get fs target = some f → render f.content = none) :
    (rewriteFile render sc tmp target fs).states () = [fs] ∧ (rewriteFile render sc tmp target fs).final = fs ∧
    ((rewriteFile render sc tmp target fs).outcome = .error .read ∨ (rewriteFile render sc tmp target fs).outcome = .error .parse) := by
  unfold rewriteFile
  split
  · exact ⟨rfl, rfl, Or.inl rfl⟩
  · split
    · exact ⟨rfl, rfl, Or.inl rfl⟩
    · rename_i f hg
      rw [h f hg]
      exact ⟨rfl, rfl, Or.inr rfl⟩

/-- **no other path is touched**, at any time. -/
theorem C18_others_untouched (render : Bytes → Option Bytes) (sc : Scenario) {tmp target : Path} (fs : FS) (hne : tmp ≠ target)
    {p : Path} (hp1 : p ≠ tmp) (hp2 : p ≠ target) :
    ∀ st ∈ (rewriteFile render sc tmp target fs).states (), FS.get st p = FS.get fs p :=
  rewriteFile_frame render sc fs hne hp1 hp2

/-- **several files are independent**: with pairwise different targets and temp names, every target ends
exactly as if its file had been rewritten alone on the initial file system, the outcomes are those of the
single runs, and nothing else changes — so a failure on one file neither prevents nor corrupts the others. -/
theorem C18_files_independent (render : Bytes → Option Bytes) (jobs : List Job) (fs : FS)
    (hnd : (jobs.flatMap Job.paths).Nodup) :
    (∀ j ∈ jobs, FS.get (rewriteAll render jobs fs).1 j.target =
        FS.get (rewriteFile render j.sc j.tmp j.target fs).final j.target) ∧
    (rewriteAll render jobs fs).2 = jobs.map (fun j => (rewriteFile render j.sc j.tmp j.target fs).outcome) ∧
    (∀ p, p ∉ jobs.flatMap Job.paths → FS.get (rewriteAll render jobs fs).1 p = FS.get fs p) := by
  obtain ⟨h1, h2, h3⟩ := rewriteAll_spec render jobs fs hnd
  have hne : ∀ j ∈ jobs, j.tmp ≠ j.target := by
    intro j hj heq
    have hsub : (Job.paths j).Nodup := nodup_paths_of_mem hnd hj
    simp [Job.paths] at hsub
    exact hsub heq.symm
  refine ⟨?_, ?_, h1⟩
  · intro j hj
    rw [h2 j hj, rewriteFile_target render j.sc fs (hne j hj)]
  · rw [h3]
    apply List.map_congr_left
    intro j hj
    rw [rewriteFile_outcome render j.sc fs (hne j hj)]

/-- **the monitor's predicate holds on the model**: old, rendered new, observed final target and the reported
status satisfy `allOrNothing`. -/
theorem C18_predicate (render : Bytes → Option Bytes) (sc : Scenario) {tmp target : Path} (fs : FS) (hne : tmp ≠ target) :
    allOrNothing (FS.get fs target) ((FS.get fs target).bind (fun f => render f.content))
      (FS.get (rewriteFile render sc tmp target fs).final target)
      (some (decide ((rewriteFile render sc tmp target fs).outcome = .ok))) = true := by
  rw [rewriteFile_target render sc fs hne, rewriteFile_outcome render sc fs hne]
  unfold rewriteTarget rewriteOutcome
  cases hr : rendered render sc (FS.get fs target) with
  | error op => simp [allOrNothing, isOld]
  | ok new =>
    obtain ⟨f, hg, hrn⟩ := rendered_ok hr
    rw [hg]
    cases ho : writeOutcome sc new (some f) <;> simp [allOrNothing, isOld, isNew, hrn, ho]

/-! ### non-vacuity -/

def demoFS : FS := [("a.knut", ⟨[1, 2, 3], 0o644⟩), ("b.knut", ⟨[9], 0o600⟩)]
def demoRender : Bytes → Option Bytes := fun b => if b = [9] then none else some (b ++ [10])

example : (rewriteFile demoRender {} "a.knut.tmp" "a.knut" demoFS).outcome = .ok := by decide +kernel
example : FS.get (rewriteFile demoRender {} "a.knut.tmp" "a.knut" demoFS).final "a.knut" = some ⟨[1, 2, 3, 10], 0o644⟩ := by decide +kernel
example : (rewriteFile demoRender { limit := some 2 } "a.knut.tmp" "a.knut" demoFS).outcome = .error .write := by decide +kernel
example : FS.get (rewriteFile demoRender { limit := some 2 } "a.knut.tmp" "a.knut" demoFS).final "a.knut" = some ⟨[1, 2, 3], 0o644⟩ := by decide +kernel
-- 6: initial, temp created, 0, 1, 2 bytes in it (`copyStates` lists the empty temp file twice), temp removed
example : ((rewriteFile demoRender { limit := some 2 } "a.knut.tmp" "a.knut" demoFS).states ()).length = 6 := by decide +kernel
example : (rewriteFile demoRender {} "b.knut.tmp" "b.knut" demoFS).outcome = .error .parse := by decide +kernel
example : (rewriteAll demoRender [⟨{}, "b.knut.tmp", "b.knut"⟩, ⟨{}, "a.knut.tmp", "a.knut"⟩] demoFS).2 = [.error .parse, .ok] := by decide +kernel
/-- what a non-atomic writer (truncate, then write) leaves behind after a write cut short fails the predicate -/
example : allOrNothing (some ⟨[1, 2, 3], 0o644⟩) (some [1, 2, 3, 10]) (some ⟨[1, 2], 0o644⟩) (some false) = false := by decide +kernel

end Knut.C18
