import Knut.Properties.C18
import Knut.FactsAgree.TransAtomic
/-!
# C18 on the translated `atomic.WriteFile`

`Properties/C18.lean` proves the all-or-nothing clauses about the hand-written protocol model `AtomicWrite.writeFile` (inside `rewriteFile`).
`FactsAgree/TransAtomic.lean` proves that the definition TRANSLATED from the source of `natefinch/atomic` (`Knut.Generated.Go.atomic.WriteFile`,
run from the world `(fs, scenario)`: `goRun`) ends in the model's file system with the model's outcome and passes through the model's states.
Here the clauses are restated about the translated function itself, for every file system, content, scenario and `tmp ≠ target`.

The meaning of the operations (`GoSem/OsWorld.lean`) is the model's; the ORDER of the operations, the error checks, the named result and
the deferred clean-up are translated from the library on every run.
-/
namespace Knut.C18Go
open Knut Knut.GoSem Knut.AtomicWrite Knut.FactsAgree.TransAtomic

/-- **all-or-nothing at every moment**, on the translated code: in every state the run logs — hence after a crash at any operation
and for every length at which the write is cut short — the target is the old file or the complete new one (new bytes, old mode) -/
theorem C18_invariant_go (sc : Scenario) {tmp target : Path} (new : Bytes) (fs : FS) (hne : tmp ≠ target) :
    ∀ st ∈ (goRun sc tmp target new fs).1.states,
      FS.get st target = FS.get fs target ∨ FS.get st target = some (newFile fs target new) :=
  fun st hst => writeFile_invariant sc new fs hne st ((states_mem sc new fs hne st).mp hst)

/-- **a non-nil error means the old file** -/
theorem C18_error_means_old_go (sc : Scenario) {tmp target : Path} (new : Bytes) (fs : FS) (hne : tmp ≠ target) {e : Os.Err}
    (h : (goRun sc tmp target new fs).2 = some e) :
    (∀ p, p ≠ tmp → FS.get (goRun sc tmp target new fs).1.fs p = FS.get fs p) ∧
    (sc.unlinkFails = false → FS.get fs tmp = none → FS.get (goRun sc tmp target new fs).1.fs tmp = none) := by
  obtain ⟨op, _, hout⟩ := WriteFile_error sc new fs hne h
  rw [(WriteFile_agrees sc new fs hne).1]
  exact (writeFile_spec sc new fs hne).2.2.2 op hout

/-- **nil means the new file**, complete, with the mode of the old one, no temp file left, nothing else touched -/
theorem C18_ok_means_new_go (sc : Scenario) {tmp target : Path} (new : Bytes) (fs : FS) (hne : tmp ≠ target)
    (h : (goRun sc tmp target new fs).2 = none) :
    FS.get (goRun sc tmp target new fs).1.fs target = some (newFile fs target new) ∧
    FS.get (goRun sc tmp target new fs).1.fs tmp = none ∧
    ∀ p, p ≠ tmp → p ≠ target → FS.get (goRun sc tmp target new fs).1.fs p = FS.get fs p := by
  rw [(WriteFile_agrees sc new fs hne).1]
  obtain ⟨_, _, hok, _⟩ := writeFile_spec sc new fs hne
  exact hok ((WriteFile_ok_iff sc new fs hne).mp h)

/-- the translated run passes through every length of the temp file up to the bytes that reach the disk -/
theorem C18_every_prefix_is_a_state_go (sc : Scenario) {tmp target : Path} (new : Bytes) (fs : FS) (hne : tmp ≠ target)
    (hc : sc.fault ≠ some .createTemp) (j : Nat) (hj : j ≤ written sc new) :
    FS.set fs tmp ⟨new.take j, 0o600⟩ ∈ (goRun sc tmp target new fs).1.states :=
  (states_mem sc new fs hne _).mpr (Knut.C18.C18_every_prefix_is_a_state sc new fs hc j hj)

/-- `formatFile` / `infer -i` with the TRANSLATED writer: read, render (the model's front end: it is C08's / C15's subject), then `atomic.WriteFile` as translated.
Result: the logged states, the final file system, and whether the command reports an error for this file. -/
def rewriteFileGo (render : Bytes → Option Bytes) (sc : Scenario) (tmp target : Path) (fs : FS) : List FS × FS × Bool :=
  if sc.fault = some .read then ([fs], fs, true) else
  match FS.get fs target with
  | none => ([fs], fs, true)
  | some f =>
    match render f.content with
    | none => ([fs], fs, true)
    | some new =>
      let r := goRun sc tmp target new fs
      (r.1.states, r.1.fs, r.2.isSome)

/-- it is the model's `rewriteFile`: same final file system, same success, the same states -/
theorem rewriteFileGo_agrees (render : Bytes → Option Bytes) (sc : Scenario) {tmp target : Path} (fs : FS) (hne : tmp ≠ target) :
    (rewriteFileGo render sc tmp target fs).2.1 = (rewriteFile render sc tmp target fs).final ∧
    ((rewriteFileGo render sc tmp target fs).2.2 = false ↔ (rewriteFile render sc tmp target fs).outcome = .ok) ∧
    ∀ st, st ∈ (rewriteFileGo render sc tmp target fs).1 ↔ st ∈ (rewriteFile render sc tmp target fs).states () := by
  by_cases hr : sc.fault = some .read
  · simp [rewriteFileGo, rewriteFile, hr]
  · cases hg : FS.get fs target with
    | none => simp [rewriteFileGo, rewriteFile, hr, hg]
    | some f =>
      cases hrn : render f.content with
      | none => simp [rewriteFileGo, rewriteFile, hr, hg, hrn]
      | some new =>
        simp only [rewriteFileGo, rewriteFile, hr, hg, hrn, if_false]
        refine ⟨(WriteFile_agrees sc new fs hne).1, ?_, fun st => states_mem sc new fs hne st⟩
        rw [← WriteFile_ok_iff sc new fs hne]
        cases (goRun sc tmp target new fs).2 <;> simp

/-- **C18 on the command with the translated writer**: at every moment the target is the old or the complete new file; an error leaves
every path but the temp name as it was; success installs the rendered content with the old mode and leaves no temp file. -/
theorem C18_rewrite_go (render : Bytes → Option Bytes) (sc : Scenario) {tmp target : Path} (fs : FS) (hne : tmp ≠ target) :
    (∀ st ∈ (rewriteFileGo render sc tmp target fs).1,
      FS.get st target = FS.get fs target ∨
      ∃ f new, FS.get fs target = some f ∧ render f.content = some new ∧ FS.get st target = some ⟨new, f.mode⟩) ∧
    ((rewriteFileGo render sc tmp target fs).2.2 = true →
      ∀ p, p ≠ tmp → FS.get (rewriteFileGo render sc tmp target fs).2.1 p = FS.get fs p) ∧
    ((rewriteFileGo render sc tmp target fs).2.2 = false →
      ∃ f new, FS.get fs target = some f ∧ render f.content = some new ∧
        FS.get (rewriteFileGo render sc tmp target fs).2.1 target = some ⟨new, f.mode⟩ ∧
        FS.get (rewriteFileGo render sc tmp target fs).2.1 tmp = none) := by
  obtain ⟨hfin, hok, hst⟩ := rewriteFileGo_agrees render sc fs hne
  refine ⟨fun st h => Knut.C18.C18_invariant render sc fs hne st ((hst st).mp h), ?_, ?_⟩
  · intro herr
    rw [hfin]
    cases ho : (rewriteFile render sc tmp target fs).outcome with
    | ok => rw [hok.mpr ho] at herr; cases herr
    | error op => exact (Knut.C18.C18_error_means_old render sc fs hne ho).1
  · intro h
    rw [hfin]
    exact Knut.C18.C18_ok_means_new render sc fs hne (hok.mp h)

end Knut.C18Go
