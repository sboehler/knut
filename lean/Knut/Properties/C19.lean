import Knut.Proofs.PipelineProgress
import Knut.Proofs.PipelineTrace
import Knut.Proofs.PipelineLoader
import Knut.Proofs.PipelineErrors
import Knut.Proofs.PipelineSim
/-!
# C19 — Concurrent loading and processing is race-free and terminates

Statement (properties.jsonl): under every interleaving of the goroutines that parse included files,
build the model and run the per-day processing pipeline there are no data races and no deadlocks, and
no directive is lost or duplicated: the journal that is processed is exactly the union of the directives
of all files.  When any stage fails, all stages stop and the command returns an error of a failing stage
rather than hanging or reporting success.

What is proved here, for the transition-system model of `cpr.Seq` (`Knut.Pipeline.step?`: any number of
stages, any items, any stage functions with private state, any schedule = any sequence of enabled steps)
and for the builder fan-in (`fromModelStream`, any arrival order):

* `C19_invariant`, `C19_exclusive`  — ownership: every item is owned by at most one stage at a time
* `C19_progress`, `C19_no_deadlock`, `C19_terminates` — no deadlock, every schedule ends after boundedly many steps
* `C19_confluent`                   — every schedule that ends without error delivers exactly the sequential result
* `C19_error_stops`, `C19_error_reported`, `C19_error_never_success` — once the run is cancelled nothing new is started,
  the reported error is the error of a stage function on the item it held, never success (that the run ends: `C19_terminates`)
* `C19_accept_*`, `C19_labelled_*`  — what acceptance of a logged trace by the relaxed acceptor implies
* `C19_fan_progress`, `C19_fan_terminates`, `C19_fan_stuck_without_drain` — the loader's fan-in cannot block while its
  consumer drains, and blocks for ever if it stops early
* `C19_no_loss_no_dup`, `C19_census`, `C19_build_sorted`, `C19_build_same_days` — loader → builder

PARTIAL (`C19_race_free_partial`): "no data races" is a statement about the Go memory model.  The model's
stage functions can by construction touch only their private state and the item they own; that the real
closures do so is *checked* (race detector over the processor matrix), not proved.  What is proved is the
protocol part: exclusive ownership of every item (`C19_exclusive`).
-/
namespace Knut.C19
open Knut.Pipeline

variable {σ α ε : Type}

/-- the invariant (chain of hand-overs, sequential data, genuine errors) holds in every reachable state -/
theorem C19_invariant {S : Sys σ α ε} {s : St σ α ε} (h : Reach S s) : Inv S s := inv_reach h

/-- **exclusive ownership.** Stage `k` (if it holds anything) holds item number `(s.hist k).length` of the
stream.  Two stages never hold the same item number, and the source has not handed out anything a stage
holds twice: the numbers strictly fall along the pipeline and lie below `fed`. -/
theorem C19_exclusive {S : Sys σ α ε} {s : St σ α ε} (h : Reach S s) {j k : Nat}
    (hj : (s.slot j).isSome) (hk : (s.slot k).isSome) (hjk : j < k) :
    (s.hist k).length < (s.hist j).length ∧ (s.hist j).length < s.fed := by
  have hi := inv_reach h
  have ⟨hj1, hjn⟩ := slot_range hi hj
  have ⟨hk1, hkn⟩ := slot_range hi hk
  have h1 := emitted_len_lt hi hjk hkn hk
  have h2 := emitted_len_lt hi (j := 0) (k := j) (by omega) hjn hj
  rw [emitted_pos S s hj1, emitted_pos S s hk1] at h1
  rw [emitted_pos S s hj1, emitted_zero_len hi] at h2
  omega

/-- PARTIAL statement of "no data races": in the model a step of stage `k` changes only stage `k`'s
private state and the slot it owns (plus ghost history).  For the real closures this is the assumption
the race-detector runs check. Here: a `work` step leaves every other stage's state and item untouched. -/
theorem C19_race_free_partial {S : Sys σ α ε} {s s' : St σ α ε} {k : Nat} (h : step? S s (.work k) = some s') :
    ∀ j, j ≠ k → s'.st j = s.st j ∧ s'.slot j = s.slot j := by
  cases Step.of h
  exact fun j hj => ⟨upd_other _ _ hj, upd_other _ _ hj⟩

/-- **no deadlock**: a reachable state that is neither the successful end nor the stopped-with-error end
has an enabled step. -/
theorem C19_progress {S : Sys σ α ε} {s : St σ α ε} (h : Reach S s) (hd : ¬ s.done S) (hs : ¬ s.stopped) :
    ∃ l s', step? S s l = some s' := progress (inv_reach h) hd hs

/-- the same, read the other way: where no step is enabled, `p.Wait()` returns (nil or the error) -/
theorem C19_no_deadlock {S : Sys σ α ε} {s : St σ α ε} (h : Reach S s) (hstuck : ∀ l, step? S s l = none) :
    s.done S ∨ s.stopped := by
  apply Classical.byContradiction
  intro hn
  obtain ⟨l, s', hl⟩ := progress (inv_reach h) (fun x => hn (.inl x)) (fun x => hn (.inr x))
  rw [hstuck l] at hl; cases hl

/-- **termination**: no schedule takes more than `2(n+1)m + 1` steps. -/
theorem C19_terminates {S : Sys σ α ε} {s : St σ α ε} {ls : List Label} (h : Run S (St.initial S) ls s) :
    ls.length ≤ 2 * (S.n + 1) * S.items.length + 1 := by
  have := run_bound h
  have : (2 * S.n + 1) * S.items.length ≤ 2 * (S.n + 1) * S.items.length := Nat.mul_le_mul_right _ (by omega)
  omega

/-- **sequential result**: whatever the schedule, a run that ends successfully has delivered exactly what
running stage 1 over all items, then stage 2 over its output, … delivers (in particular the sequential
run succeeds, every stage saw every item once, in order, after its predecessor). -/
theorem C19_confluent {S : Sys σ α ε} {s : St σ α ε} (h : Reach S s) (hd : s.done S) : seqRun S = some s.out :=
  done_seqRun (inv_reach h) hd

/-- **error stops the pipeline**: after the cancellation no item is handed over any more (no `feed`, `pass`,
`sink`): only stage functions that are already running finish, and the context stays cancelled. -/
theorem C19_error_stops {S : Sys σ α ε} {s s' : St σ α ε} {l : Label} (hc : s.cancelled = true)
    (h : step? S s l = some s') : (∃ k, l = .work k ∨ l = .fail k) ∧ s'.cancelled = true :=
  (step_frame h).2 hc

/-- … a failure is followed by the cancellation as long as it has not happened (it is always enabled) -/
theorem C19_error_cancels {S : Sys σ α ε} {s : St σ α ε} {k : Nat} {e : ε} (he : s.err k = some e) (hc : s.cancelled = false) :
    ∃ s', step? S s (.cancel k) = some s' :=
  ⟨_, (Step.cancel hc he).run⟩

/-- **the error returned is an error of a failing stage**: in the stopped state the reported error `e` of
stage `k` is what `f k` returned, in the stage's state `s.st k`, on the item the stage holds (that this state is the one
reached by processing its earlier items in order is `Inv.data_busy`, see `C19_invariant`). -/
theorem C19_error_reported {S : Sys σ α ε} {s : St σ α ε} (h : Reach S s) (hs : s.stopped) :
    ∃ k e a, s.reported = some (k, e) ∧ 1 ≤ k ∧ k ≤ S.n ∧ s.slot k = some (a, false) ∧ S.f k (s.st k) a = .error e := by
  have hi := inv_reach h
  obtain ⟨k, e, hr⟩ := hi.canc hs.1
  obtain ⟨h1, h2, a, hsl, hf⟩ := hi.err_ok k e (hi.rep k e hr)
  exact ⟨k, e, a, hr, h1, h2, hsl, hf⟩

/-- **which errors can be reported**: a recorded (hence also the reported) error of stage `k` is stage `k`'s
first failure on the stream that reaches it when every stage runs sequentially until its first failure — the
list `seqErrors S` the correspondence check compares the real `cpr.Seq`'s error against. -/
theorem C19_error_sequential {S : Sys σ α ε} {s : St σ α ε} (h : Reach S s) {k : Nat} {e : ε}
    (he : s.err k = some e ∨ s.reported = some (k, e)) : (k, e) ∈ seqErrors S := by
  have hi := inv_reach h
  rcases he with he | hr
  · exact err_mem_seqErrors hi he
  · exact err_mem_seqErrors hi (hi.rep k e hr)

/-- **never success after a failure**: once a stage has failed no schedule reaches the successful end. -/
theorem C19_error_never_success {S : Sys σ α ε} {s s' : St σ α ε} {ls : List Label} {k : Nat} {e : ε}
    (he : s.err k = some e) (h : Run S s ls s') : ¬ s'.done S := by
  intro hd
  have := run_err_persist h he
  rw [hd.2.1 k] at this; cases this

/-! ### logged traces (relaxed acceptor) -/

/-- **the acceptor accepts every behaviour of the model**: the events of any run of the transition system
(`feed`/`pass` logged as `begin`, `work` as `done`, `fail`, `sink`) are accepted, and the acceptor's counters
are those of the state reached.  So a logged trace of the real code that the acceptor rejects is not a
behaviour of the model. -/
theorem C19_run_accepted {S : Sys σ α ε} {s : St σ α ε} {ls : List Label} (h : Run S (St.initial S) ls s) :
    accept S.n S.items.length (traceOf ls) = some (accOf S s) := by
  have := (sim_run h (inv_initial S)).1
  rwa [accOf_initial] at this

/-- **stage order and one-at-a-time**, for every prefix `p` of an accepted trace: stage `k` has ended at
most as many items as it has begun and begun at most one more; it has begun at most as many as stage
`k-1` has ended (stage 1: at most `m`); the sink has received at most what the last stage ended. -/
theorem C19_accept_order {n m : Nat} {p q : List Ev} {a : Acc} (h : accept n m (p ++ q) = some a) (k : Nat) :
    p.count (.done k) ≤ p.count (.begin k) ∧ p.count (.begin k) ≤ p.count (.done k) + 1 ∧
    (2 ≤ k → k ≤ n → p.count (.begin k) ≤ p.count (.done (k - 1))) ∧
    p.count (.begin 1) ≤ m ∧ (0 < n → p.count .sink ≤ p.count (.done n)) := by
  obtain ⟨a1, h1, _⟩ := accRun_append h
  have hi := accept_inv h1
  exact ⟨(hi.one k).1, (hi.one k).2, hi.dep k, hi.src, hi.sinkn⟩

/-- a stage that failed logs nothing afterwards (it is dead in the acceptor): its failing item stays begun. -/
theorem C19_accept_failed {n m : Nat} {tr : List Ev} {a : Acc} (h : accept n m tr = some a) (k : Nat)
    (hf : tr.contains (.fail k) = true) : tr.count (.begin k) = tr.count (.done k) + 1 :=
  (accept_inv h).dead k hf

/-- **complete run**: if the trace is accepted and the sink logged all `m` items, every stage began and
ended exactly `m` items and none failed. -/
theorem C19_accept_complete {n m : Nat} {tr : List Ev} {a : Acc} (h : accept n m tr = some a) (hn : 0 < n)
    (hs : tr.count .sink = m) (k : Nat) (h1 : 1 ≤ k) (hk : k ≤ n) :
    tr.count (.begin k) = m ∧ tr.count (.done k) = m ∧ tr.contains (.fail k) = false := by
  have hall : tr.count (.begin k) = m ∧ tr.count (.done k) = m := acc_sunk_all (accept_inv h) hs hn k h1 hk
  refine ⟨hall.1, hall.2, ?_⟩
  cases hc : tr.contains (.fail k) with
  | false => rfl
  | true =>
    have := C19_accept_failed h k hc
    omega

/-- **per-stage FIFO, no loss, no duplicate** (item-labelled trace of the in-process harness): the items a
stage begins are `0, 1, 2, …` in this order. -/
theorem C19_labelled_fifo {n m : Nat} {tr : List LEv} {a : Acc} (h : laccept n m tr = some a) (k : Nat) :
    begunItems k tr = List.range (a.begun k) := by
  have := lacc_begun_items k h
  simpa [Acc.initial, List.range_eq_range'] using this

/-- **stage-order dependency**: item `i` is begun by stage `k ≥ 2` only after stage `k-1` ended item `i`;
it is ended by stage `k` only after stage `k` began it; it reaches the sink only after the last stage ended it. -/
theorem C19_labelled_dependency {n m : Nat} {p q : List LEv} {a : Acc} :
    (∀ k i, laccept n m (p ++ .begin k i :: q) = some a → 2 ≤ k → LEv.done (k - 1) i ∈ p) ∧
    (∀ k i, laccept n m (p ++ .done k i :: q) = some a → LEv.begin k i ∈ p) ∧
    (∀ i, laccept n m (p ++ .sink i :: q) = some a → 0 < n → LEv.done n i ∈ p) := by
  refine ⟨?_, ?_, ?_⟩
  · intro k i h h2
    obtain ⟨a1, hp, hq⟩ := laccRun_append h
    obtain ⟨hl, a2, hs, _⟩ := laccRun_cons hq
    obtain ⟨_, _, _, _, _, hdep, _⟩ := accStep_begin (show accStep n m a1 (.begin k) = some a2 from hs)
    simp only [labelsOK, beq_iff_eq] at hl
    exact lacc_done_mem hp (k - 1) i (by simp [Acc.initial]) (by have := hdep (by omega); omega)
  · intro k i h
    obtain ⟨a1, hp, hq⟩ := laccRun_append h
    obtain ⟨hl, a2, hs, _⟩ := laccRun_cons hq
    obtain ⟨_, _, _, hbe, _⟩ := accStep_done (show accStep n m a1 (.done k) = some a2 from hs)
    simp only [labelsOK, beq_iff_eq] at hl
    exact lacc_begin_mem hp k i (by simp [Acc.initial]) (by omega)
  · intro i h hn
    obtain ⟨a1, hp, hq⟩ := laccRun_append h
    obtain ⟨hl, a2, hs, _⟩ := laccRun_cons hq
    obtain ⟨_, hlim, _⟩ := accStep_sink (show accStep n m a1 .sink = some a2 from hs)
    simp only [labelsOK, beq_iff_eq] at hl
    exact lacc_done_mem hp n i (by simp [Acc.initial]) (by have := hlim (by omega); omega)

/-! ### loader → builder -/

/-- **no directive lost or duplicated**: whatever the order in which the files' directive lists arrive,
the builder's slice for a (date, kind) holds exactly the directives of that date and kind of all lists
(each as often as it occurs), and two arrival orders give permutations of each other. -/
theorem C19_no_loss_no_dup (arrival arrival' : List (List Dir)) (hp : arrival.Perm arrival') (d : Int) (k : Kind) :
    (fromModelStream arrival).get d k = sel d k arrival.flatten ∧
    ((fromModelStream arrival).get d k).Perm ((fromModelStream arrival').get d k) := by
  refine ⟨fromModelStream_get arrival d k, ?_⟩
  rw [fromModelStream_get, fromModelStream_get]
  exact (List.Perm.flatten hp).filter _

/-- **the monitor's predicate holds on the model** (`censusOK` is what the harness evaluates on the real
`knut print` output): for every arrival order the built journal shows exactly the arriving directives —
the same multiset — with the days in date order; and the predicate's first half *is* multiset equality. -/
theorem C19_census (arrival : List (List Dir)) :
    censusOK arrival.flatten (printed (fromModelStream arrival).build) = true ∧
    ∀ e o : List Dir, sameDirs e o = true ↔ e.Perm o :=
  ⟨census_model arrival, sameDirs_iff_perm⟩

/-- `Build()` hands the days to the pipeline sorted by date … -/
theorem C19_build_sorted (b : Builder) : b.build.Pairwise (fun x y => x.date ≤ y.date) := build_sorted b

/-- … and they are the builder's days, nothing else -/
theorem C19_build_same_days (b : Builder) : b.build.Perm b := build_perm b

/-! ### loader fan-in (producers → one draining consumer) -/

/-- **the loader cannot block while its consumer drains**: with files still pending, a hand-over is enabled. -/
theorem C19_fan_progress (pf : Bool) (s : Fan) (hd : s.draining = true) (hp : ¬ s.finished) :
    ∃ s', fanStep pf s .push = some s' := by
  have : 0 < s.pending := Nat.pos_of_ne_zero hp
  simp [fanStep, this, hd]

/-- … it ends after at most `pending + 1` steps, every file is handed over at most once, and if no producer's
context was cancelled every pending file has been delivered exactly once when the run is finished. -/
theorem C19_fan_terminates {pf : Bool} {s s' : Fan} {ls : List FanLabel} (h : FanRun pf s ls s') :
    ls.length ≤ s.pending + 1 ∧ s'.delivered ≤ s.delivered + s.pending ∧
    (s'.finished → s'.cancelled = false → s'.delivered = s.delivered + s.pending) := by
  obtain ⟨h1, h2, _, _, h5, hc⟩ := fan_run_counts h
  have hlen := fan_length ls
  refine ⟨by omega, by omega, ?_⟩
  intro hf hnc
  have := h5 hnc
  unfold Fan.finished at hf
  omega

/-- **why `FromStream` must drain**: a consumer that stopped receiving while files are pending and nothing cancels
the producers' context leaves no step enabled — the producers block for ever and `p.Wait()` never returns. -/
theorem C19_fan_stuck_without_drain (s : Fan) (hd : s.draining = false) (hc : s.cancelled = false) (l : FanLabel) :
    fanStep false s l = none := by
  cases l <;> simp [fanStep, hd, hc]

/-! ### non-vacuity -/

/-- a two-stage system over three numbers: stage 1 adds its running count, stage 2 doubles -/
def demo : Sys Nat Nat String :=
  { n := 2, items := [10, 20, 30], init := fun _ => 0,
    f := fun k c a => if k = 1 then .ok (c + 1, a + c) else .ok (c, 2 * a) }

example : seqRun demo = some [20, 42, 64] := by decide +kernel
example : ∃ s', step? demo (St.initial demo) .feed = some s' := ⟨_, rfl⟩
example : (accept 2 1 [.begin 1, .done 1, .begin 2, .done 2, .sink]).isSome = true := by decide +kernel
example : accept 2 1 [.begin 1, .begin 2] = none := by decide +kernel
example : (laccept 1 2 [.begin 1 0, .done 1 0, .begin 1 1, .sink 0, .done 1 1, .sink 1]).isSome = true := by decide +kernel
example : laccept 1 2 [.begin 1 1] = none := by decide +kernel
example : (fromModelStream [[⟨3, .open_, 1⟩], [⟨3, .open_, 2⟩, ⟨4, .price, 3⟩]]).get 3 .open_ = [⟨3, .open_, 1⟩, ⟨3, .open_, 2⟩] := by decide +kernel
example : censusOK [⟨3, .open_, 1⟩, ⟨4, .price, 3⟩] [⟨4, .price, 3⟩, ⟨3, .open_, 1⟩] = false := by decide +kernel
example : censusOK [⟨3, .open_, 1⟩, ⟨4, .price, 3⟩] [⟨3, .open_, 1⟩] = false := by decide +kernel
example : censusOK [⟨3, .open_, 1⟩, ⟨4, .price, 3⟩] [⟨3, .open_, 1⟩, ⟨4, .price, 3⟩] = true := by decide +kernel
example : fanStep false ⟨3, 0, true, false⟩ .push = some ⟨2, 1, true, false⟩ := by decide +kernel
example : fanStep true ⟨3, 0, false, false⟩ .cancel = some ⟨3, 0, false, true⟩ := by decide +kernel

end Knut.C19
