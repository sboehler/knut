import Knut.Proofs.Registry
/-!
# C19 — one object per name under every interleaving (the shared registries)

"No directive is lost or duplicated: the journal that is processed is exactly the union of the directives of
all files."  The per-file converters run concurrently and resolve commodity and account names through shared
registries; positions, prices and report rows are keyed by the identity of the object returned.  If two
converters could obtain two objects for one name, the bookings of that name would be split over two
keys — the union would not be what is processed.

* `C19_registry_unique`    — for every set of programs, every schedule: all calls for one name return the same object
* `C19_registry_injective` — and calls for different names return different objects
* `C19_registry_valid`     — from the empty registry: a call returns the error only for an invalid name and an object
                              only for a valid one, for every schedule
* `registry_without_recheck_splits` — the variant without the second lookup under the write lock does hand out two
                              objects for one name (a concrete schedule): the re-check is what the theorem rests on,
                              and `FactsAgree` ties its presence to the source on every run.
-/
namespace Knut.C19
open Knut.Registry

/-- **one object per name**: whatever the programs of the goroutines and whatever the schedule, two calls of `Get`
with the same name return the same object. -/
theorem C19_registry_unique (valid : String → Bool) (programs : List (List String)) (schedule : List Nat)
    {e1 e2 : Event} {i j : Nat}
    (h1 : e1 ∈ (run true valid (start programs) schedule).2) (h2 : e2 ∈ (run true valid (start programs) schedule).2)
    (hn : e1.name = e2.name) (hi : e1.ret = .obj i) (hj : e2.ret = .obj j) : i = j := by
  have r := (start_keeps valid programs schedule).ret
  have a := r e1 h1 i hi
  have b := r e2 h2 j hj
  rw [hn] at a; rw [a] at b; injection b

/-- **different names, different objects** -/
theorem C19_registry_injective (valid : String → Bool) (programs : List (List String)) (schedule : List Nat)
    {e1 e2 : Event} {i : Nat}
    (h1 : e1 ∈ (run true valid (start programs) schedule).2) (h2 : e2 ∈ (run true valid (start programs) schedule).2)
    (hi : e1.ret = .obj i) (hj : e2.ret = .obj i) : e1.name = e2.name := by
  have k := start_keeps valid programs schedule
  exact lookup_inj k.inv (k.ret e1 h1 i hi) (k.ret e2 h2 i hj)

/-- **errors are decided by the name alone**: from the start state, a call returns the error only for an invalid
name, and an object only for a valid one — for every schedule (so whether a journal loads does not depend on
the interleaving either). -/
theorem C19_registry_valid (valid : String → Bool) (programs : List (List String)) (schedule : List Nat)
    {e : Event} (h : e ∈ (run true valid (start programs) schedule).2) :
    (e.ret = .err → valid e.name = false) ∧ (∀ i, e.ret = .obj i → valid e.name = true) := by
  exact ((start_keeps valid programs schedule).valid (fun m i hm => nomatch hm)).2 e h

/-! ### the re-check is necessary; non-vacuity -/

/-- without the second lookup two goroutines that both miss in section 1 each allocate their own object:
threads 0 and 1 both resolve `"K"`, schedule 0,1 (both miss), 0,1 (both insert). -/
theorem registry_without_recheck_splits :
    (run false (fun _ => true) (start [["K"], ["K"]]) [0, 1, 0, 1]).2 =
      [⟨0, "K", .obj 0⟩, ⟨1, "K", .obj 1⟩] := by decide +kernel

/-- the same programs and schedule with the code as it is: one object -/
example : (run true (fun _ => true) (start [["K"], ["K"]]) [0, 1, 0, 1]).2 =
    [⟨0, "K", .obj 0⟩, ⟨1, "K", .obj 0⟩] := by decide +kernel

/-- an invalid name fails for everybody, a valid one registered meanwhile is shared -/
example : (run true (fun n => n != "bad") (start [["bad", "K"], ["K", "bad"]]) [0, 1, 1, 0, 0, 1, 1, 0]).2 =
    [⟨1, "K", .obj 0⟩, ⟨0, "bad", .err⟩, ⟨0, "K", .obj 0⟩, ⟨1, "bad", .err⟩] := by decide +kernel

end Knut.C19
