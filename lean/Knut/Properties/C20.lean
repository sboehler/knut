import Knut.Proofs.Portfolio
import Knut.Proofs.PortfolioWeights
import Knut.Proofs.PortfolioFlows
/-!
# C20 — portfolio analytics agree with the valued balance (exact-arithmetic model)

`Performance.returns` / `Weights.weightAdds` + `Weights.report` model `knut portfolio returns` / `knut portfolio weights`
with exact rationals in place of `float64` (the Go code's arithmetic). Everything below is proved of that model for
ALL journals, windows, intervals, `--last`, filters, universes and mappings. What `float64` adds (rounding, summation
order, `NaN`/`Inf` instead of the model's `none`) is outside the theorems: the property is therefore PARTIAL for the
float part, which the harness bounds on every run (printed digits, one to two units tolerance).

The two clauses about the reported numbers are here in their chain-level / whole-run forms; per SINGLE PERIOD of an arbitrary
journal they are in `Properties/C20Periods.lean`; the tie of `V1` to `knut balance -v` is in `Properties/C20Balance.lean`.
-/
namespace Knut.C20
open Knut Knut.Performance Knut.Weights Knut.PortfolioSpec

/-- **weights are value shares**: the adds of a period end day are, commodity by commodity of `V1`, value / total value,
all dated with that day -/
theorem C20_weights_share (mapping : List MapRule) (u u' : Universe) (date : Int) (v1 : AMap Commodity Rat)
    (adds : List Add) (h : queryDay mapping u date v1 = some (adds, u')) :
    adds.map (·.weight) = v1.map (fun e => e.2 / sumVals v1) ∧ ∀ a ∈ adds, a.date = date :=
  ⟨(queryDay_weights mapping u date v1 adds u' h).1, (queryDay_weights mapping u date v1 adds u' h).2.1⟩

/-- **values are sums of posting values of portfolio accounts**: what `ComputeValues` holds for commodity `c` after a day is
what it held before plus the values of the day's postings in `c` on portfolio accounts (asset/liability accounts passing
the account filter, commodity passing the commodity filter). `V1` of the day is this map. That the same sums are what
`knut balance -v` reports for the asset/liability accounts is `C20_values_are_valued_balance`
(Properties/C20Balance.lean); it is also checked against the real `knut balance -v V --csv -s .` on every case. -/
theorem C20_values_are_posting_sums (cfg : Cfg) (c : Commodity) (txs : List Transaction) (vals : AMap Commodity Rat) :
    (valuesDay cfg vals txs).get c 0 = vals.get c 0 + sumOver (inVc cfg c) (txs.flatMap (·.postings)) :=
  valuesDay_get cfg c txs vals

/-- **a group's weight is the sum of its members**, plus `ownSum`: what was added at the group node itself (a mapping may
collapse paths onto it) -/
theorem C20_group_sum (adds : List Add) (π : List String) (D : Int) :
    wsum adds π D = ownSum adds π D + ((childSegs adds π).map (fun s => wsum adds (π ++ [s]) D)).sum :=
  group_sum adds π D

/-- the rendered order of the children is a permutation of `childSegs` (`sortedChildren` is a `mergeSort` of it) -/
theorem C20_children_rendered_once (adds : List Add) (alpha : Bool) (π : List String) :
    (sortedChildren adds alpha π).Perm (childSegs adds π) := by
  unfold sortedChildren
  split <;> exact List.mergeSort_perm _ _

/-- the displayed weight of a node is `wsum` (an absent entry displays as empty, i.e. 0) -/
theorem C20_nodeWeight_is_wsum (adds : List Add) (π : List String) (D : Int) :
    (nodeWeight adds π D).getD 0 = wsum adds π D := by
  unfold nodeWeight wsum
  simp only
  split
  · rename_i h
    have : List.filter (fun a => decide (a.date = D)) (below adds π) = [] := by simpa using h
    simp [this]
  · rfl

theorem weightAdds_run {f : WFlags} {ds : List Directive} {adds : List Add} (h : weightAdds f ds = .ok (some adds)) :
    ∃ part days perfs, setup f.toFlags ds = .ok (part, days) ∧ perfFrom f.toFlags.cfg {} days = .ok perfs ∧
      queryFrom f.mapping part.endDates f.classes perfs = some adds := by
  unfold weightAdds at h
  split at h
  · cases h
  · cases h
  · rename_i part days hs
    split at h
    · cases h
    · rename_i perfs hp
      exact ⟨part, days, perfs, hs, hp, Res.ok.inj h⟩

/-- **the top level sums to 100 %** on every reported date, for the report of the command, provided no weight was put on
the hidden root (no mapping rule with level 0 and suffix 0 matched) -/
theorem C20_top_sums_to_one (f : WFlags) (ds : List Directive) (adds : List Add)
    (h : weightAdds f ds = .ok (some adds)) (hr : rooted adds = true) (D : Int) (hD : D ∈ adds.map (·.date)) :
    ((childSegs adds []).map (fun s => wsum adds [s] D)).sum = 1 := by
  obtain ⟨part, days, perfs, hs, hp, hq⟩ := weightAdds_run h
  exact top_level_sum adds hr D (queryFrom_sum_one f.mapping part.endDates perfs f.classes adds hq
    (by rw [perfFrom_dates days {} perfs hp]; exact (setup_days hs).1) D hD)

theorem C20_returns_run (f : Flags) (ds : List Directive) (lines : List (Int × Option Rat))
    (h : returns f ds = .ok lines) :
    ∃ part days perfs, setup f ds = .ok (part, days) ∧ perfFrom f.cfg {} days = .ok perfs ∧
      lines = perfLines (perfSpan part) part.endDates (some 1) perfs := by
  unfold returns at h
  split at h
  · cases h
  · cases h
  · rename_i part days hs
    split at h
    · cases h
    · rename_i perfs hp
      cases h
      exact ⟨part, days, perfs, hs, hp, rfl⟩

/-- **one return per period**: the dates `returns` prints are exactly the period ends of the requested partition that lie
inside the window, each once, in order; for a non-empty window these are all period ends -/
theorem C20_returns_every_period (f : Flags) (ds : List Directive) (lines : List (Int × Option Rat))
    (h : returns f ds = .ok lines) :
    ∃ part days, setup f ds = .ok (part, days) ∧
      lines.map (·.1) = part.endDates.filter (fun e => part.span.contains e) ∧
      (part.span.start ≤ part.span.stop → lines.map (·.1) = part.endDates) := by
  obtain ⟨part, days, perfs, hs, hp, rfl⟩ := C20_returns_run f ds lines h
  obtain ⟨hsorted, hreg, window, hnp⟩ := setup_days hs
  rw [← perfFrom_dates days {} perfs hp] at hsorted hreg
  obtain ⟨hinc, hin⟩ := endDates_increasing hnp
  have hev := perfLines_every_period (perfSpan part) part.endDates perfs (some 1) hsorted hinc hreg
  rw [perfSpan_filter hnp] at hev
  refine ⟨part, days, hs, hev, fun hle => ?_⟩
  rw [hev, List.filter_eq_self]
  intro e he
  rw [newPartition_span hnp] at hle ⊢
  exact hin hle e he

/-- the chain level: if on every day inside the window the change of the portfolio value equals the day's net external
flow (no unallocated `@performance()` effect) and the day's denominator `V0 + inflow` is not zero, every reported return is 0 -/
theorem C20_zero_of_day_equation (span : Period) (ends : List Int) (perfs : List DayPerf)
    (h : ∀ p ∈ perfs, span.contains p.date = true →
      p.portfolioFlows = 0 ∧ sumVals p.v1 - sumVals p.v0 = p.inflow + p.outflow ∧ sumVals p.v0 + p.inflow ≠ 0) :
    ∀ l ∈ perfLines span ends (some 1) perfs, l.2 = some 0 :=
  perfLines_eq_chunk span ends perfs (some 1) ▸ chunkLines_all_one ends _ fun p hp =>
    have hp := List.mem_filter.mp hp
    factor_one_of_net_flow p (h p hp.1 hp.2).1 (h p hp.1 hp.2).2.1 (h p hp.1 hp.2).2.2

/-- **0 % when prices are unchanged and only external flows occur** — PARTIAL (global form; the clause itself, for ONE
period of an arbitrary journal and the general notion of resting prices, is
`C20_zero_period_when_only_external_flows` in Properties/C20Periods.lean).

Full clause: the reported return is 0 % for a period in which prices are unchanged and only external deposits or
withdrawals occur.

Proved, for every journal, window, partition, account filter and valuation: if prices are declared on the first day
only (so they never change), no transaction carries a `@performance` annotation and every transaction is made of
booking pairs (`Plain`: what the loader builds, `plain_ofBookings`; such a transaction is an external flow, an internal
transfer, or does not touch the portfolio), no `--commodity` filter is given, and no day divides by zero
(`V0 + inflow ≠ 0`), then EVERY reported return is exactly 0. The proof carries the day equation
`V1 − V0 = inflow + outflow` through `ComputeValues` (map with deletion of zero entries), `ComputeFlows` (`split` by
sign per transaction) and the cancellation of internal transfers, and shows that `Valuate` books no adjustment.

Missing for the full clause: (1) the hypotheses range over the whole window, not over one period only; (2) "prices
unchanged" is the sufficient syntactic condition above; (3) with `--commodity` the clause is FALSE on the code (known
finding `returns-commodity-filter-counts-filtered-flows`, witness `C20_filtered_flow_counts`): `ComputeFlows` ignores
the commodity filter that `ComputeValues` applies. -/
theorem C20_zero_when_only_external_flows_partial (cfg : Cfg) (hf : ∀ c, cfg.commodityFilter c = true)
    (days : List Day) (perfs : List DayPerf) (h : perfFrom cfg {} days = .ok perfs)
    (hplain : ∀ d ∈ days, ∀ t ∈ d.transactions, Plain t) (hprices : ∀ d ∈ days.tail, d.prices = [])
    (hden : ∀ p ∈ perfs, sumVals p.v0 + p.inflow ≠ 0) (span : Period) (ends : List Int) :
    ∀ l ∈ perfLines span ends (some 1) perfs, l.2 = some 0 := by
  apply C20_zero_of_day_equation
  intro p hp _
  have := perfFrom_net_flow hf days {} perfs h hplain (Or.inl rfl) (fun hne => absurd rfl hne) hprices rfl List.Pairwise.nil p hp
  exact ⟨this.1, this.2, hden p hp⟩

/-- **end value over start value minus one without flows**: for a period whose days `days ++ [last]` (inside the window,
`last` the period end day, none of the others a period end) carry no flows and have non-zero start values, the line
printed for the period is `V1(last) / V0(first day) − 1`, where `V0(first day)` is the value at the end of the day before
(`Linked`). `r = 1` is the state of `Perf` right after the previous period end was reported.
(List-level form; for a period of the command's partition see `C20_ratio_period_without_flows`, Properties/C20Periods.lean.) -/
theorem C20_ratio_without_flows (span : Period) (ends : List Int) (days : List DayPerf) (last : DayPerf)
    (rest : List DayPerf) (prev : AMap Commodity Rat)
    (hdays : ∀ p ∈ days, span.contains p.date = true ∧ ends.contains p.date = false)
    (hc : span.contains last.date = true) (he : ends.contains last.date = true)
    (hnf : ∀ p ∈ days ++ [last], p.portfolioFlows = 0 ∧ p.inflow = 0 ∧ p.outflow = 0 ∧ sumVals p.v0 ≠ 0)
    (hl : Linked prev (days ++ [last])) :
    (perfLines span ends (some 1) (days ++ last :: rest)).head? =
      some (last.date, some (sumVals last.v1 / sumVals prev - 1)) := by
  rw [perfLines_eq_chunk, List.filter_append, List.filter_eq_self.mpr (fun p hp => (hdays p hp).1),
    List.filter_cons_of_pos (p := fun p : DayPerf => span.contains p.date) (a := last) hc,
    chunkLines_block ends days last _ _ (fun p hp => (hdays p hp).2) he, chain_no_flows _ 1 hnf, List.head?_cons]
  -- `prev` is the `V0` of the first day of the period
  have hprev : sumVals prev ≠ 0 := by
    cases days with
    | nil => exact hl.1 ▸ (hnf last (by simp)).2.2.2
    | cons p ds' => exact hl.1 ▸ (hnf p (by simp)).2.2.2
  rw [chain_ratio (days ++ [last]) prev hl (fun p hp => (hnf p hp).2.2.2) hprev, lastV1_append]
  rfl

/-- the days the model chains are linked: `V0` of each day is `V1` of the day before -/
theorem C20_days_linked (cfg : Cfg) (days : List Day) (perfs : List DayPerf) (h : perfFrom cfg {} days = .ok perfs) :
    Linked [] perfs := perfFrom_linked days {} perfs h

/-! ### Witnesses (decided on the exact model) and non-vacuity -/

def d (v0 v1 inflow : Rat) (date : Int) : DayPerf :=
  { date := date, v0 := [("X", v0)], v1 := [("X", v1)], inflow := inflow, outflow := 0, portfolioFlows := 0 }

/-- two days of +10 % each, period ends on both: each period reports 10 % … -/
example : perfLines ⟨1, 2⟩ [1, 2] (some 1) [d 100 110 0 1, d 110 121 0 2] = [(1, some (1/10)), (2, some (1/10))] := by
  decide +kernel

/-- … and with `--last 1` (only day 2 is a period end, the span of the partition starts on day 1) the reported period
shows its own 10 %, because `perfSpan` starts at the first reported period; chaining over the whole span `⟨1, 2⟩` instead
gives 21 % (third conjunct: what the finding `returns-last-folds-earlier-periods` describes). -/
theorem C20_last_reports_own_period :
    perfSpan ⟨⟨1, 2⟩, .daily, [⟨2, 2⟩]⟩ = ⟨2, 2⟩ ∧
    perfLines (perfSpan ⟨⟨1, 2⟩, .daily, [⟨2, 2⟩]⟩) [2] (some 1) [d 100 110 0 1, d 110 121 0 2] = [(2, some (1/10))] ∧
    perfLines ⟨1, 2⟩ [2] (some 1) [d 100 110 0 1, d 110 121 0 2] = [(2, some (21/100))] := by
  refine ⟨?_, ?_, ?_⟩ <;> decide +kernel

/-- a day before the first reported period start is outside `perfSpan` -/
theorem C20_before_first_period_skipped (part : Partition) (s : Int) (rest : List Int) (hs : part.startDates = s :: rest)
    (dt : Int) (h : dt < s) : (perfSpan part).contains dt = false := by
  rw [Period.contains_eq_false_iff, perfSpan, hs]
  left
  show dt < if part.span.start < s then s else part.span.start
  split <;> omega

/-- a deposit of 50 that the commodity filter hides from the values but not from the flows: −1/3 instead of 0
(known finding `returns-commodity-filter-counts-filtered-flows`) -/
theorem C20_filtered_flow_counts :
    perfLines ⟨1, 1⟩ [1] (some 1) [d 100 100 50 1] = [(1, some (-1/3))] := by
  decide +kernel

/-- two commodities worth 1 and 3: weights 1/4 and 3/4 -/
example : (queryDay [] [] 5 [("A", 1), ("B", 3)]).map (·.1.map (·.weight)) = some [1/4, 3/4] := by decide +kernel

def adds0 : List Add := [⟨["Eq", "A"], 5, 1/4⟩, ⟨["Eq", "B"], 5, 1/4⟩, ⟨["Cash", "C"], 5, 1/2⟩]

/-- a small report: the group `Eq` weighs 1/2 = 1/4 + 1/4; top level `Eq`, `Cash`; nothing on the root, no leaf-and-group node -/
example : wsum adds0 ["Eq"] 5 = 1/2 ∧ childSegs adds0 [] = ["Eq", "Cash"] ∧ rooted adds0 = true ∧ prefixFree adds0 = true := by
  decide +kernel

/-- what the loader builds is `Plain` -/
example : Plain (Transaction.ofBookings 3 "deposit" none [⟨⟨["Equity", "E"]⟩, ⟨["Assets", "A"]⟩, 5, "CHF"⟩]) :=
  plain_ofBookings _ _ _

/-- a deposit that is seen by both: 0 % -/
example : perfLines ⟨1, 1⟩ [1] (some 1) [d 100 150 50 1] = [(1, some 0)] := by decide +kernel

end Knut.C20
