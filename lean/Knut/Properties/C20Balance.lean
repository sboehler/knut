import Knut.Proofs.PortfolioBalance
import Knut.Proofs.PortfolioDays
import Knut.Properties.C20Periods
/-!
# C20 — the values behind `portfolio weights` / `returns` are the figures of `knut balance -v`

`knut portfolio weights` "shows for each commodity its share of the total valued asset/liability holdings that
`knut balance -v` reports for that date".  `C20_weights_share` (Properties/C20.lean) says the weights of a date are
`value / Σ values` of the map `V1` that `ComputeValues` holds at the end of that day.  Here `V1` is tied to the model of
the balance command (`Knut.Balance.run`: check, ComputePrices, Valuate, Filter, CloseAccounts, Query; the log of report
inserts): for every commodity `c` and every column date `D` of the balance report,

  `V1(D)(c)  =  Σ amount of the report inserts on asset/liability accounts, commodity c, in the columns up to D`

(`balanceValue`; the balance report is cumulative, so this is the figure it shows for `c` on `D`, summed over the
asset/liability accounts that pass `--account`).  The two commands run different processor lists —
`ComputePrices, check, Valuate, ComputeValues` vs `check, ComputePrices, Valuate, Filter, CloseAccounts, Query` — the proof
runs them in lockstep over the same list of days and shows that `check` and `ComputePrices` commute, that closing
transactions never touch asset/liability accounts, and that `Align` puts a transaction dated `x` into a column up to
`D` exactly when `x ≤ D`.

Hypotheses of the pipeline-level theorems (`C20_values_are_valued_balance`, …): the same `-v`, `--account`, `--commodity`;
no `-m`, no `--remap` on the balance (`Matches`); the days sorted by date and every transaction dated with its day (`hsorted`,
`hdates`: what `Build` delivers); `D` is a column of the balance report and its period ends increase (true
of every partition, `endDates_increasing`); every day up to `D` lies inside the balance's window or nothing has been
booked up to it; both pipelines over the SAME list of days.

Command level (`C20_command_values_are_valued_balance`, `C20_command_weights_are_shares_of_valued_balance`): the two
commands register different additional empty days before `Build` (period ends / period starts).  An empty day is a no-op
of the portfolio pipeline (`perf_emptyExt`: at day boundaries `vPrev = norm`, so `Valuate` books no adjustment), and the
portfolio pipeline accepts every day list the balance pipeline accepts (`balance_run_rev`); the builder's days carry
their transactions' dates and hold no transaction before the builder's `min` (`ensure_day_txs`).  So for the model of the
two COMMANDS over the same journal the only hypotheses left are: both succeed, same `-v`/`--account`/`--commodity`, no
`-m`/`--remap` on the balance, no `--from` of the balance after the first transaction (with a later `--from` the balance
shows the change inside the window only, and the statement is false), `D` a column of the balance report.
Exact arithmetic; the rendering of the inserts into report cells is C01/C06 material (the harness compares with the real
`knut balance -v` on every case).
-/
namespace Knut.C20
open Knut Knut.Performance Knut.Weights

/-- **`V1` is the valued balance.**  For every day list and every run of the portfolio pipeline over it, the balance
pipeline over the same days succeeds, and for every commodity `c` the value `ComputeValues` holds at the end of day `D`
(`valueAt perfs D`: the `V1` of the last day not after `D`) is the total of the balance report's inserts on
asset/liability accounts for `c` in the columns up to `D`. -/
theorem C20_values_are_valued_balance (cfg : Cfg) (b : BalCfg) (v : Commodity) (hm : Matches cfg b v)
    (days : List Day) (perfs : List DayPerf)
    (hsorted : List.Pairwise (· < ·) (days.map (·.date)))
    (hdates : ∀ d ∈ days, ∀ t ∈ d.transactions, t.date = d.date)
    (hp : perfFrom cfg {} days = .ok perfs)
    (hper : List.Pairwise (· < ·) (b.periods.map (·.stop))) (D : Int) (hD : D ∈ b.periods.map (·.stop))
    (hwin : ∀ pre d post, days = pre ++ d :: post → d.date ≤ D →
      b.span.contains d.date = true ∨ ∀ x ∈ pre ++ [d], x.transactions = []) :
    ∃ stF, Balance.run b days = .ok stF ∧ ∀ c, (valueAt perfs D).get c 0 = balanceValue stF.entries c D := by
  have hal : ∀ x, dateOK (alignIn b.periods x) D = decide (x ≤ D) := fun x => dateOK_align D x b.periods hper hD
  have hinv : MTM.CloseInv ({} : BalState) := by intro k hk; cases hk
  have hsame : SameSt ({} : PState).bal ({} : BalState) := ⟨rfl, rfl, rfl, rfl, rfl⟩
  have hwin' : ∀ pre d post, days = pre ++ d :: post → d.date ≤ D →
      b.span.contains d.date = true ∨ (({} : BalState).vQty = [] ∧ ∀ x ∈ pre ++ [d], x.transactions = []) := by
    intro pre d post h1 h2
    rcases hwin pre d post h1 h2 with h | h
    · exact Or.inl h
    · exact Or.inr ⟨rfl, h⟩
  have hlinked := perfFrom_linked days {} perfs hp
  have hds : DSorted perfs := perfFrom_dsorted hp hsorted
  obtain ⟨stF, hrun, _⟩ := balance_run hm "" D hal days {} {} perfs hsame hinv rfl hdates hwin' hp
  refine ⟨stF, hrun, ?_⟩
  intro c
  obtain ⟨stF', hrun', hsum⟩ := balance_run hm c D hal days {} {} perfs hsame hinv rfl hdates hwin' hp
  rw [hrun] at hrun'
  injection hrun' with e; subst e
  rw [valueAt_eq_gains perfs hlinked hds c D, hsum]
  have : balanceValue ({} : BalState).entries c D = 0 := rfl
  rw [this, Rat.zero_add]

theorem entries_of_get {m : AMap Commodity Rat} (hn : AMap.NodupKeys m) {bv : Commodity → Rat}
    (hval : ∀ c, m.get c 0 = bv c) : ∀ e ∈ m, e.2 = bv e.1 :=
  fun e he => by rw [← hval e.1, AMap.get_of_mem hn (k := e.1) (v := e.2) he]

/-- weights as shares, with the values of `V1` read off another source -/
theorem shares_of (mapping : List MapRule) (u u' : Universe) (date : Int) (v1 : AMap Commodity Rat) (adds : List Add)
    (hq : queryDay mapping u date v1 = some (adds, u')) {bv : Commodity → Rat} (hmem : ∀ e ∈ v1, e.2 = bv e.1) :
    adds.map (·.weight) = v1.map (fun e => bv e.1 / (v1.map (fun e' => bv e'.1)).sum) := by
  have hsum : sumVals v1 = (v1.map (fun e' => bv e'.1)).sum :=
    congrArg List.sum (List.map_congr_left hmem)
  rw [(C20_weights_share mapping u u' date v1 adds hq).1, hsum]
  exact List.map_congr_left fun e he => by rw [hmem e he]

/-- … for the record of a day: `V1` of the day dated `D`, the map the weights of `D` are computed from -/
theorem C20_v1_is_valued_balance (cfg : Cfg) (b : BalCfg) (v : Commodity) (hm : Matches cfg b v)
    (days : List Day) (perfs : List DayPerf)
    (hsorted : List.Pairwise (· < ·) (days.map (·.date)))
    (hdates : ∀ d ∈ days, ∀ t ∈ d.transactions, t.date = d.date)
    (hp : perfFrom cfg {} days = .ok perfs)
    (hper : List.Pairwise (· < ·) (b.periods.map (·.stop))) (p : DayPerf) (hpm : p ∈ perfs)
    (hD : p.date ∈ b.periods.map (·.stop))
    (hwin : ∀ pre d post, days = pre ++ d :: post → d.date ≤ p.date →
      b.span.contains d.date = true ∨ ∀ x ∈ pre ++ [d], x.transactions = []) :
    ∃ stF, Balance.run b days = .ok stF ∧
      (∀ c, p.v1.get c 0 = balanceValue stF.entries c p.date) ∧
      (∀ e ∈ p.v1, e.2 = balanceValue stF.entries e.1 p.date) := by
  obtain ⟨stF, hrun, hval⟩ := C20_values_are_valued_balance cfg b v hm days perfs hsorted hdates hp hper p.date hD hwin
  rw [valueAt_record (perfFrom_dsorted hp hsorted) hpm] at hval
  exact ⟨stF, hrun, hval, entries_of_get (perfFrom_v1_nodup days [] {} perfs (reach_empty cfg) hp p hpm) hval⟩

/-- **the weights are shares of the valued balance**: on a period end day `D` whose record is `p`, `weights` adds every
commodity of `V1` with the weight `balance value of the commodity / Σ balance values of the commodities of V1`, the
balance values being those of `knut balance -v` (same filters) for the date `D` -/
theorem C20_weights_are_shares_of_valued_balance (cfg : Cfg) (b : BalCfg) (v : Commodity) (hm : Matches cfg b v)
    (days : List Day) (perfs : List DayPerf)
    (hsorted : List.Pairwise (· < ·) (days.map (·.date)))
    (hdates : ∀ d ∈ days, ∀ t ∈ d.transactions, t.date = d.date)
    (hp : perfFrom cfg {} days = .ok perfs)
    (hper : List.Pairwise (· < ·) (b.periods.map (·.stop))) (p : DayPerf) (hpm : p ∈ perfs)
    (hD : p.date ∈ b.periods.map (·.stop))
    (hwin : ∀ pre d post, days = pre ++ d :: post → d.date ≤ p.date →
      b.span.contains d.date = true ∨ ∀ x ∈ pre ++ [d], x.transactions = [])
    (mapping : List MapRule) (u u' : Universe) (adds : List Add)
    (hq : queryDay mapping u p.date p.v1 = some (adds, u')) :
    ∃ stF, Balance.run b days = .ok stF ∧
      adds.map (·.weight) = p.v1.map (fun e => balanceValue stF.entries e.1 p.date /
        ((p.v1.map (fun e' => balanceValue stF.entries e'.1 p.date)).sum)) := by
  obtain ⟨stF, hrun, _, hmem⟩ := C20_v1_is_valued_balance cfg b v hm days perfs hsorted hdates hp hper p hpm hD hwin
  exact ⟨stF, hrun, shares_of (bv := fun c => balanceValue stF.entries c p.date) mapping u u' p.date p.v1 adds hq hmem⟩

/-- **the two pipelines over the days the two commands build**: the journal's days with whatever dates registered on
either side.  An empty day changes nothing the portfolio pipeline records (`perf_emptyExt`), the portfolio pipeline
accepts what the balance pipeline accepts (`balance_run_rev`), and no day before the builder's `min` holds a
transaction (`ensure_day_txs`) -/
theorem values_of_registered_days {cfg : Cfg} {b : BalCfg} {v : Commodity} (hm : Matches cfg b v) (ds : List Directive)
    (xs ys : List Int) {perfs : List DayPerf} {st : BalState}
    (hp : perfFrom cfg {} (xs.foldl insertDay (Builder.ofList ds).days) = .ok perfs)
    (hrun : Balance.run b (ys.foldl insertDay (Builder.ofList ds).days) = .ok st)
    (hper : List.Pairwise (· < ·) (b.periods.map (·.stop))) (D : Int) (hD : D ∈ b.periods.map (·.stop))
    (hstart : b.span.start ≤ (Builder.ofList ds).min) (hstop : D ≤ b.span.stop) :
    ∀ c, (valueAt perfs D).get c 0 = balanceValue st.entries c D := by
  have hbase := ofList_sorted ds
  have hsortedP := List.pairwise_map.mpr (foldl_insertDay_sorted xs _ hbase)
  have hsortedB := List.pairwise_map.mpr (foldl_insertDay_sorted ys _ hbase)
  have hdatesB : ∀ d ∈ ys.foldl insertDay (Builder.ofList ds).days, ∀ t ∈ d.transactions, t.date = d.date :=
    fun d hd => (ensure_day_txs ds _ d hd).1
  obtain ⟨perfsB, hpB⟩ := balance_run_rev hm _ {} {} st ⟨rfl, rfl, rfl, rfl, rfl⟩ (fun k hk => by cases hk) hdatesB hrun
  obtain ⟨stF, hrun', hval⟩ := C20_values_are_valued_balance cfg b v hm _ perfsB hsortedB hdatesB hpB hper D hD
    (by
      intro pre d post hsplit hle
      by_cases hmin : (Builder.ofList ds).min ≤ d.date
      · exact Or.inl ((Period.contains_iff _ _).mpr ⟨by omega, by omega⟩)
      · right
        intro x hx
        obtain ⟨hxm, hxd⟩ := split_le hsortedB hsplit x hx
        exact (ensure_day_txs ds _ x hxm).2 (by omega))
  rw [hrun] at hrun'
  cases hrun'
  have hds1 : DSorted perfs := perfFrom_dsorted hp hsortedP
  have hds2 : DSorted perfsB := perfFrom_dsorted hpB hsortedB
  have hsame : valueAt perfs D = valueAt perfsB D :=
    perf_emptyExt (emptyExt_ensure _ xs ys) {} perfs perfsB ⟨rfl, rfl⟩ hp hpB hds1 hds2 D
  intro c
  rw [hsame]
  exact hval c

/-- **command level**: `knut portfolio weights|returns` and `knut balance -v` over the same journal.  If both commands
succeed — same `-v`, `--account`, `--commodity`, the balance without `-m`/`--remap` and without a `--from` after the first
transaction (window, interval, `--last`, `--to` of either command otherwise arbitrary) — then for every column date `D` of
the balance report and every commodity `c`, the value `ComputeValues` holds at the end of day `D` in the portfolio run is
the total of the balance report's inserts on asset/liability accounts for `c` in the columns up to `D`. -/
theorem C20_command_values_are_valued_balance (f : Flags) (fb : BalanceFlags) (v : Commodity) (ds : List Directive)
    (hv : f.valuation = some v) (hbv : fb.valuation = some v)
    (hacc : fb.accountFilter = f.accountFilter) (hcom : fb.commodityFilter = f.commodityFilter)
    (hmap : fb.mapping = []) (hremap : ∀ s, fb.remap s = false)
    (hfrom : fb.from?.getD 0 ≤ (Builder.ofList ds).min)
    (part : Partition) (days : List Day) (perfs : List DayPerf)
    (hs : setup f ds = .ok (part, days)) (hp : perfFrom f.cfg {} days = .ok perfs)
    (es : List Entry) (partB : Partition) (hb : BalanceCmd.entries fb ds = .ok (es, partB))
    (D : Int) (hD : D ∈ partB.endDates) :
    ∀ c, (valueAt perfs D).get c 0 = balanceValue es c D := by
  obtain ⟨_, rfl⟩ := setup_ok hs
  obtain ⟨hnp, st, hrun, rfl⟩ := LedgerCommand.entries_ok hb
  -- the balance's day list: the journal's days with (under closing) the period starts registered
  have hdays : LedgerCommand.daysOf fb ds partB =
      (if fb.close = true then partB.startDates else []).foldl insertDay (Builder.ofList ds).days := by
    unfold LedgerCommand.daysOf; cases fb.close <;> rfl
  have hstart : (BalanceCmd.window fb (Builder.ofList ds)).start = (Builder.ofList ds).min := by
    simp only [BalanceCmd.window, Period.clip]
    split <;> omega
  exact values_of_registered_days (cfg := f.cfg) (b := LedgerCommand.cfgOf fb partB) ⟨hv, hbv, hacc, hcom, hmap, hremap⟩ ds _ _ hp
    (hdays ▸ hrun) (endDates_increasing hnp).1 D hD ((newPartition_span hnp ▸ hstart : partB.span.start = _) ▸ Int.le_refl _)
    ((newPartition_span hnp).symm ▸ endDates_le_stop hnp D hD : D ≤ partB.span.stop)

/-- **command level, the weights**: on a period end day `D` of `knut portfolio weights` that is also a column of
`knut balance -v` (same interval flags: every one), the weights added are, commodity by commodity of `V1`,
`balance figure of the commodity / Σ balance figures`, the figures being those of the balance COMMAND for `D` -/
theorem C20_command_weights_are_shares_of_valued_balance (f : Flags) (fb : BalanceFlags) (v : Commodity)
    (ds : List Directive) (hv : f.valuation = some v) (hbv : fb.valuation = some v)
    (hacc : fb.accountFilter = f.accountFilter) (hcom : fb.commodityFilter = f.commodityFilter)
    (hmap : fb.mapping = []) (hremap : ∀ s, fb.remap s = false)
    (hfrom : fb.from?.getD 0 ≤ (Builder.ofList ds).min)
    (part : Partition) (days : List Day) (perfs : List DayPerf)
    (hs : setup f ds = .ok (part, days)) (hp : perfFrom f.cfg {} days = .ok perfs)
    (es : List Entry) (partB : Partition) (hb : BalanceCmd.entries fb ds = .ok (es, partB))
    (p : DayPerf) (hpm : p ∈ perfs) (hD : p.date ∈ partB.endDates)
    (mapping : List MapRule) (u u' : Universe) (adds : List Add)
    (hq : queryDay mapping u p.date p.v1 = some (adds, u')) :
    (∀ c, p.v1.get c 0 = balanceValue es c p.date) ∧
    adds.map (·.weight) = p.v1.map (fun e => balanceValue es e.1 p.date /
      ((p.v1.map (fun e' => balanceValue es e'.1 p.date)).sum)) := by
  have hval := C20_command_values_are_valued_balance f fb v ds hv hbv hacc hcom hmap hremap hfrom part days perfs hs hp
    es partB hb p.date hD
  rw [valueAt_record (perfFrom_dsorted hp (setup_days hs).1) hpm] at hval
  exact ⟨hval, shares_of (bv := fun c => balanceValue es c p.date) mapping u u' p.date p.v1 adds hq
    (entries_of_get (perfFrom_v1_nodup days [] {} perfs (reach_empty f.cfg) hp p hpm) hval)⟩

/-! ### Non-vacuity: the journal of `Properties/C20Periods.lean` through both pipelines -/

def pB : BalCfg := { valuation := some "CHF", span := ⟨1, 3⟩, periods := [⟨1, 1⟩, ⟨2, 2⟩, ⟨3, 3⟩] }

example : Matches pF.cfg pB "CHF" := ⟨rfl, rfl, rfl, rfl, rfl, fun _ => rfl⟩

/-- the balance report of the three days: 200, then 220 (a value adjustment of 20), then 220 USD and 50 CHF -/
example : (match Balance.run pB [pDay1, pDay2, pDay3] with
    | .ok st => decide (balanceValue st.entries "USD" 1 = 200 ∧ balanceValue st.entries "USD" 2 = 220 ∧
        balanceValue st.entries "USD" 3 = 220 ∧ balanceValue st.entries "CHF" 3 = 50 ∧
        balanceValue st.entries "CHF" 2 = 0 ∧ st.entries.length = 10)
    | .error _ => false) = true := by decide +kernel

/-- the hypotheses of `C20_values_are_valued_balance` hold for this journal and every column `D ∈ {1, 2, 3}` -/
example (D : Int) (hD : D ∈ pB.periods.map (·.stop)) :
    ∃ stF, Balance.run pB [pDay1, pDay2, pDay3] = .ok stF ∧
      ∀ c, (valueAt pPerfs D).get c 0 = balanceValue stF.entries c D := by
  apply C20_values_are_valued_balance pF.cfg pB "CHF" ⟨rfl, rfl, rfl, rfl, rfl, fun _ => rfl⟩ [pDay1, pDay2, pDay3] pPerfs
    (by decide) (by decide +kernel) p_perfs (by decide) D hD
  intro pre d post hsplit _
  left
  rcases p_split hsplit with ⟨_, rfl⟩ | ⟨_, rfl⟩ | ⟨_, rfl⟩ <;> decide

def pFB : BalanceFlags := { valuation := some "CHF", to := 3, interval := .daily }

/-- the balance COMMAND on the same journal (daily columns, closing transactions on the period starts): it succeeds,
its columns are the days 1, 2, 3 and it shows 220 USD and 50 CHF on day 3 -/
example : (match BalanceCmd.entries pFB pDs with
    | .ok (es, pb) => decide (pb.endDates = [1, 2, 3] ∧ balanceValue es "USD" 2 = 220 ∧ balanceValue es "USD" 3 = 220 ∧
        balanceValue es "CHF" 3 = 50)
    | .error _ => false) = true := by decide +kernel

/-- the hypotheses of `C20_command_values_are_valued_balance` hold for the two commands on this journal -/
example (es : List Entry) (partB : Partition) (hb : BalanceCmd.entries pFB pDs = .ok (es, partB)) (D : Int)
    (hD : D ∈ partB.endDates) (c : Commodity) : (valueAt pPerfs D).get c 0 = balanceValue es c D :=
  C20_command_values_are_valued_balance pF pFB "CHF" pDs rfl rfl rfl rfl rfl (fun _ => rfl) (by decide +kernel)
    pPart [pDay1, pDay2, pDay3] pPerfs p_setup p_perfs es partB hb D hD c

/-- the value of the portfolio at the end of day 2 is the 220 of the balance -/
example : (valueAt pPerfs 2).get "USD" 0 = 220 := by decide +kernel

end Knut.C20
