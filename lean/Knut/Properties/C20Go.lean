import Knut.Properties.C20
import Knut.FactsAgree.TransPerformanceDay
import Knut.FactsAgree.TransWeightsSort
/-!
# C20 on the generated definitions

`Properties/C20.lean` states the clauses of C20 about the models `Performance.returns` and `Weights.*`; the agreement modules
`FactsAgree/TransPerformance*.lean` and `TransWeights*.lean` prove the definitions translated from `/repo`'s
`lib/journal/performance` and `lib/reports/weights` equal to them (under the stated reading of `float64` as exact rationals).  This
module composes them for the two clauses that are about translated code end to end: the returns, one line per period, from the days
that reach `ComputeValues` on; and the weights, a group being the sum of its members, on the tree that `NewReport`, ANY log of
`Report.Add` calls, `PropagateWeights`, `SortWeighted` leave.  The other clauses of C20 (`C20_weights_share`, `C20_top_sums_to_one`,
the zero/ratio clauses) are about `weights.Query.Execute` and the flows/values, whose translation is covered per function by the
agreement modules; `Properties/C20Go4.lean` to `C20Go6Report.lean` compose the pipeline of `knut portfolio weights` with the query
(translated in fragments, the rest of `Query.Execute` — an in-place `append` into a shared array — read by hand).  Two chains start
here: returns `C20Go` → `C20Go2` → `C20Go3` (example: `C20Go3Ex`), weights `C20Go` → `C20Go4` → `C20Go5` → `C20Go6` → `C20Go6Report`;
the header of the LAST file of each says where the strongest statement is and what it still assumes.  `cur : String → Bool`, over
which every theorem of these files quantifies, is the `IsCurrency` tag that the Go commodity of a model commodity carries
(`TransPosting.commodityGo`); `TagCurrency` has no caller in knut, so the commands run with `cur = fun _ => false`.
-/
namespace Knut.C20Go
open Knut Knut.GoSem Knut.Performance Knut.Weights Knut.PortfolioSpec
open Knut.Generated.Go
open Knut.FactsAgree.TransPerformance Knut.FactsAgree.TransWeights

/-- the date operand of a recorded `Printf("%v: %0.1f%%\n", d.Date, …)` -/
def dateOf (c : Stdout.PrintfCall) : Int :=
  match c.args with
  | .time d :: _ => d
  | _ => 0

theorem dateOf_lineGo (l : Int × Option Rat) : dateOf (lineGo l) = l.1 := rfl

/-- **what the translated pipeline prints is `returns`, one line per period**: the recorded `fmt.Printf` calls of the translated
`ComputeValues`, `ComputeFlows` (run over the days by `goDays`) and `Perf` (`perfRun`) are the model's lines (`lineGo`: the date and
100 × the return, exact), and their dates are the period ends of the requested partition inside the window, each once, in order; for
EVERY admissible family of map iteration orders.  Hypotheses that stay: `hin` (the Go days before the two processors stand for the
valued days `ms` of the model: what the translated stages `ComputePrices`/`check`/`Valuate` leave — per day proved in `TransProcess`,
not composed over the journal here), `hds` (the captured set of period ends), `hdef` (every factor inside the span is defined: a
division by zero ends the translated run, Go prints `NaN`), and `hs`, `hms` (the model's setup and valuation of the days succeed with
`part`, `days`, `ms`), which `C20Go2` discharges -/
theorem C20_returns_every_period_go (cur : String → Bool) (f : Flags) (ds : List Directive) (lines : List (Int × Option Rat))
    (h : returns f ds = .ok lines) (part : Knut.Partition) (days : List Knut.Day) (hs : setup f ds = .ok (part, days))
    (ms : List (Int × List Knut.Transaction)) (hms : valuedDays f.cfg ({} : PState).bal days = some ms)
    (ds0 : set.Set Int) (hds : ∀ x, set.Set.Has ds0 x = part.endDates.contains x) (j : journal.Builder)
    (xs : List (journal.Day × DayOrders))
    (hin : ∀ (i : Nat) (h1 : i < xs.length) (h2 : i < ms.length),
      DayIn cur f.cfg ((ms.take i).foldl (fun v m => Performance.valuesDay f.cfg v m.2) []) xs[i] ms[i])
    (hlen : xs.length = ms.length)
    (hdef : ∀ dp ∈ perfDaysV f.cfg ([], []) ms, (Performance.perfSpan part).contains dp.date = true → (Performance.factor dp).isSome) :
    ∃ gds r' out, goDays (calcGo cur f.cfg) (performance.Calculator.ComputeValues.init (calcGo cur f.cfg),
        performance.Calculator.ComputeFlows.init (calcGo cur f.cfg)) xs = .ok gds ∧
      perfRun (Knut.FactsAgree.TransDate.partitionGo part) (performance.Perf.init j (Knut.FactsAgree.TransDate.partitionGo part) ds0) gds =
        .ok ⟨ds0, part.startDates, r', out⟩ ∧
      out = lines.map lineGo ∧
      out.map dateOf = part.endDates.filter (fun e => part.span.contains e) ∧
      (part.span.start ≤ part.span.stop → out.map dateOf = part.endDates) := by
  obtain ⟨gds, r', h1, h2⟩ := returns_pipeline_agrees cur f.cfg part ds0 hds j xs ms hin hlen hdef
  have hpf := perfFrom_perfDaysV f.cfg days ({} : PState) ms hms
  have hl : lines = Performance.perfLines (Performance.perfSpan part) part.endDates (some 1) (perfDaysV f.cfg ([], []) ms) := by
    unfold returns at h
    rw [hs] at h
    simp only at h
    rw [hpf] at h
    simp only at h
    injection h with h
    exact h.symm
  obtain ⟨part', days', hs', hd1, hd2⟩ := C20.C20_returns_every_period f ds lines h
  rw [hs] at hs'
  injection hs' with hs'
  injection hs' with hp' _
  subst hp'
  refine ⟨gds, r', lines.map lineGo, h1, by rw [hl]; exact h2, rfl, ?_, ?_⟩
  · rw [List.map_map]
    have : (dateOf ∘ lineGo) = (fun l : Int × Option Rat => l.1) := by funext l; rfl
    rw [this]; exact hd1
  · intro hle
    rw [List.map_map]
    have : (dateOf ∘ lineGo) = (fun l : Int × Option Rat => l.1) := by funext l; rfl
    rw [this]; exact hd2 hle

/-- the report on a log of adds: `NewReport`, the adds, `PropagateWeights`, `SortWeighted` -/
def reportGo (L : Log) (o1 : List String → List Int) (o2 o3 : List String → List String) : GoSem.Outcome weights.Report :=
  (addAll weights.NewReport L).bind fun r =>
    (weights.Report.PropagateWeights r o1 o2).bind fun r1 =>
      weights.Report.SortWeighted r1 o3

/-- the weight the Go tree holds for the node at `q` on date `d` (an absent node, a nil map, an absent entry: 0 — displayed empty) -/
def weightAt (T : Node) (q : List String) (d : Int) : Rat :=
  (((MNode.nodeAt? T q).bind (fun m => m.Value.Weights)).bind (fun W => AMap.find? W d)).getD 0

/-- admissible iteration orders for the whole report: `Orders` for the traversal of `PropagateWeights` on the tree after the adds, and
for the traversal of `SortWeighted` a permutation of every node's children -/
def OrdersOK (L : Log) (o1 : List String → List Int) (o2 o3 : List String → List String) : Prop :=
  (∀ r, addAll weights.NewReport L = .ok r → Orders L [] r.weights o1 o2) ∧
  (∀ r T, addAll weights.NewReport L = .ok r → weights.Report.PropagateWeights r o1 o2 = .ok { r with weights := T } →
    ∀ q m, MNode.nodeAt? T q = some m → (o3 q).Perm (AMap.keys m.Children))

/-- **the bridge**: the report of the translated code never panics, and every node of its tree is the node of its path in the model's
terms -/
theorem reportGo_ok (L : Log) (o1 : List String → List Int) (o2 o3 : List String → List String) (ho : OrdersOK L o1 o2 o3) :
    ∃ R, reportGo L o1 o2 o3 = .ok R ∧ (∀ d, set.Set.Has R.dates d = (L.map (·.date)).contains d) ∧
      ∀ q m, MNode.nodeAt? R.weights q = some m →
        m.Value.Weight = Weights.sortKey L q ∧
        (∃ W, m.Value.Weights = some W ∧ ∀ d, AMap.find? W d = Weights.nodeWeight L q d) ∧
        AMap.keys m.Children = Weights.childSegs L q ∧
        m.SortedKeys = Weights.sortedChildren L false q := by
  obtain ⟨r, hr, hdates, hrest⟩ := Report_pipeline_agrees L o1 o2 o3
  obtain ⟨T, hT, hrest2⟩ := hrest (ho.1 r hr)
  obtain ⟨T', hT', hnodes⟩ := hrest2 (ho.2 r T hr hT)
  refine ⟨{ r with weights := T' }, ?_, hdates, ?_⟩
  · unfold reportGo
    rw [hr]; simp only [GoSem.Outcome.bind]
    rw [hT]
    exact hT'
  · intro q m hm
    obtain ⟨a, ⟨W, hW, _, hWd⟩, c, e⟩ := hnodes q m hm
    exact ⟨a, ⟨W, hW, hWd⟩, c, e⟩

/-- **the displayed weight of a node is `wsum`**: the sum of the weights added at or below its path on that date -/
theorem C20_nodeWeight_is_wsum_go (L : Log) (o1 : List String → List Int) (o2 o3 : List String → List String)
    (ho : OrdersOK L o1 o2 o3) {R : weights.Report} (hR : reportGo L o1 o2 o3 = .ok R) (q : List String) (m : Node)
    (hm : MNode.nodeAt? R.weights q = some m) (d : Int) : weightAt R.weights q d = wsum L q d := by
  obtain ⟨R', hR', _, hn⟩ := reportGo_ok L o1 o2 o3 ho
  rw [hR] at hR'; injection hR' with e; subst e
  obtain ⟨_, ⟨W, hW, hWd⟩, _, _⟩ := hn q m hm
  unfold weightAt
  simp only [hm, Option.bind_some, hW, hWd]
  exact C20.C20_nodeWeight_is_wsum L q d

/-- **a group's weight is the sum of its members** (plus what was added on the group node itself), on the Go tree: the weight of a
node is `ownSum` plus the weights of the nodes of its `Children` -/
theorem C20_group_sum_go (L : Log) (o1 : List String → List Int) (o2 o3 : List String → List String)
    (ho : OrdersOK L o1 o2 o3) {R : weights.Report} (hR : reportGo L o1 o2 o3 = .ok R) (q : List String) (m : Node)
    (hm : MNode.nodeAt? R.weights q = some m) (d : Int) :
    weightAt R.weights q d = ownSum L q d + ((AMap.keys m.Children).map (fun s => weightAt R.weights (q ++ [s]) d)).sum := by
  rw [C20_nodeWeight_is_wsum_go L o1 o2 o3 ho hR q m hm d, C20.C20_group_sum L q d]
  obtain ⟨R', hR', _, hn⟩ := reportGo_ok L o1 o2 o3 ho
  rw [hR] at hR'; injection hR' with e; subst e
  obtain ⟨_, _, hkeys, _⟩ := hn q m hm
  rw [← hkeys]
  congr 2
  apply List.map_congr_left
  intro s hs
  obtain ⟨c, hc⟩ := Option.isSome_iff_exists.1 ((AMap.mem_keys_iff m.Children _).mp hs)
  have hcn : MNode.nodeAt? R.weights (q ++ [s]) = some c := by
    rw [MNode.nodeAt?_append, hm]
    simp [MNode.nodeAt?_cons, hc]
  exact (C20_nodeWeight_is_wsum_go L o1 o2 o3 ho hR (q ++ [s]) c hcn d).symm

/-- **every member is rendered once**: the order in which `renderNode` walks a node's children (`Sorted`) is a permutation of its
children -/
theorem C20_children_rendered_once_go (L : Log) (o1 : List String → List Int) (o2 o3 : List String → List String)
    (ho : OrdersOK L o1 o2 o3) {R : weights.Report} (hR : reportGo L o1 o2 o3 = .ok R) (q : List String) (m : Node)
    (hm : MNode.nodeAt? R.weights q = some m) : m.SortedKeys.Perm (AMap.keys m.Children) := by
  obtain ⟨R', hR', _, hn⟩ := reportGo_ok L o1 o2 o3 ho
  rw [hR] at hR'; injection hR' with e; subst e
  obtain ⟨_, _, hkeys, hsorted⟩ := hn q m hm
  rw [hkeys, hsorted]
  exact C20.C20_children_rendered_once L false q

/-- the iteration orders cannot show: two admissible families give trees that agree on every weight -/
theorem C20_orders_irrelevant_go (L : Log) (o1 o1' : List String → List Int) (o2 o3 o2' o3' : List String → List String)
    (ho : OrdersOK L o1 o2 o3) (ho' : OrdersOK L o1' o2' o3') {R R' : weights.Report}
    (hR : reportGo L o1 o2 o3 = .ok R) (hR' : reportGo L o1' o2' o3' = .ok R') (q : List String) (m m' : Node)
    (hm : MNode.nodeAt? R.weights q = some m) (hm' : MNode.nodeAt? R'.weights q = some m') (d : Int) :
    weightAt R.weights q d = weightAt R'.weights q d ∧ m.SortedKeys = m'.SortedKeys := by
  refine ⟨by rw [C20_nodeWeight_is_wsum_go L o1 o2 o3 ho hR q m hm d, C20_nodeWeight_is_wsum_go L o1' o2' o3' ho' hR' q m' hm' d], ?_⟩
  obtain ⟨R1, hR1, _, hn1⟩ := reportGo_ok L o1 o2 o3 ho
  obtain ⟨R2, hR2, _, hn2⟩ := reportGo_ok L o1' o2' o3' ho'
  rw [hR] at hR1; injection hR1 with e; subst e
  rw [hR'] at hR2; injection hR2 with e; subst e
  rw [(hn1 q m hm).2.2.2, (hn2 q m' hm').2.2.2]

/-! ### Non-vacuity: the empty log of adds (a query that matched nothing): every order family is admissible, the report is the empty
tree -/
example : ∃ R, reportGo [] (fun _ => []) (fun _ => []) (fun _ => []) = .ok R := by
  have hord : Orders [] [] weights.NewReport.weights (fun _ => []) (fun _ => []) := by
    refine ⟨?_, fun _ => List.nodup_nil, fun q a ha => by cases ha⟩
    intro q m hm
    cases q with
    | nil => simp only [MNode.nodeAt?_nil, Option.some.injEq] at hm; subst hm; simp [weights.NewReport, MNode.new, AMap.keys]
    | cons s rest => simp [MNode.nodeAt?_cons, weights.NewReport, MNode.new, AMap.find?] at hm
  have ho : OrdersOK [] (fun _ => []) (fun _ => []) (fun _ => []) := by
    refine ⟨fun r hr => ?_, fun r T hr hT q m hm => ?_⟩
    · cases hr; exact hord
    · cases hr
      obtain ⟨r0, hr0, hrest⟩ := PropagateWeights_model [] (fun _ => []) (fun _ => [])
      cases hr0
      obtain ⟨T0, hT0, hnodes⟩ := hrest hord
      rw [hT] at hT0
      injection hT0 with e
      obtain rfl : T = T0 := congrArg weights.Report.weights e
      rw [(hnodes q m hm).2.2]
      exact List.Perm.nil
  obtain ⟨R, hR, _⟩ := reportGo_ok [] _ _ _ ho
  exact ⟨R, hR⟩

end Knut.C20Go
