import Knut.Properties.C20Go
/-!
# C20 on the generated definitions: the returns clause, PARTIAL — with its remaining hypotheses listed

`C20_returns_every_period_go_partial` is `C20Go.C20_returns_every_period_go` with everything that follows from
`returns f ds = .ok lines` DISCHARGED: `part`, `days`, `ms` are GIVEN by the theorem (existentially, determined by `f` and `ds`), not
assumed; what is left is NOT a consequence of the command's flags and journal, hence the name.  Without `-v`,
`Properties/C20Go3.lean` discharges `hin`/`hlen` as well (the whole pipeline); with `-v` the statement here is the strongest there is
about the lines of `returns`.
-/
namespace Knut.C20Go2
open Knut Knut.GoSem Knut.Performance Knut.PortfolioSpec
open Knut.Generated.Go
open Knut.FactsAgree.TransPerformance
open Knut.C20Go (dateOf)

theorem valuedDays_of_perfFrom (cfg : Performance.Cfg) : ∀ (days : List Knut.Day) (ps : Performance.PState) (perfs : List Performance.DayPerf),
    Performance.perfFrom cfg ps days = .ok perfs → ∃ ms, valuedDays cfg ps.bal days = some ms := by
  intro days
  induction days with
  | nil => intro ps perfs _; exact ⟨[], rfl⟩
  | cons d rest ih =>
    intro ps perfs h
    rw [perfFrom_eq] at h
    simp only [valuedDays]
    cases hv : Performance.valuedDay cfg ps.bal d with
    | error e => simp [hv] at h
    | ok r =>
      obtain ⟨bal, txs⟩ := r
      simp only [hv] at h
      cases hr : Performance.perfFrom cfg (Performance.PState.mk bal (Performance.valuesDay cfg ps.values txs)
          (Performance.valuesDay cfg ps.values txs)) rest with
      | error e => simp [hr] at h
      | ok r' =>
        obtain ⟨ms, hms⟩ := ih _ r' hr
        exact ⟨(d.date, txs) :: ms, by simp [hms]⟩

theorem perfFrom_ok_valued {cfg : Performance.Cfg} {days : List Knut.Day} {ps : Performance.PState} {perfs : List Performance.DayPerf}
    (h : Performance.perfFrom cfg ps days = .ok perfs) :
    ∃ ms, valuedDays cfg ps.bal days = some ms ∧ perfs = perfDaysV cfg (ps.values, ps.prev) ms := by
  obtain ⟨ms, hms⟩ := valuedDays_of_perfFrom cfg days ps perfs h
  exact ⟨ms, hms, Except.ok.inj (h.symm.trans (Knut.FactsAgree.TransPerformance.perfFrom_perfDaysV cfg days ps ms hms))⟩

theorem returns_ok_parts (f : Flags) (ds : List Directive) (lines : List (Int × Option Rat)) (h : returns f ds = .ok lines) :
    ∃ part days ms, setup f ds = .ok (part, days) ∧ valuedDays f.cfg ({} : PState).bal days = some ms := by
  obtain ⟨part, days, perfs, hs, hp, _⟩ := C20.C20_returns_run f ds lines h
  obtain ⟨ms, hms, _⟩ := perfFrom_ok_valued hp
  exact ⟨part, days, ms, hs, hms⟩

/-- **what the translated pipeline prints is `returns`, one line per period — PARTIAL.**  Discharged against
`C20Go.C20_returns_every_period_go`: `hs : setup f ds = .ok (part, days)` (a successful `returns` has a successful `setup`: the partition
`part` and the days `days`, with the period end days registered before `Build`: `Builder.ensureDays part.endDates`,
`C20.C20_returns_every_period`) and `hms : valuedDays f.cfg {} days = some ms` (a successful `returns` has a successful `perfFrom`,
hence every day's `valuedDay` — `ComputePrices`/`check`/`Valuate` in the model — succeeds: `valuedDays_of_perfFrom`).  What STAYS a
hypothesis, and why the theorem is partial:

1. **`hin` (`DayIn`, with `hlen`)**: the Go days that reach `ComputeValues`/`ComputeFlows`, with their iteration orders, stand for the
   valued days `ms` of the model — date, `Performance == nil`, transactions (`TRel`), and admissible orders for the day's maps.  This is
   what the translated stages `ComputePrices`, `check`, `Valuate` leave; per day they are proved equal to the model
   (`FactsAgree/TransProcess.lean`), and `Properties/C20Go3.lean` composes them over the journal.
2. **`hds`**: the captured set `ds` of `Perf` (`set.FromSlice(j.Days(part.EndDates()))`, `j.Days` is not translated: an `ext` result)
   holds exactly the period end days.
3. **`hdef`**: every day inside the reported span has a defined factor (`V0 + inflow ≠ 0`).  Where it is undefined Go divides by zero
   in `float64` and prints `NaN`/`±Inf`; the translated run stops there (`F64.undefined`, `GoSem/Float.lean`) and the model says `none`:
   nothing is claimed about the Go code after such a division.  This is a limit of the reading of `float64`, not of the composition.
4. the reading "exact arithmetic" of `float64` itself (assumption of C20, `GoSem/Float.lean`). -/
theorem C20_returns_every_period_go_partial (cur : String → Bool) (f : Flags) (ds : List Directive) (lines : List (Int × Option Rat))
    (h : returns f ds = .ok lines) :
    ∃ (part : Knut.Partition) (days : List Knut.Day) (ms : List (Int × List Knut.Transaction)),
      setup f ds = .ok (part, days) ∧ valuedDays f.cfg ({} : PState).bal days = some ms ∧
      ∀ (ds0 : set.Set Int), (∀ x, set.Set.Has ds0 x = part.endDates.contains x) → ∀ (j : journal.Builder)
        (xs : List (journal.Day × DayOrders)),
        (∀ (i : Nat) (h1 : i < xs.length) (h2 : i < ms.length),
          DayIn cur f.cfg ((ms.take i).foldl (fun v m => Performance.valuesDay f.cfg v m.2) []) xs[i] ms[i]) →
        xs.length = ms.length →
        (∀ dp ∈ perfDaysV f.cfg ([], []) ms, (Performance.perfSpan part).contains dp.date = true → (Performance.factor dp).isSome) →
        ∃ gds r' out, goDays (calcGo cur f.cfg) (performance.Calculator.ComputeValues.init (calcGo cur f.cfg),
            performance.Calculator.ComputeFlows.init (calcGo cur f.cfg)) xs = .ok gds ∧
          perfRun (Knut.FactsAgree.TransDate.partitionGo part)
              (performance.Perf.init j (Knut.FactsAgree.TransDate.partitionGo part) ds0) gds =
            .ok ⟨ds0, part.startDates, r', out⟩ ∧
          out = lines.map lineGo ∧
          out.map dateOf = part.endDates.filter (fun e => part.span.contains e) ∧
          (part.span.start ≤ part.span.stop → out.map dateOf = part.endDates) := by
  obtain ⟨part, days, ms, hs, hms⟩ := returns_ok_parts f ds lines h
  refine ⟨part, days, ms, hs, hms, ?_⟩
  intro ds0 hds j xs hin hlen hdef
  exact C20Go.C20_returns_every_period_go cur f ds lines h part days hs ms hms ds0 hds j xs hin hlen hdef

/-! ### Non-vacuity: a journal without directives — `returns` succeeds, so the theorem applies; no day reaches the processors (`xs = []`:
the hypotheses `hin`, `hdef` hold trivially when there is no valued day) and nothing is printed -/
theorem returns_empty : returns { to := 10, from? := some 1 } [] = .ok [] := by rfl

example (cur : String → Bool) : ∃ part days ms, setup { to := 10, from? := some 1 } [] = .ok (part, days) ∧
    valuedDays ({ to := 10, from? := some 1 } : Flags).cfg ({} : PState).bal days = some ms := by
  obtain ⟨part, days, ms, h1, h2, _⟩ := C20_returns_every_period_go_partial cur _ _ _ returns_empty
  exact ⟨part, days, ms, h1, h2⟩

end Knut.C20Go2
