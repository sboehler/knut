import Knut.Properties.C20Go2
import Knut.FactsAgree.TransProcessAllReturns
/-!
# C20 on the generated definitions: the returns clause over the WHOLE pipeline of `knut portfolio returns`

`C20Go.C20_returns_every_period_go` / `C20Go2.C20_returns_every_period_go_partial` start from the days that reach `ComputeValues` and
assume that they stand for the model's valued days (`DayIn`, `hlen`).  Here the six processors of `cmd/commands/portfolio/returns.go`
(`ComputePrices`, `check`, `Valuate`, `ComputeValues`, `ComputeFlows`, `Perf` — the order is the extracted one:
`ProcOrder.returnsOrder_eq`, `FactsAgree/ProcOrderPortfolio.lean`) are composed over the journal
(`FactsAgree/TransProcessAllReturns.lean`), and `DayIn`/`hlen` are DISCHARGED: the hypothesis about days is about the days of the built
journal BEFORE the pipeline (`DayRelP`: they stand for the model's days — `TransProcessAll.DayRel` — and carry no `Performance` yet).

END OF THE RETURNS CHAIN (`C20Go` → `C20Go2` → here; `C20Go3Ex` instantiates it).  The strongest statement is
`C20_returns_every_period_process_go`, and it has `hv : f.valuation = none`: without `-v` every posting value is 0, so it covers the
value-less case only.  With `-v` the strongest are `C20Go2.C20_returns_every_period_go_partial` (from the valued days on) and
`C20_returns_process_go_partial` here (the whole pipeline, against the model's RE-LISTED run; PARTIAL in that the lines of a re-listed
run are not shown to be those of `returns`).  Still assumed by all of them: `hds` (the set of period end days that `Perf` captures),
`hdef` (no division by zero inside the span), `hdays` (`DayRelP`: `Builder.Build` is not composed with the parser), `RetParOK` (the
constructors' parameters are the model's; admissible iteration orders and fuels), exact arithmetic for `float64`, `Pipeline.seqRun`
as the meaning of `cpr.Seq`: each is explained on the theorem.
-/
namespace Knut.C20Go3
open Knut Knut.GoSem Knut.Performance Knut.PortfolioSpec Knut.Pipeline
open Knut.Generated.Go
open Knut.FactsAgree.TransPerformance (perfDaysV valuedDays lineGo)
open Knut.FactsAgree.TransProcess (AllRel)
open Knut.FactsAgree.TransProcessAllReturns
open Knut.C20Go (dateOf)

theorem returns_valued {f : Flags} {ds : List Directive} {lines : List (Int × Option Rat)} (h : returns f ds = .ok lines) :
    ∃ part days ms, setup f ds = .ok (part, days) ∧ valuedDays f.cfg ({} : PState).bal days = some ms ∧
      lines = Performance.perfLines (Performance.perfSpan part) part.endDates (some 1) (perfDaysV f.cfg ([], []) ms) := by
  obtain ⟨part, days, perfs, hs, hp, hl⟩ := C20.C20_returns_run f ds lines h
  obtain ⟨ms, hms, rfl⟩ := C20Go2.perfFrom_ok_valued hp
  exact ⟨part, days, ms, hs, hms, hl⟩

/-- **what the translated pipeline of `knut portfolio returns` (without `-v`) prints is `returns`, one line per period**: whenever the
model's `returns f ds` succeeds with `lines`, the sequential run `processAllReturns` of the six translated stages SUCCEEDS, and what
`Perf` has printed (`perfFinal`: the `stdout` of its captured state) is `lines`, one line per period end — for EVERY admissible family
of iteration orders (`RetParOK`).  Hypotheses that STAY:
1. **`hds`**: the captured set of `Perf` (`set.FromSlice(j.Days(part.EndDates()))`; `j.Days` is not translated) holds exactly the period
   end days;
2. **`hdef`**: every day inside the reported span has a defined factor (float64 division by zero: `GoSem/Float.lean`);
3. **`hdays`** (`DayRelP`): the Go days handed to `Process` stand for the days of the model's built journal (`Builder.Build` is not
   composed with the parser here) and have `Performance == nil`;
4. **`RetParOK`**: the parameters of the constructors are the model's (`-v`, `reg.ValuationAccountFor`, the calculator, the partition)
   and the iteration orders / fuels are admissible;
5. the reading "exact arithmetic" of `float64`, and `Pipeline.seqRun` as the meaning of `cpr.Seq` (`C19_confluent`). -/
theorem C20_returns_every_period_process_go (cur : String → Bool) (f : Flags) (hv : f.valuation = none) (ds : List Directive)
    (lines : List (Int × Option Rat)) (h : returns f ds = .ok lines) :
    ∃ (part : Knut.Partition) (days : List Knut.Day) (ms : List (Int × List Knut.Transaction)),
      setup f ds = .ok (part, days) ∧ valuedDays f.cfg ({} : PState).bal days = some ms ∧
      ∀ (P : RetPar), RetParOK cur f.cfg P → P.part = Knut.FactsAgree.TransDate.partitionGo part →
      ∀ (ds0 : set.Set Int), (∀ x, set.Set.Has ds0 x = part.endDates.contains x) → ∀ (j : journal.Builder)
        (gdays : List journal.Day), AllRel (DayRelP cur) gdays days →
        (∀ dp ∈ perfDaysV f.cfg ([], []) ms, (Performance.perfSpan part).contains dp.date = true → (Performance.factor dp).isSome) →
        ∃ out r' printed, processAllReturns P (returnsInit cur f.cfg j part ds0) gdays = some out ∧
          perfFinal P (returnsInit cur f.cfg j part ds0) gdays = some ⟨ds0, part.startDates, r', printed⟩ ∧
          printed = lines.map lineGo ∧
          printed.map dateOf = part.endDates.filter (fun e => part.span.contains e) ∧
          (part.span.start ≤ part.span.stop → printed.map dateOf = part.endDates) := by
  obtain ⟨part, days, ms, hs, hms, hl⟩ := returns_valued h
  refine ⟨part, days, ms, hs, hms, fun P hP hpart ds0 hds j gdays hdays hdef => ?_⟩
  obtain ⟨out, r', hrun, hfin⟩ := processAllReturns_of_valued cur hv hP hpart hds j hdays hms hdef
  obtain ⟨part', days', hs', hd1, hd2⟩ := C20.C20_returns_every_period f ds lines h
  obtain ⟨rfl, -⟩ := Prod.mk.inj (Res.ok.inj (hs.symm.trans hs'))
  have hdl : (dateOf ∘ lineGo) = (fun l : Int × Option Rat => l.1) := rfl
  exact ⟨out, r', lines.map lineGo, hrun, hl ▸ hfin, rfl, by rw [List.map_map, hdl]; exact hd1,
    fun hle => by rw [List.map_map, hdl]; exact hd2 hle⟩

/-- **the whole pipeline against the model's re-listed run, with or without `-v` — PARTIAL**: the model's run is the one in which `vQty`
is re-listed before each day in the order `Valuate.DayStart` iterates (`ValuedOrd`).  The five stages before `Perf` fail ⇒ the run
fails and the model's re-listed valuation fails; they succeed ⇒ the model's valued days `ms` exist and, when every factor inside the
span is defined, the run succeeds and `Perf` has printed `perfLines` over `perfDaysV … ms`.  PARTIAL with `-v`: that the lines of a
re-listed run are the lines of `returns f ds` (the value adjustments of a day come in the order of the list; `valuesDay`/`dayFlows` sum
over them) is not proved.  Hypotheses as for `C20_returns_every_period_process_go` -/
theorem C20_returns_process_go_partial (cur : String → Bool) (f : Flags) (part : Knut.Partition) (days : List Knut.Day)
    (P : RetPar) (hP : RetParOK cur f.cfg P) (hpart : P.part = Knut.FactsAgree.TransDate.partitionGo part)
    (ds0 : set.Set Int) (hds : ∀ x, set.Set.Has ds0 x = part.endDates.contains x) (j : journal.Builder)
    (gdays : List journal.Day) (hdays : AllRel (DayRelP cur) gdays days) :
    match seqStage (fused5 P) (init5 (returnsInit cur f.cfg j part ds0)) gdays with
    | none => processAllReturns P (returnsInit cur f.cfg j part ds0) gdays = none ∧ ValuedFail f.cfg {} days
    | some out5 => ∃ ms, ValuedOrd f.cfg {} days ms ∧
        ((∀ dp ∈ perfDaysV f.cfg ([], []) ms, (Performance.perfSpan part).contains dp.date = true → (Performance.factor dp).isSome) →
          processAllReturns P (returnsInit cur f.cfg j part ds0) gdays = some out5 ∧
          ∃ r', perfFinal P (returnsInit cur f.cfg j part ds0) gdays = some ⟨ds0, part.startDates, r',
            (Performance.perfLines (Performance.perfSpan part) part.endDates (some 1) (perfDaysV f.cfg ([], []) ms)).map lineGo⟩) := by
  have key := processAllReturns_agrees cur f.cfg P hP part hpart ds0 hds j gdays days hdays
  revert key
  cases seqStage (fused5 P) (init5 (returnsInit cur f.cfg j part ds0)) gdays with
  | none => intro key; exact key
  | some out5 =>
    intro key
    obtain ⟨ms, hvo, _, hrest⟩ := key
    exact ⟨ms, hvo, hrest⟩

/-! ### Non-vacuity: a journal without directives — `returns` succeeds (`C20Go2.returns_empty`), the built journal has no day, the
admissible parameters exist (no day: every order family is admissible on the states reached) and the pipeline prints nothing -/
example (cur : String → Bool) : ∃ part days ms, setup { to := 10, from? := some 1 } [] = .ok (part, days) ∧
    valuedDays ({ to := 10, from? := some 1 } : Flags).cfg ({} : PState).bal days = some ms := by
  obtain ⟨part, days, ms, h1, h2, _⟩ := C20_returns_every_period_process_go cur _ rfl _ _ C20Go2.returns_empty
  exact ⟨part, days, ms, h1, h2⟩

end Knut.C20Go3
