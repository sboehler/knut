import Knut.Properties.C20Go3
/-!
# C20Go3, non-vacuity on a NON-EMPTY journal: `RetParOK` and `DayRelP` are satisfiable

`C20Go3.C20_returns_every_period_process_go` / `C20_returns_process_go_partial` quantify over parameters `P : RetPar` with
`RetParOK cur f.cfg P` and over Go days with `AllRel (DayRelP cur) gdays days`; the non-vacuity example of `Properties/C20Go3.lean` is
the journal without directives.  Here admissible parameters are constructed for EVERY configuration without `-v` (`genPar`), and the
theorem is applied to a journal of two days with every hypothesis discharged (`ex_pipeline`).  RESTRICTED: `cur` is the constant
`false` (with a commodity tagged as a currency the `targets` clause of `OrdersOK` restricts the journals; not needed for the command
line).  Only `valuation = none` (`-v` absent: the case of `C20_returns_every_period_process_go`); with `-v`, `FuelOK` and a `val` are
needed: not constructed.  Without `-v` every posting has value 0, so the printed return of the example is 0 (the map of values holds
zero sums only: entries are deleted as they arise).  `ds0` in `ex_pipeline` is chosen to satisfy `hds`; that the code's
`set.FromSlice(j.Days(part.EndDates()))` is this set stays hypothesis `hds` of the theorem (`j.Days` is not translated).
-/
namespace Knut.C20Go3Ex
open Knut Knut.GoSem Knut.Performance Knut.MapSum Knut.PortfolioSpec
open Knut.Generated.Go
open Knut.FactsAgree.TransProcess (AllRel TRel PRel TRel_txGo AllRel_map)
open Knut.FactsAgree.TransProcessAll (DayRel OrdOK OpenRel)
open Knut.FactsAgree.TransProcessAllReturns
open Knut.FactsAgree.TransAccount (accountGo)
open Knut.FactsAgree.TransPosting (postingGo commodityGo)
open Knut.FactsAgree.TransTransaction (txGo)
open Knut.FactsAgree.TransCheck (openGo)
open Knut.FactsAgree.TransPerformance (calcGo CVRel OrdersOK ckeyGo SplitOrders ComputeValues_Posting_agrees perfDaysV valuedDays lineGo)
open Knut.C20Go (dateOf)

/-- no commodity is tagged as a currency (`TagCurrency` has no caller) -/
def cur : String → Bool := fun _ => false

/-- the translated `ComputeValues.Posting` as a step on the state (it never fails on a posting that stands for a model posting) -/
def stepP (cfg : Performance.Cfg) (t : transaction.Transaction) (g : performance.Calculator.ComputeValues.State) (p : posting.Posting) :
    performance.Calculator.ComputeValues.State :=
  match performance.Calculator.ComputeValues.Posting (calcGo cur cfg) g t p with
  | .ok (g', _) => g'
  | _ => g

/-- the state of `ComputeValues` after the postings of a day's transactions -/
def valsGo (cfg : Performance.Cfg) (g : performance.Calculator.ComputeValues.State) (tgs : List transaction.Transaction) :
    performance.Calculator.ComputeValues.State :=
  tgs.foldl (fun g t => t.Postings.foldl (stepP cfg t) g) g

theorem stepP_rel (cfg : Performance.Cfg) (t : transaction.Transaction) (prev : AMap Knut.Commodity Rat) :
    ∀ (gps : List posting.Posting) (ps : List Knut.Posting), AllRel (PRel cur) gps ps →
    ∀ (g : performance.Calculator.ComputeValues.State) (vals : AMap Knut.Commodity Rat), CVRel cur g vals prev →
      CVRel cur (gps.foldl (stepP cfg t) g) (ps.foldl (valuesStep cfg) vals) prev := by
  intro gps ps h
  induction h with
  | nil => intro g vals hr; exact hr
  | @cons gp p gps ps hp _ ih =>
    intro g vals hr
    obtain ⟨g', he, hr'⟩ := ComputeValues_Posting_agrees cur cfg hr t gp.Src p
    have hp' : postingGo cur gp.Src p = gp := hp.symm
    rw [hp'] at he
    have hs : stepP cfg t g gp = g' := by simp only [stepP, he]
    simp only [List.foldl_cons, hs]
    exact ih g' _ hr'

theorem valsGo_rel (cfg : Performance.Cfg) (prev : AMap Knut.Commodity Rat) :
    ∀ (tgs : List transaction.Transaction) (txs : List Knut.Transaction), AllRel (TRel cur) tgs txs →
    ∀ (g : performance.Calculator.ComputeValues.State) (vals : AMap Knut.Commodity Rat), CVRel cur g vals prev →
      CVRel cur (valsGo cfg g tgs) (valuesDay cfg vals txs) prev := by
  intro tgs txs h
  induction h with
  | nil => intro g vals hr; exact hr
  | @cons tg t tgs txs ht _ ih =>
    intro g vals hr
    simp only [valsGo, valuesDay, List.foldl_cons]
    exact ih _ _ (stepP_rel cfg tg prev _ _ ht.2.2.1 g vals hr)

def dedup {α : Type} [DecidableEq α] : List α → List α
  | [] => []
  | x :: l => if x ∈ dedup l then dedup l else x :: dedup l

theorem mem_dedup {α : Type} [DecidableEq α] (x : α) : ∀ l : List α, x ∈ dedup l ↔ x ∈ l := by
  intro l
  induction l with
  | nil => simp [dedup]
  | cons y l ih =>
    unfold dedup
    by_cases hy : y ∈ dedup l
    · simp only [hy, if_true, List.mem_cons, ih]
      constructor
      · exact Or.inr
      · rintro (rfl | h)
        · exact ih.1 hy
        · exact h
    · simp only [hy, if_false, List.mem_cons, ih]

theorem nodup_dedup {α : Type} [DecidableEq α] : ∀ l : List α, (dedup l).Nodup := by
  intro l
  induction l with
  | nil => simp [dedup]
  | cons y l ih =>
    unfold dedup
    by_cases hy : y ∈ dedup l
    · simp only [hy, if_true]; exact ih
    · simp only [hy, if_false]; exact List.nodup_cons.2 ⟨hy, ih⟩

theorem txFlowStep_other (cfg : Performance.Cfg) (tg : Option (List Knut.Commodity)) (acc : AMap Knut.Commodity Rat × Rat)
    (p : Knut.Posting) (c : Knut.Commodity) (hc : p.commodity ≠ c) :
    AMap.find? (txFlowStep cfg tg acc p).1 c = AMap.find? acc.1 c := by
  unfold txFlowStep
  by_cases h1 : (!isPortfolio cfg p.account) = true
  · rw [if_pos h1]
  · rw [if_neg h1]
    by_cases h2 : isPortfolio cfg p.other = true
    · rw [if_pos h2]
    · rw [if_neg h2]
      by_cases h3 : tg = some [p.commodity]
      · rw [if_pos h3]
      · rw [if_neg h3]
        rcases tg with _ | _ | _
        · exact (AMap.find?_set ..).trans (if_neg hc)
        · rfl
        · rfl

theorem txFlow_keys (cfg : Performance.Cfg) (tg : Option (List Knut.Commodity)) (c : Knut.Commodity) :
    ∀ (ps : List Knut.Posting) (acc : AMap Knut.Commodity Rat × Rat),
      (AMap.find? (ps.foldl (txFlowStep cfg tg) acc).1 c).isSome → (AMap.find? acc.1 c).isSome ∨ c ∈ ps.map (·.commodity)
  | [], _, h => .inl h
  | p :: ps, acc, h => by
    by_cases hc : p.commodity = c
    · exact .inr (hc ▸ List.mem_cons_self)
    · exact (txFlow_keys cfg tg c ps _ h).imp (fun h1 => txFlowStep_other cfg tg acc p c hc ▸ h1) (List.mem_cons_of_mem _)
theorem postings_commodities (gps : List posting.Posting) (ps : List Knut.Posting) (h : AllRel (PRel cur) gps ps) :
    gps.map (·.Commodity) = ps.map (fun p => commodityGo cur p.commodity) :=
  forall₂_map_eq (FactsAgree.TransProcess.allRel_iff.mp h) fun _ _ _ hp => by rw [hp]; rfl

theorem orders_gen (cfg : Performance.Cfg) (tgs : List transaction.Transaction) (txs : List Knut.Transaction)
    (h : AllRel (TRel cur) tgs txs) :
    AllRel (OrdersOK cur cfg) (tgs.map (fun t => ((dedup (t.Postings.map (·.Commodity)), []) : SplitOrders))) txs := by
  refine FactsAgree.TransProcess.allRel_iff.mpr (forall₂_map_left.mpr
    (forall₂_imp (FactsAgree.TransProcess.allRel_iff.mp h) fun tg t ht => ⟨nodup_dedup _, ?_, ?_⟩))
  · intro c hc
    rcases txFlow_keys cfg _ c t.postings ([], 0) hc with h0 | h0
    · simp at h0
    · show commodityGo cur c ∈ dedup (tg.Postings.map (·.Commodity))
      rw [mem_dedup, postings_commodities _ _ ht.2.2.1]
      obtain ⟨p, hp, rfl⟩ := List.mem_map.1 h0
      exact List.mem_map.2 ⟨p, hp, rfl⟩
  · intro l _ c _; rfl

/-- parameters for an arbitrary configuration.  `ord`, `oV`: the key list of the captured map as it stands; `fuel`: vacuous (no
valuation); `oE g dg`: the key list of the map of values reached by folding the TRANSLATED `ComputeValues.Posting` over the postings of
the day (`valsGo`), so zero entries are deleted exactly as the code deletes them; `oS`: per transaction the commodities of its
postings, each once (`dedup`; `txFlow_keys`: a commodity with a flow is the commodity of a posting), the second order empty (it ranges
over the internal flows, which nothing reads) -/
def genPar (cfg : Performance.Cfg) (pg : date.Partition) : RetPar :=
  { val := none,
    ext1 := fun a => accountGo (valuationAccountFor ⟨a.segments⟩),
    cg := calcGo cur cfg,
    part := pg,
    ord := fun g _ => g.quantities.map Prod.fst,
    fuel := fun _ _ => 0,
    oV := fun g _ => g.quantities.map Prod.fst,
    oE := fun g dg => (valsGo cfg g dg.Transactions).values.map Prod.fst,
    oS := fun _ dg => dg.Transactions.map (fun t => (dedup (t.Postings.map (·.Commodity)), [])) }

/-- **admissible parameters exist for EVERY configuration without `-v`** (arbitrary account and commodity filters) -/
theorem genPar_ok (cfg : Performance.Cfg) (hv : cfg.valuation = none) (pg : date.Partition) : RetParOK cur cfg (genPar cfg pg) where
  val := by rw [hv]; rfl
  ext1 := fun _ => rfl
  cg := rfl
  ord := fun _ _ _ hk => (AMap.mem_keys_iff _ _).mpr hk
  fuel := fun v h => by rw [hv] at h; cases h
  oV := fun _ _ _ hk => (AMap.mem_keys_iff _ _).mpr hk
  oE := by
    intro g dg vals prev txs hcv htx
    have hm := (valsGo_rel cfg prev _ _ htx g vals hcv).values
    refine ⟨hm.gnodup, ?_, ?_⟩
    · intro k hk
      have hs := (AMap.mem_keys_iff _ _).mp hk
      obtain ⟨c, rfl⟩ := hm.keys k hs
      exact ⟨c, rfl, by rw [← hm.lookup c]; exact hs⟩
    · intro c hc
      rw [← hm.lookup c] at hc
      exact (AMap.mem_keys_iff _ _).mpr hc
  oS := fun _ dg txs h => orders_gen cfg dg.Transactions txs h

/-- the Go day that stands for a model day with openings and transactions only (all `Src` pointers nil, `Performance == nil`) -/
def dayGo (d : Knut.Day) : journal.Day :=
  { Date := d.date, Prices := [], Assertions := [], Openings := d.openings.map (openGo ⟨0⟩),
    Transactions := d.transactions.map (txGo cur ⟨0⟩ ⟨0⟩), Closings := [], Normalized := GoZero.zero, Performance := none }

theorem dayGo_rel (d : Knut.Day) (hp : d.prices = []) (ha : d.assertions = []) (hc : d.closings = []) : DayRelP cur (dayGo d) d := by
  refine ⟨⟨rfl, ?_, ?_, ?_, ?_, ?_⟩, rfl⟩
  · rw [hp]; exact .nil
  · exact AllRel_map (R := OpenRel) (openGo ⟨0⟩) (fun _ => rfl) _
  · exact AllRel_map (txGo cur ⟨0⟩ ⟨0⟩) (fun t => TRel_txGo cur ⟨0⟩ ⟨0⟩ t) _
  · rw [ha]; exact .nil
  · rw [hc]; exact .nil

def bank : Knut.Account := ⟨["Assets", "Bank"]⟩
def portfolio : Knut.Account := ⟨["Assets", "Portfolio"]⟩

/-- day 1: three `open` directives and a deposit `Equity:Equity -> Assets:Bank` of 100 CHF; day 2: a purchase of 2 AAPL from
`Assets:Bank` to `Assets:Portfolio` -/
def exDays : List Knut.Day :=
  [ { date := 1, openings := [⟨1, bank⟩, ⟨1, portfolio⟩, ⟨1, equityAccount⟩],
      transactions := [{ date := 1, description := "deposit", postings := postingBuild equityAccount bank "CHF" 100 }] },
    { date := 2,
      transactions := [{ date := 2, description := "buy", postings := postingBuild bank portfolio "AAPL" 2 }] } ]

def exGDays : List journal.Day := exDays.map dayGo

/-- **the Go days stand for the model's days and carry no `Performance`** -/
theorem exDays_rel : AllRel (DayRelP cur) exGDays exDays :=
  .cons (dayGo_rel _ rfl rfl rfl) (.cons (dayGo_rel _ rfl rfl rfl) .nil)

theorem exGDays_ne : exGDays ≠ [] := by simp [exGDays, exDays]

example : (exGDays.map (fun d => d.Transactions.length)) = [1, 1] := by decide

/-- **the hypotheses `RetParOK` and `DayRelP` of `C20Go3.C20_returns_every_period_process_go` /
`C20_returns_process_go_partial` are satisfiable together on a non-empty journal**, for the default configuration (all filters `true`,
no `-v`) -/
theorem C20Go3_hyps_nonvacuous : ∃ (cfg : Performance.Cfg) (P : RetPar) (gdays : List journal.Day) (days : List Knut.Day),
    cfg = {} ∧ cfg.valuation = none ∧ RetParOK cur cfg P ∧ AllRel (DayRelP cur) gdays days ∧ gdays ≠ [] ∧
    (∃ d ∈ days, d.transactions ≠ []) :=
  ⟨{}, genPar {} GoZero.zero, exGDays, exDays, rfl, rfl, genPar_ok {} rfl _, exDays_rel, exGDays_ne,
    ⟨_, List.mem_cons_self, by simp⟩⟩

/-- the directives that build `exDays` -/
def exDs : List Directive :=
  [ .opening ⟨1, bank⟩, .opening ⟨1, portfolio⟩, .opening ⟨1, equityAccount⟩,
    .tx { date := 1, description := "deposit", postings := postingBuild equityAccount bank "CHF" 100 },
    .tx { date := 2, description := "buy", postings := postingBuild bank portfolio "AAPL" 2 } ]

/-- `knut portfolio returns --from 1 --to 2` (no `-v`, one period, all filters `true`) -/
def exF : Flags := { to := 2, from? := some 1 }

def exPart : Knut.Partition := { span := ⟨1, 2⟩, interval := .once, periods := [⟨1, 2⟩] }

theorem ex_setup : setup exF exDs = .ok (exPart, exDays) := by rfl
theorem ex_valued : valuedDays exF.cfg ({} : PState).bal exDays = some (exDays.map (fun d => (d.date, d.transactions))) := by rfl
theorem ex_returns : returns exF exDs = .ok [(2, some 0)] := by
  have hpf := Knut.FactsAgree.TransPerformance.perfFrom_perfDaysV exF.cfg exDays ({} : PState) _ ex_valued
  unfold returns
  rw [ex_setup]
  simp only
  rw [hpf]
  simp only
  congr 1
  decide +kernel

theorem has_map_unit (l : List Int) (x : Int) : set.Set.Has (l.map (fun e => (e, ()))) x = l.contains x := by
  induction l with
  | nil => rfl
  | cons e l ih =>
    simp only [set.Set.Has, List.map_cons, AMap.find?, List.contains_cons] at ih ⊢
    by_cases h : e = x
    · subst h; simp
    · have h' : ¬ x = e := fun e' => h e'.symm
      simp [h, h', ih]

/-- **`C20_returns_every_period_process_go` applies on the journal of two days with ALL its hypotheses discharged**: the sequential run
of the six translated stages on `exGDays` succeeds and `Perf` has printed the one line of the model, for the period end 2 -/
theorem ex_pipeline (j : journal.Builder) :
    ∃ out r' printed, processAllReturns (genPar exF.cfg (Knut.FactsAgree.TransDate.partitionGo exPart))
        (returnsInit cur exF.cfg j exPart (exPart.endDates.map (fun e => (e, ())))) exGDays = some out ∧
      perfFinal (genPar exF.cfg (Knut.FactsAgree.TransDate.partitionGo exPart))
        (returnsInit cur exF.cfg j exPart (exPart.endDates.map (fun e => (e, ())))) exGDays =
          some ⟨exPart.endDates.map (fun e => (e, ())), exPart.startDates, r', printed⟩ ∧
      printed = [lineGo (2, some 0)] ∧ printed.map dateOf = [2] := by
  obtain ⟨part, days, ms, hs, hms, H⟩ := C20Go3.C20_returns_every_period_process_go cur exF rfl exDs _ ex_returns
  rw [ex_setup] at hs
  injection hs with hs
  injection hs with hp hd
  subst hp hd
  rw [ex_valued] at hms
  injection hms with hms
  subst hms
  obtain ⟨out, r', printed, h1, h2, h3, _, h5⟩ := H (genPar exF.cfg (Knut.FactsAgree.TransDate.partitionGo exPart))
    (genPar_ok _ rfl _) rfl (exPart.endDates.map (fun e => (e, ()))) (has_map_unit _) j exGDays exDays_rel (by decide +kernel)
  exact ⟨out, r', printed, h1, h2, h3, h5 (by decide)⟩

end Knut.C20Go3Ex
