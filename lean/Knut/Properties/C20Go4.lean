import Knut.Properties.C20Go3Ex
import Knut.FactsAgree.TransProcessAllWeights
/-!
# C20 on the generated definitions: the weights clauses over the pipeline of `knut portfolio weights` — up to the untranslated query

`C20.C20_weights_share` / `C20.C20_top_sums_to_one` are about the model's `Weights.queryDay` / `weightAdds`: the adds of a period end
day are, commodity by commodity of the day's `V1`, value / total value, and the top level of the report sums to 100 %.  The model's
query is run on the `DayPerf`s of the model's `perfFrom`.  Here the four translated processors of `cmd/commands/portfolio/weights.go`
BEFORE `weights.Query.Execute` (`ComputePrices`, `check`, `Valuate`, `ComputeValues` — the order is the extracted one:
`ProcOrder.weightsOrder_eq`, `FactsAgree/ProcOrderPortfolio.lean`) are composed over the journal
(`FactsAgree/TransProcessAllWeights.lean`), so that the day-level hypothesis "the Go day that reaches the
query carries the model's `V1`" is DISCHARGED (`DayRelW`, from `DayRelP` on the days of the built journal before the pipeline).  The
theorem ties the INPUT of the Go query (the days `out`, their `V1`) to the input of the model's `queryFrom`; the query itself (it ranges
over the map `Performance.V1`, calls `Universe.Locate`, `shortenPath`, `Report.Add`) is not translated as a function: its fragments and
pinned statements are taken up in `Properties/C20Go5.lean` and `C20Go6.lean`.  From the `Add` log on, `Report.Add`/`PropagateWeights`/
`SortWeighted` are translated again (`C20Go.C20_nodeWeight_is_wsum_go`, `C20_group_sum_go`).
-/
namespace Knut.C20Go4
open Knut Knut.GoSem Knut.Performance Knut.Weights Knut.PortfolioSpec Knut.Pipeline
open Knut.Generated.Go
open Knut.FactsAgree.TransPerformance (perfDaysV valuedDays)
open Knut.FactsAgree.TransProcess (AllRel)
open Knut.FactsAgree.TransProcessAllReturns
open Knut.FactsAgree.TransProcessAllWeights

/-- **every period end day contributes its value shares**: in a successful `queryFrom`, each day `dp` on a period end was queried
(`queryDay` on its `v1`, under the universe reached so far), its adds are part of the result, dated with the day, and their weights
are `v1`'s values over their total -/
theorem queryFrom_shares (mapping : List MapRule) (ends : List Int) : ∀ (perfs : List DayPerf) (u : Universe) (adds : List Add),
    queryFrom mapping ends u perfs = some adds → ∀ dp ∈ perfs, ends.contains dp.date = true →
      ∃ u0 adds' u', queryDay mapping u0 dp.date dp.v1 = some (adds', u') ∧ adds'.Sublist adds ∧
        adds'.map (·.weight) = dp.v1.map (fun e => e.2 / sumVals dp.v1) ∧ ∀ a ∈ adds', a.date = dp.date := by
  intro perfs
  induction perfs with
  | nil => intro u adds _ dp hdp; cases hdp
  | cons p rest ih =>
    intro u adds h dp hdp hend
    unfold queryFrom at h
    by_cases hc : ends.contains p.date = true
    · simp only [hc, if_true] at h
      cases hq : queryDay mapping u p.date p.v1 with
      | none => simp [hq] at h
      | some r =>
        obtain ⟨adds1, u1⟩ := r
        simp only [hq, Option.map_eq_some_iff] at h
        obtain ⟨restAdds, hr, rfl⟩ := h
        cases hdp with
        | head =>
          obtain ⟨s1, s2⟩ := C20.C20_weights_share mapping u u1 p.date p.v1 adds1 hq
          exact ⟨u, adds1, u1, hq, List.sublist_append_left _ _, s1, s2⟩
        | tail _ hmem =>
          obtain ⟨u0, adds', u', h1, h2, h3⟩ := ih u1 restAdds hr dp hmem hend
          exact ⟨u0, adds', u', h1, h2.trans (List.sublist_append_right _ _), h3⟩
    · simp only [hc, Bool.false_eq_true, if_false] at h
      cases hdp with
      | head => exact absurd hend hc
      | tail _ hmem => exact ih u adds h dp hmem hend

theorem weightAdds_ok_parts (f : WFlags) (ds : List Directive) (adds : List Add) (h : weightAdds f ds = .ok (some adds)) :
    ∃ part days ms, setup f.toFlags ds = .ok (part, days) ∧ valuedDays f.toFlags.cfg ({} : PState).bal days = some ms ∧
      queryFrom f.mapping part.endDates f.classes (perfDaysV f.toFlags.cfg ([], []) ms) = some adds := by
  obtain ⟨part, days, perfs, hs, hp, hq⟩ := C20.weightAdds_run h
  obtain ⟨ms, hms, rfl⟩ := C20Go2.perfFrom_ok_valued hp
  exact ⟨part, days, ms, hs, hms, hq⟩

/-- **the weights clauses of C20 with the day-level hypotheses discharged by the composition — PARTIAL: it ends before
`weights.Query.Execute`**.  Without `-v`, whenever the model's `weightAdds f ds` gives `adds`, the sequential run `processAllWeights` of
the four translated stages before the query SUCCEEDS on the whole journal for every admissible family of iteration orders (`RetParOK`),
the days `out` that reach the query carry one by one the `v0`/`v1` of the model's `perfs` (`DayRelW`), `adds` is the model's `queryFrom`
over these `perfs`, on each period end day the model's adds are the value shares of that `v1` (`queryFrom_shares`, the clause of
`C20_weights_share`), and the top level sums to 100 % on every reported date (`C20_top_sums_to_one`).  Hypotheses that STAY: `hdays`
(`DayRelP`: the Go days handed to `Process` stand for the days of the model's built journal and have `Performance == nil`), `RetParOK`
(parameters and admissible iteration orders; satisfiable on a non-empty journal: `Properties/C20Go3Ex.lean`), the reading "exact
arithmetic" of `float64`, and `Pipeline.seqRun` as the meaning of `cpr.Seq` (`C19_confluent`).  With `-v` only the re-listed statement
`TransProcessAllWeights.processAllWeights_agrees` is available -/
theorem C20_weights_process_go_partial (cur : String → Bool) (f : WFlags) (hv : f.valuation = none) (ds : List Directive)
    (adds : List Add) (h : weightAdds f ds = .ok (some adds)) :
    ∃ (part : Knut.Partition) (days : List Knut.Day) (ms : List (Int × List Knut.Transaction)),
      setup f.toFlags ds = .ok (part, days) ∧ valuedDays f.toFlags.cfg ({} : PState).bal days = some ms ∧
      queryFrom f.mapping part.endDates f.classes (perfDaysV f.toFlags.cfg ([], []) ms) = some adds ∧
      (∀ (P : RetPar), RetParOK cur f.toFlags.cfg P →
        ∀ (cf : performance.Calculator.ComputeFlows.State) (pf : performance.Perf.State)
          (gdays : List journal.Day), AllRel (DayRelP cur) gdays days →
          ∃ out, processAllWeights P (weightsInit cur f.toFlags.cfg cf pf) gdays = some out ∧
            AllRel (DayRelW cur) out (perfDaysV f.toFlags.cfg ([], []) ms)) ∧
      (∀ dp ∈ perfDaysV f.toFlags.cfg ([], []) ms, part.endDates.contains dp.date = true →
        ∃ u0 adds' u', queryDay f.mapping u0 dp.date dp.v1 = some (adds', u') ∧ adds'.Sublist adds ∧
          adds'.map (·.weight) = dp.v1.map (fun e => e.2 / sumVals dp.v1) ∧ ∀ a ∈ adds', a.date = dp.date) ∧
      (rooted adds = true → ∀ D ∈ adds.map (·.date), ((childSegs adds []).map (fun s => wsum adds [s] D)).sum = 1) := by
  obtain ⟨part, days, ms, hs, hms, hq⟩ := weightAdds_ok_parts f ds adds h
  exact ⟨part, days, ms, hs, hms, hq, fun P hP cf pf gdays hdays => processAllWeights_of_valued cur hv hP cf pf hdays hms,
    queryFrom_shares f.mapping part.endDates _ f.classes adds hq, fun hr D hD => C20.C20_top_sums_to_one f ds adds h hr D hD⟩

/-! ### Non-vacuity: the model's worked example of `C20.lean` has a successful `weightAdds`; here the journal without directives -/
theorem weightAdds_empty : weightAdds { to := 10, from? := some 1 } [] = .ok (some []) := by rfl

example (cur : String → Bool) : ∃ part days ms, setup ({ to := 10, from? := some 1 } : WFlags).toFlags [] = .ok (part, days) ∧
    valuedDays ({ to := 10, from? := some 1 } : WFlags).toFlags.cfg ({} : PState).bal days = some ms := by
  obtain ⟨part, days, ms, h1, h2, _⟩ := C20_weights_process_go_partial cur _ rfl _ _ weightAdds_empty
  exact ⟨part, days, ms, h1, h2⟩

/-! ### Non-vacuity on a NON-EMPTY journal: the two days of `Properties/C20Go3Ex.lean` (a deposit, a purchase; no `-v`) with the concrete
admissible parameters `genPar` — the four translated stages succeed and the two days that reach the query carry the model's values
(without `-v` every posting value is 0: the maps of values are empty and the model's query adds nothing) -/
open Knut.C20Go3Ex in
def exW : WFlags := { exF with }

open Knut.C20Go3Ex in
theorem ex_weightAdds : ∃ adds, weightAdds exW exDs = .ok (some adds) := by
  have hpf := Knut.FactsAgree.TransPerformance.perfFrom_perfDaysV exF.cfg exDays ({} : PState) _ ex_valued
  unfold weightAdds
  have hs : setup exW.toFlags exDs = .ok (exPart, exDays) := ex_setup
  rw [hs]
  simp only
  have hpf' : perfFrom exW.toFlags.cfg {} exDays = _ := hpf
  rw [hpf']
  simp only
  have hq : (queryFrom exW.mapping exPart.endDates exW.classes
      (perfDaysV exF.cfg ([], []) (exDays.map (fun d => (d.date, d.transactions))))).isSome = true := by decide +kernel
  obtain ⟨adds, ha⟩ := Option.isSome_iff_exists.1 hq
  exact ⟨adds, by rw [ha]⟩

open Knut.C20Go3Ex in
theorem ex_weights_pipeline (pg : date.Partition) (cf : performance.Calculator.ComputeFlows.State) (pf : performance.Perf.State) :
    ∃ out, processAllWeights (genPar exF.cfg pg) (weightsInit cur exF.cfg cf pf) exGDays = some out ∧
      AllRel (DayRelW cur) out (perfDaysV exF.cfg ([], []) (exDays.map (fun d => (d.date, d.transactions)))) ∧ out.length = 2 := by
  obtain ⟨adds, hadds⟩ := ex_weightAdds
  obtain ⟨part, days, ms, hs, hms, _, H, _⟩ := C20_weights_process_go_partial cur exW rfl exDs adds hadds
  have hs' : setup exF exDs = .ok (part, days) := hs
  rw [ex_setup] at hs'
  injection hs' with hs'
  injection hs' with hp hd
  subst hp hd
  have hms' : valuedDays exF.cfg ({} : PState).bal exDays = some ms := hms
  rw [ex_valued] at hms'
  injection hms' with hms'
  subst hms'
  obtain ⟨out, h1, h2⟩ := H (genPar exF.cfg pg) (genPar_ok _ rfl _) cf pf exGDays exDays_rel
  refine ⟨out, h1, h2, ?_⟩
  have hl : ∀ {α β : Type} {R : α → β → Prop} {l : List α} {m : List β}, AllRel R l m → l.length = m.length := by
    intro α β R l m h
    induction h with
    | nil => rfl
    | cons _ _ ih => simp [ih]
  rw [hl h2]
  rfl

end Knut.C20Go4
