import Knut.Properties.C20Go4
import Knut.FactsAgree.TransWeightsQueryDays
/-!
# C20 over the Go pipeline of `knut portfolio weights` INCLUDING `weights.Query.Execute`

`C20Go4.C20_weights_process_go_partial` ends before the query.  `FactsAgree/TransWeightsQuery(.Days)` tie the query's DayEnd closure
to the model (`Query_days_agrees_of_order`): two fragments of the closure are translated, the remaining statements are pinned by source
text and read by hand (see the header there) — the query is tied per fragment/pin, not translated as one function.  The theorem
here has the ORDER hypothesis `OrdRel`, which does not hold in general; `Properties/C20Go6.lean` has the statement without it.
-/
namespace Knut.C20Go5
open Knut Knut.GoSem Knut.Performance Knut.Weights Knut.PortfolioSpec Knut.Pipeline
open Knut.Generated.Go
open Knut.FactsAgree.TransPosting (commodityGo)
open Knut.FactsAgree.TransPerformance (perfDaysV valuedDays UEq)
open Knut.FactsAgree.TransProcess (AllRel)
open Knut.FactsAgree.TransProcessAllReturns
open Knut.FactsAgree.TransProcessAllWeights
open Knut.FactsAgree.TransMapping (ruleGo ruleOf ruleOf_ruleGo ruleGo_ok RuleOK)
open Knut.FactsAgree.TransWeightsQuery (DayRelQ goQuery Query_days_agrees_of_order)
open Knut.FactsAgree.TransWeights (addAll)

/-- the order hypothesis on one day: the sorted keys of the Go `V1` are the model's `v1` keys as listed -/
def OrdRel (cur : String → Bool) (d : journal.Day) (dp : DayPerf) : Prop :=
  ∀ p, d.Performance = some p → sortedKeys p.V1 commodity.Compare = dp.v1.map (fun e => commodityGo cur e.1)

theorem allRel_Q (cur : String → Bool) {out : List journal.Day} {perfs : List DayPerf} (h1 : AllRel (DayRelW cur) out perfs)
    (h2 : AllRel (OrdRel cur) out perfs) : AllRel (DayRelQ cur) out perfs :=
  FactsAgree.TransProcess.allRel_iff.mpr <|
    forall₂_imp (forall₂_and (FactsAgree.TransProcess.allRel_iff.mp h1) (FactsAgree.TransProcess.allRel_iff.mp h2))
      fun _ _ ⟨⟨hd, p, hp, _, hv1⟩, ho⟩ => ⟨hd, p, hp, hv1, ho p hp⟩

theorem map_ruleOf_ruleGo (m : List MapRule) : (m.map ruleGo).map ruleOf = m := by
  induction m with
  | nil => rfl
  | cons r m ih => simp only [List.map_cons, ruleOf_ruleGo, ih]

/-- **the Go pipeline of `knut portfolio weights` with the query** (without `-v`): whenever the model's `weightAdds f ds` succeeds with
`adds`, the four translated stages succeed for every admissible family of iteration orders, and the query run over the days `out` that
reach it (`TransWeightsQuery.goQuery`) hands to the translated `Report.Add` EXACTLY the model's `adds`, in order: the report afterwards
is `addAll r adds` (`TransWeightsTree.Add_fold_agrees`, `C20Go.C20_nodeWeight_is_wsum_go` continue from there).  Hypotheses that stay,
besides those of `C20Go4`: the Go query is built from the model's flags (`UEq` for the universe, the mapping rules `ruleGo`), and
**`hord`**: on each day reaching the query, `dict.SortedKeys(V1, commodity.Compare)` visits the commodities in the order in which the
model lists `v1` (the model folds over its list as it stands; with `hord` the ORDER of the adds and of the in-place writes into the
universe is the same on both sides) -/
theorem C20_weights_process_query_go (cur : String → Bool) (f : WFlags) (hv : f.valuation = none) (ds : List Directive)
    (adds : List Add) (h : weightAdds f ds = .ok (some adds)) :
    ∃ (part : Knut.Partition) (days : List Knut.Day) (ms : List (Int × List Knut.Transaction)),
      setup f.toFlags ds = .ok (part, days) ∧ valuedDays f.toFlags.cfg ({} : PState).bal days = some ms ∧
      (∀ (P : RetPar), RetParOK cur f.toFlags.cfg P →
        ∀ (cf : performance.Calculator.ComputeFlows.State) (pf : performance.Perf.State)
          (gdays : List journal.Day), AllRel (DayRelP cur) gdays days →
          ∃ out, processAllWeights P (weightsInit cur f.toFlags.cfg cf pf) gdays = some out ∧
            AllRel (DayRelW cur) out (perfDaysV f.toFlags.cfg ([], []) ms) ∧
            (AllRel (OrdRel cur) out (perfDaysV f.toFlags.cfg ([], []) ms) →
              ∀ (q : weights.Query) (r : weights.Report), UEq cur q.Universe f.classes → q.Mapping = f.mapping.map ruleGo →
                ∃ q', goQuery part.endDates (q, r) out = GoSem.Outcome.bind (addAll r adds) (fun r' => .ok (q', r')))) := by
  obtain ⟨part, days, ms, hs, hms, hq, hgo, _, _⟩ := C20Go4.C20_weights_process_go_partial cur f hv ds adds h
  refine ⟨part, days, ms, hs, hms, ?_⟩
  intro P hP cf pf gdays hdays
  obtain ⟨out, hout, hrel⟩ := hgo P hP cf pf gdays hdays
  refine ⟨out, hout, hrel, ?_⟩
  intro hord q r hu hmap
  have hm : ∀ r ∈ q.Mapping, RuleOK r := by
    intro r hr
    rw [hmap] at hr
    obtain ⟨m, _, rfl⟩ := List.mem_map.mp hr
    exact ruleGo_ok m
  have key := Query_days_agrees_of_order cur part.endDates out _ (allRel_Q cur hrel hord) q r f.classes hu hm
  rw [hmap, map_ruleOf_ruleGo, hq] at key
  obtain ⟨q', hq', _, _⟩ := key
  exact ⟨q', hq'⟩

/-! ### Non-vacuity: the hypothesis `weightAdds … = ok (some adds)` is satisfiable (the journal without directives, `C20Go4.weightAdds_empty`;
on a NON-EMPTY journal the four stages before the query succeed with concrete admissible parameters: `C20Go4.ex_weights_pipeline`) -/
example (cur : String → Bool) : ∃ part days ms, setup ({ to := 10, from? := some 1 } : WFlags).toFlags [] = .ok (part, days) ∧
    valuedDays ({ to := 10, from? := some 1 } : WFlags).toFlags.cfg ({} : PState).bal days = some ms := by
  obtain ⟨part, days, ms, h1, h2, _⟩ := C20_weights_process_query_go cur _ rfl _ _ C20Go4.weightAdds_empty
  exact ⟨part, days, ms, h1, h2⟩

end Knut.C20Go5
