import Knut.Properties.C20Go5
import Knut.FactsAgree.TransWeightsQueryOrder
/-!
# C20 over the Go pipeline of `knut portfolio weights` including `weights.Query.Execute`, WITHOUT the order hypothesis `hord`

`C20Go5.C20_weights_process_query_go` assumes `hord`/`OrdRel`: on each day that reaches the query,
`dict.SortedKeys(V1, commodity.Compare)` visits the commodities in the order in which the model lists `v1`.  The model lists `v1` in
INSERTION order (`Performance.valuesDay`) and Go visits in the order of the names (`sortedKeys_V1`), so `OrdRel` fails on every day
whose `v1` is not listed by name (`hord_fails`: re-listing by name changes a `v1` listed `[B, A]`).  The statement here rests
instead on what `FactsAgree/TransWeightsQueryOrder` proves from `DayRelW` alone (the lookups of `V1` agree, its keys are converted model
keys, no key twice — what the translated `ComputeValues` establishes): the report receives a PERMUTATION of the model's adds.  As far
as the REPORT is concerned the permutation does not show (the `_perm` lemmas): the weight of every node on every date — what
`C20Go.C20_nodeWeight_is_wsum_go` ties the Go tree's cells to —, the children of a node as a set, their sort keys.
-/
namespace Knut.C20Go6
open Knut Knut.GoSem Knut.Performance Knut.Weights Knut.PortfolioSpec Knut.Pipeline
open Knut.Generated.Go
open Knut.FactsAgree.TransPosting (commodityGo)
open Knut.FactsAgree.TransPerformance (perfDaysV valuedDays UEq)
open Knut.FactsAgree.TransProcess (AllRel)
open Knut.FactsAgree.TransProcessAllReturns
open Knut.FactsAgree.TransProcessAllWeights
open Knut.FactsAgree.TransMapping (ruleGo ruleOf ruleOf_ruleGo ruleGo_ok RuleOK)
open Knut.FactsAgree.TransWeightsQuery (goQuery)
open Knut.FactsAgree.TransWeightsQueryOrder (Query_days_agrees sortDP sortV)
open Knut.FactsAgree.TransWeights (addAll)

/-- **the Go pipeline of `knut portfolio weights` with the query, no order hypothesis**: whenever the model's `weightAdds f ds` succeeds
with `adds`, the four translated stages succeed for every admissible family of iteration orders, and the query run over the days `out`
that reach it hands to the translated `Report.Add` a PERMUTATION `adds'` of the model's `adds` (each day's adds in the order of
`commodity.Compare`): the report afterwards is `addAll r adds'`, and `adds'` is the model's own `queryFrom` on the days with `v1`
re-listed by commodity name (`sortDP`) -/
theorem C20_weights_process_query_go_perm (cur : String → Bool) (f : WFlags) (hv : f.valuation = none) (ds : List Directive)
    (adds : List Add) (h : weightAdds f ds = .ok (some adds)) :
    ∃ (part : Knut.Partition) (days : List Knut.Day) (ms : List (Int × List Knut.Transaction)),
      setup f.toFlags ds = .ok (part, days) ∧ valuedDays f.toFlags.cfg ({} : PState).bal days = some ms ∧
      (∀ (P : RetPar), RetParOK cur f.toFlags.cfg P →
        ∀ (cf : performance.Calculator.ComputeFlows.State) (pf : performance.Perf.State)
          (gdays : List journal.Day), AllRel (DayRelP cur) gdays days →
          ∃ out, processAllWeights P (weightsInit cur f.toFlags.cfg cf pf) gdays = some out ∧
            AllRel (DayRelW cur) out (perfDaysV f.toFlags.cfg ([], []) ms) ∧
            ∀ (q : weights.Query) (r : weights.Report), UEq cur q.Universe f.classes → q.Mapping = f.mapping.map ruleGo →
              ∃ q' adds', adds'.Perm adds ∧
                queryFrom f.mapping part.endDates f.classes ((perfDaysV f.toFlags.cfg ([], []) ms).map sortDP) = some adds' ∧
                goQuery part.endDates (q, r) out = GoSem.Outcome.bind (addAll r adds') (fun r' => .ok (q', r'))) := by
  obtain ⟨part, days, ms, hs, hms, hq, hgo, _, _⟩ := C20Go4.C20_weights_process_go_partial cur f hv ds adds h
  refine ⟨part, days, ms, hs, hms, ?_⟩
  intro P hP cf pf gdays hdays
  obtain ⟨out, hout, hrel⟩ := hgo P hP cf pf gdays hdays
  refine ⟨out, hout, hrel, ?_⟩
  intro q r hu hmap
  have hm : ∀ r ∈ q.Mapping, RuleOK r := by
    intro r hr
    rw [hmap] at hr
    obtain ⟨m, _, rfl⟩ := List.mem_map.mp hr
    exact ruleGo_ok m
  have key := Query_days_agrees cur part.endDates out _ hrel q r f.classes hu hm
  rw [hmap, C20Go5.map_ruleOf_ruleGo, hq] at key
  obtain ⟨q', adds', hp, hq', hgo', _, _⟩ := key
  exact ⟨q', adds', hp, hq', hgo'⟩

theorem below_perm {a b : List Add} (hp : a.Perm b) (π : List String) : (below a π).Perm (below b π) := hp.filter _

theorem nodeWeight_perm {a b : List Add} (hp : a.Perm b) (π : List String) (D : Int) : nodeWeight a π D = nodeWeight b π D := by
  unfold nodeWeight
  have h1 : ((below a π).filter (fun x => decide (x.date = D))).Perm ((below b π).filter (fun x => decide (x.date = D))) :=
    (below_perm hp π).filter _
  simp only [h1.isEmpty_eq, MapSum.sum_perm (h1.map (·.weight))]

theorem wsum_perm {a b : List Add} (hp : a.Perm b) (π : List String) (D : Int) : wsum a π D = wsum b π D := by
  unfold wsum
  exact MapSum.sum_perm ((((below_perm hp π).filter _)).map _)

theorem ownSum_perm {a b : List Add} (hp : a.Perm b) (π : List String) (D : Int) : ownSum a π D = ownSum b π D := by
  unfold ownSum
  exact MapSum.sum_perm ((hp.filter _).map _)

theorem sortKey_perm {a b : List Add} (hp : a.Perm b) (π : List String) : sortKey a π = sortKey b π := by
  unfold sortKey
  rw [MapSum.sum_perm ((below_perm hp π).map (·.weight))]

theorem childSegs_perm {a b : List Add} (hp : a.Perm b) (π : List String) (s : String) : s ∈ childSegs a π ↔ s ∈ childSegs b π := by
  unfold childSegs
  rw [mem_dedup, mem_dedup]
  exact ((below_perm hp π).filterMap _).mem_iff

theorem rooted_perm {a b : List Add} (hp : a.Perm b) : rooted a = rooted b := by
  unfold rooted
  rw [Bool.eq_iff_iff]
  simp only [List.all_eq_true]
  exact ⟨fun h x hx => h x (hp.mem_iff.mpr hx), fun h x hx => h x (hp.mem_iff.mp hx)⟩

theorem childSegs_perm_list {a b : List Add} (hp : a.Perm b) (π : List String) : (childSegs a π).Perm (childSegs b π) := by
  have hn : ∀ c : List Add, (childSegs c π).Nodup := fun c => by unfold childSegs; exact nodup_dedup _
  rw [List.perm_ext_iff_of_nodup (hn a) (hn b)]
  exact childSegs_perm hp π

/-- **the top-level weights of the adds the Go report receives add up to 1 on every date** (`C20.C20_top_sums_to_one` carried over the
permutation) -/
theorem top_sums_to_one_perm (f : WFlags) (ds : List Directive) (adds adds' : List Add) (h : weightAdds f ds = .ok (some adds))
    (hp : adds'.Perm adds) (hr : rooted adds' = true) :
    ∀ D ∈ adds'.map (·.date), ((childSegs adds' []).map (fun s => wsum adds' [s] D)).sum = 1 := by
  intro D hD
  have hD' : D ∈ adds.map (·.date) := (hp.map _).mem_iff.mp hD
  have key := C20.C20_top_sums_to_one f ds adds h (by rw [← rooted_perm hp]; exact hr) D hD'
  have hf : (fun s => wsum adds' [s] D) = (fun s => wsum adds [s] D) := by
    funext s; exact wsum_perm hp [s] D
  rw [hf, MapSum.sum_perm ((childSegs_perm_list hp []).map _)]
  exact key

/-- a model `v1` that is not listed by name differs from its re-listing `sortV`, which is what the Go side visits (`sortedKeys_V1`):
`C20Go5.OrdRel` cannot hold on a day with this `v1` -/
theorem hord_fails : sortV [("B", 1), ("A", 2)] ≠ [("B", 1), ("A", 2)] := by
  intro h
  have h2 : (sortV [("B", 1), ("A", 2)]).map Prod.fst = ["B", "A"] := by rw [h]; rfl
  have hs : ((sortV [("B", 1), ("A", 2)]).map Prod.fst).Pairwise (fun a b => decide (a ≤ b) = true) := by
    rw [List.pairwise_map]
    apply List.pairwise_mergeSort
    · exact fun a b c => ReportPerm.strLE_trans a.1 b.1 c.1
    · exact fun a b => ReportPerm.strLE_total a.1 b.1
  rw [h2] at hs
  simp only [List.pairwise_cons, List.mem_cons, List.not_mem_nil, or_false, forall_eq] at hs
  exact absurd hs.1 (by decide)

/-- the hypothesis `weightAdds … = ok (some adds)` is satisfiable (the journal without directives, `C20Go4.weightAdds_empty`; on a
NON-EMPTY journal the four stages before the query succeed with concrete admissible parameters: `C20Go4.ex_weights_pipeline`) -/
example (cur : String → Bool) : ∃ part days ms, setup ({ to := 10, from? := some 1 } : WFlags).toFlags [] = .ok (part, days) ∧
    valuedDays ({ to := 10, from? := some 1 } : WFlags).toFlags.cfg ({} : PState).bal days = some ms := by
  obtain ⟨part, days, ms, h1, h2, _⟩ := C20_weights_process_query_go_perm cur _ rfl _ _ C20Go4.weightAdds_empty
  exact ⟨part, days, ms, h1, h2⟩

end Knut.C20Go6

