import Knut.Properties.C20Go6
import Knut.Proofs.ReportPerm
/-!
# The rendered weights report is a function of the MULTISET of adds (C20)

`C20Go6.C20_weights_process_query_go_perm`: the Go query hands the report a permutation `adds'` of the model's `adds`.
**`report_perm`**: the model's rendered report (`Weights.report`: the date columns and all rows, for both sort modes) of permuted
adds is THE SAME — every piece of the renderer sums (`nodeWeight`, `sortKey`), or deduplicates and then sorts with a total order
(`childSegs`/`sortedChildren`, `reportDates`), or takes a maximum (`maxDepth`).  Hence **`C20_weights_report_go`**: `report adds' = report adds`
for the `adds'` of the Go run.  The declarations of this file are in namespace `C20Go6` (`C20Go6.C20_weights_report_go`).

END OF THE WEIGHTS CHAIN (`C20Go` → `C20Go4` → `C20Go5` → `C20Go6` → here).  No single theorem is the strongest:
`C20_weights_report_go` is the statement about the rendered report; `C20Go6.C20_weights_process_query_go_perm` says in addition that
the days reaching the query carry the model's values (`DayRelW`) and that `adds'` is the model's `queryFrom` on the re-listed days;
the per-day shares are in `C20Go4.C20_weights_process_go_partial`, the top-level sum in `C20Go6.top_sums_to_one_perm`; from the adds
on the Go tree is `C20Go.C20_nodeWeight_is_wsum_go`.  All of them have `hv : f.valuation = none`: without `-v` every posting value is
0, the maps of values are empty and the query adds nothing, so they cover the value-less case only; with `-v` there is
`TransProcessAllWeights.processAllWeights_agrees` (the four stages against the model's re-listed run) and nothing about the query's
adds.  Still assumed: `hdays` (`DayRelP`: the Go days handed to `Process` stand for the model's built days), `RetParOK` (parameters,
admissible iteration orders), the Go query built from the model's flags (`UEq` for the universe, `ruleGo` for the mapping), the hand
reading of the pinned statements of `Query.Execute` (`TransWeightsQuery.pins`), exact arithmetic for `float64`, `Pipeline.seqRun` as
the meaning of `cpr.Seq`.
-/
namespace Knut.C20Go6
open Knut Knut.GoSem Knut.Performance Knut.Weights Knut.PortfolioSpec Knut.Pipeline
open Knut.Generated.Go
open Knut.FactsAgree.TransPerformance (perfDaysV valuedDays UEq)
open Knut.FactsAgree.TransProcess (AllRel)
open Knut.FactsAgree.TransProcessAllReturns
open Knut.FactsAgree.TransProcessAllWeights
open Knut.FactsAgree.TransMapping (ruleGo)
open Knut.FactsAgree.TransWeightsQuery (goQuery)
open Knut.FactsAgree.TransWeights (addAll)

theorem cmpStr_le (a b : String) : (cmpStr a b != .gt) = decide (a ≤ b) := by
  unfold cmpStr
  simp only [compare, String.compare, compareOfLessAndEq]
  by_cases h1 : a < b
  · have : a ≤ b := String.not_lt.mp (String.lt_asymm h1)
    simp [h1, this]
  · by_cases h2 : a = b
    · subst h2; simp
    · have h3 : ¬ a ≤ b := fun h => h2 (String.le_antisymm h (String.not_lt.mp h1))
      simp [h1, h2, h3]

theorem sortedChildren_eq (adds : List Add) (alpha : Bool) (π : List String) :
    sortedChildren adds alpha π =
      if alpha then (childSegs adds π).mergeSort (fun a b => decide (a ≤ b))
      else (childSegs adds π).mergeSort (ReportPerm.lexLE (fun s => sortKey adds (π ++ [s]))) := by
  unfold sortedChildren
  simp only [cmpStr_le]
  rfl

theorem sortedChildren_perm {a b : List Add} (hp : a.Perm b) (alpha : Bool) (π : List String) :
    sortedChildren a alpha π = sortedChildren b alpha π := by
  rw [sortedChildren_eq, sortedChildren_eq]
  have hk : (fun s => sortKey a (π ++ [s])) = (fun s => sortKey b (π ++ [s])) := by
    funext s; exact sortKey_perm hp _
  rw [hk]
  cases alpha with
  | true =>
    simp only [if_true]
    exact ReportPerm.sort_perm_eq _ ReportPerm.strLE_trans ReportPerm.strLE_total ReportPerm.strLE_antisymm _ _
      (childSegs_perm_list hp π)
  | false =>
    simp only [Bool.false_eq_true, if_false]
    exact ReportPerm.sort_perm_eq _ (ReportPerm.lexLE_trans _) (ReportPerm.lexLE_total _) (ReportPerm.lexLE_antisymm _) _ _
      (childSegs_perm_list hp π)

theorem renderNodes_perm {a b : List Add} (hp : a.Perm b) (alpha : Bool) (dates : List Int) :
    ∀ (fuel : Nat) (π : List String) (depth : Nat), renderNodes a alpha dates fuel π depth = renderNodes b alpha dates fuel π depth := by
  intro fuel
  induction fuel with
  | zero => intro π depth; rfl
  | succ n ih =>
    intro π depth
    simp only [renderNodes, sortedChildren_perm hp alpha π]
    congr 1
    funext s
    rw [ih]
    congr 2
    apply List.map_congr_left
    intro d _
    rw [nodeWeight_perm hp]

theorem insertSorted_lt {x y : Int} (h : x < y) (r : List Int) : insertSorted x (y :: r) = x :: y :: r := by
  rw [insertSorted, if_pos h]

theorem insertSorted_self (x : Int) (r : List Int) : insertSorted x (x :: r) = x :: r := by
  rw [insertSorted, if_neg (Int.lt_irrefl x), if_pos rfl]

theorem insertSorted_gt {x y : Int} (h : y < x) (r : List Int) : insertSorted x (y :: r) = y :: insertSorted x r := by
  rw [insertSorted, if_neg (by omega), if_neg (by omega)]

/-- inserting the smaller date first or second gives the same list (no hypothesis on the list) -/
theorem insertSorted_comm_lt {x y : Int} (h : x < y) : ∀ b : List Int, insertSorted y (insertSorted x b) = insertSorted x (insertSorted y b)
  | [] => by rw [insertSorted, insertSorted, insertSorted_gt h, insertSorted_lt h]; rfl
  | z :: rest => by
    rcases Int.lt_trichotomy x z with hz | rfl | hz
    · -- `x` goes in front of `z`, and in front of whatever `y` puts there (`y` or `z`)
      rw [insertSorted_lt hz, insertSorted_gt h]
      rcases Int.lt_trichotomy y z with hy | rfl | hy
      · rw [insertSorted_lt hy, insertSorted_lt h]
      · rw [insertSorted_self, insertSorted_lt h]
      · rw [insertSorted_gt hy, insertSorted_lt hz]
    · rw [insertSorted_self, insertSorted_gt h, insertSorted_self]
    · rw [insertSorted_gt hz, insertSorted_gt (Int.lt_trans hz h), insertSorted_gt (Int.lt_trans hz h), insertSorted_gt hz,
        insertSorted_comm_lt h rest]

theorem insertSorted_comm (x y : Int) : ∀ b : List Int, insertSorted y (insertSorted x b) = insertSorted x (insertSorted y b) := by
  intro b
  rcases Int.lt_trichotomy x y with h | rfl | h
  · exact insertSorted_comm_lt h b
  · rfl
  · exact (insertSorted_comm_lt h b).symm
theorem reportDates_perm {a b : List Add} (hp : a.Perm b) : reportDates a = reportDates b := by
  unfold reportDates
  exact MapSum.foldl_comm_perm _ (fun acc x y => insertSorted_comm x y acc) (hp.map _) []

theorem maxDepth_perm {a b : List Add} (hp : a.Perm b) : maxDepth a = maxDepth b := by
  unfold maxDepth
  exact MapSum.foldl_comm_perm _ (fun acc x y => by rw [Nat.max_assoc, Nat.max_comm x y, ← Nat.max_assoc]) (hp.map _) 0

/-- **the rendered report does not depend on the order of the adds** -/
theorem report_perm {a b : List Add} (hp : a.Perm b) (alpha : Bool) : report a alpha = report b alpha := by
  unfold report
  simp only [reportDates_perm hp, maxDepth_perm hp, renderNodes_perm hp]

/-- **the Go pipeline of `knut portfolio weights` with the query, no order hypothesis, at the level of the rendered report**: the
adds `adds'` the Go report receives render (model `Weights.report`, both sort modes) exactly as the model's `adds` -/
theorem C20_weights_report_go (cur : String → Bool) (f : WFlags) (hv : f.valuation = none) (ds : List Directive)
    (adds : List Add) (h : weightAdds f ds = .ok (some adds)) :
    ∃ (part : Knut.Partition) (days : List Knut.Day) (ms : List (Int × List Knut.Transaction)),
      setup f.toFlags ds = .ok (part, days) ∧ valuedDays f.toFlags.cfg ({} : PState).bal days = some ms ∧
      (∀ (P : RetPar), RetParOK cur f.toFlags.cfg P →
        ∀ (cf : performance.Calculator.ComputeFlows.State) (pf : performance.Perf.State)
          (gdays : List journal.Day), AllRel (DayRelP cur) gdays days →
          ∃ out, processAllWeights P (weightsInit cur f.toFlags.cfg cf pf) gdays = some out ∧
            ∀ (q : weights.Query) (r : weights.Report), UEq cur q.Universe f.classes → q.Mapping = f.mapping.map ruleGo →
              ∃ q' adds', goQuery part.endDates (q, r) out = GoSem.Outcome.bind (addAll r adds') (fun r' => .ok (q', r')) ∧
                adds'.Perm adds ∧ ∀ alpha, report adds' alpha = report adds alpha) := by
  obtain ⟨part, days, ms, hs, hms, hgo⟩ := C20_weights_process_query_go_perm cur f hv ds adds h
  refine ⟨part, days, ms, hs, hms, ?_⟩
  intro P hP cf pf gdays hdays
  obtain ⟨out, hout, _, hq⟩ := hgo P hP cf pf gdays hdays
  refine ⟨out, hout, ?_⟩
  intro q r hu hmap
  obtain ⟨q', adds', hp, _, hgo'⟩ := hq q r hu hmap
  exact ⟨q', adds', hgo', hp, fun alpha => report_perm hp alpha⟩

/-! ### Non-vacuity: a permutation that is not the identity renders alike -/
example : report [⟨["a"], 1, 1⟩, ⟨["b"], 1, 2⟩] false = report [⟨["b"], 1, 2⟩, ⟨["a"], 1, 1⟩] false :=
  report_perm (List.Perm.swap _ _ _) false

end Knut.C20Go6
