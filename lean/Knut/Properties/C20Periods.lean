import Knut.Proofs.PortfolioPeriods
import Knut.Proofs.PortfolioCalm
import Knut.Properties.C20
/-!
# C20 — the two clauses about the reported returns, PER SINGLE PERIOD of an arbitrary journal

`Properties/C20.lean` proves the clauses under hypotheses that range over the whole run (`…_partial`) or over a list of
linked days.  Here they are proved for ONE period of the partition of `knut portfolio returns`; the other periods — and
everything the journal does in them: price changes, `@performance` annotations, trades against income — are arbitrary.

All of it is about the exact-arithmetic model (`Rat` instead of `float64`, see `Properties/C20.lean`).
-/
namespace Knut.C20
open Knut Knut.Performance

/-- **the line of one period**: for every period `p` of the command's partition that holds a day (`p.start ≤ p.stop`; an
inverted window has one empty period), `returns` prints under `p.stop` the chained growth factor of the days `d` with
`p.start ≤ d ≤ p.stop` — and of no other day — minus one, and no other line carries that date -/
theorem C20_period_line (f : Flags) (ds : List Directive) (lines : List (Int × Option Rat))
    (part : Partition) (days : List Day) (perfs : List DayPerf)
    (h : returns f ds = .ok lines) (hs : setup f ds = .ok (part, days)) (hp : perfFrom f.cfg {} days = .ok perfs)
    (p : Period) (hpp : p ∈ part.periods) (hne : p.start ≤ p.stop) :
    (p.stop, (periodFactor perfs p.start p.stop).map (· - 1)) ∈ lines ∧
    ∀ l ∈ lines, l.1 = p.stop → l.2 = (periodFactor perfs p.start p.stop).map (· - 1) := by
  obtain ⟨part', days', perfs', hs', hp', rfl⟩ := C20_returns_run f ds _ h
  rw [hs] at hs'; cases hs'
  rw [hp] at hp'; cases hp'
  have hmem := perfLines_period_line hs hp p hpp hne
  refine ⟨hmem, ?_⟩
  -- the dates of the lines increase strictly
  obtain ⟨part2, days2, hs2, hev, _⟩ := C20_returns_every_period f ds _ h
  rw [hs] at hs2; cases hs2
  obtain ⟨window, hnp⟩ := (setup_days hs).2.2
  have hinc : List.Pairwise (· < ·) ((perfLines (perfSpan part) part.endDates (some 1) perfs).map (·.1)) := by
    rw [hev]
    exact (endDates_increasing hnp).1.filter _
  intro l hl' hd
  rw [List.pairwise_map] at hinc
  rcases pairwise_mem hinc l hl' _ hmem with e | e | e
  · rw [e]
  · simp only at e; omega
  · simp only at e; omega

/-- the record of a day holds the value at the end of that day -/
theorem C20_valueAt_record (perfs : List DayPerf) (hs : List.Pairwise (· < ·) (perfs.map (·.date)))
    (p : DayPerf) (hp : p ∈ perfs) : valueAt perfs p.date = p.v1 :=
  valueAt_record (dsorted_of_dates hs) hp

/-- **0 % for a period in which prices rest and only external flows occur.**

For ONE period `p` of the partition of `knut portfolio returns` over an arbitrary journal: if on every day `d` of the
period (`p.start ≤ d ≤ p.stop`)

* every transaction is `Plain` — no `@performance` annotation, postings in mirrored pairs (what the loader builds from
  bookings, `plain_ofBookings`): such a transaction is a deposit/withdrawal between a portfolio account and an account
  outside the portfolio, a transfer inside the portfolio, or does not touch the portfolio;
* the prices rest (`PricesRestOn`, only with `-v`): every commodity other than the valuation commodity of which an
  asset/liability account holds a non-zero quantity at the start of `d` (`heldQty` over the days before `d`) has the same
  price in the valuation commodity after `d`'s price directives as before (`priceAfter`: `ComputePrices` alone);
  prices of commodities not held, and new prices that normalise to the old value, may be declared freely;
  `pricesRest_of_no_prices`: a day without price directives qualifies;

then the line printed for the period is exactly 0 — whatever the days outside the period contain.

Two exclusions, both of them points where the clause FAILS on the code and that are recorded as findings:
`--commodity` must be absent (`ComputeFlows` ignores the filter `ComputeValues` applies: `C20_filtered_flow_counts`), and
no day of the period may divide by zero (`V0 + inflow ≠ 0`: the code prints `NaN`/`±Inf` there, finding
`returns-meaningless-when-start-value-plus-inflow-vanishes`). -/
theorem C20_zero_period_when_only_external_flows (f : Flags) (hf : ∀ c, f.commodityFilter c = true)
    (ds : List Directive) (lines : List (Int × Option Rat)) (part : Partition) (days : List Day) (perfs : List DayPerf)
    (h : returns f ds = .ok lines) (hs : setup f ds = .ok (part, days)) (hp : perfFrom f.cfg {} days = .ok perfs)
    (p : Period) (hpp : p ∈ part.periods) (hne : p.start ≤ p.stop)
    (hperiod : ∀ pre d post, days = pre ++ d :: post → p.start ≤ d.date → d.date ≤ p.stop →
      (∀ t ∈ d.transactions, Plain t) ∧ (∀ v, f.valuation = some v → PricesRestOn v pre d))
    (hden : ∀ q ∈ perfs, p.start ≤ q.date → q.date ≤ p.stop → sumVals q.v0 + q.inflow ≠ 0) :
    (p.stop, some 0) ∈ lines ∧ ∀ l ∈ lines, l.1 = p.stop → l.2 = some 0 := by
  have hone : periodFactor perfs p.start p.stop = some 1 := by
    refine chain_all_one _ fun q hq => ?_
    obtain ⟨hqm, hq12⟩ := List.mem_filter.mp hq
    simp only [Bool.and_eq_true, decide_eq_true_eq] at hq12
    -- the record `q` was written on a day of the period, from a state the days before it reach
    obtain ⟨pre, d, post, ps0, ps1, hsplit, hr, hd⟩ := perfFrom_record days [] {} perfs (reach_empty _) hp q hqm
    have hdd := (perfDay_date hd).1
    obtain ⟨hplain, hrest⟩ := hperiod pre d post hsplit (by omega) (by omega)
    have := perfDay_local_net_flow (cfg := f.cfg) hf hr hplain hrest hd
    exact factor_one_of_net_flow q this.1 this.2 (hden q hqm hq12.1 hq12.2)
  have e : Option.map (fun x : Rat => x - 1) (some 1) = some 0 := congrArg some Rat.sub_self
  have := C20_period_line f ds lines part days perfs h hs hp p hpp hne
  rw [hone, e] at this
  exact this

/-- **the monitor's form**: `calmPeriodB` (Spec/PortfolioPeriodSpec.lean) is the executable test of the hypotheses — every
transaction of the period un-annotated and made of mirrored posting pairs, and for every position booked so far: not an
asset/liability account, or in the valuation commodity, or of quantity zero, or with the same normalised price after the
day as before.  The driver evaluates `calmPeriods` on every generated case and the harness requires the REAL command to
print 0.0 % for the periods it marks (`zero_period_when_calm`). -/
theorem C20_zero_period_of_monitor (f : Flags) (hf : ∀ c, f.commodityFilter c = true)
    (ds : List Directive) (lines : List (Int × Option Rat)) (part : Partition) (days : List Day) (perfs : List DayPerf)
    (h : returns f ds = .ok lines) (hs : setup f ds = .ok (part, days)) (hp : perfFrom f.cfg {} days = .ok perfs)
    (p : Period) (hpp : p ∈ part.periods) (hne : p.start ≤ p.stop) (hcalm : calmPeriodB f days p = true)
    (hden : ∀ q ∈ perfs, p.start ≤ q.date → q.date ≤ p.stop → sumVals q.v0 + q.inflow ≠ 0) :
    (p.stop, some 0) ∈ lines ∧ ∀ l ∈ lines, l.1 = p.stop → l.2 = some 0 :=
  C20_zero_period_when_only_external_flows f hf ds lines part days perfs h hs hp p hpp hne (calmPeriodB_sound hcalm) hden

/-- **end value over start value minus one, for a period whose day records carry no flows**: the line of period `p` is
`V(p.stop) / V(p.start − 1) − 1`, `V(D)` the total of `valueAt perfs D` — the values `ComputeValues` recorded on the last
day not after `D` (`C20_valueAt_record`; for every period but the first, `p.start − 1` is the previous period end, which
has a day of its own).  `sumVals q.v0 ≠ 0`: the portfolio is worth something at the start of every day of the period. -/
theorem C20_ratio_period_of_records (f : Flags) (ds : List Directive) (lines : List (Int × Option Rat))
    (part : Partition) (days : List Day) (perfs : List DayPerf)
    (h : returns f ds = .ok lines) (hs : setup f ds = .ok (part, days)) (hp : perfFrom f.cfg {} days = .ok perfs)
    (p : Period) (hpp : p ∈ part.periods) (hne : p.start ≤ p.stop)
    (hnf : ∀ q ∈ perfs, p.start ≤ q.date → q.date ≤ p.stop →
      q.portfolioFlows = 0 ∧ q.inflow = 0 ∧ q.outflow = 0 ∧ sumVals q.v0 ≠ 0) :
    (p.stop, some (sumVals (valueAt perfs p.stop) / sumVals (valueAt perfs (p.start - 1)) - 1)) ∈ lines ∧
    ∀ l ∈ lines, l.1 = p.stop →
      l.2 = some (sumVals (valueAt perfs p.stop) / sumVals (valueAt perfs (p.start - 1)) - 1) := by
  obtain ⟨hsorted, hreg, _⟩ := setup_days hs
  rw [← perfFrom_dates days {} perfs hp] at hreg
  have hrec : ∃ q ∈ perfs, q.date = p.stop := List.mem_map.mp (hreg p.stop (List.mem_map.mpr ⟨p, hpp, rfl⟩))
  have hr := periodFactor_ratio perfs (perfFrom_linked days {} perfs hp) (perfFrom_dsorted hp hsorted) p.start p.stop hne
    hrec hnf
  have := C20_period_line f ds lines part days perfs h hs hp p hpp hne
  rw [hr] at this
  exact this

/-- **end value over start value minus one for a period without flows** (journal-level hypothesis): if every transaction
booked on a day of the period stays inside the portfolio (`Internal`: each posting on a portfolio account has a
portfolio account on the other side — in particular a period without transactions), the line of the period is
`V(p.stop) / V(p.start − 1) − 1`, whatever the prices do (the value adjustments `Valuate` books are attributed to their
own commodity and count as performance, not as flows) and whatever happens in the other periods. -/
theorem C20_ratio_period_without_flows (f : Flags) (ds : List Directive) (lines : List (Int × Option Rat))
    (part : Partition) (days : List Day) (perfs : List DayPerf)
    (h : returns f ds = .ok lines) (hs : setup f ds = .ok (part, days)) (hp : perfFrom f.cfg {} days = .ok perfs)
    (p : Period) (hpp : p ∈ part.periods) (hne : p.start ≤ p.stop)
    (hint : ∀ d ∈ days, p.start ≤ d.date → d.date ≤ p.stop → ∀ t ∈ d.transactions, Internal f.cfg t)
    (hnz : ∀ q ∈ perfs, p.start ≤ q.date → q.date ≤ p.stop → sumVals q.v0 ≠ 0) :
    (p.stop, some (sumVals (valueAt perfs p.stop) / sumVals (valueAt perfs (p.start - 1)) - 1)) ∈ lines ∧
    ∀ l ∈ lines, l.1 = p.stop →
      l.2 = some (sumVals (valueAt perfs p.stop) / sumVals (valueAt perfs (p.start - 1)) - 1) := by
  apply C20_ratio_period_of_records f ds lines part days perfs h hs hp p hpp hne
  intro q hq h1 h2
  obtain ⟨pre, d, post, ps0, ps1, hsplit, _, hday⟩ := perfFrom_record days [] {} perfs (reach_empty _) hp q hq
  have hdd := (perfDay_date hday).1
  obtain ⟨a, b, c⟩ := perfDay_no_flows (hint d (hsplit ▸ List.mem_append_right _ List.mem_cons_self) (by omega) (by omega)) hday
  exact ⟨a, b, c, hnz q hq h1 h2⟩

/-! ### Non-vacuity: a journal of three daily periods

day 1: 100 USD bought at 2 CHF; day 2: USD rises to 2.2 CHF (+10 %); day 3: 50 CHF are deposited and the price of USD is
declared again, at the value it has.  Period 2 is a period without flows (`220 / 200 − 1`), period 3 a period in which the prices
of what is held rest and only a deposit occurs (0 %) — while period 2 is neither calm nor without price changes. -/

def pA : Account := ⟨["Assets", "A"]⟩
def pE : Account := ⟨["Equity", "E"]⟩
def pDs : List Directive :=
  [ .opening ⟨1, pA⟩, .opening ⟨1, pE⟩, .price ⟨1, "USD", 2, "CHF"⟩,
    .tx (Transaction.ofBookings 1 "buy" none [⟨pE, pA, 100, "USD"⟩]),
    .price ⟨2, "USD", 11/5, "CHF"⟩,
    .price ⟨3, "USD", 11/5, "CHF"⟩,
    .tx (Transaction.ofBookings 3 "deposit" none [⟨pE, pA, 50, "CHF"⟩]) ]
def pF : Flags := { valuation := some "CHF", to := 3, interval := .daily }
def pDay1 : Day :=
  { date := 1,
    prices := [⟨1, "USD", 2, "CHF"⟩],
    openings := [⟨1, pA⟩, ⟨1, pE⟩],
    transactions := [Transaction.ofBookings 1 "buy" none [⟨pE, pA, 100, "USD"⟩]] }
def pDay2 : Day := { date := 2, prices := [⟨2, "USD", 11/5, "CHF"⟩] }
def pDay3 : Day :=
  { date := 3,
    prices := [⟨3, "USD", 11/5, "CHF"⟩],
    transactions := [Transaction.ofBookings 3 "deposit" none [⟨pE, pA, 50, "CHF"⟩]] }
def pPart : Partition := ⟨⟨1, 3⟩, .daily, [⟨1, 1⟩, ⟨2, 2⟩, ⟨3, 3⟩]⟩
def pPerfs : List DayPerf :=
  [ ⟨1, [], [("USD", 200)], 200, 0, 0⟩, ⟨2, [("USD", 200)], [("USD", 220)], 0, 0, 0⟩,
    ⟨3, [("USD", 220)], [("USD", 220), ("CHF", 50)], 50, 0, 0⟩ ]
def pLines : List (Int × Option Rat) := [(1, some 0), (2, some (1/10)), (3, some 0)]

-- the three closed facts below are decided as equalities of results
deriving instance DecidableEq for Partition
deriving instance DecidableEq for Res
deriving instance DecidableEq for DayPerf
deriving instance DecidableEq for BalErr
deriving instance DecidableEq for Except

theorem p_returns : returns pF pDs = .ok pLines := by decide +kernel
theorem p_setup : setup pF pDs = .ok (pPart, [pDay1, pDay2, pDay3]) := by decide +kernel
theorem p_perfs : perfFrom pF.cfg {} [pDay1, pDay2, pDay3] = .ok pPerfs := by decide +kernel

theorem p_split {pre post : List Day} {d : Day} (h : [pDay1, pDay2, pDay3] = pre ++ d :: post) :
    (pre = [] ∧ d = pDay1) ∨ (pre = [pDay1] ∧ d = pDay2) ∨ (pre = [pDay1, pDay2] ∧ d = pDay3) := by
  rcases pre with _ | ⟨a, _ | ⟨b, _ | ⟨c, pre⟩⟩⟩
  · simp only [List.nil_append, List.cons.injEq] at h; exact Or.inl ⟨rfl, h.1.symm⟩
  · simp only [List.cons_append, List.nil_append, List.cons.injEq] at h
    exact Or.inr (Or.inl ⟨by rw [h.1], h.2.1.symm⟩)
  · simp only [List.cons_append, List.nil_append, List.cons.injEq] at h
    exact Or.inr (Or.inr ⟨by rw [h.1, h.2.1], h.2.2.1.symm⟩)
  · simp at h

/-- on day 3 a price is declared, but it is the price in force: the prices rest -/
theorem p_rest : PricesRestOn "CHF" [pDay1, pDay2] pDay3 := by
  intro a c _ _ _
  have e2 : normAfter "CHF" [pDay1, pDay2] = some [("USD", 11/5), ("CHF", 1)] := by decide +kernel
  have e3 : normAfter "CHF" ([pDay1, pDay2] ++ [pDay3]) = some [("USD", 11/5), ("CHF", 1)] := by decide +kernel
  unfold priceAfter
  rw [e2, e3]

/-- the hypotheses of `C20_zero_period_when_only_external_flows` hold for period 3 of this journal (and not for period 2,
whose line is 10 %) -/
example : (3, some 0) ∈ pLines ∧ ∀ l ∈ pLines, l.1 = 3 → l.2 = some 0 := by
  apply C20_zero_period_when_only_external_flows pF (fun _ => rfl) pDs pLines pPart [pDay1, pDay2, pDay3] pPerfs
    p_returns p_setup p_perfs ⟨3, 3⟩ (by decide) (by decide)
  · intro pre d post hsplit h1 h2
    rcases p_split hsplit with ⟨_, rfl⟩ | ⟨_, rfl⟩ | ⟨rfl, rfl⟩
    · simp [pDay1] at h1
    · simp [pDay2] at h1
    · refine ⟨?_, ?_⟩
      · intro t ht
        simp only [pDay3, List.mem_singleton] at ht
        subst ht
        exact plain_ofBookings _ _ _
      · intro v hv
        injection hv with hv; subst hv
        exact p_rest
  · decide +kernel

/-- the executable test marks periods 1 and 3 (on day 1 prices are declared, but nothing is held before), not period 2 -/
example : calmPeriods pF pDs = [(1, true), (2, false), (3, true)] := by decide +kernel

/-- the hypotheses of `C20_ratio_period_without_flows` hold for period 2 (no transaction, a price change):
`V(2) / V(1) − 1 = 220 / 200 − 1 = 10 %` -/
example : (2, some (1/10)) ∈ pLines := by
  have h := (C20_ratio_period_without_flows pF pDs pLines pPart [pDay1, pDay2, pDay3] pPerfs
    p_returns p_setup p_perfs ⟨2, 2⟩ (by decide) (by decide)
    (by
      intro d hd h1 h2 t ht
      simp only [List.mem_cons, List.not_mem_nil, or_false] at hd
      rcases hd with rfl | rfl | rfl
      · simp [pDay1] at h1
      · simp [pDay2] at ht
      · simp [pDay3] at h2)
    (by decide +kernel)).1
  have e : sumVals (valueAt pPerfs 2) / sumVals (valueAt pPerfs (2 - 1)) - 1 = 1/10 := by decide +kernel
  simp only at h
  rw [e] at h
  exact h

/-- `C20_period_line` for the same journal: the factor of period 2 is 11/10 -/
example : periodFactor pPerfs 2 2 = some (11/10) ∧ periodFactor pPerfs 3 3 = some 1 := by decide +kernel

/-- a transfer between two portfolio accounts is `Internal`, a deposit from equity is not -/
example : Internal {} (Transaction.ofBookings 1 "move" none [⟨pA, ⟨["Assets", "B"]⟩, 5, "USD"⟩]) ∧
    ¬ Internal {} (Transaction.ofBookings 1 "deposit" none [⟨pE, pA, 5, "USD"⟩]) := by
  unfold Internal
  decide +kernel

end Knut.C20
