import Knut.Model.Balance
/-!
# Mark-to-market specification (property C03)

`mtm v days a D` = Σ over commodities of (running quantity of `a` on day `D`) × (price on day `D`),
computed directly from the journal: quantities by summation over all bookings dated ≤ `D`, prices by
normalising the declarations dated ≤ `D` (`Prices.normalize`, property C12).  No truncation anywhere:
the report may deviate by at most 10⁻⁸ per valuation step (`stepBound`, proved in `Properties/C03Report.lean`).
`bookingValue` / `flowAt`: the bookings of an account valued at the price of their own day (income, expenses, equity).
-/
namespace Knut.Spec
open Knut

def userPostings (days : List Day) : List (Int × Posting) :=
  days.flatMap (fun d => d.transactions.flatMap (fun t => t.postings.map (fun p => (t.date, p))))

/-- running quantity of position (a, c) at the end of day `D` -/
def qtyAt (days : List Day) (a : Account) (c : Commodity) (D : Int) : Rat :=
  (((userPostings days).filter (fun (d, p) => decide (d ≤ D) && p.account = a && p.commodity = c)).map (fun x => x.2.quantity)).sum

/-- the price graph after all declarations dated ≤ `D`; `none` if a zero price was declared -/
def graphAt (days : List Day) (D : Int) : Option Prices.Prices :=
  (days.filter (fun d => d.date ≤ D)).foldlM (fun g d =>
    d.prices.foldlM (fun g p => Prices.insert g ⟨p.commodity, p.price, p.target⟩) g) []

/-- normalised prices in `v` on day `D` (`none` before the first price declaration, as in `ComputePrices`) -/
def pricesAt (v : Commodity) (days : List Day) (D : Int) : Option Prices.NPrices :=
  if (days.filter (fun d => d.date ≤ D)).all (fun d => d.prices.isEmpty) then none
  else (graphAt days D).map (fun g => Prices.normalize g v)

def commoditiesOf (days : List Day) (a : Account) : List Commodity :=
  (((userPostings days).filter (fun (_, p) => p.account = a)).map (fun x => x.2.commodity)).eraseDups

/-- exact mark-to-market value of account `a` at the end of day `D`; `none` if a needed price is missing -/
def mtm (v : Commodity) (days : List Day) (a : Account) (D : Int) : Option Rat :=
  (commoditiesOf days a).foldlM (fun acc c =>
    let q := qtyAt days a c D
    if q = 0 then some acc
    else if c = v then some (acc + q)
    else match pricesAt v days D with
      | none => none
      | some np => (Prices.find c np).map (fun p => acc + q * p)) 0

/-- a more generous count than `stepBound` (not used by the theorems):
number of valuation steps that can each lose < 10⁻⁸: bookings on `a` dated in `(F, D]` plus one
revaluation per (day with a price declaration in `(F, D]`, commodity of `a`) -/
def steps (days : List Day) (a : Account) (F D : Int) : Nat :=
  ((userPostings days).filter (fun (d, p) => decide (F < d) && decide (d ≤ D) && p.account = a)).length +
  ((days.filter (fun d => decide (F < d.date) && decide (d.date ≤ D) && !d.prices.isEmpty)).length + 1) * (commoditiesOf days a).length

/-- truncations inside `(F, D]` on the position `(a, c)`, as an explicit function of the journal: one per non-zero
booking on it, at most one revaluation per day carrying a price declaration; none in the valuation commodity itself
(`Properties/C03Report.lean` proves that the pipeline's step count is at most this) -/
def stepCount (v : Commodity) (days : List Day) (a : Account) (F D : Int) (c : Commodity) : Nat :=
  if c = v then 0 else
    ((userPostings days).filter (fun (d, p) => decide (F < d) && decide (d ≤ D) && decide (p.account = a) &&
        decide (p.commodity = c) && decide (p.quantity ≠ 0))).length +
    (days.filter (fun d => decide (F < d.date) && decide (d.date ≤ D) && !d.prices.isEmpty)).length

/-- the bound of the whole account row: the sum over the account's commodities -/
def stepBound (v : Commodity) (days : List Day) (a : Account) (F D : Int) : Nat :=
  ((commoditiesOf days a).map (stepCount v days a F D)).sum

/-- the value `Valuate` gives a booking on its own day `d`: the quantity itself in the valuation commodity, else
`Truncate₈(quantity × normalised price of the declarations dated ≤ d)`; `none` if there is no such price -/
def bookingValue (v : Commodity) (days : List Day) (d : Int) (p : Posting) : Option Rat :=
  if p.quantity = 0 then some 0
  else if p.commodity = v then some p.quantity
  else match pricesAt v days d with
    | none => none
    | some np => (Prices.find p.commodity np).map (fun pr => Prices.multiply p.quantity pr)

/-- the bookings on account `b` dated in `(F, D]`, each valued at the price of its own day, summed -/
def flowAt (v : Commodity) (days : List Day) (b : Account) (F D : Int) : Option Rat :=
  (((userPostings days).filter (fun (x : Int × Posting) => decide (F < x.1) && decide (x.1 ≤ D) && decide (x.2.account = b))).mapM
    (fun x => bookingValue v days x.1 x.2)).map List.sum

/-- the bookings on the accounts selected by `sel` dated in `(F, D]`, each valued at the price of its own day, summed
(`flowAt v days b` is `flowSel v days (· = b)`) -/
def flowSel (v : Commodity) (days : List Day) (sel : Account → Bool) (F D : Int) : Option Rat :=
  (((userPostings days).filter (fun (x : Int × Posting) => decide (F < x.1) && decide (x.1 ≤ D) && sel x.2.account)).mapM
    (fun x => bookingValue v days x.1 x.2)).map List.sum

def alAccounts (days : List Day) : List Account :=
  (((userPostings days).map (fun x => x.2.account)).filter (·.isAL)).eraseDups

/-- the asset/liability accounts of the journal whose value adjustments are booked against the income account `g`
(`Registry.ValuationAccountFor`: `Income:` + the account's path without its first segment) -/
def mirrored (days : List Day) (g : Account) : List Account :=
  (alAccounts days).filter (fun a => decide (valuationAccountFor a = g))

/-- … and their bookings in `(F, D]` valued at booking-day prices, summed over the accounts -/
def flowOver (v : Commodity) (days : List Day) (S : List Account) (F D : Int) : Option Rat :=
  (S.mapM (fun a => flowAt v days a F D)).map List.sum

/-! ### mapped / collapsed rows (`-m`, `--remap`, `--account`) and per-commodity rows (`-s`) -/

/-- the accounts of the journal selected by `sel` (for a report row `r`: the accounts that pass `--account` and that
`--remap` followed by `-m` turns into `r`), each once -/
def sourceAccounts (sel : Account → Bool) (days : List Day) : List Account :=
  (((userPostings days).map (fun x => x.2.account)).eraseDups).filter sel

/-- exact mark-to-market value of a set of accounts: the sum of `mtm` over them; `none` if one of them is undefined -/
def mtmOver (v : Commodity) (days : List Day) (S : List Account) (D : Int) : Option Rat :=
  (S.mapM (fun a => mtm v days a D)).map List.sum

/-- the step bound of a set of accounts: the sum of `stepBound` over them -/
def stepBoundOver (v : Commodity) (days : List Day) (S : List Account) (F D : Int) : Nat :=
  (S.map (fun a => stepBound v days a F D)).sum

/-- exact value of the single position `(a, c)` at the end of day `D`: quantity × normalised price (the quantity itself
in the valuation commodity, 0 for an empty position); `none` if the position is open and has no price -/
def mtmPos (v : Commodity) (days : List Day) (a : Account) (c : Commodity) (D : Int) : Option Rat :=
  let q := qtyAt days a c D
  if q = 0 then some 0
  else if c = v then some q
  else match pricesAt v days D with
    | none => none
    | some np => (Prices.find c np).map (fun p => q * p)

/-- … summed over a set of accounts -/
def mtmPosOver (v : Commodity) (days : List Day) (S : List Account) (c : Commodity) (D : Int) : Option Rat :=
  (S.mapM (fun a => mtmPos v days a c D)).map List.sum

def stepCountOver (v : Commodity) (days : List Day) (S : List Account) (F D : Int) (c : Commodity) : Nat :=
  (S.map (fun a => stepCount v days a F D c)).sum

end Knut.Spec
