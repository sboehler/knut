import Knut.Model.Partition
/-! Executable property predicates for C11 (used by the monitor on the implementation's
output, and proved of the model in `Properties/C11Monitor.lean`). -/
namespace Knut.Spec
open Knut

def consecutiveB : List Period → Bool
  | [] => true
  | [_] => true
  | p :: q :: rest => (p.stop + 1 == q.start) && consecutiveB (q :: rest)

/-- the property predicate of C11 on a list of periods (oldest first) -/
def partitionOK (a b : Int) (iv : Interval) (last : Int) (ps : List Period) : Bool :=
  if iv = .once then ps == [⟨a, b⟩]
  else if b < a then ps.isEmpty
  else
    consecutiveB ps &&
    ps.all (fun p => decide (p.start ≤ p.stop) && decide (a ≤ p.start) && decide (p.stop ≤ b)) &&
    ps.all (fun p => decide (startOf p.stop iv ≤ p.start)) &&
    ps.all (fun p => decide (p.start = a) || decide (p.start = startOf p.stop iv)) &&
    (match ps.getLast? with | some p => p.stop == b | none => false) &&
    (if last ≤ 0 then (match ps.head? with | some p => p.start == a | none => false)
     else decide ((ps.length : Int) ≤ last) &&
       (decide ((ps.length : Int) = last) || (match ps.head? with | some p => p.start == a | none => false)))

/-- what `Align` must return for day `d` given the shown periods -/
def alignSpec (b : Int) (ps : List Period) (d : Int) : Option Int :=
  if b < d then none else
  match ps.find? (fun p => decide (p.start ≤ d) && decide (d ≤ p.stop)) with
  | some p => some p.stop
  | none =>
    match ps.head? with
    | some p => if d < p.start then some p.stop else none
    | none => none

end Knut.Spec
