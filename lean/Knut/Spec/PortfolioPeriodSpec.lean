import Knut.Model.Performance
/-!
# Specification side of C20, per period: when do "prices rest" and "only external flows occur" on a day?

Journal-level notions (no processor state) in which the per-period theorems of `Properties/C20Periods.lean` are stated
(with `Plain`, Proofs/PortfolioFlows.lean, and `Internal`/`Neutral`, Proofs/PortfolioCalm.lean, for the day's transactions),
and their executable forms, which the driver evaluates for the monitor `zero_period_when_calm` (soundness:
`Proofs/PortfolioCalm.lean`, `calmPeriodB_sound`).
-/
namespace Knut.Performance
open Knut

/-- the normalised prices in force after the days: `ComputePrices` alone, folded over the days -/
def normAfter (v : Commodity) (days : List Day) : Option Prices.NPrices :=
  match days.foldlM (Balance.pricesDay v) {} with
  | .ok st => st.norm
  | .error _ => none

/-- the price of `c` in the valuation commodity after the days (`none`: no price) -/
def priceAfter (v : Commodity) (days : List Day) (c : Commodity) : Option Rat :=
  (normAfter v days).bind (Prices.find c)

/-- the quantity of commodity `c` booked on account `a` by the transactions of the days -/
def heldQty (a : Account) (c : Commodity) (days : List Day) : Rat :=
  ((((days.flatMap (·.transactions)).flatMap (·.postings)).filter
    (fun p => decide (p.account = a) && decide (p.commodity = c))).map (·.quantity)).sum

/-- **prices rest on day `d`** (which follows the days `pre`): every commodity other than the valuation commodity of
which an asset/liability account holds a non-zero quantity at the start of `d` has the same price after `d` as before -/
def PricesRestOn (v : Commodity) (pre : List Day) (d : Day) : Prop :=
  ∀ a c, a.isAL = true → c ≠ v → heldQty a c pre ≠ 0 → priceAfter v (pre ++ [d]) c = priceAfter v pre c

/-! ### executable forms -/

/-- postings in mirrored pairs (what `posting.Builder.Build` makes of a booking) -/
def mirroredB : List Posting → Bool
  | [] => true
  | [_] => false
  | a :: b :: rest =>
    decide (b.commodity = a.commodity) && decide (b.quantity = -a.quantity) && decide (b.value = -a.value) &&
      decide (b.account = a.other) && decide (b.other = a.account) && mirroredB rest

/-- an un-annotated transaction of mirrored posting pairs -/
def plainB (t : Transaction) : Bool := t.targets.isNone && mirroredB t.postings

/-- the positions the days book on -/
def positionsOf (days : List Day) : List (Account × Commodity) :=
  ((days.flatMap (·.transactions)).flatMap (·.postings)).map (fun p => (p.account, p.commodity))

def pricesRestB (v : Commodity) (pre : List Day) (d : Day) : Bool :=
  let n0 := normAfter v pre
  let n1 := normAfter v (pre ++ [d])
  (positionsOf pre).all (fun k =>
    !k.1.isAL || decide (k.2 = v) || decide (heldQty k.1 k.2 pre = 0) ||
      decide (n1.bind (Prices.find k.2) = n0.bind (Prices.find k.2)))

/-- the hypotheses of the 0 %-clause on one day -/
def calmDayB (f : Flags) (pre : List Day) (d : Day) : Bool :=
  d.transactions.all plainB &&
    (match f.valuation with
     | none => true
     | some v => pricesRestB v pre d)

/-- every day with the days before it -/
def splits : List Day → List Day → List (List Day × Day)
  | _, [] => []
  | pre, d :: rest => (pre, d) :: splits (pre ++ [d]) rest

/-- the hypotheses of the 0 %-clause on every day of the period -/
def calmPeriodB (f : Flags) (days : List Day) (p : Period) : Bool :=
  (splits [] days).all (fun x => !(decide (p.start ≤ x.2.date) && decide (x.2.date ≤ p.stop)) || calmDayB f x.1 x.2)

/-- per period end of the command's partition: do the hypotheses of the 0 %-clause hold in the period? -/
def calmPeriods (f : Flags) (ds : List Directive) : List (Int × Bool) :=
  match setup f ds with
  | .ok (part, days) => part.periods.map (fun p => (p.stop, calmPeriodB f days p))
  | _ => []

end Knut.Performance
