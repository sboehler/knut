import Knut.Generated.Unicode
/-!
# Character classes used by the parser

`unicode.IsLetter` / `unicode.IsDigit` come from `Knut/Generated/Unicode.lean`, which is regenerated from the
Go toolchain's `unicode` package on every run. Runes are `Nat` (Go's `int32` read as `uint32`), so the
scanner's `EOF = rune(-1)` is `0xFFFFFFFF`. The facts about single characters that the proofs
need are re-proved on the regenerated tables by kernel evaluation where they are used (`Proofs/SyntaxGrammar.lean`); the
facts at the end of this file give the ASCII members of the two classes and say that `EOF` and U+FFFD are in neither.
-/
namespace Knut.Syntax

/-- `scanner.EOF = rune(-1)` -/
def EOF : Nat := 0xFFFFFFFF

/-- membership in an ascending list of disjoint runs -/
def inRanges : List (Nat × Nat) → Nat → Bool
  | [], _ => false
  | (lo, hi) :: rest, r => if r < lo then false else if r ≤ hi then true else inRanges rest r

def isLetter (r : Nat) : Bool := inRanges Generated.Unicode.letterRanges r
def isDigit (r : Nat) : Bool := inRanges Generated.Unicode.digitRanges r

/-- `parser.isAlphanumeric` -/
def isAlphanumeric (r : Nat) : Bool := isLetter r || isDigit r
/-- `parser.isWhitespace` -/
def isWhitespace (r : Nat) : Bool := r == 32 || r == 9 || r == 13
/-- `parser.isNewline` -/
def isNewline (r : Nat) : Bool := r == 10
/-- `parser.isWhitespaceOrNewline` -/
def isWhitespaceOrNewline (r : Nat) : Bool := isNewline r || isWhitespace r
/-- `parser.isNewlineOrEOF` -/
def isNewlineOrEOF (r : Nat) : Bool := r == 10 || r == EOF

/-! Facts about the regenerated tables (each a finite computation). -/

/-- all ASCII code points that are letters or digits according to the table -/
def asciiAlnum : List Nat := (List.range 128).filter isAlphanumeric

theorem asciiAlnum_eq : asciiAlnum =
    [48, 49, 50, 51, 52, 53, 54, 55, 56, 57,
     65, 66, 67, 68, 69, 70, 71, 72, 73, 74, 75, 76, 77, 78, 79, 80, 81, 82, 83, 84, 85, 86, 87, 88, 89, 90,
     97, 98, 99, 100, 101, 102, 103, 104, 105, 106, 107, 108, 109, 110, 111, 112, 113, 114, 115, 116, 117,
     118, 119, 120, 121, 122] := by decide +kernel

theorem asciiDigits_eq : (List.range 128).filter isDigit = [48, 49, 50, 51, 52, 53, 54, 55, 56, 57] := by
  decide +kernel

theorem eof_not_letter : isLetter EOF = false := by decide +kernel
theorem eof_not_digit : isDigit EOF = false := by decide +kernel
theorem eof_not_alnum : isAlphanumeric EOF = false := by rw [isAlphanumeric, eof_not_letter, eof_not_digit]; rfl
theorem runeError_not_alnum : isAlphanumeric 0xFFFD = false := by decide +kernel

end Knut.Syntax
