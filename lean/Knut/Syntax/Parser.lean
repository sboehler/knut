import Knut.Syntax.Scanner
/-!
# Model of `lib/syntax/parser`

One definition per Go method, same order of calls, same error decoration (`s.Annotate(err)` is the `ann`
argument of `Res.bind`; the places where Go forgets or replaces the decoration are reproduced). A Go loop
is a recursive function whose termination measure is the number of unconsumed tokens; the consumption
lemmas (`…_prog : Prog s (f s)`: the state only moves forward, and by at least one token on success; `…_ext`
where only the first half holds) that justify the measure are proved right after each definition, because the
next loop needs them.

On an error only the error chain is returned (Go also returns the partially filled tree; nothing reads it).
-/
namespace Knut.Syntax
open Knut.Utf8
set_option linter.unusedVariables false

/-! ### bind and consumption -/

theorem Res.bind_ext {α β} {r : Res α} {onErr : Err → St → Err} {f : α → St → Res β} {s : St}
    (h1 : Ext s r.st) (h2 : ∀ a s1, r = .ok a s1 → Ext s1 (f a s1).st) : Ext s (r.bind onErr f).st := by
  cases r with
  | ok a s1 => exact h1.trans (h2 a s1 rfl)
  | err e s1 => exact h1

theorem Res.bind_eq_ok {α β} {r : Res α} {onErr : Err → St → Err} {f : α → St → Res β} {b : β} {s' : St} :
    r.bind onErr f = .ok b s' ↔ ∃ a s1, r = .ok a s1 ∧ f a s1 = .ok b s' := by
  cases r with
  | ok a s1 =>
    simp only [Res.bind]
    constructor
    · intro h; exact ⟨a, s1, rfl, h⟩
    · rintro ⟨a', s1', h, hf⟩; cases h; exact hf
  | err e s1 => simp [Res.bind]

theorem Res.bind_eq_err {α β} {r : Res α} {onErr : Err → St → Err} {f : α → St → Res β} {e : Err} {s' : St} :
    r.bind onErr f = .err e s' ↔
      (∃ e0, r = .err e0 s' ∧ e = onErr e0 s') ∨ (∃ a s1, r = .ok a s1 ∧ f a s1 = .err e s') := by
  cases r with
  | ok a s1 =>
    simp only [Res.bind]
    constructor
    · intro h; exact Or.inr ⟨a, s1, rfl, h⟩
    · rintro (⟨e0, h, _⟩ | ⟨a', s1', h, hf⟩)
      · cases h
      · cases h; exact hf
  | err e0 s1 =>
    simp only [Res.bind]
    constructor
    · intro h; cases h; exact Or.inl ⟨e0, rfl, rfl⟩
    · rintro (⟨e1, h, he⟩ | ⟨a', s1', h, _⟩)
      · cases h; rw [he]
      · cases h

theorem ext_of_ok {α} {r : Res α} {s : St} {a : α} {s' : St} (h : Ext s r.st) (he : r = .ok a s') : Ext s s' := by
  rw [he] at h; exact h

theorem ext_of_err {α} {r : Res α} {s : St} {e : Err} {s' : St} (h : Ext s r.st) (he : r = .err e s') : Ext s s' := by
  rw [he] at h; exact h

/-- the result `r` of a call from state `s`: the state moved forward, and by at least one token if the call succeeded -/
def Prog {α} (s : St) (r : Res α) : Prop := Ext s r.st ∧ ∀ a s', r = .ok a s' → ExtS s s'

theorem Prog.ext {α} {s : St} {r : Res α} (h : Prog s r) : Ext s r.st := h.1

theorem Prog.of_ok {α} {s : St} {r : Res α} {a : α} {s' : St} (h : Prog s r) (he : r = .ok a s') : ExtS s s' := h.2 a s' he

/-- progress made by the first call -/
theorem Prog.bind_left {α β} {r : Res α} {onErr : Err → St → Err} {f : α → St → Res β} {s : St}
    (h1 : Prog s r) (h2 : ∀ a s1, r = .ok a s1 → Ext s1 (f a s1).st) : Prog s (r.bind onErr f) := by
  refine ⟨Res.bind_ext h1.1 h2, ?_⟩
  intro b s' hb
  obtain ⟨a, s1, hr, hf⟩ := Res.bind_eq_ok.mp hb
  exact (h1.2 a s1 hr).trans_ext (ext_of_ok (h2 a s1 hr) hf)

/-- progress made by the continuation -/
theorem Prog.bind_right {α β} {r : Res α} {onErr : Err → St → Err} {f : α → St → Res β} {s : St}
    (h1 : Ext s r.st) (h2 : ∀ a s1, r = .ok a s1 → Prog s1 (f a s1)) : Prog s (r.bind onErr f) := by
  refine ⟨Res.bind_ext h1 fun a s1 hr => (h2 a s1 hr).1, ?_⟩
  intro b s' hb
  obtain ⟨a, s1, hr, hf⟩ := Res.bind_eq_ok.mp hb
  exact (ext_of_ok h1 hr).trans_extS ((h2 a s1 hr).2 b s' hf)

theorem readCharacter_prog (r : Nat) (s : St) : Prog s (readCharacter r s) :=
  ⟨readCharacter_ext r s, fun x s' h => readCharacter_extS r s s' x h⟩

theorem readCharacterWith_prog (desc : String) (p : Nat → Bool) (s : St) : Prog s (readCharacterWith desc p s) :=
  ⟨readCharacterWith_ext desc p s, fun x s' h => readCharacterWith_extS desc p s s' x h⟩

theorem readWhile1_prog (desc : String) (p : Nat → Bool) (s : St) : Prog s (readWhile1 desc p s) :=
  ⟨readWhile1_ext desc p s, fun x s' h => readWhile1_extS desc p s s' x h⟩

theorem readString_prog (str : String) (hne : str.toList ≠ []) (s : St) : Prog s (readString str s) :=
  ⟨readString_ext str s, fun x s' h => readString_extS str s s' x hne h⟩

theorem readAlternative_prog (ss : List String) (hne : ∀ t ∈ ss, t.toList ≠ []) (s : St) :
    Prog s (readAlternative ss s) := by
  refine ⟨readAlternative_ext ss s, ?_⟩
  rintro ⟨r, t⟩ s' h
  have ⟨hm, hr⟩ := readAlternative_ok ss s r t s' h
  exact readString_extS t s s' r (hne t hm) hr

/-! ### small readers -/

/-- `Parser.readComment` -/
def readComment (s : St) : Res Range :=
  let start := s.off
  let ann := annotate "reading comment" start
  (readAlternative ["*", "//", "#"] s).bind ann fun _ s =>
  (readWhile (fun r => !isNewlineOrEOF r) s).bind ann fun _ s =>
  .ok (rng start s) s

theorem readComment_prog (s : St) : Prog s (readComment s) := by
  unfold readComment
  refine Prog.bind_left (readAlternative_prog _ (by decide) _) fun _ s1 _ => ?_
  refine Res.bind_ext (readWhile_ext _ _) fun _ s2 _ => ?_
  exact Ext.refl _

/-- `Parser.readWhitespace1` -/
def readWhitespace1 (s : St) : Res Range :=
  if !isWhitespaceOrNewline (cur s) && !atEOF s then
    .err [Frame.at ("unexpected character `" ++ runeStr (cur s) ++ "`, want whitespace or a newline") (rng s.off s)] s
  else readWhile isWhitespace s

theorem readWhitespace1_ext (s : St) : Ext s (readWhitespace1 s).st := by
  unfold readWhitespace1
  split
  · exact Ext.refl _
  · exact readWhile_ext _ _

/-- `Parser.readRestOfWhitespaceLine` -/
def readRestOfWhitespaceLine (s : St) : Res Range :=
  let start := s.off
  let ann := annotate "reading the rest of the line" start
  (readWhile isWhitespace s).bind ann fun _ s =>
  if atEOF s then .ok (rng start s) s
  else
    (readCharacter 10 s).bind ann fun _ s =>
    .ok (rng start s) s

theorem readRestOfWhitespaceLine_ext (s : St) : Ext s (readRestOfWhitespaceLine s).st := by
  unfold readRestOfWhitespaceLine
  refine Res.bind_ext (readWhile_ext _ _) fun _ s1 _ => ?_
  split
  · exact Ext.refl _
  · refine Res.bind_ext (readCharacter_ext _ _) fun _ s2 _ => ?_
    exact Ext.refl _

theorem readRestOfWhitespaceLine_extS (s s' : St) (r : Range) (hE : atEOF s = false)
    (h : readRestOfWhitespaceLine s = .ok r s') : ExtS s s' := by
  unfold readRestOfWhitespaceLine at h
  simp only [Res.bind_eq_ok] at h
  obtain ⟨r1, s1, h1, h2⟩ := h
  have e1 := ext_of_ok (readWhile_ext _ _) h1
  split at h2
  · rename_i hE1
    injection h2 with _ h2; subst h2
    obtain ⟨c, hc, ho⟩ := e1
    refine ⟨c, ?_, hc, ho⟩
    intro hnil
    subst hnil
    simp only [List.nil_append] at hc
    simp only [atEOF] at hE hE1
    rw [hc] at hE
    simp [hE1] at hE
  · simp only [Res.bind_eq_ok] at h2
    obtain ⟨r2, s2, h2, h3⟩ := h2
    injection h3 with _ h3; subst h3
    exact e1.trans_extS (readCharacter_extS _ _ _ _ h2)

/-- `Parser.parseDate`: `dddd-dd-dd`, digits by `unicode.IsDigit` -/
def parseDate (s : St) : Res Date :=
  let start := s.off
  let ann := annotate "parsing the date" start
  let digit := readCharacterWith "a digit" isDigit
  (digit s).bind ann fun _ s =>
  (digit s).bind ann fun _ s =>
  (digit s).bind ann fun _ s =>
  (digit s).bind ann fun _ s =>
  (readCharacter 45 s).bind ann fun _ s =>
  (digit s).bind ann fun _ s =>
  (digit s).bind ann fun _ s =>
  (readCharacter 45 s).bind ann fun _ s =>
  (digit s).bind ann fun _ s =>
  (digit s).bind ann fun _ s =>
  .ok ⟨rng start s⟩ s

theorem parseDate_prog (s : St) : Prog s (parseDate s) := by
  unfold parseDate
  simp only
  refine Prog.bind_left (readCharacterWith_prog _ _ _) fun _ s1 _ => ?_
  refine Res.bind_ext (readCharacterWith_ext _ _ _) fun _ s1 _ => ?_
  refine Res.bind_ext (readCharacterWith_ext _ _ _) fun _ s1 _ => ?_
  refine Res.bind_ext (readCharacterWith_ext _ _ _) fun _ s1 _ => ?_
  refine Res.bind_ext (readCharacter_ext _ _) fun _ s1 _ => ?_
  refine Res.bind_ext (readCharacterWith_ext _ _ _) fun _ s1 _ => ?_
  refine Res.bind_ext (readCharacterWith_ext _ _ _) fun _ s1 _ => ?_
  refine Res.bind_ext (readCharacter_ext _ _) fun _ s1 _ => ?_
  refine Res.bind_ext (readCharacterWith_ext _ _ _) fun _ s1 _ => ?_
  refine Res.bind_ext (readCharacterWith_ext _ _ _) fun _ s1 _ => ?_
  exact Ext.refl _

/-- `Parser.parseQuotedString` -/
def parseQuotedString (s : St) : Res QuotedString :=
  let start := s.off
  let ann := annotate "parsing quoted string" start
  (readCharacter 34 s).bind ann fun _ s =>
  (readWhile (fun r => r != 34) s).bind ann fun content s =>
  (readCharacter 34 s).bind ann fun _ s =>
  .ok ⟨rng start s, content⟩ s

theorem parseQuotedString_prog (s : St) : Prog s (parseQuotedString s) := by
  unfold parseQuotedString
  refine Prog.bind_left (readCharacter_prog _ _) fun _ s1 _ => ?_
  refine Res.bind_ext (readWhile_ext _ _) fun _ s1 _ => ?_
  refine Res.bind_ext (readCharacter_ext _ _) fun _ s1 _ => ?_
  exact Ext.refl _

/-- `Parser.parseCommodity` -/
def parseCommodity (s : St) : Res Commodity :=
  let start := s.off
  let ann := annotate "parsing commodity" start
  (readWhile1 "a letter or a digit" isAlphanumeric s).bind ann fun _ s =>
  .ok ⟨rng start s⟩ s

theorem parseCommodity_prog (s : St) : Prog s (parseCommodity s) := by
  unfold parseCommodity
  refine Prog.bind_left (readWhile1_prog _ _ _) fun _ s1 _ => ?_
  exact Ext.refl _

/-- `Parser.parseDecimal`: `-?d+(.d+)?` -/
def parseDecimal (s : St) : Res Decimal :=
  let start := s.off
  let ann := annotate "parsing decimal" start
  (if cur s == 45 then (readCharacter 45 s).bind ann fun _ s => .ok () s else .ok () s).bind (fun e _ => e) fun _ s =>
  (readWhile1 "a digit" isDigit s).bind ann fun _ s =>
  if cur s != 46 then .ok ⟨rng start s⟩ s
  else
    (readCharacter 46 s).bind ann fun _ s =>
    (readWhile1 "a digit" isDigit s).bind ann fun _ s =>
    .ok ⟨rng start s⟩ s

theorem parseDecimal_prog (s : St) : Prog s (parseDecimal s) := by
  unfold parseDecimal
  refine Prog.bind_right ?_ fun _ s1 _ => ?_
  · split
    · refine Res.bind_ext (readCharacter_ext _ _) fun _ s1 _ => ?_
      exact Ext.refl _
    · exact Ext.refl _
  · refine Prog.bind_left (readWhile1_prog _ _ _) fun _ s2 _ => ?_
    split
    · exact Ext.refl _
    · refine Res.bind_ext (readCharacter_ext _ _) fun _ s1 _ => ?_
      refine Res.bind_ext (readWhile1_ext _ _ _) fun _ s1 _ => ?_
      exact Ext.refl _

/-- the `for` loop of `parseAccount`: further `:segment`s -/
def accountLoop (start : Nat) (s : St) : Res Account :=
  if cur s != 58 then .ok ⟨rng start s, false⟩ s
  else
    match h1 : readCharacter 58 s with
    | .err e s1 => .err (annotate "parsing account" start e s1) s1
    | .ok _ s1 =>
      match h2 : readWhile1 "a letter or a digit" isAlphanumeric s1 with
      | .err e s2 => .err (annotate "parsing account" start e s2) s2
      | .ok _ s2 => accountLoop start s2
termination_by s.toks.length
decreasing_by
  have a := (readCharacter_prog 58 s).of_ok h1
  have b := (readWhile1_prog _ _ s1).of_ok h2
  exact (a.trans_ext b.ext).length_lt

theorem accountLoop_ext (start : Nat) (s : St) : Ext s (accountLoop start s).st := by
  fun_induction accountLoop start s with
  | case1 s h => exact Ext.refl _
  | case2 s h e s1 h1 => exact ext_of_err (readCharacter_ext _ _) h1
  | case3 s h x s1 h1 e s2 h2 =>
    exact (ext_of_ok (readCharacter_ext _ _) h1).trans (ext_of_err (readWhile1_ext _ _ _) h2)
  | case4 s h x s1 h1 y s2 h2 ih =>
    exact ((ext_of_ok (readCharacter_ext _ _) h1).trans (ext_of_ok (readWhile1_ext _ _ _) h2)).trans ih

/-- `Parser.parseAccount`: `$letters` or `segment(:segment)*` -/
def parseAccount (s : St) : Res Account :=
  let start := s.off
  let ann := annotate "parsing account" start
  if cur s == 36 then
    (readCharacter 36 s).bind ann fun _ s =>
    (readWhile1 "a letter" isLetter s).bind ann fun _ s =>
    .ok ⟨rng start s, true⟩ s
  else
    (readWhile1 "a letter or a digit" isAlphanumeric s).bind ann fun _ s =>
    accountLoop start s

theorem parseAccount_prog (s : St) : Prog s (parseAccount s) := by
  unfold parseAccount
  simp only
  split
  · refine Prog.bind_left (readCharacter_prog _ _) fun _ s1 _ => ?_
    refine Res.bind_ext (readWhile1_ext _ _ _) fun _ s1 _ => ?_
    exact Ext.refl _
  · refine Prog.bind_left (readWhile1_prog _ _ _) fun _ s1 _ => ?_
    exact accountLoop_ext _ _

/-- `Parser.parseBooking` -/
def parseBooking (s : St) : Res Booking :=
  let start := s.off
  let ann := annotate "parsing booking" start
  (parseAccount s).bind ann fun credit s =>
  (readWhile1 "whitespace" isWhitespace s).bind ann fun _ s =>
  (parseAccount s).bind ann fun debit s =>
  (readWhile1 "whitespace" isWhitespace s).bind ann fun _ s =>
  (parseDecimal s).bind ann fun quantity s =>
  (readWhile1 "whitespace" isWhitespace s).bind ann fun _ s =>
  (parseCommodity s).bind ann fun commodity s =>
  .ok ⟨rng start s, credit, debit, quantity, commodity⟩ s

theorem parseBooking_prog (s : St) : Prog s (parseBooking s) := by
  unfold parseBooking
  refine Prog.bind_left (parseAccount_prog _) fun _ s1 _ => ?_
  refine Res.bind_ext (readWhile1_ext _ _ _) fun _ s1 _ => ?_
  refine Res.bind_ext (parseAccount_prog _).ext fun _ s1 _ => ?_
  refine Res.bind_ext (readWhile1_ext _ _ _) fun _ s1 _ => ?_
  refine Res.bind_ext (parseDecimal_prog _).ext fun _ s1 _ => ?_
  refine Res.bind_ext (readWhile1_ext _ _ _) fun _ s1 _ => ?_
  refine Res.bind_ext (parseCommodity_prog _).ext fun _ s1 _ => ?_
  exact Ext.refl _

/-- `Parser.parseBalance` -/
def parseBalance (s : St) : Res Balance :=
  let start := s.off
  let ann := annotate "parsing balance subdirective" start
  (parseAccount s).bind ann fun account s =>
  (readWhitespace1 s).bind ann fun _ s =>
  (parseDecimal s).bind ann fun quantity s =>
  (readWhitespace1 s).bind ann fun _ s =>
  (parseCommodity s).bind ann fun commodity s =>
  .ok ⟨rng start s, account, quantity, commodity⟩ s

theorem parseBalance_prog (s : St) : Prog s (parseBalance s) := by
  unfold parseBalance
  refine Prog.bind_left (parseAccount_prog _) fun _ s1 _ => ?_
  refine Res.bind_ext (readWhitespace1_ext _) fun _ s1 _ => ?_
  refine Res.bind_ext (parseDecimal_prog _).ext fun _ s1 _ => ?_
  refine Res.bind_ext (readWhitespace1_ext _) fun _ s1 _ => ?_
  refine Res.bind_ext (parseCommodity_prog _).ext fun _ s1 _ => ?_
  exact Ext.refl _

/-- `Parser.parseInterval` -/
def parseInterval (s : St) : Res Interval :=
  let start := s.off
  let ann := annotate "parsing interval" start
  (readAlternative ["daily", "weekly", "monthly", "quarterly"] s).bind ann fun _ s =>
  .ok ⟨rng start s⟩ s

theorem parseInterval_prog (s : St) : Prog s (parseInterval s) := by
  unfold parseInterval
  refine Prog.bind_left (readAlternative_prog _ (by decide) _) fun _ s1 _ => ?_
  exact Ext.refl _

/-- `Parser.parseAccrual` (called right after the keyword `@accrue`) -/
def parseAccrual (s : St) : Res Accrual :=
  let start := s.off
  let ann := annotate "parsing addons" start
  (readWhitespace1 s).bind ann fun _ s =>
  (parseInterval s).bind ann fun interval s =>
  (readWhitespace1 s).bind ann fun _ s =>
  (parseDate s).bind ann fun d0 s =>
  (readWhitespace1 s).bind ann fun _ s =>
  (parseDate s).bind ann fun d1 s =>
  (readWhitespace1 s).bind ann fun _ s =>
  (parseAccount s).bind ann fun account s =>
  .ok ⟨rng start s, interval, d0, d1, account⟩ s

theorem parseAccrual_ext (s : St) : Ext s (parseAccrual s).st := by
  unfold parseAccrual
  refine Res.bind_ext (readWhitespace1_ext _) fun _ s1 _ => ?_
  refine Res.bind_ext (parseInterval_prog _).ext fun _ s1 _ => ?_
  refine Res.bind_ext (readWhitespace1_ext _) fun _ s1 _ => ?_
  refine Res.bind_ext (parseDate_prog _).ext fun _ s1 _ => ?_
  refine Res.bind_ext (readWhitespace1_ext _) fun _ s1 _ => ?_
  refine Res.bind_ext (parseDate_prog _).ext fun _ s1 _ => ?_
  refine Res.bind_ext (readWhitespace1_ext _) fun _ s1 _ => ?_
  refine Res.bind_ext (parseAccount_prog _).ext fun _ s1 _ => ?_
  exact Ext.refl _

/-- the `for p.Current() == ','` loop of `parsePerformance`; `acc` holds the targets so far, newest first -/
def perfLoop (start : Nat) (acc : List Commodity) (s : St) : Res (List Commodity) :=
  if cur s != 44 then .ok acc.reverse s
  else
    match h1 : readCharacter 44 s with
    | .err e s1 => .err (annotate "parsing performance" start e s1) s1
    | .ok _ s1 =>
      match h2 : readWhile isWhitespace s1 with
      | .err e s2 => .err (annotate "parsing performance" start e s2) s2
      | .ok _ s2 =>
        match h3 : parseCommodity s2 with
        | .err e s3 => .err (annotate "parsing performance" start e s3) s3
        | .ok c s3 =>
          match h4 : readWhile isWhitespace s3 with
          | .err e s4 => .err (annotate "parsing performance" start e s4) s4
          | .ok _ s4 => perfLoop start (c :: acc) s4
termination_by s.toks.length
decreasing_by
  have a := (readCharacter_prog 44 s).of_ok h1
  have b := ext_of_ok (readWhile_ext _ _) h2
  have c := ext_of_ok (parseCommodity_prog _).ext h3
  have d := ext_of_ok (readWhile_ext _ _) h4
  exact (a.trans_ext (b.trans (c.trans d))).length_lt

theorem perfLoop_ext (start : Nat) (acc : List Commodity) (s : St) : Ext s (perfLoop start acc s).st := by
  fun_induction perfLoop start acc s with
  | case1 acc s h => exact Ext.refl _
  | case2 acc s h e s1 h1 => exact ext_of_err (readCharacter_ext _ _) h1
  | case3 acc s h x s1 h1 e s2 h2 =>
    exact (ext_of_ok (readCharacter_ext _ _) h1).trans (ext_of_err (readWhile_ext _ _) h2)
  | case4 acc s h x s1 h1 y s2 h2 e s3 h3 =>
    exact ((ext_of_ok (readCharacter_ext _ _) h1).trans (ext_of_ok (readWhile_ext _ _) h2)).trans
      (ext_of_err (parseCommodity_prog _).ext h3)
  | case5 acc s h x s1 h1 y s2 h2 c s3 h3 e s4 h4 =>
    exact (((ext_of_ok (readCharacter_ext _ _) h1).trans (ext_of_ok (readWhile_ext _ _) h2)).trans
      (ext_of_ok (parseCommodity_prog _).ext h3)).trans (ext_of_err (readWhile_ext _ _) h4)
  | case6 acc s h x s1 h1 y s2 h2 c s3 h3 z s4 h4 ih =>
    exact ((((ext_of_ok (readCharacter_ext _ _) h1).trans (ext_of_ok (readWhile_ext _ _) h2)).trans
      (ext_of_ok (parseCommodity_prog _).ext h3)).trans (ext_of_ok (readWhile_ext _ _) h4)).trans ih

/-- `Parser.parsePerformance` (called right after the keyword `@performance`) -/
def parsePerformance (s : St) : Res Performance :=
  let start := s.off
  let ann := annotate "parsing performance" start
  (readCharacter 40 s).bind ann fun _ s =>
  (readWhile isWhitespace s).bind ann fun _ s =>
  (if cur s != 41 then
      (parseCommodity s).bind ann fun c s =>
      (readWhile isWhitespace s).bind ann fun _ s =>
      .ok [c] s
    else .ok [] s).bind (fun e _ => e) fun first s =>
  (perfLoop start first s).bind (fun e _ => e) fun targets s =>
  (readCharacter 41 s).bind ann fun _ s =>
  .ok ⟨rng start s, targets⟩ s

theorem parsePerformance_prog (s : St) : Prog s (parsePerformance s) := by
  unfold parsePerformance
  refine Prog.bind_left (readCharacter_prog _ _) fun _ s1 _ => ?_
  refine Res.bind_ext (readWhile_ext _ _) fun _ s1 _ => ?_
  refine Res.bind_ext ?_ fun _ s2 _ => ?_
  · split
    · refine Res.bind_ext (parseCommodity_prog _).ext fun _ s1 _ => ?_
      refine Res.bind_ext (readWhile_ext _ _) fun _ s1 _ => ?_
      exact Ext.refl _
    · exact Ext.refl _
  · refine Res.bind_ext (perfLoop_ext _ _ _) fun _ s1 _ => ?_
    refine Res.bind_ext (readCharacter_ext _ _) fun _ s1 _ => ?_
    exact Ext.refl _

/-- one round of the `switch r.Extract()` in `parseAddons`: `r`/`kw` is the keyword just read -/
def addonStep (start : Nat) (perf : Performance) (accr : Accrual) (r : Range) (kw : String) (s : St) :
    Res (Performance × Accrual) :=
  let ann := annotate "parsing addons" start
  if kw == "@performance" then
    if !perf.range.empty then .err (ann [Frame.at "duplicate performance annotation" r] s) s
    else
      (parsePerformance s).bind ann fun p s =>
      .ok ({ p with range := p.range.extend r }, accr) s
  else if kw == "@accrue" then
    if !accr.range.empty then .err (ann [Frame.at "duplicate accrue annotation" r] s) s
    else
      (parseAccrual s).bind ann fun a s =>
      .ok (perf, { a with range := a.range.extend r }) s
  else .ok (perf, accr) s

theorem addonStep_ext (start : Nat) (perf : Performance) (accr : Accrual) (r : Range) (kw : String) (s : St) :
    Ext s (addonStep start perf accr r kw s).st := by
  unfold addonStep
  simp only
  split
  · split
    · exact Ext.refl _
    · refine Res.bind_ext (parsePerformance_prog _).ext fun _ s1 _ => ?_
      exact Ext.refl _
  · split
    · split
      · exact Ext.refl _
      · refine Res.bind_ext (parseAccrual_ext _) fun _ s1 _ => ?_
        exact Ext.refl _
    · exact Ext.refl _

/-- the `for` loop of `parseAddons` -/
def addonsLoop (start : Nat) (perf : Performance) (accr : Accrual) (s : St) : Res Addons :=
  match h1 : readAlternative ["@performance", "@accrue"] s with
  | .err e s1 => .err (annotate "parsing addons" start e s1) s1
  | .ok (r, kw) s1 =>
    match h2 : addonStep start perf accr r kw s1 with
    | .err e s2 => .err e s2
    | .ok (perf', accr') s2 =>
      match h3 : readRestOfWhitespaceLine s2 with
      | .err _ s3 => .err (annotate "parsing addons" start [Frame.zero] s3) s3
      | .ok _ s3 =>
        if cur s3 != 64 then .ok ⟨rng start s3, perf', accr'⟩ s3
        else addonsLoop start perf' accr' s3
termination_by s.toks.length
decreasing_by
  have a := (readAlternative_prog _ (by decide) s).of_ok h1
  have b := ext_of_ok (addonStep_ext _ _ _ _ _ _) h2
  have c := ext_of_ok (readRestOfWhitespaceLine_ext _) h3
  exact (a.trans_ext (b.trans c)).length_lt

theorem addonsLoop_prog (start : Nat) (perf : Performance) (accr : Accrual) (s : St) :
    Prog s (addonsLoop start perf accr s) := by
  fun_induction addonsLoop start perf accr s with
  | case1 perf accr s e s1 h1 =>
    exact ⟨ext_of_err (readAlternative_ext _ _) h1, fun _ _ h => by cases h⟩
  | case2 perf accr s r kw s1 h1 e s2 h2 =>
    exact ⟨(ext_of_ok (readAlternative_ext _ _) h1).trans (ext_of_err (addonStep_ext _ _ _ _ _ _) h2), fun _ _ h => by cases h⟩
  | case3 perf accr s r kw s1 h1 perf' accr' s2 h2 e s3 h3 =>
    exact ⟨((ext_of_ok (readAlternative_ext _ _) h1).trans (ext_of_ok (addonStep_ext _ _ _ _ _ _) h2)).trans
      (ext_of_err (readRestOfWhitespaceLine_ext _) h3), fun _ _ h => by cases h⟩
  | case4 perf accr s r kw s1 h1 perf' accr' s2 h2 x s3 h3 hc =>
    have a := (readAlternative_prog _ (by decide) s).of_ok h1
    have b := ext_of_ok (addonStep_ext _ _ _ _ _ _) h2
    have c := ext_of_ok (readRestOfWhitespaceLine_ext _) h3
    have t := a.trans_ext (b.trans c)
    exact ⟨t.ext, fun _ _ h => by cases h; exact t⟩
  | case5 perf accr s r kw s1 h1 perf' accr' s2 h2 x s3 h3 hc ih =>
    have a := (readAlternative_prog _ (by decide) s).of_ok h1
    have b := ext_of_ok (addonStep_ext _ _ _ _ _ _) h2
    have c := ext_of_ok (readRestOfWhitespaceLine_ext _) h3
    have t := a.trans_ext (b.trans c)
    exact ⟨t.ext.trans ih.1, fun x y h => t.trans_ext (ih.2 x y h).ext⟩

/-- `Parser.parseAddons` -/
def parseAddons (s : St) : Res Addons := addonsLoop s.off Performance.zero Accrual.zero s

theorem parseAddons_prog (s : St) : Prog s (parseAddons s) := addonsLoop_prog _ _ _ _

/-- the `for` loop of `parseTransaction`; `acc` holds the bookings so far, newest first -/
def bookingsLoop (start : Nat) (acc : List Booking) (s : St) : Res (List Booking) :=
  match h1 : parseBooking s with
  | .err e s1 => .err (annotate "parsing transaction" start e s1) s1
  | .ok b s1 =>
    match h2 : readRestOfWhitespaceLine s1 with
    | .err e s2 => .err (annotate "parsing transaction" start e s2) s2
    | .ok _ s2 =>
      if isWhitespaceOrNewline (cur s2) || atEOF s2 then .ok (b :: acc).reverse s2
      else bookingsLoop start (b :: acc) s2
termination_by s.toks.length
decreasing_by
  have a := (parseBooking_prog s).of_ok h1
  have b := ext_of_ok (readRestOfWhitespaceLine_ext _) h2
  exact (a.trans_ext b).length_lt

theorem bookingsLoop_prog (start : Nat) (acc : List Booking) (s : St) : Prog s (bookingsLoop start acc s) := by
  fun_induction bookingsLoop start acc s with
  | case1 acc s e s1 h1 => exact ⟨ext_of_err (parseBooking_prog _).ext h1, fun _ _ h => by cases h⟩
  | case2 acc s b s1 h1 e s2 h2 =>
    exact ⟨(ext_of_ok (parseBooking_prog _).ext h1).trans (ext_of_err (readRestOfWhitespaceLine_ext _) h2),
      fun _ _ h => by cases h⟩
  | case3 acc s b s1 h1 x s2 h2 hc =>
    have t := ((parseBooking_prog s).of_ok h1).trans_ext (ext_of_ok (readRestOfWhitespaceLine_ext _) h2)
    exact ⟨t.ext, fun _ _ h => by cases h; exact t⟩
  | case4 acc s b s1 h1 x s2 h2 hc ih =>
    have t := ((parseBooking_prog s).of_ok h1).trans_ext (ext_of_ok (readRestOfWhitespaceLine_ext _) h2)
    exact ⟨t.ext.trans ih.1, fun x y h => t.trans_ext (ih.2 x y h).ext⟩

/-- `Parser.parseTransaction`; `start` is the scope opened by `parseDirective` (before the addons) -/
def parseTransaction (start : Nat) (date : Date) (addons : Addons) (s : St) : Res Transaction :=
  let ann := annotate "parsing transaction" start
  (parseQuotedString s).bind ann fun description s =>
  (readRestOfWhitespaceLine s).bind ann fun _ s =>
  (bookingsLoop start [] s).bind (fun e _ => e) fun bookings s =>
  .ok ⟨rng start s, date, description, bookings, addons⟩ s

theorem parseTransaction_prog (start : Nat) (date : Date) (addons : Addons) (s : St) :
    Prog s (parseTransaction start date addons s) := by
  unfold parseTransaction
  refine Prog.bind_left (parseQuotedString_prog _) fun _ s1 _ => ?_
  refine Res.bind_ext (readRestOfWhitespaceLine_ext _) fun _ s1 _ => ?_
  refine Res.bind_ext (bookingsLoop_prog _ _ _).ext fun _ s1 _ => ?_
  exact Ext.refl _

/-- `Parser.parseOpen` -/
def parseOpen (start : Nat) (date : Date) (s : St) : Res Open :=
  (parseAccount s).bind (annotate "parsing `open` directive" start) fun account s =>
  .ok ⟨rng start s, date, account⟩ s

theorem parseOpen_prog (start : Nat) (date : Date) (s : St) : Prog s (parseOpen start date s) := by
  unfold parseOpen
  refine Prog.bind_left (parseAccount_prog _) fun _ s1 _ => ?_
  exact Ext.refl _

/-- `Parser.parseClose` -/
def parseClose (start : Nat) (date : Date) (s : St) : Res Close :=
  (parseAccount s).bind (annotate "parsing `close` directive" start) fun account s =>
  .ok ⟨rng start s, date, account⟩ s

theorem parseClose_prog (start : Nat) (date : Date) (s : St) : Prog s (parseClose start date s) := by
  unfold parseClose
  refine Prog.bind_left (parseAccount_prog _) fun _ s1 _ => ?_
  exact Ext.refl _

/-- the `for` loop of the multi-line form of `parseAssertion` -/
def balancesLoop (start : Nat) (acc : List Balance) (s : St) : Res (List Balance) :=
  match h1 : parseBalance s with
  | .err e s1 => .err (annotate "parsing `balance` directive" start e s1) s1
  | .ok b s1 =>
    match h2 : readRestOfWhitespaceLine s1 with
    | .err e s2 => .err (annotate "parsing `balance` directive" start e s2) s2
    | .ok _ s2 =>
      if isWhitespaceOrNewline (cur s2) || atEOF s2 then .ok (b :: acc).reverse s2
      else balancesLoop start (b :: acc) s2
termination_by s.toks.length
decreasing_by
  have a := (parseBalance_prog s).of_ok h1
  have b := ext_of_ok (readRestOfWhitespaceLine_ext _) h2
  exact (a.trans_ext b).length_lt

theorem balancesLoop_prog (start : Nat) (acc : List Balance) (s : St) : Prog s (balancesLoop start acc s) := by
  fun_induction balancesLoop start acc s with
  | case1 acc s e s1 h1 => exact ⟨ext_of_err (parseBalance_prog _).ext h1, fun _ _ h => by cases h⟩
  | case2 acc s b s1 h1 e s2 h2 =>
    exact ⟨(ext_of_ok (parseBalance_prog _).ext h1).trans (ext_of_err (readRestOfWhitespaceLine_ext _) h2),
      fun _ _ h => by cases h⟩
  | case3 acc s b s1 h1 x s2 h2 hc =>
    have t := ((parseBalance_prog s).of_ok h1).trans_ext (ext_of_ok (readRestOfWhitespaceLine_ext _) h2)
    exact ⟨t.ext, fun _ _ h => by cases h; exact t⟩
  | case4 acc s b s1 h1 x s2 h2 hc ih =>
    have t := ((parseBalance_prog s).of_ok h1).trans_ext (ext_of_ok (readRestOfWhitespaceLine_ext _) h2)
    exact ⟨t.ext.trans ih.1, fun x y h => t.trans_ext (ih.2 x y h).ext⟩

/-- `Parser.parseAssertion`: one balance on the same line, or one per following line -/
def parseAssertion (start : Nat) (date : Date) (s : St) : Res Assertion :=
  let ann := annotate "parsing `balance` directive" start
  if isNewline (cur s) then
    (readRestOfWhitespaceLine s).bind ann fun _ s =>
    (balancesLoop start [] s).bind (fun e _ => e) fun balances s =>
    .ok ⟨rng start s, date, balances⟩ s
  else
    (parseBalance s).bind ann fun b s =>
    .ok ⟨rng start s, date, [b]⟩ s

theorem parseAssertion_prog (start : Nat) (date : Date) (s : St) : Prog s (parseAssertion start date s) := by
  unfold parseAssertion
  simp only
  split
  · refine Prog.bind_right (readRestOfWhitespaceLine_ext _) fun _ s1 _ => ?_
    refine Prog.bind_left (balancesLoop_prog _ _ _) fun _ s1 _ => ?_
    exact Ext.refl _
  · refine Prog.bind_left (parseBalance_prog _) fun _ s1 _ => ?_
    exact Ext.refl _

/-- `Parser.parsePrice` (Go describes the scope as "parsing `balance` directive" and leaves the error of
the target commodity undecorated) -/
def parsePrice (start : Nat) (date : Date) (s : St) : Res Price :=
  let ann := annotate "parsing `balance` directive" start
  (parseCommodity s).bind ann fun commodity s =>
  (readWhitespace1 s).bind ann fun _ s =>
  (parseDecimal s).bind ann fun price s =>
  (readWhitespace1 s).bind ann fun _ s =>
  (parseCommodity s).bind (fun e _ => e) fun target s =>
  .ok ⟨rng start s, date, commodity, target, price⟩ s

theorem parsePrice_prog (start : Nat) (date : Date) (s : St) : Prog s (parsePrice start date s) := by
  unfold parsePrice
  refine Prog.bind_left (parseCommodity_prog _) fun _ s1 _ => ?_
  refine Res.bind_ext (readWhitespace1_ext _) fun _ s1 _ => ?_
  refine Res.bind_ext (parseDecimal_prog _).ext fun _ s1 _ => ?_
  refine Res.bind_ext (readWhitespace1_ext _) fun _ s1 _ => ?_
  refine Res.bind_ext (parseCommodity_prog _).ext fun _ s1 _ => ?_
  exact Ext.refl _

/-- `Parser.parseInclude` -/
def parseInclude (s : St) : Res Include :=
  let start := s.off
  let ann := annotate "parsing `include` statement" start
  (readString "include" s).bind ann fun _ s =>
  (readWhitespace1 s).bind ann fun _ s =>
  (parseQuotedString s).bind ann fun path s =>
  .ok ⟨rng start s, path⟩ s

theorem parseInclude_prog (s : St) : Prog s (parseInclude s) := by
  unfold parseInclude
  refine Prog.bind_left (readString_prog _ (by decide) _) fun _ s1 _ => ?_
  refine Res.bind_ext (readWhitespace1_ext _) fun _ s1 _ => ?_
  refine Res.bind_ext (parseQuotedString_prog _).ext fun _ s1 _ => ?_
  exact Ext.refl _

/-- the `switch r.Extract()` of `parseDirective` after the date; `kw` is one of the four keywords -/
def parseKeyword (start : Nat) (date : Date) (kw : String) (s : St) : Res Body :=
  let ann := annotate "parsing directive" start
  if kw == "open" then (parseOpen start date s).bind ann fun o s => .ok (.open o) s
  else if kw == "close" then (parseClose start date s).bind ann fun c s => .ok (.close c) s
  else if kw == "balance" then (parseAssertion start date s).bind ann fun a s => .ok (.assertion a) s
  else (parsePrice start date s).bind ann fun p s => .ok (.price p) s

theorem parseKeyword_ext (start : Nat) (date : Date) (kw : String) (s : St) :
    Ext s (parseKeyword start date kw s).st := by
  unfold parseKeyword
  simp only
  split
  · exact Res.bind_ext (parseOpen_prog _ _ _).ext fun _ _ _ => Ext.refl _
  · split
    · exact Res.bind_ext (parseClose_prog _ _ _).ext fun _ _ _ => Ext.refl _
    · split
      · exact Res.bind_ext (parseAssertion_prog _ _ _).ext fun _ _ _ => Ext.refl _
      · exact Res.bind_ext (parsePrice_prog _ _ _).ext fun _ _ _ => Ext.refl _

/-- the part of `parseDirective` after the optional addons -/
def parseDirectiveBody (start : Nat) (addons : Addons) (s : St) : Res Body :=
  let ann := annotate "parsing directive" start
  if cur s == 105 then
    (parseInclude s).bind ann fun i s => .ok (.include i) s
  else
    (parseDate s).bind ann fun date s =>
    (readWhitespace1 s).bind ann fun _ s =>
    if cur s == 34 then
      (parseTransaction start date addons s).bind ann fun t s => .ok (.transaction t) s
    else
      (readAlternative ["open", "close", "balance", "price"] s).bind ann fun (_, kw) s =>
      (readWhitespace1 s).bind ann fun _ s =>
      parseKeyword start date kw s

theorem parseDirectiveBody_prog (start : Nat) (addons : Addons) (s : St) :
    Prog s (parseDirectiveBody start addons s) := by
  unfold parseDirectiveBody
  simp only
  split
  · refine Prog.bind_left (parseInclude_prog _) fun _ s1 _ => ?_
    exact Ext.refl _
  · refine Prog.bind_left (parseDate_prog _) fun _ s1 _ => ?_
    refine Res.bind_ext (readWhitespace1_ext _) fun _ s1 _ => ?_
    split
    · refine Res.bind_ext (parseTransaction_prog _ _ _ _).ext fun _ s1 _ => ?_
      exact Ext.refl _
    · refine Res.bind_ext (readAlternative_ext _ _) fun x s1 _ => ?_
      refine Res.bind_ext (readWhitespace1_ext _) fun _ s1 _ => ?_
      exact parseKeyword_ext _ _ _ _

/-- `Parser.parseDirective` -/
def parseDirective (s : St) : Res Directive :=
  let start := s.off
  let ann := annotate "parsing directive" start
  (if cur s == 64 then (parseAddons s).bind ann fun a s => .ok a s else .ok Addons.zero s).bind (fun e _ => e)
    fun addons s =>
  (parseDirectiveBody start addons s).bind (fun e _ => e) fun body s =>
  .ok ⟨rng start s, body⟩ s

theorem parseDirective_prog (s : St) : Prog s (parseDirective s) := by
  unfold parseDirective
  refine Prog.bind_right ?_ fun _ s1 _ => ?_
  · split
    · refine Res.bind_ext (parseAddons_prog _).ext fun _ s1 _ => ?_
      exact Ext.refl _
    · exact Ext.refl _
  · refine Prog.bind_left (parseDirectiveBody_prog _ _ _) fun _ s2 _ => ?_
    exact Ext.refl _

/-- the `switch` in the loop of `ParseFile`: a comment, a directive, or neither -/
def fileItem (s : St) : Res (Option Directive) :=
  if cur s == 42 || cur s == 35 || cur s == 47 then
    (readComment s).bind (fun e _ => e) fun _ s => .ok none s
  else if isAlphanumeric (cur s) || cur s == 64 then
    (parseDirective s).bind (fun e _ => e) fun d s => .ok (some d) s
  else .ok none s

theorem fileItem_ext (s : St) : Ext s (fileItem s).st := by
  unfold fileItem
  split
  · exact Res.bind_ext (readComment_prog _).ext fun _ _ _ => Ext.refl _
  · split
    · exact Res.bind_ext (parseDirective_prog _).ext fun _ _ _ => Ext.refl _
    · exact Ext.refl _

def fileDesc (path : String) : String := "parsing file `" ++ path ++ "`"

/-- `file.Directives = append(file.Directives, dir)` if the round produced a directive (`acc` is newest first) -/
def pushOpt (d : Option Directive) (acc : List Directive) : List Directive :=
  match d with
  | some d => d :: acc
  | none => acc

/-- the loop of `ParseFile`; `acc` holds the directives so far, newest first -/
def fileLoop (path : String) (start : Nat) (acc : List Directive) (s : St) : Res File :=
  if hE : atEOF s then .ok ⟨rng start s, acc.reverse⟩ s
  else
    match h1 : fileItem s with
    | .err e s1 => .err (annotate (fileDesc path) start e s1) s1
    | .ok d s1 =>
      if hE1 : atEOF s1 then .ok ⟨rng start s1, (pushOpt d acc).reverse⟩ s1
      else
        match h2 : readRestOfWhitespaceLine s1 with
        | .err e s2 => .err (annotate (fileDesc path) start e s2) s2
        | .ok _ s2 => fileLoop path start (pushOpt d acc) s2
termination_by s.toks.length
decreasing_by
  have a := ext_of_ok (fileItem_ext _) h1
  have b := readRestOfWhitespaceLine_extS s1 s2 _ (by simpa using hE1) h2
  exact (a.trans_extS b).length_lt

/-- `Parser.ParseFile` -/
def parseFile (path : String) (s : St) : Res File := fileLoop path s.off [] s

/-- `syntax.ParseFile` after reading the file: `parser.New(text, path)`, `Advance()`, `ParseFile()` -/
def parseText (path : String) (text : List UInt8) : Except Err File :=
  match start (decodeAll text) with
  | .err e _ => .error e
  | .ok _ s =>
    match parseFile path s with
    | .ok f _ => .ok f
    | .err e _ => .error e

/-! ### The loops once more, as plain equations (`Res.bind` form, for unfolding in proofs and examples) -/

theorem accountLoop_eq (start : Nat) (s : St) : accountLoop start s =
    if cur s != 58 then .ok ⟨rng start s, false⟩ s
    else (readCharacter 58 s).bind (annotate "parsing account" start) fun _ s1 =>
      (readWhile1 "a letter or a digit" isAlphanumeric s1).bind (annotate "parsing account" start) fun _ s2 =>
      accountLoop start s2 := by
  rw [accountLoop]
  split
  · rfl
  · split
    · rename_i h; simp only [h, Res.bind]
    · rename_i h
      simp only [h, Res.bind]
      split
      · rename_i h2; simp only [h2]
      · rename_i h2; simp only [h2]

theorem perfLoop_eq (start : Nat) (acc : List Commodity) (s : St) : perfLoop start acc s =
    if cur s != 44 then .ok acc.reverse s
    else
      let ann := annotate "parsing performance" start
      (readCharacter 44 s).bind ann fun _ s1 =>
      (readWhile isWhitespace s1).bind ann fun _ s2 =>
      (parseCommodity s2).bind ann fun c s3 =>
      (readWhile isWhitespace s3).bind ann fun _ s4 =>
      perfLoop start (c :: acc) s4 := by
  rw [perfLoop]
  split
  · rfl
  · simp only
    split
    · rename_i h; simp only [h, Res.bind]
    · rename_i h
      simp only [h, Res.bind]
      split
      · rename_i h2; simp only [h2]
      · rename_i h2
        simp only [h2]
        split
        · rename_i h3; simp only [h3]
        · rename_i h3
          simp only [h3]
          split
          · rename_i h4; simp only [h4]
          · rename_i h4; simp only [h4]

theorem addonsLoop_eq (start : Nat) (perf : Performance) (accr : Accrual) (s : St) : addonsLoop start perf accr s =
    (readAlternative ["@performance", "@accrue"] s).bind (annotate "parsing addons" start) fun (r, kw) s1 =>
    (addonStep start perf accr r kw s1).bind (fun e _ => e) fun (perf', accr') s2 =>
    (readRestOfWhitespaceLine s2).bind (fun _ s3 => annotate "parsing addons" start [Frame.zero] s3) fun _ s3 =>
    if cur s3 != 64 then .ok ⟨rng start s3, perf', accr'⟩ s3 else addonsLoop start perf' accr' s3 := by
  rw [addonsLoop]
  split
  · rename_i h; simp only [h, Res.bind]
  · rename_i h
    simp only [h, Res.bind]
    split
    · rename_i h2; simp only [h2]
    · rename_i h2
      simp only [h2]
      split
      · rename_i h3; simp only [h3]
      · rename_i h3; simp only [h3]

theorem bookingsLoop_eq (start : Nat) (acc : List Booking) (s : St) : bookingsLoop start acc s =
    (parseBooking s).bind (annotate "parsing transaction" start) fun b s1 =>
    (readRestOfWhitespaceLine s1).bind (annotate "parsing transaction" start) fun _ s2 =>
    if isWhitespaceOrNewline (cur s2) || atEOF s2 then .ok (b :: acc).reverse s2
    else bookingsLoop start (b :: acc) s2 := by
  rw [bookingsLoop]
  split
  · rename_i h; simp only [h, Res.bind]
  · rename_i h
    simp only [h, Res.bind]
    split
    · rename_i h2; simp only [h2]
    · rename_i h2; simp only [h2]

theorem balancesLoop_eq (start : Nat) (acc : List Balance) (s : St) : balancesLoop start acc s =
    (parseBalance s).bind (annotate "parsing `balance` directive" start) fun b s1 =>
    (readRestOfWhitespaceLine s1).bind (annotate "parsing `balance` directive" start) fun _ s2 =>
    if isWhitespaceOrNewline (cur s2) || atEOF s2 then .ok (b :: acc).reverse s2
    else balancesLoop start (b :: acc) s2 := by
  rw [balancesLoop]
  split
  · rename_i h; simp only [h, Res.bind]
  · rename_i h
    simp only [h, Res.bind]
    split
    · rename_i h2; simp only [h2]
    · rename_i h2; simp only [h2]

theorem fileLoop_eq (path : String) (start : Nat) (acc : List Directive) (s : St) : fileLoop path start acc s =
    if atEOF s then .ok ⟨rng start s, acc.reverse⟩ s
    else (fileItem s).bind (annotate (fileDesc path) start) fun d s1 =>
      if atEOF s1 then .ok ⟨rng start s1, (pushOpt d acc).reverse⟩ s1
      else (readRestOfWhitespaceLine s1).bind (annotate (fileDesc path) start) fun _ s2 =>
        fileLoop path start (pushOpt d acc) s2 := by
  rw [fileLoop]
  split
  · rfl
  · split
    · rename_i h; simp only [h, Res.bind]
    · rename_i h
      simp only [h, Res.bind]
      split
      · rfl
      · split
        · rename_i h2; simp only [h2]
        · rename_i h2; simp only [h2]

/-! ### The two `switch`es on a keyword, one equation per keyword -/

theorem parseKeyword_open (start : Nat) (date : Date) (s : St) : parseKeyword start date "open" s =
    (parseOpen start date s).bind (annotate "parsing directive" start) fun o s => .ok (.open o) s := by
  simp [parseKeyword]
theorem parseKeyword_close (start : Nat) (date : Date) (s : St) : parseKeyword start date "close" s =
    (parseClose start date s).bind (annotate "parsing directive" start) fun c s => .ok (.close c) s := by
  simp [parseKeyword]
theorem parseKeyword_balance (start : Nat) (date : Date) (s : St) : parseKeyword start date "balance" s =
    (parseAssertion start date s).bind (annotate "parsing directive" start) fun a s => .ok (.assertion a) s := by
  simp [parseKeyword]
theorem parseKeyword_price (start : Nat) (date : Date) (s : St) : parseKeyword start date "price" s =
    (parsePrice start date s).bind (annotate "parsing directive" start) fun p s => .ok (.price p) s := by
  simp [parseKeyword]
theorem addonStep_performance (start : Nat) (perf : Performance) (accr : Accrual) (r : Range) (s : St) :
    addonStep start perf accr r "@performance" s =
      if !perf.range.empty then .err (annotate "parsing addons" start [Frame.at "duplicate performance annotation" r] s) s
      else (parsePerformance s).bind (annotate "parsing addons" start) fun p s =>
        .ok ({ p with range := p.range.extend r }, accr) s := by
  simp [addonStep]
theorem addonStep_accrue (start : Nat) (perf : Performance) (accr : Accrual) (r : Range) (s : St) :
    addonStep start perf accr r "@accrue" s =
      if !accr.range.empty then .err (annotate "parsing addons" start [Frame.at "duplicate accrue annotation" r] s) s
      else (parseAccrual s).bind (annotate "parsing addons" start) fun a s =>
        .ok (perf, { a with range := a.range.extend r }) s := by
  simp [addonStep]

/-! ### The ways the directive parsers succeed (so that each analysis of a parsed directive goes case by case) -/

theorem addonStep_cases {start : Nat} {perf : Performance} {accr : Accrual} {r : Range} {kw : String} {s : St}
    {p' : Performance} {a' : Accrual} {s' : St} (h : addonStep start perf accr r kw s = .ok (p', a') s') :
    (∃ p, parsePerformance s = .ok p s' ∧ p' = { p with range := p.range.extend r } ∧ a' = accr) ∨
    (∃ a, parseAccrual s = .ok a s' ∧ p' = perf ∧ a' = { a with range := a.range.extend r }) ∨
    (kw ≠ "@performance" ∧ kw ≠ "@accrue" ∧ p' = perf ∧ a' = accr ∧ s' = s) := by
  unfold addonStep at h
  simp only at h
  split at h
  · split at h
    · cases h
    · obtain ⟨p, s1, g1, g2⟩ := Res.bind_eq_ok.mp h
      cases g2; exact Or.inl ⟨p, g1, rfl, rfl⟩
  · split at h
    · split at h
      · cases h
      · obtain ⟨a, s1, g1, g2⟩ := Res.bind_eq_ok.mp h
        cases g2; exact Or.inr (Or.inl ⟨a, g1, rfl, rfl⟩)
    · rename_i k1 k2
      cases h
      exact Or.inr (Or.inr ⟨by simpa using k1, by simpa using k2, rfl, rfl, rfl⟩)

theorem parseOpen_inv {start : Nat} {date : Date} {s : St} {o : Open} {s' : St} (h : parseOpen start date s = .ok o s') :
    ∃ a, parseAccount s = .ok a s' ∧ o = ⟨rng start s', date, a⟩ := by
  obtain ⟨a, s1, h1, h⟩ := Res.bind_eq_ok.mp h
  cases h
  exact ⟨a, h1, rfl⟩

theorem parseClose_inv {start : Nat} {date : Date} {s : St} {c : Close} {s' : St} (h : parseClose start date s = .ok c s') :
    ∃ a, parseAccount s = .ok a s' ∧ c = ⟨rng start s', date, a⟩ := by
  obtain ⟨a, s1, h1, h⟩ := Res.bind_eq_ok.mp h
  cases h
  exact ⟨a, h1, rfl⟩

theorem parseKeyword_cases {start : Nat} {date : Date} {kw : String} {s : St} {b : Body} {s' : St}
    (h : parseKeyword start date kw s = .ok b s') :
    (∃ o, b = .open o ∧ parseOpen start date s = .ok o s') ∨ (∃ c, b = .close c ∧ parseClose start date s = .ok c s') ∨
    (∃ a, b = .assertion a ∧ parseAssertion start date s = .ok a s') ∨ (∃ p, b = .price p ∧ parsePrice start date s = .ok p s') := by
  unfold parseKeyword at h
  simp only at h
  split at h
  · obtain ⟨o, s1, h1, h⟩ := Res.bind_eq_ok.mp h
    cases h; exact Or.inl ⟨o, rfl, h1⟩
  · split at h
    · obtain ⟨o, s1, h1, h⟩ := Res.bind_eq_ok.mp h
      cases h; exact Or.inr (Or.inl ⟨o, rfl, h1⟩)
    · split at h
      · obtain ⟨o, s1, h1, h⟩ := Res.bind_eq_ok.mp h
        cases h; exact Or.inr (Or.inr (Or.inl ⟨o, rfl, h1⟩))
      · obtain ⟨o, s1, h1, h⟩ := Res.bind_eq_ok.mp h
        cases h; exact Or.inr (Or.inr (Or.inr ⟨o, rfl, h1⟩))

theorem parseDirectiveBody_cases {start : Nat} {addons : Addons} {s : St} {b : Body} {s' : St}
    (h : parseDirectiveBody start addons s = .ok b s') :
    (∃ i, b = .include i ∧ parseInclude s = .ok i s') ∨
    ∃ date s1 x s2, parseDate s = .ok date s1 ∧ readWhitespace1 s1 = .ok x s2 ∧
      ((∃ t, b = .transaction t ∧ parseTransaction start date addons s2 = .ok t s') ∨
       ∃ r kw s3 y s4, readAlternative ["open", "close", "balance", "price"] s2 = .ok (r, kw) s3 ∧
         readWhitespace1 s3 = .ok y s4 ∧ parseKeyword start date kw s4 = .ok b s') := by
  unfold parseDirectiveBody at h
  simp only at h
  split at h
  · obtain ⟨i, s1, h1, h⟩ := Res.bind_eq_ok.mp h
    cases h; exact Or.inl ⟨i, rfl, h1⟩
  · obtain ⟨date, s1, h1, h⟩ := Res.bind_eq_ok.mp h
    obtain ⟨x, s2, h2, h⟩ := Res.bind_eq_ok.mp h
    refine Or.inr ⟨date, s1, x, s2, h1, h2, ?_⟩
    split at h
    · obtain ⟨t, s3, h3, h⟩ := Res.bind_eq_ok.mp h
      cases h; exact Or.inl ⟨t, rfl, h3⟩
    · obtain ⟨⟨r, kw⟩, s3, h3, h⟩ := Res.bind_eq_ok.mp h
      obtain ⟨y, s4, h4, h⟩ := Res.bind_eq_ok.mp h
      exact Or.inr ⟨r, kw, s3, y, s4, h3, h4, h⟩

theorem parseDirective_cases {s : St} {d : Directive} {s' : St} (h : parseDirective s = .ok d s') :
    ∃ addons s1 body, ((cur s == 64) = true ∧ parseAddons s = .ok addons s1 ∨ (cur s == 64) = false ∧ addons = Addons.zero ∧ s1 = s) ∧
      parseDirectiveBody s.off addons s1 = .ok body s' ∧ d = ⟨rng s.off s', body⟩ := by
  unfold parseDirective at h
  obtain ⟨addons, s1, h1, h⟩ := Res.bind_eq_ok.mp h
  obtain ⟨body, s2, h2, h⟩ := Res.bind_eq_ok.mp h
  cases h
  refine ⟨addons, s1, body, ?_, h2, rfl⟩
  split at h1
  · rename_i hc
    obtain ⟨a, t1, g1, g2⟩ := Res.bind_eq_ok.mp h1
    cases g2; exact Or.inl ⟨hc, g1⟩
  · rename_i hc
    cases h1; exact Or.inr ⟨by simpa using hc, rfl, rfl⟩
end Knut.Syntax
