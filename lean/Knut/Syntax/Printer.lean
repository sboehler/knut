import Knut.Syntax.Parser
/-!
# Model of `lib/syntax/printer` (the part used by `format`) and of `commands.formatRunner.formatFile`

Output is a byte string. Every field is re-rendered from `Range.Extract()` of the *original* text; a slice out of
range is Go's slice-bounds panic and the explicit outcome `none` here (`Properties/C08.lean` shows it is never
reached for a tree the parser returned). `printer.padRight` and `fmt`'s `%10s` pad with spaces to a width counted in runes
(`utf8.RuneCountInString`).
-/
namespace Knut.Syntax
open Knut.Utf8

abbrev Bytes := List UInt8

/-- bytes of an ASCII literal of the printer's format strings -/
def lit (s : String) : Bytes := s.toList.map (fun c => UInt8.ofNat c.toNat)

/-- `utf8.RuneCountInString` -/
def runeCount (bs : Bytes) : Nat := (decodeAll bs).length

def spaces (n : Nat) : Bytes := List.replicate n 32

/-- `printer.padRight(s, w)` -/
def padRight (w : Nat) (s : Bytes) : Bytes := s ++ spaces (w - runeCount s)
/-- `%*s` with width `w` -/
def padLeft (w : Nat) (s : Bytes) : Bytes := spaces (w - runeCount s) ++ s

/-- `strings.Join(parts, ",")` -/
def joinComma : List Bytes → Bytes
  | [] => []
  | [a] => a
  | a :: rest => a ++ lit "," ++ joinComma rest

/-! ### The arguments of the `Fprintf` calls: the extracted fields of a directive

Go evaluates all `x.Extract()` arguments of a `Fprintf` before formatting, so every print function is
"extract the fields (may panic), then render them". `…V` are the extracted fields, `view…` the extraction,
`render…` the formatting. -/

structure BookingV where
  credit : Bytes
  debit : Bytes
  quantity : Bytes
  commodity : Bytes
  deriving DecidableEq, Repr

structure BalanceV where
  account : Bytes
  quantity : Bytes
  commodity : Bytes
  deriving DecidableEq, Repr

structure AccrualV where
  interval : Bytes
  start : Bytes
  stop : Bytes
  account : Bytes
  deriving DecidableEq, Repr

/-- the fields of a directive as byte strings -/
inductive DirV where
  | transaction (accrual : Option AccrualV) (performance : Option (List Bytes)) (date desc : Bytes)
      (bookings : List BookingV)
  | «open» (date account : Bytes)
  | close (date account : Bytes)
  | assertion (date : Bytes) (balances : List BalanceV)
  | price (date commodity price target : Bytes)
  | «include» (path : Bytes)
  deriving DecidableEq, Repr

def viewBooking (text : Bytes) (b : Booking) : Option BookingV := do
  let cr ← b.credit.range.extract text
  let db ← b.debit.range.extract text
  let q ← b.quantity.range.extract text
  let c ← b.commodity.range.extract text
  pure ⟨cr, db, q, c⟩

def viewBalance (text : Bytes) (b : Balance) : Option BalanceV := do
  let acc ← b.account.range.extract text
  let q ← b.quantity.range.extract text
  let c ← b.commodity.range.extract text
  pure ⟨acc, q, c⟩

def viewAccrual (text : Bytes) (a : Accrual) : Option AccrualV := do
  let iv ← a.interval.range.extract text
  let d0 ← a.start.range.extract text
  let d1 ← a.stop.range.extract text
  let acc ← a.account.range.extract text
  pure ⟨iv, d0, d1, acc⟩

/-- the fields `printTransaction` extracts: the accrual if `!Accrual.Empty()`, the performance targets if
`!Performance.Empty()`, date, description content, bookings -/
def viewTransaction (text : Bytes) (t : Transaction) : Option DirV := do
  let accr ← if !t.addons.accrual.range.empty then (viewAccrual text t.addons.accrual).map some else pure none
  let perf ← if !t.addons.performance.range.empty then
      (t.addons.performance.targets.mapM (fun (c : Commodity) => c.range.extract text)).map some
    else pure none
  let date ← t.date.range.extract text
  let desc ← t.description.content.extract text
  let bookings ← t.bookings.mapM (viewBooking text)
  pure (.transaction accr perf date desc bookings)

def viewDirective (text : Bytes) (d : Directive) : Option DirV :=
  match d.body with
  | .transaction t => viewTransaction text t
  | .open o => do
    let date ← o.date.range.extract text
    let acc ← o.account.range.extract text
    pure (.open date acc)
  | .close c => do
    let date ← c.date.range.extract text
    let acc ← c.account.range.extract text
    pure (.close date acc)
  | .assertion a => do
    let date ← a.date.range.extract text
    let bs ← a.balances.mapM (viewBalance text)
    pure (.assertion date bs)
  | .price p => do
    let date ← p.date.range.extract text
    let c ← p.commodity.range.extract text
    let pr ← p.price.range.extract text
    let t ← p.target.range.extract text
    pure (.price date c pr t)
  | .include i => do
    let p ← i.includePath.content.extract text
    pure (.include p)

/-- `Printer.printAccrual`: `"@accrue %s %s %s %s\n"` -/
def renderAccrual (a : AccrualV) : Bytes :=
  lit "@accrue " ++ a.interval ++ lit " " ++ a.start ++ lit " " ++ a.stop ++ lit " " ++ a.account ++ lit "\n"

/-- `"@performance(%s)\n"` of the joined targets -/
def renderPerformance (ts : List Bytes) : Bytes := lit "@performance(" ++ joinComma ts ++ lit ")\n"

/-- `Printer.printPosting` (`"%s %s %10s %s"` on the two accounts padded by `padRight`) and the `"\n"` written after it -/
def renderBooking (padding : Nat) (b : BookingV) : Bytes :=
  padRight padding b.credit ++ lit " " ++ padRight padding b.debit ++ lit " " ++ padLeft 10 b.quantity ++ lit " " ++
    b.commodity ++ lit "\n"

/-- the fields of one balance: `"%s %s %s"` -/
def renderBalance (b : BalanceV) : Bytes := b.account ++ lit " " ++ b.quantity ++ lit " " ++ b.commodity

/-- `Printer.printDirective` on extracted fields -/
def renderDir (padding : Nat) : DirV → Bytes
  | .transaction accr perf date desc bookings =>
    (match accr with | some a => renderAccrual a | none => []) ++
    (match perf with | some ts => renderPerformance ts | none => []) ++
    date ++ lit " \"" ++ desc ++ lit "\"" ++ lit "\n" ++ (bookings.map (renderBooking padding)).flatten
  | .open date acc => date ++ lit " open " ++ acc
  | .close date acc => date ++ lit " close " ++ acc
  | .price date c p t => date ++ lit " price " ++ c ++ lit " " ++ p ++ lit " " ++ t
  | .include p => lit "include \"" ++ p ++ lit "\""
  | .assertion date bs =>
    match bs with
    | [b] => date ++ lit " balance" ++ lit " " ++ renderBalance b
    | bs => date ++ lit " balance" ++ lit "\n" ++ (bs.map fun b => renderBalance b ++ lit "\n").flatten

/-- `Printer.printDirective`: extract, then render; `none` = a slice bound was violated (Go would panic) -/
def printDirective (text : Bytes) (padding : Nat) (d : Directive) : Option Bytes :=
  (viewDirective text d).map (renderDir padding)

/-- the contribution of one directive to `Printer.Initialize` (rune counts of the credit and debit accounts) -/
def paddingV : DirV → Nat
  | .transaction _ _ _ _ bookings => bookings.foldl (fun m b => max (max m (runeCount b.credit)) (runeCount b.debit)) 0
  | _ => 0

/-- `Printer.Initialize`: the widest account (in runes) over all bookings of all transactions -/
def initPadding (text : Bytes) (ds : List Directive) : Option Nat :=
  (ds.mapM (viewDirective text)).map fun vs => vs.foldl (fun m v => max m (paddingV v)) 0

/-- `text[a:b]` with Go's bounds check -/
def sliceChecked (text : Bytes) (a b : Nat) : Option Bytes :=
  if a ≤ b ∧ b ≤ text.length then some ((text.drop a).take (b - a)) else none

/-- the loop of `Printer.Format` -/
def formatLoop (text : Bytes) (padding : Nat) : Nat → List Directive → Option Bytes
  | pos, [] => sliceChecked text pos text.length
  | pos, d :: ds => do
    let gap ← sliceChecked text pos d.range.start
    let r ← printDirective text padding d
    let rest ← formatLoop text padding d.range.stop ds
    pure (gap ++ r ++ rest)

/-- `Printer.Format` / `syntax.FormatFile`: `none` = a slice bound was violated (Go would panic) -/
def format (text : Bytes) (f : File) : Option Bytes := do
  let padding ← initPadding text f.directives
  formatLoop text padding 0 f.directives

/-- outcome of `knut format FILE` for one file: exit status and the bytes of the file afterwards.
`parse` first, format into a buffer, then replace the file (`atomic.WriteFile`, modelled in C18). -/
inductive FormatOutcome where
  /-- exit 0, file replaced by the formatted text -/
  | written (content : Bytes)
  /-- exit 1 with the parser's error, file not touched -/
  | rejected (e : Err)
  /-- a slice-bounds panic in the printer -/
  | panic
  deriving Repr

/-- `formatRunner.formatFile` -/
def formatFile (path : String) (text : Bytes) : FormatOutcome :=
  match parseText path text with
  | .error e => .rejected e
  | .ok f =>
    match format text f with
    | some out => .written out
    | none => .panic

/-- the file content after `knut format` -/
def FormatOutcome.fileAfter (before : Bytes) : FormatOutcome → Bytes
  | .written c => c
  | .rejected _ => before
  | .panic => before

end Knut.Syntax
