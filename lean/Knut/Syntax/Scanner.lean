import Knut.Basic.Utf8
import Knut.Syntax.CharClass
import Knut.Syntax.Tree
/-!
# Model of `lib/syntax/scanner`

Go state `(text, offset, current, currentLen)` becomes `St = (off, toks)`: `toks` are the not yet consumed
results of `DecodeRuneInString` starting at `off`; its head is `current` (with `currentLen` = its width), the
empty list is `current = EOF`. `DecodeRuneInString` never yields `rune(-1)`, so "`Current() == EOF`" is
`toks = []`. Calling `Advance` at EOF makes Go store `(RuneError, 0)` as current rune: the zero-width
pseudo token `eofTok` (the next `Advance` turns it into EOF again, exactly as in Go).

Every function returns the new state in both outcomes (`Res.ok` / `Res.err`), because the callers build the
ranges of their errors from the offset reached. Errors are the chain of `directives.Error` values,
innermost first.
-/
namespace Knut.Syntax
open Knut.Utf8

/-- one link of a Go error chain -/
inductive Frame where
  /-- `directives.Error{Message, Range}` pointing into the parsed text -/
  | at (msg : String) (r : Range)
  /-- `directives.Error{}`: empty message, zero range, empty text and path -/
  | zero
  /-- `io.EOF` -/
  | eof
  deriving DecidableEq, Repr, Inhabited

/-- error chain, innermost (root cause) first; `Annotate` appends -/
abbrev Err := List Frame

structure St where
  off : Nat
  toks : List Tok
  deriving Repr, Inhabited

inductive Res (α : Type) where
  | ok (a : α) (s : St)
  | err (e : Err) (s : St)
  deriving Repr, Inhabited

def Res.st {α} : Res α → St
  | .ok _ s => s
  | .err _ s => s

@[simp] theorem Res.st_ok {α} (a : α) (s : St) : (Res.ok a s).st = s := rfl
@[simp] theorem Res.st_err {α} (e : Err) (s : St) : (Res.err e s : Res α).st = s := rfl

/-- sequencing with the error decoration of the call site (`return …, s.Annotate(err)`) -/
@[inline] def Res.bind {α β} (r : Res α) (onErr : Err → St → Err) (f : α → St → Res β) : Res β :=
  match r with
  | .ok a s => f a s
  | .err e s => .err (onErr e s) s

/-- `Scanner.Current` -/
def cur (s : St) : Nat :=
  match s.toks with
  | [] => EOF
  | t :: _ => t.r

/-- `Current() == EOF` -/
def atEOF (s : St) : Bool := s.toks.isEmpty

/-- `Scope.Range()` of a scope opened at `start` -/
def rng (start : Nat) (s : St) : Range := ⟨start, s.off⟩

/-- `Scope.Annotate` -/
def annotate (desc : String) (start : Nat) (e : Err) (s : St) : Err :=
  e ++ [Frame.at ("while " ++ desc) (rng start s)]

/-- the current rune after `Advance` at EOF: `DecodeRuneInString("") = (RuneError, 0)` -/
def eofTok : Tok := ⟨runeError, []⟩

/-- `%c` -/
def runeStr (r : Nat) : String :=
  if r.isValidChar then String.singleton (Char.ofNat r) else "�"

/-- `Advance` when the current token is `t` and `rest` follows it -/
def advanceTok (off : Nat) (t : Tok) (rest : List Tok) : Res Unit :=
  let off' := off + t.bytes.length
  match rest with
  | [] => .ok () ⟨off', []⟩
  | u :: _ =>
    if u.invalid then .err [Frame.at "invalid unicode character" ⟨off', off'⟩] ⟨off', rest⟩
    else .ok () ⟨off', rest⟩

/-- `Scanner.Advance` -/
def advance (s : St) : Res Unit :=
  match s.toks with
  | [] => .err [Frame.at "unexpected end of file" ⟨s.off, s.off⟩] ⟨s.off, [eofTok]⟩
  | t :: rest => advanceTok s.off t rest

/-- the first `Advance` on a fresh scanner (`current = 0`, `currentLen = 0`, `offset = 0`) -/
def start (toks : List Tok) : Res Unit :=
  match toks with
  | [] => .ok () ⟨0, []⟩
  | u :: _ =>
    if u.invalid then .err [Frame.at "invalid unicode character" ⟨0, 0⟩] ⟨0, toks⟩
    else .ok () ⟨0, toks⟩

/-- the loop of `ReadWhile`/`ReadWhile1`: `for pred(Current()) && Current() != EOF { Advance }` -/
def readWhileL (p : Nat → Bool) (start off : Nat) : List Tok → Res Range
  | [] => .ok ⟨start, off⟩ ⟨off, []⟩
  | t :: rest =>
    if p t.r then
      match advanceTok off t rest with
      | .ok _ _ => readWhileL p start (off + t.bytes.length) rest
      | .err e s' => .err (e ++ [Frame.at "reading next character" (rng start s')]) s'
    else .ok ⟨start, off⟩ ⟨off, t :: rest⟩

/-- `Scanner.ReadWhile` -/
def readWhile (p : Nat → Bool) (s : St) : Res Range := readWhileL p s.off s.off s.toks

/-- `Scanner.ReadWhile1` -/
def readWhile1 (desc : String) (p : Nat → Bool) (s : St) : Res Range :=
  if atEOF s then .err [Frame.at ("unexpected end of file, want " ++ desc) (rng s.off s)] s
  else if !p (cur s) then
    .err [Frame.at ("unexpected character `" ++ runeStr (cur s) ++ "`, want " ++ desc) (rng s.off s)] s
  else readWhileL p s.off s.off s.toks

/-- the loop of `ReadUntil` -/
def readUntilL (desc : String) (p : Nat → Bool) (start off : Nat) : List Tok → Res Range
  | [] =>
    if p EOF then .ok ⟨start, off⟩ ⟨off, []⟩
    else .err [Frame.at "unexpected end of file" ⟨off, off⟩, Frame.at "reading next character" ⟨start, off⟩] ⟨off, [eofTok]⟩
  | t :: rest =>
    if p t.r then .ok ⟨start, off⟩ ⟨off, t :: rest⟩
    else
      match advanceTok off t rest with
      | .err e s' => .err (e ++ [Frame.at "reading next character" (rng start s')]) s'
      | .ok _ s' =>
        match rest with
        | [] => .err [Frame.at ("unexpected end of file, want " ++ desc) (rng start s')] s'
        | _ :: _ => readUntilL desc p start (off + t.bytes.length) rest

/-- `Scanner.ReadUntil` -/
def readUntil (desc : String) (p : Nat → Bool) (s : St) : Res Range := readUntilL desc p s.off s.off s.toks

/-- `Scanner.ReadCharacter` -/
def readCharacter (r : Nat) (s : St) : Res Range :=
  if atEOF s then .err [Frame.at ("unexpected end of file, want `" ++ runeStr r ++ "`") (rng s.off s)] s
  else if cur s != r then
    .err [Frame.at ("unexpected character `" ++ runeStr (cur s) ++ "`, want `" ++ runeStr r ++ "`") (rng s.off s)] s
  else
    match advance s with
    | .ok _ s' => .ok (rng s.off s') s'
    | .err e s' => .err (e ++ [Frame.at "reading next character" (rng s.off s')]) s'

/-- `Scanner.ReadCharacterWith` -/
def readCharacterWith (desc : String) (p : Nat → Bool) (s : St) : Res Range :=
  if atEOF s then .err [Frame.at ("unexpected end of file, want " ++ desc) (rng s.off s)] s
  else if !p (cur s) then
    .err [Frame.at ("unexpected character `" ++ runeStr (cur s) ++ "`, want " ++ desc) (rng s.off s)] s
  else
    match advance s with
    | .ok _ s' => .ok (rng s.off s') s'
    | .err e s' => .err (e ++ [Frame.at "reading next character" (rng s.off s')]) s'

/-- `%q` of a keyword (the parser only passes plain ASCII words) -/
def quoteStr (str : String) : String := "\"" ++ str ++ "\""

/-- the loop of `ReadString` over the runes of `str` -/
def readStringL (str : String) (start : Nat) : List Nat → St → Res Range
  | [], s => .ok (rng start s) s
  | ch :: chs, s =>
    if ch != cur s then .err [Frame.at ("while reading " ++ quoteStr str) (rng start s)] s
    else
      match advance s with
      | .ok _ s' => readStringL str start chs s'
      | .err e s' => .err (e ++ [Frame.at ("while reading " ++ quoteStr str) (rng start s')]) s'

def runesOf (str : String) : List Nat := str.toList.map Char.toNat

/-- `Scanner.ReadString` -/
def readString (str : String) (s : St) : Res Range := readStringL str s.off (runesOf str) s

/-- `scanner.format` -/
def formatAlts (ss : List String) : String :=
  "{" ++ ", ".intercalate (ss.map (fun s => "`" ++ s ++ "`")) ++ "}"

/-- the loop of `ReadAlternative`; `Backtrack(sc.Start)` re-establishes the state `s` -/
def readAltL (all : List String) (s : St) : List String → Res (Range × String)
  | [] => .err [Frame.at ("unexpected input, want one of " ++ formatAlts all) (rng s.off s)] s
  | t :: ts =>
    match readString t s with
    | .ok r s' => .ok (r, t) s'
    | .err _ _ => readAltL all s ts

/-- `Scanner.ReadAlternative`; also returns the alternative that matched (Go callers recover it as
`r.Extract()`, which is that string because `ReadString` compared it rune by rune). -/
def readAlternative (ss : List String) (s : St) : Res (Range × String) :=
  if atEOF s then .err [Frame.at ("unexpected end of file, want one of " ++ formatAlts ss) (rng s.off s)] s
  else readAltL ss s ss

/-- the loop of `Scanner.ReadN` -/
def readNL (n : Nat) (start : Nat) : Nat → St → Res Range
  | 0, s => .ok (rng start s) s
  | k + 1, s =>
    let msg := "while reading " ++ toString (n - (k + 1)) ++ " of " ++ toString n ++ " characters"
    if atEOF s then .err [Frame.eof, Frame.at msg (rng start s)] s
    else
      match advance s with
      | .ok _ s' => readNL n start k s'
      | .err e s' => .err (e ++ [Frame.at msg (rng start s')]) s'

/-- `Scanner.ReadN` (`lib/syntax/scanner/scanner.go`) -/
def readN (n : Nat) (s : St) : Res Range := readNL n s.off n s

/-! ## Consumption: what a call does to the state -/

/-- `s'` is `s` after consuming the tokens `c` -/
def Consumed (s : St) (c : List Tok) (s' : St) : Prop := s.toks = c ++ s'.toks ∧ s'.off = s.off + wsum c

/-- `s'` is reached from `s` by consuming tokens -/
def Ext (s s' : St) : Prop := ∃ c, Consumed s c s'

/-- … at least one token -/
def ExtS (s s' : St) : Prop := ∃ c, c ≠ [] ∧ Consumed s c s'

theorem Ext.refl (s : St) : Ext s s := ⟨[], by simp [Consumed]⟩

theorem Ext.trans {a b c : St} (h1 : Ext a b) (h2 : Ext b c) : Ext a c := by
  obtain ⟨c1, h1a, h1b⟩ := h1
  obtain ⟨c2, h2a, h2b⟩ := h2
  exact ⟨c1 ++ c2, by simp [h1a, h2a], by simp [h1b, h2b]; omega⟩

theorem ExtS.ext {a b : St} (h : ExtS a b) : Ext a b := by
  obtain ⟨c, _, h⟩ := h; exact ⟨c, h⟩

theorem ExtS.trans_ext {a b c : St} (h1 : ExtS a b) (h2 : Ext b c) : ExtS a c := by
  obtain ⟨c1, hn, h1a, h1b⟩ := h1
  obtain ⟨c2, h2a, h2b⟩ := h2
  exact ⟨c1 ++ c2, by simp [hn], by simp [h1a, h2a], by simp [h1b, h2b]; omega⟩

theorem Ext.trans_extS {a b c : St} (h1 : Ext a b) (h2 : ExtS b c) : ExtS a c := by
  obtain ⟨c1, h1a, h1b⟩ := h1
  obtain ⟨c2, hn, h2a, h2b⟩ := h2
  exact ⟨c1 ++ c2, by simp [hn], by simp [h1a, h2a], by simp [h1b, h2b]; omega⟩

theorem Ext.length_le {a b : St} (h : Ext a b) : b.toks.length ≤ a.toks.length := by
  obtain ⟨c, h, _⟩ := h; rw [h]; simp

theorem ExtS.length_lt {a b : St} (h : ExtS a b) : b.toks.length < a.toks.length := by
  obtain ⟨c, hn, h, _⟩ := h
  rw [h]
  have : 0 < c.length := List.length_pos_iff.mpr hn
  simp; omega

theorem Ext.off_le {a b : St} (h : Ext a b) : a.off ≤ b.off := by
  obtain ⟨c, _, h⟩ := h; omega

theorem atEOF_false_iff (s : St) : atEOF s = false ↔ ∃ t rest, s.toks = t :: rest := by
  unfold atEOF
  cases s.toks <;> simp

theorem advanceTok_st (off : Nat) (t : Tok) (rest : List Tok) :
    (advanceTok off t rest).st = ⟨off + t.bytes.length, rest⟩ := by
  unfold advanceTok
  cases rest with
  | nil => rfl
  | cons u r => simp only; split <;> rfl

theorem advance_extS (s : St) (h : atEOF s = false) : ExtS s (advance s).st := by
  obtain ⟨t, rest, ht⟩ := (atEOF_false_iff s).mp h
  unfold advance
  rw [ht]
  simp only [advanceTok_st]
  exact ⟨[t], by simp, by simp [Consumed, ht]⟩

theorem readWhileL_ext (p : Nat → Bool) (start off : Nat) (toks : List Tok) :
    Ext ⟨off, toks⟩ (readWhileL p start off toks).st := by
  induction toks generalizing off with
  | nil => exact Ext.refl _
  | cons t rest ih =>
    unfold readWhileL
    split
    · have hst := advanceTok_st off t rest
      have step : Ext ⟨off, t :: rest⟩ ⟨off + t.bytes.length, rest⟩ := ⟨[t], by simp [Consumed]⟩
      split
      · exact step.trans (ih _)
      · rename_i e s' heq
        rw [heq] at hst
        simp only [Res.st_err] at hst ⊢
        rw [hst]; exact step
    · exact Ext.refl _

theorem readWhile_ext (p : Nat → Bool) (s : St) : Ext s (readWhile p s).st :=
  readWhileL_ext p s.off s.off s.toks

theorem readWhileL_extS (p : Nat → Bool) (start off : Nat) (t : Tok) (rest : List Tok) (hp : p t.r = true) :
    ExtS ⟨off, t :: rest⟩ (readWhileL p start off (t :: rest)).st := by
  have step : ExtS ⟨off, t :: rest⟩ ⟨off + t.bytes.length, rest⟩ := ⟨[t], by simp, by simp [Consumed]⟩
  have hst := advanceTok_st off t rest
  rw [readWhileL]
  simp only [hp, if_true]
  split
  · exact step.trans_ext (readWhileL_ext _ _ _ _)
  · rename_i e s' heq
    rw [heq] at hst
    simp only [Res.st_err] at hst ⊢
    rw [hst]; exact step

theorem readWhile1_ext (desc : String) (p : Nat → Bool) (s : St) : Ext s (readWhile1 desc p s).st := by
  unfold readWhile1
  split
  · exact Ext.refl _
  · split
    · exact Ext.refl _
    · exact readWhileL_ext p s.off s.off s.toks

theorem readWhile1_extS (desc : String) (p : Nat → Bool) (s s' : St) (r : Range)
    (h : readWhile1 desc p s = .ok r s') : ExtS s s' := by
  unfold readWhile1 at h
  split at h
  · cases h
  · rename_i hE
    split at h
    · cases h
    · rename_i hp
      obtain ⟨t, rest, ht⟩ := (atEOF_false_iff s).mp (by simpa using hE)
      have hp' : p t.r = true := by simpa [cur, ht] using hp
      have := readWhileL_extS p s.off s.off t rest hp'
      rw [ht] at h
      rw [h] at this
      simpa [← ht] using this

theorem readCharacter_ext (r : Nat) (s : St) : Ext s (readCharacter r s).st := by
  unfold readCharacter
  split
  · exact Ext.refl _
  · rename_i hE
    split
    · exact Ext.refl _
    · have := (advance_extS s (by simpa using hE)).ext
      split <;> simp_all

theorem readCharacter_extS (r : Nat) (s s' : St) (x : Range) (h : readCharacter r s = .ok x s') : ExtS s s' := by
  unfold readCharacter at h
  split at h
  · cases h
  · rename_i hE
    split at h
    · cases h
    · have := advance_extS s (by simpa using hE)
      split at h <;> simp_all

theorem readCharacterWith_ext (desc : String) (p : Nat → Bool) (s : St) : Ext s (readCharacterWith desc p s).st := by
  unfold readCharacterWith
  split
  · exact Ext.refl _
  · rename_i hE
    split
    · exact Ext.refl _
    · have := (advance_extS s (by simpa using hE)).ext
      split <;> simp_all

theorem readCharacterWith_extS (desc : String) (p : Nat → Bool) (s s' : St) (x : Range)
    (h : readCharacterWith desc p s = .ok x s') : ExtS s s' := by
  unfold readCharacterWith at h
  split at h
  · cases h
  · rename_i hE
    split at h
    · cases h
    · have := advance_extS s (by simpa using hE)
      split at h <;> simp_all

theorem cur_ne_eof_of_eq {s : St} {ch : Char} (h : ch.toNat = cur s) : atEOF s = false := by
  unfold cur at h
  unfold atEOF
  cases hs : s.toks with
  | nil =>
    rw [hs] at h
    simp only [EOF] at h
    have := ch.valid  -- a `Char` is below 0x110000
    simp only [UInt32.isValidChar, Nat.isValidChar] at this
    simp only [Char.toNat] at h
    omega
  | cons t r => rfl

theorem readStringL_ext (str : String) (start : Nat) (chs : List Char) (s : St) :
    Ext s (readStringL str start (chs.map Char.toNat) s).st := by
  induction chs generalizing s with
  | nil => exact Ext.refl _
  | cons ch chs ih =>
    simp only [List.map_cons, readStringL]
    split
    · exact Ext.refl _
    · rename_i hc
      have hE : atEOF s = false := cur_ne_eof_of_eq (by simpa using hc)
      have := (advance_extS s hE).ext
      split
      · rename_i u s' heq
        rw [heq] at this
        exact this.trans (ih s')
      · rename_i e s' heq
        rw [heq] at this
        exact this

theorem readString_ext (str : String) (s : St) : Ext s (readString str s).st :=
  readStringL_ext str s.off str.toList s

theorem readStringL_extS (str : String) (start : Nat) (ch : Char) (chs : List Char) (s s' : St) (r : Range)
    (h : readStringL str start ((ch :: chs).map Char.toNat) s = .ok r s') : ExtS s s' := by
  simp only [List.map_cons, readStringL] at h
  split at h
  · cases h
  · rename_i hc
    have hE : atEOF s = false := cur_ne_eof_of_eq (by simpa using hc)
    have h1 := advance_extS s hE
    split at h
    · rename_i u s1 heq
      rw [heq] at h1
      have h2 := readStringL_ext str start chs s1
      rw [h] at h2
      exact h1.trans_ext h2
    · cases h

theorem readAltL_ext (all : List String) (s : St) (ss : List String) : Ext s (readAltL all s ss).st := by
  induction ss with
  | nil => exact Ext.refl _
  | cons t ts ih =>
    unfold readAltL
    split
    · rename_i r s' heq
      have := readString_ext t s
      rw [heq] at this
      exact this
    · exact ih

theorem readAlternative_ext (ss : List String) (s : St) : Ext s (readAlternative ss s).st := by
  unfold readAlternative
  split
  · exact Ext.refl _
  · exact readAltL_ext ss s ss

theorem readAltL_ok (all : List String) (s : St) (ss : List String) (r : Range) (t : String) (s' : St)
    (h : readAltL all s ss = .ok (r, t) s') : t ∈ ss ∧ readString t s = .ok r s' := by
  induction ss with
  | nil => simp [readAltL] at h
  | cons u us ih =>
    unfold readAltL at h
    split at h
    · rename_i r1 s1 heq
      injection h with h1 h2
      injection h1 with h1a h1b
      subst h1a h1b h2
      exact ⟨List.mem_cons_self, heq⟩
    · have := ih h
      exact ⟨List.mem_cons_of_mem _ this.1, this.2⟩

theorem readAlternative_ok (ss : List String) (s : St) (r : Range) (t : String) (s' : St)
    (h : readAlternative ss s = .ok (r, t) s') : t ∈ ss ∧ readString t s = .ok r s' := by
  unfold readAlternative at h
  split at h
  · cases h
  · exact readAltL_ok ss s ss r t s' h

theorem readString_extS (str : String) (s s' : St) (r : Range) (hne : str.toList ≠ [])
    (h : readString str s = .ok r s') : ExtS s s' := by
  unfold readString runesOf at h
  cases hl : str.toList with
  | nil => exact absurd hl hne
  | cons ch chs =>
    rw [hl] at h
    exact readStringL_extS str s.off ch chs s s' r h

end Knut.Syntax
